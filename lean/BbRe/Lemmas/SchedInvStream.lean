import BbRe.Lemmas.SchedInvCleanup
/-! Client streams: `streamSend`, `streamAttach`, `streamLeave`. -/
namespace BbRe.Lemmas.SchedInv
open BbRe.Sched

theorem countP_filter_le {α} (l : List α) (p q : α → Bool) : (l.filter q).countP p ≤ l.countP p :=
  List.Sublist.countP_le (List.filter_sublist)

theorem countP_filter_add_one {α} {l : List α} {p q : α → Bool} {x : α} (hx : x ∈ l) (hp : p x = true)
    (hq : q x = false) : (l.filter q).countP p + 1 ≤ l.countP p := by
  induction l with
  | nil => simp at hx
  | cons a r ih =>
    rcases List.mem_cons.mp hx with h | h
    · subst h
      rw [List.filter_cons, hq, List.countP_cons, hp]
      have := countP_filter_le r p q
      simp; omega
    · have := ih h
      rw [List.filter_cons, List.countP_cons]
      split
      · rw [List.countP_cons]; split <;> simp_all <;> omega
      · split <;> omega

/-- replacing an operation by one with the same name and task -/
theorem OInv.setOp {exo ts os no} (h : OInv exo ts os no) {op op' : Op} (h0 : alookup op.name os = some op)
    (h1 : op'.name = op.name) (h2 : op'.task = op.task) : OInv exo ts (aset op'.name op' os) no := by
  have := h.oid; have := h.o1; have := h.o2
  constructor
  · exact nodup_aset _ _ _ h.ond
  · intro k o; grind
  · intro k o; grind
  · intro k t o hk ho
    obtain ⟨a, b⟩ := h.o2 k t o hk ho
    refine ⟨a, ?_⟩
    rcases b with b | ⟨opx, e1, e2⟩
    · exact Or.inl b
    · right; grind
  · exact h.o3

/-- the part of the state a stream operation may change -/
def StreamFrame (s s' : State) : Prop :=
  ∃ os sts cl evs, s' = { s with ops := os, streams := sts, cleanup := cl, events := evs }

theorem StreamFrame.fr {s s' : State} (h : StreamFrame s s') (hev : Ext Quiet s.events s'.events) : Fr s s' := by
  obtain ⟨os, sts, cl, evs, he⟩ := h
  subst he
  exact Fr.of_fields rfl (Nat.le_refl _) (Nat.le_refl _) (Nat.le_refl _) rfl hev (fun k hk => hk.2)

theorem StreamFrame.trans {a b c : State} (h1 : StreamFrame a b) (h2 : StreamFrame b c) : StreamFrame a c := by
  obtain ⟨os, sts, cl, evs, he⟩ := h1
  obtain ⟨os2, sts2, cl2, evs2, he2⟩ := h2
  subst he; subst he2
  exact ⟨_, _, _, _, rfl⟩

theorem noLearn_msg (c o st d co tk) : NoLearn (.msg c o st d co tk) := fun _ => ⟨rfl, rfl⟩
theorem noLearn_ret (c co) : NoLearn (.ret c co) := fun _ => ⟨rfl, rfl⟩

def sendLive (s : State) (c o : Nat) (t : Task) : State :=
  { s with streams := ⟨c, o, t.gen, s.now + s.cfg.updateInterval⟩ :: s.streams.filter (fun x => x.client ≠ c),
           events := .msg c o t.stage false 0 0 :: s.events }

def sendDone0 (s : State) (c o : Nat) (op : Op) (t : Task) (r : Resp) : State :=
  { s with streams := s.streams.filter (fun x => x.client ≠ c),
           events := .ret c cOK :: .msg c o t.stage true r.code r.tok :: s.events,
           ops := aset op.name { op with waiters := op.waiters - 1 } s.ops }

theorem streamSend_eq (s : State) (c o : Nat) :
    streamSend s c o =
      match s.op? o with
      | none => throw "streamSend: no operation"
      | some op =>
        match s.task? op.task with
        | none => throw "streamSend: no task"
        | some t =>
          match t.response with
          | some r => if op.waiters = 0 then throw "Invalid waiters count on operation"
                      else pure (maybeStartCleanup (sendDone0 s c o op t r) o)
          | none => pure (sendLive s c o t) := by
  unfold streamSend
  cases s.op? o with
  | none => rfl
  | some op =>
    dsimp only
    cases s.task? op.task with
    | none => rfl
    | some t =>
      dsimp only
      cases t.response with
      | none => rfl
      | some r =>
        dsimp only
        by_cases hw : op.waiters = 0
        · rw [if_pos hw, if_pos hw]; rfl
        · rw [if_neg hw, if_neg hw]; rfl

theorem streamSend_spec {ex exo} {s : State} {c o : Nat} {op : Op} (hI : InvX ex exo s)
    (hop : alookup o s.ops = some op)
    (hpre : (s.streams.filter (fun x => x.client ≠ c)).countP (fun st => st.op = o) + 1 ≤ op.waiters) :
    wp (streamSend s c o) (fun s' => InvX ex exo s' ∧ StreamFrame s s' ∧ Ext Quiet s.events s'.events ∧
      (∀ t, alookup op.task s.tasks = some t → t.response = none →
        ∃ st, st ∈ s'.streams ∧ st.client = c ∧ st.op = o)) := by
  have ho := hI.oinv
  have hs := hI.sinv
  obtain ⟨t, ht, hmem⟩ := ho.o1 o op hop
  have hname : op.name = o := (ho.oid o op hop).1
  have hop' : alookup op.name s.ops = some op := by rw [hname]; exact hop
  rw [streamSend_eq]
  simp only [op?_def, hop, task?_def, ht]
  have hs1 : SInv s.ops (s.streams.filter (fun x => x.client ≠ c)) s.cleanup :=
    ⟨fun k op' hk => Nat.le_trans (countP_filter_le _ _ _) (hs.s1 k op' hk), hs.s2,
     fun st hst => hs.s3 st (List.mem_filter.mp hst).1⟩
  cases hr : t.response with
  | some r =>
    dsimp only
    have hw : ¬ op.waiters = 0 := by omega
    rw [if_neg hw, wp_pure, maybeStartCleanup_eq]
    have hoinv : OInv exo s.tasks (sendDone0 s c o op t r).ops s.nextOp :=
      ho.setOp (op' := { op with waiters := op.waiters - 1 }) hop' rfl rfl
    have hsinv : SInv (sendDone0 s c o op t r).ops (sendDone0 s c o op t r).streams (sendDone0 s c o op t r).cleanup := by
      simp only [sendDone0]
      constructor
      · intro k op' hk
        rw [alookup_aset, hname] at hk
        split at hk
        · rename_i hko; subst hko; cases hk; simp only []; omega
        · exact hs1.s1 k op' hk
      · intro k op' e hk he hek
        rw [alookup_aset, hname] at hk
        split at hk
        · rename_i hko; subst hko
          have := hs.s2 o op e hop he hek
          omega
        · exact hs.s2 k op' e hk he hek
      · intro st hst
        have := hs1.s3 st hst
        rw [alookup_aset]; split
        · rfl
        · exact this
    have hlinv : LogInv s.tasks s.nextLearner (sendDone0 s c o op t r).events :=
      (hI.linv.emit _ (noLearn_msg _ _ _ _ _ _)).emit _ (noLearn_ret _ _)
    refine ⟨⟨hI.core, hoinv, SInv.maybeStartCleanup (s := sendDone0 s c o op t r) hsinv o, hlinv⟩,
      ⟨_, _, _, _, rfl⟩, Ext.cons (Ext.cons (Ext.refl _ _) _ trivial) _ trivial, ?_⟩
    intro t' ht' hr'
    cases ht'; rw [hr] at hr'; cases hr'
  | none =>
    dsimp only
    rw [wp_pure]
    refine ⟨⟨hI.core, hI.oinv, ?_, (hI.linv.emit _ (noLearn_msg _ _ _ _ _ _))⟩, ⟨_, _, _, _, rfl⟩,
      Ext.cons (Ext.refl _ _) _ trivial, fun _ _ _ => ⟨_, List.mem_cons_self, rfl, rfl⟩⟩
    simp only [sendLive]
    constructor
    · intro k op' hk
      simp only [List.countP_cons, decide_eq_true_eq]
      have := hs1.s1 k op' hk
      split
      · rename_i hko; subst hko; rw [hop] at hk; cases hk; omega
      · exact this
    · exact hs1.s2
    · intro st hst
      rcases List.mem_cons.mp hst with h | h
      · subst h; simp [hop]
      · exact hs1.s3 st h

def attachSt (s : State) (o : Nat) (op : Op) : State :=
  (s.removeCleanup (.op o)).setOp { op with waiters := op.waiters + 1 }

theorem attachSt_inv {ex exo} {s : State} {o : Nat} {op : Op} (hI : InvX ex exo s)
    (hop : alookup o s.ops = some op) : InvX ex exo (attachSt s o op) := by
  have ho := hI.oinv
  have hs := hI.sinv
  have hname : op.name = o := (ho.oid o op hop).1
  have hop' : alookup op.name s.ops = some op := by rw [hname]; exact hop
  refine ⟨hI.core, ho.setOp (op' := { op with waiters := op.waiters + 1 }) hop' rfl rfl, ?_, hI.linv⟩
  simp only [attachSt, State.setOp, State.removeCleanup]
  constructor
  · intro k op' hk
    rw [alookup_aset, hname] at hk
    split at hk
    · rename_i hko; subst hko; cases hk
      have := hs.s1 o op hop
      simp only []; omega
    · exact hs.s1 k op' hk
  · intro k op' e hk he hek
    rw [alookup_aset, hname] at hk
    have he' := List.mem_filter.mp he
    split at hk
    · rename_i hko; subst hko
      exfalso
      have := he'.2
      simp [hek] at this
    · exact hs.s2 k op' e hk he'.1 hek
  · intro st hst
    have := hs.s3 st hst
    rw [alookup_aset]; split
    · rfl
    · exact this

theorem streamAttach_spec {ex exo} {s : State} {c o : Nat} {op : Op} (hI : InvX ex exo s)
    (hop : alookup o s.ops = some op) :
    wp (streamAttach s c o) (fun s' => InvX ex exo s' ∧ StreamFrame s s' ∧ Ext Quiet s.events s'.events ∧
      (∀ t, alookup op.task s.tasks = some t → t.response = none →
        ∃ st, st ∈ s'.streams ∧ st.client = c ∧ st.op = o)) := by
  have hname : op.name = o := (hI.oinv.oid o op hop).1
  unfold streamAttach
  simp only [op?_def, hop]
  have hI1 := attachSt_inv hI hop
  have hop1 : alookup o (attachSt s o op).ops = some { op with waiters := op.waiters + 1 } := by
    simp only [attachSt, State.setOp, State.removeCleanup]
    rw [alookup_aset, hname]; simp
  have hpre : ((attachSt s o op).streams.filter (fun x => x.client ≠ c)).countP (fun st => st.op = o) + 1 ≤
      ({ op with waiters := op.waiters + 1 } : Op).waiters := by
    have h1 := hI.sinv.s1 o op hop
    have h2 := countP_filter_le s.streams (fun st => decide (st.op = o)) (fun x => decide (x.client ≠ c))
    simp only [attachSt, State.setOp, State.removeCleanup]
    omega
  refine wp_mono (streamSend_spec hI1 hop1 hpre) ?_
  intro s' ⟨hI', hsf, hev, hlive⟩
  exact ⟨hI', StreamFrame.trans ⟨_, _, _, _, rfl⟩ hsf, hev, hlive⟩

def leaveSt0 (s : State) (c : Nat) (op : Op) : State :=
  { s with streams := s.streams.filter (fun x => x.client ≠ c),
           ops := aset op.name { op with waiters := op.waiters - 1 } s.ops }

theorem streamLeave_eq (s : State) (c code : Nat) :
    streamLeave s c code =
      match s.streams.find? (fun x => x.client = c) with
      | none => throw "mismatch: no such parked stream"
      | some st =>
        match s.op? st.op with
        | none => throw "streamLeave: no operation"
        | some op =>
          if op.waiters = 0 then throw "Invalid waiters count on operation"
          else pure (emit (maybeStartCleanup (leaveSt0 s c op) st.op) (.ret c code)) := by
  unfold streamLeave
  cases s.streams.find? (fun x => x.client = c) with
  | none => rfl
  | some st =>
    dsimp only
    cases s.op? st.op with
    | none => rfl
    | some op =>
      dsimp only
      by_cases hw : op.waiters = 0
      · rw [if_pos hw, if_pos hw]; rfl
      · rw [if_neg hw, if_neg hw]; rfl

theorem streamLeave_spec {ex exo} {s : State} {c code : Nat} (hI : InvX ex exo s) :
    wp (streamLeave s c code) (fun s' => InvX ex exo s' ∧ StreamFrame s s' ∧ Ext Quiet s.events s'.events) := by
  have ho := hI.oinv
  have hs := hI.sinv
  rw [streamLeave_eq]
  cases hf : s.streams.find? (fun x => x.client = c) with
  | none => okerr
  | some st =>
    dsimp only
    have hst : st ∈ s.streams := List.mem_of_find?_eq_some hf
    have hstc : st.client = c := by simpa using List.find?_some hf
    have h3 := hs.s3 st hst
    cases hop : alookup st.op s.ops with
    | none => rw [hop] at h3; cases h3
    | some op =>
      simp only [op?_def, hop]
      have hname : op.name = st.op := (ho.oid _ op hop).1
      have hop' : alookup op.name s.ops = some op := by rw [hname]; exact hop
      have hcnt := countP_filter_add_one (l := s.streams) (p := fun x => decide (x.op = st.op))
        (q := fun x => decide (x.client ≠ c)) hst (by simp) (by simp [hstc])
      have h1 := hs.s1 _ op hop
      have hw : ¬ op.waiters = 0 := by omega
      rw [if_neg hw, wp_pure, maybeStartCleanup_eq]
      have hoinv : OInv exo s.tasks (leaveSt0 s c op).ops s.nextOp :=
        ho.setOp (op' := { op with waiters := op.waiters - 1 }) hop' rfl rfl
      have hsinv : SInv (leaveSt0 s c op).ops (leaveSt0 s c op).streams (leaveSt0 s c op).cleanup := by
        simp only [leaveSt0]
        constructor
        · intro k op' hk
          rw [alookup_aset, hname] at hk
          split at hk
          · rename_i hko; subst hko; cases hk; simp only []; omega
          · exact Nat.le_trans (countP_filter_le _ _ _) (hs.s1 k op' hk)
        · intro k op' e hk he hek
          rw [alookup_aset, hname] at hk
          split at hk
          · rename_i hko; subst hko
            have := hs.s2 _ op e hop he hek
            omega
          · exact hs.s2 k op' e hk he hek
        · intro st' hst'
          have := hs.s3 st' (List.mem_filter.mp hst').1
          rw [alookup_aset]; split
          · rfl
          · exact this
      refine ⟨⟨hI.core, hoinv, SInv.maybeStartCleanup (s := leaveSt0 s c op) hsinv _,
        hI.linv.emit _ (noLearn_ret _ _)⟩, ⟨_, _, _, _, rfl⟩, Ext.cons (Ext.refl _ _) _ trivial⟩

end BbRe.Lemmas.SchedInv
