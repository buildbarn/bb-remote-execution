import BbRe.Lemmas.FilePoolWriteAt
/-!
`ReadAt`, run decomposition of the read loop: under arbitrary read faults whatever is returned is
a piece of `content` from the offset on, and all that was asked for if no error is reported;
without read faults there is no error and nothing changes.
-/
namespace BbRe.Lemmas.FilePool
open BbRe.FilePool

theorem readHole_nofault {e : Env} (h : e.faults.hr = none) (hole : Hole) (off n : Nat) :
    e.readHole hole off n = (e, hole.bytes off n, none) := by
  unfold Env.readHole; rw [h]

theorem devRead_nofault {e : Env} (h : e.faults.dr = none) (off n : Nat) :
    e.devRead off n = (e, readBytes e.dev off n, none) := by
  unfold Env.devRead; rw [h]

theorem readHole_gen (e : Env) (h : Hole) (off n : Nat) :
    ∃ k, k ≤ n ∧ (e.readHole h off n).2.1 = h.bytes off k ∧ ((e.readHole h off n).2.2 = none → k = n) := by
  unfold Env.readHole
  split
  · rename_i nb short heq
    refine ⟨min nb n, Nat.min_le_right _ _, rfl, fun hn => ?_⟩
    dsimp only at hn
    split at hn
    · split at hn
      · rename_i hk; exact hk
      · simp at hn
    · simp at hn
  · exact ⟨n, Nat.le_refl _, rfl, fun _ => rfl⟩
  · exact ⟨n, Nat.le_refl _, rfl, fun _ => rfl⟩

theorem devRead_gen (e : Env) (off n : Nat) :
    ∃ k, k ≤ n ∧ (e.devRead off n).2.1 = readBytes e.dev off k ∧ ((e.devRead off n).2.2 = none → k = n) := by
  unfold Env.devRead
  split
  · rename_i nb short heq
    refine ⟨min nb n, Nat.min_le_right _ _, rfl, fun hn => ?_⟩
    dsimp only at hn
    split at hn
    · split at hn
      · rename_i hk; exact hk
      · simp at hn
    · simp at hn
  · exact ⟨n, Nat.le_refl _, rfl, fun _ => rfl⟩
  · exact ⟨n, Nat.le_refl _, rfl, fun _ => rfl⟩

/-- one chunk under arbitrary faults. -/
theorem readFromSectors_gen {c : Cfg} {f : File} {e : Env} (n idx endIdx ow : Nat)
    (hss : 0 < c.ss) (how : ow < c.ss) (hn : 0 < n) :
    (readFromSectors c f e n idx endIdx ow).2.1.length ≤ n ∧
      (∀ j, j < (readFromSectors c f e n idx endIdx ow).2.1.length →
        (readFromSectors c f e n idx endIdx ow).2.1.getD j 0 = content c.ss e.dev f (idx * c.ss + ow + j)) ∧
      ((readFromSectors c f e n idx endIdx ow).2.2 = none →
        0 < (readFromSectors c f e n idx endIdx ow).2.1.length ∧
        ((readFromSectors c f e n idx endIdx ow).2.1.length < n →
          (ow + (readFromSectors c f e n idx endIdx ow).2.1.length) % c.ss = 0)) := by
  unfold readFromSectors
  split
  · rename_i hidx
    obtain ⟨k, hk, hb, hnone⟩ := readHole_gen e f.hole (idx * c.ss + ow) n
    rw [hb, holeBytes_length]
    refine ⟨hk, fun j hj => ?_, fun h => ?_⟩
    · rw [holeBytes_getD _ _ _ _ hj, Nat.add_assoc, content_beyond _ hss hidx]
    · rw [hnone h]
      exact ⟨hn, fun h => absurd h (Nat.lt_irrefl _)⟩
  · rename_i hidx
    have hidx' : idx < f.sectors.length := Nat.lt_of_not_le hidx
    have hc2 := (contig_spec f.sectors idx endIdx hidx').2.1
    dsimp only
    have hcs : c.ss ≤ (contig f.sectors idx endIdx).2 * c.ss := Nat.le_mul_of_pos_left c.ss hc2
    -- a chunk that is cut short ends at the end of the run, a sector boundary
    have hbd : min n ((contig f.sectors idx endIdx).2 * c.ss - ow) < n →
        (ow + min n ((contig f.sectors idx endIdx).2 * c.ss - ow)) % c.ss = 0 := by
      intro hlt
      rw [Nat.min_eq_right (by omega), Nat.add_sub_cancel' (by omega)]
      exact Nat.mul_mod_left _ _
    have hcont : ∀ j, j < min n ((contig f.sectors idx endIdx).2 * c.ss - ow) →
        content c.ss e.dev f (idx * c.ss + ow + j) =
          if (contig f.sectors idx endIdx).1 = 0 then f.hole.read (idx * c.ss + ow + j)
          else rd e.dev (((contig f.sectors idx endIdx).1 - 1) * c.ss + ow + j) := by
      intro j hj
      rw [Nat.add_assoc, Nat.add_assoc, content_contig e.dev endIdx hss hidx' (by omega)]
    split
    · rename_i hz
      obtain ⟨k, hk, hb, hnone⟩ := readHole_gen e f.hole (idx * c.ss + ow) (min n ((contig f.sectors idx endIdx).2 * c.ss - ow))
      rw [hb, holeBytes_length]
      refine ⟨by omega, fun j hj => ?_, fun h => ?_⟩
      · rw [holeBytes_getD _ _ _ _ hj, hcont j (by omega), if_pos hz]
      · rw [hnone h]
        exact ⟨by omega, hbd⟩
    · rename_i hnz
      obtain ⟨k, hk, hb, hnone⟩ := devRead_gen e (((contig f.sectors idx endIdx).1 - 1) * c.ss + ow)
        (min n ((contig f.sectors idx endIdx).2 * c.ss - ow))
      rw [hb, readBytes_length]
      refine ⟨by omega, fun j hj => ?_, fun h => ?_⟩
      · rw [readBytes_getD _ _ _ _ hj, hcont j (by omega), if_neg hnz]
      · rw [hnone h]
        exact ⟨by omega, hbd⟩

theorem devRead_err (e : Env) (off n : Nat) (x : Err) (hx : (e.devRead off n).2.2 = some x) :
    x = .internal ∨ x = .io := by
  unfold Env.devRead at hx
  split at hx
  · dsimp only at hx
    split at hx
    · split at hx
      · cases hx
      · exact Or.inl (Option.some.inj hx).symm
    · exact Or.inr (Option.some.inj hx).symm
  · cases hx
  · cases hx

/-- one chunk fails with a hole-source or device error, never with the panic of `incrementSectorIndex`. -/
theorem readFromSectors_ne_panic (c : Cfg) (f : File) (e : Env) (n idx endIdx ow : Nat) (x : Err)
    (hx : (readFromSectors c f e n idx endIdx ow).2.2 = some x) : x ≠ .panic := by
  unfold readFromSectors at hx
  split at hx
  · rcases readHole_err _ _ _ _ _ hx with h | h <;> rw [h] <;> exact fun h => nomatch h
  · dsimp only at hx
    split at hx
    · rcases readHole_err _ _ _ _ _ hx with h | h <;> rw [h] <;> exact fun h => nomatch h
    · rcases devRead_err _ _ _ _ hx with h | h <;> rw [h] <;> exact fun h => nomatch h

/-- **The read loop under arbitrary read faults**: what it returns is `content` from `idx*ss+ow` on, at most `n`
bytes and exactly `n` when no error is reported; it never panics. -/
theorem readLoop_gen {c : Cfg} {f : File} (hss : 0 < c.ss) : ∀ (fuel : Nat) (e : Env) (n idx endIdx ow : Nat),
    ow < c.ss → 0 < n → n < fuel →
    (readLoop c f fuel e n idx endIdx ow).2.1.length ≤ n ∧
      (∀ j, j < (readLoop c f fuel e n idx endIdx ow).2.1.length →
        (readLoop c f fuel e n idx endIdx ow).2.1.getD j 0 = content c.ss e.dev f (idx * c.ss + ow + j)) ∧
      (readLoop c f fuel e n idx endIdx ow).2.2 ≠ some .panic ∧
      ((readLoop c f fuel e n idx endIdx ow).2.2 = none → (readLoop c f fuel e n idx endIdx ow).2.1.length = n) := by
  intro fuel
  induction fuel with
  | zero => intro e n idx endIdx ow _ _ h; omega
  | succ fuel ih =>
    intro e n idx endIdx ow how hn hfu
    obtain ⟨h1, h2, h3⟩ := readFromSectors_gen (c := c) (f := f) (e := e) n idx endIdx ow hss how hn
    have hdev := (readFromSectors_ro c f e n idx endIdx ow).1
    have hnp := readFromSectors_ne_panic c f e n idx endIdx ow
    unfold readLoop
    dsimp only
    generalize readFromSectors c f e n idx endIdx ow = r at h1 h2 h3 hdev hnp ⊢
    split
    · rename_i x hx
      exact ⟨h1, h2, by simpa using hnp x hx, fun h => nomatch h⟩
    · rename_i hnone
      obtain ⟨h4, h5⟩ := h3 hnone
      split
      · rename_i hz
        exact ⟨h1, h2, by simp, fun _ => by dsimp only; omega⟩
      · rename_i hz
        have hlt : r.2.1.length < n := Nat.sub_ne_zero_iff_lt.mp hz
        have hle := Nat.le_of_lt hlt
        rw [if_neg (by rw [h5 hlt]; simp)]
        -- the chunk ended at a sector boundary: the next one starts at offset 0 of a later sector
        have hpos : (idx + (ow + r.2.1.length) / c.ss) * c.ss + 0 = idx * c.ss + ow + r.2.1.length := by
          rw [Nat.add_zero, Nat.add_mul, Nat.div_mul_cancel (Nat.dvd_of_mod_eq_zero (h5 hlt)), Nat.add_assoc]
        obtain ⟨i1, i2, i3, i4⟩ := ih r.1 (n - r.2.1.length) (idx + (ow + r.2.1.length) / c.ss) endIdx 0 hss
          (Nat.sub_pos_of_lt hlt) (by omega)
        dsimp only
        refine ⟨by rw [List.length_append]; exact Nat.add_le_of_le_sub' hle i1, fun j hj => ?_, i3,
          fun h => by rw [List.length_append, i4 h, Nat.add_sub_cancel' hle]⟩
        rw [List.length_append] at hj
        by_cases hj1 : j < r.2.1.length
        · rw [getD_append_lt _ _ _ hj1]; exact h2 j hj1
        · have hj2 := Nat.le_of_not_lt hj1
          rw [getD_append_ge _ _ _ hj2, i2 _ (Nat.sub_lt_left_of_lt_add hj2 hj), hpos, hdev, Nat.add_assoc _ r.2.1.length,
            Nat.add_sub_cancel' hj2]

theorem readFromSectors_nofault {c : Cfg} {f : File} {e : Env} (n idx endIdx ow : Nat)
    (hdr : e.faults.dr = none) (hhr : e.faults.hr = none) :
    (readFromSectors c f e n idx endIdx ow).1 = e ∧ (readFromSectors c f e n idx endIdx ow).2.2 = none := by
  unfold readFromSectors
  split
  · rw [readHole_nofault hhr]; exact ⟨rfl, rfl⟩
  · dsimp only
    split
    · rw [readHole_nofault hhr]; exact ⟨rfl, rfl⟩
    · rw [devRead_nofault hdr]; exact ⟨rfl, rfl⟩

theorem readLoop_nofault {c : Cfg} {f : File} {e : Env} (hss : 0 < c.ss) (hdr : e.faults.dr = none)
    (hhr : e.faults.hr = none) : ∀ (fuel n idx endIdx ow : Nat), ow < c.ss → 0 < n → n < fuel →
    (readLoop c f fuel e n idx endIdx ow).1 = e ∧ (readLoop c f fuel e n idx endIdx ow).2.2 = none := by
  intro fuel
  induction fuel with
  | zero => intro n idx endIdx ow _ _ h; omega
  | succ fuel ih =>
    intro n idx endIdx ow how hn hfu
    obtain ⟨g1, _, g3⟩ := readFromSectors_gen (c := c) (f := f) (e := e) n idx endIdx ow hss how hn
    obtain ⟨n1, n2⟩ := readFromSectors_nofault (c := c) (f := f) n idx endIdx ow hdr hhr
    unfold readLoop
    dsimp only
    generalize readFromSectors c f e n idx endIdx ow = r at g1 g3 n1 n2 ⊢
    obtain ⟨g4, g5⟩ := g3 n2
    rw [n2]
    dsimp only
    split
    · exact ⟨n1, rfl⟩
    · rw [if_neg (by rw [g5 (by omega)]; simp), n1]
      exact ih (n - r.2.1.length) _ endIdx 0 hss (by omega) (by omega)

/-- **`ReadAt` returns the contents** (no read faults, offset `o` inside the file, `n > 0`):
the bytes of `content` from `o`, cut at the size; `io.EOF` exactly when the read reaches the end. -/
theorem readAt_content {c : Cfg} {f : File} {e : Env} (o n : Nat) (hss : 0 < c.ss) (hn : 0 < n)
    (ho : o < f.size) (hdr : e.faults.dr = none) (hhr : e.faults.hr = none) :
    (readAt c f e o n).1 = e ∧
      (readAt c f e o n).2.2 = (if o + n ≥ f.size then some .eof else none) ∧
      (readAt c f e o n).2.1.length = min n (f.size - o) ∧
      ∀ j, j < min n (f.size - o) → (readAt c f e o n).2.1.getD j 0 = content c.ss e.dev f (o + j) := by
  unfold readAt
  rw [if_neg (by omega), if_neg (by omega)]
  dsimp only
  rw [Int.toNat_natCast, if_neg (by omega)]
  have hn' : 0 < (if o + n ≥ f.size then f.size - o else n) := by split <;> omega
  obtain ⟨l1, l2⟩ := readLoop_nofault (c := c) (f := f) (e := e) hss hdr hhr
    ((if o + n ≥ f.size then f.size - o else n) + 1) (if o + n ≥ f.size then f.size - o else n) (o / c.ss)
    (min ((o + (if o + n ≥ f.size then f.size - o else n) + c.ss - 1) / c.ss) f.sectors.length) (o % c.ss)
    (Nat.mod_lt _ hss) hn' (Nat.lt_succ_self _)
  obtain ⟨_, l4, _, l3⟩ := readLoop_gen (c := c) (f := f) hss
    ((if o + n ≥ f.size then f.size - o else n) + 1) e (if o + n ≥ f.size then f.size - o else n) (o / c.ss)
    (min ((o + (if o + n ≥ f.size then f.size - o else n) + c.ss - 1) / c.ss) f.sectors.length) (o % c.ss)
    (Nat.mod_lt _ hss) hn' (Nat.lt_succ_self _)
  have l3 := l3 l2
  rw [div_mul_mod] at l4
  have hmin : (if o + n ≥ f.size then f.size - o else n) = min n (f.size - o) := by split <;> omega
  refine ⟨l1, ?_, by rw [l3, hmin], fun j hj => l4 j (by rw [l3, hmin]; exact hj)⟩
  rw [l2]

end BbRe.Lemmas.FilePool
