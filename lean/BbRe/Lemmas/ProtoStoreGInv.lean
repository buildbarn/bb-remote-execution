import BbRe.Lemmas.ProtoStoreQInv
/-! Invariant of `Model/ProtoStore.lean` for the configuration that mirrors the tree. -/
namespace BbRe.Lemmas.ProtoStore
open BbRe.ProtoStore

/-- Invariant of the configuration that mirrors the tree (`repoConfig`); `ex` marks
handles that are in the middle of a lock-held section and may momentarily be
unreferenced. -/
structure GInvX (s : State) (ex : Nat → Prop) : Prop where
  g1 : ∀ h, s.idx h ≠ none → s.wg h = none ∧ s.written h ≠ s.current h
  g2 : ∀ h g, s.wg h = some g → s.written h ≠ s.current h ∧
          ∃ r w, lookupG s.gets g = some r ∧ w ∈ r.writes ∧ w.h = h
  g3 : ∀ g r w, lookupG s.gets g = some r → w ∈ r.writes →
          s.wg w.h = some g ∧ w.ver ≤ s.current w.h ∧ (w.ver = s.current w.h → w.msg = s.msg w.h) ∧
          w.msg ≤ s.latest (s.hdigest w.h) ∧ s.store (s.hdigest w.h) ≤ w.msg
  g3n : ∀ g r, lookupG s.gets g = some r → (r.writes.map (·.h)).Nodup
  g4 : ∀ h, s.map (s.hdigest h) ≠ some h → s.useCount h = 0 ∧ s.idx h = none ∧ s.wg h = none
  c : ∀ d h, s.map d = some h →
        s.hdigest h = d ∧ (ex h ∨ 0 < s.useCount h ∨ s.idx h ≠ none ∨ s.wg h ≠ none)
  v : ∀ h, s.written h ≤ s.current h
  d1 : ∀ d, s.store d ≤ s.latest d
  d2 : ∀ d, s.map d = none → s.store d = s.latest d
  d4 : ∀ d h, s.map d = some h → s.written h = s.current h → s.store d = s.latest d
  d5 : ∀ d h, s.map d = some h → s.written h ≠ s.current h → s.msg h = s.latest d
  d8 : ∀ d, s.latest d < s.nextUpd
  d9 : ∀ h, s.msg h < s.nextUpd
  d10 : ∀ g r, lookupG s.gets g = some r → r.readMsg < s.nextUpd
  e : ∀ g r h, lookupG s.gets g = some r → r.existing = some h → s.hdigest h = r.digest
  n : ∀ g r, lookupG s.gets g = some r → r.need ≠ 0 → ∃ h, r.existing = some h ∧ r.need ≤ s.msg h

abbrev GInv (s : State) : Prop := GInvX s (fun _ => False)

theorem ginv_init : GInv init where
  g1 := fun _ hi => absurd rfl hi
  g2 := fun _ _ hw => nomatch hw
  g3 := fun _ _ _ hl => nomatch hl
  g3n := fun _ _ hl => nomatch hl
  g4 := fun _ _ => ⟨rfl, rfl, rfl⟩
  c := fun _ _ hm => nomatch hm
  v := fun _ => Nat.le_refl _
  d1 := fun _ => Nat.le_refl _
  d2 := fun _ _ => rfl
  d4 := fun _ _ _ _ => rfl
  d5 := fun _ _ hm => nomatch hm
  d8 := fun _ => Nat.zero_lt_one
  d9 := fun _ => Nat.zero_lt_one
  d10 := fun _ _ hl => nomatch hl
  e := fun _ _ _ hl => nomatch hl
  n := fun _ _ hl => nomatch hl

theorem inMap_of_useCount_pos (s : State) (ex : Nat → Prop) (hg : GInvX s ex) (h : Nat)
    (hp : 0 < s.useCount h) : s.map (s.hdigest h) = some h := by
  apply Classical.byContradiction
  intro hn
  have := (hg.g4 h hn).1
  omega

theorem inMap_of_queued (s : State) (ex : Nat → Prop) (hg : GInvX s ex) (h : Nat)
    (hi : s.idx h ≠ none) : s.map (s.hdigest h) = some h := by
  apply Classical.byContradiction
  intro hn
  exact hi (hg.g4 h hn).2.1

theorem inMap_of_writing (s : State) (ex : Nat → Prop) (hg : GInvX s ex) (h g : Nat)
    (hw : s.wg h = some g) : s.map (s.hdigest h) = some h := by
  apply Classical.byContradiction
  intro hn
  have := (hg.g4 h hn).2.2
  rw [hw] at this; cases this

/-! ### One handle at a time

Apart from the in-flight Gets, a step of the model changes only the fields of one handle
`h` and the entries of the map, the store and `latest` at the digest `d` of that handle.  `HOk` is what the
invariant says about such a pair in terms of the values of those fields alone;
`GInvX.touch` is the frame rule: if nothing else changes and `HOk` holds of the new
values, the invariant holds again. -/

/-- The handle-level part of the invariant for handle `h` of digest `d`, as a predicate
on `m = map d`, `uc = useCount h`, `ix = idx h`, `w = wg h`, `wr`/`cur` =
`written`/`current h`, `mg = msg h`, `st = store d`, `lat = latest d`, `nu = nextUpd`. -/
structure HOk (h : Nat) (exc : Prop) (m : Option Nat) (uc : Nat) (ix w : Option Nat)
    (wr cur mg st lat nu : Nat) : Prop where
  g1 : ix ≠ none → w = none ∧ wr ≠ cur
  g2 : w ≠ none → wr ≠ cur
  g4 : m ≠ some h → uc = 0 ∧ ix = none ∧ w = none
  c : m = some h → exc ∨ 0 < uc ∨ ix ≠ none ∨ w ≠ none
  v : wr ≤ cur
  d1 : st ≤ lat
  d2 : m = none → st = lat
  d4 : m = some h → wr = cur → st = lat
  d5 : m = some h → wr ≠ cur → mg = lat
  d8 : lat < nu
  d9 : mg < nu

theorem GInvX.hok {s : State} {ex : Nat → Prop} (hg : GInvX s ex) (h : Nat) :
    HOk h (ex h) (s.map (s.hdigest h)) (s.useCount h) (s.idx h) (s.wg h) (s.written h) (s.current h)
      (s.msg h) (s.store (s.hdigest h)) (s.latest (s.hdigest h)) s.nextUpd where
  g1 := hg.g1 h
  g2 := fun hw => by
    cases hwg : s.wg h with
    | none => exact absurd hwg hw
    | some g => exact (hg.g2 h g hwg).1
  g4 := hg.g4 h
  c := fun hm => (hg.c _ h hm).2
  v := hg.v h
  d1 := hg.d1 _
  d2 := hg.d2 _
  d4 := hg.d4 _ h
  d5 := hg.d5 _ h
  d8 := hg.d8 _
  d9 := hg.d9 h

/-- `s'` differs from `s` only in the fields of handle `h` other than its writer (the queue
position of another handle may change, not whether it is queued), in the entries at digest
`d` — the digest of `h` in `s'` — and in a larger `nextUpd`.  A field that the step leaves
alone needs no mention: its clause holds by `rfl`. -/
structure Touch (s s' : State) (h d : Nat) : Prop where
  hd : s'.hdigest h = d := by rfl
  gets : s'.gets = s.gets := by rfl
  wg : ∀ x, s'.wg x = s.wg x := by intros; rfl
  nextUpd : s.nextUpd ≤ s'.nextUpd := by exact Nat.le_refl _
  hdigest : ∀ x, x ≠ h → s'.hdigest x = s.hdigest x := by intros; rfl
  useCount : ∀ x, x ≠ h → s'.useCount x = s.useCount x := by intros; rfl
  idx : ∀ x, x ≠ h → (s'.idx x = none ↔ s.idx x = none) := by intros; rfl
  written : ∀ x, x ≠ h → s'.written x = s.written x := by intros; rfl
  current : ∀ x, x ≠ h → s'.current x = s.current x := by intros; rfl
  msg : ∀ x, x ≠ h → s'.msg x = s.msg x := by intros; rfl
  map : ∀ e, e ≠ d → s'.map e = s.map e := by intros; rfl
  store : ∀ e, e ≠ d → s'.store e = s.store e := by intros; rfl
  latest : ∀ e, e ≠ d → s'.latest e = s.latest e := by intros; rfl

/-- A handle in the map is the only handle of its digest there, and is there only once. -/
theorem GInvX.own {s : State} {ex : Nat → Prop} (hg : GInvX s ex) {h : Nat}
    (hm : s.map (s.hdigest h) = some h) (e x : Nat) (he : s.map e = some x) :
    x = h ↔ e = s.hdigest h := by
  constructor
  · intro hx; subst hx; exact (hg.c e x he).1.symm
  · intro hed; subst hed; rw [hm] at he; cases he; rfl

/-- The frame rule.  `hown`: in `s` no other handle is in the map under `d`, and `h` is
under no other digest.  `hwr`, `href`: a Put in flight for `h` and a Get that refers to
`h` only see the version and the message grow; they hold by reflexivity, and are left out,
when the step leaves version, message, store and `latest` of `h` alone. -/
theorem GInvX.touch {s s' : State} {ex ex' : Nat → Prop} {h d : Nat} (hg : GInvX s ex)
    (t : Touch s s' h d) (hown : ∀ e x, s.map e = some x → (x = h ↔ e = d))
    (hex : ∀ x, x ≠ h → ex x → ex' x) (hm : s'.map d = some h ∨ s'.map d = none)
    (hk : HOk h (ex' h) (s'.map d) (s'.useCount h) (s'.idx h) (s.wg h) (s'.written h)
      (s'.current h) (s'.msg h) (s'.store d) (s'.latest d) s'.nextUpd)
    (hwr : s.wg h ≠ none → s.current h ≤ s'.current h ∧
      (s'.current h = s.current h → s'.msg h = s.msg h) ∧ s.latest d ≤ s'.latest d ∧
      s'.store d ≤ s.store d := by
        exact fun _ => ⟨Nat.le_refl _, fun _ => rfl, Nat.le_refl _, Nat.le_refl _⟩)
    (href : ∀ g r, lookupG s.gets g = some r → r.existing = some h →
      d = s.hdigest h ∧ s.msg h ≤ s'.msg h := by exact fun _ _ _ _ => ⟨rfl, Nat.le_refl _⟩) :
    GInvX s' ex' := by
  -- a handle other than `h` that is in the map or written is not of digest `d`
  have hne : ∀ x, x ≠ h → s.map (s.hdigest x) = some x → s.hdigest x ≠ d :=
    fun x hx hmx hd => hx ((hown _ _ hmx).2 hd)
  have hmx : ∀ e x, s'.map e = some x → (e = d ∧ x = h) ∨ (e ≠ d ∧ x ≠ h ∧ s.map e = some x) := by
    intro e x he
    by_cases hed : e = d
    · subst hed
      rcases hm with hm | hm <;> rw [hm] at he <;> cases he
      exact Or.inl ⟨rfl, rfl⟩
    · rw [t.map e hed] at he
      exact Or.inr ⟨hed, fun hx => hed ((hown e x he).1 hx), he⟩
  constructor
  · intro x hx
    rw [t.wg]
    by_cases hxh : x = h
    · subst hxh; exact hk.g1 hx
    · rw [t.written x hxh, t.current x hxh]
      exact hg.g1 x (fun hn => hx ((t.idx x hxh).2 hn))
  · intro x g hx
    rw [t.gets]
    rw [t.wg] at hx
    refine ⟨?_, (hg.g2 x g hx).2⟩
    by_cases hxh : x = h
    · subst hxh; exact hk.g2 (by rw [hx]; nofun)
    · rw [t.written x hxh, t.current x hxh]; exact (hg.g2 x g hx).1
  · intro g r w hl hmem
    rw [t.gets] at hl
    rw [t.wg]
    obtain ⟨a1, a2, a3, a4, a5⟩ := hg.g3 g r w hl hmem
    have hmw := inMap_of_writing s _ hg w.h g a1
    by_cases hxh : w.h = h
    · have hd : s.hdigest w.h = d := (hown _ _ hmw).1 hxh
      rw [hxh] at a1 a2 a3 a4 a5 hd ⊢
      rw [hd] at a4 a5
      obtain ⟨b2, b3, b4, b5⟩ := hwr (by rw [a1]; nofun)
      rw [t.hd]
      refine ⟨a1, Nat.le_trans a2 b2, fun hv => ?_, Nat.le_trans a4 b4, Nat.le_trans b5 a5⟩
      have hc : s'.current h = s.current h := Nat.le_antisymm (hv ▸ a2) b2
      rw [b3 hc]; exact a3 (hv.trans hc)
    · have hdd := hne w.h hxh hmw
      rw [t.hdigest _ hxh, t.current _ hxh, t.msg _ hxh, t.store _ hdd, t.latest _ hdd]
      exact ⟨a1, a2, a3, a4, a5⟩
  · rw [t.gets]; exact hg.g3n
  · intro x hx
    rw [t.wg]
    by_cases hxh : x = h
    · subst hxh; rw [t.hd] at hx; exact hk.g4 hx
    · rw [t.hdigest x hxh] at hx
      rw [t.useCount x hxh, t.idx x hxh]
      refine hg.g4 x fun hmx' => hx ?_
      rw [t.map _ (hne x hxh hmx')]; exact hmx'
  · intro e x he
    rw [t.wg]
    rcases hmx e x he with ⟨hed, hxh⟩ | ⟨hed, hxh, he0⟩
    · subst hed; subst hxh
      exact ⟨t.hd, hk.c he⟩
    · obtain ⟨c1, c2⟩ := hg.c e x he0
      rw [t.hdigest x hxh, t.useCount x hxh]
      refine ⟨c1, ?_⟩
      rcases c2 with c2 | c2 | c2 | c2
      · exact Or.inl (hex x hxh c2)
      · exact Or.inr (Or.inl c2)
      · exact Or.inr (Or.inr (Or.inl (fun hn => c2 ((t.idx x hxh).1 hn))))
      · exact Or.inr (Or.inr (Or.inr c2))
  · intro x
    by_cases hxh : x = h
    · subst hxh; exact hk.v
    · rw [t.written x hxh, t.current x hxh]; exact hg.v x
  · intro e
    by_cases hed : e = d
    · subst hed; exact hk.d1
    · rw [t.store e hed, t.latest e hed]; exact hg.d1 e
  · intro e he
    by_cases hed : e = d
    · subst hed; exact hk.d2 he
    · rw [t.store e hed, t.latest e hed]; exact hg.d2 e (t.map e hed ▸ he)
  · intro e x he
    rcases hmx e x he with ⟨hed, hxh⟩ | ⟨hed, hxh, he0⟩
    · subst hed; subst hxh; exact hk.d4 he
    · rw [t.written x hxh, t.current x hxh, t.store e hed, t.latest e hed]; exact hg.d4 e x he0
  · intro e x he
    rcases hmx e x he with ⟨hed, hxh⟩ | ⟨hed, hxh, he0⟩
    · subst hed; subst hxh; exact hk.d5 he
    · rw [t.written x hxh, t.current x hxh, t.msg x hxh, t.latest e hed]; exact hg.d5 e x he0
  · intro e
    by_cases hed : e = d
    · subst hed; exact hk.d8
    · rw [t.latest e hed]; exact Nat.lt_of_lt_of_le (hg.d8 e) t.nextUpd
  · intro x
    by_cases hxh : x = h
    · subst hxh; exact hk.d9
    · rw [t.msg x hxh]; exact Nat.lt_of_lt_of_le (hg.d9 x) t.nextUpd
  · intro g r hl
    rw [t.gets] at hl
    exact Nat.lt_of_lt_of_le (hg.d10 g r hl) t.nextUpd
  · intro g r x hl he
    rw [t.gets] at hl
    by_cases hxh : x = h
    · subst hxh; rw [t.hd, (href g r hl he).1]; exact hg.e g r x hl he
    · rw [t.hdigest x hxh]; exact hg.e g r x hl he
  · intro g r hl hn
    rw [t.gets] at hl
    obtain ⟨x, he, hnx⟩ := hg.n g r hl hn
    refine ⟨x, he, ?_⟩
    by_cases hxh : x = h
    · subst hxh; exact Nat.le_trans hnx (href g r hl he).2
    · rw [t.msg x hxh]; exact hnx

theorem ginv_removeOrQueue (s : State) (h : Nat) (hg : GInvX s (· = h))
    (hm : s.map (s.hdigest h) = some h) : GInv (removeOrQueue repoConfig s h) := by
  have k := hg.hok h
  rw [hm] at k
  have hex : ∀ x, x ≠ h → x = h → False := fun _ hx he => hx he
  unfold removeOrQueue
  by_cases hc : s.useCount h = 0 ∧ ¬ (repoConfig.writeGuard = true ∧ s.wg h ≠ none)
  · rw [if_pos hc]
    obtain ⟨huc, hwg⟩ := hc
    have hwg : s.wg h = none := Classical.byContradiction fun hn => hwg ⟨rfl, hn⟩
    by_cases hcl : s.written h = s.current h
    · -- clean: the handle leaves the map
      rw [if_pos hcl]
      have hidx : s.idx h = none := Classical.byContradiction fun hi => (k.g1 hi).2 hcl
      refine hg.touch { map := fun e he => upd_other _ _ _ _ he } (hg.own hm) hex
        (Or.inr (upd_same _ _ _)) ?_
      dsimp only
      rw [upd_same]
      exact { k with g4 := fun _ => ⟨huc, hidx, hwg⟩, c := nofun, d2 := fun _ => k.d4 rfl hcl,
                     d4 := nofun, d5 := nofun }
    · rw [if_neg hcl]
      by_cases hidx : s.idx h = none
      · -- dirty and not queued: the handle is queued
        rw [if_pos hidx]
        refine hg.touch { idx := fun x hx => by simp only [upd_other _ _ _ _ hx] } (hg.own hm) hex
          (Or.inl hm) ?_
        dsimp only
        rw [upd_same, hm]
        exact { k with g1 := fun _ => ⟨hwg, hcl⟩, g4 := fun hn => absurd rfl hn,
                       c := fun _ => Or.inr (Or.inr (Or.inl nofun)) }
      · rw [if_neg hidx]
        refine { hg with c := fun d x hx => ⟨(hg.c d x hx).1, ?_⟩ }
        rcases (hg.c d x hx).2 with h1 | h1
        · subst h1; exact Or.inr (Or.inr (Or.inl hidx))
        · exact Or.inr h1
  · rw [if_neg hc]
    refine { hg with c := fun d x hx => ⟨(hg.c d x hx).1, ?_⟩ }
    rcases (hg.c d x hx).2 with h1 | h1
    · subst h1
      by_cases hu : s.useCount x = 0
      · exact Or.inr (Or.inr (Or.inr fun hw => hc ⟨hu, fun hn => hn.2 hw⟩))
      · exact Or.inr (Or.inl (Nat.pos_of_ne_zero hu))
    · exact Or.inr h1

theorem ginv_increase (s : State) (e : Nat) (q' : List Nat) (idx' : Nat → Option Nat) (hg : GInv s)
    (hm : s.map (s.hdigest e) = some e) (hie : idx' e = none)
    (hix : ∀ x, x ≠ e → (idx' x ≠ none ↔ s.idx x ≠ none)) :
    GInv { s with useCount := upd s.useCount e (s.useCount e + 1), queue := q', idx := idx' } := by
  have k := hg.hok e
  rw [hm] at k
  refine hg.touch { useCount := fun x hx => upd_other _ _ _ _ hx,
                    idx := fun x hx => Decidable.not_iff_not.1 (hix x hx) }
    (hg.own hm) (fun _ _ f => f) (Or.inl hm) ?_
  dsimp only
  rw [upd_same, hm, hie]
  exact { k with g1 := fun hn => absurd rfl hn, g4 := fun hn => absurd rfl hn,
                 c := fun _ => Or.inr (Or.inl (Nat.succ_pos _)) }

/-- One reference to a handle in the map goes away; the handle may now be unreferenced. -/
theorem ginvx_decrease (s : State) (h : Nat) (hg : GInv s) (hm : s.map (s.hdigest h) = some h) :
    GInvX { s with useCount := upd s.useCount h (s.useCount h - 1) } (· = h) := by
  have k := hg.hok h
  rw [hm] at k
  refine hg.touch { useCount := fun x hx => upd_other _ _ _ _ hx } (hg.own hm) (fun _ _ f => f.elim)
    (Or.inl hm) ?_
  dsimp only
  rw [upd_same, hm]
  exact { k with g4 := fun hn => absurd rfl hn, c := fun _ => Or.inl rfl }

theorem ginv_release (s : State) (h : Nat) (dirty : Bool) (hq : QInv s) (hg : GInv s) :
    GInv (release repoConfig s h dirty) := by
  unfold release
  by_cases hheld : s.held h = 0
  · rw [if_pos hheld]; exact hg
  · rw [if_neg hheld]
    have hpos : 0 < s.useCount h := by
      rw [hq.acct h]
      exact Nat.lt_of_lt_of_le (Nat.pos_of_ne_zero hheld) (Nat.le_add_right _ _)
    have hm := inMap_of_useCount_pos s _ hg h hpos
    have k := hg.hok h
    rw [hm] at k
    have hnq : s.idx h = none :=
      Classical.byContradiction fun hi => by have := hq.q2 h hi; omega
    unfold decreaseUseCount
    dsimp only
    refine ginv_removeOrQueue _ _ ?_ hm
    have hleg : repoConfig.legacyVersioning = false := rfl
    cases dirty
    · simp only [Bool.false_eq_true, if_false]
      exact { ginvx_decrease s h hg hm with }
    · -- a new version: message, `latest` of the digest and `nextUpd` move together
      simp only [hleg, Bool.false_eq_true, if_false, if_true]
      have hv := k.v
      refine hg.touch { nextUpd := Nat.le_succ _, useCount := fun x hx => upd_other _ _ _ _ hx,
                        current := fun x hx => upd_other _ _ _ _ hx,
                        msg := fun x hx => upd_other _ _ _ _ hx,
                        latest := fun e he => upd_other _ _ _ _ he }
        (hg.own hm) (fun _ _ f => f.elim) (Or.inl hm) ?_ (fun _ => ?_) (fun _ _ _ _ => ⟨rfl, ?_⟩)
      · dsimp only
        simp only [upd_same, hm]
        exact { g1 := fun hi => absurd hnq hi, g2 := fun _ => by omega, g4 := fun hn => absurd rfl hn,
                c := fun _ => Or.inl trivial, v := Nat.le_succ_of_le hv,
                d1 := Nat.le_of_lt (Nat.lt_of_le_of_lt k.d1 k.d8), d2 := nofun,
                d4 := fun _ _ => by omega, d5 := fun _ _ => rfl, d8 := Nat.lt_succ_self _,
                d9 := Nat.lt_succ_self _ }
      · dsimp only
        simp only [upd_same]
        exact ⟨Nat.le_succ _, fun hc => absurd hc (Nat.succ_ne_self _), Nat.le_of_lt k.d8, Nat.le_refl _⟩
      · dsimp only
        rw [upd_same]
        exact Nat.le_of_lt k.d9

/-! ### In-flight Gets -/

/-- What the invariant says about one in-flight Get `g` with record `r`, given the writers
`wg` of the handles. -/
structure RecOk (s : State) (wg : Nat → Option Nat) (g : Nat) (r : GetRec) : Prop where
  puts : ∀ w, w ∈ r.writes →
    wg w.h = some g ∧ w.ver ≤ s.current w.h ∧ (w.ver = s.current w.h → w.msg = s.msg w.h) ∧
    w.msg ≤ s.latest (s.hdigest w.h) ∧ s.store (s.hdigest w.h) ≤ w.msg
  nodup : (r.writes.map (·.h)).Nodup
  read : r.readMsg < s.nextUpd
  dig : ∀ h, r.existing = some h → s.hdigest h = r.digest
  need : r.need ≠ 0 → ∃ h, r.existing = some h ∧ r.need ≤ s.msg h

theorem GInvX.recOk {s : State} {ex : Nat → Prop} (hg : GInvX s ex) {g : Nat} {r : GetRec}
    (hl : lookupG s.gets g = some r) : RecOk s s.wg g r :=
  ⟨fun w => hg.g3 g r w hl, hg.g3n g r hl, hg.d10 g r hl, fun h => hg.e g r h hl, hg.n g r hl⟩

/-- A record whose Puts are for handles with the same writer as before stays in order. -/
theorem RecOk.writers {s : State} {wg wg' : Nat → Option Nat} {g : Nat} {r : GetRec}
    (hr : RecOk s wg g r) (hw : ∀ w, w ∈ r.writes → wg' w.h = wg w.h) : RecOk s wg' g r :=
  { hr with puts := fun w hm => (hw w hm).symm ▸ hr.puts w hm }

/-- The frame rule for the in-flight Gets and the writers: `wg'` differs from `wg` at handle
`h` only, every record of `gs'` is in order, every writer has its Put in `gs'`, and the
handle-level facts hold of `h` with its new writer. -/
theorem GInvX.puts {s : State} {ex ex' : Nat → Prop} (hg : GInvX s ex) (h : Nat)
    (gs' : List (Nat × GetRec)) (wg' : Nat → Option Nat)
    (hoff : ∀ x, x ≠ h → wg' x = s.wg x) (hex : ∀ x, x ≠ h → ex x → ex' x)
    (hrec : ∀ g r, lookupG gs' g = some r → RecOk s wg' g r)
    (hown : ∀ x g, wg' x = some g → ∃ r w, lookupG gs' g = some r ∧ w ∈ r.writes ∧ w.h = x)
    (hk : HOk h (ex' h) (s.map (s.hdigest h)) (s.useCount h) (s.idx h) (wg' h) (s.written h)
      (s.current h) (s.msg h) (s.store (s.hdigest h)) (s.latest (s.hdigest h)) s.nextUpd) :
    GInvX { s with gets := gs', wg := wg' } ex' where
  g1 x hx := by
    by_cases hxh : x = h
    · subst hxh; exact hk.g1 hx
    · dsimp only; rw [hoff x hxh]; exact hg.g1 x hx
  g2 x g hx := by
    dsimp only at hx
    refine ⟨?_, hown x g hx⟩
    by_cases hxh : x = h
    · subst hxh; exact hk.g2 (by rw [hx]; nofun)
    · rw [hoff x hxh] at hx; exact (hg.g2 x g hx).1
  g3 g r w hl := (hrec g r hl).puts w
  g3n g r hl := (hrec g r hl).nodup
  g4 x hx := by
    by_cases hxh : x = h
    · subst hxh; exact hk.g4 hx
    · dsimp only; rw [hoff x hxh]; exact hg.g4 x hx
  c d x hm := by
    refine ⟨(hg.c d x hm).1, ?_⟩
    by_cases hxh : x = h
    · subst hxh; exact hk.c ((hg.c d x hm).1.symm ▸ hm)
    · dsimp only; rw [hoff x hxh]; exact (hg.c d x hm).2.imp_left (hex x hxh)
  v := hg.v
  d1 := hg.d1
  d2 := hg.d2
  d4 := hg.d4
  d5 := hg.d5
  d8 := hg.d8
  d9 := hg.d9
  d10 g r hl := (hrec g r hl).read
  e g r x hl := (hrec g r hl).dig x
  n g r hl := (hrec g r hl).need

/-- A Put in flight stays in flight when the record of Get `g` is replaced by one that
still lists it. -/
theorem owner_setG {gs : List (Nat × GetRec)} {g g' x : Nat} {r' : GetRec}
    (hsub : ∀ r, lookupG gs g = some r → ∀ w, w ∈ r.writes → w.h = x → w ∈ r'.writes)
    (ho : ∃ r w, lookupG gs g' = some r ∧ w ∈ r.writes ∧ w.h = x) :
    ∃ r w, lookupG (setG gs g r') g' = some r ∧ w ∈ r.writes ∧ w.h = x := by
  obtain ⟨r2, w, hl, hw, hx⟩ := ho
  rw [lookupG_setG]
  by_cases hgg : g = g'
  · subst hgg; exact ⟨r', w, if_pos rfl, hsub r2 hl w hw hx, hx⟩
  · exact ⟨r2, w, (if_neg hgg).trans hl, hw, hx⟩

theorem ginv_readDone (s : State) (g : Nat) (ok : Bool) (hg : GInv s) : GInv (readDone s g ok) := by
  unfold readDone
  cases hr : lookupG s.gets g with
  | none => exact hg
  | some r =>
    dsimp only
    by_cases hp : r.readPending = true
    · rw [if_pos hp]
      have hmsg : (if ok = true then s.store r.digest else r.readMsg) < s.nextUpd := by
        split
        · exact Nat.lt_of_le_of_lt (hg.d1 _) (hg.d8 _)
        · exact hg.d10 g r hr
      -- no writer changes: any handle will do
      refine hg.puts 0 _ s.wg (fun _ _ => rfl) (fun _ _ hx => hx) (fun g' r2 hl => ?_)
        (fun x g' hx => owner_setG (fun r0 h0 w hm _ => ?_) (hg.g2 x g' hx).2) (hg.hok 0)
      · rcases lookupG_setG_some hl with ⟨rfl, rfl⟩ | ⟨_, hl⟩
        · exact { hg.recOk hr with read := hmsg }
        · exact hg.recOk hl
      · rw [hr] at h0; cases h0; exact hm
    · rw [if_neg hp]; exact hg

/-- The Put for handle `h` issued by Get `g` is over: its entry leaves the Get's list and
`wg h` is cleared.  Until the handle is looked at again it may be unreferenced. -/
theorem ginvx_finishWrite (s : State) (g h : Nat) (r : GetRec) (f : Bool) (hg : GInv s)
    (hr : lookupG s.gets g = some r) (hwg : s.wg h = some g) :
    GInvX { s with
      gets := setG s.gets g { r with writes := r.writes.filter (fun w' => w'.h != h), failed := f }
      wg := upd s.wg h none } (· = h) := by
  have k := hg.hok h
  -- a Put of another Get is for another handle
  have hne : ∀ g' r2 w, lookupG s.gets g' = some r2 → w ∈ r2.writes → g ≠ g' → w.h ≠ h :=
    fun g' r2 w hl hm hgg he => by
      have := (hg.g3 g' r2 w hl hm).1
      rw [he, hwg] at this
      exact hgg (Option.some.inj this)
  refine hg.puts h _ _ (fun x hx => upd_other _ _ _ _ hx) (fun _ _ f => f.elim) ?_ ?_ ?_
  · intro g' r2 hl
    rcases lookupG_setG_some hl with ⟨rfl, rfl⟩ | ⟨hgg, hl⟩
    · have h0 := hg.recOk hr
      refine { h0 with puts := fun w hm => ?_, nodup := h0.nodup.sublist (List.filter_sublist.map _) }
      obtain ⟨hm, hh⟩ := List.mem_filter.1 hm
      rw [upd_other _ _ _ _ (by simpa using hh)]
      exact h0.puts w hm
    · exact (hg.recOk hl).writers fun w hm => upd_other _ _ _ _ (hne g' r2 w hl hm hgg)
  · intro x g' hx
    have hxh : x ≠ h := fun he => by rw [he, upd_same] at hx; cases hx
    rw [upd_other _ _ _ _ hxh] at hx
    refine owner_setG (fun r0 h0 w hm hw => ?_) (hg.g2 x g' hx).2
    rw [hr] at h0; cases h0
    exact List.mem_filter.2 ⟨hm, by simp [hw, hxh]⟩
  · rw [upd_same]
    exact { k with g1 := fun hi => ⟨rfl, (k.g1 hi).2⟩, g2 := fun hn => absurd rfl hn,
                   g4 := fun hm => ⟨(k.g4 hm).1, (k.g4 hm).2.1, rfl⟩, c := fun _ => Or.inl rfl }

theorem ginv_putDone (s : State) (g h : Nat) (o : PutOutcome) (hg : GInv s) :
    GInv (putDone repoConfig s g h o) := by
  rcases putDone_cases repoConfig s g h o with he | ⟨r, w, hr, hw⟩
  · rw [he]; exact hg
  · rw [putDone_eq repoConfig s g h o r w hr hw]
    obtain ⟨hmem, hwh⟩ := findWrite_some _ _ _ hw
    obtain ⟨hwg, hver, hvm, hml, hsm⟩ := hg.g3 g r w hr hmem
    rw [hwh] at hwg hver hvm hml hsm
    have hm := inMap_of_writing s _ hg h g hwg
    have k := hg.hok h
    rw [hm] at k
    have hdirty := k.g2 (by rw [hwg]; nofun)
    have hnq : s.idx h = none := Classical.byContradiction fun hi => by
      have := (k.g1 hi).1; rw [hwg] at this; cases this
    have h0 := ginvx_finishWrite s g h r (r.failed || decide (o ≠ .ok)) hg hr hwg
    -- what the outcome does to `written h` and to the store entry of the digest
    have hnew : (if o = .ok then upd s.written h w.ver else s.written) h ≤ s.current h ∧
        (if o = .err then s.store else upd s.store (s.hdigest h) w.msg) (s.hdigest h) ≤
          s.latest (s.hdigest h) ∧
        ((if o = .ok then upd s.written h w.ver else s.written) h = s.current h →
          (if o = .err then s.store else upd s.store (s.hdigest h) w.msg) (s.hdigest h) =
            s.latest (s.hdigest h)) := by
      cases o <;> simp only [reduceCtorEq, if_true, if_false, upd_same]
      · exact ⟨hver, hml, fun hv => (hvm hv).trans (k.d5 rfl hdirty)⟩
      · exact ⟨k.v, k.d1, fun hv => absurd hv hdirty⟩
      · exact ⟨k.v, hml, fun hv => absurd hv hdirty⟩
    refine ginv_removeOrQueue _ _ ?_ hm
    refine h0.touch { written := fun x hx => ?_, store := fun e he => ?_ } (h0.own hm)
      (fun _ _ hx => hx) (Or.inl hm) ?_ (fun hw' => ?_)
    · dsimp only; split
      · exact upd_other _ _ _ _ hx
      · rfl
    · dsimp only; split
      · rfl
      · exact upd_other _ _ _ _ he
    · dsimp only
      rw [upd_same, hm]
      exact { k with g1 := fun hi => absurd hnq hi, g2 := fun hn => absurd rfl hn,
                     g4 := fun hn => absurd rfl hn, c := fun _ => Or.inl rfl, v := hnew.1,
                     d1 := hnew.2.1, d2 := nofun, d4 := fun _ => hnew.2.2, d5 := fun _ _ => k.d5 rfl hdirty }
    · dsimp only at hw'
      rw [upd_same] at hw'
      exact absurd rfl hw'

theorem refs_pos_of_lookup (gs : List (Nat × GetRec)) (g : Nat) (r : GetRec) (h : Nat)
    (hl : lookupG gs g = some r) (he : r.existing = some h) : 0 < refs gs h := by
  have := refs_eraseG gs g h r hl
  simp [he] at this
  omega

theorem ginvx_eraseG (s : State) (ex : Nat → Prop) (g : Nat) (r : GetRec) (hg : GInvX s ex)
    (hk : KeysNodup s.gets) (hr : lookupG s.gets g = some r) (hw : r.writes = []) :
    GInvX { s with gets := eraseG s.gets g } ex :=
  -- no writer changes: any handle will do
  hg.puts 0 _ s.wg (fun _ _ => rfl) (fun _ _ hx => hx)
    (fun g' r2 hl => hg.recOk (lookupG_eraseG _ _ _ _ hk hl).2)
    (fun x g' hx => by
      obtain ⟨r2, w2, h2, h3, h4⟩ := (hg.g2 x g' hx).2
      have hgg : g ≠ g' := fun hgg => by
        subst hgg; rw [hr] at h2; cases h2; rw [hw] at h3; cases h3
      exact ⟨r2, w2, (lookupG_eraseG_ne _ _ _ hgg).trans h2, h3, h4⟩)
    (hg.hok 0)

theorem ginv_getEnd (s : State) (g : Nat) (hq : QInv s) (hg : GInv s) :
    GInv (getEnd repoConfig s g) := by
  refine getEnd_cases repoConfig s g _ hg fun r hr hw => ?_
  have hg1 := ginvx_eraseG s _ g r hg hq.keys hr hw
  dsimp only
  refine ⟨fun _ => ⟨fun h he => ?_, fun _ => hg1⟩,
    fun _ => ⟨fun _ _ => { hg1 with }, fun _ => ⟨fun e hm => ?_, fun hm => ?_⟩⟩⟩
  · have hpos : 0 < s.useCount h := by
      rw [hq.acct h]
      exact Nat.lt_of_lt_of_le (refs_pos_of_lookup s.gets g r h hr he) (Nat.le_add_left _ _)
    have hm := inMap_of_useCount_pos s _ hg h hpos
    exact ginv_removeOrQueue _ _ (ginvx_decrease _ h hg1 hm) hm
  · obtain ⟨q', idx', heq, hq1, hie, hix⟩ :=
      increaseUseCount_spec { s with gets := eraseG s.gets g } e hq.q1
    rw [heq]
    have hme : s.map (s.hdigest e) = some e := by
      rw [(hg.c _ _ hm).1]; exact hm
    exact { ginv_increase _ e q' idx' hg1 hme hie hix with }
  · -- a new handle `nextH` for the digest: nothing refers to it yet
      have hnm : ∀ d, s.map d ≠ some s.nextH := fun d hd => by
        have := hq.mapLt d _ hd; omega
      have hdead := hg.g4 s.nextH (hnm _)
      have hnr : ∀ g' r2, lookupG (eraseG s.gets g) g' = some r2 → r2.existing ≠ some s.nextH := by
        intro g' r2 hl he2
        have h1 := refs_pos_of_lookup s.gets g' r2 _ (lookupG_eraseG _ _ _ _ hq.keys hl).2 he2
        have h2 := hq.acct s.nextH
        omega
      refine hg1.touch (h := s.nextH) (d := r.digest)
        { hd := upd_same _ _ _, wg := fun x => ?_,
          hdigest := fun x hx => upd_other _ _ _ _ hx, useCount := fun x hx => upd_other _ _ _ _ hx,
          idx := fun x hx => by simp only [upd_other _ _ _ _ hx],
          written := fun x hx => upd_other _ _ _ _ hx, current := fun x hx => upd_other _ _ _ _ hx,
          msg := fun x hx => upd_other _ _ _ _ hx, map := fun e he => upd_other _ _ _ _ he }
        ?_ (fun _ _ f => f) (Or.inl (upd_same _ _ _)) ?_ (fun hw' => absurd hdead.2.2 hw')
        (fun g' r2 hl he2 => absurd he2 (hnr g' r2 hl))
      · dsimp only
        rw [upd_apply]
        split
        · rename_i hx; rw [hx]; exact hdead.2.2.symm
        · rfl
      · intro e x hx
        exact ⟨fun hxn => absurd (hxn ▸ hx) (hnm e), fun hed => by
          rw [hed, hm] at hx; cases hx⟩
      · dsimp only
        simp only [upd_same]
        exact { g1 := fun hn => absurd rfl hn, g2 := fun hn => absurd hdead.2.2 hn,
                g4 := fun hn => absurd rfl hn, c := fun _ => Or.inr (Or.inl Nat.one_pos),
                v := Nat.le_refl _, d1 := hg.d1 _, d2 := nofun, d4 := fun _ _ => hg.d2 _ hm,
                d5 := fun _ hn => absurd rfl hn, d8 := hg.d8 _, d9 := hg.d10 g r hr }

/-- Get `g` starts the Put for the dirty handle `h`, which has just left the queue: a
snapshot of the handle joins the Get's list and `wg h` is set. -/
theorem ginv_startWrite (s : State) (g h : Nat) (r : GetRec) (hg : GInvX s (· = h))
    (hr : lookupG s.gets g = some r) (hm : s.map (s.hdigest h) = some h) (hi : s.idx h = none)
    (hwgn : s.wg h = none) (hdirty : s.written h ≠ s.current h) :
    GInv { s with
      wg := upd s.wg h (some g)
      gets := setG s.gets g { r with writes := r.writes ++ [⟨h, s.msg h, s.current h⟩] } } := by
  have k := hg.hok h
  have hd5 := hg.d5 _ h hm hdirty
  have hd1 := hg.d1 (s.hdigest h)
  -- no Put is in flight for `h`
  have hne : ∀ g' r2 w, lookupG s.gets g' = some r2 → w ∈ r2.writes → w.h ≠ h :=
    fun g' r2 w hl hmem he => by
      have := (hg.g3 g' r2 w hl hmem).1
      rw [he, hwgn] at this
      cases this
  refine hg.puts h _ _ (fun x hx => upd_other _ _ _ _ hx) (fun _ hx he => hx he) ?_ ?_ ?_
  · intro g' r2 hl
    rcases lookupG_setG_some hl with ⟨rfl, rfl⟩ | ⟨_, hl⟩
    · have h0 := hg.recOk hr
      refine { h0 with puts := fun w hmem => ?_, nodup := ?_ }
      · rcases List.mem_append.1 hmem with hmem | hmem
        · rw [upd_other _ _ _ _ (hne _ r w hr hmem)]; exact h0.puts w hmem
        · rw [List.mem_singleton.1 hmem]
          exact ⟨upd_same _ _ _, Nat.le_refl _, fun _ => rfl, Nat.le_of_eq hd5, hd5 ▸ hd1⟩
      · dsimp only
        rw [List.map_append, List.nodup_append]
        refine ⟨h0.nodup, by simp, fun a ha b hb hab => ?_⟩
        obtain ⟨w, hw, hwh⟩ := List.mem_map.1 ha
        rw [List.mem_singleton.1 hb] at hab
        exact hne _ r w hr hw (hwh.trans hab)
    · exact (hg.recOk hl).writers fun w hmem => upd_other _ _ _ _ (hne g' r2 w hl hmem)
  · intro x g' hx
    by_cases hxh : x = h
    · subst hxh
      rw [upd_same] at hx; cases hx
      exact ⟨_, ⟨x, s.msg x, s.current x⟩, by rw [lookupG_setG, if_pos rfl], by simp, rfl⟩
    · rw [upd_other _ _ _ _ hxh] at hx
      refine owner_setG (fun r0 h0 w hmem _ => ?_) (hg.g2 x g' hx).2
      rw [hr] at h0; cases h0
      exact List.mem_append_left _ hmem
  · rw [upd_same]
    exact { k with g1 := fun hn => absurd hi hn, g2 := fun _ => hdirty, g4 := fun hn => absurd hm hn,
                   c := fun _ => Or.inr (Or.inr (Or.inr nofun)) }

theorem ginv_dequeueOne (s : State) (g : Nat) (hq : QInv s) (hg : GInv s) :
    GInv (dequeueOne s g) := by
  cases hl : s.queue.getLast? with
  | none => unfold dequeueOne; simp [hl]; exact hg
  | some h =>
    cases hr : lookupG s.gets g with
    | none => unfold dequeueOne; simp [hl, hr]; exact hg
    | some r =>
      rw [dequeueOne_eq s g h r hq.q1 hl hr]
      obtain ⟨hidx, _⟩ := q1_pop s.queue s.idx h hq.q1 hl
      have hqd : s.idx h ≠ none := by rw [hidx]; simp
      obtain ⟨hwgn, hdirty⟩ := hg.g1 h hqd
      have hm := inMap_of_queued s _ hg h hqd
      have k := hg.hok h
      rw [hm] at k
      -- the handle leaves the queue
      have h0 : GInvX { s with queue := s.queue.dropLast, idx := upd s.idx h none } (· = h) := by
        refine hg.touch { idx := fun x hx => by simp only [upd_other _ _ _ _ hx] } (hg.own hm)
          (fun _ _ f => f.elim) (Or.inl hm) ?_
        dsimp only
        rw [upd_same, hm]
        exact { k with g1 := fun hn => absurd rfl hn, g4 := fun hn => absurd rfl hn,
                       c := fun _ => Or.inl rfl }
      exact ginv_startWrite _ g h r h0 hr hm (upd_same _ _ _) hwgn hdirty

theorem ginv_dequeueN (s : State) (g n : Nat) (hq : QInv s) (hg : GInv s) :
    GInv (dequeueN s g n) :=
  (dequeueN_invariant (P := fun s => QInv s ∧ GInv s) g
    (fun s h => ⟨qinv_dequeueOne s g h.1, ginv_dequeueOne s g h.1 h.2⟩) n s ⟨hq, hg⟩).2

theorem ginvx_setG_new (s : State) (ex : Nat → Prop) (g : Nat) (r : GetRec) (hg : GInvX s ex)
    (hn : lookupG s.gets g = none) (hw : r.writes = [])
    (hd10 : r.readMsg < s.nextUpd) (he : ∀ h, r.existing = some h → s.hdigest h = r.digest)
    (hne : r.need ≠ 0 → ∃ h, r.existing = some h ∧ r.need ≤ s.msg h) :
    GInvX { s with gets := setG s.gets g r } ex :=
  hg.puts 0 _ s.wg (fun _ _ => rfl) (fun _ _ hx => hx)
    (fun g' r2 hl => by
      rcases lookupG_setG_some hl with ⟨_, rfl⟩ | ⟨_, hl⟩
      · exact ⟨fun w hm => (by rw [hw] at hm; cases hm), (by rw [hw]; exact List.nodup_nil), hd10, he, hne⟩
      · exact hg.recOk hl)
    (fun x g' hx => owner_setG (fun r0 h0 => by rw [hn] at h0; cases h0) (hg.g2 x g' hx).2)
    (hg.hok 0)

theorem ginv_getBeginMid (s : State) (g d : Nat) (hq : QInv s) (hg : GInv s)
    (hgn : lookupG s.gets g = none) : GInv (getBeginMid s g d) := by
  unfold getBeginMid
  have hpos : 0 < s.nextUpd := by have := hg.d8 0; omega
  have hneed : ∀ ex, ex = s.map d →
      (if s.store d = s.latest d then 0 else s.latest d) ≠ 0 →
      ∃ h, ex = some h ∧ (if s.store d = s.latest d then 0 else s.latest d) ≤ s.msg h := by
    intro ex hex hn
    split at hn
    · exact absurd rfl hn
    · rename_i hne
      simp only [hne, if_false]
      cases hm : s.map d with
      | none => exact absurd (hg.d2 d hm) hne
      | some h =>
        refine ⟨h, by rw [hex, hm], ?_⟩
        have := hg.d5 d h hm (fun hcl => hne (hg.d4 d h hm hcl))
        omega
  cases hm : s.map d with
  | none =>
    dsimp only
    refine ginvx_setG_new s _ g _ hg hgn rfl hpos (by intro h he; cases he) ?_
    intro hn
    obtain ⟨h, he, _⟩ := hneed none hm.symm hn
    cases he
  | some e =>
    dsimp only
    obtain ⟨q', idx', heq, hq1, hie, hix⟩ := increaseUseCount_spec s e hq.q1
    rw [heq]
    have hme : s.map (s.hdigest e) = some e := by
      have := (hg.c _ _ hm).1
      rw [this]; exact hm
    have h1 := ginv_increase s e q' idx' hg hme hie hix
    refine ginvx_setG_new _ _ g _ h1 hgn rfl hpos ?_ ?_
    · intro h he
      cases he
      exact (hg.c _ _ hm).1
    · intro hn
      exact hneed (some e) hm.symm hn

theorem ginv_getBegin (s : State) (g d : Nat) (hq : QInv s) (hg : GInv s) :
    GInv (getBegin s g d) := by
  cases hgn : lookupG s.gets g with
  | some r => unfold getBegin; simp [hgn]; exact hg
  | none =>
    rw [getBegin_eq s g d hgn]
    exact ginv_dequeueN _ g _ (qinv_getBeginMid s g d hq hgn) (ginv_getBeginMid s g d hq hg hgn)

theorem ginv_step (s : State) (op : Op) (hq : QInv s) (hg : GInv s) : GInv (step repoConfig s op) := by
  cases op with
  | getBegin g d => exact ginv_getBegin s g d hq hg
  | readDone g ok => exact ginv_readDone s g ok hg
  | putDone g h o => exact ginv_putDone s g h o hg
  | getEnd g => exact ginv_getEnd s g hq hg
  | release h dirty => exact ginv_release s h dirty hq hg

theorem ginv_run (ops : List Op) : GInv (run repoConfig ops) :=
  (run_invariant (P := fun s => QInv s ∧ GInv s) repoConfig ⟨qinv_init, ginv_init⟩
    (fun s op h => ⟨qinv_step repoConfig s op h.1, ginv_step s op h.1 h.2⟩) ops).2

end BbRe.Lemmas.ProtoStore
