import BbRe.Lemmas.BitmapFree
import BbRe.Spec.AllocSpec
/-! The bitmap allocator against `AllocSpec`: `new`, and each operation under the
abstraction `Bitmap.abs` and the invariant `Bitmap.Inv`. -/
namespace BbRe.Lemmas.Bitmap
open BbRe.Bitmap

theorem getW_new (n j : Nat) : getW (new n).bm j =
    if j < n / 64 then allBits else if j = n / 64 then ~~~(allBits <<< (n % 64)) else 0 := by
  simp only [getW_eq_getElem?, new, Array.getElem?_push, Array.size_replicate, Array.getElem?_replicate]
  by_cases h1 : j < n / 64
  · have : ¬ j = n / 64 := by omega
    simp [h1, this]
  · by_cases h2 : j = n / 64
    · simp [h2]
    · simp [h1, h2]

theorem bit_new (n i : Nat) : bit (new n).bm i = decide (i < n) := by
  rw [bit_def, getW_new]
  by_cases h1 : i / 64 < n / 64
  · rw [if_pos h1, getLsbD_allBits]; simp; omega
  · rw [if_neg h1]
    by_cases h2 : i / 64 = n / 64
    · rw [if_pos h2, getLsbD_low, Bool.eq_iff_iff]; simp; omega
    · rw [if_neg h2]; simp; omega

theorem new_inv (n : Nat) : Inv n (new n) :=
  ⟨by simp [new], by intro i hi; rw [bit_new]; simp; omega, by simp [new]⟩

theorem abs_new (n s : Nat) : abs n (new n) s = false := by
  simp only [abs, bit_new]
  by_cases h : 1 ≤ s ∧ s ≤ n
  · have : s - 1 < n := by omega
    simp [this]
  · rw [Bool.eq_false_iff]; simp; omega


/-- The bitmap allocator as an `AllocSpec.Impl`. -/
def impl : AllocSpec.Impl State :=
  { new := new, alloc := alloc, freeContiguous := freeContiguous, freeList := freeList }

theorem abs_wf (n : Nat) (st : State) : AllocSpec.WF n (abs n st) := by
  intro s hs
  simp [abs] at hs
  omega

theorem abs_eq_true {n : Nat} {st : State} {s : Nat} :
    abs n st s = true ↔ 1 ≤ s ∧ s ≤ n ∧ bit st.bm (s - 1) = false := by
  simp [abs]; constructor <;> intro h <;> simp [h]

/-- A write of a run inside the device, seen through `abs`: the sectors of the run become allocated
(`v = false`) or free (`v = true`), the others keep their state. -/
theorem Wr.abs {v : Bool} {n first count : Nat} {st st' : State} (h : Wr v (first - 1) count st.bm st'.bm)
    (h1 : 1 ≤ first) (hr : first - 1 + count ≤ n) (s : Nat) :
    abs n st' s = if AllocSpec.inRun first count s then !v else abs n st s := by
  simp only [Bitmap.abs, h (s - 1), AllocSpec.inRun]
  by_cases c : first ≤ s ∧ s < first + count
  · have hs : 1 ≤ s ∧ s ≤ n := by omega
    rw [if_pos (by omega)]; simp [hs, c]
  · by_cases c0 : 1 ≤ s
    · rw [if_neg (by omega)]; simp [c]
    · simp [c0]; omega

theorem alloc_ok_spec (n : Nat) (st : State) (maximum first count : Nat) (hinv : Inv n st)
    (hmax : 1 ≤ maximum) (h : (alloc st maximum).2 = some (first, count)) :
    AllocSpec.AllocOk n (abs n st) maximum first count (abs n (alloc st maximum).1) := by
  obtain ⟨h1, h2, h3, h4, h5, h6, _⟩ := alloc_some hinv hmax h
  refine ⟨h1, h2, h3, h4, fun s s1 s2 => ?_, fun s => ?_⟩
  · simp [abs, h5 (s - 1) (by omega) (by omega)]
  · rw [h6.abs h3 (by omega) s]
    cases AllocSpec.inRun first count s <;> simp

theorem alloc_fail_spec (n : Nat) (st : State) (maximum : Nat) (h : (alloc st maximum).2 = none) :
    AllocSpec.AllocFail n (abs n st) (abs n (alloc st maximum).1) := by
  obtain ⟨h1, h2⟩ := alloc_none h
  refine ⟨?_, by intro s; rw [h1]⟩
  intro s s1 s2
  simp [abs, h2, s1, s2]

theorem alloc_inv (n : Nat) (st : State) (maximum : Nat) (hinv : Inv n st) (hmax : 1 ≤ maximum) :
    Inv n (alloc st maximum).1 := by
  cases h : (alloc st maximum).2 with
  | none => rw [(alloc_none h).1]; exact hinv
  | some r => obtain ⟨f, c⟩ := r; exact (alloc_some hinv hmax h).2.2.2.2.2.2

theorem freeContiguous_ok_spec (n : Nat) (st : State) (first count : Nat) (hinv : Inv n st)
    (hc : 1 ≤ count) (hpre : AllocSpec.FreeContiguousPre (abs n st) first count) :
    ∃ st', freeContiguous st first count = some st' ∧ Inv n st' ∧
      AllocSpec.FreeContiguousPost (abs n st) first count (abs n st') := by
  obtain ⟨h1, hall⟩ := hpre
  have hlast := abs_eq_true.1 (hall (first + count - 1) (by omega) (by omega))
  have hr : first - 1 + count ≤ n := by omega
  obtain ⟨st', e, hn, hs, hb⟩ := freeContiguous_bits hinv first count h1 hr (by
    intro i i1 i2
    have := abs_eq_true.1 (hall (i + 1) (by omega) (by omega))
    simpa using this.2.2)
  refine ⟨st', e, ⟨by rw [hs]; exact hinv.size, hb.tail hr hinv.tail, by rw [hn]; exact hinv.next⟩,
    fun s => ?_⟩
  rw [hb.abs h1 hr s]
  cases AllocSpec.inRun first count s <;> simp

theorem freeList_ok_spec (n : Nat) (st : State) (sectors : List Nat) (hinv : Inv n st)
    (hpre : AllocSpec.FreeListPre (abs n st) sectors) :
    ∃ st', freeList st sectors = some st' ∧ Inv n st' ∧
      AllocSpec.FreeListPost (abs n st) sectors (abs n st') := by
  obtain ⟨hall, hnd⟩ := hpre
  obtain ⟨bm', e, hs, hb⟩ := freeListBm_ok n sectors st.bm hinv.size (by
    intro s hs h0
    have := abs_eq_true.1 (hall s hs h0)
    exact ⟨this.2.1, this.2.2⟩) hnd
  refine ⟨{ st with bm := bm' }, by simp [freeList, e], ⟨by simp only; rw [hs]; exact hinv.size, ?_, hinv.next⟩, ?_⟩
  · intro i hi
    simp only
    rw [hb, hinv.tail i hi]
    simp only [Bool.false_or]
    rw [Bool.eq_false_iff]
    intro hc
    have hm : i + 1 ∈ sectors := by simpa using hc
    have := abs_eq_true.1 (hall (i + 1) hm (by omega))
    omega
  · intro s
    simp only [abs, hb]
    by_cases hs0 : 1 ≤ s
    · have : s - 1 + 1 = s := by omega
      rw [this]
      have : decide (s ≠ 0) = true := by simp; omega
      rw [this]
      cases bit st.bm (s - 1) <;> cases sectors.contains s <;> simp
    · have : s = 0 := by omega
      subst this; simp

/-- States reachable from a fresh allocator of `n` sectors by calls that respect the contract
of `sector_allocator.go` (`maximum ≥ 1`; frees only of sectors that are handed out). -/
inductive Reach (n : Nat) : State → Prop
  | new : Reach n (new n)
  | alloc {st : State} (max : Nat) : Reach n st → 1 ≤ max → Reach n (alloc st max).1
  | freeContiguous {st st' : State} (first count : Nat) : Reach n st → 1 ≤ count →
      AllocSpec.FreeContiguousPre (abs n st) first count →
      freeContiguous st first count = some st' → Reach n st'
  | freeList {st st' : State} (sectors : List Nat) : Reach n st →
      AllocSpec.FreeListPre (abs n st) sectors → freeList st sectors = some st' → Reach n st'

/-- The sectors that are allocated, in increasing order. -/
def allocatedList (n : Nat) (st : State) : List Nat :=
  ((List.range n).filter (fun i => !bit st.bm i)).map (· + 1)


end BbRe.Lemmas.Bitmap
