import BbRe.Lemmas.SchedInvComplete
/-! Specification of `task.complete` (assembly of the pieces of `SchedInvComplete`). -/
namespace BbRe.Lemmas.SchedInv
open BbRe.Sched

/-! `complete_eq` runs the branches from `detachW s (preT t)` with the detached task in a local; the
branch specifications of `SchedInvComplete` start from `detSt s t`, the same state with that task
written back.  The four `_setTask` lemmas say that this makes no difference: every branch overwrites
the entry of the task. -/

theorem finalize_setTask (s : State) (t0 t : Task) (r : Resp) (hid : t0.id = t.id) :
    complete.finalize (s.setTask t0) t r = complete.finalize s t r := by
  rw [finalize_eq, finalize_eq, finSt0_setTask _ _ _ _ hid]

theorem completeOk_setTask (h : Hints) (s : State) (t0 t : Task) (r : Resp) (l : Nat) (hid : t0.id = t.id) :
    completeOk h (s.setTask t0) t r l = completeOk h s t r l := by
  rw [completeOk_eq, completeOk_eq]
  have : ∀ e, emit (s.setTask t0) e = (emit s e).setTask t0 := fun _ => rfl
  rw [this, finalize_setTask _ _ { t with learner := none } _ hid]
  rfl

theorem retrySt_setTask (s : State) (t0 t : Task) (l : Nat) (r : Resp) (hid : t0.id = t.id) :
    retrySt (s.setTask t0) t l r = retrySt s t l r := by
  unfold retrySt
  simp only [State.setTask, emit, hid, aset_aset]
  rfl

theorem completeRetry_setTask (h : Hints) (s : State) (t0 t : Task) (r : Resp) (l : Nat) (hid : t0.id = t.id) :
    completeRetry h (s.setTask t0) t r l = completeRetry h s t r l := by
  rw [completeRetry_eq, completeRetry_eq, retrySt_setTask _ _ _ _ _ hid]


/-- introduction rule: a computation known to succeed with `a` -/
theorem wp_congr_ok {α} {x : M α} {a : α} {Q : α → Prop} (h : x = .ok a) (hq : Q a) : wp x Q := by
  subst h; exact hq

/-- frame of `complete h s tid r bw` -/
structure CompPost (s : State) (tid : Nat) (s' : State) : Prop where
  fr : Fr s s'
  rw : RW s s'
  wex : ∀ q w, (wfind s'.workers q w).isSome = (wfind s.workers q w).isSome
  tk : ∀ k, k ≠ tid → k < s.nextTask → alookup k s'.tasks = alookup k s.tasks
  tt : ∀ t, alookup tid s.tasks = some t → ∃ t', alookup tid s'.tasks = some t' ∧ t'.ops = t.ops ∧
        (t.response = none → ∀ q w, t'.worker = some (q, w) →
          ∃ wk, wfind s.workers q w = some wk ∧ wk.parked = true)
  sts : s'.streams = s.streams
  opk : ∀ k, k < s.nextOp → (alookup k s'.ops).isSome = (alookup k s.ops).isSome

theorem CompPost.refl (s : State) (tid : Nat) (hd : TDone s tid) : CompPost s tid s :=
  ⟨Fr.refl s, RW.refl s, fun _ _ => rfl, fun _ _ _ => rfl,
   fun t h => ⟨t, h, rfl, fun hr => by have := hd t h; simp [hr] at this⟩, rfl, fun _ _ => rfl⟩

theorem CompPost.of_det {s sD s' : State} {tid : Nat} {t : Task} (hd : DetPost s tid t sD)
    (ht : alookup tid s.tasks = some t) (hr : t.response = none)
    (hc : ContPost sD tid { preT t with worker := none } s') : CompPost s tid s' := by
  obtain ⟨ws, ts, he⟩ := hd.same
  have hnt : sD.nextTask = s.nextTask := by rw [he]
  have hst : sD.streams = s.streams := by rw [he]
  have hno : sD.nextOp = s.nextOp := by rw [he]
  have hops : sD.ops = s.ops := by rw [he]
  refine ⟨(hd.fr ht hr).trans hc.fr, hd.rw.trans hc.rw, fun q w => (hc.wex q w).trans (hd.wex q w), ?_, ?_,
    hc.sts.trans hst, fun k hk => by rw [hc.opk k (by omega), hops]⟩
  · intro k hk hlt; rw [hc.tk k hk (by omega), hd.tk k hk]
  · intro t1 ht1
    rw [ht] at ht1; cases ht1
    obtain ⟨t', a, b, c⟩ := hc.tt
    refine ⟨t', a, ?_, ?_⟩
    · rw [b]; unfold preT; split <;> rfl
    · intro _ q w hqw
      obtain ⟨wk', h1, h2⟩ := c q w hqw
      obtain ⟨wk, h3, h4⟩ := hd.par q w wk' h1
      exact ⟨wk, h3, by rw [h4]; exact h2⟩


theorem complete_spec' {exo} {h : Hints} {s : State} {tid : Nat} {r : Resp} {bw : Bool}
    (hI : InvX (fun _ => False) exo s) (hex : (alookup tid s.tasks).isSome = true) :
    wp (complete h s tid r bw) (fun s' => InvX (fun _ => False) exo s' ∧ CompPost s tid s' ∧
      ((bw = false ∨ h.retry = false ∨ (r.code = cOK ∧ r.exit = 0)) → TDone s' tid) ∧
      (¬ (r.code = cOK ∧ r.exit = 0) → s'.nextTask = s.nextTask ∧ s'.nextOp = s.nextOp) ∧
      (bw = true → h.retry = true → ¬ (r.code = cOK ∧ r.exit = 0) →
        ∀ t, alookup tid s.tasks = some t → t.response = none →
          ∃ t', alookup tid s'.tasks = some t' ∧ t'.learner = some s.nextLearner ∧
            t'.scq = largestScq s t.scq ∧ t'.response = none)) := by
  rw [complete_eq]
  cases ht : alookup tid s.tasks with
  | none => rw [ht] at hex; cases hex
  | some t =>
    simp only [task?_def, ht]
    by_cases hr : t.response.isSome = true
    · simp only [hr, if_true, wp_pure]
      have hd : TDone s tid := by intro t' ht'; rw [ht] at ht'; cases ht'; exact hr
      refine ⟨hI, CompPost.refl s tid hd, fun _ => hd, by simp, ?_⟩
      intro _ _ _ t' ht' hr'
      cases ht'; rw [hr'] at hr; simp at hr
    · rw [if_neg hr]
      have hr' : t.response = none := by simpa using hr
      obtain ⟨l, hl⟩ : ∃ l, t.learner = some l := by
        have := (hI.core.l1 tid t ht).mpr hr'
        cases h : t.learner with
        | none => simp [h] at this
        | some l => exact ⟨l, rfl⟩
      have hlp : (preT t).learner = some l := by unfold preT; split <;> simpa [bumpGen] using hl
      have hrp : (preT t).response = none := by unfold preT; split <;> simpa [bumpGen] using hr'
      have hqp : (preT t).queued = false := by
        unfold preT; split
        · simp [bumpGen]
        · rename_i hw
          cases hq : t.queued with
          | false => rfl
          | true => have := (hI.core.q1 tid t ht hq).1; simp [this] at hw
      simp only [hlp]
      -- the detached state
      have hID := detSt_inv hI ht hr'
      have hDP := detSt_post hI ht
      have h0 := hDP.tt
      have hcomp := fun s' (hc : ContPost (detSt s t) tid { preT t with worker := none } s') =>
        CompPost.of_det hDP ht hr' hc
      have hntD : (detSt s t).nextTask = s.nextTask ∧ (detSt s t).nextOp = s.nextOp := by
        obtain ⟨ws, ts, he⟩ := hDP.same; rw [he]; exact ⟨rfl, rfl⟩
      by_cases h1 : r.code = cOK ∧ r.exit = 0
      · rw [if_pos h1]
        have := completeOk_spec (h := h) (r := r) hID h0 hrp rfl hqp hlp
        rw [show detSt s t = (detachW s (preT t)).setTask { preT t with worker := none } from rfl,
          completeOk_setTask _ _ _ _ _ _ rfl] at this
        refine wp_mono this ?_
        intro s' ⟨hI', hc, hd⟩
        exact ⟨hI', hcomp s' hc, fun _ => hd, fun hn => absurd h1 hn, fun _ _ hn => absurd h1 hn⟩
      · rw [if_neg h1]
        by_cases h2 : bw = true
        · rw [if_pos h2]
          by_cases h3 : h.retry = true
          · rw [if_pos h3]
            have := completeRetry_spec (h := h) (r := r) hID h0 hrp rfl hlp
            rw [show detSt s t = (detachW s (preT t)).setTask { preT t with worker := none } from rfl,
              completeRetry_setTask _ _ _ _ _ _ rfl] at this
            refine wp_mono this ?_
            intro s' ⟨hI', hc, hn1, hn2, t', a1, a2, a3, a4⟩
            refine ⟨hI', hcomp s' hc, ?_, fun _ => ⟨hn1.trans hntD.1, hn2.trans hntD.2⟩, ?_⟩
            · intro hh; rcases hh with hh | hh | hh
              · rw [h2] at hh; cases hh
              · rw [h3] at hh; cases hh
              · exact absurd hh h1
            · intro _ _ _ t1 ht1 _
              cases ht1
              have hnlD : (detSt s t).nextLearner = s.nextLearner := by
                obtain ⟨ws, ts, he⟩ := hDP.same; rw [he]
              have hls : largestScq (detSt s t) ({ preT t with worker := none } : Task).scq =
                  largestScq s t.scq := by
                have hscq : ({ preT t with worker := none } : Task).scq = t.scq := by
                  unfold preT; split <;> rfl
                rw [hscq]
                obtain ⟨ws, ts, he⟩ := hDP.same
                rw [he]; rfl
              exact ⟨t', a1, a2.trans (congrArg some hnlD), a3.trans hls, a4⟩
          · rw [if_neg h3]
            obtain ⟨s', he, hI', hc, hd, hn1, hn2⟩ := finBranch_spec (e := .learnerFailed l (r.code = cDeadlineExceeded) none)
              hID h0 hrp rfl hqp hlp (Or.inr ⟨_, rfl⟩) r
            have he' := (finalize_setTask (emit (detachW s (preT t)) (.learnerFailed l (r.code = cDeadlineExceeded) none))
              { preT t with worker := none } { ({ preT t with worker := none } : Task) with learner := none } r rfl).symm.trans he
            refine wp_congr_ok (a := s') ?_ ?_
            · exact he'
            · exact ⟨hI', hcomp s' hc, fun _ => hd, fun _ => ⟨hn1.trans hntD.1, hn2.trans hntD.2⟩,
                fun _ hh => absurd hh h3⟩
        · rw [if_neg h2]
          obtain ⟨s', he, hI', hc, hd, hn1, hn2⟩ := finBranch_spec (e := .learnerAbandoned l)
            hID h0 hrp rfl hqp hlp (Or.inl rfl) r
          have he' := (finalize_setTask (emit (detachW s (preT t)) (.learnerAbandoned l))
            { preT t with worker := none } { ({ preT t with worker := none } : Task) with learner := none } r rfl).symm.trans he
          refine wp_congr_ok (a := s') ?_ ?_
          · exact he'
          · exact ⟨hI', hcomp s' hc, fun _ => hd, fun _ => ⟨hn1.trans hntD.1, hn2.trans hntD.2⟩,
              fun hh => absurd hh h2⟩

theorem complete_spec {exo} {h : Hints} {s : State} {tid : Nat} {r : Resp} {bw : Bool}
    (hI : InvX (fun _ => False) exo s) (hex : (alookup tid s.tasks).isSome = true) :
    wp (complete h s tid r bw) (fun s' => InvX (fun _ => False) exo s' ∧ CompPost s tid s' ∧
      ((bw = false ∨ h.retry = false ∨ (r.code = cOK ∧ r.exit = 0)) → TDone s' tid) ∧
      (¬ (r.code = cOK ∧ r.exit = 0) → s'.nextTask = s.nextTask ∧ s'.nextOp = s.nextOp)) :=
  wp_mono (complete_spec' hI hex) (fun _ h => ⟨h.1, h.2.1, h.2.2.1, h.2.2.2.1⟩)

end BbRe.Lemmas.SchedInv
