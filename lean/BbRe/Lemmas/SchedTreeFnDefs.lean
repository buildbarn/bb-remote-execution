import BbRe.Lemmas.SchedTreeLinkSched
import BbRe.Lemmas.SchedInvStep
/-!
Shapes of the function-level lemmas of the tree layer.

Between the functions of a segment the *full* invariant of `Sched` holds on the `Sched` component: every
`t…` function refines the `Sched` function of the same name (`Lemmas/SchedTreeRefine.lean`), and
`Lemmas/SchedInv*.lean` has a `…_spec` for each of them.  So a function-level lemma of the tree layer has the
shape `TInv ts → tF … ts = .ok ts' → TS [] ts'`: the `Inv ts'.s` half of `TInv ts'` comes from `inv_of_ref`.

The functions call each other across files (`Synchronize` calls `task.complete`, `getNextTask`, `bq.enter`;
`bq.enter` calls `task.complete`).  So that the files need not import each other, a lemma about a caller takes
the statement about its callee as a hypothesis (`CompleteOK`, `CancelOK`, `EnterOK`, `NextOK`, `CurOK` below);
`Lemmas/SchedTreeFnStep.lean` discharges them all.
-/
namespace BbRe.Lemmas.SchedTree
open BbRe.Sched BbRe.SchedTree BbRe.Lemmas.SchedInv

/-- what a `…_spec` of `Sched` says about the result of the `Sched` function holds for the `Sched`
component of the result of the tree-layer function -/
theorem inv_of_ref {x : M TState} {y : M State} {Q : State → Prop} {ts' : TState}
    (hr : R x y) (hs : wp y Q) (hx : x = .ok ts') : Q ts'.s :=
  wp_of_ok hs (hr ts' hx)

theorem TInv.mk' {ts : TState} (hi : Inv ts.s) (h : TS [] ts) : TInv ts := ⟨hi, h.tree, h.side⟩

/-- a step of `Sched` that the tree layer does not see keeps the tree part of the invariant -/
theorem TS.sframe {X : List (ScqId × List Nat)} {ts : TState} {s' : State} (h : TS X ts) (hf : SFrame ts.s s') :
    TS X (ts.setS s') :=
  ⟨TreeOK.of_sframe h.tree hf, h.side.of_sframe hf⟩

/-- `task.complete` keeps the tree part of the invariant -/
def CompleteOK : Prop :=
  ∀ (h : Hints) (x : Extras) (ts ts' : TState) (tid : Nat) (r : Resp) (bw : Bool),
    TInv ts → (alookup tid ts.s.tasks).isSome = true → tComplete h x ts tid r bw = .ok ts' → TS [] ts'

/-- `cancelAllQueuedOperations` keeps the tree part of the invariant -/
def CancelOK : Prop :=
  ∀ (h : Hints) (x : Extras) (ts ts' : TState) (q : ScqId) (r : Resp),
    TInv ts → tCancelAllQueued h x ts q r = .ok ts' → TS [] ts'

/-- `bq.enter` (the cleanup queue) keeps the tree part of the invariant -/
def EnterOK : Prop :=
  ∀ (h : Hints) (x : Extras) (ts ts' : TState) (now : Nat),
    TInv ts → tEnter h x ts now = .ok ts' → TS [] ts'

/-- `getNextTask` for a worker that is inside `Synchronize`, not parked and without a task -/
def NextOK : Prop :=
  ∀ (h : Hints) (x : Extras) (ts ts' : TState) (q : ScqId) (w : WId) (wk : Worker) (pi bl : Bool),
    TInv ts → wfind ts.s.workers q w = some wk → Ready wk → tGetNextTask h x ts q w pi bl = .ok ts' → TS [] ts'

/-- `getCurrentOrNextTask` -/
def CurOK : Prop :=
  ∀ (h : Hints) (x : Extras) (ts ts' : TState) (q : ScqId) (w : WId) (wk : Worker) (pi bl : Bool),
    TInv ts → wfind ts.s.workers q w = some wk → Ready' wk → tGetCurrentOrNext h x ts q w pi bl = .ok ts' → TS [] ts'

/-- every operation is stored under its own name (`OInv.oid` without the bound) -/
def OID (s : State) : Prop := ∀ k op, s.op? k = some op → op.name = k

theorem OID.of_ops {s s' : State} (h : OID s) (e : s'.ops = s.ops) : OID s' := by
  intro k op hk; apply h k op; unfold State.op? at hk ⊢; rw [← e]; exact hk

theorem OID.of_inv {ex exo} {s : State} (h : InvX ex exo s) : OID s := by
  intro k op hk; rw [op?_def] at hk; exact (h.oinv.oid k op hk).1

/-- `syncReturn` after a frame step, for a worker that is not parked -/
theorem syncReturn_ts {ex exo} {X : List (ScqId × List Nat)} {ts : TState} {s1 : State} {q : ScqId} {w : WId}
    (hT : TInvX ex exo X ts) (hf : SFrame ts.s s1)
    (hnp : ∀ wk, wfind ts.s.workers q w = some wk → wk.parked = false) :
    TS X (ts.setS (syncReturn s1 q w)) := by
  rw [syncReturn_eq]
  cases hw : s1.worker? q w with
  | none => exact hT.ts.sframe hf
  | some wk =>
    dsimp only
    have hw0 : wfind ts.s.workers q w = some wk := by
      rw [worker?_def, hf.workers] at hw; exact hw
    have hp := hnp wk hw0
    refine wset_ts (wk := wk) (wk' := resetW wk) hT hw0 ⟨rfl, rfl, rfl, hp.symm⟩ ?_ hf.tasks hf.scqs ?_
    · show wset s1.workers (resetW wk) = _
      rw [hf.workers]
    · intro o op' h
      obtain ⟨op, e, hi, hp, _⟩ := hf.ops o op' h
      exact ⟨op, e, hi, hp⟩

end BbRe.Lemmas.SchedTree
