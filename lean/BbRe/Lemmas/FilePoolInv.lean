import BbRe.Lemmas.FilePoolAlloc
/-!
The accounting invariant of one file against the allocator, parametric in the
set `O` of sectors owned by the *other* files: `Part n O A F` says the allocated
list `A` is the disjoint union of this file's non-zero sectors `F` and `O`.
Every operation of `Model/FilePool.lean` on a file preserves it with the same
`O` — for every oracle (allocator answers, fault plan).
-/
namespace BbRe.Lemmas.FilePool
open BbRe.FilePool

structure Part (n : Nat) (O : Nat → Prop) (A F : List Nat) : Prop where
  nodupA : A.Nodup
  nodupF : F.Nodup
  mem : ∀ s, s ∈ A ↔ (s ∈ F ∨ O s)
  sep : ∀ s ∈ F, ¬ O s
  range : ∀ s ∈ A, 1 ≤ s ∧ s ≤ n

/-- same allocated set, same file sectors (up to permutation). -/
theorem Part.same {n O A F A' F'} (h : Part n O A F) (hA : A'.Nodup) (hm : ∀ s, s ∈ A' ↔ s ∈ A)
    (hF : F'.Perm F) : Part n O A' F' :=
  ⟨hA, hF.nodup_iff.mpr h.nodupF, fun s => by rw [hm, h.mem, hF.mem_iff],
    fun s hs => h.sep s (hF.mem_iff.mp hs), fun s hs => h.range s ((hm s).mp hs)⟩

/-- a fresh run is allocated and added to the file. -/
theorem Part.add {n O A F F'} {first count : Nat} (h : Part n O A F) (hf : 1 ≤ first)
    (hr : first + count ≤ n + 1) (hfresh : ∀ s, first ≤ s → s < first + count → s ∉ A)
    (hF : F'.Perm (List.range' first count ++ F)) : Part n O (List.range' first count ++ A) F' := by
  have hdisj : ∀ a, a ∈ List.range' first count → a ∉ A := by
    intro a ha; have := List.mem_range'_1.mp ha; exact hfresh a this.1 this.2
  refine ⟨?_, ?_, ?_, ?_, ?_⟩
  · refine List.nodup_append.mpr ⟨List.nodup_range', h.nodupA, ?_⟩
    intro a ha b hb hab; subst hab; exact hdisj a ha hb
  · rw [hF.nodup_iff]
    refine List.nodup_append.mpr ⟨List.nodup_range', h.nodupF, ?_⟩
    intro a ha b hb hab; subst hab; exact hdisj a ha ((h.mem a).mpr (Or.inl hb))
  · intro s
    rw [List.mem_append, hF.mem_iff, List.mem_append, h.mem]
    constructor
    · rintro (h1 | h1 | h1)
      · exact Or.inl (Or.inl h1)
      · exact Or.inl (Or.inr h1)
      · exact Or.inr h1
    · rintro ((h1 | h1) | h1)
      · exact Or.inl h1
      · exact Or.inr (Or.inl h1)
      · exact Or.inr (Or.inr h1)
  · intro s hs
    rcases List.mem_append.mp (hF.mem_iff.mp hs) with h1 | h1
    · intro ho; exact hdisj s h1 ((h.mem s).mpr (Or.inr ho))
    · exact h.sep s h1
  · intro s hs
    rcases List.mem_append.mp hs with h1 | h1
    · have := List.mem_range'_1.mp h1; omega
    · exact h.range s h1

/-- part of the file's sectors is freed. -/
theorem Part.remove {n O A F A' F'} {L : List Nat} (h : Part n O A F) (hA : A'.Nodup)
    (hm : ∀ s, s ∈ A' ↔ (s ∈ A ∧ ¬ (s ∈ L ∧ s ≠ 0))) (hLF : ∀ s ∈ L, s ≠ 0 → s ∈ F)
    (hF : F'.Nodup) (hFm : ∀ s, s ∈ F' ↔ (s ∈ F ∧ ¬ (s ∈ L ∧ s ≠ 0))) : Part n O A' F' := by
  refine ⟨hA, hF, ?_, ?_, ?_⟩
  · intro s
    rw [hm, hFm, h.mem]
    constructor
    · rintro ⟨h1 | h1, h2⟩
      · exact Or.inl ⟨h1, h2⟩
      · exact Or.inr h1
    · rintro (⟨h1, h2⟩ | h1)
      · exact ⟨Or.inl h1, h2⟩
      · exact ⟨Or.inr h1, fun ⟨h3, h4⟩ => h.sep s (hLF s h3 h4) h1⟩
  · intro s hs; exact h.sep s ((hFm s).mp hs).1
  · intro s hs; exact h.range s ((hm s).mp hs).1

/-! ## trimZeros -/

theorem trimZeros_getD (l : List Nat) : ∀ q, (trimZeros l).getD q 0 = l.getD q 0 := by
  induction l with
  | nil => intro q; rfl
  | cons x xs ih =>
    intro q
    unfold trimZeros
    split
    · rename_i heq
      have ih' : ∀ q, xs.getD q 0 = 0 := by intro q; rw [← ih q, heq]; rfl
      split
      · rename_i hx; subst hx
        cases q with
        | zero => rfl
        | succ q => simp only [List.getD_cons_succ, ih' q]; rfl
      · cases q with
        | zero => rfl
        | succ q => simp only [List.getD_cons_succ, ih' q]; rfl
    · rename_i y ys heq
      cases q with
      | zero => rfl
      | succ q => simp only [List.getD_cons_succ]; rw [← heq]; exact ih q

theorem mem_iff_getD {l : List Nat} {s : Nat} (hs : s ≠ 0) : s ∈ l ↔ ∃ q, l.getD q 0 = s := by
  constructor
  · intro h
    obtain ⟨q, hq, rfl⟩ := List.getElem_of_mem h
    exact ⟨q, by simp [List.getD_eq_getElem?_getD, hq]⟩
  · rintro ⟨q, hq⟩
    by_cases hlt : q < l.length
    · simp only [List.getD_eq_getElem?_getD, List.getElem?_eq_getElem hlt, Option.getD_some] at hq
      exact hq ▸ List.getElem_mem hlt
    · simp only [List.getD_eq_getElem?_getD, List.getElem?_eq_none (Nat.le_of_not_lt hlt), Option.getD_none] at hq
      exact absurd hq.symm hs

theorem trimZeros_sublist (l : List Nat) : (trimZeros l).Sublist l := by
  induction l with
  | nil => exact List.Sublist.refl _
  | cons x xs ih =>
    unfold trimZeros
    split
    · split
      · exact List.nil_sublist _
      · exact List.Sublist.cons_cons _ (List.nil_sublist _)
    · rename_i y ys heq
      rw [← heq]; exact List.Sublist.cons_cons _ ih

theorem trimZeros_length_le (l : List Nat) : (trimZeros l).length ≤ l.length :=
  (trimZeros_sublist l).length_le

theorem mem_nz_trimZeros (l : List Nat) (s : Nat) : s ∈ nz (trimZeros l) ↔ s ∈ nz l := by
  rw [mem_nz, mem_nz]
  constructor
  · rintro ⟨h1, h2⟩
    exact ⟨(trimZeros_sublist l).subset h1, h2⟩
  · rintro ⟨h1, h2⟩
    refine ⟨?_, h2⟩
    rw [mem_iff_getD h2] at h1 ⊢
    obtain ⟨q, hq⟩ := h1
    exact ⟨q, by rw [trimZeros_getD]; exact hq⟩

theorem nz_sublist {a b : List Nat} (h : a.Sublist b) : (nz a).Sublist (nz b) :=
  List.Sublist.filter _ h

end BbRe.Lemmas.FilePool
