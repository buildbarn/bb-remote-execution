import BbRe.Lemmas.BRLPhase1
/-!
# Helper lemmas for C20: the second loop of `Set` (`phase2`)

Throughout, `phase2 n tr ls = (kept, rest, n', tr')`; every fact is proved through
`phase2_induct`, which names the four components.
-/
namespace BbRe.Lemmas.BRL
open BbRe.BRL BbRe.Spec.ByteLocks

/-- Induction over the second loop: an entry `s` within reach of the new lock `n` is
absorbed, merged with `n`, split (its part behind `n` becomes the trailing part), or, for
another owner, kept. -/
theorem phase2_induct
    {P : Lock → Option Lock → List Lock → List Lock → List Lock → Lock → Option Lock → Prop}
    (nil : ∀ (n : Lock) (tr : Option Lock), P n tr [] [] [] n tr)
    (stop : ∀ (n : Lock) (tr : Option Lock) (s : Lock) (rest : List Lock), n.stop < s.start → P n tr (s :: rest) [] (s :: rest) n tr)
    (absorb : ∀ (n : Lock) (tr : Option Lock) (s : Lock) (rest kept rest' : List Lock) (n' : Lock)
      (tr' : Option Lock), s.start ≤ n.stop → s.owner = n.owner →
      s.stop ≤ n.stop → P n tr rest kept rest' n' tr' → P n tr (s :: rest) kept rest' n' tr')
    (merge : ∀ (n : Lock) (tr : Option Lock) (s : Lock) (rest kept rest' : List Lock) (n' : Lock)
      (tr' : Option Lock), s.start ≤ n.stop → s.owner = n.owner →
      n.stop < s.stop → s.ty = n.ty → P { n with stop := s.stop } tr rest kept rest' n' tr' →
      P n tr (s :: rest) kept rest' n' tr')
    (split : ∀ (n : Lock) (tr : Option Lock) (s : Lock) (rest kept rest' : List Lock) (n' : Lock)
      (tr' : Option Lock), s.start ≤ n.stop → s.owner = n.owner →
      n.stop < s.stop → s.ty ≠ n.ty →
      P n (some { s with start := n.stop }) rest kept rest' n' tr' →
      P n tr (s :: rest) kept rest' n' tr')
    (keep : ∀ (n : Lock) (tr : Option Lock) (s : Lock) (rest kept rest' : List Lock) (n' : Lock)
      (tr' : Option Lock), s.start ≤ n.stop → s.owner ≠ n.owner →
      P n tr rest kept rest' n' tr' → P n tr (s :: rest) (s :: kept) rest' n' tr')
    (n : Lock) (tr : Option Lock) (ls : List Lock) :
    P n tr ls (phase2 n tr ls).1 (phase2 n tr ls).2.1 (phase2 n tr ls).2.2.1
      (phase2 n tr ls).2.2.2 := by
  fun_induction phase2 n tr ls
  case case1 n tr => exact nil n tr
  case case2 n tr s rest h => exact stop n tr s rest h
  case case3 n tr s rest h1 h2 h3 ih =>
    exact absorb n tr s rest _ _ _ _ (Nat.not_lt.1 h1) h2 h3 ih
  case case4 n tr s rest h1 h2 h3 h4 ih =>
    exact merge n tr s rest _ _ _ _ (Nat.not_lt.1 h1) h2 (Nat.not_le.1 h3) h4.symm ih
  case case5 n tr s rest h1 h2 h3 h4 ih =>
    exact split n tr s rest _ _ _ _ (Nat.not_lt.1 h1) h2 (Nat.not_le.1 h3) (fun h => h4 h.symm) ih
  case case6 n tr s rest h1 h2 r ih => exact keep n tr s rest _ _ _ _ (Nat.not_lt.1 h1) h2 ih

theorem phase2_n (n : Lock) (tr : Option Lock) (ls : List Lock) :
    (phase2 n tr ls).2.2.1.start = n.start ∧ (phase2 n tr ls).2.2.1.ty = n.ty ∧
    (phase2 n tr ls).2.2.1.owner = n.owner ∧ n.stop ≤ (phase2 n tr ls).2.2.1.stop :=
  phase2_induct
    (P := fun n _ _ _ _ n' _ =>
      n'.start = n.start ∧ n'.ty = n.ty ∧ n'.owner = n.owner ∧ n.stop ≤ n'.stop)
    (fun _ _ => ⟨rfl, rfl, rfl, Nat.le_refl _⟩) (fun _ _ _ _ _ => ⟨rfl, rfl, rfl, Nat.le_refl _⟩)
    (fun _ _ _ _ _ _ _ _ _ _ _ ih => ih)
    (fun _ _ _ _ _ _ _ _ _ _ h _ ih =>
      ⟨ih.1, ih.2.1, ih.2.2.1, Nat.le_trans (Nat.le_of_lt h) ih.2.2.2⟩)
    (fun _ _ _ _ _ _ _ _ _ _ _ _ ih => ih) (fun _ _ _ _ _ _ _ _ _ _ ih => ih) n tr ls

/-- Entries of other owners pass through `phase2` unchanged and in order. -/
theorem phase2_others (n : Lock) (tr : Option Lock) (ls : List Lock) :
    ((phase2 n tr ls).1 ++ (phase2 n tr ls).2.1).filter (fun e => e.owner ≠ n.owner) =
      ls.filter (fun e => e.owner ≠ n.owner) := by
  have drop {n s : Lock} (ho : s.owner = n.owner) (rest : List Lock) :
      (s :: rest).filter (fun e => e.owner ≠ n.owner) = rest.filter (fun e => e.owner ≠ n.owner) :=
    List.filter_cons_of_neg (by simp [ho])
  exact phase2_induct
    (P := fun n _ ls kept rest _ _ =>
      (kept ++ rest).filter (fun e => e.owner ≠ n.owner) = ls.filter (fun e => e.owner ≠ n.owner))
    (fun _ _ => rfl) (fun _ _ _ _ _ => rfl)
    (fun _ _ _ rest _ _ _ _ _ ho _ ih => ih.trans (drop ho rest).symm)
    (fun _ _ _ rest _ _ _ _ _ ho _ _ ih => ih.trans (drop ho rest).symm)
    (fun _ _ _ rest _ _ _ _ _ ho _ _ ih => ih.trans (drop ho rest).symm)
    (fun _ _ _ _ _ _ _ _ _ _ ih => by simp only [List.cons_append, List.filter_cons, ih]) n tr ls

/-- The scanned entries that are kept are entries of other owners. -/
theorem phase2_kept (n : Lock) (tr : Option Lock) (ls : List Lock) :
    ∀ y ∈ (phase2 n tr ls).1, y ∈ ls ∧ y.owner ≠ n.owner ∧ y.start ≤ (phase2 n tr ls).2.2.1.stop := by
  have lift {n n' : Lock} (s : Lock) {rest kept : List Lock}
      (ih : ∀ y ∈ kept, y ∈ rest ∧ y.owner ≠ n.owner ∧ y.start ≤ n'.stop) :
      ∀ y ∈ kept, y ∈ s :: rest ∧ y.owner ≠ n.owner ∧ y.start ≤ n'.stop :=
    fun y hy => ⟨List.mem_cons_of_mem _ (ih y hy).1, (ih y hy).2⟩
  -- the bound on the head of `kept` needs `n.stop ≤ n'.stop` for the recursive call
  exact (phase2_induct
    (P := fun n _ ls kept _ n' _ => n.stop ≤ n'.stop ∧
      ∀ y ∈ kept, y ∈ ls ∧ y.owner ≠ n.owner ∧ y.start ≤ n'.stop)
    (fun _ _ => ⟨Nat.le_refl _, nofun⟩) (fun _ _ _ _ _ => ⟨Nat.le_refl _, nofun⟩)
    (fun _ _ s _ _ _ _ _ _ _ _ ih => ⟨ih.1, lift s ih.2⟩)
    (fun _ _ s _ _ _ _ _ _ _ h _ ih => ⟨Nat.le_trans (Nat.le_of_lt h) ih.1, lift s ih.2⟩)
    (fun _ _ s _ _ _ _ _ _ _ _ _ ih => ⟨ih.1, lift s ih.2⟩)
    (fun _ _ s _ _ _ _ _ h ho ih => ⟨ih.1, List.forall_mem_cons.2
      ⟨⟨List.mem_cons_self, ho, Nat.le_trans h ih.1⟩, lift s ih.2⟩⟩) n tr ls).2

theorem phase2_suffix (n : Lock) (tr : Option Lock) (ls : List Lock) :
    (phase2 n tr ls).2.1 <:+ ls :=
  phase2_induct (P := fun _ _ ls _ rest _ _ => rest <:+ ls)
    (fun _ _ => List.suffix_refl _) (fun _ _ _ _ _ => List.suffix_refl _)
    (fun _ _ _ _ _ _ _ _ _ _ _ ih => ih.trans (List.suffix_cons _ _))
    (fun _ _ _ _ _ _ _ _ _ _ _ _ ih => ih.trans (List.suffix_cons _ _))
    (fun _ _ _ _ _ _ _ _ _ _ _ _ ih => ih.trans (List.suffix_cons _ _))
    (fun _ _ _ _ _ _ _ _ _ _ ih => ih.trans (List.suffix_cons _ _)) n tr ls

/-- Everything after the scanned part starts strictly after the (grown) new lock. -/
theorem phase2_rest_lb (n : Lock) (tr : Option Lock) (ls : List Lock)
    (hp : ls.Pairwise Rel) :
    ∀ y ∈ (phase2 n tr ls).2.1, (phase2 n tr ls).2.2.1.stop < y.start :=
  phase2_induct
    (P := fun _ _ ls _ rest n' _ => ls.Pairwise Rel → ∀ y ∈ rest, n'.stop < y.start)
    (fun _ _ _ => nofun)
    (fun _ _ _ _ h hp => List.forall_mem_cons.2
      ⟨h, fun _ hy => Nat.lt_of_lt_of_le h (List.rel_of_pairwise_cons hp hy).1⟩)
    (fun _ _ _ _ _ _ _ _ _ _ _ ih hp => ih hp.of_cons)
    (fun _ _ _ _ _ _ _ _ _ _ _ _ ih hp => ih hp.of_cons)
    (fun _ _ _ _ _ _ _ _ _ _ _ _ ih hp => ih hp.of_cons)
    (fun _ _ _ _ _ _ _ _ _ _ ih hp => ih hp.of_cons) n tr ls hp

theorem phase2_sub (n : Lock) (tr : Option Lock) (ls : List Lock) :
    Sub ls ((phase2 n tr ls).1 ++ (phase2 n tr ls).2.1) :=
  phase2_induct (P := fun _ _ ls kept rest _ _ => Sub ls (kept ++ rest))
    (fun _ _ => .nil) (fun _ _ _ _ _ => Sub.refl _)
    (fun _ _ _ _ _ _ _ _ _ _ _ ih => .drop ih) (fun _ _ _ _ _ _ _ _ _ _ _ _ ih => .drop ih)
    (fun _ _ _ _ _ _ _ _ _ _ _ _ ih => .drop ih)
    (fun _ _ s _ _ _ _ _ _ _ ih => .keep (Shrink.refl s) ih) n tr ls

/-- The part by which the new lock grew at its end was held with the same type. -/
theorem phase2_cov (n : Lock) (tr : Option Lock) (ls : List Lock) (b : Nat)
    (h1 : n.stop ≤ b) (h2 : b < (phase2 n tr ls).2.2.1.stop) :
    ∃ e ∈ ls, e.owner = n.owner ∧ e.ty = n.ty ∧ e.start ≤ b ∧ b < e.stop := by
  have lift {n : Lock} (s : Lock) {rest : List Lock} :
      (∃ e ∈ rest, e.owner = n.owner ∧ e.ty = n.ty ∧ e.start ≤ b ∧ b < e.stop) →
      ∃ e ∈ s :: rest, e.owner = n.owner ∧ e.ty = n.ty ∧ e.start ≤ b ∧ b < e.stop :=
    fun ⟨e, he, h⟩ => ⟨e, List.mem_cons_of_mem _ he, h⟩
  exact phase2_induct
    (P := fun n _ ls _ _ n' _ => n.stop ≤ b → b < n'.stop →
      ∃ e ∈ ls, e.owner = n.owner ∧ e.ty = n.ty ∧ e.start ≤ b ∧ b < e.stop)
    (fun _ _ h1 h2 => absurd h2 (Nat.not_lt.2 h1))
    (fun _ _ _ _ _ h1 h2 => absurd h2 (Nat.not_lt.2 h1))
    (fun _ _ s _ _ _ _ _ _ _ _ ih h1 h2 => lift s (ih h1 h2))
    (fun _ _ s _ _ _ _ _ hs ho _ ht ih h1 h2 =>
      if hb : b < s.stop then ⟨s, List.mem_cons_self, ho, ht, Nat.le_trans hs h1, hb⟩
      else lift s (ih (Nat.not_lt.1 hb) h2))
    (fun _ _ s _ _ _ _ _ _ _ _ _ ih h1 h2 => lift s (ih h1 h2))
    (fun _ _ s _ _ _ _ _ _ _ ih h1 h2 => lift s (ih h1 h2)) n tr ls h1 h2

theorem TrOk.congr {L : List Lock} {n n' x : Lock} (h : TrOk L n x)
    (h1 : n'.owner = n.owner) (h2 : n'.ty = n.ty) (h3 : n'.stop = n.stop) : TrOk L n' x := by
  unfold TrOk at *; rw [h1, h2, h3]; exact h

theorem phase2_tr (L : List Lock) (n : Lock) (tr : Option Lock) (ls : List Lock)
    (hp : ls.Pairwise Rel) (htr : HTr n tr ls)
    (hin : ∀ x, tr = some x → TrOk L n x) (hsub : ∀ e ∈ ls, e ∈ L) :
    ∀ x, (phase2 n tr ls).2.2.2 = some x → TrOk L (phase2 n tr ls).2.2.1 x :=
  phase2_induct
    (P := fun n tr ls _ _ n' tr' => ls.Pairwise Rel → HTr n tr ls →
      (∀ x, tr = some x → TrOk L n x) → (∀ e ∈ ls, e ∈ L) → ∀ x, tr' = some x → TrOk L n' x)
    (fun _ _ _ _ h _ => h) (fun _ _ _ _ _ _ _ h _ => h)
    (fun _ _ _ _ _ _ _ _ _ _ _ ih hp htr hin hsub =>
      ih hp.of_cons htr.tail hin (List.forall_mem_cons.1 hsub).2)
    (fun _ _ _ _ _ _ _ _ hs ho _ _ ih hp htr _ hsub => by
      obtain rfl := htr.eq_none ho hs
      exact ih hp.of_cons (htr_none _ _) nofun (List.forall_mem_cons.1 hsub).2)
    (fun _ _ s _ _ _ _ _ hs ho h ht ih hp _ _ hsub =>
      ih hp.of_cons (.of_rel (fun _ => List.rel_of_pairwise_cons hp) ho h _)
        (fun _ hx => Option.some.inj hx ▸ .split (hsub s List.mem_cons_self) ho ht hs h)
        (List.forall_mem_cons.1 hsub).2)
    (fun _ _ _ _ _ _ _ _ _ _ ih hp htr hin hsub =>
      ih hp.of_cons htr.tail hin (List.forall_mem_cons.1 hsub).2) n tr ls hp htr hin hsub

theorem phase2_tr_owner (n : Lock) (tr : Option Lock) (ls : List Lock)
    (hin : ∀ x, tr = some x → x.owner = n.owner) :
    ∀ x, (phase2 n tr ls).2.2.2 = some x → x.owner = n.owner :=
  phase2_induct
    (P := fun n tr _ _ _ _ tr' => (∀ x, tr = some x → x.owner = n.owner) →
      ∀ x, tr' = some x → x.owner = n.owner)
    (fun _ _ h => h) (fun _ _ _ _ _ h => h)
    (fun _ _ _ _ _ _ _ _ _ _ _ ih => ih) (fun _ _ _ _ _ _ _ _ _ _ _ _ ih => ih)
    (fun _ _ _ _ _ _ _ _ _ ho _ _ ih _ => ih fun _ hx => Option.some.inj hx ▸ ho)
    (fun _ _ _ _ _ _ _ _ _ _ ih => ih) n tr ls hin

/-! ## The owner's bytes

As for `phase1`: three rearrangements behind `n` that leave every byte of `n.owner` as it
was. -/

theorem abs_absorb {n s : Lock} (R : List Lock) (b : Nat) (ho : s.owner = n.owner)
    (h1 : n.start ≤ s.start) (h2 : s.stop ≤ n.stop) :
    abs (n :: s :: R) n.owner b = abs (n :: R) n.owner b := by
  simp only [abs_cons]
  -- `s` lies inside `n`, which is asked first: the test on `s` is never reached with a hit
  grind

theorem abs_merge {n s : Lock} (R : List Lock) (b : Nat) (ho : s.owner = n.owner)
    (ht : s.ty = n.ty) (h1 : n.start ≤ s.start) (h2 : s.start ≤ n.stop) (h3 : n.stop < s.stop) :
    abs ({ n with stop := s.stop } :: R) n.owner b = abs (n :: s :: R) n.owner b := by
  simp only [abs_cons]
  -- `[n.start, s.stop) = n ∪ s` because `s` starts inside or right behind `n` (`h1`, `h2`), and both
  -- answer with the same type (`ht`)
  grind

theorem abs_split {n s : Lock} (R : List Lock) (b : Nat) (ho : s.owner = n.owner)
    (h1 : n.start ≤ s.start) (h2 : s.start ≤ n.stop) :
    abs (n :: { s with start := n.stop } :: R) n.owner b = abs (n :: s :: R) n.owner b := by
  simp only [abs_cons]
  -- the part `[s.start, n.stop)` cut off `s` lies inside `n` (`h1`), which is asked first
  grind

theorem phase2_abs (n : Lock) (tr : Option Lock) (ls : List Lock)
    (hp : ls.Pairwise Rel) (hlb : ∀ e ∈ ls, n.start ≤ e.start) (htr : HTr n tr ls) (b : Nat) :
    abs ((phase2 n tr ls).2.2.1 :: ((phase2 n tr ls).1 ++
          ((phase2 n tr ls).2.2.2.toList ++ (phase2 n tr ls).2.1))) n.owner b =
      abs (n :: (tr.toList ++ ls)) n.owner b :=
  phase2_induct
    (P := fun n tr ls kept rest n' tr' => ls.Pairwise Rel → (∀ e ∈ ls, n.start ≤ e.start) →
      HTr n tr ls →
      abs (n' :: (kept ++ (tr'.toList ++ rest))) n.owner b = abs (n :: (tr.toList ++ ls)) n.owner b)
    (fun _ _ _ _ _ => rfl) (fun _ _ _ _ _ _ _ _ => rfl)
    (fun _ _ s rest _ _ _ _ hs ho h ih hp hlb htr => by
      obtain rfl := htr.eq_none ho hs
      obtain ⟨hlb, hlbs⟩ := List.forall_mem_cons.1 hlb
      exact (ih hp.of_cons hlbs (htr_none _ _)).trans (abs_absorb rest b ho hlb h).symm)
    (fun _ _ s rest _ _ _ _ hs ho h ht ih hp hlb htr => by
      obtain rfl := htr.eq_none ho hs
      obtain ⟨hlb, hlbs⟩ := List.forall_mem_cons.1 hlb
      exact (ih hp.of_cons hlbs (htr_none _ _)).trans (abs_merge rest b ho ht hlb hs h))
    (fun _ _ s rest _ _ _ _ hs ho h _ ih hp hlb htr => by
      obtain rfl := htr.eq_none ho hs
      obtain ⟨hlb, hlbs⟩ := List.forall_mem_cons.1 hlb
      exact (ih hp.of_cons hlbs (.of_rel (fun _ => List.rel_of_pairwise_cons hp) ho h _)).trans
        (abs_split rest b ho hlb hs))
    (fun n tr s rest _ _ n' _ _ ho ih hp hlb htr => by
      have hc : ¬ Covers s n.owner b := fun h => ho h.1
      exact (abs_skip hc [n'] _).trans ((ih hp.of_cons (List.forall_mem_cons.1 hlb).2 htr.tail).trans
        (abs_skip hc (n :: tr.toList) rest).symm)) n tr ls hp hlb htr

end BbRe.Lemmas.BRL
