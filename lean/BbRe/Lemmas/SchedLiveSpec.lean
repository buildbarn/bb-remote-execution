import BbRe.Lemmas.SchedLiveProj
/-!
Inversion lemmas: if a monadic helper of `Model/Sched.lean` succeeds then its
guards held and its result is a named composition of primitive updates.
Each proof follows the definition guard by guard: case analysis on the guard, then `rw` with its
value in the unfolded hypothesis.
-/
namespace BbRe.Lemmas.SchedLive
open BbRe.Sched

theorem assignTo_ok {s s' : State} {w : Worker} {t : Task} :
    assignTo s w t = .ok s' ↔ w.task = none ∧ t.worker = none ∧ s' = assignS s w t := by
  unfold assignTo
  cases hw : w.task with
  | some x => exact ⟨fun h => (nomatch h), fun h => nomatch h.1⟩
  | none =>
  cases ht : t.worker with
  | some x => exact ⟨fun h => (nomatch h), fun h => nomatch h.2.1⟩
  | none => exact ⟨fun h => ⟨rfl, rfl, ((pure_ok _ _).1 h).symm⟩, fun h => h.2.2 ▸ rfl⟩

theorem schedule_ok {h : Hints} {s s' : State} {tid : Nat} (hh : schedule h s tid = .ok s') :
    ∃ t, s.task? tid = some t ∧
      ((anyParked s t.scq = false ∧ s' = s.setTask { t with queued := true }) ∨
       (anyParked s t.scq = true ∧ ∃ w w1, hintedWorker h s t = some w ∧ w.parked = true ∧
          (wakeWorker s w).worker? w.scq w.id = some w1 ∧ w1.task = none ∧ t.worker = none ∧
          s' = assignS (wakeWorker s w) w1 t)) := by
  unfold schedule at hh
  cases ht : s.task? tid with
  | none => rw [ht] at hh; cases hh
  | some t =>
  rw [ht] at hh; dsimp only at hh
  refine ⟨t, rfl, ?_⟩
  cases hp : anyParked s t.scq with
  | false => rw [hp, if_neg Bool.false_ne_true] at hh; exact .inl ⟨rfl, ((pure_ok _ _).1 hh).symm⟩
  | true =>
    rw [hp, if_pos rfl] at hh
    refine .inr ⟨rfl, ?_⟩
    cases hw : hintedWorker h s t with
    | none => rw [hw] at hh; cases hh
    | some w =>
      rw [hw] at hh; dsimp only at hh
      cases hwp : w.parked with
      | false => rw [hwp, Bool.not_false, if_pos rfl] at hh; cases hh
      | true =>
        rw [hwp, Bool.not_true, if_neg Bool.false_ne_true] at hh
        cases hw1 : (wakeWorker s w).worker? w.scq w.id with
        | none => rw [hw1] at hh; cases hh
        | some w1 =>
          rw [hw1] at hh; dsimp only at hh
          obtain ⟨h1, h2, h3⟩ := assignTo_ok.1 hh
          exact ⟨w, w1, rfl, hwp, hw1, h1, h2, h3⟩

/-- the response is a success (status OK and exit code 0) -/
abbrev isSucc (r : Resp) : Prop := r.code = cOK ∧ r.exit = 0

theorem completeSucc_ok {h : Hints} {s s' : State} {t : Task} {l : Nat} {r : Resp}
    (hh : completeSucc h s t l r = .ok s') :
    ∃ ev, isClientEv ev = false ∧
    (s' = succS s t ev r ∨
     (∃ ev', isClientEv ev' = false ∧ s' = emit (bumpLearner (succS s t ev r)) ev') ∨
     (∃ bq pq, schedule h (bgState (bumpLearner (succS s t ev r)) { t with learner := none } bq (succS s t ev r).nextLearner pq)
        (succS s t ev r).nextTask = .ok s' ∧ bq.pq = t.scq.pq)) := by
  unfold completeSucc at hh
  refine ⟨.learnerSucceeded l (if h.bg.isSome then some s.nextLearner else none), rfl, ?_⟩
  generalize Event.learnerSucceeded l (if h.bg.isSome then some s.nextLearner else none) = ev at hh ⊢
  cases hbg : h.bg with
  | none => rw [hbg] at hh; exact .inl ((pure_ok _ _).1 hh).symm
  | some bgIdx =>
    rw [hbg] at hh
    refine .inr ?_
    dsimp only at hh
    generalize hpq : State.pq? _ _ = opq at hh
    cases opq with
    | none => cases hh
    | some pq =>
      dsimp only at hh
      by_cases hb : pq.bgMax = 0
      · rw [if_pos hb] at hh; exact .inl ⟨.learnerAbandoned _, rfl, ((pure_ok _ _).1 hh).symm⟩
      rw [if_neg hb] at hh
      generalize hsc : (State.sizes _ _)[min bgIdx _]? = osc at hh
      cases osc with
      | none => cases hh
      | some bsc =>
        dsimp only at hh
        split at hh
        · exact .inl ⟨.learnerAbandoned _, rfl, ((pure_ok _ _).1 hh).symm⟩
        · exact .inr ⟨_, _, hh, rfl⟩

theorem completeRetry_ok {h : Hints} {s s' : State} {t : Task} {l : Nat} {r : Resp}
    (hh : completeRetry h s t l r = .ok s') :
    ∃ s2 t2, schedule h ((retryS s l r).setTask (retryT s t l r)) t.id = .ok s2 ∧
      s2.task? t.id = some t2 ∧ s' = s2.setTask (bumpGen t2) := by
  unfold completeRetry at hh
  dsimp only at hh
  rw [bind_ok] at hh
  obtain ⟨s2, h1, hh⟩ := hh
  cases ht2 : s2.task? t.id with
  | none => rw [ht2] at hh; cases hh
  | some t2 => rw [ht2] at hh; exact ⟨s2, t2, h1, ht2, ((pure_ok _ _).1 hh).symm⟩

/-- The five ways `complete` can succeed. -/
theorem complete_ok {h : Hints} {s s' : State} {tid : Nat} {r : Resp} {bw : Bool}
    (hh : complete h s tid r bw = .ok s') :
    ∃ t, s.task? tid = some t ∧
      ((t.response.isSome = true ∧ s' = s) ∨
       (t.response = none ∧ ∃ l, t.learner = some l ∧
         ((isSucc r ∧ completeSucc h (detachW s t) (detachT t) l r = .ok s') ∨
          (¬ isSucc r ∧ bw = true ∧ h.retry = true ∧ completeRetry h (detachW s t) (detachT t) l r = .ok s') ∨
          (¬ isSucc r ∧ (bw = false ∨ h.retry = false) ∧
            ∃ ev, isClientEv ev = false ∧ s' = succS (detachW s t) (detachT t) ev r)))) := by
  rw [complete_eq] at hh
  cases ht : s.task? tid with
  | none => rw [ht] at hh; cases hh
  | some t =>
  rw [ht] at hh; dsimp only at hh
  refine ⟨t, rfl, ?_⟩
  cases hr : t.response with
  | some r' => rw [hr, Option.isSome_some, if_pos rfl] at hh; exact .inl ⟨rfl, ((pure_ok _ _).1 hh).symm⟩
  | none =>
  rw [hr, Option.isSome_none, if_neg Bool.false_ne_true] at hh
  refine .inr ⟨rfl, ?_⟩
  cases hl : t.learner with
  | none => rw [hl] at hh; cases hh
  | some l =>
  rw [hl] at hh; dsimp only at hh
  refine ⟨l, rfl, ?_⟩
  by_cases hs : isSucc r
  · rw [if_pos hs] at hh; exact .inl ⟨hs, hh⟩
  rw [if_neg hs] at hh
  cases bw with
  | false =>
    rw [if_neg Bool.false_ne_true] at hh
    exact .inr (.inr ⟨hs, .inl rfl, _, rfl, ((pure_ok _ _).1 hh).symm⟩)
  | true =>
    rw [if_pos rfl] at hh
    cases hre : h.retry with
    | true => rw [hre, if_pos rfl] at hh; exact .inr (.inl ⟨hs, rfl, rfl, hh⟩)
    | false =>
      rw [hre, if_neg Bool.false_ne_true] at hh
      exact .inr (.inr ⟨hs, .inr rfl, _, rfl, ((pure_ok _ _).1 hh).symm⟩)

theorem removeOp_ok {h : Hints} {s s' : State} {o : Nat} (hh : removeOp h s o = .ok s') :
    (s.op? o = none ∧ s' = s) ∨
    ∃ op t s1 t1, s.op? o = some op ∧ s.task? op.task = some t ∧
      ((t.ops.length = 1 ∧ complete h (eraseOp s o) t.id ⟨cCanceled, 0, 0, .noWaiters⟩ false = .ok s1) ∨
       (t.ops.length ≠ 1 ∧ s1 = eraseOp s o)) ∧
      s1.task? op.task = some t1 ∧ s' = dropOpT s1 t1 o := by
  unfold removeOp at hh
  cases hop : s.op? o with
  | none => rw [hop] at hh; exact .inl ⟨rfl, ((pure_ok _ _).1 hh).symm⟩
  | some op =>
  rw [hop] at hh; dsimp only at hh
  generalize ht : State.task? _ op.task = ot at hh
  cases ot with
  | none => cases hh
  | some t =>
  dsimp only at hh
  rw [← apply_ite (bind · _), bind_ok] at hh
  obtain ⟨s1, h1, hh⟩ := hh
  cases ht1 : s1.task? op.task with
  | none => rw [ht1] at hh; cases hh
  | some t1 =>
  rw [ht1] at hh; dsimp only at hh
  rw [← apply_ite (pure : State → M State), pure_ok] at hh
  refine .inr ⟨op, t, s1, t1, rfl, ht, ?_, ht1, hh.symm⟩
  by_cases hl : t.ops.length = 1
  · rw [if_pos hl] at h1; exact .inl ⟨hl, h1⟩
  · rw [if_neg hl, pure_ok] at h1; exact .inr ⟨hl, h1.symm⟩

/-- Induction principle for `List.foldlM` in `M`: a relation that is reflexive, transitive and holds
for every successful iteration holds for the fold. -/
theorem foldlM_rel {α} (R : State → State → Prop) (hrefl : ∀ s, R s s)
    (htrans : ∀ a b c, R a b → R b c → R a c) (f : State → α → M State)
    (hstep : ∀ s a s', f s a = .ok s' → R s s') :
    ∀ (l : List α) (s s' : State), l.foldlM f s = .ok s' → R s s' := by
  intro l
  induction l with
  | nil => intro s s' h; simp [List.foldlM, pure, Except.pure] at h; exact h ▸ hrefl s
  | cons a r ih =>
    intro s s' h
    simp only [List.foldlM, bind_ok] at h
    obtain ⟨s1, h1, h2⟩ := h
    exact htrans _ _ _ (hstep _ _ _ h1) (ih _ _ h2)

/-- The same for a pure fold. -/
theorem foldl_rel {α} (R : State → State → Prop) (hrefl : ∀ s, R s s) (htrans : ∀ {a b c}, R a b → R b c → R a c)
    (f : State → α → State) (hf : ∀ s a, R s (f s a)) (l : List α) (s : State) : R s (l.foldl f s) := by
  induction l generalizing s with
  | nil => exact hrefl s
  | cons a r ih => exact htrans (hf s a) (ih _)

/-- Invariant version. -/
theorem foldlM_inv {α} (I : State → Prop) (f : State → α → M State)
    (hstep : ∀ s a s', I s → f s a = .ok s' → I s') :
    ∀ (l : List α) (s s' : State), I s → l.foldlM f s = .ok s' → I s' := by
  intro l
  induction l with
  | nil => intro s s' hi h; simp [List.foldlM, pure, Except.pure] at h; exact h ▸ hi
  | cons a r ih =>
    intro s s' hi h
    simp only [List.foldlM, bind_ok] at h
    obtain ⟨s1, h1, h2⟩ := h
    exact ih _ _ (hstep _ _ _ hi h1) h2

theorem cancelAllQueued_rel (R : State → State → Prop) (hrefl : ∀ s, R s s)
    (htrans : ∀ a b c, R a b → R b c → R a c) {h : Hints} {r : Resp}
    (hstep : ∀ s t s', complete h s t r false = .ok s' → R s s')
    {s s' : State} {q : ScqId} (hh : cancelAllQueued h s q r = .ok s') : R s s' := by
  unfold cancelAllQueued at hh
  exact foldlM_rel R hrefl htrans _ hstep _ _ _ hh

theorem cancelAllQueued_inv (I : State → Prop) {h : Hints} {r : Resp}
    (hstep : ∀ s t s', I s → complete h s t r false = .ok s' → I s')
    {s s' : State} {q : ScqId} (hi : I s) (hh : cancelAllQueued h s q r = .ok s') : I s' := by
  unfold cancelAllQueued at hh
  exact foldlM_inv I _ hstep _ _ _ hi hh

theorem removeScq_ok {h : Hints} {s s' : State} {q : ScqId} (hh : removeScq h s q = .ok s') :
    ∃ s1, cancelAllQueued h s q ⟨cUnavailable, 0, 0, .queueRemoved⟩ = .ok s1 ∧ s' = dropScq s1 q := by
  unfold removeScq at hh
  rw [bind_ok] at hh
  obtain ⟨s1, h1, hh⟩ := hh
  dsimp only at hh
  rw [← apply_ite (pure : State → M State), pure_ok] at hh
  exact ⟨s1, h1, hh.symm⟩

theorem removeStaleWorker_ok {h : Hints} {s s' : State} {q : ScqId} {w : WId} {rt : Nat}
    (hh : removeStaleWorker h s q w rt = .ok s') :
    (s.worker? q w = none ∧ s' = s) ∨
    ∃ wk s1, s.worker? q w = some wk ∧
      ((∃ t, wk.task = some t ∧ complete h s t ⟨cUnavailable, 0, 0, .workerDisappeared⟩ false = .ok s1) ∨
       (wk.task = none ∧ s1 = s)) ∧
      s' = dropWorker s1 q w rt := by
  unfold removeStaleWorker at hh
  cases hwk : s.worker? q w with
  | none => rw [hwk] at hh; exact .inl ⟨rfl, ((pure_ok _ _).1 hh).symm⟩
  | some wk =>
  rw [hwk] at hh
  extract_lets tail at hh
  have htail : ∀ s1, tail s1 = .ok s' → s' = dropWorker s1 q w rt := by
    intro s1 h1
    unfold dropWorker filterWorkers
    dsimp only [tail] at h1
    generalize State.scq? _ q = osq at h1 ⊢
    cases osq with
    | none => exact ((pure_ok _ _).1 h1).symm
    | some sq =>
      dsimp only at h1 ⊢
      rw [← apply_ite (pure : State → M State), pure_ok] at h1
      exact h1.symm
  dsimp only at hh
  cases ht : wk.task with
  | none =>
    rw [ht] at hh
    exact .inr ⟨wk, s, rfl, .inr ⟨ht, rfl⟩, htail s hh⟩
  | some t =>
    rw [ht] at hh; dsimp only at hh
    rw [bind_ok] at hh
    obtain ⟨s1, h1, hh⟩ := hh
    exact .inr ⟨wk, s1, rfl, .inl ⟨t, ht, h1⟩, htail s1 hh⟩

/-- Relational induction over `runCleanup`. -/
theorem runCleanup_rel (R : State → State → Prop) (hrefl : ∀ s, R s s)
    (htrans : ∀ a b c, R a b → R b c → R a c) {h : Hints}
    (hpop : ∀ s e rest, popDue s.now s.cleanup = some (e, rest) → R s (setCleanup s rest))
    (hcb : ∀ s e s', callback h s e = .ok s' → R s s') :
    ∀ (f : Nat) (s s' : State), runCleanup h f s = .ok s' → R s s' := by
  intro f
  induction f with
  | zero => intro s s' hh; rw [runCleanup_zero, pure_ok] at hh; exact hh ▸ hrefl s
  | succ f ih =>
    intro s s' hh
    rw [runCleanup_succ] at hh
    split at hh
    · rw [pure_ok] at hh; exact hh ▸ hrefl s
    · rename_i e rest hp
      rw [bind_ok] at hh
      obtain ⟨s1, h1, h2⟩ := hh
      exact htrans _ _ _ (hpop _ _ _ hp) (htrans _ _ _ (hcb _ _ _ h1) (ih _ _ h2))

/-- Invariant induction over `runCleanup`; the callback step may use the popped entry. -/
theorem runCleanup_inv (I : State → Prop) {h : Hints}
    (hcb : ∀ s e rest s', I s → popDue s.now s.cleanup = some (e, rest) →
      callback h (setCleanup s rest) e = .ok s' → I s') :
    ∀ (f : Nat) (s s' : State), I s → runCleanup h f s = .ok s' → I s' := by
  intro f
  induction f with
  | zero => intro s s' hi hh; rw [runCleanup_zero, pure_ok] at hh; exact hh ▸ hi
  | succ f ih =>
    intro s s' hi hh
    rw [runCleanup_succ] at hh
    split at hh
    · rw [pure_ok] at hh; exact hh ▸ hi
    · rename_i e rest hp
      rw [bind_ok] at hh
      obtain ⟨s1, h1, h2⟩ := hh
      exact ih _ _ (hcb _ _ _ _ hi hp h1) h2

theorem enter_ok {h : Hints} {s s' : State} {t : Nat} (hh : enter h s t = .ok s') :
    (t ≤ s.now ∧ s' = s) ∨ (s.now < t ∧ runCleanup h (cleanupFuel s) (setNow s t) = .ok s') := by
  unfold enter at hh
  split at hh
  · exact .inr ⟨by omega, hh⟩
  · rw [pure_ok] at hh; exact .inl ⟨by omega, hh.symm⟩

/-- Relational induction over a cleanup callback: a failing `complete` first, then the worker is dropped, or the
operation erased and unlinked from its task, or the queue dropped.  The responses the callbacks complete tasks with
carry no payload and are not attributed to a worker. -/
theorem callback_rel_resp (R : State → State → Prop) (hrefl : ∀ s, R s s) (htrans : ∀ {a b c}, R a b → R b c → R a c)
    (hcomplete : ∀ {h s s' tid r}, r.cause ≠ .worker → r.tok = 0 → r.exit = 0 → ¬ isSucc r →
      complete h s tid r false = .ok s' → R s s')
    (hworker : ∀ s q w rt, R s (dropWorker s q w rt)) (hop : ∀ s o, R s (eraseOp s o))
    (htask : ∀ s k t o, s.task? k = some t → R s (dropOpT s t o)) (hscq : ∀ s q, R s (dropScq s q))
    {h : Hints} {s s' : State} {e : CleanupEntry} (hh : callback h s e = .ok s') : R s s' := by
  unfold callback at hh
  split at hh
  · rcases removeStaleWorker_ok hh with ⟨_, rfl⟩ | ⟨wk, s1, _, h1, rfl⟩
    · exact hrefl _
    · refine htrans ?_ (hworker ..)
      rcases h1 with ⟨t, _, h1⟩ | ⟨_, rfl⟩
      · exact hcomplete (by simp) rfl rfl (by simp [isSucc, cUnavailable, cOK]) h1
      · exact hrefl _
  · rcases removeOp_ok hh with ⟨_, rfl⟩ | ⟨op, t, s1, t1, _, _, h1, h2, rfl⟩
    · exact hrefl _
    · refine htrans ?_ (htask _ _ _ _ h2)
      rcases h1 with ⟨_, h1⟩ | ⟨_, rfl⟩
      · exact htrans (hop s _) (hcomplete (by simp) rfl rfl (by simp [isSucc, cCanceled, cOK]) h1)
      · exact hop s _
  · obtain ⟨s1, h1, rfl⟩ := removeScq_ok hh
    exact htrans (cancelAllQueued_rel R hrefl (fun _ _ _ => htrans)
      (fun _ _ _ hc => hcomplete (by simp) rfl rfl (by simp [isSucc, cUnavailable, cOK]) hc) h1) (hscq _ _)

theorem callback_rel (R : State → State → Prop) (hrefl : ∀ s, R s s) (htrans : ∀ {a b c}, R a b → R b c → R a c)
    (hcomplete : ∀ {h s s' tid r}, ¬ isSucc r → complete h s tid r false = .ok s' → R s s')
    (hworker : ∀ s q w rt, R s (dropWorker s q w rt)) (hop : ∀ s o, R s (eraseOp s o))
    (htask : ∀ s k t o, s.task? k = some t → R s (dropOpT s t o)) (hscq : ∀ s q, R s (dropScq s q))
    {h : Hints} {s s' : State} {e : CleanupEntry} (hh : callback h s e = .ok s') : R s s' :=
  callback_rel_resp R hrefl htrans (fun _ _ _ => hcomplete) hworker hop htask hscq hh

/-- Relational induction over `enter`: the clock is set, then due entries are popped and their callbacks run. -/
theorem enter_rel (R : State → State → Prop) (hrefl : ∀ s, R s s) (htrans : ∀ {a b c}, R a b → R b c → R a c)
    (hnow : ∀ s t, R s (setNow s t))
    (hpop : ∀ s e rest, popDue s.now s.cleanup = some (e, rest) → R s (setCleanup s rest))
    (hcb : ∀ {h s e s'}, callback h s e = .ok s' → R s s')
    {h : Hints} {s s' : State} {t : Nat} (hh : enter h s t = .ok s') : R s s' := by
  rcases enter_ok hh with ⟨_, rfl⟩ | ⟨_, h1⟩
  · exact hrefl _
  · exact htrans (hnow s t) (runCleanup_rel R hrefl (fun _ _ _ => htrans) hpop (fun _ _ _ => hcb) _ _ _ h1)

end BbRe.Lemmas.SchedLive
