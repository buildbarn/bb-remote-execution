/-!
Case analysis of a hypothesis `(if c then a else b) = x`, for the models whose steps are nested
`if`s over large records (`FileRef`, `Replay40`): `split at h` would rewrite the whole hypothesis.
-/
namespace BbRe.Lemmas

theorem ite_eq_cases {α : Type} {c : Prop} [Decidable c] {a b x : α} (h : (if c then a else b) = x) :
    c ∧ a = x ∨ ¬ c ∧ b = x := by
  split at h
  · exact .inl ⟨‹_›, h⟩
  · exact .inr ⟨‹_›, h⟩

end BbRe.Lemmas
