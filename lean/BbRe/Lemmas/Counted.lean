/-!
`Counted p f n`: exactly `n` thread ids `t` have `p (f t)`, for thread ids drawn from all of `Nat`
(a duplicate-free list enumerates them), with what one thread's move does to the count.  The user
counts of `Idle`/`IdleDirs` (C12) and the frozen-reader count of `FileRef` (C16) have this form.
-/
namespace BbRe.Lemmas.Idle

/-- Exactly `n` thread ids `t` have `p (f t)`. -/
def Counted {α : Type} (p : α → Prop) (f : Nat → α) (n : Nat) : Prop :=
  ∃ l : List Nat, l.Nodup ∧ (∀ t, t ∈ l ↔ p (f t)) ∧ n = l.length

section counted
variable {α : Type} {p : α → Prop} {f : Nat → α} {n : Nat}

theorem Counted.zero (h : Counted p f 0) (t : Nat) : ¬ p (f t) := by
  obtain ⟨l, _, h2, h3⟩ := h
  intro ht
  rw [List.eq_nil_of_length_eq_zero h3.symm] at h2
  exact nomatch (h2 t).2 ht

theorem Counted.pos (h : Counted p f n) {t : Nat} (ht : p (f t)) : n ≠ 0 := by
  intro e
  subst e
  exact h.zero t ht

theorem Counted.eq_zero (h : Counted p f n) (h0 : ∀ t, ¬ p (f t)) : n = 0 := by
  obtain ⟨l, _, h2, h3⟩ := h
  cases l with
  | nil => exact h3
  | cons a l => exact absurd ((h2 a).1 (List.mem_cons_self ..)) (h0 a)

theorem Counted.set_same (h : Counted p f n) (t : Nat) (v : α) (hv : p v ↔ p (f t)) :
    Counted p (fun x => if x = t then v else f x) n := by
  obtain ⟨l, h1, h2, h3⟩ := h
  refine ⟨l, h1, fun x => ?_, h3⟩
  show x ∈ l ↔ p (if x = t then v else f x)
  split
  · rename_i e; subst e; exact (h2 x).trans hv.symm
  · exact h2 x

theorem Counted.set_add (h : Counted p f n) (t : Nat) (v : α) (hold : ¬ p (f t)) (hv : p v) :
    Counted p (fun x => if x = t then v else f x) (n + 1) := by
  obtain ⟨l, h1, h2, h3⟩ := h
  refine ⟨t :: l, List.nodup_cons.2 ⟨fun hm => hold ((h2 t).1 hm), h1⟩, fun x => ?_, congrArg (· + 1) h3⟩
  show x ∈ t :: l ↔ p (if x = t then v else f x)
  rw [List.mem_cons]
  split
  · rename_i e; exact ⟨fun _ => hv, fun _ => Or.inl e⟩
  · rename_i e; exact ⟨fun hx => hx.elim (absurd · e) (h2 x).1, fun hx => Or.inr ((h2 x).2 hx)⟩

theorem Counted.set_remove (h : Counted p f n) (t : Nat) (v : α) (hold : p (f t)) (hv : ¬ p v) :
    Counted p (fun x => if x = t then v else f x) (n - 1) := by
  obtain ⟨l, h1, h2, h3⟩ := h
  refine ⟨l.erase t, h1.erase t, fun x => ?_, by rw [List.length_erase_of_mem ((h2 t).2 hold), h3]⟩
  show x ∈ l.erase t ↔ p (if x = t then v else f x)
  rw [h1.mem_erase_iff]
  split
  · rename_i e; exact ⟨fun hx => absurd e hx.1, fun hx => absurd hx hv⟩
  · rename_i e; exact ⟨fun hx => (h2 x).1 hx.2, fun hx => ⟨e, (h2 x).2 hx⟩⟩

theorem Counted.congr {f' : Nat → α} (h : Counted p f n) (e : ∀ t, p (f' t) ↔ p (f t)) : Counted p f' n := by
  obtain ⟨l, h1, h2, h3⟩ := h
  exact ⟨l, h1, fun t => (h2 t).trans (e t).symm, h3⟩

end counted

end BbRe.Lemmas.Idle
