import BbRe.Lemmas.BRLSet
/-!
# Helper lemmas for C20: the two `panic`s in `Set` are unreachable

`Model/BRL.lean` does not model the two
`panic("New entry has multiple trailing overlapping entries, which is impossible")`
statements of `Set` (it silently overwrites the trailing part).  The functions
below are copies of the recursion skeletons of `phase1` / `phase2` that return
whether such a `panic` would be reached (`leTrailing != nil` at the moment a
second trailing part is created).  They are instrumentation next to the model,
not part of it (the differential harness exercises `phase1`/`phase2` only; a
panic of the real code would show up there as a crash).
-/
namespace BbRe.Lemmas.BRL
open BbRe.BRL BbRe.Spec.ByteLocks

/-- First loop: would the `panic` at `byte_range_lock_set.go:111-113` be reached? -/
def phase1Panics (n : Lock) (trailing : Option Lock) : List Lock → Bool
  | [] => false
  | s :: rest =>
    if n.start ≤ s.start then false
    else if s.owner = n.owner then
      if n.ty = s.ty then
        if n.start ≤ s.stop then false else phase1Panics n trailing rest
      else if n.start < s.stop then
        if n.stop < s.stop then
          trailing.isSome || phase1Panics n (some { s with start := n.stop }) rest
        else phase1Panics n trailing rest
      else phase1Panics n trailing rest
    else phase1Panics n trailing rest

/-- Second loop: would the `panic` at `byte_range_lock_set.go:170-172` be reached? -/
def phase2Panics (n : Lock) (trailing : Option Lock) : List Lock → Bool
  | [] => false
  | s :: rest =>
    if n.stop < s.start then false
    else if s.owner = n.owner then
      if n.stop ≥ s.stop then phase2Panics n trailing rest
      else if n.ty = s.ty then phase2Panics { n with stop := s.stop } trailing rest
      else trailing.isSome || phase2Panics n (some { s with start := n.stop }) rest
    else phase2Panics n trailing rest

/-- Would `Set ls l` panic? -/
def setPanics (ls : List Lock) (l : Lock) : Bool :=
  let r1 := phase1 l none ls
  phase1Panics l none ls || phase2Panics r1.2.2.1 r1.2.2.2 r1.2.1

theorem phase1Panics_false (n : Lock) (tr : Option Lock) (ls : List Lock)
    (hn : n.start < n.stop) (hp : ls.Pairwise Rel) (hin : HTr n tr ls) :
    phase1Panics n tr ls = false := by
  fun_induction phase1Panics n tr ls
  -- the branch that would panic: a second trailing part.  `HTr` says there was none before, and
  -- behind `s`, which reaches beyond `n`, the owner has nothing that `n` touches.
  case case5 tr s rest h1 ho ht h2 h3 ih =>
    obtain rfl := hin.eq_none ho (by omega)
    exact ih hp.of_cons (.of_rel (fun _ => List.rel_of_pairwise_cons hp) ho h3 _)
  -- all other branches return `false` or recurse with the same trailing part
  all_goals first | rfl | exact ‹_ → _ → _› hp.of_cons hin.tail

theorem phase2Panics_false (n : Lock) (tr : Option Lock) (ls : List Lock)
    (hp : ls.Pairwise Rel) (hin : HTr n tr ls) :
    phase2Panics n tr ls = false := by
  fun_induction phase2Panics n tr ls
  -- merge with `s` (the new lock grows; no trailing part so far) and split of `s` (the branch that
  -- would panic, as in `phase1Panics_false`); the other branches as there
  case case4 n tr s rest h1 ho h2 ht ih =>
    obtain rfl := hin.eq_none ho (by omega)
    exact ih hp.of_cons (htr_none _ _)
  case case5 n tr s rest h1 ho h2 ht ih =>
    obtain rfl := hin.eq_none ho (by omega)
    exact ih hp.of_cons (.of_rel (fun _ => List.rel_of_pairwise_cons hp) ho (by omega) _)
  all_goals first | rfl | exact ‹_ → _ → _› hp.of_cons hin.tail

theorem setPanics_false {ls : List Lock} {l : Lock} (hwf : WF ls) (hl : l.start < l.stop) :
    setPanics ls l = false := by
  rw [wf_iff] at hwf
  unfold setPanics
  simp only [Bool.or_eq_false_iff]
  refine ⟨phase1Panics_false l none ls hl hwf.2 (htr_none _ _), ?_⟩
  obtain ⟨h1stop, -, h1own, -⟩ := phase1_n l none ls
  apply phase2Panics_false _ _ _ (hwf.2.sublist (phase1_suffix l none ls).sublist)
  exact (phase1_htr l none ls hwf.2 (htr_none _ _)).congr h1own h1stop

end BbRe.Lemmas.BRL
