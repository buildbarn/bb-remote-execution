import BbRe.Lemmas.NaiveDir
import BbRe.Lemmas.InputRootEager
/-!
The eager merge against the lazy input root: a clean eager merge has accepted only
well-formed Directory messages (in the sense of the lazy fetcher, `WellFormed`), and the
tree it leaves shows, under every path, what the fully explored lazy tree (`expand`) shows.
-/
namespace BbRe.Lemmas.NaiveDir
open BbRe.InputRoot BbRe.NaiveDir BbRe.Lemmas.InputRoot

theorem mkDirN_isSome (c : CAS) (O : Oracle) (f : Nat) (p : Path) (e : DirNode)
    (h : (mkDirN c O f p e).isSome = true) : (parseDigest c.hashLen e.digest).isSome = true := by
  unfold mkDirN at h
  cases hp : parseDigest c.hashLen e.digest with
  | none => simp [hp] at h
  | some d => rfl

/-- The three loop conditions of the eager walk (files, directories, symlinks) amount to the
well-formedness the lazy fetcher demands (directories, files, symlinks). -/
theorem wellFormed_of_level (hl : Nat) (m : DirMsg) (mkD : DirNode → Option Node)
    (hD : ∀ e, (mkD e).isSome = true → (parseDigest hl e.digest).isSome = true)
    (g1 : GoodList FileNode.name (mkFile hl) m.files [])
    (g2 : GoodList DirNode.name mkD m.dirs (conv FileNode.name (mkFile hl) m.files))
    (g3 : GoodList SymNode.name mkSym m.syms
      (conv FileNode.name (mkFile hl) m.files ++ conv DirNode.name mkD m.dirs)) :
    WellFormed hl m := by
  obtain ⟨⟨hf, hd, hs⟩, hn⟩ := (goodLists_iff ..).1 ⟨g1, g2, g3⟩
  refine (wellFormed_iff hl m).2 ⟨⟨fun e he => ⟨(hd e he).1, ?_⟩, hf, hs⟩,
    (List.perm_append_comm.append_right _).nodup_iff.1 hn⟩
  rw [mkDir_isSome]
  exact hD e (hd e he).2

/-! ### looking a name up in both trees -/

theorem lookup_conv_rel {α : Type} (nameOf : α → Name) (mk mk' : α → Option Node)
    (R : Node → Node → Prop) (es : List α) (h : ∀ e ∈ es, OptRel R (mk e) (mk' e)) (x : Name) :
    OptRel R (lookup (conv nameOf mk es) x) (lookup (conv nameOf mk' es) x) := by
  induction es with
  | nil => simp [conv, lookup, OptRel]
  | cons e rest ih =>
    have ih' := ih fun e' he' => h e' (List.mem_cons_of_mem _ he')
    rcases (h e List.mem_cons_self).cases with ⟨h1, h2⟩ | ⟨a, b, h1, h2, hr⟩
    · rwa [conv_cons_none h1, conv_cons_none h2]
    · rw [conv_cons_some h1, conv_cons_some h2]
      by_cases hx : nameOf e = x
      · simpa only [lookup, hx, if_true, OptRel] using hr
      · simpa only [lookup, hx, if_false] using ih'

theorem optRel_or (R : Node → Node → Prop) (a a' b b' : Option Node)
    (ha : OptRel R a a') (hb : OptRel R b b') : OptRel R (a.or b) (a'.or b') := by
  cases a <;> cases a'
  · exact hb
  · exact False.elim ha
  · exact False.elim ha
  · exact ha

theorem optRel_or_swap (R : Node → Node → Prop) (a a' b b' : Option Node)
    (ha : OptRel R a a') (hb : OptRel R b b') (hdis : a.isSome = true → b = none) :
    OptRel R (a.or b) (b'.or a') := by
  cases a <;> cases a'
  · cases b <;> cases b' <;> exact hb
  · exact False.elim ha
  · exact False.elim ha
  · cases hdis rfl
    cases b'
    · exact ha
    · exact False.elim hb

/-- Under every path the two nodes show the same kind of thing (file with digest and
executable bit, symlink with target, directory) or both nothing. -/
def Shows (c : CAS) (f : Nat) (v v' : Node) : Prop :=
  ∀ q : Path, (rawAt v q).map kindOf = (rawAt (expand c f v') q).map kindOf

theorem shows_mkFile (c : CAS) (f : Nat) (e : FileNode) :
    OptRel (Shows c f) (mkFile c.hashLen e) (mkFile c.hashLen e) := by
  unfold mkFile
  cases parseDigest c.hashLen e.digest with
  | none => simp [OptRel]
  | some d => simp only [Option.map, OptRel, Shows, expand_file]; intro q; trivial

theorem shows_mkSym (c : CAS) (f : Nat) (e : SymNode) : OptRel (Shows c f) (mkSym e) (mkSym e) := by
  unfold mkSym
  split
  · simp only [OptRel, Shows, expand_sym]; intro q; trivial
  · simp [OptRel]

theorem annotate_none_spec (hl : Nat) (m : DirMsg) :
    (specChildren hl m).map (annotate none) = specChildren hl m := by
  have : ∀ e ∈ specChildren hl m, annotate none e = e := by
    intro e he
    obtain ⟨x, v⟩ := e
    rcases mem_specChildren hl m x v he with ⟨_, _, d', _, rfl⟩ | ⟨d', ex, rfl⟩ | ⟨t, rfl⟩ <;>
      simp [annotate]
  rw [List.map_congr_left this, List.map_id']

theorem getDirectory_ok (c : CAS) (F : List Dig) (d : Dig) (m : DirMsg)
    (h : getDirectory c F d = .ok m) : F.contains d = false ∧ assoc c.dirs d = some (some m) := by
  unfold getDirectory at h
  split at h
  · cases h
  · rename_i hc
    refine ⟨by simpa using hc, ?_⟩
    split at h
    · cases h
    · cases h
    · rename_i m' hm; cases h; exact hm

/-- A clean eager merge shows what the fully explored lazy directory of the same digest shows. -/
theorem shows_of_clean (c : CAS) (O : Oracle) : ∀ (f : Nat) (d : Dig) (p : Path) (ch : Children),
    mergeDirIn c O f d p [] false = ⟨ch, false, none⟩ → Shows c f (.dir ch) (.lazy d none) := by
  intro f
  induction f with
  | zero => intro d p ch h; simp [mergeDirIn] at h
  | succ f ih =>
    intro d p ch h
    obtain ⟨m, hg, g1, g2, g3, hch, -⟩ := level_ok c O f d p ch h
    have hm := (getDirectory_ok c O.cas d m hg).2
    have hw := wellFormed_of_level c.hashLen m (mkDirN c O f p) (mkDirN_isSome c O f p) g1 g2 g3
    have hfetch := fetch_wellFormed c [] d none m (by simp) hm hw
    rw [annotate_none_spec] at hfetch
    -- entry-wise relation between what the eager walk made and what the lazy fetcher lists
    have hdirs : ∀ e ∈ m.dirs, OptRel (Shows c f) (mkDirN c O f p e) (mkDir c.hashLen e) := by
      intro e he
      cases hp : parseDigest c.hashLen e.digest with
      | none => simp [mkDirN, mkDir, hp, OptRel]
      | some d' =>
        obtain ⟨chd, hcl, hmk⟩ := clean_of_mkDirN hp (g2.1 e he).2
        simp only [hmk, mkDir, hp, Option.map_some, OptRel]
        exact ih d' _ chd hcl
    have hdis : ∀ x, (lookup (conv FileNode.name (mkFile c.hashLen) m.files) x).isSome = true →
        lookup (conv DirNode.name (mkDirN c O f p) m.dirs) x = none := by
      intro x hx
      cases hl : lookup (conv DirNode.name (mkDirN c O f p) m.dirs) x with
      | none => rfl
      | some v =>
        have h1 : hasName (conv DirNode.name (mkDirN c O f p) m.dirs) x = true := by simp [hasName, hl]
        have h2 := (hasName_conv DirNode.name (mkDirN c O f p) m.dirs (fun e he => (g2.1 e he).2) x).1 h1
        obtain ⟨e, he, rfl⟩ := List.mem_map.1 h2
        have h3 := g2.2.2 e he
        simp only [hasName] at h3
        rw [h3] at hx
        cases hx
    intro q
    cases q with
    | nil => simp [rawAt, expand, hfetch, kindOf]
    | cons x rest =>
      have hrel : OptRel (Shows c f) (lookup ch x) (lookup (specChildren c.hashLen m) x) := by
        rw [hch]
        simp only [naiveChildren, specChildren, lookup_append]
        apply optRel_or
        · exact optRel_or_swap _ _ _ _ _
            (lookup_conv_rel _ _ _ _ _ (fun e _ => shows_mkFile c f e) x)
            (lookup_conv_rel _ _ _ _ _ hdirs x) (hdis x)
        · exact lookup_conv_rel _ _ _ _ _ (fun e _ => shows_mkSym c f e) x
      simp only [rawAt, expand, hfetch, lookup_map]
      rcases hrel.cases with ⟨h1, h2⟩ | ⟨a, b, h1, h2, hr⟩
      · simp [h1, h2]
      · simpa [h1, h2] using hr rest

end BbRe.Lemmas.NaiveDir
