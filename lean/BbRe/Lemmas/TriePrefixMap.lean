/-
The finite-map specification (Spec/PrefixMap.lean): lookup after `set`/`erase`, and what
`longestPrefix` returns.
-/
import BbRe.Lemmas.Basic.AssocList
import BbRe.Lemmas.TrieLongest
namespace BbRe.Lemmas.TriePrefixMap
open BbRe.Spec.PrefixMap

theorem get_nil (k : Key) : get ([] : PrefixMap) k = none := rfl
theorem get_cons (k' : Key) (v : Nat) (r : PrefixMap) (k : Key) :
    get ((k', v) :: r) k = if k' = k then some v else get r k := rfl

theorem toInt_nonneg_iff (o : Option Nat) : 0 ≤ toInt o ↔ o.isSome := by
  cases o with
  | none => exact ⟨fun h => absurd h (by decide), nofun⟩
  | some v => exact ⟨fun _ => rfl, fun _ => Int.natCast_nonneg v⟩

theorem toInt_neg_iff (o : Option Nat) : toInt o < 0 ↔ o = none := by
  cases o with
  | none => exact ⟨fun _ => rfl, fun _ => by decide⟩
  | some v => exact ⟨fun h => absurd (Int.natCast_nonneg v) (Int.not_le.2 h), nofun⟩

theorem toInt_eq_natCast (o : Option Nat) (v : Nat) : toInt o = (v : Int) ↔ o = some v := by
  cases o with
  | none => exact ⟨fun h => absurd (Int.natCast_nonneg v) (by rw [← h]; decide), nofun⟩
  | some w => exact ⟨fun h => congrArg some (Int.ofNat.inj h), fun h => by cases h; rfl⟩

theorem toInt_eq_neg_one_iff (o : Option Nat) : toInt o = -1 ↔ o = none := by
  cases o with
  | none => exact ⟨fun _ => rfl, fun _ => rfl⟩
  | some v => exact ⟨fun h => absurd (Int.natCast_nonneg v) (by rw [show (v : Int) = -1 from h]; decide), nofun⟩

theorem toInt_ge (o : Option Nat) : -1 ≤ toInt o := by
  cases o with
  | none => exact Int.le_refl _
  | some v => exact Int.le_trans (by decide) (Int.natCast_nonneg v)

open BbRe.Lemmas.TrieLongest
/-! The specification's map is an association list: `get` is `AL.get`, `erase` is `AL.delAll`. -/

theorem get_eq (m : PrefixMap) (k : Key) : get m k = AL.get k m := by
  induction m with
  | nil => rfl
  | cons e r ih => rw [get_cons, ih]; rfl

theorem erase_eq (m : PrefixMap) (k : Key) : erase m k = AL.delAll k m :=
  (AL.delAll_eq_filter k m).symm

theorem get_erase (m : PrefixMap) (k k' : Key) :
    get (erase m k) k' = if k' = k then none else get m k' := by
  rw [get_eq, get_eq, erase_eq]; exact AL.get_delAll ..

theorem get_set (m : PrefixMap) (k : Key) (v : Nat) (k' : Key) :
    get (set m k v) k' = if k' = k then some v else get m k' := by
  show get ((k, v) :: erase m k) k' = _
  rw [get_cons, get_erase]
  split
  · next h => rw [if_pos h.symm]
  · next h => rw [if_neg (Ne.symm h), if_neg (Ne.symm h)]

theorem toInt_longestPrefixFrom (m : PrefixMap) (plat : Plat) (pre rest : List Comp) :
    toInt (longestPrefixFrom m plat pre rest) = lp (fun q => toInt (get m ⟨pre ++ q, plat⟩)) rest := by
  induction rest generalizing pre with
  | nil => rw [lp_nil, List.append_nil]; rfl
  | cons c cs ih =>
    have := ih (pre ++ [c])
    simp only [List.append_assoc, List.cons_append, List.nil_append] at this
    rw [lp_cons, ← this, List.append_nil, longestPrefixFrom]
    cases longestPrefixFrom m plat (pre ++ [c]) cs with
    | none => rfl
    | some w => exact (if_pos (Int.natCast_nonneg w)).symm

theorem longestPrefixFrom_some_iff (m : PrefixMap) (plat : Plat) (pre rest : List Comp) (v : Nat) :
    longestPrefixFrom m plat pre rest = some v ↔
      ∃ q, q <+: rest ∧ get m ⟨pre ++ q, plat⟩ = some v ∧
        ∀ q', q' <+: rest → q.length < q'.length → get m ⟨pre ++ q', plat⟩ = none := by
  rw [← toInt_eq_natCast, toInt_longestPrefixFrom, lp_eq_iff _ _ (Int.natCast_nonneg v)]
  simp only [toInt_eq_natCast, toInt_neg_iff]

theorem longestPrefixFrom_none_iff (m : PrefixMap) (plat : Plat) (pre rest : List Comp) :
    longestPrefixFrom m plat pre rest = none ↔ ∀ q, q <+: rest → get m ⟨pre ++ q, plat⟩ = none := by
  rw [← toInt_neg_iff, toInt_longestPrefixFrom, lp_neg_iff]
  simp only [toInt_neg_iff]

end BbRe.Lemmas.TriePrefixMap
