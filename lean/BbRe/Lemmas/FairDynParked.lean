import BbRe.Lemmas.FairDynTree
import BbRe.Lemmas.FairHandoffLive
/-!
The third heap, `idleSynchronizingWorkersChildren`.  Its `Less` is not a strict weak order
(`idleLess_not_strictWeak`), so the heap property is *not* an invariant of the update functions.
What does hold, for any comparison whatsoever: every update permutes the references and the heap
lists exactly the children that have parked workers at or below them, without duplicates
(`ParkedTree`) — which is what the hand-off theorems need (`ParkedListed`, `ParkedSound`).
-/
namespace BbRe.Lemmas.Fair
open BbRe.Fair BbRe.GoHeap BbRe.Lemmas.GoHeap

structure POk (P : Inv) : Prop where
  keys : (P.kids.map Inv.key).Nodup
  pnodup : P.parkedKids.Nodup
  psub : ∀ k ∈ P.parkedKids, ∃ c ∈ P.kids, c.key = k ∧ c.hasParked = true
  psup : ∀ c ∈ P.kids, c.hasParked = true → c.key ∈ P.parkedKids

inductive ParkedTree : Inv → Prop
  | mk (t : Inv) (ok : POk t) (kids : ∀ c ∈ t.kids, ParkedTree c) : ParkedTree t

theorem parkedTree_iff (t : Inv) : ParkedTree t ↔ POk t ∧ ∀ c ∈ t.kids, ParkedTree c :=
  ⟨fun h => by cases h with | mk _ h1 h2 => exact ⟨h1, h2⟩, fun h => ParkedTree.mk t h.1 h.2⟩

theorem ParkedTree.child {t c : Inv} {k : Nat} (h : ParkedTree t) (hck : t.child k = some c) : ParkedTree c :=
  ((parkedTree_iff t).mp h).2 c (mem_of_child t k c hck).1

theorem POk.listed {P : Inv} (h : POk P) : Listed Inv.hasParked P.kids P.parkedKids :=
  ⟨h.keys, h.pnodup, h.psub, h.psup⟩

theorem POk.of_listed {N : Inv} {kids : List Inv} {q : List Nat} (hk : N.kids = kids) (hq : N.parkedKids = q)
    (h : Listed Inv.hasParked kids q) : POk N :=
  ⟨hk ▸ h.keys, hq ▸ h.nodup, hk ▸ hq ▸ h.sub, hk ▸ hq ▸ h.sup⟩

theorem parkedTree_congr (i j : Inv) (hk : j.kids = i.kids) (hq : j.parkedKids = i.parkedKids)
    (h : ParkedTree i) : ParkedTree j := by
  rw [parkedTree_iff] at h ⊢
  exact ⟨.of_listed hk hq h.1.listed, by rw [hk]; exact h.2⟩

theorem parkedTree_of_level (P c'' N : Inv) (hP : ParkedTree P) (hc'' : ParkedTree c'') (hN : POk N)
    (hNk : N.kids = replaceKid P.kids c'') : ParkedTree N := by
  rw [parkedTree_iff]
  rw [hNk]
  exact ⟨hN, forall_mem_replaceKid ((parkedTree_iff P).mp hP).2 hc''⟩

theorem hasParked_congr (i j : Inv) (hp : j.parked = i.parked) (hq : j.parkedKids = i.parkedKids) :
    j.hasParked = i.hasParked := by unfold Inv.hasParked; rw [hp, hq]

theorem hasParked_of_mem (N : Inv) (k : Nat) (h : k ∈ N.parkedKids) : N.hasParked = true := by
  unfold Inv.hasParked
  cases hq : N.parkedKids with
  | nil => rw [hq] at h; cases h
  | cons _ _ => simp

/-! ### the hypotheses of the hand-off theorems -/

theorem parkedTree_nodeAt (p : List Nat) (t n : Inv) (ht : ParkedTree t) (h : nodeAt t p = some n) : ParkedTree n :=
  nodeAt_induct ParkedTree (fun _ _ _ ht hck => ht.child hck) p t n ht h

theorem parkedListed_of_tree (t : Inv) (h : ParkedTree t) : ParkedListed t := by
  intro p n hn k c hc hp
  have hq := ((parkedTree_iff n).mp (parkedTree_nodeAt p t n h hn)).1
  obtain ⟨hcm, hck⟩ := mem_of_child n k c hc
  rw [← hck]; exact hq.psup c hcm hp

theorem parkedSound_of_tree (t : Inv) (h : ParkedTree t) : ParkedSound t := by
  intro p n hn k hk
  have hq := ((parkedTree_iff n).mp (parkedTree_nodeAt p t n h hn)).1
  obtain ⟨c, hc, hck, hcp⟩ := hq.psub k hk
  exact ⟨c, by rw [← hck]; exact child_of_mem n hq.keys c hc, hcp⟩

theorem hasParked_of_path (p : List Nat) (c n : Inv) (hc : ParkedTree c) (h : nodeAt c p = some n) (hne : n.parked ≠ []) :
    c.hasParked = true :=
  hasParked_of_below c (parkedListed_of_tree c hc) p [] c n rfl h hne

theorem park_spec (w : Nat) : ∀ (path : List Nat) (t : Inv), ParkedTree t → (nodeAt t path).isSome = true →
    ParkedTree (park w path t) ∧ (park w path t).key = t.key ∧ (park w path t).hasParked = true := by
  intro path t ht hv
  refine updatePath_induct (fun p t => ParkedTree t ∧ (nodeAt t p).isSome = true)
    (fun t t' => ParkedTree t' ∧ t'.key = t.key ∧ t'.hasParked = true) ?_ ?_ ?_ ?_ path t ⟨ht, hv⟩
  · rintro t ⟨ht, _⟩
    refine ⟨parkedTree_congr t _ (by simp) (by simp) ht, by simp, ?_⟩
    unfold Inv.hasParked
    simp
  · rintro k p t ⟨_, hv⟩ hck
    rw [nodeAt_cons_none p hck] at hv; cases hv
  · rintro k p t c ⟨ht, hv⟩ hck
    exact ⟨ht.child hck, by rwa [nodeAt_cons_some p hck] at hv⟩
  · rintro k p t c c' ⟨ht, _⟩ hck ⟨hc't, hc'k, hc'q⟩
    obtain ⟨hcmem, _⟩ := mem_of_child t k c hck
    have hq := (parkedTree_iff t).mp ht
    have hN : POk (upPark t c') := by
      unfold upPark pushOrFix
      simp only []
      rw [hc'k]
      cases hidx : refIndex t.parkedKids c.key with
      | none =>
        rw [← hc'k]
        exact .of_listed (by simp [storeKid]) (by simp)
          (hq.1.listed.push (iLess (storeKid t c').kids) hcmem hc'k hidx hc'q)
      | some idx =>
        exact .of_listed (by simp [storeKid]) (by simp)
          (hq.1.listed.fix (iLess (storeKid t c').kids) hcmem hc'k hidx hc'q)
    have hNk : (upPark t c').kids = replaceKid t.kids c' := by simp [upPark, storeKid]
    refine ⟨parkedTree_of_level t c' _ ht hc't hN hNk, by simp [upPark, storeKid], ?_⟩
    apply hasParked_of_mem _ c'.key
    apply hN.psup c' _ hc'q
    rw [hNk]; exact (mem_replaceKid _ _ _).mpr (Or.inl ⟨rfl, c, hcmem, hc'k.symm⟩)

theorem hasParked_iff_count (c : Inv) : c.hasParked = true ↔ 0 < c.parked.length + c.parkedKids.length := by
  unfold Inv.hasParked
  cases c.parked <;> cases c.parkedKids <;> simp <;> omega

theorem unpark_spec (idx : Nat) : ∀ (path : List Nat) (t n : Inv), ParkedTree t → nodeAt t path = some n →
    n.parked ≠ [] → ParkedTree (unpark idx path t) ∧ (unpark idx path t).key = t.key := by
  intro path t n ht hn hne
  refine updatePath_induct (fun p t => ParkedTree t ∧ nodeAt t p = some n)
    (fun t t' => ParkedTree t' ∧ t'.key = t.key) ?_ ?_ ?_ ?_ path t ⟨ht, hn⟩
  · rintro t ⟨ht, _⟩
    exact ⟨parkedTree_congr t _ (by simp) (by simp) ht, by simp⟩
  · rintro k p t ⟨_, hn⟩ hck
    rw [nodeAt_cons_none p hck] at hn; cases hn
  · rintro k p t c ⟨ht, hn⟩ hck
    exact ⟨ht.child hck, by rwa [nodeAt_cons_some p hck] at hn⟩
  · rintro k p t c c' ⟨ht, hn⟩ hck ⟨hc't, hc'k⟩
    have hnc : nodeAt c p = some n := by rwa [nodeAt_cons_some p hck] at hn
    obtain ⟨hcmem, _⟩ := mem_of_child t k c hck
    have hq := (parkedTree_iff t).mp ht
    have hcp : c.hasParked = true := hasParked_of_path p c n (hq.2 c hcmem) hnc hne
    have hkin : c.key ∈ t.parkedKids := hq.1.psup c hcmem hcp
    have hNk : (upUnpark t c').kids = replaceKid t.kids c' := by
      unfold upUnpark; simp only []; split <;> simp [storeKid]
    have hN : POk (upUnpark t c') := by
      cases hidx : refIndex t.parkedKids c.key with
      | none => exact absurd hkin ((refIndex_none_iff _ _).mp hidx)
      | some j =>
        have hNq : (upUnpark t c').parkedKids =
            (removeOrFix (iLess (replaceKid t.kids c')) t.parkedKids.toArray j
              (c'.parked.length + c'.parkedKids.length)).toList := by
          unfold upUnpark; simp only []; rw [hc'k, hidx]; simp [storeKid]
        unfold removeOrFix at hNq
        by_cases hcount : c'.parked.length + c'.parkedKids.length > 0
        · rw [if_pos hcount] at hNq
          exact .of_listed hNk hNq (hq.1.listed.fix _ hcmem hc'k hidx ((hasParked_iff_count c').mpr hcount))
        · rw [if_neg hcount] at hNq
          have : c'.hasParked = false := by
            cases h : c'.hasParked with
            | false => rfl
            | true => exact absurd ((hasParked_iff_count c').mp h) hcount
          exact .of_listed hNk hNq (hq.1.listed.remove _ hcmem hc'k hidx this)
    refine ⟨parkedTree_of_level t c' _ ht hc't hN hNk, ?_⟩
    unfold upUnpark; simp only []; split <;> simp [storeKid]

theorem rekey_parked (legacy : Bool) (g : Inv → Inv) (hg : KeyOnly g) : ∀ (path : List Nat) (t : Inv), ParkedTree t →
    ParkedTree (rekey legacy g path t) ∧ (rekey legacy g path t).key = t.key ∧
      (rekey legacy g path t).hasParked = t.hasParked := by
  refine updatePath_induct (fun _ t => ParkedTree t)
    (fun t t' => ParkedTree t' ∧ t'.key = t.key ∧ t'.hasParked = t.hasParked) ?_ (fun _ _ _ ht _ => ⟨ht, rfl, rfl⟩)
    (fun _ _ _ _ ht hck => ht.child hck) ?_
  · intro t ht
    exact ⟨parkedTree_congr t _ (hg.kids t) (hg.parkedKids t) ht, hg.key t,
      hasParked_congr t _ (hg.parked t) (hg.parkedKids t)⟩
  · rintro k p t c c' ht hck ⟨hc't, hc'k, hc'q⟩
    obtain ⟨hcmem, _⟩ := mem_of_child t k c hck
    have hq := (parkedTree_iff t).mp ht
    have hmq := hq.1.listed.mem_iff hcmem
    obtain ⟨hrk, _, _, hrkey, hrp, hrq⟩ := upRekey_fields legacy g hg t c'
    rw [hc'k] at hrq
    generalize upRekey legacy g t c' = res at hrk hrkey hrp hrq
    have hN : POk res := by
      cases hidx : refIndex t.parkedKids c.key with
      | none =>
        rw [hidx] at hrq
        exact .of_listed hrk (by simpa [maybeFix] using hrq) (hq.1.listed.same hcmem hc'k hc'q)
      | some idx =>
        rw [hidx] at hrq
        have : c'.hasParked = true := by rw [hc'q]; exact hmq.mp (mem_of_refIndex _ _ _ hidx)
        exact .of_listed hrk (by simpa [maybeFix] using hrq) (hq.1.listed.fix _ hcmem hc'k hidx this)
    refine ⟨parkedTree_of_level t c' res ht hc't hN hrk, hrkey, ?_⟩
    unfold Inv.hasParked
    rw [hrp]
    congr 2
    rw [hrq]
    -- `Fix` keeps the length, hence emptiness
    unfold maybeFix
    split
    · simp
    · rename_i j _
      rw [Bool.eq_iff_iff, List.isEmpty_iff_length_eq_zero, List.isEmpty_iff_length_eq_zero, Array.length_toList,
        fix_size, List.size_toArray]

/-- Walks that do not touch the parked workers (`enqueue`, `removeQueuedFromInvocation`). -/
theorem parked_frame (leaf : Inv → Inv) (up : Inv → Inv → Inv) (adj : Inv → Inv)
    (hl : ∀ i, ParkedTree i → ParkedTree (leaf i) ∧ (leaf i).key = i.key ∧ (leaf i).hasParked = i.hasParked)
    (ha : ∀ i, (adj i).key = i.key ∧ (adj i).kids = i.kids ∧ (adj i).parked = i.parked ∧
      (adj i).parkedKids = i.parkedKids)
    (hu : ∀ P c', (up P c').key = P.key ∧ (up P c').kids = replaceKid P.kids (adj c') ∧
      (up P c').parked = P.parked ∧ (up P c').parkedKids = P.parkedKids) :
    ∀ (path : List Nat) (t : Inv), ParkedTree t →
      ParkedTree (updatePath leaf up path t) ∧ (updatePath leaf up path t).key = t.key ∧
      (updatePath leaf up path t).hasParked = t.hasParked := by
  refine updatePath_induct (fun _ t => ParkedTree t)
    (fun t t' => ParkedTree t' ∧ t'.key = t.key ∧ t'.hasParked = t.hasParked) hl (fun _ _ _ ht _ => ⟨ht, rfl, rfl⟩)
    (fun _ _ _ _ ht hck => ht.child hck) ?_
  · rintro k p t c c' ht hck ⟨hc't, hc'k, hc'q⟩
    obtain ⟨hcmem, _⟩ := mem_of_child t k c hck
    have hq := (parkedTree_iff t).mp ht
    obtain ⟨a1, a2, a3, a4⟩ := ha c'
    obtain ⟨u1, u2, u3, u4⟩ := hu t c'
    have hN : POk (up t c') :=
      .of_listed u2 u4 (hq.1.listed.same hcmem (by rw [a1, hc'k]) (by rw [hasParked_congr c' _ a3 a4, hc'q]))
    exact ⟨parkedTree_of_level t (adj c') _ ht (parkedTree_congr c' _ a2 a4 hc't) hN u2, u1,
      hasParked_congr t _ u3 u4⟩

/-- A first step that does not touch the parked workers. -/
theorem parked_setOps (f : Inv → List Op) (i : Inv) (h : ParkedTree i) :
    ParkedTree (i.setOps (f i)) ∧ (i.setOps (f i)).key = i.key ∧ (i.setOps (f i)).hasParked = i.hasParked :=
  ⟨parkedTree_congr i _ (by simp) (by simp) h, by simp, hasParked_congr i _ (by simp) (by simp)⟩

theorem parked_enqueue (o : Op) (path : List Nat) (t : Inv) (h : ParkedTree t) : ParkedTree (enqueue path o t) :=
  (parked_frame _ upEnqueue updateFirstOperationPriority (parked_setOps _)
    (fun i => by obtain ⟨f1, f2, _, _, _, _, f7, f8⟩ := updateFirst_fields i; exact ⟨f1, f2, f7, f8⟩)
    (by intro P c'; simp [upEnqueue, storeKid]) path t h).1

theorem parked_removeQueued (idx : Nat) (path : List Nat) (t : Inv) (h : ParkedTree t) :
    ParkedTree (removeQueued path idx t) :=
  (parked_frame _ upRemove updateFirstOperationPriority (parked_setOps _)
    (fun i => by obtain ⟨f1, f2, _, _, _, _, f7, f8⟩ := updateFirst_fields i; exact ⟨f1, f2, f7, f8⟩)
    (by intro P c'; unfold upRemove; simp only []; split <;> simp [storeKid]) path t h).1

end BbRe.Lemmas.Fair
