import BbRe.Lemmas.SchedLiveClean10
import BbRe.Lemmas.SchedLiveSleep
/-!
The four timed failures (C06): what each cleanup callback does to its object,
that nothing runs before its deadline, and the retry limit.
-/
namespace BbRe.Lemmas.SchedLive
open BbRe.Sched

/-- a final completion stores exactly the given response; the task keeps its key and loses its worker -/
theorem succS_final {s : State} {tid : Nat} {t : Task} (hk : KeysOK s) (h0 : s.task? tid = some t) (ev : Event) (r : Resp) :
    ∃ t', (succS (detachW s t) (detachT t) ev r).task? tid = some t' ∧ t'.response = some r ∧ t'.worker = none ∧
      (∀ k, k ≠ tid → (succS (detachW s t) (detachT t) ev r).task? k = s.task? k) := by
  have hid := (hk.tid tid t h0).1
  refine ⟨bumpGen { detachT t with learner := none, response := some r }, ?_, rfl, by simp [bumpGen], ?_⟩
  · simp [State.task?, alookup_aset, bumpGen, hid]
  · intro k hk'
    simp only [State.task?, succS_tasks, alookup_aset, detachT_id, detachW_tasks, hid]
    simp [Ne.symm hk']

/-- a scheduler-made (non-success, not by the worker) completion of an uncompleted task stores exactly the
given response; the task keeps its key -/
theorem complete_fail_final {h : Hints} {s s' : State} {tid : Nat} {r : Resp} {t : Task} (hk : KeysOK s)
    (h0 : s.task? tid = some t) (hr : t.response = none) (hns : ¬ isSucc r)
    (hh : complete h s tid r false = .ok s') :
    ∃ t', s'.task? tid = some t' ∧ t'.response = some r ∧ t'.worker = none ∧
      (∀ k, k ≠ tid → s'.task? k = s.task? k) := by
  obtain ⟨t0, h0', ⟨hsome, _⟩ | ⟨_, l, _, h1 | h1 | h1⟩⟩ := complete_ok hh
  all_goals (rw [h0] at h0'; injection h0' with h0'; subst h0')
  · rw [hr] at hsome; cases hsome
  · exact absurd h1.1 hns
  · cases h1.2.1
  · obtain ⟨_, _, ev, _, rfl⟩ := h1
    exact succS_final hk h0 ev r

/-- **not earlier**: when no entry is due, `enter` only advances the clock -/
theorem enter_nothing_due {h : Hints} {s : State} {now : Nat} (hn : ∀ e ∈ s.cleanup, now < e.deadline) :
    enter h s now = .ok (if now > s.now then setNow s now else s) := by
  unfold enter
  split
  · unfold cleanupFuel
    rw [runCleanup_succ]
    have : popDue now s.cleanup = none := popDue_none.2 hn
    simp only [setNow, *]
    rfl
  · rfl

/-- a callback only ever runs for an entry whose deadline has passed, and for the earliest such entry -/
theorem callback_only_when_due {s : State} {e : CleanupEntry} {rest : List CleanupEntry}
    (hp : popDue s.now s.cleanup = some (e, rest)) :
    e ∈ s.cleanup ∧ e.deadline ≤ s.now ∧ ∀ x ∈ s.cleanup, x.deadline ≤ s.now → e.deadline ≤ x.deadline := by
  obtain ⟨a, b, c, _⟩ := popDue_some hp; exact ⟨a, b, c⟩

theorem worker?_filterWorkers (s : State) (q : ScqId) (w : WId) : (filterWorkers s q w).worker? q w = none := by
  unfold State.worker?
  rw [List.find?_eq_none]
  intro x hx
  have := (List.mem_filter.1 hx).2
  simp only [decide_eq_true_eq] at this
  simpa using this

theorem dropWorker_worker? (s : State) (q : ScqId) (w : WId) (rt : Nat) : (dropWorker s q w rt).worker? q w = none := by
  rw [worker?_congr (dropWorker_workers s q w rt)]; exact worker?_filterWorkers s q w

/-- **worker timeout** (callback): the stale worker is removed and the task it held — if still
uncompleted — is completed with `UNAVAILABLE`, cause `workerDisappeared`. -/
theorem stale_worker_callback {h : Hints} {s s' : State} {q : ScqId} {w : WId} {rt : Nat} (hk : KeysOK s)
    (hh : removeStaleWorker h s q w rt = .ok s') :
    s'.worker? q w = none ∧
    ∀ wk tid t, s.worker? q w = some wk → wk.task = some tid → s.task? tid = some t → t.response = none →
      ∃ t', s'.task? tid = some t' ∧ t'.response = some ⟨cUnavailable, 0, 0, .workerDisappeared⟩ := by
  rcases removeStaleWorker_ok hh with ⟨hn, rfl⟩ | ⟨wk, s1, hwk, h1, rfl⟩
  · exact ⟨hn, fun wk tid t e => by rw [hn] at e; cases e⟩
  · refine ⟨dropWorker_worker? s1 q w rt, ?_⟩
    intro wk' tid t e htk h0 hr
    rw [hwk] at e; injection e with e; subst e
    rcases h1 with ⟨tid', htk', h1⟩ | ⟨hnone, _⟩
    · rw [htk] at htk'; injection htk' with htk'; subst htk'
      obtain ⟨t', e1, e2, _⟩ := complete_fail_final hk h0 hr (by simp [isSucc, cUnavailable, cOK]) h1
      exact ⟨t', by simpa [State.task?] using e1, e2⟩
    · rw [htk] at hnone; cases hnone

/-- **no-waiter timeout** (callback): the operation is removed; if it was the last operation of its task
the task is completed with `CANCELED`, cause `noWaiters`, and dropped. -/
theorem op_callback {h : Hints} {s s' : State} {o : Nat} (hk : KeysOK s) (hh : removeOp h s o = .ok s') :
    s'.op? o = none ∧
    ∀ op t, s.op? o = some op → s.task? op.task = some t →
      (t.ops = [o] → t.response = none →
        (∃ s1 t1, complete h (eraseOp s o) op.task ⟨cCanceled, 0, 0, .noWaiters⟩ false = .ok s1 ∧
          s1.task? op.task = some t1 ∧ t1.response = some ⟨cCanceled, 0, 0, .noWaiters⟩ ∧ t1.worker = none) ∧
        s'.task? op.task = none) := by
  rcases removeOp_ok hh with ⟨hn, rfl⟩ | ⟨op, t, s1, t1, hop, ht, h1, h2, rfl⟩
  · exact ⟨hn, fun op t e => by rw [hn] at e; cases e⟩
  · have hkE : KeysOK (eraseOp s o) := (eraseOp_tstep True s o hk).1
    have hlt : o < s.nextOp := (hk.oname o op hop).2.1
    have hnoE : (eraseOp s o).op? o = none := by simp [State.op?, alookup_aerase _ _ _ hk.onodup]
    have hk1 : KeysOK s1 ∧ s1.op? o = none := by
      rcases h1 with ⟨_, h1⟩ | ⟨_, rfl⟩
      · obtain ⟨k1, rel⟩ := complete_tstep h1 hkE
        refine ⟨k1, ?_⟩
        cases hs : s1.op? o with
        | none => rfl
        | some op1 => obtain ⟨op0, e0, _⟩ := rel.ops o op1 hlt hs; rw [hnoE] at e0; cases e0
      · exact ⟨hkE, hnoE⟩
    refine ⟨by simpa [State.op?] using hk1.2, ?_⟩
    intro op' t' e1 e2 hops hr
    rw [hop] at e1; injection e1 with e1; subst e1
    rw [ht] at e2; injection e2 with e2; subst e2
    have hid := (hk.tid _ _ ht).1
    rcases h1 with ⟨_, h1⟩ | ⟨hne, _⟩
    · rw [hid] at h1
      have htE : (eraseOp s o).task? op.task = some t := ht
      obtain ⟨t1', e3, e4, e5, _⟩ := complete_fail_final hkE htE hr (by simp [isSucc, cCanceled, cOK]) h1
      rw [h2] at e3; injection e3 with e3; subst e3
      refine ⟨⟨s1, t1, h1, h2, e4, e5⟩, ?_⟩
      -- the task's only operation is gone: the task is dropped
      have hops1 : t1.ops = [o] := by
        obtain ⟨_, rel⟩ := complete_tstep h1 hkE
        -- `complete` keeps the operation list; read it off the final task
        obtain ⟨t0, h0', _ | ⟨_, l, _, hc | hc | hc⟩⟩ := complete_ok h1
        · rename_i hx; rw [htE] at h0'; injection h0' with h0'; subst h0'; rw [hr] at hx; cases hx.1
        · exact absurd hc.1 (by simp [isSucc, cCanceled, cOK])
        · cases hc.2.1
        · rw [htE] at h0'; injection h0' with h0'; subst h0'
          obtain ⟨_, _, ev, _, rfl⟩ := hc
          simp only [State.task?, succS_tasks, alookup_aset, detachT_id, hid, if_true, Option.some.injEq] at h2
          subst h2; simp [bumpGen, hops]
      have hid1 := (hk1.1.tid _ _ h2).1
      unfold dropOpT
      simp [hops1, State.task?, hid1, alookup_aerase _ _ _ hk1.1.tnodup]
    · rw [hops] at hne; simp at hne

/-- **retry limit**: a worker that re-requests its task once too often gets the task failed with
`INTERNAL`, cause `retryLimit`; below the limit the task is re-issued and the counter incremented. -/
theorem retry_limit_step {h : Hints} {s s' : State} {q : ScqId} {w : WId} {pi block : Bool} {wk : Worker} {tid : Nat}
    {t : Task} (hwk : s.worker? q w = some wk) (htk : wk.task = some tid) (h0 : s.task? tid = some t)
    (hh : getCurrentOrNext h s q w pi block = .ok s') :
    (t.retry < s.cfg.retryCount →
      s' = syncReturn (emit (s.setTask { t with retry := t.retry + 1 })
            (.syncExecute q w t.digest (s.now + s.cfg.busyInterval))) q w) ∧
    (¬ t.retry < s.cfg.retryCount →
      ∃ s1, complete h s tid ⟨cInternal, 0, 0, .retryLimit⟩ false = .ok s1 ∧ getNextTask h s1 q w pi block = .ok s') := by
  obtain ⟨wk', hwk', h1 | h1⟩ := getCurrentOrNext_ok hh
  · rw [hwk] at hwk'; injection hwk' with e; subst e; rw [htk] at h1; cases h1.1
  · obtain ⟨tid', t', htk', h0', h2⟩ := h1
    rw [hwk] at hwk'; injection hwk' with e; subst e
    rw [htk] at htk'; injection htk' with e; subst e
    rw [h0] at h0'; injection h0' with e; subst e
    rcases h2 with ⟨hlt, rfl⟩ | ⟨hge, s1, h3, h4⟩
    · exact ⟨fun _ => rfl, fun hn => absurd hlt hn⟩
    · exact ⟨fun hl => absurd hl hge, fun _ => ⟨s1, h3, h4⟩⟩

/-- **queue timeout** (callback): the worker-created queue is removed … -/
theorem scq_callback_removed {h : Hints} {s s' : State} {q : ScqId} (hh : removeScq h s q = .ok s') :
    s'.scq? q = none := by
  obtain ⟨s1, _, rfl⟩ := removeScq_ok hh
  simp only [State.scq?, dropScq_scqs]
  exact find?_filter_self

end BbRe.Lemmas.SchedLive
