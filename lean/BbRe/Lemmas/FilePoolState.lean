import BbRe.Lemmas.FilePoolOps
/-!
The pool-wide invariant `Inv` (sector conservation + isolation of sector lists) and how it is
re-established when one file and the allocated list change together (`inv_of_part`) or a file is
added (`inv_new`).  `step` in one normal form, which is how every later file takes a step apart:
`step_new`, `step_notOpen`, `step_open` (every operation on an open file is `fileOp`, store the
environment, replace the file, `finish`), with `step_elim` as the rule for a property of the state
afterwards; `run_ind` is the induction over a history.  That every step keeps `Inv` is `inv_step` in
`FilePoolState2.lean`, where what the operations guarantee about a file is available.
-/
namespace BbRe.Lemmas.FilePool
open BbRe.FilePool

structure Inv (st : State) : Prop where
  /-- every sector referenced by a file is allocated -/
  owned : ∀ (i : Nat) (f : File), st.files[i]? = some f → ∀ s ∈ f.sectors, s ≠ 0 → s ∈ st.allocd
  /-- within a file no sector occurs twice -/
  nodup : ∀ (i : Nat) (f : File), st.files[i]? = some f → (nz f.sectors).Nodup
  /-- no sector is referenced by two files -/
  disjoint : ∀ (i j : Nat) (f g : File), i ≠ j → st.files[i]? = some f → st.files[j]? = some g →
    ∀ s, s ≠ 0 → s ∈ f.sectors → s ∉ g.sectors
  /-- every allocated sector is referenced by a file -/
  noLeak : ∀ s ∈ st.allocd, ∃ (i : Nat) (f : File), st.files[i]? = some f ∧ s ∈ f.sectors
  allocNodup : st.allocd.Nodup
  allocRange : ∀ s ∈ st.allocd, 1 ≤ s ∧ s ≤ st.cfg.nsec
  /-- no sector was ever freed while not allocated -/
  noDoubleFree : st.dfree = false
  closedEmpty : ∀ (i : Nat) (f : File), st.files[i]? = some f → f.closed = true → f.sectors = []
  ssPos : 0 < st.cfg.ss

/-- the non-zero sectors of the files other than `i`. -/
def Oth (st : State) (i : Nat) (s : Nat) : Prop :=
  ∃ (j : Nat) (g : File), j ≠ i ∧ st.files[j]? = some g ∧ s ∈ g.sectors ∧ s ≠ 0

theorem inv_part {st : State} (h : Inv st) {i : Nat} {f : File} (hf : st.files[i]? = some f) :
    Part st.cfg.nsec (Oth st i) st.allocd (nz f.sectors) := by
  refine ⟨h.allocNodup, h.nodup i f hf, ?_, ?_, h.allocRange⟩
  · intro s
    constructor
    · intro hs
      obtain ⟨j, g, hg, hsg⟩ := h.noLeak s hs
      have hs0 : s ≠ 0 := by have := h.allocRange s hs; omega
      by_cases hji : j = i
      · subst hji
        rw [hf] at hg; cases hg
        exact Or.inl (mem_nz.mpr ⟨hsg, hs0⟩)
      · exact Or.inr ⟨j, g, hji, hg, hsg, hs0⟩
    · rintro (hs | ⟨j, g, _, hg, hsg, hs0⟩)
      · exact h.owned i f hf s (mem_nz.mp hs).1 (mem_nz.mp hs).2
      · exact h.owned j g hg s hsg hs0
  · rintro s hs ⟨j, g, hji, hg, hsg, hs0⟩
    exact h.disjoint i j f g (Ne.symm hji) hf hg s hs0 (mem_nz.mp hs).1 hsg

theorem getElem?_set_some {l : List File} {i j : Nat} {f' g : File} (hi : i < l.length)
    (h : (l.set i f')[j]? = some g) : (j = i ∧ g = f') ∨ (j ≠ i ∧ l[j]? = some g) := by
  rw [List.getElem?_set] at h
  split at h
  · rename_i hij
    subst hij
    simp only [Option.some.injEq] at h
    exact Or.inl ⟨rfl, h.symm⟩
  · rename_i hij
    exact Or.inr ⟨fun e => hij e.symm, h⟩

/-- a property of every file survives replacing file `i` by one that has it ... -/
theorem forall_set {l : List File} {i : Nat} {f' : File} (hi : i < l.length) {P : File → Prop} (hf' : P f')
    (hoth : ∀ (j : Nat) (g : File), j ≠ i → l[j]? = some g → P g) :
    ∀ (j : Nat) (g : File), (l.set i f')[j]? = some g → P g := by
  intro j g hg
  rcases getElem?_set_some hi hg with ⟨rfl, rfl⟩ | ⟨hji, hg'⟩
  · exact hf'
  · exact hoth j g hji hg'

theorem getElem?_snoc {l : List File} {x g : File} {j : Nat} (h : (l ++ [x])[j]? = some g) :
    l[j]? = some g ∨ g = x := by
  by_cases hj : j < l.length
  · rw [List.getElem?_append_left hj] at h; exact Or.inl h
  · rw [List.getElem?_append_right (Nat.le_of_not_lt hj)] at h
    exact Or.inr (List.mem_singleton.mp (List.mem_of_getElem? h))

/-- ... and appending one that has it. -/
theorem forall_snoc {l : List File} {x : File} {P : File → Prop} (h : ∀ (j : Nat) (g : File), l[j]? = some g → P g)
    (hx : P x) : ∀ (j : Nat) (g : File), (l ++ [x])[j]? = some g → P g := by
  intro j g hg
  rcases getElem?_snoc hg with h1 | rfl
  · exact h j g h1
  · exact hx

/-- Replacing file `i` by `f'` and the allocated list by `A'`, related by `Part` with the same
"other files" set, re-establishes the invariant. -/
theorem inv_of_part {st : State} (h : Inv st) {i : Nat} {f f' : File} (hf : st.files[i]? = some f)
    {A' : List Nat} {dev' : Array Byte}
    (hP : Part st.cfg.nsec (Oth st i) A' (nz f'.sectors)) (hc : f'.closed = true → f'.sectors = []) :
    Inv { st with dev := dev', allocd := A', dfree := false, files := st.files.set i f' } := by
  have hi : i < st.files.length := (List.getElem?_eq_some_iff.mp hf).1
  refine ⟨?_, forall_set hi hP.nodupF fun j g _ hg => h.nodup j g hg, ?_, ?_, hP.nodupA, hP.range, rfl,
    forall_set hi hc fun j g _ hg => h.closedEmpty j g hg, h.ssPos⟩
  · exact forall_set hi (fun s hs hs0 => (hP.mem s).mpr (Or.inl (mem_nz.mpr ⟨hs, hs0⟩)))
      fun j g hji hg s hs hs0 => (hP.mem s).mpr (Or.inr ⟨j, g, hji, hg, hs, hs0⟩)
  · intro j k g1 g2 hjk hg1 hg2 s hs0 hs1 hs2
    rcases getElem?_set_some hi hg1 with ⟨rfl, rfl⟩ | ⟨hji, hg1'⟩
    · rcases getElem?_set_some hi hg2 with ⟨rfl, rfl⟩ | ⟨hki, hg2'⟩
      · exact hjk rfl
      · exact hP.sep s (mem_nz.mpr ⟨hs1, hs0⟩) ⟨k, g2, hki, hg2', hs2, hs0⟩
    · rcases getElem?_set_some hi hg2 with ⟨rfl, rfl⟩ | ⟨hki, hg2'⟩
      · exact hP.sep s (mem_nz.mpr ⟨hs2, hs0⟩) ⟨j, g1, hji, hg1', hs1, hs0⟩
      · exact h.disjoint j k g1 g2 hjk hg1' hg2' s hs0 hs1 hs2
  · intro s hs
    rcases (hP.mem s).mp hs with h1 | ⟨j, g, hji, hg, hsg, _⟩
    · exact ⟨i, f', by rw [List.getElem?_set, if_pos rfl, if_pos hi], (mem_nz.mp h1).1⟩
    · exact ⟨j, g, by rw [List.getElem?_set, if_neg (Ne.symm hji)]; exact hg, hsg⟩

theorem file?_some {st : State} {i : Nat} {f : File} (h : st.file? i = some f) :
    st.files[i]? = some f ∧ f.closed = false := by
  unfold State.file? at h
  split at h
  · rename_i g hg
    split at h
    · simp at h
    · rename_i hc
      simp only [Option.some.injEq] at h; subst h
      exact ⟨hg, by simpa using hc⟩
  · simp at h

theorem finish_fst (e : Env) (st : State) (out : Out) : (finish e st out).1 = st := by
  unfold finish; split <;> rfl

theorem finish_snd (e : Env) (st : State) (out : Out) : (finish e st out).2 = out ∨ (finish e st out).2 = .leftover := by
  unfold finish; split
  · left; rfl
  · right; rfl

theorem finish_nil {e : Env} (h : e.answers = []) (st : State) (out : Out) : finish e st out = (st, out) := by
  unfold finish; rw [h]; rfl

/-- the open file `i` after it has been replaced by `f'` (still open). -/
theorem file?_set {st : State} {i : Nat} {f f' : File} (hf : st.file? i = some f) (e : Env)
    (hc : f'.closed = f.closed) :
    ({ st.put e with files := st.files.set i f' } : State).file? i = some f' := by
  have hfi := file?_some hf
  have hlen : i < st.files.length := (List.getElem?_eq_some_iff.mp hfi.1).1
  unfold State.file?
  dsimp only
  rw [List.getElem?_set, if_pos rfl, if_pos hlen]
  dsimp only
  rw [hc, hfi.2]; rfl

/-- which file an operation works on. -/
def opTarget : Op → Option Nat
  | .new _ _ => none
  | .read i _ _ => some i
  | .write i _ _ => some i
  | .trunc i _ => some i
  | .seek i _ _ => some i
  | .len i => some i
  | .close i => some i

/-- what `step` does with the open file `f` it is aimed at: the file afterwards, the
environment afterwards, the output (before `finish`). -/
def fileOp (c : Cfg) (f : File) (e : Env) : Op → File × Env × Out
  | .new _ _ => (f, e, .noFile)
  | .read _ off n => (f, (readAt c f e off n).1, .read (readAt c f e off n).2.1 (readAt c f e off n).2.2)
  | .write _ off p =>
    ((writeAt c f e p off).1, (writeAt c f e p off).2.1, .wrote (writeAt c f e p off).2.2.1 (writeAt c f e p off).2.2.2)
  | .trunc _ size => ((truncate c f e size).1, (truncate c f e size).2.1, .done (truncate c f e size).2.2)
  | .seek _ off data => (f, (seek c f e off data).1, .offset (seek c f e off data).2)
  | .len _ => (f, e, .len f.size)
  | .close _ => ((close f e).1, (close f e).2.1, .done (close f e).2.2)

theorem set_self {l : List File} {i : Nat} {f : File} (h : l[i]? = some f) : l.set i f = l := by
  obtain ⟨hi, rfl⟩ := List.getElem?_eq_some_iff.mp h
  exact List.set_getElem_self hi

/-! `step`, the three cases: a new file; an id that is not open; an open file, where every operation
has the same shape: run `fileOp`, store the environment, replace the file.  (`ReadAt`,
`GetNextRegionOffset` and `Len` fit the shape because putting a file back where it was changes nothing.) -/

theorem step_new (st : State) (hole : Hole) (size : Nat) (o : Oracle) :
    step st (.new hole size) o = finish (st.env o)
      { st with files := st.files ++ [{ sectors := [], size := size, hole := hole, closed := false }] }
      (.created st.files.length) := rfl

theorem step_notOpen {st : State} {op : Op} {i : Nat} (hop : opTarget op = some i) (hf : st.file? i = none)
    (o : Oracle) : step st op o = (st, .noFile) := by
  cases op <;> cases hop <;> rw [step, hf]

theorem step_open {st : State} {op : Op} {i : Nat} {f : File} (hop : opTarget op = some i)
    (hf : st.file? i = some f) (o : Oracle) :
    step st op o = finish (fileOp st.cfg f (st.env o) op).2.1
      { st.put (fileOp st.cfg f (st.env o) op).2.1 with files := st.files.set i (fileOp st.cfg f (st.env o) op).1 }
      (fileOp st.cfg f (st.env o) op).2.2 := by
  have hs := set_self (file?_some hf).1
  cases op <;> cases hop <;> rw [step, hf] <;> simp only [fileOp, hs] <;> rfl

/-- the three cases as an elimination rule for a property of the state after a step. -/
theorem step_elim (st : State) (op : Op) (o : Oracle) (Q : State → Prop)
    (hnew : ∀ hole size, op = .new hole size →
      Q { st with files := st.files ++ [{ sectors := [], size := size, hole := hole, closed := false }] })
    (hnone : Q st)
    (hopen : ∀ i f, st.file? i = some f → opTarget op = some i →
      Q { st.put (fileOp st.cfg f (st.env o) op).2.1 with files := st.files.set i (fileOp st.cfg f (st.env o) op).1 }) :
    Q (step st op o).1 := by
  cases hop : opTarget op with
  | none => cases op <;> cases hop; rw [step_new, finish_fst]; exact hnew _ _ rfl
  | some i =>
    cases hf : st.file? i with
    | none => rw [step_notOpen hop hf]; exact hnone
    | some f => rw [step_open hop hf, finish_fst]; exact hopen i f hf hop

theorem step_cfg (st : State) (op : Op) (o : Oracle) : (step st op o).1.cfg = st.cfg :=
  step_elim st op o (fun s => s.cfg = st.cfg) (fun _ _ _ => rfl) rfl (fun _ _ _ _ => rfl)

/-- what every step with an operation in `W` keeps holds after a history of such operations. -/
theorem run_ind (P : State → Prop) {W : Op → Prop}
    (hstep : ∀ (st : State) (op : Op) (o : Oracle), W op → P st → P (step st op o).1)
    (ops : List (Op × Oracle)) : ∀ {st : State}, (∀ x ∈ ops, W x.1) → P st → P (run st ops) := by
  induction ops with
  | nil => exact fun _ h => h
  | cons x xs ih =>
    exact fun hw h => ih (fun y hy => hw y (List.mem_cons_of_mem _ hy)) (hstep _ x.1 x.2 (hw x List.mem_cons_self) h)

/-- the configuration never changes -/
theorem run_cfg (ops : List (Op × Oracle)) (s : State) : (run s ops).cfg = s.cfg :=
  run_ind (fun s' => s'.cfg = s.cfg) (W := fun _ => True) (fun st op o _ h => (step_cfg st op o).trans h)
    ops (fun _ _ => trivial) rfl

theorem inv_init (c : Cfg) (hss : 0 < c.ss) : Inv (init c) := by
  refine ⟨?_, ?_, ?_, ?_, List.nodup_nil, ?_, rfl, ?_, hss⟩ <;> simp [init]

theorem inv_new {st : State} (h : Inv st) (hole : Hole) (size : Nat) :
    Inv { st with files := st.files ++ [{ sectors := [], size := size, hole := hole, closed := false }] } := by
  refine ⟨forall_snoc h.owned (fun _ hs => nomatch hs), forall_snoc h.nodup List.nodup_nil, ?_, ?_, h.allocNodup,
    h.allocRange, h.noDoubleFree, forall_snoc h.closedEmpty (fun _ => rfl), h.ssPos⟩
  · intro j k g1 g2 hjk hg1 hg2 s hs0 hs1 hs2
    rcases getElem?_snoc hg1 with h1 | rfl
    · rcases getElem?_snoc hg2 with h2 | rfl
      · exact h.disjoint j k g1 g2 hjk h1 h2 s hs0 hs1 hs2
      · cases hs2
    · cases hs1
  · intro s hs
    obtain ⟨j, g, hg, hsg⟩ := h.noLeak s hs
    exact ⟨j, g, by rw [List.getElem?_append_left (List.getElem?_eq_some_iff.mp hg).1]; exact hg, hsg⟩

end BbRe.Lemmas.FilePool
