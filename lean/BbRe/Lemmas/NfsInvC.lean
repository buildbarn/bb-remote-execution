import BbRe.Lemmas.NfsInvDefs
import BbRe.Lemmas.NfsActs
/-!
# Group C of the NFS core invariant: client records, hold counts, the idle list

`InvC` is preserved by every core action (`invC_apply`, `invC_applyAll`), holds
initially (`invC_init`); a held record survives every action (`held_survives`)
and is not in the idle list (`held_not_idle`).

Method: `InvCo s off` is `InvC s` with the hold-count equation shifted by an
integer offset per client id, `hold + off id = holdsOf s id`; it describes the
intermediate states of `holdBegin` / `holdEnd` / `ioBegin` / `ioEnd` / `touch`
(holder already appended / removed, record not yet updated).  Core Lean only.
-/
namespace BbRe.Lemmas.NfsInvC
open BbRe.NfsState BbRe.NfsShare BbRe.Lemmas.NfsInv BbRe.Lemmas.NfsActs

theorem uniq_id (l : List Client) (h : (l.map (·.id)).Nodup) :
    ∀ a ∈ l, ∀ b ∈ l, a.id = b.id → a = b :=
  fun _ ha _ hb e => eq_of_nodup_map (·.id) h ha hb e

theorem getClient_some (s : State) (cl : Nat) (c : Client) (h : s.getClient cl = some c) :
    c ∈ s.clients ∧ c.id = cl := NfsActs.getClient_some h

theorem getClient_none (s : State) (cl : Nat) (h : s.getClient cl = none) :
    ∀ c ∈ s.clients, c.id ≠ cl := by
  unfold State.getClient at h
  rw [List.find?_eq_none] at h
  intro c hc
  simpa using h c hc

/-! ## The shifted invariant -/

structure InvCo (s : State) (off : Nat → Int) : Prop where
  clNodup : (s.clients.map (·.id)).Nodup
  clLt : ∀ c ∈ s.clients, c.id < s.nextId
  holderTagNodup : (s.holders.map (·.tag)).Nodup
  ioTagNodupC : (s.ios.map (·.tag)).Nodup
  holdCount : ∀ c ∈ s.clients, (c.hold : Int) + off c.id = (holdsOf s c.id : Int)
  holderCl : ∀ h ∈ s.holders, ∃ c ∈ s.clients, c.id = h.cl
  ioCl : ∀ io ∈ s.ios, io.holds = true → ∃ c ∈ s.clients, c.id = io.cl
  idleNodup : s.idle.Nodup
  idleIff : ∀ id, id ∈ s.idle ↔ ∃ c ∈ s.clients, c.id = id ∧ c.hold = 0

theorem invCo_of_invC {s : State} (h : InvC s) : InvCo s (fun _ => 0) :=
  ⟨h.clNodup, h.clLt, h.holderTagNodup, h.ioTagNodupC,
   fun c hc => by have := h.holdCount c hc; omega,
   h.holderCl, h.ioCl, h.idleNodup, h.idleIff⟩

theorem invC_of_invCo {s : State} {off : Nat → Int} (h : InvCo s off) (h0 : ∀ id, off id = 0) : InvC s :=
  ⟨h.clNodup, h.clLt, h.holderTagNodup, h.ioTagNodupC,
   fun c hc => by have := h.holdCount c hc; have := h0 c.id; omega,
   h.holderCl, h.ioCl, h.idleNodup, h.idleIff⟩

theorem invCo_off {s : State} {off off' : Nat → Int} (h : InvCo s off) (h0 : ∀ id, off' id = off id) :
    InvCo s off' :=
  ⟨h.clNodup, h.clLt, h.holderTagNodup, h.ioTagNodupC,
   fun c hc => by have := h.holdCount c hc; have := h0 c.id; omega,
   h.holderCl, h.ioCl, h.idleNodup, h.idleIff⟩

/-- `s'` agrees with `s` on everything group C talks about: `clients`, `idle`, `holders`, `ios`
(`nextId` may grow).  Not the `Frame` of `NfsInvPLR.lean`, which is about groups P, L, R. -/
def Frame (s s' : State) : Prop :=
  s'.clients = s.clients ∧ s'.idle = s.idle ∧ s'.holders = s.holders ∧ s'.ios = s.ios ∧
    s.nextId ≤ s'.nextId

theorem Frame.ios {s s' : State} (f : Frame s s') : s'.ios = s.ios := f.2.2.2.1

theorem Frame.refl (s : State) : Frame s s := ⟨rfl, rfl, rfl, rfl, Nat.le_refl _⟩

theorem Frame.trans {a b c : State} (h1 : Frame a b) (h2 : Frame b c) : Frame a c := by
  obtain ⟨a1, a2, a3, a4, a5⟩ := h1
  obtain ⟨b1, b2, b3, b4, b5⟩ := h2
  exact ⟨b1.trans a1, b2.trans a2, b3.trans a3, b4.trans a4, Nat.le_trans a5 b5⟩

theorem frame_fail (s : State) (m : String) : Frame s (s.fail m) := ⟨rfl, rfl, rfl, rfl, Nat.le_refl _⟩
theorem frame_pushPend (s : State) (l : Nat) (m : Mask) : Frame s (s.pushPend l m) := by
  unfold State.pushPend; split
  · exact Frame.refl s
  · exact ⟨rfl, rfl, rfl, rfl, Nat.le_refl _⟩
theorem frame_modFile (s : State) (sid : Nat) (g : OFile → OFile) : Frame s (s.modFile sid g) :=
  ⟨rfl, rfl, rfl, rfl, Nat.le_refl _⟩
theorem frame_modPool (s : State) (file : Nat) (g : PoolEnt → PoolEnt) : Frame s (s.modPool file g) :=
  ⟨rfl, rfl, rfl, rfl, Nat.le_refl _⟩
theorem frame_gc (s : State) : Frame s s.gc := ⟨rfl, rfl, rfl, rfl, Nat.le_refl _⟩

/-! ## Actions that do not touch clients, idle list, holders, I/O records -/

theorem Frame.same {s s' : State} (hc : s'.clients = s.clients) (hi : s'.idle = s.idle)
    (hh : s'.holders = s.holders) (hio : s'.ios = s.ios) (hn : s'.nextId = s.nextId) :
    Frame s s' := ⟨hc, hi, hh, hio, Nat.le_of_eq hn.symm⟩

theorem frame_modFile_pushPend (s : State) (sid : Nat) (g : OFile → OFile) (l : Nat) (m : Mask) :
    Frame s ((s.modFile sid g).pushPend l m) :=
  (frame_modFile s sid g).trans (frame_pushPend _ l m)

theorem frame_tick (s : State) (d : Nat) : Frame s (Do.tick s d) := .same rfl rfl rfl rfl rfl
theorem frame_setNow (s : State) : Frame s (Do.setNow s) := .same rfl rfl rfl rfl rfl
theorem frame_ooSet (s : State) (oo : OOwner) : Frame s (Do.ooSet s oo) :=
  ooSet_elim s oo (.refl s) (fun _ _ => .same rfl rfl rfl rfl rfl)
    (fun _ _ => .same rfl rfl rfl rfl rfl)
theorem frame_ooDel (s : State) (cl key : Nat) : Frame s (Do.ooDel s cl key) :=
  ite_elim (fun _ => frame_fail s _) (fun _ => .same rfl rfl rfl rfl rfl)
theorem frame_loRegister (s : State) (cl key : Nat) : Frame s (Do.loRegister s cl key) :=
  ite_elim (fun _ => .refl s) (fun _ => ⟨rfl, rfl, rfl, rfl, Nat.le_succ _⟩)
theorem frame_loPrune (s : State) (id : Nat) : Frame s (Do.loPrune s id) :=
  ite_elim (fun _ => .refl s) (fun _ => .same rfl rfl rfl rfl rfl)
theorem frame_loSet (s : State) (id lastSeq : Nat) (resp : Option (Nat × String × Nat × Nat)) :
    Frame s (Do.loSet s id lastSeq resp) := .same rfl rfl rfl rfl rfl
theorem frame_vopen (s : State) (tag leaf : Nat) (m : Mask) (create trunc : Bool) :
    Frame s (Do.vopen s tag leaf m create trunc) :=
  ite_elim (fun _ => .refl s) (fun _ => .same rfl rfl rfl rfl rfl)
theorem frame_tempClose (s : State) (tag : Nat) : Frame s (Do.tempClose s tag) := by
  unfold Do.tempClose; split
  · exact .refl s
  · exact .same rfl rfl rfl rfl rfl
theorem frame_tempToPend (s : State) (tag : Nat) : Frame s (Do.tempToPend s tag) := by
  unfold Do.tempToPend; split
  · exact .refl s
  · exact (Frame.same rfl rfl rfl rfl rfl).trans (frame_pushPend _ _ _)
theorem frame_openNew (s : State) (tag cl owner : Nat) : Frame s (Do.openNew s tag cl owner) :=
  openNew_elim s tag cl owner (.refl s) fun _ _ _ _ => ⟨rfl, rfl, rfl, rfl, Nat.le_succ _⟩
theorem frame_openUpgrade (s : State) (tag sid : Nat) : Frame s (Do.openUpgrade s tag sid) :=
  openUpgrade_elim s tag sid (.refl s) fun _ _ _ _ _ _ =>
    (Frame.same rfl rfl rfl rfl rfl).trans (frame_modFile_pushPend _ _ _ _ _)
theorem frame_downgradeOpen (s : State) (sid : Nat) (new : Mask) :
    Frame s (Do.downgradeOpen s sid new) :=
  downgradeOpen_elim s sid new (.refl s) (frame_fail s) fun _ _ _ _ _ _ _ =>
    frame_modFile_pushPend _ _ _ _ _
theorem frame_addLofs (s : State) (sid lo : Nat) : Frame s (Do.addLofs s sid lo) :=
  addLofs_elim s sid lo (.refl s) (frame_fail s) fun _ _ _ _ _ _ _ =>
    ⟨rfl, rfl, rfl, rfl, Nat.le_succ _⟩
theorem frame_removeLofs (s : State) (sid lsid : Nat) : Frame s (Do.removeLofs s sid lsid) :=
  removeLofs_elim s sid lsid (.refl s) (frame_fail s) fun _ _ _ _ _ _ _ =>
    frame_modFile_pushPend _ _ _ _ _
theorem frame_unlockAllLofs (s : State) (sid lsid : Nat) : Frame s (Do.unlockAllLofs s sid lsid) :=
  unlockAllLofs_elim s sid lsid (.refl s) fun _ _ _ _ _ _ =>
    (frame_modPool s _ _).trans (frame_modFile _ _ _)
theorem frame_lockSet (s : State) (sid lsid : Nat) (lk : BRL.Lock) :
    Frame s (Do.lockSet s sid lsid lk) :=
  lockSet_elim s sid lsid lk (.refl s) (frame_fail s) fun _ _ _ _ _ _ =>
    (frame_modPool s _ _).trans (frame_modFile _ _ _)
theorem frame_finalize (s : State) (sid : Nat) : Frame s (Do.finalize s sid) :=
  finalize_elim s sid (.refl s) (frame_fail s) fun _ _ _ _ _ _ _ => by
    refine .trans (.trans ?_ (frame_modFile _ _ _)) (frame_gc _)
    exact .same rfl rfl rfl rfl rfl
theorem frame_flush (s : State) : Frame s (Do.flush s) := by
  unfold Do.flush; split
  · exact .refl s
  · exact .same rfl rfl rfl rfl rfl
theorem frame_setCur (s : State) (tag : Nat) : Frame s (Do.setCur s tag) := .same rfl rfl rfl rfl rfl
theorem frame_setProto (s : State) (p : Proto) : Frame s (Do.setProto s p) :=
  .same rfl rfl rfl rfl rfl

/-! ## `modClient`, `holdClient`, `releaseClient` -/

theorem invCo_off_on {s : State} {off off' : Nat → Int} (h : InvCo s off)
    (h0 : ∀ c ∈ s.clients, off' c.id = off c.id) : InvCo s off' :=
  ⟨h.clNodup, h.clLt, h.holderTagNodup, h.ioTagNodupC,
   fun c hc => by have := h.holdCount c hc; have := h0 c hc; omega,
   h.holderCl, h.ioCl, h.idleNodup, h.idleIff⟩

/-- Changing the one record `c0` with id `cl` (and the idle list accordingly). -/
theorem invCo_mod (s : State) (off off' : Nat → Int) (cl : Nat) (g : Client → Client) (idle' : List Nat)
    (c0 : Client) (h : InvCo s off) (hc0 : c0 ∈ s.clients) (hc0id : c0.id = cl)
    (hid : (g c0).id = c0.id)
    (hhold : ((g c0).hold : Int) + off' cl = (c0.hold : Int) + off cl)
    (hoff : ∀ id, id ≠ cl → off' id = off id)
    (hnd : idle'.Nodup)
    (hidle : ∀ id, id ∈ idle' ↔ if id = cl then (g c0).hold = 0 else id ∈ s.idle) :
    InvCo ({ s.modClient cl g with idle := idle' }) off' := by
  have hf : ∀ c ∈ s.clients, (c.id = cl ∧ c = c0 ∧ (if c.id == cl then g c else c) = g c0) ∨
      (c.id ≠ cl ∧ (if c.id == cl then g c else c) = c) := by
    intro c hc
    by_cases e : c.id = cl
    · left
      have : c = c0 := uniq_id _ h.clNodup c hc c0 hc0 (e.trans hc0id.symm)
      subst this
      exact ⟨e, rfl, by simp [e]⟩
    · right; exact ⟨e, by simp [e]⟩
  have hfid : ∀ c ∈ s.clients, (if c.id == cl then g c else c).id = c.id := by
    intro c hc
    rcases hf c hc with ⟨_, rfl, e⟩ | ⟨_, e⟩
    · rw [e]; exact hid
    · rw [e]
  have hex : ∀ id, (∃ c ∈ s.clients, c.id = id) →
      ∃ c' ∈ s.clients.map (fun c => if c.id == cl then g c else c), c'.id = id := by
    intro id ⟨c, hc, e⟩
    exact ⟨_, List.mem_map_of_mem hc, (hfid c hc).trans e⟩
  refine ⟨?_, ?_, h.holderTagNodup, h.ioTagNodupC, ?_, ?_, ?_, hnd, ?_⟩
  · show ((s.clients.map (fun c => if c.id == cl then g c else c)).map (·.id)).Nodup
    rw [List.map_map]
    have : s.clients.map ((·.id) ∘ (fun c => if c.id == cl then g c else c)) = s.clients.map (·.id) :=
      List.map_congr_left (fun c hc => hfid c hc)
    rw [this]; exact h.clNodup
  · intro c' hc'
    obtain ⟨c, hc, rfl⟩ := List.mem_map.mp hc'
    rw [hfid c hc]; exact h.clLt c hc
  · intro c' hc'
    obtain ⟨c, hc, rfl⟩ := List.mem_map.mp hc'
    show ((if c.id == cl then g c else c).hold : Int) + off' _ = (holdsOf s _ : Int)
    rcases hf c hc with ⟨e, rfl, e2⟩ | ⟨e, e2⟩
    · rw [e2, hid, e]
      have := h.holdCount c hc
      rw [e] at this
      omega
    · rw [e2, hoff _ e]; exact h.holdCount c hc
  · intro x hx; exact hex _ (h.holderCl x hx)
  · intro x hx hh; exact hex _ (h.ioCl x hx hh)
  · intro id
    show id ∈ idle' ↔ ∃ c' ∈ s.clients.map (fun c => if c.id == cl then g c else c), c'.id = id ∧ c'.hold = 0
    rw [hidle id]
    by_cases e : id = cl
    · rw [if_pos e]
      constructor
      · intro hz
        refine ⟨g c0, ?_, hid.trans (hc0id.trans e.symm), hz⟩
        rcases hf c0 hc0 with ⟨_, _, e2⟩ | ⟨ne, _⟩
        · exact e2 ▸ List.mem_map_of_mem hc0
        · exact absurd hc0id ne
      · intro ⟨c', hc', e1, e2⟩
        obtain ⟨c, hc, rfl⟩ := List.mem_map.mp hc'
        rcases hf c hc with ⟨_, _, e3⟩ | ⟨ne, e3⟩
        · rw [e3] at e2; exact e2
        · rw [e3] at e1; exact absurd (e1.trans e) ne
    · rw [if_neg e, h.idleIff id]
      constructor
      · intro ⟨c, hc, e1, e2⟩
        rcases hf c hc with ⟨e3, _, _⟩ | ⟨_, e3⟩
        · exact absurd (e1.symm.trans e3) e
        · exact ⟨c, e3 ▸ List.mem_map_of_mem hc, e1, e2⟩
      · intro ⟨c', hc', e1, e2⟩
        obtain ⟨c, hc, rfl⟩ := List.mem_map.mp hc'
        rcases hf c hc with ⟨_, _, e3⟩ | ⟨_, e3⟩
        · rw [e3, hid, hc0id] at e1; exact absurd e1.symm e
        · rw [e3] at e1 e2; exact ⟨c, hc, e1, e2⟩

/-- `modClient` with a function that keeps `id` and `hold`. -/
theorem invCo_modClient_keep (s : State) (off : Nat → Int) (cl : Nat) (g : Client → Client)
    (hid : ∀ c, (g c).id = c.id) (hh : ∀ c, (g c).hold = c.hold) (h : InvCo s off) :
    InvCo (s.modClient cl g) off := by
  cases hc : s.getClient cl with
  | none =>
    -- no record has id `cl`: the list of records is unchanged
    have hcl : (s.modClient cl g).clients = s.clients := by
      show s.clients.map _ = s.clients
      conv => rhs; rw [← List.map_id s.clients]
      exact List.map_congr_left fun c hm => by simp [getClient_none s cl hc c hm]
    exact ⟨hcl ▸ h.clNodup, hcl ▸ h.clLt, h.holderTagNodup, h.ioTagNodupC, hcl ▸ h.holdCount,
      hcl ▸ h.holderCl, hcl ▸ h.ioCl, h.idleNodup, hcl ▸ h.idleIff⟩
  | some c0 =>
    obtain ⟨hc0, hid0⟩ := getClient_some s cl c0 hc
    refine invCo_mod s off off cl g s.idle c0 h hc0 hid0 (hid c0) (by rw [hh]) (fun _ _ => rfl)
      h.idleNodup fun id => ?_
    by_cases e : id = cl
    · rw [if_pos e, hh, e, ← hid0, h.idleIff]
      refine ⟨fun ⟨c, hc', e1, e2⟩ => ?_, fun hz => ⟨c0, hc0, rfl, hz⟩⟩
      rw [uniq_id _ h.clNodup c hc' c0 hc0 e1] at e2
      exact e2
    · rw [if_neg e]

theorem not_idle_of_hold (s : State) (off : Nat → Int) (h : InvCo s off) (c0 : Client) (hc0 : c0 ∈ s.clients)
    (hpos : c0.hold ≠ 0) : c0.id ∉ s.idle := by
  intro hmem
  obtain ⟨c, hc, e1, e2⟩ := (h.idleIff _).mp hmem
  have := uniq_id _ h.clNodup c hc c0 hc0 e1
  subst this
  exact hpos e2

theorem invCo_holdClient (s : State) (off : Nat → Int) (cl : Nat) (h : InvCo s off) :
    InvCo (s.holdClient cl) (fun id => off id - if id = cl then 1 else 0) := by
  unfold State.holdClient
  split
  · rename_i hn
    have hno := getClient_none s cl hn
    exact invCo_off_on h (fun c hc => by simp [hno c hc])
  · rename_i c0 hs
    obtain ⟨hc0, hid0⟩ := getClient_some s cl c0 hs
    have key : (if c0.hold = 0 then { s with idle := s.idle.erase cl } else s).modClient cl
          (fun c => { c with hold := c.hold + 1 }) =
        { s.modClient cl (fun c => { c with hold := c.hold + 1 }) with
          idle := if c0.hold = 0 then s.idle.erase cl else s.idle } := by
      split <;> rfl
    show InvCo ((if c0.hold = 0 then { s with idle := s.idle.erase cl } else s).modClient cl
          (fun c => { c with hold := c.hold + 1 })) _
    rw [key]
    apply invCo_mod s off _ cl _ _ c0 h hc0 hid0 rfl
    · dsimp only; rw [if_pos rfl]; omega
    · intro id ne; simp [ne]
    · split
      · exact h.idleNodup.erase _
      · exact h.idleNodup
    · intro id
      by_cases e : id = cl
      · subst e
        rw [if_pos rfl]
        constructor
        · intro hm
          exfalso
          split at hm
          · exact h.idleNodup.not_mem_erase hm
          · rename_i hz
            exact not_idle_of_hold s off h c0 hc0 hz (hid0 ▸ hm)
        · intro hz; exact absurd hz (Nat.succ_ne_zero _)
      · rw [if_neg e]
        split
        · rw [h.idleNodup.mem_erase_iff]; simp [e]
        · exact Iff.rfl

theorem invCo_releaseClient (s : State) (off : Nat → Int) (cl : Nat) (h : InvCo s off) (hneg : off cl < 0) :
    InvCo (s.releaseClient cl) (fun id => off id + if id = cl then 1 else 0) := by
  unfold State.releaseClient
  split
  · rename_i hn
    have hno := getClient_none s cl hn
    exact invCo_off_on h (fun c hc => by simp [hno c hc])
  · rename_i c0 hs
    obtain ⟨hc0, hid0⟩ := getClient_some s cl c0 hs
    have hcnt := h.holdCount c0 hc0
    rw [hid0] at hcnt
    have hnot : cl ∉ s.idle := by
      have := not_idle_of_hold s off h c0 hc0 (by omega)
      rwa [hid0] at this
    split
    · omega
    · split
      · rename_i h1
        apply invCo_mod s off _ cl _ _ c0 h hc0 hid0 rfl
        · dsimp only; rw [if_pos rfl]; omega
        · intro id ne; simp [ne]
        · rw [List.nodup_append]
          refine ⟨h.idleNodup, by simp, ?_⟩
          intro a ha b hb
          simp only [List.mem_singleton] at hb
          subst hb
          intro e; exact hnot (e ▸ ha)
        · intro id
          by_cases e : id = cl
          · subst e; simp
          · simp [e]
      · rename_i hz h1
        have := invCo_mod s off (fun id => off id + if id = cl then 1 else 0) cl
          (fun c => { c with hold := c.hold - 1 }) s.idle c0 h hc0 hid0 rfl
          (by dsimp only; rw [if_pos rfl]; omega) (by intro id ne; simp [ne]) h.idleNodup
          (by
            intro id
            by_cases e : id = cl
            · subst e
              rw [if_pos rfl]
              constructor
              · intro hm; exact absurd hm hnot
              · intro hz; have hz' : c0.hold - 1 = 0 := hz; omega
            · rw [if_neg e])
        exact this

/-! ## Adding / removing a holder or an I/O record (client record not yet updated) -/

theorem holds_beq_false (x : IOrec) (id : Nat) (e : ¬(x.holds = true ∧ id = x.cl)) :
    (x.holds && x.cl == id) = false := by
  cases hx : x.holds
  · rfl
  · simp only [Bool.true_and, beq_eq_false_iff_ne, ne_eq]
    intro e'; exact e ⟨hx, e'.symm⟩

/-- The holders and I/O records change, so that the number of holds of client `id` changes by
`d id`; the client records are not yet updated. -/
theorem invCo_shift {s s' : State} {off : Nat → Int} (d : Nat → Int) (h : InvCo s off)
    (hc : s'.clients = s.clients) (hi : s'.idle = s.idle) (hn : s.nextId ≤ s'.nextId)
    (hht : (s'.holders.map (·.tag)).Nodup) (hit : (s'.ios.map (·.tag)).Nodup)
    (hhc : ∀ x ∈ s'.holders, ∃ c ∈ s.clients, c.id = x.cl)
    (hic : ∀ x ∈ s'.ios, x.holds = true → ∃ c ∈ s.clients, c.id = x.cl)
    (hcount : ∀ id, (holdsOf s' id : Int) = holdsOf s id + d id) :
    InvCo s' (fun id => off id + d id) := by
  refine ⟨hc ▸ h.clNodup, ?_, hht, hit, ?_, hc ▸ hhc, hc ▸ hic, hi ▸ h.idleNodup, ?_⟩
  · intro c hc'; rw [hc] at hc'; exact Nat.lt_of_lt_of_le (h.clLt c hc') hn
  · intro c hc'; rw [hc] at hc'
    have := h.holdCount c hc'
    rw [hcount]; omega
  · intro id; rw [hi, hc]; exact h.idleIff id

theorem invCo_addHolder (s s' : State) (off : Nat → Int) (x : Holder) (h : InvCo s off)
    (hc : s'.clients = s.clients) (hi : s'.idle = s.idle) (hh : s'.holders = s.holders ++ [x])
    (hio : s'.ios = s.ios) (hn : s.nextId ≤ s'.nextId)
    (hfresh : ∀ y ∈ s.holders, y.tag ≠ x.tag) (hex : ∃ c ∈ s.clients, c.id = x.cl) :
    InvCo s' (fun id => off id + if id = x.cl then 1 else 0) := by
  refine invCo_shift _ h hc hi hn (hh ▸ nodup_map_append_fresh _ h.holderTagNodup hfresh)
    (hio ▸ h.ioTagNodupC) ?_ (hio ▸ h.ioCl) fun id => ?_
  · intro y hy; rw [hh] at hy
    rcases List.mem_append.mp hy with hy | hy
    · exact h.holderCl y hy
    · exact List.mem_singleton.1 hy ▸ hex
  · unfold holdsOf
    rw [hh, hio, List.countP_append, List.countP_singleton]
    by_cases e : id = x.cl
    · rw [if_pos e, if_pos (by simp [e])]; omega
    · rw [if_neg e, if_neg (by simpa using fun e' : x.cl = id => e e'.symm)]; omega

theorem invCo_addIo (s s' : State) (off : Nat → Int) (x : IOrec) (h : InvCo s off)
    (hc : s'.clients = s.clients) (hi : s'.idle = s.idle) (hh : s'.holders = s.holders)
    (hio : s'.ios = s.ios ++ [x]) (hn : s.nextId ≤ s'.nextId)
    (hfresh : ∀ y ∈ s.ios, y.tag ≠ x.tag) (hex : x.holds = true → ∃ c ∈ s.clients, c.id = x.cl) :
    InvCo s' (fun id => off id + if x.holds = true ∧ id = x.cl then 1 else 0) := by
  refine invCo_shift _ h hc hi hn (hh ▸ h.holderTagNodup)
    (hio ▸ nodup_map_append_fresh _ h.ioTagNodupC hfresh) (hh ▸ h.holderCl) ?_ fun id => ?_
  · intro y hy; rw [hio] at hy
    rcases List.mem_append.mp hy with hy | hy
    · exact h.ioCl y hy
    · exact List.mem_singleton.1 hy ▸ hex
  · unfold holdsOf
    rw [hh, hio, List.countP_append, List.countP_singleton]
    by_cases e : x.holds = true ∧ id = x.cl
    · rw [if_pos e, if_pos (by simp [e.1, e.2])]; omega
    · rw [if_neg e, holds_beq_false x id e]; simp

theorem invCo_removeHolder (s s' : State) (off : Nat → Int) (x : Holder) (h : InvCo s off)
    (hx : x ∈ s.holders)
    (hc : s'.clients = s.clients) (hi : s'.idle = s.idle)
    (hh : s'.holders = s.holders.filter (fun y => y.tag != x.tag))
    (hio : s'.ios = s.ios) (hn : s.nextId ≤ s'.nextId) :
    InvCo s' (fun id => off id - if id = x.cl then 1 else 0) := by
  refine invCo_off (invCo_shift (fun id => -(if id = x.cl then 1 else 0)) h hc hi hn
    (hh ▸ nodup_map_filter _ _ h.holderTagNodup) (hio ▸ h.ioTagNodupC)
    (fun y hy => h.holderCl y (List.mem_filter.mp (hh ▸ hy)).1) (hio ▸ h.ioCl) fun id => ?_)
    (fun _ => Int.sub_eq_add_neg)
  have := countP_filter_key (·.tag) (fun y : Holder => y.cl == id) x.tag s.holders
    h.holderTagNodup x hx rfl
  unfold holdsOf
  rw [hh, hio]
  by_cases e : id = x.cl
  · rw [if_pos (by simp [e])] at this
    rw [if_pos e]; omega
  · rw [if_neg (by simpa using fun e' : x.cl = id => e e'.symm)] at this
    rw [if_neg e]; omega

theorem invCo_removeIo (s s' : State) (off : Nat → Int) (x : IOrec) (h : InvCo s off)
    (hx : x ∈ s.ios)
    (hc : s'.clients = s.clients) (hi : s'.idle = s.idle) (hh : s'.holders = s.holders)
    (hio : s'.ios = s.ios.filter (fun y => y.tag != x.tag)) (hn : s.nextId ≤ s'.nextId) :
    InvCo s' (fun id => off id - if x.holds = true ∧ id = x.cl then 1 else 0) := by
  refine invCo_off (invCo_shift (fun id => -(if x.holds = true ∧ id = x.cl then 1 else 0)) h hc hi
    hn (hh ▸ h.holderTagNodup) (hio ▸ nodup_map_filter _ _ h.ioTagNodupC) (hh ▸ h.holderCl)
    (fun y hy => h.ioCl y (List.mem_filter.mp (hio ▸ hy)).1) fun id => ?_)
    (fun _ => Int.sub_eq_add_neg)
  have := countP_filter_key (·.tag) (fun y : IOrec => y.holds && y.cl == id) x.tag s.ios
    h.ioTagNodupC x hx rfl
  unfold holdsOf
  rw [hh, hio]
  by_cases e : x.holds = true ∧ id = x.cl
  · rw [if_pos (by simp [e.1, e.2])] at this
    rw [if_pos e]; omega
  · rw [holds_beq_false x id e] at this
    rw [if_neg e]; simp at this; omega

/-! ## The actions on client records, holders and I/O records -/

theorem invC_frame {s s' : State} (f : Frame s s') (h : InvC s) : InvC s' := by
  obtain ⟨hc, hi, hh, hio, hn⟩ := f
  exact invC_of_invCo (invCo_shift (fun _ => 0) (invCo_of_invC h) hc hi hn (hh ▸ h.holderTagNodup)
    (hio ▸ h.ioTagNodupC) (hh ▸ h.holderCl) (hio ▸ h.ioCl)
    (fun id => by unfold holdsOf; rw [hh, hio]; omega)) (fun _ => rfl)

theorem holdsOf_pos_of_holder (s : State) (x : Holder) (hx : x ∈ s.holders) : 0 < holdsOf s x.cl := by
  unfold holdsOf
  have : 0 < s.holders.countP (fun h => h.cl == x.cl) :=
    List.countP_pos_iff.mpr ⟨x, hx, by simp⟩
  omega

theorem holdsOf_pos_of_io (s : State) (x : IOrec) (hx : x ∈ s.ios) (hh : x.holds = true) :
    0 < holdsOf s x.cl := by
  unfold holdsOf
  have : 0 < s.ios.countP (fun io => io.holds && io.cl == x.cl) :=
    List.countP_pos_iff.mpr ⟨x, hx, by simp [hh]⟩
  omega

theorem invC_newClient (s : State) (long ver : Nat) (h : InvC s) : InvC (Do.newClient s long ver) := by
  unfold Do.newClient
  split
  · exact h
  · dsimp only
    have hfresh : ∀ y ∈ s.clients, y.id ≠ s.nextId := fun y hy => Nat.ne_of_lt (h.clLt y hy)
    have hnoidle : s.nextId ∉ s.idle := by
      intro hm
      obtain ⟨c, hc, e, _⟩ := (h.idleIff _).mp hm
      exact hfresh c hc e
    have hzero : holdsOf s s.nextId = 0 := by
      unfold holdsOf
      have h1 : s.holders.countP (fun x => x.cl == s.nextId) = 0 := by
        rw [List.countP_eq_zero]
        intro x hx
        obtain ⟨c, hc, e⟩ := h.holderCl x hx
        have := hfresh c hc
        simp only [beq_iff_eq]; intro e'; exact this (e.trans e')
      have h2 : s.ios.countP (fun io => io.holds && io.cl == s.nextId) = 0 := by
        rw [List.countP_eq_zero]
        intro x hx
        simp only [Bool.and_eq_true, beq_iff_eq, not_and]
        intro hh e'
        obtain ⟨c, hc, e⟩ := h.ioCl x hx hh
        exact hfresh c hc (e.trans e')
      omega
    refine ⟨?_, ?_, h.holderTagNodup, h.ioTagNodupC, ?_, ?_, ?_, ?_, ?_⟩
    · exact nodup_map_append_fresh (fun c : Client => c.id) h.clNodup hfresh
    · intro c hc
      show c.id < s.nextId + 1
      rcases List.mem_append.mp hc with hc | hc
      · exact Nat.lt_succ_of_lt (h.clLt c hc)
      · simp only [List.mem_singleton] at hc; subst hc; exact Nat.lt_succ_self _
    · intro c hc
      show c.hold = holdsOf s c.id
      rcases List.mem_append.mp hc with hc | hc
      · exact h.holdCount c hc
      · simp only [List.mem_singleton] at hc; subst hc; exact hzero.symm
    · intro x hx
      obtain ⟨c, hc, e⟩ := h.holderCl x hx
      exact ⟨c, List.mem_append_left _ hc, e⟩
    · intro x hx hh
      obtain ⟨c, hc, e⟩ := h.ioCl x hx hh
      exact ⟨c, List.mem_append_left _ hc, e⟩
    · exact List.nodup_append.2 ⟨h.idleNodup, by simp,
        fun a ha b hb e => hnoidle (List.mem_singleton.1 hb ▸ e ▸ ha)⟩
    · intro id
      show id ∈ s.idle ++ [s.nextId] ↔ _
      rw [List.mem_append, h.idleIff id]
      constructor
      · rintro (⟨c, hc, e1, e2⟩ | hm)
        · exact ⟨c, List.mem_append_left _ hc, e1, e2⟩
        · simp only [List.mem_singleton] at hm
          exact ⟨_, List.mem_append_right _ (List.mem_singleton.mpr rfl), hm.symm, rfl⟩
      · rintro ⟨c, hc, e1, e2⟩
        rcases List.mem_append.mp hc with hc | hc
        · exact Or.inl ⟨c, hc, e1, e2⟩
        · simp only [List.mem_singleton] at hc; subst hc
          exact Or.inr (List.mem_singleton.mpr e1.symm)

theorem invC_touch (s : State) (cl : Nat) (h : InvC s) : InvC (Do.touch s cl) := by
  unfold Do.touch
  have h1 := invCo_holdClient s _ cl (invCo_of_invC h)
  have h2 := invCo_releaseClient _ _ cl h1 (by rw [if_pos rfl]; omega)
  exact invC_of_invCo h2 (fun id => by split <;> omega)

theorem invC_confirmClient (s : State) (cl : Nat) (h : InvC s) : InvC (Do.confirmClient s cl) := by
  unfold Do.confirmClient
  split
  · exact h
  · split
    · exact invC_frame (frame_fail _ _) h
    · exact invC_of_invCo (invCo_modClient_keep s _ cl _ (fun _ => rfl) (fun _ => rfl) (invCo_of_invC h))
        (fun _ => rfl)

theorem invC_addSession (s : State) (cl k : Nat) (h : InvC s) : InvC (Do.addSession s cl k) :=
  invC_of_invCo (invCo_modClient_keep s _ cl _ (fun _ => rfl) (fun _ => rfl) (invCo_of_invC h)) (fun _ => rfl)

theorem invC_delSession (s : State) (cl k : Nat) (h : InvC s) : InvC (Do.delSession s cl k) :=
  invC_of_invCo (invCo_modClient_keep s _ cl _ (fun _ => rfl) (fun _ => rfl) (invCo_of_invC h)) (fun _ => rfl)

theorem invC_dropClient_ok (s : State) (cl : Nat) (c0 : Client) (h : InvC s) (hc0 : c0 ∈ s.clients)
    (hid0 : c0.id = cl) (hz : c0.hold = 0) :
    InvC { s with clients := s.clients.filter (fun c => c.id != cl), idle := s.idle.erase cl } := by
  have hkeep : ∀ id, holdsOf s id ≠ 0 → (∃ c ∈ s.clients, c.id = id) →
      ∃ c ∈ s.clients.filter (fun c => c.id != cl), c.id = id := by
    intro id hpos ⟨c, hc, e⟩
    refine ⟨c, List.mem_filter.mpr ⟨hc, ?_⟩, e⟩
    simp only [bne_iff_ne, ne_eq]
    intro e'
    have : c = c0 := uniq_id _ h.clNodup c hc c0 hc0 (e'.trans hid0.symm)
    subst this
    have := h.holdCount c hc
    rw [e] at this
    omega
  refine ⟨?_, ?_, h.holderTagNodup, h.ioTagNodupC, ?_, ?_, ?_, ?_, ?_⟩
  · exact nodup_map_filter (fun c : Client => c.id) _ h.clNodup
  · intro c hc; exact h.clLt c (List.mem_filter.mp hc).1
  · intro c hc; exact h.holdCount c (List.mem_filter.mp hc).1
  · intro x hx
    exact hkeep _ (Nat.ne_of_gt (holdsOf_pos_of_holder s x hx)) (h.holderCl x hx)
  · intro x hx hh
    exact hkeep _ (Nat.ne_of_gt (holdsOf_pos_of_io s x hx hh)) (h.ioCl x hx hh)
  · exact h.idleNodup.erase _
  · intro id
    show id ∈ s.idle.erase cl ↔ ∃ c ∈ s.clients.filter (fun c => c.id != cl), c.id = id ∧ c.hold = 0
    rw [h.idleNodup.mem_erase_iff, h.idleIff id]
    constructor
    · rintro ⟨ne, c, hc, e1, e2⟩
      refine ⟨c, List.mem_filter.mpr ⟨hc, ?_⟩, e1, e2⟩
      simp only [bne_iff_ne, ne_eq]; rw [e1]; exact ne
    · rintro ⟨c, hc, e1, e2⟩
      obtain ⟨hc, hne⟩ := List.mem_filter.mp hc
      simp only [bne_iff_ne, ne_eq] at hne
      exact ⟨e1 ▸ hne, c, hc, e1, e2⟩

theorem invC_dropClient (s : State) (cl : Nat) (h : InvC s) : InvC (Do.dropClient s cl) :=
  dropClient_elim s cl (fun _ => h) (fun _ => invC_frame (frame_fail _ _) h) fun c0 hs hz _ _ _ =>
    invC_dropClient_ok s cl c0 h (getClient_some s cl c0 hs).1 (getClient_some s cl c0 hs).2 hz

theorem invC_holdBegin (s : State) (tag cl : Nat) (h : InvC s) : InvC (Do.holdBegin s tag cl) := by
  unfold Do.holdBegin
  split
  · exact h
  · rename_i hg
    simp only [Bool.or_eq_true, not_or, Bool.not_eq_true, List.any_eq_false, beq_iff_eq] at hg
    obtain ⟨hsome, hfresh⟩ := hg
    have hex : ∃ c ∈ s.clients, c.id = cl := by
      cases hgc : s.getClient cl with
      | none => rw [hgc] at hsome; simp at hsome
      | some c0 => exact ⟨c0, getClient_some s cl c0 hgc⟩
    have h1 := invCo_addHolder s { s with holders := s.holders ++ [{ tag := tag, cl := cl }] } _
      { tag := tag, cl := cl } (invCo_of_invC h) rfl rfl rfl rfl (Nat.le_refl _) hfresh hex
    have h2 := invCo_holdClient _ _ cl h1
    exact invC_of_invCo h2 (fun id => by dsimp only; split <;> omega)

theorem invC_holdEnd (s : State) (tag : Nat) (h : InvC s) : InvC (Do.holdEnd s tag) := by
  unfold Do.holdEnd
  split
  · exact h
  · rename_i x hf
    have hx : x ∈ s.holders := List.mem_of_find?_eq_some hf
    have htag : x.tag = tag := by simpa using List.find?_some hf
    subst htag
    have h1 := invCo_removeHolder s { s with holders := s.holders.filter (fun y => y.tag != x.tag) } _
      x (invCo_of_invC h) hx rfl rfl rfl rfl (Nat.le_refl _)
    have h2 := invCo_releaseClient _ _ x.cl h1 (by rw [if_pos rfl]; omega)
    exact invC_of_invCo h2 (fun id => by split <;> omega)

theorem invC_ioBegin (s : State) (tag sid : Nat) (m : Mask) (holds : Bool) (h : InvC s) :
    InvC (Do.ioBegin s tag sid m holds) := by
  refine ioBegin_elim s tag sid m holds h (fun _ => invC_frame (frame_fail _ _) h)
    fun f c _ _ hfresh hsome _ => ?_
  simp only [List.any_eq_false, beq_iff_eq] at hfresh
  have hex : ∃ c ∈ s.clients, c.id = f.cl := by
    cases hgc : s.getClient f.cl with
    | none => rw [hgc] at hsome; simp at hsome
    | some c0 => exact ⟨c0, getClient_some s f.cl c0 hgc⟩
  have h1 := invCo_addIo s (ioBegun s tag sid m holds f c) _
    { tag := tag, sid := sid, cl := f.cl, share := m, holds := holds } (invCo_of_invC h)
    rfl rfl rfl rfl (Nat.le_refl _) hfresh (fun _ => hex)
  refine ⟨fun hh => ?_, fun hh => ?_⟩
  · have h2 := invCo_holdClient _ _ f.cl h1
    refine invC_of_invCo h2 (fun id => ?_)
    dsimp only
    by_cases e : id = f.cl
    · rw [if_pos ⟨hh, e⟩, if_pos e]; omega
    · rw [if_neg (fun a => e a.2), if_neg e]; omega
  · refine invC_of_invCo h1 (fun id => ?_)
    dsimp only
    rw [if_neg (fun a => hh a.1)]; omega

theorem invC_ioEnd (s : State) (tag : Nat) (h : InvC s) : InvC (Do.ioEnd s tag) := by
  refine ioEnd_elim s tag h (fun _ => invC_frame (frame_fail _ _) h) fun x f c z hf _ _ => ?_
  have hx : x ∈ s.ios := List.mem_of_find?_eq_some hf
  have htag : x.tag = tag := by simpa using List.find?_some hf
  subst htag
  obtain ⟨f1, f2, f3, f4, f5⟩ :=
    frame_modFile_pushPend { s with ios := s.ios.filter (fun io => io.tag != x.tag) } x.sid
      (fun f => { f with count := c }) f.file z
  have h1 := invCo_removeIo s _ _ x (invCo_of_invC h) hx f1 f2 f3 f4 f5
  refine ⟨fun hh => ?_, fun hh => ?_⟩ <;> apply invC_frame (frame_gc _)
  · have h2 := invCo_releaseClient _ _ x.cl h1 (by rw [if_pos ⟨hh, rfl⟩]; omega)
    refine invC_of_invCo h2 (fun id => ?_)
    by_cases e : id = x.cl
    · rw [if_pos ⟨hh, e⟩, if_pos e]; omega
    · rw [if_neg (fun a => e a.2), if_neg e]; omega
  · refine invC_of_invCo h1 (fun id => ?_)
    rw [if_neg (fun a => hh a.1)]; omega

theorem invC_init (ver n : Nat) : InvC (BbRe.NfsState.init ver n) := by
  refine ⟨List.nodup_nil, ?_, List.nodup_nil, List.nodup_nil, ?_, ?_, ?_, List.nodup_nil, ?_⟩
  · intro c hc; cases hc
  · intro c hc; cases hc
  · intro x hx; cases hx
  · intro x hx; cases hx
  · intro id
    constructor
    · intro hm; cases hm
    · rintro ⟨c, hc, _⟩; cases hc

theorem invC_apply (s : State) (a : Act) (h : InvC s) : InvC (apply s a) := by
  refine ite_elim (fun _ => h) fun _ => ?_
  · cases a with
    | tick d => exact invC_frame (frame_tick s d) h
    | setNow => exact invC_frame (frame_setNow s) h
    | newClient long ver => exact invC_newClient s long ver h
    | touch cl => exact invC_touch s cl h
    | confirmClient cl => exact invC_confirmClient s cl h
    | dropClient cl => exact invC_dropClient s cl h
    | addSession cl k => exact invC_addSession s cl k h
    | delSession cl k => exact invC_delSession s cl k h
    | holdBegin tag cl => exact invC_holdBegin s tag cl h
    | holdEnd tag => exact invC_holdEnd s tag h
    | ooSet oo => exact invC_frame (frame_ooSet s oo) h
    | ooDel cl key => exact invC_frame (frame_ooDel s cl key) h
    | loRegister cl key => exact invC_frame (frame_loRegister s cl key) h
    | loPrune id => exact invC_frame (frame_loPrune s id) h
    | loSet id lastSeq resp => exact invC_frame (frame_loSet s id lastSeq resp) h
    | vopen tag leaf m create trunc => exact invC_frame (frame_vopen s tag leaf m create trunc) h
    | tempClose tag => exact invC_frame (frame_tempClose s tag) h
    | tempToPend tag => exact invC_frame (frame_tempToPend s tag) h
    | openNew tag cl owner => exact invC_frame (frame_openNew s tag cl owner) h
    | openUpgrade tag sid => exact invC_frame (frame_openUpgrade s tag sid) h
    | downgradeOpen sid new => exact invC_frame (frame_downgradeOpen s sid new) h
    | addLofs sid lo => exact invC_frame (frame_addLofs s sid lo) h
    | removeLofs sid lsid => exact invC_frame (frame_removeLofs s sid lsid) h
    | unlockAllLofs sid lsid => exact invC_frame (frame_unlockAllLofs s sid lsid) h
    | lockSet sid lsid lk => exact invC_frame (frame_lockSet s sid lsid lk) h
    | finalize sid => exact invC_frame (frame_finalize s sid) h
    | ioBegin tag sid m holds => exact invC_ioBegin s tag sid m holds h
    | ioEnd tag => exact invC_ioEnd s tag h
    | flush => exact invC_frame (frame_flush s) h
    | setCur tag => exact invC_frame (frame_setCur s tag) h
    | proto p => exact invC_frame (frame_setProto s p) h

theorem invC_applyAll (s : State) (acts : List Act) (h : InvC s) : InvC (applyAll s acts) := by
  unfold applyAll
  induction acts generalizing s with
  | nil => exact h
  | cons a acts ih => exact ih (apply s a) (invC_apply s a h)

/-- a record held by an in-flight request is not in the idle list -/
theorem held_not_idle (s : State) (h : InvC s) (c : Client) (hc : c ∈ s.clients) (hh : 0 < c.hold) :
    c.id ∉ s.idle :=
  not_idle_of_hold s _ (invCo_of_invC h) c hc (Nat.ne_of_gt hh)

/-! ### Held records survive -/

/-- the ids of the client records, in order -/
def ids (s : State) : List Nat := s.clients.map (·.id)

theorem ids_frame {s s' : State} (f : Frame s s') : ids s' = ids s := by
  unfold ids; rw [f.1]

theorem ids_modClient (s : State) (cl : Nat) (g : Client → Client) (hid : ∀ c, (g c).id = c.id) :
    ids (s.modClient cl g) = ids s := by
  show (s.clients.map (fun c => if c.id == cl then g c else c)).map (·.id) = s.clients.map (·.id)
  rw [List.map_map]
  apply List.map_congr_left
  intro c _
  show (if c.id == cl then g c else c).id = c.id
  split
  · exact hid c
  · rfl

theorem ids_holdClient (s : State) (cl : Nat) : ids (s.holdClient cl) = ids s := by
  unfold State.holdClient
  split
  · rfl
  · dsimp only
    refine Eq.trans (ids_modClient _ cl _ (fun _ => rfl)) ?_
    split <;> rfl

theorem ids_releaseClient (s : State) (cl : Nat) : ids (s.releaseClient cl) = ids s := by
  unfold State.releaseClient
  split
  · rfl
  · split
    · rfl
    · split
      · exact ids_modClient s cl _ (fun _ => rfl)
      · exact ids_modClient s cl _ (fun _ => rfl)

theorem ids_touch (s : State) (cl : Nat) : ids (Do.touch s cl) = ids s := by
  unfold Do.touch; rw [ids_releaseClient, ids_holdClient]

theorem ids_confirmClient (s : State) (cl : Nat) : ids (Do.confirmClient s cl) = ids s := by
  unfold Do.confirmClient
  split
  · rfl
  · split
    · rfl
    · exact ids_modClient s cl _ (fun _ => rfl)

theorem ids_holdBegin (s : State) (tag cl : Nat) : ids (Do.holdBegin s tag cl) = ids s := by
  unfold Do.holdBegin
  split
  · rfl
  · rw [ids_holdClient]; rfl

theorem ids_holdEnd (s : State) (tag : Nat) : ids (Do.holdEnd s tag) = ids s := by
  unfold Do.holdEnd
  split
  · rfl
  · rw [ids_releaseClient]; rfl

theorem ids_ioBegin (s : State) (tag sid : Nat) (m : Mask) (holds : Bool) :
    ids (Do.ioBegin s tag sid m holds) = ids s := by
  exact ioBegin_elim (P := fun s' => ids s' = ids s) s tag sid m holds rfl (fun _ => rfl)
    fun _ _ _ _ _ _ _ => ⟨fun _ => ids_holdClient _ _, fun _ => rfl⟩

theorem ids_ioEnd (s : State) (tag : Nat) : ids (Do.ioEnd s tag) = ids s := by
  refine ioEnd_elim (P := fun s' => ids s' = ids s) s tag rfl (fun _ => rfl)
    fun x f c z _ _ _ => ?_
  have hf : ids (ioEnded s tag x f c z) = ids s :=
    ids_frame (s := { s with ios := s.ios.filter (fun io => io.tag != tag) })
      (frame_modFile_pushPend _ _ _ _ _)
  exact ⟨fun _ => (ids_frame (frame_gc _)).trans ((ids_releaseClient _ _).trans hf),
    fun _ => (ids_frame (frame_gc _)).trans hf⟩

theorem mem_ids {s : State} {id : Nat} : id ∈ ids s ↔ ∃ c ∈ s.clients, c.id = id := by
  unfold ids; exact List.mem_map

theorem ids_addSession (s : State) (cl k : Nat) : ids (Do.addSession s cl k) = ids s :=
  ids_modClient s cl _ (fun _ => rfl)
theorem ids_delSession (s : State) (cl k : Nat) : ids (Do.delSession s cl k) = ids s :=
  ids_modClient s cl _ (fun _ => rfl)

/-- hold_protects, step form: a record that is held by an in-flight request survives every action -/
theorem held_survives (s : State) (a : Act) (h : InvC s) (c : Client) (hc : c ∈ s.clients) (hh : 0 < c.hold) :
    ∃ c' ∈ (apply s a).clients, c'.id = c.id := by
  have hm : c.id ∈ ids s := mem_ids.mpr ⟨c, hc, rfl⟩
  apply mem_ids.mp
  unfold apply
  split
  · exact hm
  · cases a with
    | tick d => exact (ids_frame (frame_tick s d)) ▸ hm
    | setNow => exact (ids_frame (frame_setNow s)) ▸ hm
    | newClient long ver =>
      show c.id ∈ ids (Do.newClient s long ver)
      unfold Do.newClient
      split
      · exact hm
      · exact mem_ids.mpr ⟨c, List.mem_append_left _ hc, rfl⟩
    | touch cl => exact (ids_touch s cl) ▸ hm
    | confirmClient cl => exact (ids_confirmClient s cl) ▸ hm
    | dropClient cl =>
      refine dropClient_elim (P := fun s' => c.id ∈ ids s') s cl (fun _ => hm) (fun _ => hm)
        fun c0 hs hz _ _ _ => ?_
      obtain ⟨hc0, hid0⟩ := getClient_some s cl c0 hs
      refine mem_ids.mpr ⟨c, List.mem_filter.mpr ⟨hc, ?_⟩, rfl⟩
      simp only [bne_iff_ne, ne_eq]
      intro e
      have : c = c0 := uniq_id _ h.clNodup c hc c0 hc0 (e.trans hid0.symm)
      subst this
      omega
    | addSession cl k => exact (ids_addSession s cl k) ▸ hm
    | delSession cl k => exact (ids_delSession s cl k) ▸ hm
    | holdBegin tag cl => exact (ids_holdBegin s tag cl) ▸ hm
    | holdEnd tag => exact (ids_holdEnd s tag) ▸ hm
    | ooSet oo => exact (ids_frame (frame_ooSet s oo)) ▸ hm
    | ooDel cl key => exact (ids_frame (frame_ooDel s cl key)) ▸ hm
    | loRegister cl key => exact (ids_frame (frame_loRegister s cl key)) ▸ hm
    | loPrune id => exact (ids_frame (frame_loPrune s id)) ▸ hm
    | loSet id lastSeq resp => exact (ids_frame (frame_loSet s id lastSeq resp)) ▸ hm
    | vopen tag leaf m create trunc => exact (ids_frame (frame_vopen s tag leaf m create trunc)) ▸ hm
    | tempClose tag => exact (ids_frame (frame_tempClose s tag)) ▸ hm
    | tempToPend tag => exact (ids_frame (frame_tempToPend s tag)) ▸ hm
    | openNew tag cl owner => exact (ids_frame (frame_openNew s tag cl owner)) ▸ hm
    | openUpgrade tag sid => exact (ids_frame (frame_openUpgrade s tag sid)) ▸ hm
    | downgradeOpen sid new => exact (ids_frame (frame_downgradeOpen s sid new)) ▸ hm
    | addLofs sid lo => exact (ids_frame (frame_addLofs s sid lo)) ▸ hm
    | removeLofs sid lsid => exact (ids_frame (frame_removeLofs s sid lsid)) ▸ hm
    | unlockAllLofs sid lsid => exact (ids_frame (frame_unlockAllLofs s sid lsid)) ▸ hm
    | lockSet sid lsid lk => exact (ids_frame (frame_lockSet s sid lsid lk)) ▸ hm
    | finalize sid => exact (ids_frame (frame_finalize s sid)) ▸ hm
    | ioBegin tag sid m holds => exact (ids_ioBegin s tag sid m holds) ▸ hm
    | ioEnd tag => exact (ids_ioEnd s tag) ▸ hm
    | flush => exact (ids_frame (frame_flush s)) ▸ hm
    | setCur tag => exact (ids_frame (frame_setCur s tag)) ▸ hm
    | proto p => exact (ids_frame (frame_setProto s p)) ▸ hm

theorem invC_reachable (ver n : Nat) (acts : List Act) : InvC (applyAll (BbRe.NfsState.init ver n) acts) :=
  invC_applyAll _ acts (invC_init ver n)

/-- non-vacuity of `held_survives` / `held_not_idle`: a reachable state with a held record
(id 1, held by SEQUENCE compound 7), and one where the record is idle again -/
example : ∃ c ∈ (applyAll (BbRe.NfsState.init 41 1) [.newClient 5 0, .holdBegin 7 1]).clients,
    c.id = 1 ∧ 0 < c.hold := by decide
example : (applyAll (BbRe.NfsState.init 41 1) [.newClient 5 0, .holdBegin 7 1]).idle = [] := by decide
example : (applyAll (BbRe.NfsState.init 41 1) [.newClient 5 0, .holdBegin 7 1, .holdEnd 7]).idle = [1] := by
  decide

end BbRe.Lemmas.NfsInvC
