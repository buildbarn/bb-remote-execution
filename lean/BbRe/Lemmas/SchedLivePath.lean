import BbRe.Lemmas.SchedLiveSpec2
/-!
What a successful segment of `Model/SchedStep.lean` does to the state, described once.  Four relations of
primitive updates (`IPrim`: `enter`, the cleanup callbacks, `complete`; `SPrim`: client calls; `WPrim`: the
`Synchronize` of one worker; `OPrim`: operator calls), each update with the guards that held and the records
found, and `step_path`: a successful segment is a path of the primitives of its group.  A property of segments
that is reflexive and transitive is then one case analysis per group, through `Path.rel`.

An update is compound (`final`, `retry`, `bg`, `newTask`, `assign`, `addDrain`) where the invariants of the tower
fail in between: a task is consistent only after the `setTask` / `bumpGen` that closes its change, `schedule`
hands a task to a worker without a generation bump, and a parked worker that matches a new drain violates the
worker invariant until the wake-up loop has run.
-/
namespace BbRe.Lemmas.SchedLive
open BbRe.Sched

/-- reflexive-transitive closure of a relation of primitive updates -/
inductive Path (P : State → State → Prop) : State → State → Prop
  | nil (s : State) : Path P s s
  | cons {a b c : State} : P a b → Path P b c → Path P a c

namespace Path
variable {P Q : State → State → Prop} {a b c : State}

theorem one (h : P a b) : Path P a b := .cons h (.nil _)

theorem trans (h1 : Path P a b) (h2 : Path P b c) : Path P a c := by
  induction h1 with
  | nil => exact h2
  | cons h _ ih => exact .cons h (ih h2)

theorem snoc (h1 : Path P a b) (h2 : P b c) : Path P a c := h1.trans (one h2)

theorem mono (h : ∀ {a b}, P a b → Q a b) (p : Path P a b) : Path Q a b := by
  induction p with
  | nil => exact .nil _
  | cons h1 _ ih => exact .cons (h h1) ih

/-- a reflexive, transitive relation that contains the primitives contains the paths -/
theorem rel (R : State → State → Prop) (hrefl : ∀ s, R s s) (htrans : ∀ {a b c}, R a b → R b c → R a c)
    (h : ∀ {a b}, P a b → R a b) (p : Path P a b) : R a b := by
  induction p with
  | nil => exact hrefl _
  | cons h1 _ ih => exact htrans (h h1) ih

theorem foldl {α} (f : State → α → State) (hf : ∀ s x, P s (f s x)) (l : List α) (s : State) :
    Path P s (l.foldl f s) :=
  foldl_rel (Path P) .nil trans f (fun s x => one (hf s x)) l s
end Path

/-- responses created by the scheduler itself: never attributed to a worker, no payload -/
def SchedMade (_k : Nat) (r : Resp) : Prop := r.cause ≠ .worker ∧ r.tok = 0 ∧ r.exit = 0

/-- a response the report `rep` of worker `(q, w)` carries for digest `d`, where in some state `s3` that worker
was recorded as running task `k` with that digest (the definition does not say which state; `syncArrive_path`
supplies the one in which `Synchronize` compared the digests) -/
def WorkerMade (q : ScqId) (w : WId) (rep : Report) (k : Nat) (r : Resp) : Prop :=
  ∃ d, rep = .completed d r ∧ ∃ s3 wk, s3.worker? q w = some wk ∧ wk.task = some k ∧ RunningCorrect s3 wk d

/-- the segment's own contribution to stored responses -/
def StepMade (g : Seg) (k : Nat) (r : Resp) : Prop :=
  SchedMade k r ∨ ∃ h now q comps pf w rep pi, g = .sync h now q comps pf w rep pi ∧ WorkerMade q w rep k r

/-- responses of the cleanup callbacks: scheduler-made failures -/
def CleanupMade (k : Nat) (r : Resp) : Prop := SchedMade k r ∧ ¬ isSucc r

/-- the retry branch of `complete` is open -/
def retryAllowed (h : Hints) (r : Resp) (bw : Bool) : Prop := bw = true ∧ h.retry = true ∧ ¬ isSucc r

/-- the segment is a `Synchronize` that reports a failed completion and whose analyzer asks for a retry -/
def isRetrySeg : Seg → Prop
  | .sync h _ _ _ _ _ (.completed _ r) _ => h.retry = true ∧ ¬ isSucc r
  | _ => False

/-- What `enter`, the cleanup callbacks and `complete` do.  `P k r`: response `r` may be stored in task `k`;
`allow`: the retry branch of `complete` may be taken. -/
inductive IPrim (P : Nat → Resp → Prop) (allow : Prop) : State → State → Prop
  | now {s : State} {t : Nat} : s.now < t → IPrim P allow s (setNow s t)
  | pop {s : State} {e : CleanupEntry} {rest : List CleanupEntry} :
      popDue s.now s.cleanup = some (e, rest) → IPrim P allow s (setCleanup s rest)
  | dropWorker (s : State) (q : ScqId) (w : WId) (rt : Nat) : IPrim P allow s (dropWorker s q w rt)
  | eraseOp {s : State} {o : Nat} {op : Op} {t : Task} : s.op? o = some op → s.task? op.task = some t →
      IPrim P allow s (eraseOp s o)
  | dropOpT {s : State} {k : Nat} {t : Task} (o : Nat) : s.task? k = some t → IPrim P allow s (dropOpT s t o)
  | dropScq (s : State) (q : ScqId) : IPrim P allow s (dropScq s q)
  /-- final completion: detach from the worker, store the response, finish the operations -/
  | final {s : State} {tid l : Nat} {t : Task} {ev : Event} (r : Resp) :
      s.task? tid = some t → t.response = none → t.learner = some l → isClientEv ev = false → P tid r →
      IPrim P allow s (succS (detachW s t) (detachT t) ev r)
  /-- after the final completion of `tid` with a success `r`: the learner id is used up -/
  | learner {s : State} {tid : Nat} {r : Resp} {ev : Event} : P tid r → isSucc r → isClientEv ev = false →
      IPrim P allow s (emit (bumpLearner s) ev)
  /-- after the final completion of `tid` with a success `r`: background learning task created and scheduled -/
  | bg {h : Hints} {s s' : State} {tid : Nat} {r : Resp} (t : Task) (bq : ScqId) (pq : PQ) : P tid r → isSucc r →
      bq.pq = t.scq.pq → schedule h (bgState (bumpLearner s) t bq s.nextLearner pq) s.nextTask = .ok s' →
      IPrim P allow s s'
  /-- retry on the largest size class: the whole branch, the task is consistent only at its end -/
  | retry {h : Hints} {s s' : State} {tid l : Nat} {t : Task} {r : Resp} :
      allow → s.task? tid = some t → t.response = none → t.learner = some l →
      completeRetry h (detachW s t) (detachT t) l r = .ok s' → IPrim P allow s s'

theorem IPrim.mono {P Q : Nat → Resp → Prop} {al al' : Prop} (hP : ∀ k r, P k r → Q k r) (ha : al → al') {a b : State}
    (p : IPrim P al a b) : IPrim Q al' a b := by
  cases p with
  | now h => exact .now h
  | pop h => exact .pop h
  | dropWorker => exact .dropWorker ..
  | eraseOp h1 h2 => exact .eraseOp h1 h2
  | dropOpT o h => exact .dropOpT o h
  | dropScq => exact .dropScq ..
  | final r h1 h2 h3 h4 h5 => exact .final r h1 h2 h3 h4 (hP _ _ h5)
  | learner hp hs h => exact .learner (hP _ _ hp) hs h
  | bg t bq pq hp hs h1 h2 => exact .bg t bq pq (hP _ _ hp) hs h1 h2
  | retry hb h0 hn hl h1 => exact .retry (ha hb) h0 hn hl h1

/-- What a client stream call does on top of the internal helpers. -/
inductive SPrim : State → State → Prop
  | int {a b : State} : IPrim SchedMade False a b → SPrim a b
  | attach {s : State} {o : Nat} {op : Op} : s.op? o = some op → SPrim s (attachS s o op)
  | done {s : State} {o : Nat} {op : Op} {t : Task} {r : Resp} (c : Nat) :
      s.op? o = some op → s.task? op.task = some t → t.response = some r → op.waiters ≠ 0 → SPrim s (sendDone s c o op t r)
  | park {s : State} {o : Nat} {op : Op} {t : Task} (c : Nat) :
      s.op? o = some op → s.task? op.task = some t → t.response = none → SPrim s (sendPark s c o t)
  | leave {s : State} {c : Nat} {st : Stream} {op : Op} (code : Nat) :
      s.streams.find? (fun x => x.client = c) = some st → s.op? st.op = some op → op.waiters ≠ 0 →
      SPrim s (leaveS s c st op code)
  | ret (s : State) (c code : Nat) : SPrim s (emit s (.ret c code))
  | ev (s : State) {e : Event} : isClientEv e = false → SPrim s (emit s e)
  | addOp {s : State} {dkey tid : Nat} {t : Task} (inv : List Nat) (prio : Int) : alookup dkey s.dedup = some tid →
      s.task? tid = some t → t.response.isSome = false → SPrim s (addOpS s tid t inv prio)
  /-- a new task with its first operation, scheduled -/
  | newTask {h : Hints} {s s3 : State} {comps : List Nat} {platform sc : Nat} {pq : PQ} (digest dkey : Nat) (dnc : Bool)
      (inv : List Nat) (prio : Int) : alookup dkey s.dedup = none → route s comps platform = some pq →
      (s.sizes pq.id)[min h.sel ((s.sizes pq.id).length - 1)]? = some sc →
      schedule h (newTaskS s digest dkey dnc ⟨pq.id, sc⟩ inv prio) s.nextTask = .ok s3 → SPrim s s3

/-- What a `Synchronize` call of worker `(q, w)` does on top of the internal helpers. -/
inductive WPrim (P : Nat → Resp → Prop) (allow : Prop) (q : ScqId) (w : WId) : State → State → Prop
  | int {a b : State} : IPrim P allow a b → WPrim P allow q w a b
  | ev (s : State) {e : Event} : isClientEv e = false → WPrim P allow q w s (emit s e)
  | qKnown {s : State} : (∃ sq, s.scq? q = some sq) → WPrim P allow q w s (s.removeCleanup (.scq q))
  | addScq {s : State} : s.scq? q = none → (∃ pq, s.pq? q.pq = some pq) → WPrim P allow q w s (addScq s q)
  | addPqScq {s : State} (comps : List Nat) (pf : Nat) : s.scq? q = none → s.pq? q.pq = none →
      WPrim P allow q w s (addPqScq s q comps pf)
  | inSync {s : State} {wk : Worker} : s.worker? q w = some wk → wk.inSync = false →
      WPrim P allow q w s ((s.removeCleanup (.worker q w)).setWorker { wk with inSync := true })
  | addWorker {s : State} : s.worker? q w = none → WPrim P allow q w s (addWorker s q w)
  | ret (s : State) : WPrim P allow q w s (syncReturn s q w)
  /-- a queued task is taken (`assignNext` with its closing `bumpGen`) -/
  | assign {h : Hints} {s s1 : State} {wk : Worker} {sq : Scq} : s.worker? q w = some wk → s.scq? q = some sq →
      isDrained sq wk = false → assignNext h s wk = .ok (s1, true) → WPrim P allow q w s s1
  | park {s : State} {wk : Worker} {sq : Scq} : s.worker? q w = some wk → s.scq? q = some sq →
      isDrained sq wk = false → (queuedTasks s wk.scq).isEmpty = true → wk.parked = false →
      WPrim P allow q w s (parkS s wk)
  | drainWait {s : State} {wk : Worker} {sq : Scq} : s.worker? q w = some wk → s.scq? q = some sq →
      isDrained sq wk = true → WPrim P allow q w s (drainWaitS s wk sq)
  | retryInc {s : State} {wk : Worker} {tid : Nat} {t : Task} : s.worker? q w = some wk → wk.task = some tid →
      s.task? tid = some t → t.retry < s.cfg.retryCount → WPrim P allow q w s (s.setTask { t with retry := t.retry + 1 })
  | unpark {s : State} {wk : Worker} : s.worker? q w = some wk → wk.inSync = true →
      WPrim P allow q w s (s.setWorker { wk with parked := false, woken := false, drainWait := none })
  | unwoken {s : State} {wk : Worker} : s.worker? q w = some wk → wk.inSync = true → wk.woken = true →
      WPrim P allow q w s (s.setWorker { wk with woken := false })
  | undrain {s : State} {wk : Worker} {sq : Scq} {g : Nat} : s.worker? q w = some wk → wk.inSync = true →
      s.scq? q = some sq → wk.drainWait = some g → g ≠ sq.undrainGen →
      WPrim P allow q w s (s.setWorker { wk with drainWait := none })

/-- What the operator calls and `RegisterPredeclaredPlatformQueue` do on top of the internal helpers.  `term`: the
call is `TerminateWorkers` or the wake-up of one; only then are workers marked and does the list of blocked calls
change. -/
inductive OPrim (term : Prop) : State → State → Prop
  | int {a b : State} : IPrim SchedMade False a b → OPrim term a b
  | ev (s : State) {e : Event} : isClientEv e = false → OPrim term s (emit s e)
  /-- the drain is recorded and the parked workers it matches are woken -/
  | addDrain {s : State} {q : ScqId} {sq : Scq} (p : Pattern) : s.scq? q = some sq →
      OPrim term s (s.workers.foldl (drainWake q p)
        (s.setScq { sq with drains := if sq.drains.contains p then sq.drains else sq.drains ++ [p] }))
  | removeDrain {s : State} {q : ScqId} {sq : Scq} (p : Pattern) : s.scq? q = some sq →
      OPrim term s (s.setScq { sq with drains := sq.drains.filter (· ≠ p), undrainGen := sq.undrainGen + 1 })
  | termMark (s : State) (w : Worker) : term → OPrim term s (termMark s w)
  | addTerm (s : State) {tc : TermCall} : term → tc.waits.isEmpty = false → OPrim term s (addTerm s tc)
  | dropTerm {s : State} {id : Nat} {tc : TermCall} : term → s.terms.find? (fun t => t.id = id) = some tc →
      OPrim term s (dropTerm s id)
  | register (s : State) (id : Nat) (comps : List Nat) (pf : Nat) (sizes : List Nat) (bm : Nat) (bp : Int) :
      OPrim term s (registerPQ s id comps pf sizes bm bp)

/-! ## the walk -/

theorem complete_path {h : Hints} {s s' : State} {tid : Nat} {r : Resp} {bw : Bool}
    (hh : complete h s tid r bw = .ok s') : Path (IPrim (fun k r' => k = tid ∧ r' = r) (retryAllowed h r bw)) s s' := by
  obtain ⟨t, h0, ⟨_, rfl⟩ | ⟨hn, l, hl, ⟨hs, h1⟩ | ⟨hs, hb, hre, h1⟩ | ⟨_, _, ev, hev, rfl⟩⟩⟩ := complete_ok hh
  · exact .nil _
  · obtain ⟨ev, hev, rfl | ⟨ev', hev', rfl⟩ | ⟨bq, pq, h2, hbq⟩⟩ := completeSucc_ok h1
    · exact .one (.final r h0 hn hl hev ⟨rfl, rfl⟩)
    · exact (Path.one (.final r h0 hn hl hev ⟨rfl, rfl⟩)).snoc (.learner ⟨rfl, rfl⟩ hs hev')
    · exact (Path.one (.final r h0 hn hl hev ⟨rfl, rfl⟩)).snoc (.bg _ bq pq ⟨rfl, rfl⟩ hs hbq h2)
  · exact .one (.retry ⟨hb, hre, hs⟩ h0 hn hl h1)
  · exact .one (.final r h0 hn hl hev ⟨rfl, rfl⟩)

/-- a completion by the scheduler itself: there is no retry -/
theorem complete_path_false {P : Nat → Resp → Prop} {h : Hints} {s s' : State} {tid : Nat} {r : Resp} (hr : P tid r)
    (hh : complete h s tid r false = .ok s') : Path (IPrim P False) s s' :=
  (complete_path hh).mono (IPrim.mono (fun _ _ e => e.1 ▸ e.2 ▸ hr) (fun e => nomatch e.1))

theorem cancelAllQueued_path {P : Nat → Resp → Prop} {h : Hints} {s s' : State} {q : ScqId} {r : Resp} (hr : ∀ k, P k r)
    (hh : cancelAllQueued h s q r = .ok s') : Path (IPrim P False) s s' := by
  unfold cancelAllQueued at hh
  exact foldlM_rel (Path (IPrim P False)) Path.nil (fun _ _ _ => Path.trans) _
    (fun _ _ _ hc => complete_path_false (hr _) hc) _ _ _ hh

/-- A cleanup callback: a failing `complete` first, then the worker is dropped, or the operation erased and
unlinked from its task, or the queue dropped. -/
theorem callback_path {h : Hints} {s s' : State} {e : CleanupEntry} (hh : callback h s e = .ok s') :
    Path (IPrim CleanupMade False) s s' := by
  unfold callback at hh
  split at hh
  · rcases removeStaleWorker_ok hh with ⟨_, rfl⟩ | ⟨wk, s1, _, ⟨t, _, h1⟩ | ⟨_, rfl⟩, rfl⟩
    · exact .nil _
    · exact (complete_path_false ⟨⟨by simp, rfl, rfl⟩, by simp [isSucc, cUnavailable, cOK]⟩ h1).snoc (.dropWorker ..)
    · exact .one (.dropWorker ..)
  · rcases removeOp_ok hh with ⟨_, rfl⟩ | ⟨op, t, s1, t1, ho, ht, ⟨_, h1⟩ | ⟨_, rfl⟩, h2, rfl⟩
    · exact .nil _
    · exact (Path.cons (.eraseOp ho ht) (complete_path_false ⟨⟨by simp, rfl, rfl⟩, by simp [isSucc, cCanceled, cOK]⟩ h1)).snoc (.dropOpT _ h2)
    · exact .cons (.eraseOp ho ht) (.one (.dropOpT _ h2))
  · obtain ⟨s1, h1, rfl⟩ := removeScq_ok hh
    exact (cancelAllQueued_path (fun _ => ⟨⟨by simp, rfl, rfl⟩, by simp [isSucc, cUnavailable, cOK]⟩) h1).snoc (.dropScq ..)

theorem runCleanup_path {h : Hints} (f : Nat) {s s' : State} (hh : runCleanup h f s = .ok s') :
    Path (IPrim CleanupMade False) s s' := by
  induction f generalizing s with
  | zero => rw [runCleanup_zero, pure_ok] at hh; exact hh ▸ .nil _
  | succ f ih =>
    rw [runCleanup_succ] at hh
    split at hh
    · rw [pure_ok] at hh; exact hh ▸ .nil _
    · rename_i e rest hp
      obtain ⟨s1, h1, h2⟩ := (bind_ok ..).1 hh
      exact .cons (.pop hp) ((callback_path h1).trans (ih h2))

theorem enter_path {h : Hints} {s s' : State} {t : Nat} (hh : enter h s t = .ok s') : Path (IPrim CleanupMade False) s s' := by
  rcases enter_ok hh with ⟨_, rfl⟩ | ⟨hlt, h1⟩
  · exact .nil _
  · exact .cons (.now hlt) (runCleanup_path _ h1)

/-- A path from the state after a call's `enter` extends to one from the call's start.  The calls deliver the
first form, so that a fact known of every reachable state can be used at that interior state (it is the result
of a `touch` segment). -/
theorem Path.ofEnter {X : State → State → Prop} (hint : ∀ {a b}, IPrim SchedMade False a b → X a b) {h : Hints}
    {s s' : State} {now : Nat} (p : ∃ s1, enter h s now = .ok s1 ∧ Path X s1 s') : Path X s s' :=
  let ⟨_, h1, p⟩ := p
  ((enter_path h1).mono (fun x => hint (x.mono (fun _ _ e => e.1) id))).trans p

theorem streamSend_path {s s' : State} {c o : Nat} (hh : streamSend s c o = .ok s') : Path SPrim s s' := by
  obtain ⟨op, t, h1, h2, ⟨r, hr, hw, rfl⟩ | ⟨hr, rfl⟩⟩ := streamSend_ok hh
  · exact .one (.done c h1 h2 hr hw)
  · exact .one (.park c h1 h2 hr)

theorem streamAttach_path {s s' : State} {c o : Nat} (hh : streamAttach s c o = .ok s') : Path SPrim s s' := by
  obtain ⟨op, h0, h1⟩ := streamAttach_ok hh
  exact .cons (.attach h0) (streamSend_path h1)

theorem streamLeave_path {s s' : State} {c code : Nat} (hh : streamLeave s c code = .ok s') : Path SPrim s s' := by
  obtain ⟨st, op, h1, h2, h3, rfl⟩ := streamLeave_ok hh
  exact .one (.leave code h1 h2 h3)

theorem streamWake_path {h : Hints} {s s' : State} {now c reason : Nat}
    (hh : streamWake h s now c reason = .ok s') : ∃ s1, enter h s now = .ok s1 ∧ Path SPrim s1 s' := by
  obtain ⟨s1, st, h1, _, ⟨_, h3⟩ | ⟨_, _, h3⟩⟩ := streamWake_ok hh
  · exact ⟨s1, h1, streamLeave_path h3⟩
  · exact ⟨s1, h1, streamSend_path h3⟩

theorem waitArrive_path {h : Hints} {s s' : State} {now c name : Nat}
    (hh : waitArrive h s now c name = .ok s') : ∃ s1, enter h s now = .ok s1 ∧ Path SPrim s1 s' := by
  obtain ⟨s1, h1, ⟨_, rfl⟩ | ⟨op, _, h2⟩⟩ := waitArrive_ok hh
  · exact ⟨s1, h1, .one (.ret ..)⟩
  · exact ⟨s1, h1, streamAttach_path h2⟩

theorem execArrive_path {h : Hints} {s s' : State} {now c digest dkey : Nat} {dnc : Bool} {comps : List Nat}
    {platform : Nat} {inv : List Nat} {prio : Int}
    (hh : execArrive h s now c digest dkey dnc comps platform inv prio = .ok s') :
    ∃ s1, enter h s now = .ok s1 ∧ Path SPrim s1 s' := by
  obtain ⟨s1, h1, h2 | h2 | h2⟩ := execArrive_ok hh <;> refine ⟨s1, h1, ?_⟩
  · obtain ⟨tid, t, hd, h0, ⟨o, _, h3⟩ | ⟨hr, h3⟩⟩ := h2
    · exact .cons (.ev _ rfl) (streamAttach_path h3)
    · exact .cons (.ev _ rfl) (.cons (.addOp inv prio hd h0 hr) (streamAttach_path h3))
  · obtain ⟨_, _, rfl⟩ := h2
    exact .cons (.ev _ rfl) (.one (.ret ..))
  · obtain ⟨hd, pq, sc, s3, hro, hsc, h3, h4⟩ := h2
    exact .cons (.newTask digest dkey dnc inv prio hd hro hsc h3) (streamAttach_path h4)

section worker
variable {P : Nat → Resp → Prop} {allow : Prop} {q : ScqId} {w : WId}

theorem getNextTask_path {h : Hints} {s s' : State} {pi block : Bool}
    (hh : getNextTask h s q w pi block = .ok s') : Path (WPrim P allow q w) s s' := by
  obtain ⟨wk, sq, hwk, hsq, ⟨_, rfl⟩ | ⟨_, hd, s1, got, h2, h3⟩ | ⟨_, hd, ⟨_, rfl⟩ | ⟨_, rfl⟩⟩⟩ := getNextTask_ok hh
  · exact .cons (.ev _ rfl) (.one (.ret _))
  · rcases assignNext_ok h2 with ⟨rfl, rfl, he⟩ | ⟨rfl, _⟩
    · -- nothing was assigned: the state is unchanged
      rcases h3 with ⟨e, _⟩ | ⟨_, _, rfl⟩ | ⟨_, _, wk1, h5, h6, rfl⟩
      · cases e
      · exact .cons (.ev _ rfl) (.one (.ret _))
      · cases hwk.symm.trans h5
        exact .one (.park hwk hsq hd he h6)
    · rcases h3 with ⟨_, wk1, s2, _, h4, rfl⟩ | ⟨e, _⟩ | ⟨e, _⟩
      · obtain ⟨tid, t, _, _, rfl⟩ := execResponse_ok h4
        exact .cons (.assign hwk hsq hd h2) (.cons (.ev _ rfl) (.one (.ret _)))
      · cases e
      · cases e
  · exact .cons (.ev _ rfl) (.one (.ret _))
  · exact .one (.drainWait hwk hsq hd)

theorem getCurrentOrNext_path (hP : ∀ k r, SchedMade k r → P k r) {h : Hints} {s s' : State} {pi block : Bool}
    (hh : getCurrentOrNext h s q w pi block = .ok s') : Path (WPrim P allow q w) s s' := by
  obtain ⟨wk, hwk, ⟨_, h1⟩ | ⟨tid, t, hwt, h0, ⟨hlt, rfl⟩ | ⟨_, s1, h3, h4⟩⟩⟩ := getCurrentOrNext_ok hh
  · exact getNextTask_path h1
  · exact .cons (.retryInc hwk hwt h0 hlt) (.cons (.ev _ rfl) (.one (.ret _)))
  · exact ((complete_path_false ⟨by simp, rfl, rfl⟩ h3).mono
      (fun p => .int (p.mono hP (fun e => nomatch e)))).trans (getNextTask_path h4)

theorem syncArrive_path {h : Hints} {s s' : State} {now : Nat} {comps : List Nat} {pf : Nat}
    {rep : Report} {pi : Bool} (hh : syncArrive h s now q comps pf w rep pi = .ok s') :
    ∃ s1, enter h s now = .ok s1 ∧
      Path (WPrim (StepMade (.sync h now q comps pf w rep pi)) (isRetrySeg (.sync h now q comps pf w rep pi)) q w) s1 s' := by
  obtain ⟨s1, x, h1, h2, h3⟩ := syncArrive_ok hh
  refine ⟨s1, h1, ?_⟩
  have hP : ∀ k r, SchedMade k r → StepMade (.sync h now q comps pf w rep pi) k r := fun _ _ => .inl
  rcases h3 with rfl | ⟨s2, rfl, h3⟩
  · rcases syncQueue_ok h2 with ⟨_, e⟩ | ⟨_, e⟩ | ⟨_, _, e⟩ | ⟨_, _, e⟩ <;> cases e
    exact .one (.ev _ rfl)
  have hq : WPrim (StepMade (.sync h now q comps pf w rep pi)) (isRetrySeg (.sync h now q comps pf w rep pi)) q w s1 s2 := by
    rcases syncQueue_ok h2 with ⟨hq, e⟩ | ⟨_, e⟩ | ⟨hq, hp, e⟩ | ⟨hq, hp, e⟩ <;> cases e
    · exact .qKnown hq
    · exact .addScq hq hp
    · exact .addPqScq comps pf hq hp
  refine .cons hq ?_
  rcases h3 with h3 | ⟨s3, wk3, h3, hwk3, h5⟩
  · rcases syncWorker_cases s2 q w with ⟨wk, hwk, hin, e⟩ | ⟨wk, hwk, hin, e⟩ | ⟨hwk, e⟩ <;> rw [e] at h3 <;> cases h3
    exact .one (.ev _ rfl)
  have hw : WPrim (StepMade (.sync h now q comps pf w rep pi)) (isRetrySeg (.sync h now q comps pf w rep pi)) q w s2 s3 := by
    rcases syncWorker_cases s2 q w with ⟨wk, hwk, hin, e⟩ | ⟨wk, hwk, hin, e⟩ | ⟨hwk, e⟩ <;> rw [e] at h3 <;> cases h3
    · exact .inSync hwk hin
    · exact .addWorker hwk
  refine .cons hw ?_
  rcases h5 with ⟨_, rfl⟩ | ⟨_, h5⟩ | ⟨d, _, _, rfl⟩ | ⟨d, _, _, h5⟩ | ⟨d, r, tid, s4, hrep, hrc, hwt, h5, h6⟩ | ⟨d, r, _, _, h5⟩
  · exact .cons (.ev _ rfl) (.one (.ret _))
  · exact getCurrentOrNext_path hP h5
  · exact .cons (.ev _ rfl) (.one (.ret _))
  · exact getCurrentOrNext_path hP h5
  · subst hrep
    -- the one completion a worker reports: its response is `WorkerMade`, compared in `s3`; a retry needs `isRetrySeg`
    exact ((complete_path h5).mono (fun p => .int (p.mono
      (fun _ _ e => e.1 ▸ e.2 ▸ .inr ⟨_, _, _, _, _, _, _, _, rfl, d, rfl, s3, wk3, hwk3, hwt, hrc⟩)
      (fun e => ⟨e.2.1, e.2.2⟩)))).trans (getNextTask_path h6)
  · exact getCurrentOrNext_path hP h5

theorem syncWake_path {h : Hints} {s s' : State} {now : Nat} {reason : Nat}
    (hh : syncWake h s now q w reason = .ok s') : ∃ s1, enter h s now = .ok s1 ∧ Path (WPrim P allow q w) s1 s' := by
  obtain ⟨s1, wk, h1, hwk, hin, h2⟩ := syncWake_ok hh
  refine ⟨s1, h1, ?_⟩
  rcases h2 with ⟨_, ⟨s3, _, h3, rfl⟩ | ⟨_, rfl⟩⟩ | ⟨_, rfl⟩ | ⟨_, hwo, ⟨s3, _, h3, rfl⟩ | ⟨_, h2⟩⟩ | ⟨_, sq, g, hsq, hdw, hg, h2⟩
  · obtain ⟨tid, t, _, _, rfl⟩ := execResponse_ok h3
    exact .cons (.unpark hwk hin) (.cons (.ev _ rfl) (.one (.ret _)))
  · exact .cons (.unpark hwk hin) (.cons (.ev _ rfl) (.one (.ret _)))
  · exact .cons (.unpark hwk hin) (.cons (.ev _ rfl) (.one (.ret _)))
  · obtain ⟨tid, t, _, _, rfl⟩ := execResponse_ok h3
    exact .cons (.unwoken hwk hin hwo) (.cons (.ev _ rfl) (.one (.ret _)))
  · exact .cons (.unwoken hwk hin hwo) (getNextTask_path h2)
  · exact .cons (.undrain hwk hin hsq hdw hg) (getNextTask_path h2)
end worker

section operator
variable {term : Prop}

theorem killOp_path {h : Hints} {s s' : State} {now name code : Nat} (hh : killOp h s now name code = .ok s') :
    ∃ s1, enter h s now = .ok s1 ∧ Path (OPrim term) s1 s' := by
  obtain ⟨s1, h1, ⟨_, rfl⟩ | ⟨op, s2, _, h2, rfl⟩⟩ := killOp_ok hh <;> refine ⟨s1, h1, ?_⟩
  · exact .one (.ev _ rfl)
  · exact ((complete_path_false ⟨by simp, rfl, rfl⟩ h2).mono .int).snoc (.ev _ rfl)

theorem killQueue_path {h : Hints} {s s' : State} {now : Nat} {q : ScqId} {code : Nat}
    (hh : killQueue h s now q code = .ok s') : ∃ s1, enter h s now = .ok s1 ∧ Path (OPrim term) s1 s' := by
  obtain ⟨s1, h1, ⟨ev, hev, rfl⟩ | ⟨s2, h2, rfl⟩⟩ := killQueue_ok hh <;> refine ⟨s1, h1, ?_⟩
  · exact .one (.ev _ hev)
  · exact ((cancelAllQueued_path (fun _ => ⟨by simp, rfl, rfl⟩) h2).mono .int).snoc (.ev _ rfl)

theorem addDrain_path {h : Hints} {s s' : State} {now : Nat} {q : ScqId} {p : Pattern}
    (hh : addDrain h s now q p = .ok s') : ∃ s1, enter h s now = .ok s1 ∧ Path (OPrim term) s1 s' := by
  obtain ⟨s1, h1, ⟨_, rfl⟩ | ⟨sq, hsq, rfl⟩⟩ := addDrain_ok hh <;> refine ⟨s1, h1, ?_⟩
  · exact .one (.ev _ rfl)
  · exact .cons (.addDrain p hsq) (.one (.ev _ rfl))

theorem removeDrain_path {h : Hints} {s s' : State} {now : Nat} {q : ScqId} {p : Pattern}
    (hh : removeDrain h s now q p = .ok s') : ∃ s1, enter h s now = .ok s1 ∧ Path (OPrim term) s1 s' := by
  obtain ⟨s1, h1, ⟨_, rfl⟩ | ⟨sq, hsq, rfl⟩⟩ := removeDrain_ok hh <;> refine ⟨s1, h1, ?_⟩
  · exact .one (.ev _ rfl)
  · exact .cons (.removeDrain p hsq) (.one (.ev _ rfl))

end operator

theorem terminate_path {h : Hints} {s s' : State} {now id : Nat} {p : Pattern}
    (hh : terminate h s now id p = .ok s') : ∃ s1, enter h s now = .ok s1 ∧ Path (OPrim True) s1 s' := by
  obtain ⟨s1, h1, h2⟩ := terminate_ok hh
  simp only at h2
  refine ⟨s1, h1, (Path.foldl termMark (fun s w => .termMark s w trivial) (s1.workers.filter (fun w => p.matches w.id)) s1).trans ?_⟩
  rcases h2 with ⟨_, rfl⟩ | ⟨he, rfl⟩
  · exact .one (.ev _ rfl)
  · exact .one (.addTerm _ trivial he)

theorem termWake_path {s s' : State} {id reason : Nat} (hh : termWake s id reason = .ok s') : Path (OPrim True) s s' := by
  obtain ⟨tc, h1, ⟨_, rfl⟩ | ⟨_, _, rfl⟩⟩ := termWake_ok hh <;> exact .cons (.dropTerm trivial h1) (.one (.ev _ rfl))

/-- the primitives a segment is made of -/
def SegPrim : Seg → State → State → Prop
  | .exec .. | .wait .. | .streamWake .. => SPrim
  | g@(.sync _ _ q _ _ w _ _) => WPrim (StepMade g) (isRetrySeg g) q w
  | .syncWake _ _ q w _ => WPrim SchedMade False q w
  | .terminate .. | .termWake .. => OPrim True
  | _ => OPrim False

theorem SegPrim.int (g : Seg) {a b : State} (p : IPrim SchedMade False a b) : SegPrim g a b := by
  cases g with
  | exec | wait | streamWake => exact SPrim.int p
  | sync => exact WPrim.int (p.mono (fun _ _ => .inl) (fun e => nomatch e))
  | syncWake => exact WPrim.int p
  | _ => exact OPrim.int p

/-- hints and clock of the `enter` a segment begins with; `register` and `termWake` have none -/
def segEnter : Seg → Option (Hints × Nat)
  | .register .. | .termWake .. => none
  | .exec h now .. | .wait h now .. | .streamWake h now .. | .sync h now .. | .syncWake h now .. | .killOp h now ..
  | .killQueue h now .. | .addDrain h now .. | .removeDrain h now .. | .terminate h now .. | .touch h now => some (h, now)

/-- A successful segment that begins with `enter`, from the state `enter` leaves. -/
theorem step_path_enter {s s' : State} {g : Seg} {h : Hints} {now : Nat} (hstep : step s g = .ok s')
    (hg : segEnter g = some (h, now)) : ∃ s1, enter h s now = .ok s1 ∧ Path (SegPrim g) s1 s' := by
  cases g <;> cases hg
  · exact execArrive_path hstep
  · exact waitArrive_path hstep
  · exact streamWake_path hstep
  · exact syncArrive_path hstep
  · exact syncWake_path hstep
  · exact killOp_path hstep
  · exact killQueue_path hstep
  · exact addDrain_path hstep
  · exact removeDrain_path hstep
  · exact terminate_path hstep
  · exact ⟨s', hstep, .nil _⟩

/-- **Every successful segment is a path of primitive updates.** -/
theorem step_path {s s' : State} {g : Seg} (hstep : step s g = .ok s') : Path (SegPrim g) s s' := by
  cases hg : segEnter g with
  | some x => exact Path.ofEnter (SegPrim.int g) (step_path_enter hstep hg)
  | none =>
    cases g <;> cases hg
    · rw [step, pure_ok] at hstep; subst hstep; exact .one (.register ..)
    · exact termWake_path hstep

end BbRe.Lemmas.SchedLive
