import BbRe.Model.Outputs
/-!
Helper lemmas for C10 (`normalise`): the walker calls made by the bb-storage UNIX
parser (`parseRel`) evaluate a path exactly like "split at `/`, treat the empty
component and `.` as stay, `..` as up".
-/
namespace BbRe.Lemmas.Outputs
open BbRe.Outputs

/-- Reference semantics: split a byte string at every `/`. -/
def splitSlash : Str → List Str
  | [] => [[]]
  | c :: cs =>
    if c = 47 then [] :: splitSlash cs
    else
      match splitSlash cs with
      | [] => [[c]]
      | h :: t => (c :: h) :: t

/-- Reference semantics of one component applied to a location inside the input root. -/
def evalComp (stack : List Name) (c : Str) : Option (List Name) :=
  if c = [] ∨ c = [46] then some stack
  else if c = [46, 46] then (if stack = [] then none else some stack.dropLast)
  else some (stack ++ [c])

def evalComps : List Name → List Str → Option (List Name)
  | st, [] => some st
  | st, c :: cs =>
    match evalComp st c with
    | none => none
    | some st' => evalComps st' cs

theorem splitSlash_ne_nil (p : Str) : splitSlash p ≠ [] := by
  cases p with
  | nil => simp [splitSlash]
  | cons c cs =>
    unfold splitSlash
    split
    · simp
    · split <;> simp

theorem walk1_classify (st : List Name) (c : Str) (last : Bool) :
    walk1 st (classify c last) = evalComp st c := by
  unfold classify evalComp
  by_cases h1 : c = [] ∨ c = [46]
  · rw [if_pos h1, if_pos h1]; rfl
  · rw [if_neg h1, if_neg h1]
    by_cases h2 : c = [46, 46]
    · rw [if_pos h2, if_pos h2]; rfl
    · rw [if_neg h2, if_neg h2]; cases last <;> rfl

theorem evalComps_append (st : List Name) (a b : List Str) :
    evalComps st (a ++ b) = (evalComps st a).bind (fun st' => evalComps st' b) := by
  induction a generalizing st with
  | nil => simp [evalComps]
  | cons c cs ih =>
    simp only [List.cons_append, evalComps]
    cases evalComp st c with
    | none => simp
    | some st' => simpa using ih st'

theorem evalComps_nil_cons (st : List Name) (cs : List Str) :
    evalComps st ([] :: cs) = evalComps st cs := by
  simp [evalComps, evalComp]

/-- Leading slashes only produce empty components, which do nothing. -/
theorem evalComps_dropSlashes (st : List Name) (r : Str) :
    evalComps st (splitSlash (r.dropWhile (· == 47))) = evalComps st (splitSlash r) := by
  induction r with
  | nil => rfl
  | cons c cs ih =>
    by_cases h : c = 47
    · subst h
      simp only [List.dropWhile_cons, beq_self_eq_true, ↓reduceIte, splitSlash, evalComps_nil_cons]
      exact ih
    · have : (c == 47) = false := by simp [h]
      simp [this]

theorem splitSlash_noSlash (p : Str) (h : p.dropWhile (· != 47) = []) : splitSlash p = [p] := by
  induction p with
  | nil => rfl
  | cons c cs ih =>
    by_cases hc : c = 47
    · subst hc; simp at h
    · have hne : (c != 47) = true := by simp [hc]
      rw [List.dropWhile_cons, hne] at h
      simp only [↓reduceIte] at h
      simp [splitSlash, hc, ih h]

theorem splitSlash_atSlash (p : Str) (s : Nat) (r : Str) (h : p.dropWhile (· != 47) = s :: r) :
    s = 47 ∧ splitSlash p = p.takeWhile (· != 47) :: splitSlash r := by
  induction p with
  | nil => simp at h
  | cons c cs ih =>
    by_cases hc : c = 47
    · subst hc
      simp at h
      obtain ⟨h1, h2⟩ := h
      subst h1; subst h2
      simp [splitSlash]
    · have hne : (c != 47) = true := by simp [hc]
      rw [List.dropWhile_cons, hne] at h
      simp only [↓reduceIte] at h
      obtain ⟨h1, h2⟩ := ih h
      refine ⟨h1, ?_⟩
      simp [splitSlash, hc, h2, hne]

theorem dropWhile_length_le {α : Type} (f : α → Bool) (l : List α) : (l.dropWhile f).length ≤ l.length := by
  induction l with
  | nil => simp
  | cons a as ih =>
    rw [List.dropWhile_cons]
    split
    · simp; omega
    · simp

/-- The parser's walker calls evaluate like the reference semantics. -/
theorem walkSteps_parseRelF (f : Nat) (p : Str) (st : List Name) (hf : p.length < f) :
    walkSteps st (parseRelF f p) = evalComps st (splitSlash p) := by
  induction f generalizing p st with
  | zero => omega
  | succ f ih =>
    unfold parseRelF
    split
    · rename_i h
      rw [splitSlash_noSlash p h]
      simp only [walkSteps, evalComps, walk1_classify]
      cases evalComp st p <;> rfl
    · rename_i s r h
      obtain ⟨hs, hsplit⟩ := splitSlash_atSlash p s r h
      rw [hsplit]
      simp only [walkSteps, evalComps, walk1_classify]
      cases evalComp st (p.takeWhile (· != 47)) with
      | none => rfl
      | some st' =>
        simp only [stripSeps]
        rw [ih, evalComps_dropSlashes]
        have h1 := dropWhile_length_le (· == 47) r
        have h2 := dropWhile_length_le (· != 47) p
        rw [h] at h2
        simp at h2
        omega

theorem walkSteps_parseRel (p : Str) (st : List Name) :
    walkSteps st (parseRel p) = evalComps st (splitSlash p) :=
  walkSteps_parseRelF _ p st (by omega)

theorem splitSlash_join (w p : Str) : splitSlash (w ++ 47 :: p) = splitSlash w ++ splitSlash p := by
  induction w with
  | nil => simp [splitSlash]
  | cons c cs ih =>
    by_cases hc : c = 47
    · simp [splitSlash, hc, ih]
    · simp only [List.cons_append, splitSlash, hc, ↓reduceIte, ih]
      cases hsp : splitSlash cs with
      | nil => exact absurd hsp (splitSlash_ne_nil cs)
      | cons h t => simp

theorem registerAll_ok_iff (wd : List Name) (h : Hierarchy) (ps : List Str) :
    (∃ h', registerAll wd h ps = .ok h') ↔ ∀ p ∈ ps, ∃ cs, resolveRel wd p = .ok cs := by
  induction ps generalizing h with
  | nil => simp [registerAll]
  | cons p ps ih =>
    simp only [registerAll, Hierarchy.register, List.mem_cons, forall_eq_or_imp]
    cases hr : resolveRel wd p with
    | error e => simp
    | ok cs =>
      simp only [Except.ok.injEq, exists_eq', true_and]
      cases splitLast cs with
      | none => exact ih _
      | some il => exact ih _

theorem newHierarchy_ok_iff {w : Str} {ps : List Str} {up : Bool} {hy : Hierarchy} :
    newHierarchy w ps up = .ok hy ↔
      ∃ wd, resolveRel [] w = .ok wd ∧ registerAll wd ⟨.empty, [], up⟩ ps = .ok hy := by
  unfold newHierarchy
  cases resolveRel [] w <;> simp

/-- The resolved working directory is unique, so a statement about "the" working directory can be
read at any given one. -/
theorem at_wd {w : Str} {wd : List Name} {X : List Name → Prop}
    (h : ∃ wd', resolveRel [] w = .ok wd' ∧ X wd') (hw : resolveRel [] w = .ok wd) : X wd := by
  obtain ⟨wd', hw', hx⟩ := h
  cases hw.symm.trans hw'
  exact hx

end BbRe.Lemmas.Outputs
