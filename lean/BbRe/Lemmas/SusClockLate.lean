import BbRe.Lemmas.SusClock
/-!
For C11: what `getTotalUnsuspendedWithTime(T)` returns
when it is evaluated late, i.e. on a clock state that already contains
`Suspend`/`Resume` calls made after the stamp `T` (`charge_bracket`).
-/
namespace BbRe.Lemmas.SusClock
open BbRe.SusClock

theorem sortedFrom_append_left {lo : Nat} : ∀ (p q : List Ev), sortedFrom lo (p ++ q) = true → sortedFrom lo p = true
  | [], _, _ => rfl
  | e :: p, q, h => by
    simp only [List.cons_append, sortedFrom, Bool.and_eq_true, decide_eq_true_eq] at h ⊢
    exact ⟨h.1, sortedFrom_append_left p q h.2⟩

theorem balancedFrom_append_left : ∀ (p q : List Ev) (n : Nat), balancedFrom n (p ++ q) = true → balancedFrom n p = true
  | [], _, _, _ => rfl
  | .suspend _ :: p, q, n, h => by
    simp only [List.cons_append, balancedFrom] at h ⊢
    exact balancedFrom_append_left p q _ h
  | .resume _ :: p, q, n, h => by
    simp only [List.cons_append, balancedFrom, Bool.and_eq_true, decide_eq_true_eq] at h ⊢
    exact ⟨h.1, balancedFrom_append_left p q _ h.2⟩

/-- time of the last call of `p` (`L0` if there is none). -/
def lastFrom (L0 : Nat) : List Ev → Nat
  | [] => L0
  | e :: p => lastFrom e.time p

theorem lastFrom_le {at_ : Nat} : ∀ (p : List Ev) (L0 : Nat), L0 ≤ at_ → (∀ e ∈ p, e.time ≤ at_) → lastFrom L0 p ≤ at_
  | [], _, h, _ => h
  | e :: p, _, _, h =>
    lastFrom_le p e.time (h e (List.mem_cons_self ..)) (fun e' he' => h e' (List.mem_cons_of_mem _ he'))

theorem le_lastFrom : ∀ (p : List Ev) (L0 : Nat), sortedFrom L0 p = true →
    L0 ≤ lastFrom L0 p ∧ ∀ e ∈ p, e.time ≤ lastFrom L0 p
  | [], _, _ => ⟨Nat.le_refl _, by simp⟩
  | e :: p, L0, h => by
    simp only [sortedFrom, Bool.and_eq_true, decide_eq_true_eq] at h
    have ih := le_lastFrom p e.time h.2
    refine ⟨Nat.le_trans h.1 ih.1, ?_⟩
    intro e' he'
    cases he' with
    | head => exact ih.1
    | tail _ hm => exact ih.2 e' hm

/-- While the count is 0, `unsuspensionStart` is the time of the last call. -/
theorem foldl_us : ∀ (p : List Ev) (c : Clk) (L0 : Nat), c.us ≤ L0 → (c.cnt = 0 → c.us = L0) →
    sortedFrom L0 p = true → balancedFrom c.cnt p = true →
    (p.foldl Clk.apply c).us ≤ lastFrom L0 p ∧ ((p.foldl Clk.apply c).cnt = 0 → (p.foldl Clk.apply c).us = lastFrom L0 p)
  | [], _, _, h1, h2, _, _ => ⟨h1, h2⟩
  | e :: p, c, L0, h1, _, hs, hb => by
    simp only [sortedFrom, Bool.and_eq_true, decide_eq_true_eq] at hs
    exact foldl_us p (c.apply e) e.time (us_apply c e (Nat.le_trans h1 hs.1)) (us_apply_of_cnt_zero hb) hs.2
      (balancedFrom_apply hb).1

theorem runTo_all : ∀ (p : List Ev) (c : Clk) (x : Nat), (∀ e ∈ p, e.time ≤ x) → runTo c p x = p.foldl Clk.apply c
  | [], _, _, _ => rfl
  | e :: p, c, x, h => by
    rw [runTo, if_pos (h e (List.mem_cons_self ..))]
    exact runTo_all p _ x (fun e' he' => h e' (List.mem_cons_of_mem _ he'))

/-- Calls at or after `at_` do not influence the unsuspended time up to `at_`. -/
theorem unsuspTo_append {at_ x : Nat} (p q : List Ev) (h : ∀ e ∈ q, at_ ≤ e.time) (hx : x ≤ at_) :
    unsuspTo (p ++ q) x = unsuspTo p x := by
  refine countFree_congr x fun τ _ hτ => ?_
  have hz := cnt_zero_of_all_ge (Nat.lt_of_lt_of_le (Nat.zero_add x ▸ hτ) hx) q h
  simp only [cntS, cntR] at hz
  simp only [depthAt, depthFrom, cntS, cntR, List.countP_append, hz.1, hz.2, Nat.add_zero]

/-- **What the guard `now.After(unsuspensionStart)` is for.** Let the expiry stamped `T`
be handled at `at_ ≥ T`, when exactly the first `pos` calls have happened. Then
`getTotalUnsuspendedWithTime(T)` never under-counts the stamp and never over-counts
the present: `unsuspTo T ≤ value ≤ unsuspTo at_`. It is exactly `unsuspTo T` when no
`Suspend` has intervened (count 0 and `unsuspensionStart < T`), and in particular
whenever `at_ = T`. -/
theorem charge_bracket {tl : List Ev} (hs : Sorted tl) (hb : Balanced tl) {pos at_ T : Nat}
    (hv : validPos tl pos at_ = true) (hT : T ≤ at_) :
    unsuspTo tl T ≤ (stateAt tl pos).totalWithTime T ∧ (stateAt tl pos).totalWithTime T ≤ unsuspTo tl at_ ∧
    ((stateAt tl pos).cnt = 0 → (stateAt tl pos).us < T → (stateAt tl pos).totalWithTime T = unsuspTo tl T) := by
  simp only [validPos, Bool.and_eq_true, List.all_eq_true, decide_eq_true_eq] at hv
  have hsplit : tl.take pos ++ tl.drop pos = tl := List.take_append_drop pos tl
  have hsp : sortedFrom 0 (tl.take pos) = true := sortedFrom_append_left _ (tl.drop pos) (by rw [hsplit]; exact hs)
  have hbp : balancedFrom 0 (tl.take pos) = true := balancedFrom_append_left _ (tl.drop pos) 0 (by rw [hsplit]; exact hb)
  have hus : (stateAt tl pos).cnt = 0 → (stateAt tl pos).us = lastFrom 0 (tl.take pos) :=
    (foldl_us (tl.take pos) Clk.init 0 (Nat.le_refl 0) (fun _ => rfl) hsp hbp).2
  have hL := le_lastFrom (tl.take pos) 0 hsp
  have hLat : lastFrom 0 (tl.take pos) ≤ at_ := lastFrom_le _ 0 (Nat.zero_le _) hv.1
  -- the state's running total, read at any x between the last call and at_, is the specification
  have htot : ∀ x, lastFrom 0 (tl.take pos) ≤ x → x ≤ at_ → (stateAt tl pos).totalNow x = unsuspTo tl x := by
    intro x h1 h2
    have h3 := clockAt_total (tl := tl.take pos) hsp hbp x
    rw [clockAt, runTo_all _ _ x (fun e he => Nat.le_trans (hL.2 e he) h1)] at h3
    have hU : unsuspTo tl x = unsuspTo (tl.take pos) x := by
      have := unsuspTo_append (tl.take pos) (tl.drop pos) hv.2 h2
      rwa [hsplit] at this
    rw [hU]
    exact h3
  simp only [totalWithTime_eq]
  generalize hc : stateAt tl pos = c at *
  by_cases h0 : c.cnt = 0
  · have hL' := hus h0
    by_cases h1 : c.us < T
    · rw [htot T (hL' ▸ Nat.le_of_lt h1) hT]
      exact ⟨Nat.le_refl _, unsuspTo_mono tl hT, fun _ _ => rfl⟩
    · have h1' := Nat.le_of_not_lt h1
      have hval : c.totalNow T = c.totalNow c.us := by
        simp only [Clk.totalNow, h0, if_true, Nat.sub_self, Nat.sub_eq_zero_of_le h1']
      rw [hval, htot c.us (Nat.le_of_eq hL'.symm) (hL' ▸ hLat)]
      exact ⟨unsuspTo_mono tl h1', unsuspTo_mono tl (hL' ▸ hLat), fun _ h => absurd h h1⟩
  · have hval : c.totalNow T = c.totalNow at_ := by simp only [Clk.totalNow, h0, if_false]
    rw [hval, htot at_ hLat (Nat.le_refl _)]
    exact ⟨unsuspTo_mono tl hT, Nat.le_refl _, fun h => absurd h h0⟩

end BbRe.Lemmas.SusClock
