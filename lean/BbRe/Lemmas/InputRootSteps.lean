import BbRe.Lemmas.InputRootEquiv
/-!
One walk through the tree (`withDir`, `walkTo`) on equivalent trees and under storage faults (C17).
A walk of depth n+1 is a walk of depth 0 whose action goes into the first component (`descend`,
`withDir_cons`), so a relation between actions has to give its conclusion for walks of depth 0 and be
closed under `descend`; `withDir_lift` then gives it for every path.  Three instances.
`withDir_equiv`: actions related by `ActRel` give `Sim` results (same answer, equivalent trees);
`withDir_fault`: under `ActFault` the result is `FaultOr` (as without faults, or `EIO` and an
equivalent tree); `withDir_keeps`: under `ActKeeps` the tree stays equivalent.  Then, action by action,
what the operations need of these: `_resp`/`_rel` for each, `_fault` for those that read the storage
themselves (`act_fault_same` serves the others), `_keeps` where a tree is compared with the one before
the walk.  The operations made of walks are in `InputRootRename` (rename, link) and `InputRootState`
(`step`).
-/
namespace BbRe.Lemmas.InputRoot
open BbRe.InputRoot

/-- How the results of an operation on two equivalent trees compare: same answer,
equivalent trees. -/
def Sim (c : CAS) (r r' : Node × Out) : Prop := r.2 = r'.2 ∧ Equiv c r.1 r'.1

/-- Two actions that treat equivalent contents alike (e.g. attach equivalent nodes). -/
def ActRel (c : CAS) (actL actE : Children → Children × Out) : Prop :=
  ∀ a b, ChRel (Equiv c) a b → (actL a).2 = (actE b).2 ∧ ChRel (Equiv c) (actL a).1 (actE b).1

/-- An action on the contents of a directory respects equivalence. -/
def ActResp (c : CAS) (act : Children → Children × Out) : Prop := ActRel c act act

/-- The action "go into `x` and run `k` there": what `withDir` does at every component of its path. -/
def descend (x : Name) (k : Node → Node × Out) (ch : Children) : Children × Out :=
  match lookup ch x with
  | none => (ch, .status .enoent)
  | some child => (replaceFirst ch x (k child).1, (k child).2)

/-- A walk of depth n+1 is a walk of depth 0 whose action descends. -/
theorem withDir_cons (c : CAS) (F : List Dig) (act : Children → Children × Out) (x : Name) (rest : Path) :
    withDir c F act (x :: rest) = withDir c F (descend x (withDir c F act rest)) [] := by
  funext n
  rw [withDir.eq_2, withDir.eq_1]
  cases contents c F n with
  | ok ch => dsimp only [descend]; cases lookup ch x <;> rfl
  | _ => rfl

/-- The induction over the path, once: a relation `A` between actions that gives `T` for walks of
depth 0 and is kept by `descend` gives `T` for every walk. -/
theorem withDir_lift (c : CAS) (F F' : List Dig)
    {A : (Children → Children × Out) → (Children → Children × Out) → Prop}
    {T : (Node → Node × Out) → (Node → Node × Out) → Prop}
    (h0 : ∀ a a', A a a' → T (withDir c F a []) (withDir c F' a' []))
    (hd : ∀ x k k', T k k' → A (descend x k) (descend x k'))
    (p : Path) (a a' : Children → Children × Out) (h : A a a') :
    T (withDir c F a p) (withDir c F' a' p) := by
  induction p with
  | nil => exact h0 a a' h
  | cons x rest ih =>
    rw [withDir_cons, withDir_cons]
    exact h0 _ _ (hd x _ _ ih)

theorem withDir_equiv (c : CAS) (actL actE : Children → Children × Out) (hact : ActRel c actL actE)
    (p : Path) : ∀ (l e : Node), Equiv c l e → Sim c (withDir c [] actL p l) (withDir c [] actE p e) := by
  refine withDir_lift c [] [] (A := ActRel c) (T := fun k k' => ∀ l e, Equiv c l e → Sim c (k l) (k' e))
    (fun a a' ha l e h => ?_) (fun x k k' hk a b hab => ?_) p actL actE hact
  · rcases equiv_cases h with ⟨hl, he⟩ | ⟨_, hl, he⟩ | ⟨a, b, hl, he, hab⟩ <;> simp only [withDir, hl, he]
    · exact ⟨rfl, h⟩
    · exact ⟨rfl, h⟩
    · exact ⟨(ha a b hab).1, equiv_dir (ha a b hab).2⟩
  · rcases (chrel_lookup hab x).cases with ⟨h1, h2⟩ | ⟨ca, cb, h1, h2, hr⟩ <;> simp only [descend, h1, h2]
    · exact ⟨trivial, hab⟩
    · exact ⟨(hk ca cb hr).1, chrel_replaceFirst hab x (hk ca cb hr).2⟩

/-- An operation on the tree `n` under faults answers as without, or fails with `EIO` and
leaves a tree equivalent to `n`. -/
def FaultOr (c : CAS) (n : Node) (rF r0 : Node × Out) : Prop :=
  rF = r0 ∨ (rF.2 = .status .eio ∧ Equiv c rF.1 n)

theorem FaultOr.mono {c : CAS} {t n : Node} {rF r0 : Node × Out} (h : FaultOr c t rF r0)
    (ht : Equiv c t n) : FaultOr c n rF r0 :=
  h.imp_right fun ⟨h1, h2⟩ => ⟨h1, h2.trans ht⟩

theorem fetch_fault (c : CAS) (F : List Dig) (d : Dig) (m : Option Path) :
    fetch c F d m = fetch c [] d m ∨ (fetch c F d m).result = .error .unavailable := by
  simp only [fetch, fetchBase]
  cases F.contains d
  · exact .inl rfl
  · exact .inr rfl

theorem contents_fault (c : CAS) (F : List Dig) (n : Node) :
    contents c F n = contents c [] n ∨ contents c F n = .err .unavailable := by
  cases n with
  | lazy d m =>
    rcases fetch_fault c F d m with h | h
    · left; simp only [contents, h]
    · right; simp only [contents, h]
  | _ => left; rfl

/-- Contents that could be read under faults are the contents without faults. -/
theorem contents_ok_nofault {c : CAS} {F : List Dig} {n : Node} {ch : Children}
    (h : contents c F n = .ok ch) : contents c [] n = .ok ch := by
  rcases contents_fault c F n with h0 | h0 <;> rw [h] at h0
  · exact h0.symm
  · cases h0

/-- An action under faults either behaves as without, or fails with `EIO` and leaves
equivalent contents. -/
def ActFault (c : CAS) (actF act0 : Children → Children × Out) : Prop :=
  ∀ ch, actF ch = act0 ch ∨ ((actF ch).2 = .status .eio ∧ ChRel (Equiv c) (actF ch).1 ch)

/-- A walk that starts at a directory whose contents cannot be read stops there. -/
theorem withDir_err {c : CAS} {F : List Dig} {act : Children → Children × Out} {n : Node} {e : Err}
    (h : contents c F n = .err e) (p : Path) : withDir c F act p n = (n, .status .eio) := by
  cases p <;> simp only [withDir, h]

theorem withDir_fault (c : CAS) (F : List Dig) (actF act0 : Children → Children × Out)
    (hact : ActFault c actF act0) (p : Path) :
    ∀ n : Node, FaultOr c n (withDir c F actF p n) (withDir c [] act0 p n) := by
  refine withDir_lift c F [] (A := ActFault c) (T := fun k k' => ∀ n, FaultOr c n (k n) (k' n))
    (fun a a' ha n => ?_) (fun x k k' hk ch => ?_) p actF act0 hact
  · rcases contents_fault c F n with h | h
    · cases hn : contents c [] n with
      | ok ch =>
        simp only [FaultOr, withDir, h, hn]
        exact (ha ch).imp (by intro e; rw [e]) fun ⟨h1, h2⟩ => ⟨h1, (equiv_dir h2).trans (equiv_force hn)⟩
      | _ => left; simp only [withDir, h, hn]
    · exact .inr (by rw [withDir_err h]; exact ⟨rfl, Equiv.refl c n⟩)
  · cases hx : lookup ch x with
    | none => left; simp only [descend, hx]
    | some child =>
      simp only [descend, hx]
      exact (hk child).imp (by intro e; rw [e]) fun ⟨h1, h2⟩ =>
        ⟨h1, chrel_replace_self (Equiv.refl c) ch x child _ hx h2⟩

/-- An action that leaves the contents equivalent to what it was given (`withDir_keeps`). -/
def ActKeeps (c : CAS) (act : Children → Children × Out) : Prop :=
  ∀ ch, ChRel (Equiv c) (act ch).1 ch

theorem withDir_keeps (c : CAS) (F : List Dig) (act : Children → Children × Out)
    (hact : ActKeeps c act) (p : Path) : ∀ n : Node, Equiv c (withDir c F act p n).1 n := by
  refine withDir_lift c F F (A := fun a _ => ActKeeps c a) (T := fun k _ => ∀ n, Equiv c (k n).1 n)
    (fun a _ ha n => ?_) (fun x k _ hk ch => ?_) p act act hact
  · cases hn : contents c F n with
    | ok ch => simp only [withDir, hn]; exact (equiv_dir (ha ch)).trans (equiv_force (contents_ok_nofault hn))
    | _ => simp only [withDir, hn]; exact Equiv.refl c n
  · cases hx : lookup ch x with
    | none => simp only [descend, hx]; exact ChRel.refl (Equiv.refl c) ch
    | some child => simp only [descend, hx]; exact chrel_replace_self (Equiv.refl c) ch x child _ hx (hk child)

theorem actLookup_resp (c : CAS) (x : Name) : ActResp c (actLookup x) := by
  intro a b h
  refine ⟨?_, h⟩
  rcases (chrel_lookup h x).cases with ⟨h1, h2⟩ | ⟨ca, cb, h1, h2, hr⟩
  · simp only [actLookup, h1, h2]
  · simp only [actLookup, h1, h2, hr.kind]

theorem actReaddir_resp (c : CAS) : ActResp c actReaddir :=
  fun _ _ h => ⟨congrArg Out.listing (chrel_kinds (fun _ _ hr => Equiv.kind hr) h), h⟩

theorem leafOut_kind (c : CAS) (F : List Dig) (op : LeafOp) {a b : Node}
    (h : kindOf a = kindOf b) : leafOut c F op a = leafOut c F op b := by
  cases a <;> cases b <;> cases h <;> rfl

theorem actLeaf_resp (c : CAS) (F : List Dig) (op : LeafOp) (x : Name) :
    ActResp c (actLeaf c F op x) := by
  intro a b h
  refine ⟨?_, h⟩
  rcases (chrel_lookup h x).cases with ⟨h1, h2⟩ | ⟨ca, cb, h1, h2, hr⟩
  · simp only [actLeaf, h1, h2]
  · simp only [actLeaf, h1, h2, leafOut_kind c F op hr.kind]

theorem actRemove_resp (c : CAS) (x : Name) : ActResp c (actRemove c [] x) := by
  intro a b h
  rcases (chrel_lookup h x).cases with ⟨h1, h2⟩ | ⟨ca, cb, h1, h2, hr⟩ <;>
    (unfold actRemove; rw [h1, h2]; dsimp only)
  · exact ⟨rfl, h⟩
  · rcases equiv_cases hr with ⟨hl, he⟩ | ⟨_, hl, he⟩ | ⟨ga, gb, hl, he, hg⟩ <;> rw [hl, he]
    · exact ⟨rfl, chrel_eraseFirst h x⟩
    · exact ⟨rfl, h⟩
    · cases hg with
      | nil => exact ⟨rfl, chrel_eraseFirst h x⟩
      | cons hab hrest => exact ⟨rfl, chrel_replaceFirst h x (equiv_dir (.cons hab hrest))⟩

theorem chrel_attach {c : CAS} {a b : Children} (h : ChRel (Equiv c) a b) (x : Name) {v w : Node}
    (hvw : Equiv c v w) : ChRel (Equiv c) (a ++ [(x, v)]) (b ++ [(x, w)]) :=
  chrel_append h (.cons hvw .nil)

theorem actPutNew_rel (c : CAS) (x : Name) {v w : Node} (hvw : Equiv c v w) :
    ActRel c (actPutNew x v) (actPutNew x w) := by
  intro a b h
  rcases (chrel_lookup h x).cases with ⟨h1, h2⟩ | ⟨ca, cb, h1, h2, _⟩ <;>
    (unfold actPutNew; rw [h1, h2]; dsimp only)
  · exact ⟨rfl, chrel_attach h x hvw⟩
  · exact ⟨rfl, h⟩

theorem actCreate_resp (c : CAS) (x : Name) : ActResp c (actCreate x) :=
  actPutNew_rel c x (Equiv.refl c .loc)

theorem actMkdir_resp (c : CAS) (x : Name) : ActResp c (actMkdir x) :=
  actPutNew_rel c x (Equiv.refl c (.dir []))

theorem actPut_rel (c : CAS) (x : Name) {v w : Node} (hvw : Equiv c v w) :
    ActRel c (actPut x v) (actPut x w) := by
  intro a b h
  rcases (chrel_lookup h x).cases with ⟨h1, h2⟩ | ⟨ca, cb, h1, h2, _⟩ <;>
    (unfold actPut; rw [h1, h2]; dsimp only)
  · exact ⟨rfl, chrel_attach h x hvw⟩
  · exact ⟨rfl, chrel_replaceFirst h x hvw⟩

/-- Merging equivalent entries (e.g. the same entries wrapped for different monitors). -/
theorem actMerge_rel (c : CAS) {newL newE : Children} (hn : ChRel (Equiv c) newL newE) :
    ActRel c (actMerge newL) (actMerge newE) := by
  intro a b h
  have hany : newL.any (fun e => hasName a e.1) = newE.any (fun e => hasName b e.1) := by
    rw [show (fun e : Name × Node => hasName a e.1) = fun e => hasName b e.1 from
      funext fun e => chrel_hasName h e.1]
    induction hn with
    | nil => rfl
    | cons _ _ ih => simp only [List.any_cons, ih]
  simp only [actMerge, hany]
  split
  · exact ⟨rfl, h⟩
  · exact ⟨rfl, chrel_append h hn⟩

theorem actNop_resp (c : CAS) : ActResp c actNop := fun _ _ h => ⟨rfl, h⟩

theorem actErase_resp (c : CAS) (x : Name) : ActResp c (actErase x) :=
  fun _ _ h => ⟨rfl, chrel_eraseFirst h x⟩

theorem actForceChild_resp (c : CAS) (x : Name) : ActResp c (actForceChild c [] x) := by
  intro a b h
  rcases (chrel_lookup h x).cases with ⟨h1, h2⟩ | ⟨ca, cb, h1, h2, hr⟩ <;>
    (unfold actForceChild; rw [h1, h2]; dsimp only)
  · exact ⟨rfl, h⟩
  · rcases equiv_cases hr with ⟨hl, he⟩ | ⟨_, hl, he⟩ | ⟨ga, gb, hl, he, hg⟩ <;> rw [hl, he]
    · exact ⟨rfl, h⟩
    · exact ⟨rfl, h⟩
    · cases hg with
      | nil => exact ⟨rfl, chrel_replaceFirst h x (equiv_dir .nil)⟩
      | cons hab hrest => exact ⟨rfl, chrel_replaceFirst h x (equiv_dir (.cons hab hrest))⟩

theorem leafOut_fault (c : CAS) (F : List Dig) (op : LeafOp) (n : Node) :
    leafOut c F op n = leafOut c [] op n ∨ leafOut c F op n = .status .eio := by
  cases n with
  | file d x m =>
    cases op with
    | read off len =>
      -- a read of an empty range does not contact the storage; otherwise the fault decides
      simp only [leafOut]
      cases F.contains d
      · exact .inl rfl
      · by_cases h0 : min len (d.size - off) = 0
        · exact .inl ((if_pos h0).trans (if_pos h0).symm)
        · exact .inr ((if_neg h0).trans rfl)
    | _ => exact .inl rfl
  | _ => exact .inl rfl

theorem actFault_of_unchanged {c : CAS} {actF act0 : Children → Children × Out}
    (h : ∀ ch, actF ch = act0 ch ∨ actF ch = (ch, .status .eio)) : ActFault c actF act0 :=
  fun ch => (h ch).imp_right fun e => by rw [e]; exact ⟨rfl, ChRel.refl (Equiv.refl c) ch⟩

theorem actLeaf_fault (c : CAS) (F : List Dig) (op : LeafOp) (x : Name) :
    ActFault c (actLeaf c F op x) (actLeaf c [] op x) := by
  refine actFault_of_unchanged fun ch => ?_
  cases hx : lookup ch x with
  | none => left; simp only [actLeaf, hx]
  | some n =>
    rcases leafOut_fault c F op n with h | h <;> simp only [actLeaf, hx, h, true_or, or_true]

theorem actRemove_fault (c : CAS) (F : List Dig) (x : Name) :
    ActFault c (actRemove c F x) (actRemove c [] x) := by
  refine actFault_of_unchanged fun ch => ?_
  cases hx : lookup ch x with
  | none => left; simp only [actRemove, hx]
  | some n => rcases contents_fault c F n with h | h <;> simp only [actRemove, hx, h, true_or, or_true]

theorem act_fault_same (c : CAS) (act : Children → Children × Out) : ActFault c act act :=
  fun _ => Or.inl rfl

theorem actForceChild_fault (c : CAS) (F : List Dig) (x : Name) :
    ActFault c (actForceChild c F x) (actForceChild c [] x) := by
  refine actFault_of_unchanged fun ch => ?_
  cases hx : lookup ch x with
  | none => left; simp only [actForceChild, hx]
  | some n =>
    rcases contents_fault c F n with h | h <;> simp only [actForceChild, hx, h, true_or, or_true]

theorem actLeaf_keeps (c : CAS) (F : List Dig) (op : LeafOp) (x : Name) :
    ActKeeps c (actLeaf c F op x) := fun ch => ChRel.refl (Equiv.refl c) ch

theorem actLookup_keeps (c : CAS) (x : Name) : ActKeeps c (actLookup x) :=
  fun ch => ChRel.refl (Equiv.refl c) ch

theorem actReaddir_keeps (c : CAS) : ActKeeps c actReaddir :=
  fun ch => ChRel.refl (Equiv.refl c) ch

theorem actNop_keeps (c : CAS) : ActKeeps c actNop :=
  fun ch => ChRel.refl (Equiv.refl c) ch

theorem actForceChild_keeps (c : CAS) (F : List Dig) (x : Name) : ActKeeps c (actForceChild c F x) := by
  intro ch
  cases hx : lookup ch x with
  | none => simp only [actForceChild, hx]; exact ChRel.refl (Equiv.refl c) ch
  | some n =>
    simp only [actForceChild, hx]
    cases hn : contents c F n with
    | ok g =>
      have hf := chrel_replace_self (Equiv.refl c) ch x n _ hx (equiv_force (contents_ok_nofault hn))
      cases g <;> exact hf
    | _ => exact ChRel.refl (Equiv.refl c) ch

theorem actIsDir_resp (c : CAS) (x : Name) : ActResp c (actIsDir x) := by
  intro a b h
  refine ⟨?_, h⟩
  rcases (chrel_lookup h x).cases with ⟨h1, h2⟩ | ⟨ca, cb, h1, h2, hr⟩
  · simp only [actIsDir, h1, h2]
  · simp only [actIsDir, h1, h2, hr.kind]

theorem actIsDir_keeps (c : CAS) (x : Name) : ActKeeps c (actIsDir x) :=
  fun ch => ChRel.refl (Equiv.refl c) ch

theorem walkTo_equiv (c : CAS) (p : Path) (l e : Node) (h : Equiv c l e) :
    Sim c (walkTo c [] p l) (walkTo c [] p e) := by
  simp only [walkTo]
  cases p.getLast? with
  | none => exact ⟨rfl, h⟩
  | some x => exact withDir_equiv c _ _ (actIsDir_resp c x) _ l e h

theorem walkTo_keeps (c : CAS) (F : List Dig) (p : Path) (n : Node) : Equiv c (walkTo c F p n).1 n := by
  simp only [walkTo]
  cases p.getLast? with
  | none => exact Equiv.refl c n
  | some x => exact withDir_keeps c F _ (actIsDir_keeps c x) _ n

theorem walkTo_fault (c : CAS) (F : List Dig) (p : Path) (n : Node) :
    FaultOr c n (walkTo c F p n) (walkTo c [] p n) := by
  simp only [walkTo]
  cases p.getLast? with
  | none => left; rfl
  | some x => exact withDir_fault c F _ _ (act_fault_same c _) _ n

end BbRe.Lemmas.InputRoot
