import BbRe.Lemmas.ProtoStoreFrame
/-! Draining: from a quiescent state, whole successful `Get`s of a digest without a
handle empty the write queue three handles at a time. -/
namespace BbRe.Lemmas.ProtoStore
open BbRe.ProtoStore

/-- A drain `Get` in progress. -/
structure Dr (s : State) (g e : Nat) (r : GetRec) : Prop where
  gets : s.gets = [(g, r)]
  ex : r.existing = none
  dig : r.digest = e
  nf : r.failed = false
  held : ∀ h, s.held h = 0
  me : s.map e = none
  ver : ∀ w, w ∈ r.writes → s.current w.h = w.ver

theorem dr_lookup {s : State} {g e : Nat} {r : GetRec} (h : Dr s g e r) : lookupG s.gets g = some r := by
  rw [h.gets]; simp [lookupG]

theorem dr_useCount {s : State} {g e : Nat} {r : GetRec} (h : Dr s g e r) (hq : QInv s) (x : Nat) :
    s.useCount x = 0 := by
  have := hq.acct x
  rw [h.gets] at this
  simp [refs, h.ex, h.held x] at this
  exact this

theorem dr_getBeginMid (s : State) (g e : Nat) (hqu : quiescent s) (hme : s.map e = none) :
    ∃ r, Dr (getBeginMid s g e) g e r ∧ r.readPending = true ∧ r.writes = [] ∧
      (getBeginMid s g e).queue = s.queue ∧ (getBeginMid s g e).latest = s.latest := by
  unfold getBeginMid
  rw [hme]
  dsimp only
  let r0 : GetRec := { digest := e, existing := none, readPending := true, readMsg := 0, writes := [], failed := false, need := if s.store e = s.latest e then 0 else s.latest e }
  refine ⟨r0, ⟨?_, rfl, rfl, rfl, hqu.2, hme, ?_⟩, rfl, rfl, rfl, rfl⟩
  · dsimp only; rw [hqu.1]; rfl
  · intro w hw; cases hw

theorem dr_dequeueOne (s : State) (g e : Nat) (r : GetRec) (hd : Dr s g e r) (hq : QInv s) :
    ∃ r', Dr (dequeueOne s g) g e r' ∧ r'.readPending = r.readPending ∧
      (dequeueOne s g).queue = s.queue.dropLast ∧ (dequeueOne s g).latest = s.latest := by
  cases hl : s.queue.getLast? with
  | none =>
    have hqe : s.queue = [] := by simpa using hl
    refine ⟨r, ?_, rfl, ?_, ?_⟩
    · unfold dequeueOne; simp only [hl]; exact hd
    · unfold dequeueOne; simp only [hl]; rw [hqe]; rfl
    · unfold dequeueOne; simp only [hl]
  | some h =>
    rw [dequeueOne_eq s g h r hq.q1 hl (dr_lookup hd)]
    refine ⟨{ r with writes := r.writes ++ [⟨h, s.msg h, s.current h⟩] },
      ⟨?_, hd.ex, hd.dig, hd.nf, hd.held, hd.me, ?_⟩, rfl, rfl, rfl⟩
    · dsimp only
      rw [hd.gets]
      simp [setG]
    · intro w hw
      dsimp only at hw ⊢
      simp only [List.mem_append, List.mem_singleton] at hw
      rcases hw with hw | hw
      · exact hd.ver w hw
      · subst hw; rfl

theorem sub_one_sub_min (l n : Nat) : l - 1 - min n (l - 1) = l - min (n + 1) l := by
  cases l with
  | zero => rw [Nat.zero_sub, Nat.zero_sub]
  | succ l => rw [Nat.succ_min_succ, Nat.add_sub_cancel, Nat.add_sub_add_right]

theorem dr_dequeueN (s : State) (g e n : Nat) (r : GetRec) (hd : Dr s g e r) (hq : QInv s) :
    ∃ r', Dr (dequeueN s g n) g e r' ∧ r'.readPending = r.readPending ∧
      (dequeueN s g n).queue.length = s.queue.length - min n s.queue.length ∧
      (dequeueN s g n).latest = s.latest := by
  induction n generalizing s r with
  | zero => exact ⟨r, hd, rfl, by rw [Nat.zero_min]; rfl, rfl⟩
  | succ n ih =>
    obtain ⟨r1, h1, h2, h3, h4⟩ := dr_dequeueOne s g e r hd hq
    obtain ⟨r2, k1, k2, k3, k4⟩ := ih (dequeueOne s g) r1 h1 (qinv_dequeueOne s g hq)
    refine ⟨r2, k1, by rw [k2, h2], ?_, ?_⟩
    · show (dequeueN (dequeueOne s g) g n).queue.length = _
      rw [k3, h3, List.length_dropLast, sub_one_sub_min]
    · show (dequeueN (dequeueOne s g) g n).latest = _
      rw [k4, h4]

theorem dr_readDone (s : State) (g e : Nat) (r : GetRec) (hd : Dr s g e r) (hp : r.readPending = true) :
    ∃ r', Dr (readDone s g true) g e r' ∧ r'.readPending = false ∧ r'.writes = r.writes ∧
      (readDone s g true).queue = s.queue ∧ (readDone s g true).latest = s.latest := by
  unfold readDone
  rw [dr_lookup hd]
  dsimp only
  rw [if_pos hp]
  refine ⟨{ r with readPending := false, readMsg := s.store r.digest, failed := r.failed || !true },
    ⟨?_, hd.ex, hd.dig, ?_, hd.held, hd.me, hd.ver⟩, rfl, rfl, rfl, rfl⟩
  · dsimp only
    rw [hd.gets]
    simp [setG]
  · simp [hd.nf]

theorem nodup_map_inj (ws : List Write) (hn : (ws.map (·.h)).Nodup) (a b : Write)
    (ha : a ∈ ws) (hb : b ∈ ws) (hab : a.h = b.h) : a = b := by
  induction ws with
  | nil => cases ha
  | cons x rest ih =>
    simp only [List.map_cons, List.nodup_cons, List.mem_map, not_exists, not_and] at hn
    simp only [List.mem_cons] at ha hb
    rcases ha with ha | ha <;> rcases hb with hb | hb
    · rw [ha, hb]
    · subst ha; exact absurd hab.symm (hn.1 b hb)
    · subst hb; exact absurd hab (hn.1 a ha)
    · exact ih hn.2 ha hb

/-- One successful Put of a drain `Get`: the handle is clean afterwards and leaves the
map; nothing is queued. -/
theorem dr_putDone (s : State) (g e : Nat) (r : GetRec) (w : Write) (hd : Dr s g e r)
    (hq : QInv s) (hg : GInv s) (hw : w ∈ r.writes) :
    Dr (putDone repoConfig s g w.h .ok) g e { r with writes := r.writes.filter (fun w' => w'.h != w.h) } ∧
      (putDone repoConfig s g w.h .ok).queue = s.queue ∧
      (putDone repoConfig s g w.h .ok).latest = s.latest := by
  have hl := dr_lookup hd
  have hnd := hg.g3n g r hl
  -- the write found for handle `w.h` is `w` itself
  have hfind : findWrite r.writes w.h = some w := by
    cases hf : findWrite r.writes w.h with
    | none =>
      unfold findWrite at hf
      rw [List.find?_eq_none] at hf
      have := hf w hw
      simp at this
    | some w2 =>
      obtain ⟨hm2, hh2⟩ := findWrite_some _ _ _ hf
      rw [nodup_map_inj r.writes hnd w2 w hm2 hw hh2]
  obtain ⟨hwg, hver, _, _, _⟩ := hg.g3 g r w hl hw
  have hcur := hd.ver w hw
  have huc := dr_useCount hd hq w.h
  rw [putDone_eq repoConfig s g w.h .ok r w hl hfind, removeOrQueue_clean]
  · refine ⟨⟨?_, hd.ex, hd.dig, ?_, hd.held, ?_, ?_⟩, rfl, rfl⟩
    · dsimp only
      rw [hd.gets]
      simp [setG]
    · simp [hd.nf]
    · dsimp only
      rw [upd_apply]
      split
      · rfl
      · exact hd.me
    · intro w' hw'
      exact hd.ver w' (List.mem_filter.1 hw').1
  · exact huc
  · exact upd_same _ _ _
  · dsimp only
    rw [if_pos rfl, upd_same]
    exact hcur.symm

theorem filter_ne_head (w : Write) (rest : List Write) (hn : ((w :: rest).map (·.h)).Nodup) :
    (w :: rest).filter (fun w' => w'.h != w.h) = rest := by
  simp only [List.map_cons, List.nodup_cons, List.mem_map, not_exists, not_and] at hn
  rw [List.filter_cons]
  simp only [bne_self_eq_false, Bool.false_eq_true, if_false]
  rw [List.filter_eq_self]
  intro a ha
  simp only [bne_iff_ne, ne_eq]
  exact hn.1 a ha

theorem dr_putAllOk (g e : Nat) (ws : List Write) :
    ∀ (s : State) (r : GetRec), Dr s g e r → QInv s → GInv s → r.writes = ws →
      ∃ r', Dr (putAllOk repoConfig g s ws) g e r' ∧ r'.writes = [] ∧ r'.readPending = r.readPending ∧
        QInv (putAllOk repoConfig g s ws) ∧ GInv (putAllOk repoConfig g s ws) ∧
        (putAllOk repoConfig g s ws).queue = s.queue ∧ (putAllOk repoConfig g s ws).latest = s.latest := by
  induction ws with
  | nil =>
    intro s r hd hq hg hw
    exact ⟨r, hd, hw, rfl, hq, hg, rfl, rfl⟩
  | cons w rest ih =>
    intro s r hd hq hg hw
    have hmem : w ∈ r.writes := by rw [hw]; simp
    obtain ⟨h1, h2, h3⟩ := dr_putDone s g e r w hd hq hg hmem
    have hnd := hg.g3n g r (dr_lookup hd)
    rw [hw] at hnd
    have hrest : ({ r with writes := r.writes.filter (fun w' => w'.h != w.h) } : GetRec).writes = rest := by
      dsimp only
      rw [hw]
      exact filter_ne_head w rest hnd
    obtain ⟨r', k1, k2, k3, k4, k5, k6, k7⟩ := ih _ _ h1 (qinv_putDone repoConfig s g w.h .ok hq)
      (ginv_putDone s g w.h .ok hg) hrest
    refine ⟨r', k1, k2, k3, k4, k5, ?_, ?_⟩
    · show (putAllOk repoConfig g (putDone repoConfig s g w.h .ok) rest).queue = _
      rw [k6, h2]
    · show (putAllOk repoConfig g (putDone repoConfig s g w.h .ok) rest).latest = _
      rw [k7, h3]

/-- The end of a drain `Get` (all calls completed) and the clean release of the new
handle: the store is quiescent again and the digest has no handle. -/
theorem dr_finish (s : State) (g e : Nat) (r : GetRec) (hd : Dr s g e r)
    (hp : r.readPending = false) (hw : r.writes = []) :
    let s' := release repoConfig (getEnd repoConfig s g) (getEndHandle s r) false
    quiescent s' ∧ s'.map e = none ∧ s'.queue = s.queue ∧ s'.latest = s.latest := by
  have hl := dr_lookup hd
  have hgh : getEndHandle s r = s.nextH := by
    unfold getEndHandle
    rw [hd.ex, hd.dig, hd.me]
  have hge : getEnd repoConfig s g = { s with
      gets := []
      map := upd s.map e (some s.nextH)
      hdigest := upd s.hdigest s.nextH e
      useCount := upd s.useCount s.nextH 1
      written := upd s.written s.nextH 0
      current := upd s.current s.nextH 0
      idx := upd s.idx s.nextH none
      msg := upd s.msg s.nextH r.readMsg
      wg := upd s.wg s.nextH none
      held := upd s.held s.nextH 1
      nextH := s.nextH + 1 } := by
    unfold getEnd
    rw [hl]
    simp only [hp, hw, Bool.false_eq_true, ne_eq, not_true_eq_false, or_self, if_false, hd.nf, hd.ex]
    rw [hd.dig, hd.me]
    dsimp only
    rw [hd.gets]
    simp [eraseG]
  intro s'
  have hs' : s' = release repoConfig (getEnd repoConfig s g) s.nextH false := by
    show release repoConfig (getEnd repoConfig s g) (getEndHandle s r) false = _
    rw [hgh]
  rw [hs', hge]
  unfold release decreaseUseCount removeOrQueue
  have hcfg : repoConfig.writeGuard = true := rfl
  simp only [hcfg, true_and]
  simp only [upd_same, Bool.false_eq_true, if_false, Nat.succ_ne_zero, Nat.add_one_sub_one, ne_eq,
    not_true_eq_false, not_false_eq_true, and_self, if_true]
  refine ⟨⟨rfl, ?_⟩, trivial⟩
  intro h
  dsimp only
  simp only [upd_apply]
  split
  · rfl
  · exact hd.held h

/-- One drain `Get` from a quiescent state. -/
theorem drain_step (s : State) (g e : Nat) (hq : QInv s) (hg : GInv s) (hqu : quiescent s)
    (hme : s.map e = none) :
    QInv (fullGetRelease repoConfig s g e) ∧ GInv (fullGetRelease repoConfig s g e) ∧
    quiescent (fullGetRelease repoConfig s g e) ∧ (fullGetRelease repoConfig s g e).map e = none ∧
    (fullGetRelease repoConfig s g e).latest = s.latest ∧
    (fullGetRelease repoConfig s g e).queue.length = s.queue.length - min 3 s.queue.length := by
  have hfree : lookupG s.gets g = none := by rw [hqu.1]; rfl
  -- first lock-held section
  obtain ⟨r0, d0, p0, _, q0, l0⟩ := dr_getBeginMid s g e hqu hme
  have hq0 := qinv_getBeginMid s g e hq hfree
  have hg0 := ginv_getBeginMid s g e hq hg hfree
  obtain ⟨r1, d1, p1, q1, l1⟩ := dr_dequeueN _ g e writesPerRead r0 d0 hq0
  have hq1 := qinv_dequeueN _ g writesPerRead hq0
  have hg1 := ginv_dequeueN _ g writesPerRead hq0 hg0
  rw [← getBegin_eq s g e hfree] at d1 q1 l1 hq1 hg1
  -- the read
  obtain ⟨r2, d2, p2, w2, q2, l2⟩ := dr_readDone _ g e r1 d1 (by rw [p1, p0])
  have hq2 := qinv_readDone _ g true hq1
  have hg2 := ginv_readDone _ g true hg1
  -- the writes
  obtain ⟨r3, d3, w3, p3, hq3, hg3, q3, l3⟩ := dr_putAllOk g e r2.writes _ r2 d2 hq2 hg2 rfl
  -- the last lock-held section and the release
  have hfin := dr_finish _ g e r3 d3 (by rw [p3, p2]) w3
  have hq4 := qinv_release repoConfig _
    (getEndHandle (putAllOk repoConfig g (readDone (getBegin s g e) g true) r2.writes) r3) false
    (qinv_getEnd repoConfig _ g hq3)
  have hg4 := ginv_release _
    (getEndHandle (putAllOk repoConfig g (readDone (getBegin s g e) g true) r2.writes) r3) false
    (qinv_getEnd repoConfig _ g hq3) (ginv_getEnd _ g hq3 hg3)
  have heq : fullGetRelease repoConfig s g e =
      release repoConfig (getEnd repoConfig (putAllOk repoConfig g (readDone (getBegin s g e) g true) r2.writes) g)
        (getEndHandle (putAllOk repoConfig g (readDone (getBegin s g e) g true) r2.writes) r3) false := by
    unfold fullGetRelease
    dsimp only
    rw [dr_lookup d2]
    dsimp only
    rw [dr_lookup d3]
  rw [heq]
  refine ⟨hq4, hg4, hfin.1, hfin.2.1, ?_, ?_⟩
  · rw [hfin.2.2.2, l3, l2, l1, l0]
  · rw [hfin.2.2.1, q3, q2, q1, q0]
    rfl

/-- In a quiescent reachable state every handle in the map is queued. -/
theorem quiescent_queued (s : State) (hq : QInv s) (hg : GInv s) (hqu : quiescent s) (d h : Nat)
    (hm : s.map d = some h) : s.idx h ≠ none := by
  have hu : s.useCount h = 0 := by
    have := hq.acct h
    rw [hqu.1, hqu.2 h] at this
    simpa [refs] using this
  have hw : s.wg h = none := by
    cases hwg : s.wg h with
    | none => rfl
    | some g =>
      obtain ⟨_, r, w, hl, _, _⟩ := hg.g2 h g hwg
      rw [hqu.1] at hl
      cases hl
  have := (hg.c d h hm).2
  rcases this with h1 | h1 | h1 | h1
  · exact absurd h1 id
  · omega
  · exact h1
  · exact absurd hw h1

theorem drain_all (e : Nat) (gs : List Nat) :
    ∀ s, QInv s → GInv s → quiescent s → s.map e = none → s.queue.length ≤ 3 * gs.length →
      (drain repoConfig e s gs).queue = [] ∧ (∀ d, (drain repoConfig e s gs).map d = none) ∧
      (∀ d, (drain repoConfig e s gs).store d = s.latest d) := by
  induction gs with
  | nil =>
    intro s hq hg hqu hme hlen
    have hqe : s.queue = [] := by
      simpa using hlen
    have hmap : ∀ d, s.map d = none := by
      intro d
      cases hm : s.map d with
      | none => rfl
      | some h =>
        have hi := quiescent_queued s hq hg hqu d h hm
        cases hidx : s.idx h with
        | none => exact absurd hidx hi
        | some i =>
          have := (hq.q1 i h).2 hidx
          rw [hqe] at this
          simp at this
    exact ⟨hqe, hmap, fun d => hg.d2 d (hmap d)⟩
  | cons g gs ih =>
    intro s hq hg hqu hme hlen
    obtain ⟨h1, h2, h3, h4, h5, h6⟩ := drain_step s g e hq hg hqu hme
    have := ih (fullGetRelease repoConfig s g e) h1 h2 h3 h4 (by
      rw [h6]; simp only [List.length_cons] at hlen; omega)
    rw [h5] at this
    exact this

/-- A failed Put (nothing stored) of an unused handle puts the handle back into the
write queue; it stays in the map with its message. -/
theorem putDone_err_requeues (s : State) (g h : Nat) (r : GetRec) (w : Write) (hg : GInv s)
    (hl : lookupG s.gets g = some r) (hf : findWrite r.writes h = some w) (hu : s.useCount h = 0) :
    (putDone repoConfig s g h .err).idx h = some s.queue.length ∧
    (putDone repoConfig s g h .err).queue = s.queue ++ [h] ∧
    (putDone repoConfig s g h .err).map = s.map ∧
    (putDone repoConfig s g h .err).msg = s.msg ∧
    (putDone repoConfig s g h .err).store = s.store := by
  obtain ⟨hmem, hwh⟩ := findWrite_some _ _ _ hf
  obtain ⟨hwg, _, _, _, _⟩ := hg.g3 g r w hl hmem
  rw [hwh] at hwg
  obtain ⟨hdirty, _⟩ := hg.g2 h g hwg
  have hnq : s.idx h = none := by
    apply Classical.byContradiction
    intro hi
    have := (hg.g1 h hi).1
    rw [hwg] at this; cases this
  rw [putDone_eq repoConfig s g h .err r w hl hf, removeOrQueue_dirty]
  · exact ⟨upd_same _ _ _, rfl, rfl, rfl, by dsimp only; rw [if_pos rfl]⟩
  · exact hu
  · exact upd_same _ _ _
  · dsimp only
    rw [if_neg nofun]
    exact hdirty
  · exact hnq
end BbRe.Lemmas.ProtoStore
