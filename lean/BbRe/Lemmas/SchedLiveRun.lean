import BbRe.Lemmas.SchedLiveWake
/-!
Run-level corollaries of the task relation `TStep`: `run_tstep`, `trel_task`.
-/
namespace BbRe.Lemmas.SchedLive
open BbRe.Sched

/-- along a run whose retrying segments all satisfy `allow`, old tasks evolve by `TaskLe allow` -/
theorem run_tstep {allow : Prop} (gs : List Seg) (s : State) (ha : ∀ g ∈ gs, isRetrySeg g → allow) :
    TStep allow s (run s gs) := by
  induction gs generalizing s with
  | nil => exact TStep.refl _ _
  | cons g rest ih =>
    have ha' : ∀ x ∈ rest, isRetrySeg x → allow := fun x hx => ha x (List.mem_cons_of_mem _ hx)
    unfold run
    split
    · rename_i s1 h1
      exact ((step_tstep h1).mono (ha g (List.mem_cons_self ..))).trans (ih s1 ha')
    · exact ih s ha'

/-- tasks of a key-disciplined state lie below the watermark, so `TRel` speaks about all of them -/
theorem trel_task {allow : Prop} {s s' : State} (hk : KeysOK s) (r : TRel allow s s') {k : Nat} {t t' : Task}
    (h : s.task? k = some t) (h' : s'.task? k = some t') : TaskLe allow t t' := by
  obtain ⟨t0, e, le⟩ := r.tasks k t' (hk.tid k t h).2 h'
  rw [h] at e; injection e with e; subst e; exact le

end BbRe.Lemmas.SchedLive
