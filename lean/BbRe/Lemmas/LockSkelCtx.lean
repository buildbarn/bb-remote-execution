/-
Lock balance of checked programs (property C14, part a), by simulation in a context.

A function body is replayed inside a context `k`: a renaming of its lock names, the frame its
callers hold, what they hold through piles. `Rel k` relates the replay state to the checker's
abstract state. A call enters the callee's context (`callCtx`, `rel_enter`) and comes back
(`rel_leave`); what the induction on the call depth assumes of callees (`CalleeK`) is
quantified over contexts, so no run is ever transformed. `checker_sound`: if
`consistent sig prog = true` then for every returning execution `tr` of every function `f` of
`prog`, `run (req f) tr = some h'` with `h'` a permutation of `post f`; it is the simulation
of the body of `f` in the outermost context `topCtx`. `run` is `none` as soon as the trace
releases a lock that is not held or touches guarded state (`need cs`) while no lock of one of
the classes `cs` is held; so neither happens, and the execution ends holding `post f`.
`Lemmas/LockSkelEdges.lean` refines the same simulation by where the pairs of each event go.
Core Lean only.
-/
import BbRe.Model.LockSkel
import BbRe.Lemmas.LockSkel

namespace BbRe.Lemmas.LockSkelEdges
open BbRe.LockSkel BbRe.Lemmas.LockSkel

/-- Multiset difference `h − xs` (elements of `xs` that are not in `h` are ignored). -/
def mdiff : List Nat → List Nat → List Nat
  | h, [] => h
  | h, x :: xs => mdiff (h.erase x) xs

/-- State of the replay: held locks and, per pile, the locks held through it. -/
structure RS where
  held : List Nat
  piles : Nat → List Nat

def upd (P : Nat → List Nat) (p : Nat) (xs : List Nat) : Nat → List Nat :=
  fun q => if q = p then xs else P q

def stepR (s : RS) : Ev → RS
  | .acq l => ⟨l :: s.held, s.piles⟩
  | .rel l => ⟨s.held.erase l, s.piles⟩
  | .pacq p l => ⟨l :: s.held, upd s.piles p (l :: s.piles p)⟩
  | .prel p l => ⟨s.held.erase l, upd s.piles p ((s.piles p).erase l)⟩
  | .need _ => s

def stRun (s : RS) : List Ev → RS
  | [] => s
  | e :: t => stRun (stepR s e) t

/-- Rename the locks of an event by an arbitrary function. -/
def evMap (r : Nat → Nat) : Ev → Ev
  | .acq l => .acq (r l)
  | .rel l => .rel (r l)
  | .need cs => .need cs
  | .pacq p l => .pacq p (r l)
  | .prel p l => .prel p (r l)

theorem evMap_id (tr : List Ev) : tr.map (evMap id) = tr := by
  have : evMap id = id := by funext e; cases e <;> rfl
  rw [this, List.map_id]

theorem evMap_rn (r : Nat → Nat) (ren : List (Nat × Nat)) (t : List Ev) :
    (t.map (rnEv ren)).map (evMap r) = t.map (evMap (r ∘ rn ren)) := by
  rw [List.map_map]
  congr 1
  funext e
  cases e <;> rfl

theorem stRun_append (s : RS) (t1 t2 : List Ev) :
    stRun s (t1 ++ t2) = stRun (stRun s t1) t2 := by
  induction t1 generalizing s with
  | nil => rfl
  | cons e t ih => exact ih _

theorem count_mdiff : ∀ (xs h : List Nat) (a : Nat),
    (mdiff h xs).count a = h.count a - xs.count a
  | [], h, a => by simp [mdiff]
  | x :: xs, h, a => by
    simp only [mdiff]
    rw [count_mdiff xs, List.count_erase, List.count_cons]
    omega

theorem mem_mdiff {x : Nat} {h xs : List Nat} : x ∈ mdiff h xs ↔ xs.count x < h.count x := by
  rw [← List.count_pos_iff, count_mdiff]; omega

theorem mdiff_subset {x : Nat} {h xs : List Nat} (hx : x ∈ mdiff h xs) : x ∈ h := by
  rw [mem_mdiff] at hx
  exact List.count_pos_iff.mp (by omega)

theorem mdiff_perm {h xs o : List Nat} (p : h.Perm (xs ++ o)) : (mdiff h xs).Perm o := by
  rw [List.perm_iff_count]
  intro a
  rw [count_mdiff, p.count_eq, List.count_append]; omega

/-- `a ⊆ b` as multisets. -/
def Sub (a b : List Nat) : Prop := ∃ e, b.Perm (a ++ e)

theorem sub_count {a b : List Nat} (h : Sub a b) (x : Nat) : a.count x ≤ b.count x := by
  obtain ⟨e, p⟩ := h
  rw [p.count_eq, List.count_append]; omega

theorem mdiff_anti {x : Nat} {h a b : List Nat} (hs : Sub a b) (hx : x ∈ mdiff h b) :
    x ∈ mdiff h a := by
  rw [mem_mdiff] at hx ⊢
  have := sub_count hs x
  omega

theorem sub_left {a z b : List Nat} (h : Sub (a ++ z) b) : Sub a b := by
  obtain ⟨e, p⟩ := h
  exact ⟨z ++ e, by rwa [List.append_assoc] at p⟩

theorem sub_right {a z b : List Nat} (h : Sub (a ++ z) b) : Sub z b := by
  obtain ⟨e, p⟩ := h
  refine ⟨a ++ e, p.trans ?_⟩
  rw [List.append_assoc]
  exact (List.perm_append_comm_assoc a z e)

theorem sub_cons {a z b : List Nat} (x : Nat) (h : Sub (a ++ z) b) :
    Sub ((x :: a) ++ z) (x :: b) := by
  obtain ⟨e, p⟩ := h
  exact ⟨e, List.Perm.cons x p⟩

theorem sub_perm_left {a a' z b : List Nat} (pa : a.Perm a') (h : Sub (a ++ z) b) :
    Sub (a' ++ z) b := by
  obtain ⟨e, p⟩ := h
  exact ⟨e, p.trans (List.Perm.append_right e (List.Perm.append_right z pa))⟩

theorem sub_erase {a z b : List Nat} {x : Nat} (hx : x ∈ a) (h : Sub (a ++ z) b) :
    Sub (a.erase x ++ z) (b.erase x) := by
  obtain ⟨e, p⟩ := h
  refine ⟨e, ?_⟩
  have := List.Perm.erase x p
  rwa [List.erase_append_left e (List.mem_append_left z hx), List.erase_append_left z hx] at this

theorem sub_mdiff {a z b : List Nat} (h : Sub (a ++ z) b) : Sub z (mdiff b a) := by
  obtain ⟨e, p⟩ := h
  exact ⟨e, mdiff_perm (by rwa [List.append_assoc] at p)⟩

/-- Keys strictly increasing. -/
def PSorted (ps : List (Nat × List Nat)) : Prop := List.Pairwise (fun a b => a.1 < b.1) ps

theorem getP_of_lt : ∀ (ps : List (Nat × List Nat)) (p : Nat),
    (∀ kv ∈ ps, p < kv.1) → getP ps p = []
  | [], _, _ => rfl
  | (k, x) :: r, p, h => by
    have hk : p < k := h (k, x) List.mem_cons_self
    unfold getP
    rw [if_neg (by omega)]
    exact getP_of_lt r p (fun kv hkv => h kv (List.mem_cons_of_mem _ hkv))

theorem getP_setP : ∀ (ps : List (Nat × List Nat)) (p : Nat) (xs : List Nat) (q : Nat),
    PSorted ps → getP (setP ps p xs) q = if q = p then xs else getP ps q
  | [], p, xs, q, _ => by
    unfold setP
    by_cases he : xs.isEmpty = true
    · rw [if_pos he]
      have : xs = [] := List.isEmpty_iff.mp he
      subst this
      simp [getP]
    · rw [if_neg he]
      simp [getP]
  | (k, x) :: r, p, xs, q, hs => by
    have hs' := List.pairwise_cons.mp hs
    have hlt : ∀ kv ∈ r, k < kv.1 := hs'.1
    unfold setP
    by_cases h1 : p < k
    · rw [if_pos h1]
      have hp0 : getP ((k, x) :: r) p = [] :=
        getP_of_lt _ p (fun kv hkv => by
          rcases List.mem_cons.mp hkv with rfl | hkv
          · exact h1
          · exact Nat.lt_trans h1 (hlt kv hkv))
      by_cases he : xs.isEmpty = true
      · rw [if_pos he]
        have : xs = [] := List.isEmpty_iff.mp he
        subst this
        by_cases hq : q = p
        · subst hq; rw [if_pos rfl]; exact hp0
        · rw [if_neg hq]
      · rw [if_neg he]
        by_cases hq : q = p
        · subst hq; simp [getP]
        · rw [if_neg hq]
          conv => lhs; unfold getP
          rw [if_neg hq]
    · rw [if_neg h1]
      by_cases h2 : p = k
      · rw [if_pos h2]
        subst h2
        have hp0 : getP r p = [] := getP_of_lt r p hlt
        by_cases he : xs.isEmpty = true
        · rw [if_pos he]
          have : xs = [] := List.isEmpty_iff.mp he
          subst this
          by_cases hq : q = p
          · subst hq; rw [if_pos rfl]; exact hp0
          · rw [if_neg hq]
            conv => rhs; unfold getP
            rw [if_neg hq]
        · rw [if_neg he]
          by_cases hq : q = p
          · subst hq; simp [getP]
          · rw [if_neg hq]
            conv => lhs; unfold getP
            conv => rhs; unfold getP
            rw [if_neg hq, if_neg hq]
      · rw [if_neg h2]
        conv => lhs; unfold getP
        by_cases hqk : q = k
        · rw [if_pos hqk]
          have hqp : ¬ q = p := by omega
          rw [if_neg hqp]
          conv => rhs; unfold getP
          rw [if_pos hqk]
        · rw [if_neg hqk, getP_setP r p xs q hs'.2]
          conv => rhs; unfold getP
          rw [if_neg hqk]

theorem setP_key : ∀ (ps : List (Nat × List Nat)) (p : Nat) (xs : List Nat) (kv : Nat × List Nat),
    kv ∈ setP ps p xs → kv ∈ ps ∨ kv.1 = p := by
  intro ps p xs kv h
  rcases setP_mem ps p xs kv h with h | h
  · exact Or.inl h
  · exact Or.inr (by rw [h])

theorem setP_sorted : ∀ (ps : List (Nat × List Nat)) (p : Nat) (xs : List Nat),
    PSorted ps → PSorted (setP ps p xs)
  | [], p, xs, _ => by
    unfold setP
    split
    · exact List.Pairwise.nil
    · exact List.pairwise_cons.mpr ⟨fun _ h => (by cases h), List.Pairwise.nil⟩
  | (k, x) :: r, p, xs, hs => by
    have hs' := List.pairwise_cons.mp hs
    unfold setP
    by_cases h1 : p < k
    · rw [if_pos h1]
      split
      · exact hs
      · refine List.pairwise_cons.mpr ⟨?_, hs⟩
        intro kv hkv
        rcases List.mem_cons.mp hkv with rfl | hkv
        · exact h1
        · exact Nat.lt_trans h1 (hs'.1 kv hkv)
    · rw [if_neg h1]
      by_cases h2 : p = k
      · rw [if_pos h2]
        split
        · exact hs'.2
        · subst h2
          exact List.pairwise_cons.mpr ⟨hs'.1, hs'.2⟩
      · rw [if_neg h2]
        refine List.pairwise_cons.mpr ⟨?_, setP_sorted r p xs hs'.2⟩
        intro kv hkv
        rcases setP_key r p xs kv hkv with h | h
        · exact hs'.1 kv h
        · show k < kv.1
          omega

/-! ## Contexts

A function body is replayed inside a *context*: its lock names are renamed by `r`, the
part of its abstract held multiset selected by `keep` is really there (renamed), the rest
(ghosts) is covered by the outer frame `F`; `Z` is what outer invocations hold through
piles; `T` is the table entry of the function. -/

structure Ctx where
  r : Nat → Nat
  keep : Nat → Bool
  F : List Nat
  Z : Nat → List Nat
  T : List Nat

/-- Relation between the replay state and the checker's abstract state. -/
structure Rel (k : Ctx) (st : RS) (ha : List Nat) (c : CS) : Prop where
  held : st.held.Perm ((ha.filter k.keep).map k.r ++ k.F)
  cover : ∀ z, z ∈ ha → k.keep z = false → ∃ w, w ∈ k.F ∧ gcls w = gcls z
  piles : ∀ q, Sub ((getP c.piles q).map k.r ++ k.Z q) (st.piles q)
  pok : PilesOK c
  sorted : PSorted c.piles

theorem held_mem {keep : Nat → Bool} {r : Nat → Nat} {F H ha : List Nat} {x : Nat}
    (h : H.Perm ((ha.filter keep).map r ++ F)) (hx : x ∈ H) :
    (∃ y, y ∈ ha ∧ x = r y) ∨ x ∈ F := by
  rcases List.mem_append.mp (h.mem_iff.mp hx) with h1 | h1
  · obtain ⟨y, hy, rfl⟩ := List.mem_map.mp h1
    exact Or.inl ⟨y, (List.mem_filter.mp hy).1, rfl⟩
  · exact Or.inr h1

theorem held_cons {keep : Nat → Bool} {r : Nat → Nat} {F H ha ha' : List Nat} {l : Nat}
    (hk : keep l = true) (p : ha'.Perm (l :: ha)) (h : H.Perm ((ha.filter keep).map r ++ F)) :
    (r l :: H).Perm ((ha'.filter keep).map r ++ F) := by
  have p1 : (ha'.filter keep).Perm (l :: ha.filter keep) := by
    have := List.Perm.filter keep p
    rwa [List.filter_cons, if_pos hk] at this
  have p2 := List.Perm.append_right F (List.Perm.map r p1)
  exact (List.Perm.cons (r l) h).trans p2.symm

theorem held_erase {keep : Nat → Bool} {r : Nat → Nat} {F H ha ha' : List Nat} {l : Nat}
    (hk : keep l = true) (p : ha.Perm (l :: ha')) (h : H.Perm ((ha.filter keep).map r ++ F)) :
    (H.erase (r l)).Perm ((ha'.filter keep).map r ++ F) := by
  have p1 : (ha.filter keep).Perm (l :: ha'.filter keep) := by
    have := List.Perm.filter keep p
    rwa [List.filter_cons, if_pos hk] at this
  have p2 : H.Perm (r l :: ((ha'.filter keep).map r ++ F)) :=
    h.trans (List.Perm.append_right F (List.Perm.map r p1))
  have := List.Perm.erase (r l) p2
  rwa [List.erase_cons_head] at this

theorem upd_same (P : Nat → List Nat) (p : Nat) (v : List Nat) : upd P p v p = v := by
  unfold upd; rw [if_pos rfl]

theorem upd_other (P : Nat → List Nat) {p q : Nat} (v : List Nat) (h : ¬ q = p) :
    upd P p v q = P q := by
  unfold upd; rw [if_neg h]

theorem upd_self (P : Nat → List Nat) (p : Nat) : upd P p (P p) = P := by
  funext q
  unfold upd
  split
  · rename_i h; rw [h]
  · rfl

theorem upd_upd (P : Nat → List Nat) (p : Nat) (v w : List Nat) :
    upd (upd P p v) p w = upd P p w := by
  funext q
  unfold upd
  split <;> rfl

theorem stRun_prels (r : Nat → Nat) (p : Nat) : ∀ (Y : List Nat) (st : RS),
    stRun st ((Y.map (Ev.prel p)).map (evMap r)) =
      ⟨mdiff st.held (Y.map r), upd st.piles p (mdiff (st.piles p) (Y.map r))⟩
  | [], st => by
    simp only [List.map_nil, stRun, mdiff, upd_self]
  | y :: Y, st => by
    simp only [List.map_cons, stRun, evMap, stepR, mdiff]
    rw [stRun_prels r p Y]
    simp only [upd_same, upd_upd]

theorem filter_keep_split {keep : Nat → Bool} {ha X o : List Nat} (p : ha.Perm (X ++ o))
    (hX : ∀ x, x ∈ X → keep x = true) : (ha.filter keep).Perm (X ++ o.filter keep) := by
  have := List.Perm.filter keep p
  rwa [List.filter_append, List.filter_eq_self.mpr hX] at this

/-- The context in which a callee runs. -/
def callCtx (k : Ctx) (ren : List (Nat × Nat)) (frame : List Nat) (c : CS) (T : List Nat) : Ctx :=
  ⟨k.r ∘ rn ren, fun x => !isGhost x, (frame.filter k.keep).map k.r ++ k.F,
    fun q => (getP c.piles q).map k.r ++ k.Z q, T⟩

/-- What lock balance asks of a context: the renaming keeps guard classes, and what is not a
ghost is really held. `Ctx.OK` (`Lemmas/LockSkelEdges.lean`) extends it by what the edges ask. -/
structure OK0 (k : Ctx) : Prop where
  cls_r : ∀ x, gcls (k.r x) = gcls x
  keep_ng : ∀ x, isGhost x = false → k.keep x = true

/-! ### What `Rel k` says about the real held list, and the steps that preserve it -/

section RelLemmas
variable {k : Ctx} {st : RS} {ha : List Nat} {c : CS}

theorem mem_ctx (hrel : Rel k st ha c) {l : Nat} (hm : l ∈ ha) (hkl : k.keep l = true) :
    k.r l ∈ st.held :=
  hrel.held.mem_iff.mpr (List.mem_append_left _
    (List.mem_map.mpr ⟨l, List.mem_filter.mpr ⟨hm, hkl⟩, rfl⟩))

/-- The one consumer of `Rel.cover`: a guard class held abstractly is held really. -/
theorem holds_ctx {cs : List Nat} (hk : OK0 k) (hrel : Rel k st ha c)
    (hc : holdsClass ha cs = true) : holdsClass st.held cs = true := by
  obtain ⟨z, hz, hcz⟩ := holdsClass_iff.mp hc
  rw [holdsClass_iff]
  by_cases hkz : k.keep z = true
  · exact ⟨k.r z, mem_ctx hrel hz hkz, by rw [hk.cls_r]; exact hcz⟩
  · obtain ⟨w, hw, hgw⟩ := hrel.cover z hz (eq_false_of_ne_true hkz)
    exact ⟨w, hrel.held.mem_iff.mpr (List.mem_append_right _ hw), by rw [hgw]; exact hcz⟩

/-- The part `Y` of the abstract held list, if really there, splits off the real one. -/
theorem held_split (hrel : Rel k st ha c) {Y o : List Nat} (hrem : removeAll ha Y = some o)
    (hY : ∀ x, x ∈ Y → k.keep x = true) :
    st.held.Perm (Y.map k.r ++ ((o.filter k.keep).map k.r ++ k.F)) := by
  refine hrel.held.trans ?_
  rw [← List.append_assoc, ← List.map_append]
  exact List.Perm.append_right _
    (List.Perm.map _ (filter_keep_split (removeAll_perm _ _ _ hrem) hY))

theorem rel_flags (hrel : Rel k st ha c) {c' : CS} (h : c'.piles = c.piles) : Rel k st ha c' := by
  refine ⟨hrel.held, hrel.cover, ?_, ?_, ?_⟩
  · intro q; rw [h]; exact hrel.piles q
  · unfold PilesOK; rw [h]; exact hrel.pok
  · rw [h]; exact hrel.sorted

theorem rel_insert (hrel : Rel k st ha c) {l : Nat} (hkl : k.keep l = true) :
    Rel k ⟨k.r l :: st.held, st.piles⟩ (insertS l ha) c := by
  refine ⟨held_cons hkl (insertS_perm l ha) hrel.held, ?_, hrel.piles, hrel.pok, hrel.sorted⟩
  intro z hz hkz
  rcases List.mem_cons.mp ((insertS_perm l ha).mem_iff.mp hz) with rfl | hz
  · rw [hkl] at hkz; cases hkz
  · exact hrel.cover z hz hkz

theorem rel_erase (hrel : Rel k st ha c) {l : Nat} (hm : l ∈ ha) (hkl : k.keep l = true) :
    Rel k ⟨st.held.erase (k.r l), st.piles⟩ (ha.erase l) c :=
  ⟨held_erase hkl (List.perm_cons_erase hm) hrel.held,
    fun z hz hkz => hrel.cover z (List.mem_of_mem_erase hz) hkz, hrel.piles, hrel.pok, hrel.sorted⟩

theorem rel_removeAll (hrel : Rel k st ha c) {Y o : List Nat} (hrem : removeAll ha Y = some o)
    (hY : ∀ x, x ∈ Y → k.keep x = true) : Rel k ⟨mdiff st.held (Y.map k.r), st.piles⟩ o c :=
  ⟨mdiff_perm (held_split hrel hrem hY),
    fun z hz hkz => hrel.cover z (removeAll_mem hrem hz) hkz, hrel.piles, hrel.pok, hrel.sorted⟩

/-- Pile `p` is set to `xs` abstractly and to `ys` really. -/
theorem rel_setP (hrel : Rel k st ha c) (p : Nat) {xs ys : List Nat}
    (hxs : ∀ l ∈ xs, isGhost l = false) (hs : Sub (xs.map k.r ++ k.Z p) ys) :
    Rel k ⟨st.held, upd st.piles p ys⟩ ha { c with piles := setP c.piles p xs } := by
  refine ⟨hrel.held, hrel.cover, ?_, pilesOK_set hrel.pok p hxs, setP_sorted _ _ _ hrel.sorted⟩
  intro q
  show Sub ((getP (setP c.piles p xs) q).map k.r ++ k.Z q) (upd st.piles p ys q)
  rw [getP_setP _ _ _ _ hrel.sorted]
  by_cases hq : q = p
  · subst hq; rw [if_pos rfl, upd_same]; exact hs
  · rw [if_neg hq, upd_other _ _ hq]; exact hrel.piles q

/-! Calls: entering the callee's context and leaving it. -/

variable {ren : List (Nat × Nat)}

theorem ok0_call (hk : OK0 k) (hr : renOk ren = true) (frame : List Nat) (c : CS) (T : List Nat) :
    OK0 (callCtx k ren frame c T) :=
  ⟨fun x => by show gcls (k.r (rn ren x)) = gcls x; rw [hk.cls_r, rn_gcls hr],
   fun x hx => by show (!isGhost x) = true; rw [hx]; rfl⟩

theorem keep_mapped (hk : OK0 k) (hr : renOk ren = true) (xs : List Nat) (x : Nat)
    (hx : x ∈ (xs.filter (fun l => !isGhost l)).map (rn ren)) : k.keep x = true := by
  obtain ⟨y, hy, rfl⟩ := List.mem_map.mp hx
  apply hk.keep_ng
  rw [rn_isGhost hr]
  simpa using (List.mem_filter.mp hy).2

theorem rel_enter (hk : OK0 k) (hrel : Rel k st ha c) {req frame : List Nat}
    (hr : renOk ren = true)
    (hrem : removeAll ha ((req.filter (fun l => !isGhost l)).map (rn ren)) = some frame)
    (hcov : ∀ gh ∈ req.filter isGhost, holdsClass frame [gcls gh] = true) (T : List Nat) :
    Rel (callCtx k ren frame c T) st (sortS req) CS.init := by
  refine ⟨?_, ?_, ?_, pilesOK_init, List.Pairwise.nil⟩
  · show st.held.Perm ((((sortS req).filter (fun x => !isGhost x)).map (k.r ∘ rn ren)) ++
      ((frame.filter k.keep).map k.r ++ k.F))
    refine (held_split hrel hrem (keep_mapped hk hr req)).trans ?_
    rw [List.map_map]
    exact List.Perm.append_right _
      (List.Perm.map _ (List.Perm.filter _ (sortS_perm req))).symm
  · intro z hz hkz
    have hzg : isGhost z = true := by
      have : (!isGhost z) = false := hkz
      simpa using this
    have hzr : z ∈ req.filter isGhost :=
      List.mem_filter.mpr ⟨(sortS_perm req).mem_iff.mp hz, hzg⟩
    obtain ⟨y, hy, hcy⟩ := holdsClass_iff.mp (hcov z hzr)
    have hgy : gcls y = gcls z := by simpa using hcy
    by_cases hky : k.keep y = true
    · exact ⟨k.r y, List.mem_append_left _
        (List.mem_map.mpr ⟨y, List.mem_filter.mpr ⟨hy, hky⟩, rfl⟩), by rw [hk.cls_r, hgy]⟩
    · obtain ⟨w, hw, hgw⟩ := hrel.cover y (removeAll_mem hrem hy) (eq_false_of_ne_true hky)
      exact ⟨w, List.mem_append_right _ hw, by rw [hgw, hgy]⟩
  · intro q
    show Sub ((getP [] q).map (k.r ∘ rn ren) ++ ((getP c.piles q).map k.r ++ k.Z q)) (st.piles q)
    simpa [getP] using hrel.piles q

theorem rel_leave (hk : OK0 k) (hrel : Rel k st ha c) {req post frame : List Nat}
    (hr : renOk ren = true)
    (hrem : removeAll ha ((req.filter (fun l => !isGhost l)).map (rn ren)) = some frame)
    {st' : RS}
    (hheld : st'.held.Perm ((post.filter (fun x => !isGhost x)).map (k.r ∘ rn ren) ++
      ((frame.filter k.keep).map k.r ++ k.F)))
    (hpiles : ∀ q, Sub ((getP c.piles q).map k.r ++ k.Z q) (st'.piles q)) :
    Rel k st' (addAll frame ((post.filter (fun l => !isGhost l)).map (rn ren))) c := by
  have pnew := addAll_perm frame ((post.filter (fun l => !isGhost l)).map (rn ren))
  refine ⟨?_, ?_, hpiles, hrel.pok, hrel.sorted⟩
  · refine List.Perm.trans hheld ?_
    rw [← List.append_assoc]
    refine List.Perm.append_right k.F ?_
    refine List.Perm.trans ?_
      (List.Perm.map k.r (filter_keep_split pnew (keep_mapped hk hr post))).symm
    rw [List.map_append, List.map_map]
  · intro z hz hkz
    rcases List.mem_append.mp (pnew.mem_iff.mp hz) with hz | hz
    · rw [keep_mapped hk hr post z hz] at hkz; cases hkz
    · exact hrel.cover z (removeAll_mem hrem hz) hkz

/-- What the caller sees of the state in which the callee's body ends. -/
theorem rel_exit {post : List Nat} (hrel : Rel k st (sortS post) c)
    (hkeep : k.keep = fun x => !isGhost x) :
    st.held.Perm ((post.filter (fun x => !isGhost x)).map k.r ++ k.F) ∧
      ∀ q, Sub (k.Z q) (st.piles q) := by
  refine ⟨?_, fun q => sub_right (hrel.piles q)⟩
  have h := hrel.held
  rw [hkeep] at h
  exact h.trans (List.Perm.append_right _
    (List.Perm.map _ (List.Perm.filter _ (sortS_perm post))))

end RelLemmas

/-! ## Lock balance in a context, as an instance of `SimG` -/

/-- What a replay in context `k` claims of a trace: no lock operation on a ghost, and the
renamed trace replays without failing. -/
def balSpec (sig : Sig) (k : Ctx) : SimSpec sig where
  St := RS
  Adv st tr st' := GhostFree tr ∧ run st.held (tr.map (evMap k.r)) = some st'.held ∧
    st' = stRun st (tr.map (evMap k.r))
  Rel st ha c := Rel k st ha c
  H _ _ := OK0 k
  adv_nil _ := ⟨ghostFree_nil, rfl, rfl⟩
  adv_append a1 a2 := by
    obtain ⟨g1, r1, rfl⟩ := a1
    obtain ⟨g2, r2, rfl⟩ := a2
    rw [List.map_append, stRun_append]
    exact ⟨ghostFree_append g1 g2, run_append_some r1 r2, rfl⟩
  H_seq h _ := ⟨h, fun _ _ => h⟩
  H_choice h := ⟨h, h⟩
  H_ifFlag h := h
  H_loop h := h
  H_scope h := h
  H_block h := h
  H_fin h _ := ⟨h, fun _ _ _ _ => h⟩

/-- In every context, every non-panicking path of `s` is ghost free, replays without failing,
and ends in a state the checker has among its outcomes. -/
def SimK (sig : Sig) (C : Nat → List Ev → Prop) (s : Stmt) : Prop := ∀ k, SimG (balSpec sig k) C s

/-- What the induction on the call depth assumes about callees: replayed inside any context
that provides the (non-ghost part of the) entry requirement and covers its ghosts, a callee
run is ghost free, does not fail, ends holding the non-ghost part of `post` in place of `req`,
and leaves the outer piles alone. -/
def CalleeK (sig : Sig) (C : Nat → List Ev → Prop) : Prop :=
  ∀ g t, C g t → ∀ req post, sig.get g = some (req, post) →
    ∀ (k : Ctx) (st : RS), OK0 k → k.keep = (fun x => !isGhost x) →
      Rel k st (sortS req) CS.init →
      GhostFree t ∧
      run st.held (t.map (evMap k.r)) = some (stRun st (t.map (evMap k.r))).held ∧
      (stRun st (t.map (evMap k.r))).held.Perm
        ((post.filter (fun x => !isGhost x)).map k.r ++ k.F) ∧
      ∀ q, Sub (k.Z q) ((stRun st (t.map (evMap k.r))).piles q)

section Leaves
variable {sig : Sig} {C : Nat → List Ev → Prop}

theorem run_one {h h' : List Nat} {e : Ev} (hs : stepH h e = some h') : run h [e] = some h' := by
  simp only [run, hs]

/-- A statement that emits no event and always ends as `o0`, changing the flags at most. -/
theorem balK_silent {s : Stmt} {o0 : Out} {f : CS → CS}
    (hex : ∀ ha c, execA sig s ⟨ha, c⟩ = .ok [(o0, ⟨ha, f c⟩)])
    (hsem : ∀ c tr o c', sem C s c tr o c' → tr = [] ∧ o = o0 ∧ c' = f c)
    (hf : ∀ c, (f c).piles = c.piles) : SimK sig C s := by
  intro k ha c R (st : RS) tr o c' hk he hrel hs
  obtain ⟨rfl, rfl, rfl⟩ := hsem _ _ _ _ hs
  rw [hex] at he
  cases he
  exact Or.inr ⟨st, ha, ⟨ghostFree_nil, rfl, rfl⟩, List.mem_singleton.mpr rfl,
    rel_flags hrel (hf c)⟩

theorem balK_need (cs : List Nat) : SimK sig C (.need cs) := by
  intro k ha c R (st : RS) tr o c' hk he hrel hs
  simp only [execA] at he
  simp only [sem] at hs
  obtain ⟨rfl, rfl, rfl⟩ := hs
  split at he
  · rename_i hc
    cases he
    have hc' := holds_ctx hk hrel hc
    exact Or.inr ⟨st, ha,
      ⟨ghostFree_need cs, run_one (by simp only [evMap, stepH, if_pos hc']), rfl⟩,
      List.mem_singleton.mpr rfl, hrel⟩
  · cases he

theorem balK_acq (l : Nat) : SimK sig C (.acq l) := by
  intro k ha c R (st : RS) tr o c' hk he hrel hs
  simp only [execA] at he
  simp only [sem] at hs
  obtain ⟨rfl, rfl, rfl⟩ := hs
  by_cases hg : isGhost l = true
  · rw [if_pos hg] at he; cases he
  · rw [if_neg hg] at he
    cases he
    have hg' := eq_false_of_ne_true hg
    exact Or.inr ⟨_, _, ⟨ghostFree_acq hg', rfl, rfl⟩, List.mem_singleton.mpr rfl,
      rel_insert hrel (hk.keep_ng l hg')⟩

theorem balK_rel (l : Nat) : SimK sig C (.rel l) := by
  intro k ha c R (st : RS) tr o c' hk he hrel hs
  simp only [execA] at he
  simp only [sem] at hs
  obtain ⟨rfl, rfl, rfl⟩ := hs
  by_cases hg : isGhost l = true
  · rw [if_pos hg] at he; cases he
  · rw [if_neg hg] at he
    by_cases hc : ha.contains l = true
    · rw [if_pos hc] at he
      cases he
      have hg' := eq_false_of_ne_true hg
      have hkl : k.keep l = true := hk.keep_ng l hg'
      have hm : l ∈ ha := List.contains_iff_mem.mp hc
      have hm' := List.contains_iff_mem.mpr (mem_ctx hrel hm hkl)
      exact Or.inr ⟨_, _,
        ⟨ghostFree_rel hg', run_one (by simp only [evMap, stepH, if_pos hm']; rfl), rfl⟩,
        List.mem_singleton.mpr rfl, rel_erase hrel hm hkl⟩
    · rw [if_neg hc] at he; cases he

theorem balK_pileLock (p l : Nat) : SimK sig C (.pileLock p l) := by
  intro k ha c R (st : RS) tr o c' hk he hrel hs
  simp only [execA] at he
  simp only [sem] at hs
  obtain ⟨rfl, rfl, rfl⟩ := hs
  by_cases hg : isGhost l = true
  · rw [if_pos hg] at he; cases he
  · rw [if_neg hg] at he
    cases he
    have hg' := eq_false_of_ne_true hg
    refine Or.inr ⟨_, _, ⟨ghostFree_pacq hg', rfl, rfl⟩, List.mem_singleton.mpr rfl,
      rel_setP (rel_insert hrel (hk.keep_ng l hg')) p ?_
        (sub_perm_left (List.Perm.map k.r (insertS_perm l _)).symm
          (sub_cons (k.r l) (hrel.piles p)))⟩
    intro x hx
    rcases List.mem_cons.mp ((insertS_perm l _).mem_iff.mp hx) with rfl | hx
    · exact hg'
    · exact pilesOK_get hrel.pok p x hx

theorem balK_pileUnlock (p l : Nat) : SimK sig C (.pileUnlock p l) := by
  intro k ha c R (st : RS) tr o c' hk he hrel hs
  simp only [execA] at he
  simp only [sem] at hs
  by_cases hg : isGhost l = true
  · rw [if_pos hg] at he; cases he
  · rw [if_neg hg] at he
    by_cases hq : (getP c.piles p).contains l = true
    · rw [if_pos hq] at he hs
      obtain ⟨rfl, rfl, rfl⟩ := hs
      by_cases hc : ha.contains l = true
      · rw [if_pos hc] at he
        cases he
        have hg' := eq_false_of_ne_true hg
        have hkl : k.keep l = true := hk.keep_ng l hg'
        have hm : l ∈ ha := List.contains_iff_mem.mp hc
        have hmp : l ∈ getP c.piles p := List.contains_iff_mem.mp hq
        have hm' := List.contains_iff_mem.mpr (mem_ctx hrel hm hkl)
        exact Or.inr ⟨_, _,
          ⟨ghostFree_prel hg', run_one (by simp only [evMap, stepH, if_pos hm']; rfl), rfl⟩,
          List.mem_singleton.mpr rfl,
          rel_setP (rel_erase hrel hm hkl) p
            (fun x hx => pilesOK_get hrel.pok p x (List.mem_of_mem_erase hx))
            (sub_perm_left (map_erase_perm k.r hmp)
              (sub_erase (List.mem_map.mpr ⟨l, hmp, rfl⟩) (hrel.piles p)))⟩
      · rw [if_neg hc] at he; cases he
    · rw [if_neg hq] at he; cases he

theorem removeAll_of_perm : ∀ (xs h o : List Nat), h.Perm (xs ++ o) →
    removeAll h xs = some (mdiff h xs)
  | [], _, _, _ => rfl
  | x :: xs, h, o, p => by
    have hm : x ∈ h := p.mem_iff.mpr List.mem_cons_self
    have p' : (h.erase x).Perm (xs ++ o) := by
      have := List.Perm.erase x p
      rwa [List.cons_append, List.erase_cons_head] at this
    simp only [removeAll, if_pos (List.contains_iff_mem.mpr hm), mdiff]
    exact removeAll_of_perm xs _ o p'

theorem prels_map (r : Nat → Nat) (p : Nat) (Y : List Nat) :
    (Y.map (Ev.prel p)).map (evMap r) = (Y.map r).map (Ev.prel p) := by
  rw [List.map_map, List.map_map]; rfl

theorem balK_pileUnlockAll (p : Nat) : SimK sig C (.pileUnlockAll p) := by
  intro k ha c R (st : RS) tr o c' hk he hrel hs
  simp only [execA] at he
  simp only [sem] at hs
  obtain ⟨rfl, rfl, rfl⟩ := hs
  split at he
  · rename_i hr hrem
    cases he
    have hY : ∀ x, x ∈ getP c.piles p → k.keep x = true :=
      fun x hx => hk.keep_ng x (pilesOK_get hrel.pok p x hx)
    refine Or.inr ⟨_, hr, ⟨ghostFree_prels p (pilesOK_get hrel.pok p), ?_, rfl⟩,
      List.mem_singleton.mpr rfl, ?_⟩
    · rw [stRun_prels, prels_map, run_prels_eq_removeAll]
      exact removeAll_of_perm _ _ _ (held_split hrel hrem hY)
    · rw [stRun_prels]
      exact rel_setP (rel_removeAll hrel hrem hY) p (fun x hx => by cases hx)
        (sub_mdiff (hrel.piles p))
  · cases he

theorem balK_call (hC : CalleeK sig C) (g : Nat) (ren : List (Nat × Nat)) :
    SimK sig C (.call g ren) := by
  intro k ha c R (st : RS) tr o c' hk he hrel hs
  simp only [execA] at he
  simp only [sem] at hs
  obtain ⟨t, hct, rfl, rfl, rfl⟩ := hs
  split at he
  · cases he
  · rename_i frame hnew hcall
    cases he
    obtain ⟨req, post, hsig, hr, hrem, hcov, rfl⟩ := callA_ok hcall
    obtain ⟨gf, hrun, hheld, hpiles⟩ := hC g t hct req post hsig _ st (ok0_call hk hr frame c' [])
      rfl (rel_enter hk hrel hr hrem hcov [])
    refine Or.inr ⟨_, _, ⟨ghostFree_rename hr gf, ?_, rfl⟩, List.mem_singleton.mpr rfl, ?_⟩
    · show run st.held ((t.map (rnEv ren)).map (evMap k.r)) = _
      rw [evMap_rn]; exact hrun
    · show Rel k (stRun st ((t.map (rnEv ren)).map (evMap k.r))) _ c'
      rw [evMap_rn]
      exact rel_leave hk hrel hr hrem hheld hpiles

theorem balK_leaf (hC : CalleeK sig C) : ∀ s, IsLeaf s → SimK sig C s
  | .skip, _ | .ret _, _ | .brk, _ | .cont, _ | .mark _ _, _ =>
    balK_silent (f := id) (fun _ _ => rfl) (fun _ _ _ _ h => h) (fun _ => rfl)
  | .setFlag v b, _ =>
    balK_silent (f := fun c => { c with flags := setF c.flags v b }) (fun _ _ => rfl)
      (fun _ _ _ _ h => h) (fun _ => rfl)
  | .acq l, _ => balK_acq l
  | .rel l, _ => balK_rel l
  | .pileLock p l, _ => balK_pileLock p l
  | .pileUnlock p l, _ => balK_pileUnlock p l
  | .pileUnlockAll p, _ => balK_pileUnlockAll p
  | .call g ren, _ => balK_call hC g ren
  | .need cs, _ => balK_need cs

theorem balK_all (hC : CalleeK sig C) (s : Stmt) : SimK sig C s :=
  fun k => simG_all (fun s hs => balK_leaf hC s hs k) s

end Leaves

/-! ## Programs -/

section Prog
variable {sig : Sig} {prog : Prog}

/-- One function body, replayed in a context that matches its entry requirement. -/
theorem body_simK {C : Nat → List Ev → Prop} (hc : consistent sig prog = true)
    (hC : CalleeK sig C) {g : Nat} {body : Stmt} {req post : List Nat}
    (hm : (g, body) ∈ prog) (hsig : sig.get g = some (req, post))
    (k : Ctx) (st : RS) (hk : OK0 k) (hrel : Rel k st (sortS req) CS.init)
    {tr : List Ev} {o : Out} {c' : CS} (hsem : sem C body CS.init tr o c')
    (ho : o = .norm ∨ o = .ret) :
    GhostFree tr ∧ run st.held (tr.map (evMap k.r)) = some (stRun st (tr.map (evMap k.r))).held ∧
      Rel k (stRun st (tr.map (evMap k.r))) (sortS post) c' := by
  obtain ⟨_, ⟨gf, hrun, rfl⟩, rel⟩ := simG_body (balK_all hC body k) (consistent_mem hc hm) hsig
    hk hrel hsem ho
  exact ⟨gf, hrun, rel⟩

theorem calleeK_all (hc : consistent sig prog = true) : ∀ n, CalleeK sig (fnSem prog n)
  | 0 => by intro g t h; cases h
  | n + 1 => by
    intro g t hg req post hsig k st hk hkeep hrel
    obtain ⟨body, hm, o, c', hs, ho⟩ := fnSem_body hg
    obtain ⟨gf, hrun, rel⟩ := body_simK hc (calleeK_all hc n) hm hsig k st hk hrel hs ho
    exact ⟨gf, hrun, rel_exit rel hkeep⟩

/-- The context of a function that nothing calls: lock names as they are, all of the
requirement really held, nothing held through a pile. -/
def topCtx (T : List Nat) : Ctx := ⟨id, fun _ => true, [], fun _ => [], T⟩

theorem ok0_top (T : List Nat) : OK0 (topCtx T) := ⟨fun _ => rfl, fun _ _ => rfl⟩

theorem evMap_top (T : List Nat) (tr : List Ev) : tr.map (evMap (topCtx T).r) = tr := evMap_id tr

theorem held_top_eq (T ha : List Nat) :
    (ha.filter (topCtx T).keep).map (topCtx T).r ++ (topCtx T).F = ha := by
  show (ha.filter (fun _ => true)).map id ++ [] = ha
  rw [List.append_nil, List.map_id, List.filter_eq_self.mpr (fun _ _ => rfl)]

theorem rel_top (req T : List Nat) : Rel (topCtx T) ⟨req, fun _ => []⟩ (sortS req) CS.init := by
  refine ⟨?_, fun z _ hz => (by cases hz), fun q => ⟨[], ?_⟩, pilesOK_init, List.Pairwise.nil⟩
  · rw [held_top_eq]; exact (sortS_perm req).symm
  · show ([] : List Nat).Perm (((getP [] q).map id ++ []) ++ [])
    simp [getP]

theorem held_top {T : List Nat} {st : RS} {ha : List Nat} {c : CS} (h : Rel (topCtx T) st ha c) :
    st.held.Perm ha := by
  have := h.held
  rwa [held_top_eq] at this

/-- Lock balance of a returning run of `f`, started from what its summary requires, with the
replay state it ends in. -/
theorem exec_bal (hc : consistent sig prog = true) {f : Nat} {tr : List Ev} (he : Exec prog f tr)
    {req post : List Nat} (hsig : sig.get f = some (req, post)) :
    GhostFree tr ∧ run req tr = some (stRun ⟨req, fun _ => []⟩ tr).held ∧
      (stRun ⟨req, fun _ => []⟩ tr).held.Perm post := by
  obtain ⟨n, body, hm, o, c', hs, ho⟩ := exec_body he
  obtain ⟨gf, hrun, rel⟩ := body_simK hc (calleeK_all hc n) hm hsig (topCtx [])
    ⟨req, fun _ => []⟩ (ok0_top []) (rel_top req []) hs ho
  rw [evMap_top] at hrun rel
  exact ⟨gf, hrun, (held_top rel).trans (sortS_perm post)⟩

end Prog

end BbRe.Lemmas.LockSkelEdges

namespace BbRe.Lemmas.LockSkel
open BbRe.LockSkel

theorem checker_sound (sig : Sig) (prog : Prog) (hc : consistent sig prog = true) :
    ∀ (f : Nat) (tr : List Ev), Exec prog f tr →
      ∃ req post, sig.get f = some (req, post) ∧
        ∃ h', run req tr = some h' ∧ h'.Perm post := by
  intro f tr he
  obtain ⟨req, post, hsig⟩ := exec_sig sig prog hc he
  exact ⟨req, post, hsig, _, (LockSkelEdges.exec_bal hc he hsig).2⟩

/-- Lock operations of checked code never mention a ghost lock. -/
theorem checker_sound_ghostFree (sig : Sig) (prog : Prog) (hc : consistent sig prog = true) :
    ∀ (f : Nat) (tr : List Ev), Exec prog f tr → GhostFree tr := by
  intro f tr he
  obtain ⟨req, post, hsig⟩ := exec_sig sig prog hc he
  exact (LockSkelEdges.exec_bal hc he hsig).1

theorem checker_sound_counts (sig : Sig) (prog : Prog) (hc : consistent sig prog = true)
    (f : Nat) (tr : List Ev) (he : Exec prog f tr) :
    ∃ req post, sig.get f = some (req, post) ∧ NeverUnderflows req tr ∧
      ∀ l, post.count l + rels l tr = req.count l + acqs l tr := by
  obtain ⟨req, post, hsig, h', hr, hp⟩ := checker_sound sig prog hc f tr he
  obtain ⟨hnu, hcnt⟩ := run_counts req h' tr hr
  refine ⟨req, post, hsig, hnu, fun l => ?_⟩
  rw [← hp.count_eq l]; exact hcnt l

end BbRe.Lemmas.LockSkel
