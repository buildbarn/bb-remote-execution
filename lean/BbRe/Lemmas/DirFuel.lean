import BbRe.Lemmas.DirInv
/-!
The fuel of `removeTree` (the work-list form of the recursion
`removeAllChildren` → `postRemoveChildren` → `removeAllChildren`) is always
sufficient: with `removeFuel` the work list is exhausted, more fuel changes
nothing.  (Every step clears one directory; a directory is pushed only when an
entry referring to it is cleared, and cleared entries are gone.)
-/
namespace BbRe.Lemmas.Dir
open BbRe.Dir

theorem totalEntries_setDir (s : Store) (d : Nat) (x : Dir) (h : d < s.dirs.length) :
    totalEntries (s.setDir d x) + (s.dir d).entries.length = totalEntries s + x.entries.length := by
  have := sum_map_set (fun y : Dir => y.entries.length) s.dirs d x h
  simpa [totalEntries, Store.dir, List.getElem?_eq_getElem h] using this

theorem totalEntries_of_dirs {s t : Store} (h : s.dirs = t.dirs) : totalEntries s = totalEntries t := by
  simp [totalEntries, h]

theorem totalEntries_clearDir (s : Store) (d : Nat) (del : Bool) :
    totalEntries (clearDir s d del) + (s.dir d).entries.length = totalEntries s := by
  rw [clearDir_eq]
  have hud : (unlinkLeaves s (s.dir d).entries).dirs = s.dirs := unlinkLeaves_dirs s _
  by_cases hd : d < s.dirs.length
  · have h1 := totalEntries_setDir (unlinkLeaves s (s.dir d).entries) d (clearedDir (s.dir d) del) (by rw [hud]; exact hd)
    rw [dir_eq_of_dirs hud d, totalEntries_of_dirs hud] at h1
    simpa [clearedDir] using h1
  · have h2 : (unlinkLeaves s (s.dir d).entries).setDir d (clearedDir (s.dir d) del) = unlinkLeaves s (s.dir d).entries := by
      unfold Store.setDir
      rw [List.set_eq_of_length_le (by rw [hud]; omega)]
    rw [h2, totalEntries_of_dirs hud, dir_default s d (by omega)]
    rfl

theorem length_dirChildren_le (es : List Entry) : (dirChildren es).length ≤ es.length := by
  induction es with
  | nil => simp [dirChildren]
  | cons e rest ih =>
    unfold dirChildren
    cases e.child <;> simp <;> omega

/-- More fuel than `totalEntries + length of the work list` never changes the result. -/
theorem removeTree_fuel : ∀ (n : Nat) (s : Store) (stack : List Nat), totalEntries s + stack.length ≤ n →
    ∀ f1 f2, n ≤ f1 → n ≤ f2 → removeTree f1 s stack = removeTree f2 s stack
  | n, s, [], _, f1, f2, _, _ => by
    cases f1 <;> cases f2 <;> simp [removeTree]
  | 0, s, d :: rest, h, _, _, _, _ => by simp at h
  | n + 1, s, d :: rest, h, f1, f2, h1, h2 => by
    match f1, f2, h1, h2 with
    | g1 + 1, g2 + 1, h1, h2 =>
      simp only [removeTree]
      apply removeTree_fuel n _ _ _ _ _ (Nat.le_of_succ_le_succ h1) (Nat.le_of_succ_le_succ h2)
      have e1 := totalEntries_clearDir s d true
      have e2 := length_dirChildren_le (s.dir d).entries
      simp only [List.length_append, List.length_cons] at h ⊢
      omega

/-- The fuel handed to `removeTree` by `RemoveAll` / `RemoveAllChildren` / `CreateChildren(overwrite)` suffices. -/
theorem removeFuel_sufficient (s : Store) (stack : List Nat) (extra : Nat) :
    removeTree (removeFuel s stack) s stack = removeTree (removeFuel s stack + extra) s stack :=
  removeTree_fuel (totalEntries s + stack.length) s stack (Nat.le_refl _) _ _
    (by unfold removeFuel; omega) (by unfold removeFuel; omega)

end BbRe.Lemmas.Dir
