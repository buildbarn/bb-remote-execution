import BbRe.Lemmas.SchedLiveWorker4
/-!
Worker invariant through `syncReturn`, `assignNext`, `getNextTask` and `getCurrentOrNext`, under the
precondition `SyncPre` (the worker is inside `Synchronize` with no waiting flag set).
-/
namespace BbRe.Lemmas.SchedLive
open BbRe.Sched

/-- a queued task of a size-class queue is stored under its id, is in that queue, has no worker and no response -/
theorem queuedTasks_mem {s : State} (hk : KeysOK s) {q : ScqId} {t : Task} (h : t ∈ queuedTasks s q) :
    s.task? t.id = some t ∧ t.scq = q ∧ t.worker = none ∧ t.response = none := by
  unfold queuedTasks at h
  simp only [List.mem_map, List.mem_filter, decide_eq_true_eq] at h
  obtain ⟨⟨k, t0⟩, ⟨hm, hc⟩, rfl⟩ := h
  have hl : s.task? k = some t0 := alookup_of_mem hk.tnodup hm
  have hid := (hk.tid k t0 hl).1
  simp only at hc ⊢
  exact ⟨by rw [hid]; exact hl, hc.1, by simpa using hc.2.2.1, by simpa using hc.2.2.2⟩

/-- the worker `(q, w)` is in the middle of a `Synchronize` segment: inside, and none of the waiting flags set -/
def SyncPre (s : State) (q : ScqId) (w : WId) : Prop :=
  ∀ wk, s.worker? q w = some wk → wk.inSync = true ∧ wk.parked = false ∧ wk.woken = false ∧ wk.drainWait = none

theorem syncReturn_winv {s : State} (q : ScqId) (w : WId) (hw : WInv s) : WInv (syncReturn s q w) := by
  unfold syncReturn
  split
  · rename_i wk hwk
    obtain ⟨hm, _, _⟩ := worker?_mem hwk
    refine hw.setWorker (X := noX) rfl (WFrame.of_eq rfl rfl rfl) (NoPtr.noX s) ?_
    exact ⟨by simp, by simp, by simp, fun tid ht => (hw.ok wk hm).ptr tid ht⟩
  · exact hw

theorem assignNext_winv {h : Hints} {s s1 : State} {wk : Worker} {got : Bool}
    (hh : assignNext h s wk = .ok (s1, got)) (hk : KeysOK s) (hw : WInv s) (hm : wk ∈ s.workers)
    (hp : wk.parked = false) (hd : wk.drainWait = none) : WInv s1 := by
  rcases assignNext_ok hh with ⟨_, rfl, _⟩ | ⟨_, t, t', hq, hwt, htw, h3, rfl⟩
  · exact hw
  · obtain ⟨hl, _, _, hresp⟩ := queuedTasks_mem hk hq
    have hlt := (hk.tid _ _ hl).2
    have ht' : t' = { t with worker := some (wk.scq, wk.id), retry := 0, queued := false } := by
      simp only [State.task?, assignS_tasks, alookup_aset, if_true] at h3
      injection h3 with h3; exact h3.symm
    subst ht'
    have hok := hw.ok wk hm
    refine hw.setWorker (X := (· = t.id)) (w := { wk with task := some t.id }) (by simp)
      (WFrame.of_aset (k0 := t.id) (by simp) (by simp) (by other_keys)) (noPtr_of_worker_none hw hl htw) ?_
    refine ⟨by simp [hp], ?_, by simp [hd], ?_⟩
    · intro hwo; exact hok.woken hwo
    · intro tid' e
      simp only [Option.some.injEq] at e; subst e
      refine ⟨hlt, ?_⟩
      intro tk htk
      simp only [State.task?, setTask_tasks, assignS_tasks, alookup_aset, bumpGen, if_true, Option.some.injEq] at htk
      subst htk
      exact ⟨rfl, hresp⟩

theorem getNextTask_kw {h : Hints} {s s' : State} {q : ScqId} {w : WId} {pi block : Bool}
    (hh : getNextTask h s q w pi block = .ok s')
    (hpre : SyncPre s q w) (hnt : ∀ wk, s.worker? q w = some wk → wk.task = none) : KWStep s s' := by
  refine KWStep.of (getNextTask_tstep (allow := True) hh) (fun hk hw => ?_)
  obtain ⟨wk, sq, hwk, hsq, h1 | h1 | h1⟩ := getNextTask_ok hh
  · obtain ⟨_, rfl⟩ := h1
    exact syncReturn_winv q w (winv_same hw rfl rfl rfl rfl)
  · obtain ⟨_, hdr, s1, got, h2, h3⟩ := h1
    obtain ⟨hm, hq', hw'⟩ := worker?_mem hwk
    obtain ⟨pin, ppk, pwo, pdw⟩ := hpre wk hwk
    have hw1 : WInv s1 := assignNext_winv h2 hk hw hm ppk pdw
    rcases h3 with h3 | h3 | h3
    · obtain ⟨_, wk1, s2, _, h4, rfl⟩ := h3
      obtain ⟨tid, t, _, _, rfl⟩ := execResponse_ok h4
      exact syncReturn_winv q w (winv_same hw1 rfl rfl rfl rfl)
    · obtain ⟨_, _, rfl⟩ := h3
      exact syncReturn_winv q w (winv_same hw1 rfl rfl rfl rfl)
    · obtain ⟨hg, _, wk1, hwk1, _, rfl⟩ := h3
      -- nothing was assigned: the state is unchanged and the worker parks
      rcases assignNext_ok h2 with ⟨_, rfl, _⟩ | ⟨hg', _⟩
      · rw [hwk] at hwk1; injection hwk1 with hwk1; subst hwk1
        unfold isDrained at hdr
        simp only [Bool.or_eq_false_iff, List.any_eq_false] at hdr
        refine hw.setWorker (X := noX) rfl (WFrame.of_eq rfl rfl rfl) (NoPtr.noX _) ?_
        refine ⟨?_, by simp, by simp [pdw], fun tid ht => ((hw.ok wk hm).ptr tid ht)⟩
        intro _
        refine ⟨pin, rfl, hnt wk hwk, hdr.1, pdw, ?_⟩
        intro sq' hsq' p hp
        simp only [parkS_scqs, State.scq?] at hsq'
        rw [hq'] at hsq'
        have : sq' = sq := by
          have := hsq; simp only [State.scq?] at this; rw [this] at hsq'; injection hsq' with e; exact e.symm
        subst this
        have := hdr.2 p hp
        simpa using this
      · rw [hg] at hg'; cases hg'
  · obtain ⟨_, hdr, h2 | h2⟩ := h1
    · obtain ⟨_, rfl⟩ := h2
      exact syncReturn_winv q w (winv_same hw rfl rfl rfl rfl)
    · obtain ⟨_, rfl⟩ := h2
      obtain ⟨hm, _, _⟩ := worker?_mem hwk
      obtain ⟨pin, ppk, pwo, pdw⟩ := hpre wk hwk
      refine hw.setWorker (X := noX) rfl (WFrame.of_eq rfl rfl rfl) (NoPtr.noX _) ?_
      exact ⟨by simp [ppk], by simp [pwo], fun _ => ⟨pin, hnt wk hwk⟩, fun tid ht => ((hw.ok wk hm).ptr tid ht)⟩

theorem getCurrentOrNext_kw {h : Hints} {s s' : State} {q : ScqId} {w : WId} {pi block : Bool}
    (hh : getCurrentOrNext h s q w pi block = .ok s') (hpre : SyncPre s q w) : KWStep s s' := by
  obtain ⟨wk, hwk, h1 | h1⟩ := getCurrentOrNext_ok hh
  · refine getNextTask_kw h1.2 hpre ?_
    intro wk' hwk'; rw [hwk] at hwk'; injection hwk' with e; subst e; exact h1.1
  · obtain ⟨tid, t, htk, h0, h2 | h2⟩ := h1
    · obtain ⟨_, rfl⟩ := h2
      refine KWStep.of (getCurrentOrNext_tstep (allow := True) hh) (fun hk hw => ?_)
      have hid := (hk.tid tid t h0).1
      refine syncReturn_winv q w ?_
      exact hw.of_frame rfl (WFrame.of_aset_same (t0 := t) (t2 := { t with retry := t.retry + 1 }) (k0 := t.id)
        (by rw [hid]; exact h0) rfl rfl (by simp) (by simp) (by simp)) (NoPtr.noX _)
    · obtain ⟨_, s1, h3, h4⟩ := h2
      intro hkw
      have hkw1 := complete_kw h3 hkw
      obtain ⟨keep, clr⟩ := complete_keep (q := q) (w := w) h3 hkw.2
      obtain ⟨pin, ppk, pwo, pdw⟩ := hpre wk hwk
      refine getNextTask_kw h4 ?_ ?_ hkw1
      · intro wk1 hwk1
        obtain ⟨wk', e1, p1, a1, a2, a3, _⟩ := keep wk hwk ppk
        rw [e1] at hwk1; injection hwk1 with e; subst e
        exact ⟨a1 ▸ pin, p1, a2 ▸ pwo, a3 ▸ pdw⟩
      · intro wk1 hwk1; exact clr wk hwk ppk htk wk1 hwk1

end BbRe.Lemmas.SchedLive
