import BbRe.Lemmas.SchedInvExec
/-! `Synchronize`: `syncReturn`, `execResponse`, `assignNextQueuedTask`, `getNextTask`. -/
namespace BbRe.Lemmas.SchedInv
open BbRe.Sched

/-- a flag-only update of a worker that leaves it un-parked, un-woken and not waiting for an undrain -/
theorem setFlags_inv {ex exo} {s : State} {wk wk' : Worker} (hI : InvX ex exo s)
    (hw : wfind s.workers wk.scq wk.id = some wk) (h1 : wk'.scq = wk.scq) (h2 : wk'.id = wk.id)
    (h3 : wk'.task = wk.task) (h4 : wk'.parked = false) (h5 : wk'.woken = false)
    (h6 : wk'.drainWait = none) : InvX ex exo (s.setWorker wk') := by
  exact ⟨hI.core.setWorker hw h1 h2 h3 (fun h => by rw [h4] at h; cases h) (fun h => by rw [h5] at h; cases h)
    (fun h => by rw [h6] at h; cases h), hI.oinv, hI.sinv, hI.linv⟩

/-- the worker record at the end of a `Synchronize` call -/
def resetW (wk : Worker) : Worker :=
  { wk with inSync := false, parked := false, woken := false, drainWait := none, timer := none }

theorem syncReturn_eq (s : State) (q : ScqId) (w : WId) :
    syncReturn s q w = match s.worker? q w with
      | some wk => { s.setWorker (resetW wk) with
                     cleanup := ⟨s.now + s.cfg.workerTimeout, .worker q w⟩ :: s.cleanup }
      | none => s := by
  unfold syncReturn
  cases s.worker? q w <;> rfl

theorem syncReturn_inv {ex exo} {s : State} (q : ScqId) (w : WId) (hI : InvX ex exo s) :
    InvX ex exo (syncReturn s q w) := by
  rw [syncReturn_eq]
  cases hw : s.worker? q w with
  | none => exact hI
  | some wk =>
    dsimp only
    have hk := wfind_key hw
    have := setFlags_inv (wk := wk) (wk' := resetW wk) hI (by rw [hk.1, hk.2]; exact hw) rfl rfl rfl rfl rfl rfl
    exact ⟨this.core, this.oinv, this.sinv.cleanup_cons _ (by intro k; simp), this.linv⟩

theorem syncReturn_fr (s : State) (q : ScqId) (w : WId) : Fr s (syncReturn s q w) := by
  rw [syncReturn_eq]
  cases s.worker? q w with
  | none => exact Fr.refl s
  | some wk => exact Fr.of_same rfl rfl rfl rfl rfl rfl rfl

theorem syncReturn_events (s : State) (q : ScqId) (w : WId) : (syncReturn s q w).events = s.events := by
  rw [syncReturn_eq]
  cases s.worker? q w <;> rfl

theorem ExecOK.syncReturn {s : State} {q' : ScqId} {w' : WId} {d : Nat} (q : ScqId) (w : WId)
    (h : ExecOK s q' w' d) : ExecOK (syncReturn s q w) q' w' d := by
  rw [syncReturn_eq]
  cases hw : s.worker? q w with
  | none => exact h
  | some wk =>
    obtain ⟨wk0, k, t, a, b, c, e, f⟩ := h
    dsimp only
    have hk := wfind_key hw
    simp only [worker?_def] at hw
    have hk' : (resetW wk).scq = q ∧ (resetW wk).id = w := hk
    by_cases hqq : q = q' ∧ w = w'
    · obtain ⟨rfl, rfl⟩ := hqq
      rw [hw] at a; cases a
      refine ⟨resetW wk, k, t, ?_, b, c, e, f⟩
      simp only [setWorker_eq]; rw [wfind_wset, if_pos hk', hw]; rfl
    · refine ⟨wk0, k, t, ?_, b, c, e, f⟩
      simp only [setWorker_eq]; rw [wfind_wset, if_neg]
      · exact a
      · exact fun h => hqq ⟨hk'.1.symm.trans h.1, hk'.2.symm.trans h.2⟩

theorem SyncEv.syncReturn {s : State} {e : Event} (q : ScqId) (w : WId) (h : SyncEv s e) :
    SyncEv (syncReturn s q w) e := by
  cases e <;> simp_all [SyncEv]
  exact h.syncReturn q w

/-- postcondition of a `Synchronize` segment -/
def SyncPost (s s' : State) : Prop := Inv s' ∧ Mono s s' ∧ Ext (SyncEv s') s.events s'.events

/-- `return syncReturn (emit s e) q w` for a quiet event -/
theorem syncReturn_quiet_post {s : State} (hI : Inv s) (e : Event) (hq : Quiet e) (hn : NoLearn e)
    (q : ScqId) (w : WId) : SyncPost s (syncReturn (emit s e) q w) := by
  have hI1 : Inv (emit s e) := ⟨hI.core, hI.oinv, hI.sinv, hI.linv.emit _ hn⟩
  refine ⟨syncReturn_inv q w hI1, ?_, ?_⟩
  · exact Mono.trans (show Mono s (emit s e) from
      ⟨rfl, Nat.le_refl _, Nat.le_refl _, Nat.le_refl _, fun k hk => hk, Ext.refl _ _⟩) (syncReturn_fr _ q w).toMono
  · rw [syncReturn_events]
    exact Ext.cons (Ext.refl _ _) _ (SyncEv.of_quiet hq)

/-- `return syncReturn (← execResponse s wk) q w` -/
theorem execReturn_spec {s : State} {q : ScqId} {w : WId} {wk wk' : Worker} {tid : Nat} (hI : Inv s)
    (hw : wfind s.workers q w = some wk') (ht' : wk'.task = some tid) (ht : wk.task = some tid)
    (hq : wk.scq = q) (hi : wk.id = w) :
    wp (execResponse s wk >>= fun s1 => pure (syncReturn s1 q w)) (fun s' => SyncPost s s') := by
  obtain ⟨t, htk, htw⟩ := hI.core.p1 q w wk' tid hw ht'
  have hr : t.response = none := hI.core.p3 tid t htk (by rw [htw]; rfl)
  unfold execResponse
  simp only [ht, task?_def, htk, pure_bind, wp_pure]
  have hI1 : Inv (emit s (.syncExecute wk.scq wk.id t.digest (s.now + s.cfg.busyInterval))) :=
    ⟨hI.core, hI.oinv, hI.sinv, hI.linv.emit _ (fun _ => ⟨rfl, rfl⟩)⟩
  refine ⟨syncReturn_inv q w hI1, ?_, ?_⟩
  · exact Mono.trans (show Mono s (emit s (.syncExecute wk.scq wk.id t.digest (s.now + s.cfg.busyInterval))) from
      ⟨rfl, Nat.le_refl _, Nat.le_refl _, Nat.le_refl _, fun k hk => hk, Ext.refl _ _⟩) (syncReturn_fr _ q w).toMono
  · rw [syncReturn_events]
    refine Ext.cons (Ext.refl _ _) _ ?_
    rw [hq, hi]
    exact ExecOK.syncReturn q w ⟨wk', tid, t, hw, ht', htk, rfl, hr⟩

theorem assignSt_mono {s : State} {w : Worker} {t : Task} (ht : alookup t.id s.tasks = some t)
    (hr : t.response = none) : Mono s (assignSt s w t) := by
  have hnd : ¬ Dead s.tasks s.nextTask t.id := by
    intro hd; have := hd.2 t ht; simp [hr] at this
  refine ⟨rfl, Nat.le_refl _, Nat.le_refl _, Nat.le_refl _, ?_, ⟨[(w.scq, w.id, t.id)], rfl, ?_⟩⟩
  · intro k hk
    refine ⟨hk.1, ?_⟩
    intro t'
    simp only [assignSt, State.setTask, setWorker_eq]
    rw [alookup_aset]
    split
    · rename_i hkk; subst hkk; exact absurd hk hnd
    · exact hk.2 t'
  · intro x hx; simp only [List.mem_singleton] at hx; subst hx; exact hnd

theorem mem_queuedTasks {s : State} {q : ScqId} {t : Task} (hn : (keys s.tasks).Nodup)
    (h : t ∈ queuedTasks s q) : ∃ k, alookup k s.tasks = some t ∧ t.worker = none ∧ t.response = none := by
  unfold queuedTasks at h
  simp only [List.mem_map, List.mem_filter] at h
  obtain ⟨⟨k, t'⟩, ⟨hm, hp⟩, rfl⟩ := h
  simp only [decide_eq_true_eq] at hp
  refine ⟨k, alookup_of_mem hn hm, ?_, ?_⟩
  · simpa using hp.2.2.1
  · simpa using hp.2.2.2

theorem assignNext_spec {h : Hints} {s : State} {w : Worker} (hI : Inv s)
    (hw : wfind s.workers w.scq w.id = some w) (hwt : w.task = none) (hwp : w.parked = false)
    (hwd : w.drainWait = none) :
    wp (assignNext h s w) (fun r => Inv r.1 ∧ Mono s r.1 ∧ r.1.events = s.events ∧
      (r.2 = false → r.1 = s) ∧
      (r.2 = true → ∃ tid, wfind r.1.workers w.scq w.id = some { w with task := some tid })) := by
  unfold assignNext
  split
  · rename_i a _
    split
    · rename_i t hf
      have hm := List.mem_of_find?_eq_some hf
      obtain ⟨k, hk, htw, hr⟩ := mem_queuedTasks hI.core.tnd hm
      have hid : t.id = k := (hI.core.tid k t hk).1
      have ht : alookup t.id s.tasks = some t := by rw [hid]; exact hk
      rw [assignTo_eq]
      simp only [hwt, htw, Option.isSome_none, Bool.false_eq_true, if_false, ok_bind']
      have hI1 := (assignSt_inv hI hw hwt hwp hwd ht hr htw).mono (fun k hk => hk.1) (fun _ h => h)
      have ht1 : alookup t.id (assignSt s w t).tasks =
          some { t with worker := some (w.scq, w.id), retry := 0, queued := false } := by
        simp only [assignSt, State.setTask, setWorker_eq]; rw [alookup_aset, if_pos rfl]
      simp only [task?_def, ht1]
      rw [wp_pure]
      refine ⟨bumpGen_inv hI1 ht1, ?_, rfl, (fun h => by cases h), fun _ => ⟨t.id, ?_⟩⟩
      · refine (assignSt_mono ht hr).trans (Fr.setTask
          (t := bumpGen { t with worker := some (w.scq, w.id), retry := 0, queued := false })
          (t0 := { t with worker := some (w.scq, w.id), retry := 0, queued := false }) ?_ rfl).toMono
        simp only [bumpGen]; exact ht1
      · simp only [State.setTask, assignSt, setWorker_eq]
        rw [wfind_wset]; simp [hw]
    · okerr
  · split
    · exact ⟨hI, Mono.refl s, rfl, fun _ => rfl, (fun h => by cases h)⟩
    · okerr

/-- the synchronizing worker is ready to take a task or to block -/
structure Ready (wk : Worker) : Prop where
  parked : wk.parked = false
  woken : wk.woken = false
  task : wk.task = none
  drainWait : wk.drainWait = none
  inSync : wk.inSync = true

theorem SyncPost.trans_left {s s1 s' : State} (hm : Mono s s1) (hev : Ext Quiet s.events s1.events)
    (h : SyncPost s1 s') : SyncPost s s' :=
  ⟨h.1, hm.trans h.2.1, (hev.mono (fun _ => SyncEv.of_quiet)).trans h.2.2⟩

theorem SyncPost.of_quiet {s s' : State} (hI : Inv s') (hfr : Fr s s') : SyncPost s s' :=
  ⟨hI, hfr.toMono, hfr.ev.mono (fun _ => SyncEv.of_quiet)⟩

theorem park_inv {s : State} {wk : Worker} {x : Option Nat} (hI : Inv s)
    (hw : wfind s.workers wk.scq wk.id = some wk) (hr : Ready wk) :
    Inv (s.setWorker { wk with parked := true, woken := false, timer := x }) := by
  exact ⟨hI.core.setWorker (w' := { wk with parked := true, woken := false, timer := x }) hw rfl rfl rfl
    (fun _ => ⟨hr.task, hr.drainWait, rfl, hr.inSync⟩) (fun h => nomatch h)
    (fun h => by rw [show _ = none from hr.drainWait] at h; cases h), hI.oinv, hI.sinv, hI.linv⟩

theorem drainWait_inv {s : State} {wk : Worker} {g : Nat} {x : Option Nat} (hI : Inv s)
    (hw : wfind s.workers wk.scq wk.id = some wk) (hr : Ready wk) :
    Inv (s.setWorker { wk with drainWait := some g, timer := x }) := by
  exact ⟨hI.core.setWorker (w' := { wk with drainWait := some g, timer := x }) hw rfl rfl rfl
    (fun h => by rw [show _ = false from hr.parked] at h; cases h)
    (fun h => by rw [show _ = false from hr.woken] at h; cases h) (fun _ => ⟨hr.task, hr.inSync⟩),
    hI.oinv, hI.sinv, hI.linv⟩

theorem getNextTask_spec {h : Hints} {s : State} {q : ScqId} {w : WId} {wk : Worker} {pi bl : Bool}
    (hI : Inv s) (hw : wfind s.workers q w = some wk) (hr : Ready wk) :
    wp (getNextTask h s q w pi bl) (fun s' => SyncPost s s') := by
  have hk := wfind_key hw
  have hw' : wfind s.workers wk.scq wk.id = some wk := by rw [hk.1, hk.2]; exact hw
  have hidle : SyncPost s (syncReturn (emit s (.syncIdle q w s.now)) q w) :=
    syncReturn_quiet_post hI (.syncIdle q w s.now) trivial (fun _ => ⟨rfl, rfl⟩) q w
  unfold getNextTask
  simp only [worker?_def, hw]
  split
  · rename_i sq _
    by_cases hpi : pi = true
    · simp only [hpi, if_true]; exact hidle
    · simp only [hpi]
      by_cases hd : isDrained sq wk = true
      · simp only [hd, Bool.not_true, Bool.false_eq_true, if_false]
        by_cases hb : bl = true
        · simp only [hb, Bool.not_true, Bool.false_eq_true, if_false, wp_pure]
          exact SyncPost.of_quiet (drainWait_inv hI hw' hr) (setWorker_fr _ _)
        · simp only [hb, Bool.not_false, if_true]; exact hidle
      · simp only [hd, Bool.not_false, if_true]
        apply wp_bind
        refine wp_mono (assignNext_spec (h := h) hI hw' hr.task hr.parked hr.drainWait) ?_
        intro ⟨s1, got⟩ ⟨hI1, hm1, hev1, hf, ht⟩
        dsimp only at hI1 hm1 hev1 hf ht ⊢
        cases got with
        | true =>
          obtain ⟨tid, hw1⟩ := ht rfl
          rw [hk.1, hk.2] at hw1
          simp only [if_true, hw1]
          refine wp_mono (execReturn_spec hI1 hw1 rfl rfl rfl rfl) ?_
          intro s' hp
          exact SyncPost.trans_left hm1 (by rw [hev1]; exact Ext.refl _ _) hp
        | false =>
          have hs1 := hf rfl
          subst hs1
          simp only [Bool.false_eq_true, if_false]
          by_cases hb : bl = true
          · simp only [hb, Bool.not_true, Bool.false_eq_true, if_false, hw, hr.parked, wp_pure]
            exact SyncPost.of_quiet (park_inv hI hw' hr) (setWorker_fr _ _)
          · simp only [hb, Bool.not_false, if_true]; exact hidle
  · okerr

/-- after `complete` of the task held by an un-parked worker, that worker holds nothing -/
theorem complete_clears {s s1 : State} {tid : Nat} {q : ScqId} {w : WId} {wk : Worker} (hI : Inv s)
    (hI1 : Inv s1) (hcp : CompPost s tid s1) (hw : wfind s.workers q w = some wk)
    (hwt : wk.task = some tid) (hnp : wk.parked = false) :
    wfind s1.workers q w = some { wk with task := none } := by
  obtain ⟨t, ht, htw⟩ := hI.core.p1 q w wk tid hw hwt
  have hr : t.response = none := hI.core.p3 tid t ht (by rw [htw]; rfl)
  obtain ⟨wk1, hw1, he1, hor⟩ := hcp.rw q w wk hw hnp
  have hnone : wk1.task = none := by
    rcases hor with hor | hor
    · exfalso
      rw [hwt] at hor
      obtain ⟨t1, ht1, htw1⟩ := hI1.core.p1 q w wk1 tid hw1 hor
      obtain ⟨t', a, _, prov⟩ := hcp.tt t ht
      rw [ht1] at a; cases a
      obtain ⟨wk0, h0, hp0⟩ := prov hr q w htw1
      rw [hw] at h0; cases h0
      rw [hnp] at hp0; cases hp0
    · exact hor
  rw [hw1, he1, hnone]

/-- changing only the retry counter of a task -/
theorem setRetry_inv {ex exo} {s : State} {tid : Nat} {t : Task} {n : Nat} (hI : InvX ex exo s)
    (ht : alookup tid s.tasks = some t) : InvX ex exo (s.setTask { t with retry := n }) := by
  have hid : t.id = tid := (hI.core.tid tid t ht).1
  have ht' : alookup ({ t with retry := n } : Task).id s.tasks = some t := by simp only []; rw [hid]; exact ht
  exact ⟨by rw [← hid] at ht; exact hI.core.setTask_same ht rfl, hI.oinv.setTask (t := { t with retry := n }) ht' rfl,
    hI.sinv, hI.linv.setTask (t := { t with retry := n }) ht' (Or.inl rfl)⟩

/-- flags of the synchronizing worker on entry of `getCurrentOrNextTask` -/
structure Ready' (wk : Worker) : Prop where
  parked : wk.parked = false
  woken : wk.woken = false
  drainWait : wk.drainWait = none
  inSync : wk.inSync = true

theorem getCurrentOrNext_spec {h : Hints} {s : State} {q : ScqId} {w : WId} {wk : Worker} {pi bl : Bool}
    (hI : Inv s) (hw : wfind s.workers q w = some wk) (hr : Ready' wk) :
    wp (getCurrentOrNext h s q w pi bl) (fun s' => SyncPost s s') := by
  unfold getCurrentOrNext
  simp only [worker?_def, hw]
  cases hwt : wk.task with
  | none =>
    dsimp only
    exact getNextTask_spec hI hw ⟨hr.parked, hr.woken, hwt, hr.drainWait, hr.inSync⟩
  | some tid =>
    dsimp only
    obtain ⟨t, ht, htw⟩ := hI.core.p1 q w wk tid hw hwt
    have hresp : t.response = none := hI.core.p3 tid t ht (by rw [htw]; rfl)
    simp only [task?_def, ht]
    by_cases hret : t.retry < s.cfg.retryCount
    · simp only [hret, if_true, wp_pure]
      have hI1 := setRetry_inv (n := t.retry + 1) hI ht
      have hid : t.id = tid := (hI.core.tid tid t ht).1
      have hfr1 : Fr s (s.setTask { t with retry := t.retry + 1 }) :=
        Fr.setTask (t := { t with retry := t.retry + 1 }) (t0 := t) (by simp only []; rw [hid]; exact ht) rfl
      have hI2 : Inv (emit (s.setTask { t with retry := t.retry + 1 })
          (.syncExecute q w t.digest ((s.setTask { t with retry := t.retry + 1 }).now +
            (s.setTask { t with retry := t.retry + 1 }).cfg.busyInterval))) :=
        ⟨hI1.core, hI1.oinv, hI1.sinv, hI1.linv.emit _ (fun _ => ⟨rfl, rfl⟩)⟩
      refine ⟨syncReturn_inv q w hI2, ?_, ?_⟩
      · exact (hfr1.toMono.trans (emit_mono _ _)).trans (syncReturn_fr _ q w).toMono
      · rw [syncReturn_events]
        refine Ext.cons (Ext.refl _ _) _ ?_
        refine ExecOK.syncReturn q w ⟨wk, tid, { t with retry := t.retry + 1 }, hw, hwt, ?_, rfl, hresp⟩
        simp only [emit, State.setTask]; rw [alookup_aset, if_pos hid]
    · simp only [hret, if_false]
      apply wp_bind
      refine wp_mono (complete_spec (h := h) (r := ⟨cInternal, 0, 0, .retryLimit⟩) (bw := false) hI
        (by rw [ht]; rfl)) ?_
      intro s1 ⟨hI1, hcp, _, _⟩
      have hw1 := complete_clears hI hI1 hcp hw hwt hr.parked
      refine wp_mono (getNextTask_spec (h := h) hI1 hw1 ⟨hr.parked, hr.woken, rfl, hr.drainWait, hr.inSync⟩) ?_
      intro s' hp
      exact SyncPost.trans_left hcp.fr.toMono hcp.fr.ev hp

theorem noLearn_syncErr (q w c) : NoLearn (.syncErr q w c) := fun _ => ⟨rfl, rfl⟩

/-- postcondition of `syncQueue`: invariant and frame, workers and tasks untouched (it changes the
registry, `.scq` cleanup entries and may emit a `syncErr` event) -/
def SQPost (s s1 : State) : Prop :=
  Inv s1 ∧ Fr s s1 ∧ s1.workers = s.workers ∧ s1.tasks = s.tasks



theorem syncQueue_spec {s : State} {q : ScqId} {comps : List Nat} {platform : Nat} {w : WId} (hI : Inv s) :
    wp (syncQueue s q comps platform w) (fun r => match r with
      | .inl s1 => SQPost s s1
      | .inr s1 => SQPost s s1) := by
  have hsame : ∀ s1 : State, s1.tasks = s.tasks → s1.workers = s.workers → s1.dedup = s.dedup →
      s1.nextTask = s.nextTask → s1.nextLearner = s.nextLearner → s1.ops = s.ops → s1.nextOp = s.nextOp →
      s1.streams = s.streams → s1.cleanup = s.cleanup → s1.events = s.events → s1.cfg = s.cfg →
      s1.assigned = s.assigned → SQPost s s1 := by
    intro s1 h1 h2 h3 h4 h5 h6 h7 h8 h9 h10 h11 h12
    exact ⟨hI.of_same h1 h2 h3 h4 h5 h6 h7 h8 h9 h10, Fr.of_same h11 h1 h4 h5 h7 h10 h12, h2, h1⟩
  have herr : ∀ c, SQPost s (emit s (.syncErr q w c)) := fun c =>
    ⟨emit_quiet_inv hI _ (noLearn_syncErr _ _ _), emit_fr _ _ trivial, rfl, rfl⟩
  unfold syncQueue
  split
  · exact ⟨removeCleanup_inv hI _, Fr.of_same rfl rfl rfl rfl rfl rfl rfl, rfl, rfl⟩
  · split
    · dsimp only
      split
      · okerr
      · split
        · okerr
        · split
          · exact herr _
          · split
            · exact herr _
            · split
              · exact herr _
              · exact hsame _ rfl rfl rfl rfl rfl rfl rfl rfl rfl rfl rfl rfl
    · exact hsame _ rfl rfl rfl rfl rfl rfl rfl rfl rfl rfl rfl rfl

/-- a brand-new worker -/
def freshW (q : ScqId) (w : WId) : Worker :=
  { scq := q, id := w, task := none, terminating := false, parked := false, woken := false, inSync := true,
    drainWait := none, timer := none }

theorem addWorker_inv {ex exo} {s : State} {q : ScqId} {w : WId} (hI : InvX ex exo s)
    (hn : wfind s.workers q w = none) : InvX ex exo { s with workers := s.workers ++ [freshW q w] } := by
  refine ⟨?_, hI.oinv, hI.sinv, hI.linv⟩
  refine hI.core.setWorkers (wnodup_append _ _ hI.core.wnd hn) (fun q' i wk h => ?_) (fun q' i wk j h _ => ?_)
  · rw [wfind_append] at h
    cases h0 : wfind s.workers q' i with
    | some x => rw [h0] at h; exact Or.inl h
    | none =>
      rw [h0] at h
      by_cases e : (freshW q w).scq = q' ∧ (freshW q w).id = i
      · rw [if_pos e] at h; cases h; exact Or.inr ⟨rfl, rfl, rfl, rfl⟩
      · rw [if_neg e] at h; cases h
  · rw [wfind_append, h]

theorem syncWorker_spec {s : State} {q : ScqId} {w : WId} (hI : Inv s) :
    match syncWorker s q w with
    | .inl s1 => Inv s1 ∧ Fr s s1
    | .inr s1 => Inv s1 ∧ Fr s s1 ∧ ∃ wk1, wfind s1.workers q w = some wk1 ∧ Ready' wk1 := by
  unfold syncWorker
  cases hw : s.worker? q w with
  | some wk =>
    dsimp only
    simp only [worker?_def] at hw
    have hk := wfind_key hw
    by_cases his : wk.inSync = true
    · rw [if_pos his]
      exact ⟨emit_quiet_inv hI _ (noLearn_syncErr _ _ _), emit_fr _ _ trivial⟩
    · rw [if_neg his]
      have hp : wk.parked = false := by
        cases hp : wk.parked with
        | false => rfl
        | true => exact absurd (hI.core.w1 q w wk hw hp).2.2.2 his
      have hwo : wk.woken = false := by
        cases hp : wk.woken with
        | false => rfl
        | true => exact absurd (hI.core.w2 q w wk hw hp).2 his
      have hd : wk.drainWait = none := by
        cases hd : wk.drainWait with
        | none => rfl
        | some g => exact absurd (hI.core.w3 q w wk hw (by rw [hd]; rfl)).2 his
      have hI1 := removeCleanup_inv hI (.worker q w)
      have hI2 := setFlags_inv (wk := wk) (wk' := { wk with inSync := true }) hI1
        (by rw [hk.1, hk.2]; exact hw) rfl rfl rfl hp hwo hd
      refine ⟨hI2, Fr.of_same rfl rfl rfl rfl rfl rfl rfl, { wk with inSync := true }, ?_, ⟨hp, hwo, hd, rfl⟩⟩
      simp only [setWorker_eq, State.removeCleanup]
      rw [wfind_wset]; simp [hk.1, hk.2, hw]
  | none =>
    dsimp only
    simp only [worker?_def] at hw
    refine ⟨addWorker_inv hI hw, Fr.of_same rfl rfl rfl rfl rfl rfl rfl, freshW q w, ?_, ⟨rfl, rfl, rfl, rfl⟩⟩
    rw [wfind_append, hw]; simp [freshW]

/-- `Synchronize` after the queue and the worker have been found or created -/
def syncBody (h : Hints) (s : State) (q : ScqId) (w : WId) (rep : Report) (preferIdle : Bool) : M State := do
  let some wk := s.worker? q w | throw "syncArrive: worker vanished"
  let runningCorrect (d : Nat) : Bool :=
    match wk.task with
    | some tid => match s.task? tid with | some t => t.digest = d | none => false
    | none => false
  match rep with
  | .malformed => return syncReturn (emit s (.syncErr q w cInvalidArgument)) q w
  | .idle => getCurrentOrNext h s q w preferIdle true
  | .executing d =>
    if runningCorrect d then return syncReturn (emit s (.syncNoChange q w (s.now + s.cfg.busyInterval))) q w
    else getCurrentOrNext h s q w preferIdle false
  | .completed d r =>
    if runningCorrect d then
      let some tid := wk.task | throw "syncArrive: no task"
      let s ← complete h s tid r true
      getNextTask h s q w preferIdle true
    else getCurrentOrNext h s q w preferIdle true

theorem syncArrive_eq (h : Hints) (s : State) (now : Nat) (q : ScqId) (comps : List Nat) (platform : Nat)
    (w : WId) (rep : Report) (pi : Bool) :
    syncArrive h s now q comps platform w rep pi =
      (enter h s now >>= fun s => syncQueue s q comps platform w >>= fun r =>
        match r with
        | .inl s => pure s
        | .inr s =>
          match syncWorker s q w with
          | .inl s => pure s
          | .inr s => syncBody h s q w rep pi) := rfl

theorem syncBody_spec {h : Hints} {s : State} {q : ScqId} {w : WId} {rep : Report} {pi : Bool} {wk : Worker}
    (hI : Inv s) (hw : wfind s.workers q w = some wk) (hr : Ready' wk) :
    wp (syncBody h s q w rep pi) (fun s' => SyncPost s s') := by
  unfold syncBody
  simp only [worker?_def, hw]
  cases rep with
  | malformed => exact syncReturn_quiet_post hI (.syncErr q w cInvalidArgument) trivial (noLearn_syncErr _ _ _) q w
  | idle => exact getCurrentOrNext_spec hI hw hr
  | executing d =>
    dsimp only
    cases hwt : wk.task with
    | none =>
      simp only [Bool.false_eq_true, if_false]
      exact getCurrentOrNext_spec hI hw hr
    | some tid =>
      dsimp only
      split
      · exact syncReturn_quiet_post hI (.syncNoChange q w _) trivial (fun _ => ⟨rfl, rfl⟩) q w
      · exact getCurrentOrNext_spec hI hw hr
  | completed d r =>
    dsimp only
    cases hwt : wk.task with
    | none =>
      simp only [Bool.false_eq_true, if_false]
      exact getCurrentOrNext_spec hI hw hr
    | some tid =>
      dsimp only
      split
      · obtain ⟨t, ht, _⟩ := hI.core.p1 q w wk tid hw hwt
        apply wp_bind
        refine wp_mono (complete_spec (h := h) (r := r) (bw := true) hI (by rw [ht]; rfl)) ?_
        intro s1 ⟨hI1, hcp, _, _⟩
        have hw1 := complete_clears hI hI1 hcp hw hwt hr.parked
        refine wp_mono (getNextTask_spec (h := h) hI1 hw1 ⟨hr.parked, hr.woken, rfl, hr.drainWait, hr.inSync⟩) ?_
        intro s' hp
        exact SyncPost.trans_left hcp.fr.toMono hcp.fr.ev hp
      · exact getCurrentOrNext_spec hI hw hr

theorem syncArrive_spec {h : Hints} {s : State} {now : Nat} {q : ScqId} {comps : List Nat} {platform : Nat}
    {w : WId} {rep : Report} {pi : Bool} (hI : Inv s) :
    wp (syncArrive h s now q comps platform w rep pi) (fun s' => SyncPost s s') := by
  rw [syncArrive_eq]
  apply wp_bind
  refine wp_mono (enter_spec hI) ?_
  intro s0 ⟨hI0, hfr0⟩
  apply wp_bind
  refine wp_mono (syncQueue_spec hI0) ?_
  intro r hr
  cases r with
  | inl s1 =>
    obtain ⟨hI1, hfr1, _, _⟩ := hr
    exact SyncPost.of_quiet hI1 (hfr0.trans hfr1)
  | inr s1 =>
    obtain ⟨hI1, hfr1, _, _⟩ := hr
    dsimp only
    have hsw := syncWorker_spec (q := q) (w := w) hI1
    cases hsw' : syncWorker s1 q w with
    | inl s2 =>
      rw [hsw'] at hsw
      exact SyncPost.of_quiet hsw.1 ((hfr0.trans hfr1).trans hsw.2)
    | inr s2 =>
      rw [hsw'] at hsw
      obtain ⟨hI2, hfr2, wk2, hw2, hr2⟩ := hsw
      dsimp only
      refine wp_mono (syncBody_spec hI2 hw2 hr2) ?_
      intro s' hp
      have hfr := (hfr0.trans hfr1).trans hfr2
      exact SyncPost.trans_left hfr.toMono hfr.ev hp

/-- `syncWake` after `bq.enter` -/
def wakeBody (h : Hints) (s : State) (q : ScqId) (w : WId) (reason : Nat) : M State := do
  let some wk := s.worker? q w | throw "mismatch: no such worker"
  if !wk.inSync then throw "mismatch: worker is not inside Synchronize"
  match reason with
  | 1 =>
    let s := s.setWorker { wk with parked := false, woken := false, drainWait := none }
    if wk.task.isSome then return syncReturn (← execResponse s wk) q w
    return syncReturn (emit s (.syncIdle q w s.now)) q w
  | 2 =>
    let s := s.setWorker { wk with parked := false, woken := false, drainWait := none }
    return syncReturn (emit s (.syncErr q w cCanceled)) q w
  | 0 =>
    if !wk.woken then throw "mismatch: worker woke up although its wakeup channel is open"
    let s := s.setWorker { wk with woken := false }
    if wk.task.isSome then return syncReturn (← execResponse s wk) q w
    getNextTask h s q w false true
  | 3 =>
    let some sq := s.scq? q | throw "syncWake: no queue"
    match wk.drainWait with
    | some g =>
      if g = sq.undrainGen then throw "mismatch: worker woke up without an undrain"
      let s := s.setWorker { wk with drainWait := none }
      getNextTask h s q w false true
    | none => throw "mismatch: worker is not waiting for an undrain"
  | _ => throw "bad-op"

theorem syncWake_eq (h : Hints) (s : State) (now : Nat) (q : ScqId) (w : WId) (reason : Nat) :
    syncWake h s now q w reason = (enter h s now >>= fun s => wakeBody h s q w reason) := rfl

theorem wfind_setWorker_self {s : State} {q : ScqId} {w : WId} {wk wk' : Worker}
    (hw : wfind s.workers q w = some wk) (h1 : wk'.scq = wk.scq) (h2 : wk'.id = wk.id) :
    wfind (s.setWorker wk').workers q w = some wk' := by
  have hk := wfind_key hw
  simp only [setWorker_eq]
  rw [wfind_wset, if_pos ⟨h1.trans hk.1, h2.trans hk.2⟩, hw]; rfl

theorem wakeBody_spec {h : Hints} {s : State} {q : ScqId} {w : WId} {reason : Nat} (hI : Inv s) :
    wp (wakeBody h s q w reason) (fun s' => SyncPost s s') := by
  unfold wakeBody
  cases hw : s.worker? q w with
  | none => okerr
  | some wk =>
    dsimp only
    simp only [worker?_def] at hw
    have hk := wfind_key hw
    have hw' : wfind s.workers wk.scq wk.id = some wk := by rw [hk.1, hk.2]; exact hw
    by_cases his : wk.inSync = true
    · have hng : ¬ ((!wk.inSync) = true) := by simp [his]
      rw [if_neg hng]
      -- the timeout / cancel update
      have hI12 := setFlags_inv (wk := wk) (wk' := { wk with parked := false, woken := false, drainWait := none })
        hI hw' rfl rfl rfl rfl rfl rfl
      have hw12 := wfind_setWorker_self (wk' := { wk with parked := false, woken := false, drainWait := none })
        hw rfl rfl
      split
      · -- timeout
        by_cases hts : wk.task.isSome = true
        · rw [if_pos hts]
          obtain ⟨tid, hwt⟩ := Option.isSome_iff_exists.mp hts
          refine wp_mono (execReturn_spec hI12 hw12 hwt hwt hk.1 hk.2) ?_
          intro s' hp
          exact SyncPost.trans_left (setWorker_fr _ _).toMono (setWorker_fr _ _).ev hp
        · rw [if_neg hts, wp_pure]
          exact SyncPost.trans_left (setWorker_fr _ _).toMono (setWorker_fr _ _).ev
            (syncReturn_quiet_post hI12 (.syncIdle q w _) trivial (fun _ => ⟨rfl, rfl⟩) q w)
      · -- cancelled
        rw [wp_pure]
        exact SyncPost.trans_left (setWorker_fr _ _).toMono (setWorker_fr _ _).ev
          (syncReturn_quiet_post hI12 (.syncErr q w cCanceled) trivial (noLearn_syncErr _ _ _) q w)
      · -- wake-up channel closed
        by_cases hwo : wk.woken = true
        · have hng2 : ¬ ((!wk.woken) = true) := by simp [hwo]
          rw [if_neg hng2]
          have hp : wk.parked = false := by
            cases hp : wk.parked with
            | false => rfl
            | true => have := (hI.core.w1 q w wk hw hp).2.2.1; rw [hwo] at this; cases this
          have hd : wk.drainWait = none := (hI.core.w2 q w wk hw hwo).1
          have hI0 := setFlags_inv (wk := wk) (wk' := { wk with woken := false }) hI hw' rfl rfl rfl hp rfl hd
          have hw0 := wfind_setWorker_self (wk' := { wk with woken := false }) hw rfl rfl
          by_cases hts : wk.task.isSome = true
          · rw [if_pos hts]
            obtain ⟨tid, hwt⟩ := Option.isSome_iff_exists.mp hts
            refine wp_mono (execReturn_spec hI0 hw0 hwt hwt hk.1 hk.2) ?_
            intro s' hp
            exact SyncPost.trans_left (setWorker_fr _ _).toMono (setWorker_fr _ _).ev hp
          · rw [if_neg hts]
            have hwt : wk.task = none := by simpa using hts
            refine wp_mono (getNextTask_spec (h := h) hI0 hw0 ⟨hp, rfl, hwt, hd, his⟩) ?_
            intro s' hp
            exact SyncPost.trans_left (setWorker_fr _ _).toMono (setWorker_fr _ _).ev hp
        · have hng2 : ((!wk.woken) = true) := by simpa using hwo
          rw [if_pos hng2]; okerr
      · -- undrain
        split
        · rename_i sq _
          cases hdw : wk.drainWait with
          | none => dsimp only; okerr
          | some g =>
            dsimp only
            by_cases hg : g = sq.undrainGen
            · rw [if_pos hg]; okerr
            · rw [if_neg hg]
              have h3 := hI.core.w3 q w wk hw (by rw [hdw]; rfl)
              have hp : wk.parked = false := by
                cases hp : wk.parked with
                | false => rfl
                | true => have := (hI.core.w1 q w wk hw hp).2.1; rw [hdw] at this; cases this
              have hwo : wk.woken = false := by
                cases hp : wk.woken with
                | false => rfl
                | true => have := (hI.core.w2 q w wk hw hp).1; rw [hdw] at this; cases this
              have hI3 := setFlags_inv (wk := wk) (wk' := { wk with drainWait := none }) hI hw' rfl rfl rfl hp hwo rfl
              have hw3 := wfind_setWorker_self (wk' := { wk with drainWait := none }) hw rfl rfl
              refine wp_mono (getNextTask_spec (h := h) hI3 hw3 ⟨hp, hwo, h3.1, rfl, his⟩) ?_
              intro s' hp
              exact SyncPost.trans_left (setWorker_fr _ _).toMono (setWorker_fr _ _).ev hp
        · okerr
      · okerr
    · have hng : ((!wk.inSync) = true) := by simpa using his
      rw [if_pos hng]; okerr

theorem syncWake_spec {h : Hints} {s : State} {now : Nat} {q : ScqId} {w : WId} {reason : Nat} (hI : Inv s) :
    wp (syncWake h s now q w reason) (fun s' => SyncPost s s') := by
  rw [syncWake_eq]
  apply wp_bind
  refine wp_mono (enter_spec hI) ?_
  intro s0 ⟨hI0, hfr0⟩
  refine wp_mono (wakeBody_spec hI0) ?_
  intro s' hp
  exact SyncPost.trans_left hfr0.toMono hfr0.ev hp

end BbRe.Lemmas.SchedInv
