import BbRe.Lemmas.SchedTreePrioFixUpd
import BbRe.Lemmas.SchedTreeRead
import BbRe.Lemmas.SchedTreeLock
/-!
The invariants of the cached priorities (`PrioOK`, which also holds for the code before the fix, and `FixInv`)
at the level of the tree layer's functions (`tAssignTo` … `tEnter`).  The walk through the functions is the same
for both, so it is done once, for any `I` that the tree-only updates keep (`CacheInv`).  `setOX` / `dropOX` need
something from the tree invariant: the operation whose table entry changes is in no `queuedOperations` (a fresh
name is not, because queued operations are operations of tasks, hence below `nextOp`; a removed operation is not,
because it is no operation of a task any more).  `task.schedule` needs the invocations of the task's operations
to exist: at every call they were created just before.
-/
namespace BbRe.Lemmas.SchedTree
open BbRe.Sched BbRe.SchedTree BbRe.Lemmas.SchedInv

/-! ### what the tree invariant says about `queuedOperations` -/

theorem queued_of_mem_qops {ex exo X} {ts : TState} (hT : TInvX ex exo X ts) {n : Node} (hn : n ∈ ts.nodes) {o : Nat}
    (ho : o ∈ n.qops) : ∃ k t, alookup k ts.s.tasks = some t ∧ t.queued = true ∧ o ∈ t.ops := by
  have h1 := ((hT.tree.qo n hn).2 o).mp ho
  obtain ⟨k, t, hk, hq, _, hm, _⟩ := (mem_bagQ_iff hT.inv.core.tnd _).mp h1
  exact ⟨k, t, hk, hq, hm⟩

/-- queued operations are operations of tasks: their names were issued already -/
theorem qb_of_tinvx {ex exo X} {ts : TState} (hT : TInvX ex exo X ts) : QB ts.s.nextOp ts := by
  intro n hn o ho
  obtain ⟨k, t, hk, _, hm⟩ := queued_of_mem_qops hT hn ho
  exact hT.inv.oinv.bound k t o hk hm

theorem qb_of_tinv {ts : TState} (hI : TInv ts) : QB ts.s.nextOp ts := qb_of_tinvx hI.x

/-- an operation that is not in the operation table is not queued -/
theorem notin_of_noop {ts : TState} (hI : TInv ts) {o : Nat} (hno : ts.s.op? o = none) : ∀ n ∈ ts.nodes, o ∉ n.qops := by
  intro n hn ho
  obtain ⟨k, t, hk, _, hm⟩ := queued_of_mem_qops hI.x hn ho
  rcases (hI.inv.oinv.o2 k t o hk hm).2 with a | ⟨op, a, _⟩
  · exact a
  · rw [op?_def] at hno; rw [hno] at a; cases a

/-! ### `nextOp` -/

@[simp] theorem emit_nextOp (s : State) (e : Event) : (emit s e).nextOp = s.nextOp := rfl
@[simp] theorem setTask_nextOp (s : State) (t : Task) : (s.setTask t).nextOp = s.nextOp := rfl
@[simp] theorem setOp_nextOp (s : State) (o : Op) : (s.setOp o).nextOp = s.nextOp := rfl
@[simp] theorem setWorker_nextOp (s : State) (w : Worker) : (s.setWorker w).nextOp = s.nextOp := rfl
@[simp] theorem addCleanup_nextOp (s : State) (d : Nat) (k : CleanupKind) : (s.addCleanup d k).nextOp = s.nextOp := rfl

@[simp] theorem maybeStartCleanup_nextOp (s : State) (o : Nat) : (maybeStartCleanup s o).nextOp = s.nextOp := by
  unfold maybeStartCleanup; split
  · split <;> rfl
  · rfl

@[simp] theorem detachW_nextOp (s : State) (t : Task) : (BbRe.SchedTree.detachW s t).nextOp = s.nextOp := by
  unfold BbRe.SchedTree.detachW; split
  · split <;> rfl
  · rfl

theorem finishOps_nextOp (ops : List Nat) : ∀ s : State, (complete.finishOps s ops).nextOp = s.nextOp := by
  induction ops with
  | nil => intro s; rfl
  | cons o l ih =>
    intro s
    show (complete.finishOps _ l).nextOp = _
    rw [ih]
    show (match s.op? o with
      | some op => if op.mayExistWithoutWaiters = true then
          maybeStartCleanup (s.setOp { op with mayExistWithoutWaiters := false }) o else s
      | none => s).nextOp = s.nextOp
    split
    · split
      · simp
      · rfl
    · rfl

theorem finalize_nextOp {s s' : State} {t : Task} {r : Resp} (h : complete.finalize s t r = .ok s') :
    s'.nextOp = s.nextOp := by
  unfold complete.finalize at h
  simp only [pure, Except.pure] at h
  cases h
  rw [finishOps_nextOp]
  simp only [setTask_nextOp]
  split <;> rfl

theorem invOf_setOX (ts : TState) (o : Nat) (y : OX) : (ts.setOX o y).invOf o = y.inv := by
  show (match alookup o (aset o y ts.ox) with | some x => x.inv | none => []) = y.inv
  rw [alookup_aset, if_pos rfl]

theorem createOps_pathEx (ts : TState) (t : Task) : ∀ o ∈ t.ops, PathEx (ts.createOps t).nodes t.scq (ts.invOf o) := by
  show ∀ o ∈ t.ops, PathEx (t.ops.foldl (fun ns o => getOrCreate ns t.scq (ts.invOf o) ts.s.now) ts.nodes) t.scq (ts.invOf o)
  generalize ts.nodes = ns
  induction t.ops generalizing ns with
  | nil => intro o ho; cases ho
  | cons a r ih =>
    intro o ho
    rw [List.foldl_cons]
    rcases List.mem_cons.mp ho with e | e
    · subst e
      have h0 := getOrCreate_pathEx ns t.scq (ts.invOf o) ts.s.now
      generalize getOrCreate ns t.scq (ts.invOf o) ts.s.now = ns1 at h0
      clear ih ho
      induction r generalizing ns1 with
      | nil => exact h0
      | cons b r' ih' => rw [List.foldl_cons]; exact ih' _ (h0.getOrCreate _ _ _)
    · exact ih _ o e

/-! ### invariants that the tree-only updates keep -/

/-- `I` is kept by the tree-only updates of `TState` that the tree layer's functions apply, under the side
conditions `FixInv` needs. -/
structure CacheInv (I : TState → Prop) : Prop where
  setS {ts} (s : State) : I ts → I (ts.setS s)
  setTX {ts} (t : Nat) (y : TX) : I ts → I (ts.setTX t y)
  dropTX {ts} (t : Nat) : I ts → I (ts.dropTX t)
  dropLimits {ts} (pq : Nat) : I ts → I (ts.dropLimits pq)
  parkTree {ts} (q : ScqId) (w : WId) : I ts → I (ts.parkTree q w)
  createOps {ts} (t : Task) : I ts → I (ts.createOps t)
  create {ts} (q : ScqId) (p : List Nat) : I ts → I (ts.create q p)
  assignTree {ts} (w : Worker) (t : Task) (r : Nat) : I ts → I (ts.assignTree w t r)
  dropScqTree {ts} (q : ScqId) : I ts → I (ts.dropScqTree q)
  dropWorkerTree {ts} (q : ScqId) (w : WId) : I ts → I (ts.dropWorkerTree q w)
  addWorkerTree {ts} (q : ScqId) (w : WId) : I ts → I (ts.addWorkerTree q w)
  maybeDequeue {ts} (wk : Worker) : I ts → I (ts.maybeDequeue wk)
  tWake {ts} (w : Worker) : I ts → I (tWake ts w)
  deqOps {ts} (t : Task) : I ts → I (ts.deqOps t)
  detachTree {ts} (t : Task) (bw : Bool) : I ts → I (ts.detachTree t bw)
  removeOpTree {ts} (t : Task) (o : Nat) : I ts → I (ts.removeOpTree t o)
  tTerminateOne {ts} (w : Worker) : I ts → I (tTerminateOne ts w)
  /-- a logged pick must have seen exact caches if the caches are exact now -/
  log {ts} {d : Decision} : I ts → (FixInv ts → DecFix d) → I (ts.log d)
  enqOps {ts} (t : Task) : I ts → (∀ o ∈ t.ops, PathEx ts.nodes t.scq (ts.invOf o)) → I (ts.enqOps t)
  addScqTree {ts} (q : ScqId) : I ts → (∀ n ∈ ts.nodes, n.scq ≠ q) → I (ts.addScqTree q)
  tRegisterPQ {ts} (x : Extras) (id : Nat) (comps : List Nat) (platform : Nat) (sizes : List Nat) (bgMax : Nat)
    (bgPrio : Int) : I ts → sizes.Nodup → (∀ n ∈ ts.nodes, n.scq.pq ≠ id) →
    I (tRegisterPQ x ts id comps platform sizes bgMax bgPrio)
  setOX {ts} {o : Nat} (y : OX) : I ts → (∀ n ∈ ts.nodes, o ∉ n.qops) → I (ts.setOX o y)
  dropOX {ts} {o : Nat} : I ts → (∀ n ∈ ts.nodes, o ∉ n.qops) → I (ts.dropOX o)
  withIncExec {ts} (q : ScqId) (p : List Nat) (w : WKey) (now : Nat) : I ts →
    I { ts with nodes := incExecR ts.legacyPrio ts.prioOf ts.nodes q p w now }
  withEnqueue {ts} (q : ScqId) (p : List Nat) (o : Nat) : I ts → PathEx ts.nodes q p →
    I { ts with nodes := enqueueOp ts.prioOf ts.nodes q p o }

theorem prioCache : CacheInv PrioOK where
  setS := PrioOK.setS
  setTX := PrioOK.setTX
  dropTX := PrioOK.dropTX
  dropLimits := PrioOK.dropLimits
  parkTree := PrioOK.parkTree
  createOps := PrioOK.createOps
  create := PrioOK.create
  assignTree := PrioOK.assignTree
  dropScqTree := PrioOK.dropScqTree
  dropWorkerTree := PrioOK.dropWorkerTree
  addWorkerTree := PrioOK.addWorkerTree
  maybeDequeue := PrioOK.maybeDequeue
  tWake := PrioOK.tWake
  deqOps := PrioOK.deqOps
  detachTree := PrioOK.detachTree
  removeOpTree := PrioOK.removeOpTree
  tTerminateOne := PrioOK.tTerminateOne
  log h _ := h.log _
  enqOps t h _ := h.enqOps t
  addScqTree q h _ := h.addScqTree q
  tRegisterPQ x id comps platform sizes bgMax bgPrio h _ _ := h.tRegisterPQ x id comps platform sizes bgMax bgPrio
  setOX y h ho := h.setOX y ho
  dropOX h ho := h.dropOX ho
  withIncExec q p w now h := NAll.incExecR (P := NodeOK _) h (nodeOK_qp _) (nodeOK_rp _) _ q p w now
  withEnqueue q p o h _ := enqueueOp_prio (pr := _) h q p o

theorem fixCache : CacheInv FixInv where
  setS := FixInv.setS
  setTX := FixInv.setTX
  dropTX := FixInv.dropTX
  dropLimits := FixInv.dropLimits
  parkTree := FixInv.parkTree
  createOps := FixInv.createOps
  create := FixInv.create
  assignTree := FixInv.assignTree
  dropScqTree := FixInv.dropScqTree
  dropWorkerTree := FixInv.dropWorkerTree
  addWorkerTree := FixInv.addWorkerTree
  maybeDequeue := FixInv.maybeDequeue
  tWake := FixInv.tWake
  deqOps := FixInv.deqOps
  detachTree := FixInv.detachTree
  removeOpTree := FixInv.removeOpTree
  tTerminateOne := FixInv.tTerminateOne
  log h hd := h.log (hd h)
  enqOps t h hex := h.enqOps t hex
  addScqTree q h hf := h.addScqTree q hf
  tRegisterPQ x id comps platform sizes bgMax bgPrio h hnd hf := h.tRegisterPQ x id comps platform sizes bgMax bgPrio hnd hf
  setOX y h ho := h.setOX y ho
  dropOX h ho := h.dropOX ho
  withIncExec q p w now h := h.withIncExec q p w now
  withEnqueue q p o h hex := h.withEnqueue q p o hex

variable {I : TState → Prop} (hC : CacheInv I)
include hC

/-! ### `assignUnqueuedTask`, `schedule`, `complete` -/

theorem tAssignTo_kept {ts ts' : TState} {w : Worker} {t : Task} {r : Nat} (hp : I ts)
    (hh : tAssignTo ts w t r = .ok ts') : I ts' := by
  unfold tAssignTo at hh
  tpaths hh
  cases hh
  exact hC.setS _ (hC.assignTree _ _ _ hp)

omit hC in
theorem tAssignTo_prio {ts ts' : TState} {w : Worker} {t : Task} {r : Nat} (h : PrioOK ts)
    (hh : tAssignTo ts w t r = .ok ts') : PrioOK ts' :=
  tAssignTo_kept prioCache h hh

omit hC in
theorem tAssignTo_fix {ts ts' : TState} {w : Worker} {t : Task} {r : Nat} (hp : FixInv ts)
    (hh : tAssignTo ts w t r = .ok ts') : FixInv ts' :=
  tAssignTo_kept fixCache hp hh

theorem tSchedule_kept {h : Hints} {ts ts' : TState} {tid : Nat} (hp : I ts)
    (hex : ∀ t, ts.s.task? tid = some t → ∀ o ∈ t.ops, PathEx ts.nodes t.scq (ts.invOf o))
    (hh : tSchedule h ts tid = .ok ts') : I ts' := by
  obtain ⟨t, ht, ⟨w, w2, _, _, _, ha⟩ | rfl⟩ := tSchedule_shape hh
  · exact tAssignTo_kept hC (hC.tWake _ (hC.log (d := .handoff _ _ _ _ _) hp fun _ => trivial)) ha
  · exact hC.setS _ (hC.enqOps _ hp (hex _ ht))

omit hC in
theorem tSchedule_prio {h : Hints} {ts ts' : TState} {tid : Nat} (hp : PrioOK ts)
    (hh : tSchedule h ts tid = .ok ts') : PrioOK ts' := by
  obtain ⟨t, _, ⟨w, w2, _, _, _, ha⟩ | rfl⟩ := tSchedule_shape hh
  · exact tAssignTo_prio ((hp.log _).tWake _) ha
  · exact (hp.enqOps _).setS _

omit hC in
theorem tSchedule_fix {h : Hints} {ts ts' : TState} {tid : Nat} (hp : FixInv ts)
    (hex : ∀ t, ts.s.task? tid = some t → ∀ o ∈ t.ops, PathEx ts.nodes t.scq (ts.invOf o))
    (hh : tSchedule h ts tid = .ok ts') : FixInv ts' :=
  tSchedule_kept fixCache hp hex hh

theorem tCompleteSucc_kept {h : Hints} {x : Extras} {ts ts' : TState} {t : Task} {l : Nat} {r : Resp}
    (hp : I ts) (hq : QB ts.s.nextOp ts) (hh : tCompleteSucc h x ts t l r = .ok ts') : I ts' := by
  obtain ⟨s1, hf, ⟨_, rfl⟩ | ⟨bgIdx, pq, _, _, ⟨_, rfl⟩ | ⟨bsc, _, _, ⟨_, rfl⟩ | hh⟩⟩⟩ := tCompleteSucc_shape hh
  · exact hC.setS _ hp
  · exact hC.setS _ hp
  · exact hC.setS _ (hC.create _ _ hp)
  · have e := finalize_nextOp hf
    simp only [emit_nextOp] at e
    refine tSchedule_kept hC ?_ ?_ hh
    · refine hC.setS _ (hC.setTX _ _ (hC.setOX _ (hC.create _ _ hp) ?_))
      show ∀ n ∈ (ts.create _ _).nodes, _ ∉ n.qops
      rw [e]
      exact (hq.create _ _).notin
    · intro t' ht' o ho
      simp only [setS_s, task?_def, State.setOp, State.setTask, alookup_aset, if_true, Option.some.injEq] at ht'
      subst ht'
      simp only [List.mem_singleton] at ho
      subst ho
      show PathEx (ts.create _ _).nodes _ (TState.invOf (TState.setOX _ _ _) _)
      rw [invOf_setOX]
      exact getOrCreate_pathEx _ _ _ _

theorem tCompleteRetry_kept {h : Hints} {x : Extras} {ts ts' : TState} {t : Task} {l : Nat} {r : Resp}
    (hp : I ts) (hh : tCompleteRetry h x ts t l r = .ok ts') : I ts' := by
  unfold tCompleteRetry at hh
  tpaths hh
  rename_i v hs _ t1 ht1
  cases hh
  refine hC.setS _ (tSchedule_kept hC (hC.createOps _ (hC.setS _ (hC.setTX _ _ hp))) ?_ hs)
  intro t' ht' o ho
  simp only [createOps_s, setS_s, task?_def, State.setTask, alookup_aset, if_true, Option.some.injEq] at ht'
  subst ht'
  exact createOps_pathEx _ _ o ho

theorem tComplete_kept {h : Hints} {x : Extras} {ts ts' : TState} {tid : Nat} {r : Resp} {bw : Bool}
    (hp : I ts) (hq : QB ts.s.nextOp ts) (hh : tComplete h x ts tid r bw = .ok ts') : I ts' := by
  unfold tComplete at hh
  simp only [bind, Except.bind, pure, Except.pure] at hh
  split at hh
  · rename_i t _
    split at hh
    · cases hh; exact hp
    split at hh
    · have hd := hC.setS (BbRe.SchedTree.detachW ts.s t) (hC.detachTree t bw hp)
      split at hh
      · refine tCompleteSucc_kept hC hd ?_ hh
        show QB (BbRe.SchedTree.detachW ts.s _).nextOp _
        rw [detachW_nextOp]
        exact (hq.detachTree _ _).setS _
      split at hh
      · split at hh
        · exact tCompleteRetry_kept hC hd hh
        · split at hh
          · cases hh
          · cases hh; exact hC.setS _ hd
      · split at hh
        · cases hh
        · cases hh; exact hC.setS _ hd
    · cases hh
  · cases hh

omit hC in
theorem tComplete_prio {h : Hints} {x : Extras} {ts ts' : TState} {tid : Nat} {r : Resp} {bw : Bool}
    (hp : PrioOK ts) (hq : QB ts.s.nextOp ts) (hh : tComplete h x ts tid r bw = .ok ts') : PrioOK ts' :=
  tComplete_kept prioCache hp hq hh

omit hC in
theorem tComplete_fix {h : Hints} {x : Extras} {ts ts' : TState} {tid : Nat} {r : Resp} {bw : Bool}
    (hp : FixInv ts) (hq : QB ts.s.nextOp ts) (hh : tComplete h x ts tid r bw = .ok ts') : FixInv ts' :=
  tComplete_kept fixCache hp hq hh

/-! ### `operation.remove` -/

theorem tRemoveOpRest_kept {exo} {h : Hints} {x : Extras} {ts0 ts' : TState} {op : Op} {o : Nat}
    (hT0 : TInvX (fun _ => False) exo [] ts0) (hoid : OID ts0.s) (hno : ts0.s.op? o = none) (hI' : TInv ts')
    (hp : I ts0) (hh : tRemoveOpRest h x ts0 op o = .ok ts') : I ts' := by
  unfold tRemoveOpRest at hh
  simp only [bind, Except.bind, pure, Except.pure] at hh
  split at hh
  · split at hh
    · -- the last operation: the task is completed first, which leaves the operation table alone
      split at hh
      · cases hh
      rename_i v hc
      have hpv := tComplete_kept hC hp (qb_of_tinvx hT0) hc
      have hnv : v.s.op? o = none :=
        ((tComplete_tinv hT0 hoid hc).2.2 (by simp [cCanceled, cOK]) (Or.inl rfl)).ops o hno
      split at hh
      · split at hh
        · cases hh; exact hC.setS _ (hC.dropTX _ (hC.dropOX hpv (notin_of_noop hI' hnv)))
        · cases hh; exact hC.setS _ (hC.dropOX hpv (notin_of_noop hI' hnv))
      · cases hh
    · rename_i t _ _
      have hpv := hC.removeOpTree t o hp
      have hnv : (ts0.removeOpTree t o).s.op? o = none := by rw [removeOpTree_s]; exact hno
      split at hh
      · split at hh
        · cases hh; exact hC.setS _ (hC.dropTX _ (hC.dropOX hpv (notin_of_noop hI' hnv)))
        · cases hh; exact hC.setS _ (hC.dropOX hpv (notin_of_noop hI' hnv))
      · cases hh
  · cases hh

theorem tRemoveOp_kept {h : Hints} {x : Extras} {ts ts' : TState} {o : Nat} (hI : TInv ts) (hI' : TInv ts')
    (hp : I ts) (hh : tRemoveOp h x ts o = .ok ts') : I ts' := by
  rw [tRemoveOp_eq] at hh
  split at hh
  · rename_i op hop
    rw [op?_def] at hop
    have hnd := hI.inv.oinv.ond
    refine tRemoveOpRest_kept hC (exo := fun _ => False)
      (hI.x.frame (eraseOp_sframe ts.s o hnd) rfl rfl) ?_ ?_ hI' (hC.setS _ hp) hh
    · intro k op' hk
      have hk' : alookup k (aerase o ts.s.ops) = some op' := hk
      rw [alookup_aerase _ _ _ hnd] at hk'
      split at hk'
      · cases hk'
      · exact (hI.inv.oinv.oid k op' hk').1
    · show alookup o (aerase o ts.s.ops) = none
      exact alookup_aerase_self o ts.s.ops hnd
  · cases hh; exact hp

/-! ### `cancelAllQueuedOperations`, `sizeClassQueue.remove`, `removeStaleWorker` -/

theorem foldl_complete_kept {exo} {h : Hints} {x : Extras} {r : Resp} (ids : List Nat) :
    ∀ {ts ts' : TState}, TInvX (fun _ => False) exo [] ts → OID ts.s → I ts →
      ids.foldlM (fun ts t => tComplete h x ts t r false) ts = .ok ts' → I ts' := by
  induction ids with
  | nil => intro ts ts' _ _ hp hh; cases hh; exact hp
  | cons a rest ih =>
    intro ts ts' hT ho hp hh
    rw [List.foldlM_cons] at hh
    simp only [bind, Except.bind] at hh
    split at hh
    · cases hh
    rename_i ts1 h1
    obtain ⟨hT1, ho1, _⟩ := tComplete_tinv hT ho h1
    exact ih hT1 ho1 (tComplete_kept hC hp (qb_of_tinvx hT) h1) hh

theorem tCancelAllQueued_kept {h : Hints} {x : Extras} {ts ts' : TState} {q : ScqId} {r : Resp} (hI : TInv ts)
    (hp : I ts) (hh : tCancelAllQueued h x ts q r = .ok ts') : I ts' := by
  unfold tCancelAllQueued at hh
  exact foldl_complete_kept hC _ hI.x (OID.of_inv hI.inv) hp hh

omit hC in
theorem tCancelAllQueued_prio {h : Hints} {x : Extras} {ts ts' : TState} {q : ScqId} {r : Resp} (hI : TInv ts)
    (hp : PrioOK ts) (hh : tCancelAllQueued h x ts q r = .ok ts') : PrioOK ts' :=
  tCancelAllQueued_kept prioCache hI hp hh

omit hC in
theorem tCancelAllQueued_fix {h : Hints} {x : Extras} {ts ts' : TState} {q : ScqId} {r : Resp} (hI : TInv ts)
    (hp : FixInv ts) (hh : tCancelAllQueued h x ts q r = .ok ts') : FixInv ts' :=
  tCancelAllQueued_kept fixCache hI hp hh

theorem tRemoveScq_kept {h : Hints} {x : Extras} {ts ts' : TState} {q : ScqId} (hI : TInv ts) (hp : I ts)
    (hh : tRemoveScq h x ts q = .ok ts') : I ts' := by
  unfold tRemoveScq at hh
  simp only [bind, Except.bind, pure, Except.pure] at hh
  split at hh
  · cases hh
  rename_i ts1 hc
  have h1 := hC.dropScqTree q (tCancelAllQueued_kept hC hI hp hc)
  split at hh
  · cases hh
  split at hh
  · cases hh; exact hC.setS _ h1
  · cases hh; exact hC.setS _ (hC.dropLimits _ h1)

theorem tStaleTail_kept {ts ts' : TState} {q : ScqId} {w : WId} {rt : Nat} (hp : I ts)
    (hh : tStaleTail ts q w rt = .ok ts') : I ts' := by
  have hd := hC.setS { ts.s with workers := ts.s.workers.filter (fun y => ¬ (y.scq = q ∧ y.id = w)) }
    (hC.dropWorkerTree q w hp)
  unfold tStaleTail at hh
  simp only [pure, Except.pure] at hh
  split at hh
  · split at hh
    · cases hh; exact hC.setS _ hd
    · cases hh; exact hd
  · cases hh; exact hd

theorem tRemoveStaleWorker_kept {h : Hints} {x : Extras} {ts ts' : TState} {q : ScqId} {w : WId} {rt : Nat}
    (hI : TInv ts) (hp : I ts) (hh : tRemoveStaleWorker h x ts q w rt = .ok ts') : I ts' := by
  unfold tRemoveStaleWorker at hh
  simp only [bind, Except.bind, pure, Except.pure] at hh
  split at hh
  · split at hh
    · cases hh
    split at hh
    · split at hh
      · cases hh
      rename_i ts1 hc
      exact tStaleTail_kept hC (tComplete_kept hC hp (qb_of_tinv hI) hc) hh
    · exact tStaleTail_kept hC hp hh
  · cases hh; exact hp

/-! ### `bq.enter` -/

theorem tEnter_kept {h : Hints} {x : Extras} {ts ts' : TState} {now : Nat} (hI : TInv ts) (hp : I ts)
    (hh : tEnter h x ts now = .ok ts') : I ts' :=
  (tEnter_keeps (fun _ s hp => hC.setS s hp) (tRemoveStaleWorker_kept hC) (tRemoveOp_kept hC) (tRemoveScq_kept hC)
    hI hp hh).2

omit hC in
theorem tEnter_prio {h : Hints} {x : Extras} {ts ts' : TState} {now : Nat} (hI : TInv ts) (hp : PrioOK ts)
    (hh : tEnter h x ts now = .ok ts') : PrioOK ts' :=
  tEnter_kept prioCache hI hp hh

omit hC in
theorem tEnter_fix {h : Hints} {x : Extras} {ts ts' : TState} {now : Nat} (hI : TInv ts) (hp : FixInv ts)
    (hh : tEnter h x ts now = .ok ts') : FixInv ts' :=
  tEnter_kept fixCache hI hp hh

end BbRe.Lemmas.SchedTree
