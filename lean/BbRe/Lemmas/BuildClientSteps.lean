import BbRe.Lemmas.BuildClient
/-!
Preservation of `Inv` (Lemmas/BuildClient.lean) by the building blocks of the
handlers of `Model/BuildClient.lean`.
-/
namespace BbRe.Lemmas.BuildClient
open BbRe.BuildClient

theorem sac_append {l : List Obs} (h : SentAfterCancel l) (o : Obs)
    (ho : ∀ r sn, o = .sent r sn → Obs.cancel ∈ l → r.preferIdle = true) :
    SentAfterCancel (l ++ [o]) := by
  intro l1 l2 heq r sn hm
  rcases List.eq_nil_or_concat l2 with rfl | ⟨l2', b, rfl⟩
  · cases hm
  · rw [List.concat_eq_append, ← List.cons_append, ← List.append_assoc] at heq
    obtain ⟨hl, hb⟩ := List.append_inj' heq rfl
    cases hb
    rcases List.mem_append.mp (List.concat_eq_append ▸ hm) with hm | hm
    · exact h l1 l2' hl r sn hm
    · exact ho r sn (List.mem_singleton.mp hm).symm (hl ▸ by simp)

/-- Appending one entry to the log (shutdown flag unchanged). -/
theorem logOK_append {l : List Obs} {c : Bool} (h : LogInv l c) (o : Obs) (ho : ObsOK o)
    (hc : o = .cancel → c = true := by simp)
    (hs : ∀ r sn, o = .sent r sn → c = true → r.preferIdle = true := by simp) :
    LogInv (l ++ [o]) c := by
  obtain ⟨h1, h2, h3⟩ := h
  refine ⟨fun o' ho' => ?_, fun hm => ?_, sac_append h3 o fun r sn e hm => hs r sn e (h2 hm)⟩
  · rcases List.mem_append.mp ho' with ho' | ho'
    · exact h1 o' ho'
    · rw [List.mem_singleton.mp ho']; exact ho
  · rcases List.mem_append.mp hm with hm | hm
    · exact h2 hm
    · exact hc (List.mem_singleton.mp hm).symm

theorem logOK_cancel {l : List Obs} {c : Bool} (h : LogInv l c) : LogInv (l ++ [.cancel]) true := by
  obtain ⟨h1, _, h3⟩ := h
  refine ⟨fun o' ho' => ?_, fun _ => rfl, sac_append h3 _ (by simp)⟩
  rcases List.mem_append.mp ho' with ho' | ho'
  · exact h1 o' ho'
  · rw [List.mem_singleton.mp ho']; trivial

theorem inv_log {s : State} (h : Inv s) (o : Obs) (ho : ObsOK o)
    (hc : o = .cancel → s.cancelled = true := by simp)
    (hs : ∀ r sn, o = .sent r sn → s.cancelled = true → r.preferIdle = true := by simp) :
    Inv { s with log := s.log ++ [o] } :=
  { h with logOK := logOK_append h.logOK o ho hc hs }

/-- `ReqHonest` only looks at the request state, the most recent executor and whether the
thread is in the drain loop. -/
theorem honest_of {s s' : State} (h : ReqHonest s) (hq : s'.req = s.req)
    (hl : lastExec s' = lastExec s) (hnd : (∀ k, s'.pc ≠ .drain k) → ∀ k, s.pc ≠ .drain k)
    (hi : s.cur = none → s'.cur = none) : ReqHonest s' := by
  obtain ⟨h1, h2⟩ := reqHonest_iff.mp h
  refine reqHonest_iff.mpr ⟨fun h' => hi (h1 (hq ▸ h')), fun d p h' => ?_⟩
  obtain ⟨x, hx, hxd, hxr, hxu⟩ := h2 d p (hq ▸ h')
  exact ⟨x, hl ▸ hx, hxd, hxr, fun u hp hk => hxu u hp (hnd hk)⟩

theorem inv_pc {s : State} (h : Inv s) (hnd : ∀ k, s.pc ≠ .drain k) (pc' : Pc)
    (hnd' : ∀ k, pc' ≠ .drain k) (hr : pc' = .ready → s.mayThink = none)
    (hs : ∀ rc, pc' = .select rc → rc = true ∨ s.mayThink.isSome = true) :
    Inv { s with pc := pc' } :=
  { h with
    honest := honest_of h.honest rfl rfl (fun _ => hnd) id
    readyNone := hr
    selectRc := hs
    drainStart := fun _ hd => absurd hd (hnd' _)
    drainIdle := fun hd => absurd hd (hnd' _)
    toldIdle := fun ht => (h.toldIdle ht).imp (fun h => absurd h (hnd _)) id }

/-- Between two calls of `Run` the clauses of `Inv` about blocked positions are vacuous. -/
theorem inv_of_returned {s : State} (hpc : s.pc = .terminated ∨ s.pc = .top)
    (retired : ∀ e ∈ s.retired, e.closed = true ∧ e.received <+: e.emitted)
    (curWF : ∀ e, s.cur = some e → ExecWF e) (honest : ReqHonest s)
    (toldIdle : (∃ ts, s.lastReply = some (.reply (some ts) .idle)) →
      s.req = .idle ∧ s.mayThink = none ∧ s.cur = none)
    (logOK : LogInv s.log s.cancelled) : Inv s := by
  have hne : ∀ pc', s.pc = pc' → pc' ≠ .terminated → pc' ≠ .top → False :=
    fun pc' h h1 h2 => hpc.elim (fun h' => h1 (h ▸ h')) (fun h' => h2 (h ▸ h'))
  exact ⟨retired, curWF, honest, fun h => (hne _ h nofun nofun).elim,
    fun _ h => (hne _ h nofun nofun).elim, fun _ h => (hne _ h nofun nofun).elim,
    fun h => (hne _ h nofun nofun).elim, fun h => .inr (toldIdle h), logOK⟩

theorem retRun_pc (s : State) (mt err : Bool) :
    (retRun s mt err).pc = .terminated ∨ (retRun s mt err).pc = .top := by
  unfold retRun; split
  · exact .inl rfl
  · exact .inr rfl

theorem inv_finishStop {s : State}
    (hr : ∀ e ∈ s.retired, e.closed = true ∧ e.received <+: e.emitted)
    (hc : s.cur = none) (hl : LogInv s.log s.cancelled) (k : DrainFor) (hk : toldFor k s.lastReply) :
    Inv (finishStop s k) := by
  cases k with
  | idle =>
    exact inv_of_returned (retRun_pc ..) hr (fun e he => nomatch hc ▸ he) hc
      (fun _ => ⟨rfl, rfl, hc⟩) (logOK_append hl _ fun _ => .inl rfl)
  | start d =>
    refine inv_of_returned (retRun_pc ..) hr ?_ ⟨_, rfl, rfl, nofun, nofun⟩ ?_ ?_
    · intro e he
      cases he
      exact ⟨Nat.zero_le _, nofun, nofun, rfl, nofun⟩
    · obtain ⟨ts', hts'⟩ := hk
      rintro ⟨ts, hts⟩
      cases hts'.symm.trans hts
    · have hsp : ObsOK (.spawn s.nextId d (snap { s with req := .idle } false)) :=
        ⟨live_zero_of (s := { s with req := .idle }) hr hc, hk⟩
      exact logOK_append (logOK_append hl _ hsp) _ (fun h => nomatch h)

/-- Replacing the current executor by a later stage of itself. -/
theorem inv_setCur {s : State} (h : Inv s) {e e' : Exec} (hc : s.cur = some e)
    (wf : ExecWF e') (hd : e'.digest = e.digest)
    (hr : ∀ r, e.returned = some r → e'.returned = some r)
    (hv : (∀ k, s.pc ≠ .drain k) → e'.received = e.received) :
    Inv { s with cur := some e' } := by
  obtain ⟨h1, h2⟩ := reqHonest_iff.mp h.honest
  refine { h with
    curWF := fun x hx => Option.some.inj hx ▸ wf
    honest := reqHonest_iff.mpr ⟨fun hq => (nomatch hc ▸ h1 hq), fun d p hq => ?_⟩
    toldIdle := fun ht => (h.toldIdle ht).imp id fun h' => nomatch hc ▸ h'.2.2 }
  obtain ⟨x, hx, hxd, hxr, hxu⟩ := h2 d p hq
  cases (lastExec_cur hc).symm.trans hx
  exact ⟨e', rfl, hd.trans hxd, fun r hp => hr r (hxr r hp), fun u hp hk => hv hk ▸ hxu u hp hk⟩

/-- A send only changes the buffer and the blocked slot, and appends to the pending messages. -/
theorem push_eq {e : Exec} (m : Msg) (hcap : e.buf.length ≤ chanCap) (hb : e.blocked = none) :
    ∃ b bl, push e m = { e with buf := b, blocked := bl } ∧ b.length ≤ chanCap ∧
      b ++ bl.toList = pending e ++ [m] := by
  unfold push pending
  rw [hb]
  split
  next h => exact ⟨_, _, rfl, by rw [List.length_append]; exact h, by simp⟩
  next => exact ⟨_, _, rfl, hcap, by simp⟩

theorem wf_emit {e : Exec} (wf : ExecWF e) (u : Upd) (hb : e.blocked = none) (hc : e.closed = false) :
    ExecWF { push e ⟨e.digest, .upd u⟩ with emitted := e.emitted ++ [u] } := by
  obtain ⟨b, bl, hp, hcap, hpend⟩ := push_eq ⟨e.digest, .upd u⟩ wf.cap hb
  rw [hp]
  refine ⟨hcap, fun h => absurd (hc ▸ h) nofun, ?_, ?_, ?_⟩ <;> (unfold pending; rw [hpend])
  · intro m hm
    rcases List.mem_append.mp hm with hm | hm
    · exact wf.dig m hm
    · rw [List.mem_singleton.mp hm]
  · rw [updsOf_append, ← List.append_assoc, wf.fifo]; rfl
  · intro m hm r hp
    rcases List.mem_append.mp hm with hm | hm
    · exact wf.comp m hm r hp
    · rw [List.mem_singleton.mp hm] at hp; cases hp

theorem wf_finish {e : Exec} (wf : ExecWF e) (r : Resp) (hr : e.returned = none)
    (hb : e.blocked = none) (hc : e.closed = false) :
    ExecWF { push e ⟨e.digest, .completed r⟩ with returned := some r } := by
  obtain ⟨b, bl, hp, hcap, hpend⟩ := push_eq ⟨e.digest, .completed r⟩ wf.cap hb
  rw [hp]
  refine ⟨hcap, fun h => absurd (hc ▸ h) nofun, ?_, ?_, ?_⟩ <;> (unfold pending; rw [hpend])
  · intro m hm
    rcases List.mem_append.mp hm with hm | hm
    · exact wf.dig m hm
    · rw [List.mem_singleton.mp hm]
  · rw [updsOf_append, ← List.append_assoc, wf.fifo]; exact List.append_nil _
  · intro m hm r' hp
    rcases List.mem_append.mp hm with hm | hm
    · cases hr ▸ wf.comp m hm r' hp
    · rw [List.mem_singleton.mp hm] at hp; cases hp; rfl

theorem wf_close {e : Exec} (wf : ExecWF e) (hr : e.returned.isSome = true) (hb : e.blocked = none) :
    ExecWF { e with closed := true } :=
  { wf with closedRet := fun _ => ⟨hb, hr⟩ }

theorem wf_drainRecv {e : Exec} (wf : ExecWF e) (m : Msg) (rest : List Msg) (hbuf : e.buf = m :: rest) :
    ExecWF { e with buf := rest ++ e.blocked.toList, blocked := none,
                    received := e.received ++ updOf m } := by
  have hp : pending e = m :: (rest ++ e.blocked.toList) := by unfold pending; rw [hbuf]; rfl
  have hsub : ∀ x ∈ rest ++ e.blocked.toList ++ [], x ∈ pending e := fun x hx => by
    rw [hp]; exact List.mem_cons_of_mem _ (by rwa [List.append_nil] at hx)
  refine ⟨?_, fun hc => ⟨rfl, (wf.closedRet hc).2⟩, fun x hx => wf.dig x (hsub x hx), ?_,
    fun x hx => wf.comp x (hsub x hx)⟩
  · have := wf.cap
    rw [hbuf] at this
    rw [List.length_append]
    cases e.blocked with
    | none => exact Nat.le_of_succ_le this
    | some b => exact this
  · have := wf.fifo
    rw [hp, updsOf_cons, ← List.append_assoc] at this
    show _ ++ updsOf (_ ++ []) = _
    rw [List.append_nil]; exact this

theorem sentOK_of_inv {s : State} (h : Inv s) (hnd : ∀ k, s.pc ≠ .drain k) (rc : Bool)
    (hrc : rc = true ∨ s.mayThink.isSome = true) :
    SentOK ⟨s.req, s.cancelled || (preferOf s.req s.mayThink).1⟩ (snap s rc) := by
  refine ⟨?_, ?_, ?_, ?_, ?_, ?_, ?_⟩
  · -- `Idle` is reported only with no current executor, and the retired ones have all exited
    exact fun hq => live_zero_of h.retired ((reqHonest_iff.mp h.honest).1 hq)
  · -- `Executing d p`: `ReqHonest` gives the executor; the prefix is its `fifo` clause
    intro d p hq
    obtain ⟨x, hx, hxd, hxr, hxu⟩ := (reqHonest_iff.mp h.honest).2 d p hq
    refine ⟨x, hx, hxd, hxr, fun u hp => ⟨hxu u hp hnd, ?_⟩⟩
    unfold lastExec at hx
    split at hx
    next e hc => cases hx; exact ⟨_, (h.curWF _ hc).fifo⟩
    next => exact (h.retired _ (List.mem_of_mem_head? hx)).2
  · -- `preferOf` of a `Completed x` is `!x.ok`
    intro d x hq hok
    simp at hq; simp [hq, preferOf, hok]
  · -- `preferOf` of `Idle` is `mayThink.isSome`
    intro hq hm
    simp [snap] at hq hm; simp [hq, preferOf, hm]
  · -- `Idle` without `PreferBeingIdle` means no may-think bound, so `hrc` leaves `rc = true`
    intro hq hp
    simp at hq hp ⊢
    simp [hq, preferOf] at hp
    rcases hrc with hrc | hrc
    · simp [snap, hrc]
    · simp [hp.2] at hrc
  · intro hc; simp [snap] at hc; simp [hc]
  · exact fun ht => (h.toldIdle ht).elim (fun hh => absurd hh (hnd _)) (·.1)

theorem inv_sendReq {s : State} (h : Inv s) (hnd : ∀ k, s.pc ≠ .drain k) (rc : Bool)
    (hrc : rc = true ∨ s.mayThink.isSome = true) : Inv (sendReq s rc) :=
  inv_log (inv_pc h hnd (.sync (preferOf s.req s.mayThink).2) nofun nofun nofun) _
    (sentOK_of_inv h hnd rc hrc) (by simp)
    (by intro r sn e hc; cases e; exact (Bool.or_eq_true ..).mpr (.inl hc))

theorem inv_retRun {s : State} (h : Inv s) (hnd : ∀ k, s.pc ≠ .drain k) (mt err : Bool)
    (hok : RetOK mt (snap s false)) : Inv (retRun s mt err) := by
  have h1 := inv_pc h hnd (if mt && s.cancelled then .terminated else .top)
    (by intro k; split <;> nofun) (by split <;> nofun) (by intro rc; split <;> nofun)
  exact inv_log h1 _ hok

theorem inv_move {s : State} {pc' : Pc} {log' : List Obs} (h : Inv s) (hnd : ∀ k, s.pc ≠ .drain k)
    (hm : Move s pc' log') : Inv { s with pc := pc', log := log' } := by
  cases hm with
  | ret mt err hok =>
    exact inv_retRun h hnd mt err
      (hok.elim (fun hpc => (fun _ => .inl (h.readyNone hpc) : RetOK mt (snap s false))) id)
  | ready hm => exact inv_pc h hnd .ready nofun (fun _ => hm) nofun
  | select rc hrc =>
    exact inv_log (inv_pc h hnd (.select rc) nofun nofun fun _ h' => Pc.select.inj h' ▸ hrc) _ trivial
  | send rc hrc => exact inv_sendReq h hnd rc (hrc.elim (h.selectRc rc) id)

end BbRe.Lemmas.BuildClient
