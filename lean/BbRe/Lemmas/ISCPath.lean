import BbRe.Model.ISC
/-!
Helper lemmas for C07 (b): the learner state machine of `Model/ISC.lean` along a path
(handle release protocol, number of terminal calls).
-/
namespace BbRe.Lemmas.ISC
open BbRe.ISC

/-- The learner types that were created after the message had already been mutated
(`smallerBackgroundLearner` embeds `baseLearner`, all others embed `cleanLearner`). -/
def dirtyHeld : Learner → Bool
  | .smallerBg _ _ => true
  | _ => false

/-- How many terminal calls a learner and its successors can still receive. -/
def remaining : Learner → Nat
  | .smallerFg .. => 2
  | .largestBg .. => 2
  | .fbSmaller _ => 2
  | _ => 1

section Step
variable {env : Env} {l : Learner} {stats : Stats} {ev : Ev} {o : StepOut}

/-- `largestBackgroundLearner.Succeeded`, the one call with more than one outcome: a background
run on the smaller size class if it is still in the list, else the end of the request. -/
theorem largestBg_succeeded {lg : Nat} {lgTO : Int} {sm : Nat} {d : Int} {cs : List Nat} (h : (Learner.largestBg lg lgTO sm).step env stats (.succeeded d cs) = some o) :
    (∃ i smTO, findClass sm cs 0 = some i ∧
      env.calculator.backgroundTimeout (addTo env stats lg (.succeeded d)).classes cs i lgTO = some smTO ∧
      o = { stats := addTo env stats lg (.succeeded d), idx := i,
            expected := expectedDuration (addTo env stats lg (.succeeded d)).classes sm smTO,
            timeout := smTO, next := some (.smallerBg sm smTO), mutated := true }) ∨
    (findClass sm cs 0 = none ∧
      o = { stats := addTo env stats lg (.succeeded d), release := some true, mutated := true }) := by
  simp only [Learner.step, Learner.succeeded] at h
  split at h
  · split at h
    · exact nomatch h
    · cases h; exact .inl ⟨_, _, ‹_›, ‹_›, rfl⟩
  · cases h; exact .inr ⟨‹_›, rfl⟩

/-- The only calls that yield another learner: `Failed` in the foreground on the smaller size
class (retry on the largest), `Succeeded` in the background on the largest (background run on
the smaller), and the fallback's retry. -/
theorem step_next {l' : Learner}
    (h : l.step env stats ev = some o) (hn : o.next = some l') :
    (∃ sm smTO lg lgTO timedOut now, l = .smallerFg sm smTO lg lgTO ∧ ev = .failed timedOut now ∧
      o.timeout = lgTO ∧ l' = .largestFg sm (if timedOut then .timedOut smTO else .failed) lg) ∨
    (∃ lg lgTO sm d cs, l = .largestBg lg lgTO sm ∧ ev = .succeeded d cs ∧
      findClass sm cs 0 = some o.idx ∧
      env.calculator.backgroundTimeout (addTo env stats lg (.succeeded d)).classes cs o.idx lgTO = some o.timeout ∧
      l' = .smallerBg sm o.timeout) ∨
    (∃ t timedOut now, l = .fbSmaller t ∧ ev = .failed timedOut now ∧ o.timeout = t ∧ l' = .fbLargest) := by
  cases l <;> cases ev <;> try (cases h; cases hn)
  case smallerFg.failed => exact .inl ⟨_, _, _, _, _, _, rfl, rfl, rfl, rfl⟩
  case fbSmaller.failed => exact .inr (.inr ⟨_, _, _, rfl, rfl, rfl, rfl⟩)
  case largestBg.succeeded =>
    rcases largestBg_succeeded h with ⟨i, smTO, hf, hbt, rfl⟩ | ⟨_, rfl⟩
    · cases hn; exact .inr (.inl ⟨_, _, _, _, _, rfl, rfl, hf, hbt, rfl⟩)
    · cases hn

variable (env l stats ev o)

theorem step_remaining (l' : Learner)
    (h : l.step env stats ev = some o) (hn : o.next = some l') : remaining l' < remaining l := by
  rcases step_next h hn with ⟨_, _, _, _, _, _, rfl, _, _, rfl⟩ | ⟨_, _, _, _, _, rfl, _, _, _, rfl⟩ |
    ⟨_, _, _, rfl, _, _, rfl⟩ <;> exact Nat.lt_succ_self 1

theorem step_release
    (hl : l.holdsHandle = true) (h : l.step env stats ev = some o) :
    match o.next with
    | some l' => l'.holdsHandle = true ∧ o.release = none ∧ (dirtyHeld l || o.mutated) = dirtyHeld l'
    | none => o.release = some (dirtyHeld l || o.mutated) := by
  cases l <;> cases ev
  case largestBg.succeeded =>
    rcases largestBg_succeeded h with ⟨_, _, _, _, rfl⟩ | ⟨_, rfl⟩
    · exact ⟨rfl, rfl, rfl⟩
    · rfl
  case fbSmaller.succeeded | fbSmaller.failed | fbSmaller.abandoned | fbLargest.succeeded | fbLargest.failed | fbLargest.abandoned => cases hl
  -- every other call either ends the request (`rfl`) or is one of the two with a successor
  all_goals obtain rfl := Option.some.inj h; first | rfl | exact ⟨rfl, rfl, rfl⟩

theorem step_fallback
    (hl : l.holdsHandle = false) (h : l.step env stats ev = some o) :
    o.release = none ∧ o.mutated = false ∧ o.stats = stats ∧ ∀ l', o.next = some l' → l'.holdsHandle = false := by
  cases l <;> cases hl <;> cases ev <;> obtain rfl := Option.some.inj h <;>
    exact ⟨rfl, rfl, rfl, fun _ hn => by cases hn <;> rfl⟩

theorem step_unmutated
    (h : l.step env stats ev = some o) (hm : o.mutated = false) : o.stats = stats := by
  cases l <;> cases ev
  case largestBg.succeeded => rcases largestBg_succeeded h with ⟨_, _, _, _, rfl⟩ | ⟨_, rfl⟩ <;> cases hm
  -- every other call either keeps the message (`rfl`) or reports the mutation
  all_goals obtain rfl := Option.some.inj h; first | rfl | cases hm

end Step

section Path
variable (env : Env) (interfere : Nat → Stats → Stats) (evs : List Ev) (t : Trace) (stats : Stats)

/-- Induction along a path: a property of the trace and the message that survives every
successful call (`hstep`) and every panicking one (`hpanic`) holds when the path ends. -/
theorem runPath_invariant (P : Trace → Stats → Prop)
    (hpanic : ∀ t stats l ev, ev ∈ evs → P t stats → t.cur = some l →
      l.step env (interfere t.calls stats) ev = none →
      P { t with panicked := true, cur := none, calls := t.calls + 1 } (interfere t.calls stats))
    (hstep : ∀ t stats l ev o, ev ∈ evs → P t stats → t.cur = some l →
      l.step env (interfere t.calls stats) ev = some o →
      P { releases := t.releases ++ o.release.toList, mutated := t.mutated || o.mutated,
          cur := o.next, panicked := false, calls := t.calls + 1,
          timeouts := t.timeouts ++ (if o.next.isSome then [o.timeout] else []),
          indices := t.indices ++ ev.indexLog o } o.stats) :
    ∀ t stats, P t stats → P (runPath env interfere t stats evs).1 (runPath env interfere t stats evs).2 := by
  induction evs with
  | nil => exact fun t stats h => h
  | cons ev evs ih =>
    intro t stats h
    have ih := ih (fun t stats l e he => hpanic t stats l e (List.mem_cons_of_mem ev he))
      (fun t stats l e o he => hstep t stats l e o (List.mem_cons_of_mem ev he))
    unfold runPath
    cases hc : t.cur with
    | none => exact h
    | some l =>
      simp only
      cases hs : l.step env (interfere t.calls stats) ev with
      | none => exact hpanic t stats l ev List.mem_cons_self h hc hs
      | some o => exact ih _ _ (hstep t stats l ev o List.mem_cons_self h hc hs)
/-- Invariant of a trace of a feedback-driven request. -/
def Good (t : Trace) : Prop :=
  match t.cur with
  | some l => l.holdsHandle = true ∧ t.releases = [] ∧ t.mutated = dirtyHeld l
  | none => t.panicked = true ∨ t.releases = [t.mutated]

theorem runPath_good (h : Good t) : Good (runPath env interfere t stats evs).1 :=
  runPath_invariant env interfere evs (fun t _ => Good t) (fun _ _ _ _ _ _ _ _ => .inl rfl)
    (fun t _ l ev o _ h hc hs => by
      rw [Good, hc] at h
      have hr := step_release env l _ ev o h.1 hs
      unfold Good
      cases hn : o.next <;> simp only [hn] at hr ⊢
      · exact .inr (by rw [h.2.1, h.2.2, hr]; rfl)
      · exact ⟨hr.1, by rw [h.2.1, hr.2.1]; rfl, by rw [h.2.2]; exact hr.2.2⟩) t stats h

/-- Invariant bounding the number of terminal calls of a request. -/
def Bounded (t : Trace) : Prop :=
  match t.cur with
  | some l => t.calls + remaining l ≤ 2
  | none => t.calls ≤ 2

theorem remaining_range (l : Learner) : 1 ≤ remaining l ∧ remaining l ≤ 2 := by
  cases l <;> simp [remaining]

theorem Bounded.calls_le {t : Trace} (h : Bounded t) : t.calls ≤ 2 ∧ (t.cur.isSome = true → t.calls ≤ 1) := by
  unfold Bounded at h
  cases hc : t.cur with
  | none => rw [hc] at h; exact ⟨h, fun h => nomatch h⟩
  | some l =>
    rw [hc] at h
    have := (remaining_range l).1
    exact ⟨by omega, fun _ => by omega⟩

theorem runPath_bounded (h : Bounded t) : Bounded (runPath env interfere t stats evs).1 :=
  runPath_invariant env interfere evs (fun t _ => Bounded t)
    (fun t _ l _ _ h hc _ => by
      rw [Bounded, hc] at h
      have := (remaining_range l).1
      show t.calls + 1 ≤ 2
      omega)
    (fun t _ l ev o _ h hc hs => by
      rw [Bounded, hc] at h
      have := (remaining_range l).1
      unfold Bounded
      cases hn : o.next <;> simp only
      · omega
      · have := step_remaining env l _ ev o _ hs hn
        omega) t stats h

/-- Invariant of a trace of a fallback request: no handle is ever touched. -/
def NoHandle (t : Trace) : Prop :=
  t.releases = [] ∧ t.mutated = false ∧ ∀ l, t.cur = some l → l.holdsHandle = false

theorem runPath_noHandle (h : NoHandle t) : NoHandle (runPath env interfere t stats evs).1 :=
  runPath_invariant env interfere evs (fun t _ => NoHandle t)
    (fun _ _ _ _ _ h _ _ => ⟨h.1, h.2.1, fun _ hl => nomatch hl⟩)
    (fun t _ l ev o _ h hc hs => by
      have hf := step_fallback env l _ ev o (h.2.2 l hc) hs
      exact ⟨by rw [h.1, hf.1]; rfl, by rw [h.2.1, hf.2.1]; rfl, hf.2.2.2⟩) t stats h

end Path

section Choose
variable {stats1 : Stats} {ss : List Strategy} {origTO : Int} {classes : List Nat} {largest : Nat}
  {r : Rat} {o : StepOut}

/-- The branches of the selection loop of `Select` and the learner each one creates; no branch
touches the handle or the message. -/
theorem chooseFD_cases (h : chooseFD stats1 ss origTO classes largest r = some o) :
    (o.release = none ∧ o.mutated = false ∧ o.stats = stats1) ∧
    ((pick ss 0 r = none ∧ o.next = some (.onlyLargest largest) ∧ o.idx = classes.length - 1 ∧
        o.timeout = origTO) ∨
     (∃ i s smaller, pick ss 0 r = some (i, s) ∧ classes[i]? = some smaller ∧
      ((s.background = true ∧ o.next = some (.largestBg largest origTO smaller) ∧
          o.idx = classes.length - 1 ∧ o.timeout = origTO) ∨
       (s.background = false ∧ o.next = some (.smallerFg smaller s.fgTimeout largest origTO) ∧
          o.idx = i ∧ o.timeout = s.fgTimeout)))) := by
  unfold chooseFD at h
  split at h
  · rename_i i s hp
    split at h
    · exact nomatch h
    · rename_i smaller hs
      split at h <;> cases h
      · exact ⟨⟨rfl, rfl, rfl⟩, .inr ⟨i, s, smaller, hp, hs, .inl ⟨‹_›, rfl, rfl, rfl⟩⟩⟩
      · exact ⟨⟨rfl, rfl, rfl⟩, .inr ⟨i, s, smaller, hp, hs, .inr ⟨Bool.eq_false_iff.mpr ‹_›, rfl, rfl, rfl⟩⟩⟩
  · cases h
    exact ⟨⟨rfl, rfl, rfl⟩, .inl ⟨‹_›, rfl, rfl, rfl⟩⟩

/-- The learner handed out by `Select` is a first-stage learner that holds the handle and
has not mutated anything. -/
theorem chooseFD_good (h : chooseFD stats1 ss origTO classes largest r = some o) (n : Nat) : Good (Trace.ofSelect o n) ∧ Bounded (Trace.ofSelect o n) := by
  obtain ⟨⟨h1, h2, _⟩, ⟨_, hn, _⟩ | ⟨_, _, _, _, _, ⟨_, hn, _⟩ | ⟨_, hn, _⟩⟩⟩ := chooseFD_cases h <;>
    simp [Good, Bounded, Trace.ofSelect, hn, h1, h2, Learner.holdsHandle, dirtyHeld, remaining]

end Choose

/-- A request against the fallback analyzer: a path that starts from one of its two learners. -/
theorem fallbackRun_eq (stats : Stats) (timeout : Int) (classes : List Nat) (evs : List Ev) :
    ∃ l, (l = .fbSmaller timeout ∨ l = .fbLargest) ∧ fallbackRun stats timeout classes evs =
      (runPath fallbackEnv (fun _ s => s)
        { cur := some l, timeouts := [timeout], indices := [(0, classes.length)] } stats evs).1 := by
  unfold fallbackRun selectFallback
  split
  · exact ⟨_, .inl rfl, rfl⟩
  · exact ⟨_, .inr rfl, rfl⟩

/-- A complete request: the branch `Select` took, and the path that started from it. -/
theorem selectorRun_eq {env : Env} {interfere : Nat → Stats → Stats} {stats : Stats} {origTO : Int}
    {classes : List Nat} {now : Int} {r : Rat} {evs : List Ev} {t : Trace}
    (h : selectorRun env interfere stats origTO classes now r evs = some t) :
    ∃ o largest, classes.getLast? = some largest ∧
      chooseFD { stats with classes := (strategiesFD env stats origTO classes now).1 }
        (strategiesFD env stats origTO classes now).2.1 origTO classes largest r = some o ∧
      (runPath env interfere (Trace.ofSelect o classes.length) o.stats evs).1 = t := by
  unfold selectorRun selectFD at h
  split at h
  · exact nomatch h
  · rename_i so hso
    cases h
    split at hso
    · exact nomatch hso
    · rename_i largest hl
      simp only at hso
      split at hso
      · exact nomatch hso
      · cases hso
        exact ⟨_, largest, hl, ‹_›, rfl⟩

end BbRe.Lemmas.ISC
