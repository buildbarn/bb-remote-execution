import BbRe.Lemmas.SchedTreeLinkCore
/-!
Step lemmas of the tree layer: `assignNextQueuedTask` (a queued task is picked by a worker), parking in
`getNextTask`, and `worker.maybeDequeue` when a blocked `Synchronize` call returns.
-/
namespace BbRe.Lemmas.SchedTree
open BbRe.Sched BbRe.SchedTree BbRe.Lemmas.SchedInv
variable {X : List (ScqId × List Nat)}

private theorem setWX_same (l : List WX) (q : ScqId) (w : WId) : setWX l q w (fun y => y) = l := by
  unfold setWX
  have : ∀ x ∈ l, (if x.scq = q ∧ x.id = w then x else x) = x := by
    intro x _; split <;> rfl
  rw [List.map_congr_left this, List.map_id']

/-- with distinct keys, every entry is the one `find?` returns for its key -/
private theorem find?_of_mem_wxkey {l : List WX} (hnd : (l.map wxkey).Nodup) {x : WX} (hx : x ∈ l) :
    l.find? (fun y => y.scq = x.scq ∧ y.id = x.id) = some x := by
  induction l with
  | nil => cases hx
  | cons a t ih =>
    simp only [List.map_cons, List.nodup_cons] at hnd
    rw [List.find?_cons]
    rcases List.mem_cons.mp hx with e | e
    · subst e; simp
    · have hne : ¬ (a.scq = x.scq ∧ a.id = x.id) := by
        intro hk; apply hnd.1
        exact List.mem_map.mpr ⟨x, e, by simp [wxkey, hk.1, hk.2]⟩
      simp only [hne, decide_false]
      exact ih hnd.2 e

/-- what an entry of `conP` says about the worker extras it comes from -/
private theorem conP_mem {x : WX} {c : PC} (h : c ∈ conP x) : x.parked = true ∧ x.scq = c.1 ∧ x.id = c.2.2 := by
  unfold conP at h
  split at h
  · rename_i hpk
    cases hl : x.last with
    | none => rw [hl] at h; cases h
    | some p' =>
      rw [hl] at h
      simp only [List.mem_singleton] at h
      subst h
      exact ⟨hpk, rfl, rfl⟩
  · cases h

/-- the coupling after a step that replaces the record of one worker (and the worker's extras accordingly),
keeps the queues and the operation table of the tree layer, and does not create invocations -/
private theorem side_worker_update {ts ts' : TState} (hS : Side ts) {q : ScqId} {w : WId} {wk wk' : Worker}
    {g : WX → WX} (hw : wfind ts.s.workers q w = some wk) (hkq : wk'.scq = q) (hki : wk'.id = w)
    (hg : ∀ y, wxkey (g y) = wxkey y)
    (hwx : ts'.wx = setWX ts.wx q w g) (hsw : ts'.s.workers = wset ts.s.workers wk')
    (hpl : ∀ x : WX, x.parked = wk.parked → (x.last = none ↔ wk.task.isSome = true) →
      (g x).parked = wk'.parked ∧ ((g x).last = none ↔ wk'.task.isSome = true))
    (hnf : NFrame [] ts.nodes ts'.nodes) (hsq : ts'.s.scqs = ts.s.scqs) (hox : ts'.ox = ts.ox)
    (hso : ∀ o op', ts'.s.op? o = some op' → ∃ op, ts.s.op? o = some op ∧ op'.inv = op.inv ∧ op'.prio = op.prio)
    (hwq : ∀ k t q' w', alookup k ts'.s.tasks = some t → t.worker = some (q', w') → q' = t.scq) :
    Side ts' := by
  subst hkq; subst hki
  obtain ⟨x0, hx0, hxq, hxi, hxp, hxl⟩ := hS.wx_of_worker hw
  have hnodes := side_nodes hS hnf (scqs' := ts'.s.scqs) (by intro q hq; cases hq)
    (fun sq h => by rw [hsq]; exact h) (fun sq h => Or.inl (by rw [← hsq]; exact h))
  refine ⟨hnodes.1, hnodes.2, ?_, ?_, ?_, ?_, hwq⟩
  · rw [hwx]
    show ((setWX ts.wx wk'.scq wk'.id g).map wxkey).Nodup
    rw [setWX_keys ts.wx _ _ g hg]; exact hS.wxnd
  · intro q' w'
    rw [wx?_eq, worker?_def, hwx, hsw, find?_setWX _ _ _ _ hg, wfind_wset]
    have := hS.wxw q' w'
    rw [worker?_def, wx?_eq] at this
    by_cases hk : wk'.scq = q' ∧ wk'.id = w'
    · simp only [hk, and_self, if_true, Option.isSome_map]
      rw [this]; cases (wfind ts.s.workers q' w') <;> rfl
    · simp only [hk, if_false, Option.isSome_map]; exact this
  · intro q' w' wk1 x hwk hx
    rw [worker?_def, hsw, wfind_wset] at hwk
    rw [wx?_eq, hwx, find?_setWX _ _ _ _ hg] at hx
    by_cases hk : wk'.scq = q' ∧ wk'.id = w'
    · obtain ⟨rfl, rfl⟩ := hk
      rw [hw] at hwk
      simp only [and_self, if_true, Option.isSome_some, Option.some.injEq] at hwk
      rw [hx0] at hx
      simp only [Option.map_some, hxq, hxi, and_self, if_true, Option.some.injEq] at hx
      subst hwk; subst hx
      exact hpl x0 hxp hxl
    · simp only [hk, if_false] at hwk
      cases hf : ts.wx.find? (fun x => x.scq = q' ∧ x.id = w') with
      | none => rw [hf] at hx; cases hx
      | some y =>
        rw [hf] at hx
        have hyk := List.find?_some hf
        simp only [decide_eq_true_eq] at hyk
        have : ¬ (y.scq = wk'.scq ∧ y.id = wk'.id) := by
          rw [hyk.1, hyk.2]; exact fun h => hk ⟨h.1.symm, h.2.symm⟩
        simp only [Option.map_some, this, if_false, Option.some.injEq] at hx
        subst hx
        exact hS.wpl q' w' wk1 y (by rw [worker?_def]; exact hwk) hf
  · intro o op' h
    obtain ⟨op, e, hi, hp⟩ := hso o op' h
    rw [hox, hS.oxok o op e, hi, hp]

/-! ### `assignNextQueuedTask` -/

/-- `assignNextQueuedTask`: a queued task is assigned to worker `w` (`assignUnqueuedTask`) and all its
operations are removed from the queues (`removeQueuedFromInvocation`) -/
theorem pick_ts {ex exo} {ts : TState} {w : Worker} {t t2 : Task} {r : Nat} {s' : State}
    (hT : TInvX ex exo [] ts)
    (hw : wfind ts.s.workers w.scq w.id = some w) (hwt : w.task = none) (hwp : w.parked = false)
    (ht : alookup t.id ts.s.tasks = some t) (htw : t.worker = none) (hq : t.queued = true) (hsq : w.scq = t.scq)
    (hnd : t.ops.Nodup)
    (hown : ∀ k t', alookup k ts.s.tasks = some t' → ∀ o ∈ t'.ops, o ∈ t.ops → k = t.id)
    (h2 : t2.id = t.id ∧ t2.worker = some (w.scq, w.id) ∧ t2.queued = false ∧ t2.ops = t.ops ∧ t2.scq = t.scq)
    (hst : s'.tasks = aset t.id t2 ts.s.tasks) (hsw : s'.workers = wset ts.s.workers { w with task := some t.id })
    (hsq' : s'.scqs = ts.s.scqs) (hso : s'.ops = ts.s.ops) :
    TS [] (((ts.assignTree w t r).deqOps t).setS s') := by
  have hS := hT.side
  let ts' : TState := ((ts.assignTree w t r).deqOps t).setS s'
  show TS [] ts'
  obtain ⟨x0, p, hx0, hxq, hxi, hxp, hp, hlo⟩ := hS.last_of_idle hw hwt
  -- the extras of the new state
  let g : WX → WX := fun y => { ({ y with last := none } : WX) with sticks := restick r ts.s.now y.sticks }
  have hg : ∀ y, wxkey (g y) = wxkey y := fun y => rfl
  have hwx' : ts'.wx = setWX ts.wx w.scq w.id g := by
    exact setWX_setWX ts.wx w.scq w.id _ _ (fun y => rfl)
  -- the queued entries of `t`
  have hconQ : conQ ts.ox t = t.ops.map (fun o => (t.scq, ts.invOf o, o)) := by
    unfold conQ; rw [if_pos hq]; rfl
  have hQEsub : ∀ c ∈ t.ops.map (fun o => (t.scq, ts.invOf o, o)), c ∈ bagQ ts := by
    intro c hc
    rw [bagQ_def]
    refine List.mem_flatMap.mpr ⟨(t.id, t), mem_of_alookup ht, ?_⟩
    show c ∈ conQ ts.ox t
    rw [hconQ]; exact hc
  have hn : ∀ o ∈ t.ops, (node? ts.nodes t.scq (ts.invOf o)).isSome = true := fun o ho =>
    hT.tree.rfQ _ (hQEsub _ (List.mem_map.mpr ⟨o, ho, rfl⟩))
  -- the bags of the new state
  have hI' : ((bagI ts).erase (w.scq, p)).Perm (bagI ts') := by
    have := bagI_setWX ts.wx w.scq w.id g hg hS.wxnd x0 hx0
    have e1 : conI (g x0) = [] := rfl
    have e2 : conI x0 = [(w.scq, p)] := by unfold conI; rw [hp, hxq]
    rw [e1, e2, List.append_nil] at this
    rw [bagI_def, bagI_def, hwx']
    exact perm_erase_of_append this
  have hP' : (bagP ts).Perm (bagP ts') := by
    have := bagP_setWX ts.wx w.scq w.id g hg hS.wxnd x0 hx0
    have e1 : conP (g x0) = [] := by unfold conP; simp [g, hxp, hwp]
    have e2 : conP x0 = [] := by unfold conP; simp [hxp, hwp]
    rw [e1, e2, List.append_nil, List.append_nil] at this
    rw [bagP_def, bagP_def, hwx']; exact this
  have ht2 : alookup t2.id ts.s.tasks = some t := by rw [h2.1]; exact ht
  have hst2 : s'.tasks = aset t2.id t2 ts.s.tasks := by rw [h2.1]; exact hst
  have hconE2 : conE ts.ox t2 = t.ops.map (fun o => (t.scq, ts.invOf o, some w.id)) := by
    unfold conE; rw [h2.2.1, h2.2.2.2.1, h2.2.2.2.2]; rfl
  have hE' : (t.ops.map (fun o => (t.scq, ts.invOf o, some w.id)) ++ bagE ts).Perm (bagE ts') := by
    have := bagE_setTask ts s' t t2 ts.ox ht2 hst2 (fun _ _ => rfl) ts' rfl rfl
    rw [conE_unassigned _ t htw, List.append_nil, hconE2] at this
    exact List.perm_append_comm.trans this
  have hQ' : ∀ c, c ∈ (ddup (bagQ ts)).filter
      (fun c => !(t.ops.map (fun o => (t.scq, ts.invOf o, o))).contains c) ↔ c ∈ bagQ ts' := by
    intro c
    have hcont : (!(t.ops.map (fun o => (t.scq, ts.invOf o, o))).contains c) = true ↔
        c ∉ t.ops.map (fun o => (t.scq, ts.invOf o, o)) := by simp
    rw [List.mem_filter, mem_ddup, hcont]
    constructor
    · rintro ⟨hc, hnc⟩
      rw [bagQ_def] at hc
      obtain ⟨⟨k, t'⟩, hkt, hcc⟩ := List.mem_flatMap.mp hc
      have hl : alookup k ts.s.tasks = some t' := alookup_of_mem hT.inv.core.tnd hkt
      change c ∈ conQ ts.ox t' at hcc
      have hne : ¬ t.id = k := by
        intro e; subst e; rw [ht] at hl
        have := Option.some.inj hl; subst this
        exact hnc (by rw [← hconQ]; exact hcc)
      rw [bagQ_def]
      refine List.mem_flatMap.mpr ⟨(k, t'), ?_, hcc⟩
      show (k, t') ∈ s'.tasks
      rw [hst]; apply mem_of_alookup; rw [alookup_aset, if_neg hne]; exact hl
    · intro hc
      rw [bagQ_def] at hc
      obtain ⟨⟨k, t'⟩, hkt, hcc⟩ := List.mem_flatMap.mp hc
      change c ∈ conQ ts.ox t' at hcc
      have hkt' : (k, t') ∈ aset t.id t2 ts.s.tasks := by rw [← hst]; exact hkt
      have hl := alookup_of_mem (nodup_aset t.id t2 _ hT.inv.core.tnd) hkt'
      rw [alookup_aset] at hl
      by_cases hkk : t.id = k
      · rw [if_pos hkk] at hl
        have := Option.some.inj hl; subst this
        rw [conQ_unqueued _ _ h2.2.2.1] at hcc; cases hcc
      · rw [if_neg hkk] at hl
        refine ⟨?_, ?_⟩
        · rw [bagQ_def]; exact List.mem_flatMap.mpr ⟨(k, t'), mem_of_alookup hl, hcc⟩
        · intro hm
          obtain ⟨o', ho', he'⟩ := List.mem_map.mp hm
          unfold conQ at hcc
          split at hcc
          · obtain ⟨o, ho, he⟩ := List.mem_map.mp hcc
            have : o = o' := by
              rw [← he'] at he; simp only [Prod.mk.injEq] at he; exact he.2.2
            subst this
            exact hkk (hown k t' hl o ho ho').symm
          · cases hcc
  -- the node list
  have hPI : ∀ c ∈ bagP ts, (c.1, c.2.1) ∈ (bagI ts).erase (w.scq, p) := by
    intro c hc
    have h1 : c ∈ bagP ts' := hP'.mem_iff.mp hc
    rw [bagP_def] at h1
    have h2 := bagP_sub_bagI ts'.wx c h1
    rw [← bagI_def] at h2
    exact hI'.mem_iff.mpr h2
  have hI0 : (w.scq, p) ∈ bagI ts := by
    rw [bagI_def]
    exact List.mem_flatMap.mpr ⟨x0, List.mem_of_find?_eq_some hx0, by unfold conI; rw [hp, hxq]; simp⟩
  have h1 := assignTree_nodes_ok (X := []) ts w t r hT.tree hn (by intro x hx; cases hx) p hlo hI0 hPI
  have h1' := h1.congr (List.Perm.refl _) (List.Perm.refl _) (fun c => (mem_ddup c (bagQ ts)).symm) (fun _ => Iff.rfl)
  have h3 := deqOps_ok h1' ts.prioOf t.scq ts.invOf t.ops (nodup_ddup _) hnd
    (fun o ho => (mem_ddup _ _).mpr (hQEsub _ (List.mem_map.mpr ⟨o, ho, rfl⟩)))
  -- the invocations of the task are not empty: its operations are executing now
  have h4 := h3.reexempt [] (by
    intro n hn' _ hx _
    rw [List.nil_append] at hx
    obtain ⟨o, ho, hm⟩ := List.mem_flatMap.mp hx
    obtain ⟨pi, hpi, he⟩ := List.mem_map.mp hm
    simp only [Prod.mk.injEq] at he
    refine (h3.not_empty_iff hn').mpr (Or.inl ⟨(t.scq, ts.invOf o, some w.id), ?_, he.1, ?_⟩)
    · exact List.mem_append_left _ (List.mem_map.mpr ⟨o, ho, rfl⟩)
    · rw [← he.2]; exact (mem_prefixes.mp hpi).1)
  refine ⟨?_, ?_⟩
  · show TreeOK [] (t.ops.foldl (fun ns o => removeQueuedOp ts.prioOf ns t.scq (ts.invOf o) o)
      (ts.assignTree w t r).nodes) (bagE ts') (bagI ts') (bagQ ts') (bagP ts')
    exact h4.congr hE' hI' hQ' (fun c => hP'.mem_iff)
  · refine side_worker_update hS (ts' := ts') (wk' := { w with task := some t.id }) (g := g) hw rfl rfl hg hwx'
      hsw ?_ ((assignTree_nframe ts w t r).trans0 (deqOps_nframe (ts.assignTree w t r) t)) hsq' rfl
      (op?_of_ops hso) ?_
    · intro x h1 _
      exact ⟨h1, by simp [g]⟩
    · intro k t' q' w' hk hw'
      change alookup k s'.tasks = some t' at hk
      rw [hst, alookup_aset] at hk
      by_cases hkk : t.id = k
      · rw [if_pos hkk] at hk
        have := Option.some.inj hk; subst this
        rw [h2.2.1] at hw'
        simp only [Option.some.injEq, Prod.mk.injEq] at hw'
        rw [← hw'.1, h2.2.2.2.2]; exact hsq
      · rw [if_neg hkk] at hk
        exact hS.wq k t' q' w' hk hw'

/-! ### parking -/

/-- parking in `getNextTask` -/
theorem park_ts {ex exo} {ts : TState} {q : ScqId} {w : WId} {wk wk' : Worker} {s' : State}
    (hT : TInvX ex exo X ts) (hw : wfind ts.s.workers q w = some wk) (hwt : wk.task = none) (hwp : wk.parked = false)
    (hk : wk'.scq = wk.scq ∧ wk'.id = wk.id ∧ wk'.task = none ∧ wk'.parked = true)
    (hsw : s'.workers = wset ts.s.workers wk') (hst : s'.tasks = ts.s.tasks) (hsq : s'.scqs = ts.s.scqs)
    (hso : s'.ops = ts.s.ops) :
    TS X ((ts.parkTree q w).setS s') := by
  have hS := hT.side
  obtain ⟨hkq, hki⟩ := wfind_key hw
  let ts' : TState := (ts.parkTree q w).setS s'
  show TS X ts'
  obtain ⟨x0, p, hx0, hxq, hxi, hxp, hp, hlo⟩ := hS.last_of_idle hw hwt
  have hx0p : x0.parked = false := by rw [hxp, hwp]
  let g : WX → WX := fun y => { y with parked := true }
  have hg : ∀ y, wxkey (g y) = wxkey y := fun y => rfl
  have hwx' : ts'.wx = setWX ts.wx q w g := rfl
  have hnodes : ts'.nodes = parkW ts.nodes q p w := by
    show (ts.parkTree q w).nodes = _
    unfold TState.parkTree; simp only [hlo]
  have hE' : bagE ts' = bagE ts := (bags_setS_of_tasks (ts.parkTree q w) s' hst).1
  have hQ' : bagQ ts' = bagQ ts := (bags_setS_of_tasks (ts.parkTree q w) s' hst).2.1
  have hP' : ((q, p, w) :: bagP ts).Perm (bagP ts') := by
    have := bagP_setWX ts.wx q w g hg hS.wxnd x0 hx0
    have e1 : conP (g x0) = [(q, p, w)] := by unfold conP; simp [g, hp, hxq, hxi]
    have e2 : conP x0 = [] := by unfold conP; simp [hx0p]
    rw [e1, e2, List.append_nil] at this
    rw [bagP_def, bagP_def, hwx']
    exact (List.perm_append_singleton _ _).symm.trans this
  have hI' : (bagI ts).Perm (bagI ts') := by
    have := bagI_setWX ts.wx q w g hg hS.wxnd x0 hx0
    have e1 : conI (g x0) = conI x0 := rfl
    rw [e1] at this
    rw [bagI_def, bagI_def, hwx']
    exact (List.perm_append_right_iff _).mp this
  have hI0 : (q, p) ∈ bagI ts := by
    rw [bagI_def]
    exact List.mem_flatMap.mpr ⟨x0, List.mem_of_find?_eq_some hx0, by unfold conI; rw [hp, hxq]; simp⟩
  have hnP : (q, p, w) ∉ bagP ts := by
    intro hm
    rw [bagP_def] at hm
    obtain ⟨x, hx, hcx⟩ := List.mem_flatMap.mp hm
    obtain ⟨hxpk, hxs, hxid⟩ := conP_mem hcx
    have hf := find?_of_mem_wxkey hS.wxnd hx
    rw [hxs, hxid] at hf
    change ts.wx.find? (fun y => y.scq = q ∧ y.id = w) = some x at hf
    rw [hx0] at hf
    have := Option.some.inj hf; subst this
    rw [hx0p] at hxpk; cases hxpk
  have h := parkW_ok hT.tree q p w (hT.tree.rfI _ hI0) hI0 hnP
  refine ⟨?_, ?_⟩
  · show TreeOK X ts'.nodes (bagE ts') (bagI ts') (bagQ ts') (bagP ts')
    rw [hnodes, hE', hQ']
    exact h.congr (List.Perm.refl _) hI' (fun _ => Iff.rfl) (fun c => hP'.mem_iff)
  · refine side_worker_update hS (ts' := ts') (wk' := wk') (g := g) hw (hk.1.trans hkq) (hk.2.1.trans hki) hg hwx'
      hsw ?_ (parkTree_nframe ts q w) hsq rfl (op?_of_ops hso) ?_
    · intro x _ h2
      have e : wk'.task = wk.task := hk.2.2.1.trans hwt.symm
      refine ⟨hk.2.2.2.symm, ?_⟩
      rw [e]; exact h2
    · intro k t q' w' h1 h2
      exact hS.wq k t q' w' (by rw [← hst]; exact h1) h2

/-! ### `worker.maybeDequeue` -/

/-- `worker.maybeDequeue` followed by a return of the Synchronize call (timeout / cancellation) -/
theorem unpark_ts {ex exo} {ts : TState} {q : ScqId} {w : WId} {wk wk' : Worker} {s' : State}
    (hT : TInvX ex exo X ts) (hw : wfind ts.s.workers q w = some wk)
    (hk : wk'.scq = wk.scq ∧ wk'.id = wk.id ∧ wk'.task = wk.task ∧ wk'.parked = false)
    (hsw : s'.workers = wset ts.s.workers wk') (hst : s'.tasks = ts.s.tasks) (hsq : s'.scqs = ts.s.scqs)
    (hso : ∀ o op', s'.op? o = some op' → ∃ op, ts.s.op? o = some op ∧ op'.inv = op.inv ∧ op'.prio = op.prio) :
    TS X ((ts.maybeDequeue wk).setS s') := by
  have hS := hT.side
  obtain ⟨hkq, hki⟩ := wfind_key hw
  subst hkq; subst hki
  have hwq : ∀ (ts0 : TState), ts0.s = ts.s → ∀ k t q' w', alookup k (ts0.setS s').s.tasks = some t →
      t.worker = some (q', w') → q' = t.scq := by
    intro ts0 _ k t q' w' h1 h2
    exact hS.wq k t q' w' (by rw [← hst]; exact h1) h2
  cases hpk : wk.parked with
  | false =>
    have hmd : ts.maybeDequeue wk = ts := by unfold TState.maybeDequeue; simp [hpk]
    rw [hmd]
    refine ⟨?_, ?_⟩
    · obtain ⟨h1, h2, h3, h4⟩ := bags_setS_of_tasks ts s' hst
      rw [h1, h2, h3, h4]
      exact hT.tree
    · refine side_worker_update hS (ts' := ts.setS s') (wk' := wk') (g := fun y => y) hw hk.1 hk.2.1 (fun y => rfl)
        (setWX_same ts.wx wk.scq wk.id).symm hsw ?_ (NFrame.refl _) hsq rfl hso (hwq ts rfl)
      intro x h1 h2
      refine ⟨?_, ?_⟩
      · rw [hk.2.2.2, h1, hpk]
      · rw [hk.2.2.1]; exact h2
  | true =>
    have hmd : ts.maybeDequeue wk = ts.unparkTree wk.scq wk.id := by
      unfold TState.maybeDequeue; rw [if_pos hpk]
    rw [hmd]
    let ts' : TState := (ts.unparkTree wk.scq wk.id).setS s'
    show TS X ts'
    have hwt : wk.task = none := hT.inv.core.w1 wk.scq wk.id wk hw hpk
    obtain ⟨x0, p, hx0, hxq, hxi, hxp, hp, hlo⟩ := hS.last_of_idle hw hwt
    have hx0p : x0.parked = true := by rw [hxp, hpk]
    let g : WX → WX := fun y => { y with parked := false }
    have hg : ∀ y, wxkey (g y) = wxkey y := fun y => rfl
    have hwx' : ts'.wx = setWX ts.wx wk.scq wk.id g := rfl
    have hnodes : ts'.nodes = dequeueW ts.nodes wk.scq p wk.id := by
      show (ts.unparkTree wk.scq wk.id).nodes = _
      unfold TState.unparkTree; simp only [hlo]
    have hE' : bagE ts' = bagE ts := (bags_setS_of_tasks (ts.unparkTree wk.scq wk.id) s' hst).1
    have hQ' : bagQ ts' = bagQ ts := (bags_setS_of_tasks (ts.unparkTree wk.scq wk.id) s' hst).2.1
    have e2 : conP x0 = [(wk.scq, p, wk.id)] := by unfold conP; simp [hp, hxq, hxi, hx0p]
    have hP' : ((bagP ts).erase (wk.scq, p, wk.id)).Perm (bagP ts') := by
      have := bagP_setWX ts.wx wk.scq wk.id g hg hS.wxnd x0 hx0
      have e1 : conP (g x0) = [] := rfl
      rw [e1, e2, List.append_nil] at this
      rw [bagP_def, bagP_def, hwx']
      exact perm_erase_of_append this
    have hI' : (bagI ts).Perm (bagI ts') := by
      have := bagI_setWX ts.wx wk.scq wk.id g hg hS.wxnd x0 hx0
      have e1 : conI (g x0) = conI x0 := rfl
      rw [e1] at this
      rw [bagI_def, bagI_def, hwx']
      exact (List.perm_append_right_iff _).mp this
    have hc : (wk.scq, p, wk.id) ∈ bagP ts := by
      rw [bagP_def]
      refine List.mem_flatMap.mpr ⟨x0, List.mem_of_find?_eq_some hx0, ?_⟩
      rw [e2]; exact List.mem_singleton.mpr rfl
    have h1 : (wk.scq, p, wk.id) ∉ (bagP ts).erase (wk.scq, p, wk.id) := by
      intro hm
      have hm' := hP'.mem_iff.mp hm
      rw [bagP_def, hwx'] at hm'
      obtain ⟨x, hx, hcx⟩ := List.mem_flatMap.mp hm'
      obtain ⟨hxpk, hxs, hxid⟩ := conP_mem hcx
      unfold setWX at hx
      obtain ⟨y, _, hy⟩ := List.mem_map.mp hx
      by_cases hcy : y.scq = wk.scq ∧ y.id = wk.id
      · rw [if_pos hcy] at hy
        subst hy
        exact absurd hxpk (by simp [g])
      · rw [if_neg hcy] at hy
        subst hy
        exact hcy ⟨hxs, hxid⟩
    have h := dequeueW_ok hT.tree wk.scq p wk.id hc h1
    refine ⟨?_, ?_⟩
    · show TreeOK X ts'.nodes (bagE ts') (bagI ts') (bagQ ts') (bagP ts')
      rw [hnodes, hE', hQ']
      exact h.congr (List.Perm.refl _) hI' (fun _ => Iff.rfl) (fun c => hP'.mem_iff)
    · refine side_worker_update hS (ts' := ts') (wk' := wk') (g := g) hw hk.1 hk.2.1 hg hwx'
        hsw ?_ (unparkTree_nframe ts wk.scq wk.id) hsq rfl hso (hwq (ts.unparkTree wk.scq wk.id) rfl)
      intro x _ h2
      refine ⟨hk.2.2.2.symm, ?_⟩
      rw [hk.2.2.1]; exact h2

end BbRe.Lemmas.SchedTree
