import BbRe.Lemmas.BitmapArr
import BbRe.Lemmas.BitmapAlloc
/-! `FreeContiguous` / `FreeList`: on allocated sectors they do not panic and set exactly the
freed bits (`Wr true` of `Lemmas/BitmapArr.lean`). -/
namespace BbRe.Lemmas.Bitmap
open BbRe.Bitmap

/-- `freeWithMask` with a mask whose one bits are `[s, s+a)`, all allocated: no panic, and that run is set. -/
theorem freeWithMask_wr {bm : Array Word} {lo a : Nat} {mask : Word} (index s : Nat) (hlo : lo = index * 64 + s)
    (hsa : a ≤ 64 - s) (hlt : index < bm.size)
    (hm : ∀ j, j < 64 → mask.getLsbD j = (decide (s ≤ j) && decide (j < s + a)))
    (hr : Run false lo a bm) :
    ∃ bm', freeWithMask bm index mask = some bm' ∧ bm'.size = bm.size ∧ Wr true lo a bm bm' := by
  have hz : getW bm index &&& mask = 0 := (and_eq_zero_iff _ _).2 fun j hj => by
    have h64 := lt_of_getLsbD hj
    rw [hm j h64, Bool.and_eq_true, decide_eq_true_eq, decide_eq_true_eq] at hj
    exact hr.getLsbD index s hlo h64 hj.1 hj.2
  refine ⟨setW bm index (getW bm index ||| mask), by simp [freeWithMask, hlt, hz], size_setW _ _ _,
    Wr.word (w := getW bm index ||| mask) index s hlo hsa (fun K => by rw [getW_setW]; simp [hlt]) fun j hj => ?_⟩
  rw [BitVec.getLsbD_or, hm j hj]
  by_cases c : s ≤ j ∧ j < s + a
  · rw [if_pos c, run_mem c]; exact Bool.or_true _
  · rw [if_neg c, run_not_mem (by omega)]; exact Bool.or_false _

/-- The `for count >= 64` loop of `FreeContiguous` on `k` completely allocated words. -/
theorem freeFull_wr (k r : Nat) (hr : r < 64) : ∀ (bm : Array Word) (index : Nat) {lo : Nat}, lo = index * 64 →
    index + k ≤ bm.size → Run false lo (64 * k) bm →
    ∃ bm', freeFull bm index (64 * k + r) = some (bm', index + k, r) ∧ bm'.size = bm.size ∧
      Wr true lo (64 * k) bm bm' := by
  induction k with
  | zero =>
    intro bm index lo _ _ _
    exact ⟨bm, by rw [freeFull, if_neg (by omega), Nat.mul_zero, Nat.zero_add]; rfl, rfl, Wr.nil _ _ _⟩
  | succ k ih =>
    intro bm index lo hlo hsz h
    rw [Nat.mul_succ 64 k, Nat.add_comm (64 * k)] at h ⊢
    have h0 : getW bm index = 0 := (eq_zero_iff_bits _).2 fun j hj =>
      (h.take (Nat.le_add_right 64 _)).getLsbD index 0 (at_bit0 hlo) hj (Nat.zero_le _) (by omega)
    have w : Wr true lo 64 bm (setW bm index allBits) :=
      Wr.word (w := allBits) index 0 (at_bit0 hlo) (Nat.le_refl _)
        (fun K => by rw [getW_setW]; simp [show index < bm.size by omega]) (fun j hj => by
        rw [if_pos ⟨Nat.zero_le _, by omega⟩, getLsbD_allBits]; exact decide_eq_true hj)
    obtain ⟨bm', e1, e2, e3⟩ := ih (setW bm index allBits) (index + 1) (lo := lo + 64) (by rw [hlo, Nat.succ_mul])
      (by rw [size_setW]; omega) (w.run_after.2 h.rest)
    refine ⟨bm', ?_, by rw [e2, size_setW], w.trans e3⟩
    rw [freeFull, if_pos (by omega), if_pos ⟨by omega, h0⟩, show 64 + 64 * k + r - 64 = 64 * k + r by omega, e1,
      Nat.add_right_comm, Nat.add_assoc index]

/-- `FreeContiguous(first, count)` on a run that is allocated: no panic, exactly the bits of
the run become free, cursor unchanged. -/
theorem freeContiguous_bits {n : Nat} {st : State} (hinv : Inv n st) (first count : Nat)
    (h1 : 1 ≤ first) (hrange : first - 1 + count ≤ n) (halloc : Run false (first - 1) count st.bm) :
    ∃ st', freeContiguous st first count = some st' ∧ st'.next = st.next ∧ st'.bm.size = st.bm.size ∧
      Wr true (first - 1) count st.bm st'.bm := by
  have hsize : ∀ K, K * 64 ≤ n → K < st.bm.size := fun K hK => by rw [hinv.size]; omega
  unfold freeContiguous
  rw [if_neg (by omega)]
  simp only
  -- the run starts at bit `off` of word `q`
  obtain ⟨q, off, hoff, hfs⟩ := split_bit_index (first - 1)
  rw [hfs] at hrange halloc ⊢
  rw [(word_of_index hoff).1, (word_of_index hoff).2]
  obtain ⟨bm1, e1, s1, w1⟩ := freeWithMask_wr q off rfl (Nat.min_le_right count (64 - off)) (hsize q (by omega))
    (fun j hj => freeMask_run rfl hj) (halloc.take (Nat.min_le_left _ _))
  rw [e1]
  simp only
  by_cases hcross : count > 64 - off
  · rw [if_pos hcross]
    rw [Nat.min_eq_right (Nat.le_of_lt hcross)] at w1
    -- `64 - off` bits in the first word, then `k` whole words and `r` more bits
    obtain ⟨k, r, hr, hc'⟩ : ∃ k r, r < 64 ∧ count - (64 - off) = 64 * k + r :=
      ⟨_, _, Nat.mod_lt _ (by decide), (Nat.div_add_mod _ 64).symm⟩
    have hoa : off + (64 - off) = 64 := Nat.add_sub_cancel' (Nat.le_of_lt hoff)
    have hcnt : count = 64 - off + 64 * k + r ∧ (q + 1 + k) * 64 ≤ n := by omega
    rw [hc']
    rw [hcnt.1] at halloc
    have hq := hsize _ hcnt.2
    obtain ⟨bm2, e2, s2, w2⟩ := freeFull_wr k r hr bm1 (q + 1) (word_after q hoa 0)
      (by rw [s1]; exact Nat.le_of_lt hq) (w1.run_after.2 (halloc.take (Nat.le_add_right _ r)).rest)
    rw [e2]
    simp only
    have w12 := w1.trans w2
    obtain ⟨bm3, e3, s3, w3⟩ := freeWithMask_wr (q + 1 + k) 0 (at_bit0 (word_after q hoa k)) (Nat.le_of_lt hr)
      (by rw [s2, s1]; exact hq) (fun j hj => lowMask_run r hj) (w12.run_after.2 halloc.rest)
    rw [e3]
    exact ⟨_, rfl, rfl, by rw [s3, s2, s1], hcnt.1 ▸ w12.trans w3⟩
  · rw [if_neg hcross]
    rw [Nat.min_eq_left (Nat.le_of_not_gt hcross)] at w1
    exact ⟨_, rfl, rfl, s1, w1⟩

/-- One iteration of `FreeList` on an allocated sector. -/
theorem freeOne_ok (bm : Array Word) (n sector : Nat) (hsz : bm.size = n / 64 + 1)
    (h0 : sector ≠ 0) (hle : sector ≤ n) (hb : bit bm (sector - 1) = false) :
    ∃ bm', freeOne bm sector = some bm' ∧ bm'.size = bm.size ∧ Wr true (sector - 1) 1 bm bm' := by
  have he : freeOne bm sector = freeWithMask bm ((sector - 1) / 64) ((1 : Word) <<< ((sector - 1) % 64)) := by
    simp [freeOne, freeWithMask, h0]
  rw [he]
  exact freeWithMask_wr _ _ (Nat.div_add_mod' _ 64).symm (by omega) (by omega) (fun j hj => oneMask_run _ hj)
    fun i i1 i2 => by rw [show i = sector - 1 by omega]; exact hb

/-- `FreeList` on a list whose non-zero entries are allocated and pairwise distinct. -/
theorem freeListBm_ok (n : Nat) (sectors : List Nat) : ∀ bm : Array Word, bm.size = n / 64 + 1 →
    (∀ s ∈ sectors, s ≠ 0 → s ≤ n ∧ bit bm (s - 1) = false) → (sectors.filter (· ≠ 0)).Nodup →
    ∃ bm', freeListBm bm sectors = some bm' ∧ bm'.size = bm.size ∧
      ∀ i, bit bm' i = (bit bm i || sectors.contains (i + 1)) := by
  induction sectors with
  | nil => intro bm _ _ _; exact ⟨bm, rfl, rfl, by intro i; simp⟩
  | cons s rest ih =>
    intro bm hsz hall hnd
    by_cases h0 : s = 0
    · subst h0
      obtain ⟨bm', e1, s1, b1⟩ := ih bm hsz (fun s hs => hall s (List.mem_cons_of_mem _ hs)) (by simpa using hnd)
      refine ⟨bm', by simp [freeListBm, freeOne, e1], s1, ?_⟩
      intro i; rw [b1]; simp
    · obtain ⟨hle, hb⟩ := hall s (List.mem_cons_self) h0
      obtain ⟨bm1, e1, s1, b1⟩ := freeOne_ok bm n s hsz h0 hle hb
      have hnd' : s ∉ rest.filter (· ≠ 0) ∧ (rest.filter (· ≠ 0)).Nodup := by
        simpa [List.filter_cons, h0] using hnd
      obtain ⟨bm', e2, s2, b2⟩ := ih bm1 (by rw [s1, hsz]) (by
        intro s' hs' h0'
        obtain ⟨hle', hb'⟩ := hall s' (List.mem_cons_of_mem _ hs') h0'
        refine ⟨hle', ?_⟩
        have : s' ≠ s := by
          intro heq; subst heq
          exact hnd'.1 (by simp [List.mem_filter, hs', h0'])
        rw [b1, if_neg (by omega)]; exact hb') hnd'.2
      refine ⟨bm', by simp [freeListBm, e1, e2], by rw [s2, s1], ?_⟩
      intro i
      rw [b2, b1, List.contains_cons]
      by_cases c : s - 1 ≤ i ∧ i < s - 1 + 1
      · rw [if_pos c, show i + 1 = s by omega]; simp
      · rw [if_neg c, show (i + 1 == s) = false from beq_false_of_ne (by omega)]; simp

end BbRe.Lemmas.Bitmap
