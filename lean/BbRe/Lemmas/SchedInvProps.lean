import BbRe.Lemmas.SchedInvStep
import BbRe.Lemmas.SchedInvEvents
/-! Derived facts used by the property files C01 / C03 / C07Sched. -/
namespace BbRe.Lemmas.SchedInv
open BbRe.Sched

theorem mono_step {s s' : State} (g : Seg) (hI : Inv s) (h : step s g = .ok s') : Mono s s' :=
  (wp_of_ok (step_spec g hI) h).2.1

theorem stepEv_step {s s' : State} (g : Seg) (hI : Inv s) (h : step s g = .ok s') : StepEv g s s' :=
  (wp_of_ok (step_spec g hI) h).2.2

theorem run_inv_mono {s : State} (hI : Inv s) (gs : List Seg) : Inv (run s gs) ∧ Mono s (run s gs) := by
  induction gs generalizing s with
  | nil => exact ⟨hI, Mono.refl s⟩
  | cons g rest ih =>
    unfold run
    split
    · rename_i s' h
      obtain ⟨a, b⟩ := ih (inv_step g hI h)
      exact ⟨a, (mono_step g hI h).trans b⟩
    · exact ih hI

/-- an `execute` instruction names the task its worker holds in `s` -/
def ExecEv (s : State) : Event → Prop
  | .syncExecute q w d _ => ExecOK s q w d
  | _ => True

theorem ExecEv.of_quiet {s : State} {e : Event} (h : Quiet e) : ExecEv s e := by
  cases e <;> simp_all [Quiet, ExecEv]
theorem ExecEv.of_noExec {s : State} {e : Event} (h : NoExec e) : ExecEv s e := by
  cases e <;> simp_all [NoExec, ExecEv]
theorem ExecEv.of_syncEv {s : State} {e : Event} (h : SyncEv s e) : ExecEv s e := by
  cases e <;> simp_all [SyncEv, ExecEv]

/-- every `execute` instruction a segment emits names the task its worker holds afterwards -/
theorem step_exec_events {s s' : State} (g : Seg) (hI : Inv s) (h : step s g = .ok s') :
    Ext (ExecEv s') s.events s'.events := by
  have := stepEv_step g hI h
  cases g with
  | exec => exact (this : EvSel s s').1.mono (fun e he => ExecEv.of_noExec he)
  | sync | syncWake => exact (this : Ext (SyncEv s') _ _).mono (fun e he => ExecEv.of_syncEv he)
  | _ => exact (this : Ext Quiet _ _).mono (fun e he => ExecEv.of_quiet he)

theorem SyncEv.notSel {s : State} {e : Event} (h : SyncEv s e) : isSel e = false := by
  cases e <;> simp_all [SyncEv, isSel]

theorem Ext.selCount_eq' {P : Event → Prop} {a b : List Event} (h : Ext P a b)
    (hp : ∀ e, P e → isSel e = false) : selCount b = selCount a := by
  obtain ⟨new, rfl, hn⟩ := h
  unfold selCount
  rw [List.countP_append]
  have : List.countP isSel new = 0 := by
    rw [List.countP_eq_zero]; intro e he; simp [hp e (hn e he)]
  omega

/-- selector calls per segment: one for `Execute`, none otherwise -/
theorem step_selCount {s s' : State} (g : Seg) (hI : Inv s) (h : step s g = .ok s') :
    selCount s'.events = selCount s.events + (match g with | .exec .. => 1 | _ => 0) := by
  have := stepEv_step g hI h
  cases g with
  | exec => exact (this : EvSel s s').2
  | sync | syncWake => exact (this : Ext (SyncEv s') _ _).selCount_eq' (fun e he => SyncEv.notSel he)
  | _ => exact (this : Ext Quiet _ _).selCount_eq

theorem filter_length_le_one {ws : List Worker} (p : Worker → Bool) (hn : WNodup ws)
    (hp : ∀ a b, a ∈ ws → b ∈ ws → p a = true → p b = true → sameW a b) : (ws.filter p).length ≤ 1 := by
  induction ws with
  | nil => simp
  | cons a r ih =>
    simp only [WNodup, List.pairwise_cons] at hn
    have ihr := ih hn.2 (fun x y hx hy => hp x y (List.mem_cons_of_mem _ hx) (List.mem_cons_of_mem _ hy))
    rw [List.filter_cons]
    split
    · rename_i hpa
      have : r.filter p = [] := by
        rw [List.filter_eq_nil_iff]
        intro b hb hpb
        exact hn.1 b hb (hp a b (by simp) (List.mem_cons_of_mem _ hb) hpa hpb)
      simp [this]
    · exact ihr

/-- number of holders of a task: its queue (0/1) plus the workers pointing to it -/
def holders (s : State) (tid : Nat) (t : Task) : Nat :=
  (if t.queued then 1 else 0) + (s.workers.filter (fun w => w.task = some tid)).length

theorem holders_eq_one {s : State} (hI : Inv s) {tid : Nat} {t : Task} (ht : alookup tid s.tasks = some t)
    (hr : t.response = none) : holders s tid t = 1 := by
  have hc := hI.core
  unfold holders
  have hkey : ∀ a, a ∈ s.workers → a.task = some tid → t.worker = some (a.scq, a.id) := by
    intro a ha hat
    obtain ⟨t', h1, h2⟩ := hc.p1 a.scq a.id a tid (wfind_of_mem hc.wnd ha) hat
    rw [ht] at h1; cases h1; exact h2
  rcases hc.q2 tid t ht hr with hq | hw | hf
  · have hwn := (hc.q1 tid t ht hq).1
    have : s.workers.filter (fun w => w.task = some tid) = [] := by
      rw [List.filter_eq_nil_iff]
      intro a ha hpa
      have := hkey a ha (by simpa using hpa)
      rw [hwn] at this; cases this
    simp [hq, this]
  · obtain ⟨⟨q, w⟩, hqw⟩ := Option.isSome_iff_exists.mp hw
    have hnq : t.queued = false := by
      cases hq : t.queued with
      | false => rfl
      | true => have := (hc.q1 tid t ht hq).1; rw [hqw] at this; cases this
    obtain ⟨wk, hwk, hwt⟩ := hc.p2 tid t q w ht hqw
    have h1 : 1 ≤ (s.workers.filter (fun w => decide (w.task = some tid))).length :=
      List.length_pos_of_mem (List.mem_filter.mpr ⟨wfind_mem hwk, by simpa using hwt⟩)
    have h2 := filter_length_le_one (ws := s.workers) (fun w => decide (w.task = some tid)) hc.wnd (by
      intro a b ha hb hpa hpb
      have e1 := hkey a ha (by simpa using hpa)
      have e2 := hkey b hb (by simpa using hpb)
      rw [e1] at e2
      simp only [Option.some.injEq, Prod.mk.injEq] at e2
      exact ⟨e2.1, e2.2⟩)
    simp only [hnq, Bool.false_eq_true, if_false]
    omega
  · exact absurd hf id

/-- `Execute` that finds its digest in the in-flight deduplication map -/
theorem execBody_hit {h : Hints} {s : State} {c digest dkey : Nat} {dnc : Bool} {comps : List Nat}
    {platform : Nat} {inv : List Nat} {prio : Int} {tid : Nat} (hI : Inv s)
    (hd : alookup dkey s.dedup = some tid) :
    wp (execBody h s c digest dkey dnc comps platform inv prio) (fun s' => s'.nextTask = s.nextTask ∧
      ∃ st t', st ∈ s'.streams ∧ st.client = c ∧ alookup tid s'.tasks = some t' ∧ st.op ∈ t'.ops) := by
  unfold execBody
  rw [hd]
  dsimp only
  obtain ⟨t, ht, _, hr, _, _⟩ := hI.core.d1 dkey tid hd
  simp only [task?_def, ht]
  have hrs : ¬ t.response.isSome = true := by rw [hr]; simp
  have := execBody_hit_spec (c := c) (inv := inv) (prio := prio) hI ht hr
  refine wp_mono (Q := fun s' => ExecPost s s' ∧ s'.nextTask = s.nextTask ∧
      ∃ st t', st ∈ s'.streams ∧ st.client = c ∧ alookup tid s'.tasks = some t' ∧ st.op ∈ t'.ops) ?_ (fun s' h => h.2)
  split
  · rename_i o hf
    rw [hf] at this; exact this
  · rename_i hf
    rw [hf] at this
    rw [if_neg hrs]
    exact this

/-- `Execute` that misses the map and finds a platform queue: a new task is created -/
theorem execBody_miss {h : Hints} {s : State} {c digest dkey : Nat} {dnc : Bool} {comps : List Nat}
    {platform : Nat} {inv : List Nat} {prio : Int} {pq : PQ} (hI : Inv s)
    (hd : alookup dkey s.dedup = none) (hroute : route s comps platform = some pq) :
    wp (execBody h s c digest dkey dnc comps platform inv prio) (fun s' => s'.nextTask = s.nextTask + 1 ∧
      s'.dedup = (if dnc then s.dedup else aset dkey s.nextTask s.dedup) ∧
      ∃ t', alookup s.nextTask s'.tasks = some t' ∧ t'.dkey = dkey ∧ t'.doNotCache = dnc ∧
        t'.background = false ∧ t'.digest = digest) := by
  unfold execBody
  simp only [hd, hroute]
  split
  · rename_i sc _
    have := execBody_new_spec (h := h) (c := c) (digest := digest) (dnc := dnc) (q := ⟨pq.id, sc⟩)
      (inv := inv) (prio := prio) hI hd
    -- with the setters unfolded first, matching the state against `newTaskSt` is cheap
    cases dnc <;> simp only [emit, State.setTask, State.setOp, if_true, Bool.false_eq_true, if_false] <;>
      exact wp_mono this (fun s' h => h.2)
  · simp only [wp_throw, OkErr, okErrors, List.mem_cons, String.reduceEq, false_or, true_or]

theorem enter_noop {h : Hints} {s : State} {now : Nat} (hn : now ≤ s.now) : enter h s now = .ok s := by
  unfold enter
  rw [if_neg (by omega)]; rfl

/-- what a cancelled stream changes -/
theorem streamLeave_frame {s s' : State} {c code : Nat} (hh : streamLeave s c code = .ok s') :
    s'.tasks = s.tasks ∧ s'.workers = s.workers ∧ s'.dedup = s.dedup ∧ s'.assigned = s.assigned ∧
      s'.streams = s.streams.filter (fun x => x.client ≠ c) ∧
      ∃ st op, s.streams.find? (fun x => x.client = c) = some st ∧ s.op? st.op = some op ∧
        s'.ops = aset op.name { op with waiters := op.waiters - 1 } s.ops := by
  rw [streamLeave_eq] at hh
  cases hf : s.streams.find? (fun x => x.client = c) with
  | none => rw [hf] at hh; cases hh
  | some st =>
    rw [hf] at hh
    dsimp only at hh
    cases hop : s.op? st.op with
    | none => rw [hop] at hh; cases hh
    | some op =>
      rw [hop] at hh
      dsimp only at hh
      split at hh
      · cases hh
      · cases hh
        rw [maybeStartCleanup_eq]
        exact ⟨rfl, rfl, rfl, rfl, rfl, st, op, rfl, hop, rfl⟩

/-- removal of an operation that is not the last one of its task: only the operation table and
the task's list of operations change -/
theorem removeOp_nonlast {h : Hints} {s s' : State} {o : Nat} {op : Op} {t : Task}
    (hop : s.op? o = some op) (ht : s.task? op.task = some t) (hlen : t.ops.length ≠ 1)
    (hne : (t.ops.filter (· ≠ o)).isEmpty = false) (hh : removeOp h s o = .ok s') :
    s' = { s with ops := aerase o s.ops,
                  tasks := aset t.id { t with ops := t.ops.filter (· ≠ o) } s.tasks } := by
  unfold removeOp at hh
  simp only [hop] at hh
  have ht' : ({ s with ops := aerase o s.ops } : State).task? op.task = some t := ht
  simp only [ht', if_neg hlen, pure_bind] at hh
  simp only [hne, Bool.false_eq_true, if_false] at hh
  cases hh
  rfl

end BbRe.Lemmas.SchedInv
