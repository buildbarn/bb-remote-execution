import BbRe.Model.ProtoStore
import BbRe.Lemmas.Basic.AssocList
/-! Helper lemmas for `Model/ProtoStore.lean`: pointwise update, the association
list of in-flight Gets, what `getEnd`, `removeOrQueue` and `putDone` compute case by case,
and the three queue primitives (push / pop / swap-remove). -/
namespace BbRe.Lemmas.ProtoStore
open BbRe.ProtoStore

@[simp] theorem upd_same {α : Type} (f : Nat → α) (k : Nat) (v : α) : upd f k v k = v := by
  simp [upd]

theorem upd_other {α : Type} (f : Nat → α) (k x : Nat) (v : α) (h : x ≠ k) : upd f k v x = f x := by
  simp [upd, h]

theorem upd_apply {α : Type} (f : Nat → α) (k x : Nat) (v : α) :
    upd f k v x = if x = k then v else f x := rfl

/-! ### in-flight Gets -/

theorem lookupG_eq (gs : List (Nat × GetRec)) (g : Nat) : lookupG gs g = AL.get g gs := by
  induction gs with
  | nil => rfl
  | cons p l ih => obtain ⟨a, b⟩ := p; simp only [lookupG, AL.get, ih]

theorem setG_eq (gs : List (Nat × GetRec)) (g : Nat) (r : GetRec) : setG gs g r = AL.put g r gs := by
  induction gs with
  | nil => rfl
  | cons p l ih => obtain ⟨a, b⟩ := p; simp only [setG, AL.put, ih]

theorem eraseG_eq (gs : List (Nat × GetRec)) (g : Nat) : eraseG gs g = AL.del g gs := by
  induction gs with
  | nil => rfl
  | cons p l ih => obtain ⟨a, b⟩ := p; simp only [eraseG, AL.del, ih]

theorem lookupG_setG (gs : List (Nat × GetRec)) (g g' : Nat) (r : GetRec) :
    lookupG (setG gs g r) g' = if g = g' then some r else lookupG gs g' := by
  rw [setG_eq, lookupG_eq, lookupG_eq]; exact AL.get_put ..

theorem lookupG_setG_some {gs : List (Nat × GetRec)} {g g' : Nat} {r r2 : GetRec}
    (hl : lookupG (setG gs g r) g' = some r2) :
    (g' = g ∧ r2 = r) ∨ (g ≠ g' ∧ lookupG gs g' = some r2) := by
  rw [setG_eq, lookupG_eq] at hl; rw [lookupG_eq]
  exact (AL.get_put_cases hl).imp_right (And.imp_left Ne.symm)

theorem lookupG_eraseG_ne (gs : List (Nat × GetRec)) (g g' : Nat) (h : g ≠ g') :
    lookupG (eraseG gs g) g' = lookupG gs g' := by
  rw [eraseG_eq, lookupG_eq, lookupG_eq]; exact AL.get_del_ne _ _ _ h

/-- Keys of the in-flight Gets are pairwise distinct. -/
def KeysNodup (gs : List (Nat × GetRec)) : Prop := (gs.map Prod.fst).Nodup

theorem lookupG_none_of_not_mem (gs : List (Nat × GetRec)) (g : Nat)
    (h : g ∉ gs.map Prod.fst) : lookupG gs g = none :=
  lookupG_eq gs g ▸ AL.get_eq_none_iff.2 h

theorem mem_keys_of_lookupG (gs : List (Nat × GetRec)) (g : Nat) (r : GetRec)
    (h : lookupG gs g = some r) : g ∈ gs.map Prod.fst :=
  AL.mem_keys_of_get (lookupG_eq gs g ▸ h)

theorem lookupG_eraseG_self (gs : List (Nat × GetRec)) (g : Nat) (h : KeysNodup gs) :
    lookupG (eraseG gs g) g = none := by
  rw [eraseG_eq, lookupG_eq]; exact AL.get_del_self g h

theorem keys_eraseG_subset (gs : List (Nat × GetRec)) (g x : Nat)
    (h : x ∈ (eraseG gs g).map Prod.fst) : x ∈ gs.map Prod.fst :=
  (AL.keys_del_sublist g gs).subset (eraseG_eq gs g ▸ h)

theorem keysNodup_eraseG (gs : List (Nat × GetRec)) (g : Nat) (h : KeysNodup gs) :
    KeysNodup (eraseG gs g) := eraseG_eq gs g ▸ AL.nodup_del g h

theorem keys_setG (gs : List (Nat × GetRec)) (g x : Nat) (r : GetRec)
    (h : x ∈ (setG gs g r).map Prod.fst) : x = g ∨ x ∈ gs.map Prod.fst :=
  AL.mem_keys_put.1 (setG_eq gs g r ▸ h)

theorem keysNodup_setG (gs : List (Nat × GetRec)) (g : Nat) (r : GetRec) (h : KeysNodup gs) :
    KeysNodup (setG gs g r) := setG_eq gs g r ▸ AL.nodup_put g r h

theorem refs_setG_same (gs : List (Nat × GetRec)) (g h : Nat) (r0 r : GetRec)
    (hl : lookupG gs g = some r0) (he : r.existing = r0.existing) :
    refs (setG gs g r) h = refs gs h := by
  induction gs with
  | nil => simp [lookupG] at hl
  | cons p rest ih =>
    obtain ⟨k, r1⟩ := p
    unfold setG
    unfold lookupG at hl
    by_cases hk : k = g
    · simp only [hk, if_true, Option.some.injEq] at hl
      subst hl
      simp only [hk, if_true, refs, he]
    · simp only [hk, if_false] at hl
      simp only [hk, if_false, refs, ih hl]

theorem refs_setG_new (gs : List (Nat × GetRec)) (g h : Nat) (r : GetRec)
    (hl : lookupG gs g = none) :
    refs (setG gs g r) h = refs gs h + (if r.existing = some h then 1 else 0) := by
  induction gs with
  | nil => simp [setG, refs]
  | cons p rest ih =>
    obtain ⟨k, r1⟩ := p
    unfold lookupG at hl
    unfold setG
    by_cases hk : k = g
    · simp [hk] at hl
    · simp only [hk, if_false] at hl
      simp only [hk, if_false, refs, ih hl]
      omega

theorem refs_eraseG (gs : List (Nat × GetRec)) (g h : Nat) (r : GetRec)
    (hl : lookupG gs g = some r) :
    refs (eraseG gs g) h + (if r.existing = some h then 1 else 0) = refs gs h := by
  induction gs with
  | nil => simp [lookupG] at hl
  | cons p rest ih =>
    obtain ⟨k, r1⟩ := p
    unfold lookupG at hl
    unfold eraseG
    by_cases hk : k = g
    · simp only [hk, if_true, Option.some.injEq] at hl
      subst hl
      simp only [hk, if_true, refs]
      omega
    · simp only [hk, if_false] at hl
      simp only [hk, if_false, refs]
      have := ih hl
      omega

/-! ### `removeOrQueue` of an unused handle that is not being written -/

theorem removeOrQueue_clean (cfg : Config) (s : State) (h : Nat) (hu : s.useCount h = 0)
    (hw : s.wg h = none) (hc : s.written h = s.current h) :
    removeOrQueue cfg s h = { s with map := upd s.map (s.hdigest h) none } := by
  unfold removeOrQueue
  rw [if_pos ⟨hu, fun hn => hn.2 hw⟩, if_pos hc]

theorem removeOrQueue_dirty (cfg : Config) (s : State) (h : Nat) (hu : s.useCount h = 0)
    (hw : s.wg h = none) (hc : s.written h ≠ s.current h) (hi : s.idx h = none) :
    removeOrQueue cfg s h =
      { s with idx := upd s.idx h (some s.queue.length), queue := s.queue ++ [h] } := by
  unfold removeOrQueue
  rw [if_pos ⟨hu, fun hn => hn.2 hw⟩, if_neg hc, if_pos hi]

/-- `putDone` of a Put that is in flight. -/
theorem putDone_eq (cfg : Config) (s : State) (g h : Nat) (o : PutOutcome) (r : GetRec) (w : Write)
    (hr : lookupG s.gets g = some r) (hw : findWrite r.writes h = some w) :
    putDone cfg s g h o = removeOrQueue cfg { s with
      gets := setG s.gets g { r with
        writes := r.writes.filter (fun w' => w'.h != h), failed := r.failed || decide (o ≠ .ok) }
      store := if o = .err then s.store else upd s.store (s.hdigest h) w.msg
      wg := upd s.wg h none
      written := if o = .ok then upd s.written h w.ver else s.written } h := by
  unfold putDone
  rw [hr]
  dsimp only
  rw [hw]

/-- `putDone` does nothing unless the Get exists and has that Put in flight. -/
theorem putDone_cases (cfg : Config) (s : State) (g h : Nat) (o : PutOutcome) :
    putDone cfg s g h o = s ∨
    ∃ r w, lookupG s.gets g = some r ∧ findWrite r.writes h = some w := by
  cases hr : lookupG s.gets g with
  | none => left; unfold putDone; rw [hr]
  | some r =>
    cases hw : findWrite r.writes h with
    | none => left; unfold putDone; rw [hr]; dsimp only; rw [hw]
    | some w => exact Or.inr ⟨r, w, rfl, hw⟩

/-- The outcomes of `getEnd`, to prove a property `P` of its result.  Nothing happens unless
the Get exists and all its calls have completed; then its record is erased (`s0`) and,
according to the error flag and to the handle found by `getBegin`: the reference taken then
is dropped, or handed to the client; a handle that has appeared in the map meanwhile is
referenced; a new handle is made. -/
theorem getEnd_cases (cfg : Config) (s : State) (g : Nat) (P : State → Prop) (hs : P s)
    (hdone : ∀ r, lookupG s.gets g = some r → r.writes = [] →
      let s0 : State := { s with gets := eraseG s.gets g }
      (r.failed = true →
        (∀ h, r.existing = some h → P (decreaseUseCount cfg s0 h)) ∧ (r.existing = none → P s0)) ∧
      (r.failed = false →
        (∀ h, r.existing = some h → P { s0 with held := upd s.held h (s.held h + 1) }) ∧
        (r.existing = none →
          (∀ e, s.map r.digest = some e →
            P (let s1 := increaseUseCount s0 e; { s1 with held := upd s1.held e (s1.held e + 1) })) ∧
          (s.map r.digest = none → P { s0 with
            map := upd s.map r.digest (some s.nextH)
            hdigest := upd s.hdigest s.nextH r.digest
            useCount := upd s.useCount s.nextH 1
            written := upd s.written s.nextH 0
            current := upd s.current s.nextH 0
            idx := upd s.idx s.nextH none
            msg := upd s.msg s.nextH r.readMsg
            wg := upd s.wg s.nextH none
            held := upd s.held s.nextH 1
            nextH := s.nextH + 1 })))) :
    P (getEnd cfg s g) := by
  unfold getEnd
  cases hr : lookupG s.gets g with
  | none => exact hs
  | some r =>
    dsimp only
    by_cases hpend : r.readPending = true ∨ r.writes ≠ []
    · rw [if_pos hpend]; exact hs
    · rw [if_neg hpend]
      obtain ⟨h1, h2⟩ := hdone r hr (Classical.byContradiction fun hn => hpend (Or.inr hn))
      by_cases hf : r.failed = true
      · rw [if_pos hf]
        cases he : r.existing with
        | some h => exact (h1 hf).1 h he
        | none => exact (h1 hf).2 he
      · rw [if_neg hf]
        have h2 := h2 (Bool.eq_false_iff.2 hf)
        cases he : r.existing with
        | some h => exact h2.1 h he
        | none =>
          dsimp only
          cases hm : s.map r.digest with
          | some e => exact (h2.2 he).1 e hm
          | none => exact (h2.2 he).2 hm
/-! ### the dequeue loop and whole runs: what every iteration keeps, the loop keeps -/

theorem dequeueN_invariant {P : State → Prop} (g : Nat) (hstep : ∀ s, P s → P (dequeueOne s g)) (n : Nat)
    (s : State) (h : P s) : P (dequeueN s g n) := by
  induction n generalizing s with
  | zero => exact h
  | succ n ih => exact ih _ (hstep s h)

theorem run_invariant {P : State → Prop} (cfg : Config) (h0 : P init) (hstep : ∀ s op, P s → P (step cfg s op))
    (ops : List Op) : P (run cfg ops) := by
  unfold run
  generalize init = s at h0
  induction ops generalizing s with
  | nil => exact h0
  | cons op rest ih => exact ih _ (hstep s op h0)

/-! ### the write queue -/

/-- queue indices are consistent with positions -/
def Q1 (q : List Nat) (idx : Nat → Option Nat) : Prop := ∀ i h, q[i]? = some h ↔ idx h = some i

theorem q1_push (q : List Nat) (idx : Nat → Option Nat) (h : Nat) (hq : Q1 q idx) (hn : idx h = none) :
    Q1 (q ++ [h]) (upd idx h (some q.length)) := by
  intro i x
  have := hq i x
  simp only [upd_apply]
  by_cases hx : x = h
  · subst hx
    simp only [if_true]
    constructor
    · intro hi
      by_cases hlt : i < q.length
      · rw [List.getElem?_append_left hlt] at hi
        have := (hq i x).1 hi
        rw [hn] at this; cases this
      · have : i = q.length := by
          have := List.getElem?_eq_some_iff.1 hi
          obtain ⟨hlen, _⟩ := this
          simp at hlen
          exact Nat.le_antisymm (Nat.le_of_lt_succ hlen) (Nat.le_of_not_lt hlt)
        rw [this]
    · intro hi
      have : i = q.length := by simpa using hi.symm
      subst this
      simp
  · simp only [hx, if_false]
    rw [← this]
    by_cases hlt : i < q.length
    · rw [List.getElem?_append_left hlt]
    · have h1 : q[i]? = none := List.getElem?_eq_none (Nat.le_of_not_lt hlt)
      rw [h1]
      constructor
      · intro hi
        have := List.getElem?_eq_some_iff.1 hi
        obtain ⟨hlen, he⟩ := this
        simp at hlen
        have : i = q.length := Nat.le_antisymm (Nat.le_of_lt_succ hlen) (Nat.le_of_not_lt hlt)
        subst this
        simp at he
        exact absurd he.symm hx
      · intro hi; cases hi

theorem q1_pop (q : List Nat) (idx : Nat → Option Nat) (h : Nat) (hq : Q1 q idx)
    (hl : q.getLast? = some h) :
    idx h = some (q.length - 1) ∧ Q1 q.dropLast (upd idx h none) := by
  have hne : q ≠ [] := by intro h0; subst h0; simp at hl
  have hlen : 0 < q.length := List.length_pos_iff.2 hne
  have hidx : idx h = some (q.length - 1) := by
    apply (hq _ _).1
    rw [List.getLast?_eq_getElem?] at hl
    exact hl
  refine ⟨hidx, ?_⟩
  intro i x
  simp only [upd_apply]
  rw [List.getElem?_dropLast]
  by_cases hx : x = h
  · subst hx
    simp only [if_true]
    constructor
    · intro hi
      split at hi
      · rename_i hlt
        have := (hq i x).1 hi
        rw [hidx] at this
        simp at this; omega
      · cases hi
    · intro hi; cases hi
  · simp only [hx, if_false]
    rw [← hq i x]
    split
    · rfl
    · rename_i hge
      constructor
      · intro hi; cases hi
      · intro hi
        have h2 := List.getElem?_eq_some_iff.1 hi
        obtain ⟨hl2, he⟩ := h2
        have : i = q.length - 1 := Nat.le_antisymm (Nat.le_sub_one_of_lt hl2) (Nat.le_of_not_lt hge)
        subst this
        rw [List.getLast?_eq_getElem?] at hl
        rw [hl] at hi
        simp at hi
        exact absurd hi.symm hx

theorem q1_swapRemove (q : List Nat) (idx : Nat → Option Nat) (h i last : Nat) (hq : Q1 q idx)
    (hi : idx h = some i) (hl : q.getLast? = some last) :
    i < q.length ∧ idx last = some (q.length - 1) ∧
    Q1 ((q.set i last).dropLast) (upd (upd idx last (some i)) h none) := by
  have hqi : q[i]? = some h := (hq i h).2 hi
  have hilt : i < q.length := (List.getElem?_eq_some_iff.1 hqi).1
  rw [List.getLast?_eq_getElem?] at hl
  have hlast : idx last = some (q.length - 1) := (hq _ _).1 hl
  refine ⟨hilt, hlast, ?_⟩
  intro j x
  rw [List.getElem?_dropLast, List.length_set, List.getElem?_set, if_pos hilt, upd_apply, upd_apply]
  have hx := hq j x
  -- an element has one position
  have hinj : ∀ {y a b : Nat}, idx y = some a → idx y = some b → a = b :=
    fun h1 h2 => Option.some.inj (h1.symm.trans h2)
  by_cases hj : j < q.length - 1
  · rw [if_pos hj]
    by_cases hij : i = j
    · subst hij
      rw [if_pos rfl]
      have hlh : last ≠ h := fun e => by
        rw [e, hi] at hlast; exact absurd (Option.some.inj hlast) (Nat.ne_of_lt hj)
      by_cases hxh : x = h
      · rw [if_pos hxh]; exact ⟨fun e => absurd ((Option.some.inj e).trans hxh) hlh, nofun⟩
      · rw [if_neg hxh]
        by_cases hxl : x = last
        · rw [if_pos hxl, hxl]; exact ⟨fun _ => rfl, fun _ => rfl⟩
        · rw [if_neg hxl]
          exact ⟨fun e => absurd (Option.some.inj e).symm hxl,
            fun e => absurd (Option.some.inj (hqi.symm.trans ((hq i x).2 e))).symm hxh⟩
    · rw [if_neg hij]
      by_cases hxh : x = h
      · rw [if_pos hxh, hxh]; exact ⟨fun e => absurd (hinj hi ((hq j h).1 e)) hij, nofun⟩
      · rw [if_neg hxh]
        by_cases hxl : x = last
        · rw [if_pos hxl, hxl]
          exact ⟨fun e => absurd (hinj ((hq j last).1 e) hlast) (Nat.ne_of_lt hj),
            fun e => absurd (Option.some.inj e) hij⟩
        · rw [if_neg hxl]; exact hx
  · rw [if_neg hj]
    refine ⟨nofun, fun e => ?_⟩
    by_cases hxh : x = h
    · rw [if_pos hxh] at e; cases e
    · rw [if_neg hxh] at e
      by_cases hxl : x = last
      · -- `i = j` is the last position, so `h = last = x`
        rw [if_pos hxl] at e
        rw [← Option.some.inj e] at hj
        rw [Nat.le_antisymm (Nat.le_sub_one_of_lt hilt) (Nat.le_of_not_lt hj), hl] at hqi
        exact absurd (hxl.trans (Option.some.inj hqi)) hxh
      · rw [if_neg hxl] at e
        have hjl := (List.getElem?_eq_some_iff.1 (hx.2 e)).1
        rw [Nat.le_antisymm (Nat.le_sub_one_of_lt hjl) (Nat.le_of_not_lt hj)] at e
        exact absurd (Option.some.inj (((hq _ x).2 e).symm.trans hl)) hxl

end BbRe.Lemmas.ProtoStore
