import BbRe.Lemmas.SchedTreePrimQueue
import BbRe.Lemmas.SchedTreePrimRefresh
import BbRe.Lemmas.SchedTreePrimCreate
/-!
The loops `for o in t.operations { … }` of the tree layer (`TState.incOps`, `decOps`, `enqOps`, `deqOps`,
`createOps`): the single-step lemmas of `SchedTreePrim*.lean` lifted to `List.foldl` over operation names.
-/
namespace BbRe.Lemmas.SchedTree
open BbRe.Sched BbRe.SchedTree
variable {X : List (ScqId × List Nat)} {ns : List Node} {E : List EC} {I : List IC} {Q : List QC} {P : List PC}

/-! ### existence of nodes under key-preserving updates -/

/-- existence of a node only depends on the list of keys -/
theorem node?_isSome_of_keys {ns ns' : List Node} (h : ns'.map nkey = ns.map nkey) (q : ScqId) (p : List Nat) :
    (node? ns' q p).isSome = (node? ns q p).isSome := isSome_of_keys h q p

theorem updNode_keys (ns : List Node) (q : ScqId) (p : List Nat) (f : Node → Node)
    (hf : ∀ n ∈ ns, n.isAt q p = true → nkey (f n) = nkey n) :
    (updNode ns q p f).map nkey = ns.map nkey := by
  unfold updNode
  rw [List.map_map]
  apply List.map_congr_left
  intro n hn
  show nkey (if n.isAt q p then f n else n) = nkey n
  by_cases hc : n.isAt q p = true
  · rw [if_pos hc]; exact hf n hn hc
  · rw [if_neg hc]

theorem updPrio_key (prioOf : Nat → Int) (ns : List Node) (n : Node) : nkey (updPrio prioOf ns n) = nkey n := by
  rw [PrimQueue.updPrio_eq]; rfl

theorem enqStep_keys (prioOf : Nat → Int) (q : ScqId) (ns : List Node) (pi : List Nat) :
    (enqStep prioOf q ns pi).map nkey = ns.map nkey := by
  unfold enqStep
  split
  · rfl
  · rename_i i hi
    obtain ⟨_, h1, h2⟩ := node?_some hi
    simp only
    rw [updNode_keys, updNode_keys]
    · intro n _ hat
      obtain ⟨a, b⟩ := (isAt_iff n q pi).mp hat
      rw [updPrio_key]; unfold nkey; rw [h1, h2, a, b]
    · intro _ _ _; rfl

theorem deqStep_keys (prioOf : Nat → Int) (q : ScqId) (ns : List Node) (pi : List Nat) :
    (deqStep prioOf q ns pi).map nkey = ns.map nkey := by
  unfold deqStep
  split
  · rfl
  · rename_i i hi
    obtain ⟨_, h1, h2⟩ := node?_some hi
    have hk : (updNode ns q pi (fun _ => updPrio prioOf ns i)).map nkey = ns.map nkey := by
      apply updNode_keys
      intro n _ hat
      obtain ⟨a, b⟩ := (isAt_iff n q pi).mp hat
      rw [updPrio_key]; unfold nkey; rw [h1, h2, a, b]
    simp only
    split
    · rw [updNode_keys, hk]
      intro _ _ _; rfl
    · exact hk

theorem foldl_keys (step : List Node → List Nat → List Node)
    (hs : ∀ ns pi, (step ns pi).map nkey = ns.map nkey) (l : List (List Nat)) :
    ∀ ns : List Node, (l.foldl step ns).map nkey = ns.map nkey := by
  induction l with
  | nil => intro ns; rfl
  | cons a r ih => intro ns; rw [List.foldl_cons, ih, hs]

/-- existence of nodes is not changed by the primitives that only map over the node list -/
theorem incExec_isSome (ns : List Node) (q : ScqId) (p : List Nat) (k : WKey) (now : Nat) (q' : ScqId) (p' : List Nat) :
    (node? (incExec ns q p k now) q' p').isSome = (node? ns q' p').isSome := by
  unfold incExec
  rw [updPath_eq_map, node?_map, Option.isSome_map]
  exact keepsKey_ite (fun n => ⟨rfl, rfl⟩)

theorem incExecR_isSome (lg : Bool) (pr : Nat → Int) (ns : List Node) (q : ScqId) (p : List Nat) (k : WKey) (now : Nat)
    (q' : ScqId) (p' : List Nat) :
    (node? (incExecR lg pr ns q p k now) q' p').isSome = (node? ns q' p').isSome := by
  unfold incExecR
  split
  · exact incExec_isSome ns q p k now q' p'
  · rw [refreshUp_isSome]; exact incExec_isSome ns q p k now q' p'

theorem enqueueOp_isSome (prioOf : Nat → Int) (ns : List Node) (q : ScqId) (p : List Nat) (o : Nat) (q' : ScqId) (p' : List Nat) :
    (node? (enqueueOp prioOf ns q p o) q' p').isSome = (node? ns q' p').isSome := by
  apply node?_isSome_of_keys
  unfold enqueueOp
  rw [foldl_keys _ (enqStep_keys prioOf q), updNode_keys]
  intro _ _ _; rfl

theorem removeQueuedOp_isSome (prioOf : Nat → Int) (ns : List Node) (q : ScqId) (p : List Nat) (o : Nat) (q' : ScqId) (p' : List Nat) :
    (node? (removeQueuedOp prioOf ns q p o) q' p').isSome = (node? ns q' p').isSome := by
  apply node?_isSome_of_keys
  unfold removeQueuedOp
  rw [foldl_keys _ (deqStep_keys prioOf q), updNode_keys]
  intro _ _ _; rfl

/-! ### the loops -/

theorem mem_filter_offOps {X : List (ScqId × List Nat)} {q : ScqId} {inv : Nat → List Nat} {ops : List Nat}
    {x : ScqId × List Nat} :
    x ∈ X.filter (fun x => !ops.any (fun o => onPathOf q (inv o) x)) ↔
      x ∈ X ∧ ∀ o ∈ ops, onPathOf q (inv o) x = false := by
  rw [List.mem_filter]
  simp only [Bool.not_eq_eq_eq_not, Bool.not_true, List.any_eq_false, Bool.not_eq_true]

theorem filter_offOps_cons_sub (X : List (ScqId × List Nat)) (q : ScqId) (inv : Nat → List Nat) (o : Nat) (rest : List Nat) :
    ∀ x ∈ (offPath X q (inv o)).filter (fun x => !rest.any (fun o => onPathOf q (inv o) x)),
      x ∈ X.filter (fun x => !(o :: rest).any (fun o => onPathOf q (inv o) x)) := by
  intro x hx
  rw [mem_filter_offOps] at hx ⊢
  obtain ⟨hx1, hx2⟩ := hx
  unfold offPath at hx1
  rw [List.mem_filter] at hx1
  refine ⟨hx1.1, ?_⟩
  intro o' ho'
  rcases List.mem_cons.mp ho' with e | e
  · subst e; simpa using hx1.2
  · exact hx2 o' e

/-- `for o in ops { incrementExecutingWorkersCount(inv o, k) }`; afterwards no invocation on the path of
one of the operations is exempt -/
theorem incOps_ok (h : TreeOK X ns E I Q P) (lg : Bool) (pr : Nat → Int) (q : ScqId) (inv : Nat → List Nat) (k : WKey) (now : Nat) (ops : List Nat)
    (hn : ∀ o ∈ ops, (node? ns q (inv o)).isSome = true) :
    TreeOK (X.filter (fun x => !ops.any (fun o => onPathOf q (inv o) x)))
      (ops.foldl (fun ns o => incExecR lg pr ns q (inv o) k now) ns)
      (ops.map (fun o => (q, inv o, k)) ++ E) I Q P := by
  induction ops generalizing X ns E with
  | nil => exact h.exempt_more _ (fun x hx => mem_filter_offOps.mpr ⟨hx, fun o ho => nomatch ho⟩)
  | cons o rest ih =>
    have h1 := incExecR_ok h lg pr q (inv o) k now (hn o List.mem_cons_self)
    have h2 := ih h1 (fun o' ho' => by rw [incExecR_isSome]; exact hn o' (List.mem_cons_of_mem _ ho'))
    rw [List.foldl_cons, List.map_cons, List.cons_append]
    exact (h2.congr List.perm_middle (List.Perm.refl _) (fun _ => Iff.rfl) (fun _ => Iff.rfl)).exempt_more _
      (filter_offOps_cons_sub X q inv o rest)

/-- `for o in ops { decrementExecutingWorkersCount(inv o, k) }` when nothing is exempt -/
theorem decOps_ok (lg : Bool) (pr : Nat → Int) (q : ScqId) (inv : Nat → List Nat) (k : WKey) (now : Nat) (ops : List Nat) :
    ∀ {ns : List Node}, TreeOK [] ns (ops.map (fun o => (q, inv o, k)) ++ E) I Q P →
      TreeOK [] (ops.foldl (fun ns o => decExecR lg pr ns q (inv o) k now) ns) E I Q P := by
  induction ops with
  | nil => intro ns h; simpa using h
  | cons o rest ih =>
    intro ns h
    rw [List.map_cons, List.cons_append] at h
    have h1 := decExecR_ok h lg pr q (inv o) k now List.mem_cons_self (fun x hx => by cases hx)
    rw [List.erase_cons_head] at h1
    rw [List.foldl_cons]
    exact ih h1

/-- `for o in ops { o.enqueue() }` -/
theorem enqOps_ok (h : TreeOK X ns E I Q P) (prioOf : Nat → Int) (q : ScqId) (inv : Nat → List Nat) (ops : List Nat)
    (hn : ∀ o ∈ ops, (node? ns q (inv o)).isSome = true) (hnd : ops.Nodup) (hq : ∀ o ∈ ops, (q, inv o, o) ∉ Q) :
    TreeOK (X.filter (fun x => !ops.any (fun o => onPathOf q (inv o) x)))
      (ops.foldl (fun ns o => enqueueOp prioOf ns q (inv o) o) ns)
      E I (ops.map (fun o => (q, inv o, o)) ++ Q) P := by
  induction ops generalizing X ns Q with
  | nil => exact h.exempt_more _ (fun x hx => mem_filter_offOps.mpr ⟨hx, fun o ho => nomatch ho⟩)
  | cons o rest ih =>
    rw [List.nodup_cons] at hnd
    have h1 := enqueueOp_ok h prioOf q (inv o) o (hn o List.mem_cons_self) (hq o List.mem_cons_self)
    have h2 := ih h1 (fun o' ho' => by rw [enqueueOp_isSome]; exact hn o' (List.mem_cons_of_mem _ ho')) hnd.2
      (fun o' ho' hm => by
        rcases List.mem_cons.mp hm with e | e
        · have : o' = o := by injection e with _ e; injection e
          subst this; exact hnd.1 ho'
        · exact hq o' (List.mem_cons_of_mem _ ho') e)
    rw [List.foldl_cons, List.map_cons, List.cons_append]
    refine (h2.congr (List.Perm.refl _) (List.Perm.refl _) (fun c => ?_) (fun _ => Iff.rfl)).exempt_more _
      (filter_offOps_cons_sub X q inv o rest)
    simp only [List.mem_append, List.mem_cons]
    constructor
    · rintro (a | a | a)
      · exact Or.inr (Or.inl a)
      · exact Or.inl a
      · exact Or.inr (Or.inr a)
    · rintro (a | a | a)
      · exact Or.inr (Or.inl a)
      · exact Or.inl a
      · exact Or.inr (Or.inr a)

/-- `for o in ops { o.removeQueuedFromInvocation() }`: the invocations on the paths become exempt -/
theorem deqOps_ok (h : TreeOK X ns E I Q P) (prioOf : Nat → Int) (q : ScqId) (inv : Nat → List Nat) (ops : List Nat)
    (hQ : Q.Nodup) (hnd : ops.Nodup) (hq : ∀ o ∈ ops, (q, inv o, o) ∈ Q) :
    TreeOK (X ++ ops.flatMap (fun o => (prefixes (inv o)).map (fun pi => (q, pi))))
      (ops.foldl (fun ns o => removeQueuedOp prioOf ns q (inv o) o) ns)
      E I (Q.filter (fun c => !(ops.map (fun o => (q, inv o, o))).contains c)) P := by
  induction ops generalizing X ns Q with
  | nil =>
    refine (h.congr (List.Perm.refl _) (List.Perm.refl _) (fun c => ?_) (fun _ => Iff.rfl)).exempt_more _
      (fun x hx => by simpa using hx)
    simp
  | cons o rest ih =>
    rw [List.nodup_cons] at hnd
    have hne : ∀ o' ∈ rest, (q, inv o', o') ≠ (q, inv o, o) := by
      intro o' ho' e
      have : o' = o := by injection e with _ e; injection e
      subst this; exact hnd.1 ho'
    have h1 := removeQueuedOp_ok h prioOf q (inv o) o (hq o List.mem_cons_self)
      (fun hm => (hQ.mem_erase_iff.mp hm).1 rfl)
    have h2 := ih h1 (hQ.erase _) hnd.2
      (fun o' ho' => hQ.mem_erase_iff.mpr ⟨hne o' ho', hq o' (List.mem_cons_of_mem _ ho')⟩)
    rw [List.foldl_cons, List.flatMap_cons, ← List.append_assoc]
    refine h2.congr (List.Perm.refl _) (List.Perm.refl _) (fun c => ?_) (fun _ => Iff.rfl)
    simp only [List.mem_filter, hQ.mem_erase_iff, List.map_cons, List.contains_cons, Bool.not_or,
      Bool.and_eq_true, Bool.not_eq_eq_eq_not, Bool.not_true, beq_eq_false_iff_ne, ne_eq]
    constructor
    · rintro ⟨⟨a, b⟩, c'⟩; exact ⟨b, a, c'⟩
    · rintro ⟨b, a, c'⟩; exact ⟨⟨a, b⟩, c'⟩

/-- `for o in ops { getOrCreateInvocation(inv o) }` -/
theorem createOps_ok (h : TreeOK X ns E I Q P) (q : ScqId) (inv : Nat → List Nat) (now : Nat) (ops : List Nat)
    (hroot : (node? ns q []).isSome = true) :
    TreeOK (X ++ ops.flatMap (fun o => (prefixes (inv o)).map (fun pi => (q, pi))))
      (ops.foldl (fun ns o => getOrCreate ns q (inv o) now) ns) E I Q P ∧
    (∀ o ∈ ops, (node? (ops.foldl (fun ns o => getOrCreate ns q (inv o) now) ns) q (inv o)).isSome = true) ∧
    (∀ q' p' n, node? ns q' p' = some n → node? (ops.foldl (fun ns o => getOrCreate ns q (inv o) now) ns) q' p' = some n) := by
  induction ops generalizing X ns with
  | nil =>
    refine ⟨by simpa using h, fun o ho => (nomatch ho), fun _ _ _ hn => hn⟩
  | cons o rest ih =>
    have h1 := getOrCreate_ok h q (inv o) now hroot
    have hroot1 : (node? (getOrCreate ns q (inv o) now) q []).isSome = true :=
      getOrCreate_exists ns q (inv o) now hroot [] (List.nil_prefix)
    obtain ⟨a, b, c⟩ := ih h1 hroot1
    rw [List.foldl_cons, List.flatMap_cons, ← List.append_assoc]
    refine ⟨a, ?_, ?_⟩
    · intro o' ho'
      rcases List.mem_cons.mp ho' with e | e
      · subst e
        have hs := getOrCreate_exists ns q (inv o') now hroot (inv o') (List.prefix_refl _)
        cases hn : node? (getOrCreate ns q (inv o') now) q (inv o') with
        | none => rw [hn] at hs; cases hs
        | some n => rw [c _ _ _ hn]; rfl
      · exact b o' e
    · intro q' p' n hn
      exact c _ _ _ (getOrCreate_mono ns q (inv o) now q' p' n hn)

end BbRe.Lemmas.SchedTree
