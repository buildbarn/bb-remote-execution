import BbRe.Lemmas.SchedLiveWaitersExact
/-!
The executable `quiesce` (C06): cancel every parked stream, return every blocked
`Synchronize` and `TerminateWorkers` call, then let time pass beyond every
deadline until the cleanup queue is empty.
-/
namespace BbRe.Lemmas.SchedLive
open BbRe.Sched

/-! ### what `enter` does to the worker list and to the number of objects -/

/-- every worker after was there before, with the same `inSync` flag -/
def WSub (s s' : State) : Prop :=
  ∀ wk' ∈ s'.workers, ∃ wk ∈ s.workers, wkey wk = wkey wk' ∧ wk.inSync = wk'.inSync

theorem WSub.refl (s : State) : WSub s s := fun wk h => ⟨wk, h, rfl, rfl⟩
theorem WSub.trans {a b c : State} (h1 : WSub a b) (h2 : WSub b c) : WSub a c := by
  intro wk' hm
  obtain ⟨wb, hb, e1, e2⟩ := h2 wk' hm
  obtain ⟨wa, ha, e3, e4⟩ := h1 wb hb
  exact ⟨wa, ha, e3.trans e1, e4.trans e2⟩
theorem WSub.of_eq {s s' : State} (h : s'.workers = s.workers) : WSub s s' := fun wk hm => ⟨wk, h ▸ hm, rfl, rfl⟩

theorem detachW_wsub (s : State) (t : Task) : WSub s (detachW s t) := by
  unfold detachW
  split
  · split
    · rename_i q w wk hwk
      intro x hx
      rcases mem_setWorker hx with rfl | ⟨hx1, _⟩
      · exact ⟨wk, (worker?_mem hwk).1, rfl, rfl⟩
      · exact ⟨x, hx1, rfl, rfl⟩
    · exact WSub.refl _
  · exact WSub.refl _

theorem IPrim.wsub {a b : State} (p : IPrim CleanupMade False a b) : WSub a b := by
  cases p with
  | now | pop | eraseOp => exact WSub.of_eq rfl
  | dropOpT | dropScq | learner => exact WSub.of_eq (by simp)
  | dropWorker _ q w rt => exact fun x hx => ⟨x, (mem_filterWorkers.1 (dropWorker_workers a q w rt ▸ hx)).1, rfl, rfl⟩
  | @final _ _ _ t => exact (detachW_wsub a t).trans (WSub.of_eq (by simp))
  | bg _ _ _ hp hs => exact absurd hs hp.2
  | retry hb => exact hb.elim

theorem enter_wsub {h : Hints} {s s' : State} {t : Nat} (hh : enter h s t = .ok s') : WSub s s' :=
  (enter_path hh).rel WSub WSub.refl WSub.trans IPrim.wsub

/-- the cleanup loop never creates an object, and removes one whenever something is due -/
theorem runCleanup_objCount {h : Hints} (f : Nat) (s s' : State) (hi : KWC noEx s) (hh : runCleanup h f s = .ok s') :
    objCount s' ≤ objCount s ∧ (0 < f → popDue s.now s.cleanup ≠ none → objCount s' < objCount s) := by
  induction f generalizing s with
  | zero => rw [runCleanup_zero, pure_ok] at hh; subst hh; exact ⟨Nat.le_refl _, fun h => absurd h (Nat.lt_irrefl 0)⟩
  | succ f ih =>
    rw [runCleanup_succ] at hh
    cases hp : popDue s.now s.cleanup with
    | none => simp only [hp, pure_ok] at hh; subst hh; exact ⟨Nat.le_refl _, fun _ hne => absurd rfl hne⟩
    | some p =>
      obtain ⟨e, rest⟩ := p
      simp only [hp, bind_ok] at hh
      obtain ⟨s1, h1, h2⟩ := hh
      have hi1 := callback_kwc hi hp h1
      obtain ⟨hd, _⟩ := callback_decreases hi hp h1
      obtain ⟨a, _⟩ := ih s1 hi1 h2
      exact ⟨by omega, fun _ _ => by omega⟩

/-- hints used by the quiescing segments (they never schedule anything, so the hints are irrelevant) -/
def qh : Hints := ⟨[], 0, none, false⟩

def cancelSegs (n : Nat) (cs : List Nat) : List Seg := cs.map (fun c => .streamWake qh n c 2)
def syncSegs (n : Nat) (ks : List (ScqId × WId)) : List Seg := ks.map (fun k => .syncWake qh n k.1 k.2 2)
def termSegs (ids : List Nat) : List Seg := ids.map (fun i => .termWake i 2)

/-- a time beyond every armed deadline -/
def maxDeadline (s : State) : Nat := s.cleanup.foldl (fun m e => max m e.deadline) s.now

/-- let time pass beyond all deadlines, repeatedly (callbacks arm new entries) -/
def drain : Nat → State → State
  | 0, s => s
  | f + 1, s => if s.cleanup.isEmpty then s else drain f (run s [.touch qh (maxDeadline s + 1)])

/-- **quiesce**: all clients cancel, all workers and operators go away, and time passes. -/
def quiesce (s : State) : State :=
  let a := run s (cancelSegs s.now (s.streams.map (·.client)))
  let b := run a (syncSegs a.now (a.workers.map wkey))
  let c := run b (termSegs (b.terms.map (·.id)))
  drain (objCount c + 1) c

theorem run_single (s : State) (g : Seg) :
    run s [g] = match step s g with | .ok s' => s' | .error _ => s := by
  cases hs : step s g with
  | ok s1 => simp [run, hs]
  | error e => simp [run, hs]

theorem run_cons (s : State) (g : Seg) (gs : List Seg) : run s (g :: gs) = run (run s [g]) gs := by
  cases hs : step s g with
  | ok s1 => simp [run, hs]
  | error e => simp [run, hs]

/-- reachable, exact waiter counts, one stream per client -/
structure QS (s : State) : Prop where
  reach : Reachable s
  weq : WEq s
  nodup : ClientsNodup s

theorem qs_run {s : State} (h : QS s) (gs : List Seg) (hg : usedClients gs = []) : QS (run s gs) := by
  have h0 : QI (s.streams.map (·.client)) s :=
    ⟨h.reach, h.weq, h.nodup, fun st hm => List.mem_map.2 ⟨st, hm, rfl⟩⟩
  have := qi_run gs _ s h0 (by rw [hg]; exact List.nodup_nil) (by rw [hg]; intro c hc; cases hc)
  exact ⟨this.reach, this.weq, this.nodup⟩

theorem usedClients_of_none (gs : List Seg) (h : ∀ g ∈ gs, attachClient g = none) : usedClients gs = [] := by
  unfold usedClients
  rw [List.filterMap_eq_nil_iff]; exact h

/-! ### phase A: cancel all streams -/

theorem cancel_one {s : State} (hs : Reachable s) (c : Nat) :
    (run s [.streamWake qh s.now c 2]).streams = s.streams.filter (fun st => st.client ≠ c) ∧
    (run s [.streamWake qh s.now c 2]).now = s.now := by
  rw [run_single]
  cases hf : s.streams.find? (fun x => x.client = c) with
  | some st =>
    obtain ⟨op, _, _, e⟩ := streamWake_cancel hs qh hf
    rw [e]; exact ⟨by simp, by simp⟩
  | none =>
    have hnone : s.streams.filter (fun st => st.client ≠ c) = s.streams := by
      rw [List.filter_eq_self]
      rw [List.find?_eq_none] at hf
      intro st hm; simpa using hf st hm
    cases hst : step s (.streamWake qh s.now c 2) with
    | error e => exact ⟨hnone.symm, rfl⟩
    | ok s' =>
      obtain ⟨s1, st, h1, h2, _⟩ := streamWake_ok hst
      rw [enter_now] at h1; injection h1 with h1
      subst h1; rw [hf] at h2; cases h2

theorem cancel_all (n : Nat) : ∀ (cs : List Nat) (s : State), Reachable s → s.now = n →
    (run s (cancelSegs n cs)).streams = s.streams.filter (fun st => st.client ∉ cs) ∧
    (run s (cancelSegs n cs)).now = n := by
  intro cs
  induction cs with
  | nil => intro s _ hn; simp [cancelSegs, run, hn]; rw [List.filter_eq_self.2 (fun _ _ => rfl)]
  | cons c r ih =>
    intro s hs hn
    have hc : cancelSegs n (c :: r) = .streamWake qh n c 2 :: cancelSegs n r := rfl
    rw [hc, run_cons]
    subst hn
    obtain ⟨a, b⟩ := cancel_one hs c
    obtain ⟨a2, b2⟩ := ih _ (reachable_run hs _) b
    refine ⟨?_, b2⟩
    rw [a2, a, List.filter_filter]
    apply List.filter_congr
    intro st _; simp [Bool.and_comm]

/-! ### phase B: return all blocked `Synchronize` calls -/

theorem sync_one (s : State) (hn : (s.workers.map wkey).Nodup) (q : ScqId) (w : WId) :
    let s1 := run s [.syncWake qh s.now q w 2]
    s1.streams = s.streams ∧ s1.terms = s.terms ∧ s1.now = s.now ∧
    (∀ x' ∈ s1.workers, x'.inSync = true →
      ¬ (x'.scq = q ∧ x'.id = w) ∧ ∃ x ∈ s.workers, wkey x = wkey x' ∧ x.inSync = true) := by
  simp only
  rw [run_single]
  cases hst : step s (.syncWake qh s.now q w 2) with
  | error e =>
    refine ⟨rfl, rfl, rfl, ?_⟩
    intro x' hx' hi
    refine ⟨?_, x', hx', rfl, hi⟩
    rintro ⟨e1, e2⟩
    -- then the cancel would have succeeded
    have hex : ∃ wk, s.worker? q w = some wk := by
      cases hf : s.worker? q w with
      | some wk => exact ⟨wk, rfl⟩
      | none =>
        unfold State.worker? at hf
        rw [List.find?_eq_none] at hf
        exact absurd (by simp [e1, e2]) (hf x' hx')
    obtain ⟨wk, hwk⟩ := hex
    have : x' = wk := eq_of_wkey hn hx' (worker?_mem hwk).1 (by
      obtain ⟨_, a, b⟩ := worker?_mem hwk; simp [wkey, e1, e2, a, b])
    subst this
    have := syncWake_cancel s qh hwk hi
    rw [hst] at this; cases this
  | ok s' =>
    obtain ⟨s1, wk, h1, hwk, hin, h2⟩ := syncWake_ok (show syncWake qh s s.now q w 2 = .ok s' from hst)
    rw [enter_now] at h1; injection h1 with h1; subst h1
    have e := syncWake_cancel s qh hwk hin
    rw [hst] at e; injection e with e; subst e
    obtain ⟨hm, hq, hw'⟩ := worker?_mem hwk
    let wA : Worker := { wk with parked := false, woken := false, drainWait := none }
    have hA : (emit (s.setWorker wA) (.syncErr q w cCanceled)).worker? q w = some wA := by
      show (s.setWorker wA).worker? q w = some wA
      rw [worker?_setWorker]; simp only [wA, hq, hw', and_self, if_true, hwk, Option.map_some]
    refine ⟨by simp, by simp, by simp, ?_⟩
    intro x' hx' hi
    unfold syncReturn at hx'
    rw [hA] at hx'
    simp only [addCleanup_workers] at hx'
    rcases mem_setWorker hx' with rfl | ⟨hx1, hne1⟩
    · cases hi
    · have hx1' : x' ∈ (s.setWorker wA).workers := hx1
      rcases mem_setWorker hx1' with rfl | ⟨hx2, hne2⟩
      · exact absurd (by simp [wkey, wA]) hne1
      · refine ⟨?_, x', hx2, rfl, hi⟩
        rintro ⟨a, b⟩; exact hne2 (by simp [wkey, wA, a, b, hq, hw'])

theorem sync_all (n : Nat) : ∀ (ks : List (ScqId × WId)) (s : State), Reachable s → s.now = n →
    (run s (syncSegs n ks)).streams = s.streams ∧ (run s (syncSegs n ks)).terms = s.terms ∧
    (run s (syncSegs n ks)).now = n ∧
    (∀ x' ∈ (run s (syncSegs n ks)).workers, x'.inSync = true →
      wkey x' ∉ ks ∧ ∃ x ∈ s.workers, wkey x = wkey x' ∧ x.inSync = true) := by
  intro ks
  induction ks with
  | nil => intro s _ hn; exact ⟨rfl, rfl, hn, fun x' hx' hi => ⟨by simp, x', hx', rfl, hi⟩⟩
  | cons k r ih =>
    intro s hs hn
    have hc : syncSegs n (k :: r) = .syncWake qh n k.1 k.2 2 :: syncSegs n r := rfl
    rw [hc, run_cons]
    subst hn
    obtain ⟨a1, a2, a3, a4⟩ := sync_one s (winv_reachable hs).uniq k.1 k.2
    obtain ⟨b1, b2, b3, b4⟩ := ih _ (reachable_run hs _) a3
    refine ⟨b1.trans a1, b2.trans a2, b3, ?_⟩
    intro x' hx' hi
    obtain ⟨c1, x1, hx1, e1, i1⟩ := b4 x' hx' hi
    obtain ⟨d1, x0, hx0, e0, i0⟩ := a4 x1 hx1 i1
    refine ⟨?_, x0, hx0, e0.trans e1, i0⟩
    intro hmem
    rcases List.mem_cons.1 hmem with h | h
    · apply d1; rw [← e1] at h
      exact ⟨congrArg Prod.fst h, congrArg Prod.snd h⟩
    · exact c1 h

/-- waking every worker leaves none inside `Synchronize`; streams and blocked operator calls are untouched -/
theorem sync_all_out {s : State} (hs : Reachable s) :
    let b := run s (syncSegs s.now (s.workers.map wkey))
    b.streams = s.streams ∧ b.terms = s.terms ∧ ∀ wk ∈ b.workers, wk.inSync = false := by
  obtain ⟨b1, b2, _, b4⟩ := sync_all s.now (s.workers.map wkey) s hs rfl
  refine ⟨b1, b2, fun wk hm => ?_⟩
  cases hi : wk.inSync with
  | false => rfl
  | true =>
    obtain ⟨hnot, x, hx, e, _⟩ := b4 wk hm hi
    exact absurd (e ▸ List.mem_map.2 ⟨x, hx, rfl⟩) hnot

/-! ### phase C: return all blocked `TerminateWorkers` calls -/

theorem term_one (s : State) (id : Nat) :
    (run s [.termWake id 2]).terms = s.terms.filter (fun t => t.id ≠ id) ∧
    (run s [.termWake id 2]).streams = s.streams ∧ (run s [.termWake id 2]).workers = s.workers ∧
    (run s [.termWake id 2]).now = s.now := by
  rw [run_single]
  cases hf : s.terms.find? (fun t => t.id = id) with
  | some tc => rw [termWake_cancel s hf]; exact ⟨rfl, rfl, rfl, rfl⟩
  | none =>
    have hnone : s.terms.filter (fun t => t.id ≠ id) = s.terms := by
      rw [List.filter_eq_self]; rw [List.find?_eq_none] at hf
      intro t hm; simpa using hf t hm
    cases hst : step s (.termWake id 2) with
    | error e => exact ⟨hnone.symm, rfl, rfl, rfl⟩
    | ok s' =>
      obtain ⟨tc, h1, _⟩ := termWake_ok (show termWake s id 2 = .ok s' from hst)
      rw [hf] at h1; cases h1

theorem term_all : ∀ (ids : List Nat) (s : State),
    (run s (termSegs ids)).terms = s.terms.filter (fun t => t.id ∉ ids) ∧
    (run s (termSegs ids)).streams = s.streams ∧ (run s (termSegs ids)).workers = s.workers ∧
    (run s (termSegs ids)).now = s.now := by
  intro ids
  induction ids with
  | nil => intro s; simp [termSegs, run]; rw [List.filter_eq_self.2 (fun _ _ => rfl)]
  | cons i r ih =>
    intro s
    have hc : termSegs (i :: r) = .termWake i 2 :: termSegs r := rfl
    rw [hc, run_cons]
    obtain ⟨a1, a2, a3, a4⟩ := term_one s i
    obtain ⟨b1, b2, b3, b4⟩ := ih (run s [.termWake i 2])
    refine ⟨?_, b2.trans a2, b3.trans a3, b4.trans a4⟩
    rw [b1, a1, List.filter_filter]
    apply List.filter_congr
    intro t _; simp [Bool.and_comm]

/-! ### phase D: let time pass -/

theorem foldl_max_ge {α} (f : α → Nat) (l : List α) (init : Nat) :
    init ≤ l.foldl (fun m e => max m (f e)) init ∧ ∀ e ∈ l, f e ≤ l.foldl (fun m e => max m (f e)) init := by
  induction l generalizing init with
  | nil => simp
  | cons a r ih =>
    simp only [List.foldl_cons]
    obtain ⟨h1, h2⟩ := ih (max init (f a))
    refine ⟨by omega, ?_⟩
    intro e he
    rcases List.mem_cons.1 he with rfl | he
    · omega
    · exact h2 e he

theorem maxDeadline_spec (s : State) : s.now ≤ maxDeadline s ∧ ∀ e ∈ s.cleanup, e.deadline ≤ maxDeadline s :=
  foldl_max_ge (fun e : CleanupEntry => e.deadline) s.cleanup s.now

theorem drain_round {s : State} (hs : Reachable s) (hne : s.cleanup ≠ []) :
    let s1 := run s [.touch qh (maxDeadline s + 1)]
    Reachable s1 ∧ objCount s1 < objCount s ∧ s1.streams = s.streams ∧ s1.terms = s.terms ∧ WSub s s1 := by
  simp only
  obtain ⟨hnow, hdl⟩ := maxDeadline_spec s
  obtain ⟨s1, hst, hrun⟩ := touch_ok hs qh (maxDeadline s + 1)
  have hent : enter qh s (maxDeadline s + 1) = .ok s1 := hst
  rw [hrun]
  refine ⟨Reachable.step _ hs hst, ?_, (enter_frame hent).streams, (enter_frame hent).terms, enter_wsub hent⟩
  rcases enter_ok hent with ⟨hle, _⟩ | ⟨_, h1⟩
  · omega
  · obtain ⟨_, hlt⟩ := runCleanup_objCount (cleanupFuel s) _ _ (kwc_reachable hs).same h1
    have hdue : popDue (setNow s (maxDeadline s + 1)).now (setNow s (maxDeadline s + 1)).cleanup ≠ none := by
      intro hnone
      obtain ⟨e, he⟩ := List.exists_mem_of_ne_nil _ hne
      have h1' := popDue_none.1 hnone e he
      have h2' := hdl e he
      simp only [setNow_now] at h1'
      omega
    have := hlt (by unfold cleanupFuel; omega) hdue
    simpa [objCount] using this

theorem drain_spec : ∀ (f : Nat) (s : State), Reachable s → objCount s < f →
    Reachable (drain f s) ∧ (drain f s).cleanup = [] ∧ (drain f s).streams = s.streams ∧ (drain f s).terms = s.terms ∧
    WSub s (drain f s) := by
  intro f
  induction f with
  | zero => intro s _ h; omega
  | succ f ih =>
    intro s hq hlt
    unfold drain
    by_cases he : s.cleanup.isEmpty = true
    · rw [if_pos he]
      exact ⟨hq, List.isEmpty_iff.1 he, rfl, rfl, WSub.refl s⟩
    · rw [if_neg he]
      have hne : s.cleanup ≠ [] := fun e => he (by rw [e]; rfl)
      obtain ⟨q1, c1, st1, t1, w1⟩ := drain_round hq hne
      obtain ⟨q2, c2, st2, t2, w2⟩ := ih _ q1 (by omega)
      exact ⟨q2, c2, st2.trans st1, t2.trans t1, w1.trans w2⟩

theorem drain_qs : ∀ (f : Nat) (s : State), QS s → QS (drain f s) := by
  intro f
  induction f with
  | zero => exact fun _ h => h
  | succ f ih =>
    intro s h
    unfold drain
    split
    · exact h
    · exact ih _ (qs_run h _ rfl)

end BbRe.Lemmas.SchedLive
