import BbRe.Lemmas.SchedTreePrioPrim
import BbRe.Lemmas.SchedTreeRefine
import BbRe.Lemmas.SchedInvAList
/-!
`PrioOK` and the tree-only updates of `TState`: every update except `setOX` / `dropOX` keeps it; these two keep
it when the operation is in no `queuedOperations`.
-/
namespace BbRe.Lemmas.SchedTree
open BbRe.Sched BbRe.SchedTree BbRe.Lemmas.SchedInv

/-- `firstQueuedOperationPriority` of a non-root invocation that has queued operations of its own is the least
priority among them (`updateFirstOperationPriority`: `i.firstQueuedOperationPriority = i.queuedOperations[0].priority`) -/
def PrioOK (ts : TState) : Prop :=
  ∀ n ∈ ts.nodes, n.path ≠ [] → n.qops ≠ [] → n.prio = minPrio (n.qops.map ts.prioOf)

theorem prioOK_iff (ts : TState) : PrioOK ts ↔ NAll (NodeOK ts.prioOf) ts.nodes := Iff.rfl

/-- every queued operation has a name below `b` -/
def QB (b : Nat) (ts : TState) : Prop := NAll (QIn (· < b)) ts.nodes

/-- `PrioOK` only looks at the nodes and the operation table -/
theorem PrioOK.of_eq {ts ts' : TState} (h : PrioOK ts) (hn : ts'.nodes = ts.nodes) (hox : ts'.ox = ts.ox) : PrioOK ts' := by
  unfold PrioOK TState.prioOf at h ⊢
  rw [hn, hox]; exact h

theorem QB.of_eq {b : Nat} {ts ts' : TState} (h : QB b ts) (hn : ts'.nodes = ts.nodes) : QB b ts' := by
  unfold QB at h ⊢
  rw [hn]; exact h

/-! ### compound updates, for any predicate on `TState` that the updates they are made of keep -/

section closed
variable {J : TState → Prop} {ts : TState}

theorem tTerminateOne_keeps (hS : ∀ ts s, J ts → J (ts.setS s)) (hW : ∀ ts w, J ts → J (tWake ts w)) (w : Worker)
    (h : J ts) : J (tTerminateOne ts w) := by
  unfold BbRe.SchedTree.tTerminateOne
  split
  · dsimp only
    split
    · split
      · exact hW _ _ (hS _ _ h)
      · exact hS _ _ h
    · exact hS _ _ h
  · exact h

theorem detachTree_keeps (hI : ∀ ts t k, J ts → J (ts.incOps t k)) (hD : ∀ ts t k, J ts → J (ts.decOps t k))
    (hQ : ∀ ts t, J ts → J (ts.deqOps t)) (hL : ∀ ts tq q w p, J ts → J (ts.setLast tq q w p)) (t : Task) (bw : Bool)
    (h : J ts) : J (ts.detachTree t bw) := by
  unfold TState.detachTree
  split
  · exact hD _ _ _ (hQ _ _ (hI _ _ _ h))
  · exact hD _ _ _ (hL _ _ _ _ _ h)

end closed

/-- the priority of another operation does not change with the table entry of `o` -/
theorem prioOf_setOX_ne (ts : TState) {o o' : Nat} (y : OX) (hne : o ≠ o') : (ts.setOX o y).prioOf o' = ts.prioOf o' := by
  show (match alookup o' (aset o y ts.ox) with | some x => x.prio | none => 0) =
    (match alookup o' ts.ox with | some x => x.prio | none => 0)
  rw [alookup_aset, if_neg hne]

theorem prioOf_dropOX_ne (ts : TState) {o o' : Nat} (hne : o ≠ o') : (ts.dropOX o).prioOf o' = ts.prioOf o' := by
  show (match alookup o' (aerase o ts.ox) with | some x => x.prio | none => 0) =
    (match alookup o' ts.ox with | some x => x.prio | none => 0)
  rw [alookup_aerase_ne _ _ _ hne]

/-! ### node predicates and the updates that do not touch `qops` / `prio` -/

section generic
variable {P : Node → Prop} {ts : TState}

theorem unparkTree_nall (hP : QP P) (h : NAll P ts.nodes) (q : ScqId) (w : WId) : NAll P (ts.unparkTree q w).nodes := by
  show NAll P (match ts.lastOf q w with | some p => dequeueW ts.nodes q p w | none => ts.nodes)
  split
  · exact h.dequeueW hP _ _ _
  · exact h

theorem parkTree_nall (hP : QP P) (h : NAll P ts.nodes) (q : ScqId) (w : WId) : NAll P (ts.parkTree q w).nodes := by
  show NAll P (match ts.lastOf q w with | some p => parkW ts.nodes q p w | none => ts.nodes)
  split
  · exact h.parkW hP _ _ _
  · exact h

theorem incOps_nall (hP : QP P) (hR : RP ts.prioOf P) (h : NAll P ts.nodes) (t : Task) (k : WKey) : NAll P (ts.incOps t k).nodes :=
  NAll.foldl _ (fun _ _ hb => hb.incExecR hP hR _ _ _ _ _) _ _ h

theorem decOps_nall (hP : QP P) (hR : RP ts.prioOf P) (h : NAll P ts.nodes) (t : Task) (k : WKey) : NAll P (ts.decOps t k).nodes :=
  NAll.foldl _ (fun _ _ hb => hb.decExecR hP hR _ _ _ _ _) _ _ h

theorem clearLast_nall (hP : QP P) (h : NAll P ts.nodes) (q : ScqId) (w : WId) : NAll P (ts.clearLast q w).nodes := by
  show NAll P (match ts.lastOf q w with | some p => clearLastN ts.nodes q p | none => ts.nodes)
  split
  · exact h.clearLastN hP _ _
  · exact h

theorem setLast_nall (hP : QP P) (h : NAll P ts.nodes) (tq q : ScqId) (w : WId) (p : List Nat) :
    NAll P (ts.setLast tq q w p).nodes := h.setLastN hP _ _

theorem createOps_nall (hP : QP P) (h : NAll P ts.nodes) (t : Task) : NAll P (ts.createOps t).nodes :=
  NAll.foldl _ (fun _ _ hb => hb.getOrCreate hP _ _ _) _ _ h

theorem create_nall (hP : QP P) (h : NAll P ts.nodes) (q : ScqId) (p : List Nat) : NAll P (ts.create q p).nodes :=
  h.getOrCreate hP _ _ _

theorem assignTree_nall (hP : QP P) (hR : RP ts.prioOf P) (h : NAll P ts.nodes) (w : Worker) (t : Task) (r : Nat) :
    NAll P (ts.assignTree w t r).nodes :=
  clearLast_nall hP (incOps_nall hP hR h t (some w.id)) w.scq w.id

theorem dropScqTree_nall (h : NAll P ts.nodes) (q : ScqId) : NAll P (ts.dropScqTree q).nodes := h.filter _

theorem dropWorkerTree_nall (hP : QP P) (h : NAll P ts.nodes) (q : ScqId) (w : WId) :
    NAll P (ts.dropWorkerTree q w).nodes := clearLast_nall hP h q w

theorem addScqTree_nall (hP : QP P) (h : NAll P ts.nodes) (q : ScqId) : NAll P (ts.addScqTree q).nodes :=
  h.append (NAll.mkNode hP _ _ _)

theorem addWorkerTree_nall (hP : QP P) (h : NAll P ts.nodes) (q : ScqId) (w : WId) :
    NAll P (ts.addWorkerTree q w).nodes := h.setLastN hP _ _

theorem maybeDequeue_nall (hP : QP P) (h : NAll P ts.nodes) (wk : Worker) : NAll P (ts.maybeDequeue wk).nodes := by
  unfold TState.maybeDequeue
  split
  · exact unparkTree_nall hP h _ _
  · exact h

theorem tWake_nall (hP : QP P) (h : NAll P ts.nodes) (w : Worker) : NAll P (tWake ts w).nodes :=
  unparkTree_nall hP h _ _

theorem tRegisterPQ_nall (hP : QP P) (h : NAll P ts.nodes) (x : Extras) (id : Nat) (comps : List Nat) (platform : Nat)
    (sizes : List Nat) (bgMax : Nat) (bgPrio : Int) :
    NAll P (tRegisterPQ x ts id comps platform sizes bgMax bgPrio).nodes := by
  refine h.append ?_
  intro n hn
  obtain ⟨sc, _, e⟩ := List.mem_map.mp hn
  subst e
  exact hP.empty _ rfl

end generic

/-! ### the queued operations stay below a bound -/

theorem QB.setS {b : Nat} {ts : TState} (h : QB b ts) (s : State) : QB b (ts.setS s) := h

theorem QB.create {b : Nat} {ts : TState} (h : QB b ts) (q : ScqId) (p : List Nat) : QB b (ts.create q p) :=
  create_nall (qin_qp _) h q p

theorem QB.deqOps {b : Nat} {ts : TState} (h : QB b ts) (t : Task) : QB b (ts.deqOps t) :=
  NAll.foldl _ (fun _ _ hb => removeQueuedOp_qin hb _ _ _) _ _ h

theorem QB.detachTree {b : Nat} {ts : TState} (h : QB b ts) (t : Task) (bw : Bool) : QB b (ts.detachTree t bw) :=
  detachTree_keeps (J := QB b) (fun _ t k h => incOps_nall (qin_qp _) (qin_rp _ _) h t k)
    (fun _ t k h => decOps_nall (qin_qp _) (qin_rp _ _) h t k) (fun _ t h => QB.deqOps h t)
    (fun _ _ _ _ _ h => setLast_nall (qin_qp _) h _ _ _ _) t bw h

theorem QB.mono {b b' : Nat} {ts : TState} (h : QB b ts) (hb : b ≤ b') : QB b' ts :=
  fun n hn o ho => Nat.lt_of_lt_of_le (h n hn o ho) hb

theorem QB.notin {b : Nat} {ts : TState} (h : QB b ts) : ∀ n ∈ ts.nodes, b ∉ n.qops :=
  fun n hn hm => Nat.lt_irrefl _ (h n hn b hm)

/-! ### `PrioOK` and the updates -/

section prio
variable {ts : TState}

theorem PrioOK.setS (s : State) (h : PrioOK ts) : PrioOK (ts.setS s) := h
theorem PrioOK.setSticks (q : ScqId) (w : WId) (r : Nat) (h : PrioOK ts) : PrioOK (ts.setSticks q w r) := h
theorem PrioOK.setTX (t : Nat) (y : TX) (h : PrioOK ts) : PrioOK (ts.setTX t y) := h
theorem PrioOK.dropTX (t : Nat) (h : PrioOK ts) : PrioOK (ts.dropTX t) := h
theorem PrioOK.log (d : Decision) (h : PrioOK ts) : PrioOK (ts.log d) := h
theorem PrioOK.dropLimits (pq : Nat) (h : PrioOK ts) : PrioOK (ts.dropLimits pq) := h

theorem PrioOK.unparkTree (q : ScqId) (w : WId) (h : PrioOK ts) : PrioOK (ts.unparkTree q w) :=
  unparkTree_nall (nodeOK_qp _) h q w
theorem PrioOK.parkTree (q : ScqId) (w : WId) (h : PrioOK ts) : PrioOK (ts.parkTree q w) :=
  parkTree_nall (nodeOK_qp _) h q w
theorem PrioOK.incOps (t : Task) (k : WKey) (h : PrioOK ts) : PrioOK (ts.incOps t k) :=
  incOps_nall (nodeOK_qp _) (nodeOK_rp _) h t k
theorem PrioOK.decOps (t : Task) (k : WKey) (h : PrioOK ts) : PrioOK (ts.decOps t k) :=
  decOps_nall (nodeOK_qp _) (nodeOK_rp _) h t k
theorem PrioOK.clearLast (q : ScqId) (w : WId) (h : PrioOK ts) : PrioOK (ts.clearLast q w) :=
  clearLast_nall (nodeOK_qp _) h q w
theorem PrioOK.setLast (tq q : ScqId) (w : WId) (p : List Nat) (h : PrioOK ts) : PrioOK (ts.setLast tq q w p) :=
  setLast_nall (nodeOK_qp _) h tq q w p
theorem PrioOK.createOps (t : Task) (h : PrioOK ts) : PrioOK (ts.createOps t) :=
  createOps_nall (nodeOK_qp _) h t
theorem PrioOK.create (q : ScqId) (p : List Nat) (h : PrioOK ts) : PrioOK (ts.create q p) :=
  create_nall (nodeOK_qp _) h q p
theorem PrioOK.assignTree (w : Worker) (t : Task) (r : Nat) (h : PrioOK ts) : PrioOK (ts.assignTree w t r) :=
  assignTree_nall (nodeOK_qp _) (nodeOK_rp _) h w t r
theorem PrioOK.dropScqTree (q : ScqId) (h : PrioOK ts) : PrioOK (ts.dropScqTree q) :=
  dropScqTree_nall h q
theorem PrioOK.dropWorkerTree (q : ScqId) (w : WId) (h : PrioOK ts) : PrioOK (ts.dropWorkerTree q w) :=
  dropWorkerTree_nall (nodeOK_qp _) h q w
theorem PrioOK.addScqTree (q : ScqId) (h : PrioOK ts) : PrioOK (ts.addScqTree q) :=
  addScqTree_nall (nodeOK_qp _) h q
theorem PrioOK.addWorkerTree (q : ScqId) (w : WId) (h : PrioOK ts) : PrioOK (ts.addWorkerTree q w) :=
  addWorkerTree_nall (nodeOK_qp _) h q w
theorem PrioOK.maybeDequeue (wk : Worker) (h : PrioOK ts) : PrioOK (ts.maybeDequeue wk) := by
  have : (ts.maybeDequeue wk).prioOf = ts.prioOf := by unfold TState.maybeDequeue; split <;> rfl
  rw [prioOK_iff, this]
  exact maybeDequeue_nall (nodeOK_qp _) h wk
theorem PrioOK.tWake (w : Worker) (h : PrioOK ts) : PrioOK (tWake ts w) :=
  tWake_nall (nodeOK_qp _) h w
theorem PrioOK.tRegisterPQ (x : Extras) (id : Nat) (comps : List Nat) (platform : Nat)
    (sizes : List Nat) (bgMax : Nat) (bgPrio : Int) (h : PrioOK ts) :
    PrioOK (tRegisterPQ x ts id comps platform sizes bgMax bgPrio) :=
  tRegisterPQ_nall (nodeOK_qp _) h x id comps platform sizes bgMax bgPrio

theorem PrioOK.enqOps (t : Task) (h : PrioOK ts) : PrioOK (ts.enqOps t) :=
  NAll.foldl _ (fun _ _ hb => enqueueOp_prio hb _ _ _) _ _ h

theorem PrioOK.deqOps (t : Task) (h : PrioOK ts) : PrioOK (ts.deqOps t) :=
  NAll.foldl _ (fun _ _ hb => removeQueuedOp_prio hb _ _ _) _ _ h

theorem PrioOK.detachTree (t : Task) (bw : Bool) (h : PrioOK ts) : PrioOK (ts.detachTree t bw) :=
  detachTree_keeps (fun _ t k h => PrioOK.incOps t k h) (fun _ t k h => PrioOK.decOps t k h)
    (fun _ t h => PrioOK.deqOps t h) (fun _ tq q w p h => PrioOK.setLast tq q w p h) t bw h

theorem PrioOK.removeOpTree (t : Task) (o : Nat) (h : PrioOK ts) : PrioOK (ts.removeOpTree t o) := by
  unfold TState.removeOpTree
  split
  · exact h
  · exact NAll.decExecR (P := NodeOK ts.prioOf) h (nodeOK_qp _) (nodeOK_rp _) _ _ _ _ _
  · exact NAll.pruneChain (P := NodeOK ts.prioOf) _ _ (removeQueuedOp_prio h _ _ _)

theorem PrioOK.tTerminateOne (w : Worker) (h : PrioOK ts) : PrioOK (tTerminateOne ts w) :=
  tTerminateOne_keeps (fun _ s h => PrioOK.setS s h) (fun _ w h => PrioOK.tWake w h) w h

/-- the priority of an operation that is in no `queuedOperations` does not matter -/
theorem PrioOK.setOX {o : Nat} (y : OX) (h : PrioOK ts) (ho : ∀ n ∈ ts.nodes, o ∉ n.qops) : PrioOK (ts.setOX o y) := by
  intro n hn hp hq
  rw [h n hn hp hq]
  exact congrArg minPrio (List.map_congr_left fun o' ho' => (prioOf_setOX_ne ts (o := o) (o' := o') y fun e => ho n hn (e ▸ ho')).symm)

theorem PrioOK.dropOX {o : Nat} (h : PrioOK ts) (ho : ∀ n ∈ ts.nodes, o ∉ n.qops) : PrioOK (ts.dropOX o) := by
  intro n hn hp hq
  rw [h n hn hp hq]
  exact congrArg minPrio (List.map_congr_left fun o' ho' => (prioOf_dropOX_ne ts (o := o) (o' := o') fun e => ho n hn (e ▸ ho')).symm)

end prio

end BbRe.Lemmas.SchedTree
