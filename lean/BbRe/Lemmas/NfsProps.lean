import BbRe.Lemmas.NfsInv
import BbRe.Spec.ByteLocks
import BbRe.Lemmas.BRLUnlockAll
/-!
# Consequences of the invariant of `Model/NfsState.lean` (helper lemmas for C18 / C20Nfs)
-/
namespace BbRe.Lemmas.NfsProps
open BbRe.NfsState BbRe.NfsShare BbRe.Lemmas.NfsInv

/-- A record with a holder of `bit` keeps the leaf open for `bit`. -/
theorem held_pos_of_holder (s : State) (h : Inv s) (f : OFile) (hf : f ∈ s.files) (bit : Bool)
    (hh : 0 < holders s f bit) : 1 ≤ heldFiles s f.file bit := by
  unfold heldFiles
  rw [List.one_le_countP_iff]
  refine ⟨f, hf, ?_⟩
  have hc := h.k.counts f hf bit
  simp only [Bool.and_eq_true, beq_self_eq_true, decide_eq_true_eq, true_and]
  omega

theorem holders_pos_of_share (s : State) (f : OFile) (bit : Bool) (hb : f.share.get bit = true) :
    0 < holders s f bit := by
  unfold holders
  simp only [hb, if_true]
  omega

theorem holders_pos_of_lofs (s : State) (f : OFile) (bit : Bool) (l : LOFile) (hl : l ∈ f.lofs)
    (hb : l.share.get bit = true) : 0 < holders s f bit := by
  unfold holders
  have : 0 < f.lofs.countP (fun l => l.share.get bit) := List.countP_pos_iff.2 ⟨l, hl, hb⟩
  omega

theorem holders_pos_of_io (s : State) (f : OFile) (bit : Bool) (io : IOrec) (hio : io ∈ s.ios)
    (hs : io.sid = f.sid) (hb : io.share.get bit = true) : 0 < holders s f bit := by
  unfold holders
  have : 0 < s.ios.countP (fun io => io.sid == f.sid && io.share.get bit) :=
    List.countP_pos_iff.2 ⟨io, hio, by simp [hs, hb]⟩
  omega

/-- opens − closes ≥ 1 while somebody holds the bit on a record of the leaf. -/
theorem open_while_held (s : State) (h : Inv s) (f : OFile) (hf : f ∈ s.files) (bit : Bool)
    (hh : 0 < holders s f bit) : closes s f.file bit + 1 ≤ opens s f.file bit := by
  have h1 := held_pos_of_holder s h f hf bit hh
  have h2 := h.g.ledger f.file bit
  unfold held at h2
  omega

/-! ## lock-owner objects -/

theorem getLO_some (s : State) (cl key : Nat) (lo : LOwner) (h : s.getLO cl key = some lo) :
    lo ∈ s.lowners ∧ lo.cl = cl ∧ lo.key = key := by
  unfold State.getLO at h
  have h1 := List.mem_of_find?_eq_some h
  have h2 := List.find?_some h
  simp only [Bool.and_eq_true, beq_iff_eq] at h2
  exact ⟨h1, h2.1, h2.2⟩

/-- Under `InvL` two registered objects with the same client and owner are the same object. -/
theorem lo_unique (s : State) (h : InvL s) (a b : LOwner) (ha : a ∈ s.lowners) (hb : b ∈ s.lowners)
    (hcl : a.cl = b.cl) (hkey : a.key = b.key) : a = b :=
  NfsActs.eq_of_nodup_map (fun l : LOwner => (l.cl, l.key)) h.loKeyNodup ha hb
    (by simp [hcl, hkey])

/-- The lookup used by LOCK and LOCKT finds THE object of (client, owner). -/
theorem getLO_iff (s : State) (h : InvL s) (cl key : Nat) (lo : LOwner) :
    s.getLO cl key = some lo ↔ (lo ∈ s.lowners ∧ lo.cl = cl ∧ lo.key = key) := by
  constructor
  · exact getLO_some s cl key lo
  · rintro ⟨hm, hc, hk⟩
    cases hg : s.getLO cl key with
    | none => exact absurd ⟨hc, hk⟩ (NfsInvPLR.getLO_none hg lo hm)
    | some lo' =>
      obtain ⟨hm', hc', hk'⟩ := getLO_some s cl key lo' hg
      rw [lo_unique s h lo' lo hm' hm (hc'.trans hc.symm) (hk'.trans hk.symm)]

/-- LOCK with `new_lock_owner`: an existing object is reused (nothing changes) … -/
theorem loRegister_reuses (s : State) (cl key : Nat) (lo : LOwner) (h : s.getLO cl key = some lo) :
    Do.loRegister s cl key = s := by
  unfold Do.loRegister
  simp [h]

/-- … and otherwise a new object is registered, which the lookup finds from then on. -/
theorem loRegister_registers (s : State) (cl key : Nat) (hc : (s.getClient cl).isSome = true)
    (h : s.getLO cl key = none) :
    (Do.loRegister s cl key).getLO cl key =
      some { id := s.nextId, cl := cl, key := key, lastSeq := 0, resp := none } ∧
    (Do.loRegister s cl key).lowners = s.lowners ++ [{ id := s.nextId, cl := cl, key := key, lastSeq := 0, resp := none }] := by
  unfold Do.loRegister
  have hc' : (s.getClient cl).isNone = false := by
    cases hx : s.getClient cl <;> simp_all
  simp only [hc', h, Option.isSome_none, Bool.or_self, Bool.false_eq_true, if_false]
  constructor
  · unfold State.getLO at h ⊢
    simp only
    rw [List.find?_append, h]
    simp
  · trivial

/-! ## `UnlockAll` on CLOSE / expiry -/

theorem find_map_key (file : Nat) (g : PoolEnt → PoolEnt) (hg : ∀ e, (g e).file = e.file) :
    ∀ l : List PoolEnt,
      (l.map (fun e => if e.file == file then g e else e)).find? (fun e => e.file == file) =
        (l.find? (fun e => e.file == file)).map g
  | [] => rfl
  | e :: rest => by
    simp only [List.map_cons, List.find?_cons]
    by_cases he : e.file = file
    · simp [he, hg]
    · have h1 : (e.file == file) = false := by simpa using he
      simp only [h1, Bool.false_eq_true, if_false]
      exact find_map_key file g hg rest

theorem getPool_modPool (s : State) (file : Nat) (g : PoolEnt → PoolEnt) (hg : ∀ e, (g e).file = e.file) :
    (s.modPool file g).getPool file = (s.getPool file).map g := by
  unfold State.modPool State.getPool
  exact find_map_key file g hg s.pool

theorem getPool_modFile (s : State) (sid : Nat) (g : OFile → OFile) (file : Nat) :
    (s.modFile sid g).getPool file = s.getPool file := rfl

/-- `unlockAndRemove` / `nfs40LockOwnerFileState.remove`: when the lock-owner file counts at least one
lock, `UnlockAll` removes every entry of its lock-owner object from the table of the opened file and
nothing else (table entries non-empty and ending at or before `2^64-1`, i.e. no entry produced by the
known corner LOCK(2^64-1, all-ones)). -/
theorem unlockAll_releases (s : State) (sid lsid : Nat) (f : OFile) (l : LOFile) (e : PoolEnt)
    (hf : s.getFile sid = some f) (hl : f.lofs.find? (fun l => l.sid == lsid) = some l)
    (he : s.getPool f.file = some e) (hc : 0 < l.lockCount)
    (hv : ∀ x ∈ e.locks, x.start < x.stop ∧ x.stop ≤ LockRange.maxU64) :
    (Do.unlockAllLofs s sid lsid).getPool f.file =
      some { e with locks := e.locks.filter (fun x => x.owner ≠ l.lo) } := by
  unfold Do.unlockAllLofs
  simp only [hf, hl, he]
  have : ¬ l.lockCount ≤ 0 := by omega
  simp only [this, if_false]
  rw [getPool_modFile]
  rw [getPool_modPool s f.file]
  · rw [he]
    simp only [Option.map_some, BRL.set]
    rw [BbRe.Lemmas.BRL.setList_unlock_all e.locks l.lo LockRange.maxU64 hv]
  · intro _
    rfl

end BbRe.Lemmas.NfsProps
