import BbRe.Lemmas.SchedTreePrimQueue
/-!
Node level of "the cached priority of an invocation with directly queued operations is right": predicates on
single nodes that only look at `path`, `qops`, `prio` and hold for nodes without queued operations are kept
by every primitive of `Model/SchedTree.lean` that does not touch these fields; `enqueueOp` / `removeQueuedOp`
refresh `prio` of the node whose `qops` they change.
-/
namespace BbRe.Lemmas.SchedTree
open BbRe.Sched BbRe.SchedTree

/-- the clause of `PrioOK` for one node -/
def NodeOK (pr : Nat → Int) (n : Node) : Prop :=
  n.path ≠ [] → n.qops ≠ [] → n.prio = minPrio (n.qops.map pr)

/-- every queued operation of the node satisfies `B` -/
def QIn (B : Nat → Prop) (n : Node) : Prop := ∀ o ∈ n.qops, B o

def NAll (P : Node → Prop) (ns : List Node) : Prop := ∀ n ∈ ns, P n

/-- a predicate on nodes that only looks at `path`, `qops`, `prio` and holds when nothing is queued -/
structure QP (P : Node → Prop) : Prop where
  stable : ∀ n n' : Node, n'.path = n.path → n'.qops = n.qops → n'.prio = n.prio → P n → P n'
  empty : ∀ n : Node, n.qops = [] → P n

/-- `f` keeps `path`, `qops`, `prio` -/
def K3 (f : Node → Node) : Prop := ∀ n, (f n).path = n.path ∧ (f n).qops = n.qops ∧ (f n).prio = n.prio

theorem nodeOK_qp (pr : Nat → Int) : QP (NodeOK pr) := by
  refine ⟨?_, ?_⟩
  · intro n n' h1 h2 h3 h
    unfold NodeOK at h ⊢
    rw [h1, h2, h3]; exact h
  · intro n h _ hq; exact absurd h hq

theorem qin_qp (B : Nat → Prop) : QP (QIn B) := by
  refine ⟨?_, ?_⟩
  · intro n n' _ h2 _ h
    unfold QIn at h ⊢
    rw [h2]; exact h
  · intro n h o ho; rw [h] at ho; cases ho

section generic
variable {P : Node → Prop} {ns : List Node}

theorem NAll.nil : NAll P [] := fun _ h => nomatch h

/- The default proof of `K3 f` is for a structure update that leaves the three fields alone; it runs when `f`
is known from the goal. -/
theorem NAll.updNode (h : NAll P ns) (hP : QP P) {f : Node → Node} (q : ScqId) (p : List Nat)
    (hf : K3 f := by exact fun _ => ⟨rfl, rfl, rfl⟩) : NAll P (BbRe.SchedTree.updNode ns q p f) := by
  intro m hm
  obtain ⟨n, hn, e⟩ := mem_updNode.mp hm
  subst e
  split
  · exact hP.stable n _ (hf n).1 (hf n).2.1 (hf n).2.2 (h n hn)
  · exact h n hn

theorem NAll.updPath (h : NAll P ns) (hP : QP P) {f : Node → Node} (q : ScqId) (p : List Nat)
    (hf : K3 f := by exact fun _ => ⟨rfl, rfl, rfl⟩) : NAll P (BbRe.SchedTree.updPath ns q p f) := by
  intro m hm
  obtain ⟨n, hn, e⟩ := mem_updPath.mp hm
  subst e
  split
  · exact hP.stable n _ (hf n).1 (hf n).2.1 (hf n).2.2 (h n hn)
  · exact h n hn

theorem NAll.filter (h : NAll P ns) (c : Node → Bool) : NAll P (ns.filter c) :=
  fun n hn => h n (List.mem_filter.mp hn).1

theorem NAll.append {ms : List Node} (h : NAll P ns) (h2 : NAll P ms) : NAll P (ns ++ ms) := by
  intro n hn
  rcases List.mem_append.mp hn with a | a
  · exact h n a
  · exact h2 n a

theorem NAll.foldl {β} (f : List Node → β → List Node) (hf : ∀ ns b, NAll P ns → NAll P (f ns b)) (l : List β) :
    ∀ ns, NAll P ns → NAll P (l.foldl f ns) := by
  induction l with
  | nil => intro ns h; exact h
  | cons b l ih => intro ns h; exact ih _ (hf ns b h)

theorem NAll.pruneP (h : NAll P ns) (q : ScqId) (p : List Nat) : NAll P (BbRe.SchedTree.pruneP ns q p) := h.filter _

theorem NAll.incExec (h : NAll P ns) (hP : QP P) (q : ScqId) (p : List Nat) (w : WKey) (now : Nat) :
    NAll P (BbRe.SchedTree.incExec ns q p w now) := h.updPath hP q p

theorem NAll.decExec (h : NAll P ns) (hP : QP P) (q : ScqId) (p : List Nat) (w : WKey) (now : Nat) :
    NAll P (BbRe.SchedTree.decExec ns q p w now) := (h.updPath hP q p).pruneP q p

theorem NAll.setLastN (h : NAll P ns) (hP : QP P) (q : ScqId) (p : List Nat) :
    NAll P (BbRe.SchedTree.setLastN ns q p) := h.updPath hP q p

theorem NAll.clearLastN (h : NAll P ns) (hP : QP P) (q : ScqId) (p : List Nat) :
    NAll P (BbRe.SchedTree.clearLastN ns q p) := (h.updPath hP q p).pruneP q p

theorem NAll.mkNode (hP : QP P) (q : ScqId) (p : List Nat) (now : Nat) : NAll P [BbRe.SchedTree.mkNode q p now] := by
  intro n hn
  rw [List.mem_singleton] at hn
  subst hn
  exact hP.empty _ rfl

theorem NAll.getOrCreate (h : NAll P ns) (hP : QP P) (q : ScqId) (p : List Nat) (now : Nat) :
    NAll P (BbRe.SchedTree.getOrCreate ns q p now) := by
  unfold BbRe.SchedTree.getOrCreate
  refine NAll.foldl _ ?_ _ _ h
  intro ns b hb
  split
  · exact hb
  · exact hb.append (NAll.mkNode hP q b now)

theorem NAll.parkW (h : NAll P ns) (hP : QP P) (q : ScqId) (p : List Nat) (w : WId) :
    NAll P (BbRe.SchedTree.parkW ns q p w) := by
  unfold BbRe.SchedTree.parkW
  refine NAll.foldl _ ?_ _ _ (h.updNode hP q p)
  intro ns b hb
  unfold parkStep
  exact hb.updNode hP _ _

theorem NAll.dequeueW (h : NAll P ns) (hP : QP P) (q : ScqId) (p : List Nat) (w : WId) :
    NAll P (BbRe.SchedTree.dequeueW ns q p w) := by
  unfold BbRe.SchedTree.dequeueW
  refine NAll.foldl _ ?_ _ _ (h.updNode hP q p)
  intro ns b hb
  unfold unparkStep
  split
  · exact hb
  · split
    · exact hb.updNode hP _ _
    · exact hb

theorem NAll.pruneChain (q : ScqId) (l : List (List Nat)) : ∀ {ns : List Node}, NAll P ns → NAll P (pruneChain ns q l) := by
  induction l with
  | nil => intro ns h; exact h
  | cons pi rest ih =>
    intro ns h
    unfold BbRe.SchedTree.pruneChain
    split
    · split
      · exact ih (h.filter _)
      · exact h
    · exact h

/-- all nodes at `(q, pi)` are replaced by `j` -/
theorem NAll.setAt {q : ScqId} {pi : List Nat} (h : ∀ n ∈ ns, (n.scq = q ∧ n.path = pi) ∨ P n) {j : Node} (hj : P j) :
    NAll P (BbRe.SchedTree.updNode ns q pi (fun _ => j)) := by
  intro m hm
  obtain ⟨n, hn, e⟩ := mem_updNode.mp hm
  subst e
  split
  · exact hj
  · rename_i hna
    rcases h n hn with a | a
    · exact absurd ((isAt_iff n q pi).mpr a) hna
    · exact a

end generic

/-! ### `updateFirstOperationPriority` -/

theorem updPrio_path (pr : Nat → Int) (ns : List Node) (n : Node) : (updPrio pr ns n).path = n.path := by
  unfold updPrio
  split
  · rfl
  · split <;> rfl

theorem updPrio_qops (pr : Nat → Int) (ns : List Node) (n : Node) : (updPrio pr ns n).qops = n.qops := by
  unfold updPrio
  split
  · rfl
  · split <;> rfl

theorem updPrio_ok (pr : Nat → Int) (ns : List Node) (n : Node) : NodeOK pr (updPrio pr ns n) := by
  intro _ hq
  rw [updPrio_qops] at hq ⊢
  unfold updPrio
  have : (!n.qops.isEmpty) = true := by
    cases hn : n.qops with
    | nil => exact absurd hn hq
    | cons a l => rfl
  rw [if_pos this]

theorem updPrio_qin {B : Nat → Prop} (pr : Nat → Int) (ns : List Node) {n : Node} (h : QIn B n) :
    QIn B (updPrio pr ns n) := by
  unfold QIn; rw [updPrio_qops]; exact h

/-! ### `operation.enqueue`, `removeQueuedFromInvocation` -/

theorem enqStep_fix {pr : Nat → Int} {q : ScqId} {pi : List Nat} {ns : List Node}
    (h : ∀ n ∈ ns, (n.scq = q ∧ n.path = pi) ∨ NodeOK pr n) : NAll (NodeOK pr) (enqStep pr q ns pi) := by
  unfold enqStep
  split
  · rename_i hnone
    intro n hn
    rcases h n hn with a | a
    · exact absurd a (node?_eq_none_iff.mp hnone n hn)
    · exact a
  · dsimp only
    exact (NAll.setAt h (updPrio_ok pr ns _)).updNode (nodeOK_qp pr) _ _

theorem deqStep_fix {pr : Nat → Int} {q : ScqId} {pi : List Nat} {ns : List Node}
    (h : ∀ n ∈ ns, (n.scq = q ∧ n.path = pi) ∨ NodeOK pr n) : NAll (NodeOK pr) (deqStep pr q ns pi) := by
  unfold deqStep
  split
  · rename_i hnone
    intro n hn
    rcases h n hn with a | a
    · exact absurd a (node?_eq_none_iff.mp hnone n hn)
    · exact a
  · dsimp only
    split
    · exact (NAll.setAt h (updPrio_ok pr ns _)).updNode (nodeOK_qp pr) _ _
    · exact NAll.setAt h (updPrio_ok pr ns _)

/-- predicates that survive `updateFirstOperationPriority` -/
def RP (pr : Nat → Int) (P : Node → Prop) : Prop := ∀ ns n, P n → P (updPrio pr ns n)

theorem nodeOK_rp (pr : Nat → Int) : RP pr (NodeOK pr) := fun ns n _ => updPrio_ok pr ns n

theorem qin_rp (pr : Nat → Int) (B : Nat → Prop) : RP pr (QIn B) := by
  intro ns n h o ho
  rw [updPrio_qops] at ho
  exact h o ho

theorem NAll.refreshStep {P : Node → Prop} {pr : Nat → Int} (h : NAll P ns) (hR : RP pr P) (q : ScqId) (pi : List Nat) :
    NAll P (BbRe.SchedTree.refreshStep pr q ns pi) := by
  unfold BbRe.SchedTree.refreshStep
  split
  · exact h
  · rename_i P0 hP0
    exact NAll.setAt (fun n hn => Or.inr (h n hn)) (hR ns P0 (h P0 (node?_some hP0).1))

theorem NAll.refreshUp {P : Node → Prop} {pr : Nat → Int} (h : NAll P ns) (hR : RP pr P) (q : ScqId) (p : List Nat) :
    NAll P (BbRe.SchedTree.refreshUp pr ns q p) :=
  NAll.foldl _ (fun _ _ hb => hb.refreshStep hR q _) _ _ h

theorem NAll.incExecR {P : Node → Prop} {pr : Nat → Int} (h : NAll P ns) (hP : QP P) (hR : RP pr P) (lg : Bool)
    (q : ScqId) (p : List Nat) (w : WKey) (now : Nat) : NAll P (BbRe.SchedTree.incExecR lg pr ns q p w now) := by
  unfold BbRe.SchedTree.incExecR
  split
  · exact h.incExec hP q p w now
  · exact (h.incExec hP q p w now).refreshUp hR q p

theorem NAll.decExecR {P : Node → Prop} {pr : Nat → Int} (h : NAll P ns) (hP : QP P) (hR : RP pr P) (lg : Bool)
    (q : ScqId) (p : List Nat) (w : WKey) (now : Nat) : NAll P (BbRe.SchedTree.decExecR lg pr ns q p w now) := by
  unfold BbRe.SchedTree.decExecR
  split
  · exact h.decExec hP q p w now
  · exact (h.decExec hP q p w now).refreshUp hR q p

/-- after the `qops` of the invocation at `p` changed, every other node is as before -/
theorem updNode_except {pr : Nat → Int} {ns : List Node} (h : NAll (NodeOK pr) ns) (q : ScqId) (p : List Nat)
    {f : Node → Node} (hf : KeepsKey f) : ∀ n ∈ updNode ns q p f, (n.scq = q ∧ n.path = p) ∨ NodeOK pr n := by
  intro m hm
  obtain ⟨n, hn, e⟩ := mem_updNode.mp hm
  by_cases hat : n.isAt q p = true
  · rw [if_pos hat] at e
    left
    have := (isAt_iff n q p).mp hat
    rw [e, (hf n).1, (hf n).2]; exact this
  · rw [if_neg hat] at e; rw [e]; exact Or.inr (h n hn)

theorem root_except {pr : Nat → Int} {ns : List Node} {q : ScqId}
    (h : ∀ n ∈ ns, (n.scq = q ∧ n.path = []) ∨ NodeOK pr n) : NAll (NodeOK pr) ns := by
  intro n hn
  rcases h n hn with a | a
  · intro hp; exact absurd a.2 hp
  · exact a

/-- `operation.enqueue` / `removeQueuedFromInvocation`: the `qops` of the invocation at `p` are rewritten, then a loop
runs up the path whose iteration at `pi` repairs the invocation at `pi` -/
theorem qops_fold_prio {pr : Nat → Int} {ns : List Node} {q : ScqId} {st : List Node → List Nat → List Node}
    (hst : ∀ ns pi, (∀ n ∈ ns, (n.scq = q ∧ n.path = pi) ∨ NodeOK pr n) → NAll (NodeOK pr) (st ns pi))
    (h : NAll (NodeOK pr) ns) (p : List Nat) (G : List Nat → List Nat) :
    NAll (NodeOK pr) ((ups p).foldl st (updNode ns q p (fun n => { n with qops := G n.qops }))) := by
  have h0 := updNode_except h q p (f := fun n => { n with qops := G n.qops }) (fun _ => ⟨rfl, rfl⟩)
  rcases List.eq_nil_or_concat p with e | ⟨p', k, e⟩
  · subst e; exact root_except h0
  · subst e
    rw [List.concat_eq_append] at h0 ⊢
    rw [PrimQueue.ups_concat, List.foldl_cons]
    exact NAll.foldl _ (fun ns b hb => hst ns b fun n hn => Or.inr (hb n hn)) _ _ (hst _ _ h0)

theorem enqueueOp_prio {pr : Nat → Int} {ns : List Node} (h : NAll (NodeOK pr) ns) (q : ScqId) (p : List Nat) (o : Nat) :
    NAll (NodeOK pr) (enqueueOp pr ns q p o) :=
  qops_fold_prio (fun _ _ => enqStep_fix) h p (· ++ [o])

theorem removeQueuedOp_prio {pr : Nat → Int} {ns : List Node} (h : NAll (NodeOK pr) ns) (q : ScqId) (p : List Nat)
    (o : Nat) : NAll (NodeOK pr) (removeQueuedOp pr ns q p o) :=
  qops_fold_prio (fun _ _ => deqStep_fix) h p (·.erase o)

/-! ### the queued operations only shrink in `removeQueuedFromInvocation` -/

theorem deqStep_qin {B : Nat → Prop} {pr : Nat → Int} (q : ScqId) (ns : List Node) (pi : List Nat)
    (h : NAll (QIn B) ns) : NAll (QIn B) (deqStep pr q ns pi) := by
  unfold deqStep
  split
  · exact h
  · rename_i i hi
    dsimp only
    have hj : QIn B (updPrio pr ns i) := updPrio_qin pr ns (h i (node?_some hi).1)
    split
    · exact (NAll.setAt (fun n hn => Or.inr (h n hn)) hj).updNode (qin_qp B) _ _
    · exact NAll.setAt (fun n hn => Or.inr (h n hn)) hj

theorem removeQueuedOp_qin {B : Nat → Prop} {pr : Nat → Int} {ns : List Node} (h : NAll (QIn B) ns) (q : ScqId)
    (p : List Nat) (o : Nat) : NAll (QIn B) (removeQueuedOp pr ns q p o) := by
  unfold removeQueuedOp
  refine NAll.foldl _ (fun ns b hb => deqStep_qin q ns b hb) _ _ ?_
  intro m hm
  obtain ⟨n, hn, e⟩ := mem_updNode.mp hm
  subst e
  split
  · intro o' ho'
    exact h n hn o' (List.mem_of_mem_erase ho')
  · exact h n hn

end BbRe.Lemmas.SchedTree
