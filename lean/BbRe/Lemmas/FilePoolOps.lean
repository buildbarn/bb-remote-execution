import BbRe.Lemmas.FilePoolInv
import BbRe.Lemmas.FilePoolContig
/-!
Every file operation of `Model/FilePool.lean` preserves `Part n O` (allocated
list = this file's sectors ⊎ the other files' sectors `O`) and never double
frees — for every oracle.
-/
namespace BbRe.Lemmas.FilePool
open BbRe.FilePool

/-- What an operation keeps of the file apart from its sector list. -/
def SameMeta (f f' : File) : Prop := f'.size = f.size ∧ f'.hole = f.hole ∧ f'.closed = f.closed

theorem truncateSectors_part {n : Nat} {O : Nat → Prop} {f : File} {e : Env} (k : Nat)
    (hP : Part n O e.allocd (nz f.sectors)) (hd : e.dfree = false) :
    Part n O (truncateSectors f e k).2.allocd (nz (truncateSectors f e k).1.sectors) ∧
      (truncateSectors f e k).2.dfree = false ∧ SameMeta f (truncateSectors f e k).1 ∧
      (truncateSectors f e k).2.dev = e.dev ∧ (truncateSectors f e k).2.faults = e.faults ∧
      (truncateSectors f e k).2.answers = e.answers := by
  unfold truncateSectors
  split
  · dsimp only
    have hsplit : nz f.sectors = nz (f.sectors.take k) ++ nz (f.sectors.drop k) := by
      rw [← nz_append, List.take_append_drop]
    have hnd := hP.nodupF
    rw [hsplit] at hnd
    obtain ⟨hn1, hn2, hn3⟩ := List.nodup_append.mp hnd
    have hsubF : ∀ s ∈ f.sectors.drop k, s ≠ 0 → s ∈ nz f.sectors := by
      intro s hs h0; exact mem_nz.mpr ⟨List.mem_of_mem_drop hs, h0⟩
    have hfl := freeList_spec e (f.sectors.drop k) hP.nodupA
      (fun s hs h0 => (hP.mem s).mpr (Or.inl (hsubF s hs h0))) hn2
    refine ⟨?_, hfl.1.trans hd, ⟨rfl, rfl, rfl⟩, rfl, rfl, rfl⟩
    refine hP.remove hfl.2.1 hfl.2.2 hsubF ?_ ?_
    · exact (nz_sublist (trimZeros_sublist _)).nodup hn1
    · intro s
      rw [mem_nz_trimZeros, hsplit, List.mem_append]
      constructor
      · intro h1
        refine ⟨Or.inl h1, fun ⟨h2, h3⟩ => hn3 s h1 s (mem_nz.mpr ⟨h2, h3⟩) rfl⟩
      · rintro ⟨h1 | h1, h2⟩
        · exact h1
        · exact absurd ⟨(mem_nz.mp h1).1, (mem_nz.mp h1).2⟩ h2
  · exact ⟨hP, hd, ⟨rfl, rfl, rfl⟩, rfl, rfl, rfl⟩

theorem close_part {n : Nat} {O : Nat → Prop} {f : File} {e : Env}
    (hP : Part n O e.allocd (nz f.sectors)) (hd : e.dfree = false) :
    Part n O (close f e).2.1.allocd [] ∧ (close f e).2.1.dfree = false ∧
      (close f e).1.sectors = [] ∧ (close f e).1.closed = true ∧ (close f e).2.1.dev = e.dev := by
  have key : Part n O (if f.sectors.length > 0 then e.freeList f.sectors else e).allocd [] ∧
      (if f.sectors.length > 0 then e.freeList f.sectors else e).dfree = false ∧
      (if f.sectors.length > 0 then e.freeList f.sectors else e).dev = e.dev := by
    split
    · have hfl := freeList_spec e f.sectors hP.nodupA
        (fun s hs h0 => (hP.mem s).mpr (Or.inl (mem_nz.mpr ⟨hs, h0⟩))) hP.nodupF
      refine ⟨?_, hfl.1.trans hd, rfl⟩
      refine hP.remove hfl.2.1 hfl.2.2 (fun s hs h0 => mem_nz.mpr ⟨hs, h0⟩) List.nodup_nil ?_
      intro s
      constructor
      · intro h; cases h
      · rintro ⟨h1, h2⟩; exact absurd ⟨(mem_nz.mp h1).1, (mem_nz.mp h1).2⟩ h2
    · rename_i hlen
      have : f.sectors = [] := by
        cases hs : f.sectors with
        | nil => rfl
        | cons a b => simp [hs] at hlen
      rw [this] at hP
      exact ⟨hP, hd, rfl⟩
  unfold close
  dsimp only
  generalize (if f.sectors.length > 0 then e.freeList f.sectors else e) = e1 at key ⊢
  split
  · exact ⟨key.1, key.2.1, rfl, rfl, key.2.2⟩
  · exact ⟨key.1, key.2.1, rfl, rfl, key.2.2⟩

theorem truncate_part {n : Nat} {O : Nat → Prop} {c : Cfg} {f : File} {e : Env} (size : Int)
    (hP : Part n O e.allocd (nz f.sectors)) (hd : e.dfree = false) :
    Part n O (truncate c f e size).2.1.allocd (nz (truncate c f e size).1.sectors) ∧
      (truncate c f e size).2.1.dfree = false ∧ (truncate c f e size).1.closed = f.closed := by
  unfold truncate
  split
  · exact ⟨hP, hd, rfl⟩
  · dsimp only
    generalize hzr : (if size.toNat % c.ss ≠ 0 ∧ size.toNat < f.size ∧ size.toNat / c.ss < f.sectors.length ∧
        f.sectors.getD (size.toNat / c.ss) 0 ≠ 0 then
        e.devWrite ((f.sectors.getD (size.toNat / c.ss) 0 - 1) * c.ss + size.toNat % c.ss)
          (List.replicate (min (c.ss - size.toNat % c.ss) (f.size - size.toNat)) 0)
        else (e, none)) = zr
    have hs : SameAlloc e zr.1 := by
      rw [← hzr]; split
      · exact devWrite_same _ _ _
      · exact SameAlloc.refl e
    have hP1 : Part n O zr.1.allocd (nz f.sectors) := hs.1 ▸ hP
    have hd1 : zr.1.dfree = false := hs.2.1.trans hd
    split
    · exact ⟨hP1, hd1, rfl⟩
    · generalize (if size.toNat % c.ss = 0 then size.toNat / c.ss else size.toNat / c.ss + 1) = k
      have ht := truncateSectors_part (f := f) (e := zr.1) k hP1 hd1
      split
      · split
        · exact ⟨ht.1, ht.2.1, ht.2.2.1.2.2⟩
        · exact ⟨ht.1, ht.2.1, ht.2.2.1.2.2⟩
      · exact ⟨ht.1, ht.2.1, ht.2.2.1.2.2⟩

theorem want_le_cnt (ow ss cnt m : Nat) (h1 : ow < ss) (h2 : 1 ≤ cnt) (h3 : m ≤ cnt * ss - ow) :
    (ow + m + ss - 1) / ss ≤ cnt := by
  have hss : 0 < ss := by omega
  have h4 : ss ≤ cnt * ss := Nat.le_mul_of_pos_left ss h2
  have h5 : (ow + m + ss - 1) / ss < cnt + 1 := by
    rw [Nat.div_lt_iff_lt_mul hss, Nat.add_mul]
    omega
  omega

theorem readHole_err (e : Env) (h : Hole) (off n : Nat) (x : Err) (hx : (e.readHole h off n).2.2 = some x) :
    x = .internal ∨ x = .hole := by
  unfold Env.readHole at hx
  split at hx
  · dsimp only at hx
    split at hx
    · split at hx
      · simp at hx
      · simp at hx; exact Or.inl hx.symm
    · simp at hx; exact Or.inr hx.symm
  · simp at hx
  · simp at hx

theorem wnsPhases_err (c : Cfg) (h : Hole) (e : Env) (p : List Byte) (first idx ow : Nat) (x : Err)
    (hx : (wnsPhases c h e p first idx ow).2 = some x) : x = .internal ∨ x = .hole ∨ x = .io := by
  unfold wnsPhases at hx
  split at hx
  · rename_i e1 y heq
    simp only [Option.some.injEq] at hx; subst hx
    unfold wnsPhase1 at heq
    dsimp only at heq
    split at heq
    · split at heq
      · rename_i z hz
        simp only [Prod.mk.injEq, Except.error.injEq] at heq
        rcases readHole_err _ _ _ _ _ hz with h1 | h1 <;> simp [← heq.2, h1]
      · split at heq
        · rename_i z hz
          simp only [Prod.mk.injEq, Except.error.injEq] at heq
          split at hz
          · rcases readHole_err _ _ _ _ _ hz with h1 | h1 <;> simp [← heq.2, h1]
          · simp at hz
        · split at heq
          · simp only [Prod.mk.injEq, Except.error.injEq] at heq; simp [← heq.2]
          · simp at heq
    · simp at heq
  · rename_i e1 cur1 heq
    split at hx
    · rename_i e2 y heq2
      simp only [Option.some.injEq] at hx; subst hx
      unfold wnsPhase2 at heq2
      dsimp only at heq2
      split at heq2
      · split at heq2
        · simp only [Prod.mk.injEq, Except.error.injEq] at heq2; simp [← heq2.2]
        · simp at heq2
      · simp at heq2
    · rename_i e2 cur2 heq2
      unfold wnsPhase3 at hx
      dsimp only at hx
      split at hx
      · split at hx
        · rename_i z hz
          simp only [Option.some.injEq] at hx; subst hx
          rcases readHole_err _ _ _ _ _ hz with h1 | h1 <;> simp [h1]
        · split at hx
          · simp only [Option.some.injEq] at hx; simp [← hx]
          · simp at hx
      · simp at hx

theorem wns_error_ne_panic {c : Cfg} {h : Hole} {e e' : Env} {p : List Byte} {idx ow : Nat} {x : Err}
    (hr : writeToNewSectors c h e p idx ow = (e', .error x)) : x ≠ .panic := by
  unfold writeToNewSectors at hr
  split at hr
  · simp only [Prod.mk.injEq, Except.error.injEq] at hr; simp [← hr.2]
  · simp only [Prod.mk.injEq, Except.error.injEq] at hr; simp [← hr.2]
  · dsimp only at hr
    split at hr
    · rename_i e2 y heq2
      simp only [Prod.mk.injEq, Except.error.injEq] at hr
      have := wnsPhases_err _ _ _ _ _ _ _ y (by rw [heq2])
      rcases this with h1 | h1 | h1 <;> simp [← hr.2, h1]
    · simp at hr

/-- Appending to a file (`idx ≥ len`): `insertSectorsContiguous` never panics. -/
theorem insert_grown_some (secs : List Nat) (idx first got : Nat) (h : idx ≥ secs.length) :
    ∃ secs', insertSectors (secs ++ List.replicate (idx + got - secs.length) 0) idx first got = some secs' := by
  unfold insertSectors
  have h1 : idx + got ≤ (secs ++ List.replicate (idx + got - secs.length) 0).length := by
    simp; omega
  have h2 := all_zero_of_getD (secs ++ List.replicate (idx + got - secs.length) 0) idx got (by
    intro j _
    rw [getD_append_replicate_zero]
    simp [List.getD_eq_getElem?_getD, List.getElem?_eq_none (show secs.length ≤ idx + j by omega)])
  rw [if_pos ⟨h1, h2⟩]
  exact ⟨_, rfl⟩

/-- Filling a hole: the run `[idx, idx+cnt)` consists of holes, so inserting `got ≤ cnt` sectors never panics. -/
theorem insert_hole_some (secs : List Nat) (idx first got cnt : Nat) (hlen : idx + cnt ≤ secs.length)
    (hz : ∀ j, j < cnt → secs.getD (idx + j) 0 = 0) (hg : got ≤ cnt) :
    ∃ secs', insertSectors secs idx first got = some secs' := by
  unfold insertSectors
  have h2 := all_zero_of_getD secs idx got (fun j hj => hz j (by omega))
  rw [if_pos ⟨by omega, h2⟩]
  exact ⟨_, rfl⟩

theorem writeToSectors_part {O : Nat → Prop} {c : Cfg} {f : File} {e : Env} (p : List Byte)
    (idx endIdx ow : Nat) (how : ow < c.ss)
    (hP : Part c.nsec O e.allocd (nz f.sectors)) (hd : e.dfree = false) :
    Part c.nsec O (writeToSectors c f e p idx endIdx ow).2.1.allocd
        (nz (writeToSectors c f e p idx endIdx ow).1.sectors) ∧
      (writeToSectors c f e p idx endIdx ow).2.1.dfree = false ∧
      SameMeta f (writeToSectors c f e p idx endIdx ow).1 ∧
      f.sectors.length ≤ (writeToSectors c f e p idx endIdx ow).1.sectors.length ∧
      (writeToSectors c f e p idx endIdx ow).2.2.2 ≠ some .panic := by
  unfold writeToSectors
  split
  · rename_i hidx
    split
    · rename_i e1 x heq
      have := wns_error hP.nodupA heq
      refine ⟨hP.same this.2.1 this.2.2 (List.Perm.refl _), this.1.trans hd, ⟨rfl, rfl, rfl⟩, Nat.le_refl _, ?_⟩
      have := wns_error_ne_panic heq
      simpa using this
    · rename_i e1 n first got heq
      obtain ⟨hal, hdf, _, hg2, hf1, hf2, hfresh, _⟩ := wns_ok heq
      obtain ⟨secs', hs'⟩ := insert_grown_some f.sectors idx first got hidx
      dsimp only
      rw [hs']
      have hsp := insertSectors_spec hs' hf1
      dsimp only
      refine ⟨?_, hdf.trans hd, ⟨rfl, rfl, rfl⟩, ?_, by simp⟩
      · rw [hal]
        refine hP.add hf1 hf2 hfresh ?_
        rw [nz_append, nz_replicate_zero, List.append_nil] at hsp; exact hsp.2
      · rw [hsp.1]; simp
  · rename_i hidx
    have hidx' : idx < f.sectors.length := by omega
    obtain ⟨hc1, hc2, hc3, hc4, hc5⟩ := contig_spec f.sectors idx endIdx hidx'
    dsimp only
    split
    · rename_i hz
      split
      · rename_i e1 x heq
        have := wns_error hP.nodupA heq
        refine ⟨hP.same this.2.1 this.2.2 (List.Perm.refl _), this.1.trans hd, ⟨rfl, rfl, rfl⟩, Nat.le_refl _, ?_⟩
        have := wns_error_ne_panic heq
        simpa using this
      · rename_i e1 n first got heq
        obtain ⟨hal, hdf, _, hg2, hf1, hf2, hfresh, _⟩ := wns_ok heq
        have hgot : got ≤ (contig f.sectors idx endIdx).2 := by
          refine Nat.le_trans hg2 (want_le_cnt ow c.ss _ _ how hc2 ?_)
          simp only [List.length_take]; omega
        obtain ⟨secs', hs'⟩ := insert_hole_some f.sectors idx first got _ hc3
          (fun j hj => by rw [hc5 j hj, if_pos hz]) hgot
        rw [hs']
        have hsp := insertSectors_spec hs' hf1
        dsimp only
        refine ⟨?_, hdf.trans hd, ⟨rfl, rfl, rfl⟩, ?_, by simp⟩
        · rw [hal]
          exact hP.add hf1 hf2 hfresh hsp.2
        · exact hsp.1 ▸ Nat.le_refl _
    · have hs := devWrite_same e (((contig f.sectors idx endIdx).1 - 1) * c.ss + ow)
        (List.take ((contig f.sectors idx endIdx).2 * c.ss - ow) p)
      split
      · exact ⟨hs.1 ▸ hP, hs.2.1.trans hd, ⟨rfl, rfl, rfl⟩, Nat.le_refl _, by simp⟩
      · exact ⟨hs.1 ▸ hP, hs.2.1.trans hd, ⟨rfl, rfl, rfl⟩, Nat.le_refl _, by simp⟩

/-! ## `WriteAt`: the loop and the size update -/

theorem SameMeta.trans {a b c : File} (h1 : SameMeta a b) (h2 : SameMeta b c) : SameMeta a c :=
  ⟨h2.1.trans h1.1, h2.2.1.trans h1.2.1, h2.2.2.trans h1.2.2⟩

theorem writeLoop_part {O : Nat → Prop} {c : Cfg} : ∀ (fuel : Nat) (f : File) (e : Env) (p : List Byte)
    (idx endIdx ow : Nat), ow < c.ss → Part c.nsec O e.allocd (nz f.sectors) → e.dfree = false →
    Part c.nsec O (writeLoop c fuel f e p idx endIdx ow).2.1.allocd
        (nz (writeLoop c fuel f e p idx endIdx ow).1.sectors) ∧
      (writeLoop c fuel f e p idx endIdx ow).2.1.dfree = false ∧
      SameMeta f (writeLoop c fuel f e p idx endIdx ow).1 := by
  intro fuel
  induction fuel with
  | zero => intro f e p idx endIdx ow _ hP hd; exact ⟨hP, hd, ⟨rfl, rfl, rfl⟩⟩
  | succ fuel ih =>
    intro f e p idx endIdx ow how hP hd
    have hw := writeToSectors_part p idx endIdx ow how hP hd
    unfold writeLoop
    dsimp only
    split
    · exact ⟨hw.1, hw.2.1, hw.2.2.1⟩
    · split
      · exact ⟨hw.1, hw.2.1, hw.2.2.1⟩
      · have := ih (writeToSectors c f e p idx endIdx ow).1 (writeToSectors c f e p idx endIdx ow).2.1
          (List.drop (writeToSectors c f e p idx endIdx ow).2.2.1 p)
          (idx + (ow + (writeToSectors c f e p idx endIdx ow).2.2.1) / c.ss) endIdx 0 (by omega) hw.1 hw.2.1
        exact ⟨this.1, this.2.1, hw.2.2.1.trans this.2.2⟩

theorem writeAt_part {O : Nat → Prop} {c : Cfg} {f : File} {e : Env} (p : List Byte) (off : Int)
    (hss : 0 < c.ss) (hP : Part c.nsec O e.allocd (nz f.sectors)) (hd : e.dfree = false) :
    Part c.nsec O (writeAt c f e p off).2.1.allocd (nz (writeAt c f e p off).1.sectors) ∧
      (writeAt c f e p off).2.1.dfree = false ∧ (writeAt c f e p off).1.closed = f.closed ∧
      (writeAt c f e p off).1.hole = f.hole := by
  unfold writeAt
  split
  · exact ⟨hP, hd, rfl, rfl⟩
  · split
    · exact ⟨hP, hd, rfl, rfl⟩
    · dsimp only
      have := writeLoop_part (O := O) (c := c) (p.length + 1) f e p (off.toNat / c.ss)
        (min ((off.toNat + p.length + c.ss - 1) / c.ss) f.sectors.length) (off.toNat % c.ss)
        (Nat.mod_lt _ hss) hP hd
      split
      · exact ⟨this.1, this.2.1, this.2.2.2.2, this.2.2.2.1⟩
      · exact ⟨this.1, this.2.1, this.2.2.2.2, this.2.2.2.1⟩

/-! ## `ReadAt` and `GetNextRegionOffset` touch neither the device nor the allocator -/

theorem readFromSectors_ro (c : Cfg) (f : File) (e : Env) (n idx endIdx ow : Nat) :
    ReadOnly e (readFromSectors c f e n idx endIdx ow).1 := by
  unfold readFromSectors
  split
  · exact readHole_ro _ _ _ _
  · dsimp only
    split
    · exact readHole_ro _ _ _ _
    · exact devRead_ro _ _ _

theorem readLoop_ro (c : Cfg) (f : File) : ∀ (fuel : Nat) (e : Env) (n idx endIdx ow : Nat),
    ReadOnly e (readLoop c f fuel e n idx endIdx ow).1 := by
  intro fuel
  induction fuel with
  | zero => intro e n idx endIdx ow; exact ReadOnly.refl e
  | succ fuel ih =>
    intro e n idx endIdx ow
    unfold readLoop
    dsimp only
    have h1 := readFromSectors_ro c f e n idx endIdx ow
    split
    · exact h1
    · split
      · exact h1
      · split
        · exact h1
        · exact h1.trans (ih _ _ _ _ _)

theorem readAt_ro (c : Cfg) (f : File) (e : Env) (off : Int) (n : Nat) : ReadOnly e (readAt c f e off n).1 := by
  unfold readAt
  by_cases h1 : off < 0
  · rw [if_pos h1]; exact ReadOnly.refl e
  · rw [if_neg h1]
    by_cases h2 : n = 0
    · rw [if_pos h2]; exact ReadOnly.refl e
    · rw [if_neg h2]
      dsimp only
      by_cases h3 : off.toNat ≥ f.size
      · rw [if_pos h3]; exact ReadOnly.refl e
      · rw [if_neg h3]; exact readLoop_ro _ _ _ _ _ _ _ _

theorem seekData_ro (c : Cfg) (f : File) (e : Env) (off : Nat) : ReadOnly e (seekData c f e off).1 := by
  unfold seekData
  dsimp only
  have h1 := holeSeek_ro e
  split
  · split
    · rename_i heq; rw [heq] at h1; exact h1
    · rename_i heq; rw [heq] at h1; exact h1
  · split
    · exact ReadOnly.refl e
    · split
      · exact ReadOnly.refl e
      · split
        · rename_i heq; rw [heq] at h1; exact h1
        · rename_i heq; rw [heq] at h1; exact h1

theorem seekHoleLoop_ro (c : Cfg) (f : File) : ∀ (fuel : Nat) (e : Env) (off : Nat),
    ReadOnly e (seekHoleLoop c f fuel e off).1 := by
  intro fuel
  induction fuel with
  | zero => intro e off; exact ReadOnly.refl e
  | succ fuel ih =>
    intro e off
    unfold seekHoleLoop
    dsimp only
    generalize seekHoleAdvance c f off = a
    have h1 := holeSeek_ro e
    split
    · exact ReadOnly.refl e
    · split
      · rename_i heq; rw [heq] at h1; exact h1
      · rename_i e1 heq; rw [heq] at h1
        split
        · exact h1
        · split
          · exact h1
          · exact h1.trans (ih _ _)

theorem seek_ro (c : Cfg) (f : File) (e : Env) (off : Int) (data : Bool) : ReadOnly e (seek c f e off data).1 := by
  unfold seek
  split
  · exact ReadOnly.refl e
  · split
    · exact ReadOnly.refl e
    · split
      · exact seekData_ro _ _ _ _
      · exact seekHoleLoop_ro _ _ _ _ _

theorem readAt_same (c : Cfg) (f : File) (e : Env) (off : Int) (n : Nat) : SameAlloc e (readAt c f e off n).1 :=
  (readAt_ro c f e off n).2

theorem readAt_dev (c : Cfg) (f : File) (e : Env) (off : Int) (n : Nat) : (readAt c f e off n).1.dev = e.dev :=
  (readAt_ro c f e off n).1

theorem seek_same (c : Cfg) (f : File) (e : Env) (off : Int) (data : Bool) : SameAlloc e (seek c f e off data).1 :=
  (seek_ro c f e off data).2

theorem seek_dev (c : Cfg) (f : File) (e : Env) (off : Int) (data : Bool) : (seek c f e off data).1.dev = e.dev :=
  (seek_ro c f e off data).1

end BbRe.Lemmas.FilePool
