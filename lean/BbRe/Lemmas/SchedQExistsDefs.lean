import BbRe.Lemmas.SchedInvStep
/-!
`QExists`: the task → size-class-queue / worker → size-class-queue existence invariant of the
scheduler model (`Model/Sched.lean`), proved separately from `Inv` (`SchedInvDefs.lean`).

This file: the invariant, the frame relation `QFr`, a weakest-precondition calculus `wpR` whose
error clause says "the error is not one of the routing errors", and preservation lemmas for the
primitive state updates.

`ne : Prop` is a parameter ("no platform queue was ever registered with an empty list of size
classes"): for `ne = True` the invariant also says that every platform queue has a size-class
queue; for `ne = False` that clause is void.  `RegisterPredeclaredPlatformQueue` rejects an empty
list in the Go code; the model's `register` segment accepts it, which is the only way to break
the clause.
-/
namespace BbRe.Lemmas.SchedQ
open BbRe.Sched BbRe.Lemmas.SchedInv

def scqIds (s : State) : List ScqId := s.scqs.map (·.id)
def pqIds (s : State) : List Nat := s.pqs.map (·.id)

/-- size-class queue `q` is registered -/
def HasScq (s : State) (q : ScqId) : Prop := q ∈ scqIds s
/-- platform queue `p` is registered -/
def HasPq (s : State) (p : Nat) : Prop := p ∈ pqIds s

theorem mem_map_iff_find? {α β} [DecidableEq β] (f : α → β) (l : List α) (b : β) :
    b ∈ l.map f ↔ ∃ x, l.find? (fun x => f x = b) = some x := by
  constructor
  · intro h
    obtain ⟨a, hm, he⟩ := List.mem_map.mp h
    cases hf : l.find? (fun x => f x = b) with
    | some x => exact ⟨x, rfl⟩
    | none =>
      have := List.find?_eq_none.mp hf a hm
      simp [he] at this
  · rintro ⟨x, h⟩
    exact List.mem_map.mpr ⟨x, List.mem_of_find?_eq_some h, by simpa using List.find?_some h⟩

theorem hasScq_iff (s : State) (q : ScqId) : HasScq s q ↔ ∃ sq, s.scq? q = some sq :=
  mem_map_iff_find? Scq.id s.scqs q

theorem hasPq_iff (s : State) (p : Nat) : HasPq s p ↔ ∃ x, s.pq? p = some x :=
  mem_map_iff_find? PQ.id s.pqs p

/-- A task without response names a registered size-class queue, and if it is assigned, its
worker belongs to that queue. -/
def TaskOK (s : State) (t : Task) : Prop :=
  t.response = none → HasScq s t.scq ∧ ∀ q w, t.worker = some (q, w) → q = t.scq

structure QExists (ne : Prop) (s : State) : Prop where
  /-- every task without response (queued or assigned) names an existing size-class queue -/
  tq : ∀ p ∈ s.tasks, TaskOK s p.2
  /-- every registered worker's size-class queue exists -/
  wq : ∀ wk ∈ s.workers, HasScq s wk.scq
  /-- the platform queue of every size-class queue exists -/
  qp : ∀ q ∈ scqIds s, HasPq s q.pq
  /-- a pending removal of a size-class queue: the queue exists and has no workers -/
  cq : ∀ e ∈ s.cleanup, ∀ q, e.kind = .scq q → HasScq s q ∧ ∀ wk ∈ s.workers, wk.scq ≠ q
  /-- at most one pending removal per size-class queue (`scq.cleanupKey`) -/
  cu : ∀ e1 ∈ s.cleanup, ∀ e2 ∈ s.cleanup, ∀ q, e1.kind = .scq q → e2.kind = .scq q → e1 = e2
  /-- every platform queue has a size-class queue (void unless `ne`) -/
  pn : ne → ∀ p ∈ pqIds s, ∃ q ∈ scqIds s, q.pq = p

/-- what every helper guarantees about pending queue removals and the worker table -/
structure QFr (s s' : State) : Prop where
  cl : ∀ e' ∈ s'.cleanup, ∀ q, e'.kind = .scq q → e' ∈ s.cleanup
  ws : ∀ wk' ∈ s'.workers, ∃ wk ∈ s.workers, wk.scq = wk'.scq
  sq : scqIds s' = scqIds s
  pq : s'.pqs = s.pqs

theorem QFr.refl (s : State) : QFr s s := ⟨fun _ h _ _ => h, fun wk h => ⟨wk, h, rfl⟩, rfl, rfl⟩

theorem QFr.hasScq {s s' : State} (h : QFr s s') (q : ScqId) : HasScq s' q ↔ HasScq s q := by
  unfold HasScq; rw [h.sq]

theorem QFr.trans {a b c : State} (h1 : QFr a b) (h2 : QFr b c) : QFr a c := by
  refine ⟨fun e he q hq => h1.cl e (h2.cl e he q hq) q hq, ?_, h2.sq.trans h1.sq, h2.pq.trans h1.pq⟩
  intro wk hwk
  obtain ⟨w1, a1, b1⟩ := h2.ws wk hwk
  obtain ⟨w0, a0, b0⟩ := h1.ws w1 a1
  exact ⟨w0, a0, b0.trans b1⟩

/-- post-condition of the helpers -/
def QP (ne : Prop) (s s' : State) : Prop := QExists ne s' ∧ QFr s s'

theorem QP.trans {ne} {a b c : State} (h1 : QP ne a b) (h2 : QP ne b c) : QP ne a c :=
  ⟨h2.1, h1.2.trans h2.2⟩

/-- the workhorse: registry untouched, frame, every task fine -/
theorem QExists.upd {ne} {s s' : State} (h : QExists ne s) (hscq : scqIds s' = scqIds s)
    (hpq : s'.pqs = s.pqs) (hfr0 : (∀ e' ∈ s'.cleanup, ∀ q, e'.kind = .scq q → e' ∈ s.cleanup) ∧
      ∀ wk' ∈ s'.workers, ∃ wk ∈ s.workers, wk.scq = wk'.scq)
    (hts : ∀ p ∈ s'.tasks, TaskOK s p.2) : QP ne s s' := by
  have hfr : QFr s s' := ⟨hfr0.1, hfr0.2, hscq, hpq⟩
  have hS : ∀ q, HasScq s' q ↔ HasScq s q := fun q => by unfold HasScq; rw [hscq]
  have hP : ∀ p, HasPq s' p ↔ HasPq s p := fun p => by unfold HasPq pqIds; rw [hpq]
  refine ⟨⟨?_, ?_, ?_, ?_, ?_, ?_⟩, hfr⟩
  · intro p hp hr
    obtain ⟨a, b⟩ := hts p hp hr
    exact ⟨(hS _).mpr a, b⟩
  · intro wk hwk
    obtain ⟨w0, a0, b0⟩ := hfr.ws wk hwk
    rw [hS, ← b0]; exact h.wq w0 a0
  · intro q hq; rw [hscq] at hq; rw [hP]; exact h.qp q hq
  · intro e he q hq
    obtain ⟨a, b⟩ := h.cq e (hfr.cl e he q hq) q hq
    refine ⟨(hS q).mpr a, ?_⟩
    intro wk hwk
    obtain ⟨w0, a0, b0⟩ := hfr.ws wk hwk
    rw [← b0]; exact b w0 a0
  · intro e1 h1 e2 h2 q q1 q2
    exact h.cu e1 (hfr.cl e1 h1 q q1) e2 (hfr.cl e2 h2 q q2) q q1 q2
  · intro hne p hp
    unfold pqIds at hp; rw [hpq] at hp
    obtain ⟨q, a, b⟩ := h.pn hne p hp
    exact ⟨q, by rw [hscq]; exact a, b⟩

theorem mem_aset {α} {k : Nat} {v : α} {l : List (Nat × α)} {p : Nat × α} (h : p ∈ aset k v l) :
    p = (k, v) ∨ p ∈ l := by
  induction l with
  | nil => simp [aset] at h; exact Or.inl h
  | cons a r ih =>
    unfold aset at h
    split at h
    · rcases List.mem_cons.mp h with h | h
      · exact Or.inl h
      · exact Or.inr (List.mem_cons_of_mem _ h)
    · rcases List.mem_cons.mp h with h | h
      · exact Or.inr (by rw [h]; exact List.mem_cons_self)
      · rcases ih h with h | h
        · exact Or.inl h
        · exact Or.inr (List.mem_cons_of_mem _ h)

theorem mem_aerase {α} {k : Nat} {l : List (Nat × α)} {p : Nat × α} (h : p ∈ aerase k l) : p ∈ l := by
  induction l with
  | nil => simp [aerase] at h
  | cons a r ih =>
    unfold aerase at h
    split at h
    · exact List.mem_cons_of_mem _ h
    · rcases List.mem_cons.mp h with h | h
      · rw [h]; exact List.mem_cons_self
      · exact List.mem_cons_of_mem _ (ih h)

section prim
variable {ne : Prop}

theorem QExists.setTask {s : State} (h : QExists ne s) (t : Task) (ht : TaskOK s t) : QP ne s (s.setTask t) := by
  refine h.upd rfl rfl ⟨fun _ h _ _ => h, fun wk h => ⟨wk, h, rfl⟩⟩ ?_
  intro p hp
  rcases mem_aset hp with e | e
  · rw [e]; exact ht
  · exact h.tq p e

theorem QExists.setWorker {s : State} (h : QExists ne s) (w : Worker) (hw : ∃ wk ∈ s.workers, wk.scq = w.scq) :
    QP ne s (s.setWorker w) := by
  refine h.upd rfl rfl ⟨fun _ h _ _ => h, ?_⟩ h.tq
  intro x hx
  rcases mem_wset hx with e | e
  · rw [e]; exact hw
  · exact ⟨x, e, rfl⟩

/-- updates that leave tasks, workers and the registry alone and add no queue-removal entry -/
theorem QExists.same {s s' : State} (h : QExists ne s) (h1 : s'.tasks = s.tasks) (h2 : s'.workers = s.workers)
    (h3 : s'.scqs = s.scqs) (h4 : s'.pqs = s.pqs)
    (h5 : ∀ e' ∈ s'.cleanup, ∀ q, e'.kind = .scq q → e' ∈ s.cleanup) : QP ne s s' := by
  refine h.upd (by unfold scqIds; rw [h3]) h4 ⟨h5, ?_⟩ (by rw [h1]; exact h.tq)
  intro wk hwk; rw [h2] at hwk; exact ⟨wk, hwk, rfl⟩

theorem QExists.emit {s : State} (h : QExists ne s) (e : Event) : QP ne s (emit s e) :=
  h.same rfl rfl rfl rfl (fun _ h _ _ => h)

theorem QExists.setOp {s : State} (h : QExists ne s) (o : Op) : QP ne s (s.setOp o) :=
  h.same rfl rfl rfl rfl (fun _ h _ _ => h)

theorem QExists.removeCleanup {s : State} (h : QExists ne s) (k : CleanupKind) : QP ne s (s.removeCleanup k) :=
  h.same rfl rfl rfl rfl (fun _ h _ _ => (List.mem_filter.mp h).1)

theorem QExists.addCleanup {s : State} (h : QExists ne s) (d : Nat) (k : CleanupKind) (hk : ∀ q, k ≠ .scq q) :
    QP ne s (s.addCleanup d k) := by
  refine h.same rfl rfl rfl rfl ?_
  intro e he q hq
  rcases List.mem_cons.mp he with e1 | e1
  · subst e1; exact absurd hq (hk q)
  · exact e1

theorem QExists.maybeStartCleanup {s : State} (h : QExists ne s) (o : Nat) : QP ne s (maybeStartCleanup s o) := by
  unfold BbRe.Sched.maybeStartCleanup
  split
  · split
    · exact h.addCleanup _ _ (by intro q; simp)
    · exact ⟨h, QFr.refl s⟩
  · exact ⟨h, QFr.refl s⟩

theorem QExists.setScq {s : State} (h : QExists ne s) (q : Scq) : QP ne s (s.setScq q) := by
  refine h.upd ?_ rfl ⟨fun _ h _ _ => h, fun wk h => ⟨wk, h, rfl⟩⟩ h.tq
  unfold scqIds State.setScq
  simp only [List.map_map]
  apply List.map_congr_left
  intro x _
  simp only [Function.comp]
  split
  · rename_i he; exact he.symm
  · rfl

theorem QExists.wakeWorker {s : State} (h : QExists ne s) (w : Worker) (hw : w ∈ s.workers) :
    QP ne s (wakeWorker s w) :=
  h.setWorker _ ⟨w, hw, rfl⟩

end prim

/-- errors of `step` that say "the size-class / platform queue of a task or worker is missing" -/
def routingErrors : List String :=
  [ "complete: no platform queue", "platform queue without size class queue",
    "getNextTask: no queue", "syncWake: no queue" ]

def sizelessError : String := "platform queue without size classes"

def BadErr (ne : Prop) (e : String) : Prop := e ∈ routingErrors ∨ (ne ∧ e = sizelessError)

/-- `x` returns a value satisfying `Q`, or fails with an error that is not a routing error -/
abbrev wpR {α} (ne : Prop) (x : M α) (Q : α → Prop) : Prop := wpE (fun e => ¬ BadErr ne e) x Q

section wpr
variable {ne : Prop}

theorem wpR_ok {α} (a : α) (Q : α → Prop) : wpR ne (Except.ok a) Q ↔ Q a := Iff.rfl
theorem wpR_pure {α} (a : α) (Q : α → Prop) : wpR ne (pure a : M α) Q ↔ Q a := Iff.rfl
theorem wpR_error {α} (e : String) (Q : α → Prop) : wpR ne (Except.error e : M α) Q ↔ ¬ BadErr ne e := Iff.rfl
theorem wpR_throw {α} (e : String) (Q : α → Prop) : wpR ne (throw e : M α) Q ↔ ¬ BadErr ne e := Iff.rfl

theorem wpR_bind {α β} {x : M α} {f : α → M β} {Q : β → Prop} (h : wpR ne x (fun a => wpR ne (f a) Q)) :
    wpR ne (x >>= f) Q := wpE.bind h

theorem wpR_mono {α} {x : M α} {Q Q' : α → Prop} (h : wpR ne x Q) (hq : ∀ a, Q a → Q' a) : wpR ne x Q' :=
  wpE.mono h hq

theorem wpR_seq {α β} {x : M α} {f : α → M β} {P : α → Prop} {Q : β → Prop} (hx : wpR ne x P)
    (hf : ∀ a, P a → wpR ne (f a) Q) : wpR ne (x >>= f) Q := wpE.seq hx hf

theorem wpR_by_cases {α} {c : Prop} [Decidable c] {x y : M α} {Q : α → Prop} (hx : c → wpR ne x Q)
    (hy : ¬ c → wpR ne y Q) : wpR ne (if c then x else y) Q := wpE.by_cases hx hy

theorem wpR_ite {α} {c : Prop} [Decidable c] {x y : M α} {Q : α → Prop} (hx : wpR ne x Q) (hy : wpR ne y Q) :
    wpR ne (if c then x else y) Q := wpE.ite hx hy

/-- combine with a `wp` specification of the `Inv` development -/
theorem wpR_and {α} {x : M α} {Q Q' : α → Prop} (h : wpR ne x Q) (h' : wp x Q') : wpR ne x (fun a => Q a ∧ Q' a) :=
  (wpE.and h h').imp (fun _ => id) fun _ => And.left

theorem wpR_of_ok {α} {x : M α} {Q : α → Prop} {a : α} (h : wpR ne x Q) (hx : x = .ok a) : Q a := wpE.of_ok h hx

theorem wpR_of_error {α} {x : M α} {Q : α → Prop} {e : String} (h : wpR ne x Q) (hx : x = .error e) :
    ¬ BadErr ne e := wpE.of_error (E := fun e => ¬ BadErr ne e) h hx

end wpr

/-- close a goal `¬ BadErr ne "literal"` for a literal that is not a routing error -/
macro "noterr" : tactic =>
  `(tactic| simp only [wpR_throw, wpR_error, throw_bind', error_bind', BadErr, routingErrors, sizelessError,
      List.mem_cons, List.not_mem_nil, String.reduceEq, or_self, and_false, not_false_eq_true])

end BbRe.Lemmas.SchedQ
