import BbRe.Lemmas.NfsInv
/-!
# CLOSE really closes (C18.closed_means_closed)

`closeStartActs` (4.0 CLOSE / `removeStart`, first half of the 4.1 `remove`) leaves the open-owner
file without a share reservation of its own and without lock-owner files; `finalize` takes it out of
the maps; a record that is out of the maps exists only as long as in-flight I/O refers to it, and its
counters are exactly the clones of that I/O.  Core Lean only.
-/
namespace BbRe.Lemmas.NfsClose
open BbRe.NfsState BbRe.NfsShare BbRe.Lemmas.NfsInv

/-! ## `applyAll`, stickiness of `panic` -/

theorem applyAll_nil (s : State) : applyAll s [] = s := rfl

theorem applyAll_cons (s : State) (a : Act) (acts : List Act) :
    applyAll s (a :: acts) = applyAll (apply s a) acts := rfl

theorem applyAll_append (s : State) (xs ys : List Act) :
    applyAll s (xs ++ ys) = applyAll (applyAll s xs) ys := by
  unfold applyAll; exact List.foldl_append ..

theorem apply_of_panic {s : State} (h : s.panic.isSome = true) (a : Act) : apply s a = s := by
  unfold apply; rw [if_pos h]

theorem applyAll_of_panic {s : State} (h : s.panic.isSome = true) (acts : List Act) :
    applyAll s acts = s := by
  induction acts with
  | nil => rfl
  | cons a rest ih => rw [applyAll_cons, apply_of_panic h, ih]

/-- no panic at the end: no panic before -/
theorem panic_none_of_apply {s : State} {a : Act} (h : (apply s a).panic = none) : s.panic = none := by
  cases hp : s.panic with
  | none => rfl
  | some m =>
    have : s.panic.isSome = true := by rw [hp]; rfl
    rw [apply_of_panic this, hp] at h
    cases h

theorem panic_none_of_applyAll {s : State} {acts : List Act} (h : (applyAll s acts).panic = none) :
    s.panic = none := by
  cases hp : s.panic with
  | none => rfl
  | some m =>
    have : s.panic.isSome = true := by rw [hp]; rfl
    rw [applyAll_of_panic this, hp] at h
    cases h

/-! ## `getFile` through the state updates -/

theorem getFile_congr {s s' : State} (h : s'.files = s.files) (sid : Nat) :
    s'.getFile sid = s.getFile sid := by
  unfold State.getFile; rw [h]

theorem getFile_modFile (s : State) (sid : Nat) (g : OFile → OFile) (hg : ∀ x, (g x).sid = x.sid)
    {f : OFile} (hf : s.getFile sid = some f) : (s.modFile sid g).getFile sid = some (g f) := by
  have hs : f.sid = sid := (NfsInvS.getFile_some hf).2
  unfold State.getFile State.modFile at *
  simp only [List.find?_map]
  have : ((fun f : OFile => f.sid == sid) ∘ fun f => if (f.sid == sid) = true then g f else f)
      = fun f : OFile => f.sid == sid := by
    funext x
    simp only [Function.comp]
    split
    · rw [hg]
    · rfl
  rw [this, hf]
  simp [hs]

theorem getFile_pushPend (s : State) (leaf : Nat) (m : Mask) (sid : Nat) :
    (s.pushPend leaf m).getFile sid = s.getFile sid := by
  unfold State.pushPend; split
  · rfl
  · rfl

/-! ## One round of the loop: unlock, remove, prune -/

/-- what a step keeps of the open-owner file `sid` -/
structure Keeps (g g' : OFile) : Prop where
  live : g'.live = g.live
  file : g'.file = g.file
  share : g'.share = g.share

theorem Keeps.rfl' (g : OFile) : Keeps g g := ⟨rfl, rfl, rfl⟩
theorem Keeps.trans {a b c : OFile} (h1 : Keeps a b) (h2 : Keeps b c) : Keeps a c :=
  ⟨h2.live.trans h1.live, h2.file.trans h1.file, h2.share.trans h1.share⟩

theorem getFile_unlockAllLofs (s : State) (sid lsid : Nat) (g : OFile) (hg : s.getFile sid = some g) :
    ∃ g1, (Do.unlockAllLofs s sid lsid).getFile sid = some g1 ∧ Keeps g g1 ∧
      g1.lofs.map (·.sid) = g.lofs.map (·.sid) := by
  unfold Do.unlockAllLofs
  rw [hg]
  simp only []
  split
  · split
    · exact ⟨g, hg, Keeps.rfl' g, rfl⟩
    · rw [getFile_modFile _ sid _ (by intro; rfl) (show (s.modPool _ _).getFile sid = some g from hg)]
      exact ⟨_, rfl, ⟨rfl, rfl, rfl⟩, NfsInvS.map_sid_lockCount ..⟩
  · exact ⟨g, hg, Keeps.rfl' g, rfl⟩

theorem filter_ne_of_notMem (lsid : Nat) : ∀ (tl : List LOFile), lsid ∉ tl.map (·.sid) →
    tl.filter (fun l => l.sid != lsid) = tl
  | [], _ => rfl
  | x :: tl, h => by
    simp only [List.map_cons, List.mem_cons, not_or] at h
    have hx : (x.sid != lsid) = true := by
      simp only [bne_iff_ne, ne_eq]; exact fun e => h.1 e.symm
    rw [List.filter_cons, if_pos hx, filter_ne_of_notMem lsid tl h.2]

/-- `removeLofs` of the first lock-owner file: unless it panics, exactly that one goes -/
theorem getFile_removeLofs (s : State) (sid lsid : Nat) (g : OFile) (rest : List Nat)
    (hg : s.getFile sid = some g) (hl : g.lofs.map (·.sid) = lsid :: rest)
    (hnd : (g.lofs.map (·.sid)).Nodup) (hp : (Do.removeLofs s sid lsid).panic = none) :
    ∃ g1, (Do.removeLofs s sid lsid).getFile sid = some g1 ∧ Keeps g g1 ∧
      g1.lofs.map (·.sid) = rest := by
  cases hlofs : g.lofs with
  | nil => rw [hlofs] at hl; cases hl
  | cons l tl =>
    rw [hlofs] at hl hnd
    simp only [List.map_cons, List.cons.injEq] at hl
    obtain ⟨hl1, hl2⟩ := hl
    simp only [List.map_cons, List.nodup_cons] at hnd
    have hfind : g.lofs.find? (fun l => l.sid == lsid) = some l := by
      rw [hlofs, List.find?_cons]
      have : (l.sid == lsid) = true := by simp [hl1]
      rw [this]
    have hfilter : g.lofs.filter (fun l => l.sid != lsid) = tl := by
      rw [hlofs, List.filter_cons]
      have : (l.sid != lsid) = false := by simp [hl1]
      rw [this]
      simp only [Bool.false_eq_true, if_false]
      exact filter_ne_of_notMem lsid tl (hl1 ▸ hnd.1)
    unfold Do.removeLofs at hp ⊢
    rw [hg] at hp ⊢
    simp only [] at hp ⊢
    rw [hfind] at hp ⊢
    simp only [] at hp ⊢
    split at hp
    · simp [State.fail] at hp
    · rename_i hlc
      rw [if_neg hlc]
      split at hp
      · simp [State.fail] at hp
      · rw [getFile_pushPend, getFile_modFile _ sid _ (by intro; rfl) hg]
        refine ⟨_, rfl, ⟨rfl, rfl, rfl⟩, ?_⟩
        simp only []
        rw [hfilter, hl2]

theorem getFile_loPrune (s : State) (id sid : Nat) : (Do.loPrune s id).getFile sid = s.getFile sid := by
  unfold Do.loPrune; split
  · rfl
  · rfl

theorem none_subset (m : Mask) : Mask.none.subset m = true := by
  cases m; rfl

/-- the last step: the open gives up its own share reservation -/
theorem getFile_downgradeNone (s : State) (sid : Nat) (g : OFile)
    (hg : s.getFile sid = some g) (hlive : g.live = true)
    (hp : (Do.downgradeOpen s sid Mask.none).panic = none) :
    ∃ g1, (Do.downgradeOpen s sid Mask.none).getFile sid = some g1 ∧ g1.live = true ∧ g1.file = g.file ∧
      g1.share = Mask.none ∧ g1.lofs = g.lofs := by
  unfold Do.downgradeOpen at hp ⊢
  rw [hg] at hp ⊢
  simp only [hlive, none_subset, Bool.not_true, Bool.or_self, Bool.false_eq_true, if_false] at hp ⊢
  split at hp
  · simp [State.fail] at hp
  · rw [getFile_pushPend, getFile_modFile _ sid _ (by intro; rfl) hg]
    exact ⟨_, rfl, hlive, rfl, rfl, rfl⟩

/-- the actions of `closeStartActs` for the lock-owner files `L` -/
def loopActs (sid : Nat) (L : List LOFile) : List Act :=
  L.flatMap (fun l => [Act.unlockAllLofs sid l.sid, Act.removeLofs sid l.sid, Act.loPrune l.lo]) ++
    [Act.downgradeOpen sid Mask.none]

theorem closeStartActs_eq {s : State} {sid : Nat} {f : OFile} (hf : s.getFile sid = some f) :
    closeStartActs s sid = loopActs sid f.lofs := by
  unfold closeStartActs loopActs; rw [hf]

/-- without a panic, `apply` runs the action (`t` is the action's result) -/
theorem apply_run {s t : State} (h : s.panic = none) :
    (if s.panic.isSome = true then s else t) = t := by rw [h]; rfl

theorem loop_clears (sid : Nat) : ∀ (L : List LOFile) (t : State) (g : OFile), Inv t →
    t.getFile sid = some g → g.live = true → L.map (·.sid) = g.lofs.map (·.sid) →
    (applyAll t (loopActs sid L)).panic = none →
    ∃ g', (applyAll t (loopActs sid L)).getFile sid = some g' ∧ g'.live = true ∧
      g'.share = Mask.none ∧ g'.lofs = [] ∧ g'.file = g.file
  | [], t, g, _, hg, hlive, hL, hp => by
    have hlofs : g.lofs = [] := by
      cases h : g.lofs with
      | nil => rfl
      | cons a b => rw [h] at hL; cases hL
    have e : applyAll t (loopActs sid []) = apply t (Act.downgradeOpen sid Mask.none) := rfl
    rw [e] at hp ⊢
    have hp0 := panic_none_of_apply hp
    rw [show apply t (Act.downgradeOpen sid Mask.none) = Do.downgradeOpen t sid Mask.none from
      apply_run hp0] at hp ⊢
    obtain ⟨g1, h1, h2, h3, h4, h5⟩ := getFile_downgradeNone t sid g hg hlive hp
    exact ⟨g1, h1, h2, h4, h5.trans hlofs, h3⟩
  | l :: L, t, g, hinv, hg, hlive, hL, hp => by
    have e : applyAll t (loopActs sid (l :: L)) =
        applyAll (apply (apply (apply t (Act.unlockAllLofs sid l.sid)) (Act.removeLofs sid l.sid))
          (Act.loPrune l.lo)) (loopActs sid L) := rfl
    rw [e] at hp ⊢
    have hp3 := panic_none_of_applyAll hp
    have hp2 := panic_none_of_apply hp3
    have hp1 := panic_none_of_apply hp2
    have hp0 := panic_none_of_apply hp1
    have i1 := inv_apply t (Act.unlockAllLofs sid l.sid) hinv
    have i2 := inv_apply _ (Act.removeLofs sid l.sid) i1
    have i3 := inv_apply _ (Act.loPrune l.lo) i2
    -- unlock
    obtain ⟨g1, hg1, k1, hl1⟩ : ∃ g1, (apply t (Act.unlockAllLofs sid l.sid)).getFile sid = some g1 ∧
        Keeps g g1 ∧ g1.lofs.map (·.sid) = g.lofs.map (·.sid) := by
      rw [show apply t (Act.unlockAllLofs sid l.sid) = Do.unlockAllLofs t sid l.sid from apply_run hp0]
      exact getFile_unlockAllLofs t sid l.sid g hg
    have hl1' : g1.lofs.map (·.sid) = l.sid :: L.map (·.sid) := by
      rw [hl1, ← hL]; rfl
    have hnd := i1.s.lofsSidNodup g1 (NfsInvS.getFile_some hg1).1
    -- remove
    obtain ⟨g2, hg2, k2, hl2⟩ : ∃ g2, (apply (apply t (Act.unlockAllLofs sid l.sid))
        (Act.removeLofs sid l.sid)).getFile sid = some g2 ∧ Keeps g1 g2 ∧
        g2.lofs.map (·.sid) = L.map (·.sid) := by
      rw [show apply _ (Act.removeLofs sid l.sid) = Do.removeLofs _ sid l.sid from apply_run hp1]
        at hp2 ⊢
      exact getFile_removeLofs _ sid l.sid g1 _ hg1 hl1' hnd hp2
    -- prune
    have hg3 : (apply (apply (apply t (Act.unlockAllLofs sid l.sid)) (Act.removeLofs sid l.sid))
        (Act.loPrune l.lo)).getFile sid = some g2 := by
      rw [show apply _ (Act.loPrune l.lo) = Do.loPrune _ l.lo from apply_run hp2, getFile_loPrune]
      exact hg2
    have k := k1.trans k2
    obtain ⟨g', h1, h2, h3, h4, h5⟩ := loop_clears sid L _ g2 i3 hg3 (k.live.trans hlive) hl2.symm hp
    exact ⟨g', h1, h2, h3, h4, h5.trans k.file⟩

/-- CLOSE (first phase): unless the server panics, the open-owner file keeps no share reservation of
its own and no lock-owner file; what is left of its counters are the clones of in-flight I/O -/
theorem closeStart_clears (s : State) (h : Inv s) (sid : Nat) (f : OFile)
    (hf : s.getFile sid = some f) (hl : f.live = true)
    (hp : (applyAll s (closeStartActs s sid)).panic = none) :
    ∃ g, (applyAll s (closeStartActs s sid)).getFile sid = some g ∧ g.live = true ∧
      g.share = Mask.none ∧ g.lofs = [] ∧ g.file = f.file ∧
      ∀ bit, g.count.get bit =
        (applyAll s (closeStartActs s sid)).ios.countP (fun io => io.sid == sid && io.share.get bit) := by
  have hI := inv_applyAll s (closeStartActs s sid) h
  rw [closeStartActs_eq hf] at hp hI ⊢
  obtain ⟨g, h1, h2, h3, h4, h5⟩ := loop_clears sid f.lofs s f h hf hl rfl hp
  refine ⟨g, h1, h2, h3, h4, h5, ?_⟩
  intro bit
  have hm := NfsInvS.getFile_some h1
  rw [NfsInvG.count_eq_ios hI.k hm.1 h3 h4 bit, hm.2]

/-- what `finalize` leaves in `files`, unless it panics -/
theorem finalize_files (s : State) (sid : Nat) (g : OFile) (hg : s.getFile sid = some g)
    (hl : g.live = true) (hs : g.share = Mask.none) (hlo : g.lofs = [])
    (hp : (Do.finalize s sid).panic = none) :
    (Do.finalize s sid).files =
      (s.files.map (fun f => if f.sid == sid then { f with live := false } else f)).filter
        (fun f => f.live || s.ios.any (fun io => io.sid == f.sid)) ∧
    (Do.finalize s sid).ios = s.ios := by
  have hc : (!g.live || !g.share.isNone || !g.lofs.isEmpty) = false := by rw [hl, hs, hlo]; rfl
  unfold Do.finalize at hp ⊢
  rw [hg] at hp ⊢
  simp only [hc, Bool.false_eq_true, if_false] at hp ⊢
  cases hgp : s.getPool g.file with
  | none => rw [hgp] at hp; cases hp
  | some e =>
    rw [hgp] at hp
    by_cases h0 : e.useCount = 0
    · simp only [h0, if_true] at hp; cases hp
    · simp only [h0, if_false]
      exact ⟨rfl, rfl⟩

/-- the finalising step removes the record from the maps; it survives only as long as I/O refers to it -/
theorem finalize_removes (s : State) (sid : Nat) (g : OFile)
    (hg : s.getFile sid = some g) (hl : g.live = true) (hs : g.share = Mask.none) (hlo : g.lofs = [])
    (hp : (apply s (Act.finalize sid)).panic = none) :
    (∀ x ∈ (apply s (Act.finalize sid)).files, x.sid = sid → x.live = false) ∧
    ((∀ io ∈ s.ios, io.sid ≠ sid) → ∀ x ∈ (apply s (Act.finalize sid)).files, x.sid ≠ sid) := by
  have hp0 := panic_none_of_apply hp
  rw [show apply s (Act.finalize sid) = Do.finalize s sid from apply_run hp0] at hp ⊢
  have hF := (finalize_files s sid g hg hl hs hlo hp).1
  have h1 : ∀ x ∈ (Do.finalize s sid).files, x.sid = sid → x.live = false := by
    intro x hx hxs
    rw [hF, List.mem_filter, List.mem_map] at hx
    obtain ⟨⟨f0, _, rfl⟩, _⟩ := hx
    by_cases hs0 : f0.sid = sid
    · simp [hs0]
    · exfalso
      have : (f0.sid == sid) = false := by simp [hs0]
      simp only [this, Bool.false_eq_true, if_false] at hxs
      exact hs0 hxs
  refine ⟨h1, ?_⟩
  intro hio x hx hxs
  have hlive := h1 x hx hxs
  rw [hF, List.mem_filter] at hx
  have hany := hx.2
  rw [hlive, Bool.false_or, List.any_eq_true] at hany
  obtain ⟨io, hio', he⟩ := hany
  have : io.sid = x.sid := by simpa using he
  exact hio io hio' (this.trans hxs)

/-- the actions of `closeStartActs` do not touch the I/O records -/
theorem ios_loopActs (sid : Nat) : ∀ (L : List LOFile) (t : State),
    (applyAll t (loopActs sid L)).ios = t.ios
  | [], t => by
    have e : applyAll t (loopActs sid []) = apply t (Act.downgradeOpen sid Mask.none) := rfl
    rw [e]
    by_cases hp : t.panic.isSome = true
    · rw [apply_of_panic hp]
    · unfold apply; rw [if_neg hp]
      exact (NfsInvC.frame_downgradeOpen t sid Mask.none).ios
  | l :: L, t => by
    have e : applyAll t (loopActs sid (l :: L)) =
        applyAll (apply (apply (apply t (Act.unlockAllLofs sid l.sid)) (Act.removeLofs sid l.sid))
          (Act.loPrune l.lo)) (loopActs sid L) := rfl
    have step : ∀ (u : State) (a : Act), (a = Act.unlockAllLofs sid l.sid ∨ a = Act.removeLofs sid l.sid ∨
        a = Act.loPrune l.lo) → (apply u a).ios = u.ios := by
      intro u a ha
      by_cases hp : u.panic.isSome = true
      · rw [apply_of_panic hp]
      · unfold apply; rw [if_neg hp]
        rcases ha with rfl | rfl | rfl
        · exact (NfsInvC.frame_unlockAllLofs u sid l.sid).ios
        · exact (NfsInvC.frame_removeLofs u sid l.sid).ios
        · exact (NfsInvC.frame_loPrune u l.lo).ios
    rw [e, ios_loopActs sid L, step _ _ (Or.inr (Or.inr rfl)), step _ _ (Or.inr (Or.inl rfl)),
      step _ _ (Or.inl rfl)]

theorem ios_closeStartActs (s : State) (sid : Nat) : (applyAll s (closeStartActs s sid)).ios = s.ios := by
  cases hf : s.getFile sid with
  | none => unfold closeStartActs; rw [hf]; rfl
  | some f => rw [closeStartActs_eq hf]; exact ios_loopActs sid f.lofs s

/-- both together -/
theorem close_removes (s : State) (h : Inv s) (sid : Nat) (f : OFile)
    (hf : s.getFile sid = some f) (hl : f.live = true)
    (hp : (applyAll s (closeAndFinalizeActs s sid)).panic = none) :
    let s' := applyAll s (closeAndFinalizeActs s sid)
    (∀ x ∈ s'.files, x.sid = sid → x.live = false ∧ x.share = Mask.none ∧ x.lofs = []) ∧
    ((∀ io ∈ s.ios, io.sid ≠ sid) → ∀ x ∈ s'.files, x.sid ≠ sid) := by
  intro s'
  have hI : Inv s' := inv_applyAll s _ h
  have e : s' = apply (applyAll s (closeStartActs s sid)) (Act.finalize sid) := by
    show applyAll s (closeStartActs s sid ++ [Act.finalize sid]) = _
    rw [applyAll_append]; rfl
  have hp' : (apply (applyAll s (closeStartActs s sid)) (Act.finalize sid)).panic = none := e ▸ hp
  have hIt : Inv (applyAll s (closeStartActs s sid)) := inv_applyAll s _ h
  obtain ⟨g, h1, h2, h3, h4, _, _⟩ := closeStart_clears s h sid f hf hl (panic_none_of_apply hp')
  obtain ⟨r1, r2⟩ := finalize_removes _ sid g h1 h2 h3 h4 hp'
  rw [← e] at r1 r2
  refine ⟨?_, ?_⟩
  · intro x hx hxs
    have hd := r1 x hx hxs
    exact ⟨hd, hI.s.deadClean x hx hd⟩
  · intro hio
    apply r2
    rw [ios_closeStartActs]
    exact hio

/-- a record that left the maps contributes to the ledger only through in-flight I/O: once no I/O
refers to it, it does not exist (any reachable state) -/
theorem dead_only_io (s : State) (h : Inv s) (x : OFile) (hx : x ∈ s.files) (hd : x.live = false) :
    x.share = Mask.none ∧ x.lofs = [] ∧ (∃ io ∈ s.ios, io.sid = x.sid) ∧
    ∀ bit, x.count.get bit = s.ios.countP (fun io => io.sid == x.sid && io.share.get bit) := by
  obtain ⟨h1, h2⟩ := h.s.deadClean x hx hd
  exact ⟨h1, h2, h.s.deadUsed x hx hd, fun bit => NfsInvG.count_eq_ios h.k hx h1 h2 bit⟩

/-! ## Non-vacuity: a reachable state with an open, a lock-owner file and I/O in flight, whose CLOSE
does not panic -/

def exState : State := applyAll (init 41 1)
  [Act.newClient 1 1, Act.confirmClient 1, Act.vopen 7 0 Mask.both false false, Act.openNew 7 1 5,
   Act.loRegister 1 9, Act.addLofs 2 3, Act.ioBegin 8 2 Mask.read false]

example : Inv exState := inv_reachable 41 1 _

example : ∃ f, exState.getFile 2 = some f ∧ f.live = true ∧ f.lofs.length = 1 ∧
    exState.ios.length = 1 ∧
    (applyAll exState (closeStartActs exState 2)).panic = none ∧
    (applyAll exState (closeAndFinalizeActs exState 2)).panic = none :=
  ⟨_, rfl, rfl, rfl, rfl, rfl, rfl⟩

/-- the record survives CLOSE + finalize as a dead record (hypothesis of `dead_only_io`) -/
example : ∃ x ∈ (applyAll exState (closeAndFinalizeActs exState 2)).files, x.live = false :=
  ⟨_, List.mem_cons_self, rfl⟩

end BbRe.Lemmas.NfsClose
