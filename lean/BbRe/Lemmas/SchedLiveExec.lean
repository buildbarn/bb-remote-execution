import BbRe.Lemmas.SchedLiveRoute
import BbRe.Lemmas.SchedLiveAssign
/-!
Outcomes of `Execute` with respect to routing, the largest size class used by
the retry branch (C05).
-/
namespace BbRe.Lemmas.SchedLive
open BbRe.Sched

theorem streamAttach_tasks {s s' : State} {c o : Nat} (hh : streamAttach s c o = .ok s') : s'.tasks = s.tasks := by
  obtain ⟨op, _, h1⟩ := streamAttach_ok hh
  obtain ⟨op', t, _, _, ⟨r, _, _, rfl⟩ | ⟨_, rfl⟩⟩ := streamSend_ok h1 <;> simp [attachS]

/-- **No matching queue.**  Nothing is created and the call returns `UNAVAILABLE` before the hard-failure
time, `FAILED_PRECONDITION` after it. -/
theorem exec_no_queue {h : Hints} {s s1 s' : State} {now c digest dkey : Nat} {dnc : Bool} {comps : List Nat}
    {platform : Nat} {inv : List Nat} {prio : Int}
    (hh : execArrive h s now c digest dkey dnc comps platform inv prio = .ok s')
    (h1 : enter h s now = .ok s1) (hd : alookup dkey s1.dedup = none) (hr : route s1 comps platform = none) :
    s'.tasks = s1.tasks ∧ s'.ops = s1.ops ∧ s'.streams = s1.streams ∧ s'.dedup = s1.dedup ∧
    s'.events = .ret c (if s1.now < s1.cfg.hardFailTime then cUnavailable else cFailedPrecondition) ::
      .selAbandoned :: s1.events := by
  obtain ⟨s1', h1', h2 | h2 | h2⟩ := execArrive_ok hh
  all_goals (rw [h1] at h1'; injection h1' with h1'; subst h1')
  · obtain ⟨tid, _, e, _⟩ := h2; rw [hd] at e; cases e
  · obtain ⟨_, _, rfl⟩ := h2; exact ⟨rfl, rfl, rfl, rfl, rfl⟩
  · obtain ⟨_, pq, _, _, e, _⟩ := h2; rw [hr] at e; cases e

/-- **A new task goes to a size-class queue of the routed platform queue.** -/
theorem exec_new_task {h : Hints} {s s1 s' : State} {now c digest dkey : Nat} {dnc : Bool} {comps : List Nat}
    {platform : Nat} {inv : List Nat} {prio : Int}
    (hh : execArrive h s now c digest dkey dnc comps platform inv prio = .ok s')
    (h1 : enter h s now = .ok s1) (hd : alookup dkey s1.dedup = none) {pq : PQ} (hr : route s1 comps platform = some pq) :
    ∃ sc t', (∃ sq ∈ s1.scqs, sq.id = ⟨pq.id, sc⟩) ∧ s'.task? s1.nextTask = some t' ∧ t'.scq = ⟨pq.id, sc⟩ ∧
      t'.digest = digest ∧ t'.dkey = dkey ∧ t'.response = none ∧
      ∀ k, k ≠ s1.nextTask → s'.task? k = s1.task? k := by
  obtain ⟨s1', h1', h2 | h2 | h2⟩ := execArrive_ok hh
  all_goals (rw [h1] at h1'; injection h1' with h1'; subst h1')
  · obtain ⟨tid, _, e, _⟩ := h2; rw [hd] at e; cases e
  · obtain ⟨_, e, _⟩ := h2; rw [hr] at e; cases e
  · obtain ⟨_, pq', sc, s3, e, hsz, h3, h4⟩ := h2
    rw [hr] at e; injection e with e; subst e
    obtain ⟨t, t', h0, hle, e1, _⟩ := schedule_shape h3
    have ht : t = newTask s1 digest dkey dnc ⟨pq.id, sc⟩ := by simpa [State.task?] using h0.symm
    subst ht
    have etasks := streamAttach_tasks h4
    refine ⟨sc, t', getElem?_mem_sizes hsz, ?_, ?_, ?_, ?_, ?_, ?_⟩
    · simp [State.task?, etasks, e1, newTask]
    all_goals first
      | (cases hle <;> rfl)
      | skip
    intro k hk
    simp only [State.task?, etasks, e1, newTaskS_tasks, alookup_aset]
    simp [newTask, Ne.symm hk]

theorem insertSorted_sorted (x : Nat) (l : List Nat) (h : l.Pairwise (· ≤ ·)) : (insertSorted x l).Pairwise (· ≤ ·) := by
  induction l with
  | nil => simp [insertSorted]
  | cons a r ih =>
    simp only [insertSorted]
    rw [List.pairwise_cons] at h
    split
    · rename_i hlt
      rw [List.pairwise_cons]
      refine ⟨?_, ih h.2⟩
      intro y hy
      rcases (mem_insertSorted x y r).1 hy with rfl | hy
      · omega
      · exact h.1 y hy
    · rename_i hge
      rw [List.pairwise_cons]
      refine ⟨?_, List.pairwise_cons.2 h⟩
      intro y hy
      rcases List.mem_cons.1 hy with rfl | hy
      · omega
      · have := h.1 y hy; omega

theorem sizes_sorted (s : State) (pq : Nat) : (s.sizes pq).Pairwise (· ≤ ·) := by
  unfold State.sizes
  have : ∀ (l : List Scq) (acc : List Nat), acc.Pairwise (· ≤ ·) →
      (l.foldl (fun acc q => insertSorted q.id.sc acc) acc).Pairwise (· ≤ ·) := by
    intro l; induction l with
    | nil => intro acc h; exact h
    | cons a r ih => intro acc h; exact ih _ (insertSorted_sorted _ _ h)
  exact this _ [] List.Pairwise.nil

theorem getLast?_max {l : List Nat} (h : l.Pairwise (· ≤ ·)) {m : Nat} (hm : l.getLast? = some m) : ∀ x ∈ l, x ≤ m := by
  induction l with
  | nil => simp at hm
  | cons a r ih =>
    rw [List.pairwise_cons] at h
    cases r with
    | nil => simp at hm; subst hm; simp
    | cons b r' =>
      have hm' : (b :: r').getLast? = some m := by simpa [List.getLast?_cons_cons] using hm
      have hmem : m ∈ b :: r' := List.mem_of_getLast? hm'
      intro x hx
      rcases List.mem_cons.1 hx with rfl | hx
      · exact h.1 m hmem
      · exact ih h.2 hm' x hx

/-- `largestScq` stays in the platform queue and names its largest size class -/
theorem largestScq_spec (s : State) (q : ScqId) :
    (largestScq s q).pq = q.pq ∧
    ((s.sizes q.pq) ≠ [] → (largestScq s q).sc ∈ s.sizes q.pq ∧ ∀ x ∈ s.sizes q.pq, x ≤ (largestScq s q).sc) := by
  unfold largestScq
  cases hl : (s.sizes q.pq).getLast? with
  | none => exact ⟨rfl, fun hne => absurd (List.getLast?_eq_none_iff.1 hl) hne⟩
  | some m => exact ⟨rfl, fun _ => ⟨List.mem_of_getLast? hl, getLast?_max (sizes_sorted s q.pq) hl⟩⟩

/-- **The retry branch moves the task to the largest size class of its platform queue.** -/
theorem retry_moves_to_largest {h : Hints} {s s' : State} {tid : Nat} {r : Resp} {t : Task}
    (hk : KeysOK s) (h0 : s.task? tid = some t) (hr : t.response = none) (hns : ¬ isSucc r) (hretry : h.retry = true)
    (hh : complete h s tid r true = .ok s') :
    ∃ t', s'.task? tid = some t' ∧ t'.scq = largestScq s t.scq ∧ t'.response = none := by
  obtain ⟨t0, h0', ⟨hsome, _⟩ | ⟨_, l, _, h1 | h1 | h1⟩⟩ := complete_ok hh
  all_goals (rw [h0] at h0'; injection h0' with h0'; subst h0')
  · rw [hr] at hsome; cases hsome
  · exact absurd h1.1 hns
  · have hid := (hk.tid tid t h0).1
    obtain ⟨s2, t2, _, hle, hid2, rfl, _⟩ := completeRetry_shape h1.2.2.2
    have hscq : t2.scq = largestScq s t.scq := by
      have : (retryT (detachW s t) (detachT t) l r).scq = largestScq s t.scq := by
        simp only [retryT, detachT_scq]
        unfold largestScq State.sizes; simp
      cases hle <;> exact this
    have hresp : t2.response = none := by cases hle <;> simp [retryT, hr]
    refine ⟨bumpGen t2, ?_, by simp [bumpGen, hscq], by simp [bumpGen, hresp]⟩
    simp [State.task?, bumpGen, hid2, hid]
  · rcases h1.2.1 with h | h
    · cases h
    · rw [hretry] at h; cases h

end BbRe.Lemmas.SchedLive
