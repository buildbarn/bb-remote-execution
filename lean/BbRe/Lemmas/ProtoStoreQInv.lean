import BbRe.Lemmas.ProtoStoreBasic
/-! Structural invariant `QInv` of `Model/ProtoStore.lean`, valid for every `Config`, with the
facts about the steps that the later files share: what `increaseUseCount` and `dequeueOne` do
given consistent queue indices, `findWrite`, lookups after `eraseG`, and `getBegin` split into
the state before its dequeue loop (`getBeginMid`) and the loop. -/
namespace BbRe.Lemmas.ProtoStore
open BbRe.ProtoStore

structure QInv (s : State) : Prop where
  q1 : Q1 s.queue s.idx
  q2 : ∀ h, s.idx h ≠ none → s.useCount h = 0
  acct : ∀ h, s.useCount h = s.held h + refs s.gets h
  mapLt : ∀ d h, s.map d = some h → h < s.nextH
  fresh : ∀ h, s.nextH ≤ h → s.useCount h = 0 ∧ s.idx h = none
  keys : KeysNodup s.gets
  wlt : ∀ g r w, lookupG s.gets g = some r → w ∈ r.writes → w.h < s.nextH
  nopanic : s.panicked = false

theorem qinv_init : QInv init := by
  constructor <;> simp [init, Q1, refs, KeysNodup, lookupG]

/-- What `increaseUseCount` does, given consistent queue indices. -/
theorem increaseUseCount_spec (s : State) (h : Nat) (hq : Q1 s.queue s.idx) :
    ∃ q' idx', increaseUseCount s h =
        { s with useCount := upd s.useCount h (s.useCount h + 1), queue := q', idx := idx' } ∧
      Q1 q' idx' ∧ idx' h = none ∧ (∀ x, x ≠ h → (idx' x ≠ none ↔ s.idx x ≠ none)) := by
  unfold increaseUseCount
  cases hi : s.idx h with
  | none =>
    refine ⟨s.queue, s.idx, ?_, hq, hi, fun x _ => Iff.rfl⟩
    simp [hi]
  | some i =>
    simp only [hi]
    cases hl : s.queue.getLast? with
    | none =>
      exfalso
      have hqi : s.queue[i]? = some h := (hq i h).2 hi
      have : s.queue = [] := by simpa using hl
      rw [this] at hqi; simp at hqi
    | some last =>
      obtain ⟨h1, h2, h3⟩ := q1_swapRemove s.queue s.idx h i last hq hi hl
      refine ⟨_, _, ?_, h3, by simp, ?_⟩
      · have : ¬ (i ≥ s.queue.length ∨ s.idx last ≠ some (s.queue.length - 1)) := by
          intro hc; rcases hc with hc | hc
          · omega
          · exact hc h2
        simp [this]
      · intro x hx
        simp only [upd_apply, hx, if_false]
        by_cases hxl : x = last
        · subst hxl; simp [h2]
        · simp [hxl]

theorem qinv_removeOrQueue (cfg : Config) (s : State) (h : Nat) (hq : QInv s) (hlt : h < s.nextH) :
    QInv (removeOrQueue cfg s h) := by
  unfold removeOrQueue
  by_cases hc : s.useCount h = 0 ∧ ¬ (cfg.writeGuard = true ∧ s.wg h ≠ none)
  · rw [if_pos hc]
    by_cases hcl : s.written h = s.current h
    · rw [if_pos hcl]
      refine { hq with mapLt := ?_ }
      intro d x hx
      dsimp only at hx
      rw [upd_apply] at hx
      split at hx
      · cases hx
      · exact hq.mapLt d x hx
    · rw [if_neg hcl]
      by_cases hi : s.idx h = none
      · rw [if_pos hi]
        refine { hq with q1 := q1_push _ _ _ hq.q1 hi, q2 := ?_, fresh := ?_ }
        · intro x hx
          dsimp only at hx
          rw [upd_apply] at hx
          split at hx
          · rename_i hxh; rw [hxh]; exact hc.1
          · exact hq.q2 x hx
        · intro x hx
          have hxh : x ≠ h := fun he => Nat.lt_irrefl _ (Nat.lt_of_lt_of_le (he ▸ hlt) hx)
          exact ⟨(hq.fresh x hx).1, (upd_other _ _ _ _ hxh).trans (hq.fresh x hx).2⟩
      · rw [if_neg hi]; exact hq
  · rw [if_neg hc]; exact hq

theorem lt_of_refs_pos (s : State) (hq : QInv s) (h : Nat) (hp : 0 < refs s.gets h) : h < s.nextH :=
  Classical.byContradiction fun hn => by
    have := (hq.fresh h (Nat.le_of_not_lt hn)).1
    have := hq.acct h
    omega

theorem qinv_setG (s : State) (g : Nat) (r r' : GetRec) (hq : QInv s)
    (hr : lookupG s.gets g = some r) (he : r'.existing = r.existing)
    (hw : ∀ w, w ∈ r'.writes → w ∈ r.writes ∨ w.h < s.nextH) :
    QInv { s with gets := setG s.gets g r' } := by
  refine { hq with acct := ?_, keys := keysNodup_setG _ _ _ hq.keys, wlt := ?_ }
  · intro x
    dsimp only
    rw [refs_setG_same _ _ _ r _ hr he]
    exact hq.acct x
  · intro g' r'' w hl hw'
    rcases lookupG_setG_some hl with ⟨_, rfl⟩ | ⟨_, hl⟩
    · rcases hw w hw' with h | h
      · exact hq.wlt g r w hr h
      · exact h
    · exact hq.wlt g' r'' w hl hw'

theorem findWrite_some (ws : List Write) (h : Nat) (w : Write) (hf : findWrite ws h = some w) :
    w ∈ ws ∧ w.h = h := by
  unfold findWrite at hf
  refine ⟨List.mem_of_find?_eq_some hf, ?_⟩
  have := List.find?_some hf
  simpa using this

theorem qinv_readDone (s : State) (g : Nat) (ok : Bool) (hq : QInv s) : QInv (readDone s g ok) := by
  unfold readDone
  cases hr : lookupG s.gets g with
  | none => exact hq
  | some r =>
    dsimp only
    by_cases hp : r.readPending = true
    · rw [if_pos hp]; exact qinv_setG s g r _ hq hr rfl (fun w hw => Or.inl hw)
    · rw [if_neg hp]; exact hq

theorem qinv_putDone (cfg : Config) (s : State) (g h : Nat) (o : PutOutcome) (hq : QInv s) :
    QInv (putDone cfg s g h o) := by
  rcases putDone_cases cfg s g h o with he | ⟨r, w, hr, hw⟩
  · rw [he]; exact hq
  · rw [putDone_eq cfg s g h o r w hr hw]
    obtain ⟨hmem, hwh⟩ := findWrite_some _ _ _ hw
    refine qinv_removeOrQueue cfg _ h ?_ (hwh ▸ hq.wlt g r w hr hmem)
    exact { qinv_setG s g r
      { r with writes := r.writes.filter (fun w' => w'.h != h), failed := r.failed || decide (o ≠ .ok) }
      hq hr rfl (fun w' hw' => Or.inl (List.mem_filter.1 hw').1) with }

/-- `decreaseUseCount` of a handle that has one reference more than the accounting says. -/
theorem qinv_decrease (cfg : Config) (s : State) (h : Nat)
    (q1 : Q1 s.queue s.idx) (q2 : ∀ x, s.idx x ≠ none → s.useCount x = 0)
    (acct : ∀ x, s.useCount x = s.held x + refs s.gets x + (if x = h then 1 else 0))
    (mapLt : ∀ d x, s.map d = some x → x < s.nextH)
    (fresh : ∀ x, s.nextH ≤ x → s.useCount x = 0 ∧ s.idx x = none)
    (keys : KeysNodup s.gets)
    (wlt : ∀ g r w, lookupG s.gets g = some r → w ∈ r.writes → w.h < s.nextH)
    (np : s.panicked = false) : QInv (decreaseUseCount cfg s h) := by
  unfold decreaseUseCount
  have hpos : 0 < s.useCount h := by have := acct h; simp at this; omega
  have hlt : h < s.nextH := by
    apply Classical.byContradiction
    intro hn
    have := (fresh h (by omega)).1
    omega
  apply qinv_removeOrQueue
  case hlt => exact hlt
  refine ⟨q1, ?_, ?_, mapLt, ?_, keys, wlt, np⟩
  · intro x hx
    simp only [upd_apply]
    split
    · rename_i hxh; subst hxh; have := q2 x hx; omega
    · exact q2 x hx
  · intro x
    simp only [upd_apply]
    have := acct x
    split
    · rename_i hxh; subst hxh; simp at this; omega
    · rename_i hxh; simp [hxh] at this; exact this
  · intro x hx
    have := fresh x hx
    simp only [upd_apply]
    split
    · rename_i hxh; subst hxh; exact ⟨by omega, this.2⟩
    · exact this

theorem qinv_release (cfg : Config) (s : State) (h : Nat) (dirty : Bool) (hq : QInv s) :
    QInv (release cfg s h dirty) := by
  unfold release
  by_cases hheld : s.held h = 0
  · rw [if_pos hheld]; exact hq
  · rw [if_neg hheld]
    refine qinv_decrease cfg _ h hq.q1 hq.q2 (fun x => ?_) hq.mapLt hq.fresh hq.keys hq.wlt hq.nopanic
    dsimp only
    rw [upd_apply, hq.acct x]
    split
    · rename_i hx; rw [hx]; omega
    · rfl

theorem lookupG_eraseG (gs : List (Nat × GetRec)) (g g' : Nat) (r : GetRec) (hk : KeysNodup gs)
    (hl : lookupG (eraseG gs g) g' = some r) : g' ≠ g ∧ lookupG gs g' = some r := by
  by_cases h : g = g'
  · subst h
    rw [lookupG_eraseG_self gs g hk] at hl
    cases hl
  · rw [lookupG_eraseG_ne gs g g' h] at hl
    exact ⟨fun he => h he.symm, hl⟩

/-- `increaseUseCount` of a handle below `nextH`, together with any change to the holds and
the in-flight Gets that accounts for the new reference. -/
theorem qinv_increase (s : State) (e : Nat) (q' : List Nat) (idx' : Nat → Option Nat)
    (held' : Nat → Nat) (gets' : List (Nat × GetRec)) (hq : QInv s) (helt : e < s.nextH)
    (hq1 : Q1 q' idx') (hie : idx' e = none) (hix : ∀ x, x ≠ e → (idx' x ≠ none ↔ s.idx x ≠ none))
    (acct : ∀ x, upd s.useCount e (s.useCount e + 1) x = held' x + refs gets' x)
    (keys : KeysNodup gets')
    (wlt : ∀ g r w, lookupG gets' g = some r → w ∈ r.writes → w.h < s.nextH) :
    QInv { s with useCount := upd s.useCount e (s.useCount e + 1), queue := q', idx := idx',
                  held := held', gets := gets' } := by
  refine ⟨hq1, ?_, acct, hq.mapLt, ?_, keys, wlt, hq.nopanic⟩
  · intro x hx
    have hxe : x ≠ e := fun he => hx (he ▸ hie)
    exact (upd_other _ _ _ _ hxe).trans (hq.q2 x ((hix x hxe).1 hx))
  · intro x hx
    have hxe : x ≠ e := fun he => Nat.lt_irrefl _ (Nat.lt_of_lt_of_le (he ▸ helt) hx)
    refine ⟨(upd_other _ _ _ _ hxe).trans (hq.fresh x hx).1, ?_⟩
    exact Classical.byContradiction fun hc => (hix x hxe).1 hc (hq.fresh x hx).2

theorem refs_eraseG_some (gs : List (Nat × GetRec)) (g x h : Nat) (r : GetRec)
    (hl : lookupG gs g = some r) (he : r.existing = some h) :
    refs gs x = refs (eraseG gs g) x + (if x = h then 1 else 0) := by
  have := refs_eraseG gs g x r hl
  rw [he] at this
  simp only [Option.some.injEq, eq_comm (a := h)] at this
  exact this.symm

theorem refs_eraseG_none (gs : List (Nat × GetRec)) (g x : Nat) (r : GetRec)
    (hl : lookupG gs g = some r) (he : r.existing = none) : refs (eraseG gs g) x = refs gs x := by
  have := refs_eraseG gs g x r hl
  rw [he] at this
  simpa using this

theorem qinv_getEnd (cfg : Config) (s : State) (g : Nat) (hq : QInv s) : QInv (getEnd cfg s g) := by
  refine getEnd_cases cfg s g _ hq fun r hr _ => ?_
  have hwlt : ∀ g' r' w, lookupG (eraseG s.gets g) g' = some r' → w ∈ r'.writes → w.h < s.nextH :=
    fun g' r' w hl hw => hq.wlt g' r' w (lookupG_eraseG _ _ _ _ hq.keys hl).2 hw
  have hkeys := keysNodup_eraseG s.gets g hq.keys
  dsimp only
  refine ⟨fun _ => ⟨fun h he => ?_, fun he => ?_⟩, fun _ => ⟨fun h he => ?_, fun he => ?_⟩⟩
  · refine qinv_decrease cfg _ h hq.q1 hq.q2 (fun x => ?_) hq.mapLt hq.fresh hkeys hwlt hq.nopanic
    exact (hq.acct x).trans (by rw [refs_eraseG_some _ g x h r hr he, Nat.add_assoc])
  · exact { hq with acct := fun x => (refs_eraseG_none _ g x r hr he).symm ▸ hq.acct x,
                    keys := hkeys, wlt := hwlt }
  · refine { hq with acct := ?_, keys := hkeys, wlt := hwlt }
    intro x
    dsimp only
    rw [hq.acct x, refs_eraseG_some _ g x h r hr he, upd_apply]
    by_cases hx : x = h
    · rw [if_pos hx, if_pos hx, hx, ← Nat.add_assoc, Nat.add_right_comm]
    · rw [if_neg hx, if_neg hx]; rfl
  · have hacct : ∀ x, s.useCount x = s.held x + refs (eraseG s.gets g) x :=
      fun x => (refs_eraseG_none _ g x r hr he).symm ▸ hq.acct x
    refine ⟨fun e hm => ?_, fun _ => ?_⟩
    · obtain ⟨q', idx', heq, hq1, hie, hix⟩ :=
        increaseUseCount_spec { s with gets := eraseG s.gets g } e hq.q1
      rw [heq]
      refine qinv_increase s e q' idx' _ _ hq (hq.mapLt _ _ hm) hq1 hie hix (fun x => ?_) hkeys hwlt
      dsimp only
      rw [upd_apply, upd_apply]
      split
      · rename_i hx; rw [hx, hacct e]; exact Nat.add_right_comm _ _ _
      · exact hacct x
    · -- a new handle `nextH`: it is unused and not queued so far
      obtain ⟨hu, hi⟩ := hq.fresh s.nextH (Nat.le_refl _)
      refine ⟨?_, ?_, ?_, ?_, ?_, hkeys, fun g' r' w hl hw => Nat.lt_succ_of_lt (hwlt g' r' w hl hw),
        hq.nopanic⟩
      · intro i x
        dsimp only
        rw [upd_apply]
        split
        · rename_i hx; rw [hx, ← hi]; exact hq.q1 i s.nextH
        · exact hq.q1 i x
      · intro x hx
        dsimp only at hx ⊢
        rw [upd_apply] at hx ⊢
        split
        · rename_i hxn; rw [if_pos hxn] at hx; exact absurd rfl hx
        · rename_i hxn; rw [if_neg hxn] at hx; exact hq.q2 x hx
      · intro x
        dsimp only
        rw [upd_apply, upd_apply]
        split
        · rename_i hxn
          rw [hxn, (Nat.add_eq_zero_iff.1 ((hacct s.nextH).symm.trans hu)).2]
        · exact hacct x
      · intro d x hx
        dsimp only at hx ⊢
        rw [upd_apply] at hx
        split at hx
        · cases hx; exact Nat.lt_succ_self _
        · exact Nat.lt_succ_of_lt (hq.mapLt d x hx)
      · intro x hx
        dsimp only at hx ⊢
        have hxn : x ≠ s.nextH := by omega
        rw [upd_other _ _ _ _ hxn, upd_other _ _ _ _ hxn]
        exact hq.fresh x (by omega)

/-- What `dequeueOne` does when there is something to dequeue. -/
theorem dequeueOne_eq (s : State) (g h : Nat) (r : GetRec) (hq : Q1 s.queue s.idx)
    (hl : s.queue.getLast? = some h) (hr : lookupG s.gets g = some r) :
    dequeueOne s g = { s with
      queue := s.queue.dropLast
      idx := upd s.idx h none
      wg := upd s.wg h (some g)
      gets := setG s.gets g { r with writes := r.writes ++ [⟨h, s.msg h, s.current h⟩] } } := by
  unfold dequeueOne
  have := (q1_pop s.queue s.idx h hq hl).1
  simp [hl, hr, this]

theorem qinv_dequeueOne (s : State) (g : Nat) (hq : QInv s) : QInv (dequeueOne s g) := by
  cases hl : s.queue.getLast? with
  | none => unfold dequeueOne; simp [hl]; exact hq
  | some h =>
    cases hr : lookupG s.gets g with
    | none => unfold dequeueOne; simp [hl, hr]; exact hq
    | some r =>
      rw [dequeueOne_eq s g h r hq.q1 hl hr]
      obtain ⟨hidx, hq1⟩ := q1_pop s.queue s.idx h hq.q1 hl
      have hlt : h < s.nextH := Classical.byContradiction fun hn => by
        rw [(hq.fresh h (Nat.le_of_not_lt hn)).2] at hidx; cases hidx
      have key := qinv_setG s g r { r with writes := r.writes ++ [⟨h, s.msg h, s.current h⟩] } hq hr rfl
        (by
          intro w hw
          simp only [List.mem_append, List.mem_singleton] at hw
          rcases hw with hw | hw
          · exact Or.inl hw
          · right; rw [hw]; exact hlt)
      refine { key with q1 := hq1, q2 := ?_, fresh := ?_ }
      · intro x hx
        dsimp only at hx ⊢
        simp only [upd_apply] at hx
        split at hx
        · exact absurd rfl hx
        · exact hq.q2 x hx
      · intro x hx
        dsimp only at hx ⊢
        have := hq.fresh x hx
        refine ⟨this.1, ?_⟩
        simp only [upd_apply]
        split
        · rfl
        · exact this.2

theorem qinv_dequeueN (s : State) (g n : Nat) (hq : QInv s) : QInv (dequeueN s g n) :=
  dequeueN_invariant g (qinv_dequeueOne · g) n s hq

/-- The state of `getBegin` before the dequeue loop. -/
def getBeginMid (s : State) (g d : Nat) : State :=
  let ex := s.map d
  let need := if s.store d = s.latest d then 0 else s.latest d
  let s := match ex with
    | some h => increaseUseCount s h
    | none => s
  let r : GetRec :=
    { digest := d, existing := ex, readPending := ex.isNone, readMsg := 0, writes := [], failed := false,
      need := need }
  { s with gets := setG s.gets g r }

theorem getBegin_eq (s : State) (g d : Nat) (hg : lookupG s.gets g = none) :
    getBegin s g d = dequeueN (getBeginMid s g d) g writesPerRead := by
  unfold getBegin
  rw [hg]
  rfl

theorem qinv_getBeginMid (s : State) (g d : Nat) (hq : QInv s) (hg : lookupG s.gets g = none) :
    QInv (getBeginMid s g d) := by
  unfold getBeginMid
  have hwlt : ∀ (r0 : GetRec), r0.writes = [] → ∀ g' r' w, lookupG (setG s.gets g r0) g' = some r' →
      w ∈ r'.writes → w.h < s.nextH := by
    intro r0 h0 g' r' w hl hw
    rcases lookupG_setG_some hl with ⟨_, rfl⟩ | ⟨_, hl⟩
    · rw [h0] at hw; cases hw
    · exact hq.wlt g' r' w hl hw
  cases hm : s.map d with
  | none =>
    dsimp only
    refine { hq with acct := ?_, keys := keysNodup_setG _ _ _ hq.keys, wlt := hwlt _ rfl }
    intro x
    dsimp only
    rw [refs_setG_new _ _ _ _ hg]
    exact hq.acct x
  | some e =>
    dsimp only
    obtain ⟨q', idx', heq, hq1, hie, hix⟩ := increaseUseCount_spec s e hq.q1
    rw [heq]
    refine qinv_increase s e q' idx' s.held _ hq (hq.mapLt _ _ hm) hq1 hie hix (fun x => ?_)
      (keysNodup_setG _ _ _ hq.keys) (hwlt _ rfl)
    rw [refs_setG_new _ _ _ _ hg, upd_apply]
    simp only [Option.some.injEq, eq_comm (a := e)]
    by_cases hx : x = e
    · rw [if_pos hx, if_pos hx, hx, hq.acct e]; exact Nat.add_assoc _ _ _
    · rw [if_neg hx, if_neg hx]; exact hq.acct x

theorem qinv_getBegin (s : State) (g d : Nat) (hq : QInv s) : QInv (getBegin s g d) := by
  cases hg : lookupG s.gets g with
  | some r => unfold getBegin; simp [hg]; exact hq
  | none =>
    rw [getBegin_eq s g d hg]
    exact qinv_dequeueN _ g _ (qinv_getBeginMid s g d hq hg)

theorem qinv_step (cfg : Config) (s : State) (op : Op) (hq : QInv s) : QInv (step cfg s op) := by
  cases op with
  | getBegin g d => exact qinv_getBegin s g d hq
  | readDone g ok => exact qinv_readDone s g ok hq
  | putDone g h o => exact qinv_putDone cfg s g h o hq
  | getEnd g => exact qinv_getEnd cfg s g hq
  | release h dirty => exact qinv_release cfg s h dirty hq

theorem qinv_run (cfg : Config) (ops : List Op) : QInv (run cfg ops) :=
  run_invariant cfg qinv_init (qinv_step cfg) ops

end BbRe.Lemmas.ProtoStore
