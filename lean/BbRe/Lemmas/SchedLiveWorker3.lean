import BbRe.Lemmas.SchedLiveWorker2
/-!
`KW` (key discipline and worker invariant together) and the relation `KWStep` "preserves `KW`";
`KWStep` for `complete`, the cleanup callbacks, `enter`, the client streams and `Execute` / `WaitExecution`.
-/
namespace BbRe.Lemmas.SchedLive
open BbRe.Sched

/-- key discipline together with the worker invariant -/
def KW (s : State) : Prop := KeysOK s ∧ WInv s

/-- the relation "preserves `KW`" (reflexive, transitive) -/
def KWStep (s s' : State) : Prop := KW s → KW s'

theorem KWStep.refl (s : State) : KWStep s s := id
theorem KWStep.trans {a b c : State} (h1 : KWStep a b) (h2 : KWStep b c) : KWStep a c := fun h => h2 (h1 h)

/-- combine the already proved key-discipline step with a worker-invariant argument -/
theorem KWStep.of {allow : Prop} {s s' : State} (ht : TStep allow s s') (hw : KeysOK s → WInv s → WInv s') :
    KWStep s s' := fun ⟨hk, hwi⟩ => ⟨(ht hk).1, hw hk hwi⟩

theorem KWStep.of_same {s s' : State} (h0 : s'.workers = s.workers) (h1 : s'.nextTask = s.nextTask)
    (h2 : s'.scqs = s.scqs) (h3 : s'.tasks = s.tasks) (h4 : s'.ops = s.ops) (h5 : s'.nextOp = s.nextOp) :
    KWStep s s' :=
  KWStep.of (TStep.of_same (allow := True) h3 h4 h1 h5) (fun _ hw => winv_same hw h0 h1 h2 h3)

theorem KWStep.emit (s : State) (ev : Event) : KWStep s (emit s ev) := KWStep.of_same rfl rfl rfl rfl rfl rfl

theorem complete_kw {h : Hints} {s s' : State} {tid : Nat} {r : Resp} {bw : Bool}
    (hh : complete h s tid r bw = .ok s') : KWStep s s' :=
  KWStep.of (complete_tstep hh) (fun hk hw => complete_winv hh hk hw)

theorem dropOpT_winv {s : State} {t : Task} {k0 : Nat} (o : Nat) (hk : KeysOK s) (hw : WInv s)
    (h0 : s.task? k0 = some t) : WInv (dropOpT s t o) := by
  have hid := (hk.tid k0 t h0).1
  unfold dropOpT
  split
  · refine hw.of_frame (X := noX) rfl ⟨Nat.le_refl _, fun _ sq' h p hp => ⟨sq', h, hp⟩, ?_⟩ (NoPtr.noX s)
    intro tid t' _ _ ht'
    simp only [State.task?, alookup_aerase _ _ _ hk.tnodup] at ht'
    split at ht'
    · cases ht'
    · exact ⟨t', ht', rfl, rfl⟩
  · exact hw.of_frame rfl (WFrame.of_aset_same (t0 := t) (t2 := { t with ops := t.ops.filter (· ≠ o) }) (k0 := t.id)
      (by rw [hid]; exact h0) rfl rfl rfl rfl rfl) (NoPtr.noX s)

theorem cancelAllQueued_kw {h : Hints} {s s' : State} {q : ScqId} {r : Resp}
    (hh : cancelAllQueued h s q r = .ok s') : KWStep s s' :=
  cancelAllQueued_rel KWStep KWStep.refl (fun _ _ _ => KWStep.trans) (fun _ _ _ => complete_kw) hh

theorem find?_filter_id {l : List Scq} {q q' : ScqId} {x : Scq}
    (h : (l.filter (fun y => y.id ≠ q)).find? (fun y => y.id = q') = some x) : l.find? (fun y => y.id = q') = some x := by
  induction l with
  | nil => simp at h
  | cons a r ih =>
    simp only [List.filter_cons] at h
    by_cases ha : a.id = q
    · simp only [ha, ne_eq, not_true_eq_false, decide_false, Bool.false_eq_true, if_false] at h
      have hx := List.mem_of_find?_eq_some h
      have hxq : x.id ≠ q := by simpa using (List.mem_filter.1 hx).2
      have hxq' : x.id = q' := by simpa using List.find?_some h
      have : ¬ a.id = q' := by rw [ha, ← hxq']; exact fun e => hxq e.symm
      simp only [List.find?_cons, this, decide_false]
      exact ih h
    · simp only [ha, ne_eq, not_false_eq_true, decide_true, if_true, List.find?_cons] at h ⊢
      split
      · rename_i e; rw [e] at h; exact h
      · rename_i e; rw [e] at h; exact ih h

theorem dropScq_winv {s : State} (q : ScqId) (hw : WInv s) : WInv (dropScq s q) := by
  refine hw.of_frame (X := noX) (by simp) ⟨by simp, ?_, ?_⟩ (NoPtr.noX s)
  · intro q' sq' h p hp
    simp only [State.scq?, dropScq_scqs] at h
    exact ⟨sq', find?_filter_id h, hp⟩
  · intro tid t' _ _ h; simp only [State.task?, dropScq_tasks] at h; exact ⟨t', h, rfl, rfl⟩

theorem dropWorker_winv {s : State} (q : ScqId) (w : WId) (rt : Nat) (hw : WInv s) : WInv (dropWorker s q w rt) := by
  have h1 : WInv (filterWorkers s q w) :=
    hw.filter (X := noX) _ rfl (WFrame.of_eq rfl rfl rfl) (NoPtr.noX s)
  unfold dropWorker
  split
  · split
    · exact winv_same h1 rfl rfl rfl rfl
    · exact h1
  · exact h1

theorem eraseOp_kw (s : State) (o : Nat) : KWStep s (eraseOp s o) :=
  KWStep.of (eraseOp_tstep True s o) (fun _ hw => winv_same hw rfl rfl rfl rfl)

theorem dropOpT_kw {s : State} {t : Task} {k0 : Nat} (o : Nat) (h0 : s.task? k0 = some t) : KWStep s (dropOpT s t o) :=
  KWStep.of (dropOpT_tstep True o h0) (fun hk hw => dropOpT_winv o hk hw h0)

theorem dropScq_kw (s : State) (q : ScqId) : KWStep s (dropScq s q) :=
  KWStep.of (TStep.of_same (allow := True) (by simp) (by simp) (by simp) (by simp)) (fun _ hw => dropScq_winv q hw)

theorem dropWorker_kw (s : State) (q : ScqId) (w : WId) (rt : Nat) : KWStep s (dropWorker s q w rt) :=
  KWStep.of (TStep.of_same (allow := True) (by simp) (by simp) (by simp) (by simp))
    (fun _ hw => dropWorker_winv q w rt hw)

theorem callback_kw {h : Hints} {s s' : State} {e : CleanupEntry} (hh : callback h s e = .ok s') : KWStep s s' :=
  callback_rel KWStep KWStep.refl KWStep.trans (fun _ => complete_kw) dropWorker_kw eraseOp_kw
    (fun _ _ _ o h0 => dropOpT_kw o h0) dropScq_kw hh

theorem removeOp_kw {h : Hints} {s s' : State} {o : Nat} (hh : removeOp h s o = .ok s') : KWStep s s' :=
  callback_kw (e := ⟨0, .op o⟩) hh

theorem removeScq_kw {h : Hints} {s s' : State} {q : ScqId} (hh : removeScq h s q = .ok s') : KWStep s s' :=
  callback_kw (e := ⟨0, .scq q⟩) hh

theorem removeStaleWorker_kw {h : Hints} {s s' : State} {q : ScqId} {w : WId} {rt : Nat}
    (hh : removeStaleWorker h s q w rt = .ok s') : KWStep s s' :=
  callback_kw (e := ⟨rt, .worker q w⟩) hh

theorem enter_kw {h : Hints} {s s' : State} {t : Nat} (hh : enter h s t = .ok s') : KWStep s s' :=
  enter_rel KWStep KWStep.refl KWStep.trans (fun _ _ => KWStep.of_same rfl rfl rfl rfl rfl rfl)
    (fun _ _ _ _ => KWStep.of_same rfl rfl rfl rfl rfl rfl) callback_kw hh

/-! ### client-facing segments: workers, queues and task pointers are not touched -/

theorem streamSend_kw {s s' : State} {c o : Nat} (hh : streamSend s c o = .ok s') : KWStep s s' := by
  refine KWStep.of (streamSend_tstep (allow := True) hh) (fun _ hw => ?_)
  obtain ⟨op, t, _, _, ⟨r, _, _, rfl⟩ | ⟨_, rfl⟩⟩ := streamSend_ok hh
  · exact winv_same hw (by simp) (by simp) (by simp) (by simp)
  · exact winv_same hw (by simp) (by simp) (by simp) (by simp)

theorem streamAttach_kw {s s' : State} {c o : Nat} (hh : streamAttach s c o = .ok s') : KWStep s s' := by
  obtain ⟨op, h0, h1⟩ := streamAttach_ok hh
  refine KWStep.trans (b := attachS s o op) ?_ (streamSend_kw h1)
  refine KWStep.of (allow := True) ?_ (fun _ hw => winv_same hw rfl rfl rfl rfl)
  intro hk
  have hname := (hk.oname o op h0).1
  exact TStep.of_op (o2 := { op with waiters := op.waiters + 1 }) h0 rfl rfl id rfl (by simp [attachS, hname]) rfl rfl hk

theorem streamLeave_kw {s s' : State} {c code : Nat} (hh : streamLeave s c code = .ok s') : KWStep s s' := by
  refine KWStep.of (streamLeave_tstep (allow := True) hh) (fun _ hw => ?_)
  obtain ⟨st, op, _, _, _, rfl⟩ := streamLeave_ok hh
  exact winv_same hw (by simp) (by simp) (by simp) (by simp)

theorem streamWake_kw {h : Hints} {s s' : State} {now c reason : Nat}
    (hh : streamWake h s now c reason = .ok s') : KWStep s s' := by
  obtain ⟨s1, st, h1, _, ⟨_, h3⟩ | ⟨_, _, h3⟩⟩ := streamWake_ok hh
  · exact (enter_kw h1).trans (streamLeave_kw h3)
  · exact (enter_kw h1).trans (streamSend_kw h3)

theorem waitArrive_kw {h : Hints} {s s' : State} {now c name : Nat}
    (hh : waitArrive h s now c name = .ok s') : KWStep s s' := by
  obtain ⟨s1, h1, ⟨_, rfl⟩ | ⟨op, _, h2⟩⟩ := waitArrive_ok hh
  · exact (enter_kw h1).trans (KWStep.emit _ _)
  · exact (enter_kw h1).trans (streamAttach_kw h2)

theorem newTaskS_winv {s : State} (hw : WInv s) (digest dkey : Nat) (dnc : Bool) (q : ScqId) (inv : List Nat)
    (prio : Int) : WInv (newTaskS s digest dkey dnc q inv prio) :=
  hw.of_fresh (by simp) (by simp) (by simp) (newTaskS_tasks ..)

theorem execArrive_kw {h : Hints} {s s' : State} {now c digest dkey : Nat} {dnc : Bool}
    {comps : List Nat} {platform : Nat} {inv : List Nat} {prio : Int}
    (hh : execArrive h s now c digest dkey dnc comps platform inv prio = .ok s') : KWStep s s' := by
  obtain ⟨s1, h1, h2 | h2 | h2⟩ := execArrive_ok hh
  · obtain ⟨tid, t, _, h0, ⟨o, _, h3⟩ | ⟨_, h3⟩⟩ := h2
    · exact ((enter_kw h1).trans (KWStep.of_same (s' := emit s1 .selAbandoned) rfl rfl rfl rfl rfl rfl)).trans (streamAttach_kw h3)
    · refine (((enter_kw h1).trans (KWStep.of_same (s' := emit s1 .selAbandoned) rfl rfl rfl rfl rfl rfl)).trans ?_).trans
        (streamAttach_kw h3)
      refine KWStep.of (addOpS_tstep True inv prio (s := emit s1 .selAbandoned) h0) (fun hk hw => ?_)
      have hid := (hk.tid tid t h0).1
      exact hw.of_frame rfl (WFrame.of_aset_same (t0 := t) (t2 := { t with ops := t.ops ++ [s1.nextOp] }) (k0 := t.id)
        (by rw [hid]; exact h0) rfl rfl rfl rfl rfl) (NoPtr.noX _)
  · obtain ⟨_, _, rfl⟩ := h2
    exact (enter_kw h1).trans (KWStep.of_same rfl rfl rfl rfl rfl rfl)
  · obtain ⟨_, pq, sc, s3, _, _, h3, h4⟩ := h2
    refine ((enter_kw h1).trans ?_).trans (streamAttach_kw h4)
    refine KWStep.of (tstep_new_then_schedule (allow := True) (s := s1) (tn := newTask s1 digest dkey dnc ⟨pq.id, sc⟩)
      (on := newOp s1 inv prio) rfl rfl rfl (by simp) (by simp) (by simp) (by simp) h3) (fun _ hw => ?_)
    refine schedule_winv h3 (newTaskS_winv hw ..) ?_
    intro tb htb
    simp only [State.task?, newTaskS_tasks, alookup_aset, if_true, Option.some.injEq] at htb
    subst htb
    exact ⟨rfl, by simp, rfl⟩

end BbRe.Lemmas.SchedLive
