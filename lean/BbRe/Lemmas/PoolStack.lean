import BbRe.Model.PoolStack
import BbRe.Lemmas.FilePoolState2
import BbRe.Lemmas.BitmapSpec
import BbRe.Lemmas.BitmapDrain
import BbRe.Lemmas.Quota
/-!
Helper lemmas for `Properties/C15Stack.lean`: the answers loop of `Model/PoolStack.lean` against
`Spec/AllocSpec.lean`, and the coupling invariant between the bitmap and the file layer.
-/
namespace BbRe.Lemmas.PoolStack
open BbRe BbRe.PoolStack BbRe.FilePool

theorem ansSectors_append (a b : List AllocAns) : ansSectors (a ++ b) = ansSectors a ++ ansSectors b := by
  induction a with
  | nil => rfl
  | cons x xs ih =>
    cases x with
    | range f c => simp [ansSectors, ih]
    | fail => simpa [ansSectors] using ih

/-- What the answers loop guarantees about the answers `as` found so far, relative to the bitmap
`bm0` at the start of the call: the bitmap invariant, the bitmap holds exactly what it held plus the
answers, the answers were free at the start, are on the device and pairwise distinct. -/
structure AnsOk (n : Nat) (bm0 bm : Bitmap.State) (as : List AllocAns) : Prop where
  inv : Bitmap.Inv n bm
  abs : ∀ s, Bitmap.abs n bm s = (Bitmap.abs n bm0 s || (ansSectors as).contains s)
  fresh : ∀ s ∈ ansSectors as, Bitmap.abs n bm0 s = false
  nodup : (ansSectors as).Nodup

theorem AnsOk.start {n : Nat} {bm : Bitmap.State} (h : Bitmap.Inv n bm) : AnsOk n bm bm [] :=
  ⟨h, by intro s; simp [ansSectors], by intro s hs; simp [ansSectors] at hs, by simp [ansSectors]⟩

theorem AnsOk.fail {n : Nat} {bm0 bm : Bitmap.State} {as : List AllocAns} (h : AnsOk n bm0 bm as) :
    AnsOk n bm0 bm (as ++ [.fail]) := by
  have e : ansSectors (as ++ [.fail]) = ansSectors as := by simp [ansSectors_append, ansSectors]
  exact ⟨h.inv, by rw [e]; exact h.abs, by rw [e]; exact h.fresh, by rw [e]; exact h.nodup⟩

theorem AnsOk.alloc {n : Nat} {bm0 bm bm' : Bitmap.State} {as : List AllocAns} {m first count : Nat}
    (h : AnsOk n bm0 bm as) (hm : 1 ≤ m) (ha : Bitmap.alloc bm m = (bm', some (first, count))) :
    AnsOk n bm0 bm' (as ++ [.range first count]) ∧
      AllocSpec.AllocOk n (Bitmap.abs n bm) m first count (Bitmap.abs n bm') := by
  have h2 : (Bitmap.alloc bm m).2 = some (first, count) := by rw [ha]
  have h1 : (Bitmap.alloc bm m).1 = bm' := by rw [ha]
  have hok := Lemmas.Bitmap.alloc_ok_spec n bm m first count h.inv hm h2
  have hinv := Lemmas.Bitmap.alloc_inv n bm m h.inv hm
  rw [h1] at hok hinv
  have e : ansSectors (as ++ [.range first count]) = ansSectors as ++ List.range' first count := by
    simp [ansSectors_append, ansSectors]
  have hrun : ∀ s, AllocSpec.inRun first count s = (List.range' first count).contains s := by
    intro s
    rw [Bool.eq_iff_iff]
    simp [AllocSpec.inRun, List.mem_range'_1]
  -- the new sectors were free in `bm`, so they were free at the start and are not among the answers so far
  have hnew : ∀ s ∈ List.range' first count, Bitmap.abs n bm0 s = false ∧ s ∉ ansSectors as := by
    intro s hs
    rw [List.mem_range'_1] at hs
    have := hok.were_free s hs.1 hs.2
    rw [h.abs s] at this
    simpa using this
  refine ⟨⟨hinv, ?_, ?_, ?_⟩, hok⟩
  · intro s
    rw [hok.post s, h.abs s, e, hrun s]
    rw [Bool.eq_iff_iff]
    simp [or_assoc]
  · intro s hs
    rw [e, List.mem_append] at hs
    exact hs.elim (h.fresh s) fun hs => (hnew s hs).1
  · rw [e, List.nodup_append]
    exact ⟨h.nodup, List.nodup_range', fun a ha b hb hab => (hnew b hb).2 (hab ▸ ha)⟩

theorem AnsOk.allocNone {n : Nat} {bm0 bm bm' : Bitmap.State} {as : List AllocAns} {m : Nat}
    (h : AnsOk n bm0 bm as) (hm : 1 ≤ m) (ha : Bitmap.alloc bm m = (bm', none)) :
    AnsOk n bm0 bm' (as ++ [.fail]) := by
  have h2 : (Bitmap.alloc bm m).2 = none := by rw [ha]
  have h1 : (Bitmap.alloc bm m).1 = bm' := by rw [ha]
  have hf := Lemmas.Bitmap.alloc_fail_spec n bm m h2
  have hinv := Lemmas.Bitmap.alloc_inv n bm m h.inv hm
  rw [h1] at hf hinv
  exact AnsOk.fail ⟨hinv, by intro s; rw [hf.post s]; exact h.abs s, h.fresh, h.nodup⟩

theorem answers_ok {n : Nat} (c : Cfg) (f : File) (e0 : Env) (p : List Byte) (off : Int) (ax : Option Nat)
    (bm0 : Bitmap.State) : ∀ (fuel : Nat) (bm : Bitmap.State) (as : List AllocAns), AnsOk n bm0 bm as →
      AnsOk n bm0 (answers c f e0 p off ax fuel bm as).1 (answers c f e0 p off ax fuel bm as).2 := by
  intro fuel
  induction fuel with
  | zero => intro bm as h; exact h
  | succ k ih =>
    intro bm as h
    unfold answers
    dsimp only
    split
    · split
      · exact h.fail
      · split
        · exact h
        · rename_i hm
          split
          · rename_i bm' first count ha
            exact ih bm' _ (h.alloc (by omega) ha).1
          · rename_i bm' ha
            exact h.allocNone (by omega) ha
    · exact h

/-! ## coupling of the bitmap with the file layer -/

/-- the bitmap holds exactly the sectors the file layer holds -/
structure Coupled (st : PoolStack.State) : Prop where
  fpInv : Lemmas.FilePool.Inv st.fp
  bmInv : Bitmap.Inv st.fp.cfg.nsec st.bm
  agree : ∀ s, Bitmap.abs st.fp.cfg.nsec st.bm s = st.fp.allocd.contains s

theorem coupled_init (c : Cfg) (hss : 0 < c.ss) (mf mb : Nat) : Coupled (PoolStack.init c mf mb) :=
  ⟨Lemmas.FilePool.inv_init c hss, Lemmas.Bitmap.new_inv c.nsec, by
    intro s
    show Bitmap.abs c.nsec (Bitmap.new c.nsec) s = ([] : List Nat).contains s
    rw [Lemmas.Bitmap.abs_new]; rfl⟩

theorem answersFor_ok (st : PoolStack.State) (op : Op) (inp : Inputs) (h : Bitmap.Inv st.fp.cfg.nsec st.bm) :
    AnsOk st.fp.cfg.nsec st.bm (answersFor st op inp).1 (answersFor st op inp).2 := by
  unfold answersFor
  split
  · split
    · exact answers_ok _ _ _ _ _ _ _ _ _ _ (AnsOk.start h)
    · exact AnsOk.start h
  · exact AnsOk.start h

/-- `syncFree` after a call in which the file layer ends up holding only what it held before or was
handed: the flag stays down and the bitmap again holds exactly what the file layer holds. -/
theorem syncFree_spec {n : Nat} {bm0 bm : Bitmap.State} {as : List AllocAns} {before after : List Nat}
    (h : AnsOk n bm0 bm as) (hb : ∀ s, Bitmap.abs n bm0 s = before.contains s) (hnd : before.Nodup)
    (hsub : ∀ s ∈ after, s ∈ before ∨ s ∈ ansSectors as) :
    (syncFree bm (ansSectors as ++ before) after).2 = false ∧
      Bitmap.Inv n (syncFree bm (ansSectors as ++ before) after).1 ∧
      ∀ s, Bitmap.abs n (syncFree bm (ansSectors as ++ before) after).1 s = after.contains s := by
  have habs : ∀ s, Bitmap.abs n bm s = true ↔ s ∈ ansSectors as ++ before := by
    intro s
    rw [h.abs s, hb s]
    simp [or_comm]
  have hheld : (ansSectors as ++ before).Nodup := by
    rw [List.nodup_append]
    refine ⟨h.nodup, hnd, ?_⟩
    intro a ha b hb' hab
    subst hab
    have := h.fresh a ha
    rw [hb a] at this
    simp at this
    exact this hb'
  have hin : ∀ s ∈ after, s ∈ ansSectors as ++ before := fun s hs =>
    List.mem_append.2 (hsub s hs).symm
  have hall : (after.all fun s => (ansSectors as ++ before).contains s) = true := by
    rw [List.all_eq_true]
    intro s hs
    exact List.contains_iff_mem.2 (hin s hs)
  have hpre : AllocSpec.FreeListPre (Bitmap.abs n bm)
      ((ansSectors as ++ before).filter fun s => !after.contains s) :=
    ⟨fun s hs _ => (habs s).2 (List.mem_filter.1 hs).1,
      (hheld.sublist List.filter_sublist).sublist List.filter_sublist⟩
  obtain ⟨st', e, hinv, hpost⟩ := Lemmas.Bitmap.freeList_ok_spec n bm _ h.inv hpre
  unfold syncFree
  rw [if_pos hall, e]
  refine ⟨rfl, hinv, fun s => ?_⟩
  rw [hpost s]
  by_cases hs : s ∈ after
  · rw [(habs s).2 (hin s hs)]
    simp [hs]
  · cases ha : Bitmap.abs n bm s
    · simp [hs]
    · have h0 : s ≠ 0 := by
        have := (Lemmas.Bitmap.abs_eq_true.1 ha).1
        omega
      have hh' : s ∈ ansSectors as ∨ s ∈ before := List.mem_append.1 ((habs s).1 ha)
      simp [hs, h0]
      exact hh'.resolve_left

end BbRe.Lemmas.PoolStack
