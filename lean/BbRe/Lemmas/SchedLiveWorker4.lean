import BbRe.Lemmas.SchedLiveWorker3
/-!
`WKeep q w`: a non-parked worker `(q, w)` survives `schedule`, the detach prefix and `complete` with its flags;
`complete` clears its task pointer when it ran the completed task.
-/
namespace BbRe.Lemmas.SchedLive
open BbRe.Sched

/-- the non-parked worker `(q, w)` survives with the same flags; its task pointer is kept or cleared -/
def WKeep (q : ScqId) (w : WId) (s s' : State) : Prop :=
  ∀ wk, s.worker? q w = some wk → wk.parked = false →
    ∃ wk', s'.worker? q w = some wk' ∧ wk'.parked = false ∧ wk'.inSync = wk.inSync ∧ wk'.woken = wk.woken ∧
      wk'.drainWait = wk.drainWait ∧ wk'.terminating = wk.terminating ∧ (wk'.task = wk.task ∨ wk'.task = none)

theorem WKeep.refl (q : ScqId) (w : WId) (s : State) : WKeep q w s s :=
  fun wk h hp => ⟨wk, h, hp, rfl, rfl, rfl, rfl, .inl rfl⟩

theorem WKeep.trans {q : ScqId} {w : WId} {a b c : State} (h1 : WKeep q w a b) (h2 : WKeep q w b c) : WKeep q w a c := by
  intro wk h hp
  obtain ⟨wk1, e1, p1, a1, a2, a3, a4, a5⟩ := h1 wk h hp
  obtain ⟨wk2, e2, p2, b1, b2, b3, b4, b5⟩ := h2 wk1 e1 p1
  refine ⟨wk2, e2, p2, b1.trans a1, b2.trans a2, b3.trans a3, b4.trans a4, ?_⟩
  rcases b5 with b5 | b5
  · rcases a5 with a5 | a5
    · exact .inl (b5.trans a5)
    · exact .inr (b5.trans a5)
  · exact .inr b5

theorem worker?_congr {s s' : State} (h : s'.workers = s.workers) (q : ScqId) (w : WId) :
    s'.worker? q w = s.worker? q w := by simp [State.worker?, h]

theorem WKeep.of_eq {q : ScqId} {w : WId} {s s' : State} (h : s'.workers = s.workers) : WKeep q w s s' := by
  intro wk hh hp; rw [← worker?_congr h] at hh; exact ⟨wk, hh, hp, rfl, rfl, rfl, rfl, .inl rfl⟩

/-- replacing another worker -/
theorem WKeep.setWorker_other {q : ScqId} {w : WId} {s s' : State} {a : Worker}
    (h : s'.workers = (s.setWorker a).workers) (hne : ¬ (a.scq = q ∧ a.id = w)) : WKeep q w s s' := by
  intro wk hh hp
  refine ⟨wk, ?_, hp, rfl, rfl, rfl, rfl, .inl rfl⟩
  rw [worker?_congr h, worker?_setWorker, if_neg hne]; exact hh

theorem schedule_keep {h : Hints} {s s' : State} {tid : Nat} {q : ScqId} {w : WId}
    (hh : schedule h s tid = .ok s') (hn : (s.workers.map wkey).Nodup) : WKeep q w s s' := by
  obtain ⟨t, h0, ⟨_, rfl⟩ | ⟨_, w0, w1, hhw, hpk, hw1, hw1t, htw, rfl⟩⟩ := schedule_ok hh
  · exact WKeep.of_eq rfl
  · have hm := hintedWorker_mem hhw
    have hlk : s.worker? w0.scq w0.id = some w0 := worker?_of_mem hn hm
    have e1 : w1 = { w0 with parked := false, woken := true } := by
      simp only [wakeWorker, worker?_setWorker, and_self, if_true, hlk, Option.map_some, Option.some.injEq] at hw1
      exact hw1.symm
    subst e1
    intro wk hwk hp
    have hne : ¬ (w0.scq = q ∧ w0.id = w) := by
      rintro ⟨rfl, rfl⟩; rw [hlk] at hwk; injection hwk with hwk; subst hwk; rw [hpk] at hp; cases hp
    refine WKeep.setWorker_other (a := { w0 with parked := false, woken := true, task := some t.id }) ?_ hne wk hwk hp
    simp only [assignS_workers, wakeWorker]
    exact setWorker_twice s _ _ rfl

/-- the detach prefix clears the pointer of the worker that runs the task -/
theorem detachW_keep {s : State} {tid : Nat} {t : Task} {q : ScqId} {w : WId} (hw : WInv s)
    (h0 : s.task? tid = some t) :
    WKeep q w s (detachW s t) ∧
    (∀ wk, s.worker? q w = some wk → wk.task = some tid →
      ∀ wk', (detachW s t).worker? q w = some wk' → wk'.task = none) := by
  cases htw : t.worker with
  | none =>
    have e : detachW s t = s := by unfold detachW; simp [htw]
    rw [e]; refine ⟨WKeep.refl _ _ _, ?_⟩
    intro wk hwk htk
    have := (((hw.ok wk (worker?_mem hwk).1).ptr _ htk).2 t h0).1
    rw [htw] at this; cases this
  | some qw =>
    obtain ⟨q0, w0⟩ := qw
    cases hlk : s.worker? q0 w0 with
    | none =>
      have e : detachW s t = s := by unfold detachW; simp [htw, hlk]
      rw [e]; refine ⟨WKeep.refl _ _ _, ?_⟩
      intro wk hwk htk
      obtain ⟨hm, hq, hw'⟩ := worker?_mem hwk
      have := (((hw.ok wk hm).ptr _ htk).2 t h0).1
      rw [htw] at this; simp only [Option.some.injEq, Prod.mk.injEq] at this
      rw [this.1, this.2, hq, hw', hwk] at hlk; cases hlk
    | some wk0 =>
      have e : detachW s t = s.setWorker { wk0 with task := none } := by unfold detachW; simp [htw, hlk]
      rw [e]
      obtain ⟨hm0, hq0, hw0⟩ := worker?_mem hlk
      constructor
      · intro wk hwk hp
        by_cases hk : wk0.scq = q ∧ wk0.id = w
        · have : wk0 = wk := by
            rw [← hq0, ← hw0, hk.1, hk.2, hwk] at hlk; injection hlk with hlk; exact hlk.symm
          subst this
          refine ⟨{ wk0 with task := none }, ?_, hp, rfl, rfl, rfl, rfl, .inr rfl⟩
          rw [worker?_setWorker]; simp only [hk, and_self, if_true, hwk, Option.map_some]
        · refine ⟨wk, ?_, hp, rfl, rfl, rfl, rfl, .inl rfl⟩
          rw [worker?_setWorker]; simp only [hk, if_false]; exact hwk
      · intro wk hwk htk wk' hwk'
        obtain ⟨hm, hq, hw'⟩ := worker?_mem hwk
        have := (((hw.ok wk hm).ptr _ htk).2 t h0).1
        rw [htw] at this; simp only [Option.some.injEq, Prod.mk.injEq] at this
        rw [worker?_setWorker] at hwk'
        have hk : wk0.scq = q ∧ wk0.id = w := by rw [hq0, hw0, this.1, this.2, hq, hw']; exact ⟨rfl, rfl⟩
        simp only [hk, and_self, if_true, hwk, Option.map_some, Option.some.injEq] at hwk'
        subst hwk'; rfl

/-- `complete` keeps every non-parked worker (flags unchanged) and clears the pointer of the worker
that was running the completed task. -/
theorem complete_keep {h : Hints} {s s' : State} {tid : Nat} {r : Resp} {bw : Bool} {q : ScqId} {w : WId}
    (hh : complete h s tid r bw = .ok s') (hw : WInv s) :
    WKeep q w s s' ∧
    (∀ wk, s.worker? q w = some wk → wk.parked = false → wk.task = some tid →
      ∀ wk', s'.worker? q w = some wk' → wk'.task = none) := by
  obtain ⟨t, h0, ⟨hsome, rfl⟩ | ⟨hr, l, _, h1⟩⟩ := complete_ok hh
  · refine ⟨WKeep.refl _ _ _, ?_⟩
    intro wk hwk _ htk
    have := (((hw.ok wk (worker?_mem hwk).1).ptr _ htk).2 t h0).2
    rw [this] at hsome; cases hsome
  · obtain ⟨kd, cd⟩ := detachW_keep (q := q) (w := w) hw h0
    obtain ⟨hd, _⟩ := detachW_winv hw h0
    -- whatever follows the detach prefix keeps `(q, w)` as it is after the prefix
    have rest : WKeep q w (detachW s t) s' := by
      rcases h1 with h1 | h1 | h1
      · obtain ⟨ev, _, rfl | ⟨ev', _, rfl⟩ | ⟨bq, pq, h2, _⟩⟩ := completeSucc_ok h1.2
        · exact WKeep.of_eq (by simp)
        · exact WKeep.of_eq (by simp)
        · exact (WKeep.of_eq (s' := bgState (bumpLearner (succS (detachW s t) (detachT t) ev r))
            { detachT t with learner := none } bq (succS (detachW s t) (detachT t) ev r).nextLearner pq) (by simp)).trans
            (schedule_keep h2 (by simp; exact hd.uniq))
      · obtain ⟨_, _, _, h5⟩ := h1
        obtain ⟨s2, t2, h2, _, rfl⟩ := completeRetry_ok h5
        exact ((WKeep.of_eq (s' := (retryS (detachW s t) l r).setTask (retryT (detachW s t) (detachT t) l r)) (by simp)).trans
          (schedule_keep h2 (by simp; exact hd.uniq))).trans (WKeep.of_eq rfl)
      · obtain ⟨_, _, ev, _, rfl⟩ := h1
        exact WKeep.of_eq (by simp)
    refine ⟨kd.trans rest, ?_⟩
    intro wk hwk hp htk wk' hwk'
    obtain ⟨wk1, e1, p1, _⟩ := kd wk hwk hp
    have hnone := cd wk hwk htk wk1 e1
    obtain ⟨wk2, e2, _, _, _, _, _, t2⟩ := rest wk1 e1 p1
    rw [e2] at hwk'; injection hwk' with hwk'; subst hwk'
    rcases t2 with t2 | t2
    · rw [t2]; exact hnone
    · exact t2

end BbRe.Lemmas.SchedLive
