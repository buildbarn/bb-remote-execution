import BbRe.Model.FileRef
import BbRe.Lemmas.Counted
/-!
Counting the threads that hold a frozen reader (C16).  `FrozenCount pc n` (the form in which
`C16.ref_inv` states it) says that exactly `n` threads are at a program counter that owns a
`frozenFileBackedFile`; it is `Counted` for `isFrozen`, and the invariant carries it in that form.
-/
namespace BbRe.Lemmas.FileRef
open BbRe.FileRef
open BbRe.Lemmas.Idle (Counted)

def FrozenCount (pc : Nat → PC) (n : Nat) : Prop :=
  ∃ ts : List Nat, ts.Nodup ∧ (∀ t, t ∉ ts → (pc t).isFrozen = false) ∧
    n = ts.countP (fun t => (pc t).isFrozen)

theorem frozenCount_iff (pc : Nat → PC) (n : Nat) :
    FrozenCount pc n ↔ Counted (fun v : PC => v.isFrozen = true) pc n := by
  constructor
  · rintro ⟨ts, hnd, hout, rfl⟩
    refine ⟨ts.filter fun t => (pc t).isFrozen, hnd.sublist List.filter_sublist, fun t => ?_,
      List.countP_eq_length_filter⟩
    rw [List.mem_filter]
    refine ⟨fun h => h.2, fun (h : (pc t).isFrozen = true) => ⟨Classical.byContradiction fun hn => ?_, h⟩⟩
    rw [hout t hn] at h; cases h
  · rintro ⟨l, hnd, hmem, rfl⟩
    refine ⟨l, hnd, fun t ht => ?_, (List.countP_eq_length.2 fun t ht => (hmem t).1 ht).symm⟩
    cases hf : (pc t).isFrozen
    · rfl
    · exact absurd ((hmem t).2 hf) ht

end BbRe.Lemmas.FileRef
