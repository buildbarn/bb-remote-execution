import BbRe.Lemmas.SchedInvAList
import BbRe.Lemmas.Basic.ExceptWp
/-!
The invariant of the scheduler model (`Model/Sched.lean`), the frame relations used to
compose the per-helper specifications, and a tiny weakest-precondition calculus for
`Except String`.
-/
namespace BbRe.Lemmas.SchedInv
open BbRe.Sched

/-- Errors of `step` that remain possible under the invariant: oracle answers outside
the allowed set (`mismatch: …`), segments that are not enabled, malformed input
(`bad-op`), and the model-internal routing errors that depend on the platform-queue
registry (not part of the invariant proved here).  None of them is one of the
code's `panic` guards. -/
def okErrors : List String :=
  [ "mismatch: parked worker exists but task was not handed to one",
    "mismatch: task handed to a worker that was not parked",
    "mismatch: no such parked stream",
    "mismatch: stream woke up without a stage change",
    "mismatch: worker was given a task that is not queued in its size-class queue",
    "mismatch: tasks are queued but the worker was not given one",
    "mismatch: no such worker",
    "mismatch: worker is not inside Synchronize",
    "mismatch: worker woke up although its wakeup channel is open",
    "mismatch: worker woke up without an undrain",
    "mismatch: worker is not waiting for an undrain",
    "mismatch: no such TerminateWorkers call",
    "mismatch: TerminateWorkers returned while a captured task is still executing",
    "bad-op",
    "complete: no platform queue",
    "platform queue without size classes",
    "platform queue without size class queue",
    "getNextTask: no queue",
    "syncWake: no queue" ]

def OkErr (e : String) : Prop := e ∈ okErrors

/-- The code's `panic` guards that have a counterpart in the model. -/
def panicErrors : List String :=
  [ "Worker is already associated with a task",
    "Task is already associated with a worker",
    "Invalid waiters count on operation",
    "Worker is already queued",
    "Task in unexpected stage" ]

/-- Model-internal consistency errors (a pointer that leads nowhere). -/
def internalErrors : List String :=
  [ "schedule: no task", "schedule: worker vanished", "complete: no task",
    "complete: task without learner", "complete: task vanished", "removeOp: no task",
    "streamSend: no operation", "streamSend: no task", "streamAttach: no operation",
    "streamLeave: no operation", "dedup map points to a missing task",
    "streamWake: no operation", "streamWake: no task", "assignNext: task vanished",
    "execResponse: no task", "execResponse: task missing", "getNextTask: no worker",
    "getNextTask: worker vanished", "getCurrentOrNext: no worker",
    "worker points to a missing task", "syncArrive: worker vanished", "syncArrive: no task" ]

/-- `x` returns a value satisfying `Q`, or fails with one of the `okErrors` -/
abbrev wp {α} (x : M α) (Q : α → Prop) : Prop := wpE OkErr x Q

theorem wp_ok {α} (a : α) (Q : α → Prop) : wp (Except.ok a) Q ↔ Q a := Iff.rfl
theorem wp_pure {α} (a : α) (Q : α → Prop) : wp (pure a : M α) Q ↔ Q a := Iff.rfl
theorem wp_error {α} (e : String) (Q : α → Prop) : wp (Except.error e : M α) Q ↔ OkErr e := Iff.rfl
theorem wp_throw {α} (e : String) (Q : α → Prop) : wp (throw e : M α) Q ↔ OkErr e := Iff.rfl

theorem wp_bind {α β} (x : M α) (f : α → M β) (Q : β → Prop) (h : wp x (fun a => wp (f a) Q)) :
    wp (x >>= f) Q := wpE.bind h

theorem wp_mono {α} {x : M α} {Q Q' : α → Prop} (h : wp x Q) (hq : ∀ a, Q a → Q' a) : wp x Q' := wpE.mono h hq

theorem wp_of_ok {α} {x : M α} {Q : α → Prop} {a : α} (h : wp x Q) (hx : x = .ok a) : Q a := wpE.of_ok h hx

theorem wp_of_error {α} {x : M α} {Q : α → Prop} {e : String} (h : wp x Q) (hx : x = .error e) : OkErr e :=
  wpE.of_error h hx

/-- events that are neither selector calls nor `execute` instructions -/
def Quiet : Event → Prop
  | .selSelect _ => False
  | .selAbandoned => False
  | .syncExecute _ _ _ _ => False
  | _ => True

def isTerm (l : Nat) : Event → Bool
  | .learnerSucceeded l' _ => l' == l
  | .learnerFailed l' _ _ => l' == l
  | .learnerAbandoned l' => l' == l
  | _ => false

def isIssue (l : Nat) : Event → Bool
  | .selSelect l' => l' == l
  | .learnerSucceeded _ (some l') => l' == l
  | .learnerFailed _ _ (some l') => l' == l
  | _ => false

def termCount (l : Nat) (evs : List Event) : Nat := evs.countP (isTerm l)
def issueCount (l : Nat) (evs : List Event) : Nat := evs.countP (isIssue l)

/-- worker `(q, w)` is assigned an uncompleted task with digest `d` -/
def ExecOK (s : State) (q : ScqId) (w : WId) (d : Nat) : Prop :=
  ∃ wk k t, wfind s.workers q w = some wk ∧ wk.task = some k ∧ alookup k s.tasks = some t ∧
    t.digest = d ∧ t.response = none

/-- events a `Synchronize` segment may emit: no selector calls, and every `execute`
instruction names the task the worker holds in `s` -/
def SyncEv (s : State) : Event → Prop
  | .selSelect _ => False
  | .selAbandoned => False
  | .syncExecute q w d _ => ExecOK s q w d
  | _ => True

theorem SyncEv.of_quiet {s : State} {e : Event} (h : Quiet e) : SyncEv s e := by
  cases e <;> simp_all [Quiet, SyncEv]

/-- a learner token is held by some task -/
def Held (ts : List (Nat × Task)) (l : Nat) : Prop := ∃ k t, alookup k ts = some t ∧ t.learner = some l

/-- Tasks, workers, deduplication map.  `ex` marks tasks that are in the middle of a
lock-held section and are momentarily neither queued nor assigned. -/
structure Core (ex : Nat → Prop) (ts : List (Nat × Task)) (ws : List Worker) (dd : List (Nat × Nat))
    (nt nl : Nat) : Prop where
  tnd : (keys ts).Nodup
  tid : ∀ k t, alookup k ts = some t → t.id = k ∧ k < nt
  wnd : WNodup ws
  dnd : (keys dd).Nodup
  p1 : ∀ q w wk k, wfind ws q w = some wk → wk.task = some k →
        ∃ t, alookup k ts = some t ∧ t.worker = some (q, w)
  p2 : ∀ k t q w, alookup k ts = some t → t.worker = some (q, w) →
        ∃ wk, wfind ws q w = some wk ∧ wk.task = some k
  p3 : ∀ k t, alookup k ts = some t → t.worker.isSome = true → t.response = none
  q1 : ∀ k t, alookup k ts = some t → t.queued = true → t.worker = none ∧ t.response = none
  q2 : ∀ k t, alookup k ts = some t → t.response = none → t.queued = true ∨ t.worker.isSome = true ∨ ex k
  d1 : ∀ dk k, alookup dk dd = some k → ∃ t, alookup k ts = some t ∧ t.dkey = dk ∧ t.response = none ∧
        t.doNotCache = false ∧ t.background = false
  d2 : ∀ k t, alookup k ts = some t → t.response = none → t.doNotCache = false → t.background = false →
        alookup t.dkey dd = some k
  bg : ∀ k t, alookup k ts = some t → t.background = true → t.doNotCache = true
  l1 : ∀ k t, alookup k ts = some t → (t.learner.isSome = true ↔ t.response = none)
  l2 : ∀ k t l, alookup k ts = some t → t.learner = some l → l < nl
  l3 : ∀ k k' t t' l, alookup k ts = some t → alookup k' ts = some t' → t.learner = some l →
        t'.learner = some l → k = k'
  w1 : ∀ q w wk, wfind ws q w = some wk → wk.parked = true →
        wk.task = none ∧ wk.drainWait = none ∧ wk.woken = false ∧ wk.inSync = true
  w2 : ∀ q w wk, wfind ws q w = some wk → wk.woken = true → wk.drainWait = none ∧ wk.inSync = true
  w3 : ∀ q w wk, wfind ws q w = some wk → wk.drainWait.isSome = true → wk.task = none ∧ wk.inSync = true

/-- operations ↔ tasks -/
structure OInv (exo : Nat → Prop) (ts : List (Nat × Task)) (os : List (Nat × Op)) (no : Nat) : Prop where
  ond : (keys os).Nodup
  oid : ∀ k o, alookup k os = some o → o.name = k ∧ k < no
  o1 : ∀ k o, alookup k os = some o → ∃ t, alookup o.task ts = some t ∧ k ∈ t.ops
  o2 : ∀ k t o, alookup k ts = some t → o ∈ t.ops → o < no ∧ (exo o ∨ ∃ op, alookup o os = some op ∧ op.task = k)
  o3 : ∀ k t, alookup k ts = some t → t.ops.Nodup ∧ t.ops ≠ []

/-- waiters, parked streams and the no-waiter cleanup entries -/
structure SInv (os : List (Nat × Op)) (sts : List Stream) (cl : List CleanupEntry) : Prop where
  s1 : ∀ k op, alookup k os = some op → (sts.countP (fun st => st.op = k)) ≤ op.waiters
  s2 : ∀ k op e, alookup k os = some op → e ∈ cl → e.kind = .op k → op.waiters = 0
  s3 : ∀ st, st ∈ sts → (alookup st.op os).isSome = true

/-- the ghost event log and the learner tokens -/
structure LogInv (ts : List (Nat × Task)) (nl : Nat) (evs : List Event) : Prop where
  g1 : ∀ l, termCount l evs ≤ issueCount l evs
  g2 : ∀ l, issueCount l evs ≤ 1
  g3 : ∀ l, Held ts l → termCount l evs = 0
  g4 : ∀ l, nl ≤ l → issueCount l evs = 0
  g5 : ∀ l, Held ts l → issueCount l evs = 1

structure InvX (ex exo : Nat → Prop) (s : State) : Prop where
  core : Core ex s.tasks s.workers s.dedup s.nextTask s.nextLearner
  oinv : OInv exo s.tasks s.ops s.nextOp
  sinv : SInv s.ops s.streams s.cleanup
  linv : LogInv s.tasks s.nextLearner s.events

abbrev Inv (s : State) : Prop := InvX (fun _ => False) (fun _ => False) s

/-- `k` names a task that will never run (again): completed or dropped. -/
def Dead (ts : List (Nat × Task)) (nt : Nat) (k : Nat) : Prop :=
  k < nt ∧ ∀ t, alookup k ts = some t → t.response.isSome = true

/-- `new ++ old` with every new element satisfying `P` -/
def Ext {α} (P : α → Prop) (old new' : List α) : Prop := ∃ new, new' = new ++ old ∧ ∀ e ∈ new, P e

theorem Ext.refl {α} (P : α → Prop) (l : List α) : Ext P l l := ⟨[], by simp, by simp⟩

theorem Ext.trans {α} {P : α → Prop} {a b c : List α} (h1 : Ext P a b) (h2 : Ext P b c) : Ext P a c := by
  obtain ⟨n1, e1, p1⟩ := h1
  obtain ⟨n2, e2, p2⟩ := h2
  refine ⟨n2 ++ n1, by simp [e1, e2], ?_⟩
  intro e he
  rcases List.mem_append.mp he with h | h
  · exact p2 e h
  · exact p1 e h

theorem Ext.mono {α} {P P' : α → Prop} {a b : List α} (h : Ext P a b) (hp : ∀ e, P e → P' e) : Ext P' a b := by
  obtain ⟨n, e, p⟩ := h
  exact ⟨n, e, fun x hx => hp x (p x hx)⟩

theorem Ext.cons {α} {P : α → Prop} {a b : List α} (h : Ext P a b) (x : α) (hx : P x) : Ext P a (x :: b) := by
  obtain ⟨n, e, p⟩ := h
  refine ⟨x :: n, by simp [e], ?_⟩
  intro y hy
  rcases List.mem_cons.mp hy with h | h
  · subst h; exact hx
  · exact p y h

/-- Monotone facts that hold across every helper and every segment. -/
structure Mono (s s' : State) : Prop where
  cfg : s'.cfg = s.cfg
  nt : s.nextTask ≤ s'.nextTask
  nl : s.nextLearner ≤ s'.nextLearner
  no : s.nextOp ≤ s'.nextOp
  dead : ∀ k, Dead s.tasks s.nextTask k → Dead s'.tasks s'.nextTask k
  asg : Ext (fun x => ¬ Dead s.tasks s.nextTask x.2.2) s.assigned s'.assigned

theorem Mono.refl (s : State) : Mono s s :=
  ⟨rfl, Nat.le_refl _, Nat.le_refl _, Nat.le_refl _, fun _ h => h, Ext.refl _ _⟩

theorem Mono.trans {a b c : State} (h1 : Mono a b) (h2 : Mono b c) : Mono a c := by
  refine ⟨h2.cfg.trans h1.cfg, Nat.le_trans h1.nt h2.nt, Nat.le_trans h1.nl h2.nl, Nat.le_trans h1.no h2.no,
    fun k hk => h2.dead k (h1.dead k hk), ?_⟩
  refine Ext.trans h1.asg (h2.asg.mono ?_)
  intro x hx hd
  exact hx (h1.dead _ hd)

/-- Frame of the helpers that run inside a segment before its own work (`enter`,
`complete`, …): monotone facts plus only quiet events. -/
structure Fr (s s' : State) : Prop extends Mono s s' where
  ev : Ext Quiet s.events s'.events

theorem Fr.refl (s : State) : Fr s s := ⟨Mono.refl s, Ext.refl _ _⟩

theorem Fr.trans {a b c : State} (h1 : Fr a b) (h2 : Fr b c) : Fr a c :=
  ⟨h1.toMono.trans h2.toMono, h1.ev.trans h2.ev⟩

/-- Workers that are not parked are left alone, except that their task may be taken away. -/
def RW (s s' : State) : Prop :=
  ∀ q w wk, wfind s.workers q w = some wk → wk.parked = false →
    ∃ wk', wfind s'.workers q w = some wk' ∧ wk' = { wk with task := wk'.task } ∧
      (wk'.task = wk.task ∨ wk'.task = none)

theorem RW.refl (s : State) : RW s s := fun q w wk h _ => ⟨wk, h, rfl, Or.inl rfl⟩

theorem RW.trans {a b c : State} (h1 : RW a b) (h2 : RW b c) : RW a c := by
  intro q w wk hw hp
  obtain ⟨wk1, hw1, e1, t1⟩ := h1 q w wk hw hp
  have hp1 : wk1.parked = false := by rw [e1]; exact hp
  obtain ⟨wk2, hw2, e2, t2⟩ := h2 q w wk1 hw1 hp1
  refine ⟨wk2, hw2, ?_, ?_⟩
  · rw [e2, e1]
  · rcases t2 with t2 | t2
    · rw [t2]; exact t1
    · exact Or.inr t2

end BbRe.Lemmas.SchedInv
