import BbRe.Lemmas.FilePoolBasic
/-!
Allocator bookkeeping of `Model/FilePool.lean`: the device/hole-source calls do
not touch the allocator state; `writeToNewSectors` either returns the allocator
to the same allocated set (every error path) or has added exactly the fresh run
it reports; `insertSectors` adds exactly that run to the file.
-/
namespace BbRe.Lemmas.FilePool
open BbRe.FilePool

/-- allocator part of the environment is the same. -/
def SameAlloc (e e' : Env) : Prop :=
  e'.allocd = e.allocd ∧ e'.dfree = e.dfree ∧ e'.answers = e.answers

theorem SameAlloc.refl (e : Env) : SameAlloc e e := ⟨rfl, rfl, rfl⟩

theorem SameAlloc.trans {a b c : Env} (h1 : SameAlloc a b) (h2 : SameAlloc b c) : SameAlloc a c :=
  ⟨h2.1.trans h1.1, h2.2.1.trans h1.2.1, h2.2.2.trans h1.2.2⟩

theorem devWrite_same (e : Env) (off : Nat) (p : List Byte) : SameAlloc e (e.devWrite off p).1 := by
  unfold Env.devWrite; split <;> exact ⟨rfl, rfl, rfl⟩

theorem readHole_same (e : Env) (h : Hole) (off n : Nat) : SameAlloc e (e.readHole h off n).1 := by
  unfold Env.readHole; split <;> exact ⟨rfl, rfl, rfl⟩

/-- device and allocator part are the same: all that a read-only call may change is the fault plan. -/
def ReadOnly (e e' : Env) : Prop := e'.dev = e.dev ∧ SameAlloc e e'

theorem ReadOnly.refl (e : Env) : ReadOnly e e := ⟨rfl, SameAlloc.refl e⟩

theorem ReadOnly.trans {a b c : Env} (h1 : ReadOnly a b) (h2 : ReadOnly b c) : ReadOnly a c :=
  ⟨h2.1.trans h1.1, h1.2.trans h2.2⟩

theorem devRead_ro (e : Env) (off n : Nat) : ReadOnly e (e.devRead off n).1 := by
  unfold Env.devRead; split <;> exact ⟨rfl, rfl, rfl, rfl⟩

theorem readHole_ro (e : Env) (h : Hole) (off n : Nat) : ReadOnly e (e.readHole h off n).1 := by
  unfold Env.readHole; split <;> exact ⟨rfl, rfl, rfl, rfl⟩

theorem holeSeek_ro (e : Env) : ReadOnly e e.holeSeek.1 := by
  unfold Env.holeSeek; split <;> exact ⟨rfl, rfl, rfl, rfl⟩

theorem wnsPhase1_same (c : Cfg) (h : Hole) (e : Env) (p : List Byte) (sector idx ow : Nat) :
    SameAlloc e (wnsPhase1 c h e p sector idx ow).1 := by
  unfold wnsPhase1
  dsimp only
  have h1 := readHole_same e h (idx * c.ss) ow
  split
  · split
    · exact h1
    · have h2 : SameAlloc e (if ow + p.length < c.ss then
          (e.readHole h (idx * c.ss) ow).1.readHole h (idx * c.ss + (ow + p.length)) (c.ss - (ow + p.length))
          else ((e.readHole h (idx * c.ss) ow).1, [], none)).1 := by
        split
        · exact h1.trans (readHole_same _ _ _ _)
        · exact h1
      split
      · exact h2
      · split
        · exact h2.trans (devWrite_same _ _ _)
        · exact h2.trans (devWrite_same _ _ _)
  · exact SameAlloc.refl e

theorem wnsPhase2_same (c : Cfg) (e : Env) (cur : Cursor) : SameAlloc e (wnsPhase2 c e cur).1 := by
  unfold wnsPhase2
  dsimp only
  split
  · split
    · exact devWrite_same _ _ _
    · exact devWrite_same _ _ _
  · exact SameAlloc.refl e

theorem wnsPhase3_same (c : Cfg) (h : Hole) (e : Env) (cur : Cursor) : SameAlloc e (wnsPhase3 c h e cur).1 := by
  unfold wnsPhase3
  dsimp only
  split
  · split
    · exact readHole_same _ _ _ _
    · split
      · exact (readHole_same _ _ _ _).trans (devWrite_same _ _ _)
      · exact (readHole_same _ _ _ _).trans (devWrite_same _ _ _)
  · exact SameAlloc.refl e

theorem wnsPhases_same (c : Cfg) (h : Hole) (e : Env) (p : List Byte) (first idx ow : Nat) :
    SameAlloc e (wnsPhases c h e p first idx ow).1 := by
  unfold wnsPhases
  have h1 := wnsPhase1_same c h e p first idx ow
  split
  · rename_i e1 x heq; rw [heq] at h1; exact h1
  · rename_i e1 cur1 heq; rw [heq] at h1
    have h2 := wnsPhase2_same c e1 cur1
    split
    · rename_i e2 x heq2; rw [heq2] at h2; exact h1.trans h2
    · rename_i e2 cur2 heq2; rw [heq2] at h2
      exact (h1.trans h2).trans (wnsPhase3_same c h e2 cur2)

/-! ## `Env.alloc` / `Env.freeList` -/

theorem rangeFree_iff (A : List Nat) (first count : Nat) :
    rangeFree A first count = true ↔ ∀ s, first ≤ s → s < first + count → s ∉ A := by
  simp only [rangeFree, List.all_eq_true, List.mem_range'_1, Bool.not_eq_eq_eq_not, Bool.not_true,
    List.contains_eq_mem, decide_eq_false_iff_not]
  constructor
  · intro h s h1 h2; exact h s ⟨h1, h2⟩
  · intro h s hs; exact h s hs.1 hs.2

/-- What a successful `Env.alloc` guarantees (the interface contract of
`sector_allocator.go`, checked by the model on every oracle answer). -/
theorem alloc_ok {c : Cfg} {e e' : Env} {maximum first count : Nat}
    (h : e.alloc c maximum = (e', .ok first count)) :
    e'.allocd = List.range' first count ++ e.allocd ∧ e'.dfree = e.dfree ∧ e'.dev = e.dev ∧
      e'.faults = e.faults ∧
      1 ≤ count ∧ count ≤ maximum ∧ 1 ≤ first ∧ first + count ≤ c.nsec + 1 ∧
      ∀ s, first ≤ s → s < first + count → s ∉ e.allocd := by
  unfold Env.alloc at h
  split at h
  · simp at h
  · simp at h
  · split at h
    · rename_i hc
      simp only [Prod.mk.injEq, AllocRes.ok.injEq] at h
      obtain ⟨rfl, rfl, rfl⟩ := h
      exact ⟨rfl, rfl, rfl, rfl, hc.1, hc.2.1, hc.2.2.1, hc.2.2.2.1, (rangeFree_iff _ _ _).mp hc.2.2.2.2⟩
    · simp at h

theorem alloc_notok {c : Cfg} {e e' : Env} {maximum : Nat} {r : AllocRes}
    (h : e.alloc c maximum = (e', r)) (hr : ∀ f n, r ≠ .ok f n) :
    e'.allocd = e.allocd ∧ e'.dfree = e.dfree ∧ e'.dev = e.dev ∧ e'.faults = e.faults := by
  unfold Env.alloc at h
  split at h
  · simp only [Prod.mk.injEq] at h; obtain ⟨rfl, _⟩ := h; exact ⟨rfl, rfl, rfl, rfl⟩
  · simp only [Prod.mk.injEq] at h; obtain ⟨rfl, _⟩ := h; exact ⟨rfl, rfl, rfl, rfl⟩
  · split at h
    · simp only [Prod.mk.injEq] at h; obtain ⟨_, rfl⟩ := h; exact absurd rfl (hr _ _)
    · simp only [Prod.mk.injEq] at h; obtain ⟨rfl, _⟩ := h; exact ⟨rfl, rfl, rfl, rfl⟩

theorem freeList_dev (e : Env) (l : List Nat) : (e.freeList l).dev = e.dev ∧ (e.freeList l).faults = e.faults
    ∧ (e.freeList l).answers = e.answers := ⟨rfl, rfl, rfl⟩

/-- Freeing a list whose non-zero entries are allocated and pairwise distinct:
no double free, and exactly those sectors leave the allocated set. -/
theorem freeList_spec (e : Env) (l : List Nat) (hA : e.allocd.Nodup)
    (hsub : ∀ s ∈ l, s ≠ 0 → s ∈ e.allocd) (hnd : (nz l).Nodup) :
    (e.freeList l).dfree = e.dfree ∧ (e.freeList l).allocd.Nodup ∧
      ∀ s, s ∈ (e.freeList l).allocd ↔ (s ∈ e.allocd ∧ ¬ (s ∈ l ∧ s ≠ 0)) := by
  have := foldl_freeOne l e.allocd e.dfree hA hsub hnd
  exact this

theorem nz_range' (first count : Nat) (h : 1 ≤ first) : nz (List.range' first count) = List.range' first count := by
  simp only [nz, List.filter_eq_self, List.mem_range'_1]
  intro a ha; simp; omega

/-- `alloc` followed by `freeContiguous` of the same run: the allocated set is as before. -/
theorem alloc_free_roundtrip (e : Env) (first count : Nat) (hA : e.allocd.Nodup) (hf : 1 ≤ first)
    (hfresh : ∀ s, first ≤ s → s < first + count → s ∉ e.allocd)
    (e2 : Env) (h2 : e2.allocd = List.range' first count ++ e.allocd) (hd : e2.dfree = e.dfree) :
    (e2.freeContiguous first count).dfree = e.dfree ∧ (e2.freeContiguous first count).allocd.Nodup ∧
      ∀ s, s ∈ (e2.freeContiguous first count).allocd ↔ s ∈ e.allocd := by
  have hA2 : e2.allocd.Nodup := by
    rw [h2]
    refine List.nodup_append.mpr ⟨List.nodup_range', hA, ?_⟩
    intro a ha b hb hab; subst hab
    have := List.mem_range'_1.mp ha
    exact hfresh a this.1 this.2 hb
  have := freeList_spec e2 (List.range' first count) hA2
    (by intro s hs _; rw [h2]; exact List.mem_append_left _ hs)
    (by rw [nz_range' _ _ hf]; exact List.nodup_range')
  refine ⟨this.1.trans hd, this.2.1, fun s => ?_⟩
  unfold Env.freeContiguous
  rw [this.2.2, h2]
  constructor
  · rintro ⟨h3, h4⟩
    rcases List.mem_append.mp h3 with h5 | h5
    · have := List.mem_range'_1.mp h5
      exact absurd ⟨h5, by omega⟩ h4
    · exact h5
  · intro h3
    refine ⟨List.mem_append_right _ h3, fun ⟨h4, _⟩ => ?_⟩
    have := List.mem_range'_1.mp h4
    exact hfresh s this.1 this.2 h3

/-! ## `writeToNewSectors`: allocator bookkeeping -/

/-- Every error path of `writeToNewSectors` returns the allocator to the same
allocated set, without a double free. -/
theorem wns_error {c : Cfg} {h : Hole} {e e' : Env} {p : List Byte} {idx ow : Nat} {x : Err}
    (hA : e.allocd.Nodup) (hr : writeToNewSectors c h e p idx ow = (e', .error x)) :
    e'.dfree = e.dfree ∧ e'.allocd.Nodup ∧ ∀ s, s ∈ e'.allocd ↔ s ∈ e.allocd := by
  unfold writeToNewSectors at hr
  split at hr
  · rename_i e1 heq
    have := alloc_notok heq (by intro f n; simp)
    simp only [Prod.mk.injEq] at hr; obtain ⟨rfl, _⟩ := hr
    exact ⟨this.2.1, this.1 ▸ hA, fun s => by rw [this.1]⟩
  · rename_i e1 heq
    have := alloc_notok heq (by intro f n; simp)
    simp only [Prod.mk.injEq] at hr; obtain ⟨rfl, _⟩ := hr
    exact ⟨this.2.1, this.1 ▸ hA, fun s => by rw [this.1]⟩
  · rename_i e1 first got heq
    obtain ⟨hal, hdf, _, _, _, _, hf1, _, hfresh⟩ := alloc_ok heq
    dsimp only at hr
    split at hr
    · rename_i e2 y heq2
      have hs := wnsPhases_same c h e1 (List.take (got * c.ss - ow) p) first idx ow
      rw [heq2] at hs
      simp only [Prod.mk.injEq] at hr; obtain ⟨rfl, _⟩ := hr
      exact alloc_free_roundtrip e first got hA hf1 hfresh e2 (hs.1.trans hal) (hs.2.1.trans hdf)
    · simp at hr

/-- A successful `writeToNewSectors` has allocated exactly the run it reports:
`1 ≤ got ≤` the number of sectors asked for, numbered from 1, on the device,
previously free. -/
theorem wns_ok {c : Cfg} {h : Hole} {e e' : Env} {p : List Byte} {idx ow n first got : Nat}
    (hr : writeToNewSectors c h e p idx ow = (e', .ok (n, first, got))) :
    e'.allocd = List.range' first got ++ e.allocd ∧ e'.dfree = e.dfree ∧
      1 ≤ got ∧ got ≤ (ow + p.length + c.ss - 1) / c.ss ∧ 1 ≤ first ∧ first + got ≤ c.nsec + 1 ∧
      (∀ s, first ≤ s → s < first + got → s ∉ e.allocd) ∧ n = min (got * c.ss - ow) p.length := by
  unfold writeToNewSectors at hr
  split at hr
  · simp at hr
  · simp at hr
  · rename_i e1 first' got' heq
    obtain ⟨hal, hdf, _, _, hg1, hg2, hf1, hf2, hfresh⟩ := alloc_ok heq
    dsimp only at hr
    split at hr
    · simp at hr
    · rename_i e2 heq2
      have hs := wnsPhases_same c h e1 (List.take (got' * c.ss - ow) p) first' idx ow
      rw [heq2] at hs
      simp only [Prod.mk.injEq, Except.ok.injEq] at hr
      obtain ⟨rfl, rfl, rfl, rfl⟩ := hr
      refine ⟨hs.1.trans hal, hs.2.1.trans hdf, hg1, hg2, hf1, hf2, hfresh, ?_⟩
      simp [List.length_take]

/-! ## `insertSectors` -/

theorem nz_eq_nil_of_all_zero (l : List Nat) (h : l.all (· == 0) = true) : nz l = [] := by
  simp only [nz, List.filter_eq_nil_iff]
  intro a ha
  have := List.all_eq_true.mp h a ha
  simpa using this

theorem insertSectors_spec {secs secs' : List Nat} {idx first count : Nat}
    (h : insertSectors secs idx first count = some secs') (hf : 1 ≤ first) :
    secs'.length = secs.length ∧ (nz secs').Perm (List.range' first count ++ nz secs) := by
  unfold insertSectors at h
  split at h
  · rename_i hc
    simp only [Option.some.injEq] at h; subst h
    constructor
    · simp; omega
    · have hsplit : secs = secs.take idx ++ ((secs.drop idx).take count ++ secs.drop (idx + count)) := by
        rw [← List.drop_drop, List.take_append_drop, List.take_append_drop]
      have h0 := nz_eq_nil_of_all_zero _ hc.2
      have hnz : nz secs = nz (secs.take idx) ++ nz (secs.drop (idx + count)) := by
        conv => lhs; rw [hsplit]
        rw [nz_append, nz_append, h0, List.nil_append]
      rw [nz_append, nz_append, nz_range' _ _ hf, hnz]
      rw [List.append_assoc]
      exact (List.perm_append_comm_assoc _ _ _)
  · simp at h

end BbRe.Lemmas.FilePool
