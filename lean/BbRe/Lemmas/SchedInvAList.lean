import BbRe.Model.SchedStep
import BbRe.Lemmas.Basic.AssocList
/-!
Laws of the association-list helpers of `Model/Sched.lean` (`alookup`, `aset`, `aerase`, with the
key list `keys`) and of the worker list (`wfind`, `wset`, `WNodup`, appending and filtering), among
them the case lemmas `alookup_aset_cases`, `alookup_aerase_some`, `wfind_wset_cases`.
-/
namespace BbRe.Lemmas.SchedInv
open BbRe.Sched

def keys {α} (l : List (Nat × α)) : List Nat := l.map (·.1)

@[simp] theorem keys_nil {α} : keys ([] : List (Nat × α)) = [] := rfl
@[simp] theorem keys_cons {α} (p : Nat × α) (l) : keys (p :: l) = p.1 :: keys l := rfl

/-! `alookup`, `aset`, `aerase` are `AL.get`, `AL.put`, `AL.del` at key type `Nat`, and `keys` unfolds to
`AL.keys`; the laws below are those of `Lemmas/Basic/AssocList.lean` carried over these three equations. -/

theorem alookup_eq {α} (k : Nat) (l : List (Nat × α)) : alookup k l = AL.get k l := by
  induction l with
  | nil => rfl
  | cons p l ih => obtain ⟨a, b⟩ := p; simp only [alookup, AL.get, ih]

theorem aset_eq {α} (k : Nat) (v : α) (l : List (Nat × α)) : aset k v l = AL.put k v l := by
  induction l with
  | nil => rfl
  | cons p l ih => obtain ⟨a, b⟩ := p; simp only [aset, AL.put, ih]

theorem aerase_eq {α} (k : Nat) (l : List (Nat × α)) : aerase k l = AL.del k l := by
  induction l with
  | nil => rfl
  | cons p l ih => obtain ⟨a, b⟩ := p; simp only [aerase, AL.del, ih]

@[simp] theorem alookup_nil {α} (k : Nat) : alookup k ([] : List (Nat × α)) = none := rfl

theorem alookup_cons {α} (k : Nat) (p : Nat × α) (l) :
    alookup k (p :: l) = if p.1 = k then some p.2 else alookup k l := by
  cases p; rfl

theorem alookup_eq_none_iff {α} (k : Nat) (l : List (Nat × α)) : alookup k l = none ↔ k ∉ keys l :=
  alookup_eq k l ▸ AL.get_eq_none_iff

theorem alookup_isSome_iff {α} (k : Nat) (l : List (Nat × α)) : (alookup k l).isSome ↔ k ∈ keys l :=
  alookup_eq k l ▸ AL.get_isSome_iff

theorem mem_of_alookup {α} {k : Nat} {v : α} {l : List (Nat × α)} (h : alookup k l = some v) : (k, v) ∈ l :=
  AL.mem_of_get (alookup_eq k l ▸ h)

theorem alookup_of_mem {α} {k : Nat} {v : α} {l : List (Nat × α)} (hn : (keys l).Nodup) (h : (k, v) ∈ l) :
    alookup k l = some v := alookup_eq k l ▸ AL.get_of_mem hn h

theorem mem_iff_alookup {α} {k : Nat} {v : α} {l : List (Nat × α)} (hn : (keys l).Nodup) :
    (k, v) ∈ l ↔ alookup k l = some v := ⟨alookup_of_mem hn, mem_of_alookup⟩

theorem alookup_aset {α} (k k' : Nat) (v : α) (l : List (Nat × α)) :
    alookup k (aset k' v l) = if k' = k then some v else alookup k l := by
  rw [aset_eq, alookup_eq, alookup_eq]; exact AL.get_put ..

theorem keys_aset {α} (k : Nat) (v : α) (l : List (Nat × α)) :
    keys (aset k v l) = if k ∈ keys l then keys l else keys l ++ [k] := aset_eq k v l ▸ AL.keys_put ..

theorem mem_keys_aset {α} (k x : Nat) (v : α) (l : List (Nat × α)) :
    x ∈ keys (aset k v l) ↔ x = k ∨ x ∈ keys l := aset_eq k v l ▸ AL.mem_keys_put

theorem nodup_aset {α} (k : Nat) (v : α) (l : List (Nat × α)) (h : (keys l).Nodup) :
    (keys (aset k v l)).Nodup := aset_eq k v l ▸ AL.nodup_put k v h

theorem keys_aerase_sublist {α} (k : Nat) (l : List (Nat × α)) : (keys (aerase k l)).Sublist (keys l) :=
  aerase_eq k l ▸ AL.keys_del_sublist k l

theorem nodup_aerase {α} (k : Nat) (l : List (Nat × α)) (h : (keys l).Nodup) : (keys (aerase k l)).Nodup :=
  (keys_aerase_sublist k l).nodup h

/-- a binding found after `aset k v`: the new one, or an old one under another key -/
theorem alookup_aset_cases {α} {k k' : Nat} {v v' : α} {l : List (Nat × α)} (h : alookup k' (aset k v l) = some v') :
    k' = k ∧ v' = v ∨ k' ≠ k ∧ alookup k' l = some v' := by
  rw [aset_eq, alookup_eq] at h; rw [alookup_eq]; exact AL.get_put_cases h

theorem alookup_aset_self {α} (k : Nat) (v : α) (l : List (Nat × α)) : alookup k (aset k v l) = some v := by
  rw [alookup_aset, if_pos rfl]

theorem alookup_aset_ne {α} {k k' : Nat} (v : α) (l : List (Nat × α)) (h : k' ≠ k) :
    alookup k' (aset k v l) = alookup k' l := by
  rw [alookup_aset, if_neg fun e => h e.symm]

theorem alookup_aerase_ne {α} (k k' : Nat) (l : List (Nat × α)) (hne : k' ≠ k) :
    alookup k (aerase k' l) = alookup k l := by
  rw [aerase_eq, alookup_eq, alookup_eq]; exact AL.get_del_ne _ _ _ hne

theorem alookup_aerase {α} (k k' : Nat) (l : List (Nat × α)) (hn : (keys l).Nodup) :
    alookup k (aerase k' l) = if k' = k then none else alookup k l := by
  rw [aerase_eq, alookup_eq, alookup_eq]; exact AL.get_del _ _ hn

theorem alookup_aerase_self {α} (k : Nat) (l : List (Nat × α)) (hn : (keys l).Nodup) :
    alookup k (aerase k l) = none := by
  rw [alookup_aerase _ _ _ hn, if_pos rfl]

theorem mem_keys_aerase {α} (k x : Nat) (l : List (Nat × α)) (hn : (keys l).Nodup) :
    x ∈ keys (aerase k l) ↔ x ≠ k ∧ x ∈ keys l := aerase_eq k l ▸ AL.mem_keys_del hn

theorem aset_aset {α} (k : Nat) (v v' : α) (l : List (Nat × α)) : aset k v (aset k v' l) = aset k v l := by
  simp only [aset_eq]; exact AL.put_put ..

/-- a binding found after `aerase k` -/
theorem alookup_aerase_some {α} {k k' : Nat} {v : α} {l : List (Nat × α)} (hn : (keys l).Nodup)
    (h : alookup k' (aerase k l) = some v) : k' ≠ k ∧ alookup k' l = some v := by
  rw [aerase_eq, alookup_eq] at h; rw [alookup_eq]; exact AL.get_del_some hn h

/-- two worker records denote the same worker -/
def sameW (a b : Worker) : Prop := a.scq = b.scq ∧ a.id = b.id

def WNodup (ws : List Worker) : Prop := ws.Pairwise (fun a b => ¬ sameW a b)

def wfind (ws : List Worker) (q : ScqId) (i : WId) : Option Worker := ws.find? (fun x => x.scq = q ∧ x.id = i)

def wset (ws : List Worker) (w : Worker) : List Worker := ws.map (fun x => if x.scq = w.scq ∧ x.id = w.id then w else x)

theorem mem_wset' {ws : List Worker} {w x : Worker} (h : x ∈ wset ws w) :
    x = w ∨ (x ∈ ws ∧ ¬ (x.scq = w.scq ∧ x.id = w.id)) := by
  unfold wset at h
  obtain ⟨y, hy, e⟩ := List.mem_map.mp h
  split at e
  · exact Or.inl e.symm
  · rename_i hne; subst e; exact Or.inr ⟨hy, hne⟩

theorem mem_wset {ws : List Worker} {w x : Worker} (h : x ∈ wset ws w) : x = w ∨ x ∈ ws :=
  (mem_wset' h).imp_right And.left

theorem wfind_key {ws q i wk} (h : wfind ws q i = some wk) : wk.scq = q ∧ wk.id = i := by
  have := List.find?_some h
  simpa using this

theorem wfind_mem {ws q i wk} (h : wfind ws q i = some wk) : wk ∈ ws := List.mem_of_find?_eq_some h

theorem wfind_of_mem {ws : List Worker} {wk} (hn : WNodup ws) (h : wk ∈ ws) : wfind ws wk.scq wk.id = some wk := by
  induction ws with
  | nil => simp at h
  | cons a l ih =>
    unfold wfind
    rw [List.find?_cons]
    simp only [WNodup, List.pairwise_cons] at hn
    rcases List.mem_cons.mp h with h | h
    · subst h; simp
    · have := hn.1 wk h
      have hne : ¬ (a.scq = wk.scq ∧ a.id = wk.id) := this
      simp only [hne, decide_false]
      exact ih hn.2 h

theorem wfind_wset (ws : List Worker) (w : Worker) (q : ScqId) (i : WId) :
    wfind (wset ws w) q i =
      if w.scq = q ∧ w.id = i then (if (wfind ws q i).isSome then some w else none) else wfind ws q i := by
  induction ws with
  | nil => simp [wfind, wset]
  | cons a l ih =>
    unfold wfind wset at *
    simp only [List.map_cons, List.find?_cons]
    by_cases h1 : a.scq = w.scq ∧ a.id = w.id
    · simp only [h1, and_self, if_true]
      by_cases h2 : w.scq = q ∧ w.id = i
      · simp [h2]
      · have : ¬ (a.scq = q ∧ a.id = i) := by rw [h1.1, h1.2]; exact h2
        simp only [h2, decide_false, if_false] at ih ⊢
        exact ih
    · simp only [h1, if_false]
      by_cases h3 : a.scq = q ∧ a.id = i
      · have : ¬ (w.scq = q ∧ w.id = i) := by
          intro h; apply h1; rw [h3.1, h3.2, h.1, h.2]; exact ⟨rfl, rfl⟩
        simp [h3, this]
      · simp only [h3, decide_false]; exact ih

theorem wset_nodup (ws : List Worker) (w : Worker) (h : WNodup ws) : WNodup (wset ws w) := by
  unfold WNodup wset at *
  rw [List.pairwise_map]
  refine h.imp ?_
  intro a b hab
  unfold sameW at *
  split <;> split <;> grind

theorem wfind_append (ws : List Worker) (w : Worker) (q i) :
    wfind (ws ++ [w]) q i = match wfind ws q i with
      | some x => some x
      | none => if w.scq = q ∧ w.id = i then some w else none := by
  unfold wfind
  rw [List.find?_append]
  cases h : List.find? (fun x => decide (x.scq = q ∧ x.id = i)) ws
  · by_cases hw : w.scq = q ∧ w.id = i <;> simp [hw]
  · simp

theorem wnodup_append (ws : List Worker) (w : Worker) (h : WNodup ws) (hn : wfind ws w.scq w.id = none) :
    WNodup (ws ++ [w]) := by
  unfold WNodup at *
  rw [List.pairwise_append]
  refine ⟨h, by simp, ?_⟩
  intro a ha b hb
  simp at hb; subst hb
  unfold wfind at hn
  rw [List.find?_eq_none] at hn
  have := hn a ha
  simpa [sameW] using this

theorem wfind_filter_ne (ws : List Worker) (q i q' i') :
    wfind (ws.filter (fun x => ¬ (x.scq = q' ∧ x.id = i'))) q i =
      if q = q' ∧ i = i' then none else wfind ws q i := by
  induction ws with
  | nil => simp [wfind]
  | cons a l ih =>
    unfold wfind at *
    rw [List.filter_cons]
    by_cases h1 : a.scq = q' ∧ a.id = i'
    · simp only [h1, and_self, not_true_eq_false, decide_false, Bool.false_eq_true, if_false, ih, List.find?_cons]
      split
      · rfl
      · rename_i h2
        have : ¬ (q' = q ∧ i' = i) := fun h => h2 ⟨h.1.symm, h.2.symm⟩
        simp only [this, decide_false]
    · simp only [h1, not_false_eq_true, decide_true, if_true, List.find?_cons, ih]
      by_cases h3 : a.scq = q ∧ a.id = i
      · have : ¬ (q = q' ∧ i = i') := by intro h; apply h1; rw [h3.1, h3.2]; exact h
        simp [h3, this]
      · simp [h3]

theorem wnodup_filter (ws : List Worker) (p : Worker → Bool) (h : WNodup ws) : WNodup (ws.filter p) :=
  List.Pairwise.sublist List.filter_sublist h

/-- a worker found after `wset ws w'`: `w'` under its own key, or an old record under another key -/
theorem wfind_wset_cases {ws : List Worker} {w' wk' : Worker} {q : ScqId} {i : WId}
    (h : wfind (wset ws w') q i = some wk') :
    (w'.scq = q ∧ w'.id = i) ∧ wk' = w' ∨ ¬ (w'.scq = q ∧ w'.id = i) ∧ wfind ws q i = some wk' := by
  rw [wfind_wset] at h
  by_cases e : w'.scq = q ∧ w'.id = i
  · rw [if_pos e] at h
    by_cases e2 : (wfind ws q i).isSome = true
    · rw [if_pos e2] at h; exact .inl ⟨e, (Option.some.inj h).symm⟩
    · rw [if_neg e2] at h; cases h
  · rw [if_neg e] at h; exact .inr ⟨e, h⟩

theorem wfind_wset_isSome (ws : List Worker) (w : Worker) (q : ScqId) (i : WId) :
    (wfind (wset ws w) q i).isSome = (wfind ws q i).isSome := by
  rw [wfind_wset]
  by_cases e : w.scq = q ∧ w.id = i
  · rw [if_pos e]; cases wfind ws q i <;> rfl
  · rw [if_neg e]

end BbRe.Lemmas.SchedInv
