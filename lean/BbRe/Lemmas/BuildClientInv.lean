import BbRe.Lemmas.BuildClientSteps
/-!
`Inv` is preserved by every event of `Model/BuildClient.lean`, hence holds in
every reachable state (`inv_reachable`).
-/
namespace BbRe.Lemmas.BuildClient
open BbRe.BuildClient

/-- Recording a reply that is no idle instruction; the thread is still at `Synchronize`. -/
theorem inv_record {s : State} {ce : Bool} (h : Inv s) (hpc : s.pc = .sync ce) (r : Reply)
    (mth : Option Nat) (ns ms : Nat) (hk : ¬ toldFor .idle (some r)) :
    Inv { s with lastReply := some r, mayThink := mth, nextSync := ns, maxSync := ms } :=
  { h with
    honest := honest_of h.honest rfl rfl (fun h => h) id
    readyNone := fun hp => nomatch hpc.symm.trans hp
    selectRc := fun _ hp => nomatch hpc.symm.trans hp
    drainStart := fun _ hp => nomatch hpc.symm.trans hp
    drainIdle := fun hp => nomatch hpc.symm.trans hp
    toldIdle := fun ht => absurd ht hk }

theorem inv_stopThen {s : State} (h : Inv s) (r : Reply) (mth : Option Nat) (ns ms : Nat)
    (k : DrainFor) (hk : toldFor k (some r)) :
    Inv (stopThen { s with lastReply := some r, mayThink := mth, nextSync := ns, maxSync := ms }
      k) := by
  unfold stopThen
  split
  next e hc =>
    have hc : s.cur = some e := hc
    refine ⟨h.retired, ?_, ?_, nofun, nofun, ?_, ?_, ?_, logOK_append h.logOK _ trivial⟩
    · intro x hx
      cases hx
      exact { h.curWF e hc with }
    · obtain ⟨h1, h2⟩ := reqHonest_iff.mp h.honest
      refine reqHonest_iff.mpr ⟨fun hq => (nomatch hc ▸ h1 hq), fun d p hq => ?_⟩
      obtain ⟨x, hx, hxd, hxr, -⟩ := h2 d p hq
      cases (lastExec_cur hc).symm.trans hx
      exact ⟨_, rfl, hxd, hxr, fun u _ hk' => absurd rfl (hk' k)⟩
    · intro d hd; cases hd; exact hk
    · intro hd; cases hd; exact hk
    · rintro ⟨ts, hts⟩
      cases hts
      cases k with
      | idle => exact .inl rfl
      | start d => obtain ⟨_, h'⟩ := hk; cases h'
  next hc =>
    exact inv_finishStop
      (s := { s with lastReply := some r, mayThink := mth, nextSync := ns, maxSync := ms })
      h.retired hc h.logOK k hk

/-- The request state after applying all pending messages is honest w.r.t. the
consumed executor. -/
theorem honest_applied {s : State} (h : Inv s) {e : Exec} (hc : s.cur = some e)
    (hnd : ∀ k, s.pc ≠ .drain k) :
    ∃ d p, applyMsgs s.req (pending e) = .executing d p ∧ e.digest = d ∧
      (∀ r, p = .completed r → e.returned = some r) ∧
      (∀ u, p = .upd u → (e.received ++ updsOf (pending e)).getLast? = some u) := by
  have wf := h.curWF e hc
  rcases List.eq_nil_or_concat (pending e) with hp | ⟨init, m, hp⟩
  · rw [hp]
    obtain ⟨h1, h2⟩ := reqHonest_iff.mp h.honest
    cases hq : s.req with
    | idle => exact nomatch hc ▸ h1 hq
    | executing d p =>
      obtain ⟨x, hx, hxd, hxr, hxu⟩ := h2 d p hq
      cases (lastExec_cur hc).symm.trans hx
      exact ⟨d, p, rfl, hxd, hxr, fun u hu => by simpa [updsOf] using hxu u hu hnd⟩
  · have hm : m ∈ pending e := by rw [hp]; simp
    rw [hp]
    simp only [List.concat_eq_append]
    refine ⟨m.d, m.p, applyMsgs_append _ _ _, (wf.dig m hm).symm, wf.comp m hm, ?_⟩
    intro u hu
    rw [updsOf_append, ← List.append_assoc]
    simp [updsOf, updOf, hu]

theorem inv_consumed {s : State} (h : Inv s) {e : Exec} {rc : Bool} (hpc : s.pc = .select rc)
    (hc : s.cur = some e) (seeClose : Bool) : Inv (consumed s e seeClose) := by
  have hnd := nd_of_pc hpc
  obtain ⟨d, p, hreq, hd, hr, hu⟩ := honest_applied h hc hnd
  have wf := h.curWF e hc
  unfold pending at hreq hu
  have h8 : ¬ ∃ ts, s.lastReply = some (.reply (some ts) .idle) := by
    intro ht
    rcases h.toldIdle ht with h' | ⟨_, _, h'⟩
    · exact absurd h' (hnd _)
    · rw [hc] at h'; cases h'
  unfold consumed
  simp only
  split
  · refine { h with
      retired := fun x hx => ?_
      curWF := fun _ hx => (Option.some_ne_none _ hx.symm).elim
      honest := ?_
      toldIdle := fun ht => absurd ht h8
      logOK := logOK_append h.logOK _ trivial }
    · rcases List.mem_cons.mp hx with rfl | hx
      · exact ⟨rfl, [], (List.append_nil _).trans wf.fifo⟩
      · exact h.retired x hx
    · unfold ReqHonest
      simp only [hreq]
      exact ⟨_, rfl, hd, hr, fun u hp _ => hu u hp⟩
  · rename_i hcl
    simp at hcl
    refine { h with curWF := fun x hx => ?_, honest := ?_, toldIdle := fun ht => absurd ht h8 }
    · cases hx
      refine ⟨Nat.zero_le _, ?_, nofun, (List.append_nil _).trans wf.fifo, nofun⟩
      intro hcc; simp at hcc; simp [hcc] at hcl
    · unfold ReqHonest
      simp only [hreq]
      exact ⟨_, rfl, hd, hr, fun u hp _ => hu u hp⟩

theorem Step.inv {s s' : State} (h : Inv s) (hs : Step s s') : Inv s' := by
  cases hs with
  | move hnd hm => exact inv_move h hnd hm
  | @consume rc e c hpc hc =>
    have hi := consumed_frame s e c ▸ inv_consumed h hpc hc c
    exact { hi with }
  | record r mth ns ms hpc _ hk => exact inv_record h hpc r mth ns ms (hk .idle)
  | stop r mth ns ms k _ _ hk => exact inv_stopThen h r mth ns ms k hk
  | @recv k e m rest hpc hc hb =>
    exact inv_setCur h hc (wf_drainRecv (h.curWF e hc) m rest hb) rfl (fun _ => id)
      fun hk => absurd hpc (hk k)
  | @drained k e hpc hc hcl =>
    refine inv_finishStop (s := { s with cur := none, retired := e :: s.retired }) ?_ rfl h.logOK k ?_
    · intro x hx
      rcases List.mem_cons.mp hx with rfl | hx
      · exact ⟨hcl, _, (h.curWF x hc).fifo⟩
      · exact h.retired x hx
    · cases k with
      | idle => exact h.drainIdle hpc
      | start d => exact h.drainStart d hpc
  | cancel => exact { h with logOK := logOK_cancel h.logOK }
  | tick n => exact { h with }
  | @emit e u hc hr hb hcl =>
    obtain ⟨b, bl, hp, -⟩ := push_eq ⟨e.digest, .upd u⟩ (h.curWF e hc).cap hb
    exact inv_setCur h hc (wf_emit (h.curWF e hc) u hb hcl) (by rw [hp]) (by rw [hp]; exact fun _ => id)
      (by rw [hp]; exact fun _ => rfl)
  | @finish e r hc hr hb hcl =>
    obtain ⟨b, bl, hp, -⟩ := push_eq ⟨e.digest, .completed r⟩ (h.curWF e hc).cap hb
    exact inv_setCur h hc (wf_finish (h.curWF e hc) r hr hb hcl) (by rw [hp])
      (fun r' hr' => nomatch hr ▸ hr') (by rw [hp]; exact fun _ => rfl)
  | @close e hc hr hb =>
    exact inv_setCur h hc (wf_close (h.curWF e hc) hr hb) rfl (fun _ => id) fun _ => rfl

theorem inv_step {s : State} (h : Inv s) (ev : Ev) : Inv (step s ev) :=
  step_of_step? h fun _ => step?_closed (fun _ _ h hs => hs.inv h) h

theorem inv_reachable (t0 : Nat) (evs : List Ev) : Inv (run (init t0) evs) :=
  run_closed (fun _ _ h hs => hs.inv h) (inv_init t0) evs

end BbRe.Lemmas.BuildClient
