import BbRe.Lemmas.FairHandoff
import BbRe.Lemmas.FairWalk
/-!
When some worker is parked, `task.schedule` finds one (it never queues the task).
-/
namespace BbRe.Lemmas.Fair
open BbRe.Fair

/-- `idleSynchronizingWorkersChildren` lists only children that have parked workers at or below
them (the converse of `ParkedListed`; both are checked on the real structures by the hook). -/
def ParkedSound (t : Inv) : Prop :=
  ∀ p n, nodeAt t p = some n → ∀ k ∈ n.parkedKids, ∃ c, n.child k = some c ∧ c.hasParked = true

theorem nodeAt_depth_le (p : List Nat) (t n : Inv) (h : nodeAt t p = some n) : n.depth ≤ t.depth :=
  nodeAt_induct (fun x => x.depth ≤ t.depth)
    (fun x k c hx hc => Nat.le_trans (Nat.le_of_lt (child_depth_lt x k c hc)) hx) p t n (Nat.le_refl _) h

theorem descendParked_some (t : Inv) (hs : ParkedSound t) : ∀ (f : Nat) (p : List Nat) (n : Inv),
    nodeAt t p = some n → n.depth ≤ f → n.hasParked = true → ∃ w, descendParked f n = some w := by
  intro f
  induction f with
  | zero =>
    intro p n _ hd _
    exact absurd (depth_pos n) (Nat.not_lt.mpr hd)
  | succ f ih =>
    intro p n hn hd hp
    unfold descendParked
    cases hpk : n.parked with
    | cons w _ => exact ⟨w, rfl⟩
    | nil =>
      simp only []
      unfold Inv.hasParked at hp
      rw [hpk] at hp
      cases hk : n.parkedKids with
      | nil => rw [hk] at hp; simp at hp
      | cons k ks =>
        simp only []
        obtain ⟨c, hc, hcp⟩ := hs p n hn k (by rw [hk]; exact List.mem_cons_self)
        rw [hc]
        simp only []
        have hlt := child_depth_lt n k c hc
        have hpc : nodeAt t (p ++ [k]) = some c := by
          rw [nodeAt_append, hn]
          simp only [Option.bind_some, nodeAt, hc]
        exact ih (p ++ [k]) c hpc (Nat.le_of_lt_succ (Nat.lt_of_lt_of_le hlt hd)) hcp

theorem length_le_maxLen : ∀ (invs : List (List Nat)) (p : List Nat), p ∈ invs → p.length ≤ maxLen invs
  | [], _, h => by cases h
  | q :: qs, p, h => by
    rw [maxLen]
    rcases List.mem_cons.mp h with rfl | h'
    · exact Nat.le_max_left _ _
    · exact Nat.le_trans (length_le_maxLen qs p h') (Nat.le_max_right _ _)

theorem handoffAux_ne_nil (t : Inv) (invs : List (List Nat)) (hl : ParkedListed t) (hs : ParkedSound t)
    (q : List Nat) (w : Nat) (hp : Parked t q w) :
    ∀ (fuel r : Nat), (∀ p ∈ invs, r ≤ p.length) → (∃ p ∈ invs, p.length + 1 ≤ fuel + r) →
      handoffAux t invs t.depth fuel r ≠ [] := by
  obtain ⟨nq, hnq, hwq⟩ := hp
  have hroot : t.hasParked = true :=
    hasParked_of_below t hl q [] t nq rfl hnq (by intro he; rw [he] at hwq; cases hwq)
  intro fuel
  induction fuel with
  | zero =>
    intro r hall ⟨p, hp, hb⟩
    exact absurd (Nat.lt_of_succ_le (Nat.le_trans hb (Nat.le_of_eq (Nat.zero_add r)))) (Nat.not_lt.mpr (hall p hp))
  | succ f ih =>
    intro r hall ⟨p0, hp0, hb⟩
    unfold handoffAux
    simp only []
    by_cases hhits : ((roundNodes t invs r).filter Inv.hasParked).isEmpty = true
    · rw [if_pos hhits]
      rw [List.isEmpty_iff] at hhits
      split
      · rename_i hany
        exfalso
        rw [List.any_eq_true] at hany
        obtain ⟨p, hp, hle⟩ := hany
        simp only [decide_eq_true_eq] at hle
        have hr : p.length = r := Nat.le_antisymm hle (hall p hp)
        have : t ∈ (roundNodes t invs r).filter Inv.hasParked := by
          apply List.mem_filter.mpr
          refine ⟨(mem_roundNodes t invs r t).mpr ⟨p, hp, hall p hp, ?_⟩, hroot⟩
          rw [hr, Nat.sub_self, List.take_zero]; rfl
        rw [hhits] at this
        cases this
      · rename_i hany
        apply ih (r + 1)
        · intro p hp
          refine Nat.lt_of_not_le fun hle => hany ?_
          rw [List.any_eq_true]
          exact ⟨p, hp, decide_eq_true hle⟩
        · exact ⟨p0, hp0, Nat.le_trans hb (Nat.le_of_eq (Nat.add_right_comm f 1 r))⟩
    · rw [if_neg hhits]
      -- some examined invocation has parked workers below it; the descent finds one
      cases hh : (roundNodes t invs r).filter Inv.hasParked with
      | nil => rw [hh] at hhits; simp at hhits
      | cons n rest =>
        have hn : n ∈ (roundNodes t invs r).filter Inv.hasParked := by rw [hh]; exact List.mem_cons_self
        obtain ⟨hnr, hnp⟩ := List.mem_filter.mp hn
        obtain ⟨p, hp, hrp, hnode⟩ := (mem_roundNodes t invs r n).mp hnr
        obtain ⟨w', hw'⟩ := descendParked_some t hs t.depth _ n hnode (nodeAt_depth_le _ t n hnode) hnp
        simp only [List.filterMap_cons, hw']
        exact List.cons_ne_nil _ _

end BbRe.Lemmas.Fair
