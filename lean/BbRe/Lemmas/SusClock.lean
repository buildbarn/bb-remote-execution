import BbRe.Model.SusClock
/-!
For C11: the counter model of `Suspend`/`Resume`
(`Clk`, `clockAt`) computes the measure of the time not covered by any
suspension interval (`unsuspTo`).
-/
namespace BbRe.Lemmas.SusClock
open BbRe.SusClock

theorem countFree_congr {f g : Nat → Nat} {a : Nat} :
    ∀ n, (∀ τ, a ≤ τ → τ < a + n → f τ = g τ) → countFree f a n = countFree g a n
  | 0, _ => rfl
  | n + 1, h => by
    simp only [countFree]
    rw [countFree_congr n (fun τ h1 h2 => h τ h1 (Nat.lt_succ_of_lt h2)),
      h (a + n) (Nat.le_add_right a n) (Nat.lt_succ_self _)]

theorem countFree_add (f : Nat → Nat) (a m : Nat) :
    ∀ n, countFree f a (m + n) = countFree f a m + countFree f (a + m) n
  | 0 => rfl
  | n + 1 => by
    show countFree f a (m + n + 1) = _
    simp only [countFree]
    rw [countFree_add f a m n, Nat.add_assoc a m n, Nat.add_assoc]

theorem countFree_const {f : Nat → Nat} {a k : Nat} :
    ∀ n, (∀ τ, a ≤ τ → τ < a + n → f τ = k) → countFree f a n = if k = 0 then n else 0
  | 0, _ => (ite_self 0).symm
  | n + 1, h => by
    simp only [countFree]
    rw [countFree_const n (fun τ h1 h2 => h τ h1 (Nat.lt_succ_of_lt h2)),
      h (a + n) (Nat.le_add_right a n) (Nat.lt_succ_self _)]
    split <;> rfl

theorem countFree_le (f : Nat → Nat) (a : Nat) : ∀ n, countFree f a n ≤ n
  | 0 => Nat.le_refl 0
  | n + 1 => by
    simp only [countFree]
    exact Nat.add_le_add (countFree_le f a n) (by split <;> decide)

/-- Splitting `[a, c)` at `b`. -/
theorem countFree_split (f : Nat → Nat) {a b c : Nat} (h1 : a ≤ b) (h2 : b ≤ c) :
    countFree f a (c - a) = countFree f a (b - a) + countFree f b (c - b) := by
  obtain ⟨m, rfl⟩ := Nat.exists_eq_add_of_le h1
  obtain ⟨n, rfl⟩ := Nat.exists_eq_add_of_le h2
  rw [Nat.add_assoc, Nat.add_sub_cancel_left, Nat.add_sub_cancel_left, ← Nat.add_assoc, Nat.add_sub_cancel_left,
    countFree_add]

theorem unsuspTo_eq_add (tl : List Ev) {a b : Nat} (h : a ≤ b) :
    unsuspTo tl b = unsuspTo tl a + unsuspended tl a b := by
  unfold unsuspTo unsuspended
  have := countFree_split (depthAt tl) (Nat.zero_le a) h
  simpa using this

theorem unsuspTo_mono (tl : List Ev) {a b : Nat} (h : a ≤ b) : unsuspTo tl a ≤ unsuspTo tl b :=
  unsuspTo_eq_add tl h ▸ Nat.le_add_right _ _

theorem unsuspended_le (tl : List Ev) (a b : Nat) : unsuspended tl a b ≤ b - a :=
  countFree_le _ _ _

theorem unsuspended_self (tl : List Ev) (a : Nat) : unsuspended tl a a = 0 := by
  rw [unsuspended, Nat.sub_self]
  rfl

/-- Unsuspended time grows at most as fast as wall time. -/
theorem unsuspTo_lipschitz (tl : List Ev) (a n : Nat) : unsuspTo tl (a + n) ≤ unsuspTo tl a + n := by
  rw [unsuspTo_eq_add tl (Nat.le_add_right a n)]
  exact Nat.add_le_add_left (Nat.le_trans (unsuspended_le tl a (a + n)) (Nat.le_of_eq (Nat.add_sub_cancel_left ..))) _

theorem unsuspended_add (tl : List Ev) {a b c : Nat} (h1 : a ≤ b) (h2 : b ≤ c) :
    unsuspended tl a c = unsuspended tl a b + unsuspended tl b c :=
  countFree_split _ h1 h2

/-- A `Suspend`/`Resume` at instant `t` does not change the unsuspended total
observed at `t`: same-instant calls may be ordered arbitrarily around a reader. -/
theorem totalNow_apply (c : Clk) (e : Ev) : (c.apply e).totalNow e.time = c.totalNow e.time := by
  cases e with
  | suspend t =>
    simp only [Clk.apply, Clk.suspend, Clk.totalNow, Ev.time, Nat.add_one_ne_zero, if_false, Nat.add_zero]
    split <;> rfl
  | resume t =>
    simp only [Clk.apply, Clk.resume, Ev.time]
    split
    · rfl
    · rename_i h
      simp only [Clk.totalNow, h, if_false]
      split <;> simp only [Nat.sub_self]

theorem totalNow_advance (c : Clk) {T t : Nat} (h1 : c.us ≤ T) (h2 : T ≤ t) :
    c.totalNow t = c.totalNow T + if c.cnt = 0 then t - T else 0 := by
  simp only [Clk.totalNow]
  split
  · rw [Nat.add_assoc, Nat.add_comm (T - c.us), Nat.sub_add_sub_cancel h2 h1]
  · rfl

theorem us_apply (c : Clk) (e : Ev) (h : c.us ≤ e.time) : (c.apply e).us ≤ e.time := by
  cases e with
  | suspend _ => exact h
  | resume t =>
    simp only [Clk.apply, Clk.resume, Ev.time] at h ⊢
    split
    · exact h
    · split
      · exact Nat.le_refl t
      · exact h

/-- In `Nat` the guard `now.After(unsuspensionStart)` is the truncation of the subtraction. -/
theorem totalWithTime_eq (c : Clk) (t : Nat) : c.totalWithTime t = c.totalNow t := by
  simp only [Clk.totalWithTime, Clk.totalNow]
  by_cases h0 : c.cnt = 0
  · by_cases h1 : c.us < t
    · simp only [h0, h1, and_self, if_true]
    · simp only [h0, h1, and_false, if_false, if_true, Nat.sub_eq_zero_of_le (Nat.le_of_not_lt h1)]
  · simp only [h0, false_and, if_false]

/-! ### sortedness, balance, depth -/

theorem sortedFrom_mono {lo lo' : Nat} (h : lo' ≤ lo) : ∀ tl, sortedFrom lo tl = true → sortedFrom lo' tl = true
  | [], _ => rfl
  | e :: rest, hs => by
    simp only [sortedFrom, Bool.and_eq_true, decide_eq_true_eq] at *
    exact ⟨Nat.le_trans h hs.1, hs.2⟩

theorem sortedFrom_le {lo : Nat} : ∀ tl, sortedFrom lo tl = true → ∀ e ∈ tl, lo ≤ e.time
  | e :: rest, hs, e', he' => by
    simp only [sortedFrom, Bool.and_eq_true, decide_eq_true_eq] at hs
    cases he' with
    | head => exact hs.1
    | tail _ hm => exact sortedFrom_le rest (sortedFrom_mono hs.1 rest hs.2) e' hm

theorem cntS_cons_suspend (t τ : Nat) (rest : List Ev) :
    cntS (.suspend t :: rest) τ = cntS rest τ + if t ≤ τ then 1 else 0 := by
  by_cases h : t ≤ τ <;>
    simp only [cntS, List.countP_cons, Ev.isSuspend, Ev.time, Bool.true_and, h, decide_true, decide_false, if_true,
      if_false, Bool.false_eq_true]

theorem cntS_cons_resume (t τ : Nat) (rest : List Ev) : cntS (.resume t :: rest) τ = cntS rest τ := by
  simp only [cntS, List.countP_cons, Ev.isSuspend, Bool.false_and, Bool.false_eq_true, if_false, Nat.add_zero]

theorem cntR_cons_suspend (t τ : Nat) (rest : List Ev) : cntR (.suspend t :: rest) τ = cntR rest τ := by
  simp only [cntR, List.countP_cons, Ev.isSuspend, Bool.not_true, Bool.false_and, Bool.false_eq_true, if_false,
    Nat.add_zero]

theorem cntR_cons_resume (t τ : Nat) (rest : List Ev) :
    cntR (.resume t :: rest) τ = cntR rest τ + if t ≤ τ then 1 else 0 := by
  by_cases h : t ≤ τ <;>
    simp only [cntR, List.countP_cons, Ev.isSuspend, Ev.time, Bool.not_false, Bool.true_and, h, decide_true,
      decide_false, if_true, if_false, Bool.false_eq_true]

/-- Calls at or after `at_` are not counted below `at_`. -/
theorem cnt_zero_of_all_ge {at_ τ : Nat} (hτ : τ < at_) (q : List Ev) (h : ∀ e ∈ q, at_ ≤ e.time) :
    cntS q τ = 0 ∧ cntR q τ = 0 := by
  unfold cntS cntR
  simp only [List.countP_eq_zero, Bool.and_eq_true, decide_eq_true_eq, not_and, Nat.not_le]
  exact ⟨fun e he _ => Nat.lt_of_lt_of_le hτ (h e he), fun e he _ => Nat.lt_of_lt_of_le hτ (h e he)⟩

theorem depthFrom_early {n at_ τ : Nat} (hτ : τ < at_) (q : List Ev) (h : ∀ e ∈ q, at_ ≤ e.time) :
    depthFrom n q τ = n := by
  have := cnt_zero_of_all_ge hτ q h
  rw [depthFrom, this.1, this.2]
  rfl

theorem depthFrom_cons_suspend (n t : Nat) (rest : List Ev) {τ : Nat} (h : t ≤ τ) :
    depthFrom n (.suspend t :: rest) τ = depthFrom (n + 1) rest τ := by
  rw [depthFrom, depthFrom, cntS_cons_suspend, cntR_cons_suspend, if_pos h, Nat.add_right_comm, Nat.add_assoc]

theorem depthFrom_cons_resume (n t : Nat) (rest : List Ev) {τ : Nat} (h : t ≤ τ) (hn : n ≠ 0) :
    depthFrom n (.resume t :: rest) τ = depthFrom (n - 1) rest τ := by
  obtain ⟨m, rfl⟩ := Nat.exists_eq_succ_of_ne_zero hn
  rw [depthFrom, depthFrom, cntS_cons_resume, cntR_cons_resume, if_pos h, Nat.add_right_comm m 1, Nat.add_sub_add_right]
  rfl

/-- One call of a balanced list: what is left is balanced from the new count, and from the
call's time on the depth can be counted from there. -/
theorem balancedFrom_apply {c : Clk} {e : Ev} {rest : List Ev} (hb : balancedFrom c.cnt (e :: rest) = true) :
    balancedFrom (c.apply e).cnt rest = true ∧
    ∀ τ, e.time ≤ τ → depthFrom c.cnt (e :: rest) τ = depthFrom (c.apply e).cnt rest τ := by
  cases e with
  | suspend t => exact ⟨hb, fun τ hτ => depthFrom_cons_suspend c.cnt t rest hτ⟩
  | resume t =>
    simp only [balancedFrom, Bool.and_eq_true, decide_eq_true_eq] at hb
    simp only [Clk.apply, Clk.resume, if_neg hb.1]
    exact ⟨hb.2, fun τ hτ => depthFrom_cons_resume c.cnt t rest hτ hb.1⟩

/-- A call that brings the count (back) to 0 sets `unsuspensionStart` to its time. -/
theorem us_apply_of_cnt_zero {c : Clk} {e : Ev} {rest : List Ev} (hb : balancedFrom c.cnt (e :: rest) = true)
    (h0 : (c.apply e).cnt = 0) : (c.apply e).us = e.time := by
  cases e with
  | suspend t => cases h0
  | resume t =>
    simp only [balancedFrom, Bool.and_eq_true, decide_eq_true_eq] at hb
    simp only [Clk.apply, Clk.resume, if_neg hb.1] at h0 ⊢
    exact if_pos h0

/-- The heart of `nesting`: running the counter model over a sorted, balanced
list of calls adds exactly the number of unit intervals that no suspension covers. -/
theorem runTo_total : ∀ (rest : List Ev) (c : Clk) (T t : Nat), c.us ≤ T → T ≤ t →
    sortedFrom T rest = true → balancedFrom c.cnt rest = true →
    (runTo c rest t).totalNow t = c.totalNow T + countFree (depthFrom c.cnt rest) T (t - T) ∧
    (runTo c rest t).us ≤ t
  | [], c, T, t, h1, h2, _, _ => by
    refine ⟨?_, Nat.le_trans h1 h2⟩
    rw [countFree_const (f := depthFrom c.cnt []) (k := c.cnt) _ (fun τ _ _ => rfl)]
    exact totalNow_advance c h1 h2
  | e :: rest, c, T, t, h1, h2, hs, hb => by
    have hs' := hs
    simp only [sortedFrom, Bool.and_eq_true, decide_eq_true_eq] at hs'
    have hearly : ∀ τ, τ < e.time → depthFrom c.cnt (e :: rest) τ = c.cnt := fun τ hτ =>
      depthFrom_early hτ _ (List.forall_mem_cons.2 ⟨Nat.le_refl _, sortedFrom_le rest hs'.2⟩)
    by_cases he : e.time ≤ t
    · -- the call happens before `t`
      have hb' := balancedFrom_apply hb
      have ih := runTo_total rest (c.apply e) e.time t (us_apply c e (Nat.le_trans h1 hs'.1)) he hs'.2 hb'.1
      rw [runTo, if_pos he]
      refine ⟨?_, ih.2⟩
      rw [ih.1, totalNow_apply, totalNow_advance c h1 hs'.1, countFree_split (depthFrom c.cnt (e :: rest)) hs'.1 he,
        countFree_const (k := c.cnt) (e.time - T) (fun τ _ h4 => hearly τ (Nat.lt_of_lt_of_eq h4 (Nat.add_sub_cancel' hs'.1))),
        countFree_congr (t - e.time) (fun τ h3 _ => hb'.2 τ h3)]
      exact Nat.add_assoc _ _ _
    · -- the first remaining call is after `t`: nothing more happens up to `t`
      rw [runTo, if_neg he]
      refine ⟨?_, Nat.le_trans h1 h2⟩
      rw [countFree_const (k := c.cnt) _ (fun τ _ h4 =>
        hearly τ (Nat.lt_trans (Nat.lt_of_lt_of_eq h4 (Nat.add_sub_cancel' h2)) (Nat.lt_of_not_le he)))]
      exact totalNow_advance c h1 h2

/-- `getTotalUnsuspendedNow()` at instant `t` equals the measure of `[0,t)` minus
the union of the suspension intervals. -/
theorem clockAt_total {tl : List Ev} (hs : Sorted tl) (hb : Balanced tl) (t : Nat) :
    (clockAt tl t).totalNow t = unsuspTo tl t :=
  (runTo_total tl Clk.init 0 t (Nat.le_refl 0) (Nat.zero_le t) hs hb).1.trans (Nat.zero_add _)

theorem clockAt_totalWithTime {tl : List Ev} (hs : Sorted tl) (hb : Balanced tl) (t : Nat) :
    (clockAt tl t).totalWithTime t = unsuspTo tl t := by
  rw [totalWithTime_eq, clockAt_total hs hb]

end BbRe.Lemmas.SusClock
