import BbRe.Model.ISC
import BbRe.Lemmas.ISCRange
/-!
Helper lemmas for C07 (b): inside the scheduler's envelope (the largest size class does not
change between `Select` and `Succeeded`, `historySize ≥ 1`) no terminal call panics.
-/
namespace BbRe.Lemmas.ISC
open BbRe.ISC

theorem getClass_setClass_same (m : ClassMap) (sc : Nat) (v : PerClass) : getClass (setClass m sc v) sc = some v := by
  induction m with
  | nil => simp [setClass, getClass]
  | cons e m ih =>
    obtain ⟨k, w⟩ := e
    unfold setClass
    split
    · rename_i h; simp [getClass, h]
    · rename_i h; simp [getClass, h, ih]

theorem insertSorted_length (x : Int) (l : List Int) : (insertSorted x l).length = l.length + 1 := by
  induction l with
  | nil => simp [insertSorted]
  | cons y ys ih => unfold insertSorted; split <;> simp [ih]

theorem sortInts_length (l : List Int) : (sortInts l).length = l.length := by
  induction l with
  | nil => simp [sortInts]
  | cons x xs ih => simp [sortInts, insertSorted_length, ih]

theorem median_isSome (l : List Int) (h : 0 < l.length) : (median l).isSome = true := by
  unfold median
  split
  · omega
  · simp only; split <;> simp

theorem successTimes_append_succ (l : List Outcome) (d : Int) :
    0 < (successTimes (l ++ [.succeeded d])).length := by
  induction l with
  | nil => simp [successTimes]
  | cons o os ih =>
    -- a success in front makes the list non-empty; any other outcome is skipped
    cases o with
    | succeeded d' => simp [successTimes]
    | failed => exact ih
    | timedOut d' => exact ih
    | unset => exact ih

/-- After `addPreviousExecution(sc, Succeeded d)` with `historySize ≥ 1` the size class has a median. -/
theorem medianOf_addExec_succ (hist : Nat) (hh : 1 ≤ hist) (m : ClassMap) (sc : Nat) (d : Int) :
    ∃ pc, getClass (addExec hist m sc (.succeeded d)) sc = some pc ∧ (medianOf pc.execs).isSome = true := by
  unfold addExec
  simp only
  refine ⟨_, getClass_setClass_same _ _ _, ?_⟩
  simp only
  unfold medianOf
  apply median_isSome
  rw [sortInts_length]
  split
  · rename_i hlen
    simp only [List.length_append, List.length_singleton] at hlen ⊢
    -- a non-empty suffix of `l ++ [x]` still ends in `x`
    rw [List.drop_append_of_le_length (by omega)]
    exact successTimes_append_succ _ d
  · exact successTimes_append_succ _ d

/-- The only panic of a terminal call: `largestBackgroundLearner.Succeeded` finding no median
for the largest size class of the list it was given. -/
theorem step_isSome (env : Env) (l : Learner) (stats : Stats) (ev : Ev) (hh : 1 ≤ env.historySize)
    (hbg : ∀ L to s, l = .largestBg L to s →
      (∃ c, env.calculator = .pageRank c) ∧ ∀ d cs, ev = .succeeded d cs → cs.getLast? = some L) :
    (l.step env stats ev).isSome = true := by
  cases l <;> cases ev
  case largestBg.succeeded L to s d cs =>
    obtain ⟨⟨c, hc⟩, hlast⟩ := hbg L to s rfl
    obtain ⟨pc, hpc, hmed⟩ := medianOf_addExec_succ env.historySize hh stats.classes L d
    obtain ⟨med, hmed⟩ := Option.isSome_iff_exists.mp hmed
    have hld : cs.getLastD 0 = L := by rw [List.getLastD_eq_getLast?, hlast d cs rfl]; rfl
    simp only [Learner.step, Learner.succeeded, hc, Calc.backgroundTimeout, backgroundTimeout, addTo,
      hld, hpc, hmed]
    split <;> rfl
  all_goals rfl

/-- Invariant: no panic so far, and an outstanding `largestBackgroundLearner` belongs to the
PageRank calculator and to the largest size class of the list given to `Select`. -/
def Calm (env : Env) (classes : List Nat) (t : Trace) : Prop :=
  t.panicked = false ∧
  ∀ L to s, t.cur = some (.largestBg L to s) → (∃ c, env.calculator = .pageRank c) ∧ classes.getLast? = some L

theorem runPath_calm (env : Env) (classes : List Nat) (interfere : Nat → Stats → Stats) (hh : 1 ≤ env.historySize)
    (evs : List Ev) (hev : ∀ d cs, Ev.succeeded d cs ∈ evs → cs.getLast? = classes.getLast?)
    (t : Trace) (stats : Stats) (h : Calm env classes t) :
    Calm env classes (runPath env interfere t stats evs).1 := by
  refine runPath_invariant env interfere evs (fun t _ => Calm env classes t) ?_ ?_ t stats h
  · intro t stats l ev hmem h hc hs
    have := step_isSome env l (interfere t.calls stats) ev hh fun L to s hl =>
      have := h.2 L to s (hl ▸ hc)
      ⟨this.1, fun d cs hevq => by rw [hev d cs (hevq ▸ hmem), this.2]⟩
    rw [hs] at this
    cases this
  · intro t stats l ev o _ _ _ hs
    refine ⟨rfl, fun L to s hcur => ?_⟩
    -- no terminal call yields a `largestBackgroundLearner`; that learner only comes from `Select`
    rcases step_next hs hcur with ⟨_, _, _, _, _, _, _, _, _, h'⟩ | ⟨_, _, _, _, _, _, _, _, _, h'⟩ |
      ⟨_, _, _, _, _, _, h'⟩ <;> cases h'

end BbRe.Lemmas.ISC
