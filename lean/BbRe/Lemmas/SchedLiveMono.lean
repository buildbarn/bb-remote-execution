import BbRe.Lemmas.SchedLiveSpec2
/-!
Monotonicity of tasks along every segment: identifiers are never reused, the
generation counter (`stageChangeWakeup` closures) only grows and grows strictly
whenever the worker or the response of a task changes, a stored response never
changes, a task never leaves its platform queue, and the stage / size class only
"drops" when `allow` (the retry branch of `complete`) holds.
-/
namespace BbRe.Lemmas.SchedLive
open BbRe.Sched

/-- One task before / after. -/
structure TaskLe (allow : Prop) (t t' : Task) : Prop where
  id : t'.id = t.id
  gen : t.gen ≤ t'.gen
  pq : t'.scq.pq = t.scq.pq
  digest : t'.digest = t.digest
  dkey : t'.dkey = t.dkey
  resp : ∀ r, t.response = some r → t'.response = some r
  bump : (t'.worker ≠ t.worker ∨ t'.response ≠ t.response) → t.gen < t'.gen
  drop : (t'.stage < t.stage ∨ t'.scq ≠ t.scq) → allow
  bg : t'.background = t.background

theorem TaskLe.refl (allow : Prop) (t : Task) : TaskLe allow t t :=
  ⟨rfl, Nat.le_refl _, rfl, rfl, rfl, fun _ h => h, by simp, by simp, rfl⟩

theorem TaskLe.trans {allow : Prop} {a b c : Task} (h1 : TaskLe allow a b) (h2 : TaskLe allow b c) :
    TaskLe allow a c := by
  refine ⟨h2.id.trans h1.id, Nat.le_trans h1.gen h2.gen, h2.pq.trans h1.pq, h2.digest.trans h1.digest,
    h2.dkey.trans h1.dkey, fun r h => h2.resp r (h1.resp r h), ?_, ?_, h2.bg.trans h1.bg⟩
  · intro h
    by_cases hb : b.worker ≠ a.worker ∨ b.response ≠ a.response
    · exact Nat.lt_of_lt_of_le (h1.bump hb) h2.gen
    · rw [not_or, Classical.not_not, Classical.not_not] at hb
      exact Nat.lt_of_le_of_lt h1.gen (h2.bump (by rw [hb.1, hb.2]; exact h))
  · intro h
    by_cases hb : b.stage < a.stage ∨ b.scq ≠ a.scq
    · exact h1.drop hb
    · rw [not_or, Nat.not_lt, Classical.not_not] at hb
      exact h2.drop (h.imp (fun h => Nat.lt_of_lt_of_le h hb.1) (by rw [hb.2]; exact fun h => h))

theorem TaskLe.mono {a b : Prop} (hab : a → b) {t t' : Task} (h : TaskLe a t t') : TaskLe b t t' :=
  ⟨h.id, h.gen, h.pq, h.digest, h.dkey, h.resp, h.bump, fun x => hab (h.drop x), h.bg⟩

/-- Key discipline of the task and operation maps. -/
structure KeysOK (s : State) : Prop where
  tnodup : (akeys s.tasks).Nodup
  onodup : (akeys s.ops).Nodup
  tid : ∀ k t, s.task? k = some t → t.id = k ∧ k < s.nextTask
  oname : ∀ k o, s.op? k = some o → o.name = k ∧ k < s.nextOp ∧ o.task < s.nextTask

/-- Tasks / operations that existed before (key below the old watermark) relate to their old selves. -/
structure TRel (allow : Prop) (s s' : State) : Prop where
  nt : s.nextTask ≤ s'.nextTask
  no : s.nextOp ≤ s'.nextOp
  tasks : ∀ k t', k < s.nextTask → s'.task? k = some t' → ∃ t, s.task? k = some t ∧ TaskLe allow t t'
  ops : ∀ k o', k < s.nextOp → s'.op? k = some o' → ∃ o, s.op? k = some o ∧ o'.task = o.task
  opm : ∀ k o o', s.op? k = some o → s'.op? k = some o' → o'.mayExistWithoutWaiters = true →
    o.mayExistWithoutWaiters = true
  fresh : ∀ k o', s.nextOp ≤ k → s'.op? k = some o' → o'.mayExistWithoutWaiters = true →
    ∀ t', s'.task? o'.task = some t' → t'.background = true

/-- The relation every helper satisfies: key discipline is preserved and old objects evolve monotonically. -/
def TStep (allow : Prop) (s s' : State) : Prop := KeysOK s → KeysOK s' ∧ TRel allow s s'

theorem TStep.refl (allow : Prop) (s : State) : TStep allow s s :=
  fun hk => ⟨hk, Nat.le_refl _, Nat.le_refl _, fun _ t' _ h => ⟨t', h, TaskLe.refl _ _⟩, fun _ o' _ h => ⟨o', h, rfl⟩,
    fun _ o o' e e' hm => by rw [e] at e'; injection e' with e'; subst e'; exact hm,
    fun k o' hk' e => by have := (hk.oname k o' e).2.1; omega⟩

theorem TStep.trans {allow : Prop} {a b c : State} (h1 : TStep allow a b) (h2 : TStep allow b c) : TStep allow a c := by
  intro hk
  obtain ⟨kb, r1⟩ := h1 hk
  obtain ⟨kc, r2⟩ := h2 kb
  refine ⟨kc, Nat.le_trans r1.nt r2.nt, Nat.le_trans r1.no r2.no, ?_, ?_, ?_, ?_⟩
  · intro k t' hk' ht'
    obtain ⟨tb, hb, l2⟩ := r2.tasks k t' (Nat.lt_of_lt_of_le hk' r1.nt) ht'
    obtain ⟨ta, ha, l1⟩ := r1.tasks k tb hk' hb
    exact ⟨ta, ha, l1.trans l2⟩
  · intro k o' hk' ho'
    obtain ⟨ob, hb, l2⟩ := r2.ops k o' (Nat.lt_of_lt_of_le hk' r1.no) ho'
    obtain ⟨oa, ha, l1⟩ := r1.ops k ob hk' hb
    exact ⟨oa, ha, l2.trans l1⟩
  · intro k o o' e e' hm
    have hlt := (hk.oname k o e).2.1
    obtain ⟨ob, hb, _⟩ := r2.ops k o' (Nat.lt_of_lt_of_le hlt r1.no) e'
    exact r1.opm k o ob e hb (r2.opm k ob o' hb e' hm)
  · intro k o' hk' e' hm t' ht'
    by_cases hkb : k < b.nextOp
    · obtain ⟨ob, hb, etask⟩ := r2.ops k o' hkb e'
      have hmb := r2.opm k ob o' hb e' hm
      have hlt := (kb.oname k ob hb).2.2
      rw [etask] at ht'
      obtain ⟨tb, htb, le⟩ := r2.tasks _ t' hlt ht'
      have := r1.fresh k ob hk' hb hmb tb htb
      rw [le.bg]; exact this
    · exact r2.fresh k o' (by omega) e' hm t' ht'

theorem TStep.mono {a b : Prop} (hab : a → b) {s s' : State} (h : TStep a s s') : TStep b s s' := by
  intro hk
  obtain ⟨k', r⟩ := h hk
  exact ⟨k', r.nt, r.no, fun k t' h1 h2 => by
    obtain ⟨t, e, l⟩ := r.tasks k t' h1 h2; exact ⟨t, e, l.mono hab⟩, r.ops, r.opm, r.fresh⟩

/-- General constructor: every task / operation of `s'` is an old one (related) or lies in the fresh key range. -/
theorem TStep.intro {allow : Prop} {s s' : State}
    (h : KeysOK s →
      (akeys s'.tasks).Nodup ∧ (akeys s'.ops).Nodup ∧ s.nextTask ≤ s'.nextTask ∧ s.nextOp ≤ s'.nextOp ∧
      (∀ k t', s'.task? k = some t' →
          (∃ t, s.task? k = some t ∧ TaskLe allow t t') ∨ (s.nextTask ≤ k ∧ k < s'.nextTask ∧ t'.id = k)) ∧
      (∀ k o', s'.op? k = some o' →
          (∃ o, s.op? k = some o ∧ o'.task = o.task ∧ o'.name = o.name ∧
            (o'.mayExistWithoutWaiters = true → o.mayExistWithoutWaiters = true)) ∨
          (s.nextOp ≤ k ∧ k < s'.nextOp ∧ o'.name = k ∧ o'.task < s'.nextTask ∧
            (o'.mayExistWithoutWaiters = true → ∀ t', s'.task? o'.task = some t' → t'.background = true)))) :
    TStep allow s s' := by
  intro hk
  obtain ⟨n1, n2, l1, l2, ht, ho⟩ := h hk
  refine ⟨⟨n1, n2, ?_, ?_⟩, l1, l2, ?_, ?_, ?_, ?_⟩
  · intro k t' e
    rcases ht k t' e with ⟨t, e0, l⟩ | ⟨_, h2, h3⟩
    · have := hk.tid k t e0; exact ⟨l.id.trans this.1, Nat.lt_of_lt_of_le this.2 l1⟩
    · exact ⟨h3, h2⟩
  · intro k o' e
    rcases ho k o' e with ⟨o, e0, h1, h2, _⟩ | ⟨_, h2, h3, h4, _⟩
    · have := hk.oname k o e0
      exact ⟨h2.trans this.1, Nat.lt_of_lt_of_le this.2.1 l2, h1 ▸ Nat.lt_of_lt_of_le this.2.2 l1⟩
    · exact ⟨h3, h2, h4⟩
  · intro k t' hk' e
    rcases ht k t' e with h | ⟨h, _⟩
    · exact h
    · exact absurd hk' (Nat.not_lt.2 h)
  · intro k o' hk' e
    rcases ho k o' e with ⟨o, e0, h1, _⟩ | ⟨h, _⟩
    · exact ⟨o, e0, h1⟩
    · exact absurd hk' (Nat.not_lt.2 h)
  · intro k o o' e e' hm
    rcases ho k o' e' with ⟨o0, e0, _, _, hmm⟩ | ⟨h, _⟩
    · rw [e] at e0; injection e0 with e0; subst e0; exact hmm hm
    · exact absurd (hk.oname k o e).2.1 (Nat.not_lt.2 h)
  · intro k o' hk' e' hm
    rcases ho k o' e' with ⟨o0, e0, _⟩ | ⟨_, _, _, _, hf⟩
    · exact absurd (hk.oname k o0 e0).2.1 (Nat.not_lt.2 hk')
    · exact hf hm

/-- an update that leaves tasks, operations and both watermarks alone -/
theorem TStep.of_same {allow : Prop} {s s' : State} (h1 : s'.tasks = s.tasks) (h2 : s'.ops = s.ops)
    (h3 : s'.nextTask = s.nextTask) (h4 : s'.nextOp = s.nextOp) : TStep allow s s' := by
  apply TStep.intro; intro hk
  refine ⟨h1 ▸ hk.tnodup, h2 ▸ hk.onodup, by omega, by omega, ?_, ?_⟩
  · intro k t' e; simp only [State.task?, h1] at e; exact .inl ⟨t', e, TaskLe.refl _ _⟩
  · intro k o' e; simp only [State.op?, h2] at e; exact .inl ⟨o', e, rfl, rfl, id⟩

/-- an update that replaces one existing task by a later version of itself -/
theorem TStep.of_task {allow : Prop} {s s' : State} {t0 t2 : Task} (h0 : s.task? t0.id = some t0)
    (hle : TaskLe allow t0 t2) (h1 : s'.tasks = aset t0.id t2 s.tasks) (h2 : s'.ops = s.ops)
    (h3 : s'.nextTask = s.nextTask) (h4 : s'.nextOp = s.nextOp) : TStep allow s s' := by
  apply TStep.intro; intro hk
  refine ⟨h1 ▸ nodup_akeys_aset _ _ _ hk.tnodup, h2 ▸ hk.onodup, by omega, by omega, ?_, ?_⟩
  · intro k t' e
    simp only [State.task?, h1, alookup_aset] at e
    split at e
    · rename_i hk0; subst hk0; injection e with e; subst e; exact .inl ⟨t0, h0, hle⟩
    · exact .inl ⟨t', e, TaskLe.refl _ _⟩
  · intro k o' e; simp only [State.op?, h2] at e; exact .inl ⟨o', e, rfl, rfl, id⟩

/-- an update of operations that keeps keys, names and task pointers -/
theorem TStep.of_ops {allow : Prop} {s s' : State} (h1 : s'.tasks = s.tasks)
    (h2 : (akeys s.ops).Nodup → (akeys s'.ops).Nodup)
    (h2' : ∀ k o', s'.op? k = some o' → ∃ o, s.op? k = some o ∧ o'.task = o.task ∧ o'.name = o.name ∧
      (o'.mayExistWithoutWaiters = true → o.mayExistWithoutWaiters = true))
    (h3 : s'.nextTask = s.nextTask) (h4 : s'.nextOp = s.nextOp) : TStep allow s s' := by
  apply TStep.intro; intro hk
  refine ⟨h1 ▸ hk.tnodup, h2 hk.onodup, by omega, by omega, ?_, ?_⟩
  · intro k t' e; simp only [State.task?, h1] at e; exact .inl ⟨t', e, TaskLe.refl _ _⟩
  · intro k o' e; exact .inl (h2' k o' e)

/-- lookup-function form of `of_task` (several writes to the same key) -/
theorem TStep.of_task' {allow : Prop} {s s' : State} {k0 : Nat} {t0 t2 : Task} (h0 : s.task? k0 = some t0)
    (hle : TaskLe allow t0 t2) (h1 : ∀ k, s'.task? k = if k0 = k then some t2 else s.task? k)
    (hn : (akeys s.tasks).Nodup → (akeys s'.tasks).Nodup) (h2 : s'.ops = s.ops)
    (h3 : s'.nextTask = s.nextTask) (h4 : s'.nextOp = s.nextOp) : TStep allow s s' := by
  apply TStep.intro; intro hk
  refine ⟨hn hk.tnodup, h2 ▸ hk.onodup, by omega, by omega, ?_, ?_⟩
  · intro k t' e
    rw [h1] at e
    split at e
    · rename_i hk0; subst hk0; injection e with e; subst e; exact .inl ⟨t0, h0, hle⟩
    · exact .inl ⟨t', e, TaskLe.refl _ _⟩
  · intro k o' e; simp only [State.op?, h2] at e; exact .inl ⟨o', e, rfl, rfl, id⟩

theorem stage_le_four (t : Task) : t.stage ≤ 4 := by unfold Task.stage; (repeat' split) <;> omega
theorem stage_ge_two (t : Task) : 2 ≤ t.stage := by unfold Task.stage; (repeat' split) <;> omega
theorem stage_of_resp {t : Task} {r : Resp} (h : t.response = some r) : t.stage = 4 := by simp [Task.stage, h]

@[simp] theorem detachT_id (t : Task) : (detachT t).id = t.id := by unfold detachT; cases t.worker.isNone <;> rfl
@[simp] theorem detachT_scq (t : Task) : (detachT t).scq = t.scq := by unfold detachT; cases t.worker.isNone <;> rfl
@[simp] theorem detachT_digest (t : Task) : (detachT t).digest = t.digest := by unfold detachT; cases t.worker.isNone <;> rfl
@[simp] theorem detachT_dkey (t : Task) : (detachT t).dkey = t.dkey := by unfold detachT; cases t.worker.isNone <;> rfl
@[simp] theorem detachT_response (t : Task) : (detachT t).response = t.response := by unfold detachT; cases t.worker.isNone <;> rfl
@[simp] theorem detachT_ops (t : Task) : (detachT t).ops = t.ops := by unfold detachT; cases t.worker.isNone <;> rfl
@[simp] theorem detachT_learner (t : Task) : (detachT t).learner = t.learner := by unfold detachT; cases t.worker.isNone <;> rfl
@[simp] theorem detachT_worker (t : Task) : (detachT t).worker = none := by unfold detachT; cases t.worker.isNone <;> rfl
@[simp] theorem detachT_background (t : Task) : (detachT t).background = t.background := by unfold detachT; cases t.worker.isNone <;> rfl
theorem detachT_gen_ge (t : Task) : t.gen ≤ (detachT t).gen := by
  unfold detachT; split <;> simp [bumpGen]
theorem detachT_gen_of_worker {t : Task} (h : t.worker.isSome = true) : (detachT t).gen = t.gen := by
  unfold detachT; cases hw : t.worker <;> simp_all
theorem detachT_gen_of_none {t : Task} (h : t.worker = none) : (detachT t).gen = t.gen + 1 := by
  unfold detachT; simp [h, bumpGen]

/-- the final completion of a task is a legal successor of it -/
theorem taskLe_final (allow : Prop) {t : Task} (r : Resp) (hr : t.response = none) (l : Option Nat) :
    TaskLe allow t (bumpGen { detachT t with learner := l, response := some r }) := by
  have := detachT_gen_ge t
  refine ⟨detachT_id t, Nat.le_succ_of_le this, congrArg ScqId.pq (detachT_scq t), detachT_digest t, detachT_dkey t,
    by simp [hr], fun _ => Nat.lt_succ_of_le this, ?_, detachT_background t⟩
  rintro (h | h)
  · have h4 : (bumpGen { detachT t with learner := l, response := some r }).stage = 4 := stage_of_resp rfl
    have := stage_le_four t; omega
  · simp [bumpGen] at h

/-! ### `finishOps` only clears `mayExistWithoutWaiters` flags -/

/-- same operation up to the `mayExistWithoutWaiters` flag (which may only be cleared) -/
structure OpSame (o o' : Op) : Prop where
  name : o'.name = o.name
  task : o'.task = o.task
  inv : o'.inv = o.inv
  prio : o'.prio = o.prio
  waiters : o'.waiters = o.waiters
  mew : o'.mayExistWithoutWaiters = true → o.mayExistWithoutWaiters = true

theorem OpSame.refl (o : Op) : OpSame o o := ⟨rfl, rfl, rfl, rfl, rfl, id⟩
theorem OpSame.trans {a b c : Op} (h1 : OpSame a b) (h2 : OpSame b c) : OpSame a c :=
  ⟨h2.name.trans h1.name, h2.task.trans h1.task, h2.inv.trans h1.inv, h2.prio.trans h1.prio,
   h2.waiters.trans h1.waiters, fun h => h1.mew (h2.mew h)⟩

/-- operations are the same up to cleared flags, with the same key list -/
structure OpsSame (s s' : State) : Prop where
  keys : akeys s'.ops = akeys s.ops
  ops : ∀ k, (s.op? k = none ∧ s'.op? k = none) ∨ ∃ o o', s.op? k = some o ∧ s'.op? k = some o' ∧ OpSame o o'

theorem OpsSame.refl (s : State) : OpsSame s s :=
  ⟨rfl, fun k => by cases h : s.op? k with
    | none => exact .inl ⟨rfl, rfl⟩
    | some o => exact .inr ⟨o, o, rfl, rfl, OpSame.refl o⟩⟩

theorem OpsSame.of_eq {s s' : State} (h : s'.ops = s.ops) : OpsSame s s' := by
  have := OpsSame.refl s
  refine ⟨by rw [h], fun k => ?_⟩
  have e : s'.op? k = s.op? k := by simp [State.op?, h]
  rw [e]; exact this.ops k

theorem OpsSame.trans {a b c : State} (h1 : OpsSame a b) (h2 : OpsSame b c) : OpsSame a c := by
  refine ⟨h2.keys.trans h1.keys, fun k => ?_⟩
  rcases h1.ops k with ⟨e1, e2⟩ | ⟨o, o', e1, e2, l1⟩
  · rcases h2.ops k with ⟨_, e4⟩ | ⟨o2, _, e3, _⟩
    · exact .inl ⟨e1, e4⟩
    · rw [e2] at e3; cases e3
  · rcases h2.ops k with ⟨e3, _⟩ | ⟨o2, o3, e3, e4, l2⟩
    · rw [e2] at e3; cases e3
    · rw [e2] at e3; injection e3 with e3; subst e3
      exact .inr ⟨o, o3, e1, e4, l1.trans l2⟩

theorem akeys_aset_of_mem {α} (k : Nat) (v v' : α) (l : List (Nat × α)) (h : alookup k l = some v') :
    akeys (aset k v l) = akeys l := by
  rw [akeys_aset, if_pos]
  apply Classical.byContradiction; intro hc
  rw [← alookup_none_iff] at hc; rw [hc] at h; cases h

theorem finishOp_opsSame (s : State) (o : Nat) (hn : ∀ k op, s.op? k = some op → op.name = k) :
    OpsSame s (finishOp s o) := by
  unfold finishOp
  split
  · rename_i op hop
    split
    · have hname := hn o op hop
      refine ⟨?_, fun k => ?_⟩
      · simp only [maybeStartCleanup_ops, setOp_ops, hname]
        exact akeys_aset_of_mem _ _ _ _ hop
      · simp only [State.op?, maybeStartCleanup_ops, setOp_ops, alookup_aset, hname]
        split
        · rename_i e; subst e
          exact .inr ⟨op, _, hop, rfl, ⟨hname.symm, rfl, rfl, rfl, rfl, by simp⟩⟩
        · exact (OpsSame.refl s).ops k
    · exact OpsSame.refl s
  · exact OpsSame.refl s

theorem opsSame_names {s s' : State} (h : OpsSame s s') (hn : ∀ k op, s.op? k = some op → op.name = k) :
    ∀ k op, s'.op? k = some op → op.name = k := by
  intro k op e
  rcases h.ops k with ⟨_, e2⟩ | ⟨o, o', e1, e2, l⟩
  · rw [e2] at e; cases e
  · rw [e2] at e; injection e with e; subst e; rw [l.name]; exact hn k o e1

theorem finishOps_opsSame (l : List Nat) (s : State) (hn : ∀ k op, s.op? k = some op → op.name = k) :
    OpsSame s (complete.finishOps s l) := by
  induction l generalizing s with
  | nil => exact OpsSame.refl s
  | cons o r ih =>
    rw [finishOps_cons]
    have h1 := finishOp_opsSame s o hn
    exact h1.trans (ih _ (opsSame_names h1 hn))

theorem TStep.of_opsSame {allow : Prop} {s s' : State} (h1 : s'.tasks = s.tasks) (h2 : OpsSame s s')
    (h3 : s'.nextTask = s.nextTask) (h4 : s'.nextOp = s.nextOp) : TStep allow s s' := by
  refine TStep.of_ops h1 (fun h => by rw [h2.keys]; exact h) ?_ h3 h4
  intro k o' e
  rcases h2.ops k with ⟨_, e2⟩ | ⟨o, o2, e1, e2, l⟩
  · rw [e2] at e; cases e
  · rw [e2] at e; injection e with e; subst e; exact ⟨o, e1, l.task, l.name, l.mew⟩

end BbRe.Lemmas.SchedLive
