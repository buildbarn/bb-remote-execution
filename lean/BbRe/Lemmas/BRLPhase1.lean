import BbRe.Lemmas.BRLSub
/-!
# Helper lemmas for C20: the first loop of `Set` (`phase1`)

Throughout, `phase1 n tr ls = (pre, rest, n', tr')`.  Every fact is proved through
`phase1_induct`, which names the four components and has a single case for all entries
that are passed over unchanged.
-/
namespace BbRe.Lemmas.BRL
open BbRe.BRL BbRe.Spec.ByteLocks

/-- A split-off trailing part `x` of an entry of `L`, w.r.t. the new lock `n`. -/
def TrOk (L : List Lock) (n x : Lock) : Prop :=
  x.owner = n.owner ∧ x.ty ≠ n.ty ∧ x.start = n.stop ∧ x.start < x.stop ∧
  ∃ e ∈ L, e.owner = n.owner ∧ e.ty = x.ty ∧ e.stop = x.stop ∧ e.start ≤ x.start

theorem TrOk.mono {L L' : List Lock} {n x : Lock} (h : TrOk L n x) (hs : ∀ e ∈ L, e ∈ L') :
    TrOk L' n x := by
  obtain ⟨h1, h2, h3, h4, e, he, h5⟩ := h
  exact ⟨h1, h2, h3, h4, e, hs e he, h5⟩

/-- The part of `s` behind the new lock `n`, when `n` ends inside `s`. -/
theorem TrOk.split {L : List Lock} {n s : Lock} (hs : s ∈ L) (ho : s.owner = n.owner)
    (ht : s.ty ≠ n.ty) (h1 : s.start ≤ n.stop) (h2 : n.stop < s.stop) :
    TrOk L n { s with start := n.stop } :=
  ⟨ho, ht, rfl, h2, s, hs, ho, rfl, rfl, h1⟩

/-- If a trailing part exists already, no entry of the owner that is still to be
scanned can be touched (Go: the `panic`s are unreachable). -/
def HTr (n : Lock) (tr : Option Lock) (ls : List Lock) : Prop :=
  tr.isSome → ∀ e ∈ ls, e.owner = n.owner → n.stop < e.start

theorem htr_none (n : Lock) (ls : List Lock) : HTr n none ls := nofun

theorem HTr.tail {n s : Lock} {tr : Option Lock} {ls : List Lock} (h : HTr n tr (s :: ls)) :
    HTr n tr ls :=
  fun ht e he => h ht e (List.mem_cons_of_mem _ he)

/-- An entry of the owner that the new lock reaches is only ever scanned while there is
no trailing part. -/
theorem HTr.eq_none {n s : Lock} {tr : Option Lock} {ls : List Lock} (h : HTr n tr (s :: ls))
    (ho : s.owner = n.owner) (hs : s.start ≤ n.stop) : tr = none := by
  cases tr with
  | none => rfl
  | some x => exact absurd (h rfl s List.mem_cons_self ho) (Nat.not_lt.2 hs)

/-- Behind an entry of the owner that reaches beyond the new lock, nothing of the owner
is touched. -/
theorem HTr.of_rel {n s : Lock} {ls : List Lock} (hs : ∀ e ∈ ls, Rel s e) (ho : s.owner = n.owner)
    (h : n.stop < s.stop) (tr : Option Lock) : HTr n tr ls :=
  fun _ e he heo => Nat.lt_of_lt_of_le h ((hs e he).2.1 (ho.trans heo.symm)).1

/-- The trailing part after cutting the owner's entry `s`, as `phase1` computes it. -/
theorem HTr.cut {n s : Lock} {tr : Option Lock} {ls : List Lock} (h : HTr n tr (s :: ls))
    (hs : ∀ e ∈ ls, Rel s e) (ho : s.owner = n.owner) :
    HTr n (if n.stop < s.stop then some { s with start := n.stop } else tr) ls := by
  split
  · exact .of_rel hs ho ‹_› _
  · exact h.tail

/-- Induction over the first loop.  An entry is passed over unchanged (`pass`) if it
belongs to another owner or ends before the new lock does any harm to it. -/
theorem phase1_induct {n : Lock}
    {P : Option Lock → List Lock → List Lock → List Lock → Lock → Option Lock → Prop}
    (nil : ∀ tr : Option Lock, P tr [] [] [] n tr)
    (stop : ∀ (tr : Option Lock) (s : Lock) (rest : List Lock), n.start ≤ s.start → P tr (s :: rest) [] (s :: rest) n tr)
    (grow : ∀ (tr : Option Lock) (s : Lock) (rest : List Lock), s.start < n.start → s.owner = n.owner → s.ty = n.ty →
      n.start ≤ s.stop → P tr (s :: rest) [] (s :: rest) { n with start := s.start } tr)
    (pass : ∀ (tr : Option Lock) (s : Lock) (rest pre rest' : List Lock) (n' : Lock)
      (tr' : Option Lock), s.start < n.start →
      (s.owner = n.owner → s.stop ≤ n.start ∧ (s.ty = n.ty → s.stop < n.start)) →
      P tr rest pre rest' n' tr' → P tr (s :: rest) (s :: pre) rest' n' tr')
    (cut : ∀ (tr : Option Lock) (s : Lock) (rest pre rest' : List Lock) (n' : Lock)
      (tr' : Option Lock), s.start < n.start → s.owner = n.owner → s.ty ≠ n.ty →
      n.start < s.stop →
      P (if n.stop < s.stop then some { s with start := n.stop } else tr) rest pre rest' n' tr' →
      P tr (s :: rest) ({ s with stop := n.start } :: pre) rest' n' tr')
    (tr : Option Lock) (ls : List Lock) :
    P tr ls (phase1 n tr ls).1 (phase1 n tr ls).2.1 (phase1 n tr ls).2.2.1
      (phase1 n tr ls).2.2.2 := by
  fun_induction phase1 n tr ls
  case case1 tr => exact nil tr
  case case2 tr s rest h => exact stop tr s rest h
  case case3 tr s rest h1 h2 h3 h4 => exact grow tr s rest (Nat.not_le.1 h1) h2 h3.symm h4
  case case4 tr s rest h1 h2 h3 h4 r ih =>
    exact pass tr s rest _ _ _ _ (Nat.not_le.1 h1)
      (fun _ => ⟨Nat.le_of_lt (Nat.not_le.1 h4), fun _ => Nat.not_le.1 h4⟩) ih
  case case5 tr s rest h1 h2 h3 h4 tr' r ih =>
    exact cut tr s rest _ _ _ _ (Nat.not_le.1 h1) h2 (fun h => h3 h.symm) h4 ih
  case case6 tr s rest h1 h2 h3 h4 r ih =>
    exact pass tr s rest _ _ _ _ (Nat.not_le.1 h1)
      (fun _ => ⟨Nat.not_lt.1 h4, fun h => absurd h.symm h3⟩) ih
  case case7 tr s rest h1 h2 r ih =>
    exact pass tr s rest _ _ _ _ (Nat.not_le.1 h1) (fun h => absurd h h2) ih

theorem phase1_n (n : Lock) (tr : Option Lock) (ls : List Lock) :
    (phase1 n tr ls).2.2.1.stop = n.stop ∧ (phase1 n tr ls).2.2.1.ty = n.ty ∧
    (phase1 n tr ls).2.2.1.owner = n.owner ∧ (phase1 n tr ls).2.2.1.start ≤ n.start :=
  phase1_induct
    (P := fun _ _ _ _ n' _ => n'.stop = n.stop ∧ n'.ty = n.ty ∧ n'.owner = n.owner ∧ n'.start ≤ n.start)
    (fun _ => ⟨rfl, rfl, rfl, Nat.le_refl _⟩) (fun _ _ _ _ => ⟨rfl, rfl, rfl, Nat.le_refl _⟩)
    (fun _ _ _ h _ _ _ => ⟨rfl, rfl, rfl, Nat.le_of_lt h⟩)
    (fun _ _ _ _ _ _ _ _ _ ih => ih) (fun _ _ _ _ _ _ _ _ _ _ _ ih => ih) tr ls

/-- Entries of other owners pass through `phase1` unchanged and in order. -/
theorem phase1_others (n : Lock) (tr : Option Lock) (ls : List Lock) :
    ((phase1 n tr ls).1 ++ (phase1 n tr ls).2.1).filter (fun e => e.owner ≠ n.owner) =
      ls.filter (fun e => e.owner ≠ n.owner) :=
  phase1_induct
    (P := fun _ ls pre rest _ _ =>
      (pre ++ rest).filter (fun e => e.owner ≠ n.owner) = ls.filter (fun e => e.owner ≠ n.owner))
    (fun _ => rfl) (fun _ _ _ _ => rfl) (fun _ _ _ _ _ _ _ => rfl)
    (fun _ s _ _ _ _ _ _ _ ih => by
      simp only [List.cons_append, List.filter_cons, ih])
    (fun _ s _ _ _ _ _ _ ho _ _ ih => by
      simp only [List.cons_append, List.filter_cons, ho, ne_eq, not_true_eq_false, decide_false,
        Bool.false_eq_true, if_false, ih]) tr ls

theorem phase1_length (n : Lock) (tr : Option Lock) (ls : List Lock) :
    ((phase1 n tr ls).1 ++ (phase1 n tr ls).2.1).length = ls.length :=
  phase1_induct (P := fun _ ls pre rest _ _ => (pre ++ rest).length = ls.length)
    (fun _ => rfl) (fun _ _ _ _ => rfl) (fun _ _ _ _ _ _ _ => rfl)
    (fun _ _ _ _ _ _ _ _ _ ih => congrArg (· + 1) ih)
    (fun _ _ _ _ _ _ _ _ _ _ _ ih => congrArg (· + 1) ih) tr ls

/-- The unscanned part is a suffix of the input. -/
theorem phase1_suffix (n : Lock) (tr : Option Lock) (ls : List Lock) :
    (phase1 n tr ls).2.1 <:+ ls :=
  phase1_induct (P := fun _ ls _ rest _ _ => rest <:+ ls)
    (fun _ => List.suffix_refl _) (fun _ _ _ _ => List.suffix_refl _)
    (fun _ _ _ _ _ _ _ => List.suffix_refl _)
    (fun _ _ _ _ _ _ _ _ _ ih => ih.trans (List.suffix_cons _ _))
    (fun _ _ _ _ _ _ _ _ _ _ _ ih => ih.trans (List.suffix_cons _ _)) tr ls

theorem phase1_sub (n : Lock) (tr : Option Lock) (ls : List Lock) :
    ∀ Z, Sub (phase1 n tr ls).2.1 Z → Sub ls ((phase1 n tr ls).1 ++ Z) :=
  phase1_induct (P := fun _ ls pre rest _ _ => ∀ Z, Sub rest Z → Sub ls (pre ++ Z))
    (fun _ _ h => h) (fun _ _ _ _ _ h => h) (fun _ _ _ _ _ _ _ _ h => h)
    (fun _ s _ _ _ _ _ _ _ ih Z h => .keep (Shrink.refl s) (ih Z h))
    (fun _ _ _ _ _ _ _ _ _ _ hlt ih Z h => .keep ⟨rfl, rfl, rfl, Nat.le_of_lt hlt⟩ (ih Z h)) tr ls

theorem phase1_pre_ok (n : Lock) (tr : Option Lock) (ls : List Lock)
    (hok : ∀ e ∈ ls, Ok e) : ∀ x ∈ (phase1 n tr ls).1, Ok x :=
  phase1_induct (P := fun _ ls pre _ _ _ => (∀ e ∈ ls, Ok e) → ∀ x ∈ pre, Ok x)
    (fun _ _ _ => nofun) (fun _ _ _ _ _ _ => nofun) (fun _ _ _ _ _ _ _ _ _ => nofun)
    (fun _ s _ _ _ _ _ _ _ ih hok => List.forall_mem_cons.2
      ⟨hok s List.mem_cons_self, ih (List.forall_mem_cons.1 hok).2⟩)
    (fun _ s _ _ _ _ _ hlt _ _ _ ih hok => List.forall_mem_cons.2
      ⟨⟨hlt, (hok s List.mem_cons_self).2⟩, ih (List.forall_mem_cons.1 hok).2⟩) tr ls hok

/-- The new lock either keeps its start or was grown to the start of a touching
entry of the same owner and type, which is then the first one not scanned. -/
theorem phase1_grow (n : Lock) (tr : Option Lock) (ls : List Lock) :
    (phase1 n tr ls).2.2.1.start = n.start ∨
    ∃ s ∈ (phase1 n tr ls).2.1, s.owner = n.owner ∧ s.ty = n.ty ∧
      s.start = (phase1 n tr ls).2.2.1.start ∧ s.start < n.start ∧ n.start ≤ s.stop :=
  phase1_induct
    (P := fun _ _ _ rest n' _ => n'.start = n.start ∨ ∃ s ∈ rest, s.owner = n.owner ∧ s.ty = n.ty ∧
      s.start = n'.start ∧ s.start < n.start ∧ n.start ≤ s.stop)
    (fun _ => .inl rfl) (fun _ _ _ _ => .inl rfl)
    (fun _ s _ h1 h2 h3 h4 => .inr ⟨s, List.mem_cons_self, h2, h3, rfl, h1, h4⟩)
    (fun _ _ _ _ _ _ _ _ _ ih => ih) (fun _ _ _ _ _ _ _ _ _ _ _ ih => ih) tr ls

/-- Everything not yet scanned starts at or after the (grown) new lock. -/
theorem phase1_rest_lb (n : Lock) (tr : Option Lock) (ls : List Lock)
    (hp : ls.Pairwise Rel) :
    ∀ e ∈ (phase1 n tr ls).2.1, (phase1 n tr ls).2.2.1.start ≤ e.start :=
  phase1_induct
    (P := fun _ ls _ rest n' _ => ls.Pairwise Rel → ∀ e ∈ rest, n'.start ≤ e.start)
    (fun _ _ => nofun)
    (fun _ _ _ h hp => List.forall_mem_cons.2
      ⟨h, fun _ he => Nat.le_trans h (List.rel_of_pairwise_cons hp he).1⟩)
    (fun _ _ _ _ _ _ _ hp => List.forall_mem_cons.2
      ⟨Nat.le_refl _, fun _ he => (List.rel_of_pairwise_cons hp he).1⟩)
    (fun _ _ _ _ _ _ _ _ _ ih hp => ih hp.of_cons)
    (fun _ _ _ _ _ _ _ _ _ _ _ ih hp => ih hp.of_cons) tr ls hp

/-- Entries before the insertion point lie before the new lock as requested. -/
theorem phase1_pre_local (n : Lock) (tr : Option Lock) (ls : List Lock) :
    ∀ x ∈ (phase1 n tr ls).1, x.start < n.start ∧
      (x.owner = n.owner → x.stop ≤ n.start ∧ (x.ty = n.ty → x.stop < n.start)) :=
  phase1_induct
    (P := fun _ _ pre _ _ _ => ∀ x ∈ pre, x.start < n.start ∧
      (x.owner = n.owner → x.stop ≤ n.start ∧ (x.ty = n.ty → x.stop < n.start)))
    (fun _ => nofun) (fun _ _ _ _ => nofun) (fun _ _ _ _ _ _ _ => nofun)
    (fun _ _ _ _ _ _ _ h1 h2 ih => List.forall_mem_cons.2 ⟨⟨h1, h2⟩, ih⟩)
    (fun _ _ _ _ _ _ _ h1 _ ht _ ih => List.forall_mem_cons.2
      ⟨⟨h1, fun _ => ⟨Nat.le_refl _, fun h => absurd h ht⟩⟩, ih⟩) tr ls

/-- ... and also before the grown new lock: if it was grown, then to the start of a later
entry of the same owner and type, to which they are related. -/
theorem phase1_pre_bounds (n : Lock) (tr : Option Lock) (ls : List Lock)
    (hp : ls.Pairwise Rel) :
    ∀ x ∈ (phase1 n tr ls).1, x.start < n.start ∧ x.start ≤ (phase1 n tr ls).2.2.1.start ∧
      (x.owner = n.owner → x.stop ≤ (phase1 n tr ls).2.2.1.start ∧
        (x.ty = n.ty → x.stop < (phase1 n tr ls).2.2.1.start)) := by
  intro x hx
  obtain ⟨h1, h2⟩ := phase1_pre_local n tr ls x hx
  rcases phase1_grow n tr ls with h | ⟨e, he, ho, ht, hs, -, -⟩
  · rw [h]
    exact ⟨h1, Nat.le_of_lt h1, h2⟩
  · have hb := (phase1_sub n tr ls _ (Sub.refl _)).pairwise hp
    have := (List.pairwise_append.1 hb).2.2 x hx e he
    rw [Rel, ho, ht, hs] at this
    exact ⟨h1, this.1, this.2.1⟩

theorem phase1_tr (L : List Lock) (n : Lock) (tr : Option Lock) (ls : List Lock)
    (hn : n.start < n.stop)
    (hin : ∀ x, tr = some x → TrOk L n x) (hsub : ∀ e ∈ ls, e ∈ L) :
    ∀ x, (phase1 n tr ls).2.2.2 = some x → TrOk L n x :=
  phase1_induct
    (P := fun tr ls _ _ _ tr' => (∀ x, tr = some x → TrOk L n x) → (∀ e ∈ ls, e ∈ L) →
      ∀ x, tr' = some x → TrOk L n x)
    (fun _ h _ => h) (fun _ _ _ _ h _ => h) (fun _ _ _ _ _ _ _ h _ => h)
    (fun _ _ _ _ _ _ _ _ _ ih hin hsub => ih hin (List.forall_mem_cons.1 hsub).2)
    (fun tr s _ _ _ _ _ h1 ho ht _ ih hin hsub => by
      refine ih (fun x hx => ?_) (List.forall_mem_cons.1 hsub).2
      split at hx
      · cases hx
        exact .split (hsub s List.mem_cons_self) ho ht (by omega) ‹_›
      · exact hin x hx) tr ls hin hsub

theorem phase1_tr_owner (n : Lock) (tr : Option Lock) (ls : List Lock)
    (hin : ∀ x, tr = some x → x.owner = n.owner) :
    ∀ x, (phase1 n tr ls).2.2.2 = some x → x.owner = n.owner :=
  phase1_induct
    (P := fun tr _ _ _ _ tr' => (∀ x, tr = some x → x.owner = n.owner) →
      ∀ x, tr' = some x → x.owner = n.owner)
    (fun _ h => h) (fun _ _ _ _ h => h) (fun _ _ _ _ _ _ _ h => h)
    (fun _ _ _ _ _ _ _ _ _ ih => ih)
    (fun tr s _ _ _ _ _ _ ho _ _ ih hin => ih fun x hx => by
      split at hx
      · cases hx; exact ho
      · exact hin x hx) tr ls hin

theorem phase1_htr (n : Lock) (tr : Option Lock) (ls : List Lock)
    (hp : ls.Pairwise Rel) (hin : HTr n tr ls) :
    HTr n (phase1 n tr ls).2.2.2 (phase1 n tr ls).2.1 :=
  phase1_induct
    (P := fun tr ls _ rest _ tr' => ls.Pairwise Rel → HTr n tr ls → HTr n tr' rest)
    (fun _ _ h => h) (fun _ _ _ _ _ h => h) (fun _ _ _ _ _ _ _ _ h => h)
    (fun _ _ _ _ _ _ _ _ _ ih hp hin => ih hp.of_cons hin.tail)
    (fun _ _ _ _ _ _ _ _ ho _ _ ih hp hin =>
      ih hp.of_cons (hin.cut (fun _ => List.rel_of_pairwise_cons hp) ho)) tr ls hp hin

/-! ## The owner's bytes

Three rearrangements of the head of a table that leave every byte of owner `n.owner` as it
was; `phase1_abs` is made of them. -/

/-- An entry may move behind `n` if the two share no byte. -/
theorem abs_pass {n s : Lock} (R : List Lock) (b : Nat)
    (h : s.owner = n.owner → s.stop ≤ n.start) :
    abs (s :: n :: R) n.owner b = abs (n :: s :: R) n.owner b := by
  simp only [abs_cons]
  -- `b` cannot be covered by both (`b < s.stop ≤ n.start ≤ b`), so the order of the two tests
  -- does not matter; the rest is the case analysis on the two `Covers`
  grind

/-- `n` may be grown over a touching entry of its type that is still there. -/
theorem abs_grow {n s : Lock} (R : List Lock) (b : Nat) (ho : s.owner = n.owner)
    (ht : s.ty = n.ty) (h1 : s.start < n.start) (h2 : n.start ≤ s.stop) :
    abs ({ n with start := s.start } :: s :: R) n.owner b = abs (n :: s :: R) n.owner b := by
  simp only [abs_cons]
  -- `[s.start, n.stop) = [s.start, n.start) ∪ [n.start, n.stop)` because `n.start ≤ s.stop`; on the
  -- first part `s` answers behind the grown lock as it did behind `n`, with the same type (`ht`)
  grind

/-- Under `n`, an entry is as good as its parts before and behind `n`. -/
theorem abs_cut {n s : Lock} (R : List Lock) (b : Nat) (ho : s.owner = n.owner)
    (h1 : s.start < n.start) (h2 : n.start < s.stop) (hn : n.start < n.stop) :
    abs ({ s with stop := n.start } :: n ::
        ((if n.stop < s.stop then some { s with start := n.stop } else none).toList ++ R))
        n.owner b =
      abs (n :: s :: R) n.owner b := by
  -- `s = [s.start, n.start) ∪ ([n.start, s.stop) ∩ n) ∪ [n.stop, s.stop)`: the middle part is hidden
  -- by `n` on both sides (`n` is non-empty: `hn`), the last part is the trailing entry, or empty
  split <;> simp only [abs_cons, Option.toList_some, Option.toList_none, List.cons_append,
    List.nil_append] <;> grind

theorem phase1_abs (n : Lock) (tr : Option Lock) (ls : List Lock)
    (hn : n.start < n.stop) (hp : ls.Pairwise Rel) (hin : HTr n tr ls) (b : Nat) :
    abs ((phase1 n tr ls).1 ++ (phase1 n tr ls).2.2.1 ::
          ((phase1 n tr ls).2.2.2.toList ++ (phase1 n tr ls).2.1)) n.owner b =
      abs (n :: (tr.toList ++ ls)) n.owner b :=
  phase1_induct
    (P := fun tr ls pre rest n' tr' => ls.Pairwise Rel → HTr n tr ls →
      abs (pre ++ n' :: (tr'.toList ++ rest)) n.owner b = abs (n :: (tr.toList ++ ls)) n.owner b)
    (fun _ _ _ => rfl) (fun _ _ _ _ _ _ => rfl)
    (fun tr s rest h1 ho ht h2 _ hin => by
      obtain rfl := hin.eq_none ho (by omega)
      exact abs_grow rest b ho ht h1 h2)
    (fun tr s rest pre rest' n' tr' h1 h2 ih hp hin => by
      rw [List.cons_append, abs_cons, ih hp.of_cons hin.tail, ← abs_cons]
      by_cases ho : s.owner = n.owner
      · obtain rfl := hin.eq_none ho (by omega)
        exact abs_pass rest b fun _ => (h2 ho).1
      · have hc : ¬ Covers s n.owner b := fun h => ho h.1
        exact (abs_skip hc [] _).trans (abs_skip hc (n :: tr.toList) rest).symm)
    (fun tr s rest pre rest' n' tr' h1 ho ht h2 ih hp hin => by
      obtain rfl := hin.eq_none ho (by omega)
      rw [List.cons_append, abs_cons, ih hp.of_cons ((htr_none n _).cut (fun _ => List.rel_of_pairwise_cons hp) ho),
        ← abs_cons]
      exact abs_cut rest b ho h1 h2 hn) tr ls hp hin

end BbRe.Lemmas.BRL
