import BbRe.Lemmas.SchedLiveSpec2
/-!
Routing (C05): `route` is the longest registered prefix with equal platform;
`State.sizes` lists exactly the size classes of the platform queue's size-class
queues; `popDue` picks an earliest due entry (C06).
-/
namespace BbRe.Lemmas.SchedLive
open BbRe.Sched

theorem isPrefixOf'_iff (a b : List Nat) : isPrefixOf' a b = true ↔ ∃ suffix, b = a ++ suffix := by
  induction a generalizing b with
  | nil => simp [isPrefixOf']
  | cons x r ih =>
    cases b with
    | nil => simp [isPrefixOf']
    | cons y r' =>
      simp only [isPrefixOf', Bool.and_eq_true, beq_iff_eq, ih, List.cons_append, List.cons.injEq]
      constructor
      · rintro ⟨rfl, sfx, rfl⟩; exact ⟨sfx, rfl, rfl⟩
      · rintro ⟨sfx, rfl, rfl⟩; exact ⟨rfl, sfx, rfl⟩

/-- the "best so far" fold of `route` -/
def better (best : Option PQ) (p : PQ) : Option PQ :=
  match best with
  | none => some p
  | some b => if p.comps.length > b.comps.length then some p else some b

/-- one step of the fold: the longer of the two, the old one on a tie -/
theorem better_some (best : Option PQ) (p : PQ) :
    ∃ x, better best p = some x ∧ (x = p ∨ best = some x) ∧ p.comps.length ≤ x.comps.length ∧
      ∀ b, best = some b → b.comps.length ≤ x.comps.length := by
  cases best with
  | none => exact ⟨p, rfl, .inl rfl, Nat.le_refl _, nofun⟩
  | some b =>
    by_cases h : p.comps.length > b.comps.length
    · exact ⟨p, if_pos h, .inl rfl, Nat.le_refl _, fun b' e => by cases e; omega⟩
    · exact ⟨b, if_neg h, .inr rfl, by omega, fun b' e => by cases e; exact Nat.le_refl _⟩

theorem foldl_better (l : List PQ) (best : Option PQ) :
    (l.foldl better best = none ↔ best = none ∧ l = []) ∧
    (∀ pq, l.foldl better best = some pq →
      (pq ∈ l ∨ best = some pq) ∧ (∀ p ∈ l, p.comps.length ≤ pq.comps.length) ∧
      (∀ b, best = some b → b.comps.length ≤ pq.comps.length)) := by
  induction l generalizing best with
  | nil =>
    simp only [List.foldl_nil, and_true, List.not_mem_nil, false_or, false_implies, implies_true, true_and]
    intro pq h; exact ⟨h, fun b e => by rw [h] at e; injection e with e; subst e; exact Nat.le_refl _⟩
  | cons a r ih =>
    obtain ⟨x, hx, hxm, hxa, hxb⟩ := better_some best a
    rw [List.foldl_cons, hx]
    obtain ⟨i1, i2⟩ := ih (some x)
    refine ⟨by rw [i1]; exact ⟨fun h => (nomatch h.1), fun h => (nomatch h.2)⟩, fun pq hpq => ?_⟩
    obtain ⟨j1, j2, j3⟩ := i2 pq hpq
    have hx' := j3 x rfl
    refine ⟨?_, ?_, fun b e => Nat.le_trans (hxb b e) hx'⟩
    · rcases j1 with j1 | j1
      · exact .inl (List.mem_cons_of_mem _ j1)
      · cases j1
        exact hxm.elim (fun e => .inl (e ▸ List.mem_cons_self ..)) .inr
    · intro p hp
      rcases List.mem_cons.1 hp with rfl | hp
      · omega
      · exact j2 p hp

theorem route_eq (s : State) (comps : List Nat) (platform : Nat) :
    route s comps platform =
      (s.pqs.filter (fun p => p.platform = platform ∧ isPrefixOf' p.comps comps)).foldl better none := rfl

/-- **Longest-prefix routing.** -/
theorem route_some {s : State} {comps : List Nat} {platform : Nat} {pq : PQ} (h : route s comps platform = some pq) :
    pq ∈ s.pqs ∧ pq.platform = platform ∧ isPrefixOf' pq.comps comps = true ∧
    ∀ p ∈ s.pqs, p.platform = platform → isPrefixOf' p.comps comps = true → p.comps.length ≤ pq.comps.length := by
  rw [route_eq] at h
  obtain ⟨j1, j2, _⟩ := (foldl_better _ none).2 pq h
  have hm : pq ∈ s.pqs.filter (fun p => p.platform = platform ∧ isPrefixOf' p.comps comps) := by
    rcases j1 with j1 | j1
    · exact j1
    · cases j1
  simp only [List.mem_filter, decide_eq_true_eq, Bool.decide_and, Bool.and_eq_true, Bool.decide_eq_true] at hm
  refine ⟨hm.1, hm.2.1, hm.2.2, ?_⟩
  intro p hp h1 h2
  exact j2 p (by simp [List.mem_filter, hp, h1, h2])

theorem route_none {s : State} {comps : List Nat} {platform : Nat} :
    route s comps platform = none ↔ ∀ p ∈ s.pqs, ¬ (p.platform = platform ∧ isPrefixOf' p.comps comps = true) := by
  rw [route_eq, (foldl_better _ none).1]
  simp only [true_and, List.filter_eq_nil_iff, decide_eq_true_eq, Bool.decide_and, Bool.and_eq_true,
    Bool.decide_eq_true]

theorem mem_insertSorted (x y : Nat) (l : List Nat) : y ∈ insertSorted x l ↔ y = x ∨ y ∈ l := by
  induction l with
  | nil => simp [insertSorted]
  | cons a r ih =>
    simp only [insertSorted]
    split
    · simp only [List.mem_cons, ih]; constructor
      · rintro (h | h | h) <;> simp [h]
      · rintro (h | h | h) <;> simp [h]
    · simp

theorem mem_foldl_insertSorted (l : List Scq) (acc : List Nat) (y : Nat) :
    y ∈ l.foldl (fun acc q => insertSorted q.id.sc acc) acc ↔ y ∈ acc ∨ ∃ q ∈ l, q.id.sc = y := by
  induction l generalizing acc with
  | nil => simp
  | cons a r ih =>
    simp only [List.foldl_cons, ih, mem_insertSorted, List.mem_cons]
    constructor
    · rintro ((h | h) | ⟨q, hq, e⟩)
      · exact .inr ⟨a, .inl rfl, h.symm⟩
      · exact .inl h
      · exact .inr ⟨q, .inr hq, e⟩
    · rintro (h | ⟨q, rfl | hq, e⟩)
      · exact .inl (.inr h)
      · exact .inl (.inl e.symm)
      · exact .inr ⟨q, hq, e⟩

/-- the size classes offered to the selector are exactly those of existing size-class queues -/
theorem mem_sizes {s : State} {pq sc : Nat} : sc ∈ s.sizes pq ↔ ∃ q ∈ s.scqs, q.id = ⟨pq, sc⟩ := by
  unfold State.sizes
  rw [mem_foldl_insertSorted]
  simp only [List.not_mem_nil, false_or, List.mem_filter, decide_eq_true_eq]
  constructor
  · rintro ⟨q, ⟨hq, h1⟩, h2⟩; exact ⟨q, hq, by cases hqi : q.id; simp_all⟩
  · rintro ⟨q, hq, e⟩; exact ⟨q, ⟨hq, by rw [e]⟩, by rw [e]⟩

theorem getElem?_mem_sizes {s : State} {pq i sc : Nat} (h : (s.sizes pq)[i]? = some sc) :
    ∃ q ∈ s.scqs, q.id = ⟨pq, sc⟩ := mem_sizes.1 (List.mem_of_getElem? h)

/-- the fold of `popDue` -/
def earlier (now : Nat) (best : Option CleanupEntry) (e : CleanupEntry) : Option CleanupEntry :=
  if e.deadline ≤ now then
    match best with
    | none => some e
    | some b => if e.deadline < b.deadline then some e else some b
  else best

/-- one step of the fold: an entry that is not due is skipped, of two due ones the earlier stays, the old one on a tie -/
theorem earlier_spec (now : Nat) (best : Option CleanupEntry) (e : CleanupEntry)
    (hb : ∀ b, best = some b → b.deadline ≤ now) :
    (earlier now best e = none ↔ best = none ∧ now < e.deadline) ∧
    ∀ x, earlier now best e = some x →
      (x = e ∨ best = some x) ∧ x.deadline ≤ now ∧ (e.deadline ≤ now → x.deadline ≤ e.deadline) ∧
      ∀ b, best = some b → x.deadline ≤ b.deadline := by
  unfold earlier
  by_cases ha : e.deadline ≤ now
  · rw [if_pos ha]
    cases best with
    | none => exact ⟨⟨nofun, fun h => by omega⟩, fun x h => by cases h; exact ⟨.inl rfl, ha, fun _ => Nat.le_refl _, nofun⟩⟩
    | some b =>
      refine ⟨⟨fun h => ?_, fun h => (nomatch h.1)⟩, fun x h => ?_⟩
      · replace h : (if e.deadline < b.deadline then some e else some b) = none := h
        split at h <;> cases h
      replace h : (if e.deadline < b.deadline then some e else some b) = some x := h
      by_cases hlt : e.deadline < b.deadline
      · rw [if_pos hlt] at h; cases h
        exact ⟨.inl rfl, ha, fun _ => Nat.le_refl _, fun b' e' => by cases e'; omega⟩
      · rw [if_neg hlt] at h; cases h
        exact ⟨.inr rfl, hb _ rfl, fun _ => by omega, fun b' e' => by cases e'; exact Nat.le_refl _⟩
  · rw [if_neg ha]
    exact ⟨⟨fun h => ⟨h, by omega⟩, fun h => h.1⟩,
      fun x h => ⟨.inr h, hb x h, fun h' => absurd h' ha, fun b e' => by rw [h] at e'; cases e'; exact Nat.le_refl _⟩⟩

theorem foldl_earlier (now : Nat) (l : List CleanupEntry) (best : Option CleanupEntry)
    (hb : ∀ b, best = some b → b.deadline ≤ now) :
    (l.foldl (earlier now) best = none ↔ best = none ∧ ∀ e ∈ l, now < e.deadline) ∧
    (∀ x, l.foldl (earlier now) best = some x →
      (x ∈ l ∨ best = some x) ∧ x.deadline ≤ now ∧ (∀ e ∈ l, e.deadline ≤ now → x.deadline ≤ e.deadline) ∧
      (∀ b, best = some b → x.deadline ≤ b.deadline)) := by
  induction l generalizing best with
  | nil =>
    simp only [List.foldl_nil, List.not_mem_nil, false_implies, implies_true, and_true, false_or, true_and]
    intro x hx; exact ⟨hx, hb x hx, fun b e => by rw [hx] at e; injection e with e; subst e; exact Nat.le_refl _⟩
  | cons a r ih =>
    obtain ⟨s1, s2⟩ := earlier_spec now best a hb
    obtain ⟨i1, i2⟩ := ih (earlier now best a) (fun b e => (s2 b e).2.1)
    rw [List.foldl_cons]
    refine ⟨by rw [i1, s1, List.forall_mem_cons, and_assoc], fun x hx => ?_⟩
    obtain ⟨j1, j2, j3, j4⟩ := i2 x hx
    -- the intermediate best entry, when there is one, lies between `x` and what it was chosen from
    have mid : ∀ y, earlier now best a = some y → x.deadline ≤ y.deadline := j4
    refine ⟨?_, j2, ?_, ?_⟩
    · rcases j1 with j1 | j1
      · exact .inl (List.mem_cons_of_mem _ j1)
      · exact (s2 x j1).1.elim (fun e => .inl (e ▸ List.mem_cons_self ..)) .inr
    · intro e he hd
      rcases List.mem_cons.1 he with rfl | he
      · cases h : earlier now best e with
        | none => have := (s1.1 h).2; omega
        | some y => exact Nat.le_trans (mid y h) ((s2 y h).2.2.1 hd)
      · exact j3 e he hd
    · intro b hbb
      cases h : earlier now best a with
      | none => rw [(s1.1 h).1] at hbb; cases hbb
      | some y => exact Nat.le_trans (mid y h) ((s2 y h).2.2.2 b hbb)

theorem popDue_eq (now : Nat) (cs : List CleanupEntry) :
    popDue now cs = match cs.foldl (earlier now) none with
      | none => none
      | some e => some (e, cs.filter (fun x => x ≠ e)) := rfl

/-- **`popDue` facts**: nothing is popped iff nothing is due; a popped entry is in the queue, due,
and no due entry has an earlier deadline; all its copies are removed. -/
theorem popDue_none {now : Nat} {cs : List CleanupEntry} : popDue now cs = none ↔ ∀ e ∈ cs, now < e.deadline := by
  rw [popDue_eq]
  have := (foldl_earlier now cs none (by simp)).1
  cases h : cs.foldl (earlier now) none with
  | none => simp only [true_iff]; exact (this.1 h).2
  | some e =>
    simp only [false_iff, reduceCtorEq]
    intro hall; have := this.2 ⟨rfl, hall⟩; rw [h] at this; cases this

theorem popDue_some {now : Nat} {cs rest : List CleanupEntry} {e : CleanupEntry} (h : popDue now cs = some (e, rest)) :
    e ∈ cs ∧ e.deadline ≤ now ∧ (∀ x ∈ cs, x.deadline ≤ now → e.deadline ≤ x.deadline) ∧
    rest = cs.filter (fun x => x ≠ e) := by
  rw [popDue_eq] at h
  cases hf : cs.foldl (earlier now) none with
  | none => rw [hf] at h; cases h
  | some x =>
    rw [hf] at h; simp only [Option.some.injEq, Prod.mk.injEq] at h
    obtain ⟨rfl, rfl⟩ := h
    obtain ⟨j1, j2, j3, _⟩ := (foldl_earlier now cs none (by simp)).2 x hf
    refine ⟨?_, j2, j3, rfl⟩
    rcases j1 with j1 | j1
    · exact j1
    · cases j1

end BbRe.Lemmas.SchedLive
