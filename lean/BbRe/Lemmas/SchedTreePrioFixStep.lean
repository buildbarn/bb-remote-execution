import BbRe.Lemmas.SchedTreePrioStep
/-!
`FixInv` in every reachable state: after the fix of the stale cache every non-root invocation's
`firstQueuedOperationPriority` is exact, and every logged pick saw such a tree.
-/
namespace BbRe.Lemmas.SchedTree
open BbRe.Sched BbRe.SchedTree BbRe.Lemmas.SchedInv

theorem fixInv_reachable {ts : TState} (h : TReachable ts) : FixInv ts :=
  kept_reachable fixCache (fun _ => ⟨rfl, NInv.nil _, fun _ hd => nomatch hd⟩) h

/-- the tree layer runs the code after the fix -/
theorem legacy_reachable {ts : TState} (h : TReachable ts) : ts.legacyPrio = false := (fixInv_reachable h).legacy

/-- in every reachable state every non-root invocation's cached priority is what `updateFirstOperationPriority`
would store now -/
theorem fix_reachable {ts : TState} (h : TReachable ts) : PrioFix ts.prioOf ts.nodes ∧ StructOK ts.nodes :=
  ⟨(fixInv_reachable h).n.fix, (fixInv_reachable h).n.structOK⟩

/-- every logged pick saw a tree with exact caches -/
theorem decfix_reachable {ts : TState} (h : TReachable ts) : ∀ d ∈ ts.decisions, DecFix d := (fixInv_reachable h).dec

/-- exact caches imply the weaker statement about invocations with own queued operations -/
theorem prioOK_of_fix {ts : TState} (h : PrioFix ts.prioOf ts.nodes) : PrioOK ts := by
  intro n hn hp hq
  rw [← h n hn hp]
  unfold updPrio
  have : (!n.qops.isEmpty) = true := by
    cases hx : n.qops with
    | nil => exact absurd hx hq
    | cons a l => rfl
  rw [if_pos this]

end BbRe.Lemmas.SchedTree
