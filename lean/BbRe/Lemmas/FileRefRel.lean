import BbRe.Model.FileRef
/-!
`Step s op s' o`: what one lock-held segment of `Model/FileRef.lean` does, branch by branch, in
terms of the primitives (`release`, `acquire`, `mutBody`, `openFrozenFor`, `digestStep`,
`frozenClose`), each with the test that selects it.  What holds of every enabled step is proved by
`cases` on the relation (`step_sound`); `step` itself is evaluated only where a theorem says that a
step IS enabled.  The relation is an upper bound: where no theorem depends on the output
(`read`, `seek`, `fread`, `setperm`, the result of `VirtualClose` and of the bare `Unlink`) it is left free,
and `fault` sets all three switches to anything.
-/
namespace BbRe.Lemmas.FileRef
open BbRe.FileRef

/-- `VirtualClose m` after the panic test: the write bit leaves `writableDescriptorsCount`
(waking the uploads when it was the last one), the bits leave the ghost counters. -/
def dropMask (s : State) (m : Mask) : State :=
  let s1 : State :=
    if m.w then { s with writers := s.writers - 1, pc := if s.writers - 1 = 0 then wakeUp s.pc else s.pc }
    else s
  { s1 with rd := s1.rd - b2n m.r, wr := s1.wr - b2n m.w }

/-- One constructor per leaf and per operation, state and output as separate indices, so that
`cases` on `Step s (.putDone t ok) s' (.digest (some d))` selects by the operation and by the
output constructor.  Trap: when the operation is given, `cases` leaves a constructor's premises
in the context in reverse order (`case uwakeDelay hfired hpc`). -/
inductive Step (s : State) : Op → State → Out → Prop
  | linkStale : Step s .link s (.st .stale)
  | linkLayered : s.layered = true → s.linkCount ≠ 0 →
      Step s .link { s with linkCount := s.linkCount + 1 } (.st .ok)
  | linkBare : ¬ s.layered = true → s.refs ≠ 0 →
      Step s .link { s with refs := s.refs + 1, linkCount := s.linkCount + 1 } (.st .ok)
  | unlinkPanic : s.linkCount = 0 → Step s .unlink s.panic .panic
  | unlinkLast : s.layered = true → s.linkCount ≠ 0 → s.linkCount - 1 = 0 →
      Step s .unlink (release { s with linkCount := 0 } 1) (.st .ok)
  | unlinkMore : s.layered = true → s.linkCount - 1 ≠ 0 →
      Step s .unlink { s with linkCount := s.linkCount - 1 } (.st .ok)
  | unlinkBare o : ¬ s.layered = true →
      Step s .unlink (release { s with linkCount := s.linkCount - 1 } 1) o
  | openStale m : s.refs = 0 → Step s (.open_ m) s (.st .stale)
  | openOk m : s.refs ≠ 0 → Step s (.open_ m) (acquire s m) (attrsOf (acquire s m))
  | closePanic m : m.w = true ∧ s.writers = 0 → Step s (.close m) s.panic .panic
  | closeOk m o : Step s (.close m) (release (dropMask s m) m.count) o
  | read off len o : Step s (.read off len) s o
  | readPanic off len : s.closed = true → Step s (.read off len) s.panic .panic
  | seek off o : Step s (.seek off) s o
  | seekPanic off : s.closed = true → Step s (.seek off) s.panic .panic
  | getattr : Step s .getattr s (attrsOf s)
  | setperm x o : Step s (.setperm x) { s with exec := x, changeID := s.changeID + 1 } o
  | chown : Step s .chown s (.st .perm)
  | persist : Step s .persist s (.digest s.cached)
  | mbegin t op : s.pc t = .idle → Step s (.mbegin t op) (mutBody s t op).1 (mutBody s t op).2
  | mwake t op : s.pc t = .mutWait op true → Step s (.mwake t) (mutBody s t op).1 (mutBody s t op).2
  | ubeginPark t u k fn : s.pc t = .idle → 0 < s.writers →
      Step s (.ubegin t u k fn) (s.setPc t (.upWait u k fn false)) .parked
  | ubeginOpen t u k fn : s.pc t = .idle → ¬ s.writers > 0 →
      Step s (.ubegin t u k fn) (openFrozenFor s t (frozenPcFor u fn)).1 (openFrozenFor s t (frozenPcFor u fn)).2
  | uwakeDelay t u k' fn w : s.pc t = .upWait u (some k') fn w → s.fired k' = true →
      Step s (.uwake t true) (openFrozenFor s t (frozenPcFor u fn)).1 (openFrozenFor s t (frozenPcFor u fn)).2
  | uwakePark t v u k fn : s.pc t = .upWait u k fn true → s.writers > 0 →
      Step s (.uwake t v) (s.setPc t (.upWait u k fn false)) .parked
  | uwakeOpen t v u k fn : s.pc t = .upWait u k fn true → ¬ s.writers > 0 →
      Step s (.uwake t v) (openFrozenFor s t (frozenPcFor u fn)).1 (openFrozenFor s t (frozenPcFor u fn)).2
  | udigestPut t fn d : s.pc t = .upFrozen fn → (digestStep s fn).2 = some d →
      Step s (.udigest t) ((digestStep s fn).1.setPc t (.upPut d)) (.putting d)
  | udigestFail t fn : s.pc t = .upFrozen fn → (digestStep s fn).2 = none →
      Step s (.udigest t) (frozenClose ((digestStep s fn).1.setPc t .idle)) (.st .internal)
  | putErr t ok d : s.pc t = .upPut d → Step s (.putDone t ok) (frozenClose (s.setPc t .idle)) (.st .putErr)
  | putOk t d : s.pc t = .upPut d →
      ¬ ((s.bytes.take d.2.length).length < d.2.length ∨ (s.rfault = true ∧ d.2.length > 0)) →
      Step s (.putDone t true)
        (frozenClose { (s.setPc t .idle) with cas := (d, s.bytes.take d.2.length) :: s.cas }) (.digest (some d))
  | fread t off len o : s.pc t = .held → Step s (.fread t off len) s o
  | freadPanic t off len : s.pc t = .held → s.closed = true → Step s (.fread t off len) s.panic .panic
  | fclose t : s.pc t = .held → Step s (.fclose t) (frozenClose (s.setPc t .idle)) (.st .ok)
  | statOpen t fn : s.pc t = .idle → s.writers = 0 →
      Step s (.statOpen t fn) (openFrozenFor s t (.statFrozen fn)).1 (openFrozenFor s t (.statFrozen fn)).2
  | statBusy t fn : s.writers ≠ 0 → Step s (.statOpen t fn) s (.digest none)
  | statFinish t fn : s.pc t = .statFrozen fn →
      Step s (.statFinish t) (frozenClose ((digestStep s fn).1.setPc t .idle))
        (match (digestStep s fn).2 with | some d => .digest (some d) | none => .st .internal)
  | fire k : Step s (.fire k) { s with fired := fun x => if x = k then true else s.fired x } (.st .ok)
  | fault k v wf tf rf : Step s (.fault k v) { s with wfault := wf, tfault := tf, rfault := rf } (.st .ok)

/-- Each leaf of `step` is a constructor of `Step`, and the tests on the way to it are the
constructor's premises as the model writes them. -/
theorem step_sound {s : State} {op : Op} {p : State × Out} (hs : step s op = some p) : Step s op p.1 p.2 := by
  revert hs
  fun_cases step s op <;> intro hs <;> cases hs <;> constructor <;> assumption

end BbRe.Lemmas.FileRef
