import BbRe.Lemmas.SchedInvAList
/-!
Basic facts for the liveness / timeout / routing proofs about `Model/Sched.lean`
(C02, C05, C06): the `Except String` monad of the model and its association lists.
-/
namespace BbRe.Lemmas.SchedLive
open BbRe.Sched

theorem bind_ok {α β} (x : M α) (f : α → M β) (b : β) :
    (x >>= f) = .ok b ↔ ∃ a, x = .ok a ∧ f a = .ok b := by
  cases x <;> simp [bind, Except.bind]

theorem bind_ok' {α β} (x : M α) (f : α → M β) (b : β) :
    (Except.bind x f) = .ok b ↔ ∃ a, x = .ok a ∧ f a = .ok b := by
  cases x <;> simp [Except.bind]

@[simp] theorem pure_ok {α} (a b : α) : ((pure a : M α) = .ok b) ↔ a = b := by
  simp [pure, Except.pure]

theorem ite_ok {α} {c : Prop} [Decidable c] {a b : M α} {x : α} (h : (if c then a else b) = .ok x) :
    (c ∧ a = .ok x) ∨ (¬ c ∧ b = .ok x) := by
  split at h
  · exact .inl ⟨‹c›, h⟩
  · exact .inr ⟨‹¬ c›, h⟩

/-! The association lists of `Model/Sched.lean`: the laws are those of `Lemmas/SchedInvAList.lean`
(`akeys` is `SchedInv.keys` under the name this tower states its results with). -/

def akeys {α} (l : List (Nat × α)) : List Nat := l.map (·.1)

theorem akeys_eq {α} (l : List (Nat × α)) : akeys l = SchedInv.keys l := rfl

@[simp] theorem alookup_aset {α} (k k' : Nat) (v : α) (l : List (Nat × α)) :
    alookup k (aset k' v l) = if k' = k then some v else alookup k l := SchedInv.alookup_aset k k' v l

theorem alookup_aerase_ne {α} (k k' : Nat) (l : List (Nat × α)) (h : k' ≠ k) :
    alookup k (aerase k' l) = alookup k l := SchedInv.alookup_aerase_ne k k' l h

theorem alookup_none_iff {α} (k : Nat) (l : List (Nat × α)) : alookup k l = none ↔ k ∉ akeys l :=
  SchedInv.alookup_eq_none_iff k l

theorem alookup_mem {α} {k : Nat} {v : α} {l : List (Nat × α)} (h : alookup k l = some v) : (k, v) ∈ l :=
  SchedInv.mem_of_alookup h

theorem alookup_of_mem {α} {l : List (Nat × α)} (hn : (akeys l).Nodup) {k : Nat} {v : α} (hm : (k, v) ∈ l) :
    alookup k l = some v := SchedInv.alookup_of_mem hn hm

theorem akeys_aset {α} (k : Nat) (v : α) (l : List (Nat × α)) :
    akeys (aset k v l) = if k ∈ akeys l then akeys l else akeys l ++ [k] := SchedInv.keys_aset k v l

theorem nodup_akeys_aset {α} (k : Nat) (v : α) (l : List (Nat × α)) (h : (akeys l).Nodup) :
    (akeys (aset k v l)).Nodup := SchedInv.nodup_aset k v l h

theorem akeys_aerase_sub {α} (k : Nat) (l : List (Nat × α)) : (akeys (aerase k l)).Sublist (akeys l) :=
  SchedInv.keys_aerase_sublist k l

theorem nodup_akeys_aerase {α} (k : Nat) (l : List (Nat × α)) (h : (akeys l).Nodup) :
    (akeys (aerase k l)).Nodup := SchedInv.nodup_aerase k l h

theorem alookup_aerase_self {α} (k : Nat) (l : List (Nat × α)) (h : (akeys l).Nodup) :
    alookup k (aerase k l) = none := SchedInv.alookup_aerase_self k l h

theorem alookup_aerase {α} (k k' : Nat) (l : List (Nat × α)) (h : (akeys l).Nodup) :
    alookup k (aerase k' l) = if k' = k then none else alookup k l := SchedInv.alookup_aerase k k' l h

/-- no hypothesis on the keys: the first binding of `k` in `aerase k' l` is a binding of `l` -/
theorem alookup_aerase_some {α} {k k' : Nat} {l : List (Nat × α)} {v : α}
    (h : alookup k (aerase k' l) = some v) : ∃ v', alookup k l = some v' := by
  rw [SchedInv.aerase_eq, SchedInv.alookup_eq] at h
  exact Option.isSome_iff_exists.1
    ((SchedInv.alookup_isSome_iff k l).2 (List.mem_map.2 ⟨_, AL.mem_del (AL.mem_of_get h), rfl⟩))

theorem length_aerase_le {α} (k : Nat) (l : List (Nat × α)) : (aerase k l).length ≤ l.length :=
  SchedInv.aerase_eq k l ▸ AL.length_del_le k l

theorem length_aerase_lt {α} (k : Nat) (l : List (Nat × α)) (v : α) (h : alookup k l = some v) :
    (aerase k l).length < l.length :=
  SchedInv.aerase_eq k l ▸ AL.length_del_lt (SchedInv.alookup_eq k l ▸ h)

theorem length_aset {α} (k : Nat) (v v' : α) (l : List (Nat × α)) (h : alookup k l = some v') :
    (aset k v l).length = l.length :=
  SchedInv.aset_eq k v l ▸ AL.length_put_of_get (SchedInv.alookup_eq k l ▸ h)

end BbRe.Lemmas.SchedLive
