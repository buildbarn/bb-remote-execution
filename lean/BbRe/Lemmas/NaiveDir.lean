import BbRe.Model.NaiveDir
import BbRe.Lemmas.InputRootFetch
/-!
The eager merge (`Model/NaiveDir.lean`), one directory level: if the walk of a directory
ends without an error of the walker and without a failed download, each of its three loops found
its list good (`GoodList`, given the entries made before it), the contents are one entry per entry
of the message and every call issued succeeded (`level_ok`).  That the three `GoodList`s amount to
`WellFormed` is in `NaiveDirLazy`.
-/
namespace BbRe.Lemmas.NaiveDir
open BbRe.InputRoot BbRe.NaiveDir BbRe.Lemmas.InputRoot

/-- A loop that ends clean has appended one entry per element, each under a valid, fresh name. -/
theorem loop_ok {α : Type} (step : α → Children → Bool → StepR) (nameOf : α → Name)
    (mk : α → Option Node) (P : α → Prop)
    (H : ∀ e ch bad ch', step e ch bad = .next ch' false →
      bad = false ∧ validName (nameOf e) = true ∧ hasName ch (nameOf e) = false ∧
      (∃ v, mk e = some v ∧ ch' = ch ++ [(nameOf e, v)]) ∧ P e) :
    ∀ (es : List α) (ch : Children) (bad : Bool),
      (loop step es ch bad).failed = false → (loop step es ch bad).err = none →
      bad = false ∧ GoodList nameOf mk es ch ∧ (loop step es ch bad).ch = ch ++ conv nameOf mk es ∧
      ∀ e ∈ es, P e := by
  intro es
  induction es with
  | nil =>
    intro ch bad hf _
    exact ⟨hf, ⟨by simp, by simp, by simp⟩, by simp [loop, conv], by simp⟩
  | cons e rest ih =>
    intro ch bad hf he
    simp only [loop] at hf he ⊢
    cases hs : step e ch bad with
    | stop c1 b1 err => simp [hs] at he
    | next ch1 b1 =>
      simp only [hs] at hf he ⊢
      obtain ⟨rfl, hgood, hch', hP⟩ := ih ch1 b1 hf he
      obtain ⟨hbad, hval, hfresh, ⟨v, hv, rfl⟩, hPe⟩ := H e ch bad ch1 hs
      refine ⟨hbad, (goodList_cons hv rest ch).2 ⟨hval, hfresh, hgood⟩, ?_,
        List.forall_mem_cons.2 ⟨hPe, hP⟩⟩
      rw [hch', conv_cons_some hv, List.append_assoc]
      rfl

/-- A guard of a loop body that lets the walk go on did not fire. -/
theorem next_of_ite {p : Prop} [Decidable p] {ch ch' : Children} {b b' : Bool} {err : NErr} {k : StepR}
    (h : (if p then .stop ch b err else k) = StepR.next ch' b') : ¬ p ∧ k = .next ch' b' := by
  split at h
  · cases h
  · exact ⟨‹_›, h⟩

theorem eq_true_of_not_not {b : Bool} (h : ¬ (!b) = true) : b = true := by
  cases b
  · exact absurd rfl h
  · rfl

/-- Every call made for a file entry succeeded: the file could be created, the blob was
read from the storage, `Chtimes` worked. -/
def FileCalls (c : CAS) (O : Oracle) (p : Path) (e : FileNode) : Prop :=
  ∃ d, parseDigest c.hashLen e.digest = some d ∧ O.fails .create (p ++ [e.name]) = false ∧
    O.cas.contains d = false ∧ (assoc c.blobs d).isSome = true ∧ O.fails .chtimes (p ++ [e.name]) = false

/-- `Mkdir` and `EnterDirectory` of a directory entry succeeded. -/
def DirCalls (O : Oracle) (p : Path) (e : DirNode) : Prop :=
  O.fails .mkdir (p ++ [e.name]) = false ∧ O.fails .enter (p ++ [e.name]) = false

/-- `Symlink` of a symlink entry succeeded. -/
def SymCalls (O : Oracle) (p : Path) (e : SymNode) : Prop := O.fails .symlink (p ++ [e.name]) = false

theorem some_of_ite {α : Type} {p : Prop} [Decidable p] {k : Option α} {x : α}
    (h : (if p then none else k) = some x) : ¬ p ∧ k = some x := by
  split at h
  · cases h
  · exact ⟨‹_›, h⟩

/-- A download that delivers: the name was free, every call succeeded, the file is there. -/
theorem getFile_some {c : CAS} {O : Oracle} {q : Path} {d : Dig} {exec : Bool} {name : Name}
    {ch ch' : Children} (h : getFile c O q d exec name ch = some ch') :
    hasName ch name = false ∧ O.fails .create q = false ∧ O.cas.contains d = false ∧
      (assoc c.blobs d).isSome = true ∧ O.fails .chtimes q = false ∧
      ch' = ch ++ [(name, .file d exec none)] := by
  unfold getFile at h
  obtain ⟨hn, h⟩ := some_of_ite h
  obtain ⟨hc, h⟩ := some_of_ite h
  cases hb : assoc c.blobs d with
  | none => rw [hb] at h; cases h
  | some blob =>
    simp only [hb] at h
    obtain ⟨ht, h⟩ := some_of_ite h
    cases h
    simp only [Bool.or_eq_true, not_or, Bool.not_eq_true] at hn hc ht
    exact ⟨hn.1, hn.2, hc, rfl, ht, rfl⟩

theorem fileStep_next (c : CAS) (O : Oracle) (p : Path) (e : FileNode) (ch : Children) (bad : Bool)
    (ch' : Children) (h : fileStep c O p e ch bad = .next ch' false) :
    bad = false ∧ validName e.name = true ∧ hasName ch e.name = false ∧
      (∃ v, mkFile c.hashLen e = some v ∧ ch' = ch ++ [(e.name, v)]) ∧ FileCalls c O p e := by
  unfold fileStep at h
  obtain ⟨hv, h⟩ := next_of_ite h
  cases hd : parseDigest c.hashLen e.digest with
  | none => rw [hd] at h; cases h
  | some d =>
    simp only [hd] at h
    obtain ⟨-, h⟩ := next_of_ite h
    cases hg : getFile c O (p ++ [e.name]) d e.exec e.name ch with
    | none => rw [hg] at h; cases h
    | some ch'' =>
      rw [hg] at h
      cases h
      obtain ⟨hn, g1, g2, g3, g4, rfl⟩ := getFile_some hg
      exact ⟨rfl, eq_true_of_not_not hv, hn, ⟨_, by simp only [mkFile, hd, Option.map_some], rfl⟩,
        d, hd, g1, g2, g3, g4⟩

/-- What a directory entry becomes: the merge of its digest into the fresh directory. -/
def mkDirN (c : CAS) (O : Oracle) (f : Nat) (p : Path) (e : DirNode) : Option Node :=
  (parseDigest c.hashLen e.digest).bind fun d =>
    let r := mergeDirIn c O f d (p ++ [e.name]) [] false
    if !r.failed && r.err.isNone then some (.dir r.ch) else none

theorem mkDirN_of_clean {c : CAS} {O : Oracle} {f : Nat} {p : Path} {e : DirNode} {d : Dig}
    {ch : Children} (hp : parseDigest c.hashLen e.digest = some d)
    (h : mergeDirIn c O f d (p ++ [e.name]) [] false = ⟨ch, false, none⟩) :
    mkDirN c O f p e = some (.dir ch) := by
  simp [mkDirN, hp, h]

/-- A directory entry that became something is a clean walk of its digest. -/
theorem clean_of_mkDirN {c : CAS} {O : Oracle} {f : Nat} {p : Path} {e : DirNode} {d : Dig}
    (hp : parseDigest c.hashLen e.digest = some d) (h : (mkDirN c O f p e).isSome = true) :
    ∃ ch, mergeDirIn c O f d (p ++ [e.name]) [] false = ⟨ch, false, none⟩ ∧
      mkDirN c O f p e = some (.dir ch) := by
  unfold mkDirN at h ⊢
  simp only [hp, Option.bind_some] at h ⊢
  generalize mergeDirIn c O f d (p ++ [e.name]) [] false = r at h ⊢
  obtain ⟨ch, failed, err⟩ := r
  cases failed
  · cases err
    · exact ⟨ch, rfl, rfl⟩
    · cases h
  · cases h

theorem dirStep_next (c : CAS) (O : Oracle) (f : Nat) (p : Path) (e : DirNode) (ch : Children)
    (bad : Bool) (ch' : Children)
    (h : dirStep c O (fun d' q b => mergeDirIn c O f d' q [] b) p e ch bad = .next ch' false) :
    bad = false ∧ validName e.name = true ∧ hasName ch e.name = false ∧
      (∃ v, mkDirN c O f p e = some v ∧ ch' = ch ++ [(e.name, v)]) ∧ DirCalls O p e := by
  unfold dirStep at h
  obtain ⟨hv, h⟩ := next_of_ite h
  cases hd : parseDigest c.hashLen e.digest with
  | none => rw [hd] at h; cases h
  | some d =>
    simp only [hd] at h
    cases hl : lookup ch e.name with
    | some v => rw [hl] at h; cases h
    | none =>
      simp only [hl] at h
      obtain ⟨hmk, h⟩ := next_of_ite h
      obtain ⟨hen, h⟩ := next_of_ite h
      cases herr : (mergeDirIn c O f d (p ++ [e.name]) [] bad).err with
      | some err => rw [herr] at h; cases h
      | none =>
        simp only [herr, StepR.next.injEq, Bool.or_eq_false_iff] at h
        obtain ⟨rfl, rfl, hf⟩ := h
        simp only [Bool.not_eq_true] at hmk hen
        exact ⟨rfl, eq_true_of_not_not hv, hasName_eq_false.2 hl,
          ⟨_, by simp [mkDirN, hd, hf, herr], rfl⟩, hmk, hen⟩

theorem symStep_next (O : Oracle) (p : Path) (e : SymNode) (ch : Children) (bad : Bool)
    (ch' : Children) (h : symStep O p e ch bad = .next ch' false) :
    bad = false ∧ validName e.name = true ∧ hasName ch e.name = false ∧
      (∃ v, mkSym e = some v ∧ ch' = ch ++ [(e.name, v)]) ∧ SymCalls O p e := by
  unfold symStep at h
  obtain ⟨hv, h⟩ := next_of_ite h
  obtain ⟨ht, h⟩ := next_of_ite h
  cases hl : lookup ch e.name with
  | some v => rw [hl] at h; cases h
  | none =>
    simp only [hl] at h
    obtain ⟨hsy, h⟩ := next_of_ite h
    cases h
    simp only [Bool.not_eq_true] at hsy
    exact ⟨rfl, eq_true_of_not_not hv, hasName_eq_false.2 hl,
      ⟨_, by simp only [mkSym, eq_true_of_not_not ht, if_true], rfl⟩, hsy⟩

/-- The contents an eager merge leaves in a directory when it ends clean. -/
def naiveChildren (c : CAS) (O : Oracle) (f : Nat) (p : Path) (m : DirMsg) : Children :=
  conv FileNode.name (mkFile c.hashLen) m.files ++ conv DirNode.name (mkDirN c O f p) m.dirs ++
    conv SymNode.name mkSym m.syms

theorem level_ok (c : CAS) (O : Oracle) (f : Nat) (d : Dig) (p : Path) (ch : Children)
    (h : mergeDirIn c O (f + 1) d p [] false = ⟨ch, false, none⟩) :
    ∃ m, getDirectory c O.cas d = .ok m ∧
      GoodList FileNode.name (mkFile c.hashLen) m.files [] ∧
      GoodList DirNode.name (mkDirN c O f p) m.dirs (conv FileNode.name (mkFile c.hashLen) m.files) ∧
      GoodList SymNode.name mkSym m.syms
        (conv FileNode.name (mkFile c.hashLen) m.files ++ conv DirNode.name (mkDirN c O f p) m.dirs) ∧
      ch = naiveChildren c O f p m ∧
      (∀ e ∈ m.files, FileCalls c O p e) ∧ (∀ e ∈ m.dirs, DirCalls O p e) ∧
      (∀ e ∈ m.syms, SymCalls O p e) := by
  simp only [mergeDirIn] at h
  cases hg : getDirectory c O.cas d with
  | error e => simp [hg] at h
  | ok m =>
    refine ⟨m, rfl, ?_⟩
    simp only [hg] at h
    generalize hr1 : loop (fileStep c O p) m.files [] false = r1 at h
    cases h1 : r1.err with
    | some e1 => simp only [h1] at h; rw [h] at h1; cases h1
    | none =>
      simp only [h1] at h
      generalize hr2 : loop (dirStep c O (fun d' q b => mergeDirIn c O f d' q [] b) p) m.dirs r1.ch
        r1.failed = r2 at h
      cases h2 : r2.err with
      | some e2 => simp only [h2] at h; rw [h] at h2; cases h2
      | none =>
        simp only [h2] at h
        obtain ⟨hf2, hg3, hch, hP3⟩ := loop_ok (symStep O p) SymNode.name mkSym (SymCalls O p)
          (symStep_next O p) m.syms r2.ch r2.failed (by rw [h]) (by rw [h])
        obtain ⟨hf1, hg2, hch2, hP2⟩ := loop_ok _ DirNode.name (mkDirN c O f p) (DirCalls O p)
          (dirStep_next c O f p) m.dirs r1.ch r1.failed (by rw [hr2]; exact hf2) (by rw [hr2]; exact h2)
        obtain ⟨-, hg1, hch1, hP1⟩ := loop_ok _ FileNode.name (mkFile c.hashLen) (FileCalls c O p)
          (fileStep_next c O p) m.files [] false (by rw [hr1]; exact hf1) (by rw [hr1]; exact h1)
        rw [hr1, List.nil_append] at hch1
        rw [hr2, hch1] at hch2
        rw [h, hch2] at hch
        rw [hch1] at hg2
        rw [hch2] at hg3
        exact ⟨hg1, hg2, hg3, hch, hP1, hP2, hP3⟩

end BbRe.Lemmas.NaiveDir
