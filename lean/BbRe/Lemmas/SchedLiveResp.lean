import BbRe.Lemmas.SchedLiveMono2
/-!
Provenance of stored responses (C02 `faithful`): a response that appears in a
task during a segment was passed to `complete` in that segment; the scheduler's
own completions carry one of the scheduler causes, and a worker-supplied
response is stored only by the `Synchronize(Completed)` path whose digest matched
the worker's current task.
-/
namespace BbRe.Lemmas.SchedLive
open BbRe.Sched

/-- every response present after was present before under the same key, or satisfies `P key response` -/
def RespFrom (P : Nat → Resp → Prop) (s s' : State) : Prop :=
  ∀ k t' r, s'.task? k = some t' → t'.response = some r →
    (∃ t, s.task? k = some t ∧ t.response = some r) ∨ P k r

/-- `RespFrom` for key-disciplined states, carrying the key discipline along -/
def RT (P : Nat → Resp → Prop) (s s' : State) : Prop := KeysOK s → KeysOK s' ∧ RespFrom P s s'

theorem RT.refl (P : Nat → Resp → Prop) (s : State) : RT P s s :=
  fun hk => ⟨hk, fun _ t' _ h1 h2 => .inl ⟨t', h1, h2⟩⟩

theorem RT.trans {P : Nat → Resp → Prop} {a b c : State} (h1 : RT P a b) (h2 : RT P b c) : RT P a c := by
  intro hk
  obtain ⟨kb, r1⟩ := h1 hk
  obtain ⟨kc, r2⟩ := h2 kb
  refine ⟨kc, ?_⟩
  intro k t' r e1 e2
  rcases r2 k t' r e1 e2 with ⟨t, e3, e4⟩ | h
  · exact r1 k t r e3 e4
  · exact .inr h

theorem RT.mono {P Q : Nat → Resp → Prop} (hpq : ∀ k r, P k r → Q k r) {s s' : State} (h : RT P s s') : RT Q s s' := by
  intro hk
  obtain ⟨k', r1⟩ := h hk
  refine ⟨k', ?_⟩
  intro k t' r e1 e2
  rcases r1 k t' r e1 e2 with h | h
  · exact .inl h
  · exact .inr (hpq _ _ h)

/-- `RT` from a `TStep` and a `RespFrom` argument that may use the key discipline -/
theorem RT.of {P : Nat → Resp → Prop} {allow : Prop} {s s' : State} (ht : TStep allow s s')
    (hr : KeysOK s → RespFrom P s s') : RT P s s' := fun hk => ⟨(ht hk).1, hr hk⟩

theorem respFrom_of_eq {P : Nat → Resp → Prop} {s s' : State} (h : s'.tasks = s.tasks) : RespFrom P s s' := by
  intro k t' r e1 e2
  simp only [State.task?, h] at e1
  exact .inl ⟨t', e1, e2⟩

theorem RT.of_same {P : Nat → Resp → Prop} {s s' : State} (h1 : s'.tasks = s.tasks) (h2 : s'.ops = s.ops)
    (h3 : s'.nextTask = s.nextTask) (h4 : s'.nextOp = s.nextOp) : RT P s s' :=
  RT.of (TStep.of_same (allow := True) h1 h2 h3 h4) (fun _ => respFrom_of_eq h1)

theorem RT.emit (P : Nat → Resp → Prop) (s : State) (ev : Event) : RT P s (emit s ev) := RT.of_same rfl rfl rfl rfl

/-- one task is rewritten; its response is an old one of that key or satisfies `P` -/
theorem respFrom_of_aset {P : Nat → Resp → Prop} {s s' : State} {k0 : Nat} {t2 : Task}
    (h : s'.tasks = aset k0 t2 s.tasks)
    (hr : ∀ r, t2.response = some r → (∃ t, s.task? k0 = some t ∧ t.response = some r) ∨ P k0 r) :
    RespFrom P s s' := by
  intro k t' r e1 e2
  simp only [State.task?, h, alookup_aset] at e1
  split at e1
  · rename_i hk; subst hk; injection e1 with e1; subst e1; exact hr r e2
  · exact .inl ⟨t', e1, e2⟩

theorem respFrom_trans {P : Nat → Resp → Prop} {a b c : State} (h1 : RespFrom P a b) (h2 : RespFrom P b c) :
    RespFrom P a c := by
  intro k t' r e1 e2
  rcases h2 k t' r e1 e2 with ⟨t, e3, e4⟩ | h
  · exact h1 k t r e3 e4
  · exact .inr h

/-- a freshly created uncompleted task, then `schedule` of it -/
theorem respFrom_new_then_schedule {P : Nat → Resp → Prop} {h : Hints} {s s1 s' : State} {k0 : Nat} {tn : Task}
    (hid : tn.id = k0) (hr : tn.response = none) (h1 : s1.tasks = aset k0 tn s.tasks)
    (hh : schedule h s1 k0 = .ok s') : RespFrom P s s' := by
  obtain ⟨t, t', h0, hle, e1, _⟩ := schedule_shape hh
  have ht : t = tn := by simpa [State.task?, h1] using h0.symm
  subst ht
  intro k tk r e2 e3
  simp only [State.task?, e1, h1, hid, alookup_aset] at e2
  by_cases hkk : k0 = k
  · simp only [hkk, if_true] at e2; injection e2 with e2; subst e2
    cases hle <;> (simp only [hr] at e3; cases e3)
  · simp only [hkk, if_false] at e2; exact .inl ⟨tk, e2, e3⟩

theorem schedule_rt {P : Nat → Resp → Prop} {allow : Prop} {h : Hints} {s0 s s' : State} {tid : Nat}
    (hh : schedule h s tid = .ok s') (ht : TStep allow s0 s')
    (hpre : KeysOK s0 → RespFrom P s0 s ∧ ∀ t, s.task? tid = some t → t.id = tid) : RT P s0 s' := by
  refine RT.of ht (fun hk => ?_)
  obtain ⟨pre, hid⟩ := hpre hk
  obtain ⟨t, t', h0, hle, e1, _⟩ := schedule_shape hh
  have : RespFrom P s s' := by
    refine respFrom_of_aset (k0 := t.id) e1 ?_
    intro r hr
    refine .inl ⟨t, by rw [hid t h0]; exact h0, ?_⟩
    cases hle <;> exact hr
  intro k tk r e2 e3
  rcases this k tk r e2 e3 with ⟨t1, e4, e5⟩ | h
  · exact pre k t1 r e4 e5
  · exact .inr h

/-- `complete` stores at most the response it was given, in the task it was given -/
theorem complete_rt {h : Hints} {s s' : State} {tid : Nat} {r : Resp} {bw : Bool}
    (hh : complete h s tid r bw = .ok s') : RT (fun k r' => r' = r ∧ k = tid) s s' := by
  refine RT.of (complete_tstep hh) (fun hk => ?_)
  obtain ⟨t, h0, hc⟩ := complete_ok hh
  have hid := (hk.tid tid t h0).1
  have base : ∀ ev, RespFrom (fun k r' => r' = r ∧ k = tid) s (succS (detachW s t) (detachT t) ev r) := by
    intro ev
    refine respFrom_of_aset (k0 := t.id) (t2 := bumpGen { detachT t with learner := none, response := some r })
      (by rw [succS_tasks, detachW_tasks]; simp only [detachT_id]) ?_
    intro r' hr'; exact .inr ⟨(Option.some.inj hr').symm, hid⟩
  obtain ⟨_, rfl⟩ | ⟨hr, l, _, h1 | h1 | h1⟩ := hc
  · exact fun _ t' _ h1 h2 => .inl ⟨t', h1, h2⟩
  · obtain ⟨ev, _, rfl | ⟨ev', _, rfl⟩ | ⟨bq, pq, h2, _⟩⟩ := completeSucc_ok h1.2
    · exact base ev
    · exact respFrom_trans (base ev) (respFrom_of_eq (by simp))
    · -- the background task is new and uncompleted
      exact respFrom_trans (base ev)
        (respFrom_new_then_schedule (s := bumpLearner (succS (detachW s t) (detachT t) ev r))
          (tn := bgTask _ _ bq _) rfl rfl rfl h2)
  · obtain ⟨s2, t2, _, hle, hid2, rfl, e1, _⟩ := completeRetry_shape h1.2.2.2
    have hresp : t2.response = none := by cases hle <;> simp [retryT, hr]
    intro k tk r' e2 e3
    simp only [State.task?, setTask_tasks, e1, alookup_aset, bumpGen, hid2] at e2
    by_cases hkk : t.id = k
    · simp only [hkk, if_true] at e2; injection e2 with e2; subst e2
      simp only [hresp] at e3; cases e3
    · simp only [hkk, if_false] at e2; exact .inl ⟨tk, e2, e3⟩
  · obtain ⟨_, _, ev, _, rfl⟩ := h1
    exact base ev

theorem complete_sched {P : Nat → Resp → Prop} {h : Hints} {s s' : State} {tid : Nat} {r : Resp} {bw : Bool}
    (hh : complete h s tid r bw = .ok s') (hp : ∀ k, P k r) : RT P s s' :=
  (complete_rt hh).mono (fun k _ ⟨e, _⟩ => e ▸ hp k)

theorem dropOpT_rt {P : Nat → Resp → Prop} {s : State} {t : Task} {k0 : Nat} (o : Nat) (h0 : s.task? k0 = some t) :
    RT P s (dropOpT s t o) := by
  refine RT.of (dropOpT_tstep True o h0) (fun hk => ?_)
  have hid := (hk.tid _ _ h0).1
  unfold dropOpT
  split
  · intro k t' r e1 e2
    simp only [State.task?, alookup_aerase _ _ _ hk.tnodup] at e1
    split at e1
    · cases e1
    · exact .inl ⟨t', e1, e2⟩
  · refine respFrom_of_aset (k0 := t.id) rfl ?_
    intro r hr
    exact .inl ⟨t, by rw [hid]; exact h0, hr⟩

theorem cancelAllQueued_rt {P : Nat → Resp → Prop} {h : Hints} {s s' : State} {q : ScqId} {r : Resp}
    (hp : ∀ k, P k r) (hh : cancelAllQueued h s q r = .ok s') : RT P s s' :=
  cancelAllQueued_rel (RT P) (RT.refl P) (fun _ _ _ => RT.trans) (fun _ _ _ h1 => complete_sched h1 hp) hh

theorem callback_rt {h : Hints} {s s' : State} {e : CleanupEntry} (hh : callback h s e = .ok s') : RT SchedMade s s' :=
  callback_rel_resp (RT SchedMade) (RT.refl _) RT.trans
    (fun hc ht he _ h1 => complete_sched h1 (fun _ => ⟨hc, ht, he⟩))
    (fun _ _ _ _ => RT.of_same (by simp) (by simp) (by simp) (by simp))
    (fun s o => RT.of (eraseOp_tstep True s o) (fun _ => respFrom_of_eq rfl))
    (fun _ _ _ o h0 => dropOpT_rt o h0)
    (fun _ _ => RT.of_same (by simp) (by simp) (by simp) (by simp)) hh

theorem enter_rt {h : Hints} {s s' : State} {t : Nat} (hh : enter h s t = .ok s') : RT SchedMade s s' :=
  enter_rel (RT SchedMade) (RT.refl _) RT.trans (fun _ _ => RT.of_same rfl rfl rfl rfl)
    (fun _ _ _ _ => RT.of_same rfl rfl rfl rfl) callback_rt hh

/-- a helper that leaves the task map alone -/
theorem RT.of_tasks_eq {P : Nat → Resp → Prop} {allow : Prop} {s s' : State} (ht : TStep allow s s')
    (h : s'.tasks = s.tasks) : RT P s s' := RT.of ht (fun _ => respFrom_of_eq h)

theorem streamSend_rt {P : Nat → Resp → Prop} {s s' : State} {c o : Nat} (hh : streamSend s c o = .ok s') : RT P s s' := by
  refine RT.of_tasks_eq (allow := True) (streamSend_tstep hh) ?_
  obtain ⟨op, t, _, _, ⟨r, _, _, rfl⟩ | ⟨_, rfl⟩⟩ := streamSend_ok hh <;> simp

theorem streamAttach_rt {P : Nat → Resp → Prop} {s s' : State} {c o : Nat} (hh : streamAttach s c o = .ok s') : RT P s s' := by
  refine RT.of_tasks_eq (allow := True) (streamAttach_tstep hh) ?_
  obtain ⟨op, _, h1⟩ := streamAttach_ok hh
  obtain ⟨op', t, _, _, ⟨r, _, _, rfl⟩ | ⟨_, rfl⟩⟩ := streamSend_ok h1 <;> simp [attachS]

theorem streamLeave_rt {P : Nat → Resp → Prop} {s s' : State} {c code : Nat} (hh : streamLeave s c code = .ok s') : RT P s s' := by
  refine RT.of_tasks_eq (allow := True) (streamLeave_tstep hh) ?_
  obtain ⟨st, op, _, _, _, rfl⟩ := streamLeave_ok hh; simp

theorem streamWake_rt {h : Hints} {s s' : State} {now c reason : Nat}
    (hh : streamWake h s now c reason = .ok s') : RT SchedMade s s' := by
  obtain ⟨s1, st, h1, _, ⟨_, h3⟩ | ⟨_, _, h3⟩⟩ := streamWake_ok hh
  · exact (enter_rt h1).trans (streamLeave_rt h3)
  · exact (enter_rt h1).trans (streamSend_rt h3)

theorem execArrive_rt {h : Hints} {s s' : State} {now c digest dkey : Nat} {dnc : Bool}
    {comps : List Nat} {platform : Nat} {inv : List Nat} {prio : Int}
    (hh : execArrive h s now c digest dkey dnc comps platform inv prio = .ok s') : RT SchedMade s s' := by
  obtain ⟨s1, h1, h2 | h2 | h2⟩ := execArrive_ok hh
  · obtain ⟨tid, t, _, h0, ⟨o, _, h3⟩ | ⟨_, h3⟩⟩ := h2
    · exact ((enter_rt h1).trans (RT.of_same (s' := emit s1 .selAbandoned) rfl rfl rfl rfl)).trans (streamAttach_rt h3)
    · refine (((enter_rt h1).trans (RT.of_same (s' := emit s1 .selAbandoned) rfl rfl rfl rfl)).trans ?_).trans (streamAttach_rt h3)
      refine RT.of (addOpS_tstep True inv prio (s := emit s1 .selAbandoned) h0) (fun hk => ?_)
      have hid := (hk.tid tid t h0).1
      refine respFrom_of_aset (k0 := t.id) (t2 := { t with ops := t.ops ++ [s1.nextOp] }) (by simp) ?_
      intro r hr; exact .inl ⟨t, by rw [hid]; exact h0, hr⟩
  · obtain ⟨_, _, rfl⟩ := h2
    exact (enter_rt h1).trans (RT.of_same rfl rfl rfl rfl)
  · obtain ⟨_, pq, sc, s3, _, _, h3, h4⟩ := h2
    refine ((enter_rt h1).trans ?_).trans (streamAttach_rt h4)
    refine RT.of (tstep_new_then_schedule (allow := True) (s := s1) (tn := newTask s1 digest dkey dnc ⟨pq.id, sc⟩)
      (on := newOp s1 inv prio) rfl rfl rfl (by simp) (by simp) (by simp) (by simp) h3) (fun _ => ?_)
    exact respFrom_new_then_schedule (s := s1) (k0 := s1.nextTask) (tn := newTask s1 digest dkey dnc ⟨pq.id, sc⟩) rfl rfl (by simp) h3

theorem waitArrive_rt {h : Hints} {s s' : State} {now c name : Nat}
    (hh : waitArrive h s now c name = .ok s') : RT SchedMade s s' := by
  obtain ⟨s1, h1, ⟨_, rfl⟩ | ⟨op, _, h2⟩⟩ := waitArrive_ok hh
  · exact (enter_rt h1).trans (RT.emit _ _ _)
  · exact (enter_rt h1).trans (streamAttach_rt h2)

theorem assignNext_rt {P : Nat → Resp → Prop} {h : Hints} {s s1 : State} {w : Worker} {got : Bool}
    (hh : assignNext h s w = .ok (s1, got)) : RT P s s1 := by
  refine RT.of (assignNext_tstep (allow := True) hh) (fun hk => ?_)
  rcases assignNext_ok hh with ⟨_, rfl, _⟩ | ⟨_, t, t', hq, _, htw, h3, rfl⟩
  · exact fun _ t' _ h1 h2 => .inl ⟨t', h1, h2⟩
  · -- both writes go to the key of `t`, whose response is `none`
    unfold queuedTasks at hq
    simp only [List.mem_map, List.mem_filter, decide_eq_true_eq] at hq
    obtain ⟨⟨k, t0⟩, ⟨_, hc⟩, rfl⟩ := hq
    have hresp : t0.response = none := by simpa using hc.2.2.2
    have ht' : t' = { t0 with worker := some (w.scq, w.id), retry := 0, queued := false } := by
      simp only [State.task?, assignS_tasks, alookup_aset, if_true] at h3
      injection h3 with h3; exact h3.symm
    subst ht'
    intro k' tk r e2 e3
    simp only [State.task?, setTask_tasks, assignS_tasks, alookup_aset, bumpGen] at e2
    by_cases hkk : t0.id = k'
    · simp only [hkk, if_true] at e2; injection e2 with e2; subst e2
      simp only [hresp] at e3; cases e3
    · simp only [hkk, if_false] at e2; exact .inl ⟨tk, e2, e3⟩

theorem getNextTask_rt {P : Nat → Resp → Prop} {h : Hints} {s s' : State} {q : ScqId} {w : WId} {pi block : Bool}
    (hh : getNextTask h s q w pi block = .ok s') : RT P s s' := by
  obtain ⟨wk, sq, _, _, h1 | h1 | h1⟩ := getNextTask_ok hh
  · obtain ⟨_, rfl⟩ := h1
    exact RT.of_same (by simp) (by simp) (by simp) (by simp)
  · obtain ⟨_, _, s1, got, h2, h3 | h3 | h3⟩ := h1
    · obtain ⟨_, wk1, s2, _, h4, rfl⟩ := h3
      obtain ⟨tid, t, _, _, rfl⟩ := execResponse_ok h4
      exact (assignNext_rt h2).trans (RT.of_same (by simp) (by simp) (by simp) (by simp))
    · obtain ⟨_, _, rfl⟩ := h3
      exact (assignNext_rt h2).trans (RT.of_same (by simp) (by simp) (by simp) (by simp))
    · obtain ⟨_, _, wk1, _, _, rfl⟩ := h3
      exact (assignNext_rt h2).trans (RT.of_same rfl rfl rfl rfl)
  · obtain ⟨_, _, h2 | h2⟩ := h1
    · obtain ⟨_, rfl⟩ := h2
      exact RT.of_same (by simp) (by simp) (by simp) (by simp)
    · obtain ⟨_, rfl⟩ := h2
      exact RT.of_same rfl rfl rfl rfl

theorem getCurrentOrNext_rt {h : Hints} {s s' : State} {q : ScqId} {w : WId} {pi block : Bool}
    (hh : getCurrentOrNext h s q w pi block = .ok s') : RT SchedMade s s' := by
  obtain ⟨wk, _, h1 | h1⟩ := getCurrentOrNext_ok hh
  · exact getNextTask_rt h1.2
  · obtain ⟨tid, t, _, h0, h2 | h2⟩ := h1
    · refine RT.of (getCurrentOrNext_tstep (allow := True) hh) (fun hk => ?_)
      obtain ⟨_, rfl⟩ := h2
      have hid := (hk.tid tid t h0).1
      refine respFrom_of_aset (k0 := t.id) (t2 := { t with retry := t.retry + 1 }) (by simp) ?_
      intro r hr; exact .inl ⟨t, by rw [hid]; exact h0, hr⟩
    · obtain ⟨_, s1, h3, h4⟩ := h2
      exact (complete_sched h3 (fun _ => ⟨by simp, rfl, rfl⟩)).trans (getNextTask_rt h4)

theorem syncArrive_rt {h : Hints} {s s' : State} {now : Nat} {q : ScqId} {comps : List Nat} {pf : Nat}
    {w : WId} {rep : Report} {pi : Bool} (hh : syncArrive h s now q comps pf w rep pi = .ok s') :
    RT (fun k r => SchedMade k r ∨ WorkerMade q w rep k r) s s' := by
  obtain ⟨s1, x, h1, h2, h3⟩ := syncArrive_ok hh
  have same : ∀ {a b : State}, TStep True a b → b.tasks = a.tasks →
      RT (fun k r => SchedMade k r ∨ WorkerMade q w rep k r) a b := fun ht e => RT.of_tasks_eq ht e
  refine ((enter_rt h1).mono (fun _ _ h => .inl h)).trans ?_
  have hq : RT (fun k r => SchedMade k r ∨ WorkerMade q w rep k r) s1 (unsum x) := by
    refine same (syncQueue_tstep h2) ?_
    rcases syncQueue_ok h2 with ⟨_, rfl⟩ | ⟨_, rfl⟩ | ⟨_, _, rfl⟩ | ⟨_, _, rfl⟩ <;> rfl
  rcases h3 with rfl | ⟨s2, rfl, h3⟩
  · exact hq
  · refine RT.trans (b := s2) hq ?_
    have hw : RT (fun k r => SchedMade k r ∨ WorkerMade q w rep k r) s2 (unsum (syncWorker s2 q w)) := by
      refine same (syncWorker_tstep True s2 q w) ?_
      rcases syncWorker_cases s2 q w with ⟨wk, _, _, e⟩ | ⟨wk, _, _, e⟩ | ⟨_, e⟩ <;> rw [e] <;> rfl
    rcases h3 with h3 | ⟨s3, wk, h3, hwk, h4⟩
    · rw [h3] at hw; exact hw
    · rw [h3] at hw
      refine RT.trans (b := s3) hw ?_
      rcases h4 with ⟨_, rfl⟩ | ⟨_, h4⟩ | ⟨d, _, _, rfl⟩ | ⟨d, _, _, h4⟩ | ⟨d, r, tid, s4, hrep, hrc, hwt, h4, h5⟩ | ⟨d, r, _, _, h4⟩
      · exact RT.of_same (by simp) (by simp) (by simp) (by simp)
      · exact (getCurrentOrNext_rt h4).mono (fun _ _ h => .inl h)
      · exact RT.of_same (by simp) (by simp) (by simp) (by simp)
      · exact (getCurrentOrNext_rt h4).mono (fun _ _ h => .inl h)
      · refine ((complete_rt h4).mono ?_).trans (getNextTask_rt h5)
        rintro k r' ⟨rfl, rfl⟩
        exact .inr ⟨d, hrep, s3, wk, hwk, hwt, hrc⟩
      · exact (getCurrentOrNext_rt h4).mono (fun _ _ h => .inl h)

theorem syncWake_rt {P : Nat → Resp → Prop} (hP : ∀ k r, SchedMade k r → P k r) {h : Hints} {s s' : State} {now : Nat}
    {q : ScqId} {w : WId} {reason : Nat} (hh : syncWake h s now q w reason = .ok s') : RT P s s' := by
  obtain ⟨s1, wk, h1, _, _, h2⟩ := syncWake_ok hh
  refine ((enter_rt h1).mono hP).trans ?_
  rcases h2 with ⟨_, h2 | h2⟩ | ⟨_, rfl⟩ | ⟨_, _, h2 | h2⟩ | ⟨_, sq, g, _, _, _, h2⟩
  · obtain ⟨s3, _, h3, rfl⟩ := h2
    obtain ⟨tid, t, _, _, rfl⟩ := execResponse_ok h3
    exact RT.of_same (by simp) (by simp) (by simp) (by simp)
  · obtain ⟨_, rfl⟩ := h2
    exact RT.of_same (by simp) (by simp) (by simp) (by simp)
  · exact RT.of_same (by simp) (by simp) (by simp) (by simp)
  · obtain ⟨s3, _, h3, rfl⟩ := h2
    obtain ⟨tid, t, _, _, rfl⟩ := execResponse_ok h3
    exact RT.of_same (by simp) (by simp) (by simp) (by simp)
  · exact (RT.of_same (s := s1) (s' := s1.setWorker { wk with woken := false }) rfl rfl rfl rfl).trans (getNextTask_rt h2.2)
  · exact (RT.of_same (s := s1) (s' := s1.setWorker { wk with drainWait := none }) rfl rfl rfl rfl).trans (getNextTask_rt h2)

theorem foldl_same {α} (f : State → α → State) (hf : ∀ s a, (f s a).tasks = s.tasks ∧ (f s a).ops = s.ops ∧
    (f s a).nextTask = s.nextTask ∧ (f s a).nextOp = s.nextOp) (l : List α) (s : State) :
    (l.foldl f s).tasks = s.tasks ∧ (l.foldl f s).ops = s.ops ∧ (l.foldl f s).nextTask = s.nextTask ∧
    (l.foldl f s).nextOp = s.nextOp :=
  foldl_rel (fun s s' => s'.tasks = s.tasks ∧ s'.ops = s.ops ∧ s'.nextTask = s.nextTask ∧ s'.nextOp = s.nextOp)
    (fun _ => ⟨rfl, rfl, rfl, rfl⟩)
    (fun ⟨a1, a2, a3, a4⟩ ⟨b1, b2, b3, b4⟩ => ⟨b1.trans a1, b2.trans a2, b3.trans a3, b4.trans a4⟩) f hf l s

theorem drainWake_same (q : ScqId) (p : Pattern) (s : State) (w : Worker) :
    (drainWake q p s w).tasks = s.tasks ∧ (drainWake q p s w).ops = s.ops ∧
    (drainWake q p s w).nextTask = s.nextTask ∧ (drainWake q p s w).nextOp = s.nextOp := by
  unfold drainWake; split <;> exact ⟨rfl, rfl, rfl, rfl⟩

theorem termMark_same (s : State) (w : Worker) :
    (termMark s w).tasks = s.tasks ∧ (termMark s w).ops = s.ops ∧
    (termMark s w).nextTask = s.nextTask ∧ (termMark s w).nextOp = s.nextOp := by
  rw [termMark_eq]; exact ⟨rfl, rfl, rfl, rfl⟩

/-- **Provenance of responses, per segment.** -/
theorem step_rt {s s' : State} {g : Seg} (hstep : step s g = .ok s') : RT (StepMade g) s s' := by
  have lift : RT SchedMade s s' → RT (StepMade g) s s' := fun h => h.mono (fun _ _ h => .inl h)
  cases g with
  | register id comps pf sizes bm bp =>
    simp only [step, pure_ok] at hstep; subst hstep; exact RT.of_same rfl rfl rfl rfl
  | exec h now c0 d dk dnc comps pf inv prio => exact lift (execArrive_rt hstep)
  | wait h now c0 name => exact lift (waitArrive_rt hstep)
  | streamWake h now c0 reason => exact lift (streamWake_rt hstep)
  | sync h now q comps pf w rep pi =>
    refine (syncArrive_rt hstep).mono ?_
    rintro k r (h1 | h1)
    · exact .inl h1
    · exact .inr ⟨h, now, q, comps, pf, w, rep, pi, rfl, h1⟩
  | syncWake h now q w reason => exact lift (syncWake_rt (fun _ _ h => h) hstep)
  | killOp h now name code =>
    obtain ⟨s1, h1, ⟨_, rfl⟩ | ⟨op, s2, _, h2, rfl⟩⟩ := killOp_ok hstep
    · exact lift ((enter_rt h1).trans (RT.emit _ _ _))
    · exact lift (((enter_rt h1).trans (complete_sched h2 (fun _ => ⟨by simp, rfl, rfl⟩))).trans (RT.emit _ _ _))
  | killQueue h now q code =>
    obtain ⟨s1, h1, ⟨ev, _, rfl⟩ | ⟨s2, h2, rfl⟩⟩ := killQueue_ok hstep
    · exact lift ((enter_rt h1).trans (RT.emit _ _ _))
    · exact lift (((enter_rt h1).trans (cancelAllQueued_rt (fun _ => ⟨by simp, rfl, rfl⟩) h2)).trans (RT.emit _ _ _))
  | addDrain h now q p =>
    obtain ⟨s1, h1, ⟨_, rfl⟩ | ⟨sq, _, rfl⟩⟩ := addDrain_ok hstep
    · exact lift ((enter_rt h1).trans (RT.emit _ _ _))
    · refine lift ((enter_rt h1).trans ?_)
      obtain ⟨a1, a2, a3, a4⟩ := foldl_same (drainWake q p) (drainWake_same q p) s1.workers
        (s1.setScq { sq with drains := if sq.drains.contains p then sq.drains else sq.drains ++ [p] })
      exact RT.of_same a1 a2 a3 a4
  | removeDrain h now q p =>
    obtain ⟨s1, h1, ⟨_, rfl⟩ | ⟨sq, _, rfl⟩⟩ := removeDrain_ok hstep
    · exact lift ((enter_rt h1).trans (RT.emit _ _ _))
    · exact lift ((enter_rt h1).trans (RT.of_same rfl rfl rfl rfl))
  | terminate h now id p =>
    obtain ⟨s1, h1, h2⟩ := terminate_ok hstep
    simp only at h2
    obtain ⟨a1, a2, a3, a4⟩ := foldl_same termMark termMark_same (s1.workers.filter (fun w => p.matches w.id)) s1
    refine lift ((enter_rt h1).trans ?_)
    rcases h2 with ⟨_, rfl⟩ | ⟨_, rfl⟩ <;> exact RT.of_same a1 a2 a3 a4
  | termWake id reason =>
    obtain ⟨tc, _, ⟨_, rfl⟩ | ⟨_, _, rfl⟩⟩ := termWake_ok hstep <;>
      exact RT.of_same (by simp) (by simp) (by simp) (by simp)
  | touch h now => exact lift (enter_rt hstep)

end BbRe.Lemmas.SchedLive
