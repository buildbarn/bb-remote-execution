import BbRe.Lemmas.FileRefCount
/-!
The part of the C16 invariant that talks about the parked / frozen threads, with one
lemma per way in which a step of `Model/FileRef.lean` changes a program counter.
-/
namespace BbRe.Lemmas.FileRef
open BbRe.FileRef
open BbRe.Lemmas.Idle (Counted)

/-- `pc` with thread `t` moved to `v`. -/
def upd (pc : Nat → PC) (t : Nat) (v : PC) : Nat → PC := fun x => if x = t then v else pc x

theorem setPc_pc (s : State) (t : Nat) (v : PC) : (s.setPc t v).pc = upd s.pc t v := rfl

structure PcInv (pc : Nat → PC) (frozen writers : Nat) (bytes : Bytes) : Prop where
  fcount : FrozenCount pc frozen
  /-- no lost wake-up: a call parked in `lockMutatingData` whose channel was not closed. -/
  mutWake : ∀ t op, pc t = .mutWait op false → 0 < frozen
  /-- no lost wake-up: an upload parked on `noMoreWritersWakeup`. -/
  upWake : ∀ t u k fn, pc t = .upWait u k fn false → 0 < writers
  /-- the digest an upload is putting is the digest of the current contents. -/
  putOk : ∀ t d, pc t = .upPut d → d.2 = bytes

theorem PcInv.counted {pc f w b} (h : PcInv pc f w b) : Counted (fun v : PC => v.isFrozen = true) pc f :=
  (frozenCount_iff pc f).1 h.fcount

theorem wakeMut_isFrozen (pc : Nat → PC) (t : Nat) : (wakeMut pc t).isFrozen = (pc t).isFrozen := by
  unfold wakeMut; cases pc t <;> rfl

theorem wakeUp_isFrozen (pc : Nat → PC) (t : Nat) : (wakeUp pc t).isFrozen = (pc t).isFrozen := by
  unfold wakeUp; cases pc t <;> rfl

theorem wakeMut_not_unwoken (pc : Nat → PC) (t : Nat) (op : MutOp) : wakeMut pc t ≠ .mutWait op false := by
  unfold wakeMut; cases pc t <;> simp

theorem wakeUp_not_unwoken (pc : Nat → PC) (t : Nat) (u : Bool) (k : Option Nat) (fn : Nat) :
    wakeUp pc t ≠ .upWait u k fn false := by
  unfold wakeUp; cases pc t <;> simp

theorem wakeMut_upWait {pc : Nat → PC} {t : Nat} {u k fn w} (h : wakeMut pc t = .upWait u k fn w) :
    pc t = .upWait u k fn w := by
  unfold wakeMut at h; cases hp : pc t <;> simp_all

theorem wakeMut_upPut {pc : Nat → PC} {t : Nat} {d} (h : wakeMut pc t = .upPut d) : pc t = .upPut d := by
  unfold wakeMut at h; cases hp : pc t <;> simp_all

theorem wakeUp_mutWait {pc : Nat → PC} {t : Nat} {op w} (h : wakeUp pc t = .mutWait op w) :
    pc t = .mutWait op w := by
  unfold wakeUp at h; cases hp : pc t <;> simp_all

theorem wakeUp_upPut {pc : Nat → PC} {t : Nat} {d} (h : wakeUp pc t = .upPut d) : pc t = .upPut d := by
  unfold wakeUp at h; cases hp : pc t <;> simp_all

theorem PcInv.init (w : Nat) (b : Bytes) : PcInv (fun _ => PC.idle) 0 w b := by
  refine ⟨⟨[], List.nodup_nil, fun _ _ => rfl, rfl⟩, ?_, ?_, ?_⟩ <;> intros <;> contradiction

/-- A thread at a given place after `t` moved to `v`: it is `t` at `v`, or another thread where it was. -/
theorem upd_eq {pc : Nat → PC} {t x : Nat} {v w : PC} (h : upd pc t v x = w) :
    x = t ∧ v = w ∨ x ≠ t ∧ pc x = w := by
  unfold upd at h
  split at h
  · exact .inl ⟨‹_›, h⟩
  · exact .inr ⟨‹_›, h⟩

/-- Thread `t` moves to `v` and the number of frozen readers becomes `f'`: the other threads are
where they were, so the clauses are left to show for `v`. -/
theorem PcInv.move {pc f w b} (h : PcInv pc f w b) (t : Nat) {v : PC} {f' : Nat}
    (hc : Counted (fun v : PC => v.isFrozen = true) (upd pc t v) f') (hf : 0 < f → 0 < f')
    (hm : ∀ op, v = .mutWait op false → 0 < f') (hu : ∀ u k fn, v = .upWait u k fn false → 0 < w)
    (hd : ∀ d, v = .upPut d → d.2 = b) : PcInv (upd pc t v) f' w b := by
  refine ⟨(frozenCount_iff _ _).2 hc, fun x op hx => ?_, fun x u k fn hx => ?_, fun x d hx => ?_⟩
  · rcases upd_eq hx with ⟨_, hx⟩ | ⟨_, hx⟩
    · exact hm op hx
    · exact hf (h.mutWake x op hx)
  · rcases upd_eq hx with ⟨_, hx⟩ | ⟨_, hx⟩
    · exact hu u k fn hx
    · exact h.upWake x u k fn hx
  · rcases upd_eq hx with ⟨_, hx⟩ | ⟨_, hx⟩
    · exact hd d hx
    · exact h.putOk x d hx

/-- A thread that holds no frozen reader moves to another such place. -/
theorem PcInv.upd_plain {pc f w b} (h : PcInv pc f w b) (t : Nat) (v : PC)
    (hold : (pc t).isFrozen = false) (hv : v.isFrozen = false)
    (hm : ∀ op, v = .mutWait op false → 0 < f) (hu : ∀ u k fn, v = .upWait u k fn false → 0 < w) :
    PcInv (upd pc t v) f w b :=
  h.move t (h.counted.set_same t v (by rw [hold, hv])) id hm hu fun _ e => by subst e; cases hv

/-- A thread obtains a frozen reader (`openReadFrozen`). -/
theorem PcInv.upd_freeze {pc f w b} (h : PcInv pc f w b) (t : Nat) (v : PC)
    (hold : (pc t).isFrozen = false) (hv : v.isFrozen = true) (hd : ∀ d, v = .upPut d → d.2 = b) :
    PcInv (upd pc t v) (f + 1) w b :=
  h.move t (h.counted.set_add t v (by rw [hold]; nofun) hv) (fun _ => Nat.succ_pos f)
    (fun _ _ => Nat.succ_pos f) (fun _ _ _ e => by subst e; cases hv) hd

/-- A thread that holds a frozen reader moves on and keeps it. -/
theorem PcInv.upd_keep {pc f w b} (h : PcInv pc f w b) (t : Nat) (v : PC)
    (hold : (pc t).isFrozen = true) (hv : v.isFrozen = true) (hd : ∀ d, v = .upPut d → d.2 = b) :
    PcInv (upd pc t v) f w b :=
  h.move t (h.counted.set_same t v (by rw [hold, hv])) id (fun _ e => by subst e; cases hv)
    (fun _ _ _ e => by subst e; cases hv) hd

/-- `frozenFileBackedFile.Close` by thread `t`, which then returns. -/
theorem PcInv.unfreeze {pc f w b} (h : PcInv pc f w b) (t : Nat)
    (hold : (pc t).isFrozen = true) :
    PcInv (if f - 1 = 0 then wakeMut (upd pc t .idle) else upd pc t .idle) (f - 1) w b := by
  have hpos := Nat.pos_of_ne_zero (h.counted.pos hold)
  have hc := h.counted.set_remove t .idle hold nofun
  have hup : ∀ x u k fn, upd pc t .idle x = .upWait u k fn false → 0 < w := by
    intro x u k fn hx
    rcases upd_eq hx with ⟨_, hx⟩ | ⟨_, hx⟩
    · cases hx
    · exact h.upWake x u k fn hx
  have hput : ∀ x d, upd pc t .idle x = .upPut d → d.2 = b := by
    intro x d hx
    rcases upd_eq hx with ⟨_, hx⟩ | ⟨_, hx⟩
    · cases hx
    · exact h.putOk x d hx
  split
  · exact ⟨(frozenCount_iff _ _).2 (hc.congr fun x => by rw [wakeMut_isFrozen]; rfl),
      fun x op hx => absurd hx (wakeMut_not_unwoken _ _ _),
      fun x u k fn hx => hup x u k fn (wakeMut_upWait hx), fun x d hx => hput x d (wakeMut_upPut hx)⟩
  · exact ⟨(frozenCount_iff _ _).2 hc, fun x op hx => by omega, hup, hput⟩

/-- `VirtualClose` of a writable descriptor. -/
theorem PcInv.writers_dec {pc f w b} (h : PcInv pc f w b) :
    PcInv (if w - 1 = 0 then wakeUp pc else pc) f (w - 1) b := by
  split
  · refine ⟨(frozenCount_iff _ _).2 (h.counted.congr fun x => by rw [wakeUp_isFrozen]), ?_, ?_, ?_⟩
    · intro x op hx
      exact h.mutWake x op (wakeUp_mutWait hx)
    · intro x u k fn hx
      exact absurd hx (wakeUp_not_unwoken _ _ _ _ _)
    · intro x d hx
      exact h.putOk x d (wakeUp_upPut hx)
  · refine ⟨h.fcount, h.mutWake, ?_, h.putOk⟩
    intro x u k fn hx
    have := h.upWake x u k fn hx
    omega

theorem PcInv.writers_inc {pc f w b} (h : PcInv pc f w b) (k : Nat) : PcInv pc f (w + k) b :=
  ⟨h.fcount, h.mutWake, fun x u k' fn hx => by have := h.upWake x u k' fn hx; omega, h.putOk⟩

/-- The contents change: only possible while nobody has the file frozen. -/
theorem PcInv.bytes_change {pc w b} (h : PcInv pc 0 w b) (b' : Bytes) : PcInv pc 0 w b' :=
  ⟨h.fcount, h.mutWake, h.upWake, fun x d hx => absurd (by rw [hx]; rfl) (h.counted.zero x)⟩

end BbRe.Lemmas.FileRef
