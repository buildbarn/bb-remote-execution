import BbRe.Lemmas.SchedQExistsDefs
/-!
`QExists` across `task.schedule` and `task.complete` (no use of `Inv`).
-/
namespace BbRe.Lemmas.SchedQ
open BbRe.Sched BbRe.Lemmas.SchedInv

theorem mem_insertSorted (x y : Nat) (l : List Nat) : y ∈ insertSorted x l ↔ y = x ∨ y ∈ l := by
  induction l with
  | nil => simp [insertSorted]
  | cons a r ih =>
    unfold insertSorted
    split
    · simp only [List.mem_cons, ih]
      constructor
      · rintro (h | h | h)
        · exact Or.inr (Or.inl h)
        · exact Or.inl h
        · exact Or.inr (Or.inr h)
      · rintro (h | h | h)
        · exact Or.inr (Or.inl h)
        · exact Or.inl h
        · exact Or.inr (Or.inr h)
    · simp only [List.mem_cons]

theorem mem_foldl_insertSorted (l : List Scq) (init : List Nat) (y : Nat) :
    y ∈ l.foldl (fun acc q => insertSorted q.id.sc acc) init ↔ y ∈ init ∨ ∃ q ∈ l, q.id.sc = y := by
  induction l generalizing init with
  | nil => simp
  | cons a r ih =>
    rw [List.foldl_cons, ih, mem_insertSorted]
    constructor
    · rintro ((h | h) | ⟨q, hq, he⟩)
      · exact Or.inr ⟨a, List.mem_cons_self, h.symm⟩
      · exact Or.inl h
      · exact Or.inr ⟨q, List.mem_cons_of_mem _ hq, he⟩
    · rintro (h | ⟨q, hq, he⟩)
      · exact Or.inl (Or.inr h)
      · rcases List.mem_cons.mp hq with e | e
        · subst e; exact Or.inl (Or.inl he.symm)
        · exact Or.inr ⟨q, e, he⟩

/-- `pq.sizeClasses` lists exactly the size classes of the registered size-class queues of `pq` -/
theorem mem_sizes (s : State) (pq sc : Nat) : sc ∈ s.sizes pq ↔ HasScq s ⟨pq, sc⟩ := by
  unfold State.sizes HasScq scqIds
  rw [mem_foldl_insertSorted]
  simp only [List.not_mem_nil, false_or, List.mem_filter, List.mem_map, decide_eq_true_eq]
  constructor
  · rintro ⟨q, ⟨hq, hp⟩, he⟩
    refine ⟨q, hq, ?_⟩
    cases hqi : q.id with
    | mk a b => rw [hqi] at hp he; simp only at hp he; rw [hp, he]
  · rintro ⟨q, hq, he⟩
    exact ⟨q, ⟨hq, by rw [he]⟩, by rw [he]⟩

theorem hasScq_largest {s : State} {q : ScqId} (h : HasScq s q) : HasScq s (largestScq s q) := by
  unfold largestScq
  split
  · rename_i sc hsc
    exact (mem_sizes s q.pq sc).mp (List.mem_of_getLast? hsc)
  · exact h

theorem largest_pq (s : State) (q : ScqId) : (largestScq s q).pq = q.pq := by
  unfold largestScq; split <;> rfl

theorem sizes_get_some {s : State} {q : ScqId} (h : HasScq s q) (i : Nat) :
    ∃ sc, (s.sizes q.pq)[min i ((s.sizes q.pq).length - 1)]? = some sc := by
  have hm : q.sc ∈ s.sizes q.pq := (mem_sizes s q.pq q.sc).mpr h
  have hl : 0 < (s.sizes q.pq).length := List.length_pos_of_mem hm
  have : min i ((s.sizes q.pq).length - 1) < (s.sizes q.pq).length := by omega
  exact ⟨_, List.getElem?_eq_getElem this⟩

theorem hasScq_of_sizes_get {s : State} {pq i sc : Nat} (h : (s.sizes pq)[i]? = some sc) : HasScq s ⟨pq, sc⟩ :=
  (mem_sizes s pq sc).mp (List.mem_of_getElem? h)

variable {ne : Prop}

theorem taskOK_of_lookup {s : State} (hq : QExists ne s) {k : Nat} {t : Task} (ht : alookup k s.tasks = some t) :
    TaskOK s t := hq.tq (k, t) (mem_of_alookup ht)

theorem assignSt_q {s : State} (hq : QExists ne s) {w : Worker} {t : Task} (hw : ∃ wk ∈ s.workers, wk.scq = w.scq)
    (ht : TaskOK s t) (hs : w.scq = t.scq) : QP ne s (assignSt s w t) := by
  have h1 := hq.setWorker { w with task := some t.id } hw
  have h2 := h1.1.setTask { t with worker := some (w.scq, w.id), retry := 0, queued := false } (by
    intro hr
    obtain ⟨a, _⟩ := ht hr
    refine ⟨a, ?_⟩
    intro q' w' hqw
    simp only [Option.some.injEq, Prod.mk.injEq] at hqw
    rw [← hqw.1]; exact hs)
  have h3 := h1.trans h2
  exact h3.trans (h3.1.same (s' := assignSt s w t) rfl rfl rfl rfl (fun _ h _ _ => h))

/-- creating a task (in a state that differs from `s` only in counters, events, dedup) -/
theorem newTask_q {s s1 : State} {bt : Task} {bo : Op} (hq : QExists ne s) (hbt : HasScq s bt.scq)
    (h1 : s1.tasks = s.tasks := by rfl) (h2 : s1.workers = s.workers := by rfl) (h3 : s1.scqs = s.scqs := by rfl)
    (h4 : s1.pqs = s.pqs := by rfl) (h5 : s1.cleanup = s.cleanup := by rfl) (hw : bt.worker = none := by rfl) :
    QP ne s ((s1.setTask bt).setOp bo) := by
  have hX : QP ne s s1 := hq.same h1 h2 h3 h4 (by rw [h5]; exact fun _ h _ _ => h)
  have hT := hX.1.setTask bt (by
    intro _
    refine ⟨?_, by rw [hw]; intro _ _ h; cases h⟩
    unfold HasScq scqIds; rw [h3]; exact hbt)
  exact hX.trans (hT.trans (hT.1.setOp bo))

theorem schedule_q {h : Hints} {s : State} {tid : Nat} (hq : QExists ne s) :
    wpR ne (schedule h s tid) (QP ne s) := by
  unfold schedule
  simp only [task?_def]
  cases ht : alookup tid s.tasks with
  | none => noterr
  | some t =>
    have htok := taskOK_of_lookup hq ht
    simp only []
    apply wpR_ite
    · split
      · rename_i w hh
        have hwf := hintedWorker_some hh
        have hws := hintedWorker_scq hh
        by_cases hp : w.parked = true
        · simp only [hp, Bool.not_true, Bool.false_eq_true, if_false]
          simp only [wakeWorker, worker?_def, setWorker_eq, wfind_wset, hwf, Option.isSome_some, if_true, and_self]
          rw [assignTo_eq]
          have h1 := hq.wakeWorker w (wfind_mem hwf)
          simp only [wakeWorker, setWorker_eq] at h1
          apply wpR_ite
          · noterr
          · apply wpR_ite
            · noterr
            · simp only [wpR_ok]
              refine h1.trans (assignSt_q h1.1 (w := { w with parked := false, woken := true }) ?_ ?_ hws)
              · exact ⟨{ w with parked := false, woken := true }, by
                  simp only []
                  have : wfind (wset s.workers { w with parked := false, woken := true }) w.scq w.id =
                      some { w with parked := false, woken := true } := by
                    rw [wfind_wset]; simp [hwf]
                  exact wfind_mem this, rfl⟩
              · intro hr; exact htok hr
        · simp only [hp, Bool.not_false, if_true]; noterr
      · noterr
    · exact hq.setTask _ (fun hr => htok hr)

theorem fstep_q {s : State} (hq : QExists ne s) (o : Nat) : QP ne s (fstep s o) := by
  unfold fstep
  split
  · split
    · exact (hq.setOp _).trans ((hq.setOp _).1.maybeStartCleanup o)
    · exact ⟨hq, QFr.refl s⟩
  · exact ⟨hq, QFr.refl s⟩

theorem finishOps_q {s : State} (hq : QExists ne s) (ops : List Nat) : QP ne s (complete.finishOps s ops) := by
  rw [finishOps_eq]
  induction ops generalizing s with
  | nil => exact ⟨hq, QFr.refl s⟩
  | cons o rest ih =>
    rw [List.foldl_cons]
    exact (fstep_q hq o).trans (ih (fstep_q hq o).1)

/-- a task that has a response is fine -/
theorem taskOK_done (s : State) {t : Task} (h : t.response.isSome = true) : TaskOK s t := by
  intro hr; rw [hr] at h; cases h

theorem finSt0_q {s : State} (hq : QExists ne s) (t : Task) (r : Resp) : QP ne s (finSt0 s t r) := by
  refine hq.upd rfl rfl ⟨fun _ h _ _ => h, fun wk h => ⟨wk, h, rfl⟩⟩ ?_
  intro p hp
  rcases mem_aset hp with e | e
  · rw [e]; exact taskOK_done s rfl
  · exact hq.tq p e

theorem finalize_q {s : State} (hq : QExists ne s) (t : Task) (r : Resp) :
    wpR ne (complete.finalize s t r) (QP ne s) := by
  rw [finalize_eq]
  exact (finSt0_q hq t r).trans (finishOps_q (finSt0_q hq t r).1 _)

theorem bgPart_q {h : Hints} {s : State} {t : Task} {i : Nat} (hq : QExists ne s) (hs : HasScq s t.scq) :
    wpR ne (bgPart h s t i) (QP ne s) := by
  unfold bgPart
  have hpq := (hasPq_iff s t.scq.pq).mp (hq.qp t.scq hs)
  obtain ⟨pq, hpq⟩ := hpq
  have hpq' : State.pq? { s with nextLearner := s.nextLearner + 1 } t.scq.pq = some pq := hpq
  simp only [hpq']
  apply wpR_ite
  · exact hq.same rfl rfl rfl rfl (fun _ h _ _ => h)
  · obtain ⟨bsc, hb⟩ := sizes_get_some hs i
    have hb' : (State.sizes { s with nextLearner := s.nextLearner + 1 } t.scq.pq)[min i
        ((State.sizes { s with nextLearner := s.nextLearner + 1 } t.scq.pq).length - 1)]? = some bsc := hb
    simp only [hb']
    apply wpR_ite
    · exact hq.same rfl rfl rfl rfl (fun _ h _ _ => h)
    · -- create the background task and schedule it
      have hbq : HasScq s ⟨t.scq.pq, bsc⟩ := hasScq_of_sizes_get hb
      refine wpR_mono (schedule_q (h := h) ?a) ?b
      case a => exact (newTask_q hq hbq).1
      case b =>
        intro s' hp
        exact QP.trans (newTask_q hq hbq) hp

theorem completeOk_q {h : Hints} {s : State} {t : Task} {r : Resp} {l : Nat} (hq : QExists ne s)
    (hs : HasScq s t.scq) : wpR ne (completeOk h s t r l) (QP ne s) := by
  rw [completeOk_eq]
  apply wpR_bind
  have h0 := hq.emit (.learnerSucceeded l (if h.bg.isSome then some s.nextLearner else none))
  refine wpR_mono (finalize_q h0.1 _ r) ?_
  intro s1 h1
  have h01 := h0.trans h1
  split
  · exact h01
  · refine wpR_mono (bgPart_q h01.1 ?_) (fun s' hp => h01.trans hp)
    exact (h01.2.hasScq _).mpr hs

theorem retrySt_q {s : State} (hq : QExists ne s) (t0 : Task) (l : Nat) (r : Resp) (hs : HasScq s t0.scq)
    (hw : t0.worker = none) : QP ne s (retrySt s t0 l r) := by
  unfold retrySt
  have h0 : QP ne s (emit { s with nextLearner := s.nextLearner + 1 } (.learnerFailed l (r.code = cDeadlineExceeded) (some s.nextLearner))) :=
    hq.same rfl rfl rfl rfl (fun _ h _ _ => h)
  refine h0.trans (h0.1.setTask _ ?_)
  intro _
  refine ⟨?_, by intro q w hqw; simp only [hw] at hqw; cases hqw⟩
  exact (h0.2.hasScq _).mpr (hasScq_largest hs)

theorem completeRetry_q {h : Hints} {s : State} {t : Task} {r : Resp} {l : Nat} (hq : QExists ne s)
    (hs : HasScq s t.scq) (hw : t.worker = none) : wpR ne (completeRetry h s t r l) (QP ne s) := by
  rw [completeRetry_eq]
  apply wpR_bind
  have h0 := retrySt_q hq t l r hs hw
  refine wpR_mono (schedule_q h0.1) ?_
  intro s3 h3
  simp only [task?_def]
  split
  · rename_i t3 ht3
    simp only [wpR_pure]
    have := h3.1.setTask (bumpGen t3) (by
      have := taskOK_of_lookup h3.1 ht3
      intro hr; exact this hr)
    exact (h0.trans h3).trans this
  · noterr

theorem detachW_q {s : State} (hq : QExists ne s) (t : Task) : QP ne s (detachW s t) := by
  unfold detachW
  split
  · split
    · rename_i wk hwk
      exact hq.setWorker _ ⟨wk, wfind_mem hwk, rfl⟩
    · exact ⟨hq, QFr.refl s⟩
  · exact ⟨hq, QFr.refl s⟩

theorem preT_scq (t : Task) : (preT t).scq = t.scq := by unfold preT; split <;> rfl
theorem preT_response (t : Task) : (preT t).response = t.response := by unfold preT; split <;> rfl

/-- `task.complete` keeps `QExists`, and never fails with a routing error -/
theorem complete_q {h : Hints} {s : State} {tid : Nat} {r : Resp} {bw : Bool} (hq : QExists ne s) :
    wpR ne (complete h s tid r bw) (QP ne s) := by
  rw [complete_eq]
  simp only [task?_def]
  cases ht : alookup tid s.tasks with
  | none => noterr
  | some t =>
    simp only []
    by_cases hr : t.response.isSome = true
    · simp only [hr, if_true, wpR_pure]; exact ⟨hq, QFr.refl s⟩
    · rw [if_neg hr]
      have hr' : t.response = none := by simpa using hr
      have hs : HasScq s t.scq := (taskOK_of_lookup hq ht hr').1
      have h1 := detachW_q hq (preT t)
      have hs1 : HasScq (detachW s (preT t)) ({ preT t with worker := none } : Task).scq := by
        rw [h1.2.hasScq]; show HasScq s (preT t).scq; rw [preT_scq]; exact hs
      split
      · noterr
      · rename_i l _
        apply wpR_ite
        · exact wpR_mono (completeOk_q h1.1 hs1) (fun s' hp => h1.trans hp)
        · apply wpR_ite
          · apply wpR_ite
            · exact wpR_mono (completeRetry_q h1.1 hs1 rfl) (fun s' hp => h1.trans hp)
            · have h2 := h1.1.emit (.learnerFailed l (r.code = cDeadlineExceeded) none)
              exact wpR_mono (finalize_q h2.1 _ r) (fun s' hp => (h1.trans h2).trans hp)
          · have h2 := h1.1.emit (.learnerAbandoned l)
            exact wpR_mono (finalize_q h2.1 _ r) (fun s' hp => (h1.trans h2).trans hp)

end BbRe.Lemmas.SchedQ
