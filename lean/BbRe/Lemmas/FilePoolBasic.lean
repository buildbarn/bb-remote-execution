import BbRe.Model.FilePool
/-!
Helper lemmas for `Model/FilePool.lean`: the byte store, the abstract allocator
(`Env.alloc`, `Env.freeList`), and the list functions on sector lists.
-/
namespace BbRe.Lemmas.FilePool
open BbRe.FilePool

/-! ## Block device -/

theorem rd_setByte (dev : Array Byte) (i : Nat) (b : Byte) (j : Nat) :
    rd (setByte dev i b) j = if j = i then b else rd dev j := by
  unfold rd setByte
  split
  · simp [Array.getD_eq_getD_getElem?, Array.getElem?_setIfInBounds]
    split <;> simp_all
    · omega
  · rename_i h
    simp [Array.getD_eq_getD_getElem?, Array.getElem?_push, Array.getElem?_append]
    by_cases h1 : j < dev.size
    · have : j ≠ i := by omega
      simp [h1, this]
    · by_cases h2 : j = i
      · subst h2; simp [h1]
      · have h3 : ¬ (j - dev.size = i - dev.size) := by omega
        simp [h1, h2, h3, Array.getElem?_replicate]
        split <;> simp

/-- Pointwise specification of a device write. -/
theorem rd_writeBytes (p : List Byte) : ∀ (dev : Array Byte) (off i : Nat),
    rd (writeBytes dev off p) i =
      if off ≤ i ∧ i < off + p.length then p.getD (i - off) 0 else rd dev i := by
  induction p with
  | nil => intro dev off i; simp [writeBytes]; omega
  | cons b bs ih =>
    intro dev off i
    simp only [writeBytes, ih, rd_setByte, List.length_cons]
    by_cases h1 : i = off
    · subst h1
      have : ¬ (i + 1 ≤ i ∧ i < i + 1 + bs.length) := by omega
      simp [this]
    · by_cases h2 : off + 1 ≤ i ∧ i < off + 1 + bs.length
      · have h3 : off ≤ i ∧ i < off + (bs.length + 1) := by omega
        have h4 : i - off = (i - (off+1)) + 1 := by omega
        simp [h2, h3, h4]
      · have h3 : ¬ (off ≤ i ∧ i < off + (bs.length + 1)) := by omega
        simp [h2, h3, h1]

theorem rd_writeBytes_outside (p : List Byte) (dev : Array Byte) (off i : Nat)
    (h : i < off ∨ off + p.length ≤ i) : rd (writeBytes dev off p) i = rd dev i := by
  rw [rd_writeBytes]; split
  · omega
  · rfl

theorem readBytes_length (dev : Array Byte) (off n : Nat) : (readBytes dev off n).length = n := by
  simp [readBytes]

theorem readBytes_getD (dev : Array Byte) (off n j : Nat) (h : j < n) :
    (readBytes dev off n).getD j 0 = rd dev (off + j) := by
  simp [readBytes, List.getD_eq_getElem?_getD, h]

theorem holeBytes_length (h : Hole) (off n : Nat) : (h.bytes off n).length = n := by
  simp [Hole.bytes]

theorem holeBytes_getD (h : Hole) (off n j : Nat) (hj : j < n) :
    (h.bytes off n).getD j 0 = h.read (off + j) := by
  simp [Hole.bytes, List.getD_eq_getElem?_getD, hj]

/-! ## Non-zero entries of a sector list -/

def nz (l : List Nat) : List Nat := l.filter (· ≠ 0)

theorem mem_nz {l : List Nat} {s : Nat} : s ∈ nz l ↔ s ∈ l ∧ s ≠ 0 := by
  simp [nz, List.mem_filter]

theorem nz_append (a b : List Nat) : nz (a ++ b) = nz a ++ nz b := by
  simp [nz, List.filter_append]

theorem nz_replicate_zero (k : Nat) : nz (List.replicate k 0) = [] := by
  simp [nz]

/-! ## Freeing -/

theorem foldl_freeOne (L : List Nat) : ∀ (A : List Nat) (d : Bool), A.Nodup →
    (∀ s ∈ L, s ≠ 0 → s ∈ A) → (nz L).Nodup →
    (L.foldl freeOne (A, d)).2 = d ∧ (L.foldl freeOne (A, d)).1.Nodup ∧
      ∀ s, s ∈ (L.foldl freeOne (A, d)).1 ↔ (s ∈ A ∧ ¬ (s ∈ L ∧ s ≠ 0)) := by
  induction L with
  | nil => intro A d hA _ _; simp [hA]
  | cons x xs ih =>
    intro A d hA hsub hnd
    simp only [List.foldl_cons]
    by_cases hx : x = 0
    · subst hx
      have h1 : freeOne (A, d) 0 = (A, d) := by simp [freeOne]
      rw [h1]
      have hnd' : (nz xs).Nodup := by simpa [nz] using hnd
      obtain ⟨a, b, c⟩ := ih A d hA (fun s hs h0 => hsub s (List.mem_cons_of_mem _ hs) h0) hnd'
      refine ⟨a, b, fun s => ?_⟩
      rw [c]
      constructor
      · rintro ⟨h1, h2⟩; refine ⟨h1, ?_⟩; rintro ⟨h3, h4⟩
        rcases List.mem_cons.mp h3 with h5 | h5
        · exact h4 h5
        · exact h2 ⟨h5, h4⟩
      · rintro ⟨h1, h2⟩; exact ⟨h1, fun ⟨h3, h4⟩ => h2 ⟨List.mem_cons_of_mem _ h3, h4⟩⟩
    · have hxA : x ∈ A := hsub x (List.mem_cons_self) hx
      have h1 : freeOne (A, d) x = (A.erase x, d) := by simp [freeOne, hx, hxA]
      rw [h1]
      have hnd2 : (x :: nz xs).Nodup := by simpa [nz, hx] using hnd
      have hnd' : (nz xs).Nodup := (List.nodup_cons.mp hnd2).2
      have hxn : x ∉ nz xs := (List.nodup_cons.mp hnd2).1
      have hA' : (A.erase x).Nodup := hA.erase x
      obtain ⟨a, b, c⟩ := ih (A.erase x) d hA' (by
        intro s hs h0
        have : s ≠ x := by
          intro e; subst e; exact hxn (mem_nz.mpr ⟨hs, h0⟩)
        exact (List.Nodup.mem_erase_iff hA).mpr ⟨this, hsub s (List.mem_cons_of_mem _ hs) h0⟩) hnd'
      refine ⟨a, b, fun s => ?_⟩
      rw [c, List.Nodup.mem_erase_iff hA]
      constructor
      · rintro ⟨⟨h1, h2⟩, h3⟩; refine ⟨h2, ?_⟩; rintro ⟨h4, h5⟩
        rcases List.mem_cons.mp h4 with h6 | h6
        · exact h1 h6
        · exact h3 ⟨h6, h5⟩
      · rintro ⟨h1, h2⟩
        refine ⟨⟨?_, h1⟩, fun ⟨h3, h4⟩ => h2 ⟨List.mem_cons_of_mem _ h3, h4⟩⟩
        intro e; subst e; exact h2 ⟨List.mem_cons_self, hx⟩

end BbRe.Lemmas.FilePool
