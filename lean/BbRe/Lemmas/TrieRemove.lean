/-
bb-storage `InstanceNameTrie.Remove` (Model/Trie.lean `Node.remove`): the cut point computed by
the loop removes exactly the value-less chain that ends in the removed key.
-/
import BbRe.Lemmas.TrieNode
namespace BbRe.Lemmas.TrieRemove
open BbRe.Model.Trie BbRe.Model.Trie.Node BbRe.Lemmas.TrieAssoc BbRe.Lemmas.TrieNode
open BbRe.Spec.PrefixMap (Comp)

theorem modifyAt_nil (n : Node) (f : Node → Node) : modifyAt n [] f = f n := rfl
theorem modifyAt_cons (n : Node) (c : Comp) (cs : List Comp) (f : Node → Node) :
    modifyAt n (c :: cs) f = match n.child? c with
      | none => n
      | some ch => .mk n.value (aput c (modifyAt ch cs f) n.kids) := rfl

theorem val_modifyAt_off (n : Node) (p : List Comp) (f : Node → Node) (q : List Comp)
    (h : ¬ p <+: q) : val (modifyAt n p f) q = val n q := by
  induction p generalizing n q with
  | nil => exact absurd List.nil_prefix h
  | cons c cs ih =>
    rw [modifyAt_cons]
    cases hc : n.child? c with
    | none => rfl
    | some ch =>
      cases q with
      | nil => rfl
      | cons d ds =>
        show val (Node.mk _ _) _ = _
        rw [val_cons, val_cons, child?_mk]
        by_cases hd : d = c
        · subst hd
          rw [aget_aput_self, hc]
          exact ih ch ds fun hp => h (List.cons_prefix_cons.2 ⟨rfl, hp⟩)
        · rw [aget_aput_ne hd]; rfl

theorem val_modifyAt_on (n : Node) (p : List Comp) (f : Node → Node) {m : Node}
    (hm : at? n p = some m) (r : List Comp) : val (modifyAt n p f) (p ++ r) = val (f m) r := by
  induction p generalizing n with
  | nil => cases hm; rfl
  | cons c cs ih =>
    rw [at?_cons] at hm
    rw [modifyAt_cons]
    cases hc : n.child? c with
    | none => rw [hc] at hm; cases hm
    | some ch =>
      rw [hc] at hm
      show val (Node.mk _ _) (c :: (cs ++ r)) = _
      rw [val_cons, child?_mk, aget_aput_self]
      exact ih ch hm

theorem wfSub_modifyAt {n : Node} (p : List Comp) (f : Node → Node) (h : WFSub n)
    (hf : ∀ m, at? n p = some m → WFSub (f m)) : WFSub (modifyAt n p f) := by
  induction p generalizing n with
  | nil => exact hf n rfl
  | cons c cs ih =>
    rw [modifyAt_cons]
    cases hc : n.child? c with
    | none => exact h
    | some ch =>
      refine h.toRoot.put (ih (h.toRoot.2 c ch hc) fun m hm => hf m ?_) c
      rw [at?_cons, hc]; exact hm

theorem wfRoot_modifyAt_cons {n : Node} (c : Comp) (cs : List Comp) (f : Node → Node) (h : WFRoot n)
    (hf : ∀ m, at? n (c :: cs) = some m → WFSub (f m)) : WFRoot (modifyAt n (c :: cs) f) := by
  rw [modifyAt_cons]
  cases hc : n.child? c with
  | none => exact h
  | some ch =>
    refine (h.put (wfSub_modifyAt cs f (h.2 c ch hc) fun m hm => hf m ?_) c).toRoot
    rw [at?_cons, hc]; exact hm

/-- all nodes on the way down `p` from `n` (the last one excluded) are value-less and have at
most one child, i.e. they do not move the cut point. -/
def NQ : Node → List Comp → Prop
  | _, [] => True
  | n, c :: cs => qual n = false ∧ ∃ ch, n.child? c = some ch ∧ NQ ch cs

theorem removeWalk_eq (n : Node) (c : Comp) (cs : List Comp) (depth : Nat) (cut : Option Nat) :
    removeWalk n c cs depth cut =
      match n.child? c with
      | none => none
      | some ch =>
        match cs with
        | [] => some ((match cut with | none => depth | some x => if qual n then depth else x), ch.kids.isEmpty)
        | d :: ds => removeWalk ch d ds (depth + 1)
            (some (match cut with | none => depth | some x => if qual n then depth else x)) := by
  conv => lhs; unfold removeWalk
  cases n.child? c with
  | none => rfl
  | some ch => cases cs <;> rfl

/-- `mapDelete == nil` on entry behaves like a cut point at the current depth. -/
theorem removeWalk_none (n : Node) (c : Comp) (cs : List Comp) (depth : Nat) :
    removeWalk n c cs depth none = removeWalk n c cs depth (some depth) := by
  rw [removeWalk_eq, removeWalk_eq]; simp only [ite_self]

theorem removeWalk_none_iff (n : Node) (c : Comp) (cs : List Comp) (depth : Nat) (cut : Option Nat) :
    removeWalk n c cs depth cut = none ↔ at? n (c :: cs) = none := by
  induction cs generalizing n c depth cut with
  | nil =>
    rw [removeWalk_eq, at?_cons]
    cases n.child? c with
    | none => exact ⟨fun _ => rfl, fun _ => rfl⟩
    | some ch => exact ⟨nofun, nofun⟩
  | cons d ds ih =>
    rw [removeWalk_eq, at?_cons]
    cases n.child? c with
    | none => exact ⟨fun _ => rfl, fun _ => rfl⟩
    | some ch => exact ih ch d _ _

/-- where the walk cuts: the path splits as `pre ++ cj :: post`, from the child `y` (under `cj`) of
the node `nj` at `pre` down `post` to the last node `m` nothing qualifies, and either `nj` does
(the cut point is its depth) or nothing on the whole way does (`pre = []`, the inherited cut
point `x` stays). -/
theorem removeWalk_spec (n : Node) (c : Comp) (cs : List Comp) (depth x : Nat)
    (r : Nat) (leaf : Bool) (h : removeWalk n c cs depth (some x) = some (r, leaf)) :
    ∃ pre cj post nj y m, c :: cs = pre ++ cj :: post ∧ at? n pre = some nj ∧
      nj.child? cj = some y ∧ NQ y post ∧ at? y post = some m ∧ leaf = m.kids.isEmpty ∧
      ((qual nj = true ∧ r = depth + pre.length) ∨ (pre = [] ∧ qual n = false ∧ r = x)) := by
  induction cs generalizing n c depth x with
  | nil =>
    rw [removeWalk_eq] at h
    cases hc : n.child? c with
    | none => rw [hc] at h; cases h
    | some ch =>
      rw [hc] at h; cases h
      refine ⟨[], c, [], n, ch, ch, rfl, rfl, hc, trivial, rfl, rfl, ?_⟩
      cases qual n with
      | true => exact Or.inl ⟨rfl, rfl⟩
      | false => exact Or.inr ⟨rfl, rfl, rfl⟩
  | cons d ds ih =>
    rw [removeWalk_eq] at h
    cases hc : n.child? c with
    | none => rw [hc] at h; cases h
    | some ch =>
      rw [hc] at h
      obtain ⟨pre, cj, post, nj, y, m, hdec, hnj, hy, hnq, hm, hl, hcase⟩ :=
        ih ch d (depth + 1) _ h
      rcases hcase with ⟨hq, hr⟩ | ⟨rfl, hqc, hr⟩
      · refine ⟨c :: pre, cj, post, nj, y, m, by rw [hdec]; rfl, ?_, hy, hnq, hm, hl,
          Or.inl ⟨hq, by rw [hr, List.length_cons, Nat.add_assoc, Nat.add_comm 1]⟩⟩
        rw [at?_cons, hc]; exact hnj
      · cases hnj
        refine ⟨[], c, cj :: post, n, ch, m, by rw [hdec]; rfl, rfl, hc, ⟨hqc, y, hy, hnq⟩, ?_, hl, ?_⟩
        · rw [at?_cons, hy]; exact hm
        · cases hq : qual n with
          | true => rw [hq] at hr; exact Or.inl ⟨rfl, hr⟩
          | false => rw [hq] at hr; exact Or.inr ⟨rfl, rfl, hr⟩

/-- below a node `x` whose way down `post` only passes value-less single-child nodes and ends in
a leaf, nothing but `post` itself can carry a value. -/
theorem chain_val {x m : Node} {post : List Comp} (hwf : WFSub x) (hnq : NQ x post)
    (hm : at? x post = some m) (hleaf : m.kids = []) (q : List Comp) (hq : q ≠ post) :
    val x q = -1 := by
  induction post generalizing x q with
  | nil =>
    cases hm
    cases q with
    | nil => exact absurd rfl hq
    | cons e es => exact val_of_kids_nil hleaf e es
  | cons d ds ih =>
    obtain ⟨hqual, ch, hch, hnq'⟩ := hnq
    rw [at?_cons, hch] at hm
    have hx := (wfSub_iff x).1 hwf
    have ⟨h1, h2⟩ := Bool.or_eq_false_iff.1 hqual
    cases q with
    | nil =>
      exact Int.le_antisymm (Int.le_sub_one_of_lt (Int.not_le.1 (of_decide_eq_false h1))) hx.1.1
    | cons e es =>
      by_cases he : e = d
      · subst he
        rw [val_cons_some hch]
        exact ih (hx.2.2 e ch hch) hnq' hm es fun h => hq (by rw [h])
      · exact val_cons_none
          (aget_eq_none_of_length_le_one (Nat.le_of_not_lt (of_decide_eq_false h2)) hch he) es

theorem remove_nil (root : Node) :
    remove root [] = some (Node.mk (-1) root.kids, root.kids.isEmpty) := rfl

theorem remove_cons (root : Node) (c : Comp) (cs : List Comp) :
    remove root (c :: cs) =
      match removeWalk root c cs 0 none with
      | none => none
      | some (cut, true) =>
        some (delEdge root ((c :: cs).take cut) ((c :: cs).getD cut 0),
              isEmptyTrie (delEdge root ((c :: cs).take cut) ((c :: cs).getD cut 0)))
      | some (_, false) =>
        some (setValueAt root (c :: cs) (-1), isEmptyTrie (setValueAt root (c :: cs) (-1))) := by
  rw [remove]
  cases removeWalk root c cs 0 none with
  | none => rfl
  | some x =>
    obtain ⟨cut, b⟩ := x
    cases b <;> rfl

/-- `Remove` dereferences nil exactly when the path leaves the trie. -/
theorem remove_none_iff (root : Node) (p : List Comp) : remove root p = none ↔ at? root p = none := by
  cases p with
  | nil => exact ⟨nofun, nofun⟩
  | cons c cs =>
    rw [remove_cons, ← removeWalk_none_iff root c cs 0 none]
    cases removeWalk root c cs 0 none with
    | none => exact ⟨fun _ => rfl, fun _ => rfl⟩
    | some x =>
      obtain ⟨cut, b⟩ := x
      cases b <;> exact ⟨nofun, nofun⟩

theorem isEmptyTrie_iff (r : Node) : isEmptyTrie r = true ↔ (r.value < 0 ∧ r.kids = []) := by
  simp [isEmptyTrie, List.isEmpty_iff]

/-- "more children underneath": the value of the node at `p` is reset. -/
theorem setValueAt_spec {root m : Node} {c : Comp} {cs : List Comp} (hwf : WFRoot root)
    (hm : at? root (c :: cs) = some m) (hk : m.kids ≠ []) :
    WFRoot (setValueAt root (c :: cs) (-1)) ∧
      ∀ q, val (setValueAt root (c :: cs) (-1)) q = if q = c :: cs then -1 else val root q := by
  have hmw := (wfSub_iff m).1 (hwf.sub_at (List.cons_ne_nil c cs) hm)
  constructor
  · refine wfRoot_modifyAt_cons c cs _ hwf fun m' hm' => ?_
    cases hm.symm.trans hm'
    exact (wfSub_iff _).2 ⟨⟨Int.le_refl _, hmw.1.2⟩, fun h => absurd h hk, hmw.2.2⟩
  · intro q
    by_cases hpq : (c :: cs) <+: q
    · obtain ⟨t, rfl⟩ := hpq
      rw [setValueAt, val_modifyAt_on root _ _ hm t, val_append_some hm]
      cases t with
      | nil => rw [List.append_nil, if_pos rfl]; rfl
      | cons d ds => rw [if_neg fun e => List.cons_ne_nil d ds (List.append_right_eq_self.1 e)]; rfl
    · rw [if_neg fun e => hpq (by rw [e]; exact List.prefix_refl _)]
      exact val_modifyAt_off root _ _ q hpq

/-- "no further children underneath": the edge `cj` below the node at `pre` is deleted, where
`pre ++ cj :: post` is the removed path and `pre` the cut point of `removeWalk_spec`. -/
theorem delEdge_spec {root nj y m : Node} {pre post : List Comp} {cj : Comp} (hwf : WFRoot root)
    (hnj : at? root pre = some nj) (hq : qual nj = true ∨ pre = []) (hy : nj.child? cj = some y)
    (hnq : NQ y post) (hm : at? y post = some m) (hk : m.kids = []) :
    WFRoot (delEdge root pre cj) ∧
      ∀ q, val (delEdge root pre cj) q = if q = pre ++ cj :: post then -1 else val root q := by
  have hyw : WFSub y := by
    refine hwf.sub_at (List.append_ne_nil_of_right_ne_nil pre (List.cons_ne_nil cj [])) ?_
    rw [at?_append, hnj]; show at? nj [cj] = _
    rw [at?_cons, hy]; rfl
  constructor
  · cases pre with
    | nil => cases hnj; exact hwf.del cj
    | cons a pre' =>
      refine wfRoot_modifyAt_cons a pre' _ hwf fun m' hm' => ?_
      cases hnj.symm.trans hm'
      have hw := hwf.sub_at (List.cons_ne_nil a pre') hnj
      have hd := hw.toRoot.del cj
      refine (wfSub_iff _).2 ⟨hd.1, fun hk' => ?_, hd.2⟩
      rcases hq with hq | hq
      · exact (Bool.or_eq_true_iff.1 hq).elim of_decide_eq_true fun hl =>
          absurd hk' (adel_ne_nil_of_length_gt_one hw.toRoot.1.2 (of_decide_eq_true hl))
      · cases hq
  · intro q
    by_cases hpq : pre <+: q
    · obtain ⟨t, rfl⟩ := hpq
      rw [delEdge, val_modifyAt_on root pre _ hnj t, val_append_some hnj]
      simp only [List.append_cancel_left_eq]
      cases t with
      | nil => exact (if_neg nofun).symm
      | cons d ds =>
        rw [val_cons, val_cons, child?_mk]
        by_cases hdc : d = cj
        · subst hdc
          rw [aget_adel_self, hy]
          by_cases hds : ds = post
          · rw [hds, if_pos rfl]
          · rw [if_neg fun e => hds (List.cons.inj e).2]
            exact (chain_val hyw hnq hm hk ds hds).symm
        · rw [aget_adel_ne hdc, if_neg fun e => hdc (List.cons.inj e).1]; rfl
    · rw [if_neg fun e => hpq (by rw [e]; exact List.prefix_append _ _)]
      exact val_modifyAt_off root pre _ q hpq

theorem getD_append_length (pre : List Comp) (c : Comp) (post : List Comp) :
    (pre ++ c :: post).getD pre.length 0 = c := by
  rw [List.getD_eq_getElem?_getD, List.getElem?_append_right (Nat.le_refl _), Nat.sub_self]; rfl

/-- what `Remove` does to a well-formed trie when it does not panic: the value at `p` is gone,
every other path keeps its value, the result is well-formed (pruned), and the returned flag says
whether the trie is now empty. -/
theorem remove_spec {root r : Node} {emp : Bool} (p : List Comp) (hwf : WFRoot root)
    (h : remove root p = some (r, emp)) :
    WFRoot r ∧ (∀ q, val r q = if q = p then -1 else val root q) ∧
      (emp = true ↔ (r.value < 0 ∧ r.kids = [])) := by
  cases p with
  | nil =>
    cases h
    refine ⟨⟨⟨Int.le_refl _, hwf.1.2⟩, hwf.2⟩, fun q => ?_, ?_⟩
    · cases q with
      | nil => rfl
      | cons d ds => rfl
    · exact ⟨fun he => ⟨(by decide : (-1 : Int) < 0), List.isEmpty_iff.1 he⟩, fun he => List.isEmpty_iff.2 he.2⟩
  | cons c cs =>
    rw [remove_cons] at h
    cases hw : removeWalk root c cs 0 none with
    | none => rw [hw] at h; cases h
    | some x =>
      obtain ⟨cut, leaf⟩ := x
      rw [hw] at h
      have hw' := hw
      rw [removeWalk_none] at hw'
      obtain ⟨pre, cj, post, nj, y, m, hdec, hnj, hy, hnq, hmy, hleaf, hcase⟩ :=
        removeWalk_spec _ _ _ _ _ _ _ hw'
      have hcut : cut = pre.length :=
        hcase.elim (fun h => h.2.trans (Nat.zero_add _)) fun h => by rw [h.1]; exact h.2.2
      have hq : qual nj = true ∨ pre = [] := hcase.elim (fun h => Or.inl h.1) fun h => Or.inr h.1
      have hm : at? root (c :: cs) = some m := by
        rw [hdec, at?_append, hnj]; show at? nj (cj :: post) = _
        rw [at?_cons, hy]; exact hmy
      cases leaf with
      | false =>
        cases h
        have hk : m.kids ≠ [] := fun hk => by rw [hk] at hleaf; cases hleaf
        exact ⟨(setValueAt_spec hwf hm hk).1, (setValueAt_spec hwf hm hk).2, isEmptyTrie_iff _⟩
      | true =>
        cases h
        rw [hdec, hcut, List.take_left, getD_append_length]
        have hs := delEdge_spec hwf hnj hq hy hnq hmy (List.isEmpty_iff.1 hleaf.symm)
        exact ⟨hs.1, hs.2, isEmptyTrie_iff _⟩

end BbRe.Lemmas.TrieRemove
