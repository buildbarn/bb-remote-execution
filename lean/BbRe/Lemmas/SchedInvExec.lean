import BbRe.Lemmas.SchedInvStream
/-! `Execute`, `WaitExecution` and the continuation of a parked stream. -/
namespace BbRe.Lemmas.SchedInv
open BbRe.Sched

def isSel : Event → Bool
  | .selSelect _ => true
  | .selAbandoned => true
  | _ => false

def selCount (evs : List Event) : Nat := evs.countP isSel

/-- no `execute` instruction -/
def NoExec : Event → Prop
  | .syncExecute _ _ _ _ => False
  | _ => True

theorem Quiet.noExec {e : Event} (h : Quiet e) : NoExec e := by cases e <;> simp_all [Quiet, NoExec]
theorem Quiet.notSel {e : Event} (h : Quiet e) : isSel e = false := by cases e <;> simp_all [Quiet, isSel]

theorem Ext.selCount_eq {a b : List Event} (h : Ext Quiet a b) : selCount b = selCount a := by
  obtain ⟨new, rfl, hn⟩ := h
  unfold selCount
  rw [List.countP_append]
  have : List.countP isSel new = 0 := by
    rw [List.countP_eq_zero]; intro e he; simp [(hn e he).notSel]
  omega

/-- the events of an `Execute` segment: no `execute` instruction, exactly one selector call -/
def EvSel (s s' : State) : Prop :=
  Ext NoExec s.events s'.events ∧ selCount s'.events = selCount s.events + 1

theorem EvSel.mk' {s s1 s2 s' : State} {e : Event} (h1 : Ext Quiet s.events s1.events)
    (h2 : s2.events = e :: s1.events) (he : isSel e = true) (hne : NoExec e)
    (h3 : Ext Quiet s2.events s'.events) : EvSel s s' := by
  constructor
  · have a := h1.mono (fun _ => Quiet.noExec)
    have b : Ext NoExec s1.events s2.events := by rw [h2]; exact Ext.cons (Ext.refl _ _) _ hne
    exact (a.trans b).trans (h3.mono (fun _ => Quiet.noExec))
  · rw [h3.selCount_eq, h2, ← h1.selCount_eq]
    simp [selCount, he]

/-- a new operation `nextOp` for the existing task `tid` -/
def addOpSt (s : State) (tid : Nat) (t : Task) (inv : List Nat) (prio : Int) : State :=
  { s with nextOp := s.nextOp + 1,
           ops := aset s.nextOp { name := s.nextOp, task := tid, inv := inv, prio := prio, waiters := 0,
                                  mayExistWithoutWaiters := false } s.ops,
           tasks := aset t.id { t with ops := t.ops ++ [s.nextOp] } s.tasks }

theorem fresh_stream {exo ts} {s : State} (ho : OInv exo ts s.ops s.nextOp) (hs : SInv s.ops s.streams s.cleanup) :
    s.streams.countP (fun st => st.op = s.nextOp) = 0 := by
  rw [List.countP_eq_zero]
  intro st hst
  have h3 := hs.s3 st hst
  cases ha : alookup st.op s.ops with
  | none => simp [ha] at h3
  | some op => have := (ho.oid _ _ ha).2; simp; omega

theorem addOpSt_inv {ex exo} {s : State} {tid : Nat} {t : Task} {inv : List Nat} {prio : Int}
    (hI : InvX ex exo s) (ht : alookup tid s.tasks = some t) : InvX ex exo (addOpSt s tid t inv prio) := by
  have hid : t.id = tid := (hI.core.tid tid t ht).1
  have ht' : alookup t.id s.tasks = some t := by rw [hid]; exact ht
  have hc := hI.core
  have ho := hI.oinv
  have hs := hI.sinv
  refine ⟨?_, ?_, ?_, hI.linv.setTask (t := { t with ops := t.ops ++ [s.nextOp] }) ht' (Or.inl rfl)⟩
  · rw [← hid] at ht; exact hc.setTask_same ht rfl
  · simp only [addOpSt]
    constructor
    · exact nodup_aset _ _ _ ho.ond
    · intro k op; rw [alookup_aset]; split
      · rename_i hk; intro e; cases e; exact ⟨hk, by omega⟩
      · intro hk; have := ho.oid k op hk; exact ⟨this.1, by omega⟩
    · intro k op; rw [alookup_aset]; split
      · rename_i hk; intro e; cases e
        exact ⟨_, by rw [alookup_aset, if_pos hid], by simp [hk]⟩
      · intro hk
        obtain ⟨t', h1, h2⟩ := ho.o1 k op hk
        rw [alookup_aset, hid]
        by_cases hkt : tid = op.task
        · rw [if_pos hkt]; rw [← hkt, ht] at h1; cases h1
          exact ⟨_, rfl, by simp [h2]⟩
        · rw [if_neg hkt]; exact ⟨t', h1, h2⟩
    · intro k t' o; rw [alookup_aset, hid]; split
      · rename_i hk; intro e; cases e; intro hm
        simp only [List.mem_append, List.mem_singleton] at hm
        rcases hm with hm | hm
        · obtain ⟨a, b⟩ := ho.o2 tid t o ht hm
          refine ⟨by omega, ?_⟩
          rcases b with b | ⟨op, e1, e2⟩
          · exact Or.inl b
          · right; exact ⟨op, by rw [alookup_aset, if_neg (by omega)]; exact e1, by rw [← hk]; exact e2⟩
        · subst hm
          exact ⟨by omega, Or.inr ⟨_, by rw [alookup_aset, if_pos rfl], hk⟩⟩
      · intro hk hm
        obtain ⟨a, b⟩ := ho.o2 k t' o hk hm
        refine ⟨by omega, ?_⟩
        rcases b with b | ⟨op, e1, e2⟩
        · exact Or.inl b
        · right; exact ⟨op, by rw [alookup_aset, if_neg (by omega)]; exact e1, e2⟩
    · intro k t'; rw [alookup_aset]; split
      · intro e; cases e
        have h3 := ho.o3 tid t ht
        refine ⟨?_, by simp⟩
        rw [List.nodup_append]
        refine ⟨h3.1, by simp, ?_⟩
        intro a ha b hb
        simp only [List.mem_singleton] at hb; subst hb
        have := (ho.o2 tid t a ht ha).1
        omega
      · exact ho.o3 k t'
  · simp only [addOpSt]
    constructor
    · intro k op; rw [alookup_aset]; split
      · rename_i hk; intro e; cases e; subst hk
        rw [fresh_stream ho hs]; exact Nat.le_refl _
      · exact hs.s1 k op
    · intro k op e; rw [alookup_aset]; split
      · intro e'; cases e'; intros; rfl
      · exact hs.s2 k op e
    · intro st hst; have := hs.s3 st hst; rw [alookup_aset]; split
      · rfl
      · exact this

def newTask (s : State) (digest dkey : Nat) (dnc : Bool) (q : ScqId) : Task :=
  { id := s.nextTask, digest := digest, dkey := dkey, doNotCache := dnc, scq := q, ops := [s.nextOp],
    worker := none, retry := 0, response := none, gen := 0, learner := some s.nextLearner,
    background := false, queued := false }

def newOp (s : State) (inv : List Nat) (prio : Int) : Op :=
  { name := s.nextOp, task := s.nextTask, inv := inv, prio := prio, waiters := 0, mayExistWithoutWaiters := false }

/-- the state `Execute` hands to `schedule` when it creates a task -/
def newTaskSt (s : State) (digest dkey : Nat) (dnc : Bool) (q : ScqId) (inv : List Nat) (prio : Int) : State :=
  { s with nextLearner := s.nextLearner + 1, events := .selSelect s.nextLearner :: s.events,
           nextTask := s.nextTask + 1, nextOp := s.nextOp + 1,
           dedup := if dnc then s.dedup else aset dkey s.nextTask s.dedup,
           tasks := aset s.nextTask (newTask s digest dkey dnc q) s.tasks,
           ops := aset s.nextOp (newOp s inv prio) s.ops }

theorem newTaskSt_core {s : State} {digest dkey : Nat} {dnc : Bool} {q : ScqId}
    (hc : Core (fun _ => False) s.tasks s.workers s.dedup s.nextTask s.nextLearner)
    (hnone : alookup dkey s.dedup = none) :
    Core (fun k => k = s.nextTask) (aset s.nextTask (newTask s digest dkey dnc q) s.tasks) s.workers
      (if dnc then s.dedup else aset dkey s.nextTask s.dedup) (s.nextTask + 1) (s.nextLearner + 1) := by
  refine hc.insertTask (t := newTask s digest dkey dnc q) rfl rfl rfl rfl rfl (fun h => nomatch h) ?_
  cases dnc
  · exact Or.inr ⟨rfl, hnone, rfl, rfl⟩
  · exact Or.inl ⟨rfl, Or.inl rfl⟩

theorem newTaskSt_inv {s : State} {digest dkey : Nat} {dnc : Bool} {q : ScqId} {inv : List Nat} {prio : Int}
    (hI : Inv s) (hnone : alookup dkey s.dedup = none) :
    InvX (fun k => k = s.nextTask) (fun _ => False) (newTaskSt s digest dkey dnc q inv prio) := by
  have hc := hI.core
  have ho := hI.oinv
  have hs := hI.sinv
  refine ⟨newTaskSt_core hc hnone, ?_, ?_, ?_⟩
  · simp only [newTaskSt]
    constructor
    · exact nodup_aset _ _ _ ho.ond
    · intro k op; rw [alookup_aset]; split
      · rename_i hk; intro e; cases e; exact ⟨hk, by omega⟩
      · intro hk; have := ho.oid k op hk; exact ⟨this.1, by omega⟩
    · intro k o; rw [alookup_aset]; split
      · rename_i hk; intro e; cases e
        exact ⟨newTask s digest dkey dnc q, by rw [alookup_aset]; simp [newOp], by simp [newTask, hk]⟩
      · intro hk
        obtain ⟨t', h1, h2⟩ := ho.o1 k o hk
        have hne : ¬ s.nextTask = o.task := by have := hc.tid _ _ h1; omega
        exact ⟨t', by rw [alookup_aset, if_neg hne]; exact h1, h2⟩
    · intro k t' o; rw [alookup_aset]; split
      · rename_i hk; intro e; cases e; intro hm
        simp only [newTask, List.mem_singleton] at hm; subst hm
        exact ⟨by omega, Or.inr ⟨newOp s inv prio, by rw [alookup_aset]; simp, hk⟩⟩
      · intro hk hm
        obtain ⟨a, b⟩ := ho.o2 k t' o hk hm
        refine ⟨by omega, ?_⟩
        rcases b with b | ⟨op, e1, e2⟩
        · exact Or.inl b
        · right; exact ⟨op, by rw [alookup_aset, if_neg (by omega)]; exact e1, e2⟩
    · intro k t'; rw [alookup_aset]; split
      · intro e; cases e; simp [newTask]
      · exact ho.o3 k t'
  · simp only [newTaskSt]
    constructor
    · intro k op; rw [alookup_aset]; split
      · rename_i hk; intro e; cases e; subst hk
        rw [fresh_stream ho hs]; exact Nat.zero_le _
      · exact hs.s1 k op
    · intro k op e; rw [alookup_aset]; split
      · intro e'; cases e'; intros; rfl
      · exact hs.s2 k op e
    · intro st hst; have := hs.s3 st hst; rw [alookup_aset]; split
      · rfl
      · exact this
  · simp only [newTaskSt]
    refine hI.linv.issue (by intro l'; simp) (by intro l'; simp) ?_
    intro l' hl'
    rcases hl'.aset with h | ⟨k', t', _, h1, h2⟩
    · right; simpa [newTask] using h.symm
    · left; exact ⟨k', t', h1, h2⟩

theorem newTaskSt_mono (s : State) (digest dkey : Nat) (dnc : Bool) (q : ScqId) (inv : List Nat) (prio : Int) :
    Mono s (newTaskSt s digest dkey dnc q inv prio) := by
  refine ⟨rfl, Nat.le_succ _, Nat.le_succ _, Nat.le_succ _, ?_, Ext.refl _ _⟩
  intro k hk
  refine ⟨Nat.lt_succ_of_lt hk.1, ?_⟩
  intro t'
  simp only [newTaskSt]
  rw [alookup_aset, if_neg (by have := hk.1; omega)]
  exact hk.2 t'

/-- `Execute` after `bq.enter` -/
def execBody (h : Hints) (s : State) (c digest dkey : Nat) (dnc : Bool) (comps : List Nat)
    (platform : Nat) (inv : List Nat) (prio : Int) : M State := do
  match alookup dkey s.dedup with
  | some tid =>
    let some t := s.task? tid | throw "dedup map points to a missing task"
    let s := emit s .selAbandoned
    match t.ops.find? (fun o => match s.op? o with | some op => op.inv = inv | none => false) with
    | some o => streamAttach s c o
    | none =>
      if t.response.isSome then throw "Task in unexpected stage"
      let opn := s.nextOp
      let s := { s with nextOp := opn + 1 }
      let s := s.setOp { name := opn, task := tid, inv := inv, prio := prio, waiters := 0, mayExistWithoutWaiters := false }
      let s := s.setTask { t with ops := t.ops ++ [opn] }
      streamAttach s c opn
  | none =>
    match route s comps platform with
    | none =>
      let s := emit s .selAbandoned
      return emit s (.ret c (if s.now < s.cfg.hardFailTime then cUnavailable else cFailedPrecondition))
    | some pq =>
      let sizes := s.sizes pq.id
      let some sc := sizes[min h.sel (sizes.length - 1)]? | throw "platform queue without size classes"
      let l := s.nextLearner
      let s := emit { s with nextLearner := l + 1 } (.selSelect l)
      let tid := s.nextTask
      let opn := s.nextOp
      let t : Task := { id := tid, digest := digest, dkey := dkey, doNotCache := dnc, scq := ⟨pq.id, sc⟩, ops := [opn], worker := none, retry := 0, response := none, gen := 0, learner := some l, background := false, queued := false }
      let s := { s with nextTask := tid + 1, nextOp := opn + 1 }
      let s := if dnc then s else { s with dedup := aset dkey tid s.dedup }
      let s := (s.setTask t).setOp { name := opn, task := tid, inv := inv, prio := prio, waiters := 0, mayExistWithoutWaiters := false }
      let s ← schedule h s tid
      streamAttach s c opn

theorem execArrive_eq (h : Hints) (s : State) (now c digest dkey : Nat) (dnc : Bool) (comps : List Nat)
    (platform : Nat) (inv : List Nat) (prio : Int) :
    execArrive h s now c digest dkey dnc comps platform inv prio =
      (enter h s now >>= fun s => execBody h s c digest dkey dnc comps platform inv prio) := rfl

/-- postcondition of an `Execute` segment -/
def ExecPost (s s' : State) : Prop := Inv s' ∧ Mono s s' ∧ EvSel s s'

theorem execBody_hit_spec {s : State} {c tid : Nat} {t : Task} {inv : List Nat} {prio : Int} (hI : Inv s)
    (ht : alookup tid s.tasks = some t) (hr : t.response = none) :
    wp (match t.ops.find? (fun o => match (emit s .selAbandoned).op? o with | some op => op.inv = inv | none => false) with
        | some o => streamAttach (emit s .selAbandoned) c o
        | none =>
          streamAttach (addOpSt (emit s .selAbandoned) tid t inv prio) c s.nextOp)
      (fun s' => ExecPost s s' ∧ s'.nextTask = s.nextTask ∧
        ∃ st t', st ∈ s'.streams ∧ st.client = c ∧ alookup tid s'.tasks = some t' ∧ st.op ∈ t'.ops) := by
  have hI1 : Inv (emit s .selAbandoned) :=
    ⟨hI.core, hI.oinv, hI.sinv, hI.linv.emit _ (fun _ => ⟨rfl, rfl⟩)⟩
  have hev1 : (emit s .selAbandoned).events = .selAbandoned :: s.events := rfl
  split
  · rename_i o hf
    have hp := List.find?_some hf
    cases hop : alookup o (emit s .selAbandoned).ops with
    | none => simp only [op?_def, hop] at hp; cases hp
    | some op =>
      have hmem : o ∈ t.ops := List.mem_of_find?_eq_some hf
      have hot : op.task = tid := by
        rcases (hI.oinv.o2 tid t o ht hmem).2 with b | ⟨op', e1, e2⟩
        · exact absurd b id
        · have : alookup o s.ops = some op := hop
          rw [this] at e1; cases e1; exact e2
      refine wp_mono (streamAttach_spec hI1 hop) ?_
      intro s' ⟨hI', hsf, hev, hlive⟩
      have hfr := hsf.fr hev
      obtain ⟨st, hst1, hst2, hst3⟩ := hlive t (by rw [hot]; exact ht) hr
      obtain ⟨os, sts, cl, evs, he⟩ := hsf
      refine ⟨⟨hI', ?_, EvSel.mk' (s1 := s) (Ext.refl _ _) hev1 rfl trivial hev⟩, by rw [he]; rfl,
        st, t, hst1, hst2, by rw [he]; exact ht, by rw [hst3]; exact hmem⟩
      exact Mono.trans (show Mono s (emit s .selAbandoned) from
        ⟨rfl, Nat.le_refl _, Nat.le_refl _, Nat.le_refl _, fun k hk => hk, Ext.refl _ _⟩) hfr.toMono
  · have hI2 := addOpSt_inv (inv := inv) (prio := prio) hI1 ht
    have hop : alookup s.nextOp (addOpSt (emit s .selAbandoned) tid t inv prio).ops =
        some { name := s.nextOp, task := tid, inv := inv, prio := prio, waiters := 0, mayExistWithoutWaiters := false } := by
      simp only [addOpSt, emit]; rw [alookup_aset, if_pos rfl]
    have hid : t.id = tid := (hI.core.tid tid t ht).1
    have ht2 : alookup tid (addOpSt (emit s .selAbandoned) tid t inv prio).tasks =
        some { t with ops := t.ops ++ [s.nextOp] } := by
      simp only [addOpSt, emit]; rw [alookup_aset, if_pos hid]
    refine wp_mono (streamAttach_spec hI2 hop) ?_
    intro s' ⟨hI', hsf, hev, hlive⟩
    have hfr := hsf.fr hev
    obtain ⟨st, hst1, hst2, hst3⟩ := hlive _ ht2 hr
    obtain ⟨os, sts, cl, evs, he⟩ := hsf
    refine ⟨⟨hI', ?_, EvSel.mk' (s1 := s) (s2 := addOpSt (emit s .selAbandoned) tid t inv prio) (Ext.refl _ _) hev1 rfl trivial hev⟩,
      by rw [he]; rfl, st, _, hst1, hst2, by rw [he]; exact ht2, by rw [hst3]; simp⟩
    refine Mono.trans (show Mono s (addOpSt (emit s .selAbandoned) tid t inv prio) from
      ⟨rfl, Nat.le_refl _, Nat.le_refl _, Nat.le_succ _, ?_, Ext.refl _ _⟩) hfr.toMono
    intro k hk
    refine ⟨hk.1, ?_⟩
    intro t'
    simp only [addOpSt, emit]
    rw [alookup_aset]
    split
    · rename_i hkk
      intro e; cases e
      rw [← hkk, hid] at hk
      exact hk.2 t ht
    · exact hk.2 t'


theorem execBody_new_spec {h : Hints} {s : State} {c digest dkey : Nat} {dnc : Bool} {q : ScqId}
    {inv : List Nat} {prio : Int} (hI : Inv s) (hnone : alookup dkey s.dedup = none) :
    wp (schedule h (newTaskSt s digest dkey dnc q inv prio) s.nextTask >>= fun s1 => streamAttach s1 c s.nextOp)
      (fun s' => ExecPost s s' ∧ s'.nextTask = s.nextTask + 1 ∧
        s'.dedup = (if dnc then s.dedup else aset dkey s.nextTask s.dedup) ∧
        ∃ t', alookup s.nextTask s'.tasks = some t' ∧ t'.dkey = dkey ∧ t'.doNotCache = dnc ∧
          t'.background = false ∧ t'.digest = digest) := by
  have hI3 := newTaskSt_inv (digest := digest) (dnc := dnc) (q := q) (inv := inv) (prio := prio) hI hnone
  have ht3 : alookup s.nextTask (newTaskSt s digest dkey dnc q inv prio).tasks =
      some (newTask s digest dkey dnc q) := by
    simp only [newTaskSt]; rw [alookup_aset, if_pos rfl]
  apply wp_bind
  refine wp_mono (schedule_spec (h := h) hI3 ht3 rfl rfl) ?_
  intro s1 ⟨hI1, hp⟩
  have hI1' : Inv s1 := hI1.mono (fun k hk => hk.2 hk.1) (fun _ h => h)
  have hfr1 := hp.fr ht3 rfl
  obtain ⟨ws, ts, asg, he⟩ := hp.same
  have hop : alookup s.nextOp s1.ops = some (newOp s inv prio) := by
    rw [he]; simp only [newTaskSt]; rw [alookup_aset, if_pos rfl]
  refine wp_mono (streamAttach_spec hI1' hop) ?_
  intro s' ⟨hI', hsf, hev, _⟩
  have hfr := hsf.fr hev
  obtain ⟨t1, ht1, he1, _⟩ := hp.tt
  obtain ⟨os, sts, cl, evs, he'⟩ := hsf
  refine ⟨⟨hI', ((newTaskSt_mono s digest dkey dnc q inv prio).trans hfr1.toMono).trans hfr.toMono, ?_⟩,
    by rw [he', he]; rfl, by rw [he', he]; rfl, t1, by rw [he']; exact ht1, by rw [he1]; rfl, by rw [he1]; rfl,
    by rw [he1]; rfl, by rw [he1]; rfl⟩
  exact EvSel.mk' (s1 := s) (s2 := newTaskSt s digest dkey dnc q inv prio) (Ext.refl _ _) rfl rfl trivial
    (hfr1.ev.trans hev)

theorem execBody_spec {h : Hints} {s : State} {c digest dkey : Nat} {dnc : Bool} {comps : List Nat}
    {platform : Nat} {inv : List Nat} {prio : Int} (hI : Inv s) :
    wp (execBody h s c digest dkey dnc comps platform inv prio) (fun s' => ExecPost s s') := by
  unfold execBody
  cases hd : alookup dkey s.dedup with
  | some tid =>
    dsimp only
    obtain ⟨t, ht, _, hr, _, _⟩ := hI.core.d1 dkey tid hd
    simp only [task?_def, ht]
    have hrs : ¬ t.response.isSome = true := by rw [hr]; simp
    have := execBody_hit_spec (c := c) (inv := inv) (prio := prio) hI ht hr
    refine wp_mono (Q := fun s' => ExecPost s s' ∧ s'.nextTask = s.nextTask ∧
        ∃ st t', st ∈ s'.streams ∧ st.client = c ∧ alookup tid s'.tasks = some t' ∧ st.op ∈ t'.ops) ?_ (fun s' h => h.1)
    split
    · rename_i o hf
      rw [hf] at this; exact this
    · rename_i hf
      rw [hf] at this
      rw [if_neg hrs]
      exact this
  | none =>
    dsimp only
    split
    · -- no platform queue
      rw [wp_pure]
      refine ⟨⟨hI.core, hI.oinv, hI.sinv, (hI.linv.emit _ (fun _ => ⟨rfl, rfl⟩)).emit _ (noLearn_ret _ _)⟩,
        ⟨rfl, Nat.le_refl _, Nat.le_refl _, Nat.le_refl _, fun k hk => hk, Ext.refl _ _⟩, ?_⟩
      exact EvSel.mk' (s := s) (s1 := s) (s2 := emit s .selAbandoned) (Ext.refl _ _) rfl rfl trivial
        (Ext.cons (Ext.refl _ _) _ trivial)
    · rename_i pq _
      split
      · rename_i sc _
        have := execBody_new_spec (h := h) (c := c) (digest := digest) (dnc := dnc) (q := ⟨pq.id, sc⟩)
          (inv := inv) (prio := prio) hI hd
        -- normalise the `let` chain first: otherwise the unifier compares it with `newTaskSt` by unfolding both
        cases dnc <;>
          simp only [emit, State.setTask, State.setOp, if_true, Bool.false_eq_true, if_false] <;>
          exact wp_mono this (fun s' h => h.1)
      · okerr

theorem execArrive_spec {h : Hints} {s : State} {now c digest dkey : Nat} {dnc : Bool} {comps : List Nat}
    {platform : Nat} {inv : List Nat} {prio : Int} (hI : Inv s) :
    wp (execArrive h s now c digest dkey dnc comps platform inv prio) (fun s' => ExecPost s s') := by
  rw [execArrive_eq]
  apply wp_bind
  refine wp_mono (enter_spec hI) ?_
  intro s0 ⟨hI0, hfr0⟩
  refine wp_mono (execBody_spec hI0) ?_
  intro s' ⟨hI', hm, hev⟩
  refine ⟨hI', hfr0.toMono.trans hm, ?_⟩
  constructor
  · exact (hfr0.ev.mono (fun _ => Quiet.noExec)).trans hev.1
  · rw [hev.2, hfr0.ev.selCount_eq]

/-- postcondition of the segments that emit only quiet events -/
def QuietPost (s s' : State) : Prop := Inv s' ∧ Fr s s'

theorem waitArrive_spec {h : Hints} {s : State} {now c name : Nat} (hI : Inv s) :
    wp (waitArrive h s now c name) (fun s' => QuietPost s s') := by
  unfold waitArrive
  apply wp_bind
  refine wp_mono (enter_spec hI) ?_
  intro s0 ⟨hI0, hfr0⟩
  cases hop : alookup name s0.ops with
  | none =>
    simp only [op?_def, hop, wp_pure]
    exact ⟨⟨hI0.core, hI0.oinv, hI0.sinv, hI0.linv.emit _ (noLearn_ret _ _)⟩,
      hfr0.trans (StreamFrame.fr ⟨_, _, _, _, rfl⟩ (Ext.cons (Ext.refl _ _) _ trivial))⟩
  | some op =>
    simp only [op?_def, hop]
    refine wp_mono (streamAttach_spec hI0 hop) ?_
    intro s' ⟨hI', hsf, hev, _⟩
    exact ⟨hI', hfr0.trans (hsf.fr hev)⟩

theorem streamWake_spec {h : Hints} {s : State} {now c reason : Nat} (hI : Inv s) :
    wp (streamWake h s now c reason) (fun s' => QuietPost s s') := by
  unfold streamWake
  apply wp_bind
  refine wp_mono (enter_spec hI) ?_
  intro s0 ⟨hI0, hfr0⟩
  cases hf : s0.streams.find? (fun x => x.client = c) with
  | none => okerr
  | some st =>
    dsimp only
    have hst : st ∈ s0.streams := List.mem_of_find?_eq_some hf
    have hstc : st.client = c := by simpa using List.find?_some hf
    have h3 := hI0.sinv.s3 st hst
    by_cases h2 : reason = 2
    · rw [if_pos h2]
      refine wp_mono (streamLeave_spec hI0) ?_
      intro s' ⟨hI', hsf, hev⟩
      exact ⟨hI', hfr0.trans (hsf.fr hev)⟩
    · rw [if_neg h2]
      cases hop : alookup st.op s0.ops with
      | none => rw [hop] at h3; cases h3
      | some op =>
        obtain ⟨t, ht, _⟩ := hI0.oinv.o1 _ op hop
        have hcnt := countP_filter_add_one (l := s0.streams) (p := fun x => decide (x.op = st.op))
          (q := fun x => decide (x.client ≠ c)) hst (by simp) (by simp [hstc])
        have h1 := hI0.sinv.s1 _ op hop
        have hsend : wp (streamSend s0 c st.op) (fun s' => QuietPost s s') := by
          refine wp_mono (streamSend_spec hI0 hop (by omega)) ?_
          intro s' ⟨hI', hsf, hev, _⟩
          exact ⟨hI', hfr0.trans (hsf.fr hev)⟩
        by_cases h0 : reason = 0
        · simp only [h0, if_true, op?_def, hop, task?_def, ht]
          by_cases hg : t.gen = st.snap
          · simp only [hg, if_true]; okerr
          · simp only [hg, if_false]; exact hsend
        · simp only [h0, if_false]; exact hsend

end BbRe.Lemmas.SchedInv
