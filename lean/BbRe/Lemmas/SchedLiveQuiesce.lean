import BbRe.Lemmas.SchedLiveWaiters3
import BbRe.Lemmas.SchedInvStep
import BbRe.Lemmas.SchedLiveSleep
/-!
Ingredients of the quiescence theorem (C06): background operations belong to
background tasks; `enter` and the cancelling wake-ups never fail in a reachable
state.
-/
namespace BbRe.Lemmas.SchedLive
open BbRe.Sched

/-! ### background operations belong to background tasks -/

def BgInv (s : State) : Prop :=
  ∀ o op, s.op? o = some op → op.mayExistWithoutWaiters = true → ∀ t, s.task? op.task = some t → t.background = true

theorem bgInv_step {s s' : State} {g : Seg} (hk : KeysOK s) (hb : BgInv s) (hstep : step s g = .ok s') : BgInv s' := by
  obtain ⟨_, rel⟩ := step_tstep hstep hk
  intro o op' e hm t' ht'
  by_cases hlt : o < s.nextOp
  · obtain ⟨op, e0, etask⟩ := rel.ops o op' hlt e
    have hm0 := rel.opm o op op' e0 e hm
    have hlt2 := (hk.oname o op e0).2.2
    rw [etask] at ht'
    obtain ⟨t, ht, le⟩ := rel.tasks _ t' hlt2 ht'
    rw [le.bg]; exact hb o op e0 hm0 t ht
  · exact rel.fresh o op' (by omega) e hm t' ht'

theorem bgInv_reachable {s : State} (hs : Reachable s) : BgInv s := by
  induction hs with
  | init cfg => intro o op e; simp [State.init, State.op?] at e
  | step g hr hstep ih => exact bgInv_step (keysOK_reachable hr) ih hstep

/-! ### `enter` never fails -/

/-- the only errors the cleanup loop could raise: dangling pointers (excluded by the invariants) -/
def CleanErr (e : String) : Prop :=
  e = "complete: no task" ∨ e = "complete: task without learner" ∨ e = "removeOp: no task"

theorem bind_err {α β} (x : M α) (f : α → M β) (e : String) :
    (x >>= f) = .error e ↔ x = .error e ∨ ∃ a, x = .ok a ∧ f a = .error e := by
  cases x <;> simp [bind, Except.bind]

theorem complete_fail_err {h : Hints} {s : State} {tid : Nat} {r : Resp} {e : String} (hns : ¬ isSucc r)
    (hh : complete h s tid r false = .error e) : CleanErr e := by
  rw [complete_eq] at hh
  cases ht : s.task? tid with
  | none => rw [ht] at hh; cases hh; exact .inl rfl
  | some t =>
    rw [ht] at hh; dsimp only at hh
    by_cases hr : t.response.isSome = true
    · rw [if_pos hr] at hh; cases hh
    · rw [if_neg hr] at hh
      cases hl : t.learner with
      | none => rw [hl] at hh; cases hh; exact .inr (.inl rfl)
      | some l =>
        -- not a success and not reported by the worker: the final branch, which cannot fail
        rw [hl] at hh; dsimp only at hh
        rw [if_neg hns] at hh
        cases hh

theorem foldlM_err {α} (P : String → Prop) (f : State → α → M State)
    (hf : ∀ s a e, f s a = .error e → P e) : ∀ (l : List α) (s : State) (e : String), l.foldlM f s = .error e → P e := by
  intro l
  induction l with
  | nil => intro s e h; simp [List.foldlM, pure, Except.pure] at h
  | cons a r ih =>
    intro s e h
    simp only [List.foldlM, bind_err] at h
    rcases h with h | ⟨s1, _, h⟩
    · exact hf _ _ _ h
    · exact ih _ _ h

theorem cancelAllQueued_err {h : Hints} {s : State} {q : ScqId} {r : Resp} {e : String} (hns : ¬ isSucc r)
    (hh : cancelAllQueued h s q r = .error e) : CleanErr e := by
  unfold cancelAllQueued at hh
  exact foldlM_err CleanErr _ (fun _ _ _ h' => complete_fail_err hns h') _ _ _ hh

theorem removeScq_err {h : Hints} {s : State} {q : ScqId} {e : String} (hh : removeScq h s q = .error e) : CleanErr e := by
  unfold removeScq at hh
  rw [bind_err] at hh
  rcases hh with hh | ⟨s1, _, hh⟩
  · exact cancelAllQueued_err (by simp [isSucc, cUnavailable, cOK]) hh
  · simp only [pure, Except.pure] at hh; split at hh <;> cases hh

theorem removeStaleWorker_err {h : Hints} {s : State} {q : ScqId} {w : WId} {rt : Nat} {e : String}
    (hh : removeStaleWorker h s q w rt = .error e) : CleanErr e := by
  unfold removeStaleWorker at hh
  split at hh
  · rename_i wk _
    cases ht : wk.task with
    | none =>
      simp only [ht, bind_err, pure, Except.pure] at hh
      rcases hh with hh | ⟨s1, _, hh⟩
      · cases hh
      · (repeat' split at hh) <;> cases hh
    | some t =>
      simp only [ht, bind_err] at hh
      rcases hh with hh | ⟨s1, _, hh⟩
      · exact complete_fail_err (by simp [isSucc, cUnavailable, cOK]) hh
      · simp only [pure, Except.pure] at hh; (repeat' split at hh) <;> cases hh
  · simp [pure, Except.pure] at hh

theorem removeOp_err {h : Hints} {s : State} {o : Nat} {e : String} (hh : removeOp h s o = .error e) : CleanErr e := by
  unfold removeOp at hh
  cases hop : s.op? o with
  | none => rw [hop] at hh; cases hh
  | some op =>
    rw [hop] at hh
    simp -zeta only at hh
    extract_lets s0 jp at hh
    cases ht : s0.task? op.task with
    | none => rw [ht] at hh; cases hh; exact .inr (.inr rfl)
    | some t =>
      rw [ht] at hh; dsimp only at hh
      have tail : ∀ s1, jp s1 = .error e → CleanErr e := by
        intro s1 h1
        simp only [jp] at h1
        cases ht1 : s1.task? op.task with
        | none => rw [ht1] at h1; cases h1; exact .inr (.inr rfl)
        | some t1 => rw [ht1] at h1; dsimp only at h1; split at h1 <;> cases h1
      by_cases hl : t.ops.length = 1
      · rw [if_pos hl, bind_err] at hh
        rcases hh with hh | ⟨s1, _, hh⟩
        · exact complete_fail_err (by simp [isSucc, cCanceled, cOK]) hh
        · exact tail s1 hh
      · rw [if_neg hl] at hh
        exact tail s0 hh

theorem callback_err {h : Hints} {s : State} {c : CleanupEntry} {e : String} (hh : callback h s c = .error e) :
    CleanErr e := by
  unfold callback at hh
  split at hh
  · exact removeStaleWorker_err hh
  · exact removeOp_err hh
  · exact removeScq_err hh

theorem runCleanup_err {h : Hints} (f : Nat) (s : State) {e : String} (hh : runCleanup h f s = .error e) : CleanErr e := by
  induction f generalizing s with
  | zero => rw [runCleanup_zero] at hh; cases hh
  | succ f ih =>
    rw [runCleanup_succ] at hh
    split at hh
    · cases hh
    · rw [bind_err] at hh
      rcases hh with hh | ⟨s1, _, hh⟩
      · exact callback_err hh
      · exact ih s1 hh

theorem cleanErr_not_ok {e : String} (h1 : CleanErr e) (h2 : BbRe.Lemmas.SchedInv.OkErr e) : False := by
  rcases h1 with rfl | rfl | rfl <;> simp [BbRe.Lemmas.SchedInv.OkErr, BbRe.Lemmas.SchedInv.okErrors] at h2

/-- **`enter` never fails** in a reachable state (its only possible errors are dangling pointers, which
the structural invariant excludes). -/
theorem enter_total {s : State} (hs : Reachable s) (h : Hints) (t : Nat) : ∃ s', enter h s t = .ok s' := by
  cases he : enter h s t with
  | ok s' => exact ⟨s', rfl⟩
  | error e =>
    exfalso
    have hok := BbRe.Lemmas.SchedInv.wp_of_error (BbRe.Lemmas.SchedInv.enter_spec (h := h) (t := t)
      (BbRe.Lemmas.SchedInv.inv_reachable hs)) he
    have hce : CleanErr e := by
      unfold enter at he
      split at he
      · exact runCleanup_err _ _ he
      · cases he
    exact cleanErr_not_ok hce hok

/-- every `touch` segment succeeds -/
theorem touch_ok {s : State} (hs : Reachable s) (h : Hints) (t : Nat) :
    ∃ s', step s (.touch h t) = .ok s' ∧ run s [.touch h t] = s' := by
  obtain ⟨s', e⟩ := enter_total hs h t
  exact ⟨s', e, by simp [run, step, touch, e]⟩

/-! ### the cancelling wake-ups succeed -/

theorem streamWake_cancel {s : State} (hs : Reachable s) (h : Hints) {c : Nat} {st : Stream}
    (hst : s.streams.find? (fun x => x.client = c) = some st) :
    ∃ op, s.op? st.op = some op ∧ op.waiters ≠ 0 ∧
      step s (.streamWake h s.now c 2) = .ok (leaveS s c st op cCanceled) := by
  obtain ⟨op, t, hop, hw, _⟩ := stream_op_exists hs (List.mem_of_find?_eq_some hst)
  refine ⟨op, hop, by omega, ?_⟩
  have hw' : ¬ op.waiters = 0 := by omega
  show streamWake h s s.now c 2 = _
  rw [(streamWake_timer h s c st hst).2]
  unfold streamLeave
  simp only [hst, hop, hw', bind, Except.bind, pure, Except.pure, if_false]
  rfl

theorem syncWake_cancel (s : State) (h : Hints) {q : ScqId} {w : WId} {wk : Worker}
    (hwk : s.worker? q w = some wk) (hin : wk.inSync = true) :
    step s (.syncWake h s.now q w 2) =
      .ok (syncReturn (emit (s.setWorker { wk with parked := false, woken := false, drainWait := none })
        (.syncErr q w cCanceled)) q w) := by
  show syncWake h s s.now q w 2 = _
  unfold syncWake
  simp only [enter_now, bind, Except.bind, hwk, hin, pure, Except.pure, Bool.not_true, Bool.false_eq_true, if_false]

theorem termWake_cancel (s : State) {id : Nat} {tc : TermCall} (htc : s.terms.find? (fun t => t.id = id) = some tc) :
    step s (.termWake id 2) = .ok (emit (dropTerm s id) (.termRet id cCanceled)) := by
  show termWake s id 2 = _
  unfold termWake
  simp only [bind, Except.bind, htc, pure, Except.pure, if_true]
  rfl

end BbRe.Lemmas.SchedLive
