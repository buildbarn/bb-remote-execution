import BbRe.Lemmas.BuildClient
/-!
`schedulerMayThinkExecutingUntil` never exceeds the largest synchronization
time the scheduler ever promised plus one minute (`BoundInv`).
-/
namespace BbRe.Lemmas.BuildClient
open BbRe.BuildClient

/-- The may-think bound never exceeds the largest promised synchronization time
plus one minute. -/
def BoundInv (s : State) : Prop :=
  s.nextSync ≤ s.maxSync ∧ ∀ t, s.mayThink = some t → t ≤ s.maxSync + 60

theorem finishStop_b (s : State) (k : DrainFor) (h : BoundInv s) : BoundInv (finishStop s k) := by
  cases k with
  | idle => exact ⟨h.1, nofun⟩
  | start d => exact ⟨h.1, fun _ ht => Option.some.inj ht ▸ Nat.add_le_add_right h.1 60⟩
theorem stopThen_b (s : State) (k : DrainFor) (h : BoundInv s) : BoundInv (stopThen s k) := by
  unfold stopThen; split
  · exact h
  · exact finishStop_b s k h


/-- Recording a reply keeps the bound: a new may-think bound is the old one, or one minute after the
old or the new synchronization time. -/
theorem bound_recorded {s : State} {mth : Option Nat} {ns ms : Nat} (hb : BoundInv s)
    (hr : Recorded s mth ns ms) (r : Reply) :
    BoundInv { s with lastReply := some r, mayThink := mth, nextSync := ns, maxSync := ms } := by
  obtain ⟨h1, h2, h3⟩ := hr
  refine ⟨h1 hb.1, fun t ht => ?_⟩
  rcases h3 t ht with h | h | h
  · exact Nat.le_trans (hb.2 t h) (Nat.add_le_add_right h2 60)
  · exact h ▸ Nat.add_le_add_right (Nat.le_trans hb.1 h2) 60
  · exact h ▸ Nat.add_le_add_right (h1 hb.1) 60

theorem Step.bound {s s' : State} (h : Step s s') (hb : BoundInv s) : BoundInv s' := by
  cases h with
  | consume => exact ⟨Nat.le_trans (Nat.min_le_left ..) hb.1, hb.2⟩
  | record r _ _ _ _ hr => exact bound_recorded hb hr r
  | stop r _ _ _ k _ hr => exact stopThen_b _ _ (bound_recorded hb hr r)
  | drained => exact finishStop_b _ _ hb
  | _ => exact hb

theorem bound_reachable (t0 : Nat) (evs : List Ev) : BoundInv (run (init t0) evs) :=
  run_closed (fun _ _ hb h => h.bound hb) ⟨Nat.le_refl _, fun _ h => nomatch (h : none = some _)⟩ evs

end BbRe.Lemmas.BuildClient
