/-
bb-storage `InstanceNamePatcher` with an empty new prefix: the byte-string code (`patchString`)
strips exactly the prefix's components (`patchSuffix`).
-/
import BbRe.Model.Trie
namespace BbRe.Lemmas.TriePatch
open BbRe.Model.Trie
open BbRe.Spec.PrefixMap (Comp)

theorem joinName_cons_cons (c d : Str) (r : List Str) :
    joinName (c :: d :: r) = c ++ slash :: joinName (d :: r) := rfl

theorem joinName_ne_nil {l : List Str} (hl : l ≠ []) (hne : ∀ c, c ∈ l → c ≠ []) : joinName l ≠ [] := by
  cases l with
  | nil => exact absurd rfl hl
  | cons c r =>
    have hc := hne c List.mem_cons_self
    cases r with
    | nil => exact hc
    | cons d r => exact fun h => hc (List.append_eq_nil_iff.1 h).1

theorem joinName_append {a b : List Str} (ha : a ≠ []) (hb : b ≠ []) :
    joinName (a ++ b) = joinName a ++ slash :: joinName b := by
  induction a with
  | nil => exact absurd rfl ha
  | cons c r ih =>
    cases r with
    | nil =>
      cases b with
      | nil => exact absurd rfl hb
      | cons d s => rfl
    | cons d r' =>
      have := ih (by simp)
      simp only [List.cons_append] at this ⊢
      rw [joinName_cons_cons, joinName_cons_cons, this]
      simp

theorem patchString_eq (oldPrefix i : Str) :
    patchString oldPrefix i = if oldPrefix = [] then i
      else if i.length > oldPrefix.length + 1 then i.drop (oldPrefix.length + 1) else [] := rfl

theorem patchString_join (pfx sfx : List Str) (hp : ∀ c, c ∈ pfx → c ≠ []) (hs : ∀ c, c ∈ sfx → c ≠ []) :
    patchString (joinName pfx) (joinName (pfx ++ sfx)) = joinName sfx := by
  rw [patchString_eq]
  by_cases hpn : pfx = []
  · subst hpn; exact if_pos rfl
  · rw [if_neg (joinName_ne_nil hpn hp)]
    by_cases hsn : sfx = []
    · subst hsn
      rw [List.append_nil]
      exact if_neg (Nat.not_lt.2 (Nat.le_succ _))
    · have hlen := List.length_pos_iff.2 (joinName_ne_nil hsn hs)
      rw [joinName_append hpn hsn, List.append_cons, if_pos, List.drop_left']
      · rw [List.length_append]; rfl
      · rw [List.length_append, List.length_append]; exact Nat.lt_add_of_pos_right hlen

end BbRe.Lemmas.TriePatch
