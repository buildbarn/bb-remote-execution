/-
Lemmas about the share-reservation algebra of the NFSv4 servers (C18):
the counters of `shareCount` agree with the multiset of the holders' masks, and
`upgrade` / `downgrade` / `clone` preserve that agreement and return exactly
the "overlap" / "became zero" bits.  Core Lean only.
-/
import BbRe.Model.NfsShare

namespace BbRe.Lemmas.NfsShare
open BbRe.NfsShare

/-- The counters agree with the list of holders' masks. -/
def Consistent (sc : ShareCount) (hs : List Mask) : Prop :=
  ∀ bit : Bool, sc.get bit = hs.countP (fun h => h.get bit)

theorem consistent_iff (sc : ShareCount) (hs : List Mask) :
    Consistent sc hs ↔
      (sc.readers = hs.countP (fun h => h.r) ∧ sc.writers = hs.countP (fun h => h.w)) := by
  constructor
  · intro h
    have h0 := h false
    have h1 := h true
    simp only [ShareCount.get, Mask.get] at h0 h1
    exact ⟨by simpa using h0, by simpa using h1⟩
  · rintro ⟨h0, h1⟩ bit
    cases bit
    · simpa [ShareCount.get, Mask.get] using h0
    · simpa [ShareCount.get, Mask.get] using h1

instance (sc : ShareCount) (hs : List Mask) : Decidable (Consistent sc hs) :=
  decidable_of_iff _ (consistent_iff sc hs).symm

theorem consistent_nil : Consistent ShareCount.zero [] := by
  intro bit; cases bit <;> rfl

/-! ### counting one position -/

theorem countP_mid (p : Mask → Bool) (pre post : List Mask) (x : Mask) :
    (pre ++ x :: post).countP p = pre.countP p + (if p x then 1 else 0) + post.countP p := by
  rw [List.countP_append, List.countP_cons]; omega

theorem countP_app (p : Mask → Bool) (pre post : List Mask) :
    (pre ++ post).countP p = pre.countP p + post.countP p := List.countP_append

theorem countP_pos_get (hs : List Mask) (bit : Bool) :
    0 < hs.countP (fun h => h.get bit) ↔ ∃ m ∈ hs, m.get bit = true := by
  rw [List.countP_pos_iff]

theorem countP_zero_get (hs : List Mask) (bit : Bool) :
    hs.countP (fun h => h.get bit) = 0 ↔ ∀ m ∈ hs, m.get bit = false := by
  rw [List.countP_eq_zero]
  constructor
  · intro h m hm
    have := h m hm
    cases hg : m.get bit <;> simp_all
  · intro h m hm
    simp [h m hm]

/-- a counter is positive iff somebody holds the bit -/
theorem consistent_pos_iff {sc hs} (h : Consistent sc hs) (bit : Bool) :
    0 < sc.get bit ↔ ∃ m ∈ hs, m.get bit = true := by
  rw [h bit]; exact countP_pos_get hs bit

theorem none_get (bit : Bool) : Mask.none.get bit = false := by
  cases bit <;> rfl

theorem zero_get (bit : Bool) : ShareCount.zero.get bit = 0 := by cases bit <;> rfl

/-- holders without any bit do not matter -/
theorem consistent_drop_none {sc : ShareCount} {pre post : List Mask} :
    Consistent sc (pre ++ Mask.none :: post) ↔ Consistent sc (pre ++ post) := by
  unfold Consistent
  constructor
  · intro h bit
    have := h bit
    rw [countP_mid, none_get] at this
    rw [countP_app]; simpa using this
  · intro h bit
    have := h bit
    rw [countP_app] at this
    rw [countP_mid, none_get]; simpa using this

/-- `Consistent` does not depend on the order of the holders. -/
theorem consistent_perm {sc : ShareCount} {hs hs' : List Mask} (hp : hs.Perm hs') :
    Consistent sc hs ↔ Consistent sc hs' := by
  unfold Consistent
  constructor
  · intro h bit; rw [h bit]; exact hp.countP_eq _
  · intro h bit; rw [h bit]; exact (hp.countP_eq _).symm

/-! ### bit selectors of the three operations -/

theorem union_get (a b : Mask) (bit : Bool) : (a.union b).get bit = (a.get bit || b.get bit) := by
  cases bit <;> rfl

theorem subset_get {a b : Mask} (h : a.subset b = true) (bit : Bool) :
    a.get bit = true → b.get bit = true := by
  obtain ⟨ar, aw⟩ := a
  obtain ⟨br, bw⟩ := b
  simp only [Mask.subset, Mask.diff, Mask.isNone, Bool.and_eq_true, Bool.not_eq_true',
    Bool.and_eq_false_imp, Bool.not_eq_false'] at h
  cases bit
  · exact h.1
  · exact h.2

theorem upgrade_fst_get (sc : ShareCount) (cur new : Mask) (bit : Bool) :
    (upgrade sc cur new).1.get bit = (upBit (sc.get bit) (cur.get bit) (new.get bit)).1 := by
  cases bit <;> rfl

theorem upgrade_overlap_get (sc : ShareCount) (cur new : Mask) (bit : Bool) :
    (upgrade sc cur new).2.2.get bit = (upBit (sc.get bit) (cur.get bit) (new.get bit)).2 := by
  cases bit <;> rfl

theorem downgrade_some_get {sc : ShareCount} {cur new : Mask} {sc' : ShareCount} {z : Mask}
    (h : downgrade sc cur new = some (sc', z)) (bit : Bool) :
    downBit (sc.get bit) (cur.get bit) (new.get bit) = some (sc'.get bit, z.get bit) := by
  unfold downgrade at h
  split at h
  · rename_i r w hr hw
    simp only [Option.some.injEq, Prod.mk.injEq] at h
    obtain ⟨h1, h2⟩ := h
    subst h1; subst h2
    cases bit
    · simpa [ShareCount.get, Mask.get] using hr
    · simpa [ShareCount.get, Mask.get] using hw
  · cases h

theorem clone_some_get {sc : ShareCount} {m : Mask} {sc' : ShareCount}
    (h : clone sc m = some sc') (bit : Bool) :
    cloneBit (sc.get bit) (m.get bit) = some (sc'.get bit) := by
  unfold clone at h
  split at h
  · rename_i r w hr hw
    simp only [Option.some.injEq] at h
    subst h
    cases bit
    · simpa [ShareCount.get, Mask.get] using hr
    · simpa [ShareCount.get, Mask.get] using hw
  · cases h

theorem upBit_count (a b : Nat) (cur new : Bool) :
    (upBit (a + (if cur then 1 else 0) + b) cur new).1
      = a + (if (cur || new) then 1 else 0) + b := by
  unfold upBit
  cases cur <;> cases new <;> simp <;> omega

theorem downBit_count (a b : Nat) (cur new : Bool) (hsub : new = true → cur = true) :
    downBit (a + (if cur then 1 else 0) + b) cur new
      = some (a + (if new then 1 else 0) + b,
          cur && !new && decide (a + (if new then 1 else 0) + b = 0)) := by
  unfold downBit
  cases cur <;> cases new <;> simp_all <;> omega

theorem cloneBit_some (c : Nat) (b : Bool) (c' : Nat) (h : cloneBit c b = some c') :
    c' = (if b then 1 else 0) + c := by
  unfold cloneBit at h
  cases b
  · simp at h ⊢; omega
  · simp at h ⊢; omega

theorem cloneBit_ok (c : Nat) (b : Bool) (h : b = true → 0 < c) :
    cloneBit c b = some ((if b then 1 else 0) + c) := by
  unfold cloneBit
  cases b
  · simp
  · have := h rfl
    simp; omega

/-- `upgrade` of the holder `cur` (at any position) -/
theorem upgrade_consistent (sc : ShareCount) (cur new : Mask) (pre post : List Mask)
    (h : Consistent sc (pre ++ cur :: post)) :
    Consistent (upgrade sc cur new).1 (pre ++ cur.union new :: post) ∧
    (upgrade sc cur new).2.1 = cur.union new ∧
    ∀ bit, (upgrade sc cur new).2.2.get bit = true ↔
      (new.get bit = true ∧ ∃ m ∈ pre ++ cur :: post, m.get bit = true) := by
  refine ⟨?_, rfl, ?_⟩
  · intro bit
    rw [upgrade_fst_get, h bit, countP_mid, countP_mid, union_get, upBit_count]
  · intro bit
    rw [upgrade_overlap_get, ← consistent_pos_iff h bit]
    unfold upBit
    simp

/-- same for downgrade without knowing it succeeds (still needs new ⊆ cur) -/
theorem downgrade_consistent_of_some (sc : ShareCount) (cur new : Mask) (pre post : List Mask)
    (h : Consistent sc (pre ++ cur :: post)) (hsub : new.subset cur = true)
    (sc' : ShareCount) (z : Mask) (hd : downgrade sc cur new = some (sc', z)) :
    Consistent sc' (pre ++ new :: post) ∧
      ∀ bit, z.get bit = true ↔
        (cur.get bit = true ∧ new.get bit = false ∧
          ∀ m ∈ pre ++ new :: post, m.get bit = false) := by
  have key : ∀ bit,
      sc'.get bit = (pre ++ new :: post).countP (fun h => h.get bit) ∧
      z.get bit = (cur.get bit && !new.get bit &&
        decide ((pre ++ new :: post).countP (fun h => h.get bit) = 0)) := by
    intro bit
    have h1 := downgrade_some_get hd bit
    rw [h bit, countP_mid, downBit_count _ _ _ _ (subset_get hsub bit)] at h1
    simp only [Option.some.injEq, Prod.mk.injEq] at h1
    rw [countP_mid]
    exact ⟨h1.1.symm, h1.2.symm⟩
  refine ⟨fun bit => (key bit).1, ?_⟩
  intro bit
  rw [(key bit).2, ← countP_zero_get]
  simp [and_assoc]

/-- `downgrade` of the holder `cur` to a subset `new`: no panic, counters stay consistent, and the
returned mask is exactly the set of bits nobody holds any more. -/
theorem downgrade_consistent (sc : ShareCount) (cur new : Mask) (pre post : List Mask)
    (h : Consistent sc (pre ++ cur :: post)) (hsub : new.subset cur = true) :
    ∃ sc' z, downgrade sc cur new = some (sc', z) ∧
      Consistent sc' (pre ++ new :: post) ∧
      ∀ bit, z.get bit = true ↔
        (cur.get bit = true ∧ new.get bit = false ∧
          ∀ m ∈ pre ++ new :: post, m.get bit = false) := by
  have hr := downBit_count (pre.countP (fun h => h.get false)) (post.countP (fun h => h.get false))
    (cur.get false) (new.get false) (subset_get hsub false)
  have hw := downBit_count (pre.countP (fun h => h.get true)) (post.countP (fun h => h.get true))
    (cur.get true) (new.get true) (subset_get hsub true)
  rw [← countP_mid, ← h false] at hr
  rw [← countP_mid, ← h true] at hw
  have hd : ∃ p, downgrade sc cur new = some p := by
    unfold downgrade
    simp only [ShareCount.get, Mask.get, Bool.false_eq_true, if_false, if_true] at hr hw
    rw [hr, hw]
    exact ⟨_, rfl⟩
  obtain ⟨⟨sc', z⟩, hd⟩ := hd
  exact ⟨sc', z, hd, downgrade_consistent_of_some sc cur new pre post h hsub sc' z hd⟩

/-- without the precondition `clone` either panics or stays consistent -/
theorem clone_consistent_of_some (sc : ShareCount) (m : Mask) (hs : List Mask)
    (h : Consistent sc hs) (sc' : ShareCount) (hc : clone sc m = some sc') :
    Consistent sc' (m :: hs) := by
  intro bit
  have := cloneBit_some _ _ _ (clone_some_get hc bit)
  rw [this, h bit, List.countP_cons]
  omega

/-- `clone` of a mask whose bits are all held by somebody: no panic, and the clone is a new
holder -/
theorem clone_consistent (sc : ShareCount) (m : Mask) (hs : List Mask) (h : Consistent sc hs)
    (hm : ∀ bit, m.get bit = true → ∃ x ∈ hs, x.get bit = true) :
    ∃ sc', clone sc m = some sc' ∧ Consistent sc' (m :: hs) := by
  have hr := cloneBit_ok (sc.get false) (m.get false)
    (fun hb => (consistent_pos_iff h false).2 (hm false hb))
  have hw := cloneBit_ok (sc.get true) (m.get true)
    (fun hb => (consistent_pos_iff h true).2 (hm true hb))
  have hc : ∃ sc', clone sc m = some sc' := by
    unfold clone
    simp only [ShareCount.get, Mask.get, Bool.false_eq_true, if_false, if_true] at hr hw
    rw [hr, hw]
    exact ⟨_, rfl⟩
  obtain ⟨sc', hc⟩ := hc
  exact ⟨sc', hc, clone_consistent_of_some sc m hs h sc' hc⟩

/-! ### non-vacuity -/

example : Consistent ⟨2, 1⟩ [Mask.both, Mask.read] := by decide
example : ¬ Consistent ⟨1, 1⟩ [Mask.both, Mask.read] := by decide
example : Consistent ⟨2, 1⟩ ([Mask.read] ++ Mask.none :: [Mask.both]) := by decide

/-- an upgrade with overlap: the second holder (`read`) asks for `both`; `write` was
already held by the first holder, `read` by itself -/
example : upgrade ⟨2, 1⟩ Mask.read Mask.both = (⟨2, 2⟩, Mask.both, Mask.both) := by decide
example : Consistent (upgrade ⟨2, 1⟩ Mask.read Mask.both).1 ([Mask.both] ++ Mask.both :: []) := by
  decide
/-- an upgrade without overlap: the first opener -/
example : upgrade ⟨0, 0⟩ Mask.none Mask.read = (⟨1, 0⟩, Mask.read, Mask.none) := by decide
/-- partial overlap -/
example : upgrade ⟨1, 0⟩ Mask.none Mask.both = (⟨2, 1⟩, Mask.both, Mask.read) := by decide

/-- a downgrade returning a becameZero bit: the only writer gives up `write` -/
example : downgrade ⟨2, 1⟩ Mask.both Mask.read = some (⟨2, 0⟩, Mask.write) := by decide
example : Mask.read.subset Mask.both = true := by decide
example : Consistent ⟨2, 0⟩ ([] ++ Mask.read :: [Mask.read]) := by decide
/-- a downgrade that leaves the bit held by somebody else -/
example : downgrade ⟨2, 1⟩ Mask.read Mask.none = some (⟨1, 1⟩, Mask.none) := by decide
/-- a downgrade that panics (counters not consistent with a holder of `read`) -/
example : downgrade ⟨0, 0⟩ Mask.read Mask.none = none := by decide

/-- clone of a held mask -/
example : clone ⟨2, 1⟩ Mask.both = some ⟨3, 2⟩ := by decide
example : Consistent ⟨3, 2⟩ [Mask.both, Mask.both, Mask.read] := by decide
/-- a clone that panics -/
example : clone ⟨0, 0⟩ Mask.read = none := by decide
example : clone ⟨2, 0⟩ Mask.both = none := by decide

end BbRe.Lemmas.NfsShare
