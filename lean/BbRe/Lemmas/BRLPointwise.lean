import BbRe.Lemmas.BRLWF
/-!
# Helper lemmas for C20: `setList` changes exactly the owner's bytes in the range
-/
namespace BbRe.Lemmas.BRL
open BbRe.BRL BbRe.Spec.ByteLocks

variable {ls : List Lock} {l : Lock} {pre kept rest2 : List Lock} {n2 : Lock} {tr2 : Option Lock}

/-- An unlock request is never grown: nothing in a well-formed table has its type. -/
theorem Pieces.n2_range_unlock (P : Pieces ls l pre kept rest2 n2 tr2)
    (hok : ∀ e ∈ ls, Ok e) (hl : l.start < l.stop) (hty : l.ty = .unlocked) :
    n2.start = l.start ∧ n2.stop = l.stop := by
  have hne : n2.start < n2.stop := Nat.lt_of_le_of_lt P.n2_start (Nat.lt_of_lt_of_le hl P.n2_stop)
  refine ⟨?_, ?_⟩
  · rcases P.n2_cov n2.start (Nat.le_refl _) hne with h' | ⟨e, he, _, het, _⟩
    · exact Nat.le_antisymm P.n2_start h'.1
    · exact absurd (het.trans hty) (hok e he).2
  · rcases Nat.lt_or_ge l.stop n2.stop with h | h
    · rcases P.n2_cov l.stop (Nat.le_trans P.n2_start (Nat.le_of_lt hl)) h with h' | ⟨e, he, _, het, _⟩
      · exact absurd h'.2 (Nat.lt_irrefl _)
      · exact absurd (het.trans hty) (hok e he).2
    · exact Nat.le_antisymm h P.n2_stop

/-- Owner's view after a lock request. -/
theorem Pieces.abs_lock (P : Pieces ls l pre kept rest2 n2 tr2) (b : Nat) :
    abs (pre ++ n2 :: (kept ++ (tr2.toList ++ rest2))) l.owner b =
      if l.start ≤ b ∧ b < l.stop then some l.ty else abs ls l.owner b := by
  rw [P.abs_eq b, abs_cons]
  simp [Covers]

/-- Owner's view after an unlock request. -/
theorem Pieces.abs_unlock (P : Pieces ls l pre kept rest2 n2 tr2)
    (hok : ∀ e ∈ ls, Ok e) (hl : l.start < l.stop) (hty : l.ty = .unlocked) (b : Nat) :
    abs (pre ++ (kept ++ (tr2.toList ++ rest2))) l.owner b =
      if l.start ≤ b ∧ b < l.stop then none else abs ls l.owner b := by
  obtain ⟨hs, he⟩ := P.n2_range_unlock hok hl hty
  have ho := P.n2_owner
  split
  · rename_i hb
    rw [abs_eq_none_iff]
    intro e hmem hc
    simp only [List.mem_append, Option.mem_toList] at hmem
    rcases hmem with hm | hm | hm | hm
    · have := ((P.pre_b e hm).2.2 hc.1).1
      exact Nat.lt_irrefl b (Nat.lt_of_lt_of_le hc.2.2 (Nat.le_trans this (hs ▸ hb.1)))
    · exact (P.kept_b e hm).2.1 hc.1
    · obtain ⟨_, _, hxs, _⟩ := P.tr_ok e hm
      exact Nat.lt_irrefl b (Nat.lt_of_lt_of_le hb.2 (he ▸ hxs ▸ hc.2.1))
    · have := (P.rest_b e hm).2
      exact Nat.lt_irrefl b (Nat.lt_trans (he ▸ hb.2) (Nat.lt_of_lt_of_le this hc.2.1))
  · rename_i hb
    have h := P.abs_lock b
    rw [if_neg hb] at h
    rw [← h, abs_append, abs_append pre, abs_cons]
    have : ¬ Covers n2 l.owner b := fun hc => hb ⟨hs ▸ hc.2.1, he ▸ hc.2.2⟩
    rw [if_neg this]

/-- The key refinement fact for the requesting owner. -/
theorem setList_abs_own (hwf : WF ls) (hl : l.start < l.stop) (b : Nat) :
    abs (setList ls l) l.owner b =
      if l.start ≤ b ∧ b < l.stop then (if l.ty = .unlocked then none else some l.ty)
      else abs ls l.owner b := by
  rw [wf_iff] at hwf
  have P := pieces ls l hwf.1 hwf.2 hl
  by_cases hty : l.ty = .unlocked
  · rw [setList_unlock_eq ls l hty, P.abs_unlock hwf.1 hl hty b]
    simp [hty]
  · rw [setList_lock_eq ls l hty, P.abs_lock b]
    simp [hty]

/-- Other owners see no change at all (no hypothesis needed). -/
theorem setList_abs_other (ls : List Lock) (l : Lock) {o : Nat} (ho : o ≠ l.owner) (b : Nat) :
    abs (setList ls l) o b = abs ls o b := by
  have h := setList_filter_others ls l
  have hp : ∀ e : Lock, e.owner = o → decide (e.owner ≠ l.owner) = true := by
    intro e he; simp; omega
  rw [← abs_filter_owner (setList ls l) o b _ hp, ← abs_filter_owner ls o b _ hp, h]

end BbRe.Lemmas.BRL
