import BbRe.Lemmas.SusClockLate
/-!
For C11: the re-arm loop of `NewContextWithTimeout` /
`NewTimer` (`loop`), with expiries that may be handled late: termination (fuel
elimination) and the loop invariant `unsuspTo a + d ≤ final + unsuspended pT a`; then `fireL`, `fire` and
`execRun`, which call it.
-/
namespace BbRe.Lemmas.SusClock
open BbRe.SusClock

/-- What every answer `r` of the loop satisfies, for a context created at `t0` whose budget ends when
`unsuspTo tl` reaches `final`, whose base deadline is delivered at `dlAt` and whose current timer was armed at `a`
(`Result` in `Model/SusClock.lean` explains the fields of `r`). -/
structure LoopOk (P : Params) (g : Nat) (tl : List Ev) (cn : Option Cancel) (t0 final dlAt a : Nat) (r : Result) :
    Prop where
  wall : r.instant ≤ dlAt
  start : t0 ≤ r.stamp
  stampLe : r.stamp ≤ r.instant
  late : r.instant ≤ r.stamp + g
  prevLe : r.pStamp ≤ r.pAt
  prevLate : r.pAt ≤ r.pStamp + g
  durUp : r.dur + unsuspTo tl t0 ≤ unsuspTo tl r.instant
  durLo : unsuspTo tl r.stamp ≤ r.dur + unsuspTo tl t0
  durExact : r.reason ≠ .timeout → r.dur + unsuspTo tl t0 = unsuspTo tl r.instant
  budgetStamp : unsuspTo tl r.stamp ≤ final + unsuspended tl r.pStamp r.pAt
  timeout : r.reason = .timeout → final < r.dur + unsuspTo tl t0 + P.thr
  capped : r.reason = .capped → r.instant = dlAt
  cancelled : r.reason = .cancelled → ∃ c, cn = some c ∧ c.t = r.instant
  prompt : ∀ c, cn = some c → r.instant ≤ c.t
  armed : r.reason ≠ .cancelled → a ≤ r.instant

variable {P : Params} {g : Nat} {tl : List Ev} {cn : Option Cancel} {initial final dlAt : Nat} {dlPre : Bool}

/-- The value computed when the next expiry (stamp `T`) is handled lies between the
unsuspended time at the stamp and at the handling instant. -/
theorem next_bracket (hs : Sorted tl) (hb : Balanced tl) (T : Nat) (dv : List Delivery)
    (hok : nextOk tl (T + nextLate dv) dv = true) :
    unsuspTo tl T ≤ (nextClk tl T dv).totalWithTime T ∧
    (nextClk tl T dv).totalWithTime T ≤ unsuspTo tl (T + nextLate dv) := by
  cases dv with
  | nil =>
    simp only [nextClk, nextLate, Nat.add_zero, clockAt_totalWithTime hs hb]
    exact ⟨Nat.le_refl _, Nat.le_refl _⟩
  | cons x rest =>
    simp only [nextOk, nextLate] at hok
    have := charge_bracket hs hb (T := T) hok (Nat.le_add_right _ _)
    exact ⟨this.1, this.2.1⟩

theorem cancelBefore_some {w tc : Nat} (h : cancelBefore cn w = some tc) :
    ∃ c, cn = some c ∧ c.t = tc ∧ tc ≤ w := by
  cases cn with
  | none => cases h
  | some c =>
    simp only [cancelBefore] at h
    split at h
    · cases h; exact ⟨c, rfl, rfl, by omega⟩
    · cases h

theorem cancelBefore_none {w : Nat} (h : cancelBefore cn w = none) :
    ∀ c, cn = some c → w ≤ c.t := by
  rintro c rfl
  simp only [cancelBefore] at h
  split at h
  · cases h
  · omega

/-- One iteration, for every amount of fuel at once: `loop (fuel + 1)` at `a d pT dv` is one of
five answers that do not depend on the fuel, or `loop fuel` at the re-armed arguments. -/
theorem loop_succ_cases {motive : (Nat → Out) → Prop} (a d pT : Nat) (dv : List Delivery)
    (late : g < nextLate dv → motive fun _ => .badOracle)
    (cancelled : ∀ c, cn = some c → nextLate dv ≤ g → c.t ≤ a + d + nextLate dv → c.t ≤ dlAt →
      motive fun _ => .done ⟨c.t, .cancelled, (clockAt tl c.t).totalNow c.t - initial, min (a + d) c.t, pT, a⟩)
    (capped : nextLate dv ≤ g → (∀ c, cn = some c → dlAt ≤ c.t) → dlAt ≤ a + d + nextLate dv →
      motive fun _ => .done ⟨dlAt, .capped, (clockAt tl dlAt).totalNow dlAt - initial, min (a + d) dlAt, pT, a⟩)
    (badPos : nextOk tl (a + d + nextLate dv) dv = false → motive fun _ => .badOracle)
    (timeout : nextLate dv ≤ g → (∀ c, cn = some c → a + d + nextLate dv ≤ c.t) → a + d + nextLate dv ≤ dlAt →
      nextOk tl (a + d + nextLate dv) dv = true → final < (nextClk tl (a + d) dv).totalWithTime (a + d) + P.thr →
      motive fun _ => .done ⟨a + d + nextLate dv, .timeout,
        (nextClk tl (a + d) dv).totalWithTime (a + d) - initial, a + d, pT, a⟩)
    (rearm : ∀ d', nextLate dv ≤ g → a + d + nextLate dv ≤ dlAt → nextOk tl (a + d + nextLate dv) dv = true →
      (nextClk tl (a + d) dv).totalWithTime (a + d) + d' = final → P.thr ≤ d' →
      motive fun fuel => loop P g tl cn initial final dlAt dlPre fuel (a + d + nextLate dv) d' (a + d) dv.tail) :
    motive fun fuel => loop P g tl cn initial final dlAt dlPre (fuel + 1) a d pT dv := by
  unfold loop
  by_cases hg : g < nextLate dv
  · simpa only [hg, if_true] using late hg
  have hg' := Nat.le_of_not_lt hg
  simp only [hg, if_false]
  cases hc : cancelBefore cn (min (a + d + nextLate dv) dlAt) with
  | some tc =>
    obtain ⟨c, hc1, rfl, hc3⟩ := cancelBefore_some hc
    exact cancelled c hc1 hg' (Nat.le_trans hc3 (Nat.min_le_left _ _)) (Nat.le_trans hc3 (Nat.min_le_right _ _))
  | none =>
    have hnone := cancelBefore_none hc
    by_cases he : a + d + nextLate dv < dlAt ∨ (a + d + nextLate dv = dlAt ∧ dlPre = false)
    · have hat : a + d + nextLate dv ≤ dlAt := by omega
      rw [Nat.min_eq_left hat] at hnone
      simp only [he, if_true]
      cases hv : nextOk tl (a + d + nextLate dv) dv with
      | false => exact badPos hv
      | true =>
        simp only [Bool.true_eq_false, if_false]
        by_cases hd : final < (nextClk tl (a + d) dv).totalWithTime (a + d) + P.thr
        · simpa only [hd, if_true] using timeout hg' hnone hat hv hd
        · have hd' := Nat.le_of_not_lt hd
          simpa only [hd, if_false] using rearm _ hg' hat hv
            (Nat.add_sub_cancel' (Nat.le_trans (Nat.le_add_right _ _) hd')) (Nat.le_sub_of_add_le' hd')
    · have hle : dlAt ≤ a + d + nextLate dv := by omega
      rw [Nat.min_eq_right hle] at hnone
      simpa only [he, if_false] using capped hg' hnone hle

/-- More fuel never changes an answer. -/
theorem loop_fuel_mono {o : Out} (ho : o ≠ .outOfFuel) (k : Nat) :
    ∀ (fuel a d pT : Nat) (dv : List Delivery),
      loop P g tl cn initial final dlAt dlPre fuel a d pT dv = o →
      loop P g tl cn initial final dlAt dlPre (fuel + k) a d pT dv = o
  | 0, _, _, _, _ => fun h => absurd h.symm ho
  | fuel + 1, a, d, pT, dv => by
    rw [Nat.add_right_comm]
    exact loop_succ_cases (motive := fun f => f fuel = o → f (fuel + k) = o) a d pT dv (fun _ => id)
      (fun _ _ _ _ _ => id) (fun _ _ _ => id) (fun _ => id) (fun _ _ _ _ _ => id)
      (fun _ _ _ _ _ _ => loop_fuel_mono ho k fuel _ _ _ _)

/-- Termination: when the threshold is positive every re-arm moves the next stamp at
least one tick (in fact `thr` ticks) towards the delivery of the base deadline. -/
theorem loop_total (hthr : 1 ≤ P.thr) :
    ∀ (fuel a d pT : Nat) (dv : List Delivery), 1 ≤ fuel → dlAt + 2 ≤ fuel + (a + d) →
      loop P g tl cn initial final dlAt dlPre fuel a d pT dv ≠ .outOfFuel
  | 0, _, _, _, _, h, _ => absurd h (Nat.not_succ_le_zero 0)
  | fuel + 1, a, d, pT, dv, _, hf =>
    loop_succ_cases (motive := fun f => f fuel ≠ .outOfFuel) a d pT dv (fun _ => nofun) (fun _ _ _ _ _ => nofun)
      (fun _ _ _ => nofun) (fun _ => nofun) (fun _ _ _ _ _ => nofun)
      (fun _ _ hat _ _ hd => loop_total hthr fuel _ _ _ _ (by omega) (by omega))

/-- Without recorded late deliveries the oracle is never rejected. -/
theorem loop_nil_ok :
    ∀ (fuel a d pT : Nat), loop P g tl cn initial final dlAt dlPre fuel a d pT [] ≠ .badOracle
  | 0, _, _, _ => nofun
  | fuel + 1, a, d, pT =>
    loop_succ_cases (motive := fun f => f fuel ≠ .badOracle) a d pT [] (fun h => absurd h (Nat.not_lt_zero _))
      (fun _ _ _ _ _ => nofun) (fun _ _ _ => nofun) nofun (fun _ _ _ _ _ => nofun)
      (fun _ _ _ _ _ _ => loop_nil_ok fuel _ _ _)

/-- The answer when the wait for the pending timer (stamp `T`) is cut short at `x`, by a
cancellation or by the base deadline. -/
theorem loopOk_interrupted {t0 a T pT x : Nat} {reason : Reason} (hr : reason ≠ .timeout) (h0 : t0 ≤ x) (h0T : t0 ≤ T)
    (hx : x ≤ dlAt) (hxT : x ≤ T + g) (hp1 : pT ≤ a) (hp2 : a ≤ pT + g)
    (hbud : unsuspTo tl T ≤ final + unsuspended tl pT a) (hcap : reason = .capped → x = dlAt)
    (hcan : reason = .cancelled → ∃ c, cn = some c ∧ c.t = x) (hprompt : ∀ c, cn = some c → x ≤ c.t)
    (harm : reason ≠ .cancelled → a ≤ x) :
    LoopOk P g tl cn t0 final dlAt a ⟨x, reason, unsuspTo tl x - unsuspTo tl t0, min T x, pT, a⟩ :=
  have hdur : unsuspTo tl x - unsuspTo tl t0 + unsuspTo tl t0 = unsuspTo tl x :=
    Nat.sub_add_cancel (unsuspTo_mono tl h0)
  { wall := hx
    start := Nat.le_min.2 ⟨h0T, h0⟩
    stampLe := Nat.min_le_right _ _
    late := by
      show x ≤ min T x + g
      rw [Nat.min_def]
      split
      · exact hxT
      · exact Nat.le_add_right x g
    prevLe := hp1
    prevLate := hp2
    durUp := Nat.le_of_eq hdur
    durLo := Nat.le_trans (unsuspTo_mono tl (Nat.min_le_right _ _)) (Nat.le_of_eq hdur.symm)
    durExact := fun _ => hdur
    budgetStamp := Nat.le_trans (unsuspTo_mono tl (Nat.min_le_left _ _)) hbud
    timeout := fun h => absurd h hr
    capped := hcap
    cancelled := hcan
    prompt := hprompt
    armed := harm }

/-- The loop invariant is `unsuspTo a + d ≤ final + unsuspended pT a`: the armed duration `d` is what was left of
the budget when the previous expiry (stamp `pT`) was charged, and that charge was at most the unsuspended time
at the handling instant `a`.  (The loop also keeps `final ≤ unsuspTo a + d`; no clause of `LoopOk` needs it.) -/
theorem loop_spec {t0 : Nat}
    (hs : Sorted tl) (hb : Balanced tl) (hcn : ∀ c, cn = some c → t0 ≤ c.t) :
    ∀ (fuel a d pT : Nat) (dv : List Delivery) (r : Result), t0 ≤ a → a ≤ dlAt → pT ≤ a → a ≤ pT + g →
      unsuspTo tl a + d ≤ final + unsuspended tl pT a →
      loop P g tl cn (unsuspTo tl t0) final dlAt dlPre fuel a d pT dv = .done r →
      LoopOk P g tl cn t0 final dlAt a r
  | 0, _, _, _, _, _, _, _, _, _, _ => nofun
  | fuel + 1, a, d, pT, dv, r, h0, hdl, hp1, hp2, hi2 => by
    have hbud := Nat.le_trans (unsuspTo_lipschitz tl a d) hi2
    have h0T := Nat.le_trans h0 (Nat.le_add_right a d)
    refine loop_succ_cases (motive := fun f => f fuel = .done r → LoopOk P g tl cn t0 final dlAt a r) a d pT dv
      (fun _ => nofun) ?_ ?_ (fun _ => nofun) ?_ ?_
    · intro c hc hg hat hdl' h
      cases h
      rw [clockAt_total hs hb]
      exact loopOk_interrupted nofun (hcn c hc) h0T hdl' (Nat.le_trans hat (Nat.add_le_add_left hg _))
        hp1 hp2 hbud nofun (fun _ => ⟨c, hc, rfl⟩) (fun c' hc' => by rw [hc] at hc'; cases hc'; exact Nat.le_refl _)
        (fun h => absurd rfl h)
    · intro hg hc hle h
      cases h
      rw [clockAt_total hs hb]
      exact loopOk_interrupted nofun (Nat.le_trans h0 hdl) h0T (Nat.le_refl _)
        (Nat.le_trans hle (Nat.add_le_add_left hg _)) hp1 hp2 hbud (fun _ => rfl) nofun hc (fun _ => hdl)
    · intro hg hc hat hv hd h
      cases h
      have hbr := next_bracket hs hb (a + d) dv hv
      have hcur := Nat.sub_add_cancel (Nat.le_trans (unsuspTo_mono tl h0T) hbr.1)
      exact {
        wall := hat
        start := h0T
        stampLe := Nat.le_add_right _ _
        late := Nat.add_le_add_left hg _
        prevLe := hp1
        prevLate := hp2
        durUp := Nat.le_trans (Nat.le_of_eq hcur) hbr.2
        durLo := Nat.le_trans hbr.1 (Nat.le_of_eq hcur.symm)
        durExact := fun h => absurd rfl h
        budgetStamp := hbud
        timeout := fun _ => Nat.lt_of_lt_of_eq hd (congrArg (· + P.thr) hcur.symm)
        capped := nofun
        cancelled := nofun
        prompt := hc
        armed := fun _ => Nat.le_trans (Nat.le_add_right a d) (Nat.le_add_right _ _) }
    · -- re-arm at the handling instant
      intro d' hg hat hv hfin _ h
      have hbr := next_bracket hs hb (a + d) dv hv
      have ih := loop_spec hs hb hcn fuel _ _ _ _ r (Nat.le_trans h0T (Nat.le_add_right _ _)) hat
        (Nat.le_add_right _ _) (Nat.add_le_add_left hg _)
        (by rw [unsuspTo_eq_add tl (Nat.le_add_right (a + d) (nextLate dv)), Nat.add_right_comm, ← hfin]
            exact Nat.add_le_add_right (Nat.add_le_add_right hbr.1 _) _) h
      exact { ih with
        armed := fun hr => Nat.le_trans (Nat.le_trans (Nat.le_add_right a d) (Nat.le_add_right _ _)) (ih.armed hr) }

theorem fireL_ok {t0 d dlLate : Nat} {dv : List Delivery} {r : Result}
    (hs : Sorted tl) (hb : Balanced tl) (hcn : ∀ c, cn = some c → t0 ≤ c.t)
    (h : fireL P g tl cn t0 d dlLate dlPre dv = .done r) :
    LoopOk P g tl cn t0 (unsuspTo tl t0 + d) (t0 + d + P.maxSusp + dlLate) t0 r := by
  unfold fireL at h
  simp only [clockAt_total hs hb] at h
  exact loop_spec hs hb hcn _ t0 d t0 dv r (Nat.le_refl _)
    (Nat.le_trans (Nat.le_add_right t0 d) (Nat.le_trans (Nat.le_add_right _ _) (Nat.le_add_right _ _)))
    (Nat.le_refl _) (Nat.le_add_right _ _) (Nat.le_add_right _ _) h

/-- `fuelFor` suffices: it is two more than the distance `maxSusp + dlLate` from the first stamp `t0 + d` to the
delivery of the base deadline, which is the measure of `loop_total`. -/
theorem fireL_total (hthr : 1 ≤ P.thr) (t0 d dlLate : Nat) (dv : List Delivery) :
    fireL P g tl cn t0 d dlLate dlPre dv ≠ .outOfFuel := by
  unfold fireL fuelFor
  exact loop_total hthr _ _ _ _ _ (by omega) (by omega)

/-- A prompt run (`fire`) always completes. -/
theorem fire_done (P : Params) (tl : List Ev) (cn : Option Cancel) (t0 d : Nat) (hthr : 1 ≤ P.thr) :
    ∃ r, fire P tl cn t0 d = .done r := by
  have h1 : fire P tl cn t0 d ≠ .outOfFuel := fireL_total hthr t0 d 0 []
  have h2 : fire P tl cn t0 d ≠ .badOracle := by
    unfold fire fireL
    exact loop_nil_ok _ _ _ _
  cases h : fire P tl cn t0 d with
  | done r => exact ⟨r, rfl⟩
  | badOracle => exact absurd h h2
  | outOfFuel => exact absurd h h1

/-- In a prompt run nothing is handled late: the stamp is the instant and the previous gap is empty. -/
theorem fire_prompt {t0 d : Nat} {r : Result}
    (hs : Sorted tl) (hb : Balanced tl) (hcn : ∀ c, cn = some c → t0 ≤ c.t)
    (h : fire P tl cn t0 d = .done r) :
    LoopOk P 0 tl cn t0 (unsuspTo tl t0 + d) (t0 + d + P.maxSusp) t0 r ∧ r.stamp = r.instant ∧
      unsuspended tl r.pStamp r.pAt = 0 := by
  have ok := fireL_ok hs hb hcn h
  have h2 : r.pAt = r.pStamp := Nat.le_antisymm ok.prevLate ok.prevLe
  exact ⟨ok, Nat.le_antisymm ok.stampLe ok.late, by rw [h2]; exact unsuspended_self tl _⟩

/-- Whatever ends a run (`RunFinish` here, `End` in `Model/ExecStamp.lean`) becomes the cancellation of the context;
it is not earlier than `t0` if the ending is not. -/
theorem cancel_map_le {α : Type} {t0 : Nat} {x : Option α} (t : α → Nat) (pre : α → Bool)
    (h : ∀ a, x = some a → t0 ≤ t a) : ∀ c, (x.map fun a => (⟨t a, pre a⟩ : Cancel)) = some c → t0 ≤ c.t := by
  intro c hc
  cases x with
  | none => cases hc
  | some a => cases hc; exact h a rfl

/-- The run stage hands on the duration and the instant of the context; it reports `DEADLINE_EXCEEDED`
for a cancelled context only when no end of the command was given. -/
theorem execRun_of_fire {t0 d : Nat} {fin : Option RunFinish} {r : Result}
    (h : fire P tl (fin.map fun f => ⟨f.t, f.pre⟩) t0 d = .done r) :
    ∃ code ec, execRun P tl t0 d fin = some ⟨code, ec, r.dur, r.instant⟩ ∧
      (code = .deadlineExceeded → r.reason = .cancelled → fin = none) := by
  unfold execRun
  rw [h]
  clear h
  obtain ⟨inst, reason, dur, st, pS, pA⟩ := r
  cases fin with
  | none => cases reason <;> exact ⟨_, _, rfl, fun _ _ => rfl⟩
  | some f =>
    cases reason with
    | timeout => exact ⟨_, _, rfl, fun _ hr => nomatch hr⟩
    | capped => exact ⟨_, _, rfl, fun _ hr => nomatch hr⟩
    | cancelled =>
      obtain ⟨ft, fp, fh⟩ := f
      cases fh <;> exact ⟨_, _, rfl, nofun⟩

end BbRe.Lemmas.SusClock
