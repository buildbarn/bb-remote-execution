import BbRe.Model.Outputs
/-!
Helper lemmas for C10 (`tree_wellformed`): invariants of `uploadDirectory` /
`uploadEntries` (the post-order, digest-de-duplicated `directories` list).
-/
namespace BbRe.Lemmas.Outputs
open BbRe.Outputs

/-- Induction principle for the nested inductive `Node`. -/
theorem Node.induct {P : Node → Prop}
    (hdir : ∀ r es, (∀ p ∈ es, P p.2) → P (.dir r es))
    (hfile : ∀ x c, P (.file x c)) (hsym : ∀ t, P (.symlink t)) (hsp : P .special) : ∀ n, P n := by
  intro n
  refine Node.rec (motive_1 := P) (motive_2 := fun es => ∀ p ∈ es, P p.2) (motive_3 := fun p => P p.2)
    ?_ ?_ ?_ ?_ ?_ ?_ ?_ n
  · intro r es ih; exact hdir r es ih
  · exact hfile
  · exact hsym
  · exact hsp
  · intro p hp; cases hp
  · intro hd tl ih1 ih2 p hp
    cases hp with
    | head => exact ih1
    | tail _ h => exact ih2 p h
  · intro a b ih; exact ih

/-! ### size of a Directory message (well-foundedness of "is referenced by") -/

mutual
def msgSize : DirMsg → Nat
  | .mk _ ds _ => 1 + msgSizeList ds
def msgSizeList : List (Name × DirMsg) → Nat
  | [] => 0
  | (_, m) :: r => msgSize m + msgSizeList r
end

theorem msgSizeList_append (a b : List (Name × DirMsg)) :
    msgSizeList (a ++ b) = msgSizeList a + msgSizeList b := by
  induction a with
  | nil => simp [msgSizeList]
  | cons p r ih =>
    obtain ⟨n, m⟩ := p
    simp only [List.cons_append, msgSizeList, ih]
    omega

theorem msgSize_mem_list (l : List (Name × DirMsg)) (p : Name × DirMsg) (h : p ∈ l) :
    msgSize p.2 ≤ msgSizeList l := by
  induction l with
  | nil => cases h
  | cons q r ih =>
    obtain ⟨n, m⟩ := q
    simp only [msgSizeList]
    cases h with
    | head => simp
    | tail _ h' => have := ih h'; omega

theorem kid_size_lt (m k : DirMsg) (h : k ∈ m.kids) : msgSize k < msgSize m := by
  cases m with
  | mk fs ds ss =>
    simp only [DirMsg.kids, DirMsg.dirs, List.mem_map] at h
    obtain ⟨p, hp, rfl⟩ := h
    have := msgSize_mem_list ds p hp
    simp only [msgSize]
    omega

/-! ### the pure encoding of a directory (what `uploadDirectory` returns as digest) -/

mutual
/-- The `Directory` message of a directory; `none` if `ReadDir` fails. -/
def encodeDir (env : Env) : Node → Option DirMsg
  | .dir readable es => if readable then some (encodeEntries env es (.mk [] [] [])) else none
  | _ => none
def encodeEntries (env : Env) : Entries → DirMsg → DirMsg
  | [], m => m
  | (name, .file x c) :: rest, .mk fs ds ss =>
    if env.putFails (.file c) then encodeEntries env rest (.mk fs ds ss)
    else encodeEntries env rest (.mk (fs ++ [(name, c, x)]) ds ss)
  | (name, .dir r ces) :: rest, .mk fs ds ss =>
    match encodeDir env (.dir r ces) with
    | some cm => encodeEntries env rest (.mk fs (ds ++ [(name, cm)]) ss)
    | none => encodeEntries env rest (.mk fs ds ss)
  | (name, .symlink t) :: rest, .mk fs ds ss =>
    if env.readlinkFails t then encodeEntries env rest (.mk fs ds ss)
    else encodeEntries env rest (.mk fs ds (ss ++ [(name, normTarget t)]))
  | (_, .special) :: rest, m => encodeEntries env rest m
end

mutual
/-- Nothing below this directory makes the upload save an error. -/
def cleanDir (env : Env) : Node → Bool
  | .dir r es => r && cleanEntries env es
  | _ => false
def cleanEntries (env : Env) : Entries → Bool
  | [] => true
  | (_, .file _ c) :: rest => !env.putFails (.file c) && cleanEntries env rest
  | (_, .dir r ces) :: rest => cleanDir env (.dir r ces) && cleanEntries env rest
  | (_, .symlink t) :: rest => !env.readlinkFails t && cleanEntries env rest
  | (_, .special) :: rest => cleanEntries env rest
end

/-- Post-order: everything a message references occurs earlier in the list. -/
def Topo (l : List DirMsg) : Prop :=
  ∀ a m b, l = a ++ m :: b → ∀ k ∈ m.kids, k ∈ a

theorem Topo.nil : Topo [] := by
  intro a m b h; simp at h

theorem Topo.snoc {l : List DirMsg} {m : DirMsg} (h : Topo l) (hk : ∀ k ∈ m.kids, k ∈ l) :
    Topo (l ++ [m]) := by
  intro a x b hsplit k hkx
  rcases List.eq_nil_or_concat b with rfl | ⟨b', y, rfl⟩
  · obtain ⟨rfl, hx⟩ := List.append_inj' hsplit rfl
    cases hx
    exact hk k hkx
  · rw [List.concat_eq_append, ← List.cons_append, ← List.append_assoc] at hsplit
    exact h a x b' (List.append_inj' hsplit rfl).1 k hkx

/-- What one call of `uploadDirectory` on `n` does to the state `st`, giving `r` and `st'`: `r` is the
pure encoding; the directories appended are no bigger than `r` (so `r` itself is new unless it was
seen); post-order and freedom from duplicates are kept; an error is saved iff something below `n`
fails. -/
structure DirOK (env : Env) (n : Node) (st : UpState) (r : Option DirMsg) (st' : UpState) : Prop where
  enc : r = encodeDir env n
  ext : ∃ ext, st'.dirs = st.dirs ++ ext ∧ ∀ x ∈ ext, ∀ m, r = some m → msgSize x ≤ msgSize m
  /-- the message was seen before this run, or is the last one appended -/
  last : ∀ m, r = some m → m ∈ st.dirs ∨ ∃ pre, st'.dirs = pre ++ [m]
  topo : Topo st.dirs → Topo st'.dirs
  nodup : st.dirs.Nodup → st'.dirs.Nodup
  errs : ∃ more, st'.errs = st.errs ++ more ∧ (more = [] ↔ cleanDir env n = true)

/-- The same for the entry loop started with the partial message `acc`: `newKids` are the child
messages it references in addition, all of them in the list afterwards. -/
structure EntriesOK (env : Env) (es : Entries) (acc : DirMsg) (st : UpState) (m : DirMsg)
    (st' : UpState) : Prop where
  enc : m = encodeEntries env es acc
  ext : ∃ ext newKids, st'.dirs = st.dirs ++ ext ∧ m.kids = acc.kids ++ newKids ∧
    (∀ k ∈ newKids, k ∈ st'.dirs) ∧ (∀ x ∈ ext, ∃ k ∈ newKids, msgSize x ≤ msgSize k)
  topo : Topo st.dirs → Topo st'.dirs
  nodup : st.dirs.Nodup → st'.dirs.Nodup
  errs : ∃ more, st'.errs = st.errs ++ more ∧ (more = [] ↔ cleanEntries env es = true)

def PDir (env : Env) (n : Node) : Prop :=
  ∀ st, DirOK env n st (n.uploadDirectory env st).1 (n.uploadDirectory env st).2

def PEntries (env : Env) (es : Entries) : Prop :=
  ∀ acc st, EntriesOK env es acc st (uploadEntries env es acc st).1 (uploadEntries env es acc st).2

theorem kids_mk (fs : List (Name × Nat × Bool)) (ds : List (Name × DirMsg)) (ss : List (Name × Str)) :
    (DirMsg.mk fs ds ss).kids = ds.map (·.2) := rfl

/-- A step of the entry loop that neither touches the state nor the referenced directories. -/
theorem EntriesOK.skip {env : Env} {es : Entries} {acc acc' : DirMsg} {st : UpState} {m : DirMsg}
    {st' : UpState} {head : Name × Node}
    (h : EntriesOK env es acc' st m st') (hk : acc'.kids = acc.kids)
    (henc : encodeEntries env (head :: es) acc = encodeEntries env es acc')
    (hclean : cleanEntries env (head :: es) = cleanEntries env es) :
    EntriesOK env (head :: es) acc st m st' where
  enc := by rw [henc]; exact h.enc
  ext := by rw [← hk]; exact h.ext
  topo := h.topo
  nodup := h.nodup
  errs := by rw [hclean]; exact h.errs

/-- A step of the entry loop that only saves an error. -/
theorem EntriesOK.err {env : Env} {es : Entries} {acc : DirMsg} {st : UpState} {m : DirMsg}
    {st' : UpState} {head : Name × Node} {e : Err}
    (h : EntriesOK env es acc (st.err e) m st')
    (henc : encodeEntries env (head :: es) acc = encodeEntries env es acc)
    (hclean : cleanEntries env (head :: es) = false) :
    EntriesOK env (head :: es) acc st m st' where
  enc := by rw [henc]; exact h.enc
  ext := h.ext
  topo := h.topo
  nodup := h.nodup
  errs := by
    obtain ⟨more, hm, -⟩ := h.errs
    exact ⟨e :: more, by rw [hm]; exact List.append_assoc .., by rw [hclean]; exact ⟨nofun, nofun⟩⟩

theorem pentries_of_pdir (env : Env) (es : Entries) (h : ∀ p ∈ es, PDir env p.2) : PEntries env es := by
  induction es with
  | nil =>
    exact fun acc st => ⟨by rw [encodeEntries, uploadEntries], ⟨[], [], (List.append_nil _).symm, (List.append_nil _).symm,
      nofun, nofun⟩, id, id, [], (List.append_nil _).symm, by simp [cleanEntries]⟩
  | cons p rest ih =>
    have ihr := ih (fun q hq => h q (List.mem_cons_of_mem _ hq))
    obtain ⟨name, n⟩ := p
    intro acc st
    cases acc with
    | mk fs ds ss =>
    cases n with
    | file x c =>
      rw [uploadEntries]
      split
      next hput =>
        exact (ihr _ _).err (by rw [encodeEntries, if_pos hput]) (by simp [cleanEntries, hput])
      next hput =>
        exact (ihr _ _).skip rfl (by rw [encodeEntries, if_neg hput]) (by simp [cleanEntries, hput])
    | symlink t =>
      rw [uploadEntries]
      split
      next hrl =>
        exact (ihr _ _).err (by rw [encodeEntries, if_pos hrl]) (by simp [cleanEntries, hrl])
      next hrl =>
        exact (ihr _ _).skip rfl (by rw [encodeEntries, if_neg hrl]) (by simp [cleanEntries, hrl])
    | special =>
      rw [uploadEntries]
      exact (ihr _ _).skip rfl (by rw [encodeEntries]) (by simp [cleanEntries])
    | dir r ces =>
      have hd := h (name, .dir r ces) (List.mem_cons_self ..) st
      rw [uploadEntries]
      cases hres : Node.uploadDirectory env (.dir r ces) st with
      | mk ro st1 =>
        rw [hres] at hd
        obtain ⟨ext1, he1, hsz1⟩ := hd.ext
        obtain ⟨m1, hm1, hc1⟩ := hd.errs
        cases ro with
        | none =>
          have := ihr (.mk fs ds ss) st1
          obtain ⟨ext2, nk, he2, hk2, hin2, hsz2⟩ := this.ext
          obtain ⟨m2, hm2, hc2⟩ := this.errs
          refine ⟨?_, ⟨ext1 ++ ext2, nk, by rw [he2, he1, List.append_assoc], hk2, hin2, ?_⟩,
            fun ht => this.topo (hd.topo ht), fun hn => this.nodup (hd.nodup hn),
            m1 ++ m2, by rw [hm2, hm1, List.append_assoc], ?_⟩
          · rw [encodeEntries, ← hd.enc]; exact this.enc
          · -- a failed ReadDir appends nothing
            have : ext1 = [] := by
              rw [Node.uploadDirectory] at hres
              split at hres
              · cases hres
              · cases hres; exact List.append_cancel_left (he1.symm.trans (List.append_nil _).symm)
            subst this
            exact hsz2
          · simp only [List.append_eq_nil_iff, hc1, hc2, cleanEntries, Bool.and_eq_true]
        | some cm =>
          have := ihr (.mk fs (ds ++ [(name, cm)]) ss) st1
          obtain ⟨ext2, nk, he2, hk2, hin2, hsz2⟩ := this.ext
          obtain ⟨m2, hm2, hc2⟩ := this.errs
          refine ⟨?_, ⟨ext1 ++ ext2, cm :: nk, by rw [he2, he1, List.append_assoc], ?_, ?_, ?_⟩,
            fun ht => this.topo (hd.topo ht), fun hn => this.nodup (hd.nodup hn),
            m1 ++ m2, by rw [hm2, hm1, List.append_assoc], ?_⟩
          · rw [encodeEntries, ← hd.enc]; exact this.enc
          · rw [hk2, kids_mk, kids_mk, List.map_append, List.append_assoc]; rfl
          · intro k hk
            rcases List.mem_cons.mp hk with rfl | hk'
            · rw [he2, he1]
              exact List.mem_append_left _ <| (hd.last k rfl).elim (List.mem_append_left _)
                fun ⟨pre, h⟩ => he1 ▸ h ▸ List.mem_append_right _ (List.mem_singleton_self _)
            · exact hin2 k hk'
          · intro x hx
            rcases List.mem_append.1 hx with hx | hx
            · exact ⟨cm, List.mem_cons_self .., hsz1 x hx cm rfl⟩
            · obtain ⟨k, hk, hle⟩ := hsz2 x hx
              exact ⟨k, List.mem_cons_of_mem _ hk, hle⟩
          · simp only [List.append_eq_nil_iff, hc1, hc2, cleanEntries, Bool.and_eq_true]

/-- Anything but a listable directory: the error is saved and nothing else changes. -/
theorem dirOK_fail (env : Env) (n : Node) (st : UpState)
    (hu : n.uploadDirectory env st = (none, st.err .fs)) (he : encodeDir env n = none)
    (hc : cleanDir env n = false) :
    DirOK env n st (n.uploadDirectory env st).1 (n.uploadDirectory env st).2 := by
  rw [hu]
  exact ⟨he.symm, ⟨[], (List.append_nil _).symm, nofun⟩, nofun, id, id,
    ⟨[.fs], rfl, by rw [hc]; exact ⟨nofun, nofun⟩⟩⟩

theorem pdir_all (env : Env) : ∀ n, PDir env n := by
  apply Node.induct
  · intro r es ih st
    have hq := pentries_of_pdir env es ih (.mk [] [] []) st
    cases r with
    | false => exact dirOK_fail env _ st rfl rfl rfl
    | true =>
      rw [Node.uploadDirectory]
      simp only [↓reduceIte]
      cases hres : uploadEntries env es (.mk [] [] []) st with
      | mk m st1 =>
        rw [hres] at hq
        simp only at hq ⊢
        obtain ⟨ext, nk, he, hk, hin, hsz⟩ := hq.ext
        have hkids : m.kids = nk := by simpa [kids_mk] using hk
        have hlt : ∀ x ∈ ext, msgSize x < msgSize m := by
          intro x hx
          obtain ⟨k, hk', hle⟩ := hsz x hx
          have := kid_size_lt m k (by rw [hkids]; exact hk')
          omega
        obtain ⟨more, hm, hc⟩ := hq.errs
        by_cases hmem : m ∈ st1.dirs
        · have hsee : st1.see m = st1 := by simp [UpState.see, hmem]
          rw [hsee]
          refine ⟨by simp [encodeDir, hq.enc], ⟨ext, he, ?_⟩, ?_, hq.topo, hq.nodup, ⟨more, hm, ?_⟩⟩
          · intro x hx m' hm'
            cases hm'
            exact Nat.le_of_lt (hlt x hx)
          · intro m' hm'
            cases hm'
            exact (List.mem_append.mp (he ▸ hmem)).imp_right fun hx => absurd (hlt _ hx) (Nat.lt_irrefl _)
          · simp [cleanDir, hc]
        · have hsee : (st1.see m).dirs = st1.dirs ++ [m] := by simp [UpState.see, hmem]
          have hsee2 : (st1.see m).errs = st1.errs := by simp [UpState.see, hmem]
          refine ⟨by simp [encodeDir, hq.enc], ⟨ext ++ [m], by rw [hsee, he]; simp, ?_⟩, ?_, ?_, ?_,
            ⟨more, by rw [hsee2, hm], by simp [cleanDir, hc]⟩⟩
          · intro x hx m' hm'
            cases hm'
            rcases List.mem_append.1 hx with hx | hx
            · exact Nat.le_of_lt (hlt x hx)
            · simp at hx; subst hx; exact Nat.le_refl _
          · intro m' hm'; cases hm'; exact .inr ⟨_, hsee⟩
          · intro ht
            rw [hsee]
            exact (hq.topo ht).snoc (fun k hk' => hin k (by rw [← hkids]; exact hk'))
          · intro hn
            rw [hsee]
            exact List.nodup_append.2 ⟨hq.nodup hn, by simp, by
              intro a ha b hb
              simp at hb; subst hb
              intro hab; subst hab; exact hmem ha⟩
  · exact fun x c st => dirOK_fail env _ st rfl rfl rfl
  · exact fun t st => dirOK_fail env _ st rfl rfl rfl
  · exact fun st => dirOK_fail env _ st rfl rfl rfl

/-- Facts about a fresh `uploadDirectory` run (the state `uploadOutputDirectoryEntered` starts with). -/
theorem fresh_upload (env : Env) (n : Node) (root : DirMsg) (st : UpState)
    (h : n.uploadDirectory env {} = (some root, st)) :
    encodeDir env n = some root ∧
    (∃ rest, st.dirs.reverse = root :: rest) ∧
    st.dirs.Nodup ∧ Topo st.dirs ∧
    (st.errs = [] ↔ cleanDir env n = true) := by
  have hp := pdir_all env n {}
  rw [h] at hp
  obtain ⟨pre, hpre⟩ := (hp.last root rfl).resolve_left List.not_mem_nil
  obtain ⟨more, hm, hc⟩ := hp.errs
  refine ⟨hp.enc.symm, ⟨pre.reverse, ?_⟩, hp.nodup List.nodup_nil, hp.topo Topo.nil, ?_⟩
  · rw [hpre, List.reverse_append]; rfl
  · rw [hm]; exact hc

theorem nodup_reverse' {α : Type} {l : List α} (h : l.Nodup) : l.reverse.Nodup := by
  unfold List.Nodup at *
  rw [List.pairwise_reverse]
  exact h.imp (fun hab => fun hba => hab hba.symm)

def fileOf (env : Env) : Name × Node → Option (Name × Nat × Bool)
  | (name, .file x c) => if env.putFails (.file c) then none else some (name, c, x)
  | _ => none

def symlinkOf (env : Env) : Name × Node → Option (Name × Str)
  | (name, .symlink t) => if env.readlinkFails t then none else some (name, normTarget t)
  | _ => none

def dirOf (env : Env) : Name × Node → Option (Name × DirMsg)
  | (name, .dir r ces) => (encodeDir env (.dir r ces)).map (fun m => (name, m))
  | _ => none

/-- The entry loop sorts the entries it can encode into the three lists of the message. -/
theorem encodeEntries_eq (env : Env) (es : Entries) (fs : List (Name × Nat × Bool))
    (ds : List (Name × DirMsg)) (ss : List (Name × Str)) :
    encodeEntries env es (.mk fs ds ss) =
      .mk (fs ++ es.filterMap (fileOf env)) (ds ++ es.filterMap (dirOf env))
        (ss ++ es.filterMap (symlinkOf env)) := by
  induction es generalizing fs ds ss with
  | nil => simp only [encodeEntries, List.filterMap_nil, List.append_nil]
  | cons p rest ih =>
    obtain ⟨name, n⟩ := p
    cases n with
    | file x c =>
      rw [encodeEntries]
      split <;> rename_i hput <;> rw [ih] <;>
        simp only [List.filterMap_cons, fileOf, dirOf, symlinkOf, hput, if_true, if_false,
          List.append_assoc, List.cons_append, List.nil_append, Bool.false_eq_true]
    | symlink t =>
      rw [encodeEntries]
      split <;> rename_i hrl <;> rw [ih] <;>
        simp only [List.filterMap_cons, fileOf, dirOf, symlinkOf, hrl, if_true, if_false,
          List.append_assoc, List.cons_append, List.nil_append, Bool.false_eq_true]
    | special =>
      rw [encodeEntries, ih]
      simp only [List.filterMap_cons, fileOf, dirOf, symlinkOf]
    | dir r ces =>
      rw [encodeEntries]
      cases henc : encodeDir env (.dir r ces) <;> simp only <;> rw [ih] <;>
        simp only [List.filterMap_cons, fileOf, dirOf, symlinkOf, henc, Option.map_none, Option.map_some,
          List.append_assoc, List.cons_append, List.nil_append]

end BbRe.Lemmas.Outputs
