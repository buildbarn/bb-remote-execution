import BbRe.Model.SchedTreeCheck
import BbRe.Lemmas.SchedTreePrimQueue
import BbRe.Lemmas.SchedTreePrimRefresh
import BbRe.Lemmas.SchedTreePrimPark
import BbRe.Lemmas.SchedTreePrimCreate
import BbRe.Lemmas.SchedTreePrimIdle
import BbRe.Lemmas.SchedInvStep
/-!
The invariant of the tree layer: `Sched`'s invariant for the projection, `TreeOK` for the bags computed
from the state (`Model/SchedTreeCheck.lean`: `bagE`, `bagI`, `bagQ`, `bagP`), and the coupling between
the tree layer's own tables and `Sched.State`.  Plus the list algebra that tells how the bags change when
one task / one worker entry is replaced.
-/
namespace BbRe.Lemmas.SchedTree
open BbRe.Sched BbRe.SchedTree BbRe.Lemmas.SchedInv

/-- coupling of the tree layer's tables with the scheduler state -/
structure Side (ts : TState) : Prop where
  /-- every size-class queue has its root invocation; every invocation belongs to a queue -/
  roots : ∀ sq ∈ ts.s.scqs, (node? ts.nodes sq.id []).isSome = true
  nscq : ∀ n ∈ ts.nodes, ∃ sq ∈ ts.s.scqs, sq.id = n.scq
  /-- one entry of worker extras per worker -/
  wxnd : (ts.wx.map (fun x => (x.scq, x.id))).Nodup
  wxw : ∀ q w, (ts.wx? q w).isSome = (ts.s.worker? q w).isSome
  /-- `listIndex != -1` iff `wakeup != nil`; `lastInvocation == nil` iff the worker has a task -/
  wpl : ∀ q w wk x, ts.s.worker? q w = some wk → ts.wx? q w = some x →
    x.parked = wk.parked ∧ (x.last = none ↔ wk.task.isSome = true)
  /-- `task.operations` agrees with `operationsNameMap` -/
  oxok : ∀ o op, ts.s.op? o = some op → alookup o ts.ox = some ⟨op.inv, op.prio⟩
  /-- a task runs on a worker of its own size-class queue -/
  wq : ∀ k t q w, alookup k ts.s.tasks = some t → t.worker = some (q, w) → q = t.scq

/-- The facts about tasks and workers that the tree layer relies on: a fragment of `SchedInv.Core` and
`SchedInv.OInv` that does not mention the operation table, the event log or the exemption sets (so that it
also holds at the intermediate states of `task.complete` / `operation.remove`). -/
structure MCore (ex : Nat → Prop) (s : State) : Prop where
  tnd : (keys s.tasks).Nodup
  tid : ∀ k t, alookup k s.tasks = some t → t.id = k ∧ k < s.nextTask
  p2 : ∀ k t q w, alookup k s.tasks = some t → t.worker = some (q, w) →
        ∃ wk, wfind s.workers q w = some wk ∧ wk.task = some k
  p3 : ∀ k t, alookup k s.tasks = some t → t.worker.isSome = true → t.response = none
  q1 : ∀ k t, alookup k s.tasks = some t → t.queued = true → t.worker = none ∧ t.response = none
  /-- an uncompleted task is queued or assigned, unless it is the one being processed -/
  q2 : ∀ k t, alookup k s.tasks = some t → t.response = none → t.queued = true ∨ t.worker.isSome = true ∨ ex k
  w1 : ∀ q w wk, wfind s.workers q w = some wk → wk.parked = true → wk.task = none

structure MOInv (s : State) : Prop where
  o3 : ∀ k t, alookup k s.tasks = some t → t.ops.Nodup ∧ t.ops ≠ []
  /-- an operation belongs to one task -/
  own : ∀ k t k' t' o, alookup k s.tasks = some t → alookup k' s.tasks = some t' → o ∈ t.ops → o ∈ t'.ops → k = k'
  /-- operation names are issued from `nextOp` -/
  bound : ∀ k t o, alookup k s.tasks = some t → o ∈ t.ops → o < s.nextOp

structure MInv (ex : Nat → Prop) (s : State) : Prop where
  core : MCore ex s
  oinv : MOInv s

theorem MInv.of_inv {ex} {s : State} (h : InvX ex (fun _ => False) s) : MInv ex s := by
  refine ⟨⟨h.core.tnd, h.core.tid, h.core.p2, h.core.p3, h.core.q1, h.core.q2,
    fun q w wk a b => (h.core.w1 q w wk a b).1⟩, ⟨h.oinv.o3, ?_, fun k t o a b => (h.oinv.o2 k t o a b).1⟩⟩
  intro k t k' t' o h1 h2 ho ho'
  rcases (h.oinv.o2 k t o h1 ho).2 with b | ⟨op, e1, e2⟩
  · exact absurd b id
  · rcases (h.oinv.o2 k' t' o h2 ho').2 with b | ⟨op', e1', e2'⟩
    · exact absurd b id
    · rw [e1] at e1'; cases e1'; rw [← e2, ← e2']

/-- `MInv` only looks at tasks, workers and the two counters -/
theorem MInv.of_eq {ex} {s s' : State} (h : MInv ex s) (ht : s'.tasks = s.tasks) (hw : s'.workers = s.workers)
    (hnt : s'.nextTask = s.nextTask) (hno : s'.nextOp = s.nextOp) : MInv ex s' := by
  obtain ⟨⟨a, a', b, c, d, d', e⟩, ⟨f, g, i⟩⟩ := h
  exact ⟨⟨by rw [ht]; exact a, by rw [ht, hnt]; exact a', by rw [ht, hw]; exact b, by rw [ht]; exact c, by rw [ht]; exact d,
    by rw [ht]; exact d', by rw [hw]; exact e⟩, ⟨by rw [ht]; exact f, by rw [ht]; exact g, by rw [ht, hno]; exact i⟩⟩

theorem MInv.mono {ex ex'} {s : State} (h : MInv ex s) (hx : ∀ k, ex k → ex' k) : MInv ex' s := by
  obtain ⟨⟨a, a', b, c, d, d', e⟩, o⟩ := h
  refine ⟨⟨a, a', b, c, d, ?_, e⟩, o⟩
  intro k t h1 h2
  rcases d' k t h1 h2 with x | x | x
  · exact Or.inl x
  · exact Or.inr (Or.inl x)
  · exact Or.inr (Or.inr (hx k x))

/-- the invariant of the tree layer at a (possibly intermediate) state; `X` = invocations that may still be
empty, `ex` = the task that is being processed (neither queued nor assigned for the moment); `exo` is not
used. -/
structure TInvX (ex exo : Nat → Prop) (X : List (ScqId × List Nat)) (ts : TState) : Prop where
  inv : MInv ex ts.s
  tree : TreeOK X ts.nodes (bagE ts) (bagI ts) (bagQ ts) (bagP ts)
  side : Side ts

/-- the invariant of the tree layer between segments -/
structure TInv (ts : TState) : Prop where
  inv : Inv ts.s
  tree : TreeOK [] ts.nodes (bagE ts) (bagI ts) (bagQ ts) (bagP ts)
  side : Side ts

/-- the part of the invariant that is about the tree layer's own tables -/
structure TS (X : List (ScqId × List Nat)) (ts : TState) : Prop where
  tree : TreeOK X ts.nodes (bagE ts) (bagI ts) (bagQ ts) (bagP ts)
  side : Side ts

theorem TInvX.ts {ex exo X ts} (h : TInvX ex exo X ts) : TS X ts := ⟨h.tree, h.side⟩
theorem TInvX.mk' {ex exo X ts} (hi : MInv ex ts.s) (h : TS X ts) : TInvX ex exo X ts := ⟨hi, h.tree, h.side⟩
theorem TInv.ts {ts} (h : TInv ts) : TS [] ts := ⟨h.tree, h.side⟩
theorem TInv.x {ts} (h : TInv ts) : TInvX (fun _ => False) (fun _ => False) [] ts := ⟨MInv.of_inv h.inv, h.tree, h.side⟩

/-! ### replacing one entry of an association list -/

theorem perm_swap_ends {β} (a r b : List β) : (a ++ r ++ b).Perm (b ++ r ++ a) := by
  refine List.perm_append_comm.trans ?_
  rw [List.append_assoc b r a]
  exact List.Perm.append_left b List.perm_append_comm

theorem flatMap_aset_some {α β} (f : Nat × α → List β) (k : Nat) (v1 : α) :
    ∀ (l : List (Nat × α)) (v0 : α), alookup k l = some v0 →
      (l.flatMap f ++ f (k, v1)).Perm ((aset k v1 l).flatMap f ++ f (k, v0)) := by
  intro l
  induction l with
  | nil => intro v0 h; cases h
  | cons a t ih =>
    intro v0 h
    obtain ⟨ka, va⟩ := a
    simp only [alookup] at h
    simp only [aset]
    by_cases hk : ka = k
    · simp only [hk, if_true] at h ⊢
      cases h
      simp only [List.flatMap_cons]
      exact perm_swap_ends _ _ _
    · simp only [hk, if_false] at h ⊢
      simp only [List.flatMap_cons, List.append_assoc]
      exact List.Perm.append_left _ (ih v0 h)

theorem flatMap_aset_none {α β} (f : Nat × α → List β) (k : Nat) (v1 : α) :
    ∀ (l : List (Nat × α)), alookup k l = none → (aset k v1 l).flatMap f = l.flatMap f ++ f (k, v1) := by
  intro l
  induction l with
  | nil => intro _; simp [aset]
  | cons a t ih =>
    intro h
    obtain ⟨ka, va⟩ := a
    simp only [alookup] at h
    by_cases hk : ka = k
    · simp [hk] at h
    · simp only [hk, if_false] at h
      simp only [aset, hk, if_false, List.flatMap_cons, ih h, List.append_assoc]

theorem flatMap_aerase_some {α β} (f : Nat × α → List β) (k : Nat) :
    ∀ (l : List (Nat × α)) (v0 : α), alookup k l = some v0 →
      (l.flatMap f).Perm (f (k, v0) ++ (aerase k l).flatMap f) := by
  intro l
  induction l with
  | nil => intro v0 h; cases h
  | cons a t ih =>
    intro v0 h
    obtain ⟨ka, va⟩ := a
    simp only [alookup] at h
    simp only [aerase]
    by_cases hk : ka = k
    · simp only [hk, if_true] at h ⊢
      cases h
      simp only [List.flatMap_cons]
      exact List.Perm.refl _
    · simp only [hk, if_false] at h ⊢
      simp only [List.flatMap_cons]
      refine List.Perm.trans (List.Perm.append_left _ (ih v0 h)) ?_
      rw [← List.append_assoc, ← List.append_assoc]
      exact List.Perm.append_right _ List.perm_append_comm

/-! ### replacing the entry of one worker in the list of extras -/

def wxkey (x : WX) : ScqId × WId := (x.scq, x.id)

theorem wx?_eq (ts : TState) (q : ScqId) (w : WId) : ts.wx? q w = ts.wx.find? (fun x => x.scq = q ∧ x.id = w) := rfl

/-- with distinct keys, `setWX` changes exactly the entry found by `find?` -/
theorem flatMap_setWX {β} (f : WX → List β) (q : ScqId) (w : WId) (g : WX → WX) (hg : ∀ x, wxkey (g x) = wxkey x) :
    ∀ (l : List WX), (l.map wxkey).Nodup → ∀ x0, l.find? (fun x => x.scq = q ∧ x.id = w) = some x0 →
      (l.flatMap f ++ f (g x0)).Perm ((setWX l q w g).flatMap f ++ f x0) := by
  intro l
  induction l with
  | nil => intro _ x0 h; cases h
  | cons a t ih =>
    intro hnd x0 h
    simp only [List.map_cons, List.nodup_cons] at hnd
    rw [List.find?_cons] at h
    show (_ ++ f (g x0)).Perm (((if a.scq = q ∧ a.id = w then g a else a) :: setWX t q w g).flatMap f ++ f x0)
    by_cases ha : a.scq = q ∧ a.id = w
    · rw [if_pos ha]
      rw [decide_eq_true ha] at h
      cases h
      -- the rest of the list has no entry with this key
      have hrest : setWX t q w g = t := by
        refine (List.map_congr_left fun x hx => if_neg fun hk => hnd.1 ?_).trans (List.map_id' t)
        exact List.mem_map.mpr ⟨x, hx, by simp only [wxkey, hk.1, hk.2, ha.1, ha.2]⟩
      rw [hrest]
      simp only [List.flatMap_cons]
      exact perm_swap_ends _ _ _
    · rw [if_neg ha]
      rw [decide_eq_false ha] at h
      simp only [List.flatMap_cons, List.append_assoc]
      exact List.Perm.append_left _ (ih hnd.2 x0 h)

theorem setWX_keys (l : List WX) (q : ScqId) (w : WId) (g : WX → WX) (hg : ∀ x, wxkey (g x) = wxkey x) :
    (setWX l q w g).map wxkey = l.map wxkey := by
  unfold setWX
  rw [List.map_map]
  apply List.map_congr_left
  intro x _
  simp only [Function.comp]
  split
  · exact hg x
  · rfl

theorem find?_setWX (l : List WX) (q : ScqId) (w : WId) (g : WX → WX) (hg : ∀ x, wxkey (g x) = wxkey x)
    (q' : ScqId) (w' : WId) :
    (setWX l q w g).find? (fun x => x.scq = q' ∧ x.id = w') =
      (l.find? (fun x => x.scq = q' ∧ x.id = w')).map (fun x => if x.scq = q ∧ x.id = w then g x else x) := by
  induction l with
  | nil => rfl
  | cons a t ih =>
    have hk : wxkey (if a.scq = q ∧ a.id = w then g a else a) = wxkey a := by
      split
      · exact hg a
      · rfl
    simp only [wxkey, Prod.mk.injEq] at hk
    show List.find? _ ((if a.scq = q ∧ a.id = w then g a else a) :: setWX t q w g) = _
    rw [List.find?_cons, List.find?_cons, hk.1, hk.2, ih]
    cases decide (a.scq = q' ∧ a.id = w') <;> rfl

end BbRe.Lemmas.SchedTree
