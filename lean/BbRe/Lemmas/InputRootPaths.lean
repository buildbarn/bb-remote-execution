import BbRe.Lemmas.InputRootSteps
/-!
Path level facts for C17: the node a path denotes (`nodeAt`, contents of lazy
directories read off the CAS without changing anything), what a fault-free walk does
in terms of it (`withDir_resolve`), and step level corollaries of `InputRootSteps`.
-/
namespace BbRe.Lemmas.InputRoot
open BbRe.InputRoot

/-- What it takes for a path of at least one component to denote a node. -/
theorem nodeAt_cons {c : CAS} {n v : Node} {x : Name} {rest : Path}
    (h : nodeAt c n (x :: rest) = some v) :
    ∃ ch w, contents c [] n = .ok ch ∧ lookup ch x = some w ∧ nodeAt c w rest = some v := by
  simp only [nodeAt] at h
  split at h
  · split at h
    · cases h
    · exact ⟨_, _, ‹_›, ‹_›, h⟩
  · cases h

theorem nodeAt_append (c : CAS) (p q : Path) : ∀ n : Node,
    nodeAt c n (p ++ q) = (nodeAt c n p).bind fun d => nodeAt c d q := by
  induction p with
  | nil => intro n; rfl
  | cons x rest ih =>
    intro n
    rw [List.cons_append, nodeAt.eq_2, nodeAt.eq_2]
    cases contents c [] n with
    | ok ch =>
      dsimp only
      cases lookup ch x with
      | none => rfl
      | some v => exact ih v
    | _ => rfl

/-- What a fault-free walk does, in terms of the node the path denotes: if that is a directory whose
contents can be loaded, the walk answers what the action answers on them and leaves the action's
result at the path; if not, it stops with one of three errors. -/
theorem withDir_resolve (c : CAS) (act : Children → Children × Out) (p : Path) : ∀ n : Node,
    match (nodeAt c n p).map (contents c []) with
    | some (.ok ch) => (withDir c [] act p n).2 = (act ch).2 ∧
        nodeAt c (withDir c [] act p n).1 p = some (.dir (act ch).1)
    | _ => (withDir c [] act p n).2 = .status .enotdir ∨ (withDir c [] act p n).2 = .status .eio ∨
        (withDir c [] act p n).2 = .status .enoent := by
  induction p with
  | nil =>
    intro n
    rw [nodeAt.eq_1, withDir.eq_1, Option.map_some]
    cases contents c [] n with
    | ok ch => exact ⟨rfl, rfl⟩
    | notDir => exact .inl rfl
    | err e => exact .inr (.inl rfl)
  | cons x rest ih =>
    intro n
    rw [nodeAt.eq_2, withDir.eq_2]
    cases contents c [] n with
    | ok ch =>
      dsimp only
      cases hx : lookup ch x with
      | none => exact .inr (.inr rfl)
      | some w => simpa only [nodeAt, contents, lookup_replaceFirst_self ch x _ w hx] using ih w
    | notDir => exact .inl rfl
    | err e => exact .inr (.inl rfl)

/-- A directory that cannot be loaded stays exactly as it was: nothing is attached. -/
theorem withDir_bad_unchanged (c : CAS) (F : List Dig) (act : Children → Children × Out)
    (p : Path) (n : Node) (e : Err) (he : contents c [] n = .err e) :
    withDir c F act p n = (n, .status .eio) := by
  rcases contents_fault c F n with h | h
  · exact withDir_err (h.trans he) p
  · exact withDir_err h p

/-- Any access through a directory that cannot be loaded fails with `EIO`. -/
theorem withDir_through_bad (c : CAS) (F : List Dig) (act : Children → Children × Out) :
    ∀ (p q : Path) (n b : Node) (e : Err), nodeAt c n p = some b → contents c [] b = .err e →
      (withDir c F act (p ++ q) n).2 = .status .eio := by
  intro p
  induction p with
  | nil =>
    intro q n b e hb he
    cases hb
    exact congrArg Prod.snd (withDir_bad_unchanged c F act q n e he)
  | cons x rest ih =>
    intro q n b e hb he
    obtain ⟨ch, v, hn, hx, hr⟩ := nodeAt_cons hb
    rcases contents_fault c F n with h | h
    · simp only [List.cons_append, withDir, h, hn, hx]
      exact ih q v b e hr he
    · simp only [List.cons_append, withDir, h]

/-- Without faults an action that answers from the entry `x` of the directory answers from
the node that `p/x` denotes. -/
theorem withDir_out (c : CAS) (act : Children → Children × Out) (x : Name) (g : Node → Out)
    (hact : ∀ ch w, lookup ch x = some w → (act ch).2 = g w) (p : Path) (n v : Node)
    (h : nodeAt c n (p ++ [x]) = some v) : (withDir c [] act p n).2 = g v := by
  have r := withDir_resolve c act p n
  rw [nodeAt_append] at h
  obtain ⟨d, hd, h⟩ := Option.bind_eq_some_iff.1 h
  obtain ⟨ch, w, hc, hx, hr⟩ := nodeAt_cons h
  cases hr
  simp only [hd, hc, Option.map] at r
  rw [r.1]; exact hact ch _ hx

/-- Without faults the result of a leaf operation is that of the denoted node. -/
theorem withDir_leaf_out (c : CAS) (F' : List Dig) (op : LeafOp) (x : Name) :
    ∀ (p : Path) (n v : Node), nodeAt c n (p ++ [x]) = some v →
      (withDir c [] (actLeaf c F' op x) p n).2 = leafOut c F' op v :=
  withDir_out c _ x _ fun ch w h => by simp only [actLeaf, h]

theorem withDir_lookup_out (c : CAS) (x : Name) :
    ∀ (p : Path) (n v : Node), nodeAt c n (p ++ [x]) = some v →
      (withDir c [] (actLookup x) p n).2 = .kind (kindOf v) :=
  withDir_out c _ x _ fun ch w h => by simp only [actLookup, h]

/-- Equivalent trees denote equivalent nodes at every path. -/
theorem nodeAt_equiv (c : CAS) (p : Path) : ∀ a b : Node, Equiv c a b →
    OptRel (Equiv c) (nodeAt c a p) (nodeAt c b p) := by
  induction p with
  | nil => intro a b h; exact h
  | cons x rest ih =>
    intro a b h
    rcases equiv_cases h with ⟨ha, hb⟩ | ⟨_, ha, hb⟩ | ⟨ca, cb, ha, hb, hab⟩ <;>
      simp only [nodeAt, ha, hb]
    · trivial
    · trivial
    · rcases (chrel_lookup hab x).cases with ⟨h1, h2⟩ | ⟨va, vb, h1, h2, hr⟩ <;> simp only [h1, h2]
      · trivial
      · exact ih va vb hr

end BbRe.Lemmas.InputRoot
