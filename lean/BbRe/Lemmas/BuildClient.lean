import BbRe.Model.BuildClient
/-!
The invariant `Inv` of `Model/BuildClient.lean`, from which the property theorems in
`Properties/C08.lean` are read off, and what each event of the model does to a state:
every handler is a composition of a few building blocks (`retRun`, `sendReq`,
`afterReady`, `stopThen`, `finishStop`, `consumed`), and the `*_eq` lemmas say which.
`Step` lists what an event can thereby do to the state, in one step or in two (`step?_sound`);
each invariant is shown closed under `Step` and reaches the events through `step?_closed` and
`run_closed`.
-/
namespace BbRe.Lemmas.BuildClient
open BbRe.BuildClient

/-- Messages sent (or being sent) by the goroutine that the worker has not taken yet. -/
def pending (e : Exec) : List Msg := e.buf ++ e.blocked.toList

/-- Well-formedness of an executor goroutine and its channel. -/
structure ExecWF (e : Exec) : Prop where
  cap : e.buf.length ≤ chanCap
  closedRet : e.closed = true → e.blocked = none ∧ e.returned.isSome = true
  dig : ∀ m ∈ pending e, m.d = e.digest
  fifo : e.received ++ updsOf (pending e) = e.emitted
  comp : ∀ m ∈ pending e, ∀ r, m.p = .completed r → e.returned = some r

/-- What every `sent` entry of the log satisfies (all of C08's statements about requests). -/
def SentOK (r : Request) (sn : Snap) : Prop :=
  (r.state = .idle → sn.live = 0) ∧
  (∀ d p, r.state = .executing d p → ∃ e, sn.last = some e ∧ e.digest = d ∧
      (∀ x, p = .completed x → e.returned = some x) ∧
      (∀ u, p = .upd u → e.received.getLast? = some u ∧ e.received <+: e.emitted)) ∧
  (∀ d x, r.state = .executing d (.completed x) → x.ok = false → r.preferIdle = true) ∧
  (r.state = .idle → sn.mayThink.isSome = true → r.preferIdle = true) ∧
  (r.state = .idle → r.preferIdle = false → sn.readyChecked = true) ∧
  (sn.cancelled = true → r.preferIdle = true) ∧
  ((∃ ts, sn.lastReply = some (.reply (some ts) .idle)) → r.state = .idle)

/-- What every `spawn` entry satisfies: nothing alive, and the last reply asked to execute `d`. -/
def SpawnOK (d : Digest) (sn : Snap) : Prop :=
  sn.live = 0 ∧ ∃ ts, sn.lastReply = some (.reply (some ts) (.execute (.ok d)))

/-- What every `ret` entry satisfies: `mayTerminate` only with the may-think bound unset or passed. -/
def RetOK (mt : Bool) (sn : Snap) : Prop :=
  mt = true → sn.mayThink = none ∨ ∃ t, sn.mayThink = some t ∧ sn.now > t

def ObsOK : Obs → Prop
  | .sent r sn => SentOK r sn
  | .spawn _ d sn => SpawnOK d sn
  | .ret mt _ sn => RetOK mt sn
  | _ => True

/-- Trace form of "from the moment shutdown began every request asks to be left
idle": every `sent` entry after a `cancel` entry has `PreferBeingIdle`. -/
def SentAfterCancel (l : List Obs) : Prop :=
  ∀ l1 l2, l = l1 ++ Obs.cancel :: l2 → ∀ r sn, Obs.sent r sn ∈ l2 → r.preferIdle = true

/-- Invariant of the ghost log (`c` = the thread's context is cancelled). -/
def LogInv (l : List Obs) (c : Bool) : Prop :=
  (∀ o ∈ l, ObsOK o) ∧ (Obs.cancel ∈ l → c = true) ∧ SentAfterCancel l

/-- The request state tells the truth about the most recent executor; the last-update clause is
suspended inside the drain loop, where updates are taken off the channel and discarded. -/
def ReqHonest (s : State) : Prop :=
  match s.req with
  | .idle => s.cur = none
  | .executing d p => ∃ e, lastExec s = some e ∧ e.digest = d ∧
      (∀ r, p = .completed r → e.returned = some r) ∧
      (∀ u, p = .upd u → (∀ k, s.pc ≠ .drain k) → e.received.getLast? = some u)

/-- The invariant of the reachable states.  `readyNone`, `selectRc`: `CheckReadiness` is skipped only
while the may-think bound is set (so an `Idle` request without `PreferBeingIdle` has passed it);
`drainStart`, `drainIdle`, `toldIdle`: the drain loop runs on a matching instruction, and after an idle
instruction the thread is draining or everything is released. -/
structure Inv (s : State) : Prop where
  retired : ∀ e ∈ s.retired, e.closed = true ∧ e.received <+: e.emitted
  curWF : ∀ e, s.cur = some e → ExecWF e
  honest : ReqHonest s
  readyNone : s.pc = .ready → s.mayThink = none
  selectRc : ∀ rc, s.pc = .select rc → rc = true ∨ s.mayThink.isSome = true
  drainStart : ∀ d, s.pc = .drain (.start d) →
    ∃ ts, s.lastReply = some (.reply (some ts) (.execute (.ok d)))
  drainIdle : s.pc = .drain .idle → ∃ ts, s.lastReply = some (.reply (some ts) .idle)
  toldIdle : (∃ ts, s.lastReply = some (.reply (some ts) .idle)) →
    s.pc = .drain .idle ∨ (s.req = .idle ∧ s.mayThink = none ∧ s.cur = none)
  logOK : LogInv s.log s.cancelled

/-- `ReqHonest` without the `match`: what an `Idle` and what an `Executing d p` request state claims. -/
theorem reqHonest_iff {s : State} : ReqHonest s ↔
    (s.req = .idle → s.cur = none) ∧
    ∀ d p, s.req = .executing d p → ∃ e, lastExec s = some e ∧ e.digest = d ∧
      (∀ r, p = .completed r → e.returned = some r) ∧
      (∀ u, p = .upd u → (∀ k, s.pc ≠ .drain k) → e.received.getLast? = some u) := by
  unfold ReqHonest
  split
  next hq => exact ⟨fun h => ⟨fun _ => h, fun _ _ h' => (nomatch hq.symm.trans h')⟩, fun h => h.1 hq⟩
  next d p hq =>
    exact ⟨fun h => ⟨fun h' => (nomatch hq.symm.trans h'), fun _ _ h' => by cases hq.symm.trans h'; exact h⟩,
      fun h => h.2 d p hq⟩

theorem lastExec_cur {s : State} {e : Exec} (hc : s.cur = some e) : lastExec s = some e := by
  unfold lastExec; rw [hc]

theorem filter_closed_nil {l : List Exec} (h : ∀ e ∈ l, e.closed = true ∧ e.received <+: e.emitted) :
    (l.filter (fun e => !e.closed)) = [] :=
  List.filter_eq_nil_iff.mpr fun e he => by simp [(h e he).1]

theorem live_zero_of {s : State} (hr : ∀ e ∈ s.retired, e.closed = true ∧ e.received <+: e.emitted)
    (hc : s.cur = none) : live s = 0 := by
  simp [live, hc, filter_closed_nil hr]

theorem live_le_one {s : State} (h : Inv s) : live s ≤ 1 := by
  unfold live
  rw [filter_closed_nil h.retired]
  cases s.cur with
  | none => simp
  | some e => simp [execLive]; split <;> omega

theorem updsOf_append (a b : List Msg) : updsOf (a ++ b) = updsOf a ++ updsOf b := by
  simp [updsOf]

theorem updsOf_nil : updsOf [] = [] := rfl

theorem updsOf_cons (m : Msg) (l : List Msg) : updsOf (m :: l) = updOf m ++ updsOf l := by
  simp [updsOf]

theorem applyMsgs_append (req : ReqState) (a : List Msg) (m : Msg) :
    applyMsgs req (a ++ [m]) = .executing m.d m.p := by
  induction a generalizing req with
  | nil => rfl
  | cons x t ih => simp [applyMsgs, ih]

/-- `applyExecutionUpdate` folded over a batch keeps only the last message. -/
theorem applyMsgs_eq (req : ReqState) (ms : List Msg) :
    applyMsgs req ms = match ms.getLast? with | none => req | some m => .executing m.d m.p := by
  rcases List.eq_nil_or_concat ms with rfl | ⟨a, m, rfl⟩
  · rfl
  · rw [List.concat_eq_append, applyMsgs_append, List.getLast?_concat]

theorem inv_init (t0 : Nat) : Inv (init t0) := by
  refine ⟨?_, ?_, ?_, ?_, ?_, ?_, ?_, ?_, ?_⟩ <;> simp [init, ReqHonest, LogInv, SentAfterCancel]

@[simp] theorem retRun_cancelled (s : State) (a b : Bool) : (retRun s a b).cancelled = s.cancelled := rfl
@[simp] theorem sendReq_cancelled (s : State) (rc : Bool) : (sendReq s rc).cancelled = s.cancelled := rfl
@[simp] theorem touch_cancelled (s : State) : (touch s).cancelled = s.cancelled := rfl
@[simp] theorem sendReq_lr (s : State) (rc : Bool) : (sendReq s rc).lastReply = s.lastReply := rfl
@[simp] theorem sendReq_mt (s : State) (rc : Bool) : (sendReq s rc).mayThink = s.mayThink := rfl
@[simp] theorem sendReq_ns (s : State) (rc : Bool) : (sendReq s rc).nextSync = s.nextSync := rfl
@[simp] theorem sendReq_pc (s : State) (rc : Bool) :
    (sendReq s rc).pc = .sync (preferOf s.req s.mayThink).2 := rfl
@[simp] theorem retRun_lr (s : State) (a b : Bool) : (retRun s a b).lastReply = s.lastReply := rfl
@[simp] theorem retRun_mt (s : State) (a b : Bool) : (retRun s a b).mayThink = s.mayThink := rfl
@[simp] theorem retRun_ns (s : State) (a b : Bool) : (retRun s a b).nextSync = s.nextSync := rfl

theorem retRun_nd (s : State) (a b : Bool) (k : DrainFor) : (retRun s a b).pc ≠ .drain k := by
  unfold retRun; split <;> nofun

theorem nd_of_pc {s : State} {pc : Pc} (h : s.pc = pc) (hpc : ∀ k, pc ≠ .drain k := by nofun) :
    ∀ k, s.pc ≠ .drain k := fun k hk => hpc k (h.symm.trans hk)

/-- `stopExecution` on a running execution: cancel it and start draining. -/
theorem stopThen_cur {s : State} {e : Exec} (hc : s.cur = some e) (k : DrainFor) :
    stopThen s k = { s with cur := some { e with cancelled := true }, pc := .drain k,
                            log := s.log ++ [.cancelExec e.id] } := by
  unfold stopThen
  split
  next e' hc' => cases hc.symm.trans hc'; rfl
  next hn => cases hc.symm.trans hn

/-- State after the consume loop of the `select` update branch (before the
clamp of `nextSynchronizationAt` and the send). -/
def consumed (s : State) (e : Exec) (seeClose : Bool) : State :=
  let ms := e.buf ++ e.blocked.toList
  let e1 := { e with buf := [], blocked := none, received := e.received ++ updsOf ms }
  let req := applyMsgs s.req ms
  if e.closed || (seeClose && e.returned.isSome) then
    { s with req := req, cur := none,
             retired := { e1 with closed := true, cancelled := true } :: s.retired,
             log := s.log ++ [.cancelExec e.id] }
  else { s with req := req, cur := some e1 }

/-- The consume loop only writes the request state, the executors and the log. -/
theorem consumed_frame (s : State) (e : Exec) (c : Bool) :
    consumed s e c = { s with req := (consumed s e c).req, cur := (consumed s e c).cur,
                              retired := (consumed s e c).retired, log := (consumed s e c).log } := by
  unfold consumed; dsimp only; split <;> rfl

/-- The instruction in the scheduler's reply `r` that makes the client stop the
current execution for `k`. -/
def toldFor (k : DrainFor) (r : Option Reply) : Prop :=
  match k with
  | .idle => ∃ ts, r = some (.reply (some ts) .idle)
  | .start d => ∃ ts, r = some (.reply (some ts) (.execute (.ok d)))

/-- What recording a scheduler reply may do to `mayThink`, `nextSync`, `maxSync`. -/
def Recorded (s : State) (mth : Option Nat) (ns ms : Nat) : Prop :=
  (s.nextSync ≤ s.maxSync → ns ≤ ms) ∧ s.maxSync ≤ ms ∧
    ∀ t, mth = some t → s.mayThink = some t ∨ t = s.nextSync + 60 ∨ t = ns + 60

theorem of_ite_some {α : Type} {c : Prop} [Decidable c] {x p : α}
    (h : (if c then some x else none) = some p) : c ∧ x = p := by
  by_cases hc : c
  · rw [if_pos hc] at h; exact ⟨hc, Option.some.inj h⟩
  · rw [if_neg hc] at h; cases h

theorem runBegin_eq {s s' : State} (hs : runBegin s = some s') : s.pc = .top ∧
    ((RetOK true (snap s false) ∧ s' = retRun s true false) ∨
     (s.mayThink = none ∧ s' = { s with pc := .ready }) ∨
     (s.mayThink.isSome = true ∧ s' = afterReady s false)) := by
  unfold runBegin at hs
  split at hs
  next hpc =>
    refine ⟨hpc, ?_⟩
    cases hm : s.mayThink with
    | none =>
      simp only [hm, Option.isNone_none, if_true] at hs
      split at hs
      · exact .inl ⟨fun _ => .inl hm, (Option.some.inj hs).symm⟩
      · exact .inr (.inl ⟨rfl, (Option.some.inj hs).symm⟩)
    | some t =>
      simp only [hm, Option.isNone_some, Bool.false_eq_true, if_false] at hs
      split at hs
      next hg =>
        rw [Bool.and_eq_true, decide_eq_true_eq] at hg
        exact .inl ⟨fun _ => .inr ⟨t, hm, hg.2⟩, (Option.some.inj hs).symm⟩
      next => exact .inr (.inr ⟨rfl, (Option.some.inj hs).symm⟩)
  next => cases hs

theorem readyResult_eq {s s' : State} {ok : Bool} (hs : readyResult s ok = some s') :
    s.pc = .ready ∧ (s' = afterReady s true ∨ s' = retRun s true true) := by
  unfold readyResult at hs
  split at hs
  next hpc =>
    refine ⟨hpc, ?_⟩
    split at hs
    · exact .inl (Option.some.inj hs).symm
    · exact .inr (Option.some.inj hs).symm
  next => cases hs

theorem wakeTimer_eq {s s' : State} (hs : wakeTimer s = some s') :
    ∃ rc, s.pc = .select rc ∧ s' = sendReq s rc := by
  unfold wakeTimer at hs
  split at hs
  next rc hpc => exact ⟨rc, hpc, (Option.some.inj hs).symm⟩
  next => cases hs

theorem emit_eq {s s' : State} {u : Upd} (hs : emit s u = some s') :
    ∃ e, s.cur = some e ∧ e.returned = none ∧ e.blocked = none ∧ e.closed = false ∧
      s' = { s with cur := some { push e ⟨e.digest, .upd u⟩ with emitted := e.emitted ++ [u] } } := by
  unfold emit at hs
  split at hs
  next e hc =>
    obtain ⟨hg, rfl⟩ := of_ite_some hs
    simp only [Bool.and_eq_true, Option.isNone_iff_eq_none, Bool.not_eq_true'] at hg
    exact ⟨e, hc, hg.1.1, hg.1.2, hg.2, rfl⟩
  next => cases hs

theorem finish_eq {s s' : State} {r : Resp} (hs : finish s r = some s') :
    ∃ e, s.cur = some e ∧ e.returned = none ∧ e.blocked = none ∧ e.closed = false ∧
      s' = { s with cur := some { push e ⟨e.digest, .completed r⟩ with returned := some r } } := by
  unfold finish at hs
  split at hs
  next e hc =>
    obtain ⟨hg, rfl⟩ := of_ite_some hs
    simp only [Bool.and_eq_true, Option.isNone_iff_eq_none, Bool.not_eq_true'] at hg
    exact ⟨e, hc, hg.1.1, hg.1.2, hg.2, rfl⟩
  next => cases hs

theorem close_eq {s s' : State} (hs : close s = some s') :
    ∃ e, s.cur = some e ∧ e.returned.isSome = true ∧ e.blocked = none ∧
      s' = { s with cur := some { e with closed := true } } := by
  unfold close at hs
  split at hs
  next e hc =>
    obtain ⟨hg, rfl⟩ := of_ite_some hs
    simp only [Bool.and_eq_true, Option.isNone_iff_eq_none] at hg
    exact ⟨e, hc, hg.1.1, hg.1.2, rfl⟩
  next => cases hs

theorem drainRecv_eq {s s' : State} (hs : drainRecv s = some s') :
    ∃ k e m rest, s.pc = .drain k ∧ s.cur = some e ∧ e.buf = m :: rest ∧
      s' = { s with cur := some { e with buf := rest ++ e.blocked.toList, blocked := none,
                                         received := e.received ++ updOf m } } := by
  unfold drainRecv at hs
  split at hs
  next k e hpc hc =>
    split at hs
    next => cases hs
    next m rest hb => exact ⟨k, e, m, rest, hpc, hc, hb, (Option.some.inj hs).symm⟩
  next => cases hs

theorem drainDone_eq {s s' : State} (hs : drainDone s = some s') :
    ∃ k e, s.pc = .drain k ∧ s.cur = some e ∧ e.closed = true ∧
      s' = finishStop { s with cur := none, retired := e :: s.retired } k := by
  unfold drainDone at hs
  split at hs
  next k e hpc hc =>
    obtain ⟨hg, rfl⟩ := of_ite_some hs
    exact ⟨k, e, hpc, hc, ((Bool.and_eq_true ..).mp hg).2, rfl⟩
  next => cases hs

/-- The update branch of `select` is the consume loop, the clamp of `nextSynchronizationAt`
to the current time, and the send. -/
theorem wakeUpdate_eq {s s' : State} {c : Bool} (hs : wakeUpdate s c = some s') :
    ∃ rc e, s.pc = .select rc ∧ s.cur = some e ∧
      s' = sendReq { s with req := (consumed s e c).req, cur := (consumed s e c).cur,
                            retired := (consumed s e c).retired, log := (consumed s e c).log,
                            nextSync := min s.nextSync s.now } rc := by
  unfold wakeUpdate at hs
  split at hs
  next rc e hpc hc =>
    by_cases hg : (e.buf.isEmpty && !e.closed) = true
    · rw [if_pos hg] at hs; cases hs
    · rw [if_neg hg] at hs
      refine ⟨rc, e, hpc, hc, (Option.some.inj hs).symm.trans (congrArg (sendReq · rc) ?_)⟩
      show (if (consumed s e c).nextSync > (consumed s e c).now
        then { consumed s e c with nextSync := (consumed s e c).now } else consumed s e c) = _
      rw [consumed_frame s e c]
      by_cases h : s.nextSync > s.now
      · rw [if_pos h, Nat.min_eq_right (Nat.le_of_lt h)]
      · rw [if_neg h, Nat.min_eq_left (Nat.le_of_not_lt h)]
  next => cases hs

/-- Every outcome of `reply` is `stopThen` or `retRun` applied to the state with the reply recorded
and new values `mth`, `ns`, `ms` of `mayThink`, `nextSync`, `maxSync`. -/
theorem reply_cases {s s' : State} {r : Reply} (hs : reply s r = some s') :
    ∃ ce, s.pc = .sync ce ∧ ∃ mth ns ms, Recorded s mth ns ms ∧
      ((∃ k, toldFor k (some r) ∧ (∀ ts d, r = .reply (some ts) d → ns = ts) ∧
          s' = stopThen { s with lastReply := some r, mayThink := mth, nextSync := ns, maxSync := ms } k) ∨
       ((∀ ts, r ≠ .reply (some ts) .idle) ∧ (∀ ts d, r ≠ .reply (some ts) (.execute (.ok d))) ∧
          ∃ mt err, (mt = true → mth = none) ∧
          s' = retRun { s with lastReply := some r, mayThink := mth, nextSync := ns, maxSync := ms } mt err)) := by
  unfold reply at hs
  split at hs
  next ce hpc =>
    refine ⟨ce, hpc, ?_⟩
    -- the conditional `touch` only changes `mayThink`
    have hs1 : (if s.mayThink.isNone = true then touch { s with lastReply := some r }
        else { s with lastReply := some r }) =
        { s with lastReply := some r
                 mayThink := if s.mayThink.isNone = true then some (s.nextSync + 60) else s.mayThink } := by
      split <;> rfl
    simp only [hs1] at hs
    have hm0 : ∀ ns t, (if s.mayThink.isNone = true then some (s.nextSync + 60) else s.mayThink) = some t →
        s.mayThink = some t ∨ t = s.nextSync + 60 ∨ t = ns + 60 := by
      intro _ t; split
      · intro h; exact .inr (.inl (Option.some.inj h).symm)
      · exact .inl
    have hmax : ∀ ts, (s.nextSync ≤ s.maxSync → ts ≤ max s.maxSync ts) ∧ s.maxSync ≤ max s.maxSync ts :=
      fun ts => ⟨fun _ => Nat.le_max_right .., Nat.le_max_left ..⟩
    cases r with
    | rpcError =>
      exact ⟨_, _, _, ⟨id, Nat.le_refl _, hm0 _⟩, .inr ⟨nofun, nofun, false, true, nofun, (Option.some.inj hs).symm⟩⟩
    | reply ts d =>
      cases ts with
      | none =>
        exact ⟨_, _, _, ⟨id, Nat.le_refl _, hm0 _⟩, .inr ⟨nofun, nofun, false, true, nofun, (Option.some.inj hs).symm⟩⟩
      | some ts =>
        cases d with
        | none =>
          cases ce with
          | true =>
            exact ⟨some (ts + 60), _, _, ⟨(hmax ts).1, (hmax ts).2, fun t h => .inr (.inr (Option.some.inj h).symm)⟩,
              .inr ⟨nofun, nofun, false, false, nofun, (Option.some.inj hs).symm⟩⟩
          | false =>
            exact ⟨none, _, _, ⟨(hmax ts).1, (hmax ts).2, nofun⟩,
              .inr ⟨nofun, nofun, true, false, fun _ => rfl, (Option.some.inj hs).symm⟩⟩
        | idle =>
          exact ⟨_, _, _, ⟨(hmax ts).1, (hmax ts).2, hm0 _⟩,
            .inl ⟨.idle, ⟨ts, rfl⟩, fun _ _ h => by cases h; rfl, (Option.some.inj hs).symm⟩⟩
        | unknown =>
          exact ⟨_, _, _, ⟨(hmax ts).1, (hmax ts).2, hm0 _⟩,
            .inr ⟨nofun, nofun, false, true, nofun, (Option.some.inj hs).symm⟩⟩
        | execute e =>
          cases e with
          | ok dg =>
            exact ⟨_, _, _, ⟨(hmax ts).1, (hmax ts).2, hm0 _⟩,
              .inl ⟨.start dg, ⟨ts, rfl⟩, fun _ _ h => by cases h; rfl, (Option.some.inj hs).symm⟩⟩
          | badSuffix dg | badDigestFunction dg =>
            exact ⟨_, _, _, ⟨(hmax ts).1, (hmax ts).2, hm0 _⟩,
              .inr ⟨nofun, nofun, false, true, nofun, (Option.some.inj hs).symm⟩⟩
  next => cases hs

/-- Where a segment of `Run` that stays outside `stopExecution` blocks next, and the log it leaves.
The disjunctions record where the thread came from: that `pc = ready` implies `mayThink = none`,
and `pc = select rc` implies `rc = true` or a may-think bound, are clauses of `Inv`, not of the step. -/
inductive Move (s : State) : Pc → List Obs → Prop
  | ret (mt err : Bool) (h : s.pc = .ready ∨ RetOK mt (snap s false)) :
      Move s (if mt && s.cancelled then .terminated else .top)
        (s.log ++ [.ret mt err (snap s false)])
  | ready (h : s.mayThink = none) : Move s .ready s.log
  | select (rc : Bool) (h : rc = true ∨ s.mayThink.isSome = true) :
      Move s (.select rc) (s.log ++ [.timer ((s.nextSync : Int) - (s.now : Int))])
  | send (rc : Bool) (h : s.pc = .select rc ∨ rc = true ∨ s.mayThink.isSome = true) :
      Move s (.sync (preferOf s.req s.mayThink).2)
        (s.log ++ [.sent ⟨s.req, s.cancelled || (preferOf s.req s.mayThink).1⟩ (snap s rc)])

theorem Move.nd {s : State} {pc' : Pc} {log' : List Obs} (h : Move s pc' log') (k : DrainFor) :
    pc' ≠ .drain k := by
  cases h with
  | ret => split <;> nofun
  | _ => nofun

/-- What one step of the client, the executor goroutine or the environment does to the state.
The targets are literal record updates, so that in a proof by cases a field the step does not
write is unchanged by `rfl` and the constructors that do not touch an invariant's fields close
together. -/
inductive Step (s : State) : State → Prop
  | move {pc' : Pc} {log' : List Obs} (hnd : ∀ k, s.pc ≠ .drain k) (h : Move s pc' log') :
      Step s { s with pc := pc', log := log' }
  | consume {rc : Bool} {e : Exec} (c : Bool) (hpc : s.pc = .select rc) (hc : s.cur = some e) :
      Step s { s with req := (consumed s e c).req, cur := (consumed s e c).cur,
                      retired := (consumed s e c).retired, log := (consumed s e c).log,
                      nextSync := min s.nextSync s.now }
  | record {ce : Bool} (r : Reply) (mth : Option Nat) (ns ms : Nat) (hpc : s.pc = .sync ce)
      (hr : Recorded s mth ns ms) (hk : ∀ k, ¬ toldFor k (some r)) :
      Step s { s with lastReply := some r, mayThink := mth, nextSync := ns, maxSync := ms }
  | stop {ce : Bool} (r : Reply) (mth : Option Nat) (ns ms : Nat) (k : DrainFor) (hpc : s.pc = .sync ce)
      (hr : Recorded s mth ns ms) (hk : toldFor k (some r))
      (hns : ∀ ts d, r = .reply (some ts) d → ns = ts) :
      Step s (stopThen { s with lastReply := some r, mayThink := mth, nextSync := ns, maxSync := ms } k)
  | recv {k : DrainFor} {e : Exec} {m : Msg} {rest : List Msg} (hpc : s.pc = .drain k)
      (hc : s.cur = some e) (hb : e.buf = m :: rest) :
      Step s { s with cur := some { e with buf := rest ++ e.blocked.toList, blocked := none,
                                           received := e.received ++ updOf m } }
  | drained {k : DrainFor} {e : Exec} (hpc : s.pc = .drain k) (hc : s.cur = some e)
      (hcl : e.closed = true) :
      Step s (finishStop { s with cur := none, retired := e :: s.retired } k)
  | emit {e : Exec} (u : Upd) (hc : s.cur = some e) (hr : e.returned = none) (hb : e.blocked = none)
      (hcl : e.closed = false) :
      Step s { s with cur := some { push e ⟨e.digest, .upd u⟩ with emitted := e.emitted ++ [u] } }
  | finish {e : Exec} (r : Resp) (hc : s.cur = some e) (hr : e.returned = none)
      (hb : e.blocked = none) (hcl : e.closed = false) :
      Step s { s with cur := some { push e ⟨e.digest, .completed r⟩ with returned := some r } }
  | close {e : Exec} (hc : s.cur = some e) (hr : e.returned.isSome = true) (hb : e.blocked = none) :
      Step s { s with cur := some { e with closed := true } }
  | cancel : Step s { s with cancelled := true, log := s.log ++ [.cancel] }
  | tick (n : Nat) : Step s { s with now := s.now + n }

theorem Step.afterReady {s : State} (hnd : ∀ k, s.pc ≠ .drain k) (rc : Bool)
    (h : rc = true ∨ s.mayThink.isSome = true) : Step s (afterReady s rc) := by
  unfold BuildClient.afterReady; split
  · exact .move hnd (.select rc h)
  · exact .move hnd (.send rc (.inr h))

/-- Every enabled event is one `Step`, or two (`wakeUpdate`: consume, then send; a reply that is no
instruction: record it, then return). -/
theorem step?_sound {s s' : State} {ev : Ev} (hs : step? s ev = some s') :
    Step s s' ∨ ∃ s₁, Step s s₁ ∧ Step s₁ s' := by
  cases ev with
  | runBegin =>
    obtain ⟨hpc, ⟨hok, rfl⟩ | ⟨hm, rfl⟩ | ⟨hm, rfl⟩⟩ := runBegin_eq hs
    · exact .inl (.move (nd_of_pc hpc) (.ret _ _ (.inr hok)))
    · exact .inl (.move (nd_of_pc hpc) (.ready hm))
    · exact .inl (.afterReady (nd_of_pc hpc) _ (.inr hm))
  | readyResult ok =>
    obtain ⟨hpc, rfl | rfl⟩ := readyResult_eq hs
    · exact .inl (.afterReady (nd_of_pc hpc) _ (.inl rfl))
    · exact .inl (.move (nd_of_pc hpc) (.ret _ _ (.inl hpc)))
  | wakeTimer =>
    obtain ⟨rc, hpc, rfl⟩ := wakeTimer_eq hs
    exact .inl (.move (nd_of_pc hpc) (.send rc (.inl hpc)))
  | wakeUpdate c =>
    obtain ⟨rc, e, hpc, hc, rfl⟩ := wakeUpdate_eq hs
    exact .inr ⟨_, .consume c hpc hc, .move (nd_of_pc hpc) (.send rc (.inl hpc))⟩
  | reply r =>
    obtain ⟨ce, hpc, mth, ns, ms, hr, ⟨k, hk, hns, rfl⟩ | ⟨hni, hne, mt, err, hok, rfl⟩⟩ := reply_cases hs
    · exact .inl (.stop r mth ns ms k hpc hr hk hns)
    · refine .inr ⟨_, .record r mth ns ms hpc hr ?_,
        .move (nd_of_pc hpc) (.ret mt err (.inr fun h => .inl (hok h)))⟩
      rintro (_ | d) ⟨ts, h⟩
      · exact hni ts (Option.some.inj h)
      · exact hne ts d (Option.some.inj h)
  | drainRecv => obtain ⟨k, e, m, rest, hpc, hc, hb, rfl⟩ := drainRecv_eq hs; exact .inl (.recv hpc hc hb)
  | drainDone => obtain ⟨k, e, hpc, hc, hcl, rfl⟩ := drainDone_eq hs; exact .inl (.drained hpc hc hcl)
  | cancel => cases hs; exact .inl .cancel
  | tick n => cases hs; exact .inl (.tick n)
  | emit u => obtain ⟨e, hc, hr, hb, hcl, rfl⟩ := emit_eq hs; exact .inl (.emit u hc hr hb hcl)
  | finish r => obtain ⟨e, hc, hr, hb, hcl, rfl⟩ := finish_eq hs; exact .inl (.finish r hc hr hb hcl)
  | close => obtain ⟨e, hc, hr, hb, rfl⟩ := close_eq hs; exact .inl (.close hc hr hb)

theorem step?_closed {P : State → Prop} (h : ∀ s s', P s → Step s s' → P s') {s s' : State} {ev : Ev}
    (hp : P s) (hs : step? s ev = some s') : P s' := by
  rcases step?_sound hs with h1 | ⟨s₁, h1, h2⟩
  · exact h _ _ hp h1
  · exact h _ _ (h _ _ hp h1) h2

theorem step_of_step? {P : State → Prop} {s : State} {ev : Ev} (hs : P s)
    (h : ∀ s', step? s ev = some s' → P s') : P (step s ev) := by
  unfold step
  cases hs' : step? s ev with
  | none => exact hs
  | some s' => exact h s' hs'

theorem run_closed {P : State → Prop} (h : ∀ s s', P s → Step s s' → P s') {s : State} (hp : P s)
    (evs : List Ev) : P (run s evs) := by
  induction evs generalizing s with
  | nil => exact hp
  | cons ev t ih => exact ih (step_of_step? hp fun _ => step?_closed h hp)

theorem run_append (s : State) (a b : List Ev) : run s (a ++ b) = run (run s a) b :=
  List.foldl_append

end BbRe.Lemmas.BuildClient
