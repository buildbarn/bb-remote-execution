import BbRe.Lemmas.SchedLivePath
/-!
`Frame`: what every update outside the client calls leaves alone (the parked client streams, the blocked
`TerminateWorkers` calls, the configuration) and that the events it emits are never addressed to a client
(`msg` / `ret`); `SFrame`: the part of it that `TerminateWorkers` and its wake-up keep.  Both are closure proofs
over the primitives of `SchedLivePath`.
-/
namespace BbRe.Lemmas.SchedLive
open BbRe.Sched

structure Frame (s s' : State) : Prop where
  streams : s'.streams = s.streams
  terms : s'.terms = s.terms
  cfg : s'.cfg = s.cfg
  events : ∃ new, s'.events = new ++ s.events ∧ ∀ e ∈ new, isClientEv e = false

theorem Frame.refl (s : State) : Frame s s := ⟨rfl, rfl, rfl, [], rfl, fun _ h => nomatch h⟩

theorem Frame.trans {a b c : State} (h1 : Frame a b) (h2 : Frame b c) : Frame a c := by
  obtain ⟨n1, e1, p1⟩ := h1.events
  obtain ⟨n2, e2, p2⟩ := h2.events
  refine ⟨h2.streams.trans h1.streams, h2.terms.trans h1.terms, h2.cfg.trans h1.cfg, n2 ++ n1, ?_, ?_⟩
  · rw [e2, e1, List.append_assoc]
  · intro e he; rcases List.mem_append.1 he with h | h
    · exact p2 e h
    · exact p1 e h

/-- a state update that leaves the four components alone -/
theorem Frame.of_eq {s s' : State} (h1 : s'.streams = s.streams) (h2 : s'.terms = s.terms)
    (h3 : s'.cfg = s.cfg) (h4 : s'.events = s.events) : Frame s s' :=
  ⟨h1, h2, h3, [], h4, fun _ h => nomatch h⟩

theorem nonclient_singleton {ev : Event} (h : isClientEv ev = false) : ∀ e ∈ [ev], isClientEv e = false :=
  fun e he => by rw [List.mem_singleton.1 he]; exact h

theorem Frame.of_ev {s s' : State} {ev : Event} (h1 : s'.streams = s.streams) (h2 : s'.terms = s.terms)
    (h3 : s'.cfg = s.cfg) (h4 : s'.events = ev :: s.events) (h5 : isClientEv ev = false) : Frame s s' :=
  ⟨h1, h2, h3, [ev], h4, nonclient_singleton h5⟩

theorem schedule_frame {h : Hints} {s s' : State} {tid : Nat} (hh : schedule h s tid = .ok s') : Frame s s' := by
  obtain ⟨t, _, h1 | h1⟩ := schedule_ok hh
  · obtain ⟨_, rfl⟩ := h1; exact Frame.of_eq rfl rfl rfl rfl
  · obtain ⟨_, w, w1, _, _, _, _, _, rfl⟩ := h1; exact Frame.of_eq (by simp) (by simp) (by simp) (by simp)

theorem assignNext_frame {h : Hints} {s s1 : State} {w : Worker} {got : Bool}
    (hh : assignNext h s w = .ok (s1, got)) : Frame s s1 := by
  rcases assignNext_ok hh with ⟨_, rfl, _⟩ | ⟨_, t, t', _, _, _, _, rfl⟩
  · exact Frame.refl _
  · exact Frame.of_eq (by simp) (by simp) (by simp) (by simp)

theorem syncReturn_frame (s : State) (q : ScqId) (w : WId) : Frame s (syncReturn s q w) :=
  Frame.of_eq (by simp) (by simp) (by simp) (by simp)

/-- the state carried by either outcome of `syncQueue` / `syncWorker` -/
def unsum (x : State ⊕ State) : State := match x with | .inl s => s | .inr s => s

theorem foldl_frame {α} (f : State → α → State) (hf : ∀ s a, Frame s (f s a)) (l : List α) (s : State) :
    Frame s (l.foldl f s) :=
  foldl_rel Frame Frame.refl Frame.trans f hf l s

theorem drainWake_frame (q : ScqId) (p : Pattern) (s : State) (w : Worker) : Frame s (drainWake q p s w) := by
  unfold drainWake; split
  · exact Frame.of_eq rfl rfl rfl rfl
  · exact Frame.refl _

theorem termMark_frame (s : State) (w : Worker) : Frame s (termMark s w) := by
  unfold termMark
  split
  · split
    · split
      · exact Frame.of_eq rfl rfl rfl rfl
      · exact Frame.of_eq rfl rfl rfl rfl
    · exact Frame.of_eq rfl rfl rfl rfl
  · exact Frame.refl _

/-- streams untouched, no client events (what `terminate` / `termWake` still guarantee) -/
structure SFrame (s s' : State) : Prop where
  streams : s'.streams = s.streams
  events : ∃ new, s'.events = new ++ s.events ∧ ∀ e ∈ new, isClientEv e = false

theorem Frame.toS {s s' : State} (h : Frame s s') : SFrame s s' := ⟨h.streams, h.events⟩

theorem SFrame.trans {a b c : State} (h1 : SFrame a b) (h2 : SFrame b c) : SFrame a c := by
  obtain ⟨n1, e1, p1⟩ := h1.events
  obtain ⟨n2, e2, p2⟩ := h2.events
  refine ⟨h2.streams.trans h1.streams, n2 ++ n1, by rw [e2, e1, List.append_assoc], ?_⟩
  intro e he; rcases List.mem_append.1 he with h | h
  · exact p2 e h
  · exact p1 e h

/-! ## the primitive updates -/

theorem IPrim.frame {P : Nat → Resp → Prop} {allow : Prop} {a b : State} (p : IPrim P allow a b) : Frame a b := by
  cases p with
  | now | pop | eraseOp => exact Frame.of_eq rfl rfl rfl rfl
  | dropWorker | dropOpT | dropScq => exact Frame.of_eq (by simp) (by simp) (by simp) (by simp)
  | final _ _ _ _ hev => exact Frame.of_ev (by simp) (by simp) (by simp) (by simp) hev
  | learner _ _ hev => exact Frame.of_ev rfl rfl rfl rfl hev
  | bg _ _ _ _ _ _ h2 => exact (Frame.of_eq (by simp) (by simp) (by simp) (by simp)).trans (schedule_frame h2)
  | @retry h _ _ tid l t r _ _ _ _ h1 =>
    obtain ⟨s2, t2, h2, _, rfl⟩ := completeRetry_ok h1
    exact ((Frame.of_ev (ev := .learnerFailed l (r.code = cDeadlineExceeded) (some a.nextLearner))
      (by simp) (by simp) (by simp) (by simp) rfl).trans (schedule_frame h2)).trans (Frame.of_eq rfl rfl rfl rfl)

theorem WPrim.frame {P : Nat → Resp → Prop} {allow : Prop} {q : ScqId} {w : WId} {a b : State}
    (p : WPrim P allow q w a b) : Frame a b := by
  cases p with
  | int p => exact p.frame
  | ev _ he => exact Frame.of_ev rfl rfl rfl rfl he
  | qKnown | addScq | addPqScq | inSync | addWorker | park | drainWait | retryInc | unpark | unwoken | undrain =>
    exact Frame.of_eq rfl rfl rfl rfl
  | ret => exact syncReturn_frame ..
  | assign _ _ _ h2 => exact assignNext_frame h2

/-- The operator calls keep `SFrame`, and `Frame` unless they are `TerminateWorkers` or its wake-up. -/
theorem OPrim.sframe {term : Prop} {a b : State} (p : OPrim term a b) : SFrame a b ∧ (¬ term → Frame a b) := by
  have fr : Frame a b → SFrame a b ∧ (¬ term → Frame a b) := fun f => ⟨f.toS, fun _ => f⟩
  cases p with
  | int p => exact fr p.frame
  | ev he => exact fr (Frame.of_ev rfl rfl rfl rfl he)
  | addDrain p _ => exact fr ((Frame.of_eq (s := a) (s' := a.setScq _) rfl rfl rfl rfl).trans (foldl_frame _ (drainWake_frame _ p) _ _))
  | removeDrain | register => exact fr (Frame.of_eq rfl rfl rfl rfl)
  | termMark => exact fr (termMark_frame ..)
  | addTerm ht | dropTerm ht => exact ⟨⟨rfl, [], rfl, fun _ h => nomatch h⟩, fun h => absurd ht h⟩

theorem OPrim.frame {a b : State} (p : OPrim False a b) : Frame a b := p.sframe.2 id

theorem enter_frame {h : Hints} {s s' : State} {t : Nat} (hh : enter h s t = .ok s') : Frame s s' :=
  (enter_path hh).rel Frame Frame.refl Frame.trans IPrim.frame

/-- the segments that serve a client stream (`Execute`, `WaitExecution`, a stream's wake-up) -/
def isStreamSeg : Seg → Bool
  | .exec .. | .wait .. | .streamWake .. => true
  | _ => false

/-- `TerminateWorkers` and the wake-up of a blocked one -/
def isTermSeg : Seg → Bool
  | .terminate .. | .termWake .. => true
  | _ => false

/-- **The segments that serve no client stream** leave the parked streams alone and emit no client event; all of
them but `TerminateWorkers` and its wake-up keep the whole frame. -/
theorem step_sframe {s s' : State} {g : Seg} (hstep : step s g = .ok s') (hg : isStreamSeg g = false) :
    SFrame s s' ∧ (isTermSeg g = false → Frame s s') := by
  have p := step_path hstep
  have fr : Frame s s' → SFrame s s' ∧ (isTermSeg g = false → Frame s s') := fun f => ⟨f.toS, fun _ => f⟩
  cases g with
  | exec | wait | streamWake => cases hg
  | sync | syncWake => exact fr (p.rel Frame Frame.refl Frame.trans WPrim.frame)
  | terminate | termWake =>
    exact ⟨p.rel SFrame (fun s => (Frame.refl s).toS) SFrame.trans (fun x => x.sframe.1), fun h => nomatch h⟩
  | _ => exact fr (p.rel Frame Frame.refl Frame.trans OPrim.frame)

end BbRe.Lemmas.SchedLive
