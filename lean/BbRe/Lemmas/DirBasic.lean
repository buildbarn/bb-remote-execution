import BbRe.Model.Dir
/-!
Basic facts about the store of `Model/Dir.lean`: reading a directory / leaf
after an update, the list of all child references (`refs`) and how the
primitive updates change it.
-/
namespace BbRe.Lemmas.Dir
open BbRe.Dir

theorem sum_map_set {α : Type} (f : α → Nat) (l : List α) (i : Nat) (x : α) (h : i < l.length) :
    ((l.set i x).map f).sum + f l[i] = (l.map f).sum + f x := by
  induction l generalizing i with
  | nil => cases h
  | cons a l ih =>
    cases i with
    | zero => simp only [List.set_cons_zero, List.map_cons, List.sum_cons, List.getElem_cons_zero]; omega
    | succ i =>
      have := ih i (Nat.lt_of_succ_lt_succ h)
      simp only [List.set_cons_succ, List.map_cons, List.sum_cons, List.getElem_cons_succ]; omega

theorem getD_set {α : Type} (l : List α) (i j : Nat) (x dflt : α) :
    (l.set i x)[j]?.getD dflt = if i = j ∧ i < l.length then x else l[j]?.getD dflt := by
  rw [List.getElem?_set]
  by_cases h : i = j
  · subst h
    by_cases h2 : i < l.length
    · simp [h2]
    · simp [h2]
  · simp [h]

theorem getD_push {α : Type} (l : List α) (x dflt : α) (j : Nat) :
    (l ++ [x])[j]?.getD dflt = if j = l.length then x else l[j]?.getD dflt := by
  rw [List.getElem?_append]
  by_cases h : j < l.length
  · rw [if_pos h, if_neg (Nat.ne_of_lt h)]
  · rw [if_neg h, List.getElem?_eq_none_iff.mpr (Nat.le_of_not_lt h)]
    by_cases h2 : j = l.length
    · simp [h2]
    · rw [if_neg h2, List.getElem?_eq_none_iff.mpr (by simp; omega)]

theorem count_flatMap_set {α β : Type} [DecidableEq β] (f : α → List β) (c : β) (l : List α) (i : Nat) (x : α)
    (h : i < l.length) :
    (List.count c ((l.set i x).flatMap f)) + List.count c (f l[i]) =
      List.count c (l.flatMap f) + List.count c (f x) := by
  rw [List.count_flatMap, List.count_flatMap]
  exact sum_map_set (List.count c ∘ f) l i x h

theorem mem_flatMap_set {α β : Type} (f : α → List β) (c : β) (l : List α) (i : Nat) (x : α)
    (h : c ∈ (l.set i x).flatMap f) : c ∈ l.flatMap f ∨ c ∈ f x := by
  rw [List.mem_flatMap] at h
  obtain ⟨y, hy, hc⟩ := h
  rcases List.mem_or_eq_of_mem_set hy with h1 | h1
  · exact Or.inl (List.mem_flatMap.mpr ⟨y, h1, hc⟩)
  · subst h1; exact Or.inr hc

@[simp] theorem dirs_setDir (s : Store) (d : Nat) (x : Dir) : (s.setDir d x).dirs = s.dirs.set d x := rfl
@[simp] theorem leaves_setDir (s : Store) (d : Nat) (x : Dir) : (s.setDir d x).leaves = s.leaves := rfl
@[simp] theorem tmpls_setDir (s : Store) (d : Nat) (x : Dir) : (s.setDir d x).tmpls = s.tmpls := rfl
@[simp] theorem fetchFail_setDir (s : Store) (d : Nat) (x : Dir) : (s.setDir d x).fetchFail = s.fetchFail := rfl
@[simp] theorem allocFail_setDir (s : Store) (d : Nat) (x : Dir) : (s.setDir d x).allocFail = s.allocFail := rfl
@[simp] theorem dirs_modDir (s : Store) (d : Nat) (f : Dir → Dir) :
    (s.modDir d f).dirs = s.dirs.set d (f (s.dir d)) := rfl
@[simp] theorem leaves_modDir (s : Store) (d : Nat) (f : Dir → Dir) : (s.modDir d f).leaves = s.leaves := rfl
@[simp] theorem tmpls_modDir (s : Store) (d : Nat) (f : Dir → Dir) : (s.modDir d f).tmpls = s.tmpls := rfl
@[simp] theorem fetchFail_modDir (s : Store) (d : Nat) (f : Dir → Dir) : (s.modDir d f).fetchFail = s.fetchFail := rfl
@[simp] theorem allocFail_modDir (s : Store) (d : Nat) (f : Dir → Dir) : (s.modDir d f).allocFail = s.allocFail := rfl
@[simp] theorem dirs_pushDir (s : Store) (x : Dir) : (s.pushDir x).dirs = s.dirs ++ [x] := rfl
@[simp] theorem leaves_pushDir (s : Store) (x : Dir) : (s.pushDir x).leaves = s.leaves := rfl
@[simp] theorem tmpls_pushDir (s : Store) (x : Dir) : (s.pushDir x).tmpls = s.tmpls := rfl
@[simp] theorem fetchFail_pushDir (s : Store) (x : Dir) : (s.pushDir x).fetchFail = s.fetchFail := rfl
@[simp] theorem allocFail_pushDir (s : Store) (x : Dir) : (s.pushDir x).allocFail = s.allocFail := rfl
@[simp] theorem dirs_setLeaf (s : Store) (l : Nat) (x : Leaf) : (s.setLeaf l x).dirs = s.dirs := rfl
@[simp] theorem leaves_setLeaf (s : Store) (l : Nat) (x : Leaf) : (s.setLeaf l x).leaves = s.leaves.set l x := rfl
@[simp] theorem tmpls_setLeaf (s : Store) (l : Nat) (x : Leaf) : (s.setLeaf l x).tmpls = s.tmpls := rfl
@[simp] theorem fetchFail_setLeaf (s : Store) (l : Nat) (x : Leaf) : (s.setLeaf l x).fetchFail = s.fetchFail := rfl
@[simp] theorem allocFail_setLeaf (s : Store) (l : Nat) (x : Leaf) : (s.setLeaf l x).allocFail = s.allocFail := rfl
@[simp] theorem dirs_pushLeaf (s : Store) (x : Leaf) : (s.pushLeaf x).dirs = s.dirs := rfl
@[simp] theorem leaves_pushLeaf (s : Store) (x : Leaf) : (s.pushLeaf x).leaves = s.leaves ++ [x] := rfl
@[simp] theorem tmpls_pushLeaf (s : Store) (x : Leaf) : (s.pushLeaf x).tmpls = s.tmpls := rfl
@[simp] theorem fetchFail_pushLeaf (s : Store) (x : Leaf) : (s.pushLeaf x).fetchFail = s.fetchFail := rfl
@[simp] theorem allocFail_pushLeaf (s : Store) (x : Leaf) : (s.pushLeaf x).allocFail = s.allocFail := rfl
@[simp] theorem dirs_link (s : Store) (l : Nat) : (s.link l).dirs = s.dirs := rfl
@[simp] theorem dirs_unlink (s : Store) (l : Nat) : (s.unlink l).dirs = s.dirs := rfl
@[simp] theorem tmpls_link (s : Store) (l : Nat) : (s.link l).tmpls = s.tmpls := rfl
@[simp] theorem tmpls_unlink (s : Store) (l : Nat) : (s.unlink l).tmpls = s.tmpls := rfl
@[simp] theorem fetchFail_link (s : Store) (l : Nat) : (s.link l).fetchFail = s.fetchFail := rfl
@[simp] theorem fetchFail_unlink (s : Store) (l : Nat) : (s.unlink l).fetchFail = s.fetchFail := rfl
@[simp] theorem allocFail_link (s : Store) (l : Nat) : (s.link l).allocFail = s.allocFail := rfl
@[simp] theorem allocFail_unlink (s : Store) (l : Nat) : (s.unlink l).allocFail = s.allocFail := rfl
@[simp] theorem leaves_length_link (s : Store) (l : Nat) : (s.link l).leaves.length = s.leaves.length := by
  simp [Store.link]
@[simp] theorem leaves_length_unlink (s : Store) (l : Nat) : (s.unlink l).leaves.length = s.leaves.length := by
  simp [Store.unlink]

theorem dir_eq_of_dirs {s t : Store} (h : s.dirs = t.dirs) (d : Nat) : s.dir d = t.dir d := by
  simp [Store.dir, h]

@[simp] theorem dir_setLeaf (s : Store) (l : Nat) (x : Leaf) (d : Nat) : (s.setLeaf l x).dir d = s.dir d := rfl
@[simp] theorem dir_pushLeaf (s : Store) (x : Leaf) (d : Nat) : (s.pushLeaf x).dir d = s.dir d := rfl
@[simp] theorem dir_link (s : Store) (l : Nat) (d : Nat) : (s.link l).dir d = s.dir d := rfl
@[simp] theorem dir_unlink (s : Store) (l : Nat) (d : Nat) : (s.unlink l).dir d = s.dir d := rfl

theorem dir_setDir (s : Store) (d d' : Nat) (x : Dir) :
    (s.setDir d x).dir d' = if d = d' ∧ d < s.dirs.length then x else s.dir d' :=
  getD_set s.dirs d d' x default

theorem dir_setDir_self (s : Store) (d : Nat) (x : Dir) (h : d < s.dirs.length) :
    (s.setDir d x).dir d = x := by simp [dir_setDir, h]

theorem dir_setDir_ne (s : Store) (d d' : Nat) (x : Dir) (h : d ≠ d') :
    (s.setDir d x).dir d' = s.dir d' := by simp [dir_setDir, h]

theorem dir_modDir (s : Store) (d d' : Nat) (f : Dir → Dir) :
    (s.modDir d f).dir d' = if d = d' ∧ d < s.dirs.length then f (s.dir d) else s.dir d' :=
  dir_setDir s d d' _

theorem dir_modDir_self (s : Store) (d : Nat) (f : Dir → Dir) (h : d < s.dirs.length) :
    (s.modDir d f).dir d = f (s.dir d) := by simp [dir_modDir, h]

theorem dir_modDir_ne (s : Store) (d d' : Nat) (f : Dir → Dir) (h : d ≠ d') :
    (s.modDir d f).dir d' = s.dir d' := by simp [dir_modDir, h]

/-- What `f` keeps of a directory record, `modDir _ f` keeps of every directory of the store. -/
theorem dir_modDir_keeps {φ : Dir → Prop} {f : Dir → Dir} {s : Store} {d d' : Nat} (hf : ∀ x, φ x → φ (f x))
    (h : φ (s.dir d')) : φ ((s.modDir d f).dir d') := by
  rw [dir_modDir]
  split
  · next hc => obtain ⟨rfl, _⟩ := hc; exact hf _ h
  · exact h

theorem dir_pushDir (s : Store) (x : Dir) (d : Nat) :
    (s.pushDir x).dir d = if d = s.dirs.length then x else s.dir d :=
  getD_push s.dirs x default d

theorem dir_pushDir_lt (s : Store) (x : Dir) (d : Nat) (h : d < s.dirs.length) :
    (s.pushDir x).dir d = s.dir d := by
  have : d ≠ s.dirs.length := by omega
  simp [dir_pushDir, this]

theorem dir_pushDir_new (s : Store) (x : Dir) : (s.pushDir x).dir s.dirs.length = x := by
  simp [dir_pushDir]

theorem dir_mem (s : Store) (d : Nat) (h : d < s.dirs.length) : s.dir d ∈ s.dirs := by
  unfold Store.dir
  simp [List.getElem?_eq_getElem h]

theorem dir_default (s : Store) (d : Nat) (h : s.dirs.length ≤ d) : s.dir d = default := by
  unfold Store.dir
  simp [List.getElem?_eq_none_iff.mpr h]

theorem leaf_setLeaf (s : Store) (l l' : Nat) (x : Leaf) :
    (s.setLeaf l x).leaf l' = if l = l' ∧ l < s.leaves.length then x else s.leaf l' :=
  getD_set s.leaves l l' x default

@[simp] theorem leaf_setDir (s : Store) (d : Nat) (x : Dir) (l : Nat) : (s.setDir d x).leaf l = s.leaf l := rfl
@[simp] theorem leaf_modDir (s : Store) (d : Nat) (f : Dir → Dir) (l : Nat) : (s.modDir d f).leaf l = s.leaf l := rfl
@[simp] theorem leaf_pushDir (s : Store) (x : Dir) (l : Nat) : (s.pushDir x).leaf l = s.leaf l := rfl

theorem leaf_pushLeaf (s : Store) (x : Leaf) (l : Nat) :
    (s.pushLeaf x).leaf l = if l = s.leaves.length then x else s.leaf l :=
  getD_push s.leaves x default l

theorem leaf_default (s : Store) (l : Nat) (h : s.leaves.length ≤ l) : s.leaf l = default := by
  unfold Store.leaf
  simp [List.getElem?_eq_none_iff.mpr h]

theorem links_link (s : Store) (l l' : Nat) :
    ((s.link l).leaf l').links = if l = l' ∧ l < s.leaves.length then (s.leaf l').links + 1 else (s.leaf l').links := by
  unfold Store.link
  rw [leaf_setLeaf]
  by_cases h : l = l' ∧ l < s.leaves.length
  · obtain ⟨rfl, h2⟩ := h; simp [h2]
  · simp [h]

theorem links_unlink (s : Store) (l l' : Nat) :
    ((s.unlink l).leaf l').links = if l = l' ∧ l < s.leaves.length then (s.leaf l').links - 1 else (s.leaf l').links := by
  unfold Store.unlink
  rw [leaf_setLeaf]
  by_cases h : l = l' ∧ l < s.leaves.length
  · obtain ⟨rfl, h2⟩ := h; simp [h2]
  · simp [h]

/-- Every child reference held by some directory entry of the store. -/
def refs (s : Store) : List Child := s.dirs.flatMap (fun x => x.entries.map (fun e => e.child))

theorem mem_refs {s : Store} {c : Child} :
    c ∈ refs s ↔ ∃ x ∈ s.dirs, ∃ e ∈ x.entries, e.child = c := by
  simp [refs, List.mem_flatMap, List.mem_map]

@[simp] theorem refs_setLeaf (s : Store) (l : Nat) (x : Leaf) : refs (s.setLeaf l x) = refs s := rfl
@[simp] theorem refs_pushLeaf (s : Store) (x : Leaf) : refs (s.pushLeaf x) = refs s := rfl
@[simp] theorem refs_link (s : Store) (l : Nat) : refs (s.link l) = refs s := rfl
@[simp] theorem refs_unlink (s : Store) (l : Nat) : refs (s.unlink l) = refs s := rfl

theorem refs_pushDir (s : Store) (x : Dir) : refs (s.pushDir x) = refs s ++ x.entries.map (fun e => e.child) := by
  simp [refs]

theorem count_refs_setDir (s : Store) (d : Nat) (x : Dir) (c : Child) (h : d < s.dirs.length) :
    (refs (s.setDir d x)).count c + ((s.dir d).entries.map (fun e => e.child)).count c =
      (refs s).count c + (x.entries.map (fun e => e.child)).count c := by
  have := count_flatMap_set (fun x : Dir => x.entries.map (fun e => e.child)) c s.dirs d x h
  simpa [refs, Store.dir, List.getElem?_eq_getElem h] using this

theorem refs_setDir_ge (s : Store) (d : Nat) (x : Dir) (h : s.dirs.length ≤ d) : refs (s.setDir d x) = refs s := by
  simp [refs, List.set_eq_of_length_le h]

theorem mem_refs_setDir (s : Store) (d : Nat) (x : Dir) (c : Child) (h : c ∈ refs (s.setDir d x)) :
    c ∈ refs s ∨ c ∈ x.entries.map (fun e => e.child) :=
  mem_flatMap_set _ c s.dirs d x h

theorem find?_eq_none {x : Dir} {n : Nat} : x.find? n = none ↔ ∀ e ∈ x.entries, e.norm ≠ n := by
  simp [Dir.find?, List.find?_eq_none]

theorem find?_some {x : Dir} {n : Nat} {e : Entry} (h : x.find? n = some e) : e ∈ x.entries ∧ e.norm = n := by
  unfold Dir.find? at h
  have h1 := List.mem_of_find?_eq_some h
  have h2 := List.find?_some h
  exact ⟨h1, by simpa using h2⟩

@[simp] theorem attach_entries (x : Dir) (name norm : Nat) (c : Child) :
    (x.attach name norm c).entries = x.entries ++ [⟨name, norm, x.changeID, c⟩] := rfl
@[simp] theorem attach_changeID (x : Dir) (name norm : Nat) (c : Child) :
    (x.attach name norm c).changeID = x.changeID + 1 := rfl
@[simp] theorem attach_deleted (x : Dir) (name norm : Nat) (c : Child) : (x.attach name norm c).deleted = x.deleted := rfl
@[simp] theorem attach_lazy (x : Dir) (name norm : Nat) (c : Child) : (x.attach name norm c).lazy = x.lazy := rfl
@[simp] theorem attach_fs (x : Dir) (name norm : Nat) (c : Child) : (x.attach name norm c).fs = x.fs := rfl
@[simp] theorem detach_entries (x : Dir) (n : Nat) :
    (x.detach n).entries = x.entries.filter (fun e => e.norm != n) := rfl
@[simp] theorem detach_changeID (x : Dir) (n : Nat) : (x.detach n).changeID = x.changeID + 1 := rfl
@[simp] theorem detach_deleted (x : Dir) (n : Nat) : (x.detach n).deleted = x.deleted := rfl
@[simp] theorem detach_lazy (x : Dir) (n : Nat) : (x.detach n).lazy = x.lazy := rfl
@[simp] theorem detach_fs (x : Dir) (n : Nat) : (x.detach n).fs = x.fs := rfl

theorem find?_detach_self (x : Dir) (n : Nat) : (x.detach n).find? n = none := by
  rw [find?_eq_none]
  intro e he
  simp [List.mem_filter] at he
  exact he.2

theorem find?_detach_ne (x : Dir) (n m : Nat) (h : n ≠ m) : (x.detach n).find? m = x.find? m := by
  unfold Dir.find?
  simp only [detach_entries]
  induction x.entries with
  | nil => rfl
  | cons e rest ih =>
    by_cases h1 : e.norm = n
    · simp [h1, h, ih]
    · by_cases h2 : e.norm = m
      · have h5 : ¬ m = n := fun h' => h1 (h2.trans h')
        simp [h2, h5]
      · simp [h1, h2, ih]

theorem find?_detach_none {x : Dir} {n m : Nat} (h : x.find? m = none) : (x.detach n).find? m = none := by
  by_cases hn : n = m
  · rw [hn]; exact find?_detach_self x m
  · rw [find?_detach_ne x n m hn]; exact h

/-- With unique normalised names, detaching removes exactly the entry found. -/
theorem count_detach (x : Dir) (n : Nat) (c : Child)
    (hnd : x.entries.Pairwise (fun a b => a.norm ≠ b.norm)) :
    ((x.detach n).entries.map (fun e => e.child)).count c +
        (match x.find? n with | some e => if e.child = c then 1 else 0 | none => 0) =
      (x.entries.map (fun e => e.child)).count c := by
  unfold Dir.find?
  simp only [detach_entries]
  generalize x.entries = es at hnd
  induction es with
  | nil => simp
  | cons e rest ih =>
    have hnd' := (List.pairwise_cons.mp hnd)
    by_cases h1 : e.norm = n
    · -- e is found; nothing else has this norm
      have hrest : rest.filter (fun e => e.norm != n) = rest := by
        apply List.filter_eq_self.mpr
        intro a ha
        have := hnd'.1 a ha
        simp; intro h2; exact this (h1.trans h2.symm)
      simp [h1, hrest, List.count_cons]
    · have := ih hnd'.2
      simp [h1, List.count_cons] at this ⊢
      omega

end BbRe.Lemmas.Dir
