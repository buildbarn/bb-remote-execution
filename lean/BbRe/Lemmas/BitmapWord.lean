import BbRe.Model.Bitmap
/-! Word-level (`BitVec 64`) lemmas for the bitmap allocator: trailing zeros and the
masks built by `allocateAt` / `FreeContiguous` / `FreeList`, all as statements about `getLsbD`; at the end
each mask as a run of bit positions (`clearMask_run` …), the form `Lemmas/BitmapArr.lean` composes. -/
namespace BbRe.Lemmas.Bitmap
open BbRe.Bitmap

theorem tzGo_spec (w : Word) (i fuel : Nat) :
    i ≤ tzGo w i fuel ∧ tzGo w i fuel ≤ i + fuel ∧
    (∀ j, i ≤ j → j < tzGo w i fuel → w.getLsbD j = false) ∧
    (tzGo w i fuel < i + fuel → w.getLsbD (tzGo w i fuel) = true) := by
  induction fuel generalizing i with
  | zero => simp [tzGo]; intro j h1 h2; omega
  | succ f ih =>
    unfold tzGo
    split
    · rename_i h
      refine ⟨by omega, by omega, ?_, fun _ => h⟩
      intro j h1 h2; omega
    · rename_i h
      obtain ⟨a, b, c, d⟩ := ih (i + 1)
      refine ⟨by omega, by omega, ?_, ?_⟩
      · intro j h1 h2
        by_cases hj : j = i
        · subst hj; simpa using h
        · exact c j (by omega) h2
      · intro h2; exact d (by omega)

theorem tz_le (w : Word) : tz w ≤ 64 := by
  have := (tzGo_spec w 0 64).2.1; simpa [tz] using this

theorem tz_below (w : Word) (j : Nat) (h : j < tz w) : w.getLsbD j = false :=
  (tzGo_spec w 0 64).2.2.1 j (by omega) h

theorem tz_bit (w : Word) (h : tz w < 64) : w.getLsbD (tz w) = true :=
  (tzGo_spec w 0 64).2.2.2 (by simpa [tz] using h)

theorem tz_lt_of_ne_zero (w : Word) (h : w ≠ 0) : tz w < 64 := by
  have hle := tz_le w
  by_cases hh : tz w < 64
  · exact hh
  · exfalso; apply h
    apply BitVec.eq_of_getLsbD_eq
    intro i hi
    simp
    exact tz_below w i (by omega)

theorem tz_le_of_bit (w : Word) (j : Nat) (h : w.getLsbD j = true) : tz w ≤ j := by
  by_cases hh : tz w ≤ j
  · exact hh
  · have := tz_below w j (by omega); simp [h] at this

theorem getLsbD_allBits (j : Nat) : allBits.getLsbD j = decide (j < 64) := by
  unfold allBits; rw [BitVec.getLsbD_allOnes]

theorem getLsbD_allBits_shl (k j : Nat) : (allBits <<< k).getLsbD j = (decide (k ≤ j) && decide (j < 64)) := by
  rw [BitVec.getLsbD_shiftLeft, getLsbD_allBits, Bool.eq_iff_iff]
  simp; omega

theorem getLsbD_low (a j : Nat) : (~~~(allBits <<< a)).getLsbD j = (decide (j < a) && decide (j < 64)) := by
  rw [BitVec.getLsbD_not, getLsbD_allBits_shl, Bool.eq_iff_iff]
  simp; omega

theorem getLsbD_keepFrom (w : Word) (a j : Nat) :
    (w &&& (allBits <<< a)).getLsbD j = (w.getLsbD j && decide (a ≤ j)) := by
  rw [BitVec.getLsbD_and, getLsbD_allBits_shl, Bool.eq_iff_iff]
  by_cases hj : j < 64
  · simp [hj]
  · have : w.getLsbD j = false := BitVec.getLsbD_of_ge w j (by omega)
    simp [this]

theorem getLsbD_shr (w : Word) (s j : Nat) : (w >>> s).getLsbD j = w.getLsbD (s + j) := by
  simp [BitVec.getLsbD_ushiftRight]


theorem getLsbD_ge (w : Word) (j : Nat) (h : 64 ≤ j) : w.getLsbD j = false :=
  BitVec.getLsbD_of_ge w j h

theorem lt_of_getLsbD {w : Word} {j : Nat} (h : w.getLsbD j = true) : j < 64 := by
  by_cases hj : j < 64
  · exact hj
  · rw [getLsbD_ge w j (by omega)] at h; cases h

theorem eq_zero_iff_bits (w : Word) : w = 0 ↔ ∀ j, j < 64 → w.getLsbD j = false := by
  constructor
  · intro h j _; subst h; simp
  · intro h; apply BitVec.eq_of_getLsbD_eq; intro i hi; simp; exact h i hi

theorem eq_allBits_iff_bits (w : Word) : w = allBits ↔ ∀ j, j < 64 → w.getLsbD j = true := by
  constructor
  · intro h j hj; subst h; rw [getLsbD_allBits]; simp [hj]
  · intro h; apply BitVec.eq_of_getLsbD_eq; intro i hi; rw [getLsbD_allBits]; simp [hi]; exact h i hi

theorem and_eq_zero_iff (w m : Word) : w &&& m = 0 ↔ ∀ j, m.getLsbD j = true → w.getLsbD j = false := by
  rw [eq_zero_iff_bits]
  constructor
  · intro h j hm
    have := h j (lt_of_getLsbD hm)
    rw [BitVec.getLsbD_and, hm] at this
    simpa using this
  · intro h j _
    rw [BitVec.getLsbD_and]
    by_cases hm : m.getLsbD j = true
    · rw [h j hm]; rfl
    · simp at hm; rw [hm]; simp

/-! The masks of the model, each as a run `[s, s+a)` of bit positions of one word (`j < 64`): the two
that `allocateAt` and-s with have their zero bits there, the three that `freeWithMask` is called with
their one bits. -/

theorem clearMask_run (a s : Nat) {j : Nat} (hj : j < 64) :
    (~~~(~~~(allBits <<< a) <<< s)).getLsbD j = !(decide (s ≤ j) && decide (j < s + a)) := by
  rw [BitVec.getLsbD_not, BitVec.getLsbD_shiftLeft, getLsbD_low, Bool.eq_iff_iff]
  simp [hj]; omega

theorem keepMask_run (a : Nat) {j : Nat} (hj : j < 64) :
    (allBits <<< a).getLsbD j = !(decide (0 ≤ j) && decide (j < 0 + a)) := by
  rw [getLsbD_allBits_shl, Bool.eq_iff_iff]; simp [hj]

/-- the mask of `FreeContiguous` for its first word: `count` bits from `off`, as far as the word goes -/
theorem freeMask_run {count off a : Nat} (ha : a = min count (64 - off)) {j : Nat} (hj : j < 64) :
    ((if count < 64 then ~~~(allBits <<< count) else allBits : Word) <<< off).getLsbD j =
      (decide (off ≤ j) && decide (j < off + a)) := by
  rw [BitVec.getLsbD_shiftLeft, Bool.eq_iff_iff]
  split
  · rw [getLsbD_low]; simp [hj]; omega
  · rw [getLsbD_allBits]; simp [hj]; omega

theorem lowMask_run (r : Nat) {j : Nat} (hj : j < 64) :
    (~~~(allBits <<< r)).getLsbD j = (decide (0 ≤ j) && decide (j < 0 + r)) := by
  rw [getLsbD_low, Bool.eq_iff_iff]; simp [hj]

theorem oneMask_run (b : Nat) {j : Nat} (hj : j < 64) :
    ((1 : Word) <<< b).getLsbD j = (decide (b ≤ j) && decide (j < b + 1)) := by
  rw [BitVec.getLsbD_shiftLeft, Bool.eq_iff_iff]
  simp [BitVec.getLsbD_one, hj]; omega

theorem tz_not_zero : tz (~~~(0 : Word)) = 0 := by decide

end BbRe.Lemmas.Bitmap
