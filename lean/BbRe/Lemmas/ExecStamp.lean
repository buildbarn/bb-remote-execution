import BbRe.Model.ExecStamp
import BbRe.Lemmas.SusClockLoop
/-!
Helper lemmas for `Properties/C11Stamp.lean`: the invariant of the stamping loop of
`timestampedBuildExecutor.Execute` and the unfolding of `execRunX`.
-/
namespace BbRe.Lemmas.ExecStamp
open BbRe.SusClock BbRe.ExecStamp BbRe.Lemmas.SusClock

theorem ns_ofNs (n : Nat) : (Ts.ofNs n).ns = n := Nat.div_add_mod' n 1000000000

/-! ## what `complete` and `update` do to the fields the theorems speak of -/

theorem complete_virt (w : W) (now : Ts) : (w.complete now).virt = w.md.virt := by
  obtain ⟨md, cur⟩ := w
  rcases cur with _ | sl
  · rfl
  · cases sl <;> rfl

theorem complete_worker (w : W) (now : Ts) :
    (w.complete now).workerStart = w.md.workerStart ∧ (w.complete now).workerDone = w.md.workerDone := by
  obtain ⟨md, cur⟩ := w
  rcases cur with _ | sl
  · exact ⟨rfl, rfl⟩
  · cases sl <;> exact ⟨rfl, rfl⟩

theorem complete_exec (w : W) (now : Ts) : (w.complete now).execStart = w.md.execStart ∧
    (w.complete now).execDone = if w.cur = some .exec then some now else w.md.execDone := by
  obtain ⟨md, cur⟩ := w
  rcases cur with _ | sl
  · exact ⟨rfl, rfl⟩
  · cases sl <;> exact ⟨rfl, rfl⟩

theorem update_virt (w : W) (st : Stage) (now : Ts) : (w.update st now).md.virt = w.md.virt := by
  cases st <;> exact complete_virt w now

theorem update_worker (w : W) (st : Stage) (now : Ts) :
    (w.update st now).md.workerStart = w.md.workerStart ∧ (w.update st now).md.workerDone = w.md.workerDone := by
  cases st <;> exact complete_worker w now

/-- The execution stamps after an update: a Running update sets the start and makes the execution stage the
current one; any update completes a running execution stage. -/
theorem update_exec (w : W) (st : Stage) (now : Ts) :
    (w.update st now).md.execStart = (if st = .running then some now else w.md.execStart) ∧
    (w.update st now).md.execDone = (if w.cur = some .exec then some now else w.md.execDone) ∧
    ((w.update st now).cur = some .exec ↔ st = .running) := by
  obtain ⟨c1, c2⟩ := complete_exec w now
  cases st with
  | running => exact ⟨rfl, c2, fun _ => rfl, fun _ => rfl⟩
  | _ => exact ⟨c1, c2, fun h => (nomatch h), fun h => (nomatch h)⟩

/-- Once a Running update was received the execution start stamp stays set. -/
theorem update_execStart_isSome (w : W) (st : Stage) (now : Ts) (h : w.md.execStart.isSome = true ∨ st = .running) :
    (w.update st now).md.execStart.isSome = true := by
  rw [(update_exec w st now).1]
  split
  · rfl
  · next hr => exact h.resolve_right hr

/-- What holds between two receipts when the clock is monotone; `t0` is the reading at entry, `last` the
latest reading. -/
structure Inv (t0 : Ts) (w : W) (last : Nat) : Prop where
  virt : w.md.virt = none
  ws : w.md.workerStart = some t0
  wd : w.md.workerDone = none
  lo : t0.ns ≤ last
  exec : ∀ s, w.md.execStart = some s → t0.ns ≤ s.ns ∧ s.ns ≤ last ∧
    (w.cur = some .exec ∨ ∃ c, w.md.execDone = some c ∧ s.ns ≤ c.ns ∧ c.ns ≤ last)

/-- The next receipt, at `now`, completes an execution stage that is still running. -/
theorem Inv.completed {t0 : Ts} {w : W} {last : Nat} (h : Inv t0 w last) {now : Ts} (hn : last ≤ now.ns)
    {s : Ts} (hs : w.md.execStart = some s) :
    t0.ns ≤ s.ns ∧ ∃ c, (if w.cur = some .exec then some now else w.md.execDone) = some c ∧
      s.ns ≤ c.ns ∧ c.ns ≤ now.ns := by
  obtain ⟨a, b, c⟩ := h.exec s hs
  refine ⟨a, ?_⟩
  by_cases hc : w.cur = some .exec
  · exact ⟨now, if_pos hc, Nat.le_trans b hn, Nat.le_refl _⟩
  · obtain ⟨c, e, h1, h2⟩ := c.resolve_left hc
    exact ⟨c, (if_neg hc).trans e, h1, Nat.le_trans h2 hn⟩

theorem inv_update {t0 : Ts} {w : W} {last : Nat} (h : Inv t0 w last) (st : Stage) (now : Ts)
    (hn : last ≤ now.ns) : Inv t0 (w.update st now) now.ns := by
  obtain ⟨es, ed, ec⟩ := update_exec w st now
  refine ⟨(update_virt ..).trans h.virt, (update_worker ..).1.trans h.ws, (update_worker ..).2.trans h.wd,
    Nat.le_trans h.lo hn, fun s hs => ?_⟩
  rw [es] at hs
  by_cases hr : st = .running
  · rw [if_pos hr] at hs
    cases hs
    exact ⟨Nat.le_trans h.lo hn, Nat.le_refl _, .inl (ec.2 hr)⟩
  · rw [if_neg hr] at hs
    obtain ⟨a, c, e, h1, h2⟩ := h.completed hn hs
    exact ⟨a, Nat.le_trans h1 h2, .inr ⟨c, ed.trans e, h1, h2⟩⟩

theorem inv_start (q : Option Ts) (t0 : Ts) : Inv t0 (W.start q t0) t0.ns :=
  ⟨rfl, rfl, rfl, Nat.le_refl _, fun _ h => nomatch h⟩

theorem inv_run {t0 : Ts} (ups : List (Stage × Ts)) : ∀ {w : W} {last hi : Nat}, Inv t0 w last →
    readingsFrom last ups hi = true → ∃ last', Inv t0 (w.run ups) last' ∧ last' ≤ hi := by
  induction ups with
  | nil => exact fun h hr => ⟨_, h, of_decide_eq_true hr⟩
  | cons u rest ih =>
    intro w last hi h hr
    obtain ⟨h1, h2⟩ := Bool.and_eq_true_iff.1 hr
    exact ih (inv_update h u.1 u.2 (of_decide_eq_true h1)) h2

/-- The wrapper's own metadata never carries a virtual duration. -/
theorem run_virt (ups : List (Stage × Ts)) : ∀ w : W, (w.run ups).md.virt = w.md.virt := by
  induction ups with
  | nil => intro w; rfl
  | cons u rest ih => intro w; exact (ih (w.update u.1 u.2)).trans (update_virt w u.1 u.2)

theorem run_execStart_isSome (ups : List (Stage × Ts)) : ∀ w : W,
    (w.md.execStart.isSome = true ∨ ∃ u ∈ ups, u.1 = Stage.running) → (w.run ups).md.execStart.isSome = true := by
  induction ups with
  | nil => exact fun w h => h.elim id fun ⟨_, hu, _⟩ => nomatch hu
  | cons u rest ih =>
    intro w h
    apply ih (w.update u.1 u.2)
    rcases h with h | ⟨v, hv, hr⟩
    · exact .inl (update_execStart_isSome w u.1 u.2 (.inl h))
    · rcases List.mem_cons.1 hv with rfl | hv
      · exact .inl (update_execStart_isSome w v.1 v.2 (.inr hr))
      · exact .inr ⟨v, hv, hr⟩

/-! ## merging into the inner executor's metadata, and the fallback -/

theorem mergeTs_none_left (s : Option Ts) : mergeTs none s = s := by
  cases s <;> rfl

/-- Onto an inner executor's metadata without stamps the wrapper's stamps are merged unchanged. -/
theorem merge_noStamps {base : Meta} (hb : base.noStamps) (src : Meta) :
    (merge base src).workerStart = src.workerStart ∧ (merge base src).workerDone = src.workerDone ∧
    (merge base src).execStart = src.execStart ∧ (merge base src).execDone = src.execDone := by
  obtain ⟨h1, h2, _, _, h5, h6, _, _⟩ := hb
  unfold merge
  rw [h1, h2, h5, h6]
  exact ⟨mergeTs_none_left _, mergeTs_none_left _, mergeTs_none_left _, mergeTs_none_left _⟩

theorem merge_virt {src : Meta} (h : src.virt = none) (dst : Meta) : (merge dst src).virt = dst.virt := by
  unfold merge
  rw [h]

/-- The fallback writes no stamp. -/
theorem fallback_stamps (m : Meta) :
    (fallback m).workerStart = m.workerStart ∧ (fallback m).workerDone = m.workerDone ∧
    (fallback m).execStart = m.execStart ∧ (fallback m).execDone = m.execDone := by
  unfold fallback
  split <;> exact ⟨rfl, rfl, rfl, rfl⟩

theorem fallback_virt (m : Meta) :
    (fallback m).virt = (match m.virt, m.execStart, m.execDone with
      | none, some s, some c => some ((c.ns : Int) - (s.ns : Int))
      | v, _, _ => v) := by
  obtain ⟨_, _, _, _, _, es, ed, _, _, v⟩ := m
  cases v <;> cases es <;> cases ed <;> rfl

/-- The stamps `finish` returns when the inner executor set none are the wrapper's own. -/
theorem finish_stamps (w : W) (now : Ts) {base : Meta} (hb : base.noStamps) :
    (w.finish now base).workerStart = w.md.workerStart ∧ (w.finish now base).workerDone = some now ∧
    (w.finish now base).execStart = w.md.execStart ∧
    (w.finish now base).execDone = if w.cur = some .exec then some now else w.md.execDone := by
  obtain ⟨f1, f2, f3, f4⟩ := fallback_stamps (merge base { w.complete now with workerDone := some now })
  obtain ⟨m1, m2, m3, m4⟩ := merge_noStamps hb { w.complete now with workerDone := some now }
  exact ⟨f1.trans (m1.trans (complete_worker w now).1), f2.trans m2,
    f3.trans (m3.trans (complete_exec w now).1), f4.trans (m4.trans (complete_exec w now).2)⟩

theorem fallback_merge_virt {src : Meta} (hv : src.virt = none) (base : Meta) :
    (fallback (merge base src)).virt =
      (match base.virt, (fallback (merge base src)).execStart, (fallback (merge base src)).execDone with
        | none, some s, some c => some ((c.ns : Int) - (s.ns : Int))
        | v, _, _ => v) := by
  rw [fallback_virt, (fallback_stamps _).2.2.1, (fallback_stamps _).2.2.2, merge_virt hv]

theorem finish_fields (w : W) (now : Ts) (base : Meta) (hb : base.noStamps) (hv : w.md.virt = none) :
    let m := w.finish now base
    m.workerStart = w.md.workerStart ∧ m.workerDone = some now ∧
    m.execStart = (w.complete now).execStart ∧ m.execDone = (w.complete now).execDone ∧
    m.virt = (match base.virt, (w.complete now).execStart, (w.complete now).execDone with
      | none, some s, some c => some ((c.ns : Int) - (s.ns : Int))
      | v, _, _ => v) := by
  obtain ⟨h1, h2, h3, h4⟩ := finish_stamps w now hb
  obtain ⟨c1, c2⟩ := complete_exec w now
  refine ⟨h1, h2, h3.trans c1.symm, h4.trans c2.symm, ?_⟩
  rw [← h3.trans c1.symm, ← h4.trans c2.symm]
  exact fallback_merge_virt (src := { w.complete now with workerDone := some now }) ((complete_virt w now).trans hv) base

/-- The virtual duration returned is the inner executor's, or else the difference of the returned
execution stamps: for every inner executor, every sequence of updates and readings. -/
theorem stamp_virt (q : Option Ts) (t0 : Ts) (ups : List (Stage × Ts)) (tEnd : Ts) (base : Meta) :
    (stamp q t0 ups tEnd base).virt =
      (match base.virt, (stamp q t0 ups tEnd base).execStart, (stamp q t0 ups tEnd base).execDone with
        | none, some s, some c => some ((c.ns : Int) - (s.ns : Int))
        | v, _, _ => v) :=
  fallback_merge_virt (src := { ((W.start q t0).run ups).complete tEnd with workerDone := some tEnd })
    ((complete_virt ..).trans (run_virt ..)) base

theorem cancel_of_end {t0 : Nat} {en : Option End} (hen : ∀ e, en = some e → t0 ≤ e.t) :
    ∀ c, (en.map fun e => (⟨e.t, e.pre⟩ : Cancel)) = some c → t0 ≤ c.t :=
  cancel_map_le End.t End.pre hen

/-- What `execRunX` makes of the clock's result. -/
def xOf (r : Result) (en : Option End) : XResult :=
  match r.reason, en with
  | .cancelled, some e => ⟨enderCode e.what, enderExit e.what, r.dur, r.instant, false⟩
  | _, _ => ⟨4, none, r.dur, r.instant, true⟩

theorem xOf_times (r : Result) (en : Option End) : (xOf r en).virt = r.dur ∧ (xOf r en).instant = r.instant := by
  unfold xOf; split <;> exact ⟨rfl, rfl⟩

/-- Either an ender ended the run stage (the clock context was cancelled) and the result carries its
status, or the result is `DEADLINE_EXCEEDED` without exit code. -/
theorem xOf_cases (r : Result) (en : Option End) :
    (∃ e, en = some e ∧ r.reason = .cancelled ∧
      xOf r en = ⟨enderCode e.what, enderExit e.what, r.dur, r.instant, false⟩) ∨
    ((r.reason = .cancelled → en = none) ∧ xOf r en = ⟨4, none, r.dur, r.instant, true⟩) := by
  obtain ⟨i, reason, du, st, ps, pa⟩ := r
  cases reason with
  | cancelled =>
    cases en with
    | none => exact .inr ⟨fun _ => rfl, rfl⟩
    | some e => exact .inl ⟨e, rfl, rfl, rfl⟩
  | timeout => exact .inr ⟨fun h => (nomatch h), by cases en <;> rfl⟩
  | capped => exact .inr ⟨fun h => (nomatch h), by cases en <;> rfl⟩

/-- `execRunX` in terms of the clock's result. -/
theorem execRunX_eq {P : Params} {tl : List Ev} {t0 d : Nat} {en : Option End} {r : Result}
    (h : fire P tl (en.map fun e => ⟨e.t, e.pre⟩) t0 d = .done r) :
    execRunX P tl t0 d en = some (xOf r en) := by
  unfold execRunX xOf
  rw [h]
  obtain ⟨i, reason, du, st, ps, pa⟩ := r
  cases reason <;> cases en <;> rfl

theorem execRunX_done {P : Params} {tl : List Ev} {t0 d : Nat} {en : Option End} {o : XResult}
    (h : execRunX P tl t0 d en = some o) :
    ∃ r, fire P tl (en.map fun e => ⟨e.t, e.pre⟩) t0 d = .done r ∧ o = xOf r en := by
  cases hf : fire P tl (en.map fun e => ⟨e.t, e.pre⟩) t0 d with
  | done r =>
    rw [execRunX_eq hf] at h
    cases h
    exact ⟨r, rfl, rfl⟩
  | badOracle | outOfFuel => unfold execRunX at h; rw [hf] at h; cases h

end BbRe.Lemmas.ExecStamp
