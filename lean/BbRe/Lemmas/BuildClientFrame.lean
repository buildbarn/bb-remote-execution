import BbRe.Lemmas.BuildClient
/-!
Frame facts about `Model/BuildClient.lean`: the shutdown flag is monotone and
the worker thread only ends under shutdown.
-/
namespace BbRe.Lemmas.BuildClient
open BbRe.BuildClient

theorem finishStop_cancelled (s : State) (k : DrainFor) : (finishStop s k).cancelled = s.cancelled := by
  cases k <;> rfl
theorem stopThen_cancelled (s : State) (k : DrainFor) : (stopThen s k).cancelled = s.cancelled := by
  unfold stopThen; split
  · rfl
  · exact finishStop_cancelled s k
/-- No step resets the shutdown flag. -/
theorem Step.cancelled {s s' : State} (h : Step s s') (hc : s.cancelled = true) :
    s'.cancelled = true := by
  cases h with
  | stop => exact (stopThen_cancelled ..).trans hc
  | drained => exact (finishStop_cancelled ..).trans hc
  | cancel => rfl
  | _ => exact hc

theorem run_cancelled {s : State} (evs : List Ev) (h : s.cancelled = true) :
    (run s evs).cancelled = true :=
  run_closed (fun _ _ hc h => h.cancelled hc) h evs

/-- A `Run` that returns ends the thread only under shutdown; the other blocks never end it. -/
theorem retRun_term (s : State) (a b : Bool) :
    (retRun s a b).pc = .terminated → (retRun s a b).cancelled = true := by
  unfold retRun; dsimp only; split
  next h => exact fun _ => ((Bool.and_eq_true ..).mp h).2
  next => nofun
theorem finishStop_term (s : State) (k : DrainFor) :
    (finishStop s k).pc = .terminated → (finishStop s k).cancelled = true := by
  cases k <;> exact retRun_term _ _ _
theorem stopThen_term (s : State) (k : DrainFor) :
    (stopThen s k).pc = .terminated → (stopThen s k).cancelled = true := by
  unfold stopThen; split
  · nofun
  · exact finishStop_term s k

theorem Step.term {s s' : State} (h : Step s s') (ht : s.pc = .terminated → s.cancelled = true) :
    s'.pc = .terminated → s'.cancelled = true := by
  cases h with
  | move hnd hm =>
    cases hm with
    | ret mt err => exact retRun_term s mt err
    | _ => nofun
  | consume c hpc => exact fun h => nomatch hpc.symm.trans h
  | record _ _ _ _ hpc => exact fun h => nomatch hpc.symm.trans h
  | stop => exact stopThen_term _ _
  | drained => exact finishStop_term _ _
  | cancel => exact fun _ => rfl
  | _ => exact ht

theorem run_term {s : State} (evs : List Ev) (h : s.pc = .terminated → s.cancelled = true) :
    (run s evs).pc = .terminated → (run s evs).cancelled = true :=
  run_closed (fun _ _ ht h => h.term ht) h evs

end BbRe.Lemmas.BuildClient
