import BbRe.Lemmas.SchedLiveSpec
/-!
Inversion lemmas for the RPC segments of `Model/Sched.lean`: client streams,
`Execute` / `WaitExecution`, the `Synchronize` family and the operator calls.
-/
namespace BbRe.Lemmas.SchedLive
open BbRe.Sched

theorem streamSend_ok {s s' : State} {c o : Nat} (hh : streamSend s c o = .ok s') :
    ∃ op t, s.op? o = some op ∧ s.task? op.task = some t ∧
      ((∃ r, t.response = some r ∧ op.waiters ≠ 0 ∧ s' = sendDone s c o op t r) ∨
       (t.response = none ∧ s' = sendPark s c o t)) := by
  unfold streamSend at hh
  cases hop : s.op? o with
  | none => rw [hop] at hh; cases hh
  | some op =>
  rw [hop] at hh; dsimp only at hh
  cases ht : s.task? op.task with
  | none => rw [ht] at hh; cases hh
  | some t =>
  rw [ht] at hh; dsimp only at hh
  refine ⟨op, t, rfl, ht, ?_⟩
  cases hr : t.response with
  | none => rw [hr, pure_ok] at hh; exact .inr ⟨rfl, hh.symm⟩
  | some r =>
    rw [hr] at hh; dsimp only at hh
    by_cases hw : op.waiters = 0
    · rw [if_pos hw] at hh; cases hh
    · rw [if_neg hw, pure_ok] at hh; exact .inl ⟨r, rfl, hw, hh.symm⟩

theorem streamAttach_ok {s s' : State} {c o : Nat} (hh : streamAttach s c o = .ok s') :
    ∃ op, s.op? o = some op ∧ streamSend (attachS s o op) c o = .ok s' := by
  unfold streamAttach at hh
  cases hop : s.op? o with
  | none => rw [hop] at hh; cases hh
  | some op => rw [hop] at hh; exact ⟨op, rfl, hh⟩

theorem streamLeave_ok {s s' : State} {c code : Nat} (hh : streamLeave s c code = .ok s') :
    ∃ st op, s.streams.find? (fun x => x.client = c) = some st ∧ s.op? st.op = some op ∧
      op.waiters ≠ 0 ∧ s' = leaveS s c st op code := by
  unfold streamLeave at hh
  cases hst : s.streams.find? (fun x => x.client = c) with
  | none => rw [hst] at hh; cases hh
  | some st =>
  rw [hst] at hh; dsimp only at hh
  cases hop : s.op? st.op with
  | none => rw [hop] at hh; cases hh
  | some op =>
  rw [hop] at hh; dsimp only at hh
  by_cases hw : op.waiters = 0
  · rw [if_pos hw] at hh; cases hh
  · rw [if_neg hw] at hh; exact ⟨st, op, rfl, hop, hw, ((pure_ok _ _).1 hh).symm⟩

theorem streamWake_ok {h : Hints} {s s' : State} {now c reason : Nat} (hh : streamWake h s now c reason = .ok s') :
    ∃ s1 st, enter h s now = .ok s1 ∧ s1.streams.find? (fun x => x.client = c) = some st ∧
      ((reason = 2 ∧ streamLeave s1 c cCanceled = .ok s') ∨
       (reason ≠ 2 ∧ (reason = 0 → ∃ op t, s1.op? st.op = some op ∧ s1.task? op.task = some t ∧ t.gen ≠ st.snap) ∧
          streamSend s1 c st.op = .ok s')) := by
  unfold streamWake at hh
  rw [bind_ok] at hh
  obtain ⟨s1, h1, hh⟩ := hh
  cases hst : s1.streams.find? (fun x => x.client = c) with
  | none => rw [hst] at hh; cases hh
  | some st =>
  rw [hst] at hh; dsimp only at hh
  refine ⟨s1, st, h1, hst, ?_⟩
  by_cases h2 : reason = 2
  · rw [if_pos h2] at hh; exact .inl ⟨h2, hh⟩
  rw [if_neg h2] at hh
  refine .inr ⟨h2, ?_⟩
  by_cases h0 : reason = 0
  · rw [if_pos h0] at hh
    cases hop : s1.op? st.op with
    | none => rw [hop] at hh; cases hh
    | some op =>
    rw [hop] at hh; dsimp only at hh
    cases ht : s1.task? op.task with
    | none => rw [ht] at hh; cases hh
    | some t =>
    rw [ht] at hh; dsimp only at hh
    by_cases hg : t.gen = st.snap
    · rw [if_pos hg] at hh; cases hh
    · rw [if_neg hg] at hh; exact ⟨fun _ => ⟨op, t, rfl, ht, hg⟩, hh⟩
  · rw [if_neg h0] at hh; exact ⟨fun e => absurd e h0, hh⟩

theorem execArrive_ok {h : Hints} {s s' : State} {now c digest dkey : Nat} {dnc : Bool} {comps : List Nat}
    {platform : Nat} {inv : List Nat} {prio : Int}
    (hh : execArrive h s now c digest dkey dnc comps platform inv prio = .ok s') :
    ∃ s1, enter h s now = .ok s1 ∧
      ((∃ tid t, alookup dkey s1.dedup = some tid ∧ s1.task? tid = some t ∧
          ((∃ o, o ∈ t.ops ∧ streamAttach (emit s1 .selAbandoned) c o = .ok s') ∨
           (t.response.isSome = false ∧
              streamAttach (addOpS (emit s1 .selAbandoned) tid t inv prio) c s1.nextOp = .ok s'))) ∨
       (alookup dkey s1.dedup = none ∧ route s1 comps platform = none ∧
          s' = emit (emit s1 .selAbandoned)
                (.ret c (if s1.now < s1.cfg.hardFailTime then cUnavailable else cFailedPrecondition))) ∨
       (alookup dkey s1.dedup = none ∧ ∃ pq sc s3, route s1 comps platform = some pq ∧
          (s1.sizes pq.id)[min h.sel ((s1.sizes pq.id).length - 1)]? = some sc ∧
          schedule h (newTaskS s1 digest dkey dnc ⟨pq.id, sc⟩ inv prio) s1.nextTask = .ok s3 ∧
          streamAttach s3 c s1.nextOp = .ok s')) := by
  unfold execArrive at hh
  rw [bind_ok] at hh
  obtain ⟨s1, h1, hh⟩ := hh
  refine ⟨s1, h1, ?_⟩
  cases hd : alookup dkey s1.dedup with
  | some tid =>
    rw [hd] at hh; dsimp only at hh
    cases ht : s1.task? tid with
    | none => rw [ht] at hh; cases hh
    | some t =>
      rw [ht] at hh; dsimp only at hh
      refine .inl ⟨tid, t, rfl, ht, ?_⟩
      split at hh
      · exact .inl ⟨_, List.mem_of_find?_eq_some (by assumption), hh⟩
      · cases hr : t.response.isSome with
        | true => rw [hr, if_pos rfl] at hh; cases hh
        | false => rw [hr, if_neg Bool.false_ne_true] at hh; exact .inr ⟨rfl, hh⟩
  | none =>
    rw [hd] at hh; dsimp only at hh
    cases hr : route s1 comps platform with
    | none => rw [hr, pure_ok] at hh; exact .inr (.inl ⟨rfl, rfl, hh.symm⟩)
    | some pq =>
      rw [hr] at hh; dsimp only at hh
      refine .inr (.inr ⟨rfl, pq, ?_⟩)
      cases hsc : (s1.sizes pq.id)[min h.sel ((s1.sizes pq.id).length - 1)]? with
      | none => rw [hsc] at hh; cases hh
      | some sc =>
        rw [hsc] at hh; dsimp only at hh
        rw [bind_ok] at hh
        obtain ⟨s3, h3, hh⟩ := hh
        refine ⟨sc, s3, rfl, rfl, ?_, hh⟩
        unfold newTaskS
        cases dnc <;> exact h3

theorem waitArrive_ok {h : Hints} {s s' : State} {now c name : Nat} (hh : waitArrive h s now c name = .ok s') :
    ∃ s1, enter h s now = .ok s1 ∧
      ((s1.op? name = none ∧ s' = emit s1 (.ret c cNotFound)) ∨
       (∃ op, s1.op? name = some op ∧ streamAttach s1 c name = .ok s')) := by
  unfold waitArrive at hh
  simp only [bind_ok] at hh
  obtain ⟨s1, h1, h2⟩ := hh
  refine ⟨s1, h1, ?_⟩
  split at h2
  · rw [pure_ok] at h2; exact .inl ⟨by assumption, h2.symm⟩
  · exact .inr ⟨_, by assumption, h2⟩

theorem assignNext_ok {h : Hints} {s s1 : State} {w : Worker} {got : Bool}
    (hh : assignNext h s w = .ok (s1, got)) :
    (got = false ∧ s1 = s ∧ (queuedTasks s w.scq).isEmpty = true) ∨
    (got = true ∧ ∃ t t', t ∈ queuedTasks s w.scq ∧ w.task = none ∧ t.worker = none ∧
        (assignS s w t).task? t.id = some t' ∧ s1 = (assignS s w t).setTask (bumpGen t')) := by
  unfold assignNext at hh
  cases ha : h.assign.find? (fun a => a.1 = w.scq ∧ a.2.1 = w.id) with
  | none =>
    rw [ha] at hh; dsimp only at hh
    rcases ite_ok hh with ⟨he, hh⟩ | ⟨_, hh⟩
    · cases (pure_ok _ _).1 hh; exact .inl ⟨rfl, rfl, he⟩
    · cases hh
  | some a =>
    rw [ha] at hh; dsimp only at hh
    cases ht : (queuedTasks s w.scq).find? (fun t => lowestOp t = a.2.2) with
    | none => rw [ht] at hh; cases hh
    | some t =>
      rw [ht] at hh; dsimp only at hh
      rw [bind_ok] at hh
      obtain ⟨s2, h2, hh⟩ := hh
      obtain ⟨hw, htw, rfl⟩ := assignTo_ok.1 h2
      cases ht' : (assignS s w t).task? t.id with
      | none => rw [ht'] at hh; cases hh
      | some t' =>
        rw [ht'] at hh
        cases (pure_ok _ _).1 hh
        exact .inr ⟨rfl, t, t', List.mem_of_find?_eq_some ht, hw, htw, ht', rfl⟩

theorem execResponse_ok {s s' : State} {w : Worker} (hh : execResponse s w = .ok s') :
    ∃ tid t, w.task = some tid ∧ s.task? tid = some t ∧
      s' = emit s (.syncExecute w.scq w.id t.digest (s.now + s.cfg.busyInterval)) := by
  unfold execResponse at hh
  cases hw : w.task with
  | none => rw [hw] at hh; cases hh
  | some tid =>
  rw [hw] at hh; dsimp only at hh
  cases ht : s.task? tid with
  | none => rw [ht] at hh; cases hh
  | some t => rw [ht] at hh; exact ⟨tid, t, rfl, ht, ((pure_ok _ _).1 hh).symm⟩

theorem getNextTask_ok {h : Hints} {s s' : State} {q : ScqId} {w : WId} {pi block : Bool}
    (hh : getNextTask h s q w pi block = .ok s') :
    ∃ wk sq, s.worker? q w = some wk ∧ s.scq? q = some sq ∧
      ((pi = true ∧ s' = syncReturn (emit s (.syncIdle q w s.now)) q w) ∨
       (pi = false ∧ isDrained sq wk = false ∧ ∃ s1 got, assignNext h s wk = .ok (s1, got) ∧
          ((got = true ∧ ∃ wk1 s2, s1.worker? q w = some wk1 ∧ execResponse s1 wk1 = .ok s2 ∧ s' = syncReturn s2 q w) ∨
           (got = false ∧ block = false ∧ s' = syncReturn (emit s1 (.syncIdle q w s1.now)) q w) ∨
           (got = false ∧ block = true ∧ ∃ wk1, s1.worker? q w = some wk1 ∧ wk1.parked = false ∧ s' = parkS s1 wk1))) ∨
       (pi = false ∧ isDrained sq wk = true ∧
          ((block = false ∧ s' = syncReturn (emit s (.syncIdle q w s.now)) q w) ∨
           (block = true ∧ s' = drainWaitS s wk sq)))) := by
  unfold getNextTask at hh
  cases hwk : s.worker? q w with
  | none => rw [hwk] at hh; cases hh
  | some wk =>
  cases hsq : s.scq? q with
  | none => rw [hwk, hsq] at hh; cases hh
  | some sq =>
  rw [hwk, hsq] at hh
  refine ⟨wk, sq, rfl, rfl, ?_⟩
  dsimp only at hh
  cases pi with
  | true => rw [if_pos rfl, pure_ok] at hh; exact .inl ⟨rfl, hh.symm⟩
  | false =>
  rw [if_neg Bool.false_ne_true] at hh
  cases hd : isDrained sq wk with
  | true =>
    rw [hd, Bool.not_true, if_neg Bool.false_ne_true] at hh
    refine .inr (.inr ⟨rfl, rfl, ?_⟩)
    cases block with
    | true => rw [Bool.not_true, if_neg Bool.false_ne_true, pure_ok] at hh; exact .inr ⟨rfl, hh.symm⟩
    | false => rw [Bool.not_false, if_pos rfl, pure_ok] at hh; exact .inl ⟨rfl, hh.symm⟩
  | false =>
    rw [hd, Bool.not_false, if_pos rfl, bind_ok] at hh
    obtain ⟨⟨s1, got⟩, h1, hh⟩ := hh
    refine .inr (.inl ⟨rfl, rfl, s1, got, h1, ?_⟩)
    dsimp only at hh
    cases got with
    | true =>
      rw [if_pos rfl] at hh
      cases hw1 : s1.worker? q w with
      | none => rw [hw1] at hh; cases hh
      | some wk1 =>
        rw [hw1] at hh; dsimp only at hh
        rw [bind_ok] at hh
        obtain ⟨s2, h2, hh⟩ := hh
        rw [pure_ok] at hh
        exact .inl ⟨rfl, wk1, s2, rfl, h2, hh.symm⟩
    | false =>
      rw [if_neg Bool.false_ne_true] at hh
      cases block with
      | false => rw [Bool.not_false, if_pos rfl, pure_ok] at hh; exact .inr (.inl ⟨rfl, rfl, hh.symm⟩)
      | true =>
        rw [Bool.not_true, if_neg Bool.false_ne_true] at hh
        cases hw1 : s1.worker? q w with
        | none => rw [hw1] at hh; cases hh
        | some wk1 =>
          rw [hw1] at hh; dsimp only at hh
          cases hp : wk1.parked with
          | true => rw [hp, if_pos rfl] at hh; cases hh
          | false =>
            rw [hp, if_neg Bool.false_ne_true, pure_ok] at hh
            exact .inr (.inr ⟨rfl, rfl, wk1, rfl, hp, hh.symm⟩)

theorem getCurrentOrNext_ok {h : Hints} {s s' : State} {q : ScqId} {w : WId} {pi block : Bool}
    (hh : getCurrentOrNext h s q w pi block = .ok s') :
    ∃ wk, s.worker? q w = some wk ∧
      ((wk.task = none ∧ getNextTask h s q w pi block = .ok s') ∨
       (∃ tid t, wk.task = some tid ∧ s.task? tid = some t ∧
          ((t.retry < s.cfg.retryCount ∧
              s' = syncReturn (emit (s.setTask { t with retry := t.retry + 1 })
                      (.syncExecute q w t.digest (s.now + s.cfg.busyInterval))) q w) ∨
           (¬ t.retry < s.cfg.retryCount ∧ ∃ s1, complete h s tid ⟨cInternal, 0, 0, .retryLimit⟩ false = .ok s1 ∧
              getNextTask h s1 q w pi block = .ok s')))) := by
  unfold getCurrentOrNext at hh
  cases hwk : s.worker? q w with
  | none => rw [hwk] at hh; cases hh
  | some wk =>
  rw [hwk] at hh; dsimp only at hh
  refine ⟨wk, rfl, ?_⟩
  cases hwt : wk.task with
  | none => rw [hwt] at hh; exact .inl ⟨rfl, hh⟩
  | some tid =>
    rw [hwt] at hh; dsimp only at hh
    cases ht : s.task? tid with
    | none => rw [ht] at hh; cases hh
    | some t =>
      rw [ht] at hh; dsimp only at hh
      refine .inr ⟨tid, t, rfl, ht, ?_⟩
      rcases ite_ok hh with ⟨hc, hh⟩ | ⟨hc, hh⟩
      · exact .inl ⟨hc, ((pure_ok _ _).1 hh).symm⟩
      · rw [bind_ok] at hh
        obtain ⟨s1, h1, hh⟩ := hh
        exact .inr ⟨hc, s1, h1, hh⟩

theorem syncQueue_ok {s : State} {q : ScqId} {comps : List Nat} {pf : Nat} {w : WId} {x : State ⊕ State}
    (hh : syncQueue s q comps pf w = .ok x) :
    ((∃ sq, s.scq? q = some sq) ∧ x = .inr (s.removeCleanup (.scq q))) ∨
    (s.scq? q = none ∧ x = .inl (emit s (.syncErr q w cInvalidArgument))) ∨
    (s.scq? q = none ∧ (∃ pq, s.pq? q.pq = some pq) ∧ x = .inr (addScq s q)) ∨
    (s.scq? q = none ∧ s.pq? q.pq = none ∧ x = .inr (addPqScq s q comps pf)) := by
  unfold syncQueue at hh
  cases hsq : s.scq? q with
  | some sq => rw [hsq] at hh; exact .inl ⟨⟨sq, rfl⟩, ((pure_ok _ _).1 hh).symm⟩
  | none =>
  rw [hsq] at hh; dsimp only at hh
  refine .inr ?_
  cases hpq : s.pq? q.pq with
  | none => rw [hpq] at hh; exact .inr (.inr ⟨rfl, rfl, ((pure_ok _ _).1 hh).symm⟩)
  | some pq =>
  rw [hpq] at hh; dsimp only at hh
  cases hm : (s.sizes q.pq).getLast? with
  | none => rw [hm] at hh; cases hh
  | some maxSc =>
  rw [hm] at hh; dsimp only at hh
  cases hmq : s.scq? ⟨q.pq, maxSc⟩ with
  | none => rw [hmq] at hh; cases hh
  | some maxQ =>
  rw [hmq] at hh; dsimp only at hh
  by_cases h1 : maxQ.mayBeRemoved = true
  · rw [if_pos h1] at hh; exact .inl ⟨rfl, ((pure_ok _ _).1 hh).symm⟩
  rw [if_neg h1] at hh
  by_cases h2 : q.sc > maxSc
  · rw [if_pos h2] at hh; exact .inl ⟨rfl, ((pure_ok _ _).1 hh).symm⟩
  rw [if_neg h2] at hh
  by_cases h3 : maxSc > 0 ∧ q.sc < 1
  · rw [if_pos h3] at hh; exact .inl ⟨rfl, ((pure_ok _ _).1 hh).symm⟩
  · rw [if_neg h3] at hh; exact .inr (.inl ⟨rfl, ⟨pq, rfl⟩, ((pure_ok _ _).1 hh).symm⟩)

theorem syncWorker_cases (s : State) (q : ScqId) (w : WId) :
    (∃ wk, s.worker? q w = some wk ∧ wk.inSync = true ∧ syncWorker s q w = .inl (emit s (.syncErr q w cResourceExhausted))) ∨
    (∃ wk, s.worker? q w = some wk ∧ wk.inSync = false ∧
        syncWorker s q w = .inr ((s.removeCleanup (.worker q w)).setWorker { wk with inSync := true })) ∨
    (s.worker? q w = none ∧ syncWorker s q w = .inr (addWorker s q w)) := by
  unfold syncWorker
  cases hw : s.worker? q w with
  | none => exact .inr (.inr ⟨rfl, rfl⟩)
  | some wk =>
    cases hi : wk.inSync with
    | true => exact .inl ⟨wk, rfl, hi, by simp [hi]⟩
    | false => exact .inr (.inl ⟨wk, rfl, hi, by simp [hi]⟩)

/-- the reported digest matches the task the scheduler believes the worker is running -/
def RunningCorrect (s : State) (wk : Worker) (d : Nat) : Prop :=
  ∃ tid t, wk.task = some tid ∧ s.task? tid = some t ∧ t.digest = d

theorem runningCorrect_iff (s : State) (wk : Worker) (d : Nat) :
    (match wk.task with
      | some tid => match s.task? tid with
        | some t => decide (t.digest = d)
        | none => false
      | none => false) = true ↔ RunningCorrect s wk d := by
  unfold RunningCorrect
  cases wk.task with
  | none => exact ⟨fun e => (nomatch e), fun ⟨_, _, e, _⟩ => (nomatch e)⟩
  | some tid =>
    dsimp only
    cases ht : s.task? tid with
    | none => exact ⟨fun e => (nomatch e), fun ⟨_, _, e1, e2, _⟩ => by cases e1; rw [ht] at e2; cases e2⟩
    | some t =>
      exact ⟨fun e => ⟨tid, t, rfl, ht, of_decide_eq_true e⟩,
        fun ⟨_, _, e1, e2, e3⟩ => by cases e1; rw [ht] at e2; cases e2; exact decide_eq_true e3⟩

theorem syncArrive_ok {h : Hints} {s s' : State} {now : Nat} {q : ScqId} {comps : List Nat} {pf : Nat}
    {w : WId} {rep : Report} {pi : Bool} (hh : syncArrive h s now q comps pf w rep pi = .ok s') :
    ∃ s1 x, enter h s now = .ok s1 ∧ syncQueue s1 q comps pf w = .ok x ∧
      ((x = .inl s') ∨
       ∃ s2, x = .inr s2 ∧
        ((syncWorker s2 q w = .inl s') ∨
         ∃ s3 wk, syncWorker s2 q w = .inr s3 ∧ s3.worker? q w = some wk ∧
          ((rep = .malformed ∧ s' = syncReturn (emit s3 (.syncErr q w cInvalidArgument)) q w) ∨
           (rep = .idle ∧ getCurrentOrNext h s3 q w pi true = .ok s') ∨
           (∃ d, rep = .executing d ∧ RunningCorrect s3 wk d ∧
              s' = syncReturn (emit s3 (.syncNoChange q w (s3.now + s3.cfg.busyInterval))) q w) ∨
           (∃ d, rep = .executing d ∧ ¬ RunningCorrect s3 wk d ∧ getCurrentOrNext h s3 q w pi false = .ok s') ∨
           (∃ d r tid s4, rep = .completed d r ∧ RunningCorrect s3 wk d ∧ wk.task = some tid ∧
              complete h s3 tid r true = .ok s4 ∧ getNextTask h s4 q w pi true = .ok s') ∨
           (∃ d r, rep = .completed d r ∧ ¬ RunningCorrect s3 wk d ∧ getCurrentOrNext h s3 q w pi true = .ok s')))) := by
  unfold syncArrive at hh
  rw [bind_ok] at hh
  obtain ⟨s1, h1, hh⟩ := hh
  rw [bind_ok] at hh
  obtain ⟨x, h2, hh⟩ := hh
  refine ⟨s1, x, h1, h2, ?_⟩
  cases x with
  | inl s2 => exact .inl (congrArg _ ((pure_ok _ _).1 hh))
  | inr s2 =>
  refine .inr ⟨s2, rfl, ?_⟩
  dsimp only at hh
  cases hsw : syncWorker s2 q w with
  | inl s3 => rw [hsw] at hh; exact .inl (congrArg _ ((pure_ok _ _).1 hh))
  | inr s3 =>
  rw [hsw] at hh; dsimp only at hh
  cases hwk : s3.worker? q w with
  | none => rw [hwk] at hh; cases hh
  | some wk =>
  rw [hwk] at hh; dsimp only at hh
  refine .inr ⟨s3, wk, rfl, hwk, ?_⟩
  cases rep with
  | malformed => exact .inl ⟨rfl, ((pure_ok _ _).1 hh).symm⟩
  | idle => exact .inr (.inl ⟨rfl, hh⟩)
  | executing d =>
    rcases ite_ok hh with ⟨hc, hh⟩ | ⟨hc, hh⟩
    · exact .inr (.inr (.inl ⟨d, rfl, (runningCorrect_iff s3 wk d).1 hc, ((pure_ok _ _).1 hh).symm⟩))
    · exact .inr (.inr (.inr (.inl ⟨d, rfl, fun e => hc ((runningCorrect_iff s3 wk d).2 e), hh⟩)))
  | completed d r =>
    rcases ite_ok hh with ⟨hc, hh⟩ | ⟨hc, hh⟩
    · cases ht : wk.task with
      | none => rw [ht] at hh; cases hh
      | some tid =>
        rw [ht] at hh; dsimp only at hh
        rw [bind_ok] at hh
        obtain ⟨s4, h4, hh⟩ := hh
        exact .inr (.inr (.inr (.inr (.inl ⟨d, r, tid, s4, rfl, (runningCorrect_iff s3 wk d).1 hc, rfl, h4, hh⟩))))
    · exact .inr (.inr (.inr (.inr (.inr ⟨d, r, rfl, fun e => hc ((runningCorrect_iff s3 wk d).2 e), hh⟩))))

theorem syncWake_ok {h : Hints} {s s' : State} {now : Nat} {q : ScqId} {w : WId} {reason : Nat}
    (hh : syncWake h s now q w reason = .ok s') :
    ∃ s1 wk, enter h s now = .ok s1 ∧ s1.worker? q w = some wk ∧ wk.inSync = true ∧
      ((reason = 1 ∧
          ((∃ s3, wk.task.isSome = true ∧
              execResponse (s1.setWorker { wk with parked := false, woken := false, drainWait := none }) wk = .ok s3 ∧
              s' = syncReturn s3 q w) ∨
           (wk.task.isSome = false ∧
              s' = syncReturn (emit (s1.setWorker { wk with parked := false, woken := false, drainWait := none })
                      (.syncIdle q w s1.now)) q w))) ∨
       (reason = 2 ∧
          s' = syncReturn (emit (s1.setWorker { wk with parked := false, woken := false, drainWait := none })
                  (.syncErr q w cCanceled)) q w) ∨
       (reason = 0 ∧ wk.woken = true ∧
          ((∃ s3, wk.task.isSome = true ∧ execResponse (s1.setWorker { wk with woken := false }) wk = .ok s3 ∧
              s' = syncReturn s3 q w) ∨
           (wk.task.isSome = false ∧ getNextTask h (s1.setWorker { wk with woken := false }) q w false true = .ok s'))) ∨
       (reason = 3 ∧ ∃ sq g, s1.scq? q = some sq ∧ wk.drainWait = some g ∧ g ≠ sq.undrainGen ∧
          getNextTask h (s1.setWorker { wk with drainWait := none }) q w false true = .ok s')) := by
  unfold syncWake at hh
  rw [bind_ok] at hh
  obtain ⟨s1, h1, hh⟩ := hh
  cases hwk : s1.worker? q w with
  | none => rw [hwk] at hh; cases hh
  | some wk =>
  rw [hwk] at hh; dsimp only at hh
  by_cases hin : (!wk.inSync) = true
  · rw [if_pos hin] at hh; cases hh
  rw [if_neg hin] at hh
  refine ⟨s1, wk, h1, hwk, by simpa using hin, ?_⟩
  split at hh
  · refine .inl ⟨rfl, ?_⟩
    cases ht : wk.task.isSome with
    | true =>
      rw [ht, if_pos rfl, bind_ok] at hh
      obtain ⟨s3, h3, hh⟩ := hh
      rw [pure_ok] at hh
      exact .inl ⟨s3, rfl, h3, hh.symm⟩
    | false => rw [ht, if_neg Bool.false_ne_true, pure_ok] at hh; exact .inr ⟨rfl, hh.symm⟩
  · rw [pure_ok] at hh; exact .inr (.inl ⟨rfl, hh.symm⟩)
  · refine .inr (.inr (.inl ⟨rfl, ?_⟩))
    cases hwo : wk.woken with
    | false => rw [hwo, Bool.not_false, if_pos rfl] at hh; cases hh
    | true =>
      rw [hwo, Bool.not_true, if_neg Bool.false_ne_true] at hh
      refine ⟨rfl, ?_⟩
      cases ht : wk.task.isSome with
      | true =>
        rw [ht, if_pos rfl, bind_ok] at hh
        obtain ⟨s3, h3, hh⟩ := hh
        rw [pure_ok] at hh
        exact .inl ⟨s3, rfl, h3, hh.symm⟩
      | false => rw [ht, if_neg Bool.false_ne_true] at hh; exact .inr ⟨rfl, hh⟩
  · refine .inr (.inr (.inr ⟨rfl, ?_⟩))
    cases hsq : s1.scq? q with
    | none => rw [hsq] at hh; cases hh
    | some sq =>
      rw [hsq] at hh; dsimp only at hh
      cases hg : wk.drainWait with
      | none => rw [hg] at hh; cases hh
      | some g =>
        rw [hg] at hh; dsimp only at hh
        by_cases hgu : g = sq.undrainGen
        · rw [if_pos hgu] at hh; cases hh
        · rw [if_neg hgu] at hh; exact ⟨sq, g, rfl, rfl, hgu, hh⟩
  · cases hh

theorem killOp_ok {h : Hints} {s s' : State} {now name code : Nat} (hh : killOp h s now name code = .ok s') :
    ∃ s1, enter h s now = .ok s1 ∧
      ((s1.op? name = none ∧ s' = emit s1 (.opErr cNotFound)) ∨
       (∃ op s2, s1.op? name = some op ∧ complete h s1 op.task ⟨code, 0, 0, .killed⟩ false = .ok s2 ∧
          s' = emit s2 .opOk)) := by
  unfold killOp at hh
  simp only [bind_ok] at hh
  obtain ⟨s1, h1, h2⟩ := hh
  refine ⟨s1, h1, ?_⟩
  split at h2
  · rw [pure_ok] at h2; exact .inl ⟨by assumption, h2.symm⟩
  · simp only [bind_ok, pure_ok] at h2
    obtain ⟨s2, h3, h4⟩ := h2
    exact .inr ⟨_, s2, by assumption, h3, h4.symm⟩

theorem killQueue_ok {h : Hints} {s s' : State} {now : Nat} {q : ScqId} {code : Nat}
    (hh : killQueue h s now q code = .ok s') :
    ∃ s1, enter h s now = .ok s1 ∧
      ((∃ ev, isClientEv ev = false ∧ s' = emit s1 ev) ∨
       (∃ s2, cancelAllQueued h s1 q ⟨code, 0, 0, .killed⟩ = .ok s2 ∧ s' = emit s2 .opOk)) := by
  unfold killQueue at hh
  rw [bind_ok] at hh
  obtain ⟨s1, h1, hh⟩ := hh
  refine ⟨s1, h1, ?_⟩
  cases hsq : s1.scq? q with
  | none => rw [hsq] at hh; exact .inl ⟨_, rfl, ((pure_ok _ _).1 hh).symm⟩
  | some sq =>
    rw [hsq] at hh; dsimp only at hh
    rcases ite_ok hh with ⟨_, hh⟩ | ⟨_, hh⟩
    · exact .inl ⟨_, rfl, ((pure_ok _ _).1 hh).symm⟩
    · rw [bind_ok] at hh
      obtain ⟨s2, h2, hh⟩ := hh
      exact .inr ⟨s2, h2, ((pure_ok _ _).1 hh).symm⟩

/-- one iteration of the wake-up loop of `AddDrain` -/
def drainWake (q : ScqId) (p : Pattern) (s : State) (w : Worker) : State :=
  if w.scq = q ∧ w.parked ∧ p.matches w.id then wakeWorker s w else s

theorem addDrain_ok {h : Hints} {s s' : State} {now : Nat} {q : ScqId} {p : Pattern}
    (hh : addDrain h s now q p = .ok s') :
    ∃ s1, enter h s now = .ok s1 ∧
      ((s1.scq? q = none ∧ s' = emit s1 (.opErr cNotFound)) ∨
       (∃ sq, s1.scq? q = some sq ∧
          s' = emit (s1.workers.foldl (drainWake q p)
                  (s1.setScq { sq with drains := if sq.drains.contains p then sq.drains else sq.drains ++ [p] })) .opOk)) := by
  unfold addDrain at hh
  simp only [bind_ok] at hh
  obtain ⟨s1, h1, h2⟩ := hh
  refine ⟨s1, h1, ?_⟩
  split at h2
  · rw [pure_ok] at h2; exact .inl ⟨by assumption, h2.symm⟩
  · rw [pure_ok] at h2; exact .inr ⟨_, by assumption, h2.symm⟩

theorem removeDrain_ok {h : Hints} {s s' : State} {now : Nat} {q : ScqId} {p : Pattern}
    (hh : removeDrain h s now q p = .ok s') :
    ∃ s1, enter h s now = .ok s1 ∧
      ((s1.scq? q = none ∧ s' = emit s1 (.opErr cNotFound)) ∨
       (∃ sq, s1.scq? q = some sq ∧
          s' = emit (s1.setScq { sq with drains := sq.drains.filter (· ≠ p), undrainGen := sq.undrainGen + 1 }) .opOk)) := by
  unfold removeDrain at hh
  simp only [bind_ok] at hh
  obtain ⟨s1, h1, h2⟩ := hh
  refine ⟨s1, h1, ?_⟩
  split at h2
  · rw [pure_ok] at h2; exact .inl ⟨by assumption, h2.symm⟩
  · rw [pure_ok] at h2; exact .inr ⟨_, by assumption, h2.symm⟩

/-- one iteration of the marking loop of `TerminateWorkers` -/
def termMark (s : State) (w : Worker) : State :=
  match s.worker? w.scq w.id with
  | some w =>
    if w.task.isNone ∧ w.parked then
      match (s.setWorker { w with terminating := true }).worker? w.scq w.id with
      | some w' => wakeWorker (s.setWorker { w with terminating := true }) w'
      | none => s.setWorker { w with terminating := true }
    else s.setWorker { w with terminating := true }
  | none => s

theorem termMark_eq (s : State) (w : Worker) : termMark s w = { s with workers := (termMark s w).workers } := by
  unfold termMark; split
  · split
    · split <;> rfl
    · rfl
  · rfl

/-- the `(task, generation)` pairs captured by `TerminateWorkers` -/
def termWaits (s : State) (ws : List Worker) : List (Nat × Nat) :=
  ws.filterMap (fun w => match w.task with
    | some t => match s.task? t with | some tk => some (t, tk.gen) | none => none
    | none => none)

theorem terminate_ok {h : Hints} {s s' : State} {now id : Nat} {p : Pattern}
    (hh : terminate h s now id p = .ok s') :
    ∃ s1, enter h s now = .ok s1 ∧
      let ms := s1.workers.filter (fun w => p.matches w.id)
      let s2 := ms.foldl termMark s1
      ((termWaits s2 ms).isEmpty = true ∧ s' = emit s2 (.termRet id cOK)) ∨
      ((termWaits s2 ms).isEmpty = false ∧ s' = addTerm s2 ⟨id, termWaits s2 ms⟩) := by
  unfold terminate at hh
  rw [bind_ok] at hh
  obtain ⟨s1, h1, h2⟩ := hh
  refine ⟨s1, h1, ?_⟩
  rcases ite_ok h2 with ⟨he, h2⟩ | ⟨he, h2⟩
  · exact .inl ⟨he, ((pure_ok _ _).1 h2).symm⟩
  · exact .inr ⟨Bool.eq_false_iff.2 he, ((pure_ok _ _).1 h2).symm⟩

theorem termWake_ok {s s' : State} {id reason : Nat} (hh : termWake s id reason = .ok s') :
    ∃ tc, s.terms.find? (fun t => t.id = id) = some tc ∧
      ((reason = 2 ∧ s' = emit (dropTerm s id) (.termRet id cCanceled)) ∨
       (reason ≠ 2 ∧ (∀ tg ∈ tc.waits, ∀ tk, s.task? tg.1 = some tk → tk.gen > tg.2) ∧
          s' = emit (dropTerm s id) (.termRet id cOK))) := by
  unfold termWake at hh
  cases htc : s.terms.find? (fun t => t.id = id) with
  | none => rw [htc] at hh; cases hh
  | some tc =>
  rw [htc] at hh; dsimp only at hh
  refine ⟨tc, rfl, ?_⟩
  rcases ite_ok hh with ⟨h2, hh⟩ | ⟨h2, hh⟩
  · exact .inl ⟨h2, ((pure_ok _ _).1 hh).symm⟩
  rcases ite_ok hh with ⟨hst, hh⟩ | ⟨hst, hh⟩
  · cases hh
  refine .inr ⟨h2, ?_, ((pure_ok _ _).1 hh).symm⟩
  rw [Bool.not_eq_true, Bool.not_eq_false', List.all_eq_true] at hst
  intro tg htg tk htk
  have := hst tg htg
  obtain ⟨t, g⟩ := tg
  dsimp only [State.task?] at this htk
  rw [htk] at this
  exact of_decide_eq_true this

end BbRe.Lemmas.SchedLive
