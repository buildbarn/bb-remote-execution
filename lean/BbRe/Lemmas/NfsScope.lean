import BbRe.Lemmas.NfsActs
/-!
# State ID scope (C18.stateid_scope): lemmas about the state-ID resolution of
`Model/NfsState.lean` (`cmpSeq`, `nextSeq`, `findOpen`, `findLock`, `ioTarget`).
-/
namespace BbRe.Lemmas.NfsScope
open BbRe.NfsState BbRe.NfsShare BbRe.Lemmas.NfsActs

theorem st_consts : St.ok = 0 ∧ St.badStateid = 10025 ∧ St.oldStateid = 10024 ∧ St.openmode = 10038 ∧
    St.nofilehandle = 10020 := ⟨rfl, rfl, rfl, rfl, rfl⟩

/-- The comparison accepts exactly the current seqid (4.1: or 0, "the most recent one"). -/
theorem cmpSeq_ok_iff (ver c srv : Nat) :
    cmpSeq ver c srv = St.ok ↔ (c = srv ∨ (ver = 41 ∧ c = 0)) := by
  unfold cmpSeq
  simp only [St.ok, St.badStateid, St.oldStateid]
  by_cases h1 : (ver == 41 && c == 0) = true
  · simp only [h1, if_true, true_iff]
    simp only [Bool.and_eq_true, beq_iff_eq] at h1
    exact Or.inr h1
  · simp only [h1, Bool.false_eq_true, if_false]
    by_cases h2 : (c == srv) = true
    · simp only [h2, if_true, true_iff]
      exact Or.inl (by simpa using h2)
    · simp only [h2, Bool.false_eq_true, if_false]
      have h2' : c ≠ srv := by simpa using h2
      have h1' : ¬ (ver = 41 ∧ c = 0) := by simpa using h1
      split <;> simp [h2', h1']

/-- Otherwise NFS4ERR_BAD_STATEID iff the client's value is 1 … 2^31-1 ahead of the server's modulo
2^32 (`int32(client - server) > 0`), else NFS4ERR_OLD_STATEID. -/
theorem cmpSeq_not_ok (ver c srv : Nat) (h : ¬ (c = srv ∨ (ver = 41 ∧ c = 0))) :
    (cmpSeq ver c srv = St.badStateid ↔ (c + 4294967296 - srv) % 4294967296 < 2147483648) ∧
    (cmpSeq ver c srv = St.oldStateid ↔ ¬ (c + 4294967296 - srv) % 4294967296 < 2147483648) := by
  unfold cmpSeq
  simp only [St.ok, St.badStateid, St.oldStateid]
  have h1 : (ver == 41 && c == 0) = false := by
    cases hx : (ver == 41 && c == 0)
    · rfl
    · simp only [Bool.and_eq_true, beq_iff_eq] at hx
      exact absurd (Or.inr hx) h
  have h2 : (c == srv) = false := by
    cases hx : (c == srv)
    · rfl
    · exact absurd (Or.inl (by simpa using hx)) h
  simp only [h1, h2, Bool.false_eq_true, if_false]
  split <;> simp_all

/-- Seqids wrap from `2^32-1` to 1, never to 0, and stay `uint32`. -/
theorem nextSeq_spec (n : Nat) (hn : n < 4294967296) :
    nextSeq n ≠ 0 ∧ nextSeq n < 4294967296 ∧ (n = 4294967295 → nextSeq n = 1) ∧
    (n ≠ 4294967295 → nextSeq n = n + 1) := by
  unfold nextSeq
  by_cases h : n = 4294967295
  · simp [h]
  · have : (n == 4294967295) = false := by simpa using h
    simp only [this, Bool.false_eq_true, if_false]
    exact ⟨by omega, by omega, fun e => absurd e h, fun _ => trivial⟩

/-- A seqid one step in the future is refused as BAD, the previous one as OLD — across the
wrap-around too. -/
theorem cmpSeq_next (x : Nat) (h1 : 1 ≤ x) (hx : x < 4294967296) :
    cmpSeq 40 (nextSeq x) x = St.badStateid ∧ cmpSeq 40 x (nextSeq x) = St.oldStateid ∧
    cmpSeq 41 (nextSeq x) x = St.badStateid ∧ cmpSeq 41 x (nextSeq x) = St.oldStateid := by
  have hs := nextSeq_spec x hx
  by_cases hw : x = 4294967295
  · subst hw
    decide
  · have hn : nextSeq x = x + 1 := hs.2.2.2 hw
    rw [hn]
    have hne : ¬ (x + 1 = x ∨ ((40:Nat) = 41 ∧ x + 1 = 0)) := by omega
    have hne' : ¬ (x = x + 1 ∨ ((40:Nat) = 41 ∧ x = 0)) := by omega
    have hne1 : ¬ (x + 1 = x ∨ ((41:Nat) = 41 ∧ x + 1 = 0)) := by omega
    have hne1' : ¬ (x = x + 1 ∨ ((41:Nat) = 41 ∧ x = 0)) := by omega
    refine ⟨(cmpSeq_not_ok 40 (x+1) x hne).1.2 (by omega), (cmpSeq_not_ok 40 x (x+1) hne').2.2 (by omega),
      (cmpSeq_not_ok 41 (x+1) x hne1).1.2 (by omega), (cmpSeq_not_ok 41 x (x+1) hne1').2.2 (by omega)⟩

/-! ## Resolution of open and lock state IDs -/

/-- What it means for a request (enclosing SEQUENCE `q`, current file handle `fh`, state ID
`(sid, sseq)`) to be within the scope of the open-owner file `f`. -/
structure OpenScope (s : State) (q sid sseq fh : Nat) (allowUnconfirmed : Bool) (f : OFile) : Prop where
  mem : f ∈ s.files
  live : f.live = true
  sidEq : f.sid = sid
  /-- 4.1: the state belongs to the incarnation of the session the request came through -/
  client : (s.ver == 40) = false → reqClient s q = some f.cl
  /-- the current file handle is the handle of the state's file -/
  handle : fhIsFile fh = true ∧ fhIndex fh = f.file
  /-- the seqid comparison passed -/
  seq : cmpSeq (if s.ver == 40 then 40 else 41) sseq (seqOf s sid) = St.ok
  /-- 4.0: not half-closed, and the open-owner is confirmed (unless OPEN_CONFIRM itself) -/
  v40 : (s.ver == 40) = true → f.share.isNone = false ∧
    (allowUnconfirmed = true ∨ ((s.getOO f.cl f.owner).map (·.confirmed)).getD false = true)

theorem find_some {α : Type} {p : α → Bool} {l : List α} {a : α} (h : l.find? p = some a) :
    a ∈ l ∧ p a = true := ⟨List.mem_of_find?_eq_some h, List.find?_some h⟩

/-- `getOpenOwnerFileByStateID` honours a state ID only within its scope. -/
theorem findOpen_ok (s : State) (q sid sseq fh : Nat) (au : Bool)
    (hok : (findOpen s q sid sseq fh au).st = St.ok) :
    ∃ f, (findOpen s q sid sseq fh au).f = some f ∧ OpenScope s q sid sseq fh au f := by
  let P : Found → Prop := fun r => r.st = St.ok → ∃ f, r.f = some f ∧ OpenScope s q sid sseq fh au f
  -- every branch but the last of either version answers with an error status
  have bad : ∀ {st : Nat}, st ≠ St.ok → P { st := st } := fun h h' => absurd h' h
  suffices h : P (findOpen s q sid sseq fh au) from h hok
  unfold findOpen
  refine ite_elim (P := P) (fun hv => ?_) (fun hv => ?_)
  · split
    · exact bad (by decide)
    · next f hf =>
      obtain ⟨hm, hp⟩ := find_some hf
      simp only [Bool.and_eq_true, beq_iff_eq] at hp
      refine ite_elim (P := P) (fun _ => bad (by decide)) fun _ =>
        ite_elim (P := P) (fun _ => bad (by decide)) fun c1 =>
        ite_elim (P := P) (fun _ => bad (by decide)) fun c2 =>
        ite_elim (P := P) (fun _ => bad (by decide)) fun c3 hok => ?_
      refine ⟨f, rfl, hm, hp.1, hp.2, fun e => by simp [hv] at e, by simpa using c2,
        by simpa [hv] using hok, fun _ => ⟨by simpa using c1, ?_⟩⟩
      cases au
      · right; simpa using c3
      · left; rfl
  · have hv' : (s.ver == 40) = false := by simpa using hv
    refine ite_elim (P := P) (fun _ => bad (by decide)) fun _ =>
      ite_elim (P := P) (fun _ => bad (by decide)) fun _ => ?_
    split
    · exact bad (by decide)
    · next f hf =>
      obtain ⟨hm, hp⟩ := find_some hf
      simp only [Bool.and_eq_true, beq_iff_eq, visible, hv', Bool.false_or] at hp
      exact ite_elim (P := P) (fun _ => bad (by decide)) fun c2 hok =>
        ⟨f, rfl, hm, hp.1.1, hp.1.2, fun _ => by simpa using hp.2, by simpa using c2,
          by simpa [hv'] using hok, fun e => by simp [hv'] at e⟩

/-- Scope of a lock state ID: the lock-owner file `l` of the open-owner file `f`. -/
structure LockScope (s : State) (q lsid lsseq fh : Nat) (f : OFile) (l : LOFile) : Prop where
  mem : f ∈ s.files
  live : f.live = true
  lmem : l ∈ f.lofs
  sidEq : l.sid = lsid
  client : (s.ver == 40) = false → reqClient s q = some f.cl
  handle : fhIsFile fh = true ∧ fhIndex fh = f.file
  seq : cmpSeq s.ver lsseq (seqOf s lsid) = St.ok

/-- `getLockOwnerFileByStateID` honours a lock state ID only within its scope. -/
theorem findLock_ok (s : State) (q lsid lsseq fh : Nat)
    (hok : (findLock s q lsid lsseq fh).st = St.ok) :
    ∃ f l, (findLock s q lsid lsseq fh).f = some f ∧ (findLock s q lsid lsseq fh).l = some l ∧
      LockScope s q lsid lsseq fh f l := by
  let P : Found → Prop := fun r =>
    r.st = St.ok → ∃ f l, r.f = some f ∧ r.l = some l ∧ LockScope s q lsid lsseq fh f l
  have bad : ∀ {st : Nat}, st ≠ St.ok → P { st := st } := fun h h' => absurd h' h
  suffices h : P (findLock s q lsid lsseq fh) from h hok
  unfold findLock
  refine ite_elim (P := P) (fun _ => bad (by decide)) fun _ =>
    ite_elim (P := P) (fun _ => bad (by decide)) fun _ => ?_
  split
  · exact bad (by decide)
  · next f hf =>
    obtain ⟨hm, hp⟩ := find_some hf
    simp only [Bool.and_eq_true] at hp
    split
    · exact bad (by decide)
    · next l hl =>
      obtain ⟨hlm, hlp⟩ := find_some hl
      refine ite_elim (P := P) (fun _ => bad (by decide)) fun _ =>
        ite_elim (P := P) (fun _ => bad (by decide)) fun c3 hok =>
          ⟨f, l, rfl, rfl, hm, hp.1.1, hlm, by simpa using hlp, fun e => ?_, by simpa using c3, hok⟩
      have := hp.1.2
      simp only [visible, e, Bool.false_or] at this
      simpa using this

/-! ## READ / WRITE / SETATTR -/

/-- `getOpenedLeafWithRegularStateID`: I/O is admitted only with an open state ID in scope whose
current `shareAccess` has the wanted bits, or — the ID not being an open state ID — with a lock state
ID in scope whose mask captured at creation has them; the share reservation is cloned from the file
the state belongs to. -/
theorem ioTarget_ok (s : State) (q sid sseq fh : Nat) (want : Mask) (f : OFile)
    (h : ioTarget s q sid sseq fh want = (St.ok, some f)) :
    (OpenScope s q sid sseq fh false f ∧ want.subset f.share = true) ∨
    (∃ l, LockScope s q sid sseq fh f l ∧ want.subset l.share = true) := by
  let P : Nat × Option OFile → Prop := fun r => r = (St.ok, some f) →
    (OpenScope s q sid sseq fh false f ∧ want.subset f.share = true) ∨
    (∃ l, LockScope s q sid sseq fh f l ∧ want.subset l.share = true)
  suffices hP : P (ioTarget s q sid sseq fh want) from hP h
  have openmode : P (St.openmode, none) := fun e => absurd (congrArg Prod.snd e) nofun
  unfold ioTarget
  refine ite_elim (P := P) (fun hst => ?_) fun _ => ite_elim (P := P) (fun _ => ?_)
    fun _ e => absurd (congrArg Prod.snd e) nofun
  · obtain ⟨g, hg, hsc⟩ := findOpen_ok s q sid sseq fh false (by simpa using hst)
    rw [hg]
    refine ite_elim (P := P) (fun _ => openmode) fun hsub e => ?_
    obtain rfl := Option.some.inj (congrArg Prod.snd e)
    exact .inl ⟨hsc, by simpa using hsub⟩
  · refine ite_elim (P := P) (fun hne e => ?_) fun hne => ?_
    · exact absurd (congrArg Prod.fst e) (by simpa using hne)
    · obtain ⟨g, l, hg, hl', hsc⟩ := findLock_ok s q sid sseq fh (by simpa using hne)
      rw [hg, hl']
      refine ite_elim (P := P) (fun _ => openmode) fun hsub e => ?_
      obtain rfl := Option.some.inj (congrArg Prod.snd e)
      exact .inr ⟨l, hsc, by simpa using hsub⟩

/-- A state ID in scope that lacks the wanted bits yields NFS4ERR_OPENMODE (open state ID: judged by
the open's current `shareAccess`). -/
theorem ioTarget_openmode_open (s : State) (q sid sseq fh : Nat) (want : Mask) (f : OFile)
    (hst : (findOpen s q sid sseq fh false).st = St.ok) (hf : (findOpen s q sid sseq fh false).f = some f)
    (hw : want.subset f.share = false) : ioTarget s q sid sseq fh want = (St.openmode, none) := by
  unfold ioTarget
  simp [hst, hf, hw]

/-- … lock state ID: judged by the mask captured when the lock-owner file was created, whatever the
open's `shareAccess` has become since (OPEN_DOWNGRADE / upgrade). -/
theorem ioTarget_openmode_lock (s : State) (q sid sseq fh : Nat) (want : Mask) (f : OFile) (l : LOFile)
    (hst : (findOpen s q sid sseq fh false).st = St.badStateid)
    (hl : (findLock s q sid sseq fh).st = St.ok) (hf : (findLock s q sid sseq fh).f = some f)
    (hl' : (findLock s q sid sseq fh).l = some l) :
    ioTarget s q sid sseq fh want =
      if want.subset l.share then (St.ok, some f) else (St.openmode, none) := by
  unfold ioTarget
  have h1 : ((findOpen s q sid sseq fh false).st == St.ok) = false := by rw [hst]; decide
  have h2 : ((findOpen s q sid sseq fh false).st == St.badStateid) = true := by rw [hst]; decide
  have h3 : ((findLock s q sid sseq fh).st != St.ok) = false := by rw [hl]; decide
  simp only [h1, h2, h3, hf, hl', Bool.false_eq_true, if_false, if_true]
  cases want.subset l.share <;> simp

end BbRe.Lemmas.NfsScope
