import BbRe.Model.ExecFlow
import Std.Data.String.ToNat
/-!
For `Properties/C10Flow.lean`, `C11Flow.lean`, `C12Flow.lean`: `runFrom` against the budget (a script that fits is
not killed; what a killed one has used), `uploadFiles` against the deadline of the output-upload delay, and the
names `Dirs.get` hands out (`get_eq`, the invariant `DInv`, `fresh_name`).
-/
namespace BbRe.Lemmas.ExecFlow
open BbRe.ExecFlow

/-- A `run` segment that fits into what is left of both budgets is completed. -/
theorem runFrom_run {T L t u d : Nat} (n : Nat) (rest : List Seg) (h1 : u + d ≤ T) (h2 : t + d ≤ L) :
    runFrom T L t u n (.run d :: rest) = runFrom T L (t + d) (u + d) (n + 1) rest := by
  rw [runFrom, if_neg (Nat.not_lt.2 (Nat.le_trans (Nat.le_add_right t d) h2))]
  exact if_neg (Nat.not_lt.2 (Nat.le_min.2 ⟨Nat.le_sub_of_add_le' h1, Nat.le_sub_of_add_le' h2⟩))

theorem runFrom_stall {T L t : Nat} (u d n : Nat) (rest : List Seg) (h : t ≤ L) :
    runFrom T L t u n (.stall d :: rest) = runFrom T L (t + d) u (n + 1) rest := by
  rw [runFrom, if_neg (Nat.not_lt.2 h)]

/-- Wall-clock time of a script that is never cut short. -/
def wallTime : List Seg → Nat
  | [] => 0
  | .run d :: rest | .stall d :: rest => d + wallTime rest

theorem wallTime_eq (sc : List Seg) : wallTime sc = runTime sc + stallTime sc := by
  induction sc with
  | nil => rfl
  | cons seg rest ih =>
    cases seg with
    | run d => exact (congrArg (d + ·) ih).trans (Nat.add_assoc ..).symm
    | stall d => exact (congrArg (d + ·) ih).trans (Nat.add_left_comm ..)

/-- A script that fits into what is left of both budgets runs to its end. -/
theorem runFrom_fits (T L : Nat) (sc : List Seg) : ∀ (t u n : Nat), u + runTime sc ≤ T → t + wallTime sc ≤ L →
    runFrom T L t u n sc = ⟨false, u + runTime sc, t + wallTime sc, n + sc.length⟩ := by
  induction sc with
  | nil =>
    intro t u n _ h2
    rw [runFrom, decide_eq_false (Nat.not_lt.2 (show t ≤ L from h2))]
    rfl
  | cons seg rest ih =>
    intro t u n h1 h2
    cases seg with
    | run d =>
      have h1 : u + d + runTime rest ≤ T := Nat.add_assoc .. ▸ h1
      have h2 : t + d + wallTime rest ≤ L := Nat.add_assoc .. ▸ h2
      rw [runFrom_run n rest (Nat.le_trans (Nat.le_add_right ..) h1) (Nat.le_trans (Nat.le_add_right ..) h2),
        ih _ _ _ h1 h2, Nat.add_assoc u, Nat.add_assoc t, Nat.add_assoc n, Nat.add_comm 1]
      rfl
    | stall d =>
      have h2 : t + d + wallTime rest ≤ L := Nat.add_assoc .. ▸ h2
      rw [runFrom_stall u d n rest (Nat.le_trans (Nat.le_add_right ..) (Nat.le_trans (Nat.le_add_right ..) h2)),
        ih _ _ _ h1 h2, Nat.add_assoc t, Nat.add_assoc n, Nat.add_comm 1]
      rfl

/-- What any command is charged at most (never more than the timeout, nor than the wall-clock
time that passed), and what a cancelled command had been given. -/
theorem runFrom_bounds (T L : Nat) (sc : List Seg) (t u n : Nat) (hu : u ≤ T) :
    let r := runFrom T L t u n sc
    u ≤ r.unsusp ∧ r.unsusp ≤ T ∧ t + r.unsusp ≤ u + r.wall ∧
      (r.killed = true → r.unsusp = T ∨ L ≤ r.wall) := by
  -- the branches of `runFrom`: 1 script over; 2 / 5 a run / stall segment begins past the wall limit `L`;
  -- 3 a run segment is cut after `k`; 4 it completes; 6 a stall segment passes
  fun_induction runFrom T L t u n sc with
  | case1 t u n =>
    exact ⟨Nat.le_refl u, hu, Nat.le_of_eq (Nat.add_comm t u), fun h => .inr (Nat.le_of_lt (of_decide_eq_true h))⟩
  | case2 t u n d rest h | case5 t u n d rest h =>
    exact ⟨Nat.le_refl u, hu, Nat.le_of_eq (Nat.add_comm t u), fun _ => .inr (Nat.le_of_lt h)⟩
  | case3 t u n d rest h k hk =>
    refine ⟨Nat.le_add_right u k, Nat.add_le_of_le_sub' hu (Nat.min_le_left ..),
      Nat.le_of_eq (Nat.add_left_comm t u k), fun _ => ?_⟩
    rcases Nat.le_total (T - u) (L - t) with c | c
    · exact .inl (by rw [show k = T - u from Nat.min_eq_left c]; exact Nat.add_sub_cancel' hu)
    · exact .inr (by
        rw [show k = L - t from Nat.min_eq_right c]
        exact Nat.le_of_eq (Nat.add_sub_cancel' (Nat.not_lt.1 h)).symm)
  | case4 t u n d rest h k hk ih =>
    obtain ⟨a, b, c, e⟩ := ih (Nat.add_le_of_le_sub' hu (Nat.le_trans (Nat.not_lt.1 hk) (Nat.min_le_left ..)))
    rw [Nat.add_right_comm t, Nat.add_right_comm u] at c
    exact ⟨Nat.le_trans (Nat.le_add_right u d) a, b, Nat.le_of_add_le_add_right c, e⟩
  | case6 t u n d rest h ih =>
    obtain ⟨a, b, c, e⟩ := ih hu
    exact ⟨a, b, Nat.le_trans (Nat.add_le_add_right (Nat.le_add_right t d) _) c, e⟩

/-! ## upload

The branches of `uploadFiles`, as `fun_induction` numbers them: 1 no descriptor left; 2 the next one is closed
already; 3 it closes before the deadline and is waited for; 4 it does not and is given up. -/

theorem uploadFiles_length (dl : Nat) (cl : List Nat) (now : Nat) :
    (uploadFiles dl now cl).1.length = cl.length := by
  fun_induction uploadFiles dl now cl with
  | case1 => rfl
  | case2 _ _ _ _ _ ih | case3 _ _ _ _ _ _ ih | case4 _ _ _ _ _ _ ih => exact congrArg (· + 1) ih

/-- The upload never waits beyond the deadline (or the instant it started, if later). -/
theorem uploadFiles_finish (dl : Nat) (cl : List Nat) (now : Nat) :
    now ≤ (uploadFiles dl now cl).2 ∧ (uploadFiles dl now cl).2 ≤ max now dl := by
  fun_induction uploadFiles dl now cl with
  | case1 now => exact ⟨Nat.le_refl _, Nat.le_max_left ..⟩
  | case2 now c rest h r ih => exact ih
  | case3 now c rest h hc r ih =>
    exact ⟨Nat.le_trans (Nat.le_of_not_le h) ih.1,
      Nat.le_trans ih.2 (Nat.max_le.2 ⟨Nat.le_trans (Nat.le_of_lt hc) (Nat.le_max_right ..), Nat.le_max_right ..⟩)⟩
  | case4 now c rest h hc r ih =>
    exact ⟨Nat.le_trans (Nat.le_max_left ..) ih.1, Nat.le_trans ih.2 (Nat.max_le.2 ⟨Nat.le_refl _, Nat.le_max_right ..⟩)⟩

/-- Every descriptor that is closed before the deadline is waited for. -/
theorem uploadFiles_all (dl : Nat) (cl : List Nat) (now : Nat) (h : ∀ c ∈ cl, c < dl) :
    ∀ b ∈ (uploadFiles dl now cl).1, b = true := by
  fun_induction uploadFiles dl now cl with
  | case1 => exact fun _ hb => nomatch hb
  | case2 _ _ _ _ _ ih | case3 _ _ _ _ _ _ ih =>
    exact List.forall_mem_cons.2 ⟨rfl, ih (List.forall_mem_cons.1 h).2⟩
  | case4 _ c _ _ hc => exact absurd (h c List.mem_cons_self) hc

/-- … and the upload is over only after all of them were closed. -/
theorem uploadFiles_finish_ge (dl : Nat) (cl : List Nat) (now : Nat) (h : ∀ c ∈ cl, c < dl) :
    ∀ c ∈ cl, c ≤ (uploadFiles dl now cl).2 := by
  fun_induction uploadFiles dl now cl with
  | case1 => exact fun _ hc => nomatch hc
  | case2 now c rest hle r ih =>
    exact List.forall_mem_cons.2 ⟨Nat.le_trans hle (uploadFiles_finish dl rest now).1, ih (List.forall_mem_cons.1 h).2⟩
  | case3 now c rest _ _ r ih =>
    exact List.forall_mem_cons.2 ⟨(uploadFiles_finish dl rest c).1, ih (List.forall_mem_cons.1 h).2⟩
  | case4 _ c _ _ hc => exact absurd (h c List.mem_cons_self) hc

/-- Descriptors closed less than the upload delay after the command's exit are closed before
the deadline of the delay context, because that context is created after the exit. -/
theorem closed_before_the_deadline {e : Env} (h : ∀ l ∈ e.lingers, l < e.uploadDelay) :
    ∀ c ∈ e.lingers.map ((execute e).runEnd + ·), c < (execute e).delayStart + e.uploadDelay :=
  List.forall_mem_map.2 fun l hl => Nat.add_lt_add_of_le_of_lt (Nat.le_max_left ..) (h l hl)

/-- The names in use (`shared_build_directory_creator.go`): a do-not-cache action runs under
`strconv.FormatUint(nextParallelActionID.Add(1), 10)`, any other under `GetHashString()[:16]`, hence of length 16.
A decimal below `10 ^ 15` is shorter than that, which keeps the two kinds apart (`repr_length_ne_16`). -/
structure DInv (s : Dirs) : Prop where
  counter : ∀ x ∈ s.running, x.1.doNotCache = true → ∃ k, 1 ≤ k ∧ k ≤ s.next ∧ x.2 = Nat.repr k
  digest  : ∀ x ∈ s.running, x.1.doNotCache = false → x.2 = x.1.digestName ∧ x.1.digestName.length = 16
  nodup   : s.names.Nodup

theorem dinv_init : DInv Dirs.init := ⟨fun _ h => (nomatch h), fun _ h => (nomatch h), List.nodup_nil⟩

theorem mem_names {s : Dirs} {n : String} : n ∈ s.names ↔ ∃ x ∈ s.running, x.2 = n := List.mem_map

theorem repr_length_ne_16 {k : Nat} (h : k < 10 ^ 15) : (Nat.repr k).length ≠ 16 :=
  fun e => absurd ((Nat.length_repr_le_iff (k := 15) (by decide)).2 h) (by rw [e]; decide)

/-- The name `GetBuildDirectory` tries for `r`. -/
def pick (s : Dirs) (r : Req) : String := if r.doNotCache then Nat.repr (s.next + 1) else r.digestName

theorem pick_numbered {s : Dirs} {r : Req} (h : r.doNotCache = true) : pick s r = Nat.repr (s.next + 1) := if_pos h

theorem pick_digest {s : Dirs} {r : Req} (h : r.doNotCache = false) : pick s r = r.digestName :=
  if_neg (h ▸ Bool.false_ne_true)

/-- `Dirs.get` as one case distinction: whether the name it tries is taken. -/
theorem get_eq (s : Dirs) (r : Req) :
    s.get r = if pick s r ∈ s.names then (⟨s.next + r.doNotCache.toNat, s.running⟩, none)
      else (⟨s.next + r.doNotCache.toNat, (r, pick s r) :: s.running⟩, some (pick s r)) := by
  unfold Dirs.get request pick
  cases r.doNotCache <;> rfl

/-- The name `get` tries is not the name of any running action. -/
theorem fresh_name {s : Dirs} (inv : DInv s) (r : Req) (hl : r.digestName.length = 16) (ha : s.admits r)
    (hb : s.next + 1 < 10 ^ 15) : pick s r ∉ s.names := by
  intro hm
  obtain ⟨x, hx, hxn⟩ := mem_names.1 hm
  cases hd : r.doNotCache with
  | false =>
    rw [pick_digest hd] at hxn
    cases hxd : x.1.doNotCache with
    | false => exact ha hd x hx hxd ((inv.digest x hx hxd).1.symm.trans hxn)
    | true =>
      obtain ⟨k, _, hk, e⟩ := inv.counter x hx hxd
      exact repr_length_ne_16 (Nat.lt_of_le_of_lt hk (Nat.lt_of_succ_lt hb)) (by rw [← e, hxn, hl])
  | true =>
    rw [pick_numbered hd] at hxn
    cases hxd : x.1.doNotCache with
    | false =>
      obtain ⟨e1, e2⟩ := inv.digest x hx hxd
      exact repr_length_ne_16 hb (by rw [← hxn, e1, e2])
    | true =>
      obtain ⟨k, _, hk, e⟩ := inv.counter x hx hxd
      exact Nat.not_succ_le_self _ (Nat.repr_injective (e.symm.trans hxn) ▸ hk)

theorem dinv_get {s : Dirs} (inv : DInv s) (r : Req) (hl : r.digestName.length = 16) : DInv (s.get r).1 := by
  have hc : ∀ x ∈ s.running, x.1.doNotCache = true →
      ∃ k, 1 ≤ k ∧ k ≤ s.next + r.doNotCache.toNat ∧ x.2 = Nat.repr k := fun x hx h =>
    let ⟨k, a, b, c⟩ := inv.counter x hx h
    ⟨k, a, Nat.le_trans b (Nat.le_add_right ..), c⟩
  by_cases hm : pick s r ∈ s.names
  · rw [get_eq, if_pos hm]
    exact ⟨hc, inv.digest, inv.nodup⟩
  · rw [get_eq, if_neg hm]
    refine ⟨List.forall_mem_cons.2 ⟨fun h => ?_, hc⟩, List.forall_mem_cons.2 ⟨fun h => ?_, inv.digest⟩,
      List.nodup_cons.2 ⟨hm, inv.nodup⟩⟩
    · exact ⟨s.next + 1, Nat.le_add_left .., Nat.le_of_eq (by rw [h]; rfl), pick_numbered h⟩
    · exact ⟨pick_digest h, hl⟩

theorem dinv_finish {s : Dirs} (inv : DInv s) (n : String) : DInv (s.finish n) :=
  ⟨fun x hx => inv.counter x (List.mem_filter.1 hx).1, fun x hx => inv.digest x (List.mem_filter.1 hx).1,
    inv.nodup.sublist (List.filter_sublist.map _)⟩

theorem dinv_reachable {s : Dirs} (h : Reachable s) : DInv s := by
  induction h with
  | init => exact dinv_init
  | exec r _ hl _ ih => exact dinv_get ih r hl
  | finish n _ ih => exact dinv_finish ih n

end BbRe.Lemmas.ExecFlow
