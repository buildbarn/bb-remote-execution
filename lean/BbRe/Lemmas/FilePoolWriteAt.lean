import BbRe.Lemmas.FilePoolWriteLoop
/-!
`WriteAt` on `content`, and the per-file invariant `FileOK` (hole source has no
data beyond the size; everything beyond the size reads as zero).
-/
namespace BbRe.Lemmas.FilePool
open BbRe.FilePool

/-- the hole source has no data at or beyond the file size, and the file's
contents beyond its size (padding inside the last sector) are zero. -/
def FileOK (ss : Nat) (dev : Array Byte) (f : File) : Prop :=
  f.hole.limit ≤ f.size ∧ ∀ i, f.size ≤ i → content ss dev f i = 0

theorem content_size_irrel (ss : Nat) (dev : Array Byte) (f : File) (sz : Nat) (i : Nat) :
    content ss dev { f with size := sz } i = content ss dev f i := rfl

theorem hole_read_beyond (h : Hole) (i : Nat) (hi : h.limit ≤ i) : h.read i = 0 := by
  unfold Hole.read Hole.isData
  rw [if_neg]
  simp; intro h1; omega

/-- **`WriteAt` on contents** (non-negative offset `o`): exactly the `n` bytes
reported written are laid over the old contents at `o`, on every path; the
size grows to `o+n` if needed; no error means everything was written; the loop
never hits one of the Go panics; sectors of other files are untouched. -/
theorem writeAt_content {O : Nat → Prop} {c : Cfg} {f : File} {e : Env} (p : List Byte) (o : Nat)
    (hss : 0 < c.ss) (hP : Part c.nsec O e.allocd (nz f.sectors)) (hd : e.dfree = false) :
    (∀ i, content c.ss (writeAt c f e p o).2.1.dev (writeAt c f e p o).1 i =
        overlay (content c.ss e.dev f) o (p.take (writeAt c f e p o).2.2.1) i) ∧
      (writeAt c f e p o).2.2.1 ≤ p.length ∧
      (writeAt c f e p o).1.size =
        (if 0 < (writeAt c f e p o).2.2.1 then max f.size (o + (writeAt c f e p o).2.2.1) else f.size) ∧
      ((writeAt c f e p o).2.2.2 = none → (writeAt c f e p o).2.2.1 = p.length) ∧
      (writeAt c f e p o).2.2.2 ≠ some .panic ∧
      (∀ t k, k < c.ss → O (t + 1) →
        rd (writeAt c f e p o).2.1.dev (t * c.ss + k) = rd e.dev (t * c.ss + k)) := by
  unfold writeAt
  rw [if_neg (by omega)]
  split
  · rename_i hp0
    refine ⟨fun i => ?_, Nat.zero_le _, by simp, fun _ => hp0.symm, by simp, fun _ _ _ _ => rfl⟩
    dsimp only; rw [List.take_zero, overlay_nil]
  · rename_i hp0
    dsimp only
    rw [Int.toNat_natCast]
    have hpos : 0 < p.length := Nat.pos_of_ne_zero hp0
    obtain ⟨lc, ll, ln, lp, lf⟩ := writeLoop_content (O := O) hss (p.length + 1) f e p (o / c.ss)
      (min ((o + p.length + c.ss - 1) / c.ss) f.sectors.length) (o % c.ss) (Nat.mod_lt _ hss) hpos
      (Nat.lt_succ_self _) hP hd
    have hsz := (writeLoop_part (O := O) (c := c) (p.length + 1) f e p (o / c.ss)
      (min ((o + p.length + c.ss - 1) / c.ss) f.sectors.length) (o % c.ss) (Nat.mod_lt _ hss) hP hd).2.2.1
    rw [div_mul_mod] at lc
    refine ⟨fun i => ?_, ll, ?_, ln, lp, lf⟩
    · split
      · exact lc i
      · exact lc i
    · split
      · rename_i hc
        rw [if_pos hc.1]
        dsimp only
        rw [Nat.max_eq_right (by rw [← hsz]; omega)]
      · rename_i hc
        split
        · rename_i hn
          rw [hsz, Nat.max_eq_left (by rw [← hsz]; omega)]
        · rw [hsz]

theorem writeAt_neg {c : Cfg} {f : File} {e : Env} (p : List Byte) (off : Int) (h : off < 0) :
    writeAt c f e p off = (f, e, 0, some .invalid) := by
  unfold writeAt; rw [if_pos h]

/-- `WriteAt` at any offset touches no sector of another file. -/
theorem writeAt_frame {O : Nat → Prop} {c : Cfg} {f : File} {e : Env} (p : List Byte) (off : Int)
    (hss : 0 < c.ss) (hP : Part c.nsec O e.allocd (nz f.sectors)) (hd : e.dfree = false) (t k : Nat)
    (hk : k < c.ss) (ho : O (t + 1)) :
    rd (writeAt c f e p off).2.1.dev (t * c.ss + k) = rd e.dev (t * c.ss + k) := by
  by_cases hneg : off < 0
  · rw [writeAt_neg p off hneg]
  · obtain ⟨ofs, rfl⟩ : ∃ ofs : Nat, off = (ofs : Int) := ⟨off.toNat, by omega⟩
    obtain ⟨_, _, _, _, _, hframe⟩ := writeAt_content (O := O) (f := f) (e := e) p ofs hss hP hd
    exact hframe t k hk ho

/-- `WriteAt` keeps the per-file invariant (on every path). -/
theorem writeAt_fileOK {O : Nat → Prop} {c : Cfg} {f : File} {e : Env} (p : List Byte) (off : Int)
    (hss : 0 < c.ss) (hP : Part c.nsec O e.allocd (nz f.sectors)) (hd : e.dfree = false)
    (hok : FileOK c.ss e.dev f) : FileOK c.ss (writeAt c f e p off).2.1.dev (writeAt c f e p off).1 := by
  by_cases hneg : off < 0
  · rw [writeAt_neg p off hneg]; exact hok
  · obtain ⟨o, rfl⟩ : ∃ o : Nat, off = (o : Int) := ⟨off.toNat, by omega⟩
    obtain ⟨hc, hl, hs, _, _, _⟩ := writeAt_content (O := O) (f := f) (e := e) p o hss hP hd
    have hhole := (writeAt_part (O := O) (c := c) (f := f) (e := e) p (o : Int) hss hP hd).2.2.2
    refine ⟨?_, fun i hi => ?_⟩
    · rw [hhole, hs]; split
      · have := hok.1; omega
      · exact hok.1
    · rw [hc i]
      unfold overlay
      have hlen : (p.take (writeAt c f e p (o : Int)).2.2.1).length = (writeAt c f e p (o : Int)).2.2.1 := by
        rw [List.length_take]; omega
      rw [hlen]
      rw [hs] at hi
      split at hi
      · rw [if_neg (by omega)]; exact hok.2 i (by omega)
      · rename_i hn
        rw [if_neg (by omega)]; exact hok.2 i hi

end BbRe.Lemmas.FilePool
