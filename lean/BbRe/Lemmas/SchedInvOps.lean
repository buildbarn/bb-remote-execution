import BbRe.Lemmas.SchedInvSync
/-! Operator segments: `KillOperations`, drains, `TerminateWorkers`, queue registration. -/
namespace BbRe.Lemmas.SchedInv
open BbRe.Sched

theorem killOp_spec {h : Hints} {s : State} {now name code : Nat} (hI : Inv s) :
    wp (killOp h s now name code) (fun s' => QuietPost s s') := by
  unfold killOp
  apply wp_bind
  refine wp_mono (enter_spec hI) ?_
  intro s0 ⟨hI0, hfr0⟩
  cases hop : alookup name s0.ops with
  | none =>
    simp only [op?_def, hop, wp_pure]
    exact ⟨emit_quiet_inv hI0 _ (fun _ => ⟨rfl, rfl⟩), hfr0.trans (emit_fr _ _ trivial)⟩
  | some op =>
    simp only [op?_def, hop]
    obtain ⟨t, ht, _⟩ := hI0.oinv.o1 name op hop
    apply wp_bind
    refine wp_mono (complete_spec (h := h) (r := ⟨code, 0, 0, .killed⟩) (bw := false) hI0 (by rw [ht]; rfl)) ?_
    intro s1 ⟨hI1, hcp, _, _⟩
    rw [wp_pure]
    exact ⟨emit_quiet_inv hI1 _ (fun _ => ⟨rfl, rfl⟩), (hfr0.trans hcp.fr).trans (emit_fr _ _ trivial)⟩

theorem killQueue_spec {h : Hints} {s : State} {now : Nat} {q : ScqId} {code : Nat} (hI : Inv s) :
    wp (killQueue h s now q code) (fun s' => QuietPost s s') := by
  unfold killQueue
  apply wp_bind
  refine wp_mono (enter_spec hI) ?_
  intro s0 ⟨hI0, hfr0⟩
  split
  · rw [wp_pure]
    exact ⟨emit_quiet_inv hI0 _ (fun _ => ⟨rfl, rfl⟩), hfr0.trans (emit_fr _ _ trivial)⟩
  · split
    · rw [wp_pure]
      exact ⟨emit_quiet_inv hI0 _ (fun _ => ⟨rfl, rfl⟩), hfr0.trans (emit_fr _ _ trivial)⟩
    · apply wp_bind
      refine wp_mono (cancelAllQueued_spec hI0) ?_
      intro s1 ⟨hI1, hfr1, _⟩
      rw [wp_pure]
      exact ⟨emit_quiet_inv hI1 _ (fun _ => ⟨rfl, rfl⟩), (hfr0.trans hfr1).trans (emit_fr _ _ trivial)⟩

/-- waking a list of (distinct, current) parked workers -/
theorem foldl_wake_spec (c : Worker → Prop) [DecidablePred c] (hc : ∀ w, c w → w.parked = true) (l : List Worker) {s : State}
    (hI : Inv s) (hl : WNodup l) (hcur : ∀ w, w ∈ l → wfind s.workers w.scq w.id = some w) :
    Inv (l.foldl (fun s w => if c w then wakeWorker s w else s) s) ∧
      Fr s (l.foldl (fun s w => if c w then wakeWorker s w else s) s) := by
  induction l generalizing s with
  | nil => exact ⟨hI, Fr.refl s⟩
  | cons a r ih =>
    rw [List.foldl_cons]
    simp only [WNodup, List.pairwise_cons] at hl
    by_cases hca : c a
    · rw [if_pos hca]
      have ha := hcur a (by simp)
      have hI1 := wake_inv hI ha (hc a hca)
      have hcur1 : ∀ w, w ∈ r → wfind (wakeWorker s a).workers w.scq w.id = some w := by
        intro w hw
        have hne := hl.1 w hw
        simp only [wakeWorker, setWorker_eq]
        rw [wfind_wset, if_neg]
        · exact hcur w (List.mem_cons_of_mem _ hw)
        · exact fun h => hne ⟨h.1, h.2⟩
      obtain ⟨hI', hfr'⟩ := ih hI1 hl.2 hcur1
      exact ⟨hI', (setWorker_fr s _).trans hfr'⟩
    · rw [if_neg hca]
      exact ih hI hl.2 (fun w hw => hcur w (List.mem_cons_of_mem _ hw))

theorem setScq_inv {s : State} (hI : Inv s) (sq : Scq) : Inv (s.setScq sq) :=
  hI.of_same rfl rfl rfl rfl rfl rfl rfl rfl rfl rfl

theorem setScq_fr (s : State) (sq : Scq) : Fr s (s.setScq sq) := Fr.of_same rfl rfl rfl rfl rfl rfl rfl

theorem addDrain_spec {h : Hints} {s : State} {now : Nat} {q : ScqId} {p : Pattern} (hI : Inv s) :
    wp (addDrain h s now q p) (fun s' => QuietPost s s') := by
  unfold addDrain
  apply wp_bind
  refine wp_mono (enter_spec hI) ?_
  intro s0 ⟨hI0, hfr0⟩
  split
  · rw [wp_pure]
    exact ⟨emit_quiet_inv hI0 _ (fun _ => ⟨rfl, rfl⟩), hfr0.trans (emit_fr _ _ trivial)⟩
  · rename_i sq _
    rw [wp_pure]
    have hI1 := setScq_inv hI0 { sq with drains := if sq.drains.contains p then sq.drains else sq.drains ++ [p] }
    obtain ⟨hI2, hfr2⟩ := foldl_wake_spec (fun w => w.scq = q ∧ w.parked = true ∧ p.matches w.id = true)
      (by intro w hw; exact hw.2.1) s0.workers hI1 hI0.core.wnd
      (fun w hw => wfind_of_mem hI0.core.wnd hw)
    exact ⟨emit_quiet_inv hI2 _ (fun _ => ⟨rfl, rfl⟩),
      ((hfr0.trans (setScq_fr _ _)).trans hfr2).trans (emit_fr _ _ trivial)⟩


theorem removeDrain_spec {h : Hints} {s : State} {now : Nat} {q : ScqId} {p : Pattern} (hI : Inv s) :
    wp (removeDrain h s now q p) (fun s' => QuietPost s s') := by
  unfold removeDrain
  apply wp_bind
  refine wp_mono (enter_spec hI) ?_
  intro s0 ⟨hI0, hfr0⟩
  split
  · rw [wp_pure]
    exact ⟨emit_quiet_inv hI0 _ (fun _ => ⟨rfl, rfl⟩), hfr0.trans (emit_fr _ _ trivial)⟩
  · rename_i sq _
    rw [wp_pure]
    exact ⟨emit_quiet_inv (setScq_inv hI0 _) _ (fun _ => ⟨rfl, rfl⟩),
      (hfr0.trans (setScq_fr _ _)).trans (emit_fr _ _ trivial)⟩

/-- one iteration of the marking loop of `TerminateWorkers` -/
def termStep (s : State) (w : Worker) : State :=
  match s.worker? w.scq w.id with
  | some w =>
    let s := s.setWorker { w with terminating := true }
    if w.task.isNone ∧ w.parked then
      match s.worker? w.scq w.id with | some w' => wakeWorker s w' | none => s
    else s
  | none => s

theorem setTerminating_inv {s : State} {wk : Worker} (hI : Inv s)
    (hw : wfind s.workers wk.scq wk.id = some wk) : Inv (s.setWorker { wk with terminating := true }) := by
  have hc := hI.core
  exact ⟨hc.setWorker hw rfl rfl rfl (hc.w1 _ _ wk hw) (hc.w2 _ _ wk hw) (hc.w3 _ _ wk hw), hI.oinv, hI.sinv, hI.linv⟩

theorem termStep_spec {s : State} (w : Worker) (hI : Inv s) : Inv (termStep s w) ∧ Fr s (termStep s w) := by
  unfold termStep
  cases hw : s.worker? w.scq w.id with
  | none => exact ⟨hI, Fr.refl s⟩
  | some wk =>
    dsimp only
    simp only [worker?_def] at hw
    have hk := wfind_key hw
    have hw' : wfind s.workers wk.scq wk.id = some wk := by rw [hk.1, hk.2]; exact hw
    have hI1 := setTerminating_inv hI hw'
    have hw1 := wfind_setWorker_self (wk' := { wk with terminating := true }) hw' rfl rfl
    split
    · rename_i hc
      simp only [worker?_def, hw1]
      exact ⟨wake_inv hI1 hw1 hc.2, (setWorker_fr _ _).trans (setWorker_fr _ _)⟩
    · exact ⟨hI1, setWorker_fr _ _⟩

theorem foldl_termStep_spec (l : List Worker) {s : State} (hI : Inv s) :
    Inv (l.foldl termStep s) ∧ Fr s (l.foldl termStep s) := by
  induction l generalizing s with
  | nil => exact ⟨hI, Fr.refl s⟩
  | cons a r ih =>
    rw [List.foldl_cons]
    obtain ⟨h1, f1⟩ := termStep_spec a hI
    obtain ⟨h2, f2⟩ := ih h1
    exact ⟨h2, f1.trans f2⟩

theorem terminate_eq (h : Hints) (s : State) (now id : Nat) (p : Pattern) :
    terminate h s now id p = (enter h s now >>= fun s =>
      let matching := s.workers.filter (fun w => p.matches w.id)
      let s := matching.foldl termStep s
      let waits := matching.filterMap (fun w => match w.task with
        | some t => match s.task? t with | some tk => some (t, tk.gen) | none => none
        | none => none)
      if waits.isEmpty then pure (emit s (.termRet id cOK))
      else pure { s with terms := ⟨id, waits⟩ :: s.terms }) := rfl

theorem terminate_spec {h : Hints} {s : State} {now id : Nat} {p : Pattern} (hI : Inv s) :
    wp (terminate h s now id p) (fun s' => QuietPost s s') := by
  rw [terminate_eq]
  apply wp_bind
  refine wp_mono (enter_spec hI) ?_
  intro s0 ⟨hI0, hfr0⟩
  dsimp only
  obtain ⟨hI1, hfr1⟩ := foldl_termStep_spec (s0.workers.filter (fun w => p.matches w.id)) hI0
  split
  · rw [wp_pure]
    exact ⟨emit_quiet_inv hI1 _ (fun _ => ⟨rfl, rfl⟩), (hfr0.trans hfr1).trans (emit_fr _ _ trivial)⟩
  · rw [wp_pure]
    exact ⟨hI1.of_same rfl rfl rfl rfl rfl rfl rfl rfl rfl rfl,
      (hfr0.trans hfr1).trans (Fr.of_same rfl rfl rfl rfl rfl rfl rfl)⟩

theorem termWake_spec {s : State} {id reason : Nat} (hI : Inv s) :
    wp (termWake s id reason) (fun s' => QuietPost s s') := by
  unfold termWake
  split
  · rename_i tc _
    dsimp only
    have hI1 : Inv { s with terms := s.terms.filter (fun t => t.id ≠ id) } :=
      hI.of_same rfl rfl rfl rfl rfl rfl rfl rfl rfl rfl
    have hfr1 : Fr s { s with terms := s.terms.filter (fun t => t.id ≠ id) } :=
      Fr.of_same rfl rfl rfl rfl rfl rfl rfl
    split
    · rw [wp_pure]
      exact ⟨emit_quiet_inv hI1 _ (fun _ => ⟨rfl, rfl⟩), hfr1.trans (emit_fr _ _ trivial)⟩
    · split
      · okerr
      · rw [wp_pure]
        exact ⟨emit_quiet_inv hI1 _ (fun _ => ⟨rfl, rfl⟩), hfr1.trans (emit_fr _ _ trivial)⟩
  · okerr

theorem registerPQ_spec {s : State} (id : Nat) (comps : List Nat) (platform : Nat) (sizes : List Nat)
    (bgMax : Nat) (bgPrio : Int) (hI : Inv s) : QuietPost s (registerPQ s id comps platform sizes bgMax bgPrio) :=
  ⟨hI.of_same rfl rfl rfl rfl rfl rfl rfl rfl rfl rfl, Fr.of_same rfl rfl rfl rfl rfl rfl rfl⟩

end BbRe.Lemmas.SchedInv
