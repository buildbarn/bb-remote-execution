import BbRe.Model.ISC
/-!
Helper lemmas for C07 (b): `Outcomes.IsFaster` stays strictly between 0 and 1.
-/
namespace BbRe.Lemmas.ISC
open BbRe.ISC

theorem takeEq_count (c : Int) (xs : List Int) :
    (takeEq c xs).1 + (takeEq c xs).2.length = xs.length := by
  induction xs with
  | nil => rfl
  | cons x xs ih =>
    unfold takeEq; split
    · simp only [List.length_cons]; omega
    · exact Nat.zero_add _

/-- The merge loop only ever adds non-negative amounts, and at most two points per
(element of A, remaining element of B) pair. -/
theorem mergeScore_bounds (A B : List Int) (score remB : Int) (h : (B.length : Int) ≤ remB) :
    score ≤ mergeScore A B score remB ∧
    mergeScore A B score remB ≤ score + 2 * ((A.length : Int) * remB) := by
  fun_induction mergeScore A B score remB with
  | case1 B score remB =>
    refine ⟨Int.le_refl _, ?_⟩
    rw [List.length_nil, Int.natCast_zero, Int.zero_mul, Int.mul_zero, Int.add_zero]
    exact Int.le_refl _
  | case2 score remB a A' =>
    have := Int.mul_nonneg (Int.natCast_nonneg (a :: A').length) (Int.le_trans (Int.natCast_nonneg _) h)
    rw [Int.mul_assoc]
    omega
  | case3 score remB a A' b B' hlt ih =>
    have ih := ih h
    rw [List.length_cons, Int.natCast_add, Int.add_mul]
    omega
  | case4 score remB a A' b B' hlt hgt ih =>
    rw [List.length_cons] at h
    have ih := ih (by omega)
    have := Int.mul_le_mul_of_nonneg_left (Int.sub_le_self remB (Int.le_of_lt Int.zero_lt_one))
      (Int.natCast_nonneg (a :: A').length)
    omega
  | case5 score remB a A' b B' hlt hgt ea eb ih =>
    have cA := takeEq_count a A'
    have cB := takeEq_count a B'
    have hlin : 0 ≤ ea ∧ 0 ≤ 2 * remB - eb ∧ 2 * remB - eb ≤ 2 * remB ∧ remB - eb ≤ remB ∧
        ((takeEq a B').2.length : Int) ≤ remB - eb ∧
        ((a :: A').length : Int) = ea + ((takeEq a A').2.length : Int) := by
      simp only [List.length_cons] at h ⊢; omega
    clear_value ea eb
    obtain ⟨hea, h1, h2, h3, hpre, hlen⟩ := hlin
    have ih := ih hpre
    -- at most two points for each of the `ea` equal elements and for each later one
    have h1 := Int.mul_nonneg hea h1
    have h2 := Int.mul_le_mul_of_nonneg_left h2 hea
    have h3 := Int.mul_le_mul_of_nonneg_left h3 (Int.natCast_nonneg (takeEq a A').2.length)
    rw [Int.mul_left_comm] at h2
    rw [hlen, Int.add_mul]
    omega

theorem isFasterScore_pos (a b : Outcomes) : 0 < isFasterScore a b := by
  have h := (mergeScore_bounds a.successes b.successes (1 + b.count) b.count
    (Int.le_add_of_nonneg_right (Int.natCast_nonneg _))).1
  have := Int.mul_nonneg (Int.natCast_nonneg a.failures) (Int.natCast_nonneg b.failures)
  have : 0 ≤ b.count := Int.add_nonneg (Int.natCast_nonneg _) (Int.natCast_nonneg _)
  unfold isFasterScore
  omega

theorem isFasterScore_lt_denom (a b : Outcomes) : isFasterScore a b < isFasterDenom a b := by
  have h := (mergeScore_bounds a.successes b.successes (1 + b.count) b.count
    (Int.le_add_of_nonneg_right (Int.natCast_nonneg _))).2
  have hfa := Int.natCast_nonneg a.failures
  -- a failure of `a` scores against the failures of `b` only, not against all of `b`
  have hf : (a.failures : Int) * b.failures ≤ a.failures * b.count :=
    Int.mul_le_mul_of_nonneg_left (Int.le_add_of_nonneg_left (Int.natCast_nonneg b.successes.length)) hfa
  have hg : 0 ≤ (a.failures : Int) * b.count :=
    Int.mul_nonneg hfa (Int.add_nonneg (Int.natCast_nonneg _) (Int.natCast_nonneg _))
  unfold isFasterScore isFasterDenom
  rw [show a.count = (a.successes.length : Int) + (a.failures : Int) from rfl, Int.mul_assoc, Int.add_mul]
  omega
theorem isFasterDenom_pos (a b : Outcomes) : 0 < isFasterDenom a b := by
  have := isFasterScore_pos a b
  have := isFasterScore_lt_denom a b
  omega

theorem isFaster_pos (a b : Outcomes) : 0 < isFaster a b := by
  unfold isFaster
  have hs : (0 : Rat) < (isFasterScore a b : Rat) := by exact_mod_cast isFasterScore_pos a b
  have hd : (0 : Rat) < (isFasterDenom a b : Rat) := by exact_mod_cast isFasterDenom_pos a b
  rw [Rat.div_def]
  exact Rat.mul_pos hs (Rat.inv_pos.mpr hd)

theorem isFaster_lt_one (a b : Outcomes) : isFaster a b < 1 := by
  unfold isFaster
  have hd : (0 : Rat) < (isFasterDenom a b : Rat) := by exact_mod_cast isFasterDenom_pos a b
  have hlt : (isFasterScore a b : Rat) < (isFasterDenom a b : Rat) := by exact_mod_cast isFasterScore_lt_denom a b
  rw [Rat.div_lt_iff hd]
  simpa using hlt

end BbRe.Lemmas.ISC
