import BbRe.Lemmas.SchedInvComplete2
/-! The cleanup callbacks: `operation.remove`, `cancelAllQueuedOperations`, `sizeClassQueue.remove`,
`removeStaleWorker`, `cleanupQueue.run`, `bq.enter`. -/
namespace BbRe.Lemmas.SchedInv
open BbRe.Sched

theorem filter_ne_empty_length {l : List Nat} {o : Nat} (hn : l.Nodup) (hm : o ∈ l)
    (he : (l.filter (· ≠ o)).isEmpty = true) : l.length = 1 := by
  have hall : ∀ x ∈ l, x = o := by
    intro x hx
    rw [List.isEmpty_iff] at he
    have := List.filter_eq_nil_iff.mp he x hx
    simpa using this
  match l, hn, hm, hall with
  | [a], _, _, _ => rfl
  | a :: b :: r, hn, _, hall =>
    have h1 := hall a (by simp)
    have h2 := hall b (by simp)
    simp only [List.nodup_cons, List.mem_cons] at hn
    exact absurd (Or.inl (h1.trans h2.symm)) hn.1

/-- the operation `o` has been erased from the table; now drop it from its task -/
theorem dropOp_inv {s : State} {o tid : Nat} {t : Task}
    (hI : InvX (fun _ => False) (fun k => k = o) s) (hno : alookup o s.ops = none)
    (ht : alookup tid s.tasks = some t) (hmem : o ∈ t.ops)
    (huniq : ∀ k t', alookup k s.tasks = some t' → o ∈ t'.ops → k = tid)
    (hdone : (t.ops.filter (· ≠ o)).isEmpty = true → t.response.isSome = true) :
    InvX (fun _ => False) (fun _ => False)
      (if (t.ops.filter (· ≠ o)).isEmpty then { s with tasks := aerase t.id s.tasks }
       else s.setTask { t with ops := t.ops.filter (· ≠ o) }) := by
  have hid : t.id = tid := (hI.core.tid tid t ht).1
  have hc := hI.core
  have ho := hI.oinv
  split
  · rename_i hemp
    have hd := hdone hemp
    have hlen := filter_ne_empty_length (ho.o3 tid t ht).1 hmem hemp
    have hops : t.ops = [o] := by
      match h : t.ops, hlen with
      | [a], _ => rw [h] at hmem; simp at hmem; rw [hmem]
    refine ⟨?_, ?_, hI.sinv, hI.linv.aerase _ hc.tnd⟩
    · exact hc.aerase_done (hid ▸ ht) hd
    · dsimp only
      constructor
      · exact ho.ond
      · exact ho.oid
      · intro k op hk
        obtain ⟨t', h1, h2⟩ := ho.o1 k op hk
        by_cases hkt : op.task = tid
        · rw [hkt, ht] at h1; cases h1; rw [hops] at h2; simp at h2; subst h2; rw [hno] at hk; cases hk
        · exact ⟨t', by rw [alookup_aerase _ _ _ hc.tnd, hid, if_neg (fun e => hkt e.symm)]; exact h1, h2⟩
      · intro k t' o' hk ho'
        rw [alookup_aerase _ _ _ hc.tnd, hid] at hk
        split at hk
        · cases hk
        · rename_i hkt
          obtain ⟨a, b⟩ := ho.o2 k t' o' hk ho'
          refine ⟨a, ?_⟩
          rcases b with b | b
          · subst b; exact absurd (huniq k t' hk ho').symm hkt
          · exact Or.inr b
      · intro k t' hk
        rw [alookup_aerase _ _ _ hc.tnd] at hk
        split at hk
        · cases hk
        · exact ho.o3 k t' hk
  · rename_i hemp
    have ht' : alookup ({ t with ops := t.ops.filter (· ≠ o) } : Task).id s.tasks = some t := by
      simp only []; rw [hid]; exact ht
    refine ⟨?_, ?_, hI.sinv, hI.linv.setTask (t := { t with ops := t.ops.filter (· ≠ o) }) ht' (Or.inl rfl)⟩
    · rw [← hid] at ht; exact hc.setTask_same ht rfl
    · simp only [State.setTask]
      constructor
      · exact ho.ond
      · exact ho.oid
      · intro k op hk
        obtain ⟨t', h1, h2⟩ := ho.o1 k op hk
        rw [alookup_aset, hid]
        by_cases hkt : tid = op.task
        · rw [if_pos hkt]
          rw [← hkt, ht] at h1; cases h1
          refine ⟨_, rfl, ?_⟩
          simp only [List.mem_filter, h2, true_and]
          have : k ≠ o := by intro e; subst e; rw [hno] at hk; cases hk
          simpa using this
        · rw [if_neg hkt]; exact ⟨t', h1, h2⟩
      · intro k t' o' hk ho'
        rw [alookup_aset, hid] at hk
        split at hk
        · rename_i hkt
          cases hk
          simp only [List.mem_filter] at ho'
          obtain ⟨a, b⟩ := ho.o2 tid t o' ht ho'.1
          refine ⟨a, ?_⟩
          rcases b with b | b
          · subst b; simp at ho'
          · rw [← hkt]; exact Or.inr b
        · rename_i hkt
          obtain ⟨a, b⟩ := ho.o2 k t' o' hk ho'
          refine ⟨a, ?_⟩
          rcases b with b | b
          · subst b; exact absurd (huniq k t' hk ho').symm hkt
          · exact Or.inr b
      · intro k t' hk
        rw [alookup_aset] at hk
        split at hk
        · cases hk
          refine ⟨(ho.o3 tid t ht).1.sublist List.filter_sublist, ?_⟩
          intro e; apply hemp
          have e' : List.filter (fun x => decide (x ≠ o)) t.ops = [] := e
          rw [e']; rfl
        · exact ho.o3 k t' hk


/-- erasing an operation without waiters from the operation table -/
theorem eraseOp_inv {s : State} {o : Nat} (hI : Inv s)
    (hwz : ∀ op, alookup o s.ops = some op → op.waiters = 0) :
    InvX (fun _ => False) (fun k => k = o) { s with ops := aerase o s.ops } := by
  have ho := hI.oinv
  have hs := hI.sinv
  refine ⟨hI.core, ?_, ?_, hI.linv⟩
  · simp only []
    constructor
    · exact nodup_aerase _ _ ho.ond
    · intro k op; rw [alookup_aerase _ _ _ ho.ond]; split
      · intro e; cases e
      · exact ho.oid k op
    · intro k op; rw [alookup_aerase _ _ _ ho.ond]; split
      · intro e; cases e
      · exact ho.o1 k op
    · intro k t o' hk ho'
      obtain ⟨a, b⟩ := ho.o2 k t o' hk ho'
      refine ⟨a, ?_⟩
      rcases b with b | ⟨op, e1, e2⟩
      · exact absurd b id
      · by_cases hoo : o' = o
        · exact Or.inl hoo
        · exact Or.inr ⟨op, by rw [alookup_aerase _ _ _ ho.ond, if_neg (fun e => hoo e.symm)]; exact e1, e2⟩
    · exact ho.o3
  · simp only []
    constructor
    · intro k op; rw [alookup_aerase _ _ _ ho.ond]; split
      · intro e; cases e
      · exact hs.s1 k op
    · intro k op e; rw [alookup_aerase _ _ _ ho.ond]; split
      · intro e; cases e
      · exact hs.s2 k op e
    · intro st hst
      have h3 := hs.s3 st hst
      rw [alookup_aerase _ _ _ ho.ond]
      by_cases hso : o = st.op
      · exfalso
        cases ha : alookup st.op s.ops with
        | none => simp [ha] at h3
        | some op =>
          have h1 := hs.s1 st.op op ha
          rw [← hso] at ha
          rw [hwz op ha] at h1
          have : List.countP (fun st' => decide (st'.op = st.op)) s.streams = 0 := by omega
          rw [List.countP_eq_zero] at this
          have := this st hst
          simp at this
      · rw [if_neg hso]; exact h3

theorem removeOp_tail {s2 : State} {o tid : Nat} {t2 : Task}
    (hI2 : InvX (fun _ => False) (fun k => k = o) s2) (hno : alookup o s2.ops = none)
    (ht2 : alookup tid s2.tasks = some t2) (hmem : o ∈ t2.ops)
    (huniq : ∀ k t', alookup k s2.tasks = some t' → o ∈ t'.ops → k = tid)
    (hdone : (t2.ops.filter (· ≠ o)).isEmpty = true → t2.response.isSome = true) :
    wp (if (t2.ops.filter (· ≠ o)).isEmpty then pure { s2 with tasks := aerase t2.id s2.tasks }
        else pure (s2.setTask { t2 with ops := t2.ops.filter (· ≠ o) }) : M State)
      (fun s' => Inv s' ∧ Fr s2 s') := by
  have hid : t2.id = tid := (hI2.core.tid tid t2 ht2).1
  have hinv := dropOp_inv hI2 hno ht2 hmem huniq hdone
  split
  · rename_i hemp
    rw [if_pos hemp] at hinv
    refine ⟨hinv, Fr.of_fields rfl (Nat.le_refl _) (Nat.le_refl _) (Nat.le_refl _) rfl (Ext.refl _ _) ?_⟩
    intro k hk t'
    simp only []
    rw [alookup_aerase _ _ _ hI2.core.tnd]
    split
    · intro e; cases e
    · exact hk.2 t'
  · rename_i hemp
    rw [if_neg hemp] at hinv
    exact ⟨hinv, Fr.setTask (t := { t2 with ops := t2.ops.filter (· ≠ o) }) (t0 := t2) (by simp only []; rw [hid]; exact ht2) rfl⟩


theorem removeOp_spec {h : Hints} {s : State} {o : Nat} (hI : Inv s)
    (hwz : ∀ op, alookup o s.ops = some op → op.waiters = 0) :
    wp (removeOp h s o) (fun s' => Inv s' ∧ Fr s s') := by
  unfold removeOp
  simp only [op?_def]
  cases hop : alookup o s.ops with
  | none => exact ⟨hI, Fr.refl s⟩
  | some op =>
    simp only []
    have hI1 := eraseOp_inv hI hwz
    obtain ⟨t, ht, hmem⟩ := hI.oinv.o1 o op hop
    have hid : t.id = op.task := (hI.core.tid _ t ht).1
    have hfr1 : Fr s { s with ops := aerase o s.ops } :=
      Fr.of_fields rfl (Nat.le_refl _) (Nat.le_refl _) (Nat.le_refl _) rfl (Ext.refl _ _) (fun k hk => hk.2)
    have hno1 : alookup o (aerase o s.ops) = none := alookup_aerase_self _ _ hI.oinv.ond
    have huniq0 : ∀ k t', alookup k s.tasks = some t' → o ∈ t'.ops → k = op.task := by
      intro k t' hk ho'
      rcases (hI.oinv.o2 k t' o hk ho').2 with b | ⟨op', e1, e2⟩
      · exact absurd b id
      · rw [hop] at e1; cases e1; exact e2.symm
    simp only [task?_def, ht]
    by_cases hlen : t.ops.length = 1
    · rw [if_pos hlen]
      apply wp_bind
      refine wp_mono (complete_spec (h := h) (r := ⟨cCanceled, 0, 0, .noWaiters⟩) (bw := false) hI1
        (by simp only [hid, ht]; rfl)) ?_
      intro s2 ⟨hI2, hcp, hd, hnn⟩
      rw [hid] at hcp hd
      obtain ⟨t2, ht2, hops2, _⟩ := hcp.tt t ht
      have hnn' := hnn (by simp [cCanceled, cOK])
      simp only [ht2]
      have hno2 : alookup o s2.ops = none := by
        have h1 := hcp.opk o (hI.oinv.oid o op hop).2
        simp only at h1
        rw [hno1] at h1
        cases ha : alookup o s2.ops with
        | none => rfl
        | some op2 => rw [ha] at h1; cases h1
      have huniq2 : ∀ k t', alookup k s2.tasks = some t' → o ∈ t'.ops → k = op.task := by
        intro k t' hk ho'
        by_cases hkt : k = op.task
        · exact hkt
        · have hlt := (hI2.core.tid k t' hk).2
          rw [hnn'.1] at hlt
          rw [hcp.tk k hkt hlt] at hk
          exact huniq0 k t' hk ho'
      refine wp_mono (removeOp_tail hI2 hno2 ht2 (by rw [hops2]; exact hmem) huniq2 (fun _ => hd (Or.inl rfl) t2 ht2)) ?_
      intro s' ⟨hI', hfr⟩
      exact ⟨hI', (hfr1.trans hcp.fr).trans hfr⟩
    · rw [if_neg hlen]
      simp only [pure_bind, ht]
      refine wp_mono (removeOp_tail hI1 hno1 ht hmem huniq0 ?_) ?_
      · intro hemp
        exact absurd (filter_ne_empty_length (hI.oinv.o3 _ t ht).1 hmem hemp) hlen
      · intro s' ⟨hI', hfr⟩
        exact ⟨hI', hfr1.trans hfr⟩

/-- tasks that exist keep existing across `complete` -/
theorem CompPost.persist {s s' : State} {tid : Nat} (h : CompPost s tid s')
    (hI : Inv s) (k : Nat) (hk : (alookup k s.tasks).isSome = true) : (alookup k s'.tasks).isSome = true := by
  cases hkk : alookup k s.tasks with
  | none => rw [hkk] at hk; cases hk
  | some t =>
    by_cases hkt : k = tid
    · subst hkt
      obtain ⟨t', a, _⟩ := h.tt t hkk
      rw [a]; rfl
    · rw [h.tk k hkt (hI.core.tid k t hkk).2, hkk]; rfl

theorem foldl_complete_spec {h : Hints} {r : Resp} (ids : List Nat) {s : State} (hI : Inv s)
    (hex : ∀ k ∈ ids, (alookup k s.tasks).isSome = true) :
    wp (ids.foldlM (fun s t => complete h s t r false) s) (fun s' => Inv s' ∧ Fr s s' ∧
      ∀ q w, (wfind s'.workers q w).isSome = (wfind s.workers q w).isSome) := by
  induction ids generalizing s with
  | nil => exact ⟨hI, Fr.refl s, fun _ _ => rfl⟩
  | cons a rest ih =>
    rw [List.foldlM_cons]
    apply wp_bind
    refine wp_mono (complete_spec (h := h) (r := r) (bw := false) hI (hex a (by simp))) ?_
    intro s1 ⟨hI1, hcp, _, _⟩
    refine wp_mono (ih hI1 ?_) ?_
    · intro k hk; exact hcp.persist hI k (hex k (by simp [hk]))
    · intro s' ⟨hI', hfr, hw⟩
      exact ⟨hI', hcp.fr.trans hfr, fun q w => (hw q w).trans (hcp.wex q w)⟩

theorem cancelAllQueued_spec {h : Hints} {s : State} {q : ScqId} {r : Resp} (hI : Inv s) :
    wp (cancelAllQueued h s q r) (fun s' => Inv s' ∧ Fr s s' ∧
      ∀ q w, (wfind s'.workers q w).isSome = (wfind s.workers q w).isSome) := by
  unfold cancelAllQueued
  apply foldl_complete_spec _ hI
  intro k hk
  simp only [List.mem_map, List.mem_filter] at hk
  obtain ⟨⟨k', t⟩, ⟨hm, _⟩, rfl⟩ := hk
  rw [alookup_of_mem hI.core.tnd hm]; rfl

theorem removeScq_spec {h : Hints} {s : State} {q : ScqId} (hI : Inv s) :
    wp (removeScq h s q) (fun s' => Inv s' ∧ Fr s s') := by
  unfold removeScq
  apply wp_bind
  refine wp_mono (cancelAllQueued_spec hI) ?_
  intro s1 ⟨hI1, hfr, _⟩
  simp only []
  split
  · exact ⟨hI1.of_same rfl rfl rfl rfl rfl rfl rfl rfl rfl rfl, hfr.trans (Fr.of_same rfl rfl rfl rfl rfl rfl rfl)⟩
  · exact ⟨hI1.of_same rfl rfl rfl rfl rfl rfl rfl rfl rfl rfl, hfr.trans (Fr.of_same rfl rfl rfl rfl rfl rfl rfl)⟩

/-- removing a worker that holds no task -/
theorem removeWorker_inv {ex exo} {s : State} {q : ScqId} {w : WId} {wk : Worker} (hI : InvX ex exo s)
    (hw : wfind s.workers q w = some wk) (hwt : wk.task = none) :
    InvX ex exo { s with workers := s.workers.filter (fun x => ¬ (x.scq = q ∧ x.id = w)) } := by
  refine ⟨?_, hI.oinv, hI.sinv, hI.linv⟩
  refine hI.core.setWorkers (wnodup_filter _ _ hI.core.wnd) (fun q' i wk' h => ?_) (fun q' i wk' j h hj => ?_)
  · rw [wfind_filter_ne] at h
    by_cases e : q' = q ∧ i = w
    · rw [if_pos e] at h; cases h
    · rw [if_neg e] at h; exact Or.inl h
  · rw [wfind_filter_ne, if_neg]; exact h
    intro e
    rw [e.1, e.2, hw] at h; cases h
    rw [hwt] at hj; cases hj

def staleTail (s1 : State) (q : ScqId) (w : WId) (rt : Nat) : M State :=
  let s := { s1 with workers := s1.workers.filter (fun x => ¬ (x.scq = q ∧ x.id = w)) }
  match s.scq? q with
  | some sq =>
    if !s.workers.any (fun x => x.scq = q) ∧ sq.mayBeRemoved
    then return s.addCleanup (rt + s.cfg.pqTimeout) (.scq q) else return s
  | none => return s

theorem removeStaleWorker_eq (h : Hints) (s : State) (q : ScqId) (w : WId) (rt : Nat) :
    removeStaleWorker h s q w rt =
      match s.worker? q w with
      | none => pure s
      | some wk =>
        (match wk.task with
          | some t => complete h s t ⟨cUnavailable, 0, 0, .workerDisappeared⟩ false
          | none => pure s) >>= fun s1 => staleTail s1 q w rt := by
  unfold removeStaleWorker staleTail
  cases s.worker? q w with
  | none => rfl
  | some wk =>
    dsimp only
    cases wk.task with
    | none => rfl
    | some t => rfl

theorem staleTail_spec {s1 : State} {q : ScqId} {w : WId} {rt : Nat} {wk1 : Worker} (hI1 : Inv s1)
    (hw1 : wfind s1.workers q w = some wk1) (hwt1 : wk1.task = none) :
    wp (staleTail s1 q w rt) (fun s' => Inv s' ∧ Fr s1 s') := by
  have hI2 := removeWorker_inv hI1 hw1 hwt1
  have hfr2 : Fr s1 { s1 with workers := s1.workers.filter (fun x => ¬ (x.scq = q ∧ x.id = w)) } :=
    Fr.of_same rfl rfl rfl rfl rfl rfl rfl
  unfold staleTail
  dsimp only
  split
  · split
    · refine ⟨⟨hI2.core, hI2.oinv, ?_, hI2.linv⟩, hfr2.trans (Fr.of_same rfl rfl rfl rfl rfl rfl rfl)⟩
      exact hI2.sinv.cleanup_cons _ (by intro k; simp)
    · exact ⟨hI2, hfr2⟩
  · exact ⟨hI2, hfr2⟩

theorem removeStaleWorker_spec {h : Hints} {s : State} {q : ScqId} {w : WId} {rt : Nat} (hI : Inv s) :
    wp (removeStaleWorker h s q w rt) (fun s' => Inv s' ∧ Fr s s') := by
  rw [removeStaleWorker_eq]
  simp only [worker?_def]
  cases hw : wfind s.workers q w with
  | none => exact ⟨hI, Fr.refl s⟩
  | some wk =>
    dsimp only
    have hmid : wp (match wk.task with
        | some t => complete h s t ⟨cUnavailable, 0, 0, .workerDisappeared⟩ false
        | none => pure s)
        (fun s1 => Inv s1 ∧ Fr s s1 ∧ ∃ wk1, wfind s1.workers q w = some wk1 ∧ wk1.task = none) := by
      cases hwt : wk.task with
      | none => exact ⟨hI, Fr.refl s, wk, hw, hwt⟩
      | some tid =>
        dsimp only
        obtain ⟨t, ht, htw⟩ := hI.core.p1 q w wk tid hw hwt
        have hr : t.response = none := hI.core.p3 tid t ht (by rw [htw]; rfl)
        have hnp : wk.parked = false := by
          cases hp : wk.parked with
          | false => rfl
          | true => have := (hI.core.w1 q w wk hw hp).1; rw [hwt] at this; cases this
        refine wp_mono (complete_spec (h := h) (r := ⟨cUnavailable, 0, 0, .workerDisappeared⟩) (bw := false) hI
          (by rw [ht]; rfl)) ?_
        intro s1 ⟨hI1, hcp, hd, _⟩
        obtain ⟨wk1, hw1, he1, hor⟩ := hcp.rw q w wk hw hnp
        refine ⟨hI1, hcp.fr, wk1, hw1, ?_⟩
        rcases hor with hor | hor
        · exfalso
          rw [hwt] at hor
          obtain ⟨t1, ht1, htw1⟩ := hI1.core.p1 q w wk1 tid hw1 hor
          have hn := hI1.core.p3 tid t1 ht1 (by rw [htw1]; rfl)
          have hs := hd (Or.inl rfl) t1 ht1
          rw [hn] at hs; cases hs
        · exact hor
    apply wp_bind
    refine wp_mono hmid ?_
    intro s1 ⟨hI1, hfr, wk1, hw1, hwt1⟩
    refine wp_mono (staleTail_spec hI1 hw1 hwt1) ?_
    intro s' ⟨hI', hfr'⟩
    exact ⟨hI', hfr.trans hfr'⟩

theorem popDue_fold_mem (now : Nat) (cs : List CleanupEntry) (init : Option CleanupEntry) (e : CleanupEntry)
    (h : cs.foldl (fun (best : Option CleanupEntry) e =>
      if e.deadline ≤ now then
        match best with
        | none => some e
        | some b => if e.deadline < b.deadline then some e else some b
      else best) init = some e) : init = some e ∨ e ∈ cs := by
  induction cs generalizing init with
  | nil => exact Or.inl h
  | cons a rest ih =>
    rw [List.foldl_cons] at h
    rcases ih _ h with h1 | h1
    · split at h1
      · split at h1
        · cases h1; exact Or.inr (by simp)
        · split at h1
          · cases h1; exact Or.inr (by simp)
          · rename_i b _ _; exact Or.inl (by rw [h1])
      · exact Or.inl h1
    · exact Or.inr (List.mem_cons_of_mem _ h1)

theorem popDue_some {now : Nat} {cs : List CleanupEntry} {e : CleanupEntry} {rest : List CleanupEntry}
    (h : popDue now cs = some (e, rest)) : e ∈ cs ∧ ∀ x, x ∈ rest → x ∈ cs := by
  unfold popDue at h
  split at h
  · cases h
  · rename_i e' he
    cases h
    rcases popDue_fold_mem now cs none e he with h1 | h1
    · cases h1
    · exact ⟨h1, fun x hx => (List.mem_filter.mp hx).1⟩

theorem runCleanup_spec {h : Hints} (fuel : Nat) {s : State} (hI : Inv s) :
    wp (runCleanup h fuel s) (fun s' => Inv s' ∧ Fr s s') := by
  induction fuel generalizing s with
  | zero => exact ⟨hI, Fr.refl s⟩
  | succ n ih =>
    unfold runCleanup
    cases hp : popDue s.now s.cleanup with
    | none => exact ⟨hI, Fr.refl s⟩
    | some er =>
      obtain ⟨e, rest⟩ := er
      dsimp only
      obtain ⟨hmem, hsub⟩ := popDue_some hp
      have hI0 : Inv { s with cleanup := rest } :=
        ⟨hI.core, hI.oinv, hI.sinv.cleanup_sub hsub, hI.linv⟩
      have hfr0 : Fr s { s with cleanup := rest } := Fr.of_same rfl rfl rfl rfl rfl rfl rfl
      cases hk : e.kind with
      | worker q w =>
        dsimp only
        apply wp_bind
        refine wp_mono (removeStaleWorker_spec hI0) ?_
        intro s1 ⟨hI1, b⟩
        refine wp_mono (ih hI1) ?_
        intro s' ⟨a, c⟩; exact ⟨a, (hfr0.trans b).trans c⟩
      | op o =>
        dsimp only
        apply wp_bind
        refine wp_mono (removeOp_spec hI0 ?_) ?_
        · intro op hop; exact hI.sinv.s2 o op e hop hmem hk
        · intro s1 ⟨hI1, b⟩
          refine wp_mono (ih hI1) ?_
          intro s' ⟨a, c⟩; exact ⟨a, (hfr0.trans b).trans c⟩
      | scq q =>
        dsimp only
        apply wp_bind
        refine wp_mono (removeScq_spec hI0) ?_
        intro s1 ⟨hI1, b⟩
        refine wp_mono (ih hI1) ?_
        intro s' ⟨a, c⟩; exact ⟨a, (hfr0.trans b).trans c⟩

theorem enter_spec {h : Hints} {s : State} {t : Nat} (hI : Inv s) :
    wp (enter h s t) (fun s' => Inv s' ∧ Fr s s') := by
  unfold enter
  split
  · have hI0 : Inv { s with now := t } := hI.of_same rfl rfl rfl rfl rfl rfl rfl rfl rfl rfl
    refine wp_mono (runCleanup_spec _ hI0) ?_
    intro s' ⟨a, b⟩
    exact ⟨a, (Fr.of_same rfl rfl rfl rfl rfl rfl rfl : Fr s { s with now := t }).trans b⟩
  · exact ⟨hI, Fr.refl s⟩

end BbRe.Lemmas.SchedInv
