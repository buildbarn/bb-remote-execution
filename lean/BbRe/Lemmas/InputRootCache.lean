import BbRe.Model.InputRoot
/-!
Invariants of the model of `cachingDirectoryFetcher` (C17, `cache_keys_separate`).
-/
namespace BbRe.Lemmas.InputRoot.Cache
open BbRe.InputRoot.Cache

/-- What a call must be answered with: `content d` is *the* Directory message with
digest `d`, `root t` the root directory of the Tree object with digest `t`.
No relation between the two functions is assumed. -/
def expected (content root : Nat → Nat) : Call → Nat
  | .directory d => content d
  | .treeRoot t => root t
  | .treeChild _ c => content c

def expectedKey (content root : Nat → Nat) (k : Key) : Nat :=
  if k.isTreeRoot then root k.digest else content k.digest

theorem expected_eq_key (content root : Nat → Nat) (call : Call) :
    expected content root call = expectedKey content root (keyOf call) := by
  cases call <;> simp [expected, expectedKey, keyOf]

/-- Every cached object is the right one for its key (digest *and* tree-root flag). -/
def Sound (content root : Nat → Nat) (es : List Entry) : Prop :=
  ∀ e ∈ es, e.msg = expectedKey content root e.key

theorem find_some {es : List Entry} {k : Key} {e : Entry} (h : find es k = some e) :
    e ∈ es ∧ e.key = k := by
  simp only [find] at h
  exact ⟨List.mem_of_find?_eq_some h, by simpa using List.find?_some h⟩

theorem find_none {es : List Entry} {k : Key} (h : find es k = none) : ∀ e ∈ es, e.key ≠ k := by
  simp only [find, List.find?_eq_none] at h
  intro e he
  simpa using h e he

theorem mem_touch {es : List Entry} {k : Key} {e : Entry} (h : e ∈ touch es k) : e ∈ es := by
  simp only [touch] at h
  cases hf : find es k with
  | none => simpa [hf] using h
  | some e' =>
    simp only [hf, List.mem_append, List.mem_filter, List.mem_singleton] at h
    rcases h with h | h
    · exact h.1
    · exact h ▸ (find_some hf).1

/-- The "make space" loop drops entries from the head until nothing is left or one more object of
size `sz` fits within both limits. -/
theorem evict_spec (mc ms sz : Nat) (es : List Entry) :
    (evict mc ms sz es).Sublist es ∧
    ((evict mc ms sz es).length = 0 ∨
      ((evict mc ms sz es).length < mc ∧ total (evict mc ms sz es) + sz ≤ ms)) := by
  induction es with
  | nil => exact ⟨.slnil, .inl rfl⟩
  | cons x xs ih =>
    simp only [evict]
    split
    · exact ⟨ih.1.cons _, ih.2⟩
    · rename_i h
      simp only [Bool.or_eq_true, decide_eq_true_eq, not_or, Nat.not_le, Nat.not_lt] at h
      exact ⟨.refl _, .inr h⟩

theorem mem_evict {mc ms sz : Nat} {es : List Entry} {e : Entry} (h : e ∈ evict mc ms sz es) : e ∈ es :=
  (evict_spec mc ms sz es).1.subset h

theorem evict_total (mc ms sz : Nat) (es : List Entry) :
    (evict mc ms sz es).length = 0 ∨ total (evict mc ms sz es) + sz ≤ ms :=
  (evict_spec mc ms sz es).2.imp_right (·.2)

theorem sound_get (content root : Nat → Nat) (s : State) (call : Call) (base : Option Nat) (size : Nat)
    (hs : Sound content root s.entries)
    (hb : ∀ m, base = some m → m = expected content root call) :
    Sound content root (get s call base size).1.entries ∧
    (replyMsg (get s call base size).2 = none ∨
     replyMsg (get s call base size).2 = some (expected content root call)) := by
  simp only [BbRe.InputRoot.Cache.get]
  cases hf : find s.entries (keyOf call) with
  | some e =>
    dsimp only
    refine ⟨fun e' he' => hs e' (mem_touch he'), Or.inr ?_⟩
    have := find_some hf
    simp only [replyMsg, Option.some.injEq]
    rw [hs e this.1, this.2, expected_eq_key]
  | none =>
    cases base with
    | none => exact ⟨hs, Or.inl rfl⟩
    | some m =>
      dsimp only
      refine ⟨?_, Or.inr (by simp [replyMsg, hb m rfl])⟩
      simp only [BbRe.InputRoot.Cache.insert, hf]
      intro e he
      simp only [List.mem_append, List.mem_singleton] at he
      rcases he with he | he
      · exact hs e (mem_evict he)
      · subst he
        dsimp only
        rw [hb m rfl, expected_eq_key]

/-- Distinct keys, and the bounds of `insert`. -/
def Keyed (es : List Entry) : Prop := (es.map (·.key)).Nodup

theorem keyed_touch (es : List Entry) (k : Key) (h : Keyed es) : Keyed (touch es k) := by
  simp only [touch]
  cases hf : find es k with
  | none => exact h
  | some e =>
    simp only [Keyed, List.map_append, List.map_cons, List.map_nil]
    rw [List.nodup_append]
    refine ⟨?_, by simp, ?_⟩
    · exact (List.Sublist.map _ List.filter_sublist).nodup h
    · intro a ha b hb hab
      simp only [List.mem_singleton] at hb
      simp only [List.mem_map, List.mem_filter] at ha
      obtain ⟨e', ⟨_, hne⟩, rfl⟩ := ha
      rw [hb, (find_some hf).2] at hab
      simp [hab] at hne

theorem keyed_get (s : State) (call : Call) (base : Option Nat) (size : Nat) (h : Keyed s.entries) :
    Keyed (get s call base size).1.entries := by
  simp only [BbRe.InputRoot.Cache.get]
  cases hf : find s.entries (keyOf call) with
  | some e => exact keyed_touch _ _ h
  | none =>
    cases base with
    | none => exact h
    | some m =>
      simp only [BbRe.InputRoot.Cache.insert, hf, Keyed, List.map_append, List.map_cons, List.map_nil]
      rw [List.nodup_append]
      refine ⟨((evict_spec _ _ _ _).1.map _).nodup h, by simp, ?_⟩
      intro a ha b hb hab
      simp only [List.mem_singleton] at hb
      obtain ⟨e', he', rfl⟩ := List.mem_map.1 ha
      exact find_none hf e' (mem_evict he') (hab.trans hb)

theorem length_get (s : State) (call : Call) (base : Option Nat) (size : Nat)
    (h : s.entries.length ≤ max s.maxCount 1) :
    (get s call base size).1.entries.length ≤ max s.maxCount 1 ∧
    (get s call base size).1.maxCount = s.maxCount := by
  simp only [BbRe.InputRoot.Cache.get]
  cases hf : find s.entries (keyOf call) with
  | some e =>
    refine ⟨?_, rfl⟩
    simp only [touch, hf, List.length_append, List.length_cons, List.length_nil]
    have hmem := (find_some hf).1
    have hlt : (s.entries.filter fun e' => e'.key ≠ keyOf call).length < s.entries.length := by
      apply List.length_filter_lt_length_iff_exists.2
      exact ⟨e, hmem, by simp [(find_some hf).2]⟩
    omega
  | none =>
    cases base with
    | none => exact ⟨h, rfl⟩
    | some m =>
      refine ⟨?_, by simp [BbRe.InputRoot.Cache.insert, hf]⟩
      simp only [BbRe.InputRoot.Cache.insert, hf, List.length_append, List.length_cons, List.length_nil]
      rcases (evict_spec s.maxCount s.maxSize size s.entries).2 with h0 | ⟨h0, _⟩ <;> omega

end BbRe.Lemmas.InputRoot.Cache
