import BbRe.Model.LockRange
import BbRe.Model.BRL
import BbRe.Spec.ByteLocks
import BbRe.Lemmas.NfsActs
/-!
# C20 — NFSv4 (offset, length) ↔ lock-table range conversions

Lemmas about `Model/LockRange.lean` (`offsetLengthToStartEnd`, `toDenied`), the
transcription of the conversions in
`pkg/filesystem/virtual/nfsv4/opened_files_pool.go`; and, for the conversion as it
was before the fix 3d4b513 (`legacyOffsetLengthToStartEnd`), the consequences of
its single accepted request with an empty range — offset `2^64-1`, length
all-ones — on the lock table model `Model/BRL.lean`.

`o l` are the `uint64` arguments of the Go function, hence the hypotheses
`o ≤ maxU64`, `l ≤ maxU64`.  Core Lean only.
-/
namespace BbRe.Lemmas.NfsLockRange
open BbRe.LockRange BbRe.BRL BbRe.Lemmas.NfsActs

/-! ## `offsetLengthToStartEnd` -/

/-- The five outcomes of the conversion.  Nothing below depends on the value of `maxU64`. -/
theorem conv_elim {P : Conv → Prop} (o l : Nat) (zero : l = 0 → P (.error stInval))
    (corner : l = maxU64 → o = maxU64 → P (.error stBadRange))
    (toEnd : l ≠ 0 → l = maxU64 → o ≠ maxU64 → P (.ok (o, maxU64)))
    (over : l ≠ maxU64 → maxU64 - o < l → P (.error stInval))
    (ok : l ≠ 0 → l ≠ maxU64 → ¬ maxU64 - o < l → P (.ok (o, o + l))) :
    P (offsetLengthToStartEnd o l) :=
  ite_elim zero fun h0 => ite_elim (fun hl => ite_elim (corner hl) (toEnd h0 hl))
    fun hl => ite_elim (over hl) (ok h0 hl)

theorem stInval_ne_stBadRange : stInval ≠ stBadRange := by decide

/-- The conversion answers `NFS4ERR_INVAL` exactly for length 0 and (for a length that is not
the all-ones "to end of file" marker) a range whose end overflows `uint64`. -/
theorem conv_inval_iff (o l : Nat) (ho : o ≤ maxU64) (hl : l ≤ maxU64) :
    offsetLengthToStartEnd o l = .error stInval ↔ (l = 0 ∨ (l ≠ maxU64 ∧ o + l > maxU64)) :=
  conv_elim (P := fun r => r = .error stInval ↔ (l = 0 ∨ (l ≠ maxU64 ∧ o + l > maxU64))) o l
    (fun h => ⟨fun _ => .inl h, fun _ => rfl⟩)
    (fun h _ => ⟨fun e => absurd (Conv.error.inj e).symm stInval_ne_stBadRange,
      fun h' => by have : maxU64 ≠ 0 := by decide
                   omega⟩)
    (fun _ h _ => ⟨nofun, by omega⟩) (fun h h' => ⟨fun _ => .inr ⟨h, by omega⟩, fun _ => rfl⟩)
    (fun _ _ _ => ⟨nofun, by omega⟩)

/-- … and `NFS4ERR_BAD_RANGE` exactly for offset `2^64-1` with the all-ones length. -/
theorem conv_badRange_iff (o l : Nat) :
    offsetLengthToStartEnd o l = .error stBadRange ↔ (o = maxU64 ∧ l = maxU64) :=
  conv_elim (P := fun r => r = .error stBadRange ↔ (o = maxU64 ∧ l = maxU64)) o l
    (fun h => ⟨fun e => absurd (Conv.error.inj e) stInval_ne_stBadRange,
      fun h' => absurd (h'.2.symm.trans h) (by decide)⟩)
    (fun h h' => ⟨fun _ => ⟨h', h⟩, fun _ => rfl⟩) (fun _ _ h => ⟨nofun, fun h' => absurd h'.1 h⟩)
    (fun h _ => ⟨fun e => absurd (Conv.error.inj e) stInval_ne_stBadRange, fun h' => absurd h'.2 h⟩)
    (fun _ h _ => ⟨nofun, fun h' => absurd h'.2 h⟩)

/-- No other status is ever returned. -/
theorem conv_error (o l st : Nat) (h : offsetLengthToStartEnd o l = .error st) :
    st = stInval ∨ st = stBadRange :=
  conv_elim (P := fun r => r = .error st → st = stInval ∨ st = stBadRange) o l
    (fun _ e => .inl (Conv.error.inj e).symm) (fun _ _ e => .inr (Conv.error.inj e).symm)
    (fun _ _ _ => nofun) (fun _ _ e => .inl (Conv.error.inj e).symm) (fun _ _ _ => nofun) h

example : offsetLengthToStartEnd 5 0 = .error stInval := by decide
example : offsetLengthToStartEnd (maxU64 - 1) 2 = .error stInval := by decide
example : offsetLengthToStartEnd maxU64 1 = .error stInval := by decide
example : offsetLengthToStartEnd maxU64 maxU64 = .error stBadRange := by decide
example : offsetLengthToStartEnd maxU64 0 = .error stInval := by decide

/-- Shape of an accepted conversion; in particular the range is never empty. -/
theorem conv_some (o l s e : Nat) (ho : o ≤ maxU64) (hl : l ≤ maxU64)
    (h : offsetLengthToStartEnd o l = .ok (s, e)) :
    s = o ∧ e ≤ maxU64 ∧ s < e ∧ (l = maxU64 → e = maxU64) ∧ (l ≠ maxU64 → e = o + l) := by
  revert h
  refine conv_elim (P := fun r => r = .ok (s, e) → _) o l (fun _ => nofun) (fun _ _ => nofun)
    (fun _ _ _ h => ?_) (fun _ _ => nofun) (fun _ _ _ h => ?_) <;>
    obtain ⟨rfl, rfl⟩ := Prod.mk.inj (Conv.ok.inj h) <;> omega

example : offsetLengthToStartEnd 5 10 = .ok (5, 15) := by decide
example : offsetLengthToStartEnd 5 maxU64 = .ok (5, maxU64) := by decide
example : offsetLengthToStartEnd (maxU64 - 1) 1 = .ok (maxU64 - 1, maxU64) := by decide
example : offsetLengthToStartEnd (maxU64 - 1) maxU64 = .ok (maxU64 - 1, maxU64) := by decide
example : offsetLengthToStartEnd 0 (maxU64 - 1) = .ok (0, maxU64 - 1) := by decide

/-- RFC 7530 §16.10.4: an accepted request covers the bytes `offset …
offset+length-1`, or — for the all-ones length — all bytes from `offset` to the
end (the representable bytes are `0 … 2^64-2`). -/
theorem conv_bytes (o l s e : Nat) (ho : o ≤ maxU64) (hl : l ≤ maxU64)
    (h : offsetLengthToStartEnd o l = .ok (s, e)) (b : Nat) :
    (s ≤ b ∧ b < e) ↔ (o ≤ b ∧ b < maxU64 ∧ (l = maxU64 ∨ b < o + l)) := by
  have hc := conv_some o l s e ho hl h
  omega

/-- Every accepted request yields a non-empty range. -/
theorem conv_nonempty (o l s e : Nat) (ho : o ≤ maxU64) (hl : l ≤ maxU64)
    (h : offsetLengthToStartEnd o l = .ok (s, e)) : s < e :=
  (conv_some o l s e ho hl h).2.2.1

/-- The fixed conversion agrees with the legacy one everywhere but in the corner. -/
theorem conv_eq_legacy (o l : Nat) (hc : ¬ (o = maxU64 ∧ l = maxU64)) :
    offsetLengthToStartEnd o l =
      match legacyOffsetLengthToStartEnd o l with
      | none => .error stInval
      | some p => .ok p := by
  unfold legacyOffsetLengthToStartEnd
  exact conv_elim (P := fun r => r = _) o l (fun h => by rw [if_pos h])
    (fun h h' => absurd ⟨h', h⟩ hc) (fun h0 h _ => by rw [if_neg h0, if_pos h])
    (fun h h' => by rw [if_neg (by omega), if_neg h, if_pos h'])
    (fun h0 h h' => by rw [if_neg h0, if_neg h, if_neg h'])

/-! ## The conversion before 3d4b513 (`legacy…`) -/

theorem legacy_conv_none_iff (o l : Nat) (ho : o ≤ maxU64) (hl : l ≤ maxU64) :
    legacyOffsetLengthToStartEnd o l = none ↔ (l = 0 ∨ (l ≠ maxU64 ∧ o + l > maxU64)) := by
  rw [← conv_inval_iff o l ho hl]
  by_cases hc : o = maxU64 ∧ l = maxU64
  · rw [hc.1, hc.2]; decide
  · rw [conv_eq_legacy o l hc]
    cases legacyOffsetLengthToStartEnd o l <;> simp

/-- The one accepted request with an empty range. -/
theorem legacy_conv_empty_corner :
    legacyOffsetLengthToStartEnd maxU64 maxU64 = some (maxU64, maxU64) := by
  decide

theorem legacy_conv_some (o l s e : Nat) (ho : o ≤ maxU64) (hl : l ≤ maxU64)
    (h : legacyOffsetLengthToStartEnd o l = some (s, e)) :
    s = o ∧ e ≤ maxU64 ∧ s ≤ e ∧ (l = maxU64 → e = maxU64) ∧ (l ≠ maxU64 → e = o + l) := by
  by_cases hc : o = maxU64 ∧ l = maxU64
  · obtain ⟨rfl, rfl⟩ := hc
    rw [legacy_conv_empty_corner] at h
    obtain ⟨rfl, rfl⟩ := Prod.mk.inj (Option.some.inj h)
    omega
  · have hk := conv_eq_legacy o l hc
    rw [h] at hk
    have := conv_some o l s e ho hl hk
    omega

/-- The exact precondition of the legacy conversion: the only accepted request that yields an
empty range is offset `2^64-1` with the all-ones length. -/
theorem legacy_conv_nonempty_iff (o l s e : Nat) (ho : o ≤ maxU64) (hl : l ≤ maxU64)
    (h : legacyOffsetLengthToStartEnd o l = some (s, e)) :
    s < e ↔ ¬ (o = maxU64 ∧ l = maxU64) := by
  have hc := legacy_conv_some o l s e ho hl h
  have hn : legacyOffsetLengthToStartEnd o l ≠ none := by rw [h]; simp
  rw [Ne, legacy_conv_none_iff o l ho hl] at hn
  omega

/-! ## `toDenied` -/

/-- `byteRangeLockToLock4Denied` inverts the conversion on every non-empty table
range that ends at or before `2^64-1`. -/
theorem denied_inverts (s e : Nat) (hse : s < e) (he : e ≤ maxU64) :
    offsetLengthToStartEnd (toDenied s e).1 (toDenied s e).2 = .ok (s, e) := by
  unfold toDenied
  by_cases h : e = maxU64
  · subst h
    simp only [ne_eq, not_true_eq_false, ↓reduceIte]
    unfold offsetLengthToStartEnd
    rw [if_neg (by omega), if_pos rfl, if_neg (by omega)]
  · simp only [ne_eq, h, not_false_eq_true, ↓reduceIte]
    unfold offsetLengthToStartEnd
    rw [if_neg (by omega), if_neg (by omega), if_neg (by omega)]
    simp only [Conv.ok.injEq, Prod.mk.injEq, true_and]
    omega

example : toDenied 5 15 = (5, 10) := by decide
example : toDenied 5 maxU64 = (5, maxU64) := by decide
example : toDenied (maxU64 - 1) maxU64 = (maxU64 - 1, maxU64) := by decide

/-- Round trip the other way: the reported offset is the requested one; the
reported length is the requested one, except that a range ending exactly at
`2^64-1` is reported with the all-ones length (which denotes the same bytes). -/
theorem denied_of_conv (o l s e : Nat) (ho : o ≤ maxU64) (hl : l ≤ maxU64)
    (h : offsetLengthToStartEnd o l = .ok (s, e)) :
    (toDenied s e).1 = o ∧
      ((toDenied s e).2 = l ∨ ((toDenied s e).2 = maxU64 ∧ o + l = maxU64)) := by
  obtain ⟨hs, -, -, hall, hlen⟩ := conv_some o l s e ho hl h
  unfold toDenied
  by_cases h1 : e = maxU64
  · simp only [h1, ne_eq, not_true_eq_false, ↓reduceIte]
    by_cases h2 : l = maxU64
    · exact ⟨hs, Or.inl h2.symm⟩
    · refine ⟨hs, Or.inr ⟨trivial, ?_⟩⟩
      have := hlen h2
      omega
  · simp only [ne_eq, h1, not_false_eq_true, ↓reduceIte]
    refine ⟨hs, Or.inl ?_⟩
    by_cases h2 : l = maxU64
    · exact absurd (hall h2) h1
    · have := hlen h2
      omega

/-- The exception of `denied_of_conv` really occurs: length 1 at offset `2^64-2`
is reported back with the all-ones length. -/
example : offsetLengthToStartEnd (maxU64 - 1) 1 = .ok (maxU64 - 1, maxU64) ∧
    toDenied (maxU64 - 1) maxU64 = (maxU64 - 1, maxU64) := by decide

/-! ## Consequences of the legacy conversion's empty corner range on the lock table -/

/-- `Test` for an empty range `[M, M)` never reports a conflict when all entries
end at or before `M`. -/
theorem test_empty_gen (M : Nat) (ls : List Lock) (hM : ∀ x ∈ ls, x.stop ≤ M) (o : Nat)
    (ty : Ty) : test ls ⟨M, M, o, ty⟩ = none := by
  induction ls with
  | nil => rfl
  | cons s rest ih =>
    have hs : s.stop ≤ M := hM s (List.mem_cons_self ..)
    unfold test
    split
    · rfl
    · rw [if_neg]
      · exact ih (fun x hx => hM x (List.mem_cons_of_mem _ hx))
      · intro hc
        have := hc.2.1
        simp only at this
        omega

/-- `Test` never reports a conflict for the empty range at `2^64-1` (entries of
real tables end at or before `2^64-1`). -/
theorem test_empty_corner (ls : List Lock) (hM : ∀ x ∈ ls, x.stop ≤ maxU64) (o : Nat) (ty : Ty) :
    test ls ⟨maxU64, maxU64, o, ty⟩ = none :=
  test_empty_gen maxU64 ls hM o ty

example : (∀ x ∈ [(⟨0, maxU64, 1, .excl⟩ : Lock)], x.stop ≤ maxU64) ∧
    test [⟨0, maxU64, 1, .excl⟩] ⟨maxU64, maxU64, 2, .excl⟩ = none := by decide

/-- `Set` of an empty range `[M, M)` into the empty table inserts the byte-less
entry. -/
theorem setList_nil_gen (M o : Nat) (ty : Ty) (hty : ty ≠ .unlocked) :
    setList [] ⟨M, M, o, ty⟩ = [⟨M, M, o, ty⟩] := by
  simp [setList, phase1, phase2, hty]

/-- `Set` of `[M, M)` for a second owner keeps the first owner's byte-less entry
and adds another one in front of it. -/
theorem setList_two_gen (M o1 o2 : Nat) (t1 t2 : Ty) (ho : o1 ≠ o2) (ht2 : t2 ≠ .unlocked) :
    setList [⟨M, M, o1, t1⟩] ⟨M, M, o2, t2⟩ = [⟨M, M, o2, t2⟩, ⟨M, M, o1, t1⟩] := by
  simp [setList, phase1, phase2, ho, ht2]

/-- Two different owners are BOTH granted an exclusive lock for (offset `2^64-1`,
length all-ones): owner 1's `Test` on the empty table and — after owner 1's
`Set` — owner 2's `Test` report no conflict; the resulting table holds two
exclusive entries of different owners with the same (empty) range (owner 2's
entry in front); the byte-less entry bumps `lockCount` by one; and the resulting
tables violate the representation invariant (`WF.nonempty`). -/
theorem corner_two_exclusive_owners :
    test [] ⟨maxU64, maxU64, 1, .excl⟩ = none ∧
    setList [] ⟨maxU64, maxU64, 1, .excl⟩ = [⟨maxU64, maxU64, 1, .excl⟩] ∧
    test [⟨maxU64, maxU64, 1, .excl⟩] ⟨maxU64, maxU64, 2, .excl⟩ = none ∧
    setList [⟨maxU64, maxU64, 1, .excl⟩] ⟨maxU64, maxU64, 2, .excl⟩ =
      [⟨maxU64, maxU64, 2, .excl⟩, ⟨maxU64, maxU64, 1, .excl⟩] ∧
    (set [] ⟨maxU64, maxU64, 1, .excl⟩).2 = 1 ∧
    (set [⟨maxU64, maxU64, 1, .excl⟩] ⟨maxU64, maxU64, 2, .excl⟩).2 = 1 ∧
    ¬ Spec.ByteLocks.WF [⟨maxU64, maxU64, 1, .excl⟩] ∧
    ¬ Spec.ByteLocks.WF [⟨maxU64, maxU64, 2, .excl⟩, ⟨maxU64, maxU64, 1, .excl⟩] := by
  refine ⟨rfl, setList_nil_gen _ _ _ (by decide), ?_, setList_two_gen _ _ _ _ _ (by decide)
    (by decide), ?_, ?_, ?_, ?_⟩
  · exact test_empty_corner _ (by simp) _ _
  · simp [BRL.set, setList_nil_gen]
  · simp [BRL.set, setList_two_gen]
  · intro h
    exact Nat.lt_irrefl _ (h.nonempty _ (List.mem_cons_self ..))
  · intro h
    exact Nat.lt_irrefl _ (h.nonempty _ (List.mem_cons_self ..))

/-- The same, phrased with the caller model `Spec.ByteLocks.run` and the legacy NFS
conversion: both owners' `LOCK(offset = 2^64-1, length = all-ones, WRITE)`
requests pass the conversion, are applied, and the table ends up with two
exclusive entries of different owners. -/
theorem corner_two_exclusive_owners_run :
    legacyOffsetLengthToStartEnd maxU64 maxU64 = some (maxU64, maxU64) ∧
    Spec.ByteLocks.run [] [⟨maxU64, maxU64, 1, .excl⟩, ⟨maxU64, maxU64, 2, .excl⟩] =
      [⟨maxU64, maxU64, 2, .excl⟩, ⟨maxU64, maxU64, 1, .excl⟩] := by
  refine ⟨legacy_conv_empty_corner, ?_⟩
  have h1 : test [] ⟨maxU64, maxU64, 1, .excl⟩ = none := rfl
  have h2 : test [⟨maxU64, maxU64, 1, .excl⟩] ⟨maxU64, maxU64, 2, .excl⟩ = none :=
    test_empty_corner _ (by simp) _ _
  simp [Spec.ByteLocks.run, Spec.ByteLocks.applyReq, h1, h2, setList_nil_gen, setList_two_gen]

/-- `UnlockAll` (range `[0, 2^64-1)`) does remove the byte-less entry, so `CLOSE`
finds the owner's `lockCount` consistent with the table. -/
theorem corner_unlock_all_removes (o : Nat) (ty : Ty) :
    setList [⟨maxU64, maxU64, o, ty⟩] ⟨0, maxU64, o, .unlocked⟩ = [] := by
  generalize maxU64 = M
  simp [setList, phase1, phase2]

example : unlockAllRange = (0, maxU64) := rfl

end BbRe.Lemmas.NfsLockRange
