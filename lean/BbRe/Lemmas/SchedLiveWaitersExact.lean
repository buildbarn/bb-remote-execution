import BbRe.Lemmas.SchedLiveQuiesce
/-!
With fresh client ids, an operation's waiter count *equals* the number of
streams parked on it (C06 quiescence): no waiter leaks.  This holds along every run whose client ids are fresh.
-/
namespace BbRe.Lemmas.SchedLive
open BbRe.Sched

/-- at most one parked stream per client -/
def ClientsNodup (s : State) : Prop := (s.streams.map (·.client)).Nodup

/-- waiter counts are exact -/
def WEq (s : State) : Prop := ∀ o op, s.op? o = some op → op.waiters = cnt s o

theorem filter_len_eq {α} (p q : α → Bool) (l : List α) (h : ∀ x ∈ l, p x = q x) :
    (l.filter p).length = (l.filter q).length := by
  rw [List.filter_congr h]

theorem cntWo_eq_of_no_stream {s : State} {c : Nat} (h : hasStream s c = false) (k : Nat) : cntWo s c k = cnt s k := by
  unfold cntWo cnt
  have : s.streams.filter (fun x => x.client ≠ c) = s.streams := by
    rw [List.filter_eq_self]
    intro st hm
    unfold hasStream at h
    rw [List.any_eq_false] at h
    simpa using h st hm
  rw [this]

theorem filter_split {α} (key : α → Nat) (p : α → Bool) (c : Nat) (l : List α) (hnd : (l.map key).Nodup)
    (x : α) (hx : x ∈ l) (hk : key x = c) :
    (l.filter p).length = (l.filter (fun a => p a && decide (key a ≠ c))).length + (if p x = true then 1 else 0) := by
  induction l with
  | nil => cases hx
  | cons a r ih =>
    simp only [List.map_cons, List.nodup_cons] at hnd
    rcases List.mem_cons.1 hx with rfl | hx
    · have hr : ∀ y ∈ r, (p y && decide (key y ≠ c)) = p y := by
        intro y hy
        have : key y ≠ c := by intro e; exact hnd.1 (List.mem_map.2 ⟨y, hy, by rw [e, hk]⟩)
        simp [this]
      have hlen : (r.filter (fun a => p a && decide (key a ≠ c))).length = (r.filter p).length :=
        filter_len_eq _ _ r hr
      have hq : (p x && decide (key x ≠ c)) = false := by simp [hk]
      rw [List.filter_cons, List.filter_cons]
      simp only [hq, Bool.false_eq_true, if_false]
      cases hp : p x
      · simp only [Bool.false_eq_true, if_false, Nat.add_zero]; exact hlen.symm
      · simp only [if_true, List.length_cons]; omega
    · have hac : key a ≠ c := by intro e; exact hnd.1 (List.mem_map.2 ⟨x, hx, by rw [hk, e]⟩)
      have := ih hnd.2 hx
      have hq : (p a && decide (key a ≠ c)) = p a := by simp [hac]
      rw [List.filter_cons, List.filter_cons]
      simp only [hq]
      cases hp : p a
      · simp only [Bool.false_eq_true, if_false]; exact this
      · simp only [if_true, List.length_cons]; omega

/-- with one stream per client: the streams of others, plus `c`'s own stream -/
theorem cnt_split {s : State} (hn : ClientsNodup s) {c : Nat} {st : Stream} (hm : st ∈ s.streams) (hc : st.client = c)
    (k : Nat) : cnt s k = cntWo s c k + (if st.op = k then 1 else 0) := by
  unfold cnt cntWo
  rw [List.filter_filter]
  have := filter_split (fun x : Stream => x.client) (fun x : Stream => decide (x.op = k)) c s.streams hn st hm hc
  simp only [decide_eq_true_eq] at this
  exact this

theorem clientsNodup_filter_cons (s : State) (c : Nat) (hn : ClientsNodup s) (st : Stream) (hc : st.client = c) :
    ((st :: s.streams.filter (fun x => x.client ≠ c)).map (·.client)).Nodup := by
  simp only [List.map_cons, List.nodup_cons]
  refine ⟨?_, List.Nodup.sublist (List.Sublist.map _ List.filter_sublist) hn⟩
  intro hmem
  obtain ⟨x, hx, e⟩ := List.mem_map.1 hmem
  have := (List.mem_filter.1 hx).2
  simp only [ne_eq, decide_eq_true_eq] at this
  exact this (by rw [e, hc])

/-- exactness of the counts relative to the streams of clients other than `c`, with operation `o`
counting one more (the stream `c` is about to park on it / the waiter `c` just registered) -/
def WPre (s : State) (c o : Nat) : Prop :=
  ∀ k op, s.op? k = some op → op.waiters = cntWo s c k + (if k = o then 1 else 0)

theorem streamSend_weq {s s' : State} {c o : Nat} (hk : KeysOK s) (hn : ClientsNodup s) (hpre : WPre s c o)
    (hh : streamSend s c o = .ok s') : WEq s' ∧ ClientsNodup s' ∧ (∀ st ∈ s'.streams, st ∈ s.streams ∨ st.client = c) := by
  obtain ⟨op, t, hop, _, ⟨r, _, hw, rfl⟩ | ⟨_, rfl⟩⟩ := streamSend_ok hh
  · have hname := (hk.oname o op hop).1
    refine ⟨?_, ?_, ?_⟩
    · intro k opk e
      have hc : cnt (sendDone s c o op t r) k = cntWo s c k := by unfold cnt cntWo; simp
      have hop' : (sendDone s c o op t r).op? k = if o = k then some { op with waiters := op.waiters - 1 } else s.op? k := by
        simp [sendDone, State.op?, alookup_aset, hname]
      rw [hc]; rw [hop'] at e
      by_cases hko : o = k
      · subst hko
        simp only [if_true, Option.some.injEq] at e; subst e
        have := hpre o op hop; simp only [if_true] at this; simp only; omega
      · simp only [hko, if_false] at e
        have := hpre k opk e
        have hne : ¬ k = o := fun e' => hko e'.symm
        simp only [hne, if_false] at this; omega
    · unfold ClientsNodup; simp only [sendDone_streams]
      exact List.Nodup.sublist (List.Sublist.map _ List.filter_sublist) hn
    · intro st hm; simp only [sendDone_streams] at hm; exact .inl (List.mem_filter.1 hm).1
  · refine ⟨?_, ?_, ?_⟩
    · intro k opk e
      have hop' : (sendPark s c o t).op? k = s.op? k := by simp [State.op?]
      rw [hop'] at e
      have := hpre k opk e
      by_cases hko : k = o
      · subst hko
        have hc : cnt (sendPark s c k t) k = cntWo s c k + 1 := by unfold cnt cntWo; simp
        rw [hc]; simpa using this
      · have hok : ¬ o = k := fun e' => hko e'.symm
        have hc : cnt (sendPark s c o t) k = cntWo s c k := by
          unfold cnt cntWo; simp [hok]
        rw [hc]; simpa [hko] using this
    · unfold ClientsNodup; simp only [sendPark_streams]
      exact clientsNodup_filter_cons s c hn _ rfl
    · intro st hm
      simp only [sendPark_streams, List.mem_cons] at hm
      rcases hm with rfl | hm
      · exact .inr rfl
      · exact .inl (List.mem_filter.1 hm).1

/-- attaching a client that has no parked stream -/
theorem streamAttach_weq {s s' : State} {c o : Nat} (hk : KeysOK s) (hn : ClientsNodup s) (hw : WEq s)
    (hfresh : hasStream s c = false) (hh : streamAttach s c o = .ok s') :
    WEq s' ∧ ClientsNodup s' ∧ (∀ st ∈ s'.streams, st ∈ s.streams ∨ st.client = c) := by
  obtain ⟨op, hop, h1⟩ := streamAttach_ok hh
  have hname := (hk.oname o op hop).1
  have hkA : KeysOK (attachS s o op) :=
    (TStep.of_op (allow := True) (s := s) (s' := attachS s o op) (o2 := { op with waiters := op.waiters + 1 }) hop rfl rfl id rfl
      (by simp [attachS, hname]) rfl rfl hk).1
  have hopA : ∀ k, (attachS s o op).op? k = if o = k then some { op with waiters := op.waiters + 1 } else s.op? k := by
    intro k; simp [attachS, State.op?, alookup_aset, hname]
  refine streamSend_weq (s := attachS s o op) hkA hn ?_ h1
  intro k opk e
  rw [hopA] at e
  have hcw : cntWo (attachS s o op) c k = cnt s k := cntWo_eq_of_no_stream hfresh k
  rw [hcw]
  by_cases hko : o = k
  · subst hko
    simp only [if_true, Option.some.injEq] at e; subst e
    have := hw o op hop; simp only [if_true]; omega
  · simp only [hko, if_false] at e
    have hne : ¬ k = o := fun e' => hko e'.symm
    simp only [hne, if_false]; exact hw k opk e

theorem streamLeave_weq {s s' : State} {c code : Nat} (hk : KeysOK s) (hn : ClientsNodup s) (hw : WEq s)
    (hh : streamLeave s c code = .ok s') :
    WEq s' ∧ ClientsNodup s' ∧ (∀ st ∈ s'.streams, st ∈ s.streams) := by
  obtain ⟨st, op, hst, hop, hwn, rfl⟩ := streamLeave_ok hh
  have hname := (hk.oname st.op op hop).1
  have hm := List.mem_of_find?_eq_some hst
  have hcl : st.client = c := by simpa using List.find?_some hst
  refine ⟨?_, ?_, ?_⟩
  · intro k opk e
    have hc : cnt (leaveS s c st op code) k = cntWo s c k := by unfold cnt cntWo; simp
    have hop' : (leaveS s c st op code).op? k = if st.op = k then some { op with waiters := op.waiters - 1 } else s.op? k := by
      simp [leaveS, State.op?, alookup_aset, hname]
    rw [hc]; rw [hop'] at e
    have hsp := cnt_split hn hm hcl k
    by_cases hko : st.op = k
    · subst hko
      simp only [if_true, Option.some.injEq] at e; subst e
      have := hw st.op op hop; simp only [if_true] at hsp; simp only; omega
    · simp only [hko, if_false] at e hsp
      have := hw k opk e; omega
  · unfold ClientsNodup; simp only [leaveS_streams]
    exact List.Nodup.sublist (List.Sublist.map _ List.filter_sublist) hn
  · intro x hx; simp only [leaveS_streams] at hx; exact (List.mem_filter.1 hx).1

theorem weq_of_ostep {s s' : State} (hk : KeysOK s) (hw : WakeInv s) (he : WEq s) (hst : s'.streams = s.streams)
    (ho : OStep s s') : WEq s' := by
  obtain ⟨_, r⟩ := ho hk
  intro o op' e
  have hc : cnt s' o = cnt s o := by unfold cnt; rw [hst]
  rw [hc]
  rcases r.keep o op' e with ⟨op, e0, w0⟩ | ⟨hf, w0⟩
  · rw [w0]; exact he o op e0
  · rw [w0]
    unfold cnt
    symm
    rw [List.length_eq_zero_iff, List.filter_eq_nil_iff]
    intro st hm; have := (hw st hm).1; simp only [decide_eq_true_eq]; omega

/-- a fresh operation without waiters -/
theorem weq_fresh_op {s s' : State} (hw : WakeInv s) (he : WEq s) (hst : s'.streams = s.streams)
    (hop : ∀ k, k ≠ s.nextOp → s'.op? k = s.op? k)
    (hnew : ∀ op, s'.op? s.nextOp = some op → op.waiters = 0) : WEq s' := by
  intro k op e
  have hc : cnt s' k = cnt s k := by unfold cnt; rw [hst]
  rw [hc]
  by_cases hk : k = s.nextOp
  · subst hk
    rw [hnew op e]
    unfold cnt; symm
    rw [List.length_eq_zero_iff, List.filter_eq_nil_iff]
    intro st hm; have := (hw st hm).1; simp only [decide_eq_true_eq]; omega
  · rw [hop k hk] at e; exact he k op e

theorem hasStream_congr {s s' : State} (h : s'.streams = s.streams) (c : Nat) : hasStream s' c = hasStream s c := by
  unfold hasStream; rw [h]

theorem ClientsNodup.congr {s s' : State} (hn : ClientsNodup s) (h : s'.streams = s.streams) : ClientsNodup s' := by
  unfold ClientsNodup; rw [h]; exact hn

/-- **Exact waiter counts, per segment.**  If the client of an `Execute` / `WaitExecution` segment has no
parked stream (fresh client ids), every segment keeps `waiters = #parked streams` for every operation and
one stream per client. -/
theorem weq_step {s s' : State} {g : Seg} (hi : KWC noEx s) (hw : WakeInv s) (hn : ClientsNodup s) (he : WEq s)
    (hfresh : ∀ c, isAttachOf c g = true → hasStream s c = false) (hstep : step s g = .ok s') :
    WEq s' ∧ ClientsNodup s' ∧ (∀ st ∈ s'.streams, (∃ st0 ∈ s.streams, st0.client = st.client) ∨ isAttachOf st.client g = true) := by
  have hk := hi.1.1
  have afterEnter : ∀ {h : Hints} {now : Nat} {s1 : State}, enter h s now = .ok s1 →
      KWC noEx s1 ∧ WakeInv s1 ∧ WEq s1 ∧ ClientsNodup s1 ∧ s1.streams = s.streams := fun {h now _} h1 =>
    have hst := (enter_frame h1).streams
    ⟨enter_kwc hi h1, wakeInv_step (g := .touch h now) hk hw h1, weq_of_ostep hk hw he hst (enter_ostep hi h1),
      hn.congr hst, hst⟩
  -- repackaging the result of an attach of client `c0`
  have pack : ∀ {c0 : Nat} {s1 : State}, s1.streams = s.streams → isAttachOf c0 g = true →
      (WEq s' ∧ ClientsNodup s' ∧ (∀ st ∈ s'.streams, st ∈ s1.streams ∨ st.client = c0)) →
      WEq s' ∧ ClientsNodup s' ∧ (∀ st ∈ s'.streams, (∃ st0 ∈ s.streams, st0.client = st.client) ∨ isAttachOf st.client g = true) := by
    intro c0 s1 e1 ha ⟨a, b, c⟩
    refine ⟨a, b, fun st hm => ?_⟩
    rcases c st hm with h | h
    · exact .inl ⟨st, e1 ▸ h, rfl⟩
    · exact .inr (h ▸ ha)
  cases g with
  | exec h now c0 d dk dnc comps pf inv prio =>
    have hatt : isAttachOf c0 (.exec h now c0 d dk dnc comps pf inv prio) = true := by simp [isAttachOf]
    have hf0 := hfresh c0 hatt
    obtain ⟨s1, h1, h2 | h2 | h2⟩ := execArrive_ok hstep
    all_goals obtain ⟨hi1, hw1, he1, hn1, hst1⟩ := afterEnter h1
    all_goals have hf1 : hasStream s1 c0 = false := by rw [hasStream_congr hst1]; exact hf0
    · obtain ⟨tid, t, _, h0, ⟨o, _, h3⟩ | ⟨_, h3⟩⟩ := h2
      all_goals have hkE : KeysOK (emit s1 .selAbandoned) := (hi1.same (s' := emit s1 .selAbandoned)).1.1
      · have hstE : (emit s1 .selAbandoned).streams = s1.streams := rfl
        exact pack (hstE.trans hst1) hatt (streamAttach_weq hkE (hn1.congr hstE)
          (weq_of_ostep hi1.1.1 hw1 he1 hstE OStep.same) (by rw [hasStream_congr hstE]; exact hf1) h3)
      · have hkA := (addOpS_tstep True inv prio (s := emit s1 .selAbandoned) h0 hkE).1
        have hstA : (addOpS (emit s1 .selAbandoned) tid t inv prio).streams = s1.streams := by simp
        refine pack (hstA.trans hst1) hatt
          (streamAttach_weq hkA (hn1.congr hstA) ?_ (by rw [hasStream_congr hstA]; exact hf1) h3)
        refine weq_fresh_op (s := s1) hw1 he1 hstA ?_ ?_
        · intro k hk'; simp [State.op?, alookup_aset, Ne.symm hk']
        · intro op e; simp [State.op?, alookup_aset] at e; subst e; rfl
    · obtain ⟨_, _, rfl⟩ := h2
      exact ⟨he1, hn1, fun st hm => .inl ⟨st, hst1 ▸ hm, rfl⟩⟩
    · obtain ⟨_, pq, sc, s3, _, _, h3, h4⟩ := h2
      have hk3 : KeysOK s3 := ((tstep_new_then_schedule (allow := True) (s := s1) (tn := newTask s1 d dk dnc ⟨pq.id, sc⟩)
        (on := newOp s1 inv prio) rfl rfl rfl (by simp) (by simp) (by simp) (by simp) h3) hi1.1.1).1
      obtain ⟨_, _, _, _, _, e2, _, _⟩ := schedule_shape h3
      have hst3 : s3.streams = s1.streams := by rw [(schedule_frame h3).streams]; simp
      refine pack (s1 := s3) (hst3.trans hst1) hatt (streamAttach_weq hk3 (hn1.congr hst3) ?_
        (by rw [hasStream_congr hst3]; exact hf1) h4)
      refine weq_fresh_op (s := s1) hw1 he1 hst3 ?_ ?_
      · intro k hk'; simp [State.op?, e2, alookup_aset, Ne.symm hk']
      · intro op e; simp [State.op?, e2, alookup_aset, newOp] at e; subst e; rfl
  | wait h now c0 name =>
    have hatt : isAttachOf c0 (.wait h now c0 name) = true := by simp [isAttachOf]
    have hf0 := hfresh c0 hatt
    obtain ⟨s1, h1, ⟨_, rfl⟩ | ⟨op, _, h2⟩⟩ := waitArrive_ok hstep
    all_goals obtain ⟨hi1, hw1, he1, hn1, hst1⟩ := afterEnter h1
    · exact ⟨he1, hn1, fun st hm => .inl ⟨st, hst1 ▸ hm, rfl⟩⟩
    · exact pack (s1 := s1) hst1 hatt (streamAttach_weq hi1.1.1 hn1 he1 (by rw [hasStream_congr hst1]; exact hf0) h2)
  | streamWake h now c0 reason =>
    obtain ⟨s1, st, h1, hst, ⟨_, h3⟩ | ⟨_, _, h3⟩⟩ := streamWake_ok hstep
    all_goals obtain ⟨hi1, hw1, he1, hn1, hst1⟩ := afterEnter h1
    · obtain ⟨a, b, c⟩ := streamLeave_weq hi1.1.1 hn1 he1 h3
      exact ⟨a, b, fun x hx => .inl ⟨x, hst1 ▸ c x hx, rfl⟩⟩
    · have hm := List.mem_of_find?_eq_some hst
      have hcl : st.client = c0 := by simpa using List.find?_some hst
      have hpre : WPre s1 c0 st.op := by
        intro k op e
        rw [he1 k op e, cnt_split hn1 hm hcl k]
        by_cases hko : st.op = k
        · simp [hko]
        · have : ¬ k = st.op := fun e' => hko e'.symm
          simp [hko, this]
      obtain ⟨a, b, c⟩ := streamSend_weq hi1.1.1 hn1 hpre h3
      refine ⟨a, b, fun x hx => ?_⟩
      rcases c x hx with h' | h'
      · exact .inl ⟨x, hst1 ▸ h', rfl⟩
      · -- the re-parked stream is the woken client's own: it was parked before
        exact .inl ⟨st, hst1 ▸ hm, by rw [hcl, h']⟩
  | _ =>
    obtain ⟨e, o⟩ := step_ostep hi hstep rfl
    exact ⟨weq_of_ostep hk hw he e o, hn.congr e, fun st hm => .inl ⟨st, e ▸ hm, rfl⟩⟩

/-! ### runs with fresh client ids -/

/-- the client id an `Execute` / `WaitExecution` segment attaches -/
def attachClient : Seg → Option Nat
  | .exec _ _ c _ _ _ _ _ _ _ => some c
  | .wait _ _ c _ => some c
  | _ => none

/-- client ids used by the attach segments of a run, in order -/
def usedClients (gs : List Seg) : List Nat := gs.filterMap attachClient

/-- **Client ids are fresh**: no two `Execute` / `WaitExecution` segments of the run use the same client
id (each id names one call, as in the Go server where a stream is a call). -/
def FreshClients (gs : List Seg) : Prop := (usedClients gs).Nodup

theorem isAttachOf_iff (c : Nat) (g : Seg) : isAttachOf c g = true ↔ attachClient g = some c := by
  cases g <;> simp only [isAttachOf, attachClient, beq_iff_eq, Option.some.injEq, reduceCtorEq] <;> simp

structure QI (used : List Nat) (s : State) : Prop where
  reach : Reachable s
  weq : WEq s
  nodup : ClientsNodup s
  cl : ∀ st ∈ s.streams, st.client ∈ used

theorem QI.mono {used used' : List Nat} {s : State} (h : QI used s) (hsub : ∀ c ∈ used, c ∈ used') : QI used' s :=
  ⟨h.reach, h.weq, h.nodup, fun st hm => hsub _ (h.cl st hm)⟩

theorem qi_run (gs : List Seg) : ∀ (used : List Nat) (s : State), QI used s → (usedClients gs).Nodup →
    (∀ c ∈ usedClients gs, c ∉ used) → QI (used ++ usedClients gs) (run s gs) := by
  induction gs with
  | nil => intro used s h _ _; simpa [usedClients, run] using h
  | cons g rest ih =>
    intro used s h hnd hdis
    -- split the used-list of `g :: rest`
    have huc : usedClients (g :: rest) = (attachClient g).toList ++ usedClients rest := by
      unfold usedClients; cases hg : attachClient g <;> simp [hg]
    rw [huc] at hnd hdis
    have hnd' : (usedClients rest).Nodup := (List.nodup_append.1 hnd).2.1
    have hdis' : ∀ c ∈ usedClients rest, c ∉ used ++ (attachClient g).toList := by
      intro c hc hm
      rcases List.mem_append.1 hm with hm | hm
      · exact hdis c (List.mem_append_right _ hc) hm
      · exact (List.nodup_append.1 hnd).2.2 c hm c hc rfl
    have key : QI (used ++ (attachClient g).toList) (run s [g]) := by
      unfold run
      split
      · rename_i s1 h1
        have hfresh : ∀ c, isAttachOf c g = true → hasStream s c = false := by
          intro c hc
          rw [isAttachOf_iff] at hc
          have hnot : c ∉ used := hdis c (List.mem_append_left _ (by simp [hc]))
          unfold hasStream
          rw [List.any_eq_false]
          intro st hm; simp only [decide_eq_true_eq]
          intro e; exact hnot (e ▸ h.cl st hm)
        obtain ⟨a, b, c⟩ := weq_step (kwc_reachable h.reach) (wakeInv_reachable h.reach) h.nodup h.weq hfresh h1
        refine ⟨Reachable.step g h.reach h1, a, b, ?_⟩
        intro st hm
        rcases c st hm with ⟨st0, hm0, e0⟩ | hatt
        · exact List.mem_append_left _ (e0 ▸ h.cl st0 hm0)
        · rw [isAttachOf_iff] at hatt
          exact List.mem_append_right _ (by simp [hatt])
      · exact h.mono (fun c hc => List.mem_append_left _ hc)
    have hrun : run s (g :: rest) = run (run s [g]) rest := by
      cases hs : step s g with
      | ok s1 => simp [run, hs]
      | error e => simp [run, hs]
    rw [hrun, huc, ← List.append_assoc]
    exact ih _ _ key hnd' hdis'

/-- **No waiter leaks**: along a run with fresh client ids every operation's waiter count equals the number
of streams parked on it, and every client has at most one parked stream. -/
theorem weq_of_fresh (cfg : Cfg) (gs : List Seg) (hf : FreshClients gs) :
    WEq (run (State.init cfg) gs) ∧ ClientsNodup (run (State.init cfg) gs) := by
  have h0 : QI [] (State.init cfg) :=
    ⟨Reachable.init cfg, by intro o op e; simp [State.init, State.op?] at e, by simp [ClientsNodup, State.init],
     by intro st hm; simp [State.init] at hm⟩
  have := qi_run gs [] _ h0 hf (by simp)
  exact ⟨this.weq, this.nodup⟩

end BbRe.Lemmas.SchedLive
