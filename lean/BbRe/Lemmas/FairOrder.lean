import BbRe.Model.Fair
import BbRe.Model.GoHeap
/-!
The `Less` relations of the scheduler's heaps are strict weak orders (`GoHeap.StrictWeak`):
the exact score order `scoreLt`, `childLess` (= `queuedChildrenHeap.Less` with the exact score)
and `opLess` (= `queuedOperationsHeap.Less`).  The file also makes `BbRe.Inv` and `BbRe.dist`
aliases of the model's `Fair.Inv` and `Fair.dist`, on which the later `Fair*` files rely for
unambiguous names.
-/
namespace BbRe
-- `Inv` alone also names the core class `Inv` (and `dist`, under Mathlib, `Dist.dist`), so every
-- mention would be elaborated both ways; an alias in `BbRe` is found first and is the only reading.
export Fair (Inv dist)
end BbRe

namespace BbRe.Lemmas.Fair
open BbRe.Fair BbRe.GoHeap

/-- `lt1 a b || (!lt1 b a && lt2 a b)`: the shape of every `Less` method of the scheduler. -/
def lex {α : Type} (lt1 lt2 : α → α → Bool) (a b : α) : Bool := lt1 a b || (!lt1 b a && lt2 a b)

theorem lex_eq_false_iff {α : Type} (lt1 lt2 : α → α → Bool) (a b : α) :
    lex lt1 lt2 a b = false ↔ lt1 a b = false ∧ (lt1 b a = true ∨ lt2 a b = false) := by
  unfold lex
  cases lt1 a b <;> cases lt1 b a <;> cases lt2 a b <;> decide

theorem lex_strictWeak {α : Type} {lt1 lt2 : α → α → Bool} (h1 : StrictWeak lt1) (h2 : StrictWeak lt2) :
    StrictWeak (lex lt1 lt2) := by
  constructor
  · intro x y h
    rw [lex_eq_false_iff]
    unfold lex at h
    cases h11 : lt1 x y
    · rw [h11, Bool.false_or, Bool.and_eq_true, Bool.not_eq_true'] at h
      exact ⟨h.1, .inr (h2.asymm x y h.2)⟩
    · exact ⟨h1.asymm x y h11, .inl rfl⟩
  · intro x y z hxy hyz
    rw [lex_eq_false_iff] at hxy hyz ⊢
    refine ⟨h1.negTrans x y z hxy.1 hyz.1, ?_⟩
    -- `z < x` in the first key unless both pairs tie there; then the second key decides
    cases hzx : lt1 z x
    · right
      have hyx : lt1 y x = false := h1.negTrans y z x hyz.1 hzx
      have hzy : lt1 z y = false := h1.negTrans z x y hzx hxy.1
      rw [hyx] at hxy
      rw [hzy] at hyz
      exact h2.negTrans x y z (hxy.2.resolve_left Bool.false_ne_true) (hyz.2.resolve_left Bool.false_ne_true)
    · exact .inl rfl

theorem _root_.BbRe.GoHeap.StrictWeak.flip {α : Type} {less : α → α → Bool} (h : StrictWeak less) :
    StrictWeak (fun a b => less b a) :=
  ⟨fun x y => h.asymm y x, fun x y z hxy hyz => h.negTrans z y x hyz hxy⟩

/-- Comparison of an integer key. -/
theorem key_strictWeak {α : Type} (f : α → Int) : StrictWeak (fun a b => decide (f a < f b)) := by
  constructor
  · intro x y h
    exact decide_eq_false (Int.lt_asymm (of_decide_eq_true h))
  · intro x y z h1 h2
    exact decide_eq_false (Int.not_lt.mpr (Int.le_trans (Int.not_lt.mp (of_decide_eq_false h2))
      (Int.not_lt.mp (of_decide_eq_false h1))))

theorem key_strictWeak_nat {α : Type} (f : α → Nat) : StrictWeak (fun a b => decide (f a < f b)) := by
  constructor
  · intro x y h
    exact decide_eq_false (Nat.lt_asymm (of_decide_eq_true h))
  · intro x y z h1 h2
    exact decide_eq_false (Nat.not_lt.mpr (Nat.le_trans (Nat.not_lt.mp (of_decide_eq_false h2))
      (Nat.not_lt.mp (of_decide_eq_false h1))))

theorem opLess_eq_lex : opLess = lex (fun a b => decide (a.prio < b.prio))
    (lex (fun a b => decide (b.dur < a.dur)) (fun a b => decide (a.ts < b.ts))) := rfl

theorem opLess_strictWeak : StrictWeak opLess := by
  rw [opLess_eq_lex]
  exact lex_strictWeak (key_strictWeak Op.prio)
    (lex_strictWeak (key_strictWeak_nat Op.dur).flip (key_strictWeak_nat Op.ts))

/-- The score scaled by `2^(-M)`, to the 100th power. -/
def val (e : Nat) (p M : Int) : Nat := (e + 1) ^ 100 * 2 ^ (p - M).toNat

theorem val_shift (e : Nat) (p m M : Int) (h1 : M ≤ m) (h2 : m ≤ p) :
    val e p M = val e p m * 2 ^ (m - M).toNat := by
  unfold val
  rw [Nat.mul_assoc, ← Nat.pow_add 2, ← Int.toNat_add (Int.sub_nonneg.mpr h2) (Int.sub_nonneg.mpr h1),
    ← Int.add_sub_assoc, Int.sub_add_cancel]

/-- `scoreLt` compares one number per invocation once a common lower bound `M` of the two
priorities is fixed. -/
theorem scoreLt_iff (e₁ : Nat) (p₁ : Int) (e₂ : Nat) (p₂ M : Int) (h1 : M ≤ p₁) (h2 : M ≤ p₂) :
    scoreLt e₁ p₁ e₂ p₂ = true ↔ val e₁ p₁ M < val e₂ p₂ M := by
  unfold scoreLt
  rw [decide_eq_true_iff]
  have hm1 : min p₁ p₂ ≤ p₁ := Int.min_le_left _ _
  have hm2 : min p₁ p₂ ≤ p₂ := Int.min_le_right _ _
  have hM : M ≤ min p₁ p₂ := Int.le_min.mpr ⟨h1, h2⟩
  rw [val_shift e₁ p₁ (min p₁ p₂) M hM hm1, val_shift e₂ p₂ (min p₁ p₂) M hM hm2]
  have hpos : 0 < 2 ^ (min p₁ p₂ - M).toNat := Nat.two_pow_pos _
  show val e₁ p₁ (min p₁ p₂) < val e₂ p₂ (min p₁ p₂) ↔ _
  exact (Nat.mul_lt_mul_right hpos).symm

theorem scoreLt_false_iff (e₁ : Nat) (p₁ : Int) (e₂ : Nat) (p₂ M : Int) (h1 : M ≤ p₁) (h2 : M ≤ p₂) :
    scoreLt e₁ p₁ e₂ p₂ = false ↔ val e₂ p₂ M ≤ val e₁ p₁ M := by
  rw [← Bool.not_eq_true, scoreLt_iff e₁ p₁ e₂ p₂ M h1 h2, Nat.not_lt]

/-- The score order on (executing workers, priority) pairs is a strict weak order. -/
theorem scoreLt_strictWeak : StrictWeak (fun (a b : Nat × Int) => scoreLt a.1 a.2 b.1 b.2) := by
  constructor
  · intro x y h
    have hm1 : min x.2 y.2 ≤ x.2 := Int.min_le_left _ _
    have hm2 : min x.2 y.2 ≤ y.2 := Int.min_le_right _ _
    have h' := (scoreLt_iff x.1 x.2 y.1 y.2 (min x.2 y.2) hm1 hm2).mp h
    exact (scoreLt_false_iff y.1 y.2 x.1 x.2 (min x.2 y.2) hm2 hm1).mpr (Nat.le_of_lt h')
  · intro x y z hxy hyz
    let M := min x.2 (min y.2 z.2)
    have hx : M ≤ x.2 := Int.min_le_left _ _
    have hy : M ≤ y.2 := Int.le_trans (Int.min_le_right _ _) (Int.min_le_left _ _)
    have hz : M ≤ z.2 := Int.le_trans (Int.min_le_right _ _) (Int.min_le_right _ _)
    have h1 := (scoreLt_false_iff x.1 x.2 y.1 y.2 M hx hy).mp hxy
    have h2 := (scoreLt_false_iff y.1 y.2 z.1 z.2 M hy hz).mp hyz
    exact (scoreLt_false_iff x.1 x.2 z.1 z.2 M hx hz).mpr (Nat.le_trans h2 h1)

theorem invScoreLt_strictWeak : StrictWeak Inv.scoreLt :=
  ⟨fun x y => scoreLt_strictWeak.asymm (x.exec, x.prio) (y.exec, y.prio),
    fun x y z => scoreLt_strictWeak.negTrans (x.exec, x.prio) (y.exec, y.prio) (z.exec, z.prio)⟩

theorem childLess_eq_lex : childLess = lex Inv.scoreLt (fun a b => decide (a.started < b.started)) := rfl

theorem childLess_strictWeak : StrictWeak childLess := by
  rw [childLess_eq_lex]
  exact lex_strictWeak invScoreLt_strictWeak (key_strictWeak_nat Inv.started)

end BbRe.Lemmas.Fair
