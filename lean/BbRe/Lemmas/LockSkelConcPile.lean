/-
From `pileLock` statements to `pacq` events (C14 part b: all locks taken through a `LockPile`
have one class). The declarations go into the namespace of `Lemmas/LockSkelConc.lean`
(`BbRe.Lemmas.LockSkelConc`), as those of `Lemmas/LockSkelConcInst.lean` do.

`pileStatic cls C s`: syntactically, every `pileLock p l` in `s` has `clsOf cls l = C`, every
call renaming is class preserving (`renOk`), and `s` contains no `unsupported` statement
(whose semantics is arbitrary). `pile_events_class`: if every function body of the program
is `pileStatic`, every `pacq p l` event of every returning run of every function (callee
bodies to any depth, any branches, any number of loop iterations, deferred statements) has
`clsOf cls l = C`. Core Lean only.
-/
import BbRe.Model.LockSkel
import BbRe.Lemmas.LockSkel
import BbRe.Lemmas.LockSkelEdges
import BbRe.Lemmas.LockSkelConcInst

namespace BbRe.Lemmas.LockSkelConc
open BbRe.LockSkel BbRe.Lemmas.LockSkel BbRe.Lemmas.LockSkelEdges

def pileStatic (cls : List Nat) (C : Nat) : Stmt → Bool
  | .pileLock _ l => clsOf cls l == C
  | .call _ ren => renOk ren
  | .unsupported _ => false
  | .seq a b => pileStatic cls C a && pileStatic cls C b
  | .choice _ a b => pileStatic cls C a && pileStatic cls C b
  | .loop _ b => pileStatic cls C b
  | .fin a b => pileStatic cls C a && pileStatic cls C b
  | .scope a => pileStatic cls C a
  | .block a => pileStatic cls C a
  | .ifFlag _ a b => pileStatic cls C a && pileStatic cls C b
  | _ => true

def pileStaticOk (cls : List Nat) (C : Nat) (prog : Prog) : Bool :=
  prog.all (fun fb => pileStatic cls C fb.2)

/-- Every lock taken through a pile in the trace has class `C`. -/
def PileCls (cls : List Nat) (C : Nat) (tr : List Ev) : Prop :=
  ∀ p l, Ev.pacq p l ∈ tr → clsOf cls l = C

section
variable {cls : List Nat} {C : Nat}

theorem pileCls_nil : PileCls cls C [] := fun _ _ h => by cases h

theorem pileCls_append {t1 t2 : List Ev} (h1 : PileCls cls C t1) (h2 : PileCls cls C t2) :
    PileCls cls C (t1 ++ t2) := by
  intro p l h
  rcases List.mem_append.mp h with h | h
  · exact h1 p l h
  · exact h2 p l h

theorem pileCls_single {e : Ev} (h : ∀ p l, e = .pacq p l → clsOf cls l = C) :
    PileCls cls C [e] := by
  intro p l hm
  rcases List.mem_cons.mp hm with hm | hm
  · exact h p l hm.symm
  · cases hm

theorem pileCls_prels (p : Nat) (xs : List Nat) : PileCls cls C (xs.map (Ev.prel p)) := by
  intro q l h
  rw [List.mem_map] at h
  obtain ⟨_, _, h⟩ := h
  cases h

theorem pileCls_rn {ren : List (Nat × Nat)} (hr : renOk ren = true) {t : List Ev}
    (h : PileCls cls C t) : PileCls cls C (t.map (rnEv ren)) := by
  intro p l hm
  rw [List.mem_map] at hm
  obtain ⟨e, he, heq⟩ := hm
  cases e with
  | pacq q l0 =>
    simp only [rnEv] at heq
    cases heq
    rw [clsOf_gcls (rn_gcls hr l0)]
    exact h _ _ he
  | acq _ => simp only [rnEv] at heq; cases heq
  | rel _ => simp only [rnEv] at heq; cases heq
  | need _ => simp only [rnEv] at heq; cases heq
  | prel _ _ => simp only [rnEv] at heq; cases heq

theorem iter_pileCls {B : CS → List Ev → Out → CS → Prop} {ce : Bool}
    (hB : ∀ c tr o c', B c tr o c' → PileCls cls C tr) :
    ∀ (n : Nat) c tr o c', iter B ce n c tr o c' → PileCls cls C tr
  | 0, _, _, _, _, h => by
    simp only [iter] at h
    rw [h.2.1]; exact pileCls_nil
  | n + 1, c, tr, o, c', h => by
    simp only [iter] at h
    obtain ⟨t1, o1, c1, hb, hrest⟩ := h
    have h1 := hB _ _ _ _ hb
    rcases hrest with ⟨_, t2, hi, rfl⟩ | ⟨_, rfl, _⟩ | ⟨_, rfl, _⟩
    · exact pileCls_append h1 (iter_pileCls hB n _ _ _ _ hi)
    · exact h1
    · exact h1

/-- One statement: all `pacq` events have class `C`, if the callees' runs do. -/
theorem sem_pileCls {Cal : Nat → List Ev → Prop} (hC : ∀ g t, Cal g t → PileCls cls C t) :
    ∀ (s : Stmt), pileStatic cls C s = true → ∀ c tr o c', sem Cal s c tr o c' →
      PileCls cls C tr
  | .skip, _, _, _, _, _, h | .setFlag _ _, _, _, _, _, _, h | .ret _, _, _, _, _, _, h
  | .brk, _, _, _, _, _, h | .cont, _, _, _, _, _, h | .panic, _, _, _, _, _, h
  | .mark _ _, _, _, _, _, _, h => by simp only [sem] at h; rw [h.1]; exact pileCls_nil
  | .acq _, _, _, _, _, _, h | .rel _, _, _, _, _, _, h | .need _, _, _, _, _, _, h => by
    simp only [sem] at h; rw [h.1]; exact pileCls_single (fun _ _ e => by cases e)
  | .pileLock p l, hs, _, _, _, _, h => by
    simp only [sem] at h; rw [h.1]
    refine pileCls_single (fun _ _ e => ?_)
    cases e
    simpa [pileStatic] using hs
  | .pileUnlock p l, _, c, _, _, _, h => by
    simp only [sem] at h
    split at h
    · rw [h.1]; exact pileCls_single (fun _ _ e => by cases e)
    · rw [h.1]; exact pileCls_nil
  | .pileUnlockAll p, _, c, _, _, _, h => by
    simp only [sem] at h; rw [h.1]; exact pileCls_prels p _
  | .call g ren, hs, _, _, _, _, h => by
    simp only [sem] at h
    obtain ⟨t, hc, rfl, _⟩ := h
    exact pileCls_rn (by simpa [pileStatic] using hs) (hC g t hc)
  | .seq a b, hs, _, _, _, _, h => by
    simp only [pileStatic, Bool.and_eq_true] at hs
    simp only [sem] at h
    rcases h with ⟨c1, t1, t2, ha, hb, rfl⟩ | ⟨_, ha⟩
    · exact pileCls_append (sem_pileCls hC a hs.1 _ _ _ _ ha) (sem_pileCls hC b hs.2 _ _ _ _ hb)
    · exact sem_pileCls hC a hs.1 _ _ _ _ ha
  | .choice _ a b, hs, _, _, _, _, h => by
    simp only [pileStatic, Bool.and_eq_true] at hs
    simp only [sem] at h
    rcases h with ha | hb
    · exact sem_pileCls hC a hs.1 _ _ _ _ ha
    · exact sem_pileCls hC b hs.2 _ _ _ _ hb
  | .loop ce body, hs, _, _, _, _, h => by
    simp only [pileStatic] at hs
    simp only [sem] at h
    obtain ⟨n, hi⟩ := h
    exact iter_pileCls (fun c tr o c' hb => sem_pileCls hC body hs c tr o c' hb) n _ _ _ _ hi
  | .fin body d, hs, _, _, _, _, h => by
    simp only [pileStatic, Bool.and_eq_true] at hs
    simp only [sem] at h
    obtain ⟨c1, t1, o1, hb, hrest⟩ := h
    have h1 := sem_pileCls hC body hs.1 _ _ _ _ hb
    rcases hrest with ⟨_, rfl, _⟩ | ⟨_, t2, o2, hd, rfl, _⟩
    · exact h1
    · exact pileCls_append h1 (sem_pileCls hC d hs.2 _ _ _ _ hd)
  | .scope a, hs, _, _, _, _, h => by
    simp only [pileStatic] at hs
    simp only [sem] at h
    obtain ⟨o1, ha, _⟩ := h
    exact sem_pileCls hC a hs _ _ _ _ ha
  | .block a, hs, _, _, _, _, h => by
    simp only [pileStatic] at hs
    simp only [sem] at h
    obtain ⟨o1, ha, _⟩ := h
    exact sem_pileCls hC a hs _ _ _ _ ha
  | .ifFlag v a b, hs, c, _, _, _, h => by
    simp only [pileStatic, Bool.and_eq_true] at hs
    simp only [sem] at h
    split at h
    · exact sem_pileCls hC a hs.1 _ _ _ _ h
    · exact sem_pileCls hC b hs.2 _ _ _ _ h
  | .unsupported _, hs, _, _, _, _, _ => by simp [pileStatic] at hs

theorem fnSem_pileCls {prog : Prog} (hp : pileStaticOk cls C prog = true) :
    ∀ (n f : Nat) (tr : List Ev), fnSem prog n f tr → PileCls cls C tr
  | 0, _, _, h => by cases h
  | n + 1, f, tr, h => by
    obtain ⟨body, hm, o, c', hs, _⟩ := fnSem_body h
    unfold pileStaticOk at hp
    have hst := List.all_eq_true.mp hp _ hm
    exact sem_pileCls (fun g t hg => fnSem_pileCls hp n g t hg) body hst _ _ _ _ hs

/-- **From statements to events.** In a program all of whose bodies are `pileStatic cls C`,
every `pacq p l` event of every returning run of every function has `clsOf cls l = C`;
in particular all locks a run takes through piles have one class. -/
theorem pile_events_class {prog : Prog} (hp : pileStaticOk cls C prog = true)
    (f : Nat) (tr : List Ev) (he : Exec prog f tr) : PileCls cls C tr := by
  obtain ⟨n, hn⟩ := he
  exact fnSem_pileCls hp n f tr hn

theorem pile_events_one_class {prog : Prog} (hp : pileStaticOk cls C prog = true)
    (f : Nat) (tr : List Ev) (he : Exec prog f tr) :
    ∀ p l l', Ev.pacq p l ∈ tr → Ev.pacq p l' ∈ tr → clsOf cls l = clsOf cls l' := by
  intro p l l' h1 h2
  rw [pile_events_class hp f tr he p l h1, pile_events_class hp f tr he p l' h2]

theorem stmtPileLocks_class : ∀ (s : Stmt), pileStatic cls C s = true →
    ∀ a ∈ stmtPileLocks s, clsOf cls a.2 = C := by
  intro s
  induction s with
  | pileLock p l =>
    intro h a ha
    cases List.mem_singleton.mp ha
    simpa [pileStatic] using h
  | seq x y ix iy | choice _ x y ix iy | fin x y ix iy | ifFlag _ x y ix iy =>
    intro h a ha
    simp only [pileStatic, Bool.and_eq_true] at h
    exact (List.mem_append.mp ha).elim (ix h.1 a) (iy h.2 a)
  | loop _ x ix | scope x ix | block x ix => exact ix
  | _ => intro _ a ha; cases ha

/-- The static obligation implies the pairwise one. -/
theorem pileClassesOk_of_static {prog : Prog} (hp : pileStaticOk cls C prog = true) :
    pileClassesOk cls prog = true := by
  have hC : ∀ a ∈ prog.flatMap (fun fb => stmtPileLocks fb.2), clsOf cls a.2 = C := by
    intro a ha
    obtain ⟨fb, hfb, hm⟩ := List.mem_flatMap.mp ha
    exact stmtPileLocks_class fb.2 (List.all_eq_true.mp hp fb hfb) a hm
  simp only [pileClassesOk, List.all_eq_true, beq_iff_eq]
  intro a ha b hb
  rw [hC a ha, hC b hb]

end
end BbRe.Lemmas.LockSkelConc
