import BbRe.Lemmas.SchedTreeLinkDefs
/-!
How the bags computed from the state change when one task entry or one worker's extras are replaced.
-/
namespace BbRe.Lemmas.SchedTree
open BbRe.Sched BbRe.SchedTree BbRe.Lemmas.SchedInv

theorem flatMap_congr' {α β} {l : List α} {f g : α → List β} (h : ∀ a ∈ l, f a = g a) : l.flatMap f = l.flatMap g := by
  induction l with
  | nil => rfl
  | cons a t ih =>
    simp only [List.flatMap_cons]
    rw [h a List.mem_cons_self, ih (fun b hb => h b (List.mem_cons_of_mem _ hb))]

theorem bagE_def (ts : TState) : bagE ts = ts.s.tasks.flatMap (fun kt => conE ts.ox kt.2) := rfl
theorem bagQ_def (ts : TState) : bagQ ts = ts.s.tasks.flatMap (fun kt => conQ ts.ox kt.2) := rfl
theorem bagI_def (ts : TState) : bagI ts = ts.wx.flatMap conI := rfl
theorem bagP_def (ts : TState) : bagP ts = ts.wx.flatMap conP := rfl

/-- replacing the entry of task `t0` by `t1` (same id) -/
theorem bagE_setTask (ts : TState) (s' : State) (t0 t1 : Task) (ox' : List (Nat × OX))
    (h0 : alookup t1.id ts.s.tasks = some t0) (hs : s'.tasks = aset t1.id t1 ts.s.tasks)
    (hox : ∀ kt ∈ ts.s.tasks, conE ox' kt.2 = conE ts.ox kt.2) (ts' : TState) (hts : ts'.s = s') (hox' : ts'.ox = ox') :
    (bagE ts ++ conE ox' t1).Perm (bagE ts' ++ conE ts.ox t0) := by
  rw [bagE_def, bagE_def, hts, hs, hox']
  have e : ts.s.tasks.flatMap (fun kt => conE ts.ox kt.2) = ts.s.tasks.flatMap (fun kt => conE ox' kt.2) := by
    apply flatMap_congr'; intro kt hkt; exact (hox kt hkt).symm
  rw [e]
  have := flatMap_aset_some (fun kt : Nat × Task => conE ox' kt.2) t1.id t1 ts.s.tasks t0 h0
  simp only [] at this
  rw [← hox (t1.id, t0) (mem_of_alookup h0)]
  exact this

theorem bagQ_setTask (ts : TState) (s' : State) (t0 t1 : Task) (ox' : List (Nat × OX))
    (h0 : alookup t1.id ts.s.tasks = some t0) (hs : s'.tasks = aset t1.id t1 ts.s.tasks)
    (hox : ∀ kt ∈ ts.s.tasks, conQ ox' kt.2 = conQ ts.ox kt.2) (ts' : TState) (hts : ts'.s = s') (hox' : ts'.ox = ox') :
    (bagQ ts ++ conQ ox' t1).Perm (bagQ ts' ++ conQ ts.ox t0) := by
  rw [bagQ_def, bagQ_def, hts, hs, hox']
  have e : ts.s.tasks.flatMap (fun kt => conQ ts.ox kt.2) = ts.s.tasks.flatMap (fun kt => conQ ox' kt.2) := by
    apply flatMap_congr'; intro kt hkt; exact (hox kt hkt).symm
  rw [e]
  have := flatMap_aset_some (fun kt : Nat × Task => conQ ox' kt.2) t1.id t1 ts.s.tasks t0 h0
  simp only [] at this
  rw [← hox (t1.id, t0) (mem_of_alookup h0)]
  exact this

/-- a new task entry -/
theorem bagE_newTask (ts : TState) (s' : State) (t1 : Task) (ox' : List (Nat × OX))
    (h0 : alookup t1.id ts.s.tasks = none) (hs : s'.tasks = aset t1.id t1 ts.s.tasks)
    (hox : ∀ kt ∈ ts.s.tasks, conE ox' kt.2 = conE ts.ox kt.2) (ts' : TState) (hts : ts'.s = s') (hox' : ts'.ox = ox') :
    bagE ts' = bagE ts ++ conE ox' t1 := by
  rw [bagE_def, bagE_def, hts, hs, hox', flatMap_aset_none _ _ _ _ h0]
  congr 1
  apply flatMap_congr'; intro kt hkt; exact hox kt hkt

theorem bagQ_newTask (ts : TState) (s' : State) (t1 : Task) (ox' : List (Nat × OX))
    (h0 : alookup t1.id ts.s.tasks = none) (hs : s'.tasks = aset t1.id t1 ts.s.tasks)
    (hox : ∀ kt ∈ ts.s.tasks, conQ ox' kt.2 = conQ ts.ox kt.2) (ts' : TState) (hts : ts'.s = s') (hox' : ts'.ox = ox') :
    bagQ ts' = bagQ ts ++ conQ ox' t1 := by
  rw [bagQ_def, bagQ_def, hts, hs, hox', flatMap_aset_none _ _ _ _ h0]
  congr 1
  apply flatMap_congr'; intro kt hkt; exact hox kt hkt

/-- replacing the extras of one worker -/
theorem bagI_setWX (wx : List WX) (q : ScqId) (w : WId) (g : WX → WX) (hg : ∀ x, wxkey (g x) = wxkey x)
    (hnd : (wx.map wxkey).Nodup) (x0 : WX) (h0 : wx.find? (fun x => x.scq = q ∧ x.id = w) = some x0) :
    (wx.flatMap conI ++ conI (g x0)).Perm ((setWX wx q w g).flatMap conI ++ conI x0) :=
  flatMap_setWX conI q w g hg wx hnd x0 h0

theorem bagP_setWX (wx : List WX) (q : ScqId) (w : WId) (g : WX → WX) (hg : ∀ x, wxkey (g x) = wxkey x)
    (hnd : (wx.map wxkey).Nodup) (x0 : WX) (h0 : wx.find? (fun x => x.scq = q ∧ x.id = w) = some x0) :
    (wx.flatMap conP ++ conP (g x0)).Perm ((setWX wx q w g).flatMap conP ++ conP x0) :=
  flatMap_setWX conP q w g hg wx hnd x0 h0

/-- every parked worker is parked at its last invocation (the `pi` clause is structural) -/
theorem conP_sub_conI (x : WX) : ∀ c ∈ conP x, (c.1, c.2.1) ∈ conI x := by
  intro c hc
  unfold conP at hc
  unfold conI
  split at hc
  · cases hl : x.last with
    | none => rw [hl] at hc; cases hc
    | some p => rw [hl] at hc; simp at hc; subst hc; simp
  · cases hc

theorem bagP_sub_bagI (wx : List WX) : ∀ c ∈ wx.flatMap conP, (c.1, c.2.1) ∈ wx.flatMap conI := by
  intro c hc
  obtain ⟨x, hx, hcx⟩ := List.mem_flatMap.mp hc
  exact List.mem_flatMap.mpr ⟨x, hx, conP_sub_conI x c hcx⟩

/-- two updates of the same worker's extras compose -/
theorem setWX_setWX (l : List WX) (q : ScqId) (w : WId) (g1 g2 : WX → WX) (hg : ∀ x, wxkey (g1 x) = wxkey x) :
    setWX (setWX l q w g1) q w g2 = setWX l q w (fun x => g2 (g1 x)) := by
  unfold setWX
  rw [List.map_map]
  apply List.map_congr_left
  intro x _
  simp only [Function.comp]
  by_cases hx : x.scq = q ∧ x.id = w
  · have := hg x
    simp only [wxkey, Prod.mk.injEq] at this
    simp [hx, this.1, this.2]
  · simp [hx]

/-- removing an element that a permutation puts last -/
theorem perm_erase_of_append {α} [BEq α] [LawfulBEq α] {l l' : List α} {c : α} (h : l.Perm (l' ++ [c])) :
    (l.erase c).Perm l' := by
  have h1 : (l.erase c).Perm ((l' ++ [c]).erase c) := h.erase c
  have h2 : (l' ++ [c]).Perm (c :: l') := List.perm_append_comm
  have h3 : ((l' ++ [c]).erase c).Perm ((c :: l').erase c) := h2.erase c
  rw [List.erase_cons_head] at h3
  exact h1.trans h3

/-! ### membership in a bag from a task entry -/

theorem mem_bagE_of_task {ts : TState} {t : Task} {q0 : ScqId} {w : WId} (ht : alookup t.id ts.s.tasks = some t)
    (hw : t.worker = some (q0, w)) {o : Nat} (ho : o ∈ t.ops) : (t.scq, ts.invOf o, some w) ∈ bagE ts := by
  rw [bagE_def]
  refine List.mem_flatMap.mpr ⟨(t.id, t), mem_of_alookup ht, ?_⟩
  unfold conE
  rw [hw]
  exact List.mem_map.mpr ⟨o, ho, rfl⟩

theorem mem_bagQ_of_task {ts : TState} {t : Task} (ht : alookup t.id ts.s.tasks = some t)
    (hq : t.queued = true) {o : Nat} (ho : o ∈ t.ops) : (t.scq, ts.invOf o, o) ∈ bagQ ts := by
  rw [bagQ_def]
  refine List.mem_flatMap.mpr ⟨(t.id, t), mem_of_alookup ht, ?_⟩
  unfold conQ
  rw [hq]
  exact List.mem_map.mpr ⟨o, ho, rfl⟩

theorem conQ_queued' (ox : List (Nat × OX)) (t : Task) (h : t.queued = true) :
    conQ ox t = t.ops.map (fun o => (t.scq, (match alookup o ox with | some y => y.inv | none => []), o)) := by
  unfold conQ; rw [if_pos h]; rfl

theorem conE_worker (ox : List (Nat × OX)) (t : Task) (q0 : ScqId) (w : WId) (h : t.worker = some (q0, w)) :
    conE ox t = t.ops.map (fun o => (t.scq, (match alookup o ox with | some y => y.inv | none => []), some w)) := by
  unfold conE; rw [h]; rfl

/-! ### a duplicate-free list with the same members (the queued bag only matters up to membership) -/

def ddup {α} [DecidableEq α] : List α → List α
  | [] => []
  | a :: l => if a ∈ ddup l then ddup l else a :: ddup l

theorem mem_ddup {α} [DecidableEq α] (a : α) : ∀ l : List α, a ∈ ddup l ↔ a ∈ l
  | [] => by simp [ddup]
  | b :: l => by
    unfold ddup
    have ih := mem_ddup a l
    by_cases hb : b ∈ ddup l
    · rw [if_pos hb, ih, List.mem_cons]
      constructor
      · exact Or.inr
      · rintro (e | e)
        · subst e; exact (mem_ddup a l).mp hb
        · exact e
    · rw [if_neg hb, List.mem_cons, List.mem_cons, ih]

theorem nodup_ddup {α} [DecidableEq α] : ∀ l : List α, (ddup l).Nodup
  | [] => by simp [ddup]
  | b :: l => by
    unfold ddup
    by_cases hb : b ∈ ddup l
    · rw [if_pos hb]; exact nodup_ddup l
    · rw [if_neg hb]; exact List.nodup_cons.mpr ⟨hb, nodup_ddup l⟩

theorem op?_of_ops {s s' : State} (h : s'.ops = s.ops) :
    ∀ o op', s'.op? o = some op' → ∃ op, s.op? o = some op ∧ op'.inv = op.inv ∧ op'.prio = op.prio := by
  intro o op' ho
  refine ⟨op', ?_, rfl, rfl⟩
  rw [op?_def] at ho ⊢
  rw [← h]; exact ho

/-- the clause `wq` of the coupling after one task record has been replaced -/
theorem Side.wq_aset {ts : TState} (hS : Side ts) {tasks' : List (Nat × Task)} {t1 : Task} {k0 : Nat}
    (hst : tasks' = aset k0 t1 ts.s.tasks) (h1 : ∀ q w, t1.worker = some (q, w) → q = t1.scq) :
    ∀ k t q w, alookup k tasks' = some t → t.worker = some (q, w) → q = t.scq := by
  intro k t q w hk hw
  rw [hst, alookup_aset] at hk
  split at hk
  · cases hk; exact h1 q w hw
  · exact hS.wq k t q w hk hw

end BbRe.Lemmas.SchedTree
