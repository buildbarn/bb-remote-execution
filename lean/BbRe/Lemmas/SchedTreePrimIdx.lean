import BbRe.Lemmas.SchedTreePrimStruct
/-!
`queuedOperations` / `queuedChildren` against the bag `Q` and `idleSynchronizingWorkers` /
`idleSynchronizingWorkersChildren` against the bag `P` are the same index (`Idx`, over the two field accessors
`own`, `kids`), and the loops of `enqueue` / `park` and of `removeQueued` / `dequeue` are the same walk: the
`own` list of the node at `p` is changed, then for every non-root prefix `r ++ [k]` of `p`, longest first, the
`kids` of the node at `r` are adjusted at key `k`.  `Stage … ms r` is the loop invariant when the levels above
`r` are still to be processed: `own` agrees with the new bag everywhere, `kids` agrees with the new bag
except at the pairs (node at `r'`, key `k`) with `r' ++ [k] <+: r`, where it still agrees with the old bag.
-/
namespace BbRe.Lemmas.SchedTree
open BbRe.Sched BbRe.SchedTree

/-! ### paths -/

theorem PrimQueue.ups_concat (p : List Nat) (k : Nat) : ups (p ++ [k]) = (p ++ [k]) :: ups p := by
  unfold ups; rw [prefixes_concat]; simp

namespace PrimPark

theorem lastKey_concat (r : List Nat) (k : Nat) : lastKey (r ++ [k]) = k := by
  simp [lastKey]

theorem concat_prefix_concat {a r : List Nat} {k k0 : Nat} :
    (a ++ [k]) <+: (r ++ [k0]) ↔ (a ++ [k]) <+: r ∨ (a = r ∧ k = k0) := by
  rw [List.prefix_concat_iff]
  constructor
  · rintro (e | e)
    · right
      have h1 := congrArg List.dropLast e
      have h2 := congrArg lastKey e
      simp only [List.dropLast_concat, lastKey_concat] at h1 h2
      exact ⟨h1, h2⟩
    · exact Or.inl e
  · rintro (e | ⟨e1, e2⟩)
    · exact Or.inr e
    · subst e1; subst e2; exact Or.inl rfl

theorem not_concat_prefix_self (r : List Nat) (k : Nat) : ¬ (r ++ [k]) <+: r := by
  intro h
  have := h.length_le
  simp at this
  omega

theorem mem_erase_once {α} [BEq α] [LawfulBEq α] {a : α} {l : List α} (h1 : a ∉ l.erase a) (c : α) :
    c ∈ l.erase a ↔ c ∈ l ∧ c ≠ a := by
  constructor
  · intro hc
    refine ⟨List.mem_of_mem_erase hc, ?_⟩
    intro e; subst e; exact h1 hc
  · rintro ⟨hc, hne⟩
    exact (List.mem_erase_of_ne hne).mpr hc

end PrimPark
open PrimPark

/-- the walk: `step` takes the stage at `r ++ [k]` to the stage at `r` -/
theorem stage_fold {S : List Node → List Nat → Prop} {step : List Node → List Nat → List Node}
    (hstep : ∀ ms r k, S ms (r ++ [k]) → S (step ms (r ++ [k])) r) (p : List Nat) :
    ∀ ms, S ms p → S ((ups p).foldl step ms) [] := by
  induction p using list_snoc_ind with
  | hnil => intro ms hs; exact hs
  | hsnoc r k ih =>
    intro ms hs
    rw [PrimQueue.ups_concat, List.foldl_cons]
    exact ih _ (hstep ms r k hs)

/-- the walk of `stage_fold`, with the frame: the result is the image of `ns` under a map of the class `F` -/
theorem fold_frame {ns : List Node} {F : (Node → Node) → Prop} (hcomp : ∀ g s, F g → F s → F (fun n => s (g n)))
    {S : List Node → List Nat → Prop} {step : List Node → List Nat → List Node}
    (hstep : ∀ ms r k, (∃ g, F g ∧ ms = ns.map g) → S ms (r ++ [k]) →
      (∃ f, F f ∧ step ms (r ++ [k]) = ms.map f) ∧ S (step ms (r ++ [k])) r) (p : List Nat) {ms : List Node}
    (hs : S ms p) (h0 : ∃ g, F g ∧ ms = ns.map g) :
    (∃ g, F g ∧ (ups p).foldl step ms = ns.map g) ∧ S ((ups p).foldl step ms) [] := by
  refine stage_fold (S := fun ms r => (∃ g, F g ∧ ms = ns.map g) ∧ S ms r) ?_ p ms ⟨h0, hs⟩
  rintro ms r k ⟨⟨g, hg, rfl⟩, hs⟩
  obtain ⟨⟨f, hf, e⟩, hs'⟩ := hstep _ r k ⟨g, hg, rfl⟩ hs
  exact ⟨⟨_, hcomp g f hg hf, by rw [e, List.map_map]; rfl⟩, hs'⟩

/-! ### the index and the loop invariant -/

variable {α : Type} {own : Node → List α} {kids : Node → List Nat}

/-- some entry of the bag is at or below `(q, p)` -/
def AtOrBelow (B : List (ScqId × List Nat × α)) (q : ScqId) (p : List Nat) : Prop := ∃ c ∈ B, c.1 = q ∧ p <+: c.2.1

/-- `own n` lists the entries of the bag at `n`, `kids n` the keys of the children at or below which there is one -/
structure Idx (own : Node → List α) (kids : Node → List Nat) (ns : List Node) (B : List (ScqId × List Nat × α)) :
    Prop where
  own : ∀ n ∈ ns, (own n).Nodup ∧ ∀ a, a ∈ own n ↔ (n.scq, n.path, a) ∈ B
  kids : ∀ n ∈ ns, (kids n).Nodup ∧ ∀ k, k ∈ kids n ↔ AtOrBelow B n.scq (n.path ++ [k])

theorem TreeOK.idxQ {X ns E I Q P} (h : TreeOK X ns E I Q P) : Idx Node.qops Node.qkids ns Q := ⟨h.qo, h.qk⟩

theorem TreeOK.idxP {X ns E I Q P} (h : TreeOK X ns E I Q P) : Idx Node.parked Node.ikids ns P := ⟨h.pk, h.ik⟩

/-- State of the walk from `p` up to the root when the levels above `r` are still to be processed: `Bo` / `Bn` =
the bag before / after the change. -/
structure Stage (own : Node → List α) (kids : Node → List Nat) (q : ScqId) (p : List Nat)
    (Bo Bn : List (ScqId × List Nat × α)) (ms : List Node) (r : List Nat) : Prop where
  pre : r <+: p
  own : ∀ m ∈ ms, (own m).Nodup ∧ ∀ a, a ∈ own m ↔ (m.scq, m.path, a) ∈ Bn
  kids : ∀ m ∈ ms, (kids m).Nodup ∧ ∀ k, k ∈ kids m ↔
    AtOrBelow (if m.scq = q ∧ (m.path ++ [k]) <+: r then Bo else Bn) m.scq (m.path ++ [k])

variable {q : ScqId} {p : List Nat} {Bo Bn B : List (ScqId × List Nat × α)} {ns ms : List Node} {r : List Nat} {k0 : Nat}

/-- all levels processed -/
theorem Stage.final (hs : Stage own kids q p Bo Bn ms []) : Idx own kids ms Bn :=
  ⟨hs.own, fun m hm => ⟨(hs.kids m hm).1, fun k => by
    have := (hs.kids m hm).2 k
    rw [if_neg (by simp)] at this
    exact this⟩⟩

/-- before the walk: the node at `(q, p)` has got its new `own` list; the bags differ at `(q, p)` only -/
theorem Stage.init (h : Idx own kids ns Bo) (f : Node → Node) (hk : KeepsKey f) (hkids : ∀ n, kids (f n) = kids n)
    (hoff : ∀ c : ScqId × List Nat × α, ¬ (c.1 = q ∧ c.2.1 = p) → (c ∈ Bn ↔ c ∈ Bo))
    (hon : ∀ n ∈ ns, n.scq = q → n.path = p → (own (f n)).Nodup ∧ ∀ a, a ∈ own (f n) ↔ (q, p, a) ∈ Bn) :
    Stage own kids q p Bo Bn (updNode ns q p f) p := by
  refine ⟨List.prefix_refl p, ?_, ?_⟩
  · intro m' hm'
    obtain ⟨m, hm, rfl⟩ := mem_updNode.mp hm'
    by_cases hat : m.isAt q p = true
    · obtain ⟨e1, e2⟩ := (isAt_iff m q p).mp hat
      rw [if_pos hat, (hk m).1, (hk m).2, e1, e2]; exact hon m hm e1 e2
    · rw [if_neg hat]
      refine ⟨(h.own m hm).1, fun a => ?_⟩
      rw [(h.own m hm).2 a]
      exact (hoff (m.scq, m.path, a) (fun hc => hat ((isAt_iff m q p).mpr hc))).symm
  · intro m' hm'
    obtain ⟨m, hm, rfl⟩ := mem_updNode.mp hm'
    have e : kids (if m.isAt q p = true then f m else m) = kids m ∧
        (if m.isAt q p = true then f m else m).scq = m.scq ∧ (if m.isAt q p = true then f m else m).path = m.path := by
      split
      · exact ⟨hkids m, hk m⟩
      · exact ⟨rfl, rfl, rfl⟩
    rw [e.1, e.2.1, e.2.2]
    refine ⟨(h.kids m hm).1, fun k => ?_⟩
    rw [(h.kids m hm).2 k]
    by_cases hc : m.scq = q ∧ (m.path ++ [k]) <+: p
    · rw [if_pos hc]
    · rw [if_neg hc]
      have hne : ∀ c : ScqId × List Nat × α, c.1 = m.scq ∧ (m.path ++ [k]) <+: c.2.1 → ¬ (c.1 = q ∧ c.2.1 = p) := by
        rintro c ⟨c1, c2⟩ ⟨c3, c4⟩
        exact hc ⟨c1.symm.trans c3, c4 ▸ c2⟩
      constructor
      · rintro ⟨c, hc1, hc2⟩; exact ⟨c, (hoff c (hne c hc2)).mpr hc1, hc2⟩
      · rintro ⟨c, hc1, hc2⟩; exact ⟨c, (hoff c (hne c hc2)).mp hc1, hc2⟩

/-- … when a new entry `a` was appended at `(q, p)` -/
theorem Stage.init_cons (h : Idx own kids ns B) (f : Node → Node) (hk : KeepsKey f) (hkids : ∀ n, kids (f n) = kids n)
    {a : α} (ha : (q, p, a) ∉ B) (hon : ∀ n, own (f n) = own n ++ [a]) :
    Stage own kids q p B ((q, p, a) :: B) (updNode ns q p f) p := by
  refine Stage.init h f hk hkids (fun c hc => ?_) (fun n hn e1 e2 => ?_)
  · exact ⟨fun hm => (List.mem_cons.mp hm).resolve_left (fun e => hc (by subst e; exact ⟨rfl, rfl⟩)),
      List.mem_cons_of_mem _⟩
  · have hl := h.own n hn
    rw [e1, e2] at hl
    rw [hon]
    refine ⟨List.nodup_append.mpr ⟨hl.1, by simp, fun x hx b hb e => ?_⟩, fun x => ?_⟩
    · simp only [List.mem_singleton] at hb; subst hb; subst e; exact ha ((hl.2 x).mp hx)
    · simp only [List.mem_append, List.mem_cons, List.not_mem_nil, or_false, Prod.mk.injEq, true_and, hl.2 x]
      exact Or.comm

/-- … when the only entry `a` at `(q, p)` with that value was removed -/
theorem Stage.init_erase [BEq (ScqId × List Nat × α)] [LawfulBEq (ScqId × List Nat × α)] (h : Idx own kids ns B)
    (f : Node → Node) (hk : KeepsKey f) (hkids : ∀ n, kids (f n) = kids n) {a : α}
    (ha : (q, p, a) ∉ B.erase (q, p, a))
    (hon : ∀ n, (own n).Nodup → (own (f n)).Nodup ∧ ∀ x, x ∈ own (f n) ↔ x ∈ own n ∧ x ≠ a) :
    Stage own kids q p B (B.erase (q, p, a)) (updNode ns q p f) p := by
  have hmem := mem_erase_once ha
  refine Stage.init h f hk hkids (fun c hc => ?_) (fun n hn e1 e2 => ?_)
  · rw [hmem]; exact ⟨fun x => x.1, fun hx => ⟨hx, fun e => hc (by subst e; exact ⟨rfl, rfl⟩)⟩⟩
  · have hl := h.own n hn
    rw [e1, e2] at hl
    obtain ⟨s1, s2⟩ := hon n hl.1
    refine ⟨s1, fun x => ?_⟩
    rw [s2, hmem, hl.2 x]
    simp only [ne_eq, Prod.mk.injEq, true_and]

/-- one level: a key-preserving map `f` gives the node at `r` new `kids` that are right at key `k0` for the new bag
and unchanged at all other keys -/
theorem Stage.step (hs : Stage own kids q p Bo Bn ms (r ++ [k0])) (f : Node → Node) (hk : KeepsKey f)
    (hown : ∀ n, own (f n) = own n) (hoff : ∀ m ∈ ms, ¬ (m.scq = q ∧ m.path = r) → kids (f m) = kids m)
    (hat : ∀ m ∈ ms, m.scq = q → m.path = r → (kids (f m)).Nodup ∧
      (∀ k, k ≠ k0 → (k ∈ kids (f m) ↔ k ∈ kids m)) ∧ (k0 ∈ kids (f m) ↔ AtOrBelow Bn q (r ++ [k0]))) :
    Stage own kids q p Bo Bn (ms.map f) r := by
  refine ⟨(List.prefix_append r [k0]).trans hs.pre, ?_, ?_⟩
  · intro m' hm'
    obtain ⟨m, hm, rfl⟩ := List.mem_map.mp hm'
    rw [hown, (hk m).1, (hk m).2]; exact hs.own m hm
  · intro m' hm'
    obtain ⟨m, hm, rfl⟩ := List.mem_map.mp hm'
    have hkk := hs.kids m hm
    rw [(hk m).1, (hk m).2]
    by_cases hmr : m.scq = q ∧ m.path = r
    · obtain ⟨hq, hp⟩ := hmr
      obtain ⟨f1, f2, f3⟩ := hat m hm hq hp
      refine ⟨f1, fun k => ?_⟩
      rw [hp, hq, if_neg (fun x => not_concat_prefix_self r k x.2)]
      by_cases hkk0 : k = k0
      · subst hkk0; exact f3
      · rw [f2 k hkk0, hkk.2 k, hp, hq, if_neg]
        rintro ⟨_, x⟩
        rcases concat_prefix_concat.mp x with x | x
        · exact not_concat_prefix_self r k x
        · exact hkk0 x.2
    · rw [hoff m hm hmr]
      refine ⟨hkk.1, fun k => ?_⟩
      have hcond : (m.scq = q ∧ (m.path ++ [k]) <+: r ++ [k0]) ↔ (m.scq = q ∧ (m.path ++ [k]) <+: r) := by
        constructor
        · rintro ⟨h1, h2⟩
          rcases concat_prefix_concat.mp h2 with x | x
          · exact ⟨h1, x⟩
          · exact absurd ⟨h1, x.1⟩ hmr
        · rintro ⟨h1, h2⟩
          exact ⟨h1, concat_prefix_concat.mpr (Or.inl h2)⟩
      have := hkk.2 k
      by_cases hc : (m.scq = q ∧ (m.path ++ [k]) <+: r)
      · rw [if_pos hc]; rw [if_pos (hcond.mpr hc)] at this; exact this
      · rw [if_neg hc]; rw [if_neg (fun x => hc (hcond.mp x))] at this; exact this

/-- … when only the node at `r` is touched -/
theorem Stage.step_upd (hs : Stage own kids q p Bo Bn ms (r ++ [k0])) (f : Node → Node) (hk : KeepsKey f)
    (hown : ∀ n, own (f n) = own n)
    (hat : ∀ m ∈ ms, m.scq = q → m.path = r → (kids (f m)).Nodup ∧
      (∀ k, k ≠ k0 → (k ∈ kids (f m) ↔ k ∈ kids m)) ∧ (k0 ∈ kids (f m) ↔ AtOrBelow Bn q (r ++ [k0]))) :
    Stage own kids q p Bo Bn (updNode ms q r f) r := by
  rw [updNode_eq_map]
  refine hs.step _ (keepsKey_ite hk) (fun n => ?_) (fun m _ hmr => ?_) (fun m hm hq hp => ?_)
  · split
    · exact hown n
    · rfl
  · rw [if_neg (fun x => hmr ((isAt_iff m q r).mp x))]
  · rw [if_pos ((isAt_iff m q r).mpr ⟨hq, hp⟩)]; exact hat m hm hq hp

/-- in the stage at `r`, the node at `r` has neither own entries nor `kids` iff nothing of the new bag is at or
below it -/
theorem Stage.dead_iff (hs : Stage own kids q p Bo Bn ms r) {i : Node} (hi : i ∈ ms) (hq : i.scq = q) (hp : i.path = r) :
    ((own i).isEmpty && (kids i).isEmpty) = true ↔ ¬ AtOrBelow Bn q r := by
  have hpk := hs.own i hi
  have hik : ∀ k, k ∈ kids i ↔ AtOrBelow Bn q (r ++ [k]) := by
    intro k
    have := (hs.kids i hi).2 k
    rw [hp, hq, if_neg (fun x => not_concat_prefix_self r k x.2)] at this
    exact this
  rw [hq, hp] at hpk
  simp only [Bool.and_eq_true, List.isEmpty_iff]
  constructor
  · rintro ⟨e1, e2⟩ ⟨c, hc, c1, c2⟩
    obtain ⟨t, ht⟩ := c2
    cases t with
    | nil =>
      have e : c.2.1 = r := by simpa using ht.symm
      have : c.2.2 ∈ own i := (hpk.2 c.2.2).mpr (by rw [← c1, ← e]; exact hc)
      rw [e1] at this; cases this
    | cons k t' =>
      have : k ∈ kids i := (hik k).mpr ⟨c, hc, c1, ⟨t', by rw [← ht]; simp⟩⟩
      rw [e2] at this; cases this
  · intro hd
    constructor
    · apply List.eq_nil_iff_forall_not_mem.mpr
      intro x hx
      exact hd ⟨(q, r, x), (hpk.2 x).mp hx, rfl, List.prefix_refl _⟩
    · apply List.eq_nil_iff_forall_not_mem.mpr
      intro k hk
      obtain ⟨c, hc, c1, c2⟩ := (hik k).mp hk
      exact hd ⟨c, hc, c1, (List.prefix_append r [k]).trans c2⟩

/-! What a loop does to the `kids` of the parent at key `k0`: insert it when something is below, erase it when
nothing is, and leave it when something still is (the new bag being part of the old one). -/

theorem Stage.hat_insk (hs : Stage own kids q p Bo Bn ms (r ++ [k0])) (hb : AtOrBelow Bn q p) {m : Node} (hm : m ∈ ms) :
    (insk k0 (kids m)).Nodup ∧ (∀ k, k ≠ k0 → (k ∈ insk k0 (kids m) ↔ k ∈ kids m)) ∧
      (k0 ∈ insk k0 (kids m) ↔ AtOrBelow Bn q (r ++ [k0])) := by
  refine ⟨nodup_insk (hs.kids m hm).1, fun k hkk => ?_, ?_⟩
  · rw [mem_insk]; exact ⟨fun e => e.resolve_left hkk, Or.inr⟩
  · obtain ⟨c, hc, c1, c2⟩ := hb
    exact ⟨fun _ => ⟨c, hc, c1, hs.pre.trans c2⟩, fun _ => mem_insk.mpr (Or.inl rfl)⟩

theorem Stage.hat_erase (hs : Stage own kids q p Bo Bn ms (r ++ [k0])) (hd : ¬ AtOrBelow Bn q (r ++ [k0])) {m : Node}
    (hm : m ∈ ms) :
    ((kids m).erase k0).Nodup ∧ (∀ k, k ≠ k0 → (k ∈ (kids m).erase k0 ↔ k ∈ kids m)) ∧
      (k0 ∈ (kids m).erase k0 ↔ AtOrBelow Bn q (r ++ [k0])) := by
  have hk := hs.kids m hm
  exact ⟨hk.1.erase k0, fun k hkk => List.mem_erase_of_ne hkk,
    fun hx => absurd rfl ((List.Nodup.mem_erase_iff hk.1).mp hx).1, fun hx => absurd hx hd⟩

theorem Stage.hat_keep (hs : Stage own kids q p Bo Bn ms (r ++ [k0])) (hsub : ∀ c ∈ Bn, c ∈ Bo)
    (hd : AtOrBelow Bn q (r ++ [k0])) {m : Node} (hm : m ∈ ms) (hq : m.scq = q) (hp : m.path = r) :
    (kids m).Nodup ∧ (∀ k, k ≠ k0 → (k ∈ kids m ↔ k ∈ kids m)) ∧ (k0 ∈ kids m ↔ AtOrBelow Bn q (r ++ [k0])) := by
  have hk := hs.kids m hm
  refine ⟨hk.1, fun k _ => Iff.rfl, fun _ => hd, fun _ => ?_⟩
  have hk0 := hk.2 k0
  rw [if_pos ⟨hq, by rw [hp]; exact List.prefix_refl _⟩, hq, hp] at hk0
  obtain ⟨c, c1, c2⟩ := hd
  exact hk0.mpr ⟨c, hsub c c1, c2⟩

end BbRe.Lemmas.SchedTree
