import BbRe.Lemmas.SchedLiveQuiesceRun
/-!
**Quiescence** (C06): after `quiesce` nothing created on behalf of clients or
workers is left.
-/
namespace BbRe.Lemmas.SchedLive
open BbRe.Sched

/-- nothing is left but predeclared queues and their queued background-learning tasks -/
structure Quiescent (s : State) : Prop where
  workers : s.workers = []
  streams : s.streams = []
  terms : s.terms = []
  cleanup : s.cleanup = []
  dedup : s.dedup = []
  queues : ∀ q sq, s.scq? q = some sq → sq.mayBeRemoved = false
  ops : ∀ o op, s.op? o = some op → op.mayExistWithoutWaiters = true ∧ op.waiters = 0
  tasks : ∀ k t, s.task? k = some t → t.background = true ∧ t.response = none ∧ t.worker = none ∧ t.queued = true
  opTask : ∀ o op, s.op? o = some op → ∃ t, s.task? op.task = some t ∧ o ∈ t.ops

theorem filter_notMem_map {α β} [DecidableEq β] (l : List α) (f : α → β) :
    l.filter (fun x => f x ∉ l.map f) = [] := by
  rw [List.filter_eq_nil_iff]
  intro x hx; simp only [decide_eq_true_eq, Classical.not_not]; exact List.mem_map.2 ⟨x, hx, rfl⟩

/-- a reachable state without streams, terms, cleanup entries and with all workers outside `Synchronize`
is quiescent, provided the waiter counts are exact -/
theorem quiescent_of_empty {s : State} (hq : QS s) (hst : s.streams = []) (htm : s.terms = [])
    (hcl : s.cleanup = []) (hws : ∀ wk ∈ s.workers, wk.inSync = false) : Quiescent s := by
  have hc := cinv_reachable hq.reach
  have hI := BbRe.Lemmas.SchedInv.inv_reachable hq.reach
  have hb := bgInv_reachable hq.reach
  have hno : ∀ k, ¬ hasK s k := by intro k ⟨e, he, _⟩; rw [hcl] at he; cases he
  have hw : s.workers = [] := by
    cases hl : s.workers with
    | nil => rfl
    | cons a r =>
      have hm : a ∈ s.workers := by rw [hl]; exact List.mem_cons_self ..
      exact absurd (hc.wOut a hm (hws a hm) (by simp [noEx])) (hno _)
  have hcnt : ∀ o, cnt s o = 0 := by intro o; unfold cnt; rw [hst]; rfl
  have hops : ∀ o op, s.op? o = some op → op.mayExistWithoutWaiters = true ∧ op.waiters = 0 := by
    intro o op e
    have hw0 : op.waiters = 0 := by rw [hq.weq o op e, hcnt]
    refine ⟨?_, hw0⟩
    cases hm : op.mayExistWithoutWaiters with
    | true => rfl
    | false =>
      rcases hc.opFg o op e hm (by simp [noEx]) with h | h
      · omega
      · exact absurd h (hno _)
  have htasks : ∀ k t, s.task? k = some t → t.background = true ∧ t.response = none ∧ t.worker = none ∧ t.queued = true := by
    intro k t ht
    -- the task has an operation, which is a background operation
    obtain ⟨hnd, hne⟩ := hI.oinv.o3 k t ht
    obtain ⟨o, ho⟩ := List.exists_mem_of_ne_nil _ hne
    obtain ⟨_, hex⟩ := hI.oinv.o2 k t o ht ho
    rcases hex with hf | ⟨op, hop, htk⟩
    · exact absurd hf (fun h => h)
    · obtain ⟨hm, _⟩ := hops o op hop
      have hbg := hb o op hop hm t (by rw [htk]; exact ht)
      obtain ⟨t', ht', hr'⟩ := hc.opBg o op hop hm
      rw [htk, ht] at ht'; injection ht' with ht'; subst ht'
      have hwn : t.worker = none := by
        cases hwk : t.worker with
        | none => rfl
        | some qw =>
          obtain ⟨q, w⟩ := qw
          obtain ⟨wk, hf, _⟩ := hI.core.p2 k t q w ht hwk
          rw [hw] at hf; simp [BbRe.Lemmas.SchedInv.wfind] at hf
      refine ⟨hbg, hr', hwn, ?_⟩
      rcases hI.core.q2 k t ht hr' with h | h | h
      · exact h
      · rw [hwn] at h; cases h
      · exact absurd h (fun h => h)
  refine ⟨hw, hst, htm, hcl, ?_, ?_, hops, htasks, hc.opT⟩
  · -- a deduplication entry would name a foreground task
    cases hd : s.dedup with
    | nil => rfl
    | cons p r =>
      obtain ⟨dk, k⟩ := p
      have hl : alookup dk s.dedup = some k := by rw [hd]; simp [alookup]
      obtain ⟨t, ht, _, _, _, hbg⟩ := hI.core.d1 dk k hl
      have := (htasks k t ht).1
      rw [hbg] at this; cases this
  · intro q sq e
    cases hm : sq.mayBeRemoved with
    | false => rfl
    | true =>
      rcases hc.scqW q sq e hm (by simp [noEx]) with ⟨wk, hmw, _⟩ | h
      · rw [hw] at hmw; cases hmw
      · exact absurd h (hno _)

/-- **quiescence.**  From every reachable state with exact waiter counts, `quiesce` reaches a reachable,
quiescent state. -/
theorem quiesce_spec {s : State} (hq : QS s) : Reachable (quiesce s) ∧ Quiescent (quiesce s) := by
  unfold quiesce
  simp only
  -- phase A of `quiesce`: every parked stream is cancelled
  have hqa : QS (run s (cancelSegs s.now (s.streams.map (·.client)))) :=
    qs_run hq _ (usedClients_of_none _ (by intro g hg; obtain ⟨c, _, rfl⟩ := List.mem_map.1 hg; rfl))
  obtain ⟨a1, a2⟩ := cancel_all s.now (s.streams.map (·.client)) s hq.reach rfl
  have hsa : (run s (cancelSegs s.now (s.streams.map (·.client)))).streams = [] := by
    rw [a1]; exact filter_notMem_map s.streams (·.client)
  generalize run s (cancelSegs s.now (s.streams.map (·.client))) = a at hqa hsa
  -- phase B: every worker's blocked `Synchronize` returns
  have hqb : QS (run a (syncSegs a.now (a.workers.map wkey))) :=
    qs_run hqa _ (usedClients_of_none _ (by intro g hg; obtain ⟨c, _, rfl⟩ := List.mem_map.1 hg; rfl))
  obtain ⟨b1, b2, hwb⟩ := sync_all_out hqa.reach
  have hsb : (run a (syncSegs a.now (a.workers.map wkey))).streams = [] := b1.trans hsa
  generalize run a (syncSegs a.now (a.workers.map wkey)) = b at hqb hwb hsb
  -- phase C: every blocked `TerminateWorkers` call returns
  have hqc : QS (run b (termSegs (b.terms.map (·.id)))) :=
    qs_run hqb _ (usedClients_of_none _ (by intro g hg; obtain ⟨c, _, rfl⟩ := List.mem_map.1 hg; rfl))
  obtain ⟨c1, c2, c3, _⟩ := term_all (b.terms.map (·.id)) b
  have htc : (run b (termSegs (b.terms.map (·.id)))).terms = [] := by
    rw [c1]; exact filter_notMem_map b.terms (·.id)
  have hsc : (run b (termSegs (b.terms.map (·.id)))).streams = [] := c2.trans hsb
  have hwc : ∀ wk ∈ (run b (termSegs (b.terms.map (·.id)))).workers, wk.inSync = false := by rw [c3]; exact hwb
  generalize run b (termSegs (b.terms.map (·.id))) = c at hqc htc hsc hwc
  -- phase D: time passes until the cleanup queue is empty
  have d1 := drain_qs (objCount c + 1) c hqc
  obtain ⟨_, d2, d3, d4, d5⟩ := drain_spec (objCount c + 1) c hqc.reach (Nat.lt_succ_self _)
  refine ⟨d1.reach, quiescent_of_empty d1 (d3.trans hsc) (d4.trans htc) d2 ?_⟩
  intro wk hm
  obtain ⟨x, hx, _, e⟩ := d5 wk hm
  rw [← e]; exact hwc x hx

/-- **quiescence along runs with fresh client ids.** -/
theorem quiesce_of_fresh (cfg : Cfg) (gs : List Seg) (hf : FreshClients gs) :
    Reachable (quiesce (run (State.init cfg) gs)) ∧ Quiescent (quiesce (run (State.init cfg) gs)) := by
  obtain ⟨a, b⟩ := weq_of_fresh cfg gs hf
  exact quiesce_spec ⟨reachable_run (Reachable.init cfg) gs, a, b⟩

end BbRe.Lemmas.SchedLive
