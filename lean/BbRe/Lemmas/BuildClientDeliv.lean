import BbRe.Lemmas.BuildClientInv
/-!
The completion of an action is never lost between the executor goroutine and
the request state (`Deliv`), in every reachable state.
-/
namespace BbRe.Lemmas.BuildClient
open BbRe.BuildClient

/-- The completion is never lost: once `Execute` has returned `r`, `Completed r`
is the last message still to be taken off the channel, or everything has been
taken and the request state is `Completed r`; and when the client holds no
execution the request state is `Idle` or a `Completed`. -/
def Deliv (s : State) : Prop :=
  (∀ e r, s.cur = some e → e.returned = some r → (∀ k, s.pc ≠ .drain k) →
    (pending e).getLast? = some ⟨e.digest, .completed r⟩ ∨
    (pending e = [] ∧ s.req = .executing e.digest (.completed r))) ∧
  (s.cur = none → s.req = .idle ∨ ∃ d r, s.req = .executing d (.completed r))

theorem deliv_frame {s s' : State} (h : Deliv s) (h1 : s'.cur = s.cur) (h2 : s'.req = s.req)
    (h3 : (∀ k, s'.pc ≠ .drain k) → ∀ k, s.pc ≠ .drain k) : Deliv s' := by
  refine ⟨?_, ?_⟩
  · intro e r hc hr hk
    rw [h1] at hc; rw [h2]
    exact h.1 e r hc hr (h3 hk)
  · intro hc; rw [h1] at hc; rw [h2]; exact h.2 hc

theorem deliv_finishStop (s : State) (k : DrainFor) (hc : s.cur = none) : Deliv (finishStop s k) := by
  cases k with
  | idle => exact ⟨fun e r h => (nomatch hc ▸ (h : s.cur = some e)), fun _ => .inl rfl⟩
  | start d => exact ⟨fun e r h hr => (by cases h; cases hr), nofun⟩

theorem deliv_stopThen {s : State} (k : DrainFor) : Deliv (stopThen s k) := by
  unfold stopThen
  split
  · exact ⟨fun e r _ _ hk => absurd rfl (hk k), nofun⟩
  · next hc => exact deliv_finishStop s k hc

/-- After the consume loop the request state is `Completed r` if `Execute` had returned `r`. -/
theorem applied_completed {s : State} (h : Deliv s) {e : Exec} {r : Resp} (hc : s.cur = some e)
    (hr : e.returned = some r) (hnd : ∀ k, s.pc ≠ .drain k) :
    applyMsgs s.req (e.buf ++ e.blocked.toList) = .executing e.digest (.completed r) := by
  rw [applyMsgs_eq]
  rcases h.1 e r hc hr hnd with hl | ⟨hp, hq⟩
  · rw [show (e.buf ++ e.blocked.toList).getLast? = _ from hl]
  · rw [show e.buf ++ e.blocked.toList = [] from hp]; exact hq

theorem deliv_consumed {s : State} (hi : Inv s) (h : Deliv s) {e : Exec} {rc : Bool}
    (hpc : s.pc = .select rc) (hc : s.cur = some e) (c : Bool) : Deliv (consumed s e c) := by
  have hnd := nd_of_pc hpc
  have wf := hi.curWF e hc
  unfold consumed
  simp only
  split
  · rename_i hcl
    have hret : e.returned.isSome = true := by
      simp at hcl
      rcases hcl with hcl | hcl
      · exact (wf.closedRet hcl).2
      · exact hcl.2
    obtain ⟨r, hr⟩ := Option.isSome_iff_exists.mp hret
    refine ⟨by intro e' r' h'; simp at h', ?_⟩
    intro _; right
    exact ⟨e.digest, r, by simpa using applied_completed h hc hr hnd⟩
  · refine ⟨?_, by intro h'; simp at h'⟩
    intro e' r' h' hr' _
    simp at h'; subst h'
    simp at hr'
    right
    exact ⟨by simp [pending], by simpa using applied_completed h hc hr' hnd⟩

theorem Step.deliv {s s' : State} (hi : Inv s) (h : Deliv s) (hs : Step s s') : Deliv s' := by
  cases hs with
  | move hnd hm => exact deliv_frame h rfl rfl fun _ => hnd
  | @consume rc e c hpc hc =>
    exact deliv_frame (consumed_frame s e c ▸ deliv_consumed hi h hpc hc c) rfl rfl id
  | record => exact deliv_frame h rfl rfl id
  | stop r _ _ _ k => exact deliv_stopThen k
  | @recv k _ _ _ hpc => exact ⟨fun _ _ _ _ hk => absurd hpc (hk k), nofun⟩
  | drained => exact deliv_finishStop _ _ rfl
  | @emit e u hc hr hb =>
    obtain ⟨b, bl, hp, -⟩ := push_eq ⟨e.digest, .upd u⟩ (hi.curWF e hc).cap hb
    refine ⟨fun e' r' h' hr' => ?_, nofun⟩
    cases h'
    rw [hp] at hr'
    cases hr.symm.trans hr'
  | @finish e r hc hr hb =>
    obtain ⟨b, bl, hp, -, hpend⟩ := push_eq ⟨e.digest, .completed r⟩ (hi.curWF e hc).cap hb
    refine ⟨fun e' r' h' hr' _ => ?_, nofun⟩
    cases h'
    cases hr'
    refine .inl ?_
    rw [hp]
    show (b ++ bl.toList).getLast? = _
    rw [hpend, List.getLast?_concat]
  | @close e hc =>
    refine ⟨fun e' r' h' hr' hk => ?_, nofun⟩
    cases h'
    exact h.1 e r' hc hr' hk
  | _ => exact deliv_frame h rfl rfl id

theorem deliv_reachable (t0 : Nat) (evs : List Ev) : Deliv (run (init t0) evs) :=
  (run_closed (P := fun s => Inv s ∧ Deliv s) (fun _ _ h hs => ⟨hs.inv h.1, hs.deliv h.1 h.2⟩)
    ⟨inv_init t0, fun _ _ h => (nomatch (h : none = some _)), fun _ => .inl rfl⟩ evs).2

end BbRe.Lemmas.BuildClient
