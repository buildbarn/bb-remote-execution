import BbRe.Lemmas.BRLAbs
/-!
# Helper lemmas for C20: "delete or shrink entries" preserves the pairwise part of `WF`
-/
namespace BbRe.Lemmas.BRL
open BbRe.BRL BbRe.Spec.ByteLocks

/-- `e'` is `e` with a possibly smaller range (same start, owner, type). -/
def Shrink (e e' : Lock) : Prop :=
  e'.start = e.start ∧ e'.owner = e.owner ∧ e'.ty = e.ty ∧ e'.stop ≤ e.stop

theorem Shrink.refl (e : Lock) : Shrink e e := ⟨rfl, rfl, rfl, Nat.le_refl _⟩

theorem Rel.shrink {a b a' b' : Lock} (h : Rel a b) (ha : Shrink a a') (hb : Shrink b b') :
    Rel a' b' := by
  unfold Rel Shrink at *
  -- starts, owners and types are equal, and every clause of `Rel` bounds a `stop` from above
  -- (or needs an overlap, which shrinking can only lose)
  grind

/-- `ls'` is obtained from `ls` by deleting entries and shrinking entries. -/
inductive Sub : List Lock → List Lock → Prop
  | nil : Sub [] []
  | drop {e ls ls'} : Sub ls ls' → Sub (e :: ls) ls'
  | keep {e e' ls ls'} : Shrink e e' → Sub ls ls' → Sub (e :: ls) (e' :: ls')

theorem Sub.refl : ∀ ls, Sub ls ls
  | [] => .nil
  | e :: ls => .keep (Shrink.refl e) (Sub.refl ls)

theorem Sub.mem {ls ls' : List Lock} (h : Sub ls ls') : ∀ e' ∈ ls', ∃ e ∈ ls, Shrink e e' := by
  induction h with
  | nil => simp
  | drop _ ih => intro e' he'; obtain ⟨e, he, hs⟩ := ih e' he'; exact ⟨e, by simp [he], hs⟩
  | keep hs _ ih =>
    intro x hx
    simp only [List.mem_cons] at hx
    rcases hx with rfl | hx
    · exact ⟨_, by simp, hs⟩
    · obtain ⟨e, he, hs⟩ := ih x hx; exact ⟨e, by simp [he], hs⟩

theorem Sub.pairwise {ls ls' : List Lock} (h : Sub ls ls') (hp : ls.Pairwise Rel) :
    ls'.Pairwise Rel := by
  induction h with
  | nil => exact hp
  | drop _ ih => exact ih hp.of_cons
  | keep hs hsub ih =>
    rw [List.pairwise_cons] at hp ⊢
    refine ⟨?_, ih hp.2⟩
    intro y' hy'
    obtain ⟨y, hy, hys⟩ := hsub.mem y' hy'
    exact (hp.1 y hy).shrink hs hys

end BbRe.Lemmas.BRL
