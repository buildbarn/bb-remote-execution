import BbRe.Model.Quota
/-! Helper lemmas for `quota_conservation` (`Properties/C15Alloc.lean`). -/
namespace BbRe.Lemmas.Quota
open BbRe.Quota

/-- The conservation invariant of the quota pool, the limits being parameters: no operation changes
them, so a step lemma is `ConservedAt mf mb st → ConservedAt mf mb st'`. -/
structure ConservedAt (mf mb : Nat) (st : State) : Prop where
  maxFiles : st.maxFiles = mf
  maxBytes : st.maxBytes = mb
  files : st.filesRemaining + st.files.length = mf
  bytes : st.bytesRemaining + totalSize st.files = mb

theorem ConservedAt.init (mf mb : Nat) : ConservedAt mf mb (init mf mb) := ⟨rfl, rfl, rfl, rfl⟩

/-- The invariant relative to the state's own limits. -/
def Conserved (st : State) : Prop :=
  st.filesRemaining + st.files.length = st.maxFiles ∧
  st.bytesRemaining + totalSize st.files = st.maxBytes

theorem Conserved.conservedAt {st : State} (h : Conserved st) : ConservedAt st.maxFiles st.maxBytes st :=
  ⟨rfl, rfl, h.1, h.2⟩

theorem ConservedAt.conserved {mf mb : Nat} {st : State} (h : ConservedAt mf mb st) : Conserved st :=
  ⟨h.files.trans h.maxFiles.symm, h.bytes.trans h.maxBytes.symm⟩

theorem totalSize_append (a b : List (Nat × Nat)) : totalSize (a ++ b) = totalSize a + totalSize b := by
  induction a with
  | nil => simp [totalSize]
  | cons x xs ih => obtain ⟨i, s⟩ := x; simp [totalSize, ih]; omega

theorem length_setSize (files : List (Nat × Nat)) (id sz : Nat) :
    (setSize files id sz).length = files.length := by
  induction files with
  | nil => simp [setSize]
  | cons x xs ih =>
    obtain ⟨i, s⟩ := x
    unfold setSize
    split <;> simp [ih]

theorem totalSize_setSize {files : List (Nat × Nat)} {id fsize : Nat} (sz : Nat)
    (h : lookup files id = some fsize) :
    totalSize (setSize files id sz) + fsize = totalSize files + sz := by
  induction files with
  | nil => simp [lookup] at h
  | cons x xs ih =>
    obtain ⟨i, s⟩ := x
    unfold lookup at h
    unfold setSize
    split
    · rename_i hi
      simp [hi] at h
      simp [totalSize]; omega
    · rename_i hi
      simp [hi] at h
      have := ih h
      simp [totalSize]; omega

theorem length_remove {files : List (Nat × Nat)} {id fsize : Nat}
    (h : lookup files id = some fsize) : (remove files id).length + 1 = files.length := by
  induction files with
  | nil => simp [lookup] at h
  | cons x xs ih =>
    obtain ⟨i, s⟩ := x
    unfold lookup at h
    unfold remove
    split
    · simp
    · rename_i hi
      simp [hi] at h
      have := ih h
      simp; omega

theorem totalSize_remove {files : List (Nat × Nat)} {id fsize : Nat}
    (h : lookup files id = some fsize) : totalSize (remove files id) + fsize = totalSize files := by
  induction files with
  | nil => simp [lookup] at h
  | cons x xs ih =>
    obtain ⟨i, s⟩ := x
    unfold lookup at h
    unfold remove
    split
    · rename_i hi
      simp [hi] at h
      simp [totalSize]; omega
    · rename_i hi
      simp [hi] at h
      have := ih h
      simp [totalSize]; omega

/-- A step conserves the quota if it keeps both limits and both sums. -/
theorem ConservedAt.of_sums {mf mb : Nat} {st st' : State} (h : ConservedAt mf mb st)
    (hmf : st'.maxFiles = st.maxFiles) (hmb : st'.maxBytes = st.maxBytes)
    (hf : st'.filesRemaining + st'.files.length = st.filesRemaining + st.files.length)
    (hb : st'.bytesRemaining + totalSize st'.files = st.bytesRemaining + totalSize st.files) :
    ConservedAt mf mb st' :=
  ⟨hmf.trans h.maxFiles, hmb.trans h.maxBytes, hf.trans h.files, hb.trans h.bytes⟩

/-- Resizing file `id` from `fsize` to `sz` and charging the difference. -/
theorem ConservedAt.resize {mf mb : Nat} {st st' : State} {id fsize sz : Nat} (h : ConservedAt mf mb st)
    (hl : lookup st.files id = some fsize) (hfiles : st'.files = setSize st.files id sz)
    (hb : st'.bytesRemaining + sz = st.bytesRemaining + fsize)
    (hfr : st'.filesRemaining = st.filesRemaining)
    (hmf : st'.maxFiles = st.maxFiles) (hmb : st'.maxBytes = st.maxBytes) :
    ConservedAt mf mb st' := by
  have := totalSize_setSize sz hl
  exact h.of_sums hmf hmb (by rw [hfr, hfiles, length_setSize]) (by rw [hfiles]; omega)

theorem newFile_conserved {mf mb : Nat} (st : State) (size : Nat) (baseOk : Bool) (h : ConservedAt mf mb st) :
    ConservedAt mf mb (newFile st size baseOk).1 := by
  unfold newFile
  dsimp only
  by_cases c1 : st.filesRemaining < 1
  · rw [if_pos c1]; exact h
  · rw [if_neg c1]
    by_cases c2 : size > 0 ∧ st.bytesRemaining < size
    · rw [if_pos c2]; exact h.of_sums rfl rfl (by dsimp only; omega) rfl
    · rw [if_neg c2]
      have hlen : (st.files ++ [(st.nextId, size)]).length = st.files.length + 1 := by
        rw [List.length_append]; rfl
      have htot : totalSize (st.files ++ [(st.nextId, size)]) = totalSize st.files + size := by
        rw [totalSize_append]; rfl
      -- `size` bytes are charged in both cases of the inner `if`
      by_cases hb : baseOk = true
      · rw [if_pos hb]
        by_cases hs : size > 0
        · rw [if_pos hs]; exact h.of_sums rfl rfl (by dsimp only; omega) (by dsimp only; omega)
        · rw [if_neg hs]; exact h.of_sums rfl rfl (by dsimp only; omega) (by dsimp only; omega)
      · rw [if_neg hb]
        by_cases hs : size > 0
        · rw [if_pos hs]; exact h.of_sums rfl rfl (by dsimp only; omega) (by dsimp only; omega)
        · rw [if_neg hs]; exact h.of_sums rfl rfl (by dsimp only; omega) (by dsimp only; omega)

theorem truncate_conserved {mf mb : Nat} (st : State) (id fsize : Nat) (size : Int) (baseOk : Bool)
    (hl : lookup st.files id = some fsize) (h : ConservedAt mf mb st) :
    ConservedAt mf mb (truncate st id fsize size baseOk).1 := by
  unfold truncate
  dsimp only
  by_cases c1 : size < 0
  · rw [if_pos c1]; exact h
  · rw [if_neg c1]
    generalize size.toNat = sz
    by_cases c2 : sz < fsize
    · rw [if_pos c2]
      by_cases hb : baseOk = true
      · rw [if_pos hb]; exact h.resize hl rfl (by dsimp only; omega) rfl rfl rfl
      · rw [if_neg hb]; exact h
    · rw [if_neg c2]
      by_cases c3 : sz > fsize
      · rw [if_pos c3]
        by_cases c4 : st.bytesRemaining < sz - fsize
        · rw [if_pos c4]; exact h
        · rw [if_neg c4]
          by_cases hb : baseOk = true
          · rw [if_pos hb]; exact h.resize hl rfl (by dsimp only; omega) rfl rfl rfl
          · rw [if_neg hb]; exact h
      · rw [if_neg c3]; exact h

theorem writeAt_conserved {mf mb : Nat} (st : State) (id fsize : Nat) (off : Int) (len n : Nat) (baseErr : Bool)
    (hl : lookup st.files id = some fsize) (hn : n ≤ len) (h : ConservedAt mf mb st) :
    ConservedAt mf mb (writeAt st id fsize off len n baseErr).1 := by
  unfold writeAt
  dsimp only
  by_cases c1 : off < 0
  · rw [if_pos c1]; exact h
  · rw [if_neg c1]
    generalize off.toNat = o
    by_cases c2 : o + len ≤ fsize
    · rw [if_pos c2]; exact h
    · rw [if_neg c2]
      by_cases c3 : st.bytesRemaining < o + len - fsize
      · rw [if_pos c3]; exact h
      · rw [if_neg c3]
        -- the new size lies between the old one and the size charged for
        generalize hact : (if (if n > 0 then o + n else 0) < fsize then fsize
            else (if n > 0 then o + n else 0)) = actual
        have hbd : fsize ≤ actual ∧ actual ≤ o + len := by
          rw [← hact]; split <;> split <;> omega
        exact h.resize hl rfl (by dsimp only; split <;> omega) rfl rfl rfl

theorem close_conserved {mf mb : Nat} (st : State) (id fsize : Nat) (baseErr : Bool)
    (hl : lookup st.files id = some fsize) (h : ConservedAt mf mb st) :
    ConservedAt mf mb (close st id fsize baseErr).1 := by
  have := length_remove hl
  have := totalSize_remove hl
  exact h.of_sums rfl rfl (by dsimp only [close]; omega) (by dsimp only [close]; omega)

/-! `step` on a file that is open: the operation itself, except for a write that reports more bytes
than it was given. -/

theorem step_truncate {st : State} {id fsize : Nat} (hl : lookup st.files id = some fsize) (size : Int)
    (baseOk : Bool) : step st (.truncate id size baseOk) = some (truncate st id fsize size baseOk) := by
  unfold step; dsimp only; rw [hl]

theorem step_writeAt {st : State} {id fsize : Nat} (hl : lookup st.files id = some fsize) (off : Int)
    (len n : Nat) (baseErr : Bool) :
    step st (.writeAt id off len n baseErr) =
      if n ≤ len then some (writeAt st id fsize off len n baseErr) else none := by
  unfold step; dsimp only; rw [hl]

theorem step_close {st : State} {id fsize : Nat} (hl : lookup st.files id = some fsize) (baseErr : Bool) :
    step st (.close id baseErr) = some (close st id fsize baseErr) := by
  unfold step; dsimp only; rw [hl]

theorem step_conserved {mf mb : Nat} {st : State} {op : Op} {r : State × Out} (hs : step st op = some r)
    (h : ConservedAt mf mb st) : ConservedAt mf mb r.1 := by
  unfold step at hs
  split at hs
  · simp at hs; subst hs; exact newFile_conserved _ _ _ h
  · split at hs
    · rename_i hl; simp at hs; subst hs; exact truncate_conserved _ _ _ _ _ hl h
    · simp at hs
  · split at hs
    · rename_i hl
      split at hs
      · rename_i hn; simp at hs; subst hs; exact writeAt_conserved _ _ _ _ _ _ _ hl hn h
      · simp at hs
    · simp at hs
  · split at hs
    · rename_i hl; simp at hs; subst hs; exact close_conserved _ _ _ _ hl h
    · simp at hs

theorem run_conserved {mf mb : Nat} (ops : List Op) (st : State) (h : ConservedAt mf mb st) :
    ConservedAt mf mb (run st ops) := by
  induction ops generalizing st with
  | nil => exact h
  | cons op rest ih =>
    unfold run
    split
    · rename_i r hs
      exact ih r.1 (step_conserved hs h)
    · exact ih st h

/-- Closing the open files one after the other (any base outcomes) empties the table. -/
theorem run_closeList (errs : Nat → Bool) (st : State) :
    (run st (st.files.map (fun f => Op.close f.1 (errs f.1)))).files = [] := by
  generalize hf : st.files = fs
  induction fs generalizing st with
  | nil => simp [run, hf]
  | cons x xs ih =>
    obtain ⟨i, s⟩ := x
    simp only [List.map_cons, run, step, hf, lookup, if_true]
    apply ih
    simp [close, hf, remove]

end BbRe.Lemmas.Quota
