import BbRe.Lemmas.SchedInvDefs
/-!
What the invariant of `SchedInvDefs` does under the primitive updates of `Model/Sched.lean`:
monotonicity of `Core`/`OInv` in the exemption sets; `Core` under a change of one task, of one
worker, of both, a new task, an erased task, a changed worker list; event counting and `LogInv`
under an event without learner (`NoLearn`) and under a task change; `OInv`/`SInv` under operations
that agree up to `OpsSim`, and under changes of the cleanup list; the invariant and the frame `Fr`
between states that agree on the fields they read (`InvX.of_same`, `Fr.of_same`, `Fr.of_fields`),
under `setTask`, `setWorker`, `emit`, `removeCleanup`.
Also the unfolding lemmas for the lookups and for `>>=` on `Except`, and the tactic `okerr`.
-/
namespace BbRe.Lemmas.SchedInv
open BbRe.Sched

@[simp] theorem task?_def (s : State) (k : Nat) : s.task? k = alookup k s.tasks := rfl
@[simp] theorem op?_def (s : State) (k : Nat) : s.op? k = alookup k s.ops := rfl
@[simp] theorem worker?_def (s : State) (q w) : s.worker? q w = wfind s.workers q w := rfl
theorem setWorker_eq (s : State) (w : Worker) : s.setWorker w = { s with workers := wset s.workers w } := rfl

@[simp] theorem throw_bind' {α β} (e : String) (f : α → M β) :
    ((throw e : M α) >>= f) = (Except.error e : M β) := rfl
@[simp] theorem error_bind' {α β} (e : String) (f : α → M β) :
    ((Except.error e : M α) >>= f) = (Except.error e : M β) := rfl
@[simp] theorem ok_bind' {α β} (a : α) (f : α → M β) : ((Except.ok a : M α) >>= f) = f a := rfl

/-- closes `wp (throw "literal" [>>= f]) Q` (and `OkErr "literal"`) for a literal of `okErrors` -/
macro "okerr" : tactic =>
  `(tactic| simp only [wp_throw, wp_error, throw_bind', error_bind', OkErr, okErrors, List.mem_cons, String.reduceEq,
      false_or, true_or, or_true])

-- every `grind` call of the `SchedInv*` files on a state built with `aset`, `aerase`, `wset` or `++`
-- rewrites the lookups with these
attribute [grind =] alookup_aset wfind_wset wfind_append alookup_aerase mem_keys_aset
  mem_keys_aerase
grind_pattern nodup_aset => keys (aset k v l)
grind_pattern nodup_aerase => keys (aerase k l)
grind_pattern wset_nodup => wset ws w
grind_pattern wfind_key => wfind ws q i, some wk

theorem Core.mono {ex ex' : Nat → Prop} {ts ws dd nt nl} (h : Core ex ts ws dd nt nl)
    (hx : ∀ k, ex k → ex' k) : Core ex' ts ws dd nt nl := by
  have q2' : ∀ k t, alookup k ts = some t → t.response = none → t.queued = true ∨ t.worker.isSome = true ∨ ex' k := by
    intro k t h1 h2; have := h.q2 k t h1 h2; grind
  exact { h with q2 := q2' }

theorem OInv.mono {exo exo' : Nat → Prop} {ts os no} (h : OInv exo ts os no)
    (hx : ∀ k, exo k → exo' k) : OInv exo' ts os no := by
  have o2' : ∀ k t o, alookup k ts = some t → o ∈ t.ops →
      o < no ∧ (exo' o ∨ ∃ op, alookup o os = some op ∧ op.task = k) := by
    intro k t o h1 h2; have := h.o2 k t o h1 h2; grind
  exact { h with o2 := o2' }

theorem InvX.mono {ex ex' exo exo' : Nat → Prop} {s : State} (h : InvX ex exo s)
    (hx : ∀ k, ex k → ex' k) (ho : ∀ k, exo k → exo' k) : InvX ex' exo' s :=
  ⟨h.core.mono hx, h.oinv.mono ho, h.sinv, h.linv⟩

/-! ## point updates of `Core`

Only the clauses that read the updated table are proved again, each from the old clause of the same
name by the case lemmas `alookup_aset_cases`, `wfind_wset_cases`, `alookup_aerase_some`. -/

/-- the fields of a task that `Core` reads -/
def tview (t : Task) :=
  (t.id, t.worker, t.response, t.queued, t.dkey, t.doNotCache, t.background, t.learner)

/-- the learner clause under a replacement that keeps the learner -/
theorem Core.l3_aset {ex ts ws dd nt nl} (hc : Core ex ts ws dd nt nl) {k : Nat} {t0 t : Task}
    (h0 : alookup k ts = some t0) (hv : t.learner = t0.learner) :
    ∀ k1 k2 t1 t2 l, alookup k1 (aset k t ts) = some t1 → alookup k2 (aset k t ts) = some t2 →
      t1.learner = some l → t2.learner = some l → k1 = k2 := by
  intro k1 k2 t1 t2 l h1 h2 e1 e2
  rcases alookup_aset_cases h1 with ⟨rfl, rfl⟩ | ⟨_, a1⟩ <;> rcases alookup_aset_cases h2 with ⟨rfl, rfl⟩ | ⟨_, a2⟩
  · rfl
  · exact hc.l3 _ _ _ _ l h0 a2 (hv.symm.trans e1) e2
  · exact hc.l3 _ _ _ _ l a1 h0 e1 (hv.symm.trans e2)
  · exact hc.l3 _ _ _ _ l a1 a2 e1 e2

/-- the fields of a task that the identity, deduplication and background clauses of `Core` read -/
def cview (t : Task) := (t.id, t.response, t.dkey, t.doNotCache, t.background)

/-- the fields of a task that the deduplication, background and learner clauses of `Core` read -/
def dview (t : Task) := (t.id, t.response, t.dkey, t.doNotCache, t.background, t.learner)

/-- Task `k` is replaced by `t`: same worker link and same fields read by the deduplication and
background clauses; queue flag and learner may change (the learner token being held by no other task). -/
theorem Core.setTask {ex ex' : Nat → Prop} {ts ws dd nt nl nl'} (hc : Core ex ts ws dd nt nl) {k : Nat} {t0 t : Task}
    (h0 : alookup k ts = some t0) (hv : cview t = cview t0) (hw : t.worker = t0.worker)
    (hx : ∀ j, j ≠ k → ex j → ex' j)
    (hq1 : t.queued = true → t.worker = none ∧ t.response = none)
    (hq2 : t.response = none → t.queued = true ∨ t.worker.isSome = true ∨ ex' k)
    (hnl : nl ≤ nl') (hl1 : t.learner.isSome = true ↔ t.response = none) (hl2 : ∀ l, t.learner = some l → l < nl')
    (hl3 : ∀ l, t.learner = some l → ∀ j t', j ≠ k → alookup j ts = some t' → t'.learner ≠ some l) :
    Core ex' (aset k t ts) ws dd nt nl' := by
  simp only [cview, Prod.mk.injEq] at hv
  obtain ⟨vid, vr, vk, vc, vb⟩ := hv
  -- every clause: the new binding from the old clause at `t0`, the others unchanged
  exact { hc with
    tnd := nodup_aset _ _ _ hc.tnd
    tid := fun k' t' h => by
      rcases alookup_aset_cases h with ⟨rfl, rfl⟩ | ⟨_, h⟩
      · rw [vid]; exact hc.tid _ _ h0
      · exact hc.tid _ _ h
    p1 := fun q i wk j h1 h2 => by
      obtain ⟨t', a, b⟩ := hc.p1 q i wk j h1 h2
      by_cases e : j = k
      · subst e; rw [h0] at a; cases a
        exact ⟨t, alookup_aset_self _ _ _, hw.trans b⟩
      · exact ⟨t', (alookup_aset_ne _ _ e).trans a, b⟩
    p2 := fun j t' q i h hwk => by
      rcases alookup_aset_cases h with ⟨rfl, rfl⟩ | ⟨_, h⟩
      · exact hc.p2 _ _ q i h0 (hw.symm.trans hwk)
      · exact hc.p2 _ _ q i h hwk
    p3 := fun j t' h hs => by
      rcases alookup_aset_cases h with ⟨rfl, rfl⟩ | ⟨_, h⟩
      · rw [vr]; exact hc.p3 _ _ h0 (hw ▸ hs)
      · exact hc.p3 _ _ h hs
    q1 := fun j t' h hq => by
      rcases alookup_aset_cases h with ⟨rfl, rfl⟩ | ⟨_, h⟩
      · exact hq1 hq
      · exact hc.q1 _ _ h hq
    q2 := fun j t' h hr => by
      rcases alookup_aset_cases h with ⟨rfl, rfl⟩ | ⟨hne, h⟩
      · exact hq2 hr
      · exact (hc.q2 _ _ h hr).imp id (Or.imp id (hx j hne))
    d1 := fun dk j h => by
      obtain ⟨t', a, b1, b2, b3, b4⟩ := hc.d1 dk j h
      by_cases e : j = k
      · subst e; rw [h0] at a; cases a
        exact ⟨t, alookup_aset_self _ _ _, vk.trans b1, vr.trans b2, vc.trans b3, vb.trans b4⟩
      · exact ⟨t', (alookup_aset_ne _ _ e).trans a, b1, b2, b3, b4⟩
    d2 := fun j t' h a b c => by
      rcases alookup_aset_cases h with ⟨rfl, rfl⟩ | ⟨_, h⟩
      · rw [vk]; exact hc.d2 _ _ h0 (vr.symm.trans a) (vc.symm.trans b) (vb.symm.trans c)
      · exact hc.d2 _ _ h a b c
    bg := fun j t' h hb => by
      rcases alookup_aset_cases h with ⟨rfl, rfl⟩ | ⟨_, h⟩
      · rw [vc]; exact hc.bg _ _ h0 (vb.symm.trans hb)
      · exact hc.bg _ _ h hb
    l1 := fun j t' h => by
      rcases alookup_aset_cases h with ⟨rfl, rfl⟩ | ⟨_, h⟩
      · exact hl1
      · exact hc.l1 _ _ h
    l2 := fun j t' l h e => by
      rcases alookup_aset_cases h with ⟨rfl, rfl⟩ | ⟨_, h⟩
      · exact hl2 l e
      · exact Nat.lt_of_lt_of_le (hc.l2 _ _ l h e) hnl
    l3 := fun k1 k2 t1 t2 l h1 h2 e1 e2 => by
      rcases alookup_aset_cases h1 with ⟨rfl, rfl⟩ | ⟨n1, a1⟩ <;>
        rcases alookup_aset_cases h2 with ⟨rfl, rfl⟩ | ⟨n2, a2⟩
      · rfl
      · exact absurd e2 (hl3 l e1 _ _ n2 a2)
      · exact absurd e1 (hl3 l e2 _ _ n1 a1)
      · exact hc.l3 _ _ _ _ l a1 a2 e1 e2 }

/-- Task `k` changes its queue flag (and fields `Core` does not read), its worker link stays. -/
theorem Core.setTask_flags {ex ex' : Nat → Prop} {ts ws dd nt nl} (hc : Core ex ts ws dd nt nl) {k : Nat} {t0 t : Task}
    (h0 : alookup k ts = some t0) (hv : dview t = dview t0) (hw : t.worker = t0.worker)
    (hx : ∀ j, j ≠ k → ex j → ex' j)
    (hq1 : t.queued = true → t.worker = none ∧ t.response = none)
    (hq2 : t.response = none → t.queued = true ∨ t.worker.isSome = true ∨ ex' k) :
    Core ex' (aset k t ts) ws dd nt nl := by
  simp only [dview, Prod.mk.injEq] at hv
  obtain ⟨vid, vr, vk, vc, vb, vl⟩ := hv
  refine hc.setTask h0 (by simp only [cview, vid, vr, vk, vc, vb]) hw hx hq1 hq2 (Nat.le_refl _) ?_
    (fun l e => hc.l2 _ _ l h0 (vl.symm.trans e))
    (fun l e j t' hne h e' => hne (hc.l3 j k t' t0 l h h0 e' (vl.symm.trans e)))
  rw [vl, vr]; exact hc.l1 _ _ h0

/-- Task `k` and worker `w` are linked or unlinked: the worker's `task` and the task's `worker`
change together; the task may also change its queue flag. -/
theorem Core.relink {ex ex' : Nat → Prop} {ts ws dd nt nl} (hc : Core ex ts ws dd nt nl) {k : Nat} {t0 t : Task}
    {w : Worker} {tk' : Option Nat}
    (h0 : alookup k ts = some t0) (hv : dview t = dview t0)
    (hw : wfind ws w.scq w.id = some w)
    (hold : t0.worker = none ∧ w.task = none ∨ t0.worker = some (w.scq, w.id))
    (hnew : t.worker = some (w.scq, w.id) ∧ tk' = some k ∧ t.response = none ∨ t.worker = none ∧ tk' = none)
    (hx : ∀ j, j ≠ k → ex j → ex' j)
    (hq1 : t.queued = true → t.worker = none ∧ t.response = none)
    (hq2 : t.response = none → t.queued = true ∨ t.worker.isSome = true ∨ ex' k)
    (hf : w.parked = true ∨ w.drainWait.isSome = true → tk' = none) :
    Core ex' (aset k t ts) (wset ws { w with task := tk' }) dd nt nl := by
  simp only [dview, Prod.mk.injEq] at hv
  obtain ⟨vid, vr, vk, vc, vb, vl⟩ := hv
  -- `w` holds `k` or nothing, and no other worker holds `k`
  have hB : w.task = none ∨ w.task = some k := by
    rcases hold with ⟨_, h⟩ | h
    · exact .inl h
    · obtain ⟨wk, a, b⟩ := hc.p2 k t0 _ _ h0 h
      rw [hw] at a; cases a; exact .inr b
  have hA : ∀ q i wk, wfind ws q i = some wk → wk.task = some k → w.scq = q ∧ w.id = i := by
    intro q i wk a b
    obtain ⟨t', c, d⟩ := hc.p1 q i wk k a b
    rw [h0] at c; cases c
    rcases hold with ⟨h, _⟩ | h <;> rw [h] at d <;> cases d
    exact ⟨rfl, rfl⟩
  have hfind : wfind (wset ws { w with task := tk' }) w.scq w.id = some { w with task := tk' } := by
    rw [wfind_wset, if_pos ⟨rfl, rfl⟩, hw]; rfl
  have other : ∀ {q i}, ¬ (w.scq = q ∧ w.id = i) →
      wfind (wset ws { w with task := tk' }) q i = wfind ws q i := fun e => by rw [wfind_wset, if_neg e]
  exact { hc with
    tnd := nodup_aset _ _ _ hc.tnd
    wnd := wset_nodup _ _ hc.wnd
    tid := fun k' t' h => by
      rcases alookup_aset_cases h with ⟨rfl, rfl⟩ | ⟨_, h⟩
      · rw [vid]; exact hc.tid _ _ h0
      · exact hc.tid _ _ h
    p1 := fun q i wk j h hj => by
      rcases wfind_wset_cases h with ⟨⟨e1, e2⟩, rfl⟩ | ⟨ne, h⟩
      · rcases hnew with ⟨a, b, _⟩ | ⟨_, b⟩
        · have e : j = k := by
            have : tk' = some j := hj
            rw [b] at this; exact (Option.some.inj this).symm
          subst e
          exact ⟨t, alookup_aset_self _ _ _, by rw [a, ← e1, ← e2]⟩
        · have : tk' = some j := hj
          rw [b] at this; cases this
      · by_cases e : j = k
        · subst e; exact absurd (hA q i wk h hj) ne
        · obtain ⟨t', a, b⟩ := hc.p1 q i wk j h hj
          exact ⟨t', (alookup_aset_ne _ _ e).trans a, b⟩
    p2 := fun j t' q i h hwk => by
      rcases alookup_aset_cases h with ⟨rfl, rfl⟩ | ⟨hne, h⟩
      · rcases hnew with ⟨a, b, _⟩ | ⟨a, _⟩
        · rw [a] at hwk; cases hwk
          exact ⟨_, hfind, b⟩
        · rw [a] at hwk; cases hwk
      · obtain ⟨wk, a, b⟩ := hc.p2 j t' q i h hwk
        by_cases e : w.scq = q ∧ w.id = i
        · rw [← e.1, ← e.2, hw] at a; cases a
          rcases hB with hb | hb <;> rw [hb] at b <;> cases b
          exact absurd rfl hne
        · exact ⟨wk, (other e).trans a, b⟩
    p3 := fun j t' h hs => by
      rcases alookup_aset_cases h with ⟨rfl, rfl⟩ | ⟨_, h⟩
      · rcases hnew with ⟨_, _, c⟩ | ⟨a, _⟩
        · exact c
        · rw [a] at hs; cases hs
      · exact hc.p3 _ _ h hs
    q1 := fun j t' h hq => by
      rcases alookup_aset_cases h with ⟨rfl, rfl⟩ | ⟨_, h⟩
      · exact hq1 hq
      · exact hc.q1 _ _ h hq
    q2 := fun j t' h hr => by
      rcases alookup_aset_cases h with ⟨rfl, rfl⟩ | ⟨hne, h⟩
      · exact hq2 hr
      · exact (hc.q2 _ _ h hr).imp id (Or.imp id (hx j hne))
    d1 := fun dk j h => by
      obtain ⟨t', a, b1, b2, b3, b4⟩ := hc.d1 dk j h
      by_cases e : j = k
      · subst e; rw [h0] at a; cases a
        exact ⟨t, alookup_aset_self _ _ _, vk.trans b1, vr.trans b2, vc.trans b3, vb.trans b4⟩
      · exact ⟨t', (alookup_aset_ne _ _ e).trans a, b1, b2, b3, b4⟩
    d2 := fun j t' h a b c => by
      rcases alookup_aset_cases h with ⟨rfl, rfl⟩ | ⟨_, h⟩
      · rw [vk]; exact hc.d2 _ _ h0 (vr.symm.trans a) (vc.symm.trans b) (vb.symm.trans c)
      · exact hc.d2 _ _ h a b c
    bg := fun j t' h hb => by
      rcases alookup_aset_cases h with ⟨rfl, rfl⟩ | ⟨_, h⟩
      · rw [vc]; exact hc.bg _ _ h0 (vb.symm.trans hb)
      · exact hc.bg _ _ h hb
    l1 := fun j t' h => by
      rcases alookup_aset_cases h with ⟨rfl, rfl⟩ | ⟨_, h⟩
      · rw [vl, vr]; exact hc.l1 _ _ h0
      · exact hc.l1 _ _ h
    l2 := fun j t' l h e => by
      rcases alookup_aset_cases h with ⟨rfl, rfl⟩ | ⟨_, h⟩
      · exact hc.l2 _ _ l h0 (vl.symm.trans e)
      · exact hc.l2 _ _ l h e
    l3 := hc.l3_aset h0 vl
    w1 := fun q i wk h hp => by
      rcases wfind_wset_cases h with ⟨_, rfl⟩ | ⟨_, h⟩
      · obtain ⟨_, b, c, d⟩ := hc.w1 _ _ w hw hp
        exact ⟨hf (.inl hp), b, c, d⟩
      · exact hc.w1 q i wk h hp
    w2 := fun q i wk h hp => by
      rcases wfind_wset_cases h with ⟨_, rfl⟩ | ⟨_, h⟩
      · exact hc.w2 _ _ w hw hp
      · exact hc.w2 q i wk h hp
    w3 := fun q i wk h hd => by
      rcases wfind_wset_cases h with ⟨_, rfl⟩ | ⟨_, h⟩
      · exact ⟨hf (.inr hd), (hc.w3 _ _ w hw hd).2⟩
      · exact hc.w3 q i wk h hd }

/-- replacing a task by one that differs only in fields `Core` does not read (operations, retry
counter, wake-up generation, size class) -/
theorem Core.setTask_same {ex ts ws dd nt nl} (hc : Core ex ts ws dd nt nl) {k : Nat} {t0 t : Task}
    (h0 : alookup k ts = some t0) (hv : tview t = tview t0) : Core ex (aset k t ts) ws dd nt nl := by
  simp only [tview, Prod.mk.injEq] at hv
  obtain ⟨e1, e2, e3, e4, e5, e6, e7, e8⟩ := hv
  refine hc.setTask_flags h0 (by simp only [dview, e1, e3, e5, e6, e7, e8]) e2 (fun _ _ h => h) ?_ ?_
  · rw [e4, e2, e3]; exact hc.q1 k t0 h0
  · rw [e3, e4, e2]; exact hc.q2 k t0 h0

/-- A new task under the next task id, with the next learner token, neither queued nor assigned
(hence exempt); it enters the deduplication map iff it is cacheable and not a background task. -/
theorem Core.insertTask {ts ws dd dd' nt nl} (hc : Core (fun _ => False) ts ws dd nt nl) {t : Task}
    (hid : t.id = nt) (hw : t.worker = none) (hr : t.response = none) (hq : t.queued = false)
    (hl : t.learner = some nl) (hbg : t.background = true → t.doNotCache = true)
    (hdd : dd' = dd ∧ (t.doNotCache = true ∨ t.background = true) ∨
      dd' = aset t.dkey nt dd ∧ alookup t.dkey dd = none ∧ t.doNotCache = false ∧ t.background = false) :
    Core (fun k => k = nt) (aset nt t ts) ws dd' (nt + 1) (nl + 1) := by
  have fresh : ∀ {j t'}, alookup j ts = some t' → j ≠ nt := fun h => Nat.ne_of_lt (hc.tid _ _ h).2
  have keep : ∀ {j t'}, alookup j ts = some t' → alookup j (aset nt t ts) = some t' :=
    fun h => (alookup_aset_ne _ _ (fresh h)).trans h
  exact {
    tnd := nodup_aset _ _ _ hc.tnd
    wnd := hc.wnd
    w1 := hc.w1
    w2 := hc.w2
    w3 := hc.w3
    dnd := by
      rcases hdd with ⟨rfl, _⟩ | ⟨rfl, _⟩
      · exact hc.dnd
      · exact nodup_aset _ _ _ hc.dnd
    tid := fun j t' h => by
      rcases alookup_aset_cases h with ⟨rfl, rfl⟩ | ⟨_, h⟩
      · exact ⟨hid, Nat.lt_succ_self _⟩
      · exact ⟨(hc.tid _ _ h).1, Nat.lt_succ_of_lt (hc.tid _ _ h).2⟩
    p1 := fun q i wk j h1 h2 => by
      obtain ⟨t', a, b⟩ := hc.p1 q i wk j h1 h2
      exact ⟨t', keep a, b⟩
    p2 := fun j t' q i h hwk => by
      rcases alookup_aset_cases h with ⟨rfl, rfl⟩ | ⟨_, h⟩
      · rw [hw] at hwk; cases hwk
      · exact hc.p2 _ _ q i h hwk
    p3 := fun j t' h hs => by
      rcases alookup_aset_cases h with ⟨rfl, rfl⟩ | ⟨_, h⟩
      · exact hr
      · exact hc.p3 _ _ h hs
    q1 := fun j t' h hq' => by
      rcases alookup_aset_cases h with ⟨rfl, rfl⟩ | ⟨_, h⟩
      · rw [hq] at hq'; cases hq'
      · exact hc.q1 _ _ h hq'
    q2 := fun j t' h hr' => by
      rcases alookup_aset_cases h with ⟨rfl, rfl⟩ | ⟨_, h⟩
      · exact Or.inr (Or.inr rfl)
      · exact (hc.q2 _ _ h hr').imp id (Or.imp id False.elim)
    d1 := fun dk j h => by
      have old : alookup dk dd = some j → ∃ t', alookup j (aset nt t ts) = some t' ∧ t'.dkey = dk ∧
          t'.response = none ∧ t'.doNotCache = false ∧ t'.background = false := fun h => by
        obtain ⟨t', a, b⟩ := hc.d1 dk j h
        exact ⟨t', keep a, b⟩
      rcases hdd with ⟨rfl, _⟩ | ⟨rfl, _, c, b⟩
      · exact old h
      · rcases alookup_aset_cases h with ⟨rfl, rfl⟩ | ⟨_, h⟩
        · exact ⟨t, alookup_aset_self _ _ _, rfl, hr, c, b⟩
        · exact old h
    d2 := fun j t' h hr' hc' hb' => by
      rcases alookup_aset_cases h with ⟨rfl, rfl⟩ | ⟨_, h⟩
      · rcases hdd with ⟨_, c | b⟩ | ⟨rfl, _⟩
        · rw [c] at hc'; cases hc'
        · rw [b] at hb'; cases hb'
        · exact alookup_aset_self _ _ _
      · have := hc.d2 _ _ h hr' hc' hb'
        rcases hdd with ⟨rfl, _⟩ | ⟨rfl, hn, _⟩
        · exact this
        · rw [alookup_aset_ne _ _ ?_]; exact this
          intro e; rw [e, hn] at this; cases this
    bg := fun j t' h hb => by
      rcases alookup_aset_cases h with ⟨rfl, rfl⟩ | ⟨_, h⟩
      · exact hbg hb
      · exact hc.bg _ _ h hb
    l1 := fun j t' h => by
      rcases alookup_aset_cases h with ⟨rfl, rfl⟩ | ⟨_, h⟩
      · rw [hl, hr]; exact ⟨fun _ => rfl, fun _ => rfl⟩
      · exact hc.l1 _ _ h
    l2 := fun j t' l h e => by
      rcases alookup_aset_cases h with ⟨rfl, rfl⟩ | ⟨_, h⟩
      · rw [hl] at e; cases e; exact Nat.lt_succ_self _
      · exact Nat.lt_succ_of_lt (hc.l2 _ _ l h e)
    l3 := fun k1 k2 t1 t2 l h1 h2 e1 e2 => by
      rcases alookup_aset_cases h1 with ⟨rfl, rfl⟩ | ⟨_, a1⟩ <;>
        rcases alookup_aset_cases h2 with ⟨rfl, rfl⟩ | ⟨_, a2⟩
      · rfl
      · rw [hl] at e1; cases e1; exact absurd (hc.l2 _ _ _ a2 e2) (Nat.lt_irrefl _)
      · rw [hl] at e2; cases e2; exact absurd (hc.l2 _ _ _ a1 e1) (Nat.lt_irrefl _)
      · exact hc.l3 _ _ _ _ l a1 a2 e1 e2 }

/-- erasing a completed task -/
theorem Core.aerase_done {ex ts ws dd nt nl} (hc : Core ex ts ws dd nt nl) {k : Nat} {t0 : Task}
    (h0 : alookup k ts = some t0) (hd : t0.response.isSome = true) : Core ex (aerase k ts) ws dd nt nl := by
  have old : ∀ {j t}, alookup j (aerase k ts) = some t → alookup j ts = some t :=
    fun h => (alookup_aerase_some hc.tnd h).2
  -- a live task is not the erased one
  have keep : ∀ {j t}, alookup j ts = some t → t.response = none → alookup j (aerase k ts) = some t := by
    intro j t h hr
    rw [alookup_aerase_ne _ _ _ ?_]; exact h
    intro e; subst e; rw [h0] at h; cases h; rw [hr] at hd; cases hd
  exact { hc with
    tnd := nodup_aerase _ _ hc.tnd
    tid := fun j t h => hc.tid j t (old h)
    p1 := fun q i wk j h1 h2 => by
      obtain ⟨t, a, b⟩ := hc.p1 q i wk j h1 h2
      exact ⟨t, keep a (hc.p3 j t a (by rw [b]; rfl)), b⟩
    p2 := fun j t q i h => hc.p2 j t q i (old h)
    p3 := fun j t h => hc.p3 j t (old h)
    q1 := fun j t h => hc.q1 j t (old h)
    q2 := fun j t h => hc.q2 j t (old h)
    d1 := fun dk j h => by
      obtain ⟨t, a, b⟩ := hc.d1 dk j h
      exact ⟨t, keep a b.2.1, b⟩
    d2 := fun j t h => hc.d2 j t (old h)
    bg := fun j t h => hc.bg j t (old h)
    l1 := fun j t h => hc.l1 j t (old h)
    l2 := fun j t l h => hc.l2 j t l (old h)
    l3 := fun j j' t t' l h h' => hc.l3 j j' t t' l (old h) (old h') }

/-- replacing a worker record by one with the same key and task whose flags satisfy the three flag
clauses -/
theorem Core.setWorker {ex ts ws dd nt nl} (hc : Core ex ts ws dd nt nl) {w w' : Worker}
    (hw : wfind ws w.scq w.id = some w) (hq : w'.scq = w.scq) (hi : w'.id = w.id) (ht : w'.task = w.task)
    (h1 : w'.parked = true → w'.task = none ∧ w'.drainWait = none ∧ w'.woken = false ∧ w'.inSync = true)
    (h2 : w'.woken = true → w'.drainWait = none ∧ w'.inSync = true)
    (h3 : w'.drainWait.isSome = true → w'.task = none ∧ w'.inSync = true) :
    Core ex ts (wset ws w') dd nt nl :=
  { hc with
    wnd := wset_nodup _ _ hc.wnd
    p1 := fun q i wk j h hj => by
      rcases wfind_wset_cases h with ⟨⟨e1, e2⟩, rfl⟩ | ⟨_, h⟩
      · rw [← e1, ← e2, hq, hi]; exact hc.p1 _ _ w j hw (ht.symm.trans hj)
      · exact hc.p1 q i wk j h hj
    p2 := fun j t q i h hj => by
      obtain ⟨wk, a, b⟩ := hc.p2 j t q i h hj
      by_cases e : w'.scq = q ∧ w'.id = i
      · have : wk = w := by
          rw [← e.1, ← e.2, hq, hi, hw] at a; exact (Option.some.inj a).symm
        subst this
        exact ⟨w', by rw [wfind_wset, if_pos e, a]; rfl, ht.trans b⟩
      · exact ⟨wk, by rw [wfind_wset, if_neg e]; exact a, b⟩
    w1 := fun q i wk h => by
      rcases wfind_wset_cases h with ⟨_, rfl⟩ | ⟨_, h⟩
      · exact h1
      · exact hc.w1 q i wk h
    w2 := fun q i wk h => by
      rcases wfind_wset_cases h with ⟨_, rfl⟩ | ⟨_, h⟩
      · exact h2
      · exact hc.w2 q i wk h
    w3 := fun q i wk h => by
      rcases wfind_wset_cases h with ⟨_, rfl⟩ | ⟨_, h⟩
      · exact h3
      · exact hc.w3 q i wk h }

/-- The worker list changes: every record found afterwards was there before or is idle and unflagged,
and every worker that holds a task is still there. -/
theorem Core.setWorkers {ex ts ws ws' dd nt nl} (hc : Core ex ts ws dd nt nl) (hnd : WNodup ws')
    (hsub : ∀ q i wk, wfind ws' q i = some wk → wfind ws q i = some wk ∨
      wk.task = none ∧ wk.parked = false ∧ wk.woken = false ∧ wk.drainWait = none)
    (hkeep : ∀ q i wk j, wfind ws q i = some wk → wk.task = some j → wfind ws' q i = some wk) :
    Core ex ts ws' dd nt nl :=
  { hc with
    wnd := hnd
    p1 := fun q i wk j h hj => by
      rcases hsub q i wk h with h | ⟨a, _⟩
      · exact hc.p1 q i wk j h hj
      · rw [a] at hj; cases hj
    p2 := fun j t q i h hj => by
      obtain ⟨wk, a, b⟩ := hc.p2 j t q i h hj
      exact ⟨wk, hkeep q i wk j a b, b⟩
    w1 := fun q i wk h hp => by
      rcases hsub q i wk h with h | ⟨_, a, _⟩
      · exact hc.w1 q i wk h hp
      · rw [a] at hp; cases hp
    w2 := fun q i wk h hp => by
      rcases hsub q i wk h with h | ⟨_, _, a, _⟩
      · exact hc.w2 q i wk h hp
      · rw [a] at hp; cases hp
    w3 := fun q i wk h hp => by
      rcases hsub q i wk h with h | ⟨_, _, _, a⟩
      · exact hc.w3 q i wk h hp
      · rw [a] at hp; cases hp }

@[simp] theorem termCount_nil (l : Nat) : termCount l [] = 0 := rfl
@[simp] theorem issueCount_nil (l : Nat) : issueCount l [] = 0 := rfl
theorem termCount_cons (l : Nat) (e : Event) (evs) :
    termCount l (e :: evs) = termCount l evs + (if isTerm l e then 1 else 0) := by
  simp [termCount, List.countP_cons]
theorem issueCount_cons (l : Nat) (e : Event) (evs) :
    issueCount l (e :: evs) = issueCount l evs + (if isIssue l e then 1 else 0) := by
  simp [issueCount, List.countP_cons]

/-- an event that is no learner/selector-issue event -/
def NoLearn (e : Event) : Prop := ∀ l, isTerm l e = false ∧ isIssue l e = false

theorem LogInv.emit {ts nl evs} (h : LogInv ts nl evs) (e : Event) (he : NoLearn e) :
    LogInv ts nl (e :: evs) := by
  constructor
  · intro l; rw [termCount_cons, issueCount_cons, (he l).1, (he l).2]; simpa using h.g1 l
  · intro l; rw [issueCount_cons, (he l).2]; simpa using h.g2 l
  · intro l hl; rw [termCount_cons, (he l).1]; simpa using h.g3 l hl
  · intro l hl; rw [issueCount_cons, (he l).2]; simpa using h.g4 l hl
  · intro l hl; rw [issueCount_cons, (he l).2]; simpa using h.g5 l hl

theorem LogInv.held_anti {ts ts' nl evs} (h : LogInv ts nl evs) (hh : ∀ l, Held ts' l → Held ts l) :
    LogInv ts' nl evs :=
  ⟨h.g1, h.g2, fun l hl => h.g3 l (hh l hl), h.g4, fun l hl => h.g5 l (hh l hl)⟩

theorem Held.aset {ts : List (Nat × Task)} {k : Nat} {t : Task} {l : Nat} (h : Held (aset k t ts) l) :
    t.learner = some l ∨ ∃ k' t', k' ≠ k ∧ alookup k' ts = some t' ∧ t'.learner = some l := by
  obtain ⟨k', t', h1, h2⟩ := h
  rw [alookup_aset] at h1
  split at h1
  · cases h1; exact Or.inl h2
  · rename_i hne; exact Or.inr ⟨k', t', fun e => hne e.symm, h1, h2⟩

/-- replacing a task by one with the same (or no) learner keeps the log invariant -/
theorem LogInv.setTask {ts nl evs} (h : LogInv ts nl evs) {t t0 : Task} (h0 : alookup t.id ts = some t0)
    (hl : t.learner = t0.learner ∨ t.learner = none) : LogInv (aset t.id t ts) nl evs := by
  apply h.held_anti
  intro l hh
  rcases hh.aset with hh | ⟨k', t', _, h1, h2⟩
  · rcases hl with hl | hl
    · exact ⟨t.id, t0, h0, by rw [← hl]; exact hh⟩
    · rw [hl] at hh; cases hh
  · exact ⟨k', t', h1, h2⟩

theorem LogInv.aerase {ts : List (Nat × Task)} {nl evs} (h : LogInv ts nl evs) (k : Nat) (hn : (keys ts).Nodup) :
    LogInv (aerase k ts) nl evs := by
  apply h.held_anti
  intro l ⟨k', t', h1, h2⟩
  rw [alookup_aerase _ _ _ hn] at h1
  split at h1
  · cases h1
  · exact ⟨k', t', h1, h2⟩

/-- replacing a task by one with the same operations -/
theorem OInv.setTask {exo ts os no} (h : OInv exo ts os no) {t t0 : Task} (h0 : alookup t.id ts = some t0)
    (ho : t.ops = t0.ops) : OInv exo (aset t.id t ts) os no := by
  refine ⟨h.ond, h.oid, fun k o hk => ?_, fun k t' o hk hm => ?_, fun k t' hk => ?_⟩
  · obtain ⟨t', a, b⟩ := h.o1 k o hk
    by_cases e : o.task = t.id
    · rw [e] at a ⊢; rw [h0] at a; cases a
      exact ⟨t, alookup_aset_self _ _ _, ho ▸ b⟩
    · exact ⟨t', (alookup_aset_ne _ _ e).trans a, b⟩
  · rcases alookup_aset_cases hk with ⟨rfl, rfl⟩ | ⟨_, hk⟩
    · exact h.o2 _ t0 o h0 (ho ▸ hm)
    · exact h.o2 k t' o hk hm
  · rcases alookup_aset_cases hk with ⟨rfl, rfl⟩ | ⟨_, hk⟩
    · rw [ho]; exact h.o3 _ t0 h0
    · exact h.o3 k t' hk

/-- same keys, and operations under the same key agree in name, task, waiters and invocation
(`mayExistWithoutWaiters` and `prio` are free) -/
def OpsSim (os os' : List (Nat × Op)) : Prop :=
  keys os' = keys os ∧
  ∀ k, (∀ op', alookup k os' = some op' → ∃ op, alookup k os = some op ∧
          op'.name = op.name ∧ op'.task = op.task ∧ op'.waiters = op.waiters ∧ op'.inv = op.inv) ∧
       (∀ op, alookup k os = some op → ∃ op', alookup k os' = some op')

theorem OpsSim.refl (os : List (Nat × Op)) : OpsSim os os :=
  ⟨rfl, fun _ => ⟨fun op' h => ⟨op', h, rfl, rfl, rfl, rfl⟩, fun op h => ⟨op, h⟩⟩⟩

theorem OpsSim.trans {a b c : List (Nat × Op)} (h1 : OpsSim a b) (h2 : OpsSim b c) : OpsSim a c := by
  refine ⟨h2.1.trans h1.1, fun k => ⟨?_, ?_⟩⟩
  · intro op' h
    obtain ⟨op1, e1, f1⟩ := (h2.2 k).1 op' h
    obtain ⟨op0, e0, f0⟩ := (h1.2 k).1 op1 e1
    exact ⟨op0, e0, by grind⟩
  · intro op h
    obtain ⟨op1, e1⟩ := (h1.2 k).2 op h
    exact (h2.2 k).2 op1 e1

theorem OpsSim.setOp {os : List (Nat × Op)} {op op' : Op} (h : alookup op.name os = some op)
    (h1 : op'.name = op.name) (h2 : op'.task = op.task) (h3 : op'.waiters = op.waiters)
    (h4 : op'.inv = op.inv) : OpsSim os (aset op'.name op' os) := by
  constructor
  · rw [keys_aset, h1]
    have : op.name ∈ keys os := (alookup_isSome_iff _ _).mp (by rw [h]; rfl)
    simp [this]
  · intro k; constructor
    · intro x hx; grind
    · intro x hx; grind

theorem OInv.sim {exo ts os os' no} (h : OInv exo ts os no) (hs : OpsSim os os') : OInv exo ts os' no := by
  have := h.o1; have := h.o2; have := h.oid
  obtain ⟨hk, hs⟩ := hs
  constructor
  · rw [hk]; exact h.ond
  · intro k o ho; obtain ⟨op, e, f⟩ := (hs k).1 o ho; grind
  · intro k o ho; obtain ⟨op, e, f⟩ := (hs k).1 o ho; grind
  · intro k t o hk ho
    obtain ⟨a, b⟩ := h.o2 k t o hk ho
    refine ⟨a, ?_⟩
    rcases b with b | ⟨op, e, f⟩
    · exact Or.inl b
    · obtain ⟨op', e'⟩ := (hs o).2 op e
      obtain ⟨op2, e2, f2⟩ := (hs o).1 op' e'
      right; exact ⟨op', e', by grind⟩
  · exact h.o3

theorem SInv.sim {os os' sts cl} (h : SInv os sts cl) (hs : OpsSim os os') : SInv os' sts cl := by
  obtain ⟨hk, hs⟩ := hs
  constructor
  · intro k op' ho; obtain ⟨op, e, f⟩ := (hs k).1 op' ho; have := h.s1 k op e; grind
  · intro k op' e ho he hk; obtain ⟨op, e', f⟩ := (hs k).1 op' ho; have := h.s2 k op e e' he hk; grind
  · intro st hst
    have := h.s3 st hst
    cases hl : alookup st.op os with
    | none => simp [hl] at this
    | some op => obtain ⟨op', e'⟩ := (hs st.op).2 op hl; simp [e']

theorem maybeStartCleanup_eq (s : State) (o : Nat) :
    maybeStartCleanup s o = { s with cleanup := (maybeStartCleanup s o).cleanup } := by
  unfold maybeStartCleanup
  split
  · split <;> rfl
  · rfl

theorem SInv.maybeStartCleanup {s : State} (h : SInv s.ops s.streams s.cleanup) (o : Nat) :
    SInv s.ops s.streams (maybeStartCleanup s o).cleanup := by
  unfold BbRe.Sched.maybeStartCleanup
  split
  · rename_i op hop
    split
    · rename_i hc
      simp only [State.addCleanup]
      constructor
      · exact h.s1
      · intro k op' e ho he hk
        rcases List.mem_cons.mp he with he | he
        · subst he; simp at hk; subst hk
          simp at hop; rw [hop] at ho; cases ho; exact hc.1
        · exact h.s2 k op' e ho he hk
      · exact h.s3
    · exact h
  · exact h

theorem SInv.cleanup_sub {os sts cl cl'} (h : SInv os sts cl) (hs : ∀ e, e ∈ cl' → e ∈ cl) : SInv os sts cl' :=
  ⟨h.s1, fun k op e ho he hk => h.s2 k op e ho (hs e he) hk, h.s3⟩

/-- adding a cleanup entry that is not an operation entry -/
theorem SInv.cleanup_cons {os sts cl} (h : SInv os sts cl) (e : CleanupEntry) (he : ∀ k, e.kind ≠ .op k) :
    SInv os sts (e :: cl) :=
  ⟨h.s1, fun k op e' ho he' hk => by
      rcases List.mem_cons.mp he' with h1 | h1
      · subst h1; exact absurd hk (he k)
      · exact h.s2 k op e' ho h1 hk, h.s3⟩

theorem Core.nl_mono {ex ts ws dd nt nl nl'} (h : Core ex ts ws dd nt nl) (hle : nl ≤ nl') :
    Core ex ts ws dd nt nl' :=
  { h with l2 := fun k t l h1 h2 => Nat.lt_of_lt_of_le (h.l2 k t l h1 h2) hle }

theorem Fr.of_fields {s s' : State} (hcfg : s'.cfg = s.cfg) (hnt : s.nextTask ≤ s'.nextTask)
    (hnl : s.nextLearner ≤ s'.nextLearner) (hno : s.nextOp ≤ s'.nextOp) (hasg : s'.assigned = s.assigned)
    (hev : Ext Quiet s.events s'.events)
    (hdead : ∀ k, Dead s.tasks s.nextTask k → ∀ t, alookup k s'.tasks = some t → t.response.isSome = true) :
    Fr s s' :=
  ⟨⟨hcfg, hnt, hnl, hno, fun k hk => ⟨Nat.lt_of_lt_of_le hk.1 hnt, hdead k hk⟩, by rw [hasg]; exact Ext.refl _ _⟩, hev⟩

/-- replacing a task by one with the same response -/
theorem Fr.setTask {s : State} {t t0 : Task} (h0 : alookup t.id s.tasks = some t0)
    (hr : t.response = t0.response) : Fr s (s.setTask t) := by
  refine Fr.of_fields rfl (Nat.le_refl _) (Nat.le_refl _) (Nat.le_refl _) rfl (Ext.refl _ _) ?_
  intro k hk t'
  simp only [State.setTask]
  rw [alookup_aset]
  split
  · rename_i hkk; subst hkk
    intro e; cases e
    rw [hr]; exact hk.2 t0 h0
  · exact hk.2 t'

/-- `Inv` does not depend on the queue registry, the clock, or the pending `TerminateWorkers` calls -/
theorem InvX.of_same {ex exo} {s s' : State} (h : InvX ex exo s) (h1 : s'.tasks = s.tasks)
    (h2 : s'.workers = s.workers) (h3 : s'.dedup = s.dedup) (h4 : s'.nextTask = s.nextTask)
    (h5 : s'.nextLearner = s.nextLearner) (h6 : s'.ops = s.ops) (h7 : s'.nextOp = s.nextOp)
    (h8 : s'.streams = s.streams) (h9 : s'.cleanup = s.cleanup) (h10 : s'.events = s.events) :
    InvX ex exo s' := by
  obtain ⟨a, b, c, d⟩ := h
  refine ⟨?_, ?_, ?_, ?_⟩
  · rw [h1, h2, h3, h4, h5]; exact a
  · rw [h1, h6, h7]; exact b
  · rw [h6, h8, h9]; exact c
  · rw [h1, h5, h10]; exact d

theorem Fr.of_same {s s' : State} (h0 : s'.cfg = s.cfg) (h1 : s'.tasks = s.tasks)
    (h4 : s'.nextTask = s.nextTask) (h5 : s'.nextLearner = s.nextLearner) (h7 : s'.nextOp = s.nextOp)
    (h10 : s'.events = s.events) (h11 : s'.assigned = s.assigned) : Fr s s' := by
  refine Fr.of_fields h0 (by rw [h4]; exact Nat.le_refl _) (by rw [h5]; exact Nat.le_refl _)
    (by rw [h7]; exact Nat.le_refl _) h11 (by rw [h10]; exact Ext.refl _ _) ?_
  intro k hk t; rw [h1]; exact hk.2 t

theorem setWorker_fr (s : State) (wk : Worker) : Fr s (s.setWorker wk) :=
  Fr.of_same rfl rfl rfl rfl rfl rfl rfl

theorem emit_mono (s : State) (e : Event) : Mono s (emit s e) :=
  ⟨rfl, Nat.le_refl _, Nat.le_refl _, Nat.le_refl _, fun _ hk => hk, Ext.refl _ _⟩

theorem emit_quiet_inv {s : State} (hI : Inv s) (e : Event) (hn : NoLearn e) : Inv (BbRe.Sched.emit s e) :=
  ⟨hI.core, hI.oinv, hI.sinv, hI.linv.emit e hn⟩

theorem emit_fr (s : State) (e : Event) (hq : Quiet e) : Fr s (emit s e) :=
  ⟨emit_mono s e, Ext.cons (Ext.refl _ _) _ hq⟩

theorem removeCleanup_inv {ex exo} {s : State} (hI : InvX ex exo s) (k : CleanupKind) :
    InvX ex exo (s.removeCleanup k) :=
  ⟨hI.core, hI.oinv, hI.sinv.cleanup_sub (fun e he => (List.mem_filter.mp he).1), hI.linv⟩

end BbRe.Lemmas.SchedInv
