import BbRe.Lemmas.SusClock
/-!
For C11: suspension intervals. A set of storage reads
`[s_i, r_i)` produces the calls `Suspend@s_i`, `Resume@r_i`; whatever sorted,
balanced interleaving of those calls the clock sees, the covering depth of a
unit interval is the number of reads that contain it.
-/
namespace BbRe.Lemmas.SusClock
open BbRe.SusClock

/-- The calls made by a list of reads (in no particular order). -/
def eventsOf : List (Nat × Nat) → List Ev
  | [] => []
  | iv :: rest => .suspend iv.1 :: .resume iv.2 :: eventsOf rest

/-- Does the read `iv = [s, r)` cover the unit interval `[τ, τ+1)`? -/
def covers (τ : Nat) (iv : Nat × Nat) : Bool := decide (iv.1 ≤ τ) && decide (τ < iv.2)

/-- Is `[τ, τ+1)` outside every read? -/
def freeOf (ivs : List (Nat × Nat)) (τ : Nat) : Bool := ivs.all (fun iv => !covers τ iv)

/-- Every read that has begun by `τ` has ended by `τ` or covers `[τ, τ+1)`. -/
theorem cntS_eventsOf (τ : Nat) : ∀ (ivs : List (Nat × Nat)), (∀ iv ∈ ivs, iv.1 ≤ iv.2) →
    cntS (eventsOf ivs) τ = cntR (eventsOf ivs) τ + ivs.countP (covers τ)
  | [], _ => rfl
  | iv :: rest, h => by
    have hiv := List.forall_mem_cons.1 h
    have h1 : (if iv.1 ≤ τ then 1 else 0) = (if iv.2 ≤ τ then 1 else 0) + if covers τ iv = true then 1 else 0 := by
      by_cases h2 : iv.2 ≤ τ
      · simp only [covers, Nat.le_trans hiv.1 h2, h2, Nat.not_lt.2 h2, decide_true, decide_false, Bool.and_false,
          if_true, Bool.false_eq_true, if_false]
      · simp only [covers, h2, Nat.lt_of_not_le h2, decide_true, Bool.and_true, decide_eq_true_eq, if_false,
          Nat.zero_add]
    rw [eventsOf, cntS_cons_suspend, cntS_cons_resume, cntR_cons_suspend, cntR_cons_resume, List.countP_cons,
      cntS_eventsOf τ rest hiv.2, h1, Nat.add_add_add_comm]

theorem depthAt_perm {tl tl' : List Ev} (hp : tl.Perm tl') (τ : Nat) : depthAt tl τ = depthAt tl' τ := by
  simp only [depthAt, depthFrom, cntS, cntR, hp.countP_eq]

theorem depthAt_eventsOf {ivs : List (Nat × Nat)} (hiv : ∀ iv ∈ ivs, iv.1 ≤ iv.2) {tl : List Ev}
    (hp : tl.Perm (eventsOf ivs)) (τ : Nat) : depthAt tl τ = ivs.countP (covers τ) := by
  rw [depthAt_perm hp, depthAt, depthFrom, cntS_eventsOf τ ivs hiv, Nat.zero_add, Nat.add_sub_cancel_left]

theorem depthAt_zero_iff {ivs : List (Nat × Nat)} (hiv : ∀ iv ∈ ivs, iv.1 ≤ iv.2) {tl : List Ev}
    (hp : tl.Perm (eventsOf ivs)) (τ : Nat) : depthAt tl τ = 0 ↔ freeOf ivs τ = true := by
  rw [depthAt_eventsOf hiv hp, List.countP_eq_zero]
  simp [freeOf]

theorem countFree_eq_filter (f : Nat → Nat) (g : Nat → Bool) :
    ∀ t, (∀ τ, τ < t → (f τ = 0 ↔ g τ = true)) → countFree f 0 t = ((List.range t).filter g).length
  | 0, _ => by simp [countFree]
  | t + 1, h => by
    have ih := countFree_eq_filter f g t (fun τ hτ => h τ (by omega))
    simp only [countFree, List.range_succ, List.filter_append, List.length_append, ih, Nat.zero_add]
    have := h t (by omega)
    by_cases hg : g t = true
    · simp [hg, this.2 hg]
    · have hf : f t ≠ 0 := fun hf => hg (this.1 hf)
      simp [hg, hf]

end BbRe.Lemmas.SusClock
