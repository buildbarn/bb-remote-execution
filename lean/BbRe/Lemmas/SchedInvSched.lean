import BbRe.Lemmas.SchedInvPrim
/-!
`task.schedule` and what it is made of.  `assignTo` is given its equation (`assignTo_eq`) and the
invariant of the state it produces (`assignSt_inv`; the assigned task stops being exempt);
`wakeWorker` keeps the invariant (`wake_inv`).  `schedule_spec` is the `wp` specification of
`schedule`: invariant with the task no longer exempt, and the frame `SchedPost` (only that task, a
formerly parked worker and `assigned` change), from which `SchedPost.fr` derives `Fr`.
`finishOps` is a fold of `fstep`; `finishOps_frame` says it changes operations up to `OpsSim` and the
cleanup list, keeping `SInv`.
-/
namespace BbRe.Lemmas.SchedInv
open BbRe.Sched

def assignSt (s : State) (w : Worker) (t : Task) : State :=
  { (s.setWorker { w with task := some t.id }).setTask
      { t with worker := some (w.scq, w.id), retry := 0, queued := false } with
    assigned := (w.scq, w.id, t.id) :: s.assigned }

theorem assignTo_eq (s : State) (w : Worker) (t : Task) :
    assignTo s w t = if w.task.isSome then .error "Worker is already associated with a task"
      else if t.worker.isSome then .error "Task is already associated with a worker"
      else .ok (assignSt s w t) := by
  unfold assignTo
  split
  · rfl
  · split
    · rfl
    · rfl

theorem assignSt_core {ex} {s : State} {w : Worker} {t : Task}
    (hc : Core ex s.tasks s.workers s.dedup s.nextTask s.nextLearner)
    (hw : wfind s.workers w.scq w.id = some w) (hwt : w.task = none) (hwp : w.parked = false)
    (hwd : w.drainWait = none) (ht : alookup t.id s.tasks = some t) (hr : t.response = none)
    (htw : t.worker = none) :
    Core (fun k => ex k ∧ k ≠ t.id) (assignSt s w t).tasks (assignSt s w t).workers s.dedup s.nextTask
      s.nextLearner := by
  simp only [assignSt, State.setTask, setWorker_eq]
  refine hc.relink ht rfl hw (Or.inl ⟨htw, hwt⟩) (Or.inl ⟨rfl, rfl, hr⟩) (fun j hj h => ⟨h, hj⟩) (fun h => nomatch h)
    (fun _ => Or.inr (Or.inl rfl)) fun h => ?_
  rw [hwp, hwd] at h
  rcases h with h | h <;> cases h


theorem assignSt_inv {ex exo} {s : State} {w : Worker} {t : Task} (hI : InvX ex exo s)
    (hw : wfind s.workers w.scq w.id = some w) (hwt : w.task = none) (hwp : w.parked = false)
    (hwd : w.drainWait = none) (ht : alookup t.id s.tasks = some t) (hr : t.response = none)
    (htw : t.worker = none) : InvX (fun k => ex k ∧ k ≠ t.id) exo (assignSt s w t) := by
  refine ⟨assignSt_core hI.core hw hwt hwp hwd ht hr htw, ?_, hI.sinv, ?_⟩
  · exact hI.oinv.setTask (t := { t with worker := some (w.scq, w.id), retry := 0, queued := false }) ht rfl
  · exact hI.linv.setTask (t := { t with worker := some (w.scq, w.id), retry := 0, queued := false }) ht (Or.inl rfl)

/-- what `schedule h s tid` does to the state (`t` = the task before) -/
structure SchedPost (s : State) (tid : Nat) (t : Task) (s' : State) : Prop where
  same : ∃ ws ts asg, s' = { s with workers := ws, tasks := ts, assigned := asg }
  tk : ∀ k, k ≠ tid → alookup k s'.tasks = alookup k s.tasks
  tt : ∃ t', alookup tid s'.tasks = some t' ∧
        t' = { t with worker := t'.worker, retry := t'.retry, queued := t'.queued } ∧
        (t'.worker.isSome = true ∨ t'.queued = true) ∧
        ∀ q w, t'.worker = some (q, w) → ∃ wk, wfind s.workers q w = some wk ∧ wk.parked = true
  rw : RW s s'
  wex : ∀ q w, (wfind s'.workers q w).isSome = (wfind s.workers q w).isSome
  asg : Ext (fun x => x.2.2 = tid) s.assigned s'.assigned

theorem anyParked_false {s : State} {q : ScqId} (h : anyParked s q = false) :
    ∀ w, w ∈ s.workers → w.scq = q → w.parked = false := by
  intro w hw hq
  unfold anyParked at h
  rw [List.any_eq_false] at h
  have := h w hw
  simp [hq] at this
  simpa using this

theorem hintedWorker_some {h : Hints} {s : State} {t : Task} {w : Worker} (hh : hintedWorker h s t = some w) :
    wfind s.workers w.scq w.id = some w := by
  unfold hintedWorker at hh
  split at hh
  · rename_i a _
    have := wfind_key hh
    rw [this.1, this.2]; exact hh
  · cases hh

/-- the hinted worker belongs to the task's size-class queue -/
theorem hintedWorker_scq {h : Hints} {s : State} {t : Task} {w : Worker} (hh : hintedWorker h s t = some w) :
    w.scq = t.scq := by
  unfold hintedWorker at hh
  split at hh
  · rename_i a ha
    have h1 := List.find?_some ha
    simp only [decide_eq_true_eq] at h1
    rw [(wfind_key hh).1]; exact h1.2
  · cases hh

theorem wake_inv {ex exo} {s : State} {w : Worker} (hI : InvX ex exo s)
    (hw : wfind s.workers w.scq w.id = some w) (hp : w.parked = true) : InvX ex exo (wakeWorker s w) := by
  have h1 := hI.core.w1 _ _ w hw hp
  exact ⟨hI.core.setWorker (w' := { w with parked := false, woken := true }) hw rfl rfl rfl
    (fun h => nomatch h) (fun _ => ⟨h1.2.1, h1.2.2.2⟩) (fun h => by rw [show _ = none from h1.2.1] at h; cases h),
    hI.oinv, hI.sinv, hI.linv⟩

theorem schedule_assign_post {s : State} {w : Worker} {t : Task} {tid : Nat} (hid : t.id = tid)
    (hwf : wfind s.workers w.scq w.id = some w) (hp : w.parked = true) :
    SchedPost s tid t (assignSt (wakeWorker s w) { w with parked := false, woken := true } t) := by
  refine ⟨?_, ?_, ?_, ?_, ?_, ?_⟩
  · simp only [assignSt, State.setTask, setWorker_eq, wakeWorker]
    exact ⟨_, _, _, rfl⟩
  · intro k hk
    simp only [assignSt, State.setTask, setWorker_eq, wakeWorker]
    exact alookup_aset_ne _ _ fun e => hk (e.trans hid)
  · refine ⟨{ t with worker := some (w.scq, w.id), retry := 0, queued := false }, ?_, rfl, Or.inl rfl, ?_⟩
    · simp only [assignSt, State.setTask, setWorker_eq, wakeWorker]
      rw [← hid]; exact alookup_aset_self _ _ _
    · intro q i hqi; cases hqi; exact ⟨w, hwf, hp⟩
  · intro q i wk hwk hpk
    refine ⟨wk, ?_, rfl, Or.inl rfl⟩
    have ne : ¬ (w.scq = q ∧ w.id = i) := by
      intro e; rw [← e.1, ← e.2, hwf] at hwk; cases hwk; rw [hp] at hpk; cases hpk
    simp only [assignSt, State.setTask, setWorker_eq, wakeWorker]
    rw [wfind_wset, if_neg ne, wfind_wset, if_neg ne]; exact hwk
  · intro q i
    simp only [assignSt, State.setTask, setWorker_eq, wakeWorker]
    rw [wfind_wset_isSome, wfind_wset_isSome]
  · exact ⟨[(w.scq, w.id, t.id)], rfl, by simp [hid]⟩

theorem schedule_queue_post {s : State} {t : Task} {tid : Nat} (hid : t.id = tid) (htw : t.worker = none) :
    SchedPost s tid t (s.setTask { t with queued := true }) := by
  refine ⟨⟨_, _, _, rfl⟩, ?_, ?_, RW.refl s, fun _ _ => rfl, Ext.refl _ _⟩
  · intro k hk; simp only [State.setTask]; grind
  · refine ⟨{ t with queued := true }, ?_, rfl, Or.inr rfl, ?_⟩
    · simp only [State.setTask]; grind
    · intro q i hqi; simp [htw] at hqi


theorem queue_inv {ex exo} {s : State} {t : Task} {tid : Nat} (hI : InvX ex exo s)
    (ht : alookup tid s.tasks = some t) (hr : t.response = none) (htw : t.worker = none) :
    InvX (fun k => ex k ∧ k ≠ tid) exo (s.setTask { t with queued := true }) := by
  have hid : t.id = tid := (hI.core.tid tid t ht).1
  have ht' : alookup t.id s.tasks = some t := by rw [hid]; exact ht
  refine ⟨?_, ?_, hI.sinv, ?_⟩
  · exact hI.core.setTask_flags ht' rfl rfl (fun j hj h => ⟨h, hid ▸ hj⟩) (fun _ => ⟨htw, hr⟩) (fun _ => Or.inl rfl)
  · exact hI.oinv.setTask (t := { t with queued := true }) ht' rfl
  · exact hI.linv.setTask (t := { t with queued := true }) ht' (Or.inl rfl)

theorem schedule_spec {ex exo} {h : Hints} {s : State} {tid : Nat} {t : Task} (hI : InvX ex exo s)
    (ht : alookup tid s.tasks = some t) (hr : t.response = none) (htw : t.worker = none) :
    wp (schedule h s tid) (fun s' => InvX (fun k => ex k ∧ k ≠ tid) exo s' ∧ SchedPost s tid t s') := by
  have hid : t.id = tid := (hI.core.tid tid t ht).1
  unfold schedule
  simp only [task?_def, ht]
  split
  · -- somebody is parked
    split
    · rename_i w hh
      have hwf := hintedWorker_some hh
      by_cases hp : w.parked = true
      · simp only [hp, Bool.not_true, Bool.false_eq_true, if_false]
        have hw1 := hI.core.w1 _ _ _ hwf hp
        -- `schedule` looks the woken worker up again: `wfind_wset` answers with the woken record
        simp only [wakeWorker, worker?_def, setWorker_eq, wfind_wset, hwf, Option.isSome_some, if_true, and_self]
        rw [assignTo_eq]
        simp only [hw1.1, htw, Option.isSome_none, Bool.false_eq_true, if_false, wp_ok]
        have hI2 := wake_inv hI hwf hp
        have hwf2 : wfind (wakeWorker s w).workers w.scq w.id = some { w with parked := false, woken := true } := by
          simp only [wakeWorker, setWorker_eq]; grind
        have ht2 : alookup t.id (wakeWorker s w).tasks = some t := by rw [hid]; exact ht
        have := assignSt_inv (w := { w with parked := false, woken := true }) hI2 hwf2 hw1.1 rfl hw1.2.1 ht2 hr htw
        rw [hid] at this
        have hp2 := schedule_assign_post hid hwf hp
        -- bring both facts to the form of the goal, where the parked worker's `task` reads `none`
        simp only [wakeWorker, setWorker_eq, hw1.1] at this hp2
        exact ⟨this, hp2⟩
      · simp only [hp, Bool.not_false, if_true]; okerr
    · okerr
  · -- nobody is parked: enqueue
    simp only [wp_pure]
    exact ⟨queue_inv hI ht hr htw, schedule_queue_post hid htw⟩


theorem bumpGen_inv {ex exo} {s : State} {t : Task} {tid : Nat} (hI : InvX ex exo s)
    (ht : alookup tid s.tasks = some t) : InvX ex exo (s.setTask (bumpGen t)) := by
  have hid : t.id = tid := (hI.core.tid tid t ht).1
  have ht' : alookup (bumpGen t).id s.tasks = some t := by simp only [bumpGen]; rw [hid]; exact ht
  exact ⟨by rw [← hid] at ht; exact hI.core.setTask_same ht rfl, hI.oinv.setTask (t := bumpGen t) ht' rfl, hI.sinv,
    hI.linv.setTask (t := bumpGen t) ht' (Or.inl rfl)⟩

theorem SchedPost.fr {s s' : State} {tid : Nat} {t : Task} (h : SchedPost s tid t s')
    (ht : alookup tid s.tasks = some t) (hr : t.response = none) : Fr s s' := by
  obtain ⟨ws, ts, asg, he⟩ := h.same
  have hnd : ¬ Dead s.tasks s.nextTask tid := by
    intro hd; have := hd.2 t ht; simp [hr] at this
  refine ⟨⟨by rw [he], by rw [he]; exact Nat.le_refl _, by rw [he]; exact Nat.le_refl _,
    by rw [he]; exact Nat.le_refl _, ?_, ?_⟩, by rw [he]; exact Ext.refl _ _⟩
  · intro k hk
    by_cases hkt : k = tid
    · subst hkt; exact absurd hk hnd
    · refine ⟨by rw [he]; exact hk.1, ?_⟩
      rw [h.tk k hkt]; exact hk.2
  · refine h.asg.mono ?_
    intro x hx; rw [hx]; exact hnd

/-- one iteration of `finishOps` -/
def fstep (s : State) (o : Nat) : State :=
  match s.op? o with
  | some op => if op.mayExistWithoutWaiters
      then maybeStartCleanup (s.setOp { op with mayExistWithoutWaiters := false }) o else s
  | none => s

theorem finishOps_eq (s : State) (ops : List Nat) : complete.finishOps s ops = ops.foldl fstep s := rfl

theorem fstep_frame {exo ts no} (s : State) (o : Nat) (ho : OInv exo ts s.ops no) :
    ∃ os cl, fstep s o = { s with ops := os, cleanup := cl } ∧ OpsSim s.ops os ∧
      (SInv s.ops s.streams s.cleanup → SInv os s.streams cl) := by
  unfold fstep
  split
  · rename_i op hop
    simp only [op?_def] at hop
    have hop' : alookup op.name s.ops = some op := by rw [(ho.oid o op hop).1]; exact hop
    have hsim : OpsSim s.ops (s.setOp { op with mayExistWithoutWaiters := false }).ops := by
      simp only [State.setOp]
      exact OpsSim.setOp (op' := { op with mayExistWithoutWaiters := false }) hop' rfl rfl rfl rfl
    split
    · rw [maybeStartCleanup_eq]
      refine ⟨_, _, rfl, hsim, ?_⟩
      intro hs
      exact SInv.maybeStartCleanup (s := s.setOp { op with mayExistWithoutWaiters := false }) (hs.sim hsim) o
    · exact ⟨s.ops, s.cleanup, rfl, OpsSim.refl _, id⟩
  · exact ⟨s.ops, s.cleanup, rfl, OpsSim.refl _, id⟩

theorem finishOps_frame {exo ts no} (s : State) (ops : List Nat) (ho : OInv exo ts s.ops no) :
    ∃ os cl, complete.finishOps s ops = { s with ops := os, cleanup := cl } ∧ OpsSim s.ops os ∧
      (SInv s.ops s.streams s.cleanup → SInv os s.streams cl) := by
  rw [finishOps_eq]
  induction ops generalizing s with
  | nil => exact ⟨s.ops, s.cleanup, rfl, OpsSim.refl _, id⟩
  | cons o rest ih =>
    rw [List.foldl_cons]
    obtain ⟨os1, cl1, e1, sim1, inv1⟩ := fstep_frame s o ho
    rw [e1]
    obtain ⟨os2, cl2, e2, sim2, inv2⟩ := ih { s with ops := os1, cleanup := cl1 } (ho.sim sim1)
    rw [e2]
    exact ⟨os2, cl2, rfl, sim1.trans sim2, fun hs => inv2 (inv1 hs)⟩

end BbRe.Lemmas.SchedInv
