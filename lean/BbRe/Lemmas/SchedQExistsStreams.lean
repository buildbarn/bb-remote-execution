import BbRe.Lemmas.SchedQExistsCleanup
/-!
`QExists` across the client-side segments (`Execute`, `WaitExecution`, stream wake-ups) and the
operator RPCs.
-/
namespace BbRe.Lemmas.SchedQ
open BbRe.Sched BbRe.Lemmas.SchedInv

variable {ne : Prop}

theorem map_throw' {α β} (f : α → β) (e : String) : (f <$> (throw e : M α)) = (Except.error e : M β) := rfl

theorem same_msc {s : State} (hq : QExists ne s) (X : State) (h1 : X.tasks = s.tasks) (h2 : X.workers = s.workers)
    (h3 : X.scqs = s.scqs) (h4 : X.pqs = s.pqs)
    (h5 : ∀ e' ∈ X.cleanup, ∀ q, e'.kind = .scq q → e' ∈ s.cleanup) (o : Nat) :
    QP ne s (maybeStartCleanup X o) :=
  (hq.same h1 h2 h3 h4 h5).trans ((hq.same h1 h2 h3 h4 h5).1.maybeStartCleanup o)

theorem streamSend_q {s : State} {c o : Nat} (hq : QExists ne s) : wpR ne (streamSend s c o) (QP ne s) := by
  unfold streamSend
  simp only [op?_def, task?_def]
  cases hop : alookup o s.ops with
  | none => noterr
  | some op =>
    simp only []
    cases ht : alookup op.task s.tasks with
    | none => noterr
    | some t =>
      simp only []
      split
      · apply wpR_ite
        · noterr
        · -- with the setters unfolded, the field equalities below are checked without comparing whole states
          simp only [wpR_pure, emit, State.setOp]
          exact same_msc hq _ (by rfl) (by rfl) (by rfl) (by rfl) (by exact fun _ h _ _ => h) o
      · exact hq.same (by rfl) (by rfl) (by rfl) (by rfl) (by exact fun _ h _ _ => h)

theorem streamAttach_q {s : State} {c o : Nat} (hq : QExists ne s) : wpR ne (streamAttach s c o) (QP ne s) := by
  unfold streamAttach
  simp only [op?_def]
  cases hop : alookup o s.ops with
  | none => noterr
  | some op =>
    simp only []
    have h1 := hq.removeCleanup (.op o)
    have h2 := h1.trans (h1.1.setOp { op with waiters := op.waiters + 1 })
    exact wpR_mono (streamSend_q h2.1) (fun s' hp => h2.trans hp)

theorem streamLeave_q {s : State} {c code : Nat} (hq : QExists ne s) : wpR ne (streamLeave s c code) (QP ne s) := by
  unfold streamLeave
  cases hst : s.streams.find? (fun x => x.client = c) with
  | none => noterr
  | some st =>
    simp only [op?_def]
    cases hop : alookup st.op s.ops with
    | none => noterr
    | some op =>
      simp only []
      apply wpR_ite
      · noterr
      · simp only [wpR_pure]
        have := same_msc hq (({ s with streams := s.streams.filter (fun x => x.client ≠ c) } : State).setOp
          { op with waiters := op.waiters - 1 }) rfl rfl rfl rfl (fun _ h _ _ => h) st.op
        exact this.trans (this.1.emit _)

theorem route_fold_mem (l : List PQ) (init : Option PQ) (p : PQ)
    (h : l.foldl (fun best p => match best with
      | none => some p
      | some b => if p.comps.length > b.comps.length then some p else some b) init = some p) :
    init = some p ∨ p ∈ l := by
  induction l generalizing init with
  | nil => exact Or.inl h
  | cons a r ih =>
    rw [List.foldl_cons] at h
    rcases ih _ h with h1 | h1
    · cases init with
      | none => simp only [Option.some.injEq] at h1; exact Or.inr (by rw [h1]; exact List.mem_cons_self)
      | some b =>
        simp only at h1
        split at h1
        · simp only [Option.some.injEq] at h1; exact Or.inr (by rw [h1]; exact List.mem_cons_self)
        · exact Or.inl h1
    · exact Or.inr (List.mem_cons_of_mem _ h1)

theorem route_mem {s : State} {comps : List Nat} {platform : Nat} {p : PQ} (h : route s comps platform = some p) :
    p ∈ s.pqs := by
  unfold route at h
  rcases route_fold_mem _ none p h with h1 | h1
  · cases h1
  · exact (List.mem_filter.mp h1).1

/-- under `ne` a registered platform queue has a size class -/
theorem sizes_get_of_pq {s : State} (hq : QExists ne s) (hne : ne) {p : Nat} (hp : p ∈ pqIds s) (i : Nat) :
    ∃ sc, (s.sizes p)[min i ((s.sizes p).length - 1)]? = some sc := by
  obtain ⟨q, hq1, hq2⟩ := hq.pn hne p hp
  have := sizes_get_some (s := s) (q := q) hq1 i
  rw [hq2] at this; exact this

theorem execArrive_q {h : Hints} {s : State} {now c digest dkey : Nat} {dnc : Bool} {comps : List Nat}
    {platform : Nat} {inv : List Nat} {prio : Int} (hq : QExists ne s) (hI : Inv s) :
    wpR ne (execArrive h s now c digest dkey dnc comps platform inv prio) (QExists ne) := by
  unfold execArrive
  refine wpR_seq (enter_q hq hI) ?_
  intro s1 ⟨h1, _⟩
  split
  · rename_i tid _
    simp only [task?_def]
    cases ht : alookup tid s1.tasks with
    | none => noterr
    | some t =>
      simp only []
      have h2 := h1.emit .selAbandoned
      split
      · exact wpR_mono (streamAttach_q h2.1) (fun s' hp => hp.1)
      · apply wpR_ite
        · noterr
        · have hok := taskOK_of_lookup h1 ht
          have h3 : QP ne s1 (({ emit s1 .selAbandoned with nextOp := (emit s1 .selAbandoned).nextOp + 1 } : State).setOp
              { name := (emit s1 .selAbandoned).nextOp, task := tid, inv := inv, prio := prio, waiters := 0, mayExistWithoutWaiters := false }) :=
            h1.same rfl rfl rfl rfl (fun _ h _ _ => h)
          have h4 := h3.1.setTask { t with ops := t.ops ++ [(emit s1 .selAbandoned).nextOp] } (by
            intro hr; obtain ⟨a, b⟩ := hok hr; exact ⟨(h3.2.hasScq _).mpr a, b⟩)
          exact wpR_mono (streamAttach_q h4.1) (fun s' hp => hp.1)
  · split
    · exact (h1.same (by rfl) (by rfl) (by rfl) (by rfl) (by exact fun _ h _ _ => h)).1
    · rename_i pq hroute
      have hpm : pq.id ∈ pqIds s1 := List.mem_map.mpr ⟨pq, route_mem hroute, rfl⟩
      cases hsz : (s1.sizes pq.id)[min h.sel ((s1.sizes pq.id).length - 1)]? with
      | none =>
        simp only [hsz]
        simp only [wpR_throw, BadErr, routingErrors, sizelessError]
        rintro (hbad | ⟨hne, _⟩)
        · simp at hbad
        · obtain ⟨sc, hsc⟩ := sizes_get_of_pq h1 hne hpm h.sel
          rw [hsz] at hsc; cases hsc
      | some sc =>
        simp only [hsz]
        have hsq : HasScq s1 ⟨pq.id, sc⟩ := hasScq_of_sizes_get hsz
        cases dnc <;> simp only [Bool.false_eq_true, if_true, if_false] <;>
        · refine wpR_seq (schedule_q (h := h) ?a) ?b
          case a => exact (newTask_q h1 hsq).1
          case b =>
            intro s' hp
            exact wpR_mono (streamAttach_q hp.1) (fun s'' hp' => hp'.1)

theorem waitArrive_q {h : Hints} {s : State} {now c name : Nat} (hq : QExists ne s) (hI : Inv s) :
    wpR ne (waitArrive h s now c name) (QExists ne) := by
  unfold waitArrive
  refine wpR_seq (enter_q hq hI) ?_
  intro s1 ⟨h1, _⟩
  split
  · exact (h1.emit _).1
  · exact wpR_mono (streamAttach_q h1) (fun s' hp => hp.1)

theorem streamWake_q {h : Hints} {s : State} {now c reason : Nat} (hq : QExists ne s) (hI : Inv s) :
    wpR ne (streamWake h s now c reason) (QExists ne) := by
  unfold streamWake
  refine wpR_seq (enter_q hq hI) ?_
  intro s1 ⟨h1, _⟩
  cases hst : s1.streams.find? (fun x => x.client = c) with
  | none => noterr
  | some st =>
    simp only []
    apply wpR_ite
    · exact wpR_mono (streamLeave_q h1) (fun s' hp => hp.1)
    · apply wpR_ite
      · simp only [op?_def, task?_def]
        cases hop : alookup st.op s1.ops with
        | none => noterr
        | some op =>
          simp only []
          cases ht : alookup op.task s1.tasks with
          | none => noterr
          | some t =>
            simp only []
            apply wpR_ite
            · noterr
            · exact wpR_mono (streamSend_q h1) (fun s' hp => hp.1)
      · exact wpR_mono (streamSend_q h1) (fun s' hp => hp.1)

theorem killOp_q {h : Hints} {s : State} {now name code : Nat} (hq : QExists ne s) (hI : Inv s) :
    wpR ne (killOp h s now name code) (QExists ne) := by
  unfold killOp
  refine wpR_seq (enter_q hq hI) ?_
  intro s1 ⟨h1, _⟩
  split
  · exact (h1.emit _).1
  · refine wpR_seq (complete_q h1) ?_
    intro s2 h2
    exact (h2.1.emit _).1

theorem killQueue_q {h : Hints} {s : State} {now : Nat} {q : ScqId} {code : Nat} (hq : QExists ne s) (hI : Inv s) :
    wpR ne (killQueue h s now q code) (QExists ne) := by
  unfold killQueue
  refine wpR_seq (enter_q hq hI) ?_
  intro s1 ⟨h1, _⟩
  split
  · exact (h1.emit _).1
  · apply wpR_ite
    · exact (h1.emit _).1
    · refine wpR_seq (cancelAllQueued_q h1) ?_
      intro s2 h2
      exact (h2.1.emit _).1

theorem mem_wset_scq {ws : List Worker} {x : Worker} (w : Worker) (h : x ∈ ws) : ∃ x' ∈ wset ws w, x'.scq = x.scq := by
  unfold wset
  by_cases hc : x.scq = w.scq ∧ x.id = w.id
  · exact ⟨w, List.mem_map.mpr ⟨x, h, by rw [if_pos hc]⟩, hc.1.symm⟩
  · exact ⟨x, List.mem_map.mpr ⟨x, h, by rw [if_neg hc]⟩, rfl⟩

theorem foldl_wake_q (c : Worker → Prop) [DecidablePred c] (l : List Worker) {s : State} (hq : QExists ne s)
    (hl : ∀ w ∈ l, ∃ wk ∈ s.workers, wk.scq = w.scq) :
    QP ne s (l.foldl (fun s w => if c w then wakeWorker s w else s) s) := by
  induction l generalizing s with
  | nil => exact ⟨hq, QFr.refl s⟩
  | cons a r ih =>
    rw [List.foldl_cons]
    by_cases hc : c a
    · rw [if_pos hc]
      have h1 : QP ne s (wakeWorker s a) := hq.setWorker _ (hl a List.mem_cons_self)
      refine h1.trans (ih h1.1 ?_)
      intro w hw
      obtain ⟨wk, a1, b1⟩ := hl w (List.mem_cons_of_mem _ hw)
      obtain ⟨x', a2, b2⟩ := mem_wset_scq { a with parked := false, woken := true } a1
      exact ⟨x', a2, b2.trans b1⟩
    · rw [if_neg hc]
      exact ih hq (fun w hw => hl w (List.mem_cons_of_mem _ hw))

theorem addDrain_q {h : Hints} {s : State} {now : Nat} {q : ScqId} {p : Pattern} (hq : QExists ne s) (hI : Inv s) :
    wpR ne (addDrain h s now q p) (QExists ne) := by
  unfold addDrain
  refine wpR_seq (enter_q hq hI) ?_
  intro s1 ⟨h1, _⟩
  split
  · exact (h1.emit _).1
  · rename_i sq _
    simp only [wpR_pure]
    have h2 := h1.setScq { sq with drains := if sq.drains.contains p then sq.drains else sq.drains ++ [p] }
    have h3 := foldl_wake_q (fun w => w.scq = q ∧ w.parked = true ∧ p.matches w.id = true) s1.workers h2.1
      (fun w hw => ⟨w, hw, rfl⟩)
    exact (h3.1.emit .opOk).1

theorem removeDrain_q {h : Hints} {s : State} {now : Nat} {q : ScqId} {p : Pattern} (hq : QExists ne s) (hI : Inv s) :
    wpR ne (removeDrain h s now q p) (QExists ne) := by
  unfold removeDrain
  refine wpR_seq (enter_q hq hI) ?_
  intro s1 ⟨h1, _⟩
  split
  · exact (h1.emit _).1
  · exact ((h1.setScq _).1.emit _).1

theorem termStep_q {s : State} (hq : QExists ne s) (w : Worker) : QP ne s (termStep s w) := by
  unfold termStep
  simp only [worker?_def]
  split
  · rename_i w0 hw0
    have h1 := hq.setWorker { w0 with terminating := true } ⟨w0, wfind_mem hw0, rfl⟩
    split
    · split
      · rename_i w' hw'
        exact h1.trans (h1.1.wakeWorker w' (wfind_mem hw'))
      · exact h1
    · exact h1
  · exact ⟨hq, QFr.refl s⟩

theorem foldl_termStep_q (l : List Worker) {s : State} (hq : QExists ne s) : QExists ne (l.foldl termStep s) := by
  induction l generalizing s with
  | nil => exact hq
  | cons a r ih => exact ih (termStep_q hq a).1

theorem terminate_q {h : Hints} {s : State} {now id : Nat} {p : Pattern} (hq : QExists ne s) (hI : Inv s) :
    wpR ne (terminate h s now id p) (QExists ne) := by
  rw [terminate_eq]
  refine wpR_seq (enter_q hq hI) ?_
  intro s1 ⟨h1, _⟩
  have h2 := foldl_termStep_q (s1.workers.filter (fun w => p.matches w.id)) h1
  dsimp only
  apply wpR_ite
  · exact (h2.emit _).1
  · exact (h2.same (by rfl) (by rfl) (by rfl) (by rfl) (by exact fun _ h _ _ => h)).1

theorem termWake_q {s : State} {id reason : Nat} (hq : QExists ne s) :
    wpR ne (termWake s id reason) (QExists ne) := by
  unfold termWake
  cases htc : s.terms.find? (fun t => t.id = id) with
  | none => noterr
  | some tc =>
    simp only []
    apply wpR_ite
    · exact (hq.same (by rfl) (by rfl) (by rfl) (by rfl) (by exact fun _ h _ _ => h)).1
    · apply wpR_ite
      · noterr
      · exact (hq.same (by rfl) (by rfl) (by rfl) (by rfl) (by exact fun _ h _ _ => h)).1

end BbRe.Lemmas.SchedQ
