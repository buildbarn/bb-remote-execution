import BbRe.Lemmas.FilePoolWns
/-!
The abstraction function `content` (byte `i` of a file as seen through its
sector list, the device and the hole source) in terms of sector index and offset
(`content_at`, `content_contig`, `content_beyond`, `run_cases`), `overlay_add`,
and what `Nodup` of the non-zero entries gives (`nodup_nz_getD`, `getD_mem_nz`).
-/
namespace BbRe.Lemmas.FilePool
open BbRe.FilePool

/-- byte `i` of the file: device byte of the sector holding `i`, or the hole source at a hole. -/
def content (ss : Nat) (dev : Array Byte) (f : File) (i : Nat) : Byte :=
  if f.sectors.getD (i / ss) 0 = 0 then f.hole.read i
  else rd dev ((f.sectors.getD (i / ss) 0 - 1) * ss + i % ss)

/-- an overlay seen from a common base address `a`. -/
theorem overlay_add (base : Nat → Byte) (a ow : Nat) (q : List Byte) (k : Nat) :
    overlay base (a + ow) q (a + k) = if ow ≤ k ∧ k < ow + q.length then q.getD (k - ow) 0 else base (a + k) := by
  unfold overlay
  by_cases h : ow ≤ k ∧ k < ow + q.length
  · rw [if_pos h, if_pos (by omega)]
    congr 1; omega
  · rw [if_neg h, if_neg (by omega)]

theorem rd_writeBytes_add (q : List Byte) (dev : Array Byte) (a ow k : Nat) :
    rd (writeBytes dev (a + ow) q) (a + k) =
      if ow ≤ k ∧ k < ow + q.length then q.getD (k - ow) 0 else rd dev (a + k) :=
  overlay_add (rd dev) a ow q k ▸ rd_writeBytes q dev (a + ow) (a + k)

theorem div_mul_mod (i ss : Nat) : i / ss * ss + i % ss = i := by
  rw [Nat.mul_comm]; exact Nat.div_add_mod i ss

theorem div_lt_of_lt_mul' {i a ss : Nat} (h : i < a * ss) : i / ss < a := by
  rw [Nat.div_lt_iff_lt_mul (by
    rcases Nat.eq_zero_or_pos ss with h0 | h0
    · rw [h0] at h; simp at h
    · exact h0)]
  exact h

/-- byte `i` lies in the `cnt` sectors from `idx`, at `k` from their start, or its sector is another one. -/
theorem run_cases {ss : Nat} (hss : 0 < ss) (idx cnt i : Nat) :
    (∃ k, k < cnt * ss ∧ i = idx * ss + k) ∨ ¬ (idx ≤ i / ss ∧ i / ss < idx + cnt) := by
  by_cases hq : idx ≤ i / ss ∧ i / ss < idx + cnt
  · have h1 := Nat.mul_le_of_le_div _ _ _ hq.1
    have h2 := (Nat.div_lt_iff_lt_mul hss).mp hq.2
    rw [Nat.add_mul] at h2
    exact Or.inl ⟨i - idx * ss, by omega, (Nat.add_sub_cancel' h1).symm⟩
  · exact Or.inr hq

/-- Byte `k` from the start of file sector `q` lies in sector `q + k / ss`, at `k % ss`. -/
theorem content_at {ss : Nat} (dev : Array Byte) (f : File) (hss : 0 < ss) (q k : Nat) :
    content ss dev f (q * ss + k) =
      if f.sectors.getD (q + k / ss) 0 = 0 then f.hole.read (q * ss + k)
      else rd dev ((f.sectors.getD (q + k / ss) 0 - 1) * ss + k % ss) := by
  have hq : (q * ss + k) / ss = q + k / ss := by
    rw [Nat.add_comm, Nat.add_mul_div_right _ _ hss, Nat.add_comm]
  have hr : (q * ss + k) % ss = k % ss := by rw [Nat.add_comm, Nat.add_mul_mod_self_right]
  unfold content
  rw [hq, hr]

/-- The contents of a run found by `contig`, from the start of its first sector: hole-source
bytes, or the device bytes from the start of device sector `s` on. -/
theorem content_contig {ss : Nat} (dev : Array Byte) {f : File} {idx : Nat} (endIdx : Nat) (hss : 0 < ss)
    (hidx : idx < f.sectors.length) {k : Nat} (hk : k < (contig f.sectors idx endIdx).2 * ss) :
    content ss dev f (idx * ss + k) =
      if (contig f.sectors idx endIdx).1 = 0 then f.hole.read (idx * ss + k)
      else rd dev (((contig f.sectors idx endIdx).1 - 1) * ss + k) := by
  obtain ⟨_, _, _, _, hc5⟩ := contig_spec f.sectors idx endIdx hidx
  rw [content_at dev f hss, hc5 _ (div_lt_of_lt_mul' hk)]
  split
  · rw [if_pos rfl]
  · rename_i hne
    rw [if_neg (fun h => hne (Nat.add_eq_zero_iff.mp h).1), Nat.sub_add_comm (Nat.pos_of_ne_zero hne), Nat.add_mul,
      Nat.add_assoc, div_mul_mod]

/-- beyond the sector list everything is hole. -/
theorem content_beyond {ss : Nat} (dev : Array Byte) {f : File} {idx : Nat} (hss : 0 < ss)
    (hidx : f.sectors.length ≤ idx) (k : Nat) : content ss dev f (idx * ss + k) = f.hole.read (idx * ss + k) := by
  unfold content
  rw [if_pos]
  have : idx ≤ (idx * ss + k) / ss := by
    rw [Nat.le_div_iff_mul_le hss]; exact Nat.le_add_right _ _
  exact getD_ge _ _ (Nat.le_trans hidx this)

theorem nodup_nz_getD (l : List Nat) : ∀ (a b : Nat), (nz l).Nodup → l.getD a 0 = l.getD b 0 →
    l.getD a 0 ≠ 0 → a = b := by
  induction l with
  | nil => intro a b _ _ h; simp at h
  | cons x xs ih =>
    intro a b hnd heq hne
    have hnd' : (nz xs).Nodup := (nz_sublist (List.sublist_cons_self x xs)).nodup hnd
    cases a with
    | zero =>
      cases b with
      | zero => rfl
      | succ b =>
        exfalso
        simp only [List.getD_cons_zero, List.getD_cons_succ] at heq hne
        have hx : x ∈ nz xs := mem_nz.mpr ⟨(mem_iff_getD hne).mpr ⟨b, heq.symm⟩, hne⟩
        have : nz (x :: xs) = x :: nz xs := by simp [nz, hne]
        rw [this] at hnd
        exact (List.nodup_cons.mp hnd).1 hx
    | succ a =>
      cases b with
      | zero =>
        exfalso
        simp only [List.getD_cons_zero, List.getD_cons_succ] at heq hne
        have hne' : x ≠ 0 := heq ▸ hne
        have hx : x ∈ nz xs := mem_nz.mpr ⟨(mem_iff_getD hne').mpr ⟨a, heq⟩, hne'⟩
        have : nz (x :: xs) = x :: nz xs := by simp [nz, hne']
        rw [this] at hnd
        exact (List.nodup_cons.mp hnd).1 hx
      | succ b =>
        simp only [List.getD_cons_succ] at heq hne
        rw [ih a b hnd' heq hne]

theorem getD_mem_nz {l : List Nat} {q : Nat} (h : l.getD q 0 ≠ 0) : l.getD q 0 ∈ nz l :=
  mem_nz.mpr ⟨(mem_iff_getD h).mpr ⟨q, rfl⟩, h⟩

end BbRe.Lemmas.FilePool
