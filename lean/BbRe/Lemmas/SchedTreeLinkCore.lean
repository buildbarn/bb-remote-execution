import BbRe.Lemmas.SchedTreeLinkFold
import BbRe.Lemmas.SchedTreeLinkBags
import BbRe.Lemmas.SchedTreeLinkFrame
import BbRe.Lemmas.SchedTreeLinkKeys
/-!
What the coupling `Side` says about one worker (`Side.wx_of_worker`, `Side.last_of_idle`), the bag contributions
`conE` / `conQ` of a task whose record changes, how `Side` and `TS` carry over to a state with other nodes or
worker extras (`side_nodes`, `Side.of_setWX`, `TS.of_fields`), and the step lemma of `assignUnqueuedTask`
(`assign_ts`).
-/
namespace BbRe.Lemmas.SchedTree
open BbRe.Sched BbRe.SchedTree BbRe.Lemmas.SchedInv

variable {X : List (ScqId × List Nat)} {E : List EC} {I : List IC} {Q : List QC} {P : List PC}

/-! ### node-level effect of the tree-only updates -/

@[simp] theorem incOps_lastOf (ts : TState) (t k q w) : (ts.incOps t k).lastOf q w = ts.lastOf q w := rfl
@[simp] theorem incOps_wx (ts : TState) (t k) : (ts.incOps t k).wx = ts.wx := rfl
@[simp] theorem incOps_ox (ts : TState) (t k) : (ts.incOps t k).ox = ts.ox := rfl
@[simp] theorem setSticks_nodes (ts : TState) (q w r) : (ts.setSticks q w r).nodes = ts.nodes := rfl

theorem incOps_nodes (ts : TState) (t : Task) (k : WKey) :
    (ts.incOps t k).nodes = t.ops.foldl (fun ns o => incExecR ts.legacyPrio ts.prioOf ns t.scq (ts.invOf o) k ts.s.now) ts.nodes := rfl

theorem clearLast_nodes (ts : TState) (q : ScqId) (w : WId) (p : List Nat) (h : ts.lastOf q w = some p) :
    (ts.clearLast q w).nodes = clearLastN ts.nodes q p := by
  unfold TState.clearLast; simp only [h]

/-- `assignUnqueuedTask` on the node list: the task's operations become executing operations of `w`, the
worker's last invocation is cleared -/
theorem assignTree_nodes_ok (ts : TState) (w : Worker) (t : Task) (r : Nat)
    (hT : TreeOK X ts.nodes E I Q P)
    (hn : ∀ o ∈ t.ops, (node? ts.nodes t.scq (ts.invOf o)).isSome = true)
    (hX : ∀ x ∈ X, ∃ o ∈ t.ops, onPathOf t.scq (ts.invOf o) x = true)
    (p : List Nat) (hl : ts.lastOf w.scq w.id = some p) (hI : (w.scq, p) ∈ I)
    (hP : ∀ c ∈ P, (c.1, c.2.1) ∈ I.erase (w.scq, p)) :
    TreeOK [] (ts.assignTree w t r).nodes (t.ops.map (fun o => (t.scq, ts.invOf o, some w.id)) ++ E)
      (I.erase (w.scq, p)) Q P := by
  have h1 := incOps_ok hT ts.legacyPrio ts.prioOf t.scq ts.invOf (some w.id) ts.s.now t.ops hn
  have hX0 : X.filter (fun x => !t.ops.any (fun o => onPathOf t.scq (ts.invOf o) x)) = [] := by
    rw [List.filter_eq_nil_iff]
    intro x hx
    obtain ⟨o, ho, hon⟩ := hX x hx
    have : t.ops.any (fun o => onPathOf t.scq (ts.invOf o) x) = true := List.any_eq_true.mpr ⟨o, ho, hon⟩
    simp [this]
  rw [hX0] at h1
  have h2 := clearLastN_ok h1 w.scq p hI (by intro x hx; cases hx) hP
  show TreeOK [] ((((ts.incOps t (some w.id)).clearLast w.scq w.id).setSticks w.scq w.id r).nodes) _ _ _ _
  rw [setSticks_nodes, clearLast_nodes _ _ _ p (by simpa using hl), incOps_nodes]
  exact h2

/-! ### facts about the worker extras read off `Side` -/

theorem Side.wx_of_worker {ts : TState} (hS : Side ts) {q : ScqId} {w : WId} {wk : Worker}
    (hw : wfind ts.s.workers q w = some wk) :
    ∃ x, ts.wx.find? (fun x => x.scq = q ∧ x.id = w) = some x ∧ x.scq = q ∧ x.id = w ∧
      x.parked = wk.parked ∧ (x.last = none ↔ wk.task.isSome = true) := by
  have h1 := hS.wxw q w
  rw [worker?_def, hw] at h1
  cases hx : ts.wx? q w with
  | none => rw [hx] at h1; cases h1
  | some x =>
    have hk := List.find?_some (show ts.wx.find? (fun x => x.scq = q ∧ x.id = w) = some x from hx)
    simp only [decide_eq_true_eq] at hk
    have := hS.wpl q w wk x (by rw [worker?_def]; exact hw) hx
    exact ⟨x, hx, hk.1, hk.2, this.1, this.2⟩

theorem lastOf_of_find {ts : TState} {q : ScqId} {w : WId} {x : WX}
    (h : ts.wx.find? (fun x => x.scq = q ∧ x.id = w) = some x) : ts.lastOf q w = x.last := by
  unfold TState.lastOf TState.wx?; rw [h]

/-- a worker without a task has a last invocation -/
theorem Side.last_of_idle {ts : TState} (hS : Side ts) {q : ScqId} {w : WId} {wk : Worker}
    (hw : wfind ts.s.workers q w = some wk) (hwt : wk.task = none) :
    ∃ x p, ts.wx.find? (fun x => x.scq = q ∧ x.id = w) = some x ∧ x.scq = q ∧ x.id = w ∧
      x.parked = wk.parked ∧ x.last = some p ∧ ts.lastOf q w = some p := by
  obtain ⟨x, hx, hxq, hxi, hxp, hxl⟩ := hS.wx_of_worker hw
  cases hl : x.last with
  | none => have := hxl.mp hl; rw [hwt] at this; cases this
  | some p => exact ⟨x, p, hx, hxq, hxi, hxp, hl, by rw [lastOf_of_find hx, hl]⟩

theorem conE_assigned (ox : List (Nat × OX)) (t : Task) (q : ScqId) (w : WId) :
    conE ox { t with worker := some (q, w), retry := 0, queued := false } =
      t.ops.map (fun o => (t.scq, (match alookup o ox with | some y => y.inv | none => []), some w)) := rfl

theorem conE_unassigned (ox : List (Nat × OX)) (t : Task) (h : t.worker = none) : conE ox t = [] := by
  unfold conE; rw [h]

theorem conQ_unqueued (ox : List (Nat × OX)) (t : Task) (h : t.queued = false) : conQ ox t = [] := by
  unfold conQ; simp [h]

/-! ### `assignUnqueuedTask` of a task that is not queued (direct hand-off) -/

/-- `Side.roots` / `Side.nscq` after a tree update that creates invocations only in existing queues -/
theorem side_nodes {ts : TState} (hS : Side ts) {qs : List ScqId} {ns' : List Node} {scqs' : List Scq}
    (hf : NFrame qs ts.nodes ns') (hq : ∀ q ∈ qs, ∃ sq ∈ scqs', sq.id = q)
    (hsc : ∀ sq ∈ ts.s.scqs, sq ∈ scqs') (hnew : ∀ sq ∈ scqs', sq ∈ ts.s.scqs ∨ (node? ns' sq.id []).isSome = true) :
    (∀ sq ∈ scqs', (node? ns' sq.id []).isSome = true) ∧ (∀ n ∈ ns', ∃ sq ∈ scqs', sq.id = n.scq) := by
  constructor
  · intro sq hsq
    rcases hnew sq hsq with h | h
    · exact hf.roots _ (hS.roots sq h)
    · exact h
  · intro n hn
    rcases hf.scqs n hn with ⟨n0, hn0, he⟩ | h
    · obtain ⟨sq, hsq, hid⟩ := hS.nscq n0 hn0
      exact ⟨sq, hsc sq hsq, by rw [hid, he]⟩
    · exact hq _ h

/-- The coupling after the extras of the worker `w` were changed by `g` and its record replaced by `wn`,
when `g` and `wn` agree on what the coupling compares. -/
theorem Side.of_setWX {ts ts' : TState} (hS : Side ts) {w wn : Worker} {g : WX → WX}
    (hg : ∀ y, wxkey (g y) = wxkey y) (hw : wfind ts.s.workers w.scq w.id = some w)
    (hwx : ts'.wx = setWX ts.wx w.scq w.id g) (hwk : ts'.s.workers = wset ts.s.workers wn)
    (hkey : wn.scq = w.scq ∧ wn.id = w.id)
    (hgx : ∀ x0, ts.wx.find? (fun x => x.scq = w.scq ∧ x.id = w.id) = some x0 → x0.parked = w.parked →
      (x0.last = none ↔ w.task.isSome = true) →
      (g x0).parked = wn.parked ∧ ((g x0).last = none ↔ wn.task.isSome = true))
    (hnodes : (∀ sq ∈ ts'.s.scqs, (node? ts'.nodes sq.id []).isSome = true) ∧
      ∀ n ∈ ts'.nodes, ∃ sq ∈ ts'.s.scqs, sq.id = n.scq)
    (hox : ∀ o op, ts'.s.op? o = some op → alookup o ts'.ox = some ⟨op.inv, op.prio⟩)
    (hwq : ∀ k t q w, alookup k ts'.s.tasks = some t → t.worker = some (q, w) → q = t.scq) : Side ts' := by
  obtain ⟨x0, hx0, hxq, hxi, hxp, hxl⟩ := hS.wx_of_worker hw
  have hwf : ∀ q' w', wfind ts'.s.workers q' w' =
      if w.scq = q' ∧ w.id = w' then (if (wfind ts.s.workers q' w').isSome then some wn else none)
      else wfind ts.s.workers q' w' := by
    intro q' w'; rw [hwk, wfind_wset, hkey.1, hkey.2]
  refine ⟨hnodes.1, hnodes.2, ?_, ?_, ?_, hox, hwq⟩
  · show (ts'.wx.map wxkey).Nodup
    rw [hwx, setWX_keys ts.wx w.scq w.id g hg]; exact hS.wxnd
  · intro q' w'
    show (List.find? _ ts'.wx).isSome = (wfind ts'.s.workers q' w').isSome
    rw [hwx, find?_setWX _ _ _ _ hg, hwf, Option.isSome_map]
    have := hS.wxw q' w'
    rw [worker?_def, wx?_eq] at this
    rw [this]
    by_cases hk : w.scq = q' ∧ w.id = w'
    · rw [if_pos hk]; cases (wfind ts.s.workers q' w') <;> rfl
    · rw [if_neg hk]
  · intro q' w' wk x hwk' hx
    rw [worker?_def, hwf] at hwk'
    change List.find? _ ts'.wx = some x at hx
    rw [hwx, find?_setWX _ _ _ _ hg] at hx
    by_cases hk : w.scq = q' ∧ w.id = w'
    · rw [if_pos hk, ← hk.1, ← hk.2, hw] at hwk'
      cases hwk'
      rw [← hk.1, ← hk.2, hx0, Option.map_some, if_pos ⟨hxq, hxi⟩] at hx
      cases hx
      exact hgx x0 hx0 hxp hxl
    · rw [if_neg hk] at hwk'
      cases hf : ts.wx.find? (fun x => x.scq = q' ∧ x.id = w') with
      | none => rw [hf] at hx; cases hx
      | some y =>
        have hyk := List.find?_some hf
        simp only [decide_eq_true_eq] at hyk
        rw [hf, Option.map_some, if_neg (by rw [hyk.1, hyk.2]; exact fun h => hk ⟨h.1.symm, h.2.symm⟩)] at hx
        cases hx
        exact hS.wpl q' w' wk _ (by rw [worker?_def]; exact hwk') hf

/-- `TS` only looks at the scheduler state, the node list, the worker extras and the operation table -/
theorem TS.of_fields {ts1 ts2 : TState} (h : TS X ts1) (hs : ts2.s = ts1.s) (hn : ts2.nodes = ts1.nodes)
    (hw : ts2.wx = ts1.wx) (ho : ts2.ox = ts1.ox) : TS X ts2 := by
  obtain ⟨s1, n1, w1, o1, x1, l1, d1⟩ := ts1
  obtain ⟨s2, n2, w2, o2, x2, l2, d2⟩ := ts2
  simp only at hs hn hw ho
  subst hs; subst hn; subst hw; subst ho
  obtain ⟨ht, hsd⟩ := h
  exact ⟨ht, ⟨hsd.roots, hsd.nscq, hsd.wxnd, hsd.wxw, hsd.wpl, hsd.oxok, hsd.wq⟩⟩

/-- **direct hand-off, tree part**: `assignUnqueuedTask` of a task that is neither queued nor assigned to
a worker `w` that is not parked -/
theorem assign_ts {ex exo} {ts : TState} {w : Worker} {t : Task} {r : Nat}
    (hT : TInvX ex exo X ts)
    (hw : wfind ts.s.workers w.scq w.id = some w) (hwt : w.task = none) (hwp : w.parked = false)
    (ht : alookup t.id ts.s.tasks = some t) (htw : t.worker = none) (hq : t.queued = false)
    (hsq : w.scq = t.scq)
    (hn : ∀ o ∈ t.ops, (node? ts.nodes t.scq (ts.invOf o)).isSome = true)
    (hX : ∀ x ∈ X, ∃ o ∈ t.ops, onPathOf t.scq (ts.invOf o) x = true) :
    TS [] ((ts.assignTree w t r).setS (assignSt ts.s w t)) := by
  refine ⟨?_, ?_⟩
  · let ts' := (ts.assignTree w t r).setS (assignSt ts.s w t)
    show TreeOK [] ts'.nodes (bagE ts') (bagI ts') (bagQ ts') (bagP ts')
    obtain ⟨x0, p, hx0, hxq, hxi, hxp, hp, hlo⟩ := hT.side.last_of_idle hw hwt
    -- the extras of the new state
    let g : WX → WX := fun y => { ({ y with last := none } : WX) with sticks := restick r ts.s.now y.sticks }
    have hg : ∀ y, wxkey (g y) = wxkey y := fun y => rfl
    have hwx' : ts'.wx = setWX ts.wx w.scq w.id g := by
      exact setWX_setWX ts.wx w.scq w.id _ _ (fun y => rfl)
    -- the bags of the new state
    have hI' : ((bagI ts).erase (w.scq, p)).Perm (bagI ts') := by
      have := bagI_setWX ts.wx w.scq w.id g hg hT.side.wxnd x0 hx0
      have e1 : conI (g x0) = [] := rfl
      have e2 : conI x0 = [(w.scq, p)] := by unfold conI; rw [hp, hxq]
      rw [e1, e2, List.append_nil] at this
      rw [bagI_def, bagI_def, hwx']
      exact perm_erase_of_append this
    have hP' : (bagP ts).Perm (bagP ts') := by
      have := bagP_setWX ts.wx w.scq w.id g hg hT.side.wxnd x0 hx0
      have e1 : conP (g x0) = [] := by unfold conP; simp [g, hxp, hwp]
      have e2 : conP x0 = [] := by unfold conP; simp [hxp, hwp]
      rw [e1, e2, List.append_nil, List.append_nil] at this
      rw [bagP_def, bagP_def, hwx']; exact this
    let t1 : Task := { t with worker := some (w.scq, w.id), retry := 0, queued := false }
    have hE' : (t.ops.map (fun o => (t.scq, ts.invOf o, some w.id)) ++ bagE ts).Perm (bagE ts') := by
      have := bagE_setTask ts (assignSt ts.s w t) t t1 ts.ox ht rfl (fun _ _ => rfl) ts' rfl rfl
      rw [conE_unassigned _ t htw, List.append_nil] at this
      exact (List.perm_append_comm.trans this)
    have hQ' : (bagQ ts).Perm (bagQ ts') := by
      have := bagQ_setTask ts (assignSt ts.s w t) t t1 ts.ox ht rfl (fun _ _ => rfl) ts' rfl rfl
      rw [conQ_unqueued _ t hq, conQ_unqueued _ t1 rfl, List.append_nil, List.append_nil] at this
      exact this
    -- the node list
    have hPI : ∀ c ∈ bagP ts, (c.1, c.2.1) ∈ (bagI ts).erase (w.scq, p) := by
      intro c hc
      have h1 : c ∈ bagP ts' := hP'.mem_iff.mp hc
      rw [bagP_def] at h1
      have h2 := bagP_sub_bagI ts'.wx c h1
      rw [← bagI_def] at h2
      exact hI'.mem_iff.mpr h2
    have hI0 : (w.scq, p) ∈ bagI ts := by
      rw [bagI_def]
      exact List.mem_flatMap.mpr ⟨x0, List.mem_of_find?_eq_some hx0, by unfold conI; rw [hp, hxq]; simp⟩
    have h := assignTree_nodes_ok ts w t r hT.tree hn hX p hlo hI0 hPI
    exact h.congr hE' hI' (fun c => hQ'.mem_iff) (fun c => hP'.mem_iff)
  · have hS := hT.side
    refine hS.of_setWX (g := fun y => { ({ y with last := none } : WX) with sticks := restick r ts.s.now y.sticks })
      (wn := { w with task := some t.id }) (fun y => rfl) hw
      (setWX_setWX ts.wx w.scq w.id _ _ (fun y => rfl)) rfl ⟨rfl, rfl⟩ (fun x0 _ hp _ => ⟨hp, by simp⟩)
      (side_nodes hS (assignTree_nframe ts w t r) (scqs' := ts.s.scqs) (by intro q hq; cases hq)
        (fun sq h => h) (fun sq h => Or.inl h)) hS.oxok ?_
    intro k t' q' w' hk hw'
    change alookup k (aset _ _ ts.s.tasks) = some t' at hk
    rw [alookup_aset] at hk
    by_cases hkk : t.id = k
    · rw [if_pos hkk] at hk
      cases hk
      simp only [Option.some.injEq, Prod.mk.injEq] at hw'
      rw [← hw'.1]; exact hsq
    · rw [if_neg hkk] at hk
      exact hS.wq k t' q' w' hk hw'

end BbRe.Lemmas.SchedTree
