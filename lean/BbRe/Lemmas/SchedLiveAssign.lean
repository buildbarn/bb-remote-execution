import BbRe.Lemmas.SchedLiveWorker7
/-!
Eligibility of every assignment (C05): each entry a segment appends to the
ghost log `State.assigned` names a worker that, at the moment of the
assignment, existed in the task's size-class queue, held no task, was not
terminating and matched no drain of that queue.
-/
namespace BbRe.Lemmas.SchedLive
open BbRe.Sched

/-- worker `(a.1, a.2.1)` is eligible for task `a.2.2` in state `sm` -/
def EligAt (sm : State) (a : ScqId × WId × Nat) : Prop :=
  ∃ wk t, sm.worker? a.1 a.2.1 = some wk ∧ sm.task? a.2.2 = some t ∧ t.scq = a.1 ∧ t.response = none ∧
    wk.task = none ∧ wk.inSync = true ∧ wk.terminating = false ∧
    (∀ sq, sm.scq? a.1 = some sq → ∀ p ∈ sq.drains, p.matches a.2.1 = false)

/-- … in some state in which all worker invariants held (the definition does not say which state;
the proofs supply one the segment passes through) -/
def Elig (a : ScqId × WId × Nat) : Prop := ∃ sm, WInv sm ∧ EligAt sm a

/-- the entries appended to the assignment log all satisfy `P` -/
def ALog (P : ScqId × WId × Nat → Prop) (s s' : State) : Prop :=
  ∃ new, s'.assigned = new ++ s.assigned ∧ ∀ a ∈ new, P a

theorem ALog.refl (P : ScqId × WId × Nat → Prop) (s : State) : ALog P s s := ⟨[], rfl, by simp⟩

theorem ALog.trans {P : ScqId × WId × Nat → Prop} {a b c : State} (h1 : ALog P a b) (h2 : ALog P b c) : ALog P a c := by
  obtain ⟨n1, e1, p1⟩ := h1
  obtain ⟨n2, e2, p2⟩ := h2
  refine ⟨n2 ++ n1, by rw [e2, e1, List.append_assoc], ?_⟩
  intro x hx; rcases List.mem_append.1 hx with h | h
  · exact p2 x h
  · exact p1 x h

theorem ALog.of_eq {P : ScqId × WId × Nat → Prop} {s s' : State} (h : s'.assigned = s.assigned) : ALog P s s' :=
  ⟨[], by simpa using h, by simp⟩

/-- preserves `KW` and appends only eligible assignments -/
def AStep (s s' : State) : Prop := KW s → KW s' ∧ ALog Elig s s'

theorem AStep.refl (s : State) : AStep s s := fun h => ⟨h, ALog.refl _ _⟩
theorem AStep.trans {a b c : State} (h1 : AStep a b) (h2 : AStep b c) : AStep a c := by
  intro h
  obtain ⟨kb, l1⟩ := h1 h
  obtain ⟨kc, l2⟩ := h2 kb
  exact ⟨kc, l1.trans l2⟩

theorem AStep.of (s s' : State) (hk : KWStep s s') (ha : KW s → ALog Elig s s') : AStep s s' :=
  fun h => ⟨hk h, ha h⟩

theorem AStep.of_eq {s s' : State} (hk : KWStep s s') (h : s'.assigned = s.assigned) : AStep s s' :=
  AStep.of s s' hk (fun _ => ALog.of_eq h)

theorem AStep.emit (s : State) (ev : Event) : AStep s (emit s ev) := AStep.of_eq (KWStep.emit s ev) rfl

/-- the hinted worker belongs to the task's size-class queue -/
theorem hintedWorker_scq {h : Hints} {s : State} {t : Task} {w : Worker} (hh : hintedWorker h s t = some w) :
    w.scq = t.scq := by
  unfold hintedWorker at hh
  split at hh
  · rename_i a ha
    have := List.find?_some ha
    simp only [decide_eq_true_eq] at this
    rw [(worker?_mem hh).2.1]; exact this.2
  · cases hh

theorem schedule_alog {h : Hints} {s s' : State} {tid : Nat} (hh : schedule h s tid = .ok s') (hw : WInv s)
    (ht : ∀ t, s.task? tid = some t → t.id = tid ∧ t.response = none) : ALog Elig s s' := by
  obtain ⟨t, h0, ⟨_, rfl⟩ | ⟨_, w, w1, hhw, hpk, hw1, hw1t, htw, rfl⟩⟩ := schedule_ok hh
  · exact ALog.of_eq rfl
  · obtain ⟨hid, hresp⟩ := ht t h0
    have hm := hintedWorker_mem hhw
    obtain ⟨p1, p2, p3, p4, p5, p6⟩ := (hw.ok w hm).parked hpk
    have hlk : s.worker? w.scq w.id = some w := worker?_of_mem hw.uniq hm
    have e1 : w1 = { w with parked := false, woken := true } := by
      simp only [wakeWorker, worker?_setWorker, and_self, if_true, hlk, Option.map_some, Option.some.injEq] at hw1
      exact hw1.symm
    subst e1
    refine ⟨[(w.scq, w.id, t.id)], rfl, ?_⟩
    intro a ha; simp only [List.mem_singleton] at ha; subst ha
    refine ⟨s, hw, w, t, hlk, by rw [hid]; exact h0, (hintedWorker_scq hhw).symm, hresp, p3, p1, p4, p6⟩

theorem complete_astep {h : Hints} {s s' : State} {tid : Nat} {r : Resp} {bw : Bool}
    (hh : complete h s tid r bw = .ok s') : AStep s s' := by
  refine AStep.of s s' (complete_kw hh) (fun ⟨hk, hw⟩ => ?_)
  obtain ⟨t, h0, ⟨_, rfl⟩ | ⟨hr, l, _, h1 | h1 | h1⟩⟩ := complete_ok hh
  · exact ALog.refl _ _
  · have fin : ∀ ev, WInv (succS (detachW s t) (detachT t) ev r) := fun ev =>
      hw.of_detach hk h0 (by simp) (by simp) (by simp) (by other_keys)
    obtain ⟨ev, _, rfl | ⟨ev', _, rfl⟩ | ⟨bq, pq, h2, _⟩⟩ := completeSucc_ok h1.2
    · exact ALog.of_eq (by simp)
    · exact ALog.of_eq (by simp)
    · refine (ALog.of_eq (s' := bgState (bumpLearner (succS (detachW s t) (detachT t) ev r)) { detachT t with learner := none } bq
          (succS (detachW s t) (detachT t) ev r).nextLearner pq) (by simp)).trans
        (schedule_alog h2 (bgState_winv (fin ev) ..) ?_)
      intro tb htb
      simp only [State.task?, bgState_tasks, alookup_aset, bumpLearner_nextTask, if_true, Option.some.injEq] at htb
      subst htb
      exact ⟨rfl, rfl⟩
  · obtain ⟨_, _, _, h5⟩ := h1
    obtain ⟨s2, t2, h2, h3, rfl⟩ := completeRetry_ok h5
    refine ((ALog.of_eq (s' := (retryS (detachW s t) l r).setTask (retryT (detachW s t) (detachT t) l r)) (by simp)).trans
      (schedule_alog h2 (hw.of_detach hk h0 (by simp) (by simp) (by simp) (by other_keys)) ?_)).trans (ALog.of_eq rfl)
    intro tb htb
    simp only [State.task?, setTask_tasks, detachT_id, alookup_aset] at htb
    have : (retryT (detachW s t) (detachT t) l r).id = t.id := by simp [retryT]
    simp only [this, if_true, Option.some.injEq] at htb
    subst htb
    exact ⟨by simp [retryT], by simp [retryT, hr]⟩
  · obtain ⟨_, _, ev, _, rfl⟩ := h1
    exact ALog.of_eq (by simp)

theorem cancelAllQueued_astep {h : Hints} {s s' : State} {q : ScqId} {r : Resp}
    (hh : cancelAllQueued h s q r = .ok s') : AStep s s' :=
  cancelAllQueued_rel AStep AStep.refl (fun _ _ _ => AStep.trans) (fun _ _ _ => complete_astep) hh

theorem callback_astep {h : Hints} {s s' : State} {e : CleanupEntry} (hh : callback h s e = .ok s') : AStep s s' :=
  callback_rel AStep AStep.refl AStep.trans (fun _ => complete_astep)
    (fun s q w rt => AStep.of_eq (dropWorker_kw s q w rt) (by simp)) (fun s o => AStep.of_eq (eraseOp_kw s o) rfl)
    (fun _ _ _ o h0 => AStep.of_eq (dropOpT_kw o h0) (by simp)) (fun s q => AStep.of_eq (dropScq_kw s q) (by simp)) hh

theorem enter_astep {h : Hints} {s s' : State} {t : Nat} (hh : enter h s t = .ok s') : AStep s s' :=
  enter_rel AStep AStep.refl AStep.trans (fun _ _ => AStep.of_eq (KWStep.of_same rfl rfl rfl rfl rfl rfl) rfl)
    (fun _ _ _ _ => AStep.of_eq (KWStep.of_same rfl rfl rfl rfl rfl rfl) rfl) callback_astep hh

theorem streamAttach_astep {s s' : State} {c o : Nat} (hh : streamAttach s c o = .ok s') : AStep s s' := by
  refine AStep.of_eq (streamAttach_kw hh) ?_
  obtain ⟨op, _, h1⟩ := streamAttach_ok hh
  obtain ⟨op', t, _, _, ⟨r, _, _, rfl⟩ | ⟨_, rfl⟩⟩ := streamSend_ok h1 <;> simp [attachS]

theorem streamSend_astep {s s' : State} {c o : Nat} (hh : streamSend s c o = .ok s') : AStep s s' := by
  refine AStep.of_eq (streamSend_kw hh) ?_
  obtain ⟨op', t, _, _, ⟨r, _, _, rfl⟩ | ⟨_, rfl⟩⟩ := streamSend_ok hh <;> simp

theorem streamLeave_astep {s s' : State} {c code : Nat} (hh : streamLeave s c code = .ok s') : AStep s s' := by
  refine AStep.of_eq (streamLeave_kw hh) ?_
  obtain ⟨st, op, _, _, _, rfl⟩ := streamLeave_ok hh; simp

theorem streamWake_astep {h : Hints} {s s' : State} {now c reason : Nat}
    (hh : streamWake h s now c reason = .ok s') : AStep s s' := by
  obtain ⟨s1, st, h1, _, ⟨_, h3⟩ | ⟨_, _, h3⟩⟩ := streamWake_ok hh
  · exact (enter_astep h1).trans (streamLeave_astep h3)
  · exact (enter_astep h1).trans (streamSend_astep h3)

theorem waitArrive_astep {h : Hints} {s s' : State} {now c name : Nat}
    (hh : waitArrive h s now c name = .ok s') : AStep s s' := by
  obtain ⟨s1, h1, ⟨_, rfl⟩ | ⟨op, _, h2⟩⟩ := waitArrive_ok hh
  · exact (enter_astep h1).trans (AStep.emit _ _)
  · exact (enter_astep h1).trans (streamAttach_astep h2)

theorem execArrive_astep {h : Hints} {s s' : State} {now c digest dkey : Nat} {dnc : Bool}
    {comps : List Nat} {platform : Nat} {inv : List Nat} {prio : Int}
    (hh : execArrive h s now c digest dkey dnc comps platform inv prio = .ok s') : AStep s s' := by
  obtain ⟨s1, h1, h2 | h2 | h2⟩ := execArrive_ok hh
  · obtain ⟨tid, t, _, h0, ⟨o, _, h3⟩ | ⟨_, h3⟩⟩ := h2
    · exact ((enter_astep h1).trans (AStep.of_eq (s' := emit s1 .selAbandoned) (KWStep.of_same rfl rfl rfl rfl rfl rfl) rfl)).trans
        (streamAttach_astep h3)
    · refine (((enter_astep h1).trans (AStep.of_eq (s' := emit s1 .selAbandoned) (KWStep.of_same rfl rfl rfl rfl rfl rfl) rfl)).trans
        ?_).trans (streamAttach_astep h3)
      refine AStep.of_eq (KWStep.of (addOpS_tstep True inv prio (s := emit s1 .selAbandoned) h0) (fun hk hw => ?_)) rfl
      have hid := (hk.tid tid t h0).1
      exact hw.of_frame rfl (WFrame.of_aset_same (t0 := t) (t2 := { t with ops := t.ops ++ [s1.nextOp] }) (k0 := t.id)
        (by rw [hid]; exact h0) rfl rfl rfl rfl rfl) (NoPtr.noX _)
  · obtain ⟨_, _, rfl⟩ := h2
    exact (enter_astep h1).trans (AStep.of_eq (KWStep.of_same rfl rfl rfl rfl rfl rfl) rfl)
  · obtain ⟨_, pq, sc, s3, _, _, h3, h4⟩ := h2
    refine ((enter_astep h1).trans ?_).trans (streamAttach_astep h4)
    intro hkw1
    have hb := newTaskS_winv hkw1.2 digest dkey dnc ⟨pq.id, sc⟩ inv prio
    have hkw3 : KW s3 := by
      refine ⟨((tstep_new_then_schedule (allow := True) (s := s1) (tn := newTask s1 digest dkey dnc ⟨pq.id, sc⟩)
        (on := newOp s1 inv prio) rfl rfl rfl (by simp) (by simp) (by simp) (by simp) h3) hkw1.1).1, ?_⟩
      refine schedule_winv h3 hb ?_
      intro tb htb
      simp only [State.task?, newTaskS_tasks, alookup_aset, if_true, Option.some.injEq] at htb
      subst htb
      exact ⟨rfl, by simp, rfl⟩
    refine ⟨hkw3, (ALog.of_eq (s' := newTaskS s1 digest dkey dnc ⟨pq.id, sc⟩ inv prio) (by simp)).trans (schedule_alog h3 hb ?_)⟩
    intro tb htb
    simp only [State.task?, newTaskS_tasks, alookup_aset, if_true, Option.some.injEq] at htb
    subst htb
    exact ⟨rfl, rfl⟩

theorem getNextTask_astep {h : Hints} {s s' : State} {q : ScqId} {w : WId} {pi block : Bool}
    (hh : getNextTask h s q w pi block = .ok s')
    (hpre : SyncPre s q w) (hnt : ∀ wk, s.worker? q w = some wk → wk.task = none) : AStep s s' := by
  refine AStep.of s s' (getNextTask_kw hh hpre hnt) (fun ⟨hk, hw⟩ => ?_)
  obtain ⟨wk, sq, hwk, hsq, h1 | h1 | h1⟩ := getNextTask_ok hh
  · obtain ⟨_, rfl⟩ := h1; exact ALog.of_eq (by simp)
  · obtain ⟨_, hdr, s1, got, h2, h3⟩ := h1
    obtain ⟨hm, hq', hw'⟩ := worker?_mem hwk
    obtain ⟨pin, ppk, pwo, pdw⟩ := hpre wk hwk
    have ha : ALog Elig s s1 := by
      rcases assignNext_ok h2 with ⟨_, rfl, _⟩ | ⟨_, t, t', hq, hwt, htw, h3', rfl⟩
      · exact ALog.refl _ _
      · obtain ⟨hl, hscq, _, hresp⟩ := queuedTasks_mem hk hq
        refine ⟨[(wk.scq, wk.id, t.id)], rfl, ?_⟩
        intro a ha; simp only [List.mem_singleton] at ha; subst ha
        unfold isDrained at hdr
        simp only [Bool.or_eq_false_iff, List.any_eq_false] at hdr
        refine ⟨s, hw, wk, t, by rw [hq', hw']; exact hwk, hl, hscq, hresp, hwt, pin, hdr.1, ?_⟩
        intro sq' hsq' p hp
        simp only at hsq'
        rw [hq', hsq] at hsq'; injection hsq' with e; subst e
        have := hdr.2 p hp
        simpa using this
    refine ha.trans ?_
    rcases h3 with h3 | h3 | h3
    · obtain ⟨_, wk1, s2, _, h4, rfl⟩ := h3
      obtain ⟨tid, t, _, _, rfl⟩ := execResponse_ok h4
      exact ALog.of_eq (by simp)
    · obtain ⟨_, _, rfl⟩ := h3; exact ALog.of_eq (by simp)
    · obtain ⟨_, _, wk1, _, _, rfl⟩ := h3; exact ALog.of_eq rfl
  · obtain ⟨_, _, h2 | h2⟩ := h1
    · obtain ⟨_, rfl⟩ := h2; exact ALog.of_eq (by simp)
    · obtain ⟨_, rfl⟩ := h2; exact ALog.of_eq rfl

theorem getCurrentOrNext_astep {h : Hints} {s s' : State} {q : ScqId} {w : WId} {pi block : Bool}
    (hh : getCurrentOrNext h s q w pi block = .ok s') (hpre : SyncPre s q w) : AStep s s' := by
  obtain ⟨wk, hwk, h1 | h1⟩ := getCurrentOrNext_ok hh
  · refine getNextTask_astep h1.2 hpre ?_
    intro wk' hwk'; rw [hwk] at hwk'; injection hwk' with e; subst e; exact h1.1
  · obtain ⟨tid, t, htk, h0, h2 | h2⟩ := h1
    · refine AStep.of_eq (getCurrentOrNext_kw hh hpre) ?_
      obtain ⟨_, rfl⟩ := h2; simp
    · obtain ⟨_, s1, h3, h4⟩ := h2
      intro hkw
      obtain ⟨hkw1, l1⟩ := complete_astep h3 hkw
      obtain ⟨keep, clr⟩ := complete_keep (q := q) (w := w) h3 hkw.2
      obtain ⟨pin, ppk, pwo, pdw⟩ := hpre wk hwk
      obtain ⟨hkw2, l2⟩ := getNextTask_astep h4 (by
        intro wk1 hwk1
        obtain ⟨wk', e1, p1, a1, a2, a3, _⟩ := keep wk hwk ppk
        rw [e1] at hwk1; injection hwk1 with e; subst e
        exact ⟨a1 ▸ pin, p1, a2 ▸ pwo, a3 ▸ pdw⟩) (fun wk1 hwk1 => clr wk hwk ppk htk wk1 hwk1) hkw1
      exact ⟨hkw2, l1.trans l2⟩

theorem syncArrive_astep {h : Hints} {s s' : State} {now : Nat} {q : ScqId} {comps : List Nat} {pf : Nat}
    {w : WId} {rep : Report} {pi : Bool} (hh : syncArrive h s now q comps pf w rep pi = .ok s') : AStep s s' := by
  obtain ⟨s1, x, h1, h2, h3⟩ := syncArrive_ok hh
  refine (enter_astep h1).trans ?_
  have hq : AStep s1 (unsum x) := by
    refine AStep.of_eq (syncQueue_kw h2) ?_
    rcases syncQueue_ok h2 with ⟨_, rfl⟩ | ⟨_, rfl⟩ | ⟨_, _, rfl⟩ | ⟨_, _, rfl⟩ <;> rfl
  rcases h3 with rfl | ⟨s2, rfl, h3⟩
  · exact hq
  · refine AStep.trans (b := s2) hq ?_
    obtain ⟨kw, pre⟩ := syncWorker_kw s2 q w
    have hwk' : AStep s2 (unsum (syncWorker s2 q w)) := by
      refine AStep.of_eq kw ?_
      rcases syncWorker_cases s2 q w with ⟨wk, _, _, e⟩ | ⟨wk, _, _, e⟩ | ⟨_, e⟩ <;> rw [e] <;> rfl
    rcases h3 with h3 | ⟨s3, wk, h3, hwk, h4⟩
    · rw [h3] at hwk'; exact hwk'
    · rw [h3] at hwk' kw
      intro hkw2
      obtain ⟨hkw3, l3⟩ := hwk' hkw2
      have hpre : SyncPre s3 q w := pre s3 h3 hkw2.2
      obtain ⟨pin, ppk, pwo, pdw⟩ := hpre wk hwk
      have fin : ∀ {s4 : State}, AStep s3 s4 → KW s4 ∧ ALog Elig s2 s4 := by
        intro s4 h; obtain ⟨k4, l4⟩ := h hkw3; exact ⟨k4, l3.trans l4⟩
      rcases h4 with ⟨_, rfl⟩ | ⟨_, h4⟩ | ⟨d, _, _, rfl⟩ | ⟨d, _, _, h4⟩ | ⟨d, r, tid, s4, _, _, htk, h4, h5⟩ | ⟨d, r, _, _, h4⟩
      · refine fin (AStep.of_eq (fun hk3 => ⟨(TStep.of_same (allow := True) (by simp) (by simp) (by simp) (by simp) hk3.1).1,
          syncReturn_winv q w (winv_same hk3.2 rfl rfl rfl rfl)⟩) (by simp))
      · exact fin (getCurrentOrNext_astep h4 hpre)
      · refine fin (AStep.of_eq (fun hk3 => ⟨(TStep.of_same (allow := True) (by simp) (by simp) (by simp) (by simp) hk3.1).1,
          syncReturn_winv q w (winv_same hk3.2 rfl rfl rfl rfl)⟩) (by simp))
      · exact fin (getCurrentOrNext_astep h4 hpre)
      · refine fin ?_
        intro hk3
        obtain ⟨hkw4, l4⟩ := complete_astep h4 hk3
        obtain ⟨keep, clr⟩ := complete_keep (q := q) (w := w) h4 hk3.2
        obtain ⟨hkw5, l5⟩ := getNextTask_astep h5 (by
          intro wk1 hwk1
          obtain ⟨wk', e1, p1, a1, a2, a3, _⟩ := keep wk hwk ppk
          rw [e1] at hwk1; injection hwk1 with e; subst e
          exact ⟨a1 ▸ pin, p1, a2 ▸ pwo, a3 ▸ pdw⟩) (fun wk1 hwk1 => clr wk hwk ppk htk wk1 hwk1) hkw4
        exact ⟨hkw5, l4.trans l5⟩
      · exact fin (getCurrentOrNext_astep h4 hpre)

theorem syncWake_astep {h : Hints} {s s' : State} {now : Nat} {q : ScqId} {w : WId} {reason : Nat}
    (hh : syncWake h s now q w reason = .ok s') : AStep s s' := by
  have hkwstep := syncWake_kw hh
  obtain ⟨s1, wk, h1, hwk, hin, h2⟩ := syncWake_ok hh
  intro hkw
  obtain ⟨hkw1, l1⟩ := enter_astep h1 hkw
  refine ⟨hkwstep hkw, l1.trans ?_⟩
  obtain ⟨hk, hw⟩ := hkw1
  obtain ⟨hm, hq, hw'⟩ := worker?_mem hwk
  have hok := hw.ok wk hm
  have reset : ∀ (wk2 : Worker), wk2.scq = wk.scq → wk2.id = wk.id → wk2.task = wk.task → wk2.inSync = true →
      wk2.parked = false → wk2.woken = false → wk2.drainWait = none →
      KW (s1.setWorker wk2) ∧ SyncPre (s1.setWorker wk2) q w ∧
        (∀ wk', (s1.setWorker wk2).worker? q w = some wk' → wk'.task = wk.task) := by
    intro wk2 e1 e2 e3 e4 e5 e6 e7
    refine ⟨⟨(TStep.of_same (allow := True) (s := s1) (s' := s1.setWorker wk2) rfl rfl rfl rfl hk).1, ?_⟩, ?_, ?_⟩
    · refine hw.setWorker (X := noX) rfl (WFrame.of_eq rfl rfl rfl) (NoPtr.noX _) ?_
      refine ⟨by simp [e5], by simp [e6], by simp [e7], ?_⟩
      intro tid ht; rw [e3] at ht; rw [e1, e2]; exact hok.ptr tid ht
    · intro wk' hwk'
      rw [worker?_setWorker] at hwk'
      simp only [e1, e2, hq, hw', and_self, if_true, hwk, Option.map_some, Option.some.injEq] at hwk'
      subst hwk'; exact ⟨e4, e5, e6, e7⟩
    · intro wk' hwk'
      rw [worker?_setWorker] at hwk'
      simp only [e1, e2, hq, hw', and_self, if_true, hwk, Option.map_some, Option.some.injEq] at hwk'
      subst hwk'; exact e3
  rcases h2 with ⟨_, h2 | h2⟩ | ⟨_, rfl⟩ | ⟨_, hwo, h2 | h2⟩ | ⟨_, sq, g, _, hdw, _, h2⟩
  · obtain ⟨s3, _, h3, rfl⟩ := h2
    obtain ⟨tid, t, _, _, rfl⟩ := execResponse_ok h3
    exact ALog.of_eq (by simp)
  · obtain ⟨_, rfl⟩ := h2; exact ALog.of_eq (by simp)
  · exact ALog.of_eq (by simp)
  · obtain ⟨s3, _, h3, rfl⟩ := h2
    obtain ⟨tid, t, _, _, rfl⟩ := execResponse_ok h3
    exact ALog.of_eq (by simp)
  · obtain ⟨htn, h3⟩ := h2
    obtain ⟨_, ppk, pdw⟩ := hok.woken hwo
    obtain ⟨r1, r2, r3⟩ := reset { wk with woken := false } rfl rfl rfl hin ppk rfl pdw
    refine (ALog.of_eq (s' := s1.setWorker { wk with woken := false }) rfl).trans ((getNextTask_astep h3 r2 ?_ r1).2)
    intro wk' hwk'; rw [r3 wk' hwk']
    cases hwt : wk.task with
    | none => rfl
    | some x => rw [hwt] at htn; cases htn
  · have hds : wk.drainWait.isSome = true := by simp [hdw]
    obtain ⟨_, htn⟩ := hok.dwait hds
    have ppk : wk.parked = false := by
      cases hp : wk.parked with
      | false => rfl
      | true => have := (hok.parked hp).2.2.2.2.1; rw [hdw] at this; cases this
    have pwo : wk.woken = false := by
      cases hp : wk.woken with
      | false => rfl
      | true => have := (hok.woken hp).2.2; rw [hdw] at this; cases this
    obtain ⟨r1, r2, r3⟩ := reset { wk with drainWait := none } rfl rfl rfl hin ppk pwo rfl
    refine (ALog.of_eq (s' := s1.setWorker { wk with drainWait := none }) rfl).trans ((getNextTask_astep h2 r2 ?_ r1).2)
    intro wk' hwk'; rw [r3 wk' hwk']; exact htn

theorem foldl_assigned {α} (f : State → α → State) (hf : ∀ s a, (f s a).assigned = s.assigned) (l : List α) (s : State) :
    (l.foldl f s).assigned = s.assigned :=
  foldl_rel (fun s s' => s'.assigned = s.assigned) (fun _ => rfl) (fun h1 h2 => h2.trans h1) f hf l s

/-- **Every segment** appends only eligible assignments to the log. -/
theorem step_astep {s s' : State} {g : Seg} (hstep : step s g = .ok s') : AStep s s' := by
  cases g with
  | register id comps pf sizes bm bp =>
    simp only [step, pure_ok] at hstep; subst hstep
    exact AStep.of_eq (registerPQ_kw s id comps pf sizes bm bp) rfl
  | exec h now c0 d dk dnc comps pf inv prio => exact execArrive_astep hstep
  | wait h now c0 name => exact waitArrive_astep hstep
  | streamWake h now c0 reason => exact streamWake_astep hstep
  | sync h now q comps pf w rep pi => exact syncArrive_astep hstep
  | syncWake h now q w reason => exact syncWake_astep hstep
  | killOp h now name code =>
    obtain ⟨s1, h1, ⟨_, rfl⟩ | ⟨op, s2, _, h2, rfl⟩⟩ := killOp_ok hstep
    · exact (enter_astep h1).trans (AStep.emit _ _)
    · exact ((enter_astep h1).trans (complete_astep h2)).trans (AStep.emit _ _)
  | killQueue h now q code =>
    obtain ⟨s1, h1, ⟨ev, _, rfl⟩ | ⟨s2, h2, rfl⟩⟩ := killQueue_ok hstep
    · exact (enter_astep h1).trans (AStep.emit _ _)
    · exact ((enter_astep h1).trans (cancelAllQueued_astep h2)).trans (AStep.emit _ _)
  | addDrain h now q p =>
    have hkws := addDrain_kw hstep
    obtain ⟨s1, h1, ⟨_, rfl⟩ | ⟨sq, hsq, rfl⟩⟩ := addDrain_ok hstep
    · exact (enter_astep h1).trans (AStep.emit _ _)
    · intro hkw
      obtain ⟨_, l1⟩ := enter_astep h1 hkw
      refine ⟨hkws hkw, l1.trans (ALog.of_eq ?_)⟩
      simp only [emit_assigned]
      rw [foldl_assigned (drainWake q p) (by intro a b; unfold drainWake; split <;> rfl)]; rfl
  | removeDrain h now q p =>
    have hkws := removeDrain_kw hstep
    obtain ⟨s1, h1, ⟨_, rfl⟩ | ⟨sq, hsq, rfl⟩⟩ := removeDrain_ok hstep
    · exact (enter_astep h1).trans (AStep.emit _ _)
    · intro hkw
      obtain ⟨_, l1⟩ := enter_astep h1 hkw
      exact ⟨hkws hkw, l1.trans (ALog.of_eq rfl)⟩
  | terminate h now id p =>
    have hkws := terminate_kw hstep
    obtain ⟨s1, h1, h2⟩ := terminate_ok hstep
    simp only at h2
    intro hkw
    obtain ⟨_, l1⟩ := enter_astep h1 hkw
    have e := foldl_assigned termMark (by intro a b; rw [termMark_eq])
      (s1.workers.filter (fun w => p.matches w.id)) s1
    refine ⟨hkws hkw, l1.trans (ALog.of_eq ?_)⟩
    rcases h2 with ⟨_, rfl⟩ | ⟨_, rfl⟩ <;> exact e
  | termWake id reason =>
    refine AStep.of_eq (termWake_kw hstep) ?_
    obtain ⟨tc, _, ⟨_, rfl⟩ | ⟨_, _, rfl⟩⟩ := termWake_ok hstep <;> rfl
  | touch h now => exact enter_astep hstep

end BbRe.Lemmas.SchedLive
