import BbRe.Lemmas.SchedLiveWaiters
/-!
The stream / waiter invariant `StreamInv` (defined in SchedLiveWaiters) through the three client-facing segments
(`streamSend`, `streamAttach`, `streamLeave`), through every segment, and in every reachable state; consequence
`stream_op_exists`.
-/
namespace BbRe.Lemmas.SchedLive
open BbRe.Sched

/-- streams parked on `o` by clients other than `c` -/
def cntWo (s : State) (c o : Nat) : Nat :=
  ((s.streams.filter (fun x => x.client ≠ c)).filter (fun st => st.op = o)).length

theorem filter_len_le {α} (p q : α → Bool) (h : ∀ x, p x = true → q x = true) (l : List α) :
    (l.filter p).length ≤ (l.filter q).length := by
  induction l with
  | nil => simp
  | cons a r ih =>
    cases hp : p a with
    | true => have := h a hp; simp only [List.filter_cons, hp, this, if_true, List.length_cons]; omega
    | false =>
      cases hq : q a with
      | true => simp only [List.filter_cons, hp, hq, if_true, List.length_cons, Bool.false_eq_true, if_false]; omega
      | false => simp only [List.filter_cons, hp, hq, Bool.false_eq_true, if_false]; exact ih

theorem filter_len_lt {α} (p q : α → Bool) (h : ∀ x, p x = true → q x = true) {l : List α} {x : α} (hx : x ∈ l)
    (hqx : q x = true) (hpx : p x = false) : (l.filter p).length + 1 ≤ (l.filter q).length := by
  induction l with
  | nil => cases hx
  | cons a r ih =>
    rcases List.mem_cons.1 hx with rfl | hx
    · have := filter_len_le p q h r
      simp only [List.filter_cons, hpx, hqx, if_true, List.length_cons, Bool.false_eq_true, if_false]; omega
    · have := ih hx
      cases hp : p a with
      | true => have := h a hp; simp only [List.filter_cons, hp, this, if_true, List.length_cons]; omega
      | false =>
        cases hq : q a with
        | true => simp only [List.filter_cons, hp, hq, if_true, List.length_cons, Bool.false_eq_true, if_false]; omega
        | false => simp only [List.filter_cons, hp, hq, Bool.false_eq_true, if_false]; exact this

theorem cntWo_le (s : State) (c o : Nat) : cntWo s c o ≤ cnt s o := by
  unfold cntWo cnt
  rw [List.filter_filter]
  exact filter_len_le _ _ (by intro a h; simp only [Bool.and_eq_true] at h; exact h.1) _

theorem cntWo_lt {s : State} {c o : Nat} {st : Stream} (hm : st ∈ s.streams) (hc : st.client = c) (ho : st.op = o) :
    cntWo s c o + 1 ≤ cnt s o := by
  unfold cntWo cnt
  rw [List.filter_filter]
  exact filter_len_lt _ _ (by intro a h; simp only [Bool.and_eq_true] at h; exact h.1) hm (by simp [ho]) (by simp [hc])

theorem streamSend_streamInv {s s' : State} {c o : Nat} (hk : KeysOK s) (hoth : ∀ o', o' ≠ o → cnt s o' ≤ wts s o')
    (hpre : cntWo s c o + 1 ≤ wts s o) (hh : streamSend s c o = .ok s') : StreamInv s' := by
  obtain ⟨op, t, hop, _, ⟨r, _, hw, rfl⟩ | ⟨_, rfl⟩⟩ := streamSend_ok hh
  · have hname := (hk.oname o op hop).1
    intro k
    have hc : cnt (sendDone s c o op t r) k = cntWo s c k := by unfold cnt cntWo; simp
    have hop' : (sendDone s c o op t r).op? k = if o = k then some { op with waiters := op.waiters - 1 } else s.op? k := by
      simp [sendDone, State.op?, alookup_aset, hname]
    rw [hc]
    unfold wts; rw [hop']
    by_cases hko : o = k
    · subst hko
      simp only [if_true]
      unfold wts at hpre; rw [hop] at hpre; simp only at hpre; omega
    · simp only [hko, if_false]
      have := hoth k (fun e => hko e.symm)
      have := cntWo_le s c k
      unfold wts at *; omega
  · intro k
    have hop' : (sendPark s c o t).op? k = s.op? k := by simp [State.op?]
    unfold wts; rw [hop']
    by_cases hko : o = k
    · subst hko
      have hc : cnt (sendPark s c o t) o = cntWo s c o + 1 := by unfold cnt cntWo; simp
      rw [hc]; exact hpre
    · have hc : cnt (sendPark s c o t) k = cntWo s c k := by
        unfold cnt cntWo; simp [hko]
      rw [hc]
      have := hoth k (fun e => hko e.symm)
      have := cntWo_le s c k
      unfold wts at *; omega

theorem streamAttach_streamInv {s s' : State} {c o : Nat} (hk : KeysOK s) (hs : StreamInv s) (hh : streamAttach s c o = .ok s') :
    StreamInv s' := by
  obtain ⟨op, hop, h1⟩ := streamAttach_ok hh
  have hname := (hk.oname o op hop).1
  have hkA : KeysOK (attachS s o op) :=
    (TStep.of_op (allow := True) (s := s) (s' := attachS s o op) (o2 := { op with waiters := op.waiters + 1 }) hop rfl rfl id rfl
      (by simp [attachS, hname]) rfl rfl hk).1
  have hopA : ∀ k, (attachS s o op).op? k = if o = k then some { op with waiters := op.waiters + 1 } else s.op? k := by
    intro k; simp [attachS, State.op?, alookup_aset, hname]
  refine streamSend_streamInv hkA ?_ ?_ h1
  · intro o' hne
    have : cnt (attachS s o op) o' = cnt s o' := rfl
    rw [this]; unfold wts; rw [hopA]; simp only [Ne.symm hne, if_false]; exact hs o'
  · have h1' := cntWo_le s c o
    have h2 := hs o
    have : cntWo (attachS s o op) c o = cntWo s c o := rfl
    rw [this]; unfold wts at h2 ⊢; rw [hopA]; rw [hop] at h2; simp only [if_true] at h2 ⊢; omega

theorem streamLeave_streamInv {s s' : State} {c code : Nat} (hk : KeysOK s) (hs : StreamInv s)
    (hh : streamLeave s c code = .ok s') : StreamInv s' := by
  obtain ⟨st, op, hst, hop, hw, rfl⟩ := streamLeave_ok hh
  have hname := (hk.oname st.op op hop).1
  have hm := List.mem_of_find?_eq_some hst
  have hcl : st.client = c := by simpa using List.find?_some hst
  intro k
  have hc : cnt (leaveS s c st op code) k = cntWo s c k := by unfold cnt cntWo; simp
  have hop' : (leaveS s c st op code).op? k = if st.op = k then some { op with waiters := op.waiters - 1 } else s.op? k := by
    simp [leaveS, State.op?, alookup_aset, hname]
  rw [hc]; unfold wts; rw [hop']
  by_cases hko : st.op = k
  · subst hko
    simp only [if_true]
    have h1 := cntWo_lt hm hcl rfl
    have h2 := hs st.op
    unfold wts at h2; rw [hop] at h2; simp only at h2; omega
  · simp only [hko, if_false]
    have := hs k; have := cntWo_le s c k
    unfold wts at *; omega

/-- a fresh operation (nobody can be parked on it) leaves the invariant intact -/
theorem streamInv_fresh_op {s s' : State} (hw : WakeInv s) (hs : StreamInv s) (hst : s'.streams = s.streams)
    (hop : ∀ k, k ≠ s.nextOp → s'.op? k = s.op? k) : StreamInv s' := by
  intro k
  have hc : cnt s' k = cnt s k := by unfold cnt; rw [hst]
  rw [hc]
  by_cases hk : k = s.nextOp
  · subst hk
    have : cnt s s.nextOp = 0 := by
      unfold cnt
      rw [List.length_eq_zero_iff, List.filter_eq_nil_iff]
      intro st hm; have := (hw st hm).1; simp only [decide_eq_true_eq]; omega
    omega
  · unfold wts; rw [hop k hk]; exact hs k

theorem streamInv_step {s s' : State} {g : Seg} (hi : KWC noEx s) (hw : WakeInv s) (hs : StreamInv s)
    (hstep : step s g = .ok s') : StreamInv s' := by
  have hk := hi.1.1
  -- segments that leave the parked streams alone
  have quiet : isStreamSeg g = false → StreamInv s' := fun hg =>
    have ⟨e, o⟩ := step_ostep hi hstep hg
    streamInv_of_ostep hk hw hs e o
  -- state after `enter`, which is the segment `touch`
  have afterEnter : ∀ {h : Hints} {now : Nat} {s1 : State}, enter h s now = .ok s1 →
      KWC noEx s1 ∧ WakeInv s1 ∧ StreamInv s1 := fun {h now _} h1 =>
    ⟨enter_kwc hi h1, wakeInv_step (g := .touch h now) hk hw h1,
      streamInv_of_ostep hk hw hs (enter_frame h1).streams (enter_ostep hi h1)⟩
  cases g with
  | exec h now c0 d dk dnc comps pf inv prio =>
    obtain ⟨s1, h1, h2 | h2 | h2⟩ := execArrive_ok hstep
    all_goals obtain ⟨hi1, hw1, hs1⟩ := afterEnter h1
    · obtain ⟨tid, t, _, h0, ⟨o, _, h3⟩ | ⟨_, h3⟩⟩ := h2
      all_goals have hkE : KeysOK (emit s1 .selAbandoned) := (hi1.same (s' := emit s1 .selAbandoned)).1.1
      · exact streamAttach_streamInv hkE hs1 h3
      · have hkA := (addOpS_tstep True inv prio (s := emit s1 .selAbandoned) h0 hkE).1
        refine streamAttach_streamInv hkA ?_ h3
        refine streamInv_fresh_op (s := s1) hw1 hs1 rfl ?_
        intro k hk'; simp [State.op?, alookup_aset, Ne.symm hk']
    · obtain ⟨_, _, rfl⟩ := h2; exact hs1
    · obtain ⟨_, pq, sc, s3, _, _, h3, h4⟩ := h2
      have hk3 : KeysOK s3 := ((tstep_new_then_schedule (allow := True) (s := s1) (tn := newTask s1 d dk dnc ⟨pq.id, sc⟩)
        (on := newOp s1 inv prio) rfl rfl rfl (by simp) (by simp) (by simp) (by simp) h3) hi1.1.1).1
      refine streamAttach_streamInv hk3 ?_ h4
      obtain ⟨_, _, _, _, _, e2, _, _⟩ := schedule_shape h3
      refine streamInv_fresh_op (s := s1) hw1 hs1 ?_ ?_
      · rw [(schedule_frame h3).streams]; simp
      · intro k hk'; simp [State.op?, e2, alookup_aset, Ne.symm hk']
  | wait h now c0 name =>
    obtain ⟨s1, h1, ⟨_, rfl⟩ | ⟨op, _, h2⟩⟩ := waitArrive_ok hstep
    all_goals obtain ⟨hi1, hw1, hs1⟩ := afterEnter h1
    · exact hs1
    · exact streamAttach_streamInv hi1.1.1 hs1 h2
  | streamWake h now c0 reason =>
    obtain ⟨s1, st, h1, hst, ⟨_, h3⟩ | ⟨_, _, h3⟩⟩ := streamWake_ok hstep
    all_goals obtain ⟨hi1, hw1, hs1⟩ := afterEnter h1
    · exact streamLeave_streamInv hi1.1.1 hs1 h3
    · refine streamSend_streamInv hi1.1.1 (fun o' _ => hs1 o') ?_ h3
      have hm := List.mem_of_find?_eq_some hst
      have hcl : st.client = c0 := by simpa using List.find?_some hst
      have := cntWo_lt hm hcl rfl
      have := hs1 st.op
      omega
  | _ => exact quiet rfl

theorem streamInv_reachable {s : State} (hs : Reachable s) : StreamInv s := by
  induction hs with
  | init cfg => intro o; simp [cnt, wts, State.init, State.op?, alookup]
  | step g hr hstep ih => exact streamInv_step (kwc_reachable hr) (wakeInv_reachable hr) ih hstep

/-- **Every parked stream's operation and task exist, and the operation has a waiter.** -/
theorem stream_op_exists {s : State} (hs : Reachable s) {st : Stream} (hm : st ∈ s.streams) :
    ∃ op t, s.op? st.op = some op ∧ 0 < op.waiters ∧ s.task? op.task = some t := by
  have h1 := streamInv_reachable hs st.op
  have hpos : 0 < cnt s st.op := by
    unfold cnt
    exact List.length_pos_of_mem (List.mem_filter.2 ⟨hm, by simp⟩)
  unfold wts at h1
  cases hop : s.op? st.op with
  | none => rw [hop] at h1; simp only at h1; omega
  | some op =>
    rw [hop] at h1; simp only at h1
    obtain ⟨t, ht, _⟩ := (cinv_reachable hs).opT st.op op hop
    exact ⟨op, t, rfl, by omega, ht⟩

end BbRe.Lemmas.SchedLive
