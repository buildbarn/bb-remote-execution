import BbRe.Lemmas.SchedLiveWorker
/-!
Worker invariant (`WInv`) through `schedule`, the detach prefix of `complete` and `complete` itself;
general ways to re-establish it after a task rewrite (`WInv.of_detach`) or a fresh task (`WInv.of_fresh`).
-/
namespace BbRe.Lemmas.SchedLive
open BbRe.Sched

/-- discharge the "other keys untouched" side condition of `WFrame.of_aset` -/
macro "other_keys" : tactic =>
  `(tactic| (intro k hk; simp [State.task?, alookup_aset, retryT, bumpGen, Ne.symm hk]))

@[simp] theorem assignS_workers (s : State) (w : Worker) (t : Task) :
    (assignS s w t).workers = (s.setWorker { w with task := some t.id }).workers := rfl

theorem noPtr_of_worker_none {s : State} (hw : WInv s) {k : Nat} {t : Task} (h0 : s.task? k = some t)
    (hn : t.worker = none) : NoPtr (· = k) s := by
  intro wk hm tid ht e
  subst e
  have := ((hw.ok wk hm).ptr tid ht).2 t h0
  rw [hn] at this; cases this.1

theorem setWorker_twice (s : State) (a b : Worker) (h : wkey a = wkey b) :
    ((s.setWorker a).setWorker b).workers = (s.setWorker b).workers := by
  rw [setWorker_workers, setWorker_workers, setWorker_workers, List.map_map]
  apply List.map_congr_left
  intro x _
  simp only [Function.comp]
  by_cases hx : wkey x = wkey a
  · simp [hx, h]
  · have : ¬ wkey x = wkey b := by rw [← h]; exact hx
    simp [hx, this]

theorem hintedWorker_mem {h : Hints} {s : State} {t : Task} {w : Worker} (hh : hintedWorker h s t = some w) :
    w ∈ s.workers := by
  unfold hintedWorker at hh
  split at hh
  · exact (worker?_mem hh).1
  · cases hh

/-- `schedule` keeps the worker invariant when the scheduled task is stored under its id and uncompleted. -/
theorem schedule_winv {h : Hints} {s s' : State} {tid : Nat} (hh : schedule h s tid = .ok s') (hw : WInv s)
    (ht : ∀ t, s.task? tid = some t → t.id = tid ∧ tid < s.nextTask ∧ t.response = none) : WInv s' := by
  obtain ⟨t, h0, ⟨_, rfl⟩ | ⟨_, w, w1, hhw, hpk, hw1, hw1t, htw, rfl⟩⟩ := schedule_ok hh
  · obtain ⟨hid, _, _⟩ := ht t h0
    exact hw.of_frame rfl (WFrame.of_aset_same (t0 := t) (t2 := { t with queued := true }) (k0 := t.id)
      (by rw [hid]; exact h0) rfl rfl rfl rfl rfl) (NoPtr.noX s)
  · obtain ⟨hid, hlt, hresp⟩ := ht t h0
    have hm := hintedWorker_mem hhw
    have hok := hw.ok w hm
    obtain ⟨p1, p2, p3, p4, p5, p6⟩ := hok.parked hpk
    have hlk : s.worker? w.scq w.id = some w := worker?_of_mem hw.uniq hm
    have e1 : w1 = { w with parked := false, woken := true } := by
      simp only [wakeWorker, worker?_setWorker, and_self, if_true, hlk, Option.map_some, Option.some.injEq] at hw1
      exact hw1.symm
    subst e1
    refine hw.setWorker (X := (· = t.id)) (w := { w with parked := false, woken := true, task := some t.id })
      ?_ (WFrame.of_aset (k0 := t.id) (by simp) (by simp) (by other_keys)) (by rw [hid]; exact noPtr_of_worker_none hw h0 htw) ?_
    · simp only [assignS_workers, wakeWorker]
      exact setWorker_twice s _ _ rfl
    · refine ⟨by simp, by simp [p1, p5], by simp [p5], ?_⟩
      intro tid' e
      simp only [Option.some.injEq] at e; subst e
      refine ⟨by rw [hid]; simpa using hlt, ?_⟩
      intro t' ht'
      simp only [State.task?, assignS_tasks, alookup_aset, if_true, Option.some.injEq] at ht'
      subst ht'
      exact ⟨rfl, hresp⟩

/-- after the detach prefix of `complete` no worker points to the task any more -/
theorem detachW_winv {s : State} {tid : Nat} {t : Task} (hw : WInv s) (h0 : s.task? tid = some t) :
    WInv (detachW s t) ∧ NoPtr (· = tid) (detachW s t) := by
  cases htw : t.worker with
  | none =>
    have e : detachW s t = s := by unfold detachW; simp [htw]
    rw [e]; exact ⟨hw, noPtr_of_worker_none hw h0 htw⟩
  | some qw =>
    obtain ⟨q, w⟩ := qw
    cases hlk : s.worker? q w with
    | none =>
      have e : detachW s t = s := by unfold detachW; simp [htw, hlk]
      rw [e]
      refine ⟨hw, ?_⟩
      intro wk hm tid' htk e; subst e
      have := (((hw.ok wk hm).ptr _ htk).2 t h0).1
      rw [htw] at this; simp only [Option.some.injEq, Prod.mk.injEq] at this
      have hl := worker?_of_mem hw.uniq hm
      rw [← this.1, ← this.2, hlk] at hl; cases hl
    | some wk0 =>
      have e : detachW s t = s.setWorker { wk0 with task := none } := by unfold detachW; simp [htw, hlk]
      rw [e]
      obtain ⟨hm0, hq0, hw0⟩ := worker?_mem hlk
      have hok0 := hw.ok wk0 hm0
      constructor
      · refine hw.setWorker (X := noX) rfl (WFrame.of_eq rfl rfl rfl) (NoPtr.noX s) ?_
        refine ⟨?_, hok0.woken, fun h => ⟨(hok0.dwait h).1, rfl⟩, by simp⟩
        intro hp; obtain ⟨a, b, _, d, e, f⟩ := hok0.parked hp; exact ⟨a, b, rfl, d, e, f⟩
      · intro x hx tid' htk e; subst e
        rcases mem_setWorker hx with rfl | ⟨hx, hne⟩
        · cases htk
        · have := (((hw.ok x hx).ptr _ htk).2 t h0).1
          rw [htw] at this; simp only [Option.some.injEq, Prod.mk.injEq] at this
          exact hne (by simp [wkey, ← this.1, ← this.2, hq0, hw0])

/-- a state update that leaves workers alone and frames the rest -/
theorem winv_same {s s' : State} (hw : WInv s) (h0 : s'.workers = s.workers) (h1 : s'.nextTask = s.nextTask)
    (h2 : s'.scqs = s.scqs) (h3 : s'.tasks = s.tasks) : WInv s' :=
  hw.of_frame h0 (WFrame.of_eq (X := noX) h1 h2 h3) (NoPtr.noX s)

/-- any rewrite of task `t` on top of the detach prefix of `complete` keeps the worker invariant -/
theorem WInv.of_detach {s s' : State} {tid : Nat} {t : Task} (hw : WInv s) (hk : KeysOK s) (h0 : s.task? tid = some t)
    (h1 : s'.workers = (detachW s t).workers) (h2 : s'.nextTask = (detachW s t).nextTask)
    (h3 : s'.scqs = (detachW s t).scqs) (h4 : ∀ k, k ≠ t.id → s'.task? k = (detachW s t).task? k) : WInv s' := by
  obtain ⟨hd, hnp⟩ := detachW_winv hw h0
  exact hd.of_frame h1 (WFrame.of_aset h2 h3 h4) (by rw [(hk.tid tid t h0).1]; exact hnp)

/-- a task stored under the next free key -/
theorem WInv.of_fresh {s s' : State} (hw : WInv s) {tn : Task} (h1 : s'.workers = s.workers)
    (h2 : s.nextTask ≤ s'.nextTask) (h3 : s'.scqs = s.scqs) (h4 : s'.tasks = aset s.nextTask tn s.tasks) : WInv s' := by
  refine hw.of_frame (X := noX) h1 ⟨h2, ?_, ?_⟩ (NoPtr.noX _)
  · intro q sq' hq p hp; simp only [State.scq?, h3] at hq; exact ⟨sq', hq, hp⟩
  · intro tid' t' hlt' _ ht'
    simp only [State.task?, h4, alookup_aset] at ht'
    split at ht'
    · omega
    · exact ⟨t', ht', rfl, rfl⟩

theorem bgState_winv {s : State} (hw : WInv s) (t : Task) (bq : ScqId) (bl : Nat) (pq : PQ) :
    WInv (bgState (bumpLearner s) t bq bl pq) :=
  hw.of_fresh rfl (Nat.le_succ _) rfl rfl

theorem complete_winv {h : Hints} {s s' : State} {tid : Nat} {r : Resp} {bw : Bool}
    (hh : complete h s tid r bw = .ok s') (hk : KeysOK s) (hw : WInv s) : WInv s' := by
  obtain ⟨t, h0, ⟨_, rfl⟩ | ⟨hr, l, _, h1 | h1 | h1⟩⟩ := complete_ok hh
  · exact hw
  · have fin : ∀ ev, WInv (succS (detachW s t) (detachT t) ev r) := fun ev =>
      hw.of_detach hk h0 (by simp) (by simp) (by simp) (by other_keys)
    obtain ⟨ev, _, rfl | ⟨ev', _, rfl⟩ | ⟨bq, pq, h2, _⟩⟩ := completeSucc_ok h1.2
    · exact fin ev
    · exact winv_same (fin ev) (by simp) (by simp) (by simp) (by simp)
    · refine schedule_winv h2 (bgState_winv (fin ev) ..) ?_
      intro tb htb
      simp only [State.task?, bgState_tasks, alookup_aset, bumpLearner_nextTask, if_true, Option.some.injEq] at htb
      subst htb
      exact ⟨rfl, by simp, rfl⟩
  · obtain ⟨hid, hlt⟩ := hk.tid tid t h0
    obtain ⟨s2, t2, h2, hle, hid2, rfl, e1, _⟩ := completeRetry_shape h1.2.2.2
    have hs2 : WInv s2 := by
      refine schedule_winv h2 (hw.of_detach hk h0 (by simp) (by simp) (by simp) (by other_keys)) ?_
      intro tb htb
      simp only [State.task?, setTask_tasks, alookup_aset] at htb
      have : (retryT (detachW s t) (detachT t) l r).id = t.id := by simp [retryT]
      simp only [this, if_true, Option.some.injEq] at htb
      subst htb
      exact ⟨by simp [retryT], by simp [hid]; exact hlt, by simp [retryT, hr]⟩
    have hk2 : s2.task? t2.id = some t2 := by simp [State.task?, e1, hid2]
    exact hs2.of_frame rfl (WFrame.of_aset_same (t0 := t2) (t2 := bumpGen t2) (k0 := t2.id) hk2 rfl rfl rfl rfl rfl) (NoPtr.noX _)
  · obtain ⟨_, _, ev, _, rfl⟩ := h1
    exact hw.of_detach hk h0 (by simp) (by simp) (by simp) (by other_keys)

end BbRe.Lemmas.SchedLive
