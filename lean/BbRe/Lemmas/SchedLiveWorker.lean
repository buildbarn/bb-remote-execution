import BbRe.Lemmas.SchedLiveMono2
/-!
Worker invariants (C02 `no_lost_wakeup` for workers, C05 eligibility, C06
`every_sleeper_wakes`): a parked worker is inside `Synchronize`, holds no task,
is not terminating and matches no drain of its queue; a woken worker is inside
`Synchronize` and no longer parked; a worker waiting for an undrain holds no
task; a worker's `currentTask` points to an uncompleted task that points back.
-/
namespace BbRe.Lemmas.SchedLive
open BbRe.Sched

/-- identity of a worker -/
def wkey (x : Worker) : ScqId × WId := (x.scq, x.id)

/-- per-worker invariant, relative to the state (drains, tasks) -/
structure WOk (s : State) (wk : Worker) : Prop where
  parked : wk.parked = true → wk.inSync = true ∧ wk.woken = false ∧ wk.task = none ∧ wk.terminating = false ∧
      wk.drainWait = none ∧ ∀ sq, s.scq? wk.scq = some sq → ∀ p ∈ sq.drains, p.matches wk.id = false
  woken : wk.woken = true → wk.inSync = true ∧ wk.parked = false ∧ wk.drainWait = none
  dwait : wk.drainWait.isSome = true → wk.inSync = true ∧ wk.task = none
  ptr : ∀ tid, wk.task = some tid → tid < s.nextTask ∧
      ∀ t, s.task? tid = some t → t.worker = some (wk.scq, wk.id) ∧ t.response = none

structure WInv (s : State) : Prop where
  uniq : (s.workers.map wkey).Nodup
  ok : ∀ wk ∈ s.workers, WOk s wk

/-- what of the state a worker's invariant depends on may change like this; `X` = task keys that may
change arbitrarily (no worker may point to them) -/
structure WFrame (X : Nat → Prop) (s s' : State) : Prop where
  nt : s.nextTask ≤ s'.nextTask
  drains : ∀ q sq', s'.scq? q = some sq' → ∀ p ∈ sq'.drains, ∃ sq, s.scq? q = some sq ∧ p ∈ sq.drains
  tasks : ∀ tid t', tid < s.nextTask → ¬ X tid → s'.task? tid = some t' →
      ∃ t, s.task? tid = some t ∧ t'.worker = t.worker ∧ t'.response = t.response

def noX : Nat → Prop := fun _ => False

theorem WOk.frame {X : Nat → Prop} {s s' : State} {wk : Worker} (h : WOk s wk) (f : WFrame X s s')
    (hx : ∀ tid, wk.task = some tid → ¬ X tid) : WOk s' wk := by
  refine ⟨?_, h.woken, h.dwait, ?_⟩
  · intro hp
    obtain ⟨a, b, c, d, e, g⟩ := h.parked hp
    refine ⟨a, b, c, d, e, ?_⟩
    intro sq' hsq' p hpm
    obtain ⟨sq, e1, e2⟩ := f.drains _ _ hsq' p hpm
    exact g sq e1 p e2
  · intro tid ht
    obtain ⟨a, b⟩ := h.ptr tid ht
    refine ⟨Nat.lt_of_lt_of_le a f.nt, ?_⟩
    intro t' ht'
    obtain ⟨t, e1, e2, e3⟩ := f.tasks tid t' a (hx tid ht) ht'
    obtain ⟨c, d⟩ := b t e1
    exact ⟨e2 ▸ c, e3 ▸ d⟩

theorem WFrame.refl (X : Nat → Prop) (s : State) : WFrame X s s :=
  ⟨Nat.le_refl _, fun _ sq' h _ hp => ⟨sq', h, hp⟩, fun _ t' _ _ h => ⟨t', h, rfl, rfl⟩⟩

theorem WFrame.of_eq {X : Nat → Prop} {s s' : State} (h1 : s'.nextTask = s.nextTask) (h2 : s'.scqs = s.scqs)
    (h3 : s'.tasks = s.tasks) : WFrame X s s' := by
  refine ⟨by omega, ?_, ?_⟩
  · intro q sq' h p hp; simp only [State.scq?, h2] at h; exact ⟨sq', h, hp⟩
  · intro tid t' _ _ h; simp only [State.task?, h3] at h; exact ⟨t', h, rfl, rfl⟩

/-- the task under key `k0` rewritten arbitrarily (exempt key) -/
theorem WFrame.of_aset {s s' : State} {k0 : Nat} (h1 : s'.nextTask = s.nextTask) (h2 : s'.scqs = s.scqs)
    (h3 : ∀ k, k ≠ k0 → s'.task? k = s.task? k) : WFrame (· = k0) s s' := by
  refine ⟨by omega, ?_, ?_⟩
  · intro q sq' h p hp; simp only [State.scq?, h2] at h; exact ⟨sq', h, hp⟩
  · intro tid t' _ hx h
    rw [h3 tid hx] at h
    exact ⟨t', h, rfl, rfl⟩

/-- one task rewritten keeping its worker and response -/
theorem WFrame.of_aset_same {s s' : State} {k0 : Nat} {t0 t2 : Task} (h0 : s.task? k0 = some t0)
    (hw : t2.worker = t0.worker) (hr : t2.response = t0.response)
    (h1 : s'.nextTask = s.nextTask) (h2 : s'.scqs = s.scqs)
    (h3 : s'.tasks = aset k0 t2 s.tasks) : WFrame noX s s' := by
  refine ⟨by omega, ?_, ?_⟩
  · intro q sq' h p hp; simp only [State.scq?, h2] at h; exact ⟨sq', h, hp⟩
  · intro tid t' _ _ h
    simp only [State.task?, h3, alookup_aset] at h
    split at h
    · rename_i e; subst e; injection h with h; subst h; exact ⟨t0, h0, hw, hr⟩
    · exact ⟨t', h, rfl, rfl⟩

/-- no worker points to any exempt key -/
def NoPtr (X : Nat → Prop) (s : State) : Prop := ∀ wk ∈ s.workers, ∀ tid, wk.task = some tid → ¬ X tid

theorem NoPtr.noX (s : State) : NoPtr noX s := fun _ _ _ _ h => h

/-- workers untouched, the rest framed -/
theorem WInv.of_frame {X : Nat → Prop} {s s' : State} (h : WInv s) (hw : s'.workers = s.workers)
    (f : WFrame X s s') (hx : NoPtr X s) : WInv s' :=
  ⟨hw ▸ h.uniq, fun wk hm => (h.ok wk (hw ▸ hm)).frame f (hx wk (hw ▸ hm))⟩

theorem eq_of_nodup_map {α β} {f : α → β} {l : List α} (hn : (l.map f).Nodup) {x y : α} (hx : x ∈ l) (hy : y ∈ l)
    (h : f x = f y) : x = y := by
  induction l with
  | nil => cases hx
  | cons a r ih =>
    rw [List.map_cons, List.nodup_cons] at hn
    rcases List.mem_cons.1 hx with rfl | hx' <;> rcases List.mem_cons.1 hy with hy' | hy'
    · exact hy'.symm
    · exact absurd (List.mem_map.2 ⟨y, hy', h.symm⟩) hn.1
    · subst hy'; exact absurd (List.mem_map.2 ⟨x, hx', h⟩) hn.1
    · exact ih hn.2 hx' hy'

theorem eq_of_wkey {l : List Worker} (hn : (l.map wkey).Nodup) {x y : Worker} (hx : x ∈ l) (hy : y ∈ l)
    (h : wkey x = wkey y) : x = y :=
  eq_of_nodup_map hn hx hy h

theorem worker?_mem {s : State} {q : ScqId} {w : WId} {wk : Worker} (h : s.worker? q w = some wk) :
    wk ∈ s.workers ∧ wk.scq = q ∧ wk.id = w := by
  unfold State.worker? at h
  refine ⟨List.mem_of_find?_eq_some h, ?_⟩
  have := List.find?_some h
  simpa using this

theorem worker?_of_mem {s : State} (hn : (s.workers.map wkey).Nodup) {wk : Worker} (h : wk ∈ s.workers) :
    s.worker? wk.scq wk.id = some wk := by
  unfold State.worker?
  cases hf : s.workers.find? (fun x => x.scq = wk.scq ∧ x.id = wk.id) with
  | none =>
    rw [List.find?_eq_none] at hf
    exact absurd (by simp) (hf wk h)
  | some x =>
    have hx := List.mem_of_find?_eq_some hf
    have hk := List.find?_some hf
    simp only [decide_eq_true_eq] at hk
    have : x = wk := eq_of_wkey hn hx h (by simp [wkey, hk.1, hk.2])
    rw [this]

theorem setWorker_workers (s : State) (w : Worker) :
    (s.setWorker w).workers = s.workers.map (fun x => if wkey x = wkey w then w else x) := by
  unfold State.setWorker
  simp only [wkey, Prod.mk.injEq]

theorem map_wkey_setWorker (s : State) (w : Worker) : (s.setWorker w).workers.map wkey = s.workers.map wkey := by
  rw [setWorker_workers, List.map_map]
  apply List.map_congr_left
  intro x _; simp only [Function.comp]; split
  · rename_i h; exact h.symm
  · rfl

/-- members of the worker list after `setWorker` -/
theorem mem_setWorker {s : State} {w x : Worker} (h : x ∈ (s.setWorker w).workers) :
    x = w ∨ (x ∈ s.workers ∧ wkey x ≠ wkey w) := by
  rw [setWorker_workers, List.mem_map] at h
  obtain ⟨y, hy, e⟩ := h
  split at e
  · exact .inl e.symm
  · subst e; exact .inr ⟨hy, by assumption⟩

/-- replacing a worker by a record that satisfies the invariant in the new state -/
theorem WInv.setWorker {X : Nat → Prop} {s s' : State} {w : Worker} (h : WInv s)
    (hw : s'.workers = (s.setWorker w).workers) (f : WFrame X s s') (hx : NoPtr X s) (hok : WOk s' w) : WInv s' := by
  refine ⟨by rw [hw, map_wkey_setWorker]; exact h.uniq, ?_⟩
  intro x hm
  rw [hw] at hm
  rcases mem_setWorker hm with rfl | ⟨hm, _⟩
  · exact hok
  · exact (h.ok x hm).frame f (hx x hm)

theorem WInv.filter {X : Nat → Prop} {s s' : State} (h : WInv s) (p : Worker → Bool)
    (hw : s'.workers = s.workers.filter p) (f : WFrame X s s') (hx : NoPtr X s) : WInv s' := by
  refine ⟨by rw [hw]; exact h.uniq.sublist (List.filter_sublist.map _), ?_⟩
  intro x hm; rw [hw] at hm
  exact (h.ok x (List.mem_filter.1 hm).1).frame f (hx x (List.mem_filter.1 hm).1)

end BbRe.Lemmas.SchedLive
