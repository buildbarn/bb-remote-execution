import BbRe.Model.GoHeap
/-!
Basic facts about the `container/heap` model: `swp` is a transposition (sizes, lookups,
permutation), `lessAt` after a swap, and strict weak orders on positions (`SWOn`).

The order reasoning is done on the relation `R p q := lessAt less a p q` between *positions*;
a swap of positions `i` and `j` turns `R` into `fun p q => R (tr i j p) (tr i j q)`.
-/
namespace BbRe.Lemmas.GoHeap
open BbRe.GoHeap

variable {α : Type}

/-- The transposition of `i` and `j`. -/
def tr (i j k : Nat) : Nat := if k = i then j else if k = j then i else k

theorem tr_left (i j : Nat) : tr i j i = j := if_pos rfl

theorem tr_right (i j : Nat) : tr i j j = i := by
  unfold tr
  split
  · assumption
  · exact if_pos rfl

theorem tr_other {i j k : Nat} (hi : k ≠ i) (hj : k ≠ j) : tr i j k = k := by
  unfold tr
  rw [if_neg hi, if_neg hj]

@[simp] theorem size_swp (a : Array α) (i j : Nat) : (swp a i j).size = a.size := by
  unfold swp; split <;> simp

theorem getElem?_swp (a : Array α) (i j k : Nat) (hi : i < a.size) (hj : j < a.size) :
    (swp a i j)[k]? = a[tr i j k]? := by
  unfold swp tr
  rw [dif_pos ⟨hi, hj⟩, Array.getElem?_swap]
  by_cases h1 : k = i
  · subst h1
    by_cases h2 : j = k
    · subst h2; simp
    · simp [h2, Array.getElem?_eq_getElem hj]
  · by_cases h2 : k = j
    · subst h2; simp [h1, Array.getElem?_eq_getElem hi]
    · have h3 : ¬ j = k := fun h => h2 h.symm
      have h4 : ¬ i = k := fun h => h1 h.symm
      simp [h1, h2, h3, h4]

theorem getElem?_swp_other (a : Array α) {i j k : Nat} (hi : k ≠ i) (hj : k ≠ j) : (swp a i j)[k]? = a[k]? := by
  by_cases h : i < a.size ∧ j < a.size
  · rw [getElem?_swp a i j k h.1 h.2, tr_other hi hj]
  · unfold swp; rw [dif_neg h]

theorem swp_perm (a : Array α) (i j : Nat) : (swp a i j).Perm a := by
  unfold swp
  split
  · exact Array.swap_perm _ _
  · exact Array.Perm.refl _

theorem swp_oob (a : Array α) (i j : Nat) (h : ¬ (i < a.size ∧ j < a.size)) : swp a i j = a := by
  unfold swp; rw [dif_neg h]

theorem swp_self (a : Array α) (i : Nat) : swp a i i = a := by
  by_cases hi : i < a.size
  · apply Array.ext_getElem?
    intro k
    rw [getElem?_swp a i i k hi hi]
    unfold tr
    split
    · rename_i h; rw [h]
    · rfl
  · exact swp_oob a i i (fun h => hi h.1)

theorem lessAt_swp (less : α → α → Bool) (a : Array α) (i j p q : Nat)
    (hi : i < a.size) (hj : j < a.size) :
    lessAt less (swp a i j) p q = lessAt less a (tr i j p) (tr i j q) := by
  unfold lessAt
  rw [getElem?_swp a i j p hi hj, getElem?_swp a i j q hi hj]

theorem lessAt_swp_fun (less : α → α → Bool) (a : Array α) (i j : Nat) (hi : i < a.size) (hj : j < a.size) :
    lessAt less (swp a i j) = fun p q => lessAt less a (tr i j p) (tr i j q) :=
  funext fun p => funext fun q => lessAt_swp less a i j p q hi hj

theorem lessAt_eq (less : α → α → Bool) (a : Array α) (p q : Nat) (hp : p < a.size) (hq : q < a.size) :
    lessAt less a p q = less a[p] a[q] := by
  unfold lessAt
  rw [Array.getElem?_eq_getElem hp, Array.getElem?_eq_getElem hq]

theorem lessAt_oob_left (less : α → α → Bool) (a : Array α) (p q : Nat) (hp : a.size ≤ p) :
    lessAt less a p q = false := by
  unfold lessAt
  rw [Array.getElem?_eq_none hp]

theorem lessAt_oob_right (less : α → α → Bool) (a : Array α) (p q : Nat) (hq : a.size ≤ q) :
    lessAt less a p q = false := by
  unfold lessAt
  rw [Array.getElem?_eq_none hq]
  split <;> simp_all

/-- A strict weak order on positions `< m` (positions `≥ m` are related to nothing). -/
structure SWOn (R : Nat → Nat → Bool) (m : Nat) : Prop where
  asymm : ∀ x y, R x y = true → R y x = false
  negTrans : ∀ x y z, y < m → R x y = false → R y z = false → R x z = false

theorem SWOn.of_strictWeak {less : α → α → Bool} (sw : StrictWeak less) (a : Array α) :
    SWOn (lessAt less a) a.size := by
  constructor
  · intro x y h
    by_cases hx : x < a.size
    · by_cases hy : y < a.size
      · rw [lessAt_eq less a x y hx hy] at h
        rw [lessAt_eq less a y x hy hx]
        exact sw.asymm _ _ h
      · exact lessAt_oob_left less a y x (Nat.le_of_not_lt hy)
    · exact lessAt_oob_right less a y x (Nat.le_of_not_lt hx)
  · intro x y z hy h1 h2
    by_cases hx : x < a.size
    · by_cases hz : z < a.size
      · rw [lessAt_eq less a x y hx hy] at h1
        rw [lessAt_eq less a y z hy hz] at h2
        rw [lessAt_eq less a x z hx hz]
        exact sw.negTrans _ _ _ h1 h2
      · exact lessAt_oob_right less a x z (Nat.le_of_not_lt hz)
    · exact lessAt_oob_left less a x z (Nat.le_of_not_lt hx)

theorem tr_lt {i j k m : Nat} (hi : i < m) (hj : j < m) (hk : k < m) : tr i j k < m := by
  unfold tr
  split
  · exact hj
  · split
    · exact hi
    · exact hk

theorem SWOn.swap {R : Nat → Nat → Bool} {m : Nat} (h : SWOn R m) (i j : Nat) (hi : i < m) (hj : j < m) :
    SWOn (fun p q => R (tr i j p) (tr i j q)) m := by
  constructor
  · intro x y hxy; exact h.asymm _ _ hxy
  · intro x y z hy h1 h2
    exact h.negTrans _ (tr i j y) _ (tr_lt hi hj hy) h1 h2

theorem SWOn.irrefl {R : Nat → Nat → Bool} {m : Nat} (h : SWOn R m) (x : Nat) : R x x = false := by
  cases hx : R x x with
  | false => rfl
  | true => have := h.asymm x x hx; simp_all

/-- Transitivity, derived from asymmetry and negative transitivity. -/
theorem SWOn.trans {R : Nat → Nat → Bool} {m : Nat} (h : SWOn R m) (x y z : Nat) (hz : z < m)
    (h1 : R x y = true) (h2 : R y z = true) : R x z = true := by
  cases hxz : R x z with
  | true => rfl
  | false =>
    have h3 : R z y = false := h.asymm _ _ h2
    have := h.negTrans x z y hz hxz h3
    simp_all

end BbRe.Lemmas.GoHeap
