import BbRe.Lemmas.SchedTreeLinkDefs
/-!
`MInv` (the fragment of the scheduler invariant the tree layer relies on) is preserved by the state
updates that occur inside `task.schedule`, `task.complete`, `Execute`: one task record is replaced by one
with the same operations (`MInv.replace`), and / or one worker record by one with the same key.
-/
namespace BbRe.Lemmas.SchedTree
open BbRe.Sched BbRe.SchedTree BbRe.Lemmas.SchedInv

theorem alookup_aset_some {α} {k k0 : Nat} {v u : α} {l : List (Nat × α)} (h : alookup k (aset k0 v l) = some u) :
    k = k0 ∧ u = v ∨ k ≠ k0 ∧ alookup k l = some u := by
  rw [alookup_aset] at h
  split at h
  · rename_i e; cases h; exact Or.inl ⟨e.symm, rfl⟩
  · rename_i e; exact Or.inr ⟨fun e' => e e'.symm, h⟩

/-- replacing the record of a worker that exists changes what `wfind` returns at its key only -/
theorem wfind_wset_same {ws : List Worker} {wk wk' : Worker} (hw : wfind ws wk.scq wk.id = some wk)
    (hk : wk'.scq = wk.scq ∧ wk'.id = wk.id) (q : ScqId) (i : WId) :
    wfind (wset ws wk') q i = if wk.scq = q ∧ wk.id = i then some wk' else wfind ws q i := by
  rw [wfind_wset, hk.1, hk.2]
  split
  · rename_i e; rw [← e.1, ← e.2, hw]; rfl
  · rfl

/-- what `MCore` asks of the record `t'` that replaces `t` (same key, same operations) -/
structure Repl (ex ex' : Nat → Prop) (t t' : Task) : Prop where
  id : t'.id = t.id
  ops : t'.ops = t.ops
  p3 : t'.worker.isSome = true → t'.response = none
  q1 : t'.queued = true → t'.worker = none ∧ t'.response = none
  q2 : t'.response = none → t'.queued = true ∨ t'.worker.isSome = true ∨ ex' t.id
  ex : ∀ k, k ≠ t.id → ex k → ex' k

/-- Task `t` is replaced by `t'` with the same operations; the worker table may change as long as the
workers of the other tasks keep them. -/
theorem MInv.replace {ex ex'} {s s' : State} (h : MInv ex s) {t t' : Task} (ht : alookup t.id s.tasks = some t)
    (hk : Repl ex ex' t t')
    (hst : s'.tasks = aset t.id t' s.tasks) (hnt : s'.nextTask = s.nextTask) (hno : s'.nextOp = s.nextOp)
    (hp2 : ∀ q w, t'.worker = some (q, w) → ∃ wk, wfind s'.workers q w = some wk ∧ wk.task = some t.id)
    (hp2' : ∀ k q w wk, k ≠ t.id → wfind s.workers q w = some wk → wk.task = some k →
      ∃ wk', wfind s'.workers q w = some wk' ∧ wk'.task = some k)
    (hw1 : ∀ q w wk, wfind s'.workers q w = some wk → wk.parked = true → wk.task = none) : MInv ex' s' := by
  obtain ⟨⟨tnd, tid, p2, p3, q1, q2, _⟩, ⟨o3, own, bound⟩⟩ := h
  have old : ∀ {k u}, alookup k s'.tasks = some u → k = t.id ∧ u = t' ∨ k ≠ t.id ∧ alookup k s.tasks = some u := by
    intro k u hu; rw [hst] at hu; exact alookup_aset_some hu
  -- a clause about single tasks holds in `s'` if it holds for `t'` and for the other tasks of `s`
  have each : ∀ {P : Nat → Task → Prop}, P t.id t' → (∀ k u, k ≠ t.id → alookup k s.tasks = some u → P k u) →
      ∀ k u, alookup k s'.tasks = some u → P k u := by
    intro P hn ho k u hu
    rcases old hu with ⟨rfl, rfl⟩ | ⟨hne, hu⟩
    · exact hn
    · exact ho k u hne hu
  -- the clauses about operations: every task of `s'` has the operations of the task of `s` with its key
  have sameOps : ∀ k u, alookup k s'.tasks = some u → ∃ u0, alookup k s.tasks = some u0 ∧ u.ops = u0.ops :=
    each ⟨t, ht, hk.ops⟩ fun k u _ hu => ⟨u, hu, rfl⟩
  refine ⟨⟨?_, ?_, ?_, each hk.p3 fun k u _ => p3 k u, each hk.q1 fun k u _ => q1 k u, ?_, hw1⟩, ⟨?_, ?_, ?_⟩⟩
  · rw [hst]; exact nodup_aset _ _ _ tnd
  · rw [hnt]; exact each ⟨hk.id, (tid _ _ ht).2⟩ fun k u _ => tid k u
  · intro k u q w hu hw
    rcases old hu with ⟨rfl, rfl⟩ | ⟨hne, hu⟩
    · exact hp2 q w hw
    · obtain ⟨wk, a, b⟩ := p2 k u q w hu hw
      exact hp2' k q w wk hne a b
  · refine each hk.q2 fun k u hne hu hr => ?_
    rcases q2 k u hu hr with a | a | a
    · exact Or.inl a
    · exact Or.inr (Or.inl a)
    · exact Or.inr (Or.inr (hk.ex k hne a))
  · intro k u hu
    obtain ⟨u0, a, b⟩ := sameOps k u hu
    rw [b]; exact o3 k u0 a
  · intro k u k' u' o hu hu' ho ho'
    obtain ⟨u0, a, b⟩ := sameOps k u hu
    obtain ⟨u0', a', b'⟩ := sameOps k' u' hu'
    rw [b] at ho; rw [b'] at ho'
    exact own k u0 k' u0' o a a' ho ho'
  · intro k u o hu ho
    obtain ⟨u0, a, b⟩ := sameOps k u hu
    rw [hno]; rw [b] at ho
    exact bound k u0 o a ho

/-- `MInv.replace` with the worker table unchanged: `t'` may keep the worker of `t` or have none -/
theorem MInv.replaceT {ex ex'} {s s' : State} (h : MInv ex s) {t t' : Task} (ht : alookup t.id s.tasks = some t)
    (hk : Repl ex ex' t t')
    (hst : s'.tasks = aset t.id t' s.tasks) (hsw : s'.workers = s.workers) (hnt : s'.nextTask = s.nextTask)
    (hno : s'.nextOp = s.nextOp)
    (hw : t'.worker = none ∨ t'.worker = t.worker) : MInv ex' s' := by
  refine h.replace ht hk hst hnt hno ?_ ?_ ?_
  · intro q w e
    rcases hw with hw | hw
    · rw [hw] at e; cases e
    · rw [hsw]; exact h.core.p2 t.id t q w ht (hw ▸ e)
  · intro k q w wk _ a b; rw [hsw]; exact ⟨wk, a, b⟩
  · rw [hsw]; exact h.core.w1

/-- `MInv.replace` where the record of one worker changes as well: that worker ran no other task before,
and runs `t` afterwards if `t'` says so -/
theorem MInv.replaceW {ex ex'} {s s' : State} (h : MInv ex s) {t t' : Task} (ht : alookup t.id s.tasks = some t)
    (hk : Repl ex ex' t t')
    (hst : s'.tasks = aset t.id t' s.tasks) (hnt : s'.nextTask = s.nextTask) (hno : s'.nextOp = s.nextOp)
    {wk wk' : Worker} (hw : wfind s.workers wk.scq wk.id = some wk) (hkey : wk'.scq = wk.scq ∧ wk'.id = wk.id)
    (hsw : s'.workers = wset s.workers wk')
    (hfree : ∀ k, wk.task = some k → k = t.id) (hpk : wk'.parked = true → wk'.task = none)
    (hp2 : ∀ q w, t'.worker = some (q, w) → q = wk.scq ∧ w = wk.id ∧ wk'.task = some t.id) : MInv ex' s' := by
  have hf := fun q i => (congrArg (wfind · q i) hsw).trans (wfind_wset_same hw hkey q i)
  refine h.replace ht hk hst hnt hno ?_ ?_ ?_
  · intro q w e
    obtain ⟨rfl, rfl, e'⟩ := hp2 q w e
    exact ⟨wk', by rw [hf, if_pos ⟨rfl, rfl⟩], e'⟩
  · intro k q w wk0 hne a b
    rw [hf]
    split
    · rename_i e
      rw [← e.1, ← e.2, hw] at a
      cases a
      exact absurd (hfree k b) hne
    · exact ⟨wk0, a, b⟩
  · intro q w wk0 a
    rw [hf] at a
    split at a
    · cases a; exact hpk
    · exact h.core.w1 q w wk0 a

/-- a worker record is replaced by one with the same key and task that is parked only if it was -/
theorem MInv.setWorker {ex} {s : State} (h : MInv ex s) {wk wk' : Worker}
    (hw : wfind s.workers wk.scq wk.id = some wk)
    (hk : wk'.scq = wk.scq ∧ wk'.id = wk.id ∧ wk'.task = wk.task ∧ (wk'.parked = true → wk.parked = true)) :
    MInv ex (s.setWorker wk') := by
  obtain ⟨⟨tnd, tid, p2, p3, q1, q2, w1⟩, ⟨o3, own, bound⟩⟩ := h
  have hf := wfind_wset_same hw ⟨hk.1, hk.2.1⟩
  refine ⟨⟨tnd, tid, ?_, p3, q1, q2, ?_⟩, ⟨o3, own, bound⟩⟩
  · intro k t q w a b
    obtain ⟨wk0, c, d⟩ := p2 k t q w a b
    show ∃ x, wfind (wset s.workers wk') q w = some x ∧ _
    rw [hf]
    split
    · rename_i e
      rw [← e.1, ← e.2, hw] at c
      cases c
      exact ⟨wk', rfl, hk.2.2.1.trans d⟩
    · exact ⟨wk0, c, d⟩
  · intro q w wk0 a b
    change wfind (wset s.workers wk') q w = some wk0 at a
    rw [hf] at a
    split at a
    · cases a; exact hk.2.2.1.trans (w1 _ _ wk hw (hk.2.2.2 b))
    · exact w1 q w wk0 a b

theorem MInv.wake {ex} {s : State} (h : MInv ex s) {w : Worker} (hw : wfind s.workers w.scq w.id = some w) :
    MInv ex (wakeWorker s w) :=
  h.setWorker hw ⟨rfl, rfl, rfl, fun e => nomatch e⟩

theorem MInv.assign {ex} {s : State} (h : MInv ex s) {w : Worker} {t : Task}
    (hw : wfind s.workers w.scq w.id = some w) (hwt : w.task = none) (hwp : w.parked = false)
    (ht : alookup t.id s.tasks = some t) (hr : t.response = none) :
    MInv (fun k => ex k ∧ k ≠ t.id) (assignSt s w t) :=
  h.replaceW (t' := { t with worker := some (w.scq, w.id), retry := 0, queued := false })
    (wk' := { w with task := some t.id }) ht
    ⟨rfl, rfl, fun _ => hr, (fun e => nomatch e), fun _ => Or.inr (Or.inl rfl), fun _ hne e => ⟨e, hne⟩⟩ rfl rfl rfl
    hw ⟨rfl, rfl⟩ rfl
    (fun k e => by rw [hwt] at e; cases e) (fun e => by rw [hwp] at e; cases e)
    (fun _ _ e => by cases e; exact ⟨rfl, rfl, rfl⟩)

theorem MInv.queue {ex} {s : State} (h : MInv ex s) {t : Task} (ht : alookup t.id s.tasks = some t)
    (hr : t.response = none) (htw : t.worker = none) :
    MInv (fun k => ex k ∧ k ≠ t.id) (s.setTask { t with queued := true }) :=
  h.replaceT (t' := { t with queued := true }) ht
    ⟨rfl, rfl, fun _ => hr, fun _ => ⟨htw, hr⟩, fun _ => Or.inl rfl, fun _ hne e => ⟨e, hne⟩⟩ rfl rfl rfl rfl (Or.inr rfl)

/-- a task record is replaced by one with the same id, worker, queue flag, response and operations -/
theorem MInv.taskset {ex} {s s' : State} (h : MInv ex s) {t t' : Task} (ht : alookup t.id s.tasks = some t)
    (hk : t'.id = t.id ∧ t'.worker = t.worker ∧ t'.queued = t.queued ∧ t'.ops = t.ops ∧ t'.response = t.response)
    (hst : s'.tasks = aset t.id t' s.tasks) (hsw : s'.workers = s.workers) (hnt : s'.nextTask = s.nextTask)
    (hno : s'.nextOp = s.nextOp) : MInv ex s' := by
  obtain ⟨a, b, c, d, e⟩ := hk
  refine h.replaceT ht ⟨a, d, ?_, ?_, ?_, fun _ _ x => x⟩ hst hsw hnt hno (Or.inr b)
  · rw [b, e]; exact h.core.p3 _ t ht
  · rw [b, c, e]; exact h.core.q1 _ t ht
  · rw [b, c, e]; exact h.core.q2 _ t ht

/-- a task record is replaced by one that is neither queued nor assigned (it becomes the task being
processed, or it is completed); its worker, if any, is released -/
theorem MInv.settle {ex} {s s' : State} (h : MInv ex s) {t t' : Task} (ht : alookup t.id s.tasks = some t)
    (hk : t'.id = t.id ∧ t'.worker = none ∧ t'.queued = false ∧ t'.ops = t.ops)
    (hst : s'.tasks = aset t.id t' s.tasks) (hnt : s'.nextTask = s.nextTask) (hno : s'.nextOp = s.nextOp)
    (hsw : s'.workers = s.workers ∧ t.worker = none ∨ ∃ q w wk, t.worker = some (q, w) ∧ wfind s.workers q w = some wk ∧
      s'.workers = wset s.workers { wk with task := none }) :
    MInv (fun k => ex k ∨ (k = t.id ∧ t'.response = none)) s' := by
  obtain ⟨a, b, c, d⟩ := hk
  have hk : Repl ex (fun k => ex k ∨ (k = t.id ∧ t'.response = none)) t t' :=
    ⟨a, d, fun e => (by rw [b] at e; cases e), fun e => (by rw [c] at e; cases e),
      fun e => Or.inr (Or.inr (Or.inr ⟨rfl, e⟩)), fun _ _ e => Or.inl e⟩
  rcases hsw with ⟨hsw, _⟩ | ⟨q, w, wk, e1, e2, hsw⟩
  · exact h.replaceT ht hk hst hsw hnt hno (Or.inl b)
  · obtain ⟨rfl, rfl⟩ := wfind_key e2
    -- by `p2` the released worker ran `t`
    obtain ⟨wk0, e3, e4⟩ := h.core.p2 t.id t _ _ ht e1
    rw [e2] at e3; cases e3
    refine h.replaceW (wk' := { wk with task := none }) ht hk hst hnt hno e2 ⟨rfl, rfl⟩ hsw ?_
      (fun _ => rfl) ?_
    · intro k e; rw [e4] at e; cases e; rfl
    · intro q w e; rw [b] at e; cases e

end BbRe.Lemmas.SchedTree
