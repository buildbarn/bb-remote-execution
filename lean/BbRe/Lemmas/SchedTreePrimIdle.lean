import BbRe.Lemmas.SchedTreePrimExec
/-!
`worker.setLastInvocation` / `worker.clearLastInvocation` preserve the tree invariant for the addition /
removal of one worker whose last invocation is the given one (`idleWorkersCount`).
-/
namespace BbRe.Lemmas.SchedTree
open BbRe.Sched BbRe.SchedTree

variable {X : List (ScqId × List Nat)} {ns : List Node} {E : List EC} {I : List IC} {Q : List QC} {P : List PC}

/-- `worker.setLastInvocation`: one more worker whose last invocation is `(q, p)` -/
theorem setLastN_ok (h : TreeOK X ns E I Q P) (q : ScqId) (p : List Nat)
    (hn : (node? ns q p).isSome = true) :
    TreeOK (offPath X q p) (setLastN ns q p) E ((q, p) :: I) Q P := by
  unfold setLastN
  refine h.of_updPath q p (by exact fun _ => ⟨rfl, rfl⟩) (by exact fun _ => ⟨rfl, rfl, rfl, rfl⟩)
    (fun n hn' => ⟨fun _ _ => rfl, fun _ => ⟨h.ex n hn', h.exnd n hn'⟩⟩) ?_
    (fun n _ _ hx => ⟨fun _ => by simp [Node.isEmptyInv], offPath_of_off hx⟩) h.rfE ?_
    (fun c hc => List.mem_cons_of_mem _ (h.pi c hc))
  · intro n hn'
    refine ⟨fun hc => ?_, fun hc => ?_⟩
    · rw [cntI_cons, if_neg (not_counted hc), Nat.add_zero]
    · have ho := (onPath_iff n q p).mp hc
      show n.idle + 1 = _
      rw [cntI_cons, h.id n hn', if_pos ⟨ho.1.symm, ho.2⟩]
  · intro c hc
    rcases List.mem_cons.mp hc with e | e
    · subst e; exact hn
    · exact h.rfI c e

/-- `worker.clearLastInvocation`: one worker less whose last invocation is `(q, p)`; invocations on the
path that became empty are removed.  No parked worker may depend on the removed entry. -/
theorem clearLastN_ok (h : TreeOK X ns E I Q P) (q : ScqId) (p : List Nat)
    (hc : (q, p) ∈ I) (hX : ∀ x ∈ X, x.1 = q ∧ x.2 <+: p)
    (hP : ∀ c ∈ P, (c.1, c.2.1) ∈ I.erase (q, p)) :
    TreeOK [] (clearLastN ns q p) E (I.erase (q, p)) Q P := by
  unfold clearLastN
  refine TreeOK.pruneP (h.of_updPath q p (by exact fun _ => ⟨rfl, rfl⟩) (by exact fun _ => ⟨rfl, rfl, rfl, rfl⟩)
    (fun n hn' => ⟨fun _ _ => rfl, fun _ => ⟨h.ex n hn', h.exnd n hn'⟩⟩) ?_
    (fun n _ hp hx => ⟨fun hcn => absurd (mem_prefixes_of_on hcn hp) hx, not_mem_of_off hX⟩)
    h.rfE (fun c hc' => h.rfI c (List.mem_of_mem_erase hc')) hP)
  intro n hn'
  refine ⟨fun hcn => ?_, fun hcn => ?_⟩
  · rw [cntI_erase _ _ _ _ hc, if_neg (not_counted hcn), Nat.sub_zero]
  · have ho := (onPath_iff n q p).mp hcn
    show n.idle - 1 = _
    rw [cntI_erase _ _ _ _ hc, h.id n hn', if_pos ⟨ho.1.symm, ho.2⟩]

end BbRe.Lemmas.SchedTree
