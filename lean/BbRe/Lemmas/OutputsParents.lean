import BbRe.Lemmas.OutputsListing
import BbRe.Lemmas.Basic.AssocList
/-!
Helper lemmas for C10 (`parents_created`): `createParentDirectories` over the
`outputNode` trie creates a directory at every sub-node path and nothing else.
-/
namespace BbRe.Lemmas.Outputs
open BbRe.Outputs

/-- Induction principle for the nested inductive `ONode`. -/
theorem ONode.induct {P : ONode → Prop}
    (h : ∀ ps subs, (∀ p ∈ subs, P p.2) → P (.mk ps subs)) : ∀ n, P n := by
  intro n
  refine ONode.rec (motive_1 := P) (motive_2 := fun subs => ∀ p ∈ subs, P p.2) (motive_3 := fun p => P p.2)
    ?_ ?_ ?_ ?_ n
  · intro ps subs ih; exact h ps subs ih
  · intro p hp; cases hp
  · intro hd tl ih1 ih2 p hp
    cases hp with
    | head => exact ih1
    | tail _ h' => exact ih2 p h'
  · intro a b ih; exact ih

mutual
/-- Paths (from this node) of all sub-nodes of the trie = the directories to create. -/
def prefixesN : ONode → List (List Name)
  | .mk _ subs => prefixesSubs subs
def prefixesSubs : List (Name × ONode) → List (List Name)
  | [] => []
  | (name, child) :: rest => ([name] :: (prefixesN child).map (name :: ·)) ++ prefixesSubs rest
end

def DirAt (q : List Name) (root : Node) : Prop := ∃ r es, walkN q root = some (.dir r es)

/-- A directory stays a directory, anything else stays exactly what it was. -/
def SameShape (x x' : Node) : Prop := (isDir x = true ∧ isDir x' = true) ∨ (isDir x = false ∧ x' = x)

theorem SameShape.refl (x : Node) : SameShape x x := by
  unfold SameShape
  cases h : isDir x <;> simp

theorem SameShape.trans {a b c : Node} (h1 : SameShape a b) (h2 : SameShape b c) : SameShape a c := by
  unfold SameShape at *
  rcases h1 with ⟨ha, hb⟩ | ⟨ha, rfl⟩
  · rcases h2 with ⟨_, hc⟩ | ⟨hb', _⟩
    · exact Or.inl ⟨ha, hc⟩
    · rw [hb] at hb'; cases hb'
  · exact h2

/-- What creating the directories `P` turns the entries `es` into: every location of `P` is a
directory afterwards, what existed has kept its shape, and nothing appeared outside `P`. -/
structure Good (P : List (List Name)) (es es' : Entries) : Prop where
  made : ∀ q ∈ P, ∀ r, DirAt q (.dir r es')
  kept : ∀ q x r, walkN q (.dir r es) = some x → ∃ x', walkN q (.dir r es') = some x' ∧ SameShape x x'
  only : ∀ q r, walkN q (.dir r es') ≠ none → walkN q (.dir r es) ≠ none ∨ q ∈ P

/-- Whatever already exists at a location of `P` is a directory (so `Mkdir` there gets EEXIST at worst). -/
def NoConflict (P : List (List Name)) (es : Entries) : Prop :=
  ∀ q ∈ P, ∀ x r, walkN q (.dir r es) = some x → isDir x = true

theorem Good.refl (es : Entries) : Good [] es es :=
  ⟨by simp, fun q x r h => ⟨x, h, SameShape.refl x⟩, fun q r h => Or.inl h⟩

theorem isDir_of_dirAt {q : List Name} {root x : Node} (h : DirAt q root) (hx : walkN q root = some x) :
    isDir x = true := by
  obtain ⟨r, es, h'⟩ := h
  rw [h'] at hx
  cases hx
  rfl

theorem Good.trans {P1 P2 : List (List Name)} {es es1 es2 : Entries} (h1 : Good P1 es es1)
    (h2 : Good P2 es1 es2) : Good (P1 ++ P2) es es2 where
  made := by
    intro q hq r
    rcases List.mem_append.1 hq with hq | hq
    · obtain ⟨r1, e1, hw⟩ := h1.made q hq r
      obtain ⟨x', hx', hs⟩ := h2.kept q _ r hw
      rcases hs with ⟨_, hd⟩ | ⟨hd, _⟩
      · cases x' with
        | dir r' e' => exact ⟨r', e', hx'⟩
        | file _ _ => simp [isDir] at hd
        | symlink _ => simp [isDir] at hd
        | special => simp [isDir] at hd
      · simp [isDir] at hd
    · exact h2.made q hq r
  kept := by
    intro q x r hw
    obtain ⟨x1, hx1, hs1⟩ := h1.kept q x r hw
    obtain ⟨x2, hx2, hs2⟩ := h2.kept q x1 r hx1
    exact ⟨x2, hx2, hs1.trans hs2⟩
  only := by
    intro q r hw
    rcases h2.only q r hw with h | h
    · rcases h1.only q r h with h' | h'
      · exact Or.inl h'
      · exact Or.inr (List.mem_append_left _ h')
    · exact Or.inr (List.mem_append_right _ h)

theorem NoConflict.transfer {P1 P2 : List (List Name)} {es es1 : Entries} (hn : NoConflict P2 es)
    (hg : Good P1 es es1) : NoConflict P2 es1 := by
  intro q hq x r hw
  rcases hg.only q r (by rw [hw]; simp) with h | h
  · cases h0 : walkN q (.dir r es) with
    | none => exact absurd h0 h
    | some x0 =>
      have hd := hn q hq x0 r h0
      obtain ⟨x', hx', hs⟩ := hg.kept q x0 r h0
      rw [hw] at hx'
      cases hx'
      rcases hs with ⟨_, h2⟩ | ⟨h2, _⟩
      · exact h2
      · rw [hd] at h2; cases h2
  · exact isDir_of_dirAt (hg.made q h r) hw

/-! The directory entries are a Go map: `lookupE` and `setE` are `AL.get` and `AL.repl`, and `Mkdir`
with EEXIST tolerated is `m[name] = m[name] or a fresh directory`. -/

theorem lookupE_eq (k : Name) (es : Entries) : lookupE k es = AL.get k es := by
  induction es with
  | nil => rfl
  | cons p rest ih => obtain ⟨a, b⟩ := p; simp only [lookupE, AL.get, ih]

theorem setE_eq (k : Name) (v : Node) (es : Entries) : setE k v es = AL.repl k v es := by
  induction es with
  | nil => rfl
  | cons p rest ih => obtain ⟨a, b⟩ := p; simp only [setE, AL.repl, ih]

theorem mkdirE_eq (name : Name) (es : Entries) :
    mkdirE name es = AL.put name ((AL.get name es).getD (.dir true [])) es := by
  unfold mkdirE
  rw [lookupE_eq]
  cases h : AL.get name es with
  | none => exact (AL.put_of_none _ h).symm
  | some x => exact (AL.put_of_some h).symm

theorem walkN_cons (c : Name) (q : List Name) (r : Bool) (es : Entries) :
    walkN (c :: q) (.dir r es) = (AL.get c es).bind (walkN q) := by
  rw [walkN, lookupE_eq]; cases AL.get c es <;> rfl

theorem walkN_empty_dir (q : List Name) (r : Bool) (h : walkN q (.dir r []) ≠ none) : q = [] := by
  cases q with
  | nil => rfl
  | cons c q' => simp [walkN_cons] at h

/-- One iteration of the `createParentDirectories` loop that goes through: the child directory
`ces` (the one that existed under `name`, or a fresh one) is processed and written back. -/
theorem mkParentsSubs_cons {name : Name} {child : ONode} {es ces ces' : Entries} {r : Bool}
    (rest : List (Name × ONode)) (hl : (AL.get name es).getD (.dir true []) = .dir r ces)
    (hmk : (if child.subs.isEmpty then .ok ces else child.mkParents ces) = .ok ces') :
    mkParentsSubs ((name, child) :: rest) es = mkParentsSubs rest (AL.put name (.dir r ces') es) := by
  have hget : AL.get name (mkdirE name es) = some (.dir r ces) := by
    rw [mkdirE_eq, AL.get_put_self, hl]
  rw [mkParentsSubs, lookupE_eq, hget]
  split at hmk
  · next hemp => cases hmk; rw [if_pos hemp, mkdirE_eq, hl]
  · next hemp =>
    rw [if_neg hemp]
    simp only [hmk]
    rw [setE_eq, ← AL.put_eq_repl hget, mkdirE_eq, AL.put_put]

/-- What that iteration does to the directory entries. -/
theorem good_step (name : Name) (es : Entries) (P' : List (List Name)) (r1 : Bool) (ces ces' : Entries)
    (hl : (AL.get name es).getD (.dir true []) = .dir r1 ces) (hg : Good P' ces ces') :
    Good ([name] :: P'.map (name :: ·)) es (AL.put name (.dir r1 ces') es) := by
  have hold : AL.get name es = some (.dir r1 ces) ∨ (AL.get name es = none ∧ ces = []) := by
    cases h0 : AL.get name es with
    | none => rw [h0] at hl; cases hl; exact .inr ⟨rfl, rfl⟩
    | some x => rw [h0] at hl; exact .inl (congrArg some hl)
  refine ⟨?_, ?_, ?_⟩
  · intro q hq r
    simp only [List.mem_cons, List.mem_map] at hq
    rcases hq with rfl | ⟨q', hq', rfl⟩
    · exact ⟨r1, ces', by rw [walkN_cons, AL.get_put_self]; rfl⟩
    · obtain ⟨r2, e2, hw⟩ := hg.made q' hq' r1
      exact ⟨r2, e2, by rw [walkN_cons, AL.get_put_self]; exact hw⟩
  · intro q x r hw
    cases q with
    | nil => cases hw; exact ⟨_, rfl, Or.inl ⟨rfl, rfl⟩⟩
    | cons c q' =>
      rw [walkN_cons] at hw ⊢
      rw [AL.get_put]
      split
      · next hc =>
        subst hc
        rcases hold with h0 | ⟨h0, _⟩
        · rw [h0] at hw; exact hg.kept q' x r1 hw
        · rw [h0] at hw; cases hw
      · exact ⟨x, hw, SameShape.refl x⟩
  · intro q r hw
    cases q with
    | nil => left; simp [walkN]
    | cons c q' =>
      rw [walkN_cons, AL.get_put] at hw
      rw [walkN_cons]
      split at hw
      · next hc =>
        subst hc
        rcases hg.only q' r1 hw with h | h
        · rcases hold with h0 | ⟨h0, hces⟩
          · left; rw [h0]; exact h
          · subst hces
            have := walkN_empty_dir q' r1 h
            subst this
            right; simp
        · right
          simp only [List.mem_cons, List.cons.injEq, true_and, List.mem_map]
          exact Or.inr ⟨q', h, rfl⟩
      · exact Or.inl hw

theorem noConflict_empty (P : List (List Name)) : NoConflict P [] := by
  intro q _ x r hw
  have := walkN_empty_dir q r (by rw [hw]; simp)
  subst this
  simp only [walkN, Option.some.injEq] at hw
  subst hw
  rfl

/-- Induction hypothesis on the trie: without conflicts `createParentDirectories` of node `n`
succeeds and creates exactly the sub-node paths of `n`. -/
def CN (n : ONode) : Prop :=
  ∀ es, NoConflict (prefixesN n) es → ∃ es', n.mkParents es = .ok es' ∧ Good (prefixesN n) es es'

theorem mkParentsSubs_good (subs : List (Name × ONode)) (h : ∀ p ∈ subs, CN p.2) (es : Entries)
    (hnc : NoConflict (prefixesSubs subs) es) :
    ∃ es', mkParentsSubs subs es = .ok es' ∧ Good (prefixesSubs subs) es es' := by
  induction subs generalizing es with
  | nil => exact ⟨es, by simp [mkParentsSubs], by simpa [prefixesSubs] using Good.refl es⟩
  | cons p rest ih =>
    obtain ⟨name, child⟩ := p
    have ihr := ih (fun q hq => h q (List.mem_cons_of_mem _ hq))
    have hchild := h (name, child) (by simp)
    simp only [prefixesSubs] at hnc ⊢
    -- what `Mkdir name` leaves under `name` is a directory, the old one or a fresh one,
    -- and nothing below it conflicts with the child's directories
    obtain ⟨r1, ces, hl, hncChild⟩ : ∃ r1 ces, (AL.get name es).getD (.dir true []) = .dir r1 ces ∧
        NoConflict (prefixesN child) ces := by
      cases h0 : AL.get name es with
      | none => exact ⟨true, [], rfl, noConflict_empty _⟩
      | some x =>
        have hx := hnc [name] (by simp) x true (by rw [walkN_cons, h0]; rfl)
        cases x with
        | dir r e =>
          refine ⟨r, e, rfl, fun q hq y r' hw => ?_⟩
          cases q with
          | nil => cases hw; rfl
          | cons c q' =>
            refine hnc (name :: c :: q') (by simp [hq]) y true ?_
            rw [walkN_cons] at hw
            rw [walkN_cons, h0, Option.bind_some, walkN_cons]
            exact hw
        | _ => cases hx
    obtain ⟨ces', hmk, hgood⟩ : ∃ ces', (if child.subs.isEmpty then Except.ok ces else child.mkParents ces) = .ok ces' ∧
        Good (prefixesN child) ces ces' := by
      cases child with
      | mk cps csubs =>
        cases csubs with
        | nil => exact ⟨ces, by simp [ONode.subs], by simpa [prefixesN, prefixesSubs] using Good.refl ces⟩
        | cons a b =>
          obtain ⟨ces', h1, h2⟩ := hchild ces hncChild
          exact ⟨ces', by simpa [ONode.subs] using h1, h2⟩
    have hstep := good_step name es (prefixesN child) r1 ces ces' hl hgood
    obtain ⟨es', hrest, hgrest⟩ :=
      ihr _ (NoConflict.transfer (fun q hq => hnc q (List.mem_append_right _ hq)) hstep)
    exact ⟨es', (mkParentsSubs_cons rest hl hmk).trans hrest, hstep.trans hgrest⟩

theorem cn_all : ∀ n, CN n := by
  apply ONode.induct
  intro ps subs ih es hnc
  simp only [prefixesN] at hnc ⊢
  rw [ONode.mkParents]
  exact mkParentsSubs_good subs ih es hnc

theorem prefixesN_empty : prefixesN .empty = [] := by
  simp [ONode.empty, prefixesN, prefixesSubs]

theorem prefixesSubs_alterSub (c : Name) (F : ONode → ONode) (Q : List Name → Prop)
    (hF : ∀ child q, q ∈ prefixesN (F child) ↔ q ∈ prefixesN child ∨ Q q)
    (subs : List (Name × ONode)) (q : List Name) :
    q ∈ prefixesSubs (alterSub c F subs) ↔
      q ∈ prefixesSubs subs ∨ q = [c] ∨ ∃ q', q = c :: q' ∧ Q q' := by
  induction subs with
  | nil =>
    simp only [alterSub, prefixesSubs, List.append_nil, List.mem_cons, List.mem_map, hF, prefixesN_empty,
      List.not_mem_nil, false_or]
    constructor
    · rintro (h | ⟨a, ha, rfl⟩)
      · exact Or.inl h
      · exact Or.inr ⟨a, rfl, ha⟩
    · rintro (h | ⟨a, rfl, ha⟩)
      · exact Or.inl h
      · exact Or.inr ⟨a, ha, rfl⟩
  | cons p rest ih =>
    obtain ⟨k, v⟩ := p
    unfold alterSub
    split
    · rename_i hk
      subst hk
      simp only [prefixesSubs, List.mem_append, List.mem_cons, List.mem_map, hF]
      constructor
      · rintro ((h | ⟨a, ha | ha, rfl⟩) | h)
        · exact Or.inr (Or.inl h)
        · exact Or.inl (Or.inl (Or.inr ⟨a, ha, rfl⟩))
        · exact Or.inr (Or.inr ⟨a, rfl, ha⟩)
        · exact Or.inl (Or.inr h)
      · rintro (((h | ⟨a, ha, rfl⟩) | h) | h | ⟨a, rfl, ha⟩)
        · exact Or.inl (Or.inl h)
        · exact Or.inl (Or.inr ⟨a, Or.inl ha, rfl⟩)
        · exact Or.inr h
        · exact Or.inl (Or.inl h)
        · exact Or.inl (Or.inr ⟨a, Or.inr ha, rfl⟩)
    · simp only [prefixesSubs, List.mem_append, ih]
      exact or_assoc.symm

/-- The sub-node paths of the trie after registering location `cs ++ [last]`: the old ones plus
the non-empty prefixes of `cs`. -/
theorem prefixesN_insert (cs : List Name) (last : Name) (s : Str) (n : ONode) (q : List Name) :
    q ∈ prefixesN (n.insert cs last s) ↔ q ∈ prefixesN n ∨ (q ≠ [] ∧ q <+: cs) := by
  induction cs generalizing n q with
  | nil =>
    cases n with
    | mk ps subs =>
      simp only [ONode.insert, prefixesN, List.prefix_nil]
      constructor
      · exact Or.inl
      · rintro (h | ⟨h1, h2⟩)
        · exact h
        · exact absurd h2 h1
  | cons c cs ih =>
    cases n with
    | mk ps subs =>
      simp only [ONode.insert, prefixesN]
      rw [prefixesSubs_alterSub c _ (fun q' => q' ≠ [] ∧ q' <+: cs) (fun child q' => ih child q')]
      refine or_congr_right ?_
      constructor
      · rintro (rfl | ⟨q', rfl, h1, h2⟩)
        · exact ⟨by simp, by simp [List.cons_prefix_cons]⟩
        · exact ⟨by simp, by simpa [List.cons_prefix_cons] using h2⟩
      · rintro ⟨h1, h2⟩
        cases q with
        | nil => exact absurd rfl h1
        | cons a q' =>
          rw [List.cons_prefix_cons] at h2
          obtain ⟨rfl, h3⟩ := h2
          cases q' with
          | nil => exact Or.inl rfl
          | cons b q'' => exact Or.inr ⟨b :: q'', rfl, by simp, h3⟩

theorem prefixes_registerAll (wd : List Name) (h h' : Hierarchy) (ps : List Str)
    (hr : registerAll wd h ps = .ok h') (q : List Name) :
    q ∈ prefixesN h'.root ↔ q ∈ prefixesN h.root ∨
      ∃ s ∈ ps, ∃ loc, resolveRel wd s = .ok loc ∧ q ≠ [] ∧ q <+: loc.dropLast := by
  induction ps generalizing h with
  | nil =>
    simp only [registerAll, Except.ok.injEq] at hr
    subst hr
    simp
  | cons p ps ih =>
    simp only [registerAll, Hierarchy.register] at hr
    cases hres : resolveRel wd p with
    | error e => simp [hres] at hr
    | ok loc =>
      simp only [hres] at hr
      cases hsl : splitLast loc with
      | none =>
        simp only [hsl] at hr
        have hloc := (splitLast_none loc).1 hsl
        rw [ih _ hr]
        simp only [List.mem_cons, exists_eq_or_imp, hres, Except.ok.injEq, exists_eq_left']
        subst hloc
        simp
      | some il =>
        obtain ⟨i, l⟩ := il
        simp only [hsl] at hr
        have hloc := (splitLast_some loc i l).1 hsl
        rw [ih _ hr]
        simp only [prefixesN_insert, List.mem_cons, exists_eq_or_imp, hres, Except.ok.injEq,
          exists_eq_left']
        subst hloc
        simp only [List.dropLast_concat]
        exact or_assoc

end BbRe.Lemmas.Outputs
