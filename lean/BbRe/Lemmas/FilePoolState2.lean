import BbRe.Lemmas.FilePoolSeek
/-!
What one operation guarantees about the file it works on (`FileStep`, proved for all operations by
the one walk `fileOp_ok`), and with it the rule `step_cases` for taking apart a step from a state
that satisfies `Inv`.  The pool-wide statements are closure proofs over that rule: `inv_step`;
isolation (`step_others`); `Inv2` = `Inv` + every file is `FileOK` and its sector list does not end
in a hole, kept by every step of a well-formed history (`NewFile(holeSource, size)` with a hole
source that has no data beyond `size`).  Last, what a single `Close`, `ReadAt`, `WriteAt`, `Truncate`,
`GetNextRegionOffset` does in any state that satisfies these invariants (`step_close_frees` …
`step_seek_spec`); `Properties/C15.lean` puts in the states reachable from `init`.
-/
namespace BbRe.Lemmas.FilePool
open BbRe.FilePool

/-- well-formed operation: the hole source handed to `NewFile` has no data at or beyond `size`. -/
def WFOp : Op → Prop
  | .new hole size => hole.limit ≤ size
  | _ => True

instance (op : Op) : Decidable (WFOp op) := by
  cases op <;> unfold WFOp <;> infer_instance

/-- if no byte of a sector in `O` changes, the contents of a file whose sectors are all in `O` do not change. -/
theorem content_frame (ss : Nat) (O : Nat → Prop) (dev dev' : Array Byte) (g : File) (hss : 0 < ss)
    (hg : ∀ s ∈ g.sectors, s ≠ 0 → O s)
    (hfr : ∀ t k, k < ss → O (t + 1) → rd dev' (t * ss + k) = rd dev (t * ss + k)) (i : Nat) :
    content ss dev' g i = content ss dev g i := by
  unfold content
  split
  · rfl
  · rename_i hne
    obtain ⟨t, ht⟩ : ∃ t, g.sectors.getD (i / ss) 0 = t + 1 := ⟨g.sectors.getD (i / ss) 0 - 1, by omega⟩
    rw [ht, Nat.add_sub_cancel]
    apply hfr t (i % ss) (Nat.mod_lt _ hss)
    rw [← ht]
    exact hg _ ((mem_iff_getD hne).mpr ⟨_, rfl⟩) hne

theorem fileOK_frame (ss : Nat) (O : Nat → Prop) (dev dev' : Array Byte) (g : File) (hss : 0 < ss)
    (hg : ∀ s ∈ g.sectors, s ≠ 0 → O s)
    (hfr : ∀ t k, k < ss → O (t + 1) → rd dev' (t * ss + k) = rd dev (t * ss + k))
    (hok : FileOK ss dev g) : FileOK ss dev' g :=
  ⟨hok.1, fun i hi => by rw [content_frame ss O dev dev' g hss hg hfr i]; exact hok.2 i hi⟩

theorem fileOK_no_sectors (ss : Nat) (dev : Array Byte) (f : File) (hs : f.sectors = [])
    (hl : f.hole.limit ≤ f.size) : FileOK ss dev f := by
  refine ⟨hl, fun i hi => ?_⟩
  rw [content_hole_of_zero _ _ _ _ (by rw [hs]; rfl)]
  exact hole_read_beyond _ _ (by omega)

theorem close_meta (f : File) (e : Env) : (close f e).1.hole = f.hole ∧ (close f e).1.size = f.size := by
  unfold close
  dsimp only
  generalize (if f.sectors.length > 0 then e.freeList f.sectors else e) = e1
  split <;> exact ⟨rfl, rfl⟩

/-! ## what an operation does to its own file -/

/-- What an operation on one open file guarantees, in the terms the pool invariants need:
`O` are the sectors of the other files. -/
structure FileStep (c : Cfg) (O : Nat → Prop) (f : File) (e : Env) (f' : File) (e' : Env) : Prop where
  part : Part c.nsec O e'.allocd (nz f'.sectors)
  dfree : e'.dfree = false
  closed : f'.closed = true → f'.sectors = []
  frame : ∀ t k, k < c.ss → O (t + 1) → rd e'.dev (t * c.ss + k) = rd e.dev (t * c.ss + k)
  noTrail : NoTrail f.sectors → NoTrail f'.sectors
  fileOK : FileOK c.ss e.dev f → FileOK c.ss e'.dev f'

theorem stillOpen {f f' : File} (h : f'.closed = f.closed) (hc : f.closed = false) :
    f'.closed = true → f'.sectors = [] := fun x => by rw [h, hc] at x; cases x

theorem FileStep.ro {c : Cfg} {O : Nat → Prop} {f : File} {e e' : Env} (hP : Part c.nsec O e.allocd (nz f.sectors))
    (hd : e.dfree = false) (hc : f.closed = false) (h : ReadOnly e e') : FileStep c O f e f e' :=
  ⟨h.2.1 ▸ hP, h.2.2.1.trans hd, stillOpen rfl hc, fun _ _ _ _ => by rw [h.1], id, fun x => h.1 ▸ x⟩

/-- **The one walk over the operations.** -/
theorem fileOp_ok {c : Cfg} {O : Nat → Prop} {f : File} {e : Env} (hss : 0 < c.ss)
    (hP : Part c.nsec O e.allocd (nz f.sectors)) (hd : e.dfree = false) (hc : f.closed = false) (op : Op) :
    FileStep c O f e (fileOp c f e op).1 (fileOp c f e op).2.1 := by
  cases op with
  | new _ _ => exact .ro hP hd hc (ReadOnly.refl e)
  | len _ => exact .ro hP hd hc (ReadOnly.refl e)
  | read _ off n => exact .ro hP hd hc (readAt_ro c f e off n)
  | seek _ off data => exact .ro hP hd hc (seek_ro c f e off data)
  | write _ off p =>
    obtain ⟨h1, h2, h3, _⟩ := writeAt_part (c := c) p off hss hP hd
    exact ⟨h1, h2, stillOpen h3 hc, writeAt_frame p off hss hP hd, writeAt_noTrail p off hss,
      writeAt_fileOK p off hss hP hd⟩
  | trunc _ size =>
    obtain ⟨h1, h2, h3⟩ := truncate_part (c := c) size hP hd
    exact ⟨h1, h2, stillOpen h3 hc, truncate_frame size hss hP, truncate_noTrail size,
      truncate_fileOK size hss hP⟩
  | close _ =>
    obtain ⟨h1, h2, h3, _, h5⟩ := close_part (f := f) (e := e) hP hd
    have hm := close_meta f e
    show FileStep c O f e (close f e).1 (close f e).2.1
    exact ⟨h3 ▸ h1, h2, fun _ => h3, fun _ _ _ _ => (by rw [h5]), fun _ => h3 ▸ noTrail_nil,
      fun x => fileOK_no_sectors _ _ _ h3 (by rw [hm.1, hm.2]; exact x.1)⟩

/-- `step_elim` in a state that satisfies `Inv`, with what the operation guarantees about its file. -/
theorem step_cases {st : State} (h : Inv st) (op : Op) (o : Oracle) (Q : State → Prop)
    (hnew : ∀ hole size, op = .new hole size →
      Q { st with files := st.files ++ [{ sectors := [], size := size, hole := hole, closed := false }] })
    (hnone : Q st)
    (hopen : ∀ i f f' e', st.files[i]? = some f → opTarget op = some i →
      FileStep st.cfg (Oth st i) f (st.env o) f' e' → Q { st.put e' with files := st.files.set i f' }) :
    Q (step st op o).1 :=
  step_elim st op o Q hnew hnone fun i f hf hop =>
    have hf' := file?_some hf
    hopen i f _ _ hf'.1 hop (fileOp_ok h.ssPos (inv_part h hf'.1) h.noDoubleFree hf'.2 op)

/-! ## the pool invariants -/

theorem inv_step {st : State} (h : Inv st) (op : Op) (o : Oracle) : Inv (step st op o).1 :=
  step_cases h op o Inv (fun hole size _ => inv_new h hole size) h fun i f f' e' hf _ k => by
    have := inv_of_part h hf (dev' := e'.dev) k.part k.closed
    unfold State.put; rw [k.dfree]; exact this

theorem inv_run {st : State} (h : Inv st) (ops : List (Op × Oracle)) : Inv (run st ops) :=
  run_ind Inv (W := fun _ => True) (fun _ op o _ h => inv_step h op o) ops (fun _ _ => trivial) h

/-- **Isolation, step form**: an operation on file `i` (any oracle) leaves every
other file `j` in place with exactly the same readable contents. -/
theorem step_others {st : State} (h : Inv st) (op : Op) (o : Oracle) (j : Nat) (g : File)
    (hj : opTarget op ≠ some j) (hg : st.files[j]? = some g) :
    (step st op o).1.files[j]? = some g ∧
      ∀ x, content st.cfg.ss (step st op o).1.dev g x = content st.cfg.ss st.dev g x :=
  step_cases h op o (fun s => s.files[j]? = some g ∧ ∀ x, content st.cfg.ss s.dev g x = content st.cfg.ss st.dev g x)
    (fun _ _ _ => ⟨by
      show (st.files ++ _)[j]? = _
      rw [List.getElem?_append_left (List.getElem?_eq_some_iff.mp hg).1]; exact hg, fun _ => rfl⟩)
    ⟨hg, fun _ => rfl⟩ fun i f f' e' _ hop k => by
      have hij : i ≠ j := fun e => hj (e ▸ hop)
      refine ⟨by show (st.files.set i f')[j]? = _; rw [List.getElem?_set, if_neg hij]; exact hg, ?_⟩
      exact content_frame st.cfg.ss (Oth st i) st.dev e'.dev g h.ssPos
        (fun s hs hs0 => ⟨j, g, fun e => hij e.symm, hg, hs, hs0⟩) k.frame

structure Inv2 (st : State) : Prop where
  inv : Inv st
  files : ∀ (i : Nat) (f : File), st.files[i]? = some f → FileOK st.cfg.ss st.dev f
  /-- the last entry of a file's sector list is never a hole (`GetNextRegionOffset` relies on it) -/
  noTrail : ∀ (i : Nat) (f : File), st.files[i]? = some f → NoTrail f.sectors

theorem inv2_step {st : State} (h : Inv2 st) (op : Op) (o : Oracle) (hwf : WFOp op) : Inv2 (step st op o).1 := by
  have key := step_cases h.inv op o
    (fun s => ∀ (j : Nat) (g : File), s.files[j]? = some g → FileOK s.cfg.ss s.dev g ∧ NoTrail g.sectors)
    (fun hole size hop => forall_snoc (fun j g hg => ⟨h.files j g hg, h.noTrail j g hg⟩)
      ⟨fileOK_no_sectors _ _ _ rfl (by subst hop; exact hwf), noTrail_nil⟩)
    (fun j g hg => ⟨h.files j g hg, h.noTrail j g hg⟩)
    fun i f f' e' hf _ k =>
      forall_set (List.getElem?_eq_some_iff.mp hf).1 ⟨k.fileOK (h.files i f hf), k.noTrail (h.noTrail i f hf)⟩
        fun j g hji hg => ⟨fileOK_frame st.cfg.ss (Oth st i) st.dev e'.dev g h.inv.ssPos
          (fun s hs hs0 => ⟨j, g, hji, hg, hs, hs0⟩) k.frame (h.files j g hg), h.noTrail j g hg⟩
  exact ⟨inv_step h.inv op o, fun j g hg => (key j g hg).1, fun j g hg => (key j g hg).2⟩

theorem inv2_init (c : Cfg) (hss : 0 < c.ss) : Inv2 (init c) :=
  ⟨inv_init c hss, by intro i f hf; simp [init] at hf, by intro i f hf; simp [init] at hf⟩

theorem inv2_run {st : State} (h : Inv2 st) (ops : List (Op × Oracle)) (hwf : ∀ x ∈ ops, WFOp x.1) :
    Inv2 (run st ops) :=
  run_ind Inv2 (fun _ op o hw h => inv2_step h op o hw) ops hwf h

/-! ## single operations on an open file, in a state that satisfies the invariants -/

open BbRe.ByteFile

theorem step_close_frees {st : State} (h : Inv st) {i : Nat} {f : File} (hf : st.file? i = some f) (o : Oracle) :
    ∀ s ∈ f.sectors, s ≠ 0 → s ∉ (step st (.close i) o).1.allocd := by
  intro s hs hs0 hmem
  have hP := inv_part h (file?_some hf).1
  rw [step_open rfl hf, finish_fst] at hmem
  -- after `Close` the allocated sectors are those of the other files
  rcases ((close_part (f := f) (e := st.env o) hP h.noDoubleFree).1.mem s).mp hmem with h1 | h1
  · cases h1
  · exact hP.sep s (mem_nz.mpr ⟨hs, hs0⟩) h1

theorem step_read_refines {st : State} (hss : 0 < st.cfg.ss) {i : Nat} {f : File} (hf : st.file? i = some f)
    (off n : Nat) (o : Oracle) (ho : o.answers = []) (hdr : o.faults.dr = none) (hhr : o.faults.hr = none) :
    (step st (.read i off n) o).2 =
      .read (ByteFile.read (absFile st.cfg.ss st.dev f) off n).1
        (if (ByteFile.read (absFile st.cfg.ss st.dev f) off n).2 then some .eof else none) ∧
    (step st (.read i off n) o).1.files = st.files ∧ (step st (.read i off n) o).1.allocd = st.allocd := by
  obtain ⟨h1, h2, h3⟩ := readAt_refines (c := st.cfg) (f := f) (e := st.env o) off n hss hdr hhr
  rw [step_open rfl hf]
  dsimp only [fileOp]
  rw [finish_nil (h3.2.2.trans ho), h1, h2]
  exact ⟨rfl, set_self (file?_some hf).1, h3.1⟩

theorem step_write_refines {st : State} (h : Inv st) {i : Nat} {f : File} (hf : st.file? i = some f) (off : Nat)
    (p : List FilePool.Byte) (o : Oracle) {n : Nat} {err : Option Err}
    (hout : (step st (.write i off p) o).2 = .wrote n err) :
    ∃ f', (step st (.write i off p) o).1.file? i = some f' ∧
      Eqv (absFile st.cfg.ss (step st (.write i off p) o).1.dev f')
        (ByteFile.write (absFile st.cfg.ss st.dev f) off (p.take n)) ∧
      n ≤ p.length ∧ (err = none → n = p.length) ∧ err ≠ some .panic := by
  have hP := inv_part h (file?_some hf).1
  obtain ⟨_, hl, _, hnone, hpanic, _⟩ := writeAt_content (f := f) (e := st.env o) p off h.ssPos hP h.noDoubleFree
  have hcl := (writeAt_part (c := st.cfg) (f := f) (e := st.env o) p (off : Int) h.ssPos hP h.noDoubleFree).2.2.1
  rw [step_open rfl hf] at hout ⊢
  rw [finish_fst]
  rcases finish_snd _ _ _ with e | e <;> rw [e] at hout <;> cases hout
  exact ⟨_, file?_set hf _ hcl, writeAt_refines p off h.ssPos hP h.noDoubleFree, hl, hnone, hpanic⟩

theorem step_trunc_refines {st : State} (h2 : Inv2 st) {i : Nat} {f : File} (hf : st.file? i = some f) (sz : Nat)
    (o : Oracle) (hout : (step st (.trunc i sz) o).2 = .done none) :
    ∃ f', (step st (.trunc i sz) o).1.file? i = some f' ∧
      Eqv (absFile st.cfg.ss (step st (.trunc i sz) o).1.dev f')
        (ByteFile.truncate (absFile st.cfg.ss st.dev f) sz) := by
  have hfi := file?_some hf
  have hP := inv_part h2.inv hfi.1
  have hcl := (truncate_part (c := st.cfg) (f := f) (e := st.env o) (sz : Int) hP h2.inv.noDoubleFree).2.2
  rw [step_open rfl hf] at hout ⊢
  rw [finish_fst]
  rcases finish_snd _ _ _ with e | e <;> rw [e] at hout
  · injection hout with hres
    exact ⟨_, file?_set hf _ hcl, truncate_refines sz h2.inv.ssPos hP (h2.files i f hfi.1) hres⟩
  · cases hout

theorem step_seek_spec {st : State} (h2 : Inv2 st) {i : Nat} {f : File} (hf : st.file? i = some f) (off : Nat)
    (hoff : off < f.size) (data : Bool) (o : Oracle) (ho : o.answers = []) (hs : o.faults.hs = none) :
    (data = true →
        (∃ j, (step st (.seek i off data) o).2 = .offset (.ok j) ∧ off ≤ j ∧ dataAt st.cfg f j ∧
            ∀ k, off ≤ k → k < j → ¬ dataAt st.cfg f k) ∨
          ((step st (.seek i off data) o).2 = .offset (.error .eof) ∧ ∀ k, off ≤ k → ¬ dataAt st.cfg f k)) ∧
      (data = false →
        ∃ j, (step st (.seek i off data) o).2 = .offset (.ok j) ∧ off ≤ j ∧ j ≤ f.size ∧
          (∀ k, off ≤ k → k < j → dataAt st.cfg f k) ∧ (j < f.size → ¬ dataAt st.cfg f j)) := by
  have hfi := file?_some hf
  obtain ⟨s1, s2, s3⟩ := seek_spec (c := st.cfg) (f := f) (e := st.env o) off data h2.inv.ssPos hs
    (h2.noTrail i f hfi.1) (h2.files i f hfi.1).1 hoff
  rw [step_open rfl hf]
  dsimp only [fileOp]
  rw [finish_nil ((congrArg Env.answers s1).trans ho)]
  refine ⟨fun hd => ?_, fun hd => ?_⟩
  · rcases s2 hd with ⟨j, e1, e⟩ | ⟨e1, e⟩
    · exact Or.inl ⟨j, congrArg _ e1, e⟩
    · exact Or.inr ⟨congrArg _ e1, e⟩
  · obtain ⟨j, e1, e⟩ := s3 hd
    exact ⟨j, congrArg _ e1, e⟩

end BbRe.Lemmas.FilePool
