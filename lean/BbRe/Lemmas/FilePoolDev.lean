import BbRe.Lemmas.FilePoolOps
/-!
Device effects of the primitive calls and of the three write phases of
`writeToNewSectors`.
-/
namespace BbRe.Lemmas.FilePool
open BbRe.FilePool

theorem readHole_dev (e : Env) (h : Hole) (off n : Nat) : (e.readHole h off n).1.dev = e.dev := by
  unfold Env.readHole; split <;> rfl

theorem readHole_ok (e : Env) (h : Hole) (off n : Nat) (hok : (e.readHole h off n).2.2 = none) :
    (e.readHole h off n).2.1 = h.bytes off n := by
  unfold Env.readHole at hok ⊢
  split
  · rename_i nb short heq
    rw [heq] at hok
    dsimp only at hok ⊢
    split at hok
    · split at hok
      · rename_i hk; rw [hk]
      · simp at hok
    · simp at hok
  · rfl
  · rfl

theorem devRead_ok (e : Env) (off n : Nat) (hok : (e.devRead off n).2.2 = none) :
    (e.devRead off n).2.1 = readBytes e.dev off n := by
  unfold Env.devRead at hok ⊢
  split
  · rename_i nb short heq
    rw [heq] at hok
    dsimp only at hok ⊢
    split at hok
    · split at hok
      · rename_i hk; rw [hk]
      · simp at hok
    · simp at hok
  · rfl
  · rfl

/-- a device write stores a prefix of the data; `some n` reports its length. -/
theorem devWrite_dev (e : Env) (off : Nat) (p : List Byte) :
    ∃ m, m ≤ p.length ∧ (e.devWrite off p).1.dev = writeBytes e.dev off (p.take m) ∧
      (∀ n, (e.devWrite off p).2 = some n → n = m) ∧ ((e.devWrite off p).2 = none → m = p.length) := by
  unfold Env.devWrite
  split
  · rename_i n heq
    refine ⟨min n p.length, Nat.min_le_right _ _, ?_, ?_, ?_⟩
    · dsimp only
      congr 1
      rw [List.take_eq_take_iff]
      simp
    · intro n' hn'; simp at hn'; exact hn'.symm
    · intro hn; simp at hn
  · exact ⟨p.length, Nat.le_refl _, by simp, by intro n hn; simp at hn, fun _ => rfl⟩
  · exact ⟨p.length, Nat.le_refl _, by simp, by intro n hn; simp at hn, fun _ => rfl⟩

theorem writeBytes_append (a b : List Byte) : ∀ (dev : Array Byte) (off : Nat),
    writeBytes dev off (a ++ b) = writeBytes (writeBytes dev off a) (off + a.length) b := by
  induction a with
  | nil => intro dev off; rfl
  | cons x xs ih =>
    intro dev off
    rw [List.cons_append, writeBytes, writeBytes, ih, List.length_cons, Nat.add_assoc, Nat.add_comm 1]

/-- `dev'` is `dev` after a prefix of `B` has been stored at `off` — all of `B` if `done`.
Every device write of the model has this shape, and consecutive ones compose (`Wrote.seq`). -/
def Wrote (dev dev' : Array Byte) (off : Nat) (B : List Byte) (done : Prop) : Prop :=
  ∃ q, q <+: B ∧ dev' = writeBytes dev off q ∧ (done → q = B)

theorem Wrote.none (dev : Array Byte) (off : Nat) (B : List Byte) : Wrote dev dev off B False :=
  ⟨[], List.nil_prefix, rfl, False.elim⟩

theorem Wrote.mono {dev dev' : Array Byte} {off : Nat} {B : List Byte} {d d' : Prop}
    (h : Wrote dev dev' off B d) (hd : d' → d) : Wrote dev dev' off B d' :=
  let ⟨q, hq, e, hB⟩ := h; ⟨q, hq, e, fun x => hB (hd x)⟩

theorem Wrote.all {dev dev' : Array Byte} {off : Nat} {B : List Byte} {d : Prop}
    (h : Wrote dev dev' off B d) (hd : d) : dev' = writeBytes dev off B :=
  let ⟨_, _, e, hB⟩ := h; hB hd ▸ e

/-- stopping inside `B` is stopping inside `B ++ X`. -/
theorem Wrote.stop {dev dev' : Array Byte} {off : Nat} {B : List Byte} {d : Prop}
    (h : Wrote dev dev' off B d) (X : List Byte) : Wrote dev dev' off (B ++ X) False :=
  let ⟨q, hq, e, _⟩ := h; ⟨q, hq.trans (List.prefix_append _ _), e, False.elim⟩

/-- all of `B₁`, then a prefix of `B₂` right behind it. -/
theorem Wrote.seq {dev dev₁ dev₂ : Array Byte} {off : Nat} {B₁ B₂ : List Byte} {d : Prop}
    (h₁ : dev₁ = writeBytes dev off B₁) (h₂ : Wrote dev₁ dev₂ (off + B₁.length) B₂ d) :
    Wrote dev dev₂ off (B₁ ++ B₂) d :=
  let ⟨q, hq, e, hB⟩ := h₂
  ⟨B₁ ++ q, (List.prefix_append_right_inj _).mpr hq, by rw [writeBytes_append, ← h₁, e],
    fun x => by rw [hB x]⟩

theorem Wrote.frame {dev dev' : Array Byte} {off : Nat} {B : List Byte} {d : Prop}
    (h : Wrote dev dev' off B d) {i : Nat} (hi : i < off ∨ off + B.length ≤ i) : rd dev' i = rd dev i := by
  obtain ⟨q, hq, rfl, _⟩ := h
  have := hq.length_le
  exact rd_writeBytes_outside _ _ _ _ (by omega)

theorem devWrite_wrote (e : Env) (off : Nat) (B : List Byte) :
    Wrote e.dev (e.devWrite off B).1.dev off B ((e.devWrite off B).2 = none) := by
  obtain ⟨m, _, hdev, _, hnone⟩ := devWrite_dev e off B
  exact ⟨B.take m, List.take_prefix _ _, hdev, fun h => by rw [hnone h, List.take_length]⟩

/-! ## the three phases

Each stores (a prefix of) one buffer at the start of the sector its cursor points at. -/

theorem wnsPhase1_ok0 {c : Cfg} {h : Hole} {e : Env} {p : List Byte} {sector idx : Nat} :
    wnsPhase1 c h e p sector idx 0 = (e, .ok (p, sector, idx)) := by
  unfold wnsPhase1; simp

/-- first sector with leading padding: hole bytes, the head of the data and, if the data ends inside
the sector, hole bytes again. -/
theorem wnsPhase1_wrote (c : Cfg) (h : Hole) (e : Env) (p : List Byte) (sector idx ow : Nat) (how : 0 < ow) :
    Wrote e.dev (wnsPhase1 c h e p sector idx ow).1.dev ((sector - 1) * c.ss)
        (h.bytes (idx * c.ss) ow ++ p.take (min (c.ss - ow) p.length) ++
          (if ow + p.length < c.ss then h.bytes (idx * c.ss + (ow + p.length)) (c.ss - (ow + p.length)) else []))
        ((wnsPhase1 c h e p sector idx ow).2.isOk = true) ∧
      ∀ cur, (wnsPhase1 c h e p sector idx ow).2 = .ok cur →
        cur = (p.drop (min (c.ss - ow) p.length), sector + 1, idx + 1) := by
  unfold wnsPhase1
  rw [if_pos how]
  dsimp only
  have hd1 := readHole_dev e h (idx * c.ss) ow
  split
  · exact ⟨hd1 ▸ (Wrote.none _ _ _).mono (fun x => nomatch x), fun _ x => nomatch x⟩
  · rename_i hok1
    rw [readHole_ok _ _ _ _ hok1]
    generalize hr2 : (if ow + p.length < c.ss then
        (e.readHole h (idx * c.ss) ow).1.readHole h (idx * c.ss + (ow + p.length)) (c.ss - (ow + p.length))
        else ((e.readHole h (idx * c.ss) ow).1, [], none)) = r2
    have hd2 : r2.1.dev = e.dev := by
      rw [← hr2]; split
      · rw [readHole_dev, hd1]
      · exact hd1
    split
    · exact ⟨hd2 ▸ (Wrote.none _ _ _).mono (fun x => nomatch x), fun _ x => nomatch x⟩
    · rename_i hok2
      have hb2 : r2.2.1 = if ow + p.length < c.ss then
          h.bytes (idx * c.ss + (ow + p.length)) (c.ss - (ow + p.length)) else [] := by
        rw [← hr2] at hok2 ⊢
        split
        · rename_i hlt; rw [if_pos hlt] at hok2; exact readHole_ok _ _ _ _ hok2
        · rfl
      have hw := devWrite_wrote r2.1 ((sector - 1) * c.ss)
        (h.bytes (idx * c.ss) ow ++ p.take (min (c.ss - ow) p.length) ++ r2.2.1)
      rw [hd2, hb2] at hw
      rw [hb2]
      split
      · exact ⟨hw.mono (fun x => nomatch x), fun _ x => nomatch x⟩
      · rename_i hn
        exact ⟨hw.mono (fun _ => hn), fun _ x => (Except.ok.inj x).symm⟩

/-- the complete sectors of what is left. -/
theorem wnsPhase2_wrote (c : Cfg) (e : Env) (cur : Cursor) :
    Wrote e.dev (wnsPhase2 c e cur).1.dev ((cur.2.1 - 1) * c.ss) (cur.1.take (cur.1.length / c.ss * c.ss))
        ((wnsPhase2 c e cur).2.isOk = true) ∧
      ∀ cur2, (wnsPhase2 c e cur).2 = .ok cur2 →
        cur2 = (cur.1.drop (cur.1.length / c.ss * c.ss), cur.2.1 + cur.1.length / c.ss,
          cur.2.2 + cur.1.length / c.ss) := by
  unfold wnsPhase2
  dsimp only
  split
  · have hw := devWrite_wrote e ((cur.2.1 - 1) * c.ss) (cur.1.take (cur.1.length / c.ss * c.ss))
    split
    · exact ⟨hw.mono (fun x => nomatch x), fun _ x => nomatch x⟩
    · rename_i hn
      exact ⟨hw.mono (fun _ => hn), fun _ x => (Except.ok.inj x).symm⟩
  · rename_i hfull
    rw [Nat.eq_zero_of_not_pos hfull, Nat.zero_mul, List.take_zero]
    exact ⟨⟨[], List.prefix_refl _, rfl, fun _ => rfl⟩, fun _ x => (Except.ok.inj x).symm⟩

/-- the last, partial sector: the rest of the data, then hole bytes up to the sector boundary. -/
theorem wnsPhase3_wrote (c : Cfg) (h : Hole) (e : Env) (cur : Cursor) :
    Wrote e.dev (wnsPhase3 c h e cur).1.dev ((cur.2.1 - 1) * c.ss)
      (if cur.1.length > 0 then cur.1 ++ h.bytes (cur.2.2 * c.ss + cur.1.length) (c.ss - cur.1.length) else [])
      ((wnsPhase3 c h e cur).2 = none) := by
  unfold wnsPhase3
  dsimp only
  split
  · split
    · exact readHole_dev _ _ _ _ ▸ (Wrote.none _ _ _).mono (fun x => nomatch x)
    · rename_i hok1
      rw [readHole_ok _ _ _ _ hok1]
      have hw := devWrite_wrote (e.readHole h (cur.2.2 * c.ss + cur.1.length) (c.ss - cur.1.length)).1
        ((cur.2.1 - 1) * c.ss) (cur.1 ++ h.bytes (cur.2.2 * c.ss + cur.1.length) (c.ss - cur.1.length))
      rw [readHole_dev] at hw
      split
      · exact hw.mono (fun x => nomatch x)
      · rename_i hn; exact hw.mono (fun _ => hn)
  · exact ⟨[], List.prefix_refl _, rfl, fun _ => rfl⟩

end BbRe.Lemmas.FilePool
