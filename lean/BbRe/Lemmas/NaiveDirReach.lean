import BbRe.Lemmas.NaiveDirLazy
import BbRe.Lemmas.InputRootState
/-!
The eager merge: every Directory referenced below the root was fetched and is well-formed
when the merge ends clean; `merge … = (ch, ok)` is a clean walk; updating the build
directory leaves the rest of the file system alone.
-/
namespace BbRe.Lemmas.NaiveDir
open BbRe.InputRoot BbRe.NaiveDir BbRe.Lemmas.InputRoot

/-- `d'` is the root `d` or is referenced, directly or indirectly, by a Directory message below it. -/
inductive Reach (c : CAS) : Dig → Dig → Prop
  | refl (d : Dig) : Reach c d d
  | step {d d1 d' : Dig} {m : DirMsg} {e : DirNode} : assoc c.dirs d = some (some m) → e ∈ m.dirs →
      parseDigest c.hashLen e.digest = some d1 → Reach c d1 d' → Reach c d d'

/-- `group.Wait()` returns nil iff no download failed and the walker returned nil. -/
theorem outcomeOf_ok {r : R} : outcomeOf r = .ok ↔ r.failed = false ∧ r.err = none := by
  unfold outcomeOf
  split
  · simp [*]
  · split <;> simp [*]

theorem merge_ok_clean (c : CAS) (O : Oracle) (fuel : Nat) (d : Dig) (ch0 ch : Children)
    (h : NaiveDir.merge c O fuel d ch0 = (ch, .ok)) : mergeDirIn c O fuel d [] ch0 false = ⟨ch, false, none⟩ := by
  obtain ⟨h1, h2⟩ := Prod.mk.inj h
  obtain ⟨hf, he⟩ := outcomeOf_ok.1 h2
  generalize mergeDirIn c O fuel d [] ch0 false = r at h1 hf he
  cases r
  cases h1; cases hf; cases he
  rfl

theorem fetch_of_clean (c : CAS) (O : Oracle) (f : Nat) (d : Dig) (p : Path) (ch : Children)
    (h : mergeDirIn c O (f + 1) d p [] false = ⟨ch, false, none⟩) :
    ∃ m, assoc c.dirs d = some (some m) ∧ WellFormed c.hashLen m ∧ O.cas.contains d = false ∧
      (fetch c [] d none).result = .ok (specChildren c.hashLen m) ∧
      ∀ e ∈ m.dirs, (mkDirN c O f p e).isSome = true := by
  obtain ⟨m, hg, g1, g2, g3, _, -⟩ := level_ok c O f d p ch h
  obtain ⟨hnf, hm⟩ := getDirectory_ok c O.cas d m hg
  have hw := wellFormed_of_level c.hashLen m (mkDirN c O f p) (mkDirN_isSome c O f p) g1 g2 g3
  have hfetch := fetch_wellFormed c [] d none m (by simp) hm hw
  rw [annotate_none_spec] at hfetch
  exact ⟨m, hm, hw, hnf, by rw [hfetch], fun e he => (g2.1 e he).2⟩

/-- A clean merge has fetched every Directory referenced below the root; each of them is present,
a Directory message, well-formed, and its `GetDirectory` did not fail. -/
theorem clean_reach (c : CAS) (O : Oracle) : ∀ (f : Nat) (d : Dig) (p : Path) (ch : Children),
    mergeDirIn c O f d p [] false = ⟨ch, false, none⟩ → ∀ d', Reach c d d' →
      ∃ m, assoc c.dirs d' = some (some m) ∧ WellFormed c.hashLen m ∧ O.cas.contains d' = false := by
  intro f
  induction f with
  | zero => intro d p ch h; simp [mergeDirIn] at h
  | succ f ih =>
    intro d p ch h d' hr
    obtain ⟨m, hm, hw, hnf, -, hsome⟩ := fetch_of_clean c O f d p ch h
    cases hr with
    | refl => exact ⟨m, hm, hw, hnf⟩
    | step hm' he hp hr' =>
      rw [hm] at hm'
      cases hm'
      obtain ⟨chd, hcl, -⟩ := clean_of_mkDirN hp (hsome _ he)
      exact ih _ _ chd hcl d' hr'

/-! ### the rest of the file system -/

/-- The two paths part ways: neither is a prefix of the other. -/
inductive Diverge : Path → Path → Prop
  | head {x y : Name} (a b : Path) : x ≠ y → Diverge (x :: a) (y :: b)
  | tail (x : Name) {a b : Path} : Diverge a b → Diverge (x :: a) (x :: b)

theorem updAt_frame (g : Children → Children) : ∀ (tp q : Path), Diverge tp q → ∀ n : Node,
    rawAt (updAt g tp n) q = rawAt n q := by
  intro tp q hd
  induction hd with
  | head a b hxy =>
    intro n
    cases n with
    | dir ch =>
      simp only [updAt]
      cases hl : lookup ch _ with
      | none => rfl
      | some v => simp only [rawAt, lookup_replaceFirst_ne _ _ _ _ hxy]
    | _ => rfl
  | tail x hab ih =>
    intro n
    cases n with
    | dir ch =>
      simp only [updAt]
      cases hl : lookup ch x with
      | none => rfl
      | some v =>
        simp only [rawAt, lookup_replaceFirst_self ch x _ v hl, hl]
        exact ih v
    | _ => rfl

end BbRe.Lemmas.NaiveDir
