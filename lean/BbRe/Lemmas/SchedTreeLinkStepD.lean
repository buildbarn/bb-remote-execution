import BbRe.Lemmas.SchedTreeLinkCore
/-!
Step lemmas of the tree layer: operations and tasks being added / removed (a new task with one
operation, in-flight deduplication against an executing / a queued task, `operation.remove`, dropping a
completed task or one of its operations).
-/
namespace BbRe.Lemmas.SchedTree
open BbRe.Sched BbRe.SchedTree BbRe.Lemmas.SchedInv

variable {X : List (ScqId × List Nat)}

-- some hypotheses of the step lemmas only document the intended use (`hops`, `hnow`)
set_option linter.unusedVariables false

/-- `conE` reads the operation table only at the operations of the task -/
private theorem conE_oxc {ox ox' : List (Nat × OX)} {t : Task}
    (h : ∀ o ∈ t.ops, alookup o ox' = alookup o ox) : conE ox' t = conE ox t := by
  unfold conE
  cases t.worker with
  | none => rfl
  | some qw =>
    obtain ⟨q, w⟩ := qw
    simp only
    apply List.map_congr_left
    intro o ho; rw [h o ho]

private theorem conQ_oxc {ox ox' : List (Nat × OX)} {t : Task}
    (h : ∀ o ∈ t.ops, alookup o ox' = alookup o ox) : conQ ox' t = conQ ox t := by
  unfold conQ
  split
  · apply List.map_congr_left
    intro o ho; rw [h o ho]
  · rfl

/-- the table entry of a name that is no operation of any task does not matter for the tasks' operations -/
private theorem ox_aset_other {ts : TState} {opn : Nat} {y : OX}
    (hopf : ∀ k t', alookup k ts.s.tasks = some t' → opn ∉ t'.ops) :
    ∀ k t', alookup k ts.s.tasks = some t' → ∀ o ∈ t'.ops, alookup o (aset opn y ts.ox) = alookup o ts.ox := by
  intro k t' h o ho
  rw [alookup_aset, if_neg]
  intro e; subst e; exact hopf k t' h ho

/-- the entries of `aset k v l` -/
private theorem mem_aset_cases {α} {l : List (Nat × α)} (hnd : (keys l).Nodup) {k : Nat} {v : α} {kt : Nat × α}
    (h : kt ∈ aset k v l) : kt = (k, v) ∨ (kt.1 ≠ k ∧ alookup kt.1 l = some kt.2) := by
  obtain ⟨k', v'⟩ := kt
  have := alookup_of_mem (nodup_aset k v l hnd) h
  rw [alookup_aset] at this
  by_cases hk : k = k'
  · simp only [hk, if_true, Option.some.injEq] at this
    left; rw [hk, this]
  · simp only [hk, if_false] at this
    right; exact ⟨fun e => hk e.symm, this⟩

/-- the entries of `aerase k l` -/
private theorem mem_aerase_cases {α} {l : List (Nat × α)} (hnd : (keys l).Nodup) {k : Nat} {kt : Nat × α}
    (h : kt ∈ aerase k l) : kt.1 ≠ k ∧ alookup kt.1 l = some kt.2 := by
  obtain ⟨k', v'⟩ := kt
  have := alookup_of_mem (nodup_aerase k l hnd) h
  rw [alookup_aerase _ _ _ hnd] at this
  by_cases hk : k = k'
  · simp [hk] at this
  · simp only [hk, if_false] at this
    exact ⟨fun e => hk e.symm, this⟩

/-- replacing the entry of one task, when the contribution function changes too (but not on the new
table) -/
private theorem flatMap_setTask {β} (f g : Task → List β) (l : List (Nat × Task)) (k : Nat) (t0 t1 : Task)
    (h0 : alookup k l = some t0) (hfg : ∀ kt ∈ aset k t1 l, g kt.2 = f kt.2) :
    (l.flatMap (fun kt => f kt.2) ++ f t1).Perm ((aset k t1 l).flatMap (fun kt => g kt.2) ++ f t0) := by
  have e : (aset k t1 l).flatMap (fun kt => g kt.2) = (aset k t1 l).flatMap (fun kt => f kt.2) :=
    flatMap_congr' hfg
  rw [e]
  exact flatMap_aset_some (fun kt : Nat × Task => f kt.2) k t1 l t0 h0

private theorem perm_add {α} {E E' A : List α} {c : α} (h : (E ++ (A ++ [c])).Perm (E' ++ A)) :
    (c :: E).Perm E' := by
  rw [← List.append_assoc] at h
  have h2 : ((c :: E) ++ A).Perm (E' ++ A) := (List.perm_append_singleton c (E ++ A)).symm.trans h
  exact (List.perm_append_right_iff A).mp h2

private theorem perm_remove {α} [BEq α] [LawfulBEq α] {E E' A B : List α} {c : α}
    (h : (E ++ A).Perm (E' ++ B)) (hB : B.Perm (c :: A)) : (E.erase c).Perm E' := by
  have h1 : (E ++ A).Perm ((c :: E') ++ A) :=
    h.trans ((List.Perm.append_left E' hB).trans List.perm_middle)
  have h2 : E.Perm (c :: E') := (List.perm_append_right_iff A).mp h1
  have h3 := h2.erase c
  rw [List.erase_cons_head] at h3
  exact h3

private theorem perm_filter_ne {l : List Nat} {o : Nat} (hnd : l.Nodup) (hm : o ∈ l) :
    l.Perm (o :: l.filter (· ≠ o)) := by
  induction l with
  | nil => cases hm
  | cons a r ih =>
    rw [List.nodup_cons] at hnd
    by_cases ha : a = o
    · subst ha
      have : r.filter (· ≠ a) = r := by
        rw [List.filter_eq_self]
        intro x hx
        simp only [ne_eq, decide_not, Bool.not_eq_eq_eq_not, Bool.not_true, decide_eq_false_iff_not]
        intro e; subst e; exact hnd.1 hx
      rw [List.filter_cons_of_neg (by simp), this]
    · have hm' : o ∈ r := by
        rcases List.mem_cons.mp hm with e | e
        · exact absurd e.symm ha
        · exact e
      rw [List.filter_cons_of_pos (by simpa using ha)]
      exact (List.Perm.cons a (ih hnd.2 hm')).trans (List.Perm.swap o a _)

/-- the exemptions `getOrCreate_ok` introduces are all on the path -/
private theorem prefixes_onPath (q : ScqId) (p : List Nat) :
    ∀ x ∈ [] ++ (prefixes p).map (fun pi => (q, pi)), x.1 = q ∧ x.2 <+: p := by
  intro x hx
  rw [List.nil_append] at hx
  obtain ⟨pi, hpi, e⟩ := List.mem_map.mp hx
  subst e
  exact ⟨rfl, (mem_prefixes.mp hpi).1⟩

private theorem offPath_prefixes (q : ScqId) (p : List Nat) :
    offPath ([] ++ (prefixes p).map (fun pi => (q, pi))) q p = [] := by
  apply List.eq_nil_iff_forall_not_mem.mpr
  intro x hx
  rw [mem_offPath] at hx
  exact hx.2 (prefixes_onPath q p x hx.1)

/-- `Side` of a state with the same worker extras and workers -/
private theorem side_mk {ts ts' : TState} (hS : Side ts)
    (hnodes : (∀ sq ∈ ts'.s.scqs, (node? ts'.nodes sq.id []).isSome = true) ∧
      (∀ n ∈ ts'.nodes, ∃ sq ∈ ts'.s.scqs, sq.id = n.scq))
    (hwx : ts'.wx = ts.wx) (hsw : ts'.s.workers = ts.s.workers)
    (hox : ∀ o op', ts'.s.op? o = some op' → alookup o ts'.ox = some ⟨op'.inv, op'.prio⟩)
    (hwq : ∀ k t q w, alookup k ts'.s.tasks = some t → t.worker = some (q, w) → q = t.scq) : Side ts' := by
  have hwf : ∀ q w, ts'.s.worker? q w = ts.s.worker? q w := by
    intro q w; unfold State.worker?; rw [hsw]
  have hxf : ∀ q w, ts'.wx? q w = ts.wx? q w := by
    intro q w; unfold TState.wx?; rw [hwx]
  refine ⟨hnodes.1, hnodes.2, ?_, ?_, ?_, hox, hwq⟩
  · rw [hwx]; exact hS.wxnd
  · intro q w; rw [hwf, hxf]; exact hS.wxw q w
  · intro q w wk x h1 h2
    rw [hwf] at h1; rw [hxf] at h2
    exact hS.wpl q w wk x h1 h2

private theorem side_nodes' {ts : TState} (hS : Side ts) {qs : List ScqId} {ns' : List Node} {scqs' : List Scq}
    (hf : NFrame qs ts.nodes ns') (hsq : scqs' = ts.s.scqs) (hq : ∀ q ∈ qs, ∃ sq ∈ ts.s.scqs, sq.id = q) :
    (∀ sq ∈ scqs', (node? ns' sq.id []).isSome = true) ∧ (∀ n ∈ ns', ∃ sq ∈ scqs', sq.id = n.scq) := by
  subst hsq
  exact side_nodes hS hf hq (fun sq h => h) (fun sq h => Or.inl h)

/-- the queue of an existing invocation is a registered queue -/
private theorem scq_of_node {ts : TState} (hS : Side ts) {q : ScqId} {p : List Nat}
    (h : (node? ts.nodes q p).isSome = true) : ∃ sq ∈ ts.s.scqs, sq.id = q := by
  obtain ⟨m, hm, hmq, _⟩ := node?_isSome_iff.mp h
  obtain ⟨sq, hsq, hid⟩ := hS.nscq m hm
  exact ⟨sq, hsq, by rw [hid, hmq]⟩

private theorem oxok_set {ts : TState} (hS : Side ts) {s' : State} {opn : Nat} {inv : List Nat} {prio : Int}
    (hso : ∀ o op', s'.op? o = some op' → (o = opn ∧ op'.inv = inv ∧ op'.prio = prio) ∨
      (o ≠ opn ∧ ∃ op, ts.s.op? o = some op ∧ op'.inv = op.inv ∧ op'.prio = op.prio)) :
    ∀ o op', s'.op? o = some op' → alookup o (aset opn (⟨inv, prio⟩ : OX) ts.ox) = some ⟨op'.inv, op'.prio⟩ := by
  intro o op' h
  rw [alookup_aset]
  rcases hso o op' h with ⟨e, hi, hp⟩ | ⟨hne, op, e, hi, hp⟩
  · rw [if_pos e.symm, hi, hp]
  · rw [if_neg (fun e => hne e.symm), hS.oxok o op e, hi, hp]

private theorem oxok_drop {ts : TState} (hS : Side ts) {s' : State} {o : Nat}
    (hso : ∀ o' op', s'.op? o' = some op' → o' ≠ o ∧ ∃ op, ts.s.op? o' = some op ∧ op'.inv = op.inv ∧ op'.prio = op.prio) :
    ∀ o' op', s'.op? o' = some op' → alookup o' (aerase o ts.ox) = some ⟨op'.inv, op'.prio⟩ := by
  intro o' op' h
  obtain ⟨hne, op, e, hi, hp⟩ := hso o' op' h
  rw [alookup_aerase_ne o' o ts.ox (fun e => hne e.symm), hS.oxok o' op e, hi, hp]

/-! ### a new task -/

/-- a new task (neither queued nor assigned yet) with one new operation `opn` in invocation `inv`:
`getOrCreateInvocation`, `newOperation` -/
theorem newTask_ts {ex exo} {ts : TState} {t : Task} {opn : Nat} {inv : List Nat} {prio : Int} {y : TX} {s' : State}
    (hT : TInvX ex exo X ts)
    (hfresh : alookup t.id ts.s.tasks = none) (hopf : ∀ k t', alookup k ts.s.tasks = some t' → opn ∉ t'.ops)
    (htw : t.worker = none) (hq : t.queued = false) (hops : t.ops = [opn])
    (hscq : ∃ sq ∈ ts.s.scqs, sq.id = t.scq)
    (hst : s'.tasks = aset t.id t ts.s.tasks) (hsw : s'.workers = ts.s.workers) (hsq : s'.scqs = ts.s.scqs)
    (hnow : s'.now = ts.s.now)
    (hso : ∀ o op', s'.op? o = some op' → (o = opn ∧ op'.inv = inv ∧ op'.prio = prio) ∨
      (o ≠ opn ∧ ∃ op, ts.s.op? o = some op ∧ op'.inv = op.inv ∧ op'.prio = op.prio)) :
    TS (X ++ (prefixes inv).map (fun pi => (t.scq, pi)))
      ((((ts.setOX opn ⟨inv, prio⟩).setTX t.id y).setS s').create t.scq inv) ∧
    (node? ((((ts.setOX opn ⟨inv, prio⟩).setTX t.id y).setS s').create t.scq inv).nodes t.scq inv).isSome = true ∧
    ((((ts.setOX opn ⟨inv, prio⟩).setTX t.id y).setS s').create t.scq inv).invOf opn = inv := by
  have hS := hT.side
  have htnd := hT.inv.core.tnd
  obtain ⟨sq0, hsq0, hsqid⟩ := hscq
  have hroot : (node? ts.nodes t.scq []).isSome = true := by rw [← hsqid]; exact hS.roots sq0 hsq0
  let ox' := aset opn (⟨inv, prio⟩ : OX) ts.ox
  let ts' : TState := (((ts.setOX opn ⟨inv, prio⟩).setTX t.id y).setS s').create t.scq inv
  have hnodes : ts'.nodes = getOrCreate ts.nodes t.scq inv s'.now := rfl
  have hoxo := ox_aset_other (y := (⟨inv, prio⟩ : OX)) hopf
  have hE' : bagE ts' = bagE ts := by
    have := bagE_newTask ts s' t ox' hfresh hst
      (fun ⟨k, t'⟩ hkt => conE_oxc (hoxo k t' (alookup_of_mem htnd hkt))) ts' rfl rfl
    rw [this, conE_unassigned _ t htw, List.append_nil]
  have hQ' : bagQ ts' = bagQ ts := by
    have := bagQ_newTask ts s' t ox' hfresh hst
      (fun ⟨k, t'⟩ hkt => conQ_oxc (hoxo k t' (alookup_of_mem htnd hkt))) ts' rfl rfl
    rw [this, conQ_unqueued _ t hq, List.append_nil]
  refine ⟨⟨?_, ?_⟩, ?_, ?_⟩
  · show TreeOK _ ts'.nodes (bagE ts') (bagI ts) (bagQ ts') (bagP ts)
    rw [hE', hQ', hnodes]
    exact getOrCreate_ok hT.tree t.scq inv s'.now hroot
  · refine side_mk hS (ts' := ts') ?_ rfl hsw (oxok_set hS hso) ?_
    · exact side_nodes' hS (getOrCreate_nframe ts.nodes t.scq inv s'.now) hsq
        (by intro q hq; rw [List.mem_singleton] at hq; subst hq; exact ⟨sq0, hsq0, hsqid⟩)
    · exact hS.wq_aset hst fun q w h2 => by rw [htw] at h2; cases h2
  · show (node? (getOrCreate ts.nodes t.scq inv s'.now) t.scq inv).isSome = true
    exact getOrCreate_exists ts.nodes t.scq inv s'.now hroot inv (List.prefix_refl _)
  · show (match alookup opn (aset opn (⟨inv, prio⟩ : OX) ts.ox) with | some x => x.inv | none => []) = inv
    rw [alookup_aset, if_pos rfl]

/-! ### in-flight deduplication: one more operation for a live task -/

/-- in-flight deduplication against an EXECUTING task: a new operation `opn` in invocation `inv`
(`getOrCreateInvocation`, `newOperation`, `incrementExecutingWorkersCount`) -/
theorem addOpExec_ts {ex exo} {ts : TState} {t : Task} {q0 : ScqId} {w : WId} {opn : Nat} {inv : List Nat} {prio : Int} {s' : State}
    (hT : TInvX ex exo [] ts) (ht : alookup t.id ts.s.tasks = some t) (hw : t.worker = some (q0, w))
    (hopf : ∀ k t', alookup k ts.s.tasks = some t' → opn ∉ t'.ops)
    (hst : s'.tasks = aset t.id { t with ops := t.ops ++ [opn] } ts.s.tasks) (hsw : s'.workers = ts.s.workers)
    (hsq : s'.scqs = ts.s.scqs)
    (hso : ∀ o op', s'.op? o = some op' → (o = opn ∧ op'.inv = inv ∧ op'.prio = prio) ∨
      (o ≠ opn ∧ ∃ op, ts.s.op? o = some op ∧ op'.inv = op.inv ∧ op'.prio = op.prio)) :
    TS [] (({ ((ts.create t.scq inv).setOX opn ⟨inv, prio⟩) with
              nodes := incExecR ts.legacyPrio ((ts.create t.scq inv).setOX opn ⟨inv, prio⟩).prioOf ((ts.create t.scq inv).setOX opn ⟨inv, prio⟩).nodes t.scq inv (some w) ts.s.now } : TState).setS s') := by
  have hS := hT.side
  have htnd := hT.inv.core.tnd
  have hqf : t.queued = false := by
    cases hq : t.queued with
    | false => rfl
    | true => have := (hT.inv.core.q1 t.id t ht hq).1; rw [hw] at this; cases this
  obtain ⟨o0, ho0⟩ := List.exists_mem_of_ne_nil _ (hT.inv.oinv.o3 t.id t ht).2
  have hroot : (node? ts.nodes t.scq []).isSome = true :=
    hT.tree.prefix_exists _ (hT.tree.rfE _ (mem_bagE_of_task ht hw ho0)) [] List.nil_prefix
  let ox' := aset opn (⟨inv, prio⟩ : OX) ts.ox
  let t1 : Task := { t with ops := t.ops ++ [opn] }
  let ns1 := getOrCreate ts.nodes t.scq inv ts.s.now
  let ts' : TState := ({ ((ts.create t.scq inv).setOX opn ⟨inv, prio⟩) with
      nodes := incExecR ts.legacyPrio ((ts.create t.scq inv).setOX opn ⟨inv, prio⟩).prioOf ((ts.create t.scq inv).setOX opn ⟨inv, prio⟩).nodes t.scq inv (some w) ts.s.now } : TState).setS s'
  show TS [] ts'
  have hoxo := ox_aset_other (y := (⟨inv, prio⟩ : OX)) hopf
  have e1 : conE ox' t1 = conE ts.ox t ++ [(t.scq, inv, some w)] := by
    rw [conE_worker ox' t1 _ _ hw, conE_worker ts.ox t _ _ hw]
    show (t.ops ++ [opn]).map _ = _
    rw [List.map_append]
    congr 1
    · apply List.map_congr_left
      intro o ho; rw [hoxo t.id t ht o ho]
    · show [(t.scq, (match alookup opn (aset opn (⟨inv, prio⟩ : OX) ts.ox) with | some y => y.inv | none => []), some w)] = _
      rw [alookup_aset, if_pos rfl]
  have hE' : ((t.scq, inv, some w) :: bagE ts).Perm (bagE ts') := by
    have := bagE_setTask ts s' t t1 ox' ht hst
      (fun ⟨k, t'⟩ hkt => conE_oxc (hoxo k t' (alookup_of_mem htnd hkt))) ts' rfl rfl
    rw [e1] at this
    exact perm_add this
  have hQ' : (bagQ ts).Perm (bagQ ts') := by
    have := bagQ_setTask ts s' t t1 ox' ht hst
      (fun ⟨k, t'⟩ hkt => conQ_oxc (hoxo k t' (alookup_of_mem htnd hkt))) ts' rfl rfl
    rw [conQ_unqueued _ t hqf, conQ_unqueued _ t1 hqf, List.append_nil, List.append_nil] at this
    exact this
  refine ⟨?_, ?_⟩
  · show TreeOK [] (incExecR ts.legacyPrio _ ns1 t.scq inv (some w) ts.s.now) (bagE ts') (bagI ts) (bagQ ts') (bagP ts)
    have h1 := getOrCreate_ok hT.tree t.scq inv ts.s.now hroot
    have hn1 : (node? ns1 t.scq inv).isSome = true :=
      getOrCreate_exists ts.nodes t.scq inv ts.s.now hroot inv (List.prefix_refl _)
    have h2 := incExecR_ok h1 ts.legacyPrio ((ts.create t.scq inv).setOX opn ⟨inv, prio⟩).prioOf t.scq inv (some w) ts.s.now hn1
    rw [offPath_prefixes] at h2
    exact h2.congr hE' (List.Perm.refl _) (fun c => hQ'.mem_iff) (fun c => Iff.rfl)
  · refine side_mk hS (ts' := ts') ?_ rfl hsw (oxok_set hS hso) ?_
    · exact side_nodes' hS ((getOrCreate_nframe ts.nodes t.scq inv ts.s.now).trans
          (incExecR_nframe ts.legacyPrio _ ns1 t.scq inv (some w) ts.s.now)) hsq
        (by intro q hq; simp only [List.append_nil, List.mem_singleton] at hq; subst hq; exact scq_of_node hS hroot)
    · exact hS.wq_aset hst fun q w' h2 => hS.wq t.id t q w' ht h2

/-- … against a QUEUED task (`o.enqueue()`) -/
theorem addOpQueued_ts {ex exo} {ts : TState} {t : Task} {opn : Nat} {inv : List Nat} {prio : Int} {s' : State}
    (hT : TInvX ex exo [] ts) (ht : alookup t.id ts.s.tasks = some t) (hw : t.worker = none) (hq : t.queued = true)
    (hopf : ∀ k t', alookup k ts.s.tasks = some t' → opn ∉ t'.ops)
    (hst : s'.tasks = aset t.id { t with ops := t.ops ++ [opn] } ts.s.tasks) (hsw : s'.workers = ts.s.workers)
    (hsq : s'.scqs = ts.s.scqs)
    (hso : ∀ o op', s'.op? o = some op' → (o = opn ∧ op'.inv = inv ∧ op'.prio = prio) ∨
      (o ≠ opn ∧ ∃ op, ts.s.op? o = some op ∧ op'.inv = op.inv ∧ op'.prio = op.prio)) :
    TS [] (({ ((ts.create t.scq inv).setOX opn ⟨inv, prio⟩) with
              nodes := enqueueOp ((ts.create t.scq inv).setOX opn ⟨inv, prio⟩).prioOf
                ((ts.create t.scq inv).setOX opn ⟨inv, prio⟩).nodes t.scq inv opn } : TState).setS s') := by
  have hS := hT.side
  have htnd := hT.inv.core.tnd
  obtain ⟨o0, ho0⟩ := List.exists_mem_of_ne_nil _ (hT.inv.oinv.o3 t.id t ht).2
  have hroot : (node? ts.nodes t.scq []).isSome = true :=
    hT.tree.prefix_exists _ (hT.tree.rfQ _ (mem_bagQ_of_task ht hq ho0)) [] List.nil_prefix
  let ox' := aset opn (⟨inv, prio⟩ : OX) ts.ox
  let t1 : Task := { t with ops := t.ops ++ [opn] }
  let ns1 := getOrCreate ts.nodes t.scq inv ts.s.now
  let ts1 : TState := (ts.create t.scq inv).setOX opn ⟨inv, prio⟩
  let ts' : TState := ({ ts1 with nodes := enqueueOp ts1.prioOf ts1.nodes t.scq inv opn } : TState).setS s'
  show TS [] ts'
  have hoxo := ox_aset_other (y := (⟨inv, prio⟩ : OX)) hopf
  have e1 : conQ ox' t1 = conQ ts.ox t ++ [(t.scq, inv, opn)] := by
    rw [conQ_queued' ox' t1 hq, conQ_queued' ts.ox t hq]
    show (t.ops ++ [opn]).map _ = _
    rw [List.map_append]
    congr 1
    · apply List.map_congr_left
      intro o ho; rw [hoxo t.id t ht o ho]
    · show [(t.scq, (match alookup opn (aset opn (⟨inv, prio⟩ : OX) ts.ox) with | some y => y.inv | none => []), opn)] = _
      rw [alookup_aset, if_pos rfl]
  have hQ' : ((t.scq, inv, opn) :: bagQ ts).Perm (bagQ ts') := by
    have := bagQ_setTask ts s' t t1 ox' ht hst
      (fun ⟨k, t'⟩ hkt => conQ_oxc (hoxo k t' (alookup_of_mem htnd hkt))) ts' rfl rfl
    rw [e1] at this
    exact perm_add this
  have hE' : (bagE ts).Perm (bagE ts') := by
    have := bagE_setTask ts s' t t1 ox' ht hst
      (fun ⟨k, t'⟩ hkt => conE_oxc (hoxo k t' (alookup_of_mem htnd hkt))) ts' rfl rfl
    rw [conE_unassigned _ t hw, conE_unassigned _ t1 hw, List.append_nil, List.append_nil] at this
    exact this
  have hno : (t.scq, inv, opn) ∉ bagQ ts := by
    intro hm
    rw [bagQ_def] at hm
    obtain ⟨⟨k, t'⟩, hkt, hc⟩ := List.mem_flatMap.mp hm
    have hl : alookup k ts.s.tasks = some t' := alookup_of_mem htnd hkt
    simp only [] at hc
    unfold conQ at hc
    split at hc
    · obtain ⟨o', ho', he⟩ := List.mem_map.mp hc
      simp only [Prod.mk.injEq] at he
      have : o' = opn := he.2.2
      subst this
      exact hopf k t' hl ho'
    · cases hc
  refine ⟨?_, ?_⟩
  · show TreeOK [] (enqueueOp ts1.prioOf ns1 t.scq inv opn) (bagE ts') (bagI ts) (bagQ ts') (bagP ts)
    have h1 := getOrCreate_ok hT.tree t.scq inv ts.s.now hroot
    have hn1 : (node? ns1 t.scq inv).isSome = true :=
      getOrCreate_exists ts.nodes t.scq inv ts.s.now hroot inv (List.prefix_refl _)
    have h2 := enqueueOp_ok h1 ts1.prioOf t.scq inv opn hn1 hno
    rw [offPath_prefixes] at h2
    exact h2.congr hE' (List.Perm.refl _) (fun c => hQ'.mem_iff) (fun c => Iff.rfl)
  · refine side_mk hS (ts' := ts') ?_ rfl hsw (oxok_set hS hso) ?_
    · exact side_nodes' hS ((getOrCreate_nframe ts.nodes t.scq inv ts.s.now).trans
          (enqueueOp_nframe ts1.prioOf ns1 t.scq inv opn)) hsq
        (by intro q hq; simp only [List.append_nil, List.mem_singleton] at hq; subst hq; exact scq_of_node hS hroot)
    · exact hS.wq_aset hst fun q w' h2 => hS.wq t.id t q w' ht h2

/-! ### `operation.remove` -/

private theorem removeOpTree_wx (ts : TState) (t : Task) (o : Nat) : (ts.removeOpTree t o).wx = ts.wx := by
  unfold TState.removeOpTree; split <;> rfl
private theorem removeOpTree_ox (ts : TState) (t : Task) (o : Nat) : (ts.removeOpTree t o).ox = ts.ox := by
  unfold TState.removeOpTree; split <;> rfl

private theorem removeOpTree_nodes_done (ts : TState) (t : Task) (o : Nat) {r : Resp} (hr : t.response = some r) :
    (ts.removeOpTree t o).nodes = ts.nodes := by
  unfold TState.removeOpTree; rw [hr]

private theorem removeOpTree_nodes_exec (ts : TState) (t : Task) (o : Nat) {q0 : ScqId} {w : WId}
    (hr : t.response = none) (hw : t.worker = some (q0, w)) :
    (ts.removeOpTree t o).nodes = decExecR ts.legacyPrio ts.prioOf ts.nodes t.scq (ts.invOf o) (some w) ts.s.now := by
  unfold TState.removeOpTree; rw [hr, hw]

private theorem removeOpTree_nodes_queued (ts : TState) (t : Task) (o : Nat)
    (hr : t.response = none) (hw : t.worker = none) :
    (ts.removeOpTree t o).nodes =
      pruneChain (removeQueuedOp ts.prioOf ts.nodes t.scq (ts.invOf o) o) t.scq (ups (ts.invOf o)) := by
  unfold TState.removeOpTree; rw [hr, hw]

/-- `operation.remove` of an operation `o` of a task that keeps other operations: the operation leaves its
invocation (`removeOpTree`), `task.operations` (`dropOX`) and the task's list.  `hlive`: a task that is
neither completed nor assigned is queued (`Core.q2` without the exemption). -/
theorem removeOp_ts {ex exo} {ts : TState} {t : Task} {o : Nat} {s' : State}
    (hT : TInvX ex exo [] ts) (ht : alookup t.id ts.s.tasks = some t) (hmem : o ∈ t.ops) (hnd : t.ops.Nodup)
    (hown : ∀ k t', alookup k ts.s.tasks = some t' → o ∈ t'.ops → k = t.id) (hQnd : (bagQ ts).Nodup)
    (hlive : t.response = none → t.worker = none → t.queued = true)
    (hst : s'.tasks = aset t.id { t with ops := t.ops.filter (· ≠ o) } ts.s.tasks) (hsw : s'.workers = ts.s.workers)
    (hsq : s'.scqs = ts.s.scqs) (hnow : s'.now = ts.s.now)
    (hso : ∀ o' op', s'.op? o' = some op' → o' ≠ o ∧ ∃ op, ts.s.op? o' = some op ∧ op'.inv = op.inv ∧ op'.prio = op.prio) :
    TS [] (((ts.removeOpTree t o).dropOX o).setS s') := by
  have hS := hT.side
  have htnd := hT.inv.core.tnd
  let ox' := aerase o ts.ox
  let t1 : Task := { t with ops := t.ops.filter (· ≠ o) }
  let ts' : TState := ((ts.removeOpTree t o).dropOX o).setS s'
  show TS [] ts'
  have hox' : ts'.ox = ox' := by
    show aerase o (ts.removeOpTree t o).ox = _
    rw [removeOpTree_ox]
  have hwx' : ts'.wx = ts.wx := removeOpTree_wx ts t o
  have hnodes' : ts'.nodes = (ts.removeOpTree t o).nodes := rfl
  -- the operation table is only changed at `o`, which no task lists any more
  have hoxo : ∀ kt ∈ aset t.id t1 ts.s.tasks, ∀ o' ∈ kt.2.ops, alookup o' ox' = alookup o' ts.ox := by
    intro kt hkt o' ho'
    apply alookup_aerase_ne
    intro e; subst e
    rcases mem_aset_cases htnd hkt with e | ⟨hne, hl⟩
    · subst e
      have := (List.mem_filter.mp ho').2
      simp at this
    · exact hne (hown kt.1 kt.2 hl ho')
  have hbE : bagE ts' = (aset t.id t1 ts.s.tasks).flatMap (fun kt => conE ox' kt.2) := by
    rw [bagE_def, hox']
    show s'.tasks.flatMap _ = _
    rw [hst]
  have hbQ : bagQ ts' = (aset t.id t1 ts.s.tasks).flatMap (fun kt => conQ ox' kt.2) := by
    rw [bagQ_def, hox']
    show s'.tasks.flatMap _ = _
    rw [hst]
  have hbI : bagI ts' = bagI ts := by rw [bagI_def, hwx', ← bagI_def]
  have hbP : bagP ts' = bagP ts := by rw [bagP_def, hwx', ← bagP_def]
  have hpE : (bagE ts ++ conE ts.ox t1).Perm (bagE ts' ++ conE ts.ox t) := by
    rw [hbE, bagE_def]
    exact flatMap_setTask (conE ts.ox) (conE ox') ts.s.tasks t.id t t1 ht (fun kt hkt => conE_oxc (hoxo kt hkt))
  have hpQ : (bagQ ts ++ conQ ts.ox t1).Perm (bagQ ts' ++ conQ ts.ox t) := by
    rw [hbQ, bagQ_def]
    exact flatMap_setTask (conQ ts.ox) (conQ ox') ts.s.tasks t.id t t1 ht (fun kt hkt => conQ_oxc (hoxo kt hkt))
  have hops : t.ops.Perm (o :: t1.ops) := perm_filter_ne hnd hmem
  refine ⟨?_, ?_⟩
  · show TreeOK [] ts'.nodes (bagE ts') (bagI ts') (bagQ ts') (bagP ts')
    rw [hbI, hbP, hnodes']
    cases hr : t.response with
    | some r =>
      -- completed: the task contributes nothing
      have hwn : t.worker = none := by
        cases hw : t.worker with
        | none => rfl
        | some qw =>
          have := hT.inv.core.p3 t.id t ht (by rw [hw]; rfl)
          rw [hr] at this; cases this
      have hqf : t.queued = false := by
        cases hq : t.queued with
        | false => rfl
        | true => have := (hT.inv.core.q1 t.id t ht hq).2; rw [hr] at this; cases this
      rw [conE_unassigned _ t hwn, conE_unassigned _ t1 hwn, List.append_nil, List.append_nil] at hpE
      rw [conQ_unqueued _ t hqf, conQ_unqueued _ t1 hqf, List.append_nil, List.append_nil] at hpQ
      rw [removeOpTree_nodes_done ts t o hr]
      exact hT.tree.congr hpE (List.Perm.refl _) (fun c => hpQ.mem_iff) (fun c => Iff.rfl)
    | none =>
      cases hw : t.worker with
      | some qw =>
        -- executing
        obtain ⟨q0, w⟩ := qw
        have hqf : t.queued = false := by
          cases hq : t.queued with
          | false => rfl
          | true => have := (hT.inv.core.q1 t.id t ht hq).1; rw [hw] at this; cases this
        rw [conQ_unqueued _ t hqf, conQ_unqueued _ t1 hqf, List.append_nil, List.append_nil] at hpQ
        rw [conE_worker ts.ox t _ _ hw, conE_worker ts.ox t1 _ _ hw] at hpE
        have hE' : ((bagE ts).erase (t.scq, ts.invOf o, some w)).Perm (bagE ts') :=
          perm_remove hpE (hops.map _)
        rw [removeOpTree_nodes_exec ts t o hr hw]
        have h := decExecR_ok hT.tree ts.legacyPrio ts.prioOf t.scq (ts.invOf o) (some w) ts.s.now (mem_bagE_of_task ht hw hmem)
          (fun x hx => nomatch hx)
        exact h.congr hE' (List.Perm.refl _) (fun c => hpQ.mem_iff) (fun c => Iff.rfl)
      | none =>
        -- queued
        have hqt : t.queued = true := hlive hr hw
        rw [conE_unassigned _ t hw, conE_unassigned _ t1 hw, List.append_nil, List.append_nil] at hpE
        rw [conQ_queued' ts.ox t hqt, conQ_queued' ts.ox t1 hqt] at hpQ
        have hQ' : ((bagQ ts).erase (t.scq, ts.invOf o, o)).Perm (bagQ ts') :=
          perm_remove hpQ (hops.map _)
        rw [removeOpTree_nodes_queued ts t o hr hw]
        have hc := mem_bagQ_of_task ht hqt hmem
        have h1 := removeQueuedOp_ok hT.tree ts.prioOf t.scq (ts.invOf o) o hc
          (fun hm => ((List.Nodup.mem_erase_iff hQnd).mp hm).1 rfl)
        have hn1 : (node? (removeQueuedOp ts.prioOf ts.nodes t.scq (ts.invOf o) o) t.scq (ts.invOf o)).isSome = true := by
          rw [removeQueuedOp_isSome]; exact hT.tree.rfQ _ hc
        have h2 := pruneChain_ok h1 t.scq (ts.invOf o) hn1 (prefixes_onPath t.scq (ts.invOf o))
        exact h2.congr hpE (List.Perm.refl _) (fun c => hQ'.mem_iff) (fun c => Iff.rfl)
  · refine side_mk hS (ts' := ts') ?_ hwx' hsw ?_ ?_
    · exact side_nodes' hS (removeOpTree_nframe ts t o) hsq (fun q hq => nomatch hq)
    · rw [hox']; exact oxok_drop hS hso
    · exact hS.wq_aset hst fun q w' h2 => hS.wq t.id t q w' ht h2

/-! ### dropping a completed task / one of its operations -/

/-- the last operation of a task that is neither queued nor assigned (it was completed) is dropped together
with the task -/
theorem dropTask_ts {ex exo} {ts : TState} {t : Task} {o : Nat} {s' : State}
    (hT : TInvX ex exo X ts) (ht : alookup t.id ts.s.tasks = some t) (htw : t.worker = none) (hq : t.queued = false)
    (hown : ∀ k t', alookup k ts.s.tasks = some t' → o ∈ t'.ops → k = t.id)
    (hst : s'.tasks = aerase t.id ts.s.tasks) (hsw : s'.workers = ts.s.workers) (hsq : s'.scqs = ts.s.scqs)
    (hso : ∀ o' op', s'.op? o' = some op' → o' ≠ o ∧ ∃ op, ts.s.op? o' = some op ∧ op'.inv = op.inv ∧ op'.prio = op.prio) :
    TS X (((ts.dropOX o).dropTX t.id).setS s') := by
  have hS := hT.side
  have htnd := hT.inv.core.tnd
  let ox' := aerase o ts.ox
  let ts' : TState := ((ts.dropOX o).dropTX t.id).setS s'
  show TS X ts'
  have hoxo : ∀ kt ∈ aerase t.id ts.s.tasks, ∀ o' ∈ kt.2.ops, alookup o' ox' = alookup o' ts.ox := by
    intro kt hkt o' ho'
    apply alookup_aerase_ne
    intro e; subst e
    obtain ⟨hne, hl⟩ := mem_aerase_cases htnd hkt
    exact hne (hown kt.1 kt.2 hl ho')
  have hE' : (bagE ts).Perm (bagE ts') := by
    have := flatMap_aerase_some (fun kt : Nat × Task => conE ts.ox kt.2) t.id ts.s.tasks t ht
    simp only [] at this
    rw [conE_unassigned _ t htw, List.nil_append] at this
    rw [bagE_def, bagE_def]
    show List.Perm _ (s'.tasks.flatMap (fun kt => conE ox' kt.2))
    rw [hst, flatMap_congr' (fun kt hkt => conE_oxc (hoxo kt hkt))]
    exact this
  have hQ' : (bagQ ts).Perm (bagQ ts') := by
    have := flatMap_aerase_some (fun kt : Nat × Task => conQ ts.ox kt.2) t.id ts.s.tasks t ht
    simp only [] at this
    rw [conQ_unqueued _ t hq, List.nil_append] at this
    rw [bagQ_def, bagQ_def]
    show List.Perm _ (s'.tasks.flatMap (fun kt => conQ ox' kt.2))
    rw [hst, flatMap_congr' (fun kt hkt => conQ_oxc (hoxo kt hkt))]
    exact this
  refine ⟨?_, ?_⟩
  · show TreeOK X ts.nodes (bagE ts') (bagI ts) (bagQ ts') (bagP ts)
    exact hT.tree.congr hE' (List.Perm.refl _) (fun c => hQ'.mem_iff) (fun c => Iff.rfl)
  · refine side_mk hS (ts' := ts') ?_ rfl hsw (oxok_drop hS hso) ?_
    · exact side_nodes' hS (NFrame.refl ts.nodes) hsq (fun q hq => nomatch hq)
    · intro k t'' q w' h1 h2
      change alookup k s'.tasks = some t'' at h1
      rw [hst, alookup_aerase _ _ _ htnd] at h1
      by_cases hkk : t.id = k
      · simp [hkk] at h1
      · simp only [hkk, if_false] at h1
        exact hS.wq k t'' q w' h1 h2

/-- an operation of a task that is neither queued nor assigned is dropped, the task record is replaced by
one that is again neither queued nor assigned -/
theorem dropOpDone_ts {ex exo} {ts : TState} {t t' : Task} {o : Nat} {s' : State}
    (hT : TInvX ex exo X ts) (ht : alookup t.id ts.s.tasks = some t) (htw : t.worker = none) (hq : t.queued = false)
    (hk : t'.id = t.id ∧ t'.worker = none ∧ t'.queued = false)
    (hown : ∀ k t', alookup k ts.s.tasks = some t' → o ∈ t'.ops → k = t.id)
    (hst : s'.tasks = aset t.id t' ts.s.tasks) (hsw : s'.workers = ts.s.workers) (hsq : s'.scqs = ts.s.scqs)
    (hso : ∀ o' op', s'.op? o' = some op' → o' ≠ o ∧ ∃ op, ts.s.op? o' = some op ∧ op'.inv = op.inv ∧ op'.prio = op.prio) :
    TS X ((ts.dropOX o).setS s') := by
  have hS := hT.side
  have htnd := hT.inv.core.tnd
  let ox' := aerase o ts.ox
  let ts' : TState := (ts.dropOX o).setS s'
  show TS X ts'
  have hoxo : ∀ kt ∈ aset t.id t' ts.s.tasks, kt ≠ (t.id, t') → ∀ o' ∈ kt.2.ops, alookup o' ox' = alookup o' ts.ox := by
    intro kt hkt hne' o' ho'
    apply alookup_aerase_ne
    intro e; subst e
    rcases mem_aset_cases htnd hkt with e | ⟨hne, hl⟩
    · exact hne' e
    · exact hne (hown kt.1 kt.2 hl ho')
  have hE' : (bagE ts).Perm (bagE ts') := by
    have := flatMap_setTask (conE ts.ox) (conE ox') ts.s.tasks t.id t t' ht (by
      intro kt hkt
      by_cases e : kt = (t.id, t')
      · subst e; rw [conE_unassigned _ t' hk.2.1, conE_unassigned _ t' hk.2.1]
      · exact conE_oxc (hoxo kt hkt e))
    rw [conE_unassigned _ t htw, conE_unassigned _ t' hk.2.1, List.append_nil, List.append_nil] at this
    rw [bagE_def, bagE_def]
    show List.Perm _ (s'.tasks.flatMap (fun kt => conE ox' kt.2))
    rw [hst]; exact this
  have hQ' : (bagQ ts).Perm (bagQ ts') := by
    have := flatMap_setTask (conQ ts.ox) (conQ ox') ts.s.tasks t.id t t' ht (by
      intro kt hkt
      by_cases e : kt = (t.id, t')
      · subst e; rw [conQ_unqueued _ t' hk.2.2, conQ_unqueued _ t' hk.2.2]
      · exact conQ_oxc (hoxo kt hkt e))
    rw [conQ_unqueued _ t hq, conQ_unqueued _ t' hk.2.2, List.append_nil, List.append_nil] at this
    rw [bagQ_def, bagQ_def]
    show List.Perm _ (s'.tasks.flatMap (fun kt => conQ ox' kt.2))
    rw [hst]; exact this
  refine ⟨?_, ?_⟩
  · show TreeOK X ts.nodes (bagE ts') (bagI ts) (bagQ ts') (bagP ts)
    exact hT.tree.congr hE' (List.Perm.refl _) (fun c => hQ'.mem_iff) (fun c => Iff.rfl)
  · refine side_mk hS (ts' := ts') ?_ rfl hsw (oxok_drop hS hso) ?_
    · exact side_nodes' hS (NFrame.refl ts.nodes) hsq (fun q hq => nomatch hq)
    · exact hS.wq_aset hst fun q w h2 => by rw [hk.2.1] at h2; cases h2

end BbRe.Lemmas.SchedTree
