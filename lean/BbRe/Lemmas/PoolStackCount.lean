import BbRe.Lemmas.PoolStack
/-!
Counting form of sector conservation: free sectors of the bitmap + non-zero sector entries of all
files = sectorCount.
-/
namespace BbRe.Lemmas.PoolStack
open BbRe BbRe.PoolStack BbRe.FilePool BbRe.Lemmas.FilePool BbRe.AllocSpec

theorem freeCount_congr {a b : Abs} : ∀ (n : Nat), (∀ s, 1 ≤ s → s ≤ n → a s = b s) → freeCount a n = freeCount b n := by
  intro n
  induction n with
  | zero => intro _; rfl
  | succ k ih =>
    intro h
    unfold freeCount
    rw [ih (fun s h1 h2 => h s h1 (by omega)), h (k + 1) (by omega) (by omega)]

/-- a duplicate-free list of sectors within `1 … n` leaves `n - length` sectors free -/
theorem freeCount_contains : ∀ (n : Nat) (A : List Nat), A.Nodup → (∀ s ∈ A, 1 ≤ s ∧ s ≤ n) →
    freeCount (fun s => A.contains s) n + A.length = n := by
  intro n
  induction n with
  | zero =>
    intro A _ hr
    cases A with
    | nil => rfl
    | cons x xs => have := hr x List.mem_cons_self; omega
  | succ k ih =>
    intro A hnd hr
    unfold freeCount
    by_cases hm : k + 1 ∈ A
    · have hnd' : (A.erase (k + 1)).Nodup := hnd.erase _
      have hr' : ∀ s ∈ A.erase (k + 1), 1 ≤ s ∧ s ≤ k := by
        intro s hs
        have h1 := (List.Nodup.mem_erase_iff hnd).1 hs
        have h2 := hr s h1.2
        omega
      have hlen : (A.erase (k + 1)).length + 1 = A.length := by
        rw [List.length_erase_of_mem hm]
        have : 0 < A.length := List.length_pos_of_mem hm
        omega
      have hc : freeCount (fun s => A.contains s) k = freeCount (fun s => (A.erase (k + 1)).contains s) k := by
        apply freeCount_congr
        intro s _ h2
        rw [Bool.eq_iff_iff]
        simp only [List.contains_iff_mem]
        rw [List.Nodup.mem_erase_iff hnd]
        constructor
        · intro h; exact ⟨by omega, h⟩
        · intro h; exact h.2
      have := ih _ hnd' hr'
      rw [hc]
      simp only [List.contains_iff_mem, hm, ↓reduceIte]
      omega
    · have hr' : ∀ s ∈ A, 1 ≤ s ∧ s ≤ k := by
        intro s hs
        have := hr s hs
        have : s ≠ k + 1 := fun e => hm (e ▸ hs)
        omega
      have := ih A hnd hr'
      have hf : (A.contains (k + 1)) = false := by
        cases hx : A.contains (k + 1)
        · rfl
        · exact absurd (List.contains_iff_mem.1 hx) hm
      simp only [hf, Bool.false_eq_true, ↓reduceIte]
      omega

/-- all non-zero sector entries of all files -/
def owned (files : List File) : List Nat := (files.map fun f => nz f.sectors).flatten

theorem mem_owned {files : List File} {s : Nat} :
    s ∈ owned files ↔ ∃ (i : Nat) (f : File), files[i]? = some f ∧ s ∈ f.sectors ∧ s ≠ 0 := by
  unfold owned
  simp only [List.mem_flatten, List.mem_map]
  constructor
  · rintro ⟨l, ⟨f, hf, rfl⟩, hs⟩
    obtain ⟨i, hi, e⟩ := List.getElem_of_mem hf
    exact ⟨i, f, by rw [List.getElem?_eq_getElem hi, e], (mem_nz.1 hs).1, (mem_nz.1 hs).2⟩
  · rintro ⟨i, f, hf, hs, h0⟩
    exact ⟨nz f.sectors, ⟨f, List.mem_of_getElem? hf, rfl⟩, mem_nz.2 ⟨hs, h0⟩⟩

theorem owned_nodup {st : FilePool.State} (h : Inv st) : (owned st.files).Nodup := by
  unfold owned List.Nodup
  rw [List.pairwise_flatten]
  constructor
  · intro l hl
    obtain ⟨f, hf, rfl⟩ := List.mem_map.1 hl
    obtain ⟨i, hi, e⟩ := List.getElem_of_mem hf
    exact h.nodup i f (by rw [List.getElem?_eq_getElem hi, e])
  · rw [List.pairwise_map, List.pairwise_iff_getElem]
    intro i j hi hj hij x hx y hy hxy
    subst hxy
    have h1 := mem_nz.1 hx
    have h2 := mem_nz.1 hy
    exact h.disjoint i j _ _ (by omega) (List.getElem?_eq_getElem hi) (List.getElem?_eq_getElem hj) x h1.2 h1.1 h2.1

theorem allocd_length {st : FilePool.State} (h : Inv st) :
    st.allocd.length = (st.files.map fun f => (f.sectors.filter (· ≠ 0)).length).sum := by
  have hp : st.allocd.Perm (owned st.files) := by
    rw [List.perm_ext_iff_of_nodup h.allocNodup (owned_nodup h)]
    intro s
    rw [mem_owned]
    constructor
    · intro hs
      obtain ⟨i, f, hf, hsf⟩ := h.noLeak s hs
      exact ⟨i, f, hf, hsf, by have := h.allocRange s hs; omega⟩
    · rintro ⟨i, f, hf, hsf, hs0⟩
      exact h.owned i f hf s hsf hs0
  rw [hp.length_eq]
  unfold owned
  rw [List.length_flatten, List.map_map]
  rfl

end BbRe.Lemmas.PoolStack
