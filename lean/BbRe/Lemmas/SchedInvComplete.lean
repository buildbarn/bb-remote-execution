import BbRe.Lemmas.SchedInvSched
import BbRe.Lemmas.SchedInvLog
/-!
`task.complete`: decomposition into named pieces and their specifications.
-/
namespace BbRe.Lemmas.SchedInv
open BbRe.Sched

/-- first assignment in `complete`: a QUEUED task is dequeued -/
def preT (t : Task) : Task := if t.worker.isNone then bumpGen { t with queued := false, retry := 0 } else t

/-- the `match t.worker` of `complete`: the worker that runs `t` no longer points to a task -/
def detachW (s : State) (t : Task) : State :=
  match t.worker with
  | some (q, w) => match s.worker? q w with
    | some wk => s.setWorker { wk with task := none }
    | none => s
  | none => s

/-- the background-learning part of the success branch -/
def bgPart (h : Hints) (s : State) (t : Task) (bgIdx : Nat) : M State := do
      let bl := s.nextLearner
      let s := { s with nextLearner := bl + 1 }
      let some pq := s.pq? t.scq.pq | throw "complete: no platform queue"
      if pq.bgMax = 0 then return emit s (.learnerAbandoned bl)
      let sizes := s.sizes t.scq.pq
      let some bsc := sizes[min bgIdx (sizes.length - 1)]? | throw "platform queue without size classes"
      let bq : ScqId := ⟨t.scq.pq, bsc⟩
      if countQueuedBackground s bq ≥ pq.bgMax then return emit s (.learnerAbandoned bl)
      let opn := s.nextOp
      let bt : Task := { id := s.nextTask, digest := t.digest, dkey := t.dkey, doNotCache := true, scq := bq, ops := [opn], worker := none, retry := 0, response := none, gen := 0, learner := some bl, background := true, queued := false }
      let bo : Op := { name := opn, task := bt.id, inv := [0], prio := pq.bgPrio, waiters := 0, mayExistWithoutWaiters := true }
      let s := { s with nextTask := s.nextTask + 1, nextOp := opn + 1 }
      let s := (s.setTask bt).setOp bo
      schedule h s bt.id

/-- the success branch of `complete` -/
def completeOk (h : Hints) (s : State) (t : Task) (r : Resp) (learner : Nat) : M State := do
    let s := emit s (.learnerSucceeded learner (if h.bg.isSome then some s.nextLearner else none))
    let t := { t with learner := none }
    let s := if alookup t.dkey s.dedup = some t.id then { s with dedup := aerase t.dkey s.dedup } else s
    let t := bumpGen { t with response := some r }
    let s := s.setTask t
    let s := complete.finishOps s t.ops
    match h.bg with
    | none => return s
    | some bgIdx => bgPart h s t bgIdx

/-- the retry branch of `complete` -/
def completeRetry (h : Hints) (s : State) (t : Task) (r : Resp) (learner : Nat) : M State := do
      let timedOut := r.code = cDeadlineExceeded
      let nl := s.nextLearner
      let s := emit { s with nextLearner := nl + 1 } (.learnerFailed learner timedOut (some nl))
      let t := { t with learner := some nl, scq := largestScq s t.scq }
      let s := s.setTask t
      let s ← schedule h s t.id
      let some t := s.task? t.id | throw "complete: task vanished"
      return s.setTask (bumpGen t)

theorem complete_eq (h : Hints) (s : State) (tid : Nat) (r : Resp) (bw : Bool) :
    complete h s tid r bw =
      match s.task? tid with
      | none => throw "complete: no task"
      | some t =>
        if t.response.isSome then pure s else
        let s1 := detachW s (preT t)
        let t2 : Task := { preT t with worker := none }
        match t2.learner with
        | none => throw "complete: task without learner"
        | some learner =>
          if r.code = cOK ∧ r.exit = 0 then completeOk h s1 t2 r learner
          else if bw then
            if h.retry then completeRetry h s1 t2 r learner
            else complete.finalize (emit s1 (.learnerFailed learner (r.code = cDeadlineExceeded) none))
                  { t2 with learner := none } r
          else complete.finalize (emit s1 (.learnerAbandoned learner)) { t2 with learner := none } r := by
  unfold complete
  cases ht : s.task? tid with
  | none => rfl
  | some t =>
    cases hl : ({ preT t with worker := none } : Task).learner with
    | none =>
      have hl' : (preT t).learner = none := hl
      have hl2 := hl'
      simp only [preT] at hl'
      simp only [hl', hl2]
    | some l =>
      have hl' : (preT t).learner = some l := hl
      have hl2 := hl'
      simp only [preT] at hl'
      simp only [hl', hl2]
      rfl


/-- `detachW s (preT t)` with the detached task written back.  `complete` keeps that task in a local
and writes it only later; the `*_setTask` lemmas of `SchedInvComplete2` and `finSt0_setTask` show that
its branches give the same result from this state, which satisfies the invariant (`detSt_inv`). -/
def detSt (s : State) (t : Task) : State := (detachW s (preT t)).setTask { preT t with worker := none }

/-- `detSt` writes the worker list and the entry of `t` -/
theorem detSt_eq (s : State) (t : Task) :
    ∃ ws ts, detSt s t = { s with workers := ws, tasks := ts } ∧
      ts = aset ({ preT t with worker := none } : Task).id { preT t with worker := none } s.tasks := by
  unfold detSt detachW; split <;> (try split) <;> exact ⟨_, _, rfl, rfl⟩

structure DetPost (s : State) (tid : Nat) (t : Task) (s' : State) : Prop where
  same : ∃ ws ts, s' = { s with workers := ws, tasks := ts }
  tk : ∀ k, k ≠ tid → alookup k s'.tasks = alookup k s.tasks
  tt : alookup tid s'.tasks = some { preT t with worker := none }
  rw : RW s s'
  wex : ∀ q w, (wfind s'.workers q w).isSome = (wfind s.workers q w).isSome
  par : ∀ q w wk', wfind s'.workers q w = some wk' → ∃ wk, wfind s.workers q w = some wk ∧ wk.parked = wk'.parked

theorem detSt_post {ex exo} {s : State} {tid : Nat} {t : Task} (hI : InvX ex exo s)
    (ht : alookup tid s.tasks = some t) : DetPost s tid t (detSt s t) := by
  have hid : t.id = tid := (hI.core.tid tid t ht).1
  have hpid : (preT t).id = tid := by unfold preT; split <;> simp [bumpGen, hid]
  have hpw : (preT t).worker = t.worker := by unfold preT; split <;> simp [bumpGen]
  unfold detSt detachW
  rw [hpw]
  cases htw : t.worker with
  | none =>
    dsimp only
    refine ⟨⟨_, _, rfl⟩, ?_, ?_, RW.refl s, fun _ _ => rfl, fun q w wk' h => ⟨wk', h, rfl⟩⟩
    · intro k hk; simp only [State.setTask]; grind
    · simp only [State.setTask]; grind
  | some qw =>
    obtain ⟨q, w⟩ := qw
    obtain ⟨wk, hwk, hwt⟩ := hI.core.p2 tid t q w ht htw
    simp only [worker?_def, hwk, setWorker_eq]
    refine ⟨⟨_, _, rfl⟩, ?_, ?_, ?_, ?_, ?_⟩
    · intro k hk; simp only [State.setTask]; grind
    · simp only [State.setTask]; grind
    · intro q' w' wk' hwk' hp'
      simp only [State.setTask]
      by_cases hk : wk.scq = q' ∧ wk.id = w'
      · have := wfind_key hwk
        have e : wk' = wk := by grind
        subst e
        exact ⟨{ wk' with task := none }, by grind, rfl, Or.inr rfl⟩
      · exact ⟨wk', by grind, rfl, Or.inl rfl⟩
    · intro q' w'; simp only [State.setTask]; grind
    · intro q' w' wk'; simp only [State.setTask]
      have := wfind_key hwk
      by_cases hk : wk.scq = q' ∧ wk.id = w'
      · intro h; exact ⟨wk, by grind, by grind⟩
      · intro h; exact ⟨wk', by grind, rfl⟩

theorem DetPost.fr {s s' : State} {tid : Nat} {t : Task} (h : DetPost s tid t s')
    (ht : alookup tid s.tasks = some t) (hr : t.response = none) : Fr s s' := by
  obtain ⟨ws, ts, he⟩ := h.same
  have htk := h.tk
  subst he
  refine Fr.of_fields rfl (Nat.le_refl _) (Nat.le_refl _) (Nat.le_refl _) rfl (Ext.refl _ _) ?_
  intro k hk t'
  by_cases hkt : k = tid
  · subst hkt; have := hk.2 t ht; simp [hr] at this
  · have := htk k hkt
    simp only at this ⊢
    rw [this]; exact hk.2 t'

theorem detSt_inv {exo} {s : State} {tid : Nat} {t : Task} (hI : InvX (fun _ => False) exo s)
    (ht : alookup tid s.tasks = some t) (hr : t.response = none) :
    InvX (fun k => k = tid) exo (detSt s t) := by
  have hid : t.id = tid := (hI.core.tid tid t ht).1
  have ht' : alookup t.id s.tasks = some t := by rw [hid]; exact ht
  have hpid : (preT t).id = t.id := by unfold preT; split <;> simp [bumpGen]
  have hpw : (preT t).worker = t.worker := by unfold preT; split <;> simp [bumpGen]
  have hc := hI.core
  refine ⟨?_, ?_, ?_, ?_⟩
  · unfold detSt detachW
    rw [hpw]
    cases htw : t.worker with
    | none =>
      simp only [State.setTask, preT, htw, Option.isNone_none, if_true, bumpGen]
      exact hc.setTask_flags ht' rfl htw.symm (fun _ _ h => h.elim) (fun h => nomatch h) (fun _ => Or.inr (Or.inr hid))
    | some qw =>
      obtain ⟨q, w⟩ := qw
      obtain ⟨wk, hwk, hwt⟩ := hI.core.p2 tid t q w ht htw
      simp only [worker?_def, hwk, setWorker_eq, State.setTask, preT, htw, Option.isNone_some, Bool.false_eq_true, if_false]
      obtain ⟨rfl, rfl⟩ := wfind_key hwk
      refine hc.relink ht' rfl hwk (Or.inr htw) (Or.inr ⟨rfl, rfl⟩) (fun _ _ h => h.elim) (fun h => ?_)
        (fun _ => Or.inr (Or.inr hid)) (fun _ => rfl)
      have := (hc.q1 _ _ ht' h).1
      rw [htw] at this; cases this
  all_goals obtain ⟨ws, ts, e, rfl⟩ := detSt_eq s t
  · rw [e]
    exact hI.oinv.setTask (t := { preT t with worker := none }) (t0 := t) (by simpa [hpid] using ht')
      (by unfold preT; split <;> simp [bumpGen])
  · rw [e]; exact hI.sinv
  · rw [e]
    exact hI.linv.setTask (t := { preT t with worker := none }) (t0 := t) (by simpa [hpid] using ht')
      (Or.inl (by unfold preT; split <;> simp [bumpGen]))

/-- the state `finalize` produces before `finishOps` -/
def finSt0 (s : State) (t : Task) (r : Resp) : State :=
  { s with dedup := if alookup t.dkey s.dedup = some t.id then aerase t.dkey s.dedup else s.dedup,
           tasks := aset t.id (bumpGen { t with response := some r }) s.tasks }

theorem finalize_eq (s : State) (t : Task) (r : Resp) :
    complete.finalize s t r = .ok (complete.finishOps (finSt0 s t r) t.ops) := by
  unfold complete.finalize finSt0
  by_cases hc : alookup t.dkey s.dedup = some t.id
  · simp only [hc, if_true]; rfl
  · simp only [hc, if_false]; rfl

theorem finSt0_setTask (s : State) (t0 t : Task) (r : Resp) (hid : t0.id = t.id) :
    finSt0 (s.setTask t0) t r = finSt0 s t r := by
  unfold finSt0
  simp only [State.setTask, hid, aset_aset]

/-- `Core` after the final completion of the exempt task `tid` -/
theorem finSt0_core {s : State} {tid : Nat} {t0 : Task}
    (hc : Core (fun k => k = tid) s.tasks s.workers s.dedup s.nextTask s.nextLearner)
    (h0 : alookup tid s.tasks = some t0) (hw : t0.worker = none) (hq : t0.queued = false) (r : Resp) :
    Core (fun _ => False) (finSt0 s { t0 with learner := none } r).tasks s.workers
      (finSt0 s { t0 with learner := none } r).dedup s.nextTask s.nextLearner := by
  have hid : t0.id = tid := (hc.tid tid t0 h0).1
  unfold finSt0
  simp only [bumpGen]
  rw [hid]
  -- the new deduplication map is part of the old one, and loses at most the entry of `tid`
  have dsub : ∀ {dk j}, alookup dk (if alookup t0.dkey s.dedup = some tid then aerase t0.dkey s.dedup else s.dedup)
      = some j → alookup dk s.dedup = some j ∧ j ≠ tid := by
    intro dk j h
    by_cases c : alookup t0.dkey s.dedup = some tid
    · rw [if_pos c] at h
      obtain ⟨ne, h⟩ := alookup_aerase_some hc.dnd h
      refine ⟨h, fun e => ?_⟩
      subst e
      obtain ⟨t', a, b, _⟩ := hc.d1 dk _ h
      rw [h0] at a; cases a
      exact ne b.symm
    · rw [if_neg c] at h
      refine ⟨h, fun e => ?_⟩
      subst e
      obtain ⟨t', a, b, _⟩ := hc.d1 dk _ h
      rw [h0] at a; cases a
      rw [b] at c; exact c h
  exact { hc with
    tnd := nodup_aset _ _ _ hc.tnd
    dnd := by
      by_cases c : alookup t0.dkey s.dedup = some tid
      · rw [if_pos c]; exact nodup_aerase _ _ hc.dnd
      · rw [if_neg c]; exact hc.dnd
    tid := fun j t' h => by
      rcases alookup_aset_cases h with ⟨rfl, rfl⟩ | ⟨_, h⟩
      · exact ⟨rfl, (hc.tid _ _ h0).2⟩
      · exact hc.tid _ _ h
    p1 := fun q i wk j h1 h2 => by
      obtain ⟨t', a, b⟩ := hc.p1 q i wk j h1 h2
      refine ⟨t', (alookup_aset_ne _ _ fun e => ?_).trans a, b⟩
      subst e; rw [h0] at a; cases a; rw [hw] at b; cases b
    p2 := fun j t' q i h hwk => by
      rcases alookup_aset_cases h with ⟨rfl, rfl⟩ | ⟨_, h⟩
      · have : t0.worker = some (q, i) := hwk
        rw [hw] at this; cases this
      · exact hc.p2 _ _ q i h hwk
    p3 := fun j t' h hs => by
      rcases alookup_aset_cases h with ⟨rfl, rfl⟩ | ⟨_, h⟩
      · have : t0.worker.isSome = true := hs
        rw [hw] at this; cases this
      · exact hc.p3 _ _ h hs
    q1 := fun j t' h hq' => by
      rcases alookup_aset_cases h with ⟨rfl, rfl⟩ | ⟨_, h⟩
      · have : t0.queued = true := hq'
        rw [hq] at this; cases this
      · exact hc.q1 _ _ h hq'
    q2 := fun j t' h hr => by
      rcases alookup_aset_cases h with ⟨rfl, rfl⟩ | ⟨ne, h⟩
      · cases hr
      · exact (hc.q2 _ _ h hr).imp id (Or.imp id fun e => ne e)
    bg := fun j t' h hb => by
      rcases alookup_aset_cases h with ⟨rfl, rfl⟩ | ⟨_, h⟩
      · exact hc.bg _ t0 h0 hb
      · exact hc.bg _ _ h hb
    l1 := fun j t' h => by
      rcases alookup_aset_cases h with ⟨rfl, rfl⟩ | ⟨_, h⟩
      · exact ⟨fun e => (nomatch e), fun e => (nomatch e)⟩
      · exact hc.l1 _ _ h
    l2 := fun j t' l h e => by
      rcases alookup_aset_cases h with ⟨rfl, rfl⟩ | ⟨_, h⟩
      · cases e
      · exact hc.l2 _ _ l h e
    l3 := fun k1 k2 t1 t2 l h1 h2 e1 e2 => by
      rcases alookup_aset_cases h1 with ⟨rfl, rfl⟩ | ⟨_, a1⟩
      · cases e1
      · rcases alookup_aset_cases h2 with ⟨rfl, rfl⟩ | ⟨_, a2⟩
        · cases e2
        · exact hc.l3 _ _ _ _ l a1 a2 e1 e2
    d1 := fun dk j h => by
      obtain ⟨h, ne⟩ := dsub h
      obtain ⟨t', a, b⟩ := hc.d1 dk j h
      exact ⟨t', (alookup_aset_ne _ _ ne).trans a, b⟩
    d2 := fun j t' h hr hdc hbg => by
      rcases alookup_aset_cases h with ⟨rfl, rfl⟩ | ⟨ne, h⟩
      · cases hr
      · have := hc.d2 _ _ h hr hdc hbg
        by_cases c : alookup t0.dkey s.dedup = some tid
        · rw [if_pos c, alookup_aerase_ne _ _ _ ?_]; exact this
          intro e; rw [← e, c] at this; exact ne (Option.some.inj this).symm
        · rw [if_neg c]; exact this }

/-- what the final completion does to the state -/
structure FinPost (s : State) (tid : Nat) (t0 : Task) (e : Event) (r : Resp) (s' : State) : Prop where
  same : ∃ ts dd os cl, s' = { s with tasks := ts, dedup := dd, ops := os, cleanup := cl, events := e :: s.events }
  tk : ∀ k, k ≠ tid → alookup k s'.tasks = alookup k s.tasks
  tt : ∃ t', alookup tid s'.tasks = some t' ∧ t'.response = some r ∧ t'.ops = t0.ops ∧ t'.worker = none
  opk : keys s'.ops = keys s.ops

/-- `finalize` on the exempt task `tid` succeeds; the parts of the invariant that do not depend on
the event log hold afterwards (the log part depends on the event: `finalize_spec`) -/
theorem finSt_parts {exo} {s : State} {tid : Nat} {t0 : Task} (e : Event)
    (hI : InvX (fun k => k = tid) exo s)
    (h0 : alookup tid s.tasks = some t0) (hw : t0.worker = none) (hq : t0.queued = false) (r : Resp) :
    ∃ s', complete.finalize (emit s e) { t0 with learner := none } r = .ok s' ∧
      Core (fun _ => False) s'.tasks s'.workers s'.dedup s'.nextTask s'.nextLearner ∧
      OInv exo s'.tasks s'.ops s'.nextOp ∧ SInv s'.ops s'.streams s'.cleanup ∧
      FinPost s tid t0 e r s' ∧
      s'.tasks = aset t0.id (bumpGen { t0 with learner := none, response := some r }) s.tasks := by
  have hid : t0.id = tid := (hI.core.tid tid t0 h0).1
  have h0' : alookup t0.id s.tasks = some t0 := by rw [hid]; exact h0
  rw [finalize_eq]
  have hcore := finSt0_core hI.core h0 hw hq r
  have hoinv : OInv exo (finSt0 (emit s e) { t0 with learner := none } r).tasks s.ops s.nextOp :=
    hI.oinv.setTask (t := bumpGen { t0 with learner := none, response := some r }) (t0 := t0) h0' rfl
  obtain ⟨os, cl, he, hsim, hsinv⟩ := finishOps_frame (exo := exo) (ts := (finSt0 (emit s e) { t0 with learner := none } r).tasks)
    (no := s.nextOp) (finSt0 (emit s e) { t0 with learner := none } r) t0.ops hoinv
  refine ⟨_, congrArg Except.ok he, hcore, hoinv.sim hsim, hsinv hI.sinv, ⟨⟨_, _, _, _, rfl⟩, ?_, ?_, hsim.1⟩, rfl⟩
  · intro k hk; simp only [finSt0, emit]; grind
  · refine ⟨bumpGen { t0 with learner := none, response := some r }, ?_, rfl, rfl, hw⟩
    simp only [finSt0, emit]; grind

theorem finalize_spec {exo} {s : State} {tid : Nat} {t0 : Task} {l : Nat} {e : Event}
    (hI : InvX (fun k => k = tid) exo s)
    (h0 : alookup tid s.tasks = some t0) (hw : t0.worker = none) (hq : t0.queued = false)
    (hl : t0.learner = some l) (het : ∀ l', isTerm l' e = (l' == l)) (hei : ∀ l', isIssue l' e = false)
    (r : Resp) :
    ∃ s', complete.finalize (emit s e) { t0 with learner := none } r = .ok s' ∧
      InvX (fun _ => False) exo s' ∧ FinPost s tid t0 e r s' := by
  have hid : t0.id = tid := (hI.core.tid tid t0 h0).1
  obtain ⟨s', he, hcore, hoinv, hsinv, hpost, hts⟩ := finSt_parts e hI h0 hw hq r
  obtain ⟨ts, dd, os, cl, hs'⟩ := hpost.same
  refine ⟨s', he, ⟨hcore, hoinv, hsinv, ?_⟩, hpost⟩
  have e1 : s'.nextLearner = s.nextLearner := by rw [hs']
  have e2 : s'.events = e :: s.events := by rw [hs']
  rw [hts, e1, e2]
  -- `l` is terminated by `e` and no longer held; every other holder held before
  refine hI.linv.terminal ⟨tid, t0, h0, hl⟩ het hei ?_
  intro l' hl'
  rcases hl'.aset with h | ⟨k', t', hk, h1, h2⟩
  · simp [bumpGen] at h
  · refine ⟨⟨k', t', h1, h2⟩, ?_⟩
    intro e; subst e
    exact hk ((hI.core.l3 k' tid t' t0 l' h1 h0 h2 hl).trans hid.symm)

theorem completeOk_eq (h : Hints) (s : State) (t : Task) (r : Resp) (l : Nat) :
    completeOk h s t r l =
      (complete.finalize (emit s (.learnerSucceeded l (if h.bg.isSome then some s.nextLearner else none)))
        { t with learner := none } r >>= fun s' =>
        match h.bg with
        | none => pure s'
        | some bgIdx => bgPart h s' (bumpGen { t with learner := none, response := some r }) bgIdx) := by
  rw [finalize_eq]
  unfold completeOk finSt0
  simp only [ok_bind']
  by_cases hc : alookup t.dkey s.dedup = some t.id
  · simp only [emit, hc, if_true]; rfl
  · simp only [emit, hc, if_false]; rfl


def bgTask (Y : State) (t : Task) (bq : ScqId) : Task :=
  { id := Y.nextTask, digest := t.digest, dkey := t.dkey, doNotCache := true, scq := bq,
    ops := [Y.nextOp], worker := none, retry := 0, response := none, gen := 0,
    learner := some Y.nextLearner, background := true, queued := false }

def bgOp (Y : State) (prio : Int) : Op :=
  { name := Y.nextOp, task := Y.nextTask, inv := [0], prio := prio, waiters := 0,
    mayExistWithoutWaiters := true }

/-- the state in which the background task and its operation have been created -/
def bgSt (Y : State) (t : Task) (bq : ScqId) (prio : Int) : State :=
  { Y with nextLearner := Y.nextLearner + 1, nextTask := Y.nextTask + 1, nextOp := Y.nextOp + 1,
           tasks := aset Y.nextTask (bgTask Y t bq) Y.tasks,
           ops := aset Y.nextOp (bgOp Y prio) Y.ops }

/-- frame of the background part -/
structure BgPost (Y s' : State) : Prop where
  fr : Fr Y s'
  rw : RW Y s'
  wex : ∀ q w, (wfind s'.workers q w).isSome = (wfind Y.workers q w).isSome
  tk : ∀ k, k < Y.nextTask → alookup k s'.tasks = alookup k Y.tasks
  sts : s'.streams = Y.streams
  opk : ∀ k, k < Y.nextOp → (alookup k s'.ops).isSome = (alookup k Y.ops).isSome

theorem bgSt_inv {exo} {Y : State} {t : Task} {bq : ScqId} {prio : Int}
    (hc : Core (fun _ => False) Y.tasks Y.workers Y.dedup Y.nextTask Y.nextLearner)
    (ho : OInv exo Y.tasks Y.ops Y.nextOp) (hs : SInv Y.ops Y.streams Y.cleanup)
    (hlog : ∀ ts', (∀ l', Held ts' l' → Held Y.tasks l' ∨ l' = Y.nextLearner) →
      LogInv ts' (Y.nextLearner + 1) Y.events) :
    InvX (fun k => k = Y.nextTask) exo (bgSt Y t bq prio) := by
  refine ⟨?_, ?_, ?_, ?_⟩
  · exact hc.insertTask (t := bgTask Y t bq) rfl rfl rfl rfl rfl (fun _ => rfl) (Or.inl ⟨rfl, Or.inl rfl⟩)
  · simp only [bgSt]
    have := ho.ond; have := ho.oid; have := ho.o1; have := ho.o2; have := ho.o3; have := hc.tid
    constructor
    · grind
    · grind [bgOp]
    · intro k o; rw [alookup_aset]; split
      · rename_i hk; intro e; cases e
        exact ⟨bgTask Y t bq, by rw [alookup_aset]; simp [bgOp], by simp [bgTask, hk]⟩
      · intro hk
        obtain ⟨t', h1, h2⟩ := ho.o1 k o hk
        have hne : ¬ Y.nextTask = o.task := by have := hc.tid _ _ h1; omega
        exact ⟨t', by rw [alookup_aset, if_neg hne]; exact h1, h2⟩
    · intro k t' o; rw [alookup_aset]; split
      · rename_i hk; intro e; cases e; intro hm
        simp only [bgTask, List.mem_singleton] at hm; subst hm
        exact ⟨by omega, Or.inr ⟨bgOp Y prio, by rw [alookup_aset]; simp, hk⟩⟩
      · intro hk hm
        obtain ⟨a, b⟩ := ho.o2 k t' o hk hm
        refine ⟨by omega, ?_⟩
        rcases b with b | ⟨op, e1, e2⟩
        · exact Or.inl b
        · right; exact ⟨op, by rw [alookup_aset, if_neg (by omega)]; exact e1, e2⟩
    · intro k t'; rw [alookup_aset]; split
      · intro e; cases e; simp [bgTask]
      · exact ho.o3 k t'
  · simp only [bgSt]
    have := ho.oid
    constructor
    · intro k op; rw [alookup_aset]; split
      · intro e; cases e
        rename_i hk; subst hk
        simp only [bgOp, Nat.le_zero_eq, List.countP_eq_zero]
        intro st hst
        have h3 := hs.s3 st hst
        cases ha : alookup st.op Y.ops with
        | none => simp [ha] at h3
        | some op => have := (ho.oid _ _ ha).2; simp; omega
      · exact hs.s1 k op
    · intro k op e; rw [alookup_aset]; split
      · intro e'; cases e'; intros; rfl
      · exact hs.s2 k op e
    · intro st hst; have := hs.s3 st hst; rw [alookup_aset]; split <;> simp_all
  · simp only [bgSt]
    apply hlog
    intro l' hl'
    rcases hl'.aset with h | ⟨k', t', _, h1, h2⟩
    · right; simpa [bgTask] using h.symm
    · left; exact ⟨k', t', h1, h2⟩


theorem bgSt_fr (Y : State) (t : Task) (bq : ScqId) (prio : Int) : Fr Y (bgSt Y t bq prio) := by
  refine ⟨⟨rfl, Nat.le_succ _, Nat.le_succ _, Nat.le_succ _, ?_, Ext.refl _ _⟩, Ext.refl _ _⟩
  intro k hk
  refine ⟨Nat.lt_succ_of_lt hk.1, ?_⟩
  intro t'
  simp only [bgSt]
  rw [alookup_aset, if_neg (by have := hk.1; omega)]
  exact hk.2 t'

theorem abandon_post (Y : State) :
    BgPost Y (emit { Y with nextLearner := Y.nextLearner + 1 } (.learnerAbandoned Y.nextLearner)) := by
  refine ⟨⟨⟨rfl, Nat.le_refl _, Nat.le_succ _, Nat.le_refl _, fun k hk => hk, Ext.refl _ _⟩, ?_⟩,
    RW.refl Y, fun _ _ => rfl, fun _ _ => rfl, rfl, fun _ _ => rfl⟩
  exact Ext.cons (Ext.refl _ _) _ trivial

theorem bgPart_spec {exo} {h : Hints} {Y : State} {t : Task} {bgIdx : Nat}
    (hc : Core (fun _ => False) Y.tasks Y.workers Y.dedup Y.nextTask Y.nextLearner)
    (ho : OInv exo Y.tasks Y.ops Y.nextOp) (hs : SInv Y.ops Y.streams Y.cleanup)
    (hlog : ∀ ts', (∀ l', Held ts' l' → Held Y.tasks l' ∨ l' = Y.nextLearner) →
      LogInv ts' (Y.nextLearner + 1) Y.events)
    (hab : LogInv Y.tasks (Y.nextLearner + 1) (.learnerAbandoned Y.nextLearner :: Y.events)) :
    wp (bgPart h Y t bgIdx) (fun s' => InvX (fun _ => False) (exo) s' ∧ BgPost Y s') := by
  have hA : InvX (fun _ => False) exo
      (emit { Y with nextLearner := Y.nextLearner + 1 } (.learnerAbandoned Y.nextLearner)) :=
    ⟨hc.nl_mono (Nat.le_succ _), ho, hs, hab⟩
  unfold bgPart
  dsimp only
  split
  · rename_i pq hpq
    split
    · exact ⟨hA, abandon_post Y⟩
    · split
      · rename_i bsc hbsc
        split
        · exact ⟨hA, abandon_post Y⟩
        · have hZ := bgSt_inv (t := t) (bq := ⟨t.scq.pq, bsc⟩) (prio := pq.bgPrio) hc ho hs hlog
          have ht : alookup Y.nextTask (bgSt Y t ⟨t.scq.pq, bsc⟩ pq.bgPrio).tasks = some (bgTask Y t ⟨t.scq.pq, bsc⟩) := by
            simp only [bgSt]; rw [alookup_aset]; simp
          have hsp := schedule_spec (h := h) hZ ht rfl rfl
          refine wp_mono hsp ?_
          intro s' ⟨hI', hp⟩
          refine ⟨hI'.mono (fun k hk => hk.2 hk.1) (fun _ h => h), ?_⟩
          obtain ⟨ws, ts, asg, he⟩ := hp.same
          refine ⟨(bgSt_fr Y t _ _).trans (hp.fr ht rfl), ?_, hp.wex, ?_, by rw [he]; rfl, ?_⟩
          · -- `RW` reads only `.workers`, and `bgSt Y …` has the workers of `Y`
            exact RW.trans (RW.refl Y) hp.rw
          · intro k hk
            rw [hp.tk k (by omega)]
            simp only [bgSt]
            rw [alookup_aset, if_neg (by omega)]
          · intro k hk
            rw [he]
            simp only [bgSt]
            rw [alookup_aset, if_neg (by omega)]
      · okerr
  · okerr

/-- frame of the branches of `complete`, relative to the detached state -/
structure ContPost (s : State) (tid : Nat) (t0 : Task) (s' : State) : Prop where
  fr : Fr s s'
  rw : RW s s'
  wex : ∀ q w, (wfind s'.workers q w).isSome = (wfind s.workers q w).isSome
  tk : ∀ k, k ≠ tid → k < s.nextTask → alookup k s'.tasks = alookup k s.tasks
  tt : ∃ t', alookup tid s'.tasks = some t' ∧ t'.ops = t0.ops ∧
        ∀ q w, t'.worker = some (q, w) → ∃ wk, wfind s.workers q w = some wk ∧ wk.parked = true
  sts : s'.streams = s.streams
  opk : ∀ k, k < s.nextOp → (alookup k s'.ops).isSome = (alookup k s.ops).isSome

/-- task `tid` is completed in `s` -/
def TDone (s : State) (tid : Nat) : Prop := ∀ t', alookup tid s.tasks = some t' → t'.response.isSome = true

theorem FinPost.cont {s Y : State} {tid : Nat} {t0 : Task} {e : Event} {r : Resp}
    (h : FinPost s tid t0 e r Y) (h0 : alookup tid s.tasks = some t0) (hr : t0.response = none)
    (hq : Quiet e) : ContPost s tid t0 Y ∧ TDone Y tid := by
  obtain ⟨ts, dd, os, cl, he⟩ := h.same
  obtain ⟨t', h1, h2, h3, h4⟩ := h.tt
  have htk := h.tk
  have hopk := h.opk
  subst he
  refine ⟨⟨⟨⟨rfl, Nat.le_refl _, Nat.le_refl _, Nat.le_refl _, ?_, Ext.refl _ _⟩, ?_⟩, RW.refl s,
    fun _ _ => rfl, fun k hk _ => htk k hk, ⟨t', h1, h3, ?_⟩, rfl, ?_⟩, ?_⟩
  · intro k hk
    by_cases hkt : k = tid
    · subst hkt; have := hk.2 t0 h0; simp [hr] at this
    · refine ⟨hk.1, ?_⟩
      have := htk k hkt
      simp only at this ⊢
      rw [this]; exact hk.2
  · exact Ext.cons (Ext.refl _ _) _ hq
  · intro q w hqw; rw [h4] at hqw; cases hqw
  · intro k _
    have a := alookup_isSome_iff k os
    have b := alookup_isSome_iff k s.ops
    simp only at hopk ⊢
    rw [hopk] at a
    exact Bool.eq_iff_iff.mpr (a.trans b.symm)
  · intro t'' h1'; rw [h1] at h1'; cases h1'; simp [h2]

theorem ContPost.trans_bg {s Y s' : State} {tid : Nat} {t0 : Task} (h1 : ContPost s tid t0 Y)
    (h2 : BgPost Y s') (hnt : Y.nextTask = s.nextTask) (hno : Y.nextOp = s.nextOp) (hlt : tid < s.nextTask) :
    ContPost s tid t0 s' := by
  obtain ⟨t', a, b, c⟩ := h1.tt
  refine ⟨h1.fr.trans h2.fr, h1.rw.trans h2.rw, fun q w => (h2.wex q w).trans (h1.wex q w), ?_, ?_,
    h2.sts.trans h1.sts, fun k hk => (h2.opk k (by omega)).trans (h1.opk k hk)⟩
  · intro k hk hlt'
    rw [h2.tk k (by omega), h1.tk k hk hlt']
  · exact ⟨t', by rw [h2.tk tid (by omega)]; exact a, b, c⟩

theorem TDone.trans_bg {Y s' : State} {tid : Nat} (h1 : TDone Y tid) (h2 : BgPost Y s')
    (hlt : tid < Y.nextTask) : TDone s' tid := by
  intro t' ht'; rw [h2.tk tid hlt] at ht'; exact h1 t' ht'

/-- holders after the final completion of `tid` (which held `l`) -/
theorem held_fin {ex} {s : State} {tid : Nat} {t0 t1 : Task} {l : Nat}
    (hc : Core ex s.tasks s.workers s.dedup s.nextTask s.nextLearner)
    (h0 : alookup tid s.tasks = some t0) (hl : t0.learner = some l) (h1 : t1.learner = none) :
    ∀ l', Held (aset tid t1 s.tasks) l' → Held s.tasks l' ∧ l' ≠ l := by
  intro l' hl'
  rcases hl'.aset with h | ⟨k', t', hk, h2, h3⟩
  · rw [h1] at h; cases h
  · refine ⟨⟨k', t', h2, h3⟩, ?_⟩
    intro e; subst e
    exact hk (hc.l3 k' tid t' t0 l' h2 h0 h3 hl)

theorem completeOk_spec {exo} {h : Hints} {s : State} {tid : Nat} {t0 : Task} {l : Nat} {r : Resp}
    (hI : InvX (fun k => k = tid) exo s)
    (h0 : alookup tid s.tasks = some t0) (hr : t0.response = none) (hw : t0.worker = none)
    (hq : t0.queued = false) (hl : t0.learner = some l) :
    wp (completeOk h s t0 r l) (fun s' => InvX (fun _ => False) exo s' ∧ ContPost s tid t0 s' ∧ TDone s' tid) := by
  have hid : t0.id = tid := (hI.core.tid tid t0 h0).1
  have hlt : tid < s.nextTask := (hI.core.tid tid t0 h0).2
  have hll : l < s.nextLearner := hI.core.l2 tid t0 l h0 hl
  rw [completeOk_eq]
  cases hbg : h.bg with
  | none =>
    simp only [Option.isSome_none, Bool.false_eq_true, if_false]
    obtain ⟨Y, hY, hIY, hfp⟩ := finalize_spec (e := .learnerSucceeded l none) hI h0 hw hq hl
      (by intro l'; simp) (by intro l'; simp) r
    rw [hY]
    simp only [ok_bind', wp_pure]
    have := hfp.cont h0 hr trivial
    exact ⟨hIY, this.1, this.2⟩
  | some bgIdx =>
    simp only [Option.isSome_some, if_true]
    obtain ⟨Y, hY, hcY, hoY, hsY, hfp, htasks⟩ :=
      finSt_parts (.learnerSucceeded l (some s.nextLearner)) hI h0 hw hq r
    rw [hY]
    simp only [ok_bind']
    have hcont := hfp.cont h0 hr trivial
    obtain ⟨ts, dd, os, cl, he⟩ := hfp.same
    have hev : Y.events = .learnerSucceeded l (some s.nextLearner) :: s.events := by rw [he]
    have hnl : Y.nextLearner = s.nextLearner := by rw [he]
    have hnt : Y.nextTask = s.nextTask := by rw [he]
    have hno : Y.nextOp = s.nextOp := by rw [he]
    have htasks' : Y.tasks = aset tid (bumpGen { t0 with learner := none, response := some r }) s.tasks := by
      rw [htasks]; exact congrArg (fun k => aset k _ s.tasks) hid
    have hheld := held_fin (t1 := bumpGen { t0 with learner := none, response := some r }) hI.core h0 hl rfl
    rw [← htasks'] at hheld
    have hlog : ∀ ts', (∀ l', Held ts' l' → Held Y.tasks l' ∨ l' = Y.nextLearner) →
        LogInv ts' (Y.nextLearner + 1) Y.events := by
      intro ts' hts'
      rw [hev, hnl]
      refine hI.linv.term_issue ⟨tid, t0, h0, hl⟩ hll (by intro l'; simp)
        (by intro l'; simp) ?_
      intro l' hl'
      rcases hts' l' hl' with a | a
      · exact Or.inl (hheld l' a)
      · exact Or.inr (a.trans hnl)
    have hab : LogInv Y.tasks (Y.nextLearner + 1) (.learnerAbandoned Y.nextLearner :: Y.events) := by
      refine (hlog Y.tasks (fun l' h => Or.inl h)).abandon_unheld ?_ ?_ ?_
      · rw [hev, hnl, issueCount_cons, hI.linv.g4 _ (Nat.le_refl _)]; simp
      · have h1 := hI.linv.g1 s.nextLearner
        rw [hI.linv.g4 _ (Nat.le_refl _)] at h1
        have : ¬ s.nextLearner = l := by omega
        rw [hev, hnl, termCount_cons]; simp [this]; omega
      · intro hh
        obtain ⟨⟨k', t', a, b⟩, _⟩ := hheld _ hh
        have := hI.core.l2 k' t' _ a b
        omega
    refine wp_mono (bgPart_spec (h := h) (t := bumpGen { t0 with learner := none, response := some r })
      (bgIdx := bgIdx) hcY hoY hsY hlog hab) ?_
    intro s' ⟨hI', hbp⟩
    exact ⟨hI', hcont.1.trans_bg hbp hnt hno hlt, hcont.2.trans_bg hbp (by omega)⟩

theorem finBranch_spec {exo} {s : State} {tid : Nat} {t0 : Task} {l : Nat} {e : Event}
    (hI : InvX (fun k => k = tid) exo s)
    (h0 : alookup tid s.tasks = some t0) (hr : t0.response = none) (hw : t0.worker = none)
    (hq : t0.queued = false) (hl : t0.learner = some l)
    (he : e = .learnerAbandoned l ∨ ∃ b, e = .learnerFailed l b none) (r : Resp) :
    ∃ s', complete.finalize (emit s e) { t0 with learner := none } r = .ok s' ∧
      InvX (fun _ => False) exo s' ∧ ContPost s tid t0 s' ∧ TDone s' tid ∧
      s'.nextTask = s.nextTask ∧ s'.nextOp = s.nextOp := by
  have het : ∀ l', isTerm l' e = (l' == l) := by
    rcases he with he | ⟨b, he⟩ <;> subst he <;> intro l' <;> simp
  have hei : ∀ l', isIssue l' e = false := by
    rcases he with he | ⟨b, he⟩ <;> subst he <;> intro l' <;> simp
  have hqe : Quiet e := by
    rcases he with he | ⟨b, he⟩ <;> subst he <;> trivial
  obtain ⟨Y, hY, hIY, hfp⟩ := finalize_spec hI h0 hw hq hl het hei r
  have := hfp.cont h0 hr hqe
  obtain ⟨ts, dd, os, cl, hs⟩ := hfp.same
  exact ⟨Y, hY, hIY, this.1, this.2, by rw [hs], by rw [hs]⟩

/-- the task the retry branch writes back: new learner token, largest size class -/
def retryTask (s : State) (t0 : Task) (l : Nat) (r : Resp) : Task :=
    { t0 with learner := some s.nextLearner,
              scq := largestScq (emit { s with nextLearner := s.nextLearner + 1 }
                (.learnerFailed l (r.code = cDeadlineExceeded) (some s.nextLearner))) t0.scq }

/-- the state handed to `schedule` by the retry branch: `retryTask` written back (spelled out: other
modules unfold `retrySt` down to the record) -/
def retrySt (s : State) (t0 : Task) (l : Nat) (r : Resp) : State :=
  (emit { s with nextLearner := s.nextLearner + 1 }
      (.learnerFailed l (r.code = cDeadlineExceeded) (some s.nextLearner))).setTask
    { t0 with learner := some s.nextLearner,
              scq := largestScq (emit { s with nextLearner := s.nextLearner + 1 }
                (.learnerFailed l (r.code = cDeadlineExceeded) (some s.nextLearner))) t0.scq }

theorem completeRetry_eq (h : Hints) (s : State) (t0 : Task) (r : Resp) (l : Nat) :
    completeRetry h s t0 r l = (schedule h (retrySt s t0 l r) t0.id >>= fun s3 => do
      let some t := s3.task? t0.id | throw "complete: task vanished"
      return s3.setTask (bumpGen t)) := by
  unfold completeRetry retrySt
  rfl

theorem retrySt_inv {exo} {s : State} {tid : Nat} {t0 : Task} {l : Nat} (r : Resp)
    (hI : InvX (fun k => k = tid) exo s)
    (h0 : alookup tid s.tasks = some t0) (hl : t0.learner = some l) :
    InvX (fun k => k = tid) exo (retrySt s t0 l r) := by
  have hid : t0.id = tid := (hI.core.tid tid t0 h0).1
  have h0' : alookup t0.id s.tasks = some t0 := by rw [hid]; exact h0
  have hll : l < s.nextLearner := hI.core.l2 tid t0 l h0 hl
  have hc := hI.core
  refine ⟨?_, ?_, hI.sinv, ?_⟩
  · simp only [retrySt, State.setTask, emit]
    refine hc.setTask h0' rfl rfl (fun _ _ h => h) (hc.q1 t0.id t0 h0') (hc.q2 t0.id t0 h0') (Nat.le_succ _)
      ?_ (fun l' e => ?_) (fun l' e j t' _ h e' => ?_)
    · have := hc.l1 _ _ h0'
      rw [hl] at this
      exact ⟨fun _ => this.mp rfl, fun _ => rfl⟩
    · cases e; exact Nat.lt_succ_self _
    · cases e
      exact absurd (hc.l2 j t' _ h e') (Nat.lt_irrefl _)
  · exact hI.oinv.setTask (t := retryTask s t0 l r) h0' rfl
  · simp only [retrySt, State.setTask, emit]
    refine hI.linv.term_issue ⟨tid, t0, h0, hl⟩ hll (by intro l'; simp) (by intro l'; simp) ?_
    intro l' hl'
    rcases hl'.aset with h | ⟨k', t', hk, h2, h3⟩
    · right; simpa using h.symm
    · left
      refine ⟨⟨k', t', h2, h3⟩, ?_⟩
      intro e; subst e
      exact hk ((hc.l3 k' tid t' t0 l' h2 h0 h3 hl).trans hid.symm)

theorem retrySt_fr {s : State} {tid : Nat} {t0 : Task} (l : Nat) (r : Resp)
    (h0 : alookup tid s.tasks = some t0) (hid : t0.id = tid) (hr : t0.response = none) :
    Fr s (retrySt s t0 l r) := by
  refine Fr.of_fields rfl (Nat.le_refl _) (Nat.le_succ _) (Nat.le_refl _) rfl
    (Ext.cons (Ext.refl _ _) _ trivial) ?_
  intro k hk t
  simp only [retrySt, State.setTask, emit]
  rw [alookup_aset]
  split
  · rename_i hkk
    rw [hid] at hkk; subst hkk
    have := hk.2 t0 h0; simp [hr] at this
  · exact hk.2 t

theorem completeRetry_spec {exo} {h : Hints} {s : State} {tid : Nat} {t0 : Task} {l : Nat} {r : Resp}
    (hI : InvX (fun k => k = tid) exo s)
    (h0 : alookup tid s.tasks = some t0) (hr : t0.response = none) (hw : t0.worker = none)
    (hl : t0.learner = some l) :
    wp (completeRetry h s t0 r l) (fun s' => InvX (fun _ => False) exo s' ∧ ContPost s tid t0 s' ∧
      s'.nextTask = s.nextTask ∧ s'.nextOp = s.nextOp ∧
      ∃ t', alookup tid s'.tasks = some t' ∧ t'.learner = some s.nextLearner ∧
        t'.scq = largestScq s t0.scq ∧ t'.response = none) := by
  have hid : t0.id = tid := (hI.core.tid tid t0 h0).1
  have hI2 := retrySt_inv r hI h0 hl
  have ht2 : alookup tid (retrySt s t0 l r).tasks = some (retryTask s t0 l r) := by
    simp only [retrySt, State.setTask, emit, retryTask]; rw [alookup_aset, hid]; simp
  rw [completeRetry_eq, hid]
  apply wp_bind
  refine wp_mono (schedule_spec (h := h) hI2 ht2 hr hw) ?_
  intro s3 ⟨hI3, hp⟩
  obtain ⟨t3, ht3, he3, _, hprov⟩ := hp.tt
  simp only [task?_def, ht3, wp_pure]
  have hid3 : t3.id = tid := by rw [he3]; exact hid
  have ht3' : alookup (bumpGen t3).id s3.tasks = some t3 := by simp only [bumpGen]; rw [hid3]; exact ht3
  have hI3' : InvX (fun _ => False) exo s3 := hI3.mono (fun k hk => hk.2 hk.1) (fun _ h => h)
  obtain ⟨ws, ts, asg, hs3⟩ := hp.same
  refine ⟨bumpGen_inv hI3' ht3, ?_, by rw [hs3]; rfl, by rw [hs3]; rfl,
    ⟨bumpGen t3, by simp only [State.setTask, bumpGen]; rw [alookup_aset, if_pos hid3],
      by rw [he3]; rfl, by rw [he3]; rfl, by rw [he3]; exact hr⟩⟩
  · have hfr : Fr s (s3.setTask (bumpGen t3)) :=
      ((retrySt_fr l r h0 hid hr).trans (hp.fr ht2 hr)).trans (Fr.setTask (t := bumpGen t3) ht3' rfl)
    refine ⟨hfr, ?_, ?_, ?_, ?_, by rw [hs3]; rfl, fun k _ => by rw [hs3]; rfl⟩
    · -- `RW` reads only `.workers`: `retrySt` has those of `s`, `setTask` those of `s3`
      exact RW.trans (RW.trans (RW.refl s) hp.rw) (RW.refl s3)
    · exact hp.wex
    · intro k hk _
      simp only [State.setTask, bumpGen]
      rw [alookup_aset, if_neg (by rw [hid3]; exact fun e => hk e.symm), hp.tk k hk]
      simp only [retrySt, State.setTask, emit]
      rw [alookup_aset, if_neg (by rw [hid]; exact fun e => hk e.symm)]
    · refine ⟨bumpGen t3, ?_, ?_, ?_⟩
      · simp only [State.setTask, bumpGen]; rw [alookup_aset, if_pos hid3]
      · rw [he3]; rfl
      · intro q w hqw; exact hprov q w hqw

end BbRe.Lemmas.SchedInv
