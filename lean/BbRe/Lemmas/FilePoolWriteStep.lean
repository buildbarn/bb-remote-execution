import BbRe.Lemmas.FilePoolWriteContent
/-!
`writeToSectors` as one step on `content`.
-/
namespace BbRe.Lemmas.FilePool
open BbRe.FilePool

theorem take_take_le (p : List Byte) (a m : Nat) (h : m ≤ a) : (p.take a).take m = p.take m := by
  rw [List.take_take, Nat.min_eq_left h]

/-- A write cut to `got` sectors either takes all `P` bytes or ends at a sector boundary. -/
theorem boundary_of_short (ss ow got P n : Nat) (how : ow < ss) (hg : 1 ≤ got)
    (hn : n = min (got * ss - ow) P) : n = P ∨ (0 < n ∧ (ow + n) % ss = 0) := by
  have : ss ≤ got * ss := Nat.le_mul_of_pos_left ss hg
  by_cases h : P ≤ got * ss - ow
  · left; omega
  · right
    obtain ⟨hpos, hn'⟩ : 0 < n ∧ ow + n = got * ss := by omega
    exact ⟨hpos, hn' ▸ Nat.mul_mod_left _ _⟩

/-- cutting `P` bytes to a run of `cnt` sectors and then to the `got ≤ cnt` sectors allocated. -/
theorem cut_twice {ss ow cnt got P n : Nat} (hgot : got ≤ cnt)
    (hn : n = min (got * ss - ow) (min (cnt * ss - ow) P)) :
    n = min (got * ss - ow) P ∧ n ≤ cnt * ss - ow ∧ n ≤ P := by
  have h1 : n = min (got * ss - ow) P := by
    rw [hn, ← Nat.min_assoc, Nat.min_eq_left (Nat.sub_le_sub_right (Nat.mul_le_mul_right _ hgot) _)]
  exact ⟨h1, hn ▸ Nat.le_trans (Nat.min_le_right _ _) (Nat.min_le_left _ _), h1 ▸ Nat.min_le_right _ _⟩

/-- One `writeToSectors`: `n` bytes of `p` are laid over the contents at
`idx*ss+ow`, nothing else in this file changes, no byte of a sector that is
allocated but not referenced by this file changes; when it reports no error it
either consumed all of `p` or stopped exactly at a sector boundary. -/
theorem writeToSectors_content {O : Nat → Prop} {c : Cfg} {f : File} {e : Env} (p : List Byte)
    (idx endIdx ow : Nat) (hss : 0 < c.ss) (how : ow < c.ss)
    (hP : Part c.nsec O e.allocd (nz f.sectors)) :
    (∀ i, content c.ss (writeToSectors c f e p idx endIdx ow).2.1.dev (writeToSectors c f e p idx endIdx ow).1 i =
        overlay (content c.ss e.dev f) (idx * c.ss + ow) (p.take (writeToSectors c f e p idx endIdx ow).2.2.1) i) ∧
      (writeToSectors c f e p idx endIdx ow).2.2.1 ≤ p.length ∧
      ((writeToSectors c f e p idx endIdx ow).2.2.2 = none →
        (writeToSectors c f e p idx endIdx ow).2.2.1 = p.length ∨
          (0 < (writeToSectors c f e p idx endIdx ow).2.2.1 ∧
            (ow + (writeToSectors c f e p idx endIdx ow).2.2.1) % c.ss = 0)) ∧
      (∀ t k, k < c.ss → t + 1 ∈ e.allocd → t + 1 ∉ f.sectors →
        rd (writeToSectors c f e p idx endIdx ow).2.1.dev (t * c.ss + k) = rd e.dev (t * c.ss + k)) := by
  unfold writeToSectors
  split
  · -- appending
    rename_i hidx
    have hconf := fun t k (hk : k < c.ss) (ht : t + 1 ∈ e.allocd) =>
      wns_frame (c := c) (h := f.hole) (e := e) (p := p) (idx := idx) hss how t k hk ht
    have hunch := fun i => content_wns_unchanged (f := f) (e := e) (p := p) (idx := idx) hss how hP i
    split
    · rename_i e1 x heq
      rw [heq] at hconf hunch
      refine ⟨fun i => ?_, Nat.zero_le _, by simp, fun t k hk ht _ => hconf t k hk ht⟩
      rw [List.take_zero, overlay_nil]; exact hunch i
    · rename_i e1 n first got heq
      rw [heq] at hconf
      obtain ⟨_, _, hg1, _, _, _, _, hnmin⟩ := wns_ok heq
      obtain ⟨secs', hs'⟩ := insert_grown_some f.sectors idx first got hidx
      dsimp only
      rw [hs']
      dsimp only
      refine ⟨fun i => ?_, hnmin ▸ Nat.min_le_right _ _, fun _ => ?_, fun t k hk ht _ => hconf t k hk ht⟩
      · exact insert_content (f := f) _ secs' hss how (fun q => getD_append_replicate_zero _ _ _) heq hs'
          (fun q hq1 _ => getD_ge _ _ (Nat.le_trans hidx hq1)) hP i
      · exact boundary_of_short c.ss ow got p.length n how hg1 hnmin
  · rename_i hidx
    have hidx' : idx < f.sectors.length := Nat.lt_of_not_le hidx
    obtain ⟨hc1, hc2, hc3, hc4, hc5⟩ := contig_spec f.sectors idx endIdx hidx'
    dsimp only
    have hcs : c.ss ≤ (contig f.sectors idx endIdx).2 * c.ss := Nat.le_mul_of_pos_left c.ss hc2
    split
    · -- filling a hole
      rename_i hz
      have hconf := fun t k (hk : k < c.ss) (ht : t + 1 ∈ e.allocd) =>
        wns_frame (c := c) (h := f.hole) (e := e) (p := List.take ((contig f.sectors idx endIdx).2 * c.ss - ow) p)
          (idx := idx) hss how t k hk ht
      have hunch := fun i => content_wns_unchanged (f := f) (e := e)
        (p := List.take ((contig f.sectors idx endIdx).2 * c.ss - ow) p) (idx := idx) hss how hP i
      split
      · rename_i e1 x heq
        rw [heq] at hconf hunch
        refine ⟨fun i => ?_, Nat.zero_le _, by simp, fun t k hk ht _ => hconf t k hk ht⟩
        rw [List.take_zero, overlay_nil]; exact hunch i
      · rename_i e1 n first got heq
        rw [heq] at hconf
        obtain ⟨_, _, hg1, hg2, _, _, _, hnmin⟩ := wns_ok heq
        have hgot : got ≤ (contig f.sectors idx endIdx).2 := by
          refine Nat.le_trans hg2 (want_le_cnt ow c.ss _ _ how hc2 ?_)
          simp only [List.length_take]; omega
        obtain ⟨secs', hs'⟩ := insert_hole_some f.sectors idx first got _ hc3
          (fun j hj => by rw [hc5 j hj, if_pos hz]) hgot
        rw [hs']
        dsimp only
        obtain ⟨hn, hnle, hnP⟩ := cut_twice (ss := c.ss) (ow := ow) (n := n) (P := p.length) hgot
          (by rw [hnmin, List.length_take])
        refine ⟨fun i => ?_, hnP, fun _ => ?_, fun t k hk ht _ => hconf t k hk ht⟩
        · have := insert_content (f := f) f.sectors secs' hss how (fun q => rfl) heq hs'
            (fun q hq1 hq2 => by
              rw [contig_getD _ _ endIdx hidx' hq1 (Nat.lt_of_lt_of_le hq2 (Nat.add_le_add_left hgot _)), if_pos hz])
            hP i
          rw [take_take_le _ _ _ hnle] at this
          exact this
        · exact boundary_of_short c.ss ow got p.length n how hg1 hn
    · -- overwriting existing sectors
      rename_i hnz
      obtain ⟨m, hm, hdev, hsome, hnone⟩ := devWrite_dev e (((contig f.sectors idx endIdx).1 - 1) * c.ss + ow)
        (List.take ((contig f.sectors idx endIdx).2 * c.ss - ow) p)
      rw [List.length_take] at hm hnone
      have hm1 : m ≤ (contig f.sectors idx endIdx).2 * c.ss - ow := Nat.le_trans hm (Nat.min_le_left _ _)
      have hm2 : m ≤ p.length := Nat.le_trans hm (Nat.min_le_right _ _)
      have hq : ow + m ≤ (contig f.sectors idx endIdx).2 * c.ss :=
        Nat.add_le_of_le_sub' (Nat.le_trans (Nat.le_of_lt how) hcs) hm1
      rw [take_take_le _ _ _ hm1] at hdev
      have hcontent := fun i => overwrite_content (f := f) (e := e) p idx endIdx ow m hss hidx' hnz hP hq hm2 i
      have hframe : ∀ t k, k < c.ss → t + 1 ∉ f.sectors →
          rd (writeBytes e.dev (((contig f.sectors idx endIdx).1 - 1) * c.ss + ow) (List.take m p)) (t * c.ss + k) =
            rd e.dev (t * c.ss + k) := fun t k hk hnot =>
        overwrite_frame e.dev endIdx _ hidx' hnz (by rw [List.length_take, Nat.min_eq_left hm2]; exact hq) hk hnot
      split
      · rename_i n hn
        have hnm := hsome n hn
        subst hnm
        refine ⟨fun i => ?_, hm2, by simp, fun t k hk _ hnot => ?_⟩
        · dsimp only; rw [hdev]; exact hcontent i
        · dsimp only; rw [hdev]; exact hframe t k hk hnot
      · rename_i hn
        have hmm := hnone hn
        refine ⟨fun i => ?_, by dsimp only; rw [List.length_take]; exact Nat.min_le_right _ _, fun _ => ?_,
          fun t k hk _ hnot => ?_⟩
        · dsimp only; rw [hdev, List.length_take, ← hmm]; exact hcontent i
        · exact boundary_of_short c.ss ow _ p.length _ how hc2 (List.length_take ..)
        · dsimp only; rw [hdev]; exact hframe t k hk hnot

end BbRe.Lemmas.FilePool
