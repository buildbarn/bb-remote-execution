import BbRe.Lemmas.SchedTreeFnDefs
import BbRe.Lemmas.SchedLiveRoute
/-!
Function-level lemmas of the tree layer for the RPC segments that are not `Synchronize`:
`Execute`, `WaitExecution`, the continuation of a parked stream, the operator RPCs
(`KillOperations`, drains, `TerminateWorkers`) and `RegisterPredeclaredPlatformQueue`.
Shape (see `Lemmas/SchedTreeFnDefs.lean`): `TInv ts → tF … ts … = .ok ts' → TS [] ts'`.
-/
namespace BbRe.Lemmas.SchedTree
open BbRe.Sched BbRe.SchedTree BbRe.Lemmas.SchedInv

/-- `bq.enter` keeps the invariant of the tree layer -/
theorem enter_tinv (hE : EnterOK) {h : Hints} {x : Extras} {ts ts0 : TState} {now : Nat} (hI : TInv ts)
    (hh : tEnter h x ts now = .ok ts0) : TInv ts0 :=
  TInv.mk' (inv_of_ref (tEnter_ref h x ts now) (enter_spec hI.inv) hh).1 (hE h x ts ts0 now hI hh)

/-! ### `WaitExecution`, continuation of a parked stream -/

theorem tWaitArrive_ts (hE : EnterOK) {h : Hints} {x : Extras} {ts ts' : TState} {now c name : Nat} (hI : TInv ts)
    (hh : tWaitArrive h x ts now c name = .ok ts') : TS [] ts' := by
  unfold tWaitArrive at hh
  tpaths hh
  all_goals have h0 := enter_tinv hE hI (by assumption)
  · cases hh
    exact h0.ts.sframe (emit_sframe _ _)
  · cases hh
    exact h0.ts.sframe (streamAttach_sframe (OID.of_inv h0.inv) (by assumption))

/-- after `bq.enter`, `tStreamWake` only changes the scheduler state: the stream leaves or is sent an update -/
theorem tStreamWake_shape {h : Hints} {x : Extras} {ts ts' : TState} {now c reason : Nat}
    (hh : tStreamWake h x ts now c reason = .ok ts') :
    ∃ ts0 s, tEnter h x ts now = .ok ts0 ∧ ts' = ts0.setS s ∧
      (streamLeave ts0.s c cCanceled = .ok s ∨ ∃ o, streamSend ts0.s c o = .ok s) := by
  unfold tStreamWake at hh
  simp only [bind, Except.bind, pure, Except.pure] at hh
  split at hh
  · cases hh
  rename_i ts0 he
  refine ⟨ts0, ?_⟩
  split at hh
  · rename_i st _
    split at hh
    · split at hh
      · cases hh
      rename_i s hs
      cases hh
      exact ⟨s, he, rfl, Or.inl hs⟩
    · have send : ∀ {ts' : TState},
          Except.bind (streamSend ts0.s c st.op) (fun s => Except.ok (ts0.setS s)) = Except.ok ts' →
          ∃ s, tEnter h x ts now = .ok ts0 ∧ ts' = ts0.setS s ∧
            (streamLeave ts0.s c cCanceled = .ok s ∨ ∃ o, streamSend ts0.s c o = .ok s) := by
        intro ts' hh
        cases hs : streamSend ts0.s c st.op with
        | error e => rw [hs] at hh; cases hh
        | ok s => rw [hs] at hh; cases hh; exact ⟨s, he, rfl, Or.inr ⟨_, hs⟩⟩
      split at hh
      · split at hh
        · split at hh
          · split at hh
            · cases hh
            · exact send hh
          · cases hh
        · cases hh
      · exact send hh
  · cases hh

theorem tStreamWake_ts (hE : EnterOK) {h : Hints} {x : Extras} {ts ts' : TState} {now c reason : Nat} (hI : TInv ts)
    (hh : tStreamWake h x ts now c reason = .ok ts') : TS [] ts' := by
  obtain ⟨ts0, s, he, rfl, hs⟩ := tStreamWake_shape hh
  have h0 := enter_tinv hE hI he
  rcases hs with hs | ⟨o, hs⟩
  · exact h0.ts.sframe (streamLeave_sframe (OID.of_inv h0.inv) hs)
  · exact h0.ts.sframe (streamSend_sframe (OID.of_inv h0.inv) hs)

theorem tTermWake_ts {ts ts' : TState} {id reason : Nat} (hI : TInv ts)
    (hh : tTermWake ts id reason = .ok ts') : TS [] ts' := by
  unfold tTermWake at hh
  tpaths hh
  cases hh
  exact hI.ts.sframe (termWake_sframe (by assumption))

/-! ### `RegisterPredeclaredPlatformQueue` -/

theorem tRegister_ts {ts : TState} (hI : TInv ts) (x : Extras) (id : Nat) (comps : List Nat) (platform : Nat)
    (sizes : List Nat) (bgMax : Nat) (bgPrio : Int) (hok : registerOK ts id sizes = true) :
    TS [] (tRegisterPQ x ts id comps platform sizes bgMax bgPrio) :=
  register_ts hI.x x id comps platform sizes bgMax bgPrio hok

/-! ### `KillOperations` -/

theorem tKillOp_ts (hE : EnterOK) (hC : CompleteOK) {h : Hints} {x : Extras} {ts ts' : TState} {now name code : Nat}
    (hI : TInv ts) (hh : tKillOp h x ts now name code = .ok ts') : TS [] ts' := by
  unfold tKillOp at hh
  tpaths hh
  all_goals have h0 := enter_tinv hE hI (by assumption)
  · cases hh
    exact h0.ts.sframe (emit_sframe _ _)
  · cases hh
    rename_i _ ts0 _ _ op hop _ ts1 hc
    obtain ⟨t, ht, _⟩ := h0.inv.oinv.o1 name op hop
    have h1 := hC h x ts0 ts1 op.task ⟨code, 0, 0, .killed⟩ false h0 (by rw [ht]; rfl) hc
    exact h1.sframe (emit_sframe _ _)

theorem tKillQueue_ts (hE : EnterOK) (hK : CancelOK) {h : Hints} {x : Extras} {ts ts' : TState} {now : Nat} {q : ScqId}
    {code : Nat} (hI : TInv ts) (hh : tKillQueue h x ts now q code = .ok ts') : TS [] ts' := by
  unfold tKillQueue at hh
  tpaths hh
  all_goals have h0 := enter_tinv hE hI (by assumption)
  · cases hh
    exact h0.ts.sframe (emit_sframe _ _)
  · cases hh
    exact h0.ts.sframe (emit_sframe _ _)
  · cases hh
    have h1 := hK h x _ _ q ⟨code, 0, 0, .killed⟩ h0 (by assumption)
    exact h1.sframe (emit_sframe _ _)

/-! ### drains -/

/-- `TS` only looks at the identifiers of the size-class queues -/
theorem TS.of_scqids {X : List (ScqId × List Nat)} {ts : TState} {s' : State} (h : TS X ts)
    (ht : s'.tasks = ts.s.tasks) (hw : s'.workers = ts.s.workers) (ho : s'.ops = ts.s.ops)
    (hq : s'.scqs.map (·.id) = ts.s.scqs.map (·.id)) : TS X (ts.setS s') := by
  refine ⟨?_, ?_⟩
  · obtain ⟨h1, h2, h3, h4⟩ := bags_setS_of_tasks ts s' ht
    rw [h1, h2, h3, h4]; exact h.tree
  · refine h.side.of_nodes (ts' := ts.setS s') ?_ ?_ rfl rfl ht hw ho
    · intro sq hsq
      have hm : sq.id ∈ s'.scqs.map (·.id) := List.mem_map.mpr ⟨sq, hsq, rfl⟩
      rw [hq] at hm
      obtain ⟨sq0, h0, e⟩ := List.mem_map.mp hm
      rw [← e]; exact h.side.roots sq0 h0
    · intro n hn
      obtain ⟨sq, h1, h2⟩ := h.side.nscq n hn
      have hm : sq.id ∈ ts.s.scqs.map (·.id) := List.mem_map.mpr ⟨sq, h1, rfl⟩
      rw [← hq] at hm
      obtain ⟨sq', h0, e⟩ := List.mem_map.mp hm
      exact ⟨sq', h0, e.trans h2⟩

theorem setScq_ids (s : State) (sq : Scq) : (s.setScq sq).scqs.map (·.id) = s.scqs.map (·.id) := by
  show (s.scqs.map (fun x => if x.id = sq.id then sq else x)).map (·.id) = _
  rw [List.map_map]
  apply List.map_congr_left
  intro y _
  simp only [Function.comp]
  split
  · rename_i e; exact e.symm
  · rfl

/-- `setScq` (drains, undrain generation) keeps the invariant of the tree layer -/
theorem setScq_tinv {ex exo} {X : List (ScqId × List Nat)} {ts : TState} (hT : TInvX ex exo X ts) (sq : Scq) :
    TInvX ex exo X (ts.setS (ts.s.setScq sq)) :=
  TInvX.mk' (hT.inv.of_eq rfl rfl rfl rfl) (hT.ts.of_scqids rfl rfl rfl (setScq_ids _ _))

/-- waking a list of (distinct, current) parked workers -/
theorem foldl_tWake_tinv (c : Worker → Prop) [DecidablePred c] (hc : ∀ w, c w → w.parked = true) (l : List Worker)
    {ex exo} {X : List (ScqId × List Nat)} {ts : TState} (hT : TInvX ex exo X ts) (hl : WNodup l)
    (hcur : ∀ w, w ∈ l → wfind ts.s.workers w.scq w.id = some w) :
    TInvX ex exo X (l.foldl (fun ts w => if c w then tWake ts w else ts) ts) := by
  induction l generalizing ts with
  | nil => exact hT
  | cons a r ih =>
    rw [List.foldl_cons]
    simp only [WNodup, List.pairwise_cons] at hl
    by_cases hca : c a
    · rw [if_pos hca]
      have ha := hcur a (by simp)
      have hT1 : TInvX ex exo X (tWake ts a) := TInvX.mk' (hT.inv.wake ha) (wake_ts hT ha (hc a hca))
      refine ih hT1 hl.2 ?_
      intro w hw
      have hne := hl.1 w hw
      show wfind (wakeWorker ts.s a).workers w.scq w.id = some w
      simp only [wakeWorker, setWorker_eq]
      rw [wfind_wset, if_neg]
      · exact hcur w (List.mem_cons_of_mem _ hw)
      · exact fun h => hne ⟨h.1, h.2⟩
    · rw [if_neg hca]
      exact ih hT hl.2 (fun w hw => hcur w (List.mem_cons_of_mem _ hw))

theorem tAddDrain_ts (hE : EnterOK) {h : Hints} {x : Extras} {ts ts' : TState} {now : Nat} {q : ScqId} {p : Pattern}
    (hI : TInv ts) (hh : tAddDrain h x ts now q p = .ok ts') : TS [] ts' := by
  unfold tAddDrain at hh
  tpaths hh
  all_goals have h0 := enter_tinv hE hI (by assumption)
  · cases hh
    exact h0.ts.sframe (emit_sframe _ _)
  all_goals
    cases hh
    exact TS.sframe (TInvX.ts (foldl_tWake_tinv (fun w => w.scq = q ∧ w.parked = true ∧ p.matches w.id = true)
      (fun w hw => hw.2.1) _ (setScq_tinv h0.x _) h0.inv.core.wnd
      (fun w hw => wfind_of_mem h0.inv.core.wnd hw))) (emit_sframe _ _)

theorem tRemoveDrain_ts (hE : EnterOK) {h : Hints} {x : Extras} {ts ts' : TState} {now : Nat} {q : ScqId} {p : Pattern}
    (hI : TInv ts) (hh : tRemoveDrain h x ts now q p = .ok ts') : TS [] ts' := by
  unfold tRemoveDrain at hh
  tpaths hh
  all_goals have h0 := enter_tinv hE hI (by assumption)
  · cases hh
    exact h0.ts.sframe (emit_sframe _ _)
  · cases hh
    exact h0.ts.of_scqids rfl rfl rfl (setScq_ids _ _)

/-! ### `TerminateWorkers` -/

/-- one iteration of the loop of `TerminateWorkers` -/
theorem tTerminateOne_tinv {ex exo} {X : List (ScqId × List Nat)} {ts : TState} (hT : TInvX ex exo X ts) (w : Worker) :
    TInvX ex exo X (tTerminateOne ts w) := by
  unfold tTerminateOne
  cases hw : ts.s.worker? w.scq w.id with
  | none => exact hT
  | some wk =>
    dsimp only
    simp only [worker?_def] at hw
    have hk := wfind_key hw
    have hw' : wfind ts.s.workers wk.scq wk.id = some wk := by rw [hk.1, hk.2]; exact hw
    have hT1 : TInvX ex exo X (ts.setS (ts.s.setWorker { wk with terminating := true })) :=
      TInvX.mk' (hT.inv.setWorker hw' ⟨rfl, rfl, rfl, id⟩)
        (wset_ts (wk' := { wk with terminating := true }) hT hw' ⟨rfl, rfl, rfl, rfl⟩ rfl rfl rfl (op?_of_ops rfl))
    have hw1 := wfind_setWorker_self (s := ts.s) (wk' := { wk with terminating := true }) hw' rfl rfl
    split
    · rename_i hc
      simp only [setS_s, worker?_def, hw1]
      exact TInvX.mk' (hT1.inv.wake hw1) (wake_ts hT1 hw1 hc.2)
    · exact hT1

theorem foldl_tTerminateOne_tinv {ex exo} {X : List (ScqId × List Nat)} (l : List Worker) {ts : TState}
    (hT : TInvX ex exo X ts) : TInvX ex exo X (l.foldl tTerminateOne ts) := by
  induction l generalizing ts with
  | nil => exact hT
  | cons a r ih => rw [List.foldl_cons]; exact ih (tTerminateOne_tinv hT a)

theorem tTerminate_ts (hE : EnterOK) {h : Hints} {x : Extras} {ts ts' : TState} {now id : Nat} {p : Pattern}
    (hI : TInv ts) (hh : tTerminate h x ts now id p = .ok ts') : TS [] ts' := by
  unfold tTerminate at hh
  tpaths hh
  all_goals have h0 := enter_tinv hE hI (by assumption)
  all_goals cases hh
  · exact (foldl_tTerminateOne_tinv _ h0.x).ts.sframe (emit_sframe _ _)
  · exact (foldl_tTerminateOne_tinv _ h0.x).ts.sframe (addTerm_sframe _ _)

/-! ### `Execute` -/

/-- `streamAttach_sframe` with the arguments in the order that lets the state be inferred -/
theorem streamAttach_sframe' {s s' : State} {c o : Nat} (h : streamAttach s c o = .ok s')
    (hid : ∀ k op, s.op? k = some op → op.name = k) : SFrame s s' := streamAttach_sframe hid h

theorem tExecDedup_ts {ts ts' : TState} {c tid : Nat} {t : Task} {inv : List Nat} {prio : Int} (hI : TInv ts)
    (ht : alookup tid ts.s.tasks = some t) (hr : t.response = none)
    (hh : tExecDedup ts c tid t inv prio = .ok ts') : TS [] ts' := by
  have hid : t.id = tid := (hI.inv.core.tid tid t ht).1
  have ht' : alookup t.id ts.s.tasks = some t := by rw [hid]; exact ht
  have hoid := OID.of_inv hI.inv
  have hlive := hI.inv.core.q2 tid t ht hr
  have hopf : ∀ k t', alookup k ts.s.tasks = some t' → (emit ts.s .selAbandoned).nextOp ∉ t'.ops := by
    intro k t' hk hm
    exact Nat.lt_irrefl _ (hI.inv.oinv.o2 k t' _ hk hm).1
  unfold tExecDedup at hh
  simp only [bind, Except.bind, pure, Except.pure] at hh
  split at hh
  · -- the request attaches to an existing operation of the task: its invocation exists
    rename_i o hf
    split at hh
    · cases hh
    rename_i s1 hs
    cases hh
    have hmem : o ∈ t.ops := List.mem_of_find?_eq_some hf
    have hp := List.find?_some hf
    cases hop : alookup o (emit ts.s .selAbandoned).ops with
    | none => simp only [op?_def, hop] at hp; cases hp
    | some op =>
      simp only [op?_def, hop, decide_eq_true_eq] at hp
      have hop' : ts.s.op? o = some op := hop
      have hinv : ts.invOf o = inv := by
        unfold TState.invOf; rw [hI.side.oxok o op hop']; exact hp
      have hnode : (node? ts.nodes t.scq inv).isSome = true := by
        rcases hlive with hq | hw | hf
        · have := hI.tree.rfQ _ (mem_bagQ_of_task ht' hq hmem)
          rw [hinv] at this; exact this
        · cases hwk : t.worker with
          | none => rw [hwk] at hw; cases hw
          | some qw =>
            obtain ⟨q0, w⟩ := qw
            have := hI.tree.rfE _ (mem_bagE_of_task ht' hwk hmem)
            rw [hinv] at this; exact this
        · exact absurd hf id
      have hcreate : (ts.create t.scq inv).nodes = ts.nodes :=
        getOrCreate_id _ _ _ _ (fun pi hpi => hI.tree.prefix_exists inv hnode pi (mem_prefixes.mp hpi).1)
      have h1 : TS [] (ts.create t.scq inv) := hI.ts.of_fields rfl hcreate rfl rfl
      exact h1.sframe ((emit_sframe _ _).trans (streamAttach_sframe hoid hs))
  · split at hh
    · cases hh
    split at hh
    · cases hh
    rename_i s1 hs
    have hf := streamAttach_sframe' hs
      (setOp_oid { (emit ts.s .selAbandoned) with nextOp := (emit ts.s .selAbandoned).nextOp + 1 } _ hoid)
    have hso : ∀ o op', s1.op? o = some op' →
        (o = ts.s.nextOp ∧ op'.inv = inv ∧ op'.prio = prio) ∨
        (o ≠ ts.s.nextOp ∧ ∃ op, ts.s.op? o = some op ∧ op'.inv = op.inv ∧ op'.prio = op.prio) := by
      intro o op' ho
      obtain ⟨op4, e4, hi, hp, _⟩ := hf.ops o op' ho
      change alookup o (aset ts.s.nextOp _ ts.s.ops) = some op4 at e4
      rw [alookup_aset] at e4
      split at e4
      · rename_i e; cases e4
        exact Or.inl ⟨e.symm, hi, hp⟩
      · rename_i e
        exact Or.inr ⟨fun e' => e e'.symm, op4, e4, hi, hp⟩
    split at hh
    · -- a new operation for an EXECUTING task
      rename_i q0 w hw
      cases hh
      exact addOpExec_ts hI.x ht' hw hopf hf.tasks hf.workers hf.scqs hso
    · -- a new operation for a QUEUED task
      rename_i hw
      cases hh
      have hq : t.queued = true := by
        rcases hlive with hq | hw' | hf
        · exact hq
        · rw [hw] at hw'; cases hw'
        · exact absurd hf id
      exact addOpQueued_ts hI.x ht' hw hq hopf hf.tasks hf.workers hf.scqs hso

/-- `Execute` creates a task: `newTask`/`newOperation`, `getOrCreateInvocation`, `task.schedule`, then the
stream attaches.  (`newTaskSt` is the state `Sched.execArrive` hands to `schedule`.) -/
theorem tExecNew_ts {h : Hints} {ts0 ts2 : TState} {s3 : State} {c digest dkey : Nat} {dnc : Bool} {q : ScqId}
    {inv : List Nat} {prio : Int} {y : TX} (h0 : TInv ts0) (hnone : alookup dkey ts0.s.dedup = none)
    (hq : ∃ sq ∈ ts0.s.scqs, sq.id = q)
    (hs : tSchedule h ((((ts0.setOX ts0.s.nextOp ⟨inv, prio⟩).setTX ts0.s.nextTask y).setS
      (newTaskSt ts0.s digest dkey dnc q inv prio)).create q inv) ts0.s.nextTask = .ok ts2)
    (ha : streamAttach ts2.s c ts0.s.nextOp = .ok s3) : TS [] (ts2.setS s3) := by
  have hI3 := newTaskSt_inv (digest := digest) (dnc := dnc) (q := q) (inv := inv) (prio := prio) h0.inv hnone
  have hfresh : alookup (newTask ts0.s digest dkey dnc q).id ts0.s.tasks = none := by
    show alookup ts0.s.nextTask ts0.s.tasks = none
    cases hl : alookup ts0.s.nextTask ts0.s.tasks with
    | none => rfl
    | some t' => exact absurd (h0.inv.core.tid _ _ hl).2 (Nat.lt_irrefl _)
  have hopf : ∀ k t', alookup k ts0.s.tasks = some t' → ts0.s.nextOp ∉ t'.ops :=
    fun k t' hk hm => Nat.lt_irrefl _ (h0.inv.oinv.o2 k t' _ hk hm).1
  have hso : ∀ o op', (newTaskSt ts0.s digest dkey dnc q inv prio).op? o = some op' →
      (o = ts0.s.nextOp ∧ op'.inv = inv ∧ op'.prio = prio) ∨
      (o ≠ ts0.s.nextOp ∧ ∃ op, ts0.s.op? o = some op ∧ op'.inv = op.inv ∧ op'.prio = op.prio) := by
    intro o op' ho
    change alookup o (aset ts0.s.nextOp (newOp ts0.s inv prio) ts0.s.ops) = some op' at ho
    rw [alookup_aset] at ho
    split at ho
    · rename_i e; cases ho; exact Or.inl ⟨e.symm, rfl, rfl⟩
    · rename_i e; exact Or.inr ⟨fun e' => e e'.symm, op', ho, rfl, rfl⟩
  obtain ⟨hts1, hnode, hinvof⟩ := newTask_ts (X := []) (t := newTask ts0.s digest dkey dnc q) (opn := ts0.s.nextOp)
    (inv := inv) (prio := prio) (y := y) (s' := newTaskSt ts0.s digest dkey dnc q inv prio) h0.x hfresh hopf rfl rfl rfl
    hq rfl rfl rfl rfl hso
  have hT1 := TInvX.mk' (exo := fun _ => False) (MInv.of_inv hI3) hts1
  have ht3 : alookup ts0.s.nextTask (newTaskSt ts0.s digest dkey dnc q inv prio).tasks =
      some (newTask ts0.s digest dkey dnc q) := by
    simp only [newTaskSt]; rw [alookup_aset, if_pos rfl]
  have hT2 := tSchedule_tinv (t := newTask ts0.s digest dkey dnc q) hT1 ht3 rfl rfl rfl
    (by
      intro o ho
      have e : o = ts0.s.nextOp := List.mem_singleton.mp ho
      subst e; rw [hinvof]; exact hnode)
    (by
      intro x hx
      rw [List.nil_append] at hx
      obtain ⟨pi, hpi, rfl⟩ := List.mem_map.mp hx
      refine ⟨ts0.s.nextOp, List.mem_singleton.mpr rfl, ?_⟩
      rw [hinvof]
      unfold onPathOf
      simp only [decide_true, Bool.true_and, List.isPrefixOf_iff_prefix]
      exact (mem_prefixes.mp hpi).1)
    hs
  have hI2 := (inv_of_ref (tSchedule_ref h ((((ts0.setOX ts0.s.nextOp ⟨inv, prio⟩).setTX ts0.s.nextTask y).setS
      (newTaskSt ts0.s digest dkey dnc q inv prio)).create q inv) ts0.s.nextTask)
    (schedule_spec (h := h) hI3 ht3 rfl rfl) hs).1
  exact hT2.ts.sframe (streamAttach_sframe (OID.of_inv hI2) ha)

theorem tExecArrive_ts (hE : EnterOK) {h : Hints} {x : Extras} {ts ts' : TState} {now c digest dkey : Nat} {dnc : Bool}
    {comps : List Nat} {platform : Nat} {inv : List Nat} {prio : Int} (hI : TInv ts)
    (hh : tExecArrive h x ts now c digest dkey dnc comps platform inv prio = .ok ts') : TS [] ts' := by
  unfold tExecArrive at hh
  simp only [bind, Except.bind, pure, Except.pure] at hh
  split at hh
  · cases hh
  rename_i ts0 h0e
  have h0 := enter_tinv hE hI h0e
  split at hh
  · -- deduplicated against an uncompleted task (`Core.d1`)
    rename_i tid hd
    split at hh
    · rename_i t ht
      obtain ⟨t', ht', _, hr, _⟩ := h0.inv.core.d1 dkey tid hd
      have e : t' = t := by rw [task?_def, ht'] at ht; exact Option.some.inj ht
      subst e
      exact tExecDedup_ts h0 ht' hr hh
    · cases hh
  · rename_i hnone
    split at hh
    · -- no platform queue: two events
      cases hh
      exact h0.ts.sframe ((emit_sframe _ _).trans (emit_sframe _ _))
    · -- a new task
      rename_i pq _
      split at hh
      · rename_i sc hsz
        have hq := BbRe.Lemmas.SchedLive.getElem?_mem_sizes hsz
        cases dnc
        all_goals (
          split at hh
          · cases hh
          rename_i ts2 hsched
          split at hh
          · cases hh
          rename_i s3 hattach
          cases hh)
        · simp only [Bool.false_eq_true, if_false] at hsched
          exact tExecNew_ts (digest := digest) (dkey := dkey) (dnc := false) (q := ⟨pq.id, sc⟩) h0 hnone hq hsched hattach
        · simp only [if_true] at hsched
          exact tExecNew_ts (digest := digest) (dkey := dkey) (dnc := true) (q := ⟨pq.id, sc⟩) h0 hnone hq hsched hattach
      · cases hh

end BbRe.Lemmas.SchedTree
