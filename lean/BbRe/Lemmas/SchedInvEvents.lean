import BbRe.Lemmas.SchedInvComplete2
/-! Which events `task.complete` appends (the three-way learner split), without invariants. -/
namespace BbRe.Lemmas.SchedInv
open BbRe.Sched

/-- the two ways `schedule` succeeds: the task is queued, or handed to a parked worker that is woken -/
theorem schedule_ok {h : Hints} {s s' : State} {tid : Nat} (hh : schedule h s tid = .ok s') :
    ∃ t, s.task? tid = some t ∧
      (s' = s.setTask { t with queued := true } ∨ ∃ w w2, s' = assignSt (wakeWorker s w) w2 t) := by
  unfold schedule at hh
  cases ht : s.task? tid with
  | none => simp only [ht] at hh; cases hh
  | some t =>
    refine ⟨t, rfl, ?_⟩
    simp only [ht] at hh
    by_cases hp : anyParked s t.scq = true
    · rw [if_pos hp] at hh
      cases hw : hintedWorker h s t with
      | none => simp only [hw] at hh; cases hh
      | some w =>
        simp only [hw] at hh
        by_cases hpk : w.parked = true
        · simp only [hpk, Bool.not_true, Bool.false_eq_true, if_false] at hh
          cases hw2 : (wakeWorker s w).worker? w.scq w.id with
          | none => simp only [hw2] at hh; cases hh
          | some w2 =>
            simp only [hw2] at hh
            rw [assignTo_eq] at hh
            split at hh
            · cases hh
            · split at hh
              · cases hh
              · cases hh; exact .inr ⟨w, w2, rfl⟩
        · simp only [hpk, Bool.not_false, if_true, throw_bind'] at hh; cases hh
    · rw [if_neg hp] at hh; cases hh; exact .inl rfl

theorem schedule_same {h : Hints} {s s' : State} {tid : Nat} (hh : schedule h s tid = .ok s') :
    ∃ ws ts asg, s' = { s with workers := ws, tasks := ts, assigned := asg } := by
  obtain ⟨t, _, rfl | ⟨w, w2, rfl⟩⟩ := schedule_ok hh <;>
    simp only [assignSt, State.setTask, setWorker_eq, wakeWorker] <;> exact ⟨_, _, _, rfl⟩

theorem schedule_events {h : Hints} {s s' : State} {tid : Nat} (hh : schedule h s tid = .ok s') :
    s'.events = s.events := by
  obtain ⟨ws, ts, asg, he⟩ := schedule_same hh
  rw [he]

/-! `finishOps`, `finalize` and `detachW` touch neither the event log nor the learner counter -/

theorem fstep_ev (s : State) (o : Nat) :
    (fstep s o).events = s.events ∧ (fstep s o).nextLearner = s.nextLearner := by
  unfold fstep
  split
  · split
    · rw [maybeStartCleanup_eq]; exact ⟨rfl, rfl⟩
    · exact ⟨rfl, rfl⟩
  · exact ⟨rfl, rfl⟩

theorem finishOps_ev (s : State) (ops : List Nat) :
    (complete.finishOps s ops).events = s.events ∧ (complete.finishOps s ops).nextLearner = s.nextLearner := by
  rw [finishOps_eq]
  induction ops generalizing s with
  | nil => exact ⟨rfl, rfl⟩
  | cons o r ih =>
    rw [List.foldl_cons]
    exact ⟨(ih _).1.trans (fstep_ev s o).1, (ih _).2.trans (fstep_ev s o).2⟩

theorem finalize_ev {s s' : State} {t : Task} {r : Resp} (hh : complete.finalize s t r = .ok s') :
    s'.events = s.events ∧ s'.nextLearner = s.nextLearner := by
  rw [finalize_eq] at hh
  cases hh
  exact ⟨(finishOps_ev _ _).1.trans rfl, (finishOps_ev _ _).2.trans rfl⟩

/-- the two ways `bgPart` succeeds: no background task (the new learner is abandoned), or one is created
in `bgSt` and scheduled -/
theorem bgPart_ok {h : Hints} {Y s' : State} {t : Task} {i : Nat} (hh : bgPart h Y t i = .ok s') :
    s' = emit { Y with nextLearner := Y.nextLearner + 1 } (.learnerAbandoned Y.nextLearner) ∨
    ∃ pq bsc, Y.pq? t.scq.pq = some pq ∧ countQueuedBackground Y ⟨t.scq.pq, bsc⟩ < pq.bgMax ∧
      schedule h (bgSt Y t ⟨t.scq.pq, bsc⟩ pq.bgPrio) Y.nextTask = .ok s' := by
  unfold bgPart at hh
  dsimp only at hh
  split at hh
  · rename_i pq hpq
    split at hh
    · cases hh; exact .inl rfl
    · split at hh
      · rename_i bsc _
        split at hh
        · cases hh; exact .inl rfl
        · rename_i hlt
          have hlt' : ¬ countQueuedBackground Y ⟨t.scq.pq, bsc⟩ ≥ pq.bgMax := hlt
          exact .inr ⟨pq, bsc, hpq, by omega, hh⟩
      · cases hh
  · cases hh

theorem bgPart_events {h : Hints} {Y s' : State} {t : Task} {i : Nat} (hh : bgPart h Y t i = .ok s') :
    s'.events = Y.events ∨ s'.events = .learnerAbandoned Y.nextLearner :: Y.events := by
  rcases bgPart_ok hh with rfl | ⟨pq, bsc, _, _, hs⟩
  · exact .inr rfl
  · exact .inl ((schedule_events hs).trans rfl)

theorem completeOk_events {h : Hints} {s s' : State} {t : Task} {r : Resp} {l : Nat}
    (hh : completeOk h s t r l = .ok s') :
    s'.events = .learnerSucceeded l (if h.bg.isSome then some s.nextLearner else none) :: s.events ∨
    s'.events = .learnerAbandoned s.nextLearner ::
      .learnerSucceeded l (if h.bg.isSome then some s.nextLearner else none) :: s.events := by
  rw [completeOk_eq] at hh
  generalize (Event.learnerSucceeded l (if h.bg.isSome then some s.nextLearner else none)) = e at hh ⊢
  cases hf : complete.finalize (emit s e) { t with learner := none } r with
  | error e => rw [hf] at hh; cases hh
  | ok Y =>
    rw [hf] at hh
    have hev : Y.events = e :: s.events := (finalize_ev hf).1
    have hnl : Y.nextLearner = s.nextLearner := (finalize_ev hf).2.trans rfl
    simp only [ok_bind'] at hh
    cases hbg : h.bg with
    | none => rw [hbg] at hh; cases hh; left; exact hev
    | some i =>
      rw [hbg] at hh
      rcases bgPart_events hh with h1 | h1
      · left; rw [h1, hev]
      · right; rw [h1, hev, hnl]

theorem completeRetry_events {h : Hints} {s s' : State} {t : Task} {r : Resp} {l : Nat}
    (hh : completeRetry h s t r l = .ok s') :
    s'.events = .learnerFailed l (r.code = cDeadlineExceeded) (some s.nextLearner) :: s.events := by
  rw [completeRetry_eq] at hh
  cases hs : schedule h (retrySt s t l r) t.id with
  | error e => rw [hs] at hh; cases hh
  | ok s3 =>
    rw [hs] at hh
    simp only [ok_bind'] at hh
    have h3 := schedule_events hs
    split at hh
    · cases hh; exact h3
    · cases hh

theorem detachW_ev (s : State) (t : Task) :
    (detachW s t).events = s.events ∧ (detachW s t).nextLearner = s.nextLearner := by
  unfold detachW
  split
  · split <;> exact ⟨rfl, rfl⟩
  · exact ⟨rfl, rfl⟩

/-- The three-way split of `task.complete`: which learner events a call appends.
`l` = the learner the task held. -/
theorem complete_events {h : Hints} {s s' : State} {tid : Nat} {t : Task} {r : Resp} {bw : Bool} {l : Nat}
    (hh : complete h s tid r bw = .ok s') (ht : s.task? tid = some t) (hr : t.response = none)
    (hl : t.learner = some l) :
    (r.code = cOK ∧ r.exit = 0 →
      s'.events = .learnerSucceeded l (if h.bg.isSome then some s.nextLearner else none) :: s.events ∨
      s'.events = .learnerAbandoned s.nextLearner ::
        .learnerSucceeded l (if h.bg.isSome then some s.nextLearner else none) :: s.events) ∧
    (¬ (r.code = cOK ∧ r.exit = 0) → bw = true →
      s'.events = .learnerFailed l (r.code = cDeadlineExceeded) (if h.retry then some s.nextLearner else none)
        :: s.events) ∧
    (¬ (r.code = cOK ∧ r.exit = 0) → bw = false → s'.events = .learnerAbandoned l :: s.events) := by
  rw [complete_eq] at hh
  simp only [ht] at hh
  have hrs : ¬ t.response.isSome = true := by rw [hr]; simp
  rw [if_neg hrs] at hh
  have hlp : (preT t).learner = some l := by unfold preT; split <;> simpa [bumpGen] using hl
  simp only [hlp] at hh
  refine ⟨?_, ?_, ?_⟩
  · intro hok
    rw [if_pos hok] at hh
    have := completeOk_events hh
    rw [(detachW_ev _ _).1, (detachW_ev _ _).2] at this
    exact this
  · intro hok hb
    rw [if_neg hok, if_pos hb] at hh
    by_cases hre : h.retry = true
    · rw [if_pos hre] at hh
      have := completeRetry_events hh
      rw [(detachW_ev _ _).1, (detachW_ev _ _).2] at this
      rw [if_pos hre]; exact this
    · rw [if_neg hre] at hh
      have := (finalize_ev hh).1
      rw [if_neg hre, this]
      show _ :: (detachW s (preT t)).events = _
      rw [(detachW_ev _ _).1]
  · intro hok hb
    have hb' : ¬ bw = true := by rw [hb]; simp
    rw [if_neg hok, if_neg hb'] at hh
    have := (finalize_ev hh).1
    rw [this]
    show _ :: (detachW s (preT t)).events = _
    rw [(detachW_ev _ _).1]


/-- `schedule` keeps the immutable fields of the task it schedules -/
theorem schedule_task {h : Hints} {s s' : State} {tid : Nat} {t : Task} (hh : schedule h s tid = .ok s')
    (ht : s.task? tid = some t) :
    ∃ t', s'.task? tid = some t' ∧ t'.background = t.background ∧ t'.doNotCache = t.doNotCache ∧
      t'.scq = t.scq ∧ t'.dkey = t.dkey := by
  obtain ⟨t0, ht0, hs'⟩ := schedule_ok hh
  rw [ht] at ht0; cases ht0
  rcases hs' with rfl | ⟨w, w2, rfl⟩
  all_goals
    simp only [task?_def, assignSt, State.setTask, setWorker_eq, wakeWorker]
    rw [alookup_aset]
    split
    · exact ⟨_, rfl, rfl, rfl, rfl, rfl⟩
    · exact ⟨t, ht, rfl, rfl, rfl, rfl⟩

/-- a background task is created only while fewer than `bgMax` background tasks are queued in
its size-class queue; it is a background, uncacheable task of that queue with the key of the
completed task -/
theorem bgPart_creates' {h : Hints} {Y s' : State} {t : Task} {i : Nat} (hh : bgPart h Y t i = .ok s')
    (hn : s'.nextTask ≠ Y.nextTask) :
    ∃ pq bsc, Y.pq? t.scq.pq = some pq ∧ countQueuedBackground Y ⟨t.scq.pq, bsc⟩ < pq.bgMax ∧
      s'.nextTask = Y.nextTask + 1 ∧
      ∃ t', s'.task? Y.nextTask = some t' ∧ t'.background = true ∧ t'.doNotCache = true ∧
        t'.scq = ⟨t.scq.pq, bsc⟩ ∧ t'.dkey = t.dkey := by
  rcases bgPart_ok hh with rfl | ⟨pq, bsc, hpq, hlt, hs⟩
  · exact absurd rfl hn
  · obtain ⟨ws, ts, asg, he⟩ := schedule_same hs
    obtain ⟨t', a, b, c, d, e⟩ := schedule_task hs (t := bgTask Y t ⟨t.scq.pq, bsc⟩)
      (by simp only [task?_def, bgSt]; rw [alookup_aset, if_pos rfl])
    exact ⟨pq, bsc, hpq, hlt, by rw [he]; rfl, t', a, b, c, d, e⟩

/-- a background task is created only while fewer than `bgMax` background tasks are queued
in its size-class queue -/
theorem bgPart_creates {h : Hints} {Y s' : State} {t : Task} {i : Nat} (hh : bgPart h Y t i = .ok s')
    (hn : s'.nextTask ≠ Y.nextTask) :
    ∃ pq bsc, Y.pq? t.scq.pq = some pq ∧ countQueuedBackground Y ⟨t.scq.pq, bsc⟩ < pq.bgMax ∧
      s'.nextTask = Y.nextTask + 1 := by
  obtain ⟨pq, bsc, a, b, c, _⟩ := bgPart_creates' hh hn
  exact ⟨pq, bsc, a, b, c⟩

end BbRe.Lemmas.SchedInv
