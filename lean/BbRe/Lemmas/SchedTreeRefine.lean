import BbRe.Model.SchedTree
import BbRe.Lemmas.SchedLiveProj
import BbRe.Lemmas.Basic.ExceptWp
/-!
Refinement of `Model/Sched.lean` by the tree layer `Model/SchedTree.lean`: every `t…` function, when it
succeeds, returns a state whose `Sched` projection is the result of the corresponding `Sched` function on
the projection of the input (with the same hints).  The tree layer only *adds* reasons to reject a segment
(a hand-out decision outside the admissible set computed from the tree; a contradiction between the tree and
the task/worker tables), it never changes what `Sched` does.

The same walk down each `t…` function shows that the ghost log `TState.decisions` runs in lockstep with
`Sched.State.assigned` (the ghost log of every assignment ever made to a real worker) and that every logged
decision was admissible for the tree it records (`LockStep`): `Sim` below carries both facts at once.
-/
namespace BbRe.Lemmas.SchedTree
open BbRe.Sched BbRe.SchedTree

/-- the tree-layer computation `x` refines the `Sched` computation `y` -/
def R (x : M TState) (y : M State) : Prop := ∀ ts', x = .ok ts' → y = .ok ts'.s

theorem pure_ok {α} (a : α) : (pure a : M α) = Except.ok a := rfl

/-- explore every path of a monadic definition unfolded in hypothesis `h`, dropping failing paths -/
macro "tpaths" h:ident : tactic => `(tactic| (
  simp only [bind, Except.bind, pure, Except.pure] at $h:ident
  repeat' split at $h:ident
  all_goals first
    | (simp at $h:ident; done)
    | (exfalso; exact ‹∀ _, some _ = some _ → False› _ rfl)
    | (exfalso; exact absurd ‹throw _ = Except.ok _› (by simp))
    | skip ))

/-! ### the tree-only updates leave the `Sched` component alone -/

@[simp] theorem setS_s (ts : TState) (s : State) : (ts.setS s).s = s := rfl
@[simp] theorem unparkTree_s (ts : TState) (q w) : (ts.unparkTree q w).s = ts.s := rfl
@[simp] theorem parkTree_s (ts : TState) (q w) : (ts.parkTree q w).s = ts.s := rfl
@[simp] theorem incOps_s (ts : TState) (t k) : (ts.incOps t k).s = ts.s := rfl
@[simp] theorem decOps_s (ts : TState) (t k) : (ts.decOps t k).s = ts.s := rfl
@[simp] theorem enqOps_s (ts : TState) (t) : (ts.enqOps t).s = ts.s := rfl
@[simp] theorem deqOps_s (ts : TState) (t) : (ts.deqOps t).s = ts.s := rfl
@[simp] theorem clearLast_s (ts : TState) (q w) : (ts.clearLast q w).s = ts.s := rfl
@[simp] theorem setLast_s (ts : TState) (tq q w p) : (ts.setLast tq q w p).s = ts.s := rfl
@[simp] theorem setSticks_s (ts : TState) (q w r) : (ts.setSticks q w r).s = ts.s := rfl
@[simp] theorem createOps_s (ts : TState) (t) : (ts.createOps t).s = ts.s := rfl
@[simp] theorem create_s (ts : TState) (q p) : (ts.create q p).s = ts.s := rfl
@[simp] theorem setOX_s (ts : TState) (o y) : (ts.setOX o y).s = ts.s := rfl
@[simp] theorem dropOX_s (ts : TState) (o) : (ts.dropOX o).s = ts.s := rfl
@[simp] theorem setTX_s (ts : TState) (t y) : (ts.setTX t y).s = ts.s := rfl
@[simp] theorem dropTX_s (ts : TState) (t) : (ts.dropTX t).s = ts.s := rfl
@[simp] theorem log_s (ts : TState) (d) : (ts.log d).s = ts.s := rfl
@[simp] theorem assignTree_s (ts : TState) (w t r) : (ts.assignTree w t r).s = ts.s := rfl
@[simp] theorem dropScqTree_s (ts : TState) (q) : (ts.dropScqTree q).s = ts.s := rfl
@[simp] theorem dropLimits_s (ts : TState) (q) : (ts.dropLimits q).s = ts.s := rfl
@[simp] theorem dropWorkerTree_s (ts : TState) (q w) : (ts.dropWorkerTree q w).s = ts.s := rfl
@[simp] theorem addScqTree_s (ts : TState) (q) : (ts.addScqTree q).s = ts.s := rfl
@[simp] theorem addWorkerTree_s (ts : TState) (q w) : (ts.addWorkerTree q w).s = ts.s := rfl
@[simp] theorem tWake_s (ts : TState) (w : Worker) : (tWake ts w).s = wakeWorker ts.s w := rfl

@[simp] theorem detachTree_s (ts : TState) (t : Task) (bw : Bool) : (ts.detachTree t bw).s = ts.s := by
  unfold TState.detachTree; split <;> rfl

@[simp] theorem removeOpTree_s (ts : TState) (t : Task) (o : Nat) : (ts.removeOpTree t o).s = ts.s := by
  unfold TState.removeOpTree; split <;> rfl

@[simp] theorem maybeDequeue_s (ts : TState) (wk : Worker) : (ts.maybeDequeue wk).s = ts.s := by
  unfold TState.maybeDequeue; split <;> rfl

theorem detachT_eq (t : Task) : detachT t = BbRe.Lemmas.SchedLive.detachT t := rfl
theorem detachW_eq (s : State) (t : Task) : detachW s t = BbRe.Lemmas.SchedLive.detachW s t := rfl


/-- the assignment a decision stands for -/
def dkey : Decision → ScqId × WId × Nat
  | .pick q w t _ _ _ _ => (q, w, t)
  | .handoff q w t _ _ => (q, w, t)

/-- the decision was in the admissible set computed from the tree it records -/
def DAdm : Decision → Prop
  | .pick _ _ _ tree view op retained => (op, retained) ∈ Fair.specPick tree view
  | .handoff q w _ nodes invs => w ∈ handoffAdm nodes q invs

/-- `ts'` extends `ts` by admissible decisions, one per new assignment -/
def LockStep (ts ts' : TState) : Prop :=
  ∃ ds : List Decision, ts'.decisions = ds ++ ts.decisions ∧ ts'.s.assigned = ds.map dkey ++ ts.s.assigned ∧
    ∀ d ∈ ds, DAdm d

theorem LockStep.refl (ts : TState) : LockStep ts ts := ⟨[], rfl, rfl, by simp⟩

theorem LockStep.trans {a b c : TState} (h1 : LockStep a b) (h2 : LockStep b c) : LockStep a c := by
  obtain ⟨d1, e1, f1, g1⟩ := h1
  obtain ⟨d2, e2, f2, g2⟩ := h2
  refine ⟨d2 ++ d1, by rw [e2, e1, List.append_assoc], by rw [f2, f1, List.map_append, List.append_assoc], ?_⟩
  intro d hd
  rcases List.mem_append.mp hd with h | h
  · exact g2 d h
  · exact g1 d h

/-- same decisions, same assignments -/
theorem LockStep.of_eq {ts ts' : TState} (hd : ts'.decisions = ts.decisions := by rfl)
    (ha : ts'.s.assigned = ts.s.assigned := by rfl) :
    LockStep ts ts' := ⟨[], by simpa using hd, by simpa using ha, by simp⟩

theorem LockStep.set {ts a b : TState} (h : LockStep ts a) (hd : b.decisions = a.decisions := by rfl)
    (ha : b.s.assigned = a.s.assigned := by rfl) : LockStep ts b := h.trans (LockStep.of_eq hd ha)

/-! ### the tree-only updates do not touch the log -/

@[simp] theorem setS_dec (ts : TState) (s : State) : (ts.setS s).decisions = ts.decisions := rfl
@[simp] theorem unparkTree_dec (ts : TState) (q w) : (ts.unparkTree q w).decisions = ts.decisions := rfl
@[simp] theorem parkTree_dec (ts : TState) (q w) : (ts.parkTree q w).decisions = ts.decisions := rfl
@[simp] theorem incOps_dec (ts : TState) (t k) : (ts.incOps t k).decisions = ts.decisions := rfl
@[simp] theorem decOps_dec (ts : TState) (t k) : (ts.decOps t k).decisions = ts.decisions := rfl
@[simp] theorem enqOps_dec (ts : TState) (t) : (ts.enqOps t).decisions = ts.decisions := rfl
@[simp] theorem deqOps_dec (ts : TState) (t) : (ts.deqOps t).decisions = ts.decisions := rfl
@[simp] theorem clearLast_dec (ts : TState) (q w) : (ts.clearLast q w).decisions = ts.decisions := rfl
@[simp] theorem setLast_dec (ts : TState) (tq q w p) : (ts.setLast tq q w p).decisions = ts.decisions := rfl
@[simp] theorem setSticks_dec (ts : TState) (q w r) : (ts.setSticks q w r).decisions = ts.decisions := rfl
@[simp] theorem createOps_dec (ts : TState) (t) : (ts.createOps t).decisions = ts.decisions := rfl
@[simp] theorem create_dec (ts : TState) (q p) : (ts.create q p).decisions = ts.decisions := rfl
@[simp] theorem setOX_dec (ts : TState) (o y) : (ts.setOX o y).decisions = ts.decisions := rfl
@[simp] theorem dropOX_dec (ts : TState) (o) : (ts.dropOX o).decisions = ts.decisions := rfl
@[simp] theorem setTX_dec (ts : TState) (t y) : (ts.setTX t y).decisions = ts.decisions := rfl
@[simp] theorem dropTX_dec (ts : TState) (t) : (ts.dropTX t).decisions = ts.decisions := rfl
@[simp] theorem log_dec (ts : TState) (d) : (ts.log d).decisions = d :: ts.decisions := rfl
@[simp] theorem assignTree_dec (ts : TState) (w t r) : (ts.assignTree w t r).decisions = ts.decisions := rfl
@[simp] theorem dropScqTree_dec (ts : TState) (q) : (ts.dropScqTree q).decisions = ts.decisions := rfl
@[simp] theorem dropLimits_dec (ts : TState) (q) : (ts.dropLimits q).decisions = ts.decisions := rfl
@[simp] theorem dropWorkerTree_dec (ts : TState) (q w) : (ts.dropWorkerTree q w).decisions = ts.decisions := rfl
@[simp] theorem addScqTree_dec (ts : TState) (q) : (ts.addScqTree q).decisions = ts.decisions := rfl
@[simp] theorem addWorkerTree_dec (ts : TState) (q w) : (ts.addWorkerTree q w).decisions = ts.decisions := rfl
@[simp] theorem tWake_dec (ts : TState) (w : Worker) : (tWake ts w).decisions = ts.decisions := rfl
@[simp] theorem detachTree_dec (ts : TState) (t : Task) (bw : Bool) : (ts.detachTree t bw).decisions = ts.decisions := by
  unfold TState.detachTree; split <;> rfl
@[simp] theorem removeOpTree_dec (ts : TState) (t : Task) (o : Nat) : (ts.removeOpTree t o).decisions = ts.decisions := by
  unfold TState.removeOpTree; split <;> rfl
@[simp] theorem maybeDequeue_dec (ts : TState) (wk : Worker) : (ts.maybeDequeue wk).decisions = ts.decisions := by
  unfold TState.maybeDequeue; split <;> rfl

/-! ### the setters of `Model/Sched.lean` leave `assigned` alone (the other updates: `Lemmas/SchedLiveProj.lean`) -/

@[simp] theorem emit_asg (s : State) (e : Event) : (emit s e).assigned = s.assigned := rfl
@[simp] theorem setTask_asg (s : State) (t : Task) : (s.setTask t).assigned = s.assigned := rfl
@[simp] theorem setOp_asg (s : State) (o : Op) : (s.setOp o).assigned = s.assigned := rfl
@[simp] theorem setWorker_asg (s : State) (w : Worker) : (s.setWorker w).assigned = s.assigned := rfl
@[simp] theorem setScq_asg (s : State) (q : Scq) : (s.setScq q).assigned = s.assigned := rfl
@[simp] theorem addCleanup_asg (s : State) (d : Nat) (k : CleanupKind) : (s.addCleanup d k).assigned = s.assigned := rfl
@[simp] theorem removeCleanup_asg (s : State) (k : CleanupKind) : (s.removeCleanup k).assigned = s.assigned := rfl
@[simp] theorem wakeWorker_asg (s : State) (w : Worker) : (wakeWorker s w).assigned = s.assigned := rfl

@[simp] theorem detachW_asg (s : State) (t : Task) : (detachW s t).assigned = s.assigned :=
  SchedLive.detachW_assigned s t

theorem finalizeS_asg (s : State) (t : Task) (r : Resp) : (SchedLive.finalizeS s t r).assigned = s.assigned := by
  unfold SchedLive.finalizeS
  rw [SchedLive.finishOps_assigned]
  unfold SchedLive.dropDedup
  split <;> rfl

/-! ### how a proof follows the shape of a computation

The `t…` functions repeat the `Sched` functions statement by statement, with tree updates and extra checks
in between.  The proofs walk down both at once with the rules of `Sim`; what a function of `Model/Sched.lean`
that the tree layer runs as it is does to `assigned` is a `Post`. -/

/-- `P` holds of the result of `x`, if there is one -/
def Post {α} (P : α → Prop) (x : M α) : Prop := wpE (fun _ => True) x P

theorem Post.throw {α} {P : α → Prop} {e : String} : Post P (throw e) := trivial

theorem Post.pure {α} {P : α → Prop} {a : α} (h : P a) : Post P (pure a) := h

theorem Post.ite {α} {P : α → Prop} {c : Prop} [Decidable c] {x1 x2 : M α} (h1 : Post P x1) (h2 : Post P x2) :
    Post P (if c then x1 else x2) :=
  wpE.ite h1 h2

/-- `x` refines `y` under the projection `π` of results, and the result of `x` satisfies `P`.  `R` above is the
first half for `π := TState.s`; `R2` below (a result with a flag) is the first half for `(ts, b) ↦ (ts.s, b)` with the
pair curried, and `tSyncQueue_ref` states it for `sproj`. -/
def Sim {α β} (π : α → β) (P : α → Prop) (x : M α) (y : M β) : Prop := ∀ a, x = .ok a → y = .ok (π a) ∧ P a

section
variable {α β α' β' γ : Type} {π : α → β} {ρ : α' → β'} {P P' : α → Prop} {Q : α' → Prop} {x x1 x2 : M α} {y y1 y2 : M β}

theorem Sim.rel {P : TState → Prop} {x : M TState} {y : M State} (h : Sim TState.s P x y) : R x y :=
  fun a hh => (h a hh).1

theorem Sim.mono (h : Sim π P x y) (hp : ∀ a, P a → P' a) : Sim π P' x y := fun a hh => ⟨(h a hh).1, hp a (h a hh).2⟩

theorem Sim.throw {e : String} : Sim π P (throw e) y := fun _ h => nomatch h

theorem Sim.pure {a : α} {b : β} (h : π a = b := by rfl) (hp : P a) : Sim π P (pure a) (pure b) := by
  intro _ hh; cases hh; rw [h]; exact ⟨rfl, hp⟩

theorem Sim.bind {f : α → M α'} {g : β → M β'} (hxy : Sim π P x y) (hfg : ∀ a, P a → Sim ρ Q (f a) (g (π a))) :
    Sim ρ Q (x >>= f) (y >>= g) := by
  intro a' hh
  cases x with
  | error e => cases hh
  | ok a => rw [(hxy a rfl).1]; exact hfg a (hxy a rfl).2 a' hh

/-- a computation `z` of `Model/Sched.lean` that the tree layer runs as it is; `R` is what is known of its result -/
theorem Sim.bindS {R : γ → Prop} {z : M γ} {f : γ → M α} {g : γ → M β} (hz : Post R z)
    (hfg : ∀ c, R c → Sim π P (f c) (g c)) : Sim π P (z >>= f) (z >>= g) := by
  intro a hh
  cases z with
  | error e => cases hh
  | ok c => exact hfg c hz a hh

/-- the tree layer runs `y` and then only wraps its result -/
theorem Sim.lift {R : β → Prop} {f : β → M α} (hy : Post R y) (hf : ∀ b, R b → Sim π P (f b) (Pure.pure b)) :
    Sim π P (y >>= f) y := by
  intro a hh
  cases y with
  | error e => cases hh
  | ok b => exact hf b hy a hh

theorem Sim.ite {c : Prop} [Decidable c] (h1 : Sim π P x1 y1) (h2 : Sim π P x2 y2) :
    Sim π P (if c then x1 else x2) (if c then y1 else y2) := by
  split
  · exact h1
  · exact h2

/-- a check that only the tree layer makes -/
theorem Sim.guard {c : Prop} [Decidable c] {e : String} (h : ¬ c → Sim π P x y) :
    Sim π P (if c then MonadExcept.throw e else x) y := by
  split
  · exact Sim.throw
  · exact h ‹_›

end

/-- `x` is run on a state `b` that differs from a successor `a` of `ts` in neither log -/
theorem Sim.lockFrom {β : Type} {π : TState → β} {ts a b : TState} {x : M TState} {y : M β} (hx : Sim π (LockStep b) x y)
    (h : LockStep ts a) (hd : b.decisions = a.decisions := by rfl) (ha : b.s.assigned = a.s.assigned := by rfl) :
    Sim π (LockStep ts) x y :=
  hx.mono fun _ hb => (h.set hd ha).trans hb

theorem LockStep.sim {ts a b : TState} {s : State} (h : LockStep ts a) (hs : b.s = s := by rfl)
    (hd : b.decisions = a.decisions := by rfl) (ha : b.s.assigned = a.s.assigned := by rfl) :
    Sim TState.s (LockStep ts) (Pure.pure b) (Pure.pure s) :=
  Sim.pure hs (h.set hd ha)

theorem ok_bind {α β} (a : α) (f : α → M β) : (Except.ok a >>= f) = f a := rfl

theorem none_of_forall {α} {o : Option α} (h : ∀ a, o = some a → False) : o = none := by
  cases o with
  | none => rfl
  | some a => exact absurd rfl (h a)

/-! ### of the functions of `Model/Sched.lean` only `assignTo` extends `assigned` -/

theorem finalize_asg {s : State} {t : Task} {r : Resp} : Post (·.assigned = s.assigned) (complete.finalize s t r) :=
  Post.pure (finalizeS_asg s t r)

theorem assignTo_asg {s : State} {w : Worker} {t : Task} :
    Post (·.assigned = (w.scq, w.id, t.id) :: s.assigned) (assignTo s w t) := by
  unfold assignTo
  exact Post.ite Post.throw <| Post.ite Post.throw <| Post.pure rfl

theorem streamSend_asg {s : State} {c o : Nat} : Post (·.assigned = s.assigned) (streamSend s c o) := by
  unfold streamSend
  obtain _ | op := s.op? o
  · exact Post.throw
  dsimp only
  obtain _ | t := s.task? op.task
  · exact Post.throw
  dsimp only
  obtain _ | r := t.response
  · exact Post.pure (by dsimp only [emit_asg])
  exact Post.ite Post.throw <| Post.pure ((SchedLive.maybeStartCleanup_assigned _ _).trans (by dsimp only [setOp_asg, emit_asg]))

theorem streamAttach_asg {s : State} {c o : Nat} : Post (·.assigned = s.assigned) (streamAttach s c o) := by
  unfold streamAttach
  cases s.op? o with
  | none => exact Post.throw
  | some op => exact streamSend_asg

theorem streamLeave_asg {s : State} {c code : Nat} : Post (·.assigned = s.assigned) (streamLeave s c code) := by
  unfold streamLeave
  generalize List.find? _ s.streams = o
  obtain _ | st := o
  · exact Post.throw
  dsimp only
  obtain _ | op := s.op? st.op
  · exact Post.throw
  exact Post.ite Post.throw <| Post.pure ((SchedLive.maybeStartCleanup_assigned _ _).trans (by dsimp only [setOp_asg]))

theorem execResponse_asg {s : State} {w : Worker} : Post (·.assigned = s.assigned) (execResponse s w) := by
  unfold execResponse
  obtain _ | tid := w.task
  · exact Post.throw
  dsimp only
  cases s.task? tid with
  | none => exact Post.throw
  | some t => exact Post.pure rfl

theorem termWake_asg {s : State} {id reason : Nat} : Post (·.assigned = s.assigned) (termWake s id reason) := by
  unfold termWake
  generalize List.find? _ s.terms = o
  obtain _ | tc := o
  · exact Post.throw
  · exact Post.ite (Post.pure rfl) <| Post.ite Post.throw <| Post.pure rfl

/-- the state in either component -/
def sumS : State ⊕ State → State
  | .inl s => s
  | .inr s => s

theorem syncQueue_asg {s : State} {q : ScqId} {comps : List Nat} {platform : Nat} {w : WId} :
    Post (fun r => (sumS r).assigned = s.assigned) (syncQueue s q comps platform w) := by
  unfold syncQueue
  cases s.scq? q with
  | some _ => exact Post.pure rfl
  | none =>
    obtain _ | _ := s.pq? q.pq
    · exact Post.pure rfl
    dsimp only
    obtain _ | maxSc := (s.sizes q.pq).getLast?
    · exact Post.throw
    dsimp only
    obtain _ | maxQ := s.scq? ⟨q.pq, maxSc⟩
    · exact Post.throw
    exact Post.ite (Post.pure rfl) <| Post.ite (Post.pure rfl) <|
      Post.ite (Post.pure rfl) <| Post.pure rfl

theorem syncWorker_asg (s : State) (q : ScqId) (w : WId) : (sumS (syncWorker s q w)).assigned = s.assigned := by
  unfold syncWorker
  cases s.worker? q w with
  | none => rfl
  | some wk => dsimp only; split <;> rfl

/-! ### `assignUnqueuedTask`, `schedule` -/

theorem tAssignTo_sim {ts : TState} {w : Worker} {t : Task} {r : Nat} :
    Sim TState.s (fun ts' => ts'.decisions = ts.decisions ∧ ts'.s.assigned = (w.scq, w.id, t.id) :: ts.s.assigned)
      (tAssignTo ts w t r) (assignTo ts.s w t) :=
  Sim.lift assignTo_asg fun _ hs => Sim.pure rfl ⟨rfl, hs⟩

theorem worker?_key {s : State} {q : ScqId} {i : WId} {wk : Worker} (h : s.worker? q i = some wk) :
    wk.scq = q ∧ wk.id = i := by
  unfold State.worker? at h
  have := List.find?_some h
  simpa using this

theorem hintedWorker_scq {h : Hints} {s : State} {t : Task} {w : Worker} (hh : hintedWorker h s t = some w) :
    w.scq = t.scq := by
  unfold hintedWorker at hh
  split at hh
  · rename_i a ha
    have h1 := List.find?_some ha
    have h2 := worker?_key hh
    simp at h1
    rw [h2.1, h1.2]
  · cases hh

section
variable {h : Hints} {x : Extras} {ts : TState}

theorem tSchedule_sim {tid : Nat} : Sim TState.s (LockStep ts) (tSchedule h ts tid) (schedule h ts.s tid) := by
  unfold tSchedule schedule
  obtain _ | t := ts.s.task? tid
  · exact Sim.throw
  refine Sim.ite ?_ (Sim.guard fun _ => Sim.pure rfl LockStep.of_eq)
  cases hw : hintedWorker h ts.s t with
  | none => exact Sim.throw
  | some w =>
    dsimp only [tWake_s, log_s]
    refine Sim.ite Sim.throw (Sim.guard fun hadm => ?_)
    cases hw2 : (wakeWorker ts.s w).worker? w.scq w.id with
    | none => exact Sim.throw
    | some w2 =>
      refine tAssignTo_sim.mono fun ts' ⟨hd, ha⟩ => ?_
      refine ⟨[.handoff w.scq w.id t.id ts.nodes (t.ops.map ts.invOf)], hd, ?_, ?_⟩
      · rw [ha, (worker?_key hw2).1, (worker?_key hw2).2]; rfl
      · intro d hd'
        cases List.mem_singleton.mp hd'
        show w.id ∈ handoffAdm ts.nodes w.scq _
        rw [hintedWorker_scq hw]
        simpa using hadm

theorem tSchedule_ref (h : Hints) (ts : TState) (tid : Nat) : R (tSchedule h ts tid) (schedule h ts.s tid) :=
  tSchedule_sim.rel

/-! ### `complete` -/

theorem tCompleteSucc_sim {t : Task} {l : Nat} {r : Resp} :
    Sim TState.s (LockStep ts) (tCompleteSucc h x ts t l r) (SchedLive.completeSucc h ts.s t l r) := by
  unfold tCompleteSucc SchedLive.completeSucc
  dsimp only [SchedLive.finalize_eq, ok_bind]
  generalize hs1 : SchedLive.finalizeS _ _ r = s1
  have hf : s1.assigned = ts.s.assigned := hs1 ▸ finalizeS_asg _ _ _
  obtain _ | bgIdx := h.bg
  · exact Sim.pure rfl (LockStep.of_eq rfl hf)
  generalize State.pq? _ _ = o
  obtain _ | pq := o
  · exact Sim.throw
  refine Sim.ite (Sim.pure rfl (LockStep.of_eq rfl hf)) ?_
  generalize (State.sizes _ _ : List Nat)[(_ : Nat)]? = o
  obtain _ | bsc := o
  · exact Sim.throw
  exact Sim.guard fun _ => Sim.ite (Sim.pure rfl (LockStep.of_eq rfl hf)) <|
    tSchedule_sim.lockFrom (LockStep.refl ts) rfl hf

theorem tCompleteRetry_sim {t : Task} {l : Nat} {r : Resp} :
    Sim TState.s (LockStep ts) (tCompleteRetry h x ts t l r) (SchedLive.completeRetry h ts.s t l r) := by
  unfold tCompleteRetry SchedLive.completeRetry
  refine Sim.bind (tSchedule_sim.lockFrom (LockStep.refl ts)) (fun a ha => ?_)
  generalize State.task? _ _ = o
  obtain _ | t1 := o
  · exact Sim.throw
  · exact ha.sim

theorem tComplete_sim {tid : Nat} {r : Resp} {bw : Bool} :
    Sim TState.s (LockStep ts) (tComplete h x ts tid r bw) (complete h ts.s tid r bw) := by
  unfold tComplete
  rw [SchedLive.complete_eq]
  obtain _ | t := ts.s.task? tid
  · exact Sim.throw
  refine Sim.ite (Sim.pure rfl (LockStep.refl _)) ?_
  obtain _ | l := t.learner
  · exact Sim.throw
  have fin {s : State} {t' : Task} (hs : s.assigned = ts.s.assigned) : Sim TState.s (LockStep ts) (do
      let s' ← complete.finalize s t' r
      pure (((ts.detachTree t bw).setS (detachW ts.s t)).setS s')) (complete.finalize s t' r) :=
    Sim.lift finalize_asg fun s' hs' => Sim.pure rfl (LockStep.of_eq (detachTree_dec _ _ _) (hs'.trans hs))
  refine Sim.ite ?_ <| Sim.ite (Sim.ite ?_ (fin (detachW_asg _ _))) (fin (detachW_asg _ _))
  · exact tCompleteSucc_sim.lockFrom (LockStep.refl ts) (detachTree_dec _ _ _) (detachW_asg _ _)
  · exact tCompleteRetry_sim.lockFrom (LockStep.refl ts) (detachTree_dec _ _ _) (detachW_asg _ _)

theorem tComplete_ref (h : Hints) (x : Extras) (ts : TState) (tid : Nat) (r : Resp) (bw : Bool) :
    R (tComplete h x ts tid r bw) (complete h ts.s tid r bw) :=
  tComplete_sim.rel

/-! ### cleanup callbacks -/

theorem tRemoveOp_sim {o : Nat} : Sim TState.s (LockStep ts) (tRemoveOp h x ts o) (removeOp h ts.s o) := by
  unfold tRemoveOp removeOp
  obtain _ | op := ts.s.op? o
  · exact Sim.pure rfl (LockStep.refl _)
  dsimp only [setS_s]
  generalize State.task? _ _ = ot
  obtain _ | t := ot
  · exact Sim.throw
  refine Sim.ite (Sim.bind (tComplete_sim.lockFrom (LockStep.refl ts)) fun a ha => ?_)
    (Sim.bind (Sim.pure (removeOpTree_s _ _ _) (LockStep.of_eq (removeOpTree_dec _ _ _)
      (congrArg State.assigned (removeOpTree_s _ _ _)))) fun a ha => ?_)
  all_goals
    generalize State.task? _ _ = ot
    obtain _ | t1 := ot
    · exact Sim.throw
    · exact Sim.ite ha.sim ha.sim

theorem tRemoveOp_ref (h : Hints) (x : Extras) (ts : TState) (o : Nat) : R (tRemoveOp h x ts o) (removeOp h ts.s o) :=
  tRemoveOp_sim.rel

theorem foldlM_sim {β} (l : List β) (f : TState → β → M TState) (g : State → β → M State)
    (hf : ∀ ts a, Sim TState.s (LockStep ts) (f ts a) (g ts.s a)) :
    ∀ ts, Sim TState.s (LockStep ts) (l.foldlM f ts) (l.foldlM g ts.s) := by
  induction l with
  | nil => intro ts; exact Sim.pure rfl (LockStep.refl _)
  | cons a l ih => intro ts; exact Sim.bind (hf ts a) fun b hb => (ih b).lockFrom hb

theorem tCancelAllQueued_sim {q : ScqId} {r : Resp} :
    Sim TState.s (LockStep ts) (tCancelAllQueued h x ts q r) (cancelAllQueued h ts.s q r) := by
  unfold tCancelAllQueued cancelAllQueued
  exact foldlM_sim _ _ _ (fun _ _ => tComplete_sim) ts

theorem tCancelAllQueued_ref (h : Hints) (x : Extras) (ts : TState) (q : ScqId) (r : Resp) :
    R (tCancelAllQueued h x ts q r) (cancelAllQueued h ts.s q r) :=
  tCancelAllQueued_sim.rel

theorem tRemoveScq_sim {q : ScqId} : Sim TState.s (LockStep ts) (tRemoveScq h x ts q) (removeScq h ts.s q) := by
  unfold tRemoveScq removeScq
  exact Sim.bind tCancelAllQueued_sim fun a ha => Sim.guard fun _ => Sim.ite ha.sim ha.sim

theorem tRemoveScq_ref (h : Hints) (x : Extras) (ts : TState) (q : ScqId) : R (tRemoveScq h x ts q) (removeScq h ts.s q) :=
  tRemoveScq_sim.rel

theorem tRemoveStaleWorker_sim {q : ScqId} {w : WId} {rt : Nat} :
    Sim TState.s (LockStep ts) (tRemoveStaleWorker h x ts q w rt) (removeStaleWorker h ts.s q w rt) := by
  unfold tRemoveStaleWorker removeStaleWorker
  obtain _ | wk := ts.s.worker? q w
  · exact Sim.pure rfl (LockStep.refl _)
  dsimp only
  refine Sim.guard fun _ => ?_
  obtain _ | t := wk.task
  case' none => refine Sim.bind (Sim.pure rfl (LockStep.refl ts)) (fun a ha => ?_)
  case' some => refine Sim.bind tComplete_sim (fun a ha => ?_)
  all_goals
    generalize State.scq? _ q = o
    obtain _ | sq := o
    · exact ha.sim
    · exact Sim.ite ha.sim ha.sim

theorem tRemoveStaleWorker_ref (h : Hints) (x : Extras) (ts : TState) (q : ScqId) (w : WId) (rt : Nat) :
    R (tRemoveStaleWorker h x ts q w rt) (removeStaleWorker h ts.s q w rt) :=
  tRemoveStaleWorker_sim.rel

theorem tRunCleanup_sim : ∀ (fuel : Nat) (ts : TState),
    Sim TState.s (LockStep ts) (tRunCleanup h x fuel ts) (runCleanup h fuel ts.s) := by
  intro fuel
  induction fuel with
  | zero => intro ts; exact Sim.pure rfl (LockStep.refl _)
  | succ n ih =>
    intro ts
    unfold tRunCleanup runCleanup
    obtain _ | er := popDue ts.s.now ts.s.cleanup
    · exact Sim.pure rfl (LockStep.refl _)
    obtain ⟨e, rest⟩ := er
    dsimp only
    cases e.kind with
    | worker q w => exact Sim.bind (tRemoveStaleWorker_sim.lockFrom (LockStep.refl ts)) fun a ha => (ih a).lockFrom ha
    | op o => exact Sim.bind (tRemoveOp_sim.lockFrom (LockStep.refl ts)) fun a ha => (ih a).lockFrom ha
    | scq q => exact Sim.bind (tRemoveScq_sim.lockFrom (LockStep.refl ts)) fun a ha => (ih a).lockFrom ha

theorem tEnter_sim {t : Nat} : Sim TState.s (LockStep ts) (tEnter h x ts t) (enter h ts.s t) := by
  unfold tEnter enter
  exact Sim.ite ((tRunCleanup_sim _ _).lockFrom (LockStep.refl ts)) (Sim.pure rfl (LockStep.refl _))

theorem tEnter_ref (h : Hints) (x : Extras) (ts : TState) (t : Nat) : R (tEnter h x ts t) (enter h ts.s t) :=
  tEnter_sim.rel

/-! ### RPC segments -/

theorem tExecArrive_sim {now c digest dkey : Nat} {dnc : Bool} {comps : List Nat} {platform : Nat} {inv : List Nat}
    {prio : Int} :
    Sim TState.s (LockStep ts) (tExecArrive h x ts now c digest dkey dnc comps platform inv prio)
      (execArrive h ts.s now c digest dkey dnc comps platform inv prio) := by
  unfold tExecArrive execArrive tExecDedup
  refine Sim.bind tEnter_sim (fun a ha => ?_)
  dsimp only
  cases alookup dkey a.s.dedup with
  | some tid =>
    dsimp only
    obtain _ | t := a.s.task? tid
    · exact Sim.throw
    dsimp only
    generalize List.find? _ t.ops = of
    obtain _ | o := of
    · refine Sim.ite Sim.throw <| Sim.lift streamAttach_asg fun s' hs' =>
        ha.sim rfl ?_ (hs'.trans (by dsimp only [setTask_asg, setOp_asg, emit_asg, create_s]))
      rcases t.worker with _ | ⟨_, _⟩ <;> rfl
    · exact Sim.lift streamAttach_asg fun s' hs' => ha.sim rfl rfl (hs'.trans (by dsimp only [emit_asg, create_s]))
  | none =>
    obtain _ | pq := route a.s comps platform
    · exact ha.sim rfl rfl (by dsimp only [setS_s, emit_asg])
    dsimp only
    generalize (State.sizes _ _ : List Nat)[(_ : Nat)]? = o
    obtain _ | sc := o
    · exact Sim.throw
    · refine Sim.bind (tSchedule_sim.lockFrom ha rfl ?_) fun b hb =>
        Sim.lift streamAttach_asg fun s' hs' => hb.sim rfl rfl hs'
      simp only [create_s, setS_s, setOp_asg, setTask_asg]
      split <;> rfl

theorem tWaitArrive_sim {now c name : Nat} :
    Sim TState.s (LockStep ts) (tWaitArrive h x ts now c name) (waitArrive h ts.s now c name) := by
  unfold tWaitArrive waitArrive
  refine Sim.bind tEnter_sim (fun a ha => ?_)
  cases a.s.op? name with
  | none => exact ha.sim
  | some _ => exact Sim.lift streamAttach_asg fun s' hs' => ha.sim rfl rfl hs'

theorem tStreamWake_sim {now c reason : Nat} :
    Sim TState.s (LockStep ts) (tStreamWake h x ts now c reason) (streamWake h ts.s now c reason) := by
  unfold tStreamWake streamWake
  refine Sim.bind tEnter_sim (fun a ha => ?_)
  dsimp only
  generalize List.find? _ a.s.streams = o
  obtain _ | st := o
  · exact Sim.throw
  have send : Sim TState.s (LockStep ts) (do let s' ← streamSend a.s c st.op; pure (a.setS s')) (streamSend a.s c st.op) :=
    Sim.lift streamSend_asg fun s' hs' => ha.sim rfl rfl hs'
  refine Sim.ite (Sim.lift streamLeave_asg fun s' hs' => ha.sim rfl rfl hs') <| Sim.ite ?_ send
  obtain _ | op := a.s.op? st.op
  · exact Sim.throw
  dsimp only
  cases a.s.task? op.task with
  | none => exact Sim.throw
  | some t => exact Sim.ite Sim.throw send

theorem choosePick_mem {x : Extras} {adm : List (Fair.Op × Nat)} {t : Task} {c : Fair.Op × Nat}
    (h : choosePick x adm t = some c) : c ∈ adm := by
  unfold choosePick at h
  dsimp only at h
  suffices c ∈ adm.filter (fun c => t.ops.contains c.1.id) from (List.mem_filter.mp this).1
  split at h
  · split at h
    · cases h; exact List.mem_of_find?_eq_some ‹_›
    · exact List.mem_of_mem_head? h
  · exact List.mem_of_mem_head? h

theorem tAssignNext_sim {w : Worker} :
    Sim (fun p : TState × Bool => (p.1.s, p.2)) (fun p => LockStep ts p.1) (tAssignNext h x ts w) (assignNext h ts.s w) := by
  unfold tAssignNext assignNext
  generalize List.find? _ h.assign = oa
  obtain _ | a := oa
  · exact Sim.ite (Sim.guard fun _ => Sim.pure rfl (LockStep.refl _)) Sim.throw
  dsimp only
  generalize List.find? _ (queuedTasks ts.s w.scq) = ot
  obtain _ | t := ot
  · exact Sim.throw
  dsimp only
  cases hc : choosePick x (ts.admPick w) t with
  | none => exact Sim.throw
  | some c =>
    refine Sim.bind tAssignTo_sim (fun b ⟨hd, hasg⟩ => ?_)
    dsimp only [deqOps_s]
    obtain _ | t1 := b.s.task? t.id
    · exact Sim.throw
    refine Sim.pure rfl ⟨[.pick w.scq w.id t.id (snapshot ts.opOf ts.nodes w.scq) (ts.view w) c.1 c.2], hd, hasg, ?_⟩
    intro d hd'
    cases List.mem_singleton.mp hd'
    exact choosePick_mem hc

/-- refinement for computations that also return a flag -/
def R2 (x : M (TState × Bool)) (y : M (State × Bool)) : Prop := ∀ ts' b, x = .ok (ts', b) → y = .ok (ts'.s, b)

theorem tAssignNext_ref (h : Hints) (x : Extras) (ts : TState) (w : Worker) :
    R2 (tAssignNext h x ts w) (assignNext h ts.s w) :=
  fun a b hh => (tAssignNext_sim (a, b) hh).1

theorem tGetNextTask_sim {q : ScqId} {w : WId} {pi bl : Bool} :
    Sim TState.s (LockStep ts) (tGetNextTask h x ts q w pi bl) (getNextTask h ts.s q w pi bl) := by
  unfold tGetNextTask getNextTask
  obtain _ | wk := ts.s.worker? q w
  · exact Sim.throw
  obtain _ | sq := ts.s.scq? q
  · exact Sim.throw
  refine Sim.ite (Sim.pure rfl (LockStep.of_eq rfl (SchedLive.syncReturn_assigned _ _ _))) <| Sim.ite ?_ <|
    Sim.ite (Sim.pure rfl (LockStep.of_eq rfl (SchedLive.syncReturn_assigned _ _ _))) (Sim.pure rfl LockStep.of_eq)
  refine Sim.bind tAssignNext_sim (fun p hp => ?_)
  obtain ⟨a, got⟩ := p
  dsimp only at hp ⊢
  refine Sim.ite ?_ <| Sim.ite (hp.sim rfl rfl (SchedLive.syncReturn_assigned _ _ _)) <| ?_
  all_goals
    cases a.s.worker? q w with
    | none => exact Sim.throw
    | some wk1 => ?_
  · exact Sim.bindS execResponse_asg fun s' hs' => hp.sim rfl rfl ((SchedLive.syncReturn_assigned _ _ _).trans hs')
  · exact Sim.ite Sim.throw hp.sim

theorem tGetCurrentOrNext_sim {q : ScqId} {w : WId} {pi bl : Bool} :
    Sim TState.s (LockStep ts) (tGetCurrentOrNext h x ts q w pi bl) (getCurrentOrNext h ts.s q w pi bl) := by
  unfold tGetCurrentOrNext getCurrentOrNext
  dsimp only
  obtain _ | wk := ts.s.worker? q w
  · exact Sim.throw
  dsimp only
  obtain _ | tid := wk.task
  · exact tGetNextTask_sim
  dsimp only
  obtain _ | t := ts.s.task? tid
  · exact Sim.throw
  exact Sim.ite (Sim.pure rfl (LockStep.of_eq rfl (SchedLive.syncReturn_assigned _ _ _))) <|
    Sim.bind tComplete_sim fun a ha => tGetNextTask_sim.lockFrom ha

def sproj : TState ⊕ TState → State ⊕ State
  | .inl ts => .inl ts.s
  | .inr ts => .inr ts.s

/-- the state in either component -/
def sumT : TState ⊕ TState → TState
  | .inl t => t
  | .inr t => t

theorem tSyncQueue_sim {q : ScqId} {comps : List Nat} {platform : Nat} {w : WId} :
    Sim sproj (fun r => LockStep ts (sumT r)) (tSyncQueue ts q comps platform w) (syncQueue ts.s q comps platform w) := by
  unfold tSyncQueue
  refine Sim.lift syncQueue_asg fun r hr => ?_
  obtain s | s := r
  · exact Sim.pure rfl (LockStep.of_eq rfl hr)
  · dsimp only
    split <;> exact Sim.pure rfl (LockStep.of_eq rfl hr)

theorem tSyncQueue_ref (ts : TState) (q : ScqId) (comps : List Nat) (platform : Nat) (w : WId) (r : TState ⊕ TState)
    (hh : tSyncQueue ts q comps platform w = .ok r) : syncQueue ts.s q comps platform w = .ok (sproj r) :=
  (tSyncQueue_sim r hh).1

theorem tSyncWorker_sim (ts : TState) (q : ScqId) (w : WId) :
    syncWorker ts.s q w = sproj (tSyncWorker ts q w) ∧ LockStep ts (sumT (tSyncWorker ts q w)) := by
  have h1 := syncWorker_asg ts.s q w
  unfold tSyncWorker
  generalize syncWorker ts.s q w = r at h1 ⊢
  obtain s | s := r
  · exact ⟨rfl, LockStep.of_eq rfl h1⟩
  · dsimp only
    split <;> exact ⟨rfl, LockStep.of_eq rfl h1⟩

theorem tSyncWorker_ref (ts : TState) (q : ScqId) (w : WId) : syncWorker ts.s q w = sproj (tSyncWorker ts q w) :=
  (tSyncWorker_sim ts q w).1

theorem tSyncArrive_sim {now : Nat} {q : ScqId} {comps : List Nat} {platform : Nat} {w : WId} {rep : Report} {pi : Bool} :
    Sim TState.s (LockStep ts) (tSyncArrive h x ts now q comps platform w rep pi)
      (syncArrive h ts.s now q comps platform w rep pi) := by
  unfold tSyncArrive syncArrive
  refine Sim.bind tEnter_sim fun a ha => Sim.bind tSyncQueue_sim fun r hr => ?_
  obtain b | b := r
  · exact Sim.pure rfl (ha.trans hr)
  have hb : LockStep ts b := ha.trans hr
  obtain ⟨hw, hl⟩ := tSyncWorker_sim b q w
  dsimp only [sproj]
  rw [hw]
  generalize tSyncWorker b q w = r2 at hl ⊢
  obtain c | c := r2
  · exact Sim.pure rfl (hb.trans hl)
  have hc : LockStep ts c := hb.trans hl
  have next {bl : Bool} : Sim TState.s (LockStep ts) (tGetCurrentOrNext h x c q w pi bl) (getCurrentOrNext h c.s q w pi bl) :=
    tGetCurrentOrNext_sim.lockFrom hc
  dsimp only [sproj]
  obtain _ | wk := c.s.worker? q w
  · exact Sim.throw
  -- `+instances`: the `Decidable` instance of `if runningCorrect d` still holds the unreduced `let`
  dsimp +instances only
  cases rep with
  | malformed => exact hc.sim rfl rfl (SchedLive.syncReturn_assigned _ _ _)
  | idle => exact next
  | executing d =>
    dsimp only
    obtain _ | tid := wk.task
    · exact next
    dsimp +instances only
    obtain _ | t := c.s.task? tid
    · exact next
    simp only [decide_eq_true_eq]
    exact Sim.ite (hc.sim rfl rfl (SchedLive.syncReturn_assigned _ _ _)) next
  | completed d r =>
    obtain _ | tid := wk.task
    · exact next
    dsimp +instances only
    obtain _ | t := c.s.task? tid
    · exact next
    simp only [decide_eq_true_eq]
    exact Sim.ite (Sim.bind (tComplete_sim.lockFrom hc) fun e he => tGetNextTask_sim.lockFrom he) next

theorem tSyncWake_sim {now : Nat} {q : ScqId} {w : WId} {reason : Nat} :
    Sim TState.s (LockStep ts) (tSyncWake h x ts now q w reason) (syncWake h ts.s now q w reason) := by
  unfold tSyncWake syncWake
  refine Sim.bind tEnter_sim (fun a ha => ?_)
  dsimp only
  obtain _ | wk := a.s.worker? q w
  · exact Sim.throw
  refine Sim.ite Sim.throw ?_
  match reason with
  | 0 =>
    refine Sim.ite Sim.throw <| Sim.ite ?_ <| tGetNextTask_sim.lockFrom ha
    exact Sim.bindS execResponse_asg fun s' hs' => ha.sim rfl rfl ((SchedLive.syncReturn_assigned _ _ _).trans hs')
  | 1 =>
    refine Sim.ite ?_ <| ha.sim rfl (maybeDequeue_dec _ _) (SchedLive.syncReturn_assigned _ _ _)
    exact Sim.bindS execResponse_asg fun s' hs' =>
      ha.sim rfl (maybeDequeue_dec _ _) ((SchedLive.syncReturn_assigned _ _ _).trans hs')
  | 2 => exact ha.sim rfl (maybeDequeue_dec _ _) (SchedLive.syncReturn_assigned _ _ _)
  | 3 =>
    obtain _ | sq := a.s.scq? q
    · exact Sim.throw
    cases wk.drainWait with
    | none => exact Sim.throw
    | some g => exact Sim.ite Sim.throw <| tGetNextTask_sim.lockFrom ha
  | n + 4 => exact Sim.throw

theorem tKillOp_sim {now name code : Nat} :
    Sim TState.s (LockStep ts) (tKillOp h x ts now name code) (killOp h ts.s now name code) := by
  unfold tKillOp killOp
  refine Sim.bind tEnter_sim (fun a ha => ?_)
  cases a.s.op? name with
  | none => exact ha.sim
  | some op => exact Sim.bind (tComplete_sim.lockFrom ha) fun b hb => hb.sim

theorem tKillQueue_sim {now : Nat} {q : ScqId} {code : Nat} :
    Sim TState.s (LockStep ts) (tKillQueue h x ts now q code) (killQueue h ts.s now q code) := by
  unfold tKillQueue killQueue
  refine Sim.bind tEnter_sim (fun a ha => ?_)
  obtain _ | _ := a.s.scq? q
  · exact ha.sim
  exact Sim.ite ha.sim <| Sim.bind (tCancelAllQueued_sim.lockFrom ha) fun b hb => hb.sim

theorem tRemoveDrain_sim {now : Nat} {q : ScqId} {p : Pattern} :
    Sim TState.s (LockStep ts) (tRemoveDrain h x ts now q p) (removeDrain h ts.s now q p) := by
  unfold tRemoveDrain removeDrain
  refine Sim.bind tEnter_sim (fun a ha => ?_)
  cases a.s.scq? q with
  | none => exact ha.sim
  | some _ => exact ha.sim

theorem tTermWake_sim {id reason : Nat} : Sim TState.s (LockStep ts) (tTermWake ts id reason) (termWake ts.s id reason) :=
  Sim.lift termWake_asg fun _ hs' => Sim.pure rfl (LockStep.of_eq rfl hs')

/-- a loop of the tree layer over a loop of `Model/Sched.lean` -/
theorem foldl_sim {β} (l : List β) (f : TState → β → TState) (g : State → β → State)
    (hfg : ∀ ts b, (f ts b).s = g ts.s b ∧ LockStep ts (f ts b)) :
    ∀ ts, (l.foldl f ts).s = l.foldl g ts.s ∧ LockStep ts (l.foldl f ts) := by
  induction l with
  | nil => intro ts; exact ⟨rfl, LockStep.refl _⟩
  | cons b l ih =>
    intro ts
    simp only [List.foldl_cons]
    rw [← (hfg ts b).1]
    exact ⟨(ih _).1, (hfg ts b).2.trans (ih _).2⟩

theorem tAddDrain_sim {now : Nat} {q : ScqId} {p : Pattern} :
    Sim TState.s (LockStep ts) (tAddDrain h x ts now q p) (addDrain h ts.s now q p) := by
  unfold tAddDrain addDrain
  refine Sim.bind tEnter_sim (fun a ha => ?_)
  obtain _ | sq := a.s.scq? q
  · exact ha.sim
  obtain ⟨hs, hl⟩ := foldl_sim a.s.workers
    (fun ts w => if w.scq = q ∧ w.parked ∧ p.matches w.id then tWake ts w else ts)
    (fun s w => if w.scq = q ∧ w.parked ∧ p.matches w.id then wakeWorker s w else s)
    (fun b wk => by
      split
      · exact ⟨rfl, LockStep.of_eq⟩
      · exact ⟨rfl, LockStep.refl _⟩)
    (a.setS (a.s.setScq { sq with drains := if sq.drains.contains p then sq.drains else sq.drains ++ [p] }))
  exact (ha.set.trans hl).sim (congrArg (emit · Event.opOk) hs)

/-- one iteration of the loop of `Sched.terminate` -/
def terminateOne (s : State) (w : Worker) : State :=
  match s.worker? w.scq w.id with
  | some w =>
    let s := s.setWorker { w with terminating := true }
    if w.task.isNone ∧ w.parked then
      match s.worker? w.scq w.id with | some w' => wakeWorker s w' | none => s
    else s
  | none => s

theorem tTerminateOne_sim (ts : TState) (w : Worker) :
    (tTerminateOne ts w).s = terminateOne ts.s w ∧ LockStep ts (tTerminateOne ts w) := by
  unfold tTerminateOne terminateOne
  cases ts.s.worker? w.scq w.id with
  | none => exact ⟨rfl, LockStep.refl _⟩
  | some wk =>
    dsimp only [setS_s]
    split
    · generalize State.worker? _ _ _ = o
      cases o <;> exact ⟨rfl, LockStep.of_eq⟩
    · exact ⟨rfl, LockStep.of_eq⟩

theorem tTerminate_sim {now id : Nat} {p : Pattern} :
    Sim TState.s (LockStep ts) (tTerminate h x ts now id p) (terminate h ts.s now id p) := by
  unfold tTerminate terminate
  refine Sim.bind tEnter_sim (fun a ha => ?_)
  dsimp only
  obtain ⟨hs, hl⟩ := foldl_sim (a.s.workers.filter fun w => p.matches w.id) _ _ tTerminateOne_sim a
  rw [hs]
  have hasg := congrArg State.assigned hs.symm
  exact Sim.ite ((ha.trans hl).sim rfl rfl hasg) ((ha.trans hl).sim rfl rfl hasg)

end

theorem tRegisterPQ_s (x : Extras) (ts : TState) (id : Nat) (comps : List Nat) (platform : Nat) (sizes : List Nat)
    (bgMax : Nat) (bgPrio : Int) :
    (tRegisterPQ x ts id comps platform sizes bgMax bgPrio).s = registerPQ ts.s id comps platform sizes bgMax bgPrio := rfl

theorem tstep_sim {ts : TState} {g : TSeg} : Sim TState.s (LockStep ts) (tstep ts g) (step ts.s g.seg) := by
  obtain ⟨seg, x⟩ := g
  cases seg with
  | register =>
    unfold tstep step
    dsimp only
    split
    · exact Sim.pure rfl LockStep.of_eq
    · exact Sim.throw
  | exec => exact tExecArrive_sim
  | wait => exact tWaitArrive_sim
  | streamWake => exact tStreamWake_sim
  | sync => exact tSyncArrive_sim
  | syncWake => exact tSyncWake_sim
  | killOp => exact tKillOp_sim
  | killQueue => exact tKillQueue_sim
  | addDrain => exact tAddDrain_sim
  | removeDrain => exact tRemoveDrain_sim
  | terminate => exact tTerminate_sim
  | termWake => exact tTermWake_sim
  | touch => exact tEnter_sim

/-- **Refinement.**  A step of the tree layer projects onto the step of `Model/Sched.lean` with the same
segment (same hints: the choice made). -/
theorem tstep_ref (ts ts' : TState) (g : TSeg) (hh : tstep ts g = .ok ts') : step ts.s g.seg = .ok ts'.s :=
  (tstep_sim ts' hh).1

theorem tstep_lock {ts ts' : TState} {g : TSeg} (hh : tstep ts g = .ok ts') : LockStep ts ts' :=
  (tstep_sim ts' hh).2

end BbRe.Lemmas.SchedTree
