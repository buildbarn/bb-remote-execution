import BbRe.Lemmas.SchedLiveCleanClient
/-!
Cleanup accounting through `Synchronize`: queue and worker stage, `getNextTask`, the deferred re-arming of
the worker's entry.
-/
namespace BbRe.Lemmas.SchedLive
open BbRe.Sched

/-- The two front stages of `Synchronize` together: the entry of the queue and of the worker are gone, the
worker exists inside the call, its queue exists. -/
theorem sync_front_cinv {s1 s3 : State} {q : ScqId} {w : WId} (hc : CInv noEx s1)
    (hK : ∀ k, hasK s3 k ↔ (k ≠ .scq q ∧ k ≠ .worker q w ∧ hasK s1 k))
    (hU : (s3.cleanup.map (·.kind)).Nodup)
    (hW1 : ∀ x ∈ s3.workers, (x.scq = q ∧ x.id = w ∧ x.inSync = true) ∨ (x ∈ s1.workers ∧ ¬ (x.scq = q ∧ x.id = w)))
    (hW2 : ∀ x ∈ s1.workers, ¬ (x.scq = q ∧ x.id = w) → x ∈ s3.workers)
    (hW3 : ∃ x ∈ s3.workers, x.scq = q ∧ x.id = w)
    (hQ1 : ∀ q', q' ≠ q → s3.scq? q' = s1.scq? q')
    (hQ2 : ∃ sq3, s3.scq? q = some sq3 ∧ ∀ sq1, s1.scq? q = some sq1 → sq3 = sq1)
    (hO : s3.ops = s1.ops) (hT : s3.tasks = s1.tasks) : CInv noEx s3 := by
  have hsub : ∀ k, hasK s3 k → hasK s1 k := fun k h => ((hK k).1 h).2.2
  have oc := hc.ops.congr hO hT (fun o => (hK _).trans ⟨fun h => h.2.2, fun h => ⟨nofun, nofun, h⟩⟩)
  refine ⟨hU, ?_, ?_, ?_, oc.eO, ?_, oc.opBg, oc.opFg, oc.opT, ?_, ?_, (fun _ hq => nomatch hq), (fun _ _ hq => nomatch hq)⟩
  · intro x hx hi hh
    rcases hW1 x hx with ⟨a, b, _⟩ | ⟨hx1, _⟩
    · exact ((hK _).1 hh).2.1 (by rw [a, b])
    · exact hc.wIn x hx1 hi (hsub _ hh)
  · intro x hx hi _
    rcases hW1 x hx with ⟨_, _, c⟩ | ⟨hx1, hne⟩
    · rw [hi] at c; cases c
    · refine (hK _).2 ⟨by simp, ?_, hc.wOut x hx1 hi (by simp [noEx])⟩
      simp only [ne_eq, CleanupKind.worker.injEq]; exact hne
  · intro q' w' hh
    obtain ⟨hn1, hn2, h1⟩ := (hK _).1 hh
    obtain ⟨x, hx, e1, e2⟩ := hc.eW q' w' h1
    refine ⟨x, hW2 x hx ?_, e1, e2⟩
    rw [e1, e2]; simpa using hn2
  · intro q' hh
    obtain ⟨hn1, _, h1⟩ := (hK _).1 hh
    have hne : q' ≠ q := by simpa using hn1
    obtain ⟨a, b⟩ := hc.eS q' h1
    rw [hQ1 q' hne]
    refine ⟨a, ?_⟩
    intro x hx
    rcases hW1 x hx with ⟨e, _, _⟩ | ⟨hx1, _⟩
    · rw [e]; exact fun e' => hne e'.symm
    · exact b x hx1
  · intro q' sq e hb _
    by_cases hqq : q' = q
    · subst hqq
      obtain ⟨x, hx, ex, _⟩ := hW3
      exact .inl ⟨x, hx, ex⟩
    · rw [hQ1 q' hqq] at e
      rcases hc.scqW q' sq e hb (by simp [noEx]) with ⟨x, hx, ex⟩ | h
      · exact .inl ⟨x, hW2 x hx (by rw [ex]; exact fun a => hqq a.1), ex⟩
      · exact .inr ((hK _).2 ⟨by simp; exact hqq, by simp, h⟩)
  · intro x hx
    obtain ⟨sq3, e3, _⟩ := hQ2
    rcases hW1 x hx with ⟨e, _, _⟩ | ⟨hx1, _⟩
    · rw [e]; exact ⟨sq3, e3⟩
    · by_cases hqq : x.scq = q
      · rw [hqq]; exact ⟨sq3, e3⟩
      · rw [hQ1 _ hqq]; exact hc.wScq x hx1

theorem find?_append_other {l : List Scq} {n : Scq} {q' : ScqId} (hne : n.id ≠ q') :
    (l ++ [n]).find? (fun y => y.id = q') = l.find? (fun y => y.id = q') := by
  rw [List.find?_append]
  cases l.find? (fun y => y.id = q') with
  | some y => rfl
  | none => simp [hne]

theorem find?_append_self {l : List Scq} {n : Scq} (hnone : l.find? (fun y => y.id = n.id) = none) :
    (l ++ [n]).find? (fun y => y.id = n.id) = some n := by
  rw [List.find?_append, hnone]; simp

/-- queue stage of `Synchronize` -/
theorem syncQueue_shape {s1 s2 : State} {q : ScqId} {comps : List Nat} {pf : Nat} {w : WId} (hc : CInv noEx s1)
    (hh : syncQueue s1 q comps pf w = .ok (.inr s2)) :
    (∀ k, hasK s2 k ↔ k ≠ .scq q ∧ hasK s1 k) ∧ ((s2.cleanup.map (·.kind)).Nodup) ∧
    s2.workers = s1.workers ∧ s2.ops = s1.ops ∧ s2.tasks = s1.tasks ∧
    (∀ q', q' ≠ q → s2.scq? q' = s1.scq? q') ∧
    (∃ sq, s2.scq? q = some sq ∧ ∀ sq1, s1.scq? q = some sq1 → sq = sq1) := by
  have added : ∀ (n : Scq) (s2 : State), n.id = q → s1.scq? q = none → s2.cleanup = s1.cleanup →
      s2.scqs = s1.scqs ++ [n] → s2.workers = s1.workers → s2.ops = s1.ops → s2.tasks = s1.tasks →
      (∀ k, hasK s2 k ↔ k ≠ .scq q ∧ hasK s1 k) ∧ ((s2.cleanup.map (·.kind)).Nodup) ∧
      s2.workers = s1.workers ∧ s2.ops = s1.ops ∧ s2.tasks = s1.tasks ∧
      (∀ q', q' ≠ q → s2.scq? q' = s1.scq? q') ∧
      (∃ sq, s2.scq? q = some sq ∧ ∀ sq1, s1.scq? q = some sq1 → sq = sq1) := by
    intro n s2 hid hnone hcl hsc hw ho ht
    refine ⟨?_, by rw [hcl]; exact hc.uniq, hw, ho, ht, ?_, ?_⟩
    · intro k; rw [hasK_congr hcl]
      constructor
      · intro hh'; refine ⟨?_, hh'⟩
        intro e; subst e
        obtain ⟨⟨sq, e1, _⟩, _⟩ := hc.eS q hh'; rw [hnone] at e1; cases e1
      · exact fun h => h.2
    · intro q' hne
      simp only [State.scq?, hsc]
      exact find?_append_other (by rw [hid]; exact fun e => hne e.symm)
    · refine ⟨n, ?_, fun sq1 e => by rw [hnone] at e; cases e⟩
      simp only [State.scq?, hsc]
      have := find?_append_self (l := s1.scqs) (n := n) (by rw [hid]; exact hnone)
      rw [hid] at this; exact this
  rcases syncQueue_ok hh with ⟨⟨sq, hsq⟩, e⟩ | ⟨_, e⟩ | ⟨hn, _, e⟩ | ⟨hn, _, e⟩
  · injection e with e; subst e
    refine ⟨fun k => hasK_remove _ _ _, ?_, rfl, rfl, rfl, fun _ _ => rfl, ⟨sq, hsq, fun sq1 e => ?_⟩⟩
    · exact uniq_filter _ hc.uniq
    · rw [hsq] at e; injection e
  · cases e
  · injection e with e; subst e
    exact added { id := q, mayBeRemoved := true, drains := [], undrainGen := 0 } _ rfl hn rfl rfl rfl rfl rfl
  · injection e with e; subst e
    exact added { id := q, mayBeRemoved := true, drains := [], undrainGen := 0 } _ rfl hn rfl rfl rfl rfl rfl

/-- queue and worker stage together -/
theorem sync_front {s1 s2 s3 : State} {q : ScqId} {comps : List Nat} {pf : Nat} {w : WId}
    (hc : CInv noEx s1) (hw : WInv s1) (h2 : syncQueue s1 q comps pf w = .ok (.inr s2))
    (h3 : syncWorker s2 q w = .inr s3) : CInv noEx s3 := by
  obtain ⟨qK, qU, qW, qO, qT, qQ1, qQ2⟩ := syncQueue_shape hc h2
  have huniq2 : (s2.workers.map wkey).Nodup := qW ▸ hw.uniq
  rcases syncWorker_cases s2 q w with ⟨wk, _, _, e⟩ | ⟨wk, hwk, hi, e⟩ | ⟨hnone, e⟩
  · rw [e] at h3; cases h3
  · rw [e] at h3; injection h3 with h3; subst h3
    obtain ⟨hm, hq, hw'⟩ := worker?_mem hwk
    refine sync_front_cinv (q := q) (w := w) hc ?_ ?_ ?_ ?_ ?_ qQ1 qQ2 qO qT
    · intro k
      have : hasK ((s2.removeCleanup (.worker q w)).setWorker { wk with inSync := true }) k ↔ k ≠ .worker q w ∧ hasK s2 k :=
        hasK_remove _ _ _
      rw [this, qK]
      constructor
      · rintro ⟨a, b, c⟩; exact ⟨b, a, c⟩
      · rintro ⟨a, b, c⟩; exact ⟨b, a, c⟩
    · exact uniq_filter _ qU
    · intro x hx
      rcases mem_setWorker (s := s2.removeCleanup (.worker q w)) hx with rfl | ⟨hx1, hne⟩
      · exact .inl ⟨hq, hw', rfl⟩
      · refine .inr ⟨qW ▸ hx1, ?_⟩
        rintro ⟨a, b⟩; exact hne (by simp [wkey, a, b, hq, hw'])
    · intro x hx hne
      have hx2 : x ∈ s2.workers := qW ▸ hx
      show x ∈ ((s2.removeCleanup (.worker q w)).setWorker { wk with inSync := true }).workers
      rw [setWorker_workers, List.mem_map]
      refine ⟨x, hx2, ?_⟩
      have : ¬ wkey x = wkey ({ wk with inSync := true } : Worker) := by
        simp only [wkey, Prod.mk.injEq, hq, hw']; exact hne
      simp [this]
    · refine ⟨{ wk with inSync := true }, ?_, hq, hw'⟩
      show _ ∈ ((s2.removeCleanup (.worker q w)).setWorker { wk with inSync := true }).workers
      rw [setWorker_workers, List.mem_map]
      exact ⟨wk, hm, by simp [wkey]⟩
  · rw [e] at h3; injection h3 with h3; subst h3
    have hnoW : ¬ hasK s2 (.worker q w) := by
      intro hh
      obtain ⟨x, hx, e1, e2⟩ := hc.eW q w ((qK _).1 hh).2
      have := worker?_of_mem huniq2 (qW ▸ hx)
      rw [e1, e2, hnone] at this; cases this
    refine sync_front_cinv (q := q) (w := w) hc ?_ qU ?_ ?_ ?_ qQ1 qQ2 qO qT
    · intro k
      have : hasK (addWorker s2 q w) k ↔ hasK s2 k := hasK_congr (s := s2) (s' := addWorker s2 q w) rfl k
      rw [this, qK]
      constructor
      · rintro ⟨a, c⟩; exact ⟨a, fun e => hnoW (e ▸ (qK _).2 ⟨a, c⟩), c⟩
      · rintro ⟨a, _, c⟩; exact ⟨a, c⟩
    · intro x hx
      simp only [addWorker_workers, List.mem_append, List.mem_singleton] at hx
      rcases hx with hx | rfl
      · refine .inr ⟨qW ▸ hx, ?_⟩
        rintro ⟨a, b⟩
        have := worker?_of_mem huniq2 hx
        rw [a, b, hnone] at this; cases this
      · exact .inl ⟨rfl, rfl, rfl⟩
    · intro x hx _
      simp only [addWorker_workers, List.mem_append]; exact .inl (qW ▸ hx)
    · refine ⟨⟨q, w, none, false, false, false, true, none, none⟩, ?_, rfl, rfl⟩
      simp [addWorker_workers]

/-- the deferred re-arming of the worker cleanup -/
theorem syncReturn_cinv {s : State} {q : ScqId} {w : WId} (hc : CInv noEx s)
    (hin : ∀ wk, s.worker? q w = some wk → wk.inSync = true) : CInv noEx (syncReturn s q w) := by
  unfold syncReturn
  split
  · rename_i wk hwk
    obtain ⟨hm, hq, hw'⟩ := worker?_mem hwk
    have hnoe : ¬ hasK s (.worker q w) := by rw [← hq, ← hw']; exact hc.wIn wk hm (hin wk hwk)
    let wk2 : Worker := { wk with inSync := false, parked := false, woken := false, drainWait := none, timer := none }
    have hkk : ∀ k, hasK ((s.setWorker wk2).addCleanup (s.now + s.cfg.workerTimeout) (.worker q w)) k ↔
        k = .worker q w ∨ hasK s k := fun k => hasK_add _ _ _ _
    have hmem : ∀ x, x ∈ (s.setWorker wk2).workers → x = wk2 ∨ (x ∈ s.workers ∧ wkey x ≠ wkey wk2) := fun x => mem_setWorker
    have hback : ∀ x ∈ s.workers, ¬ (x.scq = q ∧ x.id = w) → x ∈ (s.setWorker wk2).workers := by
      intro x hx hne
      rw [setWorker_workers, List.mem_map]
      refine ⟨x, hx, ?_⟩
      have : ¬ wkey x = wkey wk2 := by simp only [wkey, wk2, Prod.mk.injEq, hq, hw']; exact hne
      simp [this]
    have hwk2 : wk2 ∈ (s.setWorker wk2).workers := by
      rw [setWorker_workers, List.mem_map]; exact ⟨wk, hm, by simp [wkey, wk2]⟩
    have hscq : ∀ q', ((s.setWorker wk2).addCleanup (s.now + s.cfg.workerTimeout) (.worker q w)).scq? q' = s.scq? q' :=
      fun _ => rfl
    have oc := hc.ops.congr (s' := (s.setWorker wk2).addCleanup (s.now + s.cfg.workerTimeout) (.worker q w)) rfl rfl
      (fun o => (hkk _).trans (or_iff_right nofun))
    refine ⟨?_, ?_, ?_, ?_, oc.eO, ?_, oc.opBg, oc.opFg, oc.opT, ?_, ?_, (fun _ hq' => nomatch hq'), (fun _ _ hq' => nomatch hq')⟩
    · exact uniq_add (s := s.setWorker wk2) hnoe hc.uniq
    · intro x hx hi hh
      rcases hmem x hx with rfl | ⟨hx1, hne⟩
      · cases hi
      · rcases (hkk _).1 hh with e | h
        · injection e with e1 e2; exact hne (by simp [wkey, wk2, e1, e2, hq, hw'])
        · exact hc.wIn x hx1 hi h
    · intro x hx hi _
      rcases hmem x hx with rfl | ⟨hx1, _⟩
      · exact (hkk _).2 (.inl (by simp [wk2, hq, hw']))
      · exact (hkk _).2 (.inr (hc.wOut x hx1 hi (by simp [noEx])))
    · intro q' w'' hh
      rcases (hkk _).1 hh with e | h
      · injection e with e1 e2; subst e1; subst e2; exact ⟨wk2, hwk2, hq, hw'⟩
      · obtain ⟨x, hx, e1, e2⟩ := hc.eW q' w'' h
        by_cases hk : x.scq = q ∧ x.id = w
        · exact ⟨wk2, hwk2, by rw [← e1, hk.1]; exact hq, by rw [← e2, hk.2]; exact hw'⟩
        · exact ⟨x, hback x hx hk, e1, e2⟩
    · intro q' hh
      rcases (hkk _).1 hh with e | h
      · cases e
      · obtain ⟨a, b⟩ := hc.eS q' h
        refine ⟨a, ?_⟩
        intro x hx
        rcases hmem x hx with rfl | ⟨hx1, _⟩
        · exact b wk hm
        · exact b x hx1
    · intro q' sq e hb _
      rcases hc.scqW q' sq e hb (by simp [noEx]) with ⟨x, hx, ex⟩ | h
      · by_cases hk : x.scq = q ∧ x.id = w
        · exact .inl ⟨wk2, hwk2, by rw [← ex, hk.1]; exact hq⟩
        · exact .inl ⟨x, hback x hx hk, ex⟩
      · exact .inr ((hkk _).2 (.inr h))
    · intro x hx
      rcases hmem x hx with rfl | ⟨hx1, _⟩
      · exact hc.wScq wk hm
      · exact hc.wScq x hx1
  · exact hc

theorem assignNext_cframe {h : Hints} {s s1 : State} {wk : Worker} {got : Bool}
    (hh : assignNext h s wk = .ok (s1, got)) (hk : KeysOK s) (hw : WInv s) (hm : wk ∈ s.workers) : CFrame s s1 := by
  rcases assignNext_ok hh with ⟨_, rfl, _⟩ | ⟨_, t, t', hq, _, _, h3, rfl⟩
  · exact CFrame.refl _
  · obtain ⟨hl, _, _, _⟩ := queuedTasks_mem hk hq
    have ht' : t' = { t with worker := some (wk.scq, wk.id), retry := 0, queued := false } := by
      simp only [State.task?, assignS_tasks, alookup_aset, if_true] at h3
      injection h3 with h3; exact h3.symm
    subst ht'
    refine ⟨by simp, ?_, fun _ => by simp [State.scq?], by simp, ?_⟩
    · simp only [setTask_workers, assignS_workers]
      exact setWorker_proj hw.uniq hm rfl rfl
    · intro k
      simp only [State.task?, setTask_tasks, assignS_tasks, alookup_aset, bumpGen]
      by_cases hkk : t.id = k
      · subst hkk
        have : alookup t.id s.tasks = some t := hl
        simp [this]
      · simp [hkk]

/-- a worker-record update that keeps identity and `inSync` -/
theorem setWorker_cframe {s : State} {wk w' : Worker} (hw : WInv s) (hm : wk ∈ s.workers) (hk : wkey wk = wkey w')
    (hi : wk.inSync = w'.inSync) : CFrame s (s.setWorker w') :=
  ⟨rfl, setWorker_proj hw.uniq hm hk hi, fun _ => rfl, rfl, fun _ => rfl⟩

theorem inSync_of_frame {s s' : State} {q : ScqId} {w : WId} (f : CFrame s s') (hw : WInv s)
    (hin : ∀ wk, s.worker? q w = some wk → wk.inSync = true) :
    ∀ wk', s'.worker? q w = some wk' → wk'.inSync = true := by
  intro wk' hwk'
  obtain ⟨hm', hq, hw'⟩ := worker?_mem hwk'
  obtain ⟨wk, hm, e⟩ := mem_of_map_eq f.workers hm'
  simp only [Prod.mk.injEq] at e
  have := worker?_of_mem hw.uniq hm
  rw [e.1, e.2.1, hq, hw'] at this
  rw [← e.2.2]; exact hin wk this

theorem getNextTask_kwc {h : Hints} {s s' : State} {q : ScqId} {w : WId} {pi block : Bool}
    (hh : getNextTask h s q w pi block = .ok s')
    (hpre : SyncPre s q w) (hnt : ∀ wk, s.worker? q w = some wk → wk.task = none) (hi : KWC noEx s) : KWC noEx s' := by
  refine ⟨getNextTask_kw hh hpre hnt hi.1, ?_⟩
  obtain ⟨⟨hk, hw⟩, hc⟩ := hi
  have hin : ∀ wk, s.worker? q w = some wk → wk.inSync = true := fun wk e => (hpre wk e).1
  obtain ⟨wk, sq, hwk, hsq, h1 | h1 | h1⟩ := getNextTask_ok hh
  · obtain ⟨_, rfl⟩ := h1
    exact syncReturn_cinv (hc.same) hin
  · obtain ⟨_, hdr, s1, got, h2, h3⟩ := h1
    obtain ⟨hm, _, _⟩ := worker?_mem hwk
    have f1 := assignNext_cframe h2 hk hw hm
    have hc1 := hc.frame f1
    have hin1 := inSync_of_frame f1 hw hin
    rcases h3 with h3 | h3 | h3
    · obtain ⟨_, wk1, s2, _, h4, rfl⟩ := h3
      obtain ⟨tid, t, _, _, rfl⟩ := execResponse_ok h4
      exact syncReturn_cinv (hc1.same) hin1
    · obtain ⟨_, _, rfl⟩ := h3
      exact syncReturn_cinv (hc1.same) hin1
    · obtain ⟨_, _, wk1, hwk1, _, rfl⟩ := h3
      obtain ⟨pin, ppk, pwo, pdw⟩ := hpre wk hwk
      have hw1 : WInv s1 := assignNext_winv h2 hk hw hm ppk pdw
      exact hc1.frame (setWorker_cframe hw1 (worker?_mem hwk1).1 rfl rfl)
  · obtain ⟨_, _, h2 | h2⟩ := h1
    · obtain ⟨_, rfl⟩ := h2
      exact syncReturn_cinv (hc.same) hin
    · obtain ⟨_, rfl⟩ := h2
      exact hc.frame (setWorker_cframe hw (worker?_mem hwk).1 rfl rfl)

theorem getCurrentOrNext_kwc {h : Hints} {s s' : State} {q : ScqId} {w : WId} {pi block : Bool}
    (hh : getCurrentOrNext h s q w pi block = .ok s') (hpre : SyncPre s q w) (hi : KWC noEx s) : KWC noEx s' := by
  obtain ⟨wk, hwk, h1 | h1⟩ := getCurrentOrNext_ok hh
  · refine getNextTask_kwc h1.2 hpre ?_ hi
    intro wk' hwk'; rw [hwk] at hwk'; injection hwk' with e; subst e; exact h1.1
  · obtain ⟨tid, t, htk, h0, h2 | h2⟩ := h1
    · refine ⟨getCurrentOrNext_kw hh hpre hi.1, ?_⟩
      obtain ⟨_, rfl⟩ := h2
      have hid := (hi.1.1.tid tid t h0).1
      have f : CFrame s (emit (s.setTask { t with retry := t.retry + 1 })
          (.syncExecute q w t.digest (s.now + s.cfg.busyInterval))) := by
        refine CFrame.of_task (k0 := tid) (t2 := { t with retry := t.retry + 1 }) h0 rfl rfl rfl rfl rfl rfl ?_
        intro k; simp [State.task?, alookup_aset, hid]
      exact syncReturn_cinv (hi.2.frame f) (inSync_of_frame f hi.1.2 (fun wk e => (hpre wk e).1))
    · obtain ⟨_, s1, h3, h4⟩ := h2
      have hi1 : KWC noEx s1 := complete_kwc h3 hi
      obtain ⟨keep, clr⟩ := complete_keep (q := q) (w := w) h3 hi.1.2
      obtain ⟨pin, ppk, pwo, pdw⟩ := hpre wk hwk
      refine getNextTask_kwc h4 ?_ (fun wk1 hwk1 => clr wk hwk ppk htk wk1 hwk1) hi1
      intro wk1 hwk1
      obtain ⟨wk', e1, p1, a1, a2, a3, _⟩ := keep wk hwk ppk
      rw [e1] at hwk1; injection hwk1 with e; subst e
      exact ⟨a1 ▸ pin, p1, a2 ▸ pwo, a3 ▸ pdw⟩

theorem syncArrive_kwc {h : Hints} {s s' : State} {now : Nat} {q : ScqId} {comps : List Nat} {pf : Nat}
    {w : WId} {rep : Report} {pi : Bool} (hh : syncArrive h s now q comps pf w rep pi = .ok s')
    (hi : KWC noEx s) : KWC noEx s' := by
  refine ⟨syncArrive_kw hh hi.1, ?_⟩
  obtain ⟨s1, x, h1, h2, h3⟩ := syncArrive_ok hh
  have hi1 := enter_kwc hi h1
  rcases h3 with rfl | ⟨s2, rfl, h3⟩
  · -- the queue stage refused the worker: only an event was emitted
    rcases syncQueue_ok h2 with ⟨_, e⟩ | ⟨_, e⟩ | ⟨_, _, e⟩ | ⟨_, _, e⟩
    · cases e
    · injection e with e; subst e; exact hi1.2.same
    · cases e
    · cases e
  · have hkw2 : KW s2 := syncQueue_kw h2 hi1.1
    obtain ⟨kw, pre⟩ := syncWorker_kw s2 q w
    rcases h3 with h3 | ⟨s3, wk, h3, hwk, h4⟩
    · -- the worker is already inside a call: the queue exists (its worker does), so nothing but an event changed
      rcases syncWorker_cases s2 q w with ⟨wk, hwk, _, e⟩ | ⟨wk, _, _, e⟩ | ⟨_, e⟩
      · rw [e] at h3; injection h3 with h3; subst h3
        obtain ⟨hm, hq, _⟩ := worker?_mem hwk
        obtain ⟨qK, qU, qW, qO, qT, qQ1, qQ2⟩ := syncQueue_shape hi1.2 h2
        -- a worker exists in `q`, hence no queue entry existed and the queue stage changed nothing relevant
        have hm1 : wk ∈ s1.workers := qW ▸ hm
        have hnoS : ¬ hasK s1 (.scq q) := fun hh' => (hi1.2.eS q hh').2 wk hm1 hq
        obtain ⟨sq1, hsq1⟩ := hi1.2.wScq wk hm1
        rw [hq] at hsq1
        have f : CFrame s1 (emit s2 (.syncErr q w cResourceExhausted)) := by
          rcases syncQueue_ok h2 with ⟨_, e'⟩ | ⟨_, e'⟩ | ⟨hn, _, _⟩ | ⟨hn, _, _⟩
          · injection e' with e'; subst e'
            refine ⟨?_, rfl, fun _ => rfl, rfl, fun _ => rfl⟩
            show s1.cleanup.filter _ = s1.cleanup
            rw [List.filter_eq_self]
            intro e he; simp only [decide_eq_true_eq]
            intro hk'; exact hnoS ⟨e, he, hk'⟩
          · cases e'
          · rw [hn] at hsq1; cases hsq1
          · rw [hn] at hsq1; cases hsq1
        exact hi1.2.frame f
      · rw [e] at h3; cases h3
      · rw [e] at h3; cases h3
    · have hc3 : CInv noEx s3 := sync_front hi1.2 hi1.1.2 h2 h3
      rw [h3] at kw
      have hkw3 : KW s3 := kw hkw2
      have hpre : SyncPre s3 q w := pre s3 h3 hkw2.2
      have hin3 : ∀ wk', s3.worker? q w = some wk' → wk'.inSync = true := fun wk' e => (hpre wk' e).1
      obtain ⟨pin, ppk, pwo, pdw⟩ := hpre wk hwk
      rcases h4 with ⟨_, rfl⟩ | ⟨_, h4⟩ | ⟨d, _, _, rfl⟩ | ⟨d, _, _, h4⟩ | ⟨d, r, tid, s4, _, _, htk, h4, h5⟩ | ⟨d, r, _, _, h4⟩
      · exact syncReturn_cinv (hc3.same) hin3
      · exact (getCurrentOrNext_kwc h4 hpre ⟨hkw3, hc3⟩).2
      · exact syncReturn_cinv (hc3.same) hin3
      · exact (getCurrentOrNext_kwc h4 hpre ⟨hkw3, hc3⟩).2
      · have hi4 : KWC noEx s4 := complete_kwc h4 ⟨hkw3, hc3⟩
        obtain ⟨keep, clr⟩ := complete_keep (q := q) (w := w) h4 hkw3.2
        refine (getNextTask_kwc h5 ?_ (fun wk1 hwk1 => clr wk hwk ppk htk wk1 hwk1) hi4).2
        intro wk1 hwk1
        obtain ⟨wk', e1, p1, a1, a2, a3, _⟩ := keep wk hwk ppk
        rw [e1] at hwk1; injection hwk1 with e; subst e
        exact ⟨a1 ▸ pin, p1, a2 ▸ pwo, a3 ▸ pdw⟩
      · exact (getCurrentOrNext_kwc h4 hpre ⟨hkw3, hc3⟩).2

end BbRe.Lemmas.SchedLive
