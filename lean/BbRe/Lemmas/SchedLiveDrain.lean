import BbRe.Lemmas.SchedLiveClean10
import BbRe.Lemmas.SchedLiveAssign
/-!
The **undrain snapshot invariant**: a worker blocked on `undrainWakeup` captured a
generation of its size-class queue that is not ahead of the queue's current one
(`drainWait = some g → g ≤ undrainGen`).  Hence after every `RemoveDrain` the wake-up
of each such worker is enabled.

Needs both the worker invariants and the cleanup invariants: a queue is removed only when it has no
workers, and a worker's queue exists (so a re-created queue, generation 0, has no waiting worker).
-/
namespace BbRe.Lemmas.SchedLive
open BbRe.Sched

/-- a worker that waits for an undrain captured a generation not ahead of its queue's -/
def DInv (s : State) : Prop :=
  ∀ wk ∈ s.workers, ∀ g, wk.drainWait = some g → ∀ sq, s.scq? wk.scq = some sq → g ≤ sq.undrainGen

/-- no new waiting worker, no new or rewound queue -/
structure DStep (s s' : State) : Prop where
  w : ∀ wk' ∈ s'.workers, ∀ g, wk'.drainWait = some g → ∃ wk ∈ s.workers, wkey wk = wkey wk' ∧ wk.drainWait = some g
  q : ∀ q sq', s'.scq? q = some sq' → ∃ sq, s.scq? q = some sq ∧ sq.undrainGen ≤ sq'.undrainGen

theorem DStep.refl (s : State) : DStep s s :=
  ⟨fun wk h _ hg => ⟨wk, h, rfl, hg⟩, fun _ sq h => ⟨sq, h, Nat.le_refl _⟩⟩

theorem DStep.trans {a b c : State} (h1 : DStep a b) (h2 : DStep b c) : DStep a c := by
  refine ⟨?_, ?_⟩
  · intro wk' hm g hg
    obtain ⟨wb, hb, e1, g1⟩ := h2.w wk' hm g hg
    obtain ⟨wa, ha, e2, g2⟩ := h1.w wb hb g g1
    exact ⟨wa, ha, e2.trans e1, g2⟩
  · intro q sq' hq
    obtain ⟨sb, hb, l1⟩ := h2.q q sq' hq
    obtain ⟨sa, ha, l2⟩ := h1.q q sb hb
    exact ⟨sa, ha, Nat.le_trans l2 l1⟩

theorem dw_of_eq {s s' : State} (hw : s'.workers = s.workers) :
    ∀ wk' ∈ s'.workers, ∀ g, wk'.drainWait = some g → ∃ wk ∈ s.workers, wkey wk = wkey wk' ∧ wk.drainWait = some g := by
  intro wk h _ hg; exact ⟨wk, hw ▸ h, rfl, hg⟩

theorem dq_of_eq {s s' : State} (hq : s'.scqs = s.scqs) :
    ∀ q sq', s'.scq? q = some sq' → ∃ sq, s.scq? q = some sq ∧ sq.undrainGen ≤ sq'.undrainGen := by
  intro q sq h; refine ⟨sq, ?_, Nat.le_refl _⟩
  unfold State.scq? at h ⊢; rw [← hq]; exact h

theorem DStep.same {s s' : State} (hw : s'.workers = s.workers := by simp) (hq : s'.scqs = s.scqs := by simp) :
    DStep s s' :=
  ⟨dw_of_eq hw, dq_of_eq hq⟩

/-- replacing a worker record by one that does not wait, or waits like a present record of the same key -/
theorem DStep.of_setWorker (s : State) (w' : Worker)
    (hw : w'.drainWait = none ∨ ∃ w ∈ s.workers, wkey w = wkey w' ∧ w.drainWait = w'.drainWait) :
    DStep s (s.setWorker w') := by
  refine ⟨?_, dq_of_eq rfl⟩
  intro x hx g hg
  rcases mem_setWorker hx with rfl | ⟨hx1, _⟩
  · rcases hw with h | ⟨w, hm, e1, e2⟩
    · rw [h] at hg; cases hg
    · exact ⟨w, hm, e1, e2.trans hg⟩
  · exact ⟨x, hx1, rfl, hg⟩

theorem DStep.of_lookup {s : State} {q : ScqId} {w : WId} {wk : Worker} (hwk : s.worker? q w = some wk)
    (w' : Worker) (h1 : w'.scq = wk.scq) (h2 : w'.id = wk.id) (h3 : w'.drainWait = none ∨ w'.drainWait = wk.drainWait) :
    DStep s (s.setWorker w') := by
  refine DStep.of_setWorker s w' ?_
  rcases h3 with h | h
  · exact .inl h
  · exact .inr ⟨wk, (worker?_mem hwk).1, by simp [wkey, h1, h2], h.symm⟩

/-- the general step relation: additionally a worker may start waiting with a current snapshot -/
def DRel (s s' : State) : Prop :=
  ∀ wk' ∈ s'.workers, ∀ g, wk'.drainWait = some g → ∀ sq', s'.scq? wk'.scq = some sq' →
    (∃ wk ∈ s.workers, wkey wk = wkey wk' ∧ wk.drainWait = some g ∧
      ∃ sq, s.scq? wk.scq = some sq ∧ sq.undrainGen ≤ sq'.undrainGen) ∨
    g ≤ sq'.undrainGen

theorem DStep.rel {s s' : State} (h : DStep s s') : DRel s s' := by
  intro wk' hm g hg sq' hsq
  obtain ⟨wk, hw, e, hd⟩ := h.w wk' hm g hg
  obtain ⟨sq, hq, l⟩ := h.q _ sq' hsq
  have : wk.scq = wk'.scq := by simp only [wkey, Prod.mk.injEq] at e; exact e.1
  exact .inl ⟨wk, hw, e, hd, sq, by rw [this]; exact hq, l⟩

theorem DRel.refl (s : State) : DRel s s := (DStep.refl s).rel

theorem DRel.trans {a b c : State} (h1 : DRel a b) (h2 : DRel b c) : DRel a c := by
  intro wk'' hm g hg sq'' hsq
  rcases h2 wk'' hm g hg sq'' hsq with ⟨wb, hb, e1, g1, sb, hsb, l1⟩ | h
  · rcases h1 wb hb g g1 sb hsb with ⟨wa, ha, e2, g2, sa, hsa, l2⟩ | h
    · exact .inl ⟨wa, ha, e2.trans e1, g2, sa, hsa, Nat.le_trans l2 l1⟩
    · exact .inr (Nat.le_trans h l1)
  · exact .inr h

theorem DInv.step {s s' : State} (hi : DInv s) (h : DRel s s') : DInv s' := by
  intro wk' hm g hg sq' hsq
  rcases h wk' hm g hg sq' hsq with ⟨wk, hw, _, hd, sq, hq, l⟩ | h
  · exact Nat.le_trans (hi wk hw g hd sq hq) l
  · exact h

theorem detachW_dstep (s : State) (t : Task) : DStep s (detachW s t) := by
  unfold detachW
  split
  · split
    · rename_i q w wk hwk
      exact DStep.of_lookup hwk _ rfl rfl (.inr rfl)
    · exact DStep.refl _
  · exact DStep.refl _

theorem schedule_dstep {h : Hints} {s s' : State} {tid : Nat} (hh : schedule h s tid = .ok s') : DStep s s' := by
  obtain ⟨t, _, ⟨_, rfl⟩ | ⟨_, w, w1, hhw, _, hw1, _, _, rfl⟩⟩ := schedule_ok hh
  · exact DStep.same
  · have hm := hintedWorker_mem hhw
    have a1 : DStep s (wakeWorker s w) := DStep.of_setWorker s _ (.inr ⟨w, hm, rfl, rfl⟩)
    have a2 : DStep (wakeWorker s w) ((wakeWorker s w).setWorker { w1 with task := some t.id }) :=
      DStep.of_lookup hw1 _ rfl rfl (.inr rfl)
    exact (a1.trans a2).trans (DStep.same (by simp [assignS]) (by simp [assignS]))

theorem complete_dstep {h : Hints} {s s' : State} {tid : Nat} {r : Resp} {bw : Bool}
    (hh : complete h s tid r bw = .ok s') : DStep s s' := by
  obtain ⟨t, _, ⟨_, rfl⟩ | ⟨_, l, _, h1 | h1 | h1⟩⟩ := complete_ok hh
  · exact DStep.refl _
  · refine (detachW_dstep s t).trans ?_
    obtain ⟨ev, _, rfl | ⟨ev', _, rfl⟩ | ⟨bq, pq, h2, _⟩⟩ := completeSucc_ok h1.2
    · exact DStep.same
    · exact DStep.same
    · exact (DStep.same (s' := bgState (bumpLearner (succS (detachW s t) (detachT t) ev r)) { detachT t with learner := none } bq
          (succS (detachW s t) (detachT t) ev r).nextLearner pq)).trans (schedule_dstep h2)
  · obtain ⟨_, _, _, h5⟩ := h1
    obtain ⟨s2, t2, h2, _, rfl⟩ := completeRetry_ok h5
    refine (detachW_dstep s t).trans ?_
    exact ((DStep.same (s' := (retryS (detachW s t) l r).setTask (retryT (detachW s t) (detachT t) l r))).trans
      (schedule_dstep h2)).trans (DStep.same)
  · obtain ⟨_, _, ev, _, rfl⟩ := h1
    exact (detachW_dstep s t).trans (DStep.same)

theorem cancelAllQueued_dstep {h : Hints} {s s' : State} {q : ScqId} {r : Resp}
    (hh : cancelAllQueued h s q r = .ok s') : DStep s s' :=
  cancelAllQueued_rel DStep DStep.refl (fun _ _ _ => DStep.trans) (fun _ _ _ => complete_dstep) hh

theorem find?_filter_some {α} {p f : α → Bool} {l : List α} {a : α} (h : (l.filter f).find? p = some a)
    (hpf : ∀ x, p x = true → f x = true) : l.find? p = some a := by
  induction l with
  | nil => simp at h
  | cons x r ih =>
    simp only [List.filter_cons] at h
    by_cases hp : p x = true
    · have hf := hpf x hp
      rw [if_pos hf] at h
      simp only [List.find?_cons, hp] at h ⊢; exact h
    · simp only [List.find?_cons, Bool.not_eq_true] at hp ⊢
      rw [hp]; simp only
      split at h
      · simp only [List.find?_cons, hp] at h; exact ih h
      · exact ih h

theorem dropScq_dstep (s : State) (q : ScqId) : DStep s (dropScq s q) := by
  have hs := dropScq_scqs s q
  have hw : (dropScq s q).workers = s.workers := by simp
  refine ⟨dw_of_eq hw, ?_⟩
  intro q' sq' hq'
  refine ⟨sq', ?_, Nat.le_refl _⟩
  unfold State.scq? at hq' ⊢
  rw [hs] at hq'
  refine find?_filter_some hq' ?_
  intro x hx
  simp only [decide_eq_true_eq] at hx ⊢
  -- a queue found by the filtered lookup is not `q`
  have := List.find?_some hq'
  have hm := List.mem_of_find?_eq_some hq'
  by_cases hxq : x.id = q
  · -- then q' = q, but `sq'` survived the filter
    have h1 : sq'.id = q' := by simpa using this
    have h2 := (List.mem_filter.1 hm).2
    simp only [decide_eq_true_eq] at h2
    exact absurd (h1.trans (hx.symm.trans hxq)) h2
  · exact hxq

theorem callback_dstep {h : Hints} {s s' : State} {e : CleanupEntry} (hh : callback h s e = .ok s') : DStep s s' := by
  refine callback_rel DStep DStep.refl DStep.trans (fun _ => complete_dstep) ?_ (fun _ _ => DStep.same)
    (fun _ _ _ _ _ => DStep.same) dropScq_dstep hh
  intro s q w rt
  exact ⟨fun x hx g hg => ⟨x, (mem_filterWorkers.1 (dropWorker_workers s q w rt ▸ hx)).1, rfl, hg⟩, dq_of_eq (by simp)⟩

theorem enter_dstep {h : Hints} {s s' : State} {t : Nat} (hh : enter h s t = .ok s') : DStep s s' :=
  enter_rel DStep DStep.refl DStep.trans (fun _ _ => DStep.same) (fun _ _ _ _ => DStep.same) callback_dstep hh

theorem syncReturn_dstep (s : State) (q : ScqId) (w : WId) : DStep s (syncReturn s q w) := by
  unfold syncReturn
  split
  · rename_i wk hwk
    exact (DStep.of_lookup hwk { wk with inSync := false, parked := false, woken := false, drainWait := none, timer := none }
      rfl rfl (.inl rfl)).trans (DStep.same)
  · exact DStep.refl _

theorem assignNext_dstep {h : Hints} {s s1 : State} {w : Worker} {got : Bool} (hm : w ∈ s.workers)
    (hh : assignNext h s w = .ok (s1, got)) : DStep s s1 := by
  rcases assignNext_ok hh with ⟨_, rfl, _⟩ | ⟨_, t, t', _, _, _, _, rfl⟩
  · exact DStep.refl _
  · have a1 : DStep s (s.setWorker { w with task := some t.id }) := DStep.of_setWorker s _ (.inr ⟨w, hm, rfl, rfl⟩)
    exact a1.trans (DStep.same (by simp [assignS]) (by simp [assignS]))

theorem execResponse_dstep {s s' : State} {w : Worker} (hh : execResponse s w = .ok s') : DStep s s' := by
  obtain ⟨tid, t, _, _, rfl⟩ := execResponse_ok hh
  exact DStep.same

theorem drainWaitS_drel {s : State} {q : ScqId} {w : WId} {wk : Worker} {sq : Scq}
    (hwk : s.worker? q w = some wk) (hsq : s.scq? q = some sq) : DRel s (drainWaitS s wk sq) := by
  intro x hx g hg sq' hsq'
  unfold drainWaitS at hx hsq'
  have hsq'' : s.scq? x.scq = some sq' := hsq'
  rcases mem_setWorker hx with rfl | ⟨hx1, _⟩
  · right
    simp only at hg hsq''
    rw [(worker?_mem hwk).2.1, hsq] at hsq''
    injection hsq'' with e; injection hg with hg
    rw [← e, ← hg]; exact Nat.le_refl _
  · exact .inl ⟨x, hx1, rfl, hg, sq', hsq'', Nat.le_refl _⟩

theorem getNextTask_drel {h : Hints} {s s' : State} {q : ScqId} {w : WId} {pi block : Bool}
    (hh : getNextTask h s q w pi block = .ok s') : DRel s s' := by
  obtain ⟨wk, sq, hwk, hsq, h1 | h1 | h1⟩ := getNextTask_ok hh
  · obtain ⟨_, rfl⟩ := h1
    exact ((DStep.same (s' := emit s (.syncIdle q w s.now))).trans (syncReturn_dstep _ q w)).rel
  · obtain ⟨_, _, s1, got, h2, h3⟩ := h1
    have a1 := assignNext_dstep (worker?_mem hwk).1 h2
    rcases h3 with h3 | h3 | h3
    · obtain ⟨_, wk1, s2, _, h4, rfl⟩ := h3
      exact ((a1.trans (execResponse_dstep h4)).trans (syncReturn_dstep _ q w)).rel
    · obtain ⟨_, _, rfl⟩ := h3
      exact ((a1.trans (DStep.same (s' := emit s1 (.syncIdle q w s1.now)))).trans (syncReturn_dstep _ q w)).rel
    · obtain ⟨_, _, wk1, hwk1, _, rfl⟩ := h3
      exact (a1.trans (by unfold parkS; exact DStep.of_lookup hwk1 _ rfl rfl (.inr rfl))).rel
  · obtain ⟨_, _, h2 | h2⟩ := h1
    · obtain ⟨_, rfl⟩ := h2
      exact ((DStep.same (s' := emit s (.syncIdle q w s.now))).trans (syncReturn_dstep _ q w)).rel
    · obtain ⟨_, rfl⟩ := h2; exact drainWaitS_drel hwk hsq

theorem getCurrentOrNext_drel {h : Hints} {s s' : State} {q : ScqId} {w : WId} {pi block : Bool}
    (hh : getCurrentOrNext h s q w pi block = .ok s') : DRel s s' := by
  obtain ⟨wk, hwk, h1 | h1⟩ := getCurrentOrNext_ok hh
  · exact getNextTask_drel h1.2
  · obtain ⟨tid, t, _, _, h2 | h2⟩ := h1
    · obtain ⟨_, rfl⟩ := h2
      exact ((DStep.same (s' := emit (s.setTask { t with retry := t.retry + 1 })
        (.syncExecute q w t.digest (s.now + s.cfg.busyInterval)))).trans (syncReturn_dstep _ q w)).rel
    · obtain ⟨_, s1, h3, h4⟩ := h2
      exact (complete_dstep h3).rel.trans (getNextTask_drel h4)

/-- appending queues does not change the lookups that succeed -/
theorem scq?_append {s s' : State} {l : List Scq} (he : s'.scqs = s.scqs ++ l) {q : ScqId} {sq : Scq}
    (h : s.scq? q = some sq) : s'.scq? q = some sq := by
  unfold State.scq? at h ⊢
  rw [he, List.find?_append, h]; rfl

/-- a state with the same workers and more queues, when every worker's queue exists -/
theorem drel_append {s s' : State} {l : List Scq} (hw : s'.workers = s.workers) (he : s'.scqs = s.scqs ++ l)
    (hex : ∀ wk ∈ s.workers, ∃ sq, s.scq? wk.scq = some sq) : DRel s s' := by
  intro x hx g hg sq' hsq'
  rw [hw] at hx
  obtain ⟨sq, hsq⟩ := hex x hx
  have := scq?_append he hsq
  rw [hsq'] at this; injection this with this; subst this
  exact .inl ⟨x, hx, rfl, hg, sq', hsq, Nat.le_refl _⟩

theorem syncQueue_drel {s : State} {q : ScqId} {comps : List Nat} {pf : Nat} {w : WId} {x : State ⊕ State}
    (hh : syncQueue s q comps pf w = .ok x) (hex : ∀ wk ∈ s.workers, ∃ sq, s.scq? wk.scq = some sq) :
    DRel s (unsum x) := by
  rcases syncQueue_ok hh with ⟨_, rfl⟩ | ⟨_, rfl⟩ | ⟨_, _, rfl⟩ | ⟨_, _, rfl⟩
  · exact (DStep.same (by simp [unsum]) (by simp [unsum])).rel
  · exact (DStep.same rfl rfl).rel
  · exact drel_append (l := [{ id := q, mayBeRemoved := true, drains := [], undrainGen := 0 }]) rfl rfl hex
  · exact drel_append (l := [{ id := q, mayBeRemoved := true, drains := [], undrainGen := 0 }]) rfl rfl hex

theorem syncWorker_dstep (s : State) (q : ScqId) (w : WId) : DStep s (unsum (syncWorker s q w)) := by
  rcases syncWorker_cases s q w with ⟨wk, _, _, e⟩ | ⟨wk, hwk, _, e⟩ | ⟨_, e⟩ <;> rw [e]
  · exact DStep.same rfl rfl
  · have hwk' : (s.removeCleanup (.worker q w)).worker? q w = some wk := hwk
    exact (DStep.same (s' := s.removeCleanup (.worker q w))).trans
      (DStep.of_lookup hwk' _ rfl rfl (.inr rfl))
  · refine ⟨?_, dq_of_eq rfl⟩
    intro x hx g hg
    simp only [unsum, addWorker, List.mem_append, List.mem_singleton] at hx
    rcases hx with hx | rfl
    · exact ⟨x, hx, rfl, hg⟩
    · cases hg

theorem syncArrive_drel {h : Hints} {s s' : State} {now : Nat} {q : ScqId} {comps : List Nat} {pf : Nat}
    {w : WId} {rep : Report} {pi : Bool} (hh : syncArrive h s now q comps pf w rep pi = .ok s')
    (hex : ∀ s1, enter h s now = .ok s1 → ∀ wk ∈ s1.workers, ∃ sq, s1.scq? wk.scq = some sq) : DRel s s' := by
  obtain ⟨s1, x, h1, h2, h3⟩ := syncArrive_ok hh
  refine (enter_dstep h1).rel.trans ?_
  have hq := syncQueue_drel h2 (hex s1 h1)
  rcases h3 with rfl | ⟨s2, rfl, h3⟩
  · exact hq
  · refine DRel.trans (b := s2) hq ?_
    have hwk' := syncWorker_dstep s2 q w
    rcases h3 with h3 | ⟨s3, wk, h3, hwk, h4⟩
    · rw [h3] at hwk'; exact hwk'.rel
    · rw [h3] at hwk'
      refine DRel.trans (b := s3) hwk'.rel ?_
      rcases h4 with ⟨_, rfl⟩ | ⟨_, h4⟩ | ⟨d, _, _, rfl⟩ | ⟨d, _, _, h4⟩ | ⟨d, r, tid, s4, _, _, htk, h4, h5⟩ | ⟨d, r, _, _, h4⟩
      · exact ((DStep.same (s' := emit s3 (.syncErr q w cInvalidArgument))).trans (syncReturn_dstep _ q w)).rel
      · exact getCurrentOrNext_drel h4
      · exact ((DStep.same (s' := emit s3 (.syncNoChange q w (s3.now + s3.cfg.busyInterval)))).trans
          (syncReturn_dstep _ q w)).rel
      · exact getCurrentOrNext_drel h4
      · exact (complete_dstep h4).rel.trans (getNextTask_drel h5)
      · exact getCurrentOrNext_drel h4

theorem syncWake_drel {h : Hints} {s s' : State} {now : Nat} {q : ScqId} {w : WId} {reason : Nat}
    (hh : syncWake h s now q w reason = .ok s') : DRel s s' := by
  obtain ⟨s1, wk, h1, hwk, hin, h2⟩ := syncWake_ok hh
  refine (enter_dstep h1).rel.trans ?_
  have r1 : DStep s1 (s1.setWorker { wk with parked := false, woken := false, drainWait := none }) :=
    DStep.of_lookup hwk _ rfl rfl (.inl rfl)
  have r2 : DStep s1 (s1.setWorker { wk with woken := false }) := DStep.of_lookup hwk _ rfl rfl (.inr rfl)
  have r3 : DStep s1 (s1.setWorker { wk with drainWait := none }) := DStep.of_lookup hwk _ rfl rfl (.inl rfl)
  rcases h2 with ⟨_, h2 | h2⟩ | ⟨_, rfl⟩ | ⟨_, hwo, h2 | h2⟩ | ⟨_, sq, g, _, hdw, _, h2⟩
  · obtain ⟨s3, _, h3, rfl⟩ := h2
    exact ((r1.trans (execResponse_dstep h3)).trans (syncReturn_dstep _ q w)).rel
  · obtain ⟨_, rfl⟩ := h2
    exact ((r1.trans DStep.same).trans (syncReturn_dstep _ q w)).rel
  · exact ((r1.trans DStep.same).trans (syncReturn_dstep _ q w)).rel
  · obtain ⟨s3, _, h3, rfl⟩ := h2
    exact ((r2.trans (execResponse_dstep h3)).trans (syncReturn_dstep _ q w)).rel
  · exact r2.rel.trans (getNextTask_drel h2.2)
  · exact r3.rel.trans (getNextTask_drel h2)

theorem streamSend_dstep {s s' : State} {c o : Nat} (hh : streamSend s c o = .ok s') : DStep s s' := by
  obtain ⟨op', t, _, _, ⟨r, _, _, rfl⟩ | ⟨_, rfl⟩⟩ := streamSend_ok hh <;> exact DStep.same

theorem streamAttach_dstep {s s' : State} {c o : Nat} (hh : streamAttach s c o = .ok s') : DStep s s' := by
  obtain ⟨op, _, h1⟩ := streamAttach_ok hh
  exact (DStep.same (s' := attachS s o op) (by simp [attachS]) (by simp [attachS])).trans (streamSend_dstep h1)

theorem streamLeave_dstep {s s' : State} {c code : Nat} (hh : streamLeave s c code = .ok s') : DStep s s' := by
  obtain ⟨st, op, _, _, _, rfl⟩ := streamLeave_ok hh; exact DStep.same

theorem drainWake_fold (q : ScqId) (p : Pattern) (s0 : State) : ∀ (l : List Worker) (s : State),
    (∀ x ∈ l, x ∈ s0.workers) → DStep s0 s → DStep s0 (l.foldl (drainWake q p) s) := by
  intro l
  induction l with
  | nil => intro s _ h; exact h
  | cons a r ih =>
    intro s hl h
    simp only [List.foldl_cons]
    refine ih _ (fun x hx => hl x (List.mem_cons_of_mem _ hx)) ?_
    unfold drainWake
    split
    · refine ⟨?_, fun q' sq' hq' => h.q q' sq' hq'⟩
      intro x hx g hg
      rcases mem_setWorker hx with rfl | ⟨hx1, _⟩
      · exact ⟨a, hl a (List.mem_cons_self ..), rfl, hg⟩
      · exact h.w x hx1 g hg
    · exact h

theorem termMark_dstep (s : State) (w : Worker) : DStep s (termMark s w) := by
  unfold termMark
  split
  · rename_i w0 hw0
    have a1 : DStep s (s.setWorker { w0 with terminating := true }) := DStep.of_lookup hw0 _ rfl rfl (.inr rfl)
    split
    · split
      · rename_i w1 hw1
        exact a1.trans (DStep.of_setWorker _ _ (.inr ⟨w1, (worker?_mem hw1).1, rfl, rfl⟩))
      · exact a1
    · exact a1
  · exact DStep.refl _

theorem termMark_fold : ∀ (l : List Worker) (s : State), DStep s (l.foldl termMark s) := by
  intro l
  induction l with
  | nil => intro s; exact DStep.refl _
  | cons a r ih => intro s; simp only [List.foldl_cons]; exact (termMark_dstep s a).trans (ih _)

theorem setScq_dstep {s : State} {q : ScqId} {sq sq' : Scq} (hsq : s.scq? q = some sq) (hid : sq'.id = sq.id)
    (hg : sq.undrainGen ≤ sq'.undrainGen) : DStep s (s.setScq sq') := by
  refine ⟨dw_of_eq rfl, ?_⟩
  intro q' x hx
  rw [scq?_setScq] at hx
  have hidq : sq.id = q := by
    have := List.find?_some (show s.scqs.find? (fun x => x.id = q) = some sq from hsq); simpa using this
  split at hx
  · rename_i he
    have : q' = q := by rw [← he, hid, hidq]
    subst this
    rw [hsq] at hx; simp only [Option.map_some, Option.some.injEq] at hx; subst hx
    exact ⟨sq, hsq, hg⟩
  · exact ⟨x, hx, Nat.le_refl _⟩

/-- **every segment**, from a reachable state -/
theorem step_drel {s s' : State} {g : Seg} (hs : Reachable s) (hstep : step s g = .ok s') : DRel s s' := by
  cases g with
  | register id comps pf sizes bm bp =>
    simp only [step, pure_ok] at hstep; subst hstep
    exact drel_append (l := sizes.map (fun sc => { id := ⟨id, sc⟩, mayBeRemoved := false, drains := [], undrainGen := 0 }))
      rfl rfl (cinv_reachable hs).wScq
  | exec h now c0 d dk dnc comps pf inv prio =>
    refine DStep.rel ?_
    obtain ⟨s1, h1, h2 | h2 | h2⟩ := execArrive_ok hstep
    · obtain ⟨tid, t, _, h0, ⟨o, _, h3⟩ | ⟨_, h3⟩⟩ := h2
      · exact ((enter_dstep h1).trans (DStep.same (s' := emit s1 .selAbandoned))).trans (streamAttach_dstep h3)
      · exact ((enter_dstep h1).trans (DStep.same (s' := addOpS (emit s1 .selAbandoned) tid t inv prio))).trans (streamAttach_dstep h3)
    · obtain ⟨_, _, rfl⟩ := h2
      exact (enter_dstep h1).trans DStep.same
    · obtain ⟨_, pq, sc, s3, _, _, h3, h4⟩ := h2
      exact (((enter_dstep h1).trans (DStep.same (s' := newTaskS s1 d dk dnc ⟨pq.id, sc⟩ inv prio))).trans
        (schedule_dstep h3)).trans (streamAttach_dstep h4)
  | wait h now c0 name =>
    refine DStep.rel ?_
    obtain ⟨s1, h1, ⟨_, rfl⟩ | ⟨op, _, h2⟩⟩ := waitArrive_ok hstep
    · exact (enter_dstep h1).trans DStep.same
    · exact (enter_dstep h1).trans (streamAttach_dstep h2)
  | streamWake h now c0 reason =>
    refine DStep.rel ?_
    obtain ⟨s1, st, h1, _, ⟨_, h3⟩ | ⟨_, _, h3⟩⟩ := streamWake_ok hstep
    · exact (enter_dstep h1).trans (streamLeave_dstep h3)
    · exact (enter_dstep h1).trans (streamSend_dstep h3)
  | sync h now q comps pf w rep pi =>
    refine syncArrive_drel hstep ?_
    intro s1 h1
    exact (cinv_reachable (Reachable.step (.touch h now) hs h1)).wScq
  | syncWake h now q w reason => exact syncWake_drel hstep
  | killOp h now name code =>
    refine DStep.rel ?_
    obtain ⟨s1, h1, ⟨_, rfl⟩ | ⟨op, s2, _, h2, rfl⟩⟩ := killOp_ok hstep
    · exact (enter_dstep h1).trans DStep.same
    · exact ((enter_dstep h1).trans (complete_dstep h2)).trans (DStep.same)
  | killQueue h now q code =>
    refine DStep.rel ?_
    obtain ⟨s1, h1, ⟨ev, _, rfl⟩ | ⟨s2, h2, rfl⟩⟩ := killQueue_ok hstep
    · exact (enter_dstep h1).trans DStep.same
    · exact ((enter_dstep h1).trans (cancelAllQueued_dstep h2)).trans (DStep.same)
  | addDrain h now q p =>
    refine DStep.rel ?_
    obtain ⟨s1, h1, ⟨_, rfl⟩ | ⟨sq, hsq, rfl⟩⟩ := addDrain_ok hstep
    · exact (enter_dstep h1).trans DStep.same
    · refine ((enter_dstep h1).trans ?_).trans (DStep.same (s := List.foldl (drainWake q p) _ s1.workers) rfl rfl)
      exact drainWake_fold q p s1 s1.workers _ (fun _ hx => hx) (setScq_dstep hsq rfl (Nat.le_refl _))
  | removeDrain h now q p =>
    refine DStep.rel ?_
    obtain ⟨s1, h1, ⟨_, rfl⟩ | ⟨sq, hsq, rfl⟩⟩ := removeDrain_ok hstep
    · exact (enter_dstep h1).trans DStep.same
    · exact ((enter_dstep h1).trans (setScq_dstep (sq' := { sq with drains := sq.drains.filter (· ≠ p), undrainGen := sq.undrainGen + 1 })
        hsq rfl (Nat.le_succ _))).trans DStep.same
  | terminate h now id p =>
    refine DStep.rel ?_
    obtain ⟨s1, h1, h2⟩ := terminate_ok hstep
    simp only at h2
    have e := termMark_fold (s1.workers.filter (fun w => p.matches w.id)) s1
    rcases h2 with ⟨_, rfl⟩ | ⟨_, rfl⟩
    · exact ((enter_dstep h1).trans e).trans (DStep.same)
    · exact ((enter_dstep h1).trans e).trans (DStep.same)
  | termWake id reason =>
    refine DStep.rel ?_
    obtain ⟨tc, _, ⟨_, rfl⟩ | ⟨_, _, rfl⟩⟩ := termWake_ok hstep <;> exact DStep.same
  | touch h now => exact (enter_dstep hstep).rel

/-- **the undrain snapshot invariant** -/
theorem dinv_reachable {s : State} (hs : Reachable s) : DInv s := by
  induction hs with
  | init cfg => intro wk hm; cases hm
  | step g hs hstep ih => exact ih.step (step_drel hs hstep)

/-- after a successful `RemoveDrain` on queue `q`, the snapshot of every worker of `q` that waits for an undrain
is strictly behind the queue's generation -/
theorem removeDrain_stale {s s' : State} (hs : Reachable s) {h : Hints} {now : Nat} {q : ScqId} {p : Pattern}
    (hstep : step s (.removeDrain h now q p) = .ok s') {w : WId} {wk : Worker} {g : Nat}
    (hwk : s'.worker? q w = some wk) (hdw : wk.drainWait = some g) :
    ∃ sq', s'.scq? q = some sq' ∧ g < sq'.undrainGen := by
  obtain ⟨s1, h1, h2⟩ := removeDrain_ok hstep
  have hr1 : Reachable s1 := Reachable.step (.touch h now) hs h1
  obtain ⟨hm, hq, _⟩ := worker?_mem hwk
  rcases h2 with ⟨hn, rfl⟩ | ⟨sq, hsq, rfl⟩
  · have hm1 : wk ∈ s1.workers := hm
    obtain ⟨sq, hsq⟩ := (cinv_reachable hr1).wScq wk hm1
    rw [hq, hn] at hsq; cases hsq
  · have hm1 : wk ∈ s1.workers := hm
    have hidq : sq.id = q := by
      have := List.find?_some (show s1.scqs.find? (fun x => x.id = q) = some sq from hsq); simpa using this
    refine ⟨{ sq with drains := sq.drains.filter (· ≠ p), undrainGen := sq.undrainGen + 1 }, ?_, ?_⟩
    · show (s1.setScq _).scq? q = _
      rw [scq?_setScq, if_pos hidq, hsq]; rfl
    · have := dinv_reachable hr1 wk hm1 g hdw sq (by rw [hq]; exact hsq)
      exact Nat.lt_succ_of_le this

end BbRe.Lemmas.SchedLive
