/-
The scheduler's `platformQueues` list + `platformQueuesTrie` (Model/Trie.lean `PQIndex`):
the index invariant and its preservation by `addPlatformQueue` and the swap-with-last removal.
-/
import BbRe.Lemmas.TrieTop
namespace BbRe.Lemmas.TrieIndex
open BbRe.Model.Trie BbRe.Lemmas.TrieTop
open BbRe.Spec.PrefixMap (Comp Plat Key)

/-- `platformQueues[i]` ↔ trie value `i`, and the trie knows no other keys. -/
structure Inv (s : PQIndex) : Prop where
  wf : WF s.trie
  idx : ∀ (i : Nat) (k : Key), s.queues[i]? = some k → tval s.trie k = (i : Int)
  dom : ∀ k, 0 ≤ tval s.trie k → k ∈ s.queues

theorem inv_empty : Inv PQIndex.empty := ⟨wf_empty, nofun, fun _ h => absurd h (by decide : ¬ (0 : Int) ≤ -1)⟩

theorem Inv.inj {s : PQIndex} (h : Inv s) {i j : Nat} {k : Key}
    (hi : s.queues[i]? = some k) (hj : s.queues[j]? = some k) : i = j :=
  Int.ofNat.inj ((h.idx i k hi).symm.trans (h.idx j k hj))

theorem Inv.nodup {s : PQIndex} (h : Inv s) : s.queues.Nodup := by
  unfold List.Nodup
  rw [List.pairwise_iff_getElem]
  intro i j hi hj hij e
  exact Nat.ne_of_lt hij
    (h.inj (List.getElem?_eq_getElem hi) (by rw [List.getElem?_eq_getElem hj, e]))

theorem Inv.mem_iff {s : PQIndex} (h : Inv s) (k : Key) : k ∈ s.queues ↔ 0 ≤ tval s.trie k := by
  refine ⟨fun hk => ?_, h.dom k⟩
  obtain ⟨i, hi⟩ := List.mem_iff_getElem?.1 hk
  rw [h.idx i k hi]; exact Int.natCast_nonneg i

theorem Inv.getExact {s : PQIndex} (h : Inv s) (k : Key) : s.trie.getExact k = tval s.trie k :=
  getExact_eq h.wf k

theorem synchronize_eq (s : PQIndex) (key : Key) :
    s.synchronize key = if s.trie.getExact key ≥ 0 then (s, s.trie.getExact key)
      else (s.addPlatformQueue key, (s.queues.length : Int)) := rfl

theorem inv_add {s : PQIndex} (h : Inv s) (k : Key) (hk : tval s.trie k < 0) :
    Inv (s.addPlatformQueue k) := by
  refine ⟨wf_set h.wf k (Int.natCast_nonneg _), fun i k' hi => ?_, fun k' hk' => ?_⟩
  · show tval (s.trie.set k _) k' = i
    rw [tval_set]
    by_cases hlt : i < s.queues.length
    · have hv := h.idx i k' (by rw [← hi]; exact (List.getElem?_append_left hlt).symm)
      rw [if_neg fun e => absurd hk (Int.not_lt.2 (by rw [← e, hv]; exact Int.natCast_nonneg i))]
      exact hv
    · have hi' : (s.queues ++ [k])[i]? = some k' := hi
      rw [List.getElem?_append_right (Nat.le_of_not_lt hlt), List.getElem?_singleton] at hi'
      split at hi'
      · next h0 =>
        cases hi'
        rw [if_pos rfl, Nat.le_antisymm (Nat.le_of_sub_eq_zero h0) (Nat.le_of_not_lt hlt)]
      · cases hi'
  · have hk'' : 0 ≤ tval (s.trie.set k _) k' := hk'
    rw [tval_set] at hk''
    show k' ∈ s.queues ++ [k]
    split at hk''
    · next e => rw [e]; exact List.mem_append_right _ (List.mem_singleton_self k)
    · exact List.mem_append_left _ (h.dom k' hk'')

theorem inv_register {s : PQIndex} (h : Inv s) (inst : List Comp) (props : List (Nat × Nat)) :
    Inv (s.register inst props).1 := by
  unfold PQIndex.register
  cases newKey inst props with
  | none => exact h
  | some key =>
    show Inv (ite (s.trie.containsExact key = true) (s, Status.alreadyExists) (s.addPlatformQueue key, Status.ok)).1
    split
    · exact h
    · next hc => exact inv_add h key (Int.not_le.1 fun hh => hc ((containsExact_iff h.wf key).2 hh))

theorem inv_synchronize {s : PQIndex} (h : Inv s) (key : Key) : Inv (s.synchronize key).1 := by
  rw [synchronize_eq]
  split
  · exact h
  · next hk => exact inv_add h key (by rw [h.getExact] at hk; omega)

theorem synchronize_index {s : PQIndex} (h : Inv s) (key : Key) :
    ∃ i : Nat, (s.synchronize key).2 = (i : Int) ∧ (s.synchronize key).1.queues[i]? = some key := by
  rw [synchronize_eq]
  split
  · next hk =>
    rw [h.getExact] at hk
    obtain ⟨i, hi⟩ := List.mem_iff_getElem?.1 (h.dom key hk)
    exact ⟨i, (h.getExact key).trans (h.idx i key hi), hi⟩
  · exact ⟨s.queues.length, rfl, List.getElem?_concat_length⟩

/-- the list side of `sizeClassQueue.remove`, for any index function: `f` indexes `l`, and `g` is
`f` after "`last ↦ i`, then forget `x`" (`Set(lastKey, index)`, `Remove(pqKey)`); then `g` indexes
`l` with its last element moved to position `i`. -/
theorem swapLast_index {α : Type} [DecidableEq α] {l : List α} {f g : α → Int} {i : Nat} {x last : α}
    (hx : l[i]? = some x) (hlast : l[l.length - 1]? = some last)
    (hidx : ∀ (j : Nat) (k : α), l[j]? = some k → f k = (j : Int)) (hdom : ∀ k, 0 ≤ f k → k ∈ l)
    (hg : ∀ k, g k = if k = x then -1 else if k = last then (i : Int) else f k) :
    (∀ (j : Nat) (k : α), ((l.set i last).take (l.length - 1))[j]? = some k → g k = (j : Int)) ∧
      ∀ k, 0 ≤ g k → k ∈ (l.set i last).take (l.length - 1) := by
  have inj : ∀ {a b : Nat} {k : α}, l[a]? = some k → l[b]? = some k → a = b :=
    fun ha hb => Int.ofNat.inj ((hidx _ _ ha).symm.trans (hidx _ _ hb))
  obtain ⟨hil, _⟩ := List.getElem?_eq_some_iff.1 hx
  constructor
  · intro j k hj
    rw [List.getElem?_take] at hj
    by_cases hjl : j < l.length - 1
    · rw [if_pos hjl] at hj
      by_cases hij : i = j
      · subst hij
        rw [List.getElem?_set_self hil] at hj; cases hj
        rw [hg, if_neg fun e : last = x => absurd (inj hx (e ▸ hlast)) (Nat.ne_of_lt hjl), if_pos rfl]
      · rw [List.getElem?_set_ne hij] at hj
        rw [hg, if_neg fun e : k = x => hij (inj hx (e ▸ hj)),
          if_neg fun e : k = last => absurd (inj hj (e.symm ▸ hlast)) (Nat.ne_of_lt hjl)]
        exact hidx j k hj
    · rw [if_neg hjl] at hj; cases hj
  · intro k hk
    rw [hg] at hk
    by_cases hkx : k = x
    · rw [if_pos hkx] at hk; exact absurd hk (by decide)
    · rw [if_neg hkx] at hk
      rw [List.mem_iff_getElem?]
      by_cases hkl : k = last
      · have : i ≠ l.length - 1 := fun e => hkx (by
          rw [e, hlast] at hx; exact hkl.trans (Option.some.inj hx))
        have := Nat.lt_of_le_of_ne (Nat.le_sub_one_of_lt hil) this
        exact ⟨i, by rw [List.getElem?_take_of_lt this, List.getElem?_set_self hil, hkl]⟩
      · rw [if_neg hkl] at hk
        obtain ⟨j, hj⟩ := List.mem_iff_getElem?.1 (hdom k hk)
        obtain ⟨hjl, _⟩ := List.getElem?_eq_some_iff.1 hj
        have hji : i ≠ j := fun e => hkx (by rw [← e, hx] at hj; exact (Option.some.inj hj).symm)
        have hjn : j ≠ l.length - 1 := fun e => hkl (by
          rw [e, hlast] at hj; exact (Option.some.inj hj).symm)
        have := Nat.lt_of_le_of_ne (Nat.le_sub_one_of_lt hjl) hjn
        exact ⟨j, by rw [List.getElem?_take_of_lt this, List.getElem?_set_ne hji]; exact hj⟩

theorem removeQueue_eq (s : PQIndex) (i : Nat) {pqKey lastKey : Key} (h1 : s.queues[i]? = some pqKey)
    (h2 : s.queues[s.queues.length - 1]? = some lastKey) :
    s.removeQueue i =
      if s.trie.getExact pqKey < 0 ∨ (s.trie.getExact pqKey).toNat ≥ s.queues.length then none
      else ((s.trie.set lastKey (s.trie.getExact pqKey)).remove pqKey).map fun t2 =>
        ⟨(s.queues.set (s.trie.getExact pqKey).toNat lastKey).take (s.queues.length - 1), t2⟩ := by
  unfold PQIndex.removeQueue
  simp only [h1, h2]
  split
  · rfl
  · cases (s.trie.set lastKey (s.trie.getExact pqKey)).remove pqKey <;> rfl

theorem removeQueue_spec {s : PQIndex} (h : Inv s) {i : Nat} {x last : Key}
    (hx : s.queues[i]? = some x) (hlast : s.queues[s.queues.length - 1]? = some last) :
    ∃ t2, (s.trie.set last (i : Int)).remove x = some t2 ∧
      s.removeQueue i = some ⟨(s.queues.set i last).take (s.queues.length - 1), t2⟩ := by
  obtain ⟨hi, _⟩ := List.getElem?_eq_some_iff.1 hx
  have hidx : s.trie.getExact x = (i : Int) := (h.getExact _).trans (h.idx i _ hx)
  have hpres : 0 ≤ tval (s.trie.set last (i : Int)) x := by
    rw [tval_set]
    split
    · exact Int.natCast_nonneg i
    · rw [← h.getExact, hidx]; exact Int.natCast_nonneg i
  obtain ⟨t2, ht2⟩ := remove_present _ hpres
  refine ⟨t2, ht2, ?_⟩
  rw [removeQueue_eq s i hx hlast, hidx, Int.toNat_natCast, ht2,
    if_neg fun hc => hc.elim (Int.not_lt.2 (Int.natCast_nonneg i)) (Nat.not_le.2 hi)]
  rfl

theorem inv_removeQueue {s s' : PQIndex} (h : Inv s) {i : Nat} (hi : i < s.queues.length)
    (hr : s.removeQueue i = some s') : Inv s' := by
  have hx := List.getElem?_eq_getElem hi
  have hlast := List.getElem?_eq_getElem (Nat.sub_lt (Nat.zero_lt_of_lt hi) Nat.one_pos)
  obtain ⟨t2, ht2, hrq⟩ := removeQueue_spec h hx hlast
  cases hrq.symm.trans hr
  obtain ⟨hw2, hv2⟩ := remove_spec (wf_set h.wf _ (Int.natCast_nonneg i)) _ ht2
  have hsw := swapLast_index hx hlast h.idx h.dom (g := tval t2) fun k => by rw [hv2, tval_set]
  exact ⟨hw2, hsw.1, hsw.2⟩

inductive QOp
  | register (inst : List Comp) (props : List (Nat × Nat))
  | synchronize (key : Key)
  | removeQueue (i : Nat)

/-- `none`: a Go panic. -/
def qstep (s : PQIndex) : QOp → Option PQIndex
  | .register inst props => some (s.register inst props).1
  | .synchronize key => some (s.synchronize key).1
  | .removeQueue i => s.removeQueue i

def qrun (s : PQIndex) : List QOp → Option PQIndex
  | [] => some s
  | op :: ops => match qstep s op with
    | none => none
    | some s' => qrun s' ops

theorem removeQueue_none_of_ge (s : PQIndex) {i : Nat} (hi : s.queues.length ≤ i) :
    s.removeQueue i = none := by
  unfold PQIndex.removeQueue
  rw [List.getElem?_eq_none hi]

theorem inv_qstep {s s' : PQIndex} (h : Inv s) (op : QOp) (hs : qstep s op = some s') : Inv s' := by
  cases op with
  | register inst props =>
    simp only [qstep, Option.some.injEq] at hs; subst hs; exact inv_register h inst props
  | synchronize key =>
    simp only [qstep, Option.some.injEq] at hs; subst hs; exact inv_synchronize h key
  | removeQueue i =>
    simp only [qstep] at hs
    rcases Nat.lt_or_ge i s.queues.length with hi | hi
    · exact inv_removeQueue h hi hs
    · rw [removeQueue_none_of_ge s hi] at hs; cases hs

theorem inv_qrun {s s' : PQIndex} (h : Inv s) (ops : List QOp) (hr : qrun s ops = some s') : Inv s' := by
  induction ops generalizing s with
  | nil => simp only [qrun, Option.some.injEq] at hr; subst hr; exact h
  | cons op ops ih =>
    simp only [qrun] at hr
    cases hs : qstep s op with
    | none => rw [hs] at hr; cases hr
    | some s1 => rw [hs] at hr; exact ih (inv_qstep h op hs) hr

theorem patchSuffix_append {pfx inst : List Comp} (h : pfx <+: inst) :
    pfx ++ patchSuffix pfx inst = inst := by
  obtain ⟨t, rfl⟩ := h
  rw [patchSuffix, List.drop_left]

theorem key_eta {q : Key} {p : Plat} (h : q.plat = p) : (⟨q.inst, p⟩ : Key) = q := by
  cases q; cases h; rfl

theorem Inv.glp_neg_iff {s : PQIndex} (h : Inv s) (key : Key) :
    s.trie.getLongestPrefix key < 0 ↔
      ∀ q, q ∈ s.queues → ¬ (q.plat = key.plat ∧ q.inst <+: key.inst) := by
  rw [TrieTop.glp_neg_iff]
  constructor
  · intro hall q hq ⟨hp, hpre⟩
    have := hall q.inst hpre
    rw [key_eta hp] at this
    exact absurd ((h.mem_iff q).1 hq) (Int.not_le.2 this)
  · intro hall q hq
    exact Int.not_le.1 fun hv => hall _ (h.dom _ hv) ⟨rfl, hq⟩

theorem Inv.glp_eq_iff {s : PQIndex} (h : Inv s) (key : Key) (j : Nat) :
    s.trie.getLongestPrefix key = (j : Int) ↔
      ∃ q, s.queues[j]? = some q ∧ q.plat = key.plat ∧ q.inst <+: key.inst ∧
        ∀ q', q' ∈ s.queues → q'.plat = key.plat → q'.inst <+: key.inst →
          q'.inst.length ≤ q.inst.length := by
  rw [glp_nonneg_iff _ _ _ (Int.natCast_nonneg j)]
  constructor
  · rintro ⟨p, hp, hv, hmax⟩
    obtain ⟨i, hi⟩ := List.mem_iff_getElem?.1 (h.dom ⟨p, key.plat⟩ (hv ▸ Int.natCast_nonneg j))
    cases Int.ofNat.inj ((h.idx i _ hi).symm.trans hv)
    refine ⟨_, hi, rfl, hp, fun q' hq' hpl hpre => Nat.le_of_not_lt fun hlt => ?_⟩
    have := hmax q'.inst hpre hlt
    rw [key_eta hpl] at this
    exact absurd ((h.mem_iff q').1 hq') (Int.not_le.2 this)
  · rintro ⟨q, hj, hp, hpre, hmax⟩
    refine ⟨q.inst, hpre, by rw [key_eta hp]; exact h.idx j q hj, fun p' hp' hl => ?_⟩
    exact Int.not_le.1 fun hv => Nat.not_le.2 hl (hmax _ (h.dom _ hv) rfl hp')

theorem execute_eq (s : PQIndex) (key : Key) :
    s.execute key = if s.trie.getLongestPrefix key < 0 then none else
      some (s.trie.getLongestPrefix key,
        (s.queues[(s.trie.getLongestPrefix key).toNat]?).map fun pk => patchSuffix pk.inst key.inst) :=
  rfl

theorem execute_eq_none_iff (s : PQIndex) (key : Key) :
    s.execute key = none ↔ s.trie.getLongestPrefix key < 0 := by
  rw [execute_eq]
  split
  · next h => exact ⟨fun _ => h, fun _ => rfl⟩
  · next h => exact ⟨nofun, fun h' => absurd h' h⟩

end BbRe.Lemmas.TrieIndex
