import BbRe.Lemmas.FilePoolRefine
/-!
`GetNextRegionOffset`: list scans, the hole source's own seeks, the invariant
that a sector list never ends in a hole, and agreement of the result with the
data/hole map of the file at sector granularity (a byte offset is *data* when
its sector is allocated or the hole source has data there).
-/
namespace BbRe.Lemmas.FilePool
open BbRe.FilePool

/-! ## scans -/

theorem findFrom_some {p : Nat → Bool} : ∀ {fuel off j : Nat}, findFrom p off fuel = some j →
    off ≤ j ∧ j < off + fuel ∧ p j = true ∧ ∀ k, off ≤ k → k < j → p k = false := by
  intro fuel
  induction fuel with
  | zero => intro off j h; simp [findFrom] at h
  | succ fuel ih =>
    intro off j h
    unfold findFrom at h
    split at h
    · rename_i hp
      simp only [Option.some.injEq] at h; subst h
      exact ⟨Nat.le_refl _, by omega, hp, fun k h1 h2 => by omega⟩
    · rename_i hp
      obtain ⟨h1, h2, h3, h4⟩ := ih h
      refine ⟨by omega, by omega, h3, fun k hk1 hk2 => ?_⟩
      by_cases hk : k = off
      · subst hk; simpa using hp
      · exact h4 k (by omega) hk2

theorem findFrom_none {p : Nat → Bool} : ∀ {fuel off : Nat}, findFrom p off fuel = none →
    ∀ k, off ≤ k → k < off + fuel → p k = false := by
  intro fuel
  induction fuel with
  | zero => intro off _ k h1 h2; omega
  | succ fuel ih =>
    intro off h k h1 h2
    unfold findFrom at h
    split at h
    · simp at h
    · rename_i hp
      by_cases hk : k = off
      · subst hk; simpa using hp
      · exact ih h k (by omega) (by omega)

theorem isData_lt_limit {h : Hole} {i : Nat} (hd : h.isData i = true) : i < h.limit := by
  unfold Hole.isData at hd
  simp only [Bool.and_eq_true, decide_eq_true_eq] at hd
  exact hd.1

/-- the hole source's `GetNextRegionOffset(off, Data)`. -/
theorem nextData_spec (h : Hole) (off : Nat) :
    (∀ j, h.nextData off = some j → off ≤ j ∧ h.isData j = true ∧ ∀ k, off ≤ k → k < j → h.isData k = false) ∧
      (h.nextData off = none → ∀ k, off ≤ k → h.isData k = false) := by
  unfold Hole.nextData
  refine ⟨fun j hj => ?_, fun hn k hk => ?_⟩
  · obtain ⟨h1, _, h3, h4⟩ := findFrom_some hj
    exact ⟨h1, h3, h4⟩
  · by_cases hl : k < h.limit
    · exact findFrom_none hn k hk (by omega)
    · cases hd : h.isData k with
      | false => rfl
      | true => exact absurd (isData_lt_limit hd) hl

/-- the hole source's `GetNextRegionOffset(off, Hole)`; `none` (`io.EOF`) only at or beyond its end. -/
theorem nextHole_spec (h : Hole) (off : Nat) :
    (∀ j, h.nextHole off = some j → off ≤ j ∧ j ≤ max off h.limit ∧ h.isData j = false ∧
        ∀ k, off ≤ k → k < j → h.isData k = true) ∧
      (h.nextHole off = none → h.limit ≤ off) := by
  unfold Hole.nextHole
  have hbeyond : ∀ k, h.limit ≤ k → h.isData k = false := by
    intro k hk
    cases hd : h.isData k with
    | false => rfl
    | true => exact absurd (isData_lt_limit hd) (by omega)
  split
  · rename_i hge
    refine ⟨fun j hj => ?_, fun _ => hge⟩
    split at hj
    · simp at hj
    · simp only [Option.some.injEq] at hj; subst hj
      exact ⟨Nat.le_refl _, by omega, hbeyond _ hge, fun k h1 h2 => by omega⟩
  · rename_i hlt
    refine ⟨fun j hj => ?_, fun hn => ?_⟩
    · split at hj
      · rename_i j' hf
        simp only [Option.some.injEq] at hj; subst hj
        obtain ⟨h1, h2, h3, h4⟩ := findFrom_some hf
        refine ⟨h1, by omega, by simpa using h3, fun k hk1 hk2 => ?_⟩
        have := h4 k hk1 hk2
        simpa using this
      · rename_i hf
        simp only [Option.some.injEq] at hj; subst hj
        refine ⟨by omega, by omega, hbeyond _ (Nat.le_refl _), fun k hk1 hk2 => ?_⟩
        have := findFrom_none hf k hk1 (by omega)
        simpa using this
    · split at hn <;> simp at hn

theorem nextNonZero_some : ∀ (l : List Nat) (i k : Nat), nextNonZero l i = some k →
    i ≤ k ∧ l.getD (k - i) 0 ≠ 0 ∧ ∀ q, q < k - i → l.getD q 0 = 0 := by
  intro l
  induction l with
  | nil => intro i k h; simp [nextNonZero] at h
  | cons x xs ih =>
    intro i k h
    unfold nextNonZero at h
    split at h
    · rename_i hx
      simp only [Option.some.injEq] at h; subst h
      exact ⟨Nat.le_refl _, by simpa using hx, fun q hq => by omega⟩
    · rename_i hx
      obtain ⟨h1, h2, h3⟩ := ih (i + 1) k h
      have hx0 : x = 0 := by simpa using hx
      refine ⟨by omega, ?_, fun q hq => ?_⟩
      · rw [show k - i = (k - (i + 1)) + 1 by omega, List.getD_cons_succ]; exact h2
      · cases q with
        | zero => simpa using hx0
        | succ q => rw [List.getD_cons_succ]; exact h3 q (by omega)

theorem nextNonZero_none : ∀ (l : List Nat) (i : Nat), nextNonZero l i = none → ∀ q, l.getD q 0 = 0 := by
  intro l
  induction l with
  | nil => intro i _ q; rfl
  | cons x xs ih =>
    intro i h q
    unfold nextNonZero at h
    split at h
    · simp at h
    · rename_i hx
      have hx0 : x = 0 := by simpa using hx
      cases q with
      | zero => simpa using hx0
      | succ q => rw [List.getD_cons_succ]; exact ih (i + 1) h q

theorem nextZero_spec : ∀ (l : List Nat) (i : Nat),
    i ≤ nextZero l i ∧ nextZero l i - i ≤ l.length ∧ l.getD (nextZero l i - i) 0 = 0 ∧
      ∀ q, q < nextZero l i - i → l.getD q 0 ≠ 0 := by
  intro l
  induction l with
  | nil => intro i; simp [nextZero]
  | cons x xs ih =>
    intro i
    unfold nextZero
    split
    · rename_i hx
      refine ⟨Nat.le_refl _, by omega, ?_, fun q hq => by omega⟩
      rw [Nat.sub_self]; simpa using hx
    · rename_i hx
      obtain ⟨h1, h2, h3, h4⟩ := ih (i + 1)
      refine ⟨by omega, by simp only [List.length_cons]; omega, ?_, fun q hq => ?_⟩
      · rw [show nextZero xs (i + 1) - i = (nextZero xs (i + 1) - (i + 1)) + 1 by omega, List.getD_cons_succ]
        exact h3
      · cases q with
        | zero => simpa using hx
        | succ q => rw [List.getD_cons_succ]; exact h4 q (by omega)

/-! ## a sector list never ends in a hole -/

/-- the scans of `GetNextRegionOffset` start at entry `i` of the sector list: in terms of that list. -/
theorem nextNonZero_drop_some {l : List Nat} {i k : Nat} (h : nextNonZero (l.drop i) i = some k) :
    i ≤ k ∧ l.getD k 0 ≠ 0 ∧ ∀ q, i ≤ q → q < k → l.getD q 0 = 0 := by
  obtain ⟨h1, h2, h3⟩ := nextNonZero_some _ _ _ h
  rw [getD_drop, Nat.add_sub_cancel' h1] at h2
  refine ⟨h1, h2, fun q q1 q2 => ?_⟩
  have := h3 (q - i) (Nat.sub_lt_sub_right q1 q2)
  rwa [getD_drop, Nat.add_sub_cancel' q1] at this

theorem nextZero_drop_spec (l : List Nat) (i : Nat) :
    i ≤ nextZero (l.drop i) i ∧ l.getD (nextZero (l.drop i) i) 0 = 0 ∧
      ∀ q, i ≤ q → q < nextZero (l.drop i) i → l.getD q 0 ≠ 0 := by
  obtain ⟨h1, _, h3, h4⟩ := nextZero_spec (l.drop i) i
  rw [getD_drop, Nat.add_sub_cancel' h1] at h3
  refine ⟨h1, h3, fun q q1 q2 => ?_⟩
  have := h4 (q - i) (Nat.sub_lt_sub_right q1 q2)
  rwa [getD_drop, Nat.add_sub_cancel' q1] at this

/-- the last entry of a non-empty sector list is not a hole. -/
def NoTrail (l : List Nat) : Prop := ∀ q, q + 1 = l.length → l.getD q 0 ≠ 0

theorem noTrail_nil : NoTrail [] := by intro q h; simp at h

theorem trimZeros_noTrail (l : List Nat) : NoTrail (trimZeros l) := by
  induction l with
  | nil => exact noTrail_nil
  | cons x xs ih =>
    unfold trimZeros
    split
    · split
      · exact noTrail_nil
      · rename_i hx
        intro q hq
        simp only [List.length_cons, List.length_nil] at hq
        have : q = 0 := by omega
        subst this; simpa using hx
    · rename_i y ys heq
      intro q hq
      simp only [List.length_cons] at hq
      cases q with
      | zero => omega
      | succ q =>
        rw [List.getD_cons_succ]
        rw [heq] at ih
        exact ih q (by simp only [List.length_cons]; omega)

theorem truncateSectors_noTrail (f : File) (e : Env) (k : Nat) (h : NoTrail f.sectors) :
    NoTrail (truncateSectors f e k).1.sectors := by
  unfold truncateSectors
  split
  · exact trimZeros_noTrail _
  · exact h

theorem insert_noTrail {secs secs' : List Nat} {idx first count : Nat}
    (hins : insertSectors secs idx first count = some secs') (hf : 1 ≤ first)
    (h : NoTrail secs ∨ (1 ≤ count ∧ idx + count = secs.length)) : NoTrail secs' := by
  intro q hq
  have hlen := (insertSectors_spec hins hf).1
  rw [insertSectors_getD hins]
  split
  · omega
  · rename_i hnot
    rcases h with h | ⟨h1, h2⟩
    · exact h q (by omega)
    · omega

theorem writeToSectors_noTrail {c : Cfg} {f : File} {e : Env} (p : List Byte) (idx endIdx ow : Nat)
    (how : ow < c.ss) (h : NoTrail f.sectors) : NoTrail (writeToSectors c f e p idx endIdx ow).1.sectors := by
  unfold writeToSectors
  split
  · rename_i hidx
    split
    · exact h
    · rename_i e1 n first got heq
      have hw := wns_ok heq
      obtain ⟨secs', hs'⟩ := insert_grown_some f.sectors idx first got hidx
      dsimp only
      rw [hs']
      dsimp only
      exact insert_noTrail hs' hw.2.2.2.2.1 (Or.inr ⟨hw.2.2.1, by simp; omega⟩)
  · rename_i hidx
    have hidx' : idx < f.sectors.length := by omega
    obtain ⟨hc1, hc2, hc3, hc4, hc5⟩ := contig_spec f.sectors idx endIdx hidx'
    dsimp only
    split
    · rename_i hz
      split
      · exact h
      · rename_i e1 n first got heq
        have hw := wns_ok heq
        have hgot : got ≤ (contig f.sectors idx endIdx).2 := by
          refine Nat.le_trans hw.2.2.2.1 (want_le_cnt ow c.ss _ _ how hc2 ?_)
          simp only [List.length_take]; omega
        obtain ⟨secs', hs'⟩ := insert_hole_some f.sectors idx first got _ hc3
          (fun j hj => by rw [hc5 j hj, if_pos hz]) hgot
        rw [hs']
        dsimp only
        exact insert_noTrail hs' hw.2.2.2.2.1 (Or.inl h)
    · split <;> exact h

theorem writeLoop_noTrail {c : Cfg} : ∀ (fuel : Nat) (f : File) (e : Env) (p : List Byte) (idx endIdx ow : Nat),
    ow < c.ss → NoTrail f.sectors → NoTrail (writeLoop c fuel f e p idx endIdx ow).1.sectors := by
  intro fuel
  induction fuel with
  | zero => intro f e p idx endIdx ow _ h; exact h
  | succ fuel ih =>
    intro f e p idx endIdx ow how h
    have h1 := writeToSectors_noTrail (c := c) (f := f) (e := e) p idx endIdx ow how h
    unfold writeLoop
    dsimp only
    split
    · exact h1
    · split
      · exact h1
      · exact ih _ _ _ _ _ 0 (by omega) h1

theorem writeAt_noTrail {c : Cfg} {f : File} {e : Env} (p : List Byte) (off : Int) (hss : 0 < c.ss)
    (h : NoTrail f.sectors) : NoTrail (writeAt c f e p off).1.sectors := by
  unfold writeAt
  split
  · exact h
  · split
    · exact h
    · dsimp only
      have := writeLoop_noTrail (c := c) (p.length + 1) f e p (off.toNat / c.ss)
        (min ((off.toNat + p.length + c.ss - 1) / c.ss) f.sectors.length) (off.toNat % c.ss) (Nat.mod_lt _ hss) h
      split <;> exact this

theorem truncate_noTrail {c : Cfg} {f : File} {e : Env} (size : Int) (h : NoTrail f.sectors) :
    NoTrail (truncate c f e size).1.sectors := by
  by_cases hneg : size < 0
  · rw [truncate_neg _ _ _ _ hneg]; exact h
  · obtain ⟨sz, rfl⟩ : ∃ sz : Nat, size = (sz : Int) := ⟨size.toNat, by omega⟩
    have ht := truncateSectors_noTrail f (truncZr c f e sz).1 (truncK c sz) h
    cases hz : (truncZr c f e sz).2 with
    | some n => rw [truncate_some hz]; exact h
    | none =>
      by_cases hlt : sz < f.size
      · by_cases hht : (truncFe c f e sz).2.faults.ht = true
        · rw [truncate_shrink_fault hz hlt hht]; exact ht
        · rw [truncate_shrink_ok hz hlt hht]; exact ht
      · rw [truncate_grow hz hlt]; exact ht

/-! ## the data/hole map -/

/-- data/hole map at sector granularity. -/
def dataAt (c : Cfg) (f : File) (i : Nat) : Prop :=
  f.sectors.getD (i / c.ss) 0 ≠ 0 ∨ f.hole.isData i = true

theorem holeSeek_nofault {e : Env} (h : e.faults.hs = none) : e.holeSeek = (e, true) := by
  unfold Env.holeSeek; rw [h]

theorem mul_div_self' (k ss : Nat) (hss : 0 < ss) : k * ss / ss = k := Nat.mul_div_cancel k hss

theorem div_ge_of_ge_mul {i k ss : Nat} (hss : 0 < ss) (h : k * ss ≤ i) : k ≤ i / ss :=
  (Nat.le_div_iff_mul_le hss).mpr h

/-- `GetNextRegionOffset(off, Data)` (no seek fault): the least data offset `≥ off`, or `io.EOF`
when there is none; the sector scan never runs off the list. -/
theorem seekData_spec {c : Cfg} {f : File} {e : Env} (off : Nat) (hss : 0 < c.ss) (hs : e.faults.hs = none)
    (hnt : NoTrail f.sectors) :
    (seekData c f e off).1 = e ∧
      ((∃ j, (seekData c f e off).2 = .ok j ∧ off ≤ j ∧ dataAt c f j ∧ ∀ k, off ≤ k → k < j → ¬ dataAt c f k) ∨
        ((seekData c f e off).2 = .error .eof ∧ ∀ k, off ≤ k → ¬ dataAt c f k)) := by
  obtain ⟨hd1, hd2⟩ := nextData_spec f.hole off
  unfold seekData
  dsimp only
  rw [holeSeek_nofault hs]
  dsimp only
  have hdm := div_mul_mod off c.ss
  have hmod := Nat.mod_lt off hss
  have hmono : ∀ k, off ≤ k → off / c.ss ≤ k / c.ss := fun k hk => Nat.div_le_div_right hk
  generalize hq0 : off / c.ss = q0 at *
  split
  · -- beyond the sector list: only the hole source can have data
    rename_i hidx
    have hzero : ∀ k, off ≤ k → f.sectors.getD (k / c.ss) 0 = 0 := by
      intro k hk
      have := hmono k hk
      exact getD_ge _ _ (by omega)
    refine ⟨rfl, ?_⟩
    cases hn : f.hole.nextData off with
    | some j =>
      left
      obtain ⟨h1, h2, h3⟩ := hd1 j hn
      refine ⟨j, rfl, h1, Or.inr h2, fun k hk1 hk2 hda => ?_⟩
      rcases hda with hda | hda
      · exact hda (hzero k hk1)
      · rw [h3 k hk1 hk2] at hda; cases hda
    | none =>
      right
      refine ⟨rfl, fun k hk hda => ?_⟩
      rcases hda with hda | hda
      · exact hda (hzero k hk)
      · rw [hd2 hn k hk] at hda; cases hda
  · rename_i hidx
    split
    · rename_i hne
      exact ⟨rfl, Or.inl ⟨off, rfl, Nat.le_refl _, Or.inl (by rw [hq0]; exact hne), fun k h1 h2 => by omega⟩⟩
    · rename_i hz
      have hz0 : f.sectors.getD q0 0 = 0 := by simpa using hz
      cases hnn : nextNonZero (f.sectors.drop (q0 + 1)) (q0 + 1) with
      | none =>
        exfalso
        have hall := nextNonZero_none _ _ hnn
        have hlast := hnt (f.sectors.length - 1) (by omega)
        by_cases hq : f.sectors.length - 1 = q0
        · rw [hq] at hlast; exact hlast hz0
        · have := hall (f.sectors.length - 1 - (q0 + 1))
          rw [getD_drop, Nat.add_sub_cancel' (by omega)] at this
          exact hlast this
      | some k =>
        dsimp only
        obtain ⟨hk1, hk2, hk3⟩ := nextNonZero_drop_some hnn
        have hzeros : ∀ q, q0 ≤ q → q < k → f.sectors.getD q 0 = 0 := by
          intro q hq1 hq2
          rcases Nat.eq_or_lt_of_le hq1 with hq | hq
          · rw [← hq]; exact hz0
          · exact hk3 q hq hq2
        have hoff : off < k * c.ss := by
          have := Nat.mul_le_mul_right c.ss hk1
          rw [Nat.add_mul, Nat.one_mul] at this
          omega
        have hsec : ∀ i, off ≤ i → i < k * c.ss → f.sectors.getD (i / c.ss) 0 = 0 := by
          intro i hi1 hi2
          exact hzeros _ (hmono i hi1) (div_lt_of_lt_mul' hi2)
        have hkdata : dataAt c f (k * c.ss) := Or.inl (by rw [mul_div_self' k c.ss hss]; exact hk2)
        refine ⟨rfl, Or.inl ?_⟩
        cases hn : f.hole.nextData off with
        | some j =>
          obtain ⟨h1, h2, h3⟩ := hd1 j hn
          refine ⟨min (k * c.ss) j, rfl, Nat.le_min.mpr ⟨Nat.le_of_lt hoff, h1⟩, ?_, fun i hi1 hi2 hda => ?_⟩
          · by_cases hjk : j < k * c.ss
            · rw [Nat.min_eq_right (Nat.le_of_lt hjk)]; exact Or.inr h2
            · rw [Nat.min_eq_left (Nat.le_of_not_lt hjk)]; exact hkdata
          · rcases hda with hda | hda
            · exact hda (hsec i hi1 (Nat.lt_of_lt_of_le hi2 (Nat.min_le_left _ _)))
            · rw [h3 i hi1 (Nat.lt_of_lt_of_le hi2 (Nat.min_le_right _ _))] at hda; cases hda
        | none =>
          refine ⟨k * c.ss, rfl, Nat.le_of_lt hoff, hkdata, fun i hi1 hi2 hda => ?_⟩
          rcases hda with hda | hda
          · exact hda (hsec i hi1 hi2)
          · rw [hd2 hn i hi1] at hda; cases hda

/-- first half of an iteration of the hole loop: everything skipped is data, and the sector reached is a hole. -/
theorem seekHoleAdvance_spec (c : Cfg) (f : File) (off : Nat) (hss : 0 < c.ss) :
    off ≤ (seekHoleAdvance c f off).2 ∧ (seekHoleAdvance c f off).2 / c.ss = (seekHoleAdvance c f off).1 ∧
      f.sectors.getD (seekHoleAdvance c f off).1 0 = 0 ∧
      ∀ k, off ≤ k → k < (seekHoleAdvance c f off).2 → dataAt c f k := by
  unfold seekHoleAdvance
  split
  · rename_i hc
    dsimp only
    obtain ⟨h1, h3, h4⟩ := nextZero_drop_spec f.sectors (off / c.ss + 1)
    generalize nextZero (f.sectors.drop (off / c.ss + 1)) (off / c.ss + 1) = z at *
    have hoff : off < z * c.ss := by
      have := Nat.mul_le_mul_right c.ss h1
      rw [Nat.add_mul, Nat.one_mul] at this
      have := div_mul_mod off c.ss
      have := Nat.mod_lt off hss
      omega
    refine ⟨by omega, mul_div_self' z c.ss hss, h3, fun k hk1 hk2 => Or.inl ?_⟩
    have hq1 : off / c.ss ≤ k / c.ss := Nat.div_le_div_right hk1
    have hq2 : k / c.ss < z := div_lt_of_lt_mul' hk2
    rcases Nat.eq_or_lt_of_le hq1 with hq | hq
    · rw [← hq]; exact hc.2
    · exact h4 _ hq hq2
  · rename_i hc
    dsimp only
    refine ⟨Nat.le_refl _, rfl, ?_, fun k h1 h2 => by omega⟩
    by_cases hl : off / c.ss < f.sectors.length
    · by_cases hz : f.sectors.getD (off / c.ss) 0 = 0
      · exact hz
      · exact absurd ⟨hl, hz⟩ hc
    · exact getD_ge _ _ (Nat.le_of_not_lt hl)

/-- `GetNextRegionOffset(off, Hole)` (no seek fault): the least hole offset `≥ off`, or the size
(the implicit hole at the end of the file) when everything up to the size is data. -/
theorem seekHoleLoop_spec {c : Cfg} {f : File} {e : Env} (hss : 0 < c.ss) (hs : e.faults.hs = none)
    (hlim : f.hole.limit ≤ f.size) : ∀ (fuel off : Nat), off ≤ f.size → f.size + 1 - off ≤ fuel →
    (seekHoleLoop c f fuel e off).1 = e ∧
      ∃ j, (seekHoleLoop c f fuel e off).2 = .ok j ∧ off ≤ j ∧ j ≤ f.size ∧
        (∀ k, off ≤ k → k < j → dataAt c f k) ∧ (j < f.size → ¬ dataAt c f j) := by
  intro fuel
  induction fuel with
  | zero => intro off h1 h2; omega
  | succ fuel ih =>
    intro off hoff hfuel
    obtain ⟨a1, a2, a3, a4⟩ := seekHoleAdvance_spec c f off hss
    obtain ⟨n1, n2⟩ := nextHole_spec f.hole (seekHoleAdvance c f off).2
    unfold seekHoleLoop
    dsimp only
    generalize seekHoleAdvance c f off = a at *
    split
    · rename_i hge
      exact ⟨rfl, f.size, rfl, hoff, Nat.le_refl _, fun k hk1 hk2 => a4 k hk1 (Nat.lt_of_lt_of_le hk2 hge), fun h => absurd h (Nat.lt_irrefl _)⟩
    · rename_i hlt
      rw [holeSeek_nofault hs]
      dsimp only
      have hnotdata : ∀ j, a.2 ≤ j → j / c.ss = a.1 → f.hole.isData j = false → ¬ dataAt c f j := by
        intro j _ hq hd hda
        rcases hda with hda | hda
        · rw [hq] at hda; exact hda a3
        · rw [hd] at hda; cases hda
      cases hn : f.hole.nextHole a.2 with
      | none =>
        dsimp only
        have hl := n2 hn
        refine ⟨rfl, a.2, rfl, a1, Nat.le_of_lt (Nat.lt_of_not_le hlt), a4, fun _ => hnotdata a.2 (Nat.le_refl _) a2 ?_⟩
        cases hd : f.hole.isData a.2 with
        | false => rfl
        | true => exact absurd (isData_lt_limit hd) (by omega)
      | some j =>
        dsimp only
        obtain ⟨m1, m2, m3, m4⟩ := n1 j hn
        have hjs : j ≤ f.size := by omega
        have hdata : ∀ k, off ≤ k → k < j → dataAt c f k := by
          intro k hk1 hk2
          by_cases hk : k < a.2
          · exact a4 k hk1 hk
          · exact Or.inr (m4 k (Nat.le_of_not_lt hk) hk2)
        split
        · rename_i hin
          have hq : j / c.ss = a.1 := by
            have h1 : a.1 ≤ j / c.ss := by rw [← a2]; exact Nat.div_le_div_right m1
            have h2 : j / c.ss < a.1 + 1 := div_lt_of_lt_mul' hin
            omega
          exact ⟨rfl, j, rfl, Nat.le_trans a1 m1, hjs, hdata, fun _ => hnotdata j m1 hq m3⟩
        · rename_i hout
          have hgt : off < j := by
            have hdm := div_mul_mod a.2 c.ss
            have hmod := Nat.mod_lt a.2 hss
            rw [a2] at hdm
            rw [Nat.add_mul, Nat.one_mul] at hout
            omega
          obtain ⟨i1, j', i2, i3, i4, i5, i6⟩ := ih j hjs (by omega)
          refine ⟨i1, j', i2, Nat.le_trans (Nat.le_of_lt hgt) i3, i4, fun k hk1 hk2 => ?_, i6⟩
          by_cases hk : k < j
          · exact hdata k hk1 hk
          · exact i5 k (Nat.le_of_not_lt hk) hk2

/-- `GetNextRegionOffset` on the model (no hole-source seek failure), for an offset inside the file. -/
theorem seek_spec {c : Cfg} {f : File} {e : Env} (off : Nat) (data : Bool) (hss : 0 < c.ss)
    (hs : e.faults.hs = none) (hnt : NoTrail f.sectors) (hlim : f.hole.limit ≤ f.size) (hoff : off < f.size) :
    (seek c f e (off : Int) data).1 = e ∧
      (data = true →
        ((∃ j, (seek c f e (off : Int) data).2 = .ok j ∧ off ≤ j ∧ dataAt c f j ∧
            ∀ k, off ≤ k → k < j → ¬ dataAt c f k) ∨
          ((seek c f e (off : Int) data).2 = .error .eof ∧ ∀ k, off ≤ k → ¬ dataAt c f k))) ∧
      (data = false →
        ∃ j, (seek c f e (off : Int) data).2 = .ok j ∧ off ≤ j ∧ j ≤ f.size ∧
          (∀ k, off ≤ k → k < j → dataAt c f k) ∧ (j < f.size → ¬ dataAt c f j)) := by
  unfold seek
  rw [if_neg (by omega), Int.toNat_natCast, if_neg (by omega)]
  cases data with
  | true =>
    simp only [↓reduceIte, true_implies, Bool.true_eq_false, false_implies, and_true]
    exact seekData_spec off hss hs hnt
  | false =>
    simp only [Bool.false_eq_true, ↓reduceIte, false_implies, true_implies, true_and]
    exact seekHoleLoop_spec hss hs hlim (f.size + 1) off (by omega) (by omega)

end BbRe.Lemmas.FilePool
