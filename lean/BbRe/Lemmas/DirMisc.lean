import BbRe.Lemmas.DirFail
/-!
`deleted_rejects`, the `ChangeInfo` values of the creating calls, and what the listing
calls `LookupAllChildren` / `ReadDir` report (`listing_calls_exact`).
-/
namespace BbRe.Lemmas.Dir
open BbRe.Dir

/-- Operations that try to put a new entry into directory `d` (for rename: `d` is
the target directory and the source directory is already materialised, so that
no fetcher failure can pre-empt the answer). -/
def creatingIn (s : Store) (d : Nat) : Op → Bool
  | .mkdir d' _ => d' == d
  | .mknod d' _ _ => d' == d
  | .openc d' _ create _ => d' == d && create
  | .link d' _ _ => d' == d
  | .rename dOld _ d' _ => d' == d && (s.dir dOld).lazy.isNone
  | .createChildren d' _ _ => d' == d
  | .createAndEnter d' _ => d' == d
  | _ => false

theorem mayAttach_deleted {x : Dir} (h : x.deleted = true) (n : Nat) : x.mayAttach n = some .noent := by
  unfold Dir.mayAttach; simp [h]

theorem find?_nil {x : Dir} (h : x.entries = []) (n : Nat) : x.find? n = none := by
  unfold Dir.find?; simp [h]

theorem deleted_rejects_step (P : Params) (s : Store) (d : Nat) (op : Op) (h : Inv P s)
    (hdel : (s.dir d).deleted = true) (hop : creatingIn s d op = true) (hv : validOp s op = true) :
    (step P s op).2.status = .noent ∧ (step P s op).1.dir d = s.dir d := by
  have hdo := (h.dirOK d).del hdel
  have hmat := materialize_nonlazy P s d hdo.2
  have hma := fun n => mayAttach_deleted hdel n
  have hfn := fun n => find?_nil hdo.1 n
  unfold step
  rw [if_pos hv]
  cases op with
  | mkdir d' n => cases eq_of_beq hop; simp [exec, vmkdir, hmat, hma, Out.fail]
  | mknod d' n k => cases eq_of_beq hop; simp [exec, vmknod, hmat, hma, Out.fail]
  | openc d' n c e =>
    obtain ⟨h1, rfl⟩ := Bool.and_eq_true_iff.mp hop
    cases eq_of_beq h1
    simp [exec, vopen, hmat, hfn, hdel, Out.fail]
  | link d' n l => cases eq_of_beq hop; simp [exec, vlink, hmat, hma, Out.fail]
  | createChildren d' ow cs => cases eq_of_beq hop; simp [exec, createChildren, hmat, hdel, Out.fail]
  | createAndEnter d' n => cases eq_of_beq hop; simp [exec, createAndEnter, hmat, hfn, hdel, Out.fail]
  | rename dOld n1 d' n2 =>
    obtain ⟨h1, hlz⟩ := Bool.and_eq_true_iff.mp hop
    cases eq_of_beq h1
    have hmatO := materialize_nonlazy P s dOld (Option.isNone_iff_eq_none.mp hlz)
    simp [exec, vrename, hmat, hmatO, hfn, hdel, Out.fail]
  | _ => cases hop

theorem mayAttach_ne_ok {x : Dir} {n : Nat} {e : Status} (h : x.mayAttach n = some e) : e ≠ .ok := by
  unfold Dir.mayAttach at h
  split at h
  · cases h; intro hx; cases hx
  · split at h
    · cases h; intro hx; cases hx
    · cases h

theorem changeID_attach (s : Store) (d name nn : Nat) (c : Child) (hd : d < s.dirs.length) :
    ((s.modDir d (fun x => x.attach name nn c)).dir d).changeID = (s.dir d).changeID + 1 := by
  rw [dir_modDir_self s d _ hd]; rfl

theorem ci_create (P : Params) (s : Store) (op : Op) (d : Nat)
    (hop : (∃ n, op = .mkdir d n) ∨ (∃ n k, op = .mknod d n k) ∨ (∃ n, op = .openc d n true false) ∨ (∃ n l, op = .link d n l))
    (hmat : (s.dir d).lazy = none) (hok : (step P s op).2.status = .ok) :
    (step P s op).2.ci = [((s.dir d).changeID, ((step P s op).1.dir d).changeID)] ∧
    ((step P s op).1.dir d).changeID = (s.dir d).changeID + 1 := by
  have hm := materialize_nonlazy P s d hmat
  unfold step at hok ⊢
  by_cases hv : validOp s op = true
  · rw [if_pos hv] at hok ⊢
    revert hok
    -- in every branch the directory was materialised already (`s1 = s`); a branch that fails is not OK
    rcases hop with ⟨n, rfl⟩ | ⟨n, k, rfl⟩ | ⟨n, rfl⟩ | ⟨n, l, rfl⟩ <;> simp only [exec]
    · have hd : d < s.dirs.length := of_decide_eq_true hv
      fun_cases vmkdir P s d n  -- 1: materialisation fails, 2: the name is taken or the directory deleted, 3: success
      case case1 e he => rw [hm] at he; cases he
      case case2 s1 he _ e hma => exact fun hok => absurd hok (mayAttach_ne_ok hma)
      case case3 s1 he _ hma _ _ _ =>
        cases hm.symm.trans he
        exact fun _ => ⟨rfl, (changeID_attach _ d _ _ _
          (by rw [dirs_pushDir, List.length_append]; exact Nat.lt_add_right _ hd)).trans
          (by rw [dir_pushDir_lt s _ d hd])⟩
    · have hd : d < s.dirs.length := of_decide_eq_true hv
      fun_cases vmknod P s d n k  -- 1, 2 as for mkdir, 4: success, the others: EIO / EPERM
      case case1 e he => rw [hm] at he; cases he
      case case2 s1 he _ e hma => exact fun hok => absurd hok (mayAttach_ne_ok hma)
      case case4 s1 he _ hma _ _ _ _ _ =>
        cases hm.symm.trans he
        exact fun _ => ⟨rfl, changeID_attach (s.pushLeaf _) d _ _ _ hd⟩
      all_goals exact fun hok => nomatch hok
    · have hd : d < s.dirs.length := of_decide_eq_true hv
      fun_cases vopen P s d n true false  -- 3, 4: `existing` would be set, 7: success, the others fail
      case case1 e he => rw [hm] at he; cases he
      case case3 h _ _ => exact absurd rfl h
      case case4 h _ _ => exact absurd rfl h
      case case7 s1 he _ _ hf _ _ _ _ =>
        cases hm.symm.trans he
        exact fun _ => ⟨rfl, changeID_attach (s.pushLeaf _) d _ _ _ hd⟩
      all_goals exact fun hok => nomatch hok
    · have hd : d < s.dirs.length := of_decide_eq_true (Bool.and_eq_true_iff.mp hv).1
      fun_cases vlink P s d n l  -- 1, 2 as for mkdir, 4: success, 3: ESTALE
      case case1 e he => rw [hm] at he; cases he
      case case2 s1 he _ e hma => exact fun hok => absurd hok (mayAttach_ne_ok hma)
      case case4 s1 he _ hma _ _ _ =>
        cases hm.symm.trans he
        exact fun _ => ⟨rfl, changeID_attach (s.link l) d _ _ _ hd⟩
      all_goals exact fun hok => nomatch hok
  · rw [if_neg hv] at hok
    cases hok

theorem mem_insertReport {r x : Report} {l : List Report} : x ∈ insertReport r l ↔ x = r ∨ x ∈ l := by
  induction l with
  | nil => simp [insertReport]
  | cons y rest ih =>
    unfold insertReport
    split
    · simp
    · simp [ih]
      constructor
      · rintro (h | h | h) <;> simp [h]
      · rintro (h | h | h) <;> simp [h]

theorem mem_sortReports {x : Report} {l : List Report} : x ∈ sortReports l ↔ x ∈ l := by
  induction l with
  | nil => simp [sortReports]
  | cons y rest ih =>
    unfold sortReports
    rw [mem_insertReport, ih]
    simp

theorem length_insertReport (r : Report) (l : List Report) : (insertReport r l).length = l.length + 1 := by
  induction l with
  | nil => simp [insertReport]
  | cons y rest ih =>
    unfold insertReport
    split
    · simp
    · simp [ih]

theorem length_sortReports (l : List Report) : (sortReports l).length = l.length := by
  induction l with
  | nil => rfl
  | cons y rest ih => unfold sortReports; rw [length_insertReport, ih]; simp

/-- Directories and non-hidden leaves partition the visible entries. -/
theorem length_visible (P : Params) (es : List Entry) :
    (es.filter (fun e => e.child.isDir)).length + (es.filter (fun e => !e.child.isDir && !P.hidden e.name)).length =
      (es.filter (visible P)).length := by
  rw [← List.countP_eq_length_filter, ← List.countP_eq_length_filter,
    List.length_eq_countP_add_countP (fun e => e.child.isDir) (l := es.filter (visible P)),
    List.countP_filter, List.countP_filter]
  congr 1 <;> refine List.countP_congr fun e _ => ?_ <;> unfold visible <;>
    cases e.child.isDir <;> cases P.hidden e.name <;> decide

/-- `LookupAllChildren` and `ReadDir` report exactly the entries that are not hidden
leaves, each once (name and child of the entry; cookie field 0). -/
theorem listing_calls_exact (P : Params) (s : Store) (d : Nat) (op : Op)
    (hop : op = .lookupAll d ∨ op = .readDirB d) (hok : (exec P s op).2.status = .ok) :
    (∀ r, r ∈ (exec P s op).2.reports ↔
        ∃ e ∈ ((exec P s op).1.dir d).entries, visible P e = true ∧ r = ⟨0, e.name, e.child⟩) ∧
    (exec P s op).2.reports.length = (((exec P s op).1.dir d).entries.filter (visible P)).length := by
  rcases hop with rfl | rfl
  · simp only [exec, lookupAll] at hok ⊢
    cases hm : materialize P s d with
    | error e => simp [hm, Out.fail] at hok; exact absurd hok (materialize_error_ne_ok hm)
    | ok s1 =>
      simp only []
      refine ⟨?_, ?_⟩
      · intro r
        simp only [List.mem_append, mem_sortReports, List.mem_map, List.mem_filter, entryReport]
        constructor
        · rintro (⟨e, ⟨he, hv⟩, rfl⟩ | ⟨e, ⟨he, hv⟩, rfl⟩)
          · exact ⟨e, he, by simp [visible, hv], rfl⟩
          · refine ⟨e, he, ?_, rfl⟩
            simp at hv; simp [visible, hv.2]
        · rintro ⟨e, he, hv, rfl⟩
          cases hdir : e.child.isDir with
          | true => exact Or.inl ⟨e, ⟨he, hdir⟩, rfl⟩
          | false =>
            refine Or.inr ⟨e, ⟨he, ?_⟩, rfl⟩
            simp [visible, hdir] at hv
            simp [hdir, hv]
      · simp only [List.length_append, length_sortReports, List.length_map]
        exact length_visible P _
  · simp only [exec, readDirB] at hok ⊢
    cases hm : materialize P s d with
    | error e => simp [hm, Out.fail] at hok; exact absurd hok (materialize_error_ne_ok hm)
    | ok s1 =>
      simp only []
      refine ⟨?_, by simp [length_sortReports]⟩
      intro r
      simp only [mem_sortReports, List.mem_map, List.mem_filter, entryReport]
      constructor
      · rintro ⟨e, ⟨he, hv⟩, rfl⟩; exact ⟨e, he, hv, rfl⟩
      · rintro ⟨e, he, hv, rfl⟩; exact ⟨e, ⟨he, hv⟩, rfl⟩

end BbRe.Lemmas.Dir
