import BbRe.Lemmas.SchedTreeLinkCore
/-!
Step lemmas of the tree layer: workers and size-class queues appearing and disappearing (first
`Synchronize` of a worker, `addSizeClassQueue`, `RegisterPredeclaredPlatformQueue`, `removeStaleWorker`,
`sizeClassQueue.remove`).
-/
namespace BbRe.Lemmas.SchedTree
open BbRe.Sched BbRe.SchedTree BbRe.Lemmas.SchedInv

variable {X : List (ScqId × List Nat)}

/-! ### list algebra for the worker extras -/

theorem wx_find?_append (l : List WX) (x : WX) (q : ScqId) (w : WId) :
    (l ++ [x]).find? (fun y => y.scq = q ∧ y.id = w) =
      match l.find? (fun y => y.scq = q ∧ y.id = w) with
      | some y => some y
      | none => if x.scq = q ∧ x.id = w then some x else none := by
  rw [List.find?_append]
  cases h : List.find? (fun y => decide (y.scq = q ∧ y.id = w)) l
  · by_cases hw : x.scq = q ∧ x.id = w <;> simp [hw]
  · simp

theorem wx_find?_filter_ne (l : List WX) (q : ScqId) (w : WId) (q' : ScqId) (w' : WId) :
    (l.filter (fun y => ¬ (y.scq = q' ∧ y.id = w'))).find? (fun y => y.scq = q ∧ y.id = w) =
      if q = q' ∧ w = w' then none else l.find? (fun y => y.scq = q ∧ y.id = w) := by
  induction l with
  | nil => simp
  | cons a l ih =>
    rw [List.filter_cons]
    by_cases h1 : a.scq = q' ∧ a.id = w'
    · simp only [h1, and_self, not_true_eq_false, decide_false, Bool.false_eq_true, if_false, ih, List.find?_cons]
      split
      · rfl
      · rename_i h2
        have : ¬ (q' = q ∧ w' = w) := fun h => h2 ⟨h.1.symm, h.2.symm⟩
        simp only [this, decide_false]
    · simp only [h1, not_false_eq_true, decide_true, if_true, List.find?_cons, ih]
      by_cases h3 : a.scq = q ∧ a.id = w
      · have : ¬ (q = q' ∧ w = w') := by intro h; apply h1; rw [h3.1, h3.2]; exact h
        simp [h3, this]
      · simp [h3]

/-- dropping the entries with key `(q, w)` after updating them is dropping them -/
theorem filter_setWX (l : List WX) (q : ScqId) (w : WId) (g : WX → WX) (hg : ∀ x, wxkey (g x) = wxkey x) :
    (setWX l q w g).filter (fun y => ¬ (y.scq = q ∧ y.id = w)) = l.filter (fun y => ¬ (y.scq = q ∧ y.id = w)) := by
  induction l with
  | nil => rfl
  | cons a t ih =>
    show List.filter _ ((if a.scq = q ∧ a.id = w then g a else a) :: setWX t q w g) = _
    rw [List.filter_cons, List.filter_cons, ih]
    by_cases ha : a.scq = q ∧ a.id = w
    · have hk := hg a
      simp only [wxkey, Prod.mk.injEq] at hk
      have hga : (g a).scq = q ∧ (g a).id = w := by rw [hk.1, hk.2]; exact ha
      simp [ha, hga]
    · simp [ha]

/-- with distinct keys, the entry found by `find?` is the only one the filter drops -/
theorem flatMap_filter_wx {β} (f : WX → List β) (q : ScqId) (w : WId) :
    ∀ (l : List WX), (l.map wxkey).Nodup → ∀ x0, l.find? (fun x => x.scq = q ∧ x.id = w) = some x0 →
      (l.flatMap f).Perm (f x0 ++ (l.filter (fun y => ¬ (y.scq = q ∧ y.id = w))).flatMap f) := by
  intro l
  induction l with
  | nil => intro _ x0 h; cases h
  | cons a t ih =>
    intro hnd x0 h
    simp only [List.map_cons, List.nodup_cons] at hnd
    rw [List.find?_cons] at h
    rw [List.filter_cons]
    by_cases ha : (a.scq = q ∧ a.id = w)
    · simp only [ha, and_self, decide_true] at h
      cases h
      have hrest : t.filter (fun y => ¬ (y.scq = q ∧ y.id = w)) = t := by
        rw [List.filter_eq_self]
        intro x hx
        have : ¬ (x.scq = q ∧ x.id = w) := by
          intro hk
          apply hnd.1
          rw [List.mem_map]; exact ⟨x, hx, by simp [wxkey, hk.1, hk.2, ha.1, ha.2]⟩
        simp [this]
      simp only [ha, and_self, not_true_eq_false, decide_false, Bool.false_eq_true, if_false, hrest,
        List.flatMap_cons]
      exact List.Perm.refl _
    · have ha' : decide (a.scq = q ∧ a.id = w) = false := by simpa using ha
      rw [ha'] at h
      simp only [ha, not_false_eq_true, decide_true, if_true, List.flatMap_cons]
      refine List.Perm.trans (List.Perm.append_left _ (ih hnd.2 x0 h)) ?_
      rw [← List.append_assoc, ← List.append_assoc]
      exact List.Perm.append_right _ List.perm_append_comm

/-- the parts of `Side` that a state with the same workers, operations and tasks keeps -/
theorem Side.oxok_of {ts : TState} (hS : Side ts) {s' : State}
    (hso : ∀ o op', s'.op? o = some op' → ∃ op, ts.s.op? o = some op ∧ op'.inv = op.inv ∧ op'.prio = op.prio) :
    ∀ o op, s'.op? o = some op → alookup o ts.ox = some ⟨op.inv, op.prio⟩ := by
  intro o op' h
  obtain ⟨op, e, hi, hp⟩ := hso o op' h
  rw [hS.oxok o op e, hi, hp]

/-! ### a new worker -/

/-- first Synchronize of a worker: `lastInvocation = &scq.rootInvocation`, `idleWorkersCount++` -/
theorem newWorker_ts {ex exo} {ts : TState} {q : ScqId} {w : WId} {wk : Worker} {s' : State}
    (hT : TInvX ex exo X ts) (hq : ∃ sq ∈ ts.s.scqs, sq.id = q) (hnone : wfind ts.s.workers q w = none)
    (hk : wk.scq = q ∧ wk.id = w ∧ wk.task = none ∧ wk.parked = false)
    (hsw : s'.workers = ts.s.workers ++ [wk]) (hst : s'.tasks = ts.s.tasks) (hsq : s'.scqs = ts.s.scqs)
    (hso : s'.ops = ts.s.ops) :
    TS X ((ts.addWorkerTree q w).setS s') := by
  have hS := hT.side
  obtain ⟨sq, hsqm, hsqid⟩ := hq
  have hroot : (node? ts.nodes q []).isSome = true := by rw [← hsqid]; exact hS.roots sq hsqm
  let x1 : WX := { scq := q, id := w, last := some [], sticks := List.replicate (ts.limitsOf q.pq).length 0 }
  let ts' : TState := (ts.addWorkerTree q w).setS s'
  show TS X ts'
  have hwx' : ts'.wx = ts.wx ++ [x1] := rfl
  have hnodes' : ts'.nodes = setLastN ts.nodes q [] := rfl
  have hnx : ts.wx.find? (fun y => y.scq = q ∧ y.id = w) = none := by
    have := hS.wxw q w
    rw [worker?_def, hnone, wx?_eq] at this
    cases hf : ts.wx.find? (fun y => y.scq = q ∧ y.id = w) with
    | none => rfl
    | some y => rw [hf] at this; cases this
  refine ⟨?_, ?_⟩
  · have h1 := (setLastN_ok hT.tree q [] hroot).exempt_more X (fun x hx => (mem_offPath.mp hx).1)
    have hE' : bagE ts' = bagE ts := by
      show s'.tasks.flatMap _ = ts.s.tasks.flatMap _
      rw [hst]; rfl
    have hQ' : bagQ ts' = bagQ ts := by
      show s'.tasks.flatMap _ = ts.s.tasks.flatMap _
      rw [hst]; rfl
    have hI' : bagI ts' = bagI ts ++ [(q, [])] := by
      rw [bagI_def, bagI_def, hwx', List.flatMap_append]; rfl
    have hP' : bagP ts' = bagP ts := by
      rw [bagP_def, bagP_def, hwx', List.flatMap_append]
      show _ ++ [] = _
      rw [List.append_nil]
    rw [hnodes', hE', hQ', hI', hP']
    exact h1.congr (List.Perm.refl _) (List.perm_append_comm (l₁ := [(q, [])])) (fun c => Iff.rfl) (fun c => Iff.rfl)
  · have hnodes := side_nodes hS (setLastN_nframe ts.nodes q []) (scqs' := ts.s.scqs) (by intro q hq; cases hq)
      (fun sq h => h) (fun sq h => Or.inl h)
    have hfw : ∀ q' w', (ts.wx? q' w').isSome = (wfind ts.s.workers q' w').isSome := by
      intro q' w'; have := hS.wxw q' w'; rw [worker?_def] at this; exact this
    refine ⟨?_, ?_, ?_, ?_, ?_, ?_, ?_⟩
    · show ∀ sq ∈ s'.scqs, _
      rw [hsq]; exact hnodes.1
    · show ∀ n ∈ setLastN ts.nodes q [], ∃ sq ∈ s'.scqs, _
      rw [hsq]; exact hnodes.2
    · rw [hwx', List.map_append, List.nodup_append]
      refine ⟨hS.wxnd, by simp, ?_⟩
      intro a ha b hb
      simp only [List.map_cons, List.map_nil, List.mem_singleton] at hb
      subst hb
      obtain ⟨y, hy, rfl⟩ := List.mem_map.mp ha
      intro e
      simp only [Prod.mk.injEq] at e
      have : (ts.wx.find? (fun y => y.scq = q ∧ y.id = w)).isSome = true := by
        rw [List.find?_isSome]; exact ⟨y, hy, by simpa [x1] using e⟩
      rw [hnx] at this; cases this
    · intro q' w'
      show (List.find? _ (ts.wx ++ [x1])).isSome = (wfind s'.workers q' w').isSome
      rw [wx_find?_append, hsw, wfind_append]
      have h0 := hfw q' w'
      rw [wx?_eq] at h0
      cases hf : ts.wx.find? (fun y => y.scq = q' ∧ y.id = w') with
      | some y =>
        rw [hf] at h0
        cases hg : wfind ts.s.workers q' w' with
        | none => rw [hg] at h0; cases h0
        | some wk0 => rfl
      | none =>
        rw [hf] at h0
        cases hg : wfind ts.s.workers q' w' with
        | some wk0 => rw [hg] at h0; cases h0
        | none =>
          show (if q = q' ∧ w = w' then some x1 else none).isSome = (if wk.scq = q' ∧ wk.id = w' then some wk else none).isSome
          rw [hk.1, hk.2.1]
          by_cases hc : q = q' ∧ w = w' <;> simp [hc]
    · intro q' w' wk1 x hwk hx
      change wfind s'.workers q' w' = some wk1 at hwk
      rw [hsw, wfind_append] at hwk
      change List.find? _ (ts.wx ++ [x1]) = some x at hx
      rw [wx_find?_append] at hx
      have h0 := hfw q' w'
      rw [wx?_eq] at h0
      cases hf : ts.wx.find? (fun y => y.scq = q' ∧ y.id = w') with
      | some y =>
        rw [hf] at h0
        cases hg : wfind ts.s.workers q' w' with
        | none => rw [hg] at h0; cases h0
        | some wk0 =>
          simp only [hf, Option.some.injEq] at hx
          simp only [hg, Option.some.injEq] at hwk
          subst hx; subst hwk
          exact hS.wpl q' w' wk0 y (by rw [worker?_def]; exact hg) hf
      | none =>
        rw [hf] at h0
        cases hg : wfind ts.s.workers q' w' with
        | some wk0 => rw [hg] at h0; cases h0
        | none =>
          simp only [hf] at hx
          simp only [hg] at hwk
          by_cases hc : q = q' ∧ w = w'
          · have hc2 : wk.scq = q' ∧ wk.id = w' := by rw [hk.1, hk.2.1]; exact hc
            have hc3 : x1.scq = q' ∧ x1.id = w' := hc
            simp only [hc2, and_self, if_true, Option.some.injEq] at hwk
            simp only [hc3, and_self, if_true, Option.some.injEq] at hx
            subst hx; subst hwk
            refine ⟨hk.2.2.2.symm, ?_⟩
            rw [hk.2.2.1]
            simp [x1]
          · have hc3 : ¬ (x1.scq = q' ∧ x1.id = w') := hc
            simp only [hc3, if_false] at hx
            cases hx
    · exact hS.oxok_of (op?_of_ops hso)
    · intro k t q' w' h1 h2
      exact hS.wq k t q' w' (hst ▸ h1) h2

/-! ### a new size-class queue -/

/-- `Side` for a state with the same workers, tasks and operations, given the two node clauses -/
theorem Side.of_nodes {ts ts' : TState} (hS : Side ts)
    (hroots : ∀ sq ∈ ts'.s.scqs, (node? ts'.nodes sq.id []).isSome = true)
    (hnscq : ∀ n ∈ ts'.nodes, ∃ sq ∈ ts'.s.scqs, sq.id = n.scq)
    (hwx : ts'.wx = ts.wx) (hox : ts'.ox = ts.ox)
    (hst : ts'.s.tasks = ts.s.tasks) (hsw : ts'.s.workers = ts.s.workers) (hso : ts'.s.ops = ts.s.ops) :
    Side ts' := by
  have hw : ∀ q w, ts'.s.worker? q w = ts.s.worker? q w := by
    intro q w; unfold State.worker?; rw [hsw]
  have hx : ∀ q w, ts'.wx? q w = ts.wx? q w := by
    intro q w; unfold TState.wx?; rw [hwx]
  refine ⟨hroots, hnscq, ?_, ?_, ?_, ?_, ?_⟩
  · rw [hwx]; exact hS.wxnd
  · intro q w; rw [hw, hx]; exact hS.wxw q w
  · intro q w wk x h1 h2
    rw [hw] at h1; rw [hx] at h2
    exact hS.wpl q w wk x h1 h2
  · rw [hox]; exact hS.oxok_of (op?_of_ops hso)
  · intro k t q w h1 h2
    exact hS.wq k t q w (hst ▸ h1) h2

/-- a new size-class queue with its root invocation -/
theorem newScq_ts {ex exo} {ts : TState} {q : ScqId} {sq0 : Scq} {s' : State}
    (hT : TInvX ex exo X ts) (hnone : ∀ sq ∈ ts.s.scqs, sq.id ≠ q) (hid : sq0.id = q)
    (hsq : s'.scqs = ts.s.scqs ++ [sq0]) (hst : s'.tasks = ts.s.tasks) (hsw : s'.workers = ts.s.workers)
    (hso : s'.ops = ts.s.ops) :
    TS X ((ts.addScqTree q).setS s') := by
  have hS := hT.side
  let ts' : TState := (ts.addScqTree q).setS s'
  show TS X ts'
  have hnodes' : ts'.nodes = ts.nodes ++ [mkNode q [] 0] := rfl
  have hnq : ∀ n ∈ ts.nodes, n.scq ≠ q := by
    intro n hn e
    obtain ⟨sq, h1, h2⟩ := hS.nscq n hn
    exact hnone sq h1 (h2.trans e)
  refine ⟨?_, ?_⟩
  · have h1 := addRoot_ok hT.tree q 0 hnq
    have hE' : bagE ts' = bagE ts := by
      show s'.tasks.flatMap _ = ts.s.tasks.flatMap _
      rw [hst]; rfl
    have hQ' : bagQ ts' = bagQ ts := by
      show s'.tasks.flatMap _ = ts.s.tasks.flatMap _
      rw [hst]; rfl
    have hI' : bagI ts' = bagI ts := rfl
    have hP' : bagP ts' = bagP ts := rfl
    rw [hnodes', hE', hQ', hI', hP']
    exact h1
  · refine hS.of_nodes ?_ ?_ rfl rfl hst hsw hso
    · show ∀ sq ∈ s'.scqs, (node? (ts.nodes ++ [mkNode q [] 0]) sq.id []).isSome = true
      rw [hsq]
      intro sq hm
      rcases List.mem_append.mp hm with h | h
      · exact node?_append_isSome _ (hS.roots sq h)
      · rw [List.mem_singleton.mp h, hid]; exact node?_append_self 0
    · show ∀ n ∈ ts.nodes ++ [mkNode q [] 0], ∃ sq ∈ s'.scqs, sq.id = n.scq
      rw [hsq]
      intro n hn
      rcases List.mem_append.mp hn with h | h
      · obtain ⟨sq, h1, h2⟩ := hS.nscq n h
        exact ⟨sq, List.mem_append_left _ h1, h2⟩
      · rw [List.mem_singleton.mp h]
        exact ⟨sq0, List.mem_append_right _ List.mem_cons_self, hid⟩

/-! ### `RegisterPredeclaredPlatformQueue` -/

/-- `RegisterPredeclaredPlatformQueue` -/
theorem register_ts {ex exo} {ts : TState} (hT : TInvX ex exo X ts) (x : Extras) (id : Nat) (comps : List Nat)
    (platform : Nat) (sizes : List Nat) (bgMax : Nat) (bgPrio : Int) (hok : registerOK ts id sizes = true) :
    TS X (tRegisterPQ x ts id comps platform sizes bgMax bgPrio) := by
  have hS := hT.side
  let ts' : TState := tRegisterPQ x ts id comps platform sizes bgMax bgPrio
  show TS X ts'
  unfold registerOK at hok
  rw [Bool.and_eq_true, List.all_eq_true, decide_eq_true_eq] at hok
  obtain ⟨hfresh, hnd⟩ := hok
  have hfresh' : ∀ sq ∈ ts.s.scqs, sq.id.pq ≠ id := by
    intro sq hm; simpa using hfresh sq hm
  let qs : List ScqId := sizes.map (fun sc => (⟨id, sc⟩ : ScqId))
  have hnodes' : ts'.nodes = ts.nodes ++ qs.map (fun q => mkNode q [] 0) := by
    show ts.nodes ++ sizes.map (fun sc => mkNode ⟨id, sc⟩ [] 0) = _
    rw [List.map_map]; rfl
  have hscqs' : ts'.s.scqs = ts.s.scqs ++ sizes.map (fun sc =>
      ({ id := ⟨id, sc⟩, mayBeRemoved := false, drains := [], undrainGen := 0 } : Scq)) := rfl
  have hqnd : qs.Nodup := by
    show (sizes.map _).Pairwise _
    rw [List.pairwise_map]
    refine List.Pairwise.imp ?_ hnd
    intro a b hab e
    exact hab (congrArg ScqId.sc e)
  have hnq : ∀ q ∈ qs, ∀ n ∈ ts.nodes, n.scq ≠ q := by
    intro q hq n hn e
    obtain ⟨sc, _, rfl⟩ := List.mem_map.mp hq
    obtain ⟨sq, h1, h2⟩ := hS.nscq n hn
    apply hfresh' sq h1
    rw [h2, e]
  refine ⟨?_, ?_⟩
  · have h1 := addRoots_ok hT.tree qs 0 hqnd hnq
    have hE' : bagE ts' = bagE ts := rfl
    have hQ' : bagQ ts' = bagQ ts := rfl
    have hI' : bagI ts' = bagI ts := rfl
    have hP' : bagP ts' = bagP ts := rfl
    rw [hnodes', hE', hQ', hI', hP']
    exact h1
  · refine hS.of_nodes ?_ ?_ rfl rfl rfl rfl rfl
    · rw [hscqs', hnodes']
      intro sq hm
      rcases List.mem_append.mp hm with h | h
      · exact node?_append_isSome _ (hS.roots sq h)
      · obtain ⟨sc, hsc, rfl⟩ := List.mem_map.mp h
        apply node?_isSome_iff.mpr
        refine ⟨mkNode ⟨id, sc⟩ [] 0, List.mem_append_right _ ?_, rfl, rfl⟩
        exact List.mem_map.mpr ⟨⟨id, sc⟩, List.mem_map.mpr ⟨sc, hsc, rfl⟩, rfl⟩
    · rw [hscqs', hnodes']
      intro n hn
      rcases List.mem_append.mp hn with h | h
      · obtain ⟨sq, h1, h2⟩ := hS.nscq n h
        exact ⟨sq, List.mem_append_left _ h1, h2⟩
      · obtain ⟨q, hq, rfl⟩ := List.mem_map.mp h
        obtain ⟨sc, hsc, rfl⟩ := List.mem_map.mp hq
        exact ⟨_, List.mem_append_right _ (List.mem_map.mpr ⟨sc, hsc, rfl⟩), rfl⟩

/-! ### a worker is dropped -/

theorem dropWorkerTree_wx (ts : TState) (q : ScqId) (w : WId) :
    (ts.dropWorkerTree q w).wx = ts.wx.filter (fun y => ¬ (y.scq = q ∧ y.id = w)) :=
  filter_setWX ts.wx q w (fun y => { y with last := none }) (fun _ => rfl)

theorem dropWorkerTree_nodes (ts : TState) (q : ScqId) (w : WId) :
    (ts.dropWorkerTree q w).nodes = (ts.clearLast q w).nodes := rfl

/-- `removeStaleWorker` after the worker's task was completed: `clearLastInvocation`, `delete(scq.workers, …)` -/
theorem dropWorker_ts {ex exo} {ts : TState} {q : ScqId} {w : WId} {wk : Worker} {s' : State}
    (hT : TInvX ex exo [] ts) (hw : wfind ts.s.workers q w = some wk) (hwt : wk.task = none) (hwp : wk.parked = false)
    (hsw : s'.workers = ts.s.workers.filter (fun y => ¬ (y.scq = q ∧ y.id = w))) (hst : s'.tasks = ts.s.tasks)
    (hsq : s'.scqs = ts.s.scqs)
    (hso : ∀ o op', s'.op? o = some op' → ∃ op, ts.s.op? o = some op ∧ op'.inv = op.inv ∧ op'.prio = op.prio) :
    TS [] ((ts.dropWorkerTree q w).setS s') := by
  have hS := hT.side
  obtain ⟨x0, p, hx0, hxq, hxi, hxp, hp, hlo⟩ := hS.last_of_idle hw hwt
  let ts' : TState := (ts.dropWorkerTree q w).setS s'
  show TS [] ts'
  have hwx' : ts'.wx = ts.wx.filter (fun y => ¬ (y.scq = q ∧ y.id = w)) := dropWorkerTree_wx ts q w
  have hnodes' : ts'.nodes = clearLastN ts.nodes q p := by
    show (ts.dropWorkerTree q w).nodes = _
    rw [dropWorkerTree_nodes, clearLast_nodes _ _ _ p hlo]
  refine ⟨?_, ?_⟩
  · have hE' : bagE ts' = bagE ts := by
      show s'.tasks.flatMap _ = ts.s.tasks.flatMap _
      rw [hst]; rfl
    have hQ' : bagQ ts' = bagQ ts := by
      show s'.tasks.flatMap _ = ts.s.tasks.flatMap _
      rw [hst]; rfl
    have hI' : ((bagI ts).erase (q, p)).Perm (bagI ts') := by
      have := flatMap_filter_wx conI q w ts.wx hS.wxnd x0 hx0
      have e2 : conI x0 = [(q, p)] := by unfold conI; rw [hp, hxq]
      rw [e2] at this
      rw [bagI_def, bagI_def, hwx']
      have h2 := this.erase (q, p)
      rw [List.singleton_append, List.erase_cons_head] at h2
      exact h2
    have hP' : (bagP ts).Perm (bagP ts') := by
      have := flatMap_filter_wx conP q w ts.wx hS.wxnd x0 hx0
      have e2 : conP x0 = [] := by unfold conP; simp [hxp, hwp]
      rw [e2, List.nil_append] at this
      rw [bagP_def, bagP_def, hwx']; exact this
    have hPI : ∀ c ∈ bagP ts, (c.1, c.2.1) ∈ (bagI ts).erase (q, p) := by
      intro c hc
      have h1 : c ∈ bagP ts' := hP'.mem_iff.mp hc
      rw [bagP_def] at h1
      have h2 := bagP_sub_bagI ts'.wx c h1
      rw [← bagI_def] at h2
      exact hI'.mem_iff.mpr h2
    have hI0 : (q, p) ∈ bagI ts := by
      rw [bagI_def]
      exact List.mem_flatMap.mpr ⟨x0, List.mem_of_find?_eq_some hx0, by unfold conI; rw [hp, hxq]; simp⟩
    have h := clearLastN_ok hT.tree q p hI0 (by intro x hx; cases hx) hPI
    rw [hnodes', hE', hQ']
    exact h.congr (List.Perm.refl _) hI' (fun c => Iff.rfl) (fun c => hP'.mem_iff)
  · have hnodes := side_nodes hS (clearLast_nframe ts q w) (scqs' := ts.s.scqs) (by intro q hq; cases hq)
      (fun sq h => h) (fun sq h => Or.inl h)
    have hfw : ∀ q' w', (ts.wx? q' w').isSome = (wfind ts.s.workers q' w').isSome := by
      intro q' w'; have := hS.wxw q' w'; rw [worker?_def] at this; exact this
    refine ⟨?_, ?_, ?_, ?_, ?_, ?_, ?_⟩
    · show ∀ sq ∈ s'.scqs, (node? (ts.clearLast q w).nodes sq.id []).isSome = true
      rw [hsq]; exact hnodes.1
    · show ∀ n ∈ (ts.clearLast q w).nodes, ∃ sq ∈ s'.scqs, _
      rw [hsq]; exact hnodes.2
    · rw [hwx']
      exact (List.filter_sublist.map _).nodup hS.wxnd
    · intro q' w'
      show (List.find? _ ts'.wx).isSome = (wfind s'.workers q' w').isSome
      rw [hwx', wx_find?_filter_ne, hsw, wfind_filter_ne]
      by_cases hc : q' = q ∧ w' = w
      · simp only [hc, and_self, if_true]; rfl
      · simp only [hc, if_false]
        have := hfw q' w'
        rw [wx?_eq] at this; exact this
    · intro q' w' wk1 x hwk hx
      change wfind s'.workers q' w' = some wk1 at hwk
      rw [hsw, wfind_filter_ne] at hwk
      change List.find? _ ts'.wx = some x at hx
      rw [hwx', wx_find?_filter_ne] at hx
      by_cases hc : q' = q ∧ w' = w
      · simp only [hc, and_self, if_true] at hwk
        cases hwk
      · simp only [hc, if_false] at hwk hx
        exact hS.wpl q' w' wk1 x (by rw [worker?_def]; exact hwk) hx
    · exact hS.oxok_of hso
    · intro k t q' w' h1 h2
      exact hS.wq k t q' w' (hst ▸ h1) h2

/-! ### a size-class queue is dropped -/

/-- `sizeClassQueue.remove` once nothing is recorded in the queue: its whole tree is dropped -/
theorem dropScq_ts {ex exo} {ts : TState} {q : ScqId} {s' : State}
    (hT : TInvX ex exo X ts) (hnw : ∀ wk ∈ ts.s.workers, wk.scq ≠ q)
    (hnt : ∀ k t, alookup k ts.s.tasks = some t → t.scq = q → t.worker = none ∧ t.queued = false)
    (hsq : s'.scqs = ts.s.scqs.filter (fun y => y.id ≠ q)) (hst : s'.tasks = ts.s.tasks)
    (hsw : s'.workers = ts.s.workers) (hso : s'.ops = ts.s.ops) :
    TS X ((ts.dropScqTree q).setS s') ∧ TS X (((ts.dropScqTree q).dropLimits q.pq).setS s') := by
  have hS := hT.side
  let ts' : TState := (ts.dropScqTree q).setS s'
  have hnodes' : ts'.nodes = ts.nodes.filter (fun n => n.scq ≠ q) := rfl
  have hmain : TS X ts' := by
    have hE : ∀ c ∈ bagE ts, c.1 ≠ q := by
      intro c hc e
      rw [bagE_def] at hc
      obtain ⟨kt, hkt, hcc⟩ := List.mem_flatMap.mp hc
      obtain ⟨k, t⟩ := kt
      have hl : alookup k ts.s.tasks = some t := alookup_of_mem hT.inv.core.tnd hkt
      simp only [] at hcc
      unfold conE at hcc
      cases hwk : t.worker with
      | none => rw [hwk] at hcc; cases hcc
      | some qw =>
        rw [hwk] at hcc
        obtain ⟨o, _, he⟩ := List.mem_map.mp hcc
        have h1 : t.scq = q := by rw [← e, ← he]
        have := (hnt k t hl h1).1
        rw [hwk] at this; cases this
    have hQ : ∀ c ∈ bagQ ts, c.1 ≠ q := by
      intro c hc e
      rw [bagQ_def] at hc
      obtain ⟨kt, hkt, hcc⟩ := List.mem_flatMap.mp hc
      obtain ⟨k, t⟩ := kt
      have hl : alookup k ts.s.tasks = some t := alookup_of_mem hT.inv.core.tnd hkt
      simp only [] at hcc
      unfold conQ at hcc
      split at hcc
      · rename_i hqd
        obtain ⟨o, _, he⟩ := List.mem_map.mp hcc
        have h1 : t.scq = q := by rw [← e, ← he]
        have := (hnt k t hl h1).2
        rw [hqd] at this; cases this
      · cases hcc
    have hI : ∀ c ∈ bagI ts, c.1 ≠ q := by
      intro c hc e
      rw [bagI_def] at hc
      obtain ⟨x, hx, hcx⟩ := List.mem_flatMap.mp hc
      have hcs : c.1 = x.scq := by
        unfold conI at hcx
        cases hl : x.last with
        | none => rw [hl] at hcx; cases hcx
        | some p' => rw [hl] at hcx; rw [List.mem_singleton.mp hcx]
      have h1 : (ts.wx? x.scq x.id).isSome = true := by
        rw [wx?_eq, List.find?_isSome]; exact ⟨x, hx, by simp⟩
      rw [hS.wxw, worker?_def] at h1
      cases hg : wfind ts.s.workers x.scq x.id with
      | none => rw [hg] at h1; cases h1
      | some wk =>
        apply hnw wk (wfind_mem hg)
        rw [(wfind_key hg).1, ← hcs, e]
    have hP : ∀ c ∈ bagP ts, c.1 ≠ q := by
      intro c hc
      rw [bagP_def] at hc
      have := bagP_sub_bagI ts.wx c hc
      rw [← bagI_def] at this
      exact hI _ this
    refine ⟨?_, ?_⟩
    · have h1 := dropScq_ok hT.tree q hE hI hQ hP
      have hE' : bagE ts' = bagE ts := by
        show s'.tasks.flatMap _ = ts.s.tasks.flatMap _
        rw [hst]; rfl
      have hQ' : bagQ ts' = bagQ ts := by
        show s'.tasks.flatMap _ = ts.s.tasks.flatMap _
        rw [hst]; rfl
      have hI' : bagI ts' = bagI ts := rfl
      have hP' : bagP ts' = bagP ts := rfl
      rw [hnodes', hE', hQ', hI', hP']
      exact h1
    · refine hS.of_nodes ?_ ?_ rfl rfl hst hsw hso
      · show ∀ sq ∈ s'.scqs, (node? (ts.nodes.filter (fun n => n.scq ≠ q)) sq.id []).isSome = true
        rw [hsq]
        intro sq hm
        obtain ⟨hm1, hm2⟩ := List.mem_filter.mp hm
        have hne : sq.id ≠ q := by simpa using hm2
        obtain ⟨n, hn, e1, e2⟩ := node?_isSome_iff.mp (hS.roots sq hm1)
        exact node?_isSome_iff.mpr ⟨n, List.mem_filter.mpr ⟨hn, by simpa [e1] using hne⟩, e1, e2⟩
      · show ∀ n ∈ ts.nodes.filter (fun n => n.scq ≠ q), ∃ sq ∈ s'.scqs, sq.id = n.scq
        rw [hsq]
        intro n hn
        obtain ⟨hn1, hn2⟩ := List.mem_filter.mp hn
        have hne : n.scq ≠ q := by simpa using hn2
        obtain ⟨sq, h1, h2⟩ := hS.nscq n hn1
        exact ⟨sq, List.mem_filter.mpr ⟨h1, by simpa [h2] using hne⟩, h2⟩
  exact ⟨hmain, TS.of_fields hmain rfl rfl rfl rfl⟩

end BbRe.Lemmas.SchedTree
