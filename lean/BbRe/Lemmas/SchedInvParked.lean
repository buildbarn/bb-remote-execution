import BbRe.Lemmas.SchedInvStep
/-!
`ParkedOK`: while a worker is parked in a size-class queue no task of that queue is queued, and every
parked worker is undrained and not terminating (the SchedTree refinement and C04 `no_queued_while_parked`
use it).  It follows from the inductive predicate `PInv`, which is preserved by every helper of
`Model/Sched.lean`: `wpk` is a partial-correctness triple, `PF` the frame relation under which `PInv` is
kept, and `Inv` at intermediate states comes from the `*_spec` lemmas of `SchedInv*`.
-/
namespace BbRe.Lemmas.SchedInv
open BbRe.Sched

def wpk {α} (x : M α) (Q : α → Prop) : Prop := ∀ a, x = .ok a → Q a

theorem wpk_ok {α} {a : α} {Q : α → Prop} (h : Q a) : wpk (Except.ok a : M α) Q := by
  intro b hb; cases hb; exact h
theorem wpk_pure {α} {a : α} {Q : α → Prop} (h : Q a) : wpk (pure a : M α) Q := wpk_ok h
theorem wpk_error {α} {e : String} {Q : α → Prop} : wpk (Except.error e : M α) Q := by
  intro b hb; cases hb
theorem wpk_throw {α} {e : String} {Q : α → Prop} : wpk (throw e : M α) Q := wpk_error
theorem wpk_throw_bind {α β} {e : String} {f : α → M β} {Q : β → Prop} : wpk ((throw e : M α) >>= f) Q :=
  wpk_error
theorem wpk_bind {α β} {x : M α} {f : α → M β} {Q : β → Prop} (h : wpk x (fun a => wpk (f a) Q)) :
    wpk (x >>= f) Q := by
  intro b hb
  cases x with
  | error e => cases hb
  | ok a => exact h a rfl b hb
theorem wpk_mono {α} {x : M α} {Q Q' : α → Prop} (h : wpk x Q) (hq : ∀ a, Q a → Q' a) : wpk x Q' :=
  fun a ha => hq a (h a ha)
theorem wpk_seq {α β} {x : M α} {f : α → M β} {P : α → Prop} {Q : β → Prop} (hx : wpk x P)
    (hf : ∀ a, P a → wpk (f a) Q) : wpk (x >>= f) Q :=
  wpk_bind (wpk_mono hx hf)
theorem wpk_of_wp {α} {x : M α} {Q : α → Prop} (h : wp x Q) : wpk x Q := fun _ ha => wp_of_ok h ha
theorem wpk_and {α} {x : M α} {Q Q' : α → Prop} (h : wpk x Q) (h' : wpk x Q') : wpk x (fun a => Q a ∧ Q' a) :=
  fun a ha => ⟨h a ha, h' a ha⟩

/-- case split on an `if` at the head of the program; unlike `split` this does not traverse the continuation -/
theorem wpk_by_cases {α} {c : Prop} [Decidable c] {x y : M α} {Q : α → Prop} (hx : c → wpk x Q)
    (hy : ¬ c → wpk y Q) : wpk (if c then x else y) Q := by
  split
  · exact hx ‹_›
  · exact hy ‹_›

theorem wpk_ite {α} {c : Prop} [Decidable c] {x y : M α} {Q : α → Prop} (hx : wpk x Q) (hy : wpk y Q) :
    wpk (if c then x else y) Q :=
  wpk_by_cases (fun _ => hx) (fun _ => hy)

macro "pkerr" : tactic => `(tactic| first | exact wpk_error | exact wpk_throw | exact wpk_throw_bind)

/-- the inductive form of `ParkedOK`: the same three facts stated on the task table and the drain list -/
structure PInv (s : State) : Prop where
  pq : ∀ wk, wk ∈ s.workers → wk.parked = true → ∀ k t, alookup k s.tasks = some t → t.queued = true →
        t.scq ≠ wk.scq
  pt : ∀ wk, wk ∈ s.workers → wk.parked = true → wk.terminating = false
  pd : ∀ wk, wk ∈ s.workers → wk.parked = true → ∀ sq, s.scq? wk.scq = some sq →
        sq.drains.any (fun p => p.matches wk.id) = false

/-- what a parked worker guarantees, in the terms of the model (`queuedTasks`, `isDrained`) -/
def ParkedOK (s : State) : Prop :=
  ∀ wk ∈ s.workers, wk.parked = true →
    queuedTasks s wk.scq = [] ∧ wk.terminating = false ∧
    (∀ sq, s.scq? wk.scq = some sq → isDrained sq wk = false)

theorem PInv.parkedOK {s : State} (hI : Inv s) (hP : PInv s) : ParkedOK s := by
  intro wk hwk hp
  refine ⟨?_, hP.pt wk hwk hp, ?_⟩
  · unfold queuedTasks
    rw [List.map_eq_nil_iff, List.filter_eq_nil_iff]
    intro ⟨k, t⟩ hm hc
    simp only [decide_eq_true_eq] at hc
    exact hP.pq wk hwk hp k t (alookup_of_mem hI.core.tnd hm) hc.2.1 hc.1
  · intro sq hsq
    unfold isDrained
    rw [hP.pt wk hwk hp, hP.pd wk hwk hp sq hsq]; rfl

/-- frame: parked workers of `s'` are unchanged records of `s`, queued tasks of `s'` were
queued in the same queue in `s`, and size-class queues are unchanged or have no drains -/
structure PF (s s' : State) : Prop where
  a : ∀ wk, wk ∈ s'.workers → wk.parked = true → wk ∈ s.workers
  b : ∀ k t', alookup k s'.tasks = some t' → t'.queued = true →
        ∃ t, alookup k s.tasks = some t ∧ t.queued = true ∧ t.scq = t'.scq
  c : ∀ q sq', s'.scq? q = some sq' → s.scq? q = some sq' ∨ sq'.drains = []

theorem PF.refl (s : State) : PF s s :=
  ⟨fun _ h _ => h, fun _ t h hq => ⟨t, h, hq, rfl⟩, fun _ _ h => Or.inl h⟩

theorem PF.trans {x y z : State} (h1 : PF x y) (h2 : PF y z) : PF x z := by
  refine ⟨fun wk h hp => h1.a wk (h2.a wk h hp) hp, ?_, ?_⟩
  · intro k t' h hq
    obtain ⟨t, a, b, c⟩ := h2.b k t' h hq
    obtain ⟨t0, a0, b0, c0⟩ := h1.b k t a b
    exact ⟨t0, a0, b0, c0.trans c⟩
  · intro q sq' h
    rcases h2.c q sq' h with h | h
    · exact h1.c q sq' h
    · exact Or.inr h

theorem PF.pinv {s s' : State} (h : PF s s') (hP : PInv s) : PInv s' := by
  refine ⟨?_, fun wk hw hp => hP.pt wk (h.a wk hw hp) hp, ?_⟩
  · intro wk hw hp k t' ht hq
    obtain ⟨t, a, b, c⟩ := h.b k t' ht hq
    rw [← c]; exact hP.pq wk (h.a wk hw hp) hp k t a b
  · intro wk hw hp sq hsq
    rcases h.c _ sq hsq with h1 | h1
    · exact hP.pd wk (h.a wk hw hp) hp sq h1
    · rw [h1]; rfl

/-- frame for updates that touch neither workers, nor `queued`/`scq` of tasks, nor the queues -/
theorem PF.of_same {s s' : State} (h1 : s'.workers = s.workers) (h2 : s'.tasks = s.tasks)
    (h3 : s'.scqs = s.scqs) : PF s s' := by
  refine ⟨fun wk h _ => h1 ▸ h, fun k t h hq => ⟨t, h2 ▸ h, hq, rfl⟩, fun q sq h => Or.inl ?_⟩
  unfold State.scq? at *; rw [← h3]; exact h

/-- replacing a worker record by an un-parked one -/
theorem PF.setWorker_unparked {s : State} {w : Worker} (hp : w.parked = false) : PF s (s.setWorker w) := by
  refine ⟨?_, (PF.refl _).b, fun _ _ h => Or.inl h⟩
  intro wk hwk hpk
  rcases mem_wset hwk with h | h
  · subst h; rw [hp] at hpk; cases hpk
  · exact h

/-- replacing a task by one that is not queued, or is queued like before in the same queue -/
theorem PF.setTask {s : State} {t t0 : Task} (h0 : alookup t.id s.tasks = some t0)
    (hq : t.queued = false ∨ (t0.queued = true ∧ t0.scq = t.scq)) : PF s (s.setTask t) := by
  refine ⟨fun _ h _ => h, ?_, fun _ _ h => Or.inl h⟩
  intro k t' hk hqq
  simp only [State.setTask] at hk
  rw [alookup_aset] at hk
  split at hk
  · rename_i hkk; cases hk; subst hkk
    rcases hq with hq | hq
    · rw [hq] at hqq; cases hqq
    · exact ⟨t0, h0, hq.1, hq.2⟩
  · exact ⟨t', hk, hqq, rfl⟩

/-- storing an un-queued task under any key adds no queued task -/
theorem queued_aset_unqueued {ts : List (Nat × Task)} {k : Nat} {t : Task} (hq : t.queued = false) :
    ∀ k' t', alookup k' (aset k t ts) = some t' → t'.queued = true →
      ∃ t0, alookup k' ts = some t0 ∧ t0.queued = true ∧ t0.scq = t'.scq := by
  intro k' t' hk hqq
  rw [alookup_aset] at hk
  split at hk
  · cases hk; rw [hq] at hqq; cases hqq
  · exact ⟨t', hk, hqq, rfl⟩

/-- adding a fresh, un-queued task -/
theorem PF.newTask {ts : List (Nat × Task)} {k : Nat} {t : Task} (hn : alookup k ts = none)
    (hq : t.queued = false) :
    ∀ k' t', alookup k' (aset k t ts) = some t' → t'.queued = true →
      ∃ t0, alookup k' ts = some t0 ∧ t0.queued = true ∧ t0.scq = t'.scq :=
  queued_aset_unqueued hq

theorem PF.setTask_unqueued {s : State} {t : Task} (hq : t.queued = false) : PF s (s.setTask t) :=
  ⟨fun _ h _ => h, queued_aset_unqueued hq, fun _ _ h => Or.inl h⟩

theorem assignSt_pf {s : State} {w : Worker} {t : Task} (hp : w.parked = false) : PF s (assignSt s w t) := by
  have h1 : PF s (s.setWorker { w with task := some t.id }) := PF.setWorker_unparked hp
  have h2 : PF (s.setWorker { w with task := some t.id })
      ((s.setWorker { w with task := some t.id }).setTask
        { t with worker := some (w.scq, w.id), retry := 0, queued := false }) := PF.setTask_unqueued rfl
  exact (h1.trans h2).trans (PF.of_same rfl rfl rfl)

theorem schedule_pk {h : Hints} {s : State} {tid : Nat} (hP : PInv s) : wpk (schedule h s tid) PInv := by
  unfold schedule
  split
  · rename_i t ht
    refine wpk_by_cases (fun _ => ?_) (fun _ => ?_)
    · split
      · rename_i w hh
        have hwf := hintedWorker_some hh
        by_cases hp : w.parked = true
        · simp only [hp, Bool.not_true, Bool.false_eq_true, if_false]
          simp only [wakeWorker, worker?_def, setWorker_eq, wfind_wset, hwf, Option.isSome_some, if_true, and_self]
          rw [assignTo_eq]
          apply wpk_ite
          · pkerr
          · apply wpk_ite
            · pkerr
            · apply wpk_ok
              have h1 : PF s (wakeWorker s w) := PF.setWorker_unparked rfl
              have h2 := assignSt_pf (s := wakeWorker s w) (w := { w with parked := false, woken := true }) (t := t) rfl
              exact (h1.trans h2).pinv hP
        · simp only [hp, Bool.not_false, if_true]; pkerr
      · pkerr
    · rename_i hnp
      apply wpk_pure
      have hnp' : anyParked s t.scq = false := by simpa using hnp
      have hall := anyParked_false hnp'
      refine ⟨?_, hP.pt, hP.pd⟩
      intro wk hwk hpk k t' hk hq
      simp only [State.setTask] at hk
      rw [alookup_aset] at hk
      split at hk
      · cases hk
        intro e
        have := hall wk hwk e.symm
        rw [hpk] at this; cases this
      · exact hP.pq wk hwk hpk k t' hk hq
  · pkerr

theorem PInv.of_same {s s' : State} (h1 : s'.workers = s.workers) (h2 : s'.tasks = s.tasks)
    (h3 : s'.scqs = s.scqs) (hP : PInv s) : PInv s' := (PF.of_same h1 h2 h3).pinv hP

/-- returning a state with the same workers, tasks and size-class queues -/
theorem wpk_same {s s' : State} (hP : PInv s) (h1 : s'.workers = s.workers := by rfl)
    (h2 : s'.tasks = s.tasks := by rfl) (h3 : s'.scqs = s.scqs := by rfl) : wpk (pure s' : M State) PInv :=
  wpk_pure (PInv.of_same h1 h2 h3 hP)

theorem fstep_same3 (s : State) (o : Nat) :
    (fstep s o).workers = s.workers ∧ (fstep s o).tasks = s.tasks ∧ (fstep s o).scqs = s.scqs := by
  unfold fstep
  split
  · split
    · rw [maybeStartCleanup_eq]; exact ⟨rfl, rfl, rfl⟩
    · exact ⟨rfl, rfl, rfl⟩
  · exact ⟨rfl, rfl, rfl⟩

theorem finishOps_same3 (s : State) (ops : List Nat) :
    (complete.finishOps s ops).workers = s.workers ∧ (complete.finishOps s ops).tasks = s.tasks ∧
      (complete.finishOps s ops).scqs = s.scqs := by
  rw [finishOps_eq]
  induction ops generalizing s with
  | nil => exact ⟨rfl, rfl, rfl⟩
  | cons o r ih =>
    rw [List.foldl_cons]
    obtain ⟨a, b, c⟩ := ih (fstep s o)
    obtain ⟨a', b', c'⟩ := fstep_same3 s o
    exact ⟨a.trans a', b.trans b', c.trans c'⟩

theorem preT_queued {exo} {s : State} {tid : Nat} {t : Task} (hI : InvX (fun _ => False) exo s)
    (ht : alookup tid s.tasks = some t) : (preT t).queued = false := by
  unfold preT; split
  · simp [bumpGen]
  · rename_i hw
    cases hq : t.queued with
    | false => rfl
    | true => have := (hI.core.q1 tid t ht hq).1; simp [this] at hw

theorem detSt_pf {exo} {s : State} {tid : Nat} {t : Task} (hI : InvX (fun _ => False) exo s)
    (ht : alookup tid s.tasks = some t) : PF s (detSt s t) := by
  have hq := preT_queued hI ht
  have hpw : (preT t).worker = t.worker := by unfold preT; split <;> simp [bumpGen]
  have h1 : PF s (detachW s (preT t)) := by
    unfold detachW
    rw [hpw]
    cases htw : t.worker with
    | none => exact PF.refl s
    | some qw =>
      obtain ⟨q, w⟩ := qw
      obtain ⟨wk, hwk, hwt⟩ := hI.core.p2 tid t q w ht htw
      simp only [worker?_def, hwk]
      apply PF.setWorker_unparked
      cases hp : wk.parked with
      | false => rfl
      | true => have := (hI.core.w1 q w wk hwk hp).1; rw [hwt] at this; cases this
  exact h1.trans (PF.setTask_unqueued hq)

theorem finalize_pk {s : State} {t : Task} {e : Event} {r : Resp} (hP : PInv s) (hq : t.queued = false) :
    wpk (complete.finalize (emit s e) t r) PInv := by
  rw [finalize_eq]
  apply wpk_ok
  obtain ⟨a, b, c⟩ := finishOps_same3 (finSt0 (emit s e) t r) t.ops
  have h1 : PF s (finSt0 (emit s e) t r) := by
    refine ⟨fun _ h _ => h, ?_, fun _ _ h => Or.inl h⟩
    intro k t' hk hqq
    simp only [finSt0, emit] at hk
    rw [alookup_aset] at hk
    split at hk
    · cases hk; simp only [bumpGen] at hqq; rw [hq] at hqq; cases hqq
    · exact ⟨t', hk, hqq, rfl⟩
  exact (h1.trans (PF.of_same a b c)).pinv hP

theorem bgPart_pk {h : Hints} {Y : State} {t : Task} {i : Nat} (hP : PInv Y) : wpk (bgPart h Y t i) PInv := by
  unfold bgPart
  dsimp only
  split
  · rename_i pq _
    apply wpk_ite
    · exact wpk_same hP
    · split
      · rename_i bsc _
        apply wpk_ite
        · exact wpk_same hP
        · have hZ : PF Y (bgSt Y t ⟨t.scq.pq, bsc⟩ pq.bgPrio) := by
            refine ⟨fun _ h _ => h, ?_, fun _ _ h => Or.inl h⟩
            intro k t' hk hqq
            simp only [bgSt] at hk
            rw [alookup_aset] at hk
            split at hk
            · cases hk; cases hqq
            · exact ⟨t', hk, hqq, rfl⟩
          exact schedule_pk (hZ.pinv hP)
      · pkerr
  · pkerr

theorem completeOk_pk {h : Hints} {s : State} {t : Task} {r : Resp} {l : Nat} (hP : PInv s)
    (hq : t.queued = false) : wpk (completeOk h s t r l) PInv := by
  rw [completeOk_eq]
  refine wpk_seq (finalize_pk (t := { t with learner := none }) hP hq) ?_
  intro Y hY
  split
  · exact wpk_pure hY
  · exact bgPart_pk hY

theorem completeRetry_pk {exo} {h : Hints} {s : State} {tid : Nat} {t0 : Task} {l : Nat} {r : Resp}
    (hI : InvX (fun k => k = tid) exo s) (h0 : alookup tid s.tasks = some t0) (hr : t0.response = none)
    (hw : t0.worker = none) (hq : t0.queued = false) (hl : t0.learner = some l) (hP : PInv s) :
    wpk (completeRetry h s t0 r l) PInv := by
  have hid : t0.id = tid := (hI.core.tid tid t0 h0).1
  have hI2 := retrySt_inv r hI h0 hl
  have ht2 : alookup tid (retrySt s t0 l r).tasks = some (retryTask s t0 l r) := by
    simp only [retrySt, State.setTask, emit, retryTask]; rw [alookup_aset, hid]; simp
  have hP2 : PInv (retrySt s t0 l r) := by
    have h1 : PF s (emit { s with nextLearner := s.nextLearner + 1 }
        (.learnerFailed l (r.code = cDeadlineExceeded) (some s.nextLearner))) := PF.of_same rfl rfl rfl
    exact (h1.trans (PF.setTask_unqueued (t := retryTask s t0 l r) hq)).pinv hP
  rw [completeRetry_eq, hid]
  refine wpk_seq (wpk_and (wpk_of_wp (schedule_spec (h := h) hI2 ht2 hr hw)) (schedule_pk hP2)) ?_
  intro s3 ⟨⟨hI3, hp⟩, hP3⟩
  obtain ⟨t3, ht3, he3, _, _⟩ := hp.tt
  simp only [task?_def, ht3]
  apply wpk_pure
  have hid3 : t3.id = tid := (hI3.core.tid tid t3 ht3).1
  have h3 : alookup (bumpGen t3).id s3.tasks = some t3 := by simp only [bumpGen]; rw [hid3]; exact ht3
  refine (PF.setTask (t := bumpGen t3) (t0 := t3) h3 ?_).pinv hP3
  cases hq3 : t3.queued with
  | false => exact Or.inl hq3
  | true => exact Or.inr ⟨rfl, rfl⟩

theorem complete_pk {exo} {h : Hints} {s : State} {tid : Nat} {r : Resp} {bw : Bool}
    (hI : InvX (fun _ => False) exo s) (hP : PInv s) : wpk (complete h s tid r bw) PInv := by
  rw [complete_eq]
  cases ht : alookup tid s.tasks with
  | none => simp only [task?_def, ht]; pkerr
  | some t =>
    simp only [task?_def, ht]
    by_cases hr : t.response.isSome = true
    · rw [if_pos hr]; exact wpk_pure hP
    · rw [if_neg hr]
      have hr' : t.response = none := by simpa using hr
      have hq := preT_queued hI ht
      have hrp : (preT t).response = none := by unfold preT; split <;> simpa [bumpGen] using hr'
      have hID := detSt_inv hI ht hr'
      have h0 := (detSt_post hI ht).tt
      have hPD : PInv (detSt s t) := (detSt_pf hI ht).pinv hP
      -- both failure branches without retry finalize the detached task, after different events
      have hfin : ∀ e, wpk (complete.finalize (emit (detachW s (preT t)) e)
          { ({ preT t with worker := none } : Task) with learner := none } r) PInv := by
        intro e s' hs'
        have he' := (finalize_setTask (emit (detachW s (preT t)) e) { preT t with worker := none }
          { ({ preT t with worker := none } : Task) with learner := none } r rfl).trans hs'
        exact finalize_pk (e := e) (t := { ({ preT t with worker := none } : Task) with learner := none }) (r := r)
          hPD hq s' he'
      split
      · pkerr
      · rename_i l hl
        refine wpk_ite ?_ (wpk_ite (wpk_ite ?_ (hfin _)) (hfin _))
        · have := completeOk_pk (h := h) (r := r) (l := l) (t := { preT t with worker := none }) hPD hq
          rw [show detSt s t = (detachW s (preT t)).setTask { preT t with worker := none } from rfl,
            completeOk_setTask _ _ _ _ _ _ rfl] at this
          exact this
        · have := completeRetry_pk (h := h) (r := r) hID h0 hrp rfl hq hl hPD
          rw [show detSt s t = (detachW s (preT t)).setTask { preT t with worker := none } from rfl,
            completeRetry_setTask _ _ _ _ _ _ rfl] at this
          exact this

/-- replacing a task by a copy that differs in neither `queued` nor `scq` -/
theorem PF.setTask_copy {ex exo} {s : State} {tid : Nat} {t t0 : Task} (hI : InvX ex exo s)
    (h0 : alookup tid s.tasks = some t0) (hid : t.id = t0.id) (hq : t.queued = t0.queued)
    (hs : t.scq = t0.scq) : PF s (s.setTask t) := by
  have hk : t0.id = tid := (hI.core.tid tid t0 h0).1
  refine PF.setTask (t0 := t0) (by rw [hid, hk]; exact h0) ?_
  cases hq0 : t0.queued with
  | false => exact Or.inl (hq.trans hq0)
  | true => exact Or.inr ⟨rfl, hs.symm⟩

theorem removeOp_tail_pk {ex exo} {s2 : State} {o tid : Nat} {t2 : Task} (hI2 : InvX ex exo s2)
    (ht2 : alookup tid s2.tasks = some t2) (hP2 : PInv s2) :
    wpk (if (t2.ops.filter (· ≠ o)).isEmpty then pure { s2 with tasks := aerase t2.id s2.tasks }
        else pure (s2.setTask { t2 with ops := t2.ops.filter (· ≠ o) }) : M State) PInv := by
  apply wpk_ite
  · apply wpk_pure
    refine PF.pinv (s := s2) ⟨fun _ h _ => h, ?_, fun _ _ h => Or.inl h⟩ hP2
    intro k t' hk hq
    simp only [] at hk
    rw [alookup_aerase _ _ _ hI2.core.tnd] at hk
    split at hk
    · cases hk
    · exact ⟨t', hk, hq, rfl⟩
  · apply wpk_pure
    exact (PF.setTask_copy (t := { t2 with ops := t2.ops.filter (· ≠ o) }) hI2 ht2 rfl rfl rfl).pinv hP2

theorem removeOp_pk {h : Hints} {s : State} {o : Nat} (hI : Inv s)
    (hwz : ∀ op, alookup o s.ops = some op → op.waiters = 0) (hP : PInv s) : wpk (removeOp h s o) PInv := by
  unfold removeOp
  simp only [op?_def]
  cases hop : alookup o s.ops with
  | none => exact wpk_pure hP
  | some op =>
    simp only []
    have hI1 := eraseOp_inv hI hwz
    have hP1 : PInv { s with ops := aerase o s.ops } := PInv.of_same (s := s) rfl rfl rfl hP
    obtain ⟨t, ht, hmem⟩ := hI.oinv.o1 o op hop
    have hid : t.id = op.task := (hI.core.tid _ t ht).1
    simp only [task?_def, ht]
    by_cases hlen : t.ops.length = 1
    · rw [if_pos hlen]
      refine wpk_seq (wpk_and (wpk_of_wp (complete_spec (h := h) (r := ⟨cCanceled, 0, 0, .noWaiters⟩) (bw := false) hI1
        (by simp only [hid, ht]; rfl))) (complete_pk hI1 hP1)) ?_
      intro s2 ⟨⟨hI2, hcp, _, _⟩, hP2⟩
      rw [hid] at hcp
      obtain ⟨t2, ht2, _, _⟩ := hcp.tt t ht
      simp only [ht2]
      exact removeOp_tail_pk hI2 ht2 hP2
    · rw [if_neg hlen]
      simp only [pure_bind, ht]
      exact removeOp_tail_pk hI1 ht hP1

theorem foldl_complete_pk {h : Hints} {r : Resp} (ids : List Nat) {s : State} (hI : Inv s)
    (hex : ∀ k ∈ ids, (alookup k s.tasks).isSome = true) (hP : PInv s) :
    wpk (ids.foldlM (fun s t => complete h s t r false) s) PInv := by
  induction ids generalizing s with
  | nil => exact wpk_pure hP
  | cons a rest ih =>
    rw [List.foldlM_cons]
    refine wpk_seq (wpk_and (wpk_of_wp (complete_spec (h := h) (r := r) (bw := false) hI (hex a (by simp))))
      (complete_pk hI hP)) ?_
    intro s1 ⟨⟨hI1, hcp, _, _⟩, hP1⟩
    exact ih hI1 (fun k hk => hcp.persist hI k (hex k (by simp [hk]))) hP1

theorem cancelAllQueued_pk {h : Hints} {s : State} {q : ScqId} {r : Resp} (hI : Inv s) (hP : PInv s) :
    wpk (cancelAllQueued h s q r) PInv := by
  unfold cancelAllQueued
  apply foldl_complete_pk _ hI _ hP
  intro k hk
  simp only [List.mem_map, List.mem_filter] at hk
  obtain ⟨⟨k', t⟩, ⟨hm, _⟩, rfl⟩ := hk
  rw [alookup_of_mem hI.core.tnd hm]; rfl

theorem find?_filter_ne {l : List Scq} {q i : ScqId} {sq : Scq}
    (h : (l.filter (fun x => x.id ≠ q)).find? (fun x => x.id = i) = some sq) :
    l.find? (fun x => x.id = i) = some sq := by
  -- the element found passed the filter, so `i ≠ q` and the filter drops no candidate
  have hi : i ≠ q := by
    have h1 := List.find?_some h
    have h2 := (List.mem_filter.mp (List.mem_of_find?_eq_some h)).2
    simp only [decide_eq_true_eq] at h1 h2
    rw [← h1]; exact h2
  rw [List.find?_filter] at h
  rw [← h]
  congr; funext x
  by_cases hx : x.id = i
  · simp [hx, hi]
  · simp [hx]

theorem removeScq_pk {h : Hints} {s : State} {q : ScqId} (hI : Inv s) (hP : PInv s) :
    wpk (removeScq h s q) PInv := by
  unfold removeScq
  refine wpk_seq (cancelAllQueued_pk (h := h) (q := q) (r := ⟨cUnavailable, 0, 0, .queueRemoved⟩) hI hP) ?_
  intro s1 hP1
  have hpf : ∀ pqs', PF s1 { s1 with scqs := s1.scqs.filter (fun x => x.id ≠ q), pqs := pqs' } := by
    intro pqs'
    refine ⟨fun _ h _ => h, (PF.refl _).b, ?_⟩
    intro i sq hsq
    exact Or.inl (find?_filter_ne hsq)
  simp only []
  apply wpk_ite
  · exact wpk_pure ((hpf s1.pqs).pinv hP1)
  · exact wpk_pure ((hpf _).pinv hP1)

theorem staleTail_pk {s1 : State} {q : ScqId} {w : WId} {rt : Nat} (hP : PInv s1) :
    wpk (staleTail s1 q w rt) PInv := by
  have hpf : PF s1 { s1 with workers := s1.workers.filter (fun x => ¬ (x.scq = q ∧ x.id = w)) } :=
    ⟨fun wk h _ => (List.mem_filter.mp h).1, (PF.refl _).b, fun _ _ h => Or.inl h⟩
  have hP2 := hpf.pinv hP
  unfold staleTail
  dsimp only
  split
  · apply wpk_ite
    · apply wpk_pure
      exact PInv.of_same (s := { s1 with workers := s1.workers.filter (fun x => ¬ (x.scq = q ∧ x.id = w)) })
        rfl rfl rfl hP2
    · exact wpk_pure hP2
  · exact wpk_pure hP2

theorem removeStaleWorker_pk {h : Hints} {s : State} {q : ScqId} {w : WId} {rt : Nat} (hI : Inv s)
    (hP : PInv s) : wpk (removeStaleWorker h s q w rt) PInv := by
  rw [removeStaleWorker_eq]
  simp only [worker?_def]
  cases hw : wfind s.workers q w with
  | none => exact wpk_pure hP
  | some wk =>
    dsimp only
    apply wpk_bind
    cases hwt : wk.task with
    | none => exact wpk_pure (staleTail_pk hP)
    | some tid =>
      dsimp only
      refine wpk_mono (complete_pk (h := h) hI hP) ?_
      intro s1 hP1
      exact staleTail_pk hP1

theorem runCleanup_pk {h : Hints} (fuel : Nat) {s : State} (hI : Inv s) (hP : PInv s) :
    wpk (runCleanup h fuel s) PInv := by
  induction fuel generalizing s with
  | zero => exact wpk_pure hP
  | succ n ih =>
    unfold runCleanup
    cases hp : popDue s.now s.cleanup with
    | none => exact wpk_pure hP
    | some er =>
      obtain ⟨e, rest⟩ := er
      dsimp only
      obtain ⟨hmem, hsub⟩ := popDue_some hp
      have hI0 : Inv { s with cleanup := rest } :=
        ⟨hI.core, hI.oinv, hI.sinv.cleanup_sub hsub, hI.linv⟩
      have hP0 : PInv { s with cleanup := rest } := PInv.of_same (s := s) rfl rfl rfl hP
      cases hk : e.kind with
      | worker q w =>
        dsimp only
        refine wpk_seq (wpk_and (wpk_of_wp (removeStaleWorker_spec (h := h) (rt := e.deadline) hI0))
          (removeStaleWorker_pk hI0 hP0)) ?_
        intro s1 ⟨⟨hI1, _⟩, hP1⟩
        exact ih hI1 hP1
      | op o =>
        dsimp only
        have hwz : ∀ op, alookup o ({ s with cleanup := rest } : State).ops = some op → op.waiters = 0 :=
          fun op hop => hI.sinv.s2 o op e hop hmem hk
        refine wpk_seq (wpk_and (wpk_of_wp (removeOp_spec (h := h) hI0 hwz)) (removeOp_pk hI0 hwz hP0)) ?_
        intro s1 ⟨⟨hI1, _⟩, hP1⟩
        exact ih hI1 hP1
      | scq q =>
        dsimp only
        refine wpk_seq (wpk_and (wpk_of_wp (removeScq_spec (h := h) (q := q) hI0)) (removeScq_pk hI0 hP0)) ?_
        intro s1 ⟨⟨hI1, _⟩, hP1⟩
        exact ih hI1 hP1

theorem enter_pk {h : Hints} {s : State} {t : Nat} (hI : Inv s) (hP : PInv s) : wpk (enter h s t) PInv := by
  unfold enter
  apply wpk_ite
  · exact runCleanup_pk _ (hI.of_same rfl rfl rfl rfl rfl rfl rfl rfl rfl rfl)
      (PInv.of_same (s := s) rfl rfl rfl hP)
  · exact wpk_pure hP

theorem enter_both {h : Hints} {s : State} {t : Nat} (hI : Inv s) (hP : PInv s) :
    wpk (enter h s t) (fun s' => Inv s' ∧ PInv s') :=
  wpk_and (wpk_mono (wpk_of_wp (enter_spec hI)) (fun _ h => h.1)) (enter_pk hI hP)

/-- stream operations touch neither workers, tasks nor queues -/
theorem StreamFrame.pinv {s s' : State} (h : StreamFrame s s') (hP : PInv s) : PInv s' := by
  obtain ⟨os, sts, cl, evs, he⟩ := h
  subst he
  exact PInv.of_same (s := s) rfl rfl rfl hP

theorem streamAttach_pk {ex exo} {s : State} {c o : Nat} (hI : InvX ex exo s) (hP : PInv s) :
    wpk (streamAttach s c o) PInv := by
  cases hop : alookup o s.ops with
  | none => unfold streamAttach; simp only [op?_def, hop]; pkerr
  | some op =>
    refine wpk_mono (wpk_of_wp (streamAttach_spec (c := c) hI hop)) ?_
    intro s' ⟨_, hsf, _, _⟩
    exact hsf.pinv hP

theorem streamSend_pk {ex exo} {s : State} {c o : Nat} {op : Op} (hI : InvX ex exo s)
    (hop : alookup o s.ops = some op)
    (hpre : (s.streams.filter (fun x => x.client ≠ c)).countP (fun st => st.op = o) + 1 ≤ op.waiters)
    (hP : PInv s) : wpk (streamSend s c o) PInv := by
  refine wpk_mono (wpk_of_wp (streamSend_spec hI hop hpre)) ?_
  intro s' ⟨_, hsf, _, _⟩
  exact hsf.pinv hP

theorem streamLeave_pk {ex exo} {s : State} {c code : Nat} (hI : InvX ex exo s) (hP : PInv s) :
    wpk (streamLeave s c code) PInv := by
  refine wpk_mono (wpk_of_wp (streamLeave_spec (c := c) (code := code) hI)) ?_
  intro s' ⟨_, hsf, _⟩
  exact hsf.pinv hP

theorem addOpSt_pf {ex exo} {s : State} {tid : Nat} {t : Task} {inv : List Nat} {prio : Int}
    (hI : InvX ex exo s) (ht : alookup tid s.tasks = some t) : PF s (addOpSt s tid t inv prio) := by
  have hid : t.id = tid := (hI.core.tid tid t ht).1
  refine ⟨fun _ h _ => h, ?_, fun _ _ h => Or.inl h⟩
  intro k t' hk hq
  simp only [addOpSt] at hk
  rw [alookup_aset, hid] at hk
  split at hk
  · rename_i hkk; cases hk; subst hkk; exact ⟨t, ht, hq, rfl⟩
  · exact ⟨t', hk, hq, rfl⟩

theorem newTaskSt_pf (s : State) (digest dkey : Nat) (dnc : Bool) (q : ScqId) (inv : List Nat) (prio : Int) :
    PF s (newTaskSt s digest dkey dnc q inv prio) := by
  refine ⟨fun _ h _ => h, ?_, fun _ _ h => Or.inl h⟩
  intro k t' hk hq
  simp only [newTaskSt] at hk
  rw [alookup_aset] at hk
  split at hk
  · cases hk; cases hq
  · exact ⟨t', hk, hq, rfl⟩

theorem execBody_new_pk {h : Hints} {s : State} {c digest dkey : Nat} {dnc : Bool} {q : ScqId}
    {inv : List Nat} {prio : Int} (hI : Inv s) (hnone : alookup dkey s.dedup = none) (hP : PInv s) :
    wpk (schedule h (newTaskSt s digest dkey dnc q inv prio) s.nextTask >>= fun s1 => streamAttach s1 c s.nextOp)
      PInv := by
  have hI3 := newTaskSt_inv (digest := digest) (dnc := dnc) (q := q) (inv := inv) (prio := prio) hI hnone
  have ht3 : alookup s.nextTask (newTaskSt s digest dkey dnc q inv prio).tasks =
      some (newTask s digest dkey dnc q) := by
    simp only [newTaskSt]; rw [alookup_aset, if_pos rfl]
  have hP3 := (newTaskSt_pf s digest dkey dnc q inv prio).pinv hP
  refine wpk_seq (wpk_and (wpk_of_wp (schedule_spec (h := h) hI3 ht3 rfl rfl)) (schedule_pk hP3)) ?_
  intro s1 ⟨⟨hI1, _⟩, hP1⟩
  exact streamAttach_pk hI1 hP1

theorem execBody_pk {h : Hints} {s : State} {c digest dkey : Nat} {dnc : Bool} {comps : List Nat}
    {platform : Nat} {inv : List Nat} {prio : Int} (hI : Inv s) (hP : PInv s) :
    wpk (execBody h s c digest dkey dnc comps platform inv prio) PInv := by
  unfold execBody
  cases hd : alookup dkey s.dedup with
  | some tid =>
    dsimp only
    obtain ⟨t, ht, _, hr, _, _⟩ := hI.core.d1 dkey tid hd
    simp only [task?_def, ht]
    have hI1 : Inv (emit s .selAbandoned) := emit_quiet_inv hI _ (fun _ => ⟨rfl, rfl⟩)
    have hP1 : PInv (emit s .selAbandoned) := PInv.of_same (s := s) rfl rfl rfl hP
    split
    · exact streamAttach_pk hI1 hP1
    · apply wpk_ite
      · pkerr
      · have hI2 := addOpSt_inv (inv := inv) (prio := prio) hI1 ht
        have hP2 := (addOpSt_pf (inv := inv) (prio := prio) hI1 ht).pinv hP1
        exact streamAttach_pk hI2 hP2
  | none =>
    dsimp only
    split
    · exact wpk_same hP
    · rename_i pq _
      split
      · rename_i sc _
        have := execBody_new_pk (h := h) (c := c) (digest := digest) (dnc := dnc) (q := ⟨pq.id, sc⟩)
          (inv := inv) (prio := prio) hI hd hP
        -- with the setters unfolded first, matching the state against `newTaskSt` is cheap
        cases dnc <;> simp only [emit, State.setTask, State.setOp, if_true, Bool.false_eq_true, if_false] <;>
          exact this
      · pkerr

theorem execArrive_pk {h : Hints} {s : State} {now c digest dkey : Nat} {dnc : Bool} {comps : List Nat}
    {platform : Nat} {inv : List Nat} {prio : Int} (hI : Inv s) (hP : PInv s) :
    wpk (execArrive h s now c digest dkey dnc comps platform inv prio) PInv := by
  rw [execArrive_eq]
  refine wpk_seq (enter_both hI hP) ?_
  intro s0 ⟨hI0, hP0⟩
  exact execBody_pk hI0 hP0

theorem waitArrive_pk {h : Hints} {s : State} {now c name : Nat} (hI : Inv s) (hP : PInv s) :
    wpk (waitArrive h s now c name) PInv := by
  unfold waitArrive
  refine wpk_seq (enter_both hI hP) ?_
  intro s0 ⟨hI0, hP0⟩
  split
  · exact wpk_same hP0
  · exact streamAttach_pk hI0 hP0

theorem streamWake_pk {h : Hints} {s : State} {now c reason : Nat} (hI : Inv s) (hP : PInv s) :
    wpk (streamWake h s now c reason) PInv := by
  unfold streamWake
  refine wpk_seq (enter_both hI hP) ?_
  intro s0 ⟨hI0, hP0⟩
  cases hf : s0.streams.find? (fun x => x.client = c) with
  | none => pkerr
  | some st =>
    dsimp only
    have hst : st ∈ s0.streams := List.mem_of_find?_eq_some hf
    have hstc : st.client = c := by simpa using List.find?_some hf
    have h3 := hI0.sinv.s3 st hst
    by_cases h2 : reason = 2
    · rw [if_pos h2]; exact streamLeave_pk hI0 hP0
    · rw [if_neg h2]
      cases hop : alookup st.op s0.ops with
      | none => rw [hop] at h3; cases h3
      | some op =>
        obtain ⟨t, ht, _⟩ := hI0.oinv.o1 _ op hop
        have hcnt := countP_filter_add_one (l := s0.streams) (p := fun x => decide (x.op = st.op))
          (q := fun x => decide (x.client ≠ c)) hst (by simp) (by simp [hstc])
        have h1 := hI0.sinv.s1 _ op hop
        have hsend := streamSend_pk (c := c) hI0 hop (by omega) hP0
        by_cases h0 : reason = 0
        · simp only [h0, if_true, op?_def, hop, task?_def, ht]
          by_cases hg : t.gen = st.snap
          · simp only [hg, if_true]; pkerr
          · simp only [hg, if_false]; exact hsend
        · simp only [h0, if_false]; exact hsend

theorem syncReturn_pf (s : State) (q : ScqId) (w : WId) : PF s (syncReturn s q w) := by
  rw [syncReturn_eq]
  cases s.worker? q w with
  | none => exact PF.refl s
  | some wk =>
    dsimp only
    exact (PF.setWorker_unparked (s := s) (w := resetW wk) rfl).trans (PF.of_same rfl rfl rfl)

theorem syncReturn_emit_pinv {s : State} (hP : PInv s) (e : Event) (q : ScqId) (w : WId) :
    PInv (syncReturn (emit s e) q w) :=
  (syncReturn_pf (emit s e) q w).pinv (PInv.of_same (s := s) rfl rfl rfl hP)

theorem execReturn_pk {s : State} {q : ScqId} {w : WId} {wk : Worker} (hP : PInv s) :
    wpk (execResponse s wk >>= fun s1 => pure (syncReturn s1 q w)) PInv := by
  unfold execResponse
  split
  · split
    · simp only [pure_bind]
      exact wpk_pure (syncReturn_emit_pinv hP _ q w)
    · pkerr
  · pkerr

theorem assignNext_pk {h : Hints} {s : State} {w : Worker} (hwp : w.parked = false) (hP : PInv s) :
    wpk (assignNext h s w) (fun r => PInv r.1 ∧ (r.2 = false → r.1 = s ∧ queuedTasks s w.scq = [])) := by
  unfold assignNext
  split
  · split
    · rename_i t hf
      rw [assignTo_eq]
      split
      · pkerr
      · split
        · pkerr
        · simp only [ok_bind']
          have ht1 : alookup t.id (assignSt s w t).tasks =
              some { t with worker := some (w.scq, w.id), retry := 0, queued := false } := by
            simp only [assignSt, State.setTask, setWorker_eq]; rw [alookup_aset, if_pos rfl]
          simp only [task?_def, ht1]
          apply wpk_pure
          refine ⟨?_, fun h => by cases h⟩
          have h1 : PF s (assignSt s w t) := assignSt_pf hwp
          exact (h1.trans (PF.setTask_unqueued (by simp [bumpGen]))).pinv hP
    · pkerr
  · refine wpk_by_cases (fun _ => ?_) (fun _ => ?_)
    · rename_i hemp
      apply wpk_pure
      exact ⟨hP, fun _ => ⟨rfl, List.isEmpty_iff.mp hemp⟩⟩
    · pkerr

/-- parking the synchronizing worker when nothing is queued in its queue and it is not drained -/
theorem park_pinv {s : State} {q : ScqId} {w : WId} {wk : Worker} {sq : Scq} {x : Option Nat} (hI : Inv s)
    (hw : wfind s.workers q w = some wk) (hsq : s.scq? q = some sq) (hnd : isDrained sq wk = false)
    (hemp : queuedTasks s q = []) (hP : PInv s) :
    PInv (s.setWorker { wk with parked := true, woken := false, timer := x }) := by
  have hk := wfind_key hw
  unfold isDrained at hnd
  simp only [Bool.or_eq_false_iff] at hnd
  refine ⟨?_, ?_, ?_⟩
  · intro wk' hwk' hp k t ht hq
    rcases mem_wset hwk' with e | hm
    · subst e
      intro hscq
      have h1 := hI.core.q1 k t ht hq
      have hmem : t ∈ queuedTasks s q := by
        unfold queuedTasks
        simp only [List.mem_map, List.mem_filter, decide_eq_true_eq]
        refine ⟨(k, t), ⟨mem_of_alookup ht, ?_, hq, by simp [h1.1], by simp [h1.2]⟩, rfl⟩
        exact hscq.trans hk.1
      rw [hemp] at hmem; cases hmem
    · exact hP.pq wk' hm hp k t ht hq
  · intro wk' hwk' hp
    rcases mem_wset hwk' with e | hm
    · subst e; exact hnd.1
    · exact hP.pt wk' hm hp
  · intro wk' hwk' hp sq' hsq'
    rcases mem_wset hwk' with e | hm
    · subst e
      have : s.scq? wk.scq = some sq' := hsq'
      rw [hk.1, hsq] at this; cases this
      have := hnd.2
      rw [hk.2] at this ⊢
      exact this
    · exact hP.pd wk' hm hp sq' hsq'

theorem getNextTask_pk {h : Hints} {s : State} {q : ScqId} {w : WId} {wk : Worker} {pi bl : Bool}
    (hI : Inv s) (hw : wfind s.workers q w = some wk) (hr : Ready wk) (hP : PInv s) :
    wpk (getNextTask h s q w pi bl) PInv := by
  have hk := wfind_key hw
  have hidle : PInv (syncReturn (emit s (.syncIdle q w s.now)) q w) := syncReturn_emit_pinv hP _ q w
  unfold getNextTask
  simp only [worker?_def, hw]
  split
  · rename_i sq hsq
    refine wpk_ite (wpk_pure hidle) (wpk_by_cases (fun hd => ?_) (fun _ => wpk_ite (wpk_pure hidle) ?_))
    · have hnd : isDrained sq wk = false := by simpa using hd
      refine wpk_seq (assignNext_pk (h := h) (w := wk) hr.parked hP) ?_
      intro ⟨s1, got⟩ ⟨hP1, hf⟩
      dsimp only at hP1 hf ⊢
      refine wpk_by_cases (fun _ => ?_) (fun hg => ?_)
      · split
        · exact execReturn_pk hP1
        · pkerr
      · obtain ⟨hs1, hemp⟩ := hf (by simpa using hg)
        subst hs1
        rw [hk.1] at hemp
        refine wpk_ite (wpk_pure (syncReturn_emit_pinv hP1 _ q w)) ?_
        simp only [hw, hr.parked, Bool.false_eq_true, if_false]
        apply wpk_pure
        exact park_pinv hI hw hsq hnd hemp hP
    · apply wpk_pure
      refine PF.pinv (PF.setWorker_unparked ?_) hP
      exact hr.parked
  · pkerr

theorem getCurrentOrNext_pk {h : Hints} {s : State} {q : ScqId} {w : WId} {wk : Worker} {pi bl : Bool}
    (hI : Inv s) (hw : wfind s.workers q w = some wk) (hr : Ready' wk) (hP : PInv s) :
    wpk (getCurrentOrNext h s q w pi bl) PInv := by
  unfold getCurrentOrNext
  simp only [worker?_def, hw]
  cases hwt : wk.task with
  | none =>
    dsimp only
    exact getNextTask_pk hI hw ⟨hr.parked, hr.woken, hwt, hr.drainWait, hr.inSync⟩ hP
  | some tid =>
    dsimp only
    obtain ⟨t, ht, htw⟩ := hI.core.p1 q w wk tid hw hwt
    simp only [task?_def, ht]
    by_cases hret : t.retry < s.cfg.retryCount
    · simp only [hret, if_true]
      apply wpk_pure
      have hP1 : PInv (s.setTask { t with retry := t.retry + 1 }) :=
        (PF.setTask_copy (t := { t with retry := t.retry + 1 }) hI ht rfl rfl rfl).pinv hP
      exact syncReturn_emit_pinv hP1 _ q w
    · simp only [hret, if_false]
      refine wpk_seq (wpk_and (wpk_of_wp (complete_spec (h := h) (r := ⟨cInternal, 0, 0, .retryLimit⟩)
        (bw := false) hI (by rw [ht]; rfl))) (complete_pk hI hP)) ?_
      intro s1 ⟨⟨hI1, hcp, _, _⟩, hP1⟩
      have hw1 := complete_clears hI hI1 hcp hw hwt hr.parked
      exact getNextTask_pk hI1 hw1 ⟨hr.parked, hr.woken, rfl, hr.drainWait, hr.inSync⟩ hP1

def newScq (q : ScqId) : Scq := { id := q, mayBeRemoved := true, drains := [], undrainGen := 0 }

theorem find?_append_nodrain {l l2 : List Scq} {i : ScqId} {sq : Scq} (h2 : ∀ x ∈ l2, x.drains = [])
    (h : (l ++ l2).find? (fun x => x.id = i) = some sq) :
    l.find? (fun x => x.id = i) = some sq ∨ sq.drains = [] := by
  rw [List.find?_append] at h
  cases hl : l.find? (fun x => x.id = i) with
  | some a => rw [hl] at h; exact Or.inl h
  | none =>
    rw [hl] at h
    simp only [Option.none_or] at h
    exact Or.inr (h2 sq (List.mem_of_find?_eq_some h))

theorem syncQueue_pk {s : State} {q : ScqId} {comps : List Nat} {platform : Nat} {w : WId} (hP : PInv s) :
    wpk (syncQueue s q comps platform w) (fun r => match r with
      | .inl s1 => PInv s1
      | .inr s1 => PInv s1) := by
  have hsame : ∀ s1 : State, s1.workers = s.workers → s1.tasks = s.tasks → s1.scqs = s.scqs → PInv s1 :=
    fun s1 a b c => PInv.of_same a b c hP
  have happ : ∀ pqs', PInv { s with pqs := pqs', scqs := s.scqs ++ [newScq q] } := by
    intro pqs'
    refine PF.pinv (s := s) ⟨fun _ h _ => h, (PF.refl _).b, ?_⟩ hP
    intro i sq hsq
    exact find?_append_nodrain (fun x hx => by rw [List.mem_singleton.mp hx]; rfl) hsq
  unfold syncQueue
  split
  · exact wpk_pure (hsame _ rfl rfl rfl)
  · split
    · dsimp only
      split
      · pkerr
      · split
        · pkerr
        · apply wpk_ite
          · exact wpk_pure (hsame _ rfl rfl rfl)
          · apply wpk_ite
            · exact wpk_pure (hsame _ rfl rfl rfl)
            · apply wpk_ite
              · exact wpk_pure (hsame _ rfl rfl rfl)
              · exact wpk_pure (happ s.pqs)
    · exact wpk_pure (happ _)

theorem syncWorker_pinv {s : State} {q : ScqId} {w : WId} (hI : Inv s) (hP : PInv s) :
    match syncWorker s q w with
    | .inl s1 => PInv s1
    | .inr s1 => PInv s1 := by
  unfold syncWorker
  cases hw : s.worker? q w with
  | some wk =>
    dsimp only
    simp only [worker?_def] at hw
    by_cases his : wk.inSync = true
    · rw [if_pos his]; exact PInv.of_same (s := s) rfl rfl rfl hP
    · rw [if_neg his]
      have hp : wk.parked = false := by
        cases hp : wk.parked with
        | false => rfl
        | true => exact absurd (hI.core.w1 q w wk hw hp).2.2.2 his
      have h1 : PInv (s.removeCleanup (.worker q w)) := PInv.of_same (s := s) rfl rfl rfl hP
      refine PF.pinv (PF.setWorker_unparked ?_) h1
      exact hp
  | none =>
    dsimp only
    refine PF.pinv (s := s) ⟨?_, (PF.refl _).b, fun _ _ h => Or.inl h⟩ hP
    intro wk hwk hp
    rcases List.mem_append.mp hwk with h | h
    · exact h
    · simp only [List.mem_singleton] at h; subst h; cases hp

theorem syncBody_pk {h : Hints} {s : State} {q : ScqId} {w : WId} {rep : Report} {pi : Bool} {wk : Worker}
    (hI : Inv s) (hw : wfind s.workers q w = some wk) (hr : Ready' wk) (hP : PInv s) :
    wpk (syncBody h s q w rep pi) PInv := by
  unfold syncBody
  simp only [worker?_def, hw]
  cases rep with
  | malformed => exact wpk_pure (syncReturn_emit_pinv hP _ q w)
  | idle => exact getCurrentOrNext_pk hI hw hr hP
  | executing d =>
    dsimp only
    cases hwt : wk.task with
    | none =>
      simp only [Bool.false_eq_true, if_false]
      exact getCurrentOrNext_pk hI hw hr hP
    | some tid =>
      dsimp only
      apply wpk_ite
      · exact wpk_pure (syncReturn_emit_pinv hP _ q w)
      · exact getCurrentOrNext_pk hI hw hr hP
  | completed d r =>
    dsimp only
    cases hwt : wk.task with
    | none =>
      simp only [Bool.false_eq_true, if_false]
      exact getCurrentOrNext_pk hI hw hr hP
    | some tid =>
      dsimp only
      apply wpk_ite
      · obtain ⟨t, ht, _⟩ := hI.core.p1 q w wk tid hw hwt
        refine wpk_seq (wpk_and (wpk_of_wp (complete_spec (h := h) (r := r) (bw := true) hI (by rw [ht]; rfl)))
          (complete_pk hI hP)) ?_
        intro s1 ⟨⟨hI1, hcp, _, _⟩, hP1⟩
        have hw1 := complete_clears hI hI1 hcp hw hwt hr.parked
        exact getNextTask_pk hI1 hw1 ⟨hr.parked, hr.woken, rfl, hr.drainWait, hr.inSync⟩ hP1
      · exact getCurrentOrNext_pk hI hw hr hP

theorem syncArrive_pk {h : Hints} {s : State} {now : Nat} {q : ScqId} {comps : List Nat} {platform : Nat}
    {w : WId} {rep : Report} {pi : Bool} (hI : Inv s) (hP : PInv s) :
    wpk (syncArrive h s now q comps platform w rep pi) PInv := by
  rw [syncArrive_eq]
  refine wpk_seq (enter_both hI hP) ?_
  intro s0 ⟨hI0, hP0⟩
  refine wpk_seq (wpk_and (wpk_of_wp (syncQueue_spec (q := q) (comps := comps) (platform := platform) (w := w) hI0))
    (syncQueue_pk hP0)) ?_
  intro r ⟨hr, hPr⟩
  cases r with
  | inl s1 => exact wpk_pure hPr
  | inr s1 =>
    obtain ⟨hI1, _, _, _⟩ := hr
    dsimp only at hPr ⊢
    have hsw := syncWorker_spec (q := q) (w := w) hI1
    have hsp := syncWorker_pinv (q := q) (w := w) hI1 hPr
    cases hsw' : syncWorker s1 q w with
    | inl s2 => rw [hsw'] at hsp; exact wpk_pure hsp
    | inr s2 =>
      rw [hsw'] at hsw hsp
      obtain ⟨hI2, _, wk2, hw2, hr2⟩ := hsw
      exact syncBody_pk hI2 hw2 hr2 hsp

theorem wakeBody_pk {h : Hints} {s : State} {q : ScqId} {w : WId} {reason : Nat} (hI : Inv s) (hP : PInv s) :
    wpk (wakeBody h s q w reason) PInv := by
  unfold wakeBody
  cases hw : s.worker? q w with
  | none => pkerr
  | some wk =>
    dsimp only
    simp only [worker?_def] at hw
    have hk := wfind_key hw
    have hw' : wfind s.workers wk.scq wk.id = some wk := by rw [hk.1, hk.2]; exact hw
    refine wpk_by_cases (fun _ => wpk_throw_bind) (fun hng => ?_)
    have his : wk.inSync = true := by simpa using hng
    have hP12 : PInv (s.setWorker { wk with parked := false, woken := false, drainWait := none }) :=
      (PF.setWorker_unparked rfl).pinv hP
    -- a worker with a closed wakeup channel or a pending undrain is not parked
    have hpar : wk.woken = true ∨ wk.drainWait.isSome = true → wk.parked = false := by
      intro hc
      cases hp : wk.parked with
      | false => rfl
      | true =>
        have := hI.core.w1 q w wk hw hp
        rcases hc with hc | hc
        · rw [this.2.2.1] at hc; cases hc
        · rw [this.2.1] at hc; cases hc
    split
    · exact wpk_ite (execReturn_pk hP12) (wpk_pure (syncReturn_emit_pinv hP12 _ q w))
    · exact wpk_pure (syncReturn_emit_pinv hP12 _ q w)
    · refine wpk_by_cases (fun _ => wpk_throw_bind) (fun hng2 => ?_)
      have hwo : wk.woken = true := by simpa using hng2
      have hp := hpar (.inl hwo)
      have hd : wk.drainWait = none := (hI.core.w2 q w wk hw hwo).1
      have hI0 := setFlags_inv (wk := wk) (wk' := { wk with woken := false }) hI hw' rfl rfl rfl hp rfl hd
      have hw0 := wfind_setWorker_self (wk' := { wk with woken := false }) hw rfl rfl
      have hP0 : PInv (s.setWorker { wk with woken := false }) :=
        (PF.setWorker_unparked (w := { wk with woken := false }) hp).pinv hP
      refine wpk_by_cases (fun _ => execReturn_pk hP0) (fun hts => ?_)
      exact getNextTask_pk hI0 hw0 ⟨hp, rfl, by simpa using hts, hd, his⟩ hP0
    · split
      · rename_i sq _
        cases hdw : wk.drainWait with
        | none => dsimp only; pkerr
        | some g =>
          dsimp only
          refine wpk_ite wpk_throw_bind ?_
          have h3 := hI.core.w3 q w wk hw (by rw [hdw]; rfl)
          have hp := hpar (.inr (by rw [hdw]; rfl))
          have hwo : wk.woken = false := by
            cases hp : wk.woken with
            | false => rfl
            | true => have := (hI.core.w2 q w wk hw hp).1; rw [hdw] at this; cases this
          have hI3 := setFlags_inv (wk := wk) (wk' := { wk with drainWait := none }) hI hw' rfl rfl rfl hp hwo rfl
          have hw3 := wfind_setWorker_self (wk' := { wk with drainWait := none }) hw rfl rfl
          have hP3 : PInv (s.setWorker { wk with drainWait := none }) :=
            (PF.setWorker_unparked (w := { wk with drainWait := none }) hp).pinv hP
          exact getNextTask_pk hI3 hw3 ⟨hp, hwo, h3.1, rfl, his⟩ hP3
      · pkerr
    · pkerr

theorem syncWake_pk {h : Hints} {s : State} {now : Nat} {q : ScqId} {w : WId} {reason : Nat} (hI : Inv s)
    (hP : PInv s) : wpk (syncWake h s now q w reason) PInv := by
  rw [syncWake_eq]
  refine wpk_seq (enter_both hI hP) ?_
  intro s0 ⟨hI0, hP0⟩
  exact wakeBody_pk hI0 hP0

theorem killOp_pk {h : Hints} {s : State} {now name code : Nat} (hI : Inv s) (hP : PInv s) :
    wpk (killOp h s now name code) PInv := by
  unfold killOp
  refine wpk_seq (enter_both hI hP) ?_
  intro s0 ⟨hI0, hP0⟩
  split
  · exact wpk_same hP0
  · refine wpk_seq (complete_pk (h := h) hI0 hP0) ?_
    intro s1 hP1
    exact wpk_same hP1

theorem killQueue_pk {h : Hints} {s : State} {now : Nat} {q : ScqId} {code : Nat} (hI : Inv s) (hP : PInv s) :
    wpk (killQueue h s now q code) PInv := by
  unfold killQueue
  refine wpk_seq (enter_both hI hP) ?_
  intro s0 ⟨hI0, hP0⟩
  split
  · exact wpk_same hP0
  · apply wpk_ite
    · exact wpk_same hP0
    · refine wpk_seq (cancelAllQueued_pk (h := h) hI0 hP0) ?_
      intro s1 hP1
      exact wpk_same hP1

theorem scq?_setScq {s : State} {nq : Scq} {i : ScqId} {sq' : Scq} (h : (s.setScq nq).scq? i = some sq') :
    (i = nq.id ∧ sq' = nq) ∨ (i ≠ nq.id ∧ s.scq? i = some sq') := by
  unfold State.scq? State.setScq at h
  rw [List.find?_map] at h
  obtain ⟨a, ha, rfl⟩ := Option.map_eq_some_iff.mp h
  -- replacing a record by one with the same id does not change which element is found
  have ha' : s.scqs.find? (fun x => x.id = i) = some a := by
    rw [← ha]; congr; funext x
    simp only [Function.comp]
    split
    · rename_i hx; rw [hx]
    · rfl
  have hai : a.id = i := by simpa using List.find?_some ha'
  by_cases hn : a.id = nq.id
  · exact .inl ⟨hai.symm.trans hn, if_pos hn⟩
  · exact .inr ⟨fun e => hn (hai.trans e), by rw [if_neg hn]; exact ha'⟩

theorem foldl_wake_parked (c : Worker → Prop) [DecidablePred c] (l : List Worker) {s : State}
    (hl : WNodup l) (hcur : ∀ w, w ∈ l → wfind s.workers w.scq w.id = some w) :
    (∀ wk, wk ∈ (l.foldl (fun s w => if c w then wakeWorker s w else s) s).workers → wk.parked = true →
        wk ∈ s.workers ∧ (wk ∈ l → ¬ c wk)) ∧
      (l.foldl (fun s w => if c w then wakeWorker s w else s) s).tasks = s.tasks ∧
      (l.foldl (fun s w => if c w then wakeWorker s w else s) s).scqs = s.scqs := by
  induction l generalizing s with
  | nil => exact ⟨fun wk h _ => ⟨h, fun hm => by cases hm⟩, rfl, rfl⟩
  | cons a r ih =>
    rw [List.foldl_cons]
    simp only [WNodup, List.pairwise_cons] at hl
    by_cases hca : c a
    · rw [if_pos hca]
      have hcur1 : ∀ w, w ∈ r → wfind (wakeWorker s a).workers w.scq w.id = some w := by
        intro w hw
        have hne := hl.1 w hw
        simp only [wakeWorker, setWorker_eq]
        rw [wfind_wset, if_neg]
        · exact hcur w (List.mem_cons_of_mem _ hw)
        · exact fun h => hne ⟨h.1, h.2⟩
      obtain ⟨h1, h2, h3⟩ := ih hl.2 hcur1
      refine ⟨?_, h2, h3⟩
      intro wk hwk hp
      obtain ⟨hm, hr⟩ := h1 wk hwk hp
      simp only [wakeWorker, setWorker_eq] at hm
      rcases mem_wset' hm with e | ⟨hm', hne⟩
      · subst e; cases hp
      · refine ⟨hm', ?_⟩
        intro hmem
        rcases List.mem_cons.mp hmem with e | e
        · subst e; exact absurd ⟨rfl, rfl⟩ hne
        · exact hr e
    · rw [if_neg hca]
      obtain ⟨h1, h2, h3⟩ := ih hl.2 (fun w hw => hcur w (List.mem_cons_of_mem _ hw))
      refine ⟨?_, h2, h3⟩
      intro wk hwk hp
      obtain ⟨hm, hr⟩ := h1 wk hwk hp
      refine ⟨hm, ?_⟩
      intro hmem
      rcases List.mem_cons.mp hmem with e | e
      · subst e; exact hca
      · exact hr e

theorem addDrain_pk {h : Hints} {s : State} {now : Nat} {q : ScqId} {p : Pattern} (hI : Inv s) (hP : PInv s) :
    wpk (addDrain h s now q p) PInv := by
  unfold addDrain
  refine wpk_seq (enter_both hI hP) ?_
  intro s0 ⟨hI0, hP0⟩
  split
  · exact wpk_same hP0
  · rename_i sq hsq
    apply wpk_pure
    have hsqid : sq.id = q := by
      have := List.find?_some hsq; simpa using this
    obtain ⟨h1, h2, h3⟩ := foldl_wake_parked (fun w => w.scq = q ∧ w.parked = true ∧ p.matches w.id = true)
      (s0.setScq { sq with drains := if sq.drains.contains p then sq.drains else sq.drains ++ [p] }).workers
      (s := s0.setScq { sq with drains := if sq.drains.contains p then sq.drains else sq.drains ++ [p] })
      hI0.core.wnd (fun w hw => wfind_of_mem hI0.core.wnd hw)
    refine ⟨?_, ?_, ?_⟩
    · intro wk hwk hp k t ht hq
      have hm := (h1 wk hwk hp).1
      simp only [emit] at ht
      rw [h2] at ht
      exact hP0.pq wk hm hp k t ht hq
    · intro wk hwk hp
      exact hP0.pt wk (h1 wk hwk hp).1 hp
    · intro wk hwk hp sq' hsq'
      obtain ⟨hm, hnc⟩ := h1 wk hwk hp
      have hm' : wk ∈ s0.workers := hm
      have hsq2 : (s0.setScq { sq with drains := if sq.drains.contains p then sq.drains else sq.drains ++ [p] }).scq? wk.scq
          = some sq' := by
        unfold State.scq? at hsq' ⊢
        simp only [emit] at hsq'
        rw [h3] at hsq'; exact hsq'
      rcases scq?_setScq hsq2 with ⟨e1, e2⟩ | ⟨e1, e2⟩
      · subst e2
        have hwq : wk.scq = q := e1.trans hsqid
        have hold := hP0.pd wk hm' hp sq (by rw [hwq]; exact hsq)
        have hnm : p.matches wk.id = false := by
          cases hpm : p.matches wk.id with
          | false => rfl
          | true => exact absurd ⟨hwq, hp, hpm⟩ (hnc hm')
        dsimp only
        split
        · exact hold
        · rw [List.any_append, hold]; simp [hnm]
      · exact hP0.pd wk hm' hp sq' e2

theorem removeDrain_pk {h : Hints} {s : State} {now : Nat} {q : ScqId} {p : Pattern} (hI : Inv s) (hP : PInv s) :
    wpk (removeDrain h s now q p) PInv := by
  unfold removeDrain
  refine wpk_seq (enter_both hI hP) ?_
  intro s0 ⟨hI0, hP0⟩
  split
  · exact wpk_same hP0
  · rename_i sq hsq
    apply wpk_pure
    have hsqid : sq.id = q := by
      have := List.find?_some hsq; simpa using this
    refine ⟨hP0.pq, hP0.pt, ?_⟩
    intro wk hwk hp sq' hsq'
    have hwk' : wk ∈ s0.workers := hwk
    rcases scq?_setScq (s := s0) (i := wk.scq) hsq' with ⟨e1, e2⟩ | ⟨e1, e2⟩
    · subst e2
      have hwq : wk.scq = q := e1.trans hsqid
      have hold := hP0.pd wk hwk' hp sq (by rw [hwq]; exact hsq)
      rw [List.any_eq_false] at hold ⊢
      exact fun x hx => hold x (List.mem_filter.mp hx).1
    · exact hP0.pd wk hwk' hp sq' e2

theorem termStep_pf {s : State} (w : Worker) (hI : Inv s) : PF s (termStep s w) := by
  unfold termStep
  cases hw : s.worker? w.scq w.id with
  | none => exact PF.refl s
  | some wk =>
    dsimp only
    simp only [worker?_def] at hw
    have hk := wfind_key hw
    have hw' : wfind s.workers wk.scq wk.id = some wk := by rw [hk.1, hk.2]; exact hw
    have hw1 := wfind_setWorker_self (wk' := { wk with terminating := true }) hw' rfl rfl
    split
    · simp only [worker?_def, hw1]
      refine ⟨?_, (PF.refl _).b, fun _ _ h => Or.inl h⟩
      intro x hx hp
      simp only [wakeWorker, setWorker_eq] at hx
      rcases mem_wset' hx with e | ⟨hm, hne⟩
      · subst e; cases hp
      · rcases mem_wset' hm with e | ⟨hm', _⟩
        · subst e; exact absurd ⟨rfl, rfl⟩ hne
        · exact hm'
    · rename_i hc
      have hp : wk.parked = false := by
        cases hp : wk.parked with
        | false => rfl
        | true =>
          have := (hI.core.w1 _ _ wk hw hp).1
          exact absurd ⟨by rw [this]; rfl, hp⟩ hc
      exact PF.setWorker_unparked hp

theorem foldl_termStep_pk (l : List Worker) {s : State} (hI : Inv s) (hP : PInv s) : PInv (l.foldl termStep s) := by
  induction l generalizing s with
  | nil => exact hP
  | cons a r ih =>
    rw [List.foldl_cons]
    exact ih (termStep_spec a hI).1 ((termStep_pf a hI).pinv hP)

theorem terminate_pk {h : Hints} {s : State} {now id : Nat} {p : Pattern} (hI : Inv s) (hP : PInv s) :
    wpk (terminate h s now id p) PInv := by
  rw [terminate_eq]
  refine wpk_seq (enter_both hI hP) ?_
  intro s0 ⟨hI0, hP0⟩
  dsimp only
  have hP1 := foldl_termStep_pk (s0.workers.filter (fun w => p.matches w.id)) hI0 hP0
  apply wpk_ite
  · exact wpk_same hP1
  · exact wpk_same hP1

theorem termWake_pk {s : State} {id reason : Nat} (hP : PInv s) : wpk (termWake s id reason) PInv := by
  unfold termWake
  split
  · dsimp only
    apply wpk_ite
    · exact wpk_same hP
    · apply wpk_ite
      · pkerr
      · exact wpk_same hP
  · pkerr

theorem registerPQ_pinv {s : State} (id : Nat) (comps : List Nat) (platform : Nat) (sizes : List Nat)
    (bgMax : Nat) (bgPrio : Int) (hP : PInv s) : PInv (registerPQ s id comps platform sizes bgMax bgPrio) := by
  refine PF.pinv (s := s) ⟨fun _ h _ => h, (PF.refl _).b, ?_⟩ hP
  intro i sq hsq
  refine find?_append_nodrain ?_ hsq
  intro x hx
  obtain ⟨sc, _, e⟩ := List.mem_map.mp hx
  rw [← e]

theorem pinv_step {s s' : State} (g : Seg) (hI : Inv s) (hP : PInv s) (h : step s g = .ok s') : PInv s' := by
  cases g with
  | register id comps platform sizes bgMax bgPrio =>
    cases h; exact registerPQ_pinv id comps platform sizes bgMax bgPrio hP
  | exec h' now c d dk dnc comps platform inv prio => exact execArrive_pk hI hP s' h
  | wait h' now c name => exact waitArrive_pk hI hP s' h
  | streamWake h' now c reason => exact streamWake_pk hI hP s' h
  | sync h' now q comps platform w rep pi => exact syncArrive_pk hI hP s' h
  | syncWake h' now q w reason => exact syncWake_pk hI hP s' h
  | killOp h' now name code => exact killOp_pk hI hP s' h
  | killQueue h' now q code => exact killQueue_pk hI hP s' h
  | addDrain h' now q p => exact addDrain_pk hI hP s' h
  | removeDrain h' now q p => exact removeDrain_pk hI hP s' h
  | terminate h' now id p => exact terminate_pk hI hP s' h
  | termWake id reason => exact termWake_pk hP s' h
  | touch h' now => exact enter_pk hI hP s' h

theorem pinv_init (cfg : Cfg) : PInv (State.init cfg) := by
  constructor <;> simp [State.init]

theorem pinv_reachable {s : State} (h : Reachable s) : PInv s := by
  induction h with
  | init cfg => exact pinv_init cfg
  | step g hr hs ih => exact pinv_step g (inv_reachable hr) ih hs

/-- **While a worker is parked in a size-class queue no task of that queue is queued, and every
parked worker is undrained and not terminating** — in every reachable state of the scheduler model. -/
theorem parkedOK_reachable {s : State} (h : Reachable s) : ParkedOK s :=
  (pinv_reachable h).parkedOK (inv_reachable h)

end BbRe.Lemmas.SchedInv
