import BbRe.Lemmas.SchedLiveFuel
import BbRe.Lemmas.SchedLiveWake
import BbRe.Lemmas.SchedLiveResp
/-!
Waiter counts (C02 `no_lost_wakeup`, enabledness): the operation of every
parked stream exists and counts at least as many waiters as streams are parked
on it — so it cannot be removed under a parked stream, and the final message can
be delivered.
-/
namespace BbRe.Lemmas.SchedLive
open BbRe.Sched

/-- how operations evolve as far as waiter counts are concerned -/
structure OpW (s s' : State) : Prop where
  nop : s.nextOp ≤ s'.nextOp
  keep : ∀ o op', s'.op? o = some op' → (∃ op, s.op? o = some op ∧ op'.waiters = op.waiters) ∨
    (s.nextOp ≤ o ∧ op'.waiters = 0)
  gone : ∀ o op, s.op? o = some op → s'.op? o = none → op.waiters = 0

/-- `OpW` for key-disciplined states -/
def OStep (s s' : State) : Prop := KeysOK s → KeysOK s' ∧ OpW s s'

theorem OStep.refl (s : State) : OStep s s :=
  fun hk => ⟨hk, Nat.le_refl _, fun _ op' e => .inl ⟨op', e, rfl⟩, fun _ op e e' => by rw [e] at e'; cases e'⟩

theorem OStep.trans {a b c : State} (h1 : OStep a b) (h2 : OStep b c) : OStep a c := by
  intro hk
  obtain ⟨kb, r1⟩ := h1 hk
  obtain ⟨kc, r2⟩ := h2 kb
  refine ⟨kc, Nat.le_trans r1.nop r2.nop, ?_, ?_⟩
  · intro o op' e
    rcases r2.keep o op' e with ⟨opb, eb, wb⟩ | hf
    · rcases r1.keep o opb eb with ⟨opa, ea, wa⟩ | hf
      · exact .inl ⟨opa, ea, wb.trans wa⟩
      · exact .inr ⟨hf.1, wb.trans hf.2⟩
    · exact .inr ⟨Nat.le_trans r1.nop hf.1, hf.2⟩
  · intro o op e e'
    cases hb : b.op? o with
    | none => exact r1.gone o op e hb
    | some opb =>
      rcases r1.keep o opb hb with ⟨opa, ea, wa⟩ | hf
      · rw [e] at ea; injection ea with ea; subst ea
        rw [← wa]; exact r2.gone o opb hb e'
      · have := (hk.oname o op e).2.1; have := hf.1; omega

theorem OStep.of {allow : Prop} {s s' : State} (ht : TStep allow s s') (ho : KeysOK s → OpW s s') : OStep s s' :=
  fun hk => ⟨(ht hk).1, ho hk⟩

theorem OpW.of_eq {s s' : State} (h : s'.ops = s.ops) (hn : s.nextOp ≤ s'.nextOp) : OpW s s' := by
  have hop : ∀ o, s'.op? o = s.op? o := by intro o; simp [State.op?, h]
  exact ⟨hn, fun o op' e => .inl ⟨op', by rw [← hop]; exact e, rfl⟩, fun o op e e' => by rw [hop, e] at e'; cases e'⟩

theorem OpW.congr_right {s a b : State} (h : OpW s a) (ho : b.ops = a.ops) (hn : b.nextOp = a.nextOp) : OpW s b := by
  have hop : ∀ o, b.op? o = a.op? o := by intro o; simp [State.op?, ho]
  exact ⟨hn ▸ h.nop, fun o op' e => h.keep o op' (hop o ▸ e), fun o op e e' => h.gone o op e (hop o ▸ e')⟩

theorem OStep.same {s s' : State} (h1 : s'.tasks = s.tasks := by simp) (h2 : s'.ops = s.ops := by simp)
    (h3 : s'.nextTask = s.nextTask := by simp) (h4 : s'.nextOp = s.nextOp := by simp) : OStep s s' :=
  OStep.of (TStep.of_same (allow := True) h1 h2 h3 h4) (fun _ => OpW.of_eq h2 (by omega))

theorem schedule_opw {h : Hints} {s s' : State} {tid : Nat} (hh : schedule h s tid = .ok s') : OpW s s' := by
  obtain ⟨t, t', _, _, _, e2, _, e4⟩ := schedule_shape hh
  exact OpW.of_eq e2 (by omega)

/-- operations equal up to cleared flags keep their waiter counts -/
theorem OpW.of_opsSame {s s' : State} (h : OpsSame s s') (hn : s.nextOp ≤ s'.nextOp) : OpW s s' := by
  refine ⟨hn, ?_, ?_⟩
  · intro o op' e
    rcases h.ops o with ⟨_, e2⟩ | ⟨op, op2, e1, e2, l⟩
    · rw [e2] at e; cases e
    · rw [e2] at e; injection e with e; subst e; exact .inl ⟨op, e1, l.waiters⟩
  · intro o op e e'
    rcases h.ops o with ⟨e1, _⟩ | ⟨op1, op2, e1, e2, _⟩
    · rw [e1] at e; cases e
    · rw [e2] at e'; cases e'

theorem succS_opw {s : State} (t : Task) (ev : Event) (r : Resp) (hk : KeysOK s) :
    OpW s (succS (detachW s t) (detachT t) ev r) := by
  let M : State := (dropDedup (emit (detachW s t) ev) { detachT t with learner := none }).setTask
      (bumpGen { detachT t with learner := none, response := some r })
  have eM : succS (detachW s t) (detachT t) ev r = complete.finishOps M (detachT t).ops := rfl
  have hMo : M.ops = s.ops := by simp [M]
  have hn : ∀ k op, M.op? k = some op → op.name = k := by
    intro k op e
    have : s.op? k = some op := by simpa [State.op?, hMo] using e
    exact (hk.oname k op this).1
  have hs := finishOps_opsSame (detachT t).ops M hn
  have h1 : OpW s M := OpW.of_eq hMo (by simp [M])
  have h2 : OpW M (complete.finishOps M (detachT t).ops) := OpW.of_opsSame hs (by simp)
  rw [eM]
  refine ⟨Nat.le_trans h1.nop h2.nop, ?_, ?_⟩
  · intro o op' e
    rcases h2.keep o op' e with ⟨opb, eb, wb⟩ | hf
    · rcases h1.keep o opb eb with ⟨opa, ea, wa⟩ | hf
      · exact .inl ⟨opa, ea, wb.trans wa⟩
      · exact .inr ⟨hf.1, wb.trans hf.2⟩
    · exact .inr ⟨Nat.le_trans h1.nop hf.1, hf.2⟩
  · intro o op e e'
    have eb : M.op? o = some op := by simpa [State.op?, hMo] using e
    rcases hs.ops o with ⟨e1, _⟩ | ⟨op1, op2, _, e2, _⟩
    · rw [e1] at eb; cases eb
    · rw [e2] at e'; cases e'

theorem complete_ostep {h : Hints} {s s' : State} {tid : Nat} {r : Resp} {bw : Bool}
    (hh : complete h s tid r bw = .ok s') : OStep s s' := by
  refine OStep.of (complete_tstep hh) (fun hk => ?_)
  have fin : ∀ t ev, OpW s (succS (detachW s t) (detachT t) ev r) := fun t ev => succS_opw t ev r hk
  obtain ⟨t, h0, ⟨_, rfl⟩ | ⟨hr, l, _, h1 | h1 | h1⟩⟩ := complete_ok hh
  · exact OpW.of_eq rfl (Nat.le_refl _)
  · obtain ⟨ev, _, rfl | ⟨ev', _, rfl⟩ | ⟨bq, pq, h2, _⟩⟩ := completeSucc_ok h1.2
    · exact fin t ev
    · exact (fin t ev).congr_right (by simp) (by simp)
    · have f := fin t ev
      obtain ⟨tb, tb', _, _, _, e2, _, e4⟩ := schedule_shape h2
      have hnop : (succS (detachW s t) (detachT t) ev r).nextOp = s.nextOp := by simp
      have hop : ∀ o, s'.op? o = if s.nextOp = o then some (bgOp (bumpLearner (succS (detachW s t) (detachT t) ev r)) pq)
          else (succS (detachW s t) (detachT t) ev r).op? o := by
        intro o; simp [State.op?, e2, alookup_aset]
      refine ⟨by rw [e4]; simp, ?_, ?_⟩
      · intro o op' e
        rw [hop] at e
        split at e
        · rename_i hkk; injection e with e; subst e; exact .inr ⟨by omega, rfl⟩
        · exact f.keep o op' e
      · intro o op e e'
        rw [hop] at e'
        split at e'
        · cases e'
        · exact f.gone o op e e'
  · obtain ⟨_, _, _, h5⟩ := h1
    obtain ⟨s2, t2, h2, _, rfl⟩ := completeRetry_ok h5
    obtain ⟨_, _, _, _, _, e2, _, e4⟩ := schedule_shape h2
    exact OpW.of_eq (by simp [e2]) (by simp [e4])
  · obtain ⟨_, _, ev, _, rfl⟩ := h1
    exact fin t ev

theorem cancelAllQueued_ostep {h : Hints} {s s' : State} {q : ScqId} {r : Resp}
    (hh : cancelAllQueued h s q r = .ok s') : OStep s s' :=
  cancelAllQueued_rel OStep OStep.refl (fun _ _ _ => OStep.trans) (fun _ _ _ => complete_ostep) hh

theorem removeScq_ostep {h : Hints} {s s' : State} {q : ScqId} (hh : removeScq h s q = .ok s') : OStep s s' := by
  obtain ⟨s1, h1, rfl⟩ := removeScq_ok hh
  exact (cancelAllQueued_ostep h1).trans (OStep.same)

theorem removeStaleWorker_ostep {h : Hints} {s s' : State} {q : ScqId} {w : WId} {rt : Nat}
    (hh : removeStaleWorker h s q w rt = .ok s') : OStep s s' := by
  rcases removeStaleWorker_ok hh with ⟨_, rfl⟩ | ⟨wk, s1, _, h1, rfl⟩
  · exact OStep.refl _
  · have : OStep s s1 := by
      rcases h1 with ⟨t, _, h1⟩ | ⟨_, rfl⟩
      · exact complete_ostep h1
      · exact OStep.refl _
    exact this.trans (OStep.same)

/-- removing an operation that has no waiters -/
theorem removeOp_ostep {h : Hints} {s s' : State} {o : Nat} (hh : removeOp h s o = .ok s')
    (hw0 : ∀ op, s.op? o = some op → op.waiters = 0) : OStep s s' := by
  rcases removeOp_ok hh with ⟨_, rfl⟩ | ⟨op, t, s1, t1, hop, _, h1, h2, rfl⟩
  · exact OStep.refl _
  · have he : OStep s (eraseOp s o) := by
      refine OStep.of (eraseOp_tstep True s o) (fun hk => ⟨Nat.le_refl _, ?_, ?_⟩)
      · intro k op' e
        simp only [State.op?, eraseOp_ops, alookup_aerase _ _ _ hk.onodup] at e
        split at e
        · cases e
        · exact .inl ⟨op', e, rfl⟩
      · intro k opk e e'
        simp only [State.op?, eraseOp_ops, alookup_aerase _ _ _ hk.onodup] at e'
        split at e'
        · rename_i hkk; subst hkk; exact hw0 opk e
        · rw [show alookup k s.ops = some opk from e] at e'; cases e'
    have h1' : OStep (eraseOp s o) s1 := by
      rcases h1 with ⟨_, h1⟩ | ⟨_, rfl⟩
      · exact complete_ostep h1
      · exact OStep.refl _
    exact (he.trans h1').trans (OStep.of (dropOpT_tstep True o h2) (fun _ => OpW.of_eq (by simp) (by simp)))

/-- the cleanup loop: every removed operation had no waiters (its entry was armed) -/
theorem runCleanup_ostep {h : Hints} {f : Nat} {s s' : State} (hi : KWC noEx s) (hh : runCleanup h f s = .ok s') :
    OStep s s' := by
  have := runCleanup_inv (fun x => KWC noEx x ∧ OStep s x) (h := h) ?_ f s s' ⟨hi, OStep.refl s⟩ hh
  · exact this.2
  · intro x e rest x' ⟨hix, hox⟩ hp hcb
    refine ⟨callback_kwc hix hp hcb, hox.trans ?_⟩
    obtain ⟨hmem, _, _, rfl⟩ := popDue_some hp
    have h0 : OStep x (setCleanup x (x.cleanup.filter (fun y => y ≠ e))) := OStep.same
    refine h0.trans ?_
    unfold callback at hcb
    cases hk : e.kind with
    | worker q w => simp only [hk] at hcb; exact removeStaleWorker_ostep hcb
    | op o =>
      simp only [hk] at hcb
      refine removeOp_ostep hcb ?_
      intro op hop
      obtain ⟨op', e1, e2, _⟩ := hix.2.eO o (hk ▸ ⟨e, hmem, rfl⟩)
      have : x.op? o = some op := hop
      rw [this] at e1; injection e1 with e1; subst e1; exact e2
    | scq q => simp only [hk] at hcb; exact removeScq_ostep hcb

theorem enter_ostep {h : Hints} {s s' : State} {t : Nat} (hi : KWC noEx s) (hh : enter h s t = .ok s') : OStep s s' := by
  rcases enter_ok hh with ⟨_, rfl⟩ | ⟨_, h1⟩
  · exact OStep.refl _
  · exact (OStep.same (s' := setNow s t)).trans (runCleanup_ostep hi.same h1)

theorem assignNext_opw {h : Hints} {s s1 : State} {w : Worker} {got : Bool}
    (hh : assignNext h s w = .ok (s1, got)) : OpW s s1 := by
  rcases assignNext_ok hh with ⟨_, rfl, _⟩ | ⟨_, t, t', _, _, _, _, rfl⟩
  · exact OpW.of_eq rfl (Nat.le_refl _)
  · exact OpW.of_eq (by simp) (by simp)

theorem getNextTask_ostep {h : Hints} {s s' : State} {q : ScqId} {w : WId} {pi block : Bool}
    (hh : getNextTask h s q w pi block = .ok s') : OStep s s' := by
  refine OStep.of (getNextTask_tstep (allow := True) hh) (fun _ => ?_)
  obtain ⟨wk, sq, _, _, h1 | h1 | h1⟩ := getNextTask_ok hh
  · obtain ⟨_, rfl⟩ := h1; exact OpW.of_eq (by simp) (by simp)
  · obtain ⟨_, _, s1, got, h2, h3 | h3 | h3⟩ := h1
    all_goals have f := assignNext_opw h2
    · obtain ⟨_, wk1, s2, _, h4, rfl⟩ := h3
      obtain ⟨tid, t, _, _, rfl⟩ := execResponse_ok h4
      exact f.congr_right (by simp) (by simp)
    · obtain ⟨_, _, rfl⟩ := h3
      exact f.congr_right (by simp) (by simp)
    · obtain ⟨_, _, wk1, _, _, rfl⟩ := h3
      exact f.congr_right (by simp) (by simp)
  · obtain ⟨_, _, h2 | h2⟩ := h1
    · obtain ⟨_, rfl⟩ := h2; exact OpW.of_eq (by simp) (by simp)
    · obtain ⟨_, rfl⟩ := h2; exact OpW.of_eq rfl (Nat.le_refl _)

theorem getCurrentOrNext_ostep {h : Hints} {s s' : State} {q : ScqId} {w : WId} {pi block : Bool}
    (hh : getCurrentOrNext h s q w pi block = .ok s') : OStep s s' := by
  obtain ⟨wk, _, h1 | h1⟩ := getCurrentOrNext_ok hh
  · exact getNextTask_ostep h1.2
  · obtain ⟨tid, t, _, h0, h2 | h2⟩ := h1
    · refine OStep.of (getCurrentOrNext_tstep (allow := True) hh) (fun _ => ?_)
      obtain ⟨_, rfl⟩ := h2; exact OpW.of_eq (by simp) (by simp)
    · obtain ⟨_, s1, h3, h4⟩ := h2
      exact (complete_ostep h3).trans (getNextTask_ostep h4)

theorem syncArrive_ostep {h : Hints} {s s' : State} {now : Nat} {q : ScqId} {comps : List Nat} {pf : Nat}
    {w : WId} {rep : Report} {pi : Bool} (hi : KWC noEx s)
    (hh : syncArrive h s now q comps pf w rep pi = .ok s') : OStep s s' := by
  obtain ⟨s1, x, h1, h2, h3⟩ := syncArrive_ok hh
  refine (enter_ostep hi h1).trans ?_
  have hq : OStep s1 (unsum x) := by
    refine OStep.of (syncQueue_tstep (allow := True) h2) (fun _ => ?_)
    rcases syncQueue_ok h2 with ⟨_, rfl⟩ | ⟨_, rfl⟩ | ⟨_, _, rfl⟩ | ⟨_, _, rfl⟩ <;> exact OpW.of_eq rfl (Nat.le_refl _)
  rcases h3 with rfl | ⟨s2, rfl, h3⟩
  · exact hq
  · refine OStep.trans (b := s2) hq ?_
    have hw : OStep s2 (unsum (syncWorker s2 q w)) := by
      refine OStep.of (syncWorker_tstep True s2 q w) (fun _ => ?_)
      rcases syncWorker_cases s2 q w with ⟨wk, _, _, e⟩ | ⟨wk, _, _, e⟩ | ⟨_, e⟩ <;> rw [e] <;> exact OpW.of_eq rfl (Nat.le_refl _)
    rcases h3 with h3 | ⟨s3, wk, h3, _, h4⟩
    · rw [h3] at hw; exact hw
    · rw [h3] at hw
      refine OStep.trans (b := s3) hw ?_
      rcases h4 with ⟨_, rfl⟩ | ⟨_, h4⟩ | ⟨d, _, _, rfl⟩ | ⟨d, _, _, h4⟩ | ⟨d, r, tid, s4, _, _, _, h4, h5⟩ | ⟨d, r, _, _, h4⟩
      · exact OStep.same
      · exact getCurrentOrNext_ostep h4
      · exact OStep.same
      · exact getCurrentOrNext_ostep h4
      · exact (complete_ostep h4).trans (getNextTask_ostep h5)
      · exact getCurrentOrNext_ostep h4

theorem syncWake_ostep {h : Hints} {s s' : State} {now : Nat} {q : ScqId} {w : WId} {reason : Nat}
    (hi : KWC noEx s) (hh : syncWake h s now q w reason = .ok s') : OStep s s' := by
  obtain ⟨s1, wk, h1, _, _, h2⟩ := syncWake_ok hh
  refine (enter_ostep hi h1).trans ?_
  rcases h2 with ⟨_, h2 | h2⟩ | ⟨_, rfl⟩ | ⟨_, _, h2 | h2⟩ | ⟨_, sq, g, _, _, _, h2⟩
  · obtain ⟨s3, _, h3, rfl⟩ := h2
    obtain ⟨tid, t, _, _, rfl⟩ := execResponse_ok h3
    exact OStep.same
  · obtain ⟨_, rfl⟩ := h2; exact OStep.same
  · exact OStep.same
  · obtain ⟨s3, _, h3, rfl⟩ := h2
    obtain ⟨tid, t, _, _, rfl⟩ := execResponse_ok h3
    exact OStep.same
  · exact (OStep.same (s := s1) (s' := s1.setWorker { wk with woken := false })).trans (getNextTask_ostep h2.2)
  · exact (OStep.same (s := s1) (s' := s1.setWorker { wk with drainWait := none })).trans (getNextTask_ostep h2)

/-- all other segments leave the parked streams alone and change operations only as `OStep` allows -/
theorem step_ostep {s s' : State} {g : Seg} (hi : KWC noEx s) (hstep : step s g = .ok s') (hg : isStreamSeg g = false) :
    s'.streams = s.streams ∧ OStep s s' := by
  refine ⟨(step_sframe hstep hg).1.streams, ?_⟩
  cases g with
  | exec | wait | streamWake => cases hg
  | register id comps pf sizes bm bp =>
    simp only [step, pure_ok] at hstep; subst hstep
    exact OStep.same
  | sync h now q comps pf w rep pi => exact syncArrive_ostep hi hstep
  | syncWake h now q w reason => exact syncWake_ostep hi hstep
  | killOp h now name code =>
    obtain ⟨s1, h1, ⟨_, rfl⟩ | ⟨op, s2, _, h2, rfl⟩⟩ := killOp_ok hstep
    · exact (enter_ostep hi h1).trans OStep.same
    · exact ((enter_ostep hi h1).trans (complete_ostep h2)).trans OStep.same
  | killQueue h now q code =>
    obtain ⟨s1, h1, ⟨ev, _, rfl⟩ | ⟨s2, h2, rfl⟩⟩ := killQueue_ok hstep
    · exact (enter_ostep hi h1).trans OStep.same
    · exact ((enter_ostep hi h1).trans (cancelAllQueued_ostep h2)).trans OStep.same
  | addDrain h now q p =>
    obtain ⟨s1, h1, ⟨_, rfl⟩ | ⟨sq, _, rfl⟩⟩ := addDrain_ok hstep
    · exact (enter_ostep hi h1).trans OStep.same
    · obtain ⟨a1, a2, a3, a4⟩ := foldl_same (drainWake q p) (drainWake_same q p) s1.workers
        (s1.setScq { sq with drains := if sq.drains.contains p then sq.drains else sq.drains ++ [p] })
      exact (enter_ostep hi h1).trans (OStep.same a1 a2 a3 a4)
  | removeDrain h now q p =>
    obtain ⟨s1, h1, ⟨_, rfl⟩ | ⟨sq, _, rfl⟩⟩ := removeDrain_ok hstep <;> exact (enter_ostep hi h1).trans OStep.same
  | terminate h now id p =>
    obtain ⟨s1, h1, h2⟩ := terminate_ok hstep
    simp only at h2
    obtain ⟨a1, a2, a3, a4⟩ := foldl_same termMark termMark_same (s1.workers.filter (fun w => p.matches w.id)) s1
    rcases h2 with ⟨_, rfl⟩ | ⟨_, rfl⟩ <;> exact (enter_ostep hi h1).trans (OStep.same a1 a2 a3 a4)
  | termWake id reason =>
    obtain ⟨tc, _, ⟨_, rfl⟩ | ⟨_, _, rfl⟩⟩ := termWake_ok hstep <;> exact OStep.same
  | touch h now => exact enter_ostep hi hstep

/-- number of streams parked on operation `o` -/
def cnt (s : State) (o : Nat) : Nat := (s.streams.filter (fun st => st.op = o)).length
/-- waiter count of operation `o` (0 when it does not exist) -/
def wts (s : State) (o : Nat) : Nat := match s.op? o with | some op => op.waiters | none => 0

/-- every operation counts at least as many waiters as streams are parked on it -/
def StreamInv (s : State) : Prop := ∀ o, cnt s o ≤ wts s o

theorem streamInv_of_ostep {s s' : State} (hk : KeysOK s) (hw : WakeInv s) (hs : StreamInv s) (hst : s'.streams = s.streams)
    (ho : OStep s s') : StreamInv s' := by
  obtain ⟨_, r⟩ := ho hk
  intro o
  have hc : cnt s' o = cnt s o := by unfold cnt; rw [hst]
  rw [hc]
  by_cases h0 : cnt s o = 0
  · omega
  · -- some stream is parked on `o`: the operation existed before, below the watermark
    have hex : ∃ st ∈ s.streams, st.op = o := by
      unfold cnt at h0
      have : (s.streams.filter (fun st => st.op = o)) ≠ [] := fun e => h0 (by rw [e]; rfl)
      obtain ⟨st, hm⟩ := List.exists_mem_of_ne_nil _ this
      exact ⟨st, (List.mem_filter.1 hm).1, by simpa using (List.mem_filter.1 hm).2⟩
    obtain ⟨st, hm, rfl⟩ := hex
    have hlt := (hw st hm).1
    have h1 := hs st.op
    unfold wts at h1 ⊢
    cases hop : s.op? st.op with
    | none => simp only [hop] at h1; omega
    | some op =>
      simp only [hop] at h1
      cases hop' : s'.op? st.op with
      | none => have := r.gone _ op hop hop'; omega
      | some op' =>
        simp only
        rcases r.keep _ op' hop' with ⟨op0, e0, w0⟩ | hf
        · rw [hop] at e0; injection e0 with e0; subst e0; omega
        · omega

end BbRe.Lemmas.SchedLive
