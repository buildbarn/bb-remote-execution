import BbRe.Lemmas.OutputsErrors
/-!
Helper lemmas for C10 (`tree_decodes`): `decodeMsg`, `canonNode`, and `pdecode_all`: decoding
the root message of a fault-free directory reproduces the directory (special files left out,
entries grouped by kind, symlink targets normalised).
-/
namespace BbRe.Lemmas.Outputs
open BbRe.Outputs

mutual
/-- Decode a `Directory` message (children are referenced by their own message). -/
def decodeMsg : DirMsg → Node
  | .mk fs ds ss =>
    .dir true (fs.map (fun e => (e.1, Node.file e.2.2 e.2.1)) ++ decodeDirs ds ++
      ss.map (fun e => (e.1, Node.symlink e.2)))
def decodeDirs : List (Name × DirMsg) → Entries
  | [] => []
  | (n, m) :: rest => (n, decodeMsg m) :: decodeDirs rest
end

def filesOfE : Entries → Entries
  | [] => []
  | (n, .file x c) :: rest => (n, .file x c) :: filesOfE rest
  | _ :: rest => filesOfE rest

def symlinksOfE : Entries → Entries
  | [] => []
  | (n, .symlink t) :: rest => (n, .symlink (normTarget t)) :: symlinksOfE rest
  | _ :: rest => symlinksOfE rest

mutual
/-- What REv2 can say about a directory: regular files, then subdirectories (recursively), then
symlinks with normalised targets; special files are left out. -/
def canonNode : Node → Node
  | .dir _ es => .dir true (filesOfE es ++ canonDirsOf es ++ symlinksOfE es)
  | .file x c => .file x c
  | .symlink t => .symlink t
  | .special => .special
def canonDirsOf : Entries → Entries
  | [] => []
  | (n, .dir r ces) :: rest => (n, canonNode (.dir r ces)) :: canonDirsOf rest
  | (_, .file _ _) :: rest => canonDirsOf rest
  | (_, .symlink _) :: rest => canonDirsOf rest
  | (_, .special) :: rest => canonDirsOf rest
end

@[simp] theorem noFaults_putFails (b : Blob) : noFaults.putFails b = false := rfl
@[simp] theorem noFaults_readlinkFails (t : Str) : noFaults.readlinkFails t = false := rfl

theorem files_decode (es : Entries) :
    (es.filterMap (fileOf noFaults)).map (fun e => (e.1, Node.file e.2.2 e.2.1)) = filesOfE es := by
  induction es with
  | nil => rfl
  | cons p rest ih =>
    obtain ⟨n, nd⟩ := p
    cases nd <;> simp [List.filterMap_cons, fileOf, filesOfE, ih]

theorem symlinks_decode (es : Entries) :
    (es.filterMap (symlinkOf noFaults)).map (fun e => (e.1, Node.symlink e.2)) = symlinksOfE es := by
  induction es with
  | nil => rfl
  | cons p rest ih =>
    obtain ⟨n, nd⟩ := p
    cases nd <;> simp [List.filterMap_cons, symlinkOf, symlinksOfE, ih]

/-- Induction hypothesis on the tree for `tree_decodes`. -/
def PDecode (n : Node) : Prop :=
  cleanDir noFaults n = true → ∃ m, encodeDir noFaults n = some m ∧ decodeMsg m = canonNode n

theorem dirs_decode (es : Entries) (h : ∀ p ∈ es, PDecode p.2) (hc : cleanEntries noFaults es = true) :
    decodeDirs (es.filterMap (dirOf noFaults)) = canonDirsOf es := by
  induction es with
  | nil => rfl
  | cons p rest ih =>
    obtain ⟨n, nd⟩ := p
    have ihr := ih (fun q hq => h q (List.mem_cons_of_mem _ hq))
    cases nd with
    | file x c =>
      simp only [cleanEntries, Bool.and_eq_true] at hc
      simp [List.filterMap_cons, dirOf, canonDirsOf, ihr hc.2]
    | symlink t =>
      simp only [cleanEntries, Bool.and_eq_true] at hc
      simp [List.filterMap_cons, dirOf, canonDirsOf, ihr hc.2]
    | special =>
      simp only [cleanEntries] at hc
      simp [List.filterMap_cons, dirOf, canonDirsOf, ihr hc]
    | dir r ces =>
      simp only [cleanEntries, Bool.and_eq_true] at hc
      obtain ⟨m, hm, hd⟩ := h (n, .dir r ces) (by simp) hc.1
      simp only [List.filterMap_cons, dirOf, hm, Option.map_some, decodeDirs, canonDirsOf, hd, ihr hc.2]

theorem pdecode_all : ∀ n, PDecode n := by
  apply Node.induct
  · intro r es ih hc
    simp only [cleanDir, Bool.and_eq_true] at hc
    obtain ⟨hr, hce⟩ := hc
    subst hr
    refine ⟨encodeEntries noFaults es (.mk [] [] []), by simp [encodeDir], ?_⟩
    rw [encodeEntries_eq]
    simp only [List.nil_append, decodeMsg, canonNode, files_decode, symlinks_decode, dirs_decode es ih hce]
  · intro x c hc; simp [cleanDir] at hc
  · intro t hc; simp [cleanDir] at hc
  · intro hc; simp [cleanDir] at hc

end BbRe.Lemmas.Outputs
