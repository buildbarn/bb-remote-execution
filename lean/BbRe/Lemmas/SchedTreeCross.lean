import BbRe.Lemmas.SchedTreeFnDefs
import BbRe.Lemmas.SchedInvCleanup
import BbRe.Lemmas.SchedLiveClean10
/-!
The two cross-checks of the tree layer's cleanup callbacks are dead code.

`tRemoveScq` rejects the removal of a size-class queue that still has workers and `tRemoveStaleWorker` the
removal of a worker that is parked inside `Synchronize` (`Model/Sched.lean` does neither; the tree layer could
not keep its invariant there).  The cleanup accounting invariant of C06 (`Lemmas/SchedLiveClean*.lean`,
`KWC`) says that the cleanup queue never schedules either.  Here: on every state whose `Sched` component
satisfies the invariants of `Model/Sched.lean` (in particular on every reachable state of the tree layer)
`bq.enter` — the only caller of the callbacks — computes exactly what the copy without the cross-checks
computes, for every answer (results and errors alike).
-/
namespace BbRe.Lemmas.SchedTree
open BbRe.Sched BbRe.SchedTree BbRe.Lemmas.SchedInv BbRe.Lemmas.SchedLive

/-- `tRemoveScq` without the cross-check -/
def tRemoveScqNG (h : Hints) (x : Extras) (ts : TState) (q : ScqId) : M TState := do
  let ts ← tCancelAllQueued h x ts q ⟨cUnavailable, 0, 0, .queueRemoved⟩
  let s := { ts.s with scqs := ts.s.scqs.filter (fun y => y.id ≠ q) }
  if s.scqs.any (fun y => y.id.pq = q.pq) then return (ts.dropScqTree q).setS s
  return ((ts.dropScqTree q).dropLimits q.pq).setS { s with pqs := s.pqs.filter (fun p => p.id ≠ q.pq) }

/-- `tRemoveStaleWorker` without the cross-check -/
def tRemoveStaleWorkerNG (h : Hints) (x : Extras) (ts : TState) (q : ScqId) (w : WId) (removalTime : Nat) : M TState := do
  let some wk := ts.s.worker? q w | return ts
  let ts ← match wk.task with
    | some t => tComplete h x ts t ⟨cUnavailable, 0, 0, .workerDisappeared⟩ false
    | none => pure ts
  let s := { ts.s with workers := ts.s.workers.filter (fun y => ¬ (y.scq = q ∧ y.id = w)) }
  let ts := (ts.dropWorkerTree q w).setS s
  match s.scq? q with
  | some sq =>
    if !s.workers.any (fun y => y.scq = q) ∧ sq.mayBeRemoved
    then return ts.setS (s.addCleanup (removalTime + s.cfg.pqTimeout) (.scq q)) else return ts
  | none => return ts

/-- `tRunCleanup` without the cross-checks -/
def tRunCleanupNG (h : Hints) (x : Extras) : Nat → TState → M TState
  | 0, ts => pure ts
  | fuel + 1, ts =>
    match popDue ts.s.now ts.s.cleanup with
    | none => pure ts
    | some (e, rest) => do
      let ts := ts.setS { ts.s with cleanup := rest }
      let ts ← match e.kind with
        | .worker q w => tRemoveStaleWorkerNG h x ts q w e.deadline
        | .op o => tRemoveOp h x ts o
        | .scq q => tRemoveScqNG h x ts q
      tRunCleanupNG h x fuel ts

/-- `tEnter` without the cross-checks -/
def tEnterNG (h : Hints) (x : Extras) (ts : TState) (t : Nat) : M TState :=
  if t > ts.s.now then tRunCleanupNG h x (cleanupFuel ts.s) (ts.setS { ts.s with now := t }) else pure ts

theorem tRemoveScq_ng {h : Hints} {x : Extras} {ts : TState} {q : ScqId} (hI : Inv ts.s)
    (hnw : ∀ wk ∈ ts.s.workers, wk.scq ≠ q) : tRemoveScq h x ts q = tRemoveScqNG h x ts q := by
  unfold tRemoveScq tRemoveScqNG
  simp only [bind, Except.bind, pure, Except.pure]
  cases hc : tCancelAllQueued h x ts q ⟨cUnavailable, 0, 0, .queueRemoved⟩ with
  | error e => rfl
  | ok ts1 =>
    simp only []
    obtain ⟨_, _, hwex⟩ := inv_of_ref (tCancelAllQueued_ref h x ts q _) (cancelAllQueued_spec hI) hc
    have hg : (ts1.s.workers.any fun y => decide (y.scq = q)) = false := by
      rw [Bool.eq_false_iff]
      intro hany
      obtain ⟨wk, hwk, e⟩ := List.any_eq_true.mp hany
      have e' : wk.scq = q := by simpa using e
      have h1 : (wfind ts1.s.workers wk.scq wk.id).isSome = true := by
        unfold wfind
        rw [List.find?_isSome]
        exact ⟨wk, hwk, by simp⟩
      rw [hwex] at h1
      cases hf : wfind ts.s.workers wk.scq wk.id with
      | none => rw [hf] at h1; cases h1
      | some wk0 => exact hnw wk0 (wfind_mem hf) ((wfind_key hf).1.trans e')
    rw [hg]
    rfl

theorem tRemoveStaleWorker_ng {h : Hints} {x : Extras} {ts : TState} {q : ScqId} {w : WId} {rt : Nat}
    (hnp : ∀ wk, ts.s.worker? q w = some wk → wk.parked = false) :
    tRemoveStaleWorker h x ts q w rt = tRemoveStaleWorkerNG h x ts q w rt := by
  unfold tRemoveStaleWorker tRemoveStaleWorkerNG
  cases hw : ts.s.worker? q w with
  | none => rfl
  | some wk =>
    simp only [bind, Except.bind, pure, Except.pure]
    rw [hnp wk hw]
    rfl

/-- what the cleanup loop relies on between callbacks -/
def CleanOK (s : State) : Prop := Inv s ∧ KWC noEx s

/-- the state after a callback satisfies the loop invariant again -/
theorem cleanOK_callback {h : Hints} {s s1 : State} {e : CleanupEntry} {rest : List CleanupEntry} (hc : CleanOK s)
    (hp : popDue s.now s.cleanup = some (e, rest)) (hcall : callback h (setCleanup s rest) e = .ok s1) : CleanOK s1 := by
  obtain ⟨hI, hK⟩ := hc
  obtain ⟨hmem, _, _, hrest⟩ := BbRe.Lemmas.SchedLive.popDue_some hp
  have hsub : ∀ y, y ∈ rest → y ∈ s.cleanup := by
    intro y hy; rw [hrest] at hy; exact (List.mem_filter.mp hy).1
  have hI0 : Inv (setCleanup s rest) := ⟨hI.core, hI.oinv, hI.sinv.cleanup_sub hsub, hI.linv⟩
  refine ⟨?_, callback_kwc hK hp hcall⟩
  unfold callback at hcall
  cases hk : e.kind with
  | worker q w => rw [hk] at hcall; exact (wp_of_ok (removeStaleWorker_spec hI0) hcall).1
  | op o =>
    rw [hk] at hcall
    exact (wp_of_ok (removeOp_spec hI0 (fun op hop => hI.sinv.s2 o op e hop hmem hk)) hcall).1
  | scq q => rw [hk] at hcall; exact (wp_of_ok (removeScq_spec hI0) hcall).1

/-- two computations agree if their first parts agree and their continuations agree on its result -/
theorem bind_congr_ok {α β} {m m' : M α} {f g : α → M β} (hm : m = m') (hfg : ∀ a, m = .ok a → f a = g a) :
    (m >>= f) = (m' >>= g) := by
  subst hm
  cases m with
  | error e => rfl
  | ok a => exact hfg a rfl

/-- one round of `cleanupQueue.run`: the callback of the first due entry, then the rest -/
theorem tRunCleanup_succ (h : Hints) (x : Extras) (n : Nat) (ts : TState) {e : CleanupEntry} {rest : List CleanupEntry}
    (hp : popDue ts.s.now ts.s.cleanup = some (e, rest)) :
    tRunCleanup h x (n + 1) ts =
      (match e.kind with
        | .worker q w => tRemoveStaleWorker h x (ts.setS { ts.s with cleanup := rest }) q w e.deadline
        | .op o => tRemoveOp h x (ts.setS { ts.s with cleanup := rest }) o
        | .scq q => tRemoveScq h x (ts.setS { ts.s with cleanup := rest }) q) >>= tRunCleanup h x n := by
  unfold tRunCleanup
  simp only [hp]
  cases e.kind <;> rfl

theorem tRunCleanupNG_succ (h : Hints) (x : Extras) (n : Nat) (ts : TState) {e : CleanupEntry} {rest : List CleanupEntry}
    (hp : popDue ts.s.now ts.s.cleanup = some (e, rest)) :
    tRunCleanupNG h x (n + 1) ts =
      (match e.kind with
        | .worker q w => tRemoveStaleWorkerNG h x (ts.setS { ts.s with cleanup := rest }) q w e.deadline
        | .op o => tRemoveOp h x (ts.setS { ts.s with cleanup := rest }) o
        | .scq q => tRemoveScqNG h x (ts.setS { ts.s with cleanup := rest }) q) >>= tRunCleanupNG h x n := by
  unfold tRunCleanupNG
  simp only [hp]
  cases e.kind <;> rfl

theorem tRunCleanup_ng {h : Hints} {x : Extras} : ∀ (fuel : Nat) (ts : TState), CleanOK ts.s →
    tRunCleanup h x fuel ts = tRunCleanupNG h x fuel ts := by
  intro fuel
  induction fuel with
  | zero => intro ts _; rfl
  | succ n ih =>
    intro ts hc
    obtain ⟨hI, hK⟩ := hc
    cases hp : popDue ts.s.now ts.s.cleanup with
    | none => unfold tRunCleanup tRunCleanupNG; simp only [hp]
    | some er =>
      obtain ⟨e, rest⟩ := er
      obtain ⟨hmem, _, _, hrest⟩ := BbRe.Lemmas.SchedLive.popDue_some hp
      have hsub : ∀ y, y ∈ rest → y ∈ ts.s.cleanup := by
        intro y hy; rw [hrest] at hy; exact (List.mem_filter.mp hy).1
      have hI0 : Inv { ts.s with cleanup := rest } :=
        ⟨hI.core, hI.oinv, hI.sinv.cleanup_sub hsub, hI.linv⟩
      have hcP := pop_cinv hK.2 hmem
      rw [← hrest] at hcP
      rw [tRunCleanup_succ h x n ts hp, tRunCleanupNG_succ h x n ts hp]
      -- the callback without its cross-check is the callback; after it the loop invariant holds again
      refine bind_congr_ok ?_ (fun ts1 hr => ih ts1 (cleanOK_callback (h := h) ⟨hI, hK⟩ hp ?_))
      · cases hk : e.kind with
        | worker q w =>
          refine tRemoveStaleWorker_ng fun wk hwk => ?_
          have hwk' : ts.s.worker? q w = some wk := hwk
          obtain ⟨hm, hq, hw⟩ := worker?_mem hwk'
          have hin : wk.inSync = false := by
            cases hin : wk.inSync with
            | false => rfl
            | true => exact absurd (by rw [hq, hw, ← hk]; exact ⟨e, hmem, rfl⟩) (hK.2.wIn wk hm hin)
          exact (flags_of_not_inSync (hK.1.2.ok wk hm) hin).1
        | op o => rfl
        | scq q =>
          refine tRemoveScq_ng hI0 ?_
          rw [hk] at hcP
          exact (hcP.exScq q rfl).1
      · unfold callback
        cases hk : e.kind with
        | worker q w => simp only [hk] at hr ⊢; exact tRemoveStaleWorker_ref h x (ts.setS { ts.s with cleanup := rest }) q w e.deadline ts1 hr
        | op o => simp only [hk] at hr ⊢; exact tRemoveOp_ref h x (ts.setS { ts.s with cleanup := rest }) o ts1 hr
        | scq q => simp only [hk] at hr ⊢; exact tRemoveScq_ref h x (ts.setS { ts.s with cleanup := rest }) q ts1 hr

/-- **the cross-checks never fire**: on a state whose `Sched` component satisfies the invariant of
`Model/Sched.lean` and the cleanup accounting invariant of C06, `bq.enter` of the tree layer is `bq.enter`
without the cross-checks -/
theorem tEnter_ng {h : Hints} {x : Extras} {ts : TState} {now : Nat} (hI : Inv ts.s) (hK : KWC noEx ts.s) :
    tEnter h x ts now = tEnterNG h x ts now := by
  unfold tEnter tEnterNG
  split
  · apply tRunCleanup_ng
    refine ⟨hI.of_same rfl rfl rfl rfl rfl rfl rfl rfl rfl rfl, ?_⟩
    exact ⟨KWStep.of_same (s := ts.s) rfl rfl rfl rfl rfl rfl hK.1, hK.2.frame (CFrame.of_same rfl rfl rfl rfl rfl)⟩
  · rfl

end BbRe.Lemmas.SchedTree
