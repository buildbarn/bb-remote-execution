import BbRe.Lemmas.NfsInvDefs
import BbRe.Lemmas.NfsActs
/-!
# Invariant groups P (opened-files pool), L (lock-owner objects), R (references to client records)

Preservation of `InvP`, `InvL`, `InvR` (`Lemmas/NfsInvDefs.lean`) by every core
action of `Model/NfsState.lean`.

Method: most (action, group) pairs only change state components the group does
not look at, or change them in a way the group cannot see.  This is captured by
three *frame* relations `FrameP`, `FrameL`, `FrameR` (reflexive, transitive,
each implies preservation of its group); `Frame` is their conjunction.  The
building blocks (`State.fail`, `pushPend`, `holdClient`, `releaseClient`,
`modClient`, `modFile`/`modPool` with harmless updates, `gc`) are frames, hence
so are the 24 actions composed of them.  The remaining (action, group) pairs
are proved one by one.  Core Lean only.
-/
namespace BbRe.Lemmas.NfsInvPLR
open BbRe.NfsState BbRe.NfsShare BbRe.Lemmas.NfsInv BbRe.Lemmas.NfsActs

theorem getPool_none {s : State} {file : Nat} (h : s.getPool file = none) :
    ∀ e ∈ s.pool, e.file ≠ file := by
  unfold State.getPool at h
  intro e he
  simpa using List.find?_eq_none.1 h e he

theorem getLO_none {s : State} {cl key : Nat} (h : s.getLO cl key = none) :
    ∀ l ∈ s.lowners, ¬ (l.cl = cl ∧ l.key = key) := by
  unfold State.getLO at h
  intro l hl
  simpa using List.find?_eq_none.1 h l hl

/-- membership in the result of `modFile` -/
theorem mem_modFile {s : State} {sid : Nat} {g : OFile → OFile} {f' : OFile}
    (h : f' ∈ (s.modFile sid g).files) :
    ∃ f ∈ s.files, (f.sid ≠ sid ∧ f' = f) ∨ (f.sid = sid ∧ f' = g f) := by
  unfold State.modFile at h
  simp only [List.mem_map] at h
  obtain ⟨f, hf, rfl⟩ := h
  refine ⟨f, hf, ?_⟩
  by_cases hs : f.sid = sid
  · right; simp [hs]
  · left; simp [hs]

/-! ## Frames -/

/-- `s'` looks like `s` to group P. -/
structure FrameP (s s' : State) : Prop where
  live : ∀ file, liveOn s' file = liveOn s file
  has : ∀ f' ∈ s'.files, f'.live = true → ∃ f ∈ s.files, f.live = true ∧ f.file = f'.file
  pool : s'.pool.map (fun e => (e.file, e.useCount)) = s.pool.map (fun e => (e.file, e.useCount))

/-- `s'` looks like `s` to group L (files may disappear, lock-owner files may disappear,
records without lock-owner files may appear, `nextId` may grow). -/
structure FrameL (s s' : State) : Prop where
  files : ∀ f' ∈ s'.files, f'.lofs = [] ∨
    ∃ f ∈ s.files, f.cl = f'.cl ∧ (f'.lofs.map (·.lo)).Sublist (f.lofs.map (·.lo))
  lo : s'.lowners.map (fun l => (l.id, l.cl, l.key)) = s.lowners.map (fun l => (l.id, l.cl, l.key))
  next : s.nextId ≤ s'.nextId

/-- `s'` looks like `s` to group R (referring records may disappear, client records may appear). -/
structure FrameR (s s' : State) : Prop where
  files : ∀ f' ∈ s'.files, f'.live = true → ∃ f ∈ s.files, f.live = true ∧ f.cl = f'.cl
  oo : ∀ o' ∈ s'.oowners, ∃ o ∈ s.oowners, o.cl = o'.cl
  lo : ∀ l' ∈ s'.lowners, ∃ l ∈ s.lowners, l.cl = l'.cl
  cl : ∀ c ∈ s.clients, ∃ c' ∈ s'.clients, c'.id = c.id

/-- `s'` looks like `s` to the groups P, L and R: what they read of `files`, `pool`, `lowners`,
`oowners` and the ids of `clients`.  Not the `Frame` of `NfsInvC.lean` (client records, idle list,
holders, I/O records). -/
structure Frame (s s' : State) : Prop where
  p : FrameP s s'
  l : FrameL s s'
  r : FrameR s s'

theorem FrameP.refl (s : State) : FrameP s s :=
  ⟨fun _ => rfl, fun f hf hl => ⟨f, hf, hl, rfl⟩, rfl⟩

theorem FrameP.trans {a b c : State} (h1 : FrameP a b) (h2 : FrameP b c) : FrameP a c := by
  refine ⟨fun file => (h2.live file).trans (h1.live file), ?_, h2.pool.trans h1.pool⟩
  intro f'' hf'' hl''
  obtain ⟨f', hf', hl', e'⟩ := h2.has f'' hf'' hl''
  obtain ⟨f, hf, hl, e⟩ := h1.has f' hf' hl'
  exact ⟨f, hf, hl, e.trans e'⟩

theorem FrameL.refl (s : State) : FrameL s s :=
  ⟨fun f hf => Or.inr ⟨f, hf, rfl, List.Sublist.refl _⟩, rfl, Nat.le_refl _⟩

theorem FrameL.trans {a b c : State} (h1 : FrameL a b) (h2 : FrameL b c) : FrameL a c := by
  refine ⟨?_, h2.lo.trans h1.lo, Nat.le_trans h1.next h2.next⟩
  intro f'' hf''
  rcases h2.files f'' hf'' with h | ⟨f', hf', e', sub'⟩
  · exact Or.inl h
  · rcases h1.files f' hf' with h | ⟨f, hf, e, sub⟩
    · left
      rw [h] at sub'
      simpa using sub'
    · exact Or.inr ⟨f, hf, e.trans e', sub'.trans sub⟩

theorem FrameR.refl (s : State) : FrameR s s :=
  ⟨fun f hf hl => ⟨f, hf, hl, rfl⟩, fun o ho => ⟨o, ho, rfl⟩, fun l hl => ⟨l, hl, rfl⟩,
   fun c hc => ⟨c, hc, rfl⟩⟩

theorem FrameR.trans {a b c : State} (h1 : FrameR a b) (h2 : FrameR b c) : FrameR a c := by
  refine ⟨?_, ?_, ?_, ?_⟩
  · intro f'' hf'' hl''
    obtain ⟨f', hf', hl', e'⟩ := h2.files f'' hf'' hl''
    obtain ⟨f, hf, hl, e⟩ := h1.files f' hf' hl'
    exact ⟨f, hf, hl, e.trans e'⟩
  · intro o'' ho''
    obtain ⟨o', ho', e'⟩ := h2.oo o'' ho''
    obtain ⟨o, ho, e⟩ := h1.oo o' ho'
    exact ⟨o, ho, e.trans e'⟩
  · intro l'' hl''
    obtain ⟨l', hl', e'⟩ := h2.lo l'' hl''
    obtain ⟨l, hl, e⟩ := h1.lo l' hl'
    exact ⟨l, hl, e.trans e'⟩
  · intro c hc
    obtain ⟨c', hc', e'⟩ := h1.cl c hc
    obtain ⟨c'', hc'', e''⟩ := h2.cl c' hc'
    exact ⟨c'', hc'', e''.trans e'⟩

theorem Frame.refl (s : State) : Frame s s := ⟨FrameP.refl s, FrameL.refl s, FrameR.refl s⟩

theorem Frame.trans {a b c : State} (h1 : Frame a b) (h2 : Frame b c) : Frame a c :=
  ⟨h1.p.trans h2.p, h1.l.trans h2.l, h1.r.trans h2.r⟩

/-! ### Frames preserve the invariants -/

theorem FrameP.inv {s s' : State} (fr : FrameP s s') (h : InvP s) : InvP s' := by
  have hfile : s'.pool.map (·.file) = s.pool.map (·.file) := by
    have := congrArg (List.map Prod.fst) fr.pool
    simpa [List.map_map, Function.comp_def] using this
  have hent : ∀ e' ∈ s'.pool, ∃ e ∈ s.pool, e.file = e'.file ∧ e.useCount = e'.useCount := by
    intro e' he'
    have : (e'.file, e'.useCount) ∈ s'.pool.map (fun e => (e.file, e.useCount)) :=
      List.mem_map.2 ⟨e', he', rfl⟩
    rw [fr.pool] at this
    obtain ⟨e, he, heq⟩ := List.mem_map.1 this
    simp only [Prod.mk.injEq] at heq
    exact ⟨e, he, heq.1, heq.2⟩
  refine ⟨by rw [hfile]; exact h.poolNodup, ?_, ?_⟩
  · intro e' he'
    obtain ⟨e, he, e1, e2⟩ := hent e' he'
    have := h.poolCount e he
    rw [fr.live, ← e1, ← e2]
    exact this
  · intro f' hf' hl'
    obtain ⟨f, hf, hl, e⟩ := fr.has f' hf' hl'
    obtain ⟨p, hp, ep⟩ := h.poolHas f hf hl
    have : p.file ∈ s.pool.map (·.file) := List.mem_map.2 ⟨p, hp, rfl⟩
    rw [← hfile] at this
    obtain ⟨p', hp', ep'⟩ := List.mem_map.1 this
    exact ⟨p', hp', by rw [ep', ep, e]⟩

theorem FrameL.inv {s s' : State} (fr : FrameL s s') (h : InvL s) : InvL s' := by
  have hkey : s'.lowners.map (fun l => (l.cl, l.key)) = s.lowners.map (fun l => (l.cl, l.key)) := by
    have := congrArg (List.map Prod.snd) fr.lo
    simpa [List.map_map, Function.comp_def] using this
  have hid : s'.lowners.map (·.id) = s.lowners.map (·.id) := by
    have := congrArg (List.map Prod.fst) fr.lo
    simpa [List.map_map, Function.comp_def] using this
  have hent : ∀ l ∈ s.lowners, ∃ l' ∈ s'.lowners, l'.id = l.id ∧ l'.cl = l.cl := by
    intro l hl
    have : (l.id, l.cl, l.key) ∈ s.lowners.map (fun l => (l.id, l.cl, l.key)) :=
      List.mem_map.2 ⟨l, hl, rfl⟩
    rw [← fr.lo] at this
    obtain ⟨l', hl', heq⟩ := List.mem_map.1 this
    simp only [Prod.mk.injEq] at heq
    exact ⟨l', hl', heq.1, heq.2.1⟩
  refine ⟨by rw [hkey]; exact h.loKeyNodup, by rw [hid]; exact h.loIdNodup, ?_, ?_, ?_⟩
  · intro l' hl'
    have : l'.id ∈ s'.lowners.map (·.id) := List.mem_map.2 ⟨l', hl', rfl⟩
    rw [hid] at this
    obtain ⟨l, hl, e⟩ := List.mem_map.1 this
    have := h.loIdLt l hl
    have := fr.next
    omega
  · intro f' hf' l' hl'
    rcases fr.files f' hf' with hnil | ⟨f, hf, ecl, sub⟩
    · rw [hnil] at hl'; cases hl'
    · have : l'.lo ∈ f.lofs.map (·.lo) := sub.subset (List.mem_map.2 ⟨l', hl', rfl⟩)
      obtain ⟨l0, hl0, e0⟩ := List.mem_map.1 this
      obtain ⟨lo, hlo, e1, e2⟩ := h.lofsRef f hf l0 hl0
      obtain ⟨lo', hlo', e1', e2'⟩ := hent lo hlo
      exact ⟨lo', hlo', by rw [e1', e1, e0], by rw [e2', e2, ecl]⟩
  · intro f' hf'
    rcases fr.files f' hf' with hnil | ⟨f, hf, _, sub⟩
    · rw [hnil]; exact List.nodup_nil
    · exact (h.lofsLoNodup f hf).sublist sub

theorem FrameR.inv {s s' : State} (fr : FrameR s s') (h : InvR s) : InvR s' := by
  refine ⟨?_, ?_, ?_⟩
  · intro f' hf' hl'
    obtain ⟨f, hf, hl, e⟩ := fr.files f' hf' hl'
    obtain ⟨c, hc, ec⟩ := h.fileCl f hf hl
    obtain ⟨c', hc', ec'⟩ := fr.cl c hc
    exact ⟨c', hc', by rw [ec', ec, e]⟩
  · intro o' ho'
    obtain ⟨o, ho, e⟩ := fr.oo o' ho'
    obtain ⟨c, hc, ec⟩ := h.ooCl o ho
    obtain ⟨c', hc', ec'⟩ := fr.cl c hc
    exact ⟨c', hc', by rw [ec', ec, e]⟩
  · intro l' hl'
    obtain ⟨l, hl, e⟩ := fr.lo l' hl'
    obtain ⟨c, hc, ec⟩ := h.loCl l hl
    obtain ⟨c', hc', ec'⟩ := fr.cl c hc
    exact ⟨c', hc', by rw [ec', ec, e]⟩

/-! ### Building blocks -/

theorem FrameP.same {s s' : State} (hf : s'.files = s.files) (hp : s'.pool = s.pool) : FrameP s s' := by
  refine ⟨fun file => by unfold liveOn; rw [hf], ?_, by rw [hp]⟩
  intro f hf' hl
  exact ⟨f, hf ▸ hf', hl, rfl⟩

theorem FrameL.same {s s' : State} (hf : s'.files = s.files) (hl : s'.lowners = s.lowners)
    (hn : s.nextId ≤ s'.nextId) : FrameL s s' :=
  ⟨fun f hf' => Or.inr ⟨f, hf ▸ hf', rfl, List.Sublist.refl _⟩, by rw [hl], hn⟩

theorem FrameR.same {s s' : State} (hf : s'.files = s.files) (ho : s'.oowners = s.oowners)
    (hl : s'.lowners = s.lowners) (hc : ∀ c ∈ s.clients, ∃ c' ∈ s'.clients, c'.id = c.id) :
    FrameR s s' :=
  ⟨fun f hf' hlv => ⟨f, hf ▸ hf', hlv, rfl⟩, fun o ho' => ⟨o, ho ▸ ho', rfl⟩,
   fun l hl' => ⟨l, hl ▸ hl', rfl⟩, hc⟩

theorem cl_of_map_eq {s s' : State} (hc : s'.clients.map (·.id) = s.clients.map (·.id)) :
    ∀ c ∈ s.clients, ∃ c' ∈ s'.clients, c'.id = c.id := by
  intro c hc'
  have : c.id ∈ s.clients.map (·.id) := List.mem_map.2 ⟨c, hc', rfl⟩
  rw [← hc] at this
  exact List.mem_map.1 this

/-- nothing the three groups look at changes, except that client records may change in place -/
theorem Frame.same {s s' : State} (hf : s'.files = s.files) (hp : s'.pool = s.pool)
    (hl : s'.lowners = s.lowners) (ho : s'.oowners = s.oowners)
    (hc : s'.clients.map (·.id) = s.clients.map (·.id)) (hn : s.nextId ≤ s'.nextId) : Frame s s' :=
  ⟨FrameP.same hf hp, FrameL.same hf hl hn, FrameR.same hf ho hl (cl_of_map_eq hc)⟩

theorem frame_fail (s : State) (m : String) : Frame s (s.fail m) :=
  Frame.same rfl rfl rfl rfl rfl (Nat.le_refl _)

theorem frame_pushPend (s : State) (leaf : Nat) (m : Mask) : Frame s (s.pushPend leaf m) :=
  pushPend_elim s leaf m (Frame.refl s) (Frame.same rfl rfl rfl rfl rfl (Nat.le_refl _))

theorem modClient_ids (s : State) (cl : Nat) (g : Client → Client) (hg : ∀ c, (g c).id = c.id) :
    (s.modClient cl g).clients.map (·.id) = s.clients.map (·.id) := by
  unfold State.modClient
  simp only [List.map_map]
  apply List.map_congr_left
  intro c _
  simp only [Function.comp]
  split <;> simp [hg]

theorem frame_modClient (s : State) (cl : Nat) (g : Client → Client) (hg : ∀ c, (g c).id = c.id) :
    Frame s (s.modClient cl g) :=
  Frame.same rfl rfl rfl rfl (modClient_ids s cl g hg) (Nat.le_refl _)

theorem frame_holdClient (s : State) (cl : Nat) : Frame s (s.holdClient cl) :=
  holdClient_elim s cl (Frame.refl s)
    (fun _ _ _ => Frame.same rfl rfl rfl rfl (modClient_ids _ cl _ (by intro _; rfl)) (Nat.le_refl _))
    (fun _ _ _ => frame_modClient _ cl _ (by intro _; rfl))

theorem frame_releaseClient (s : State) (cl : Nat) : Frame s (s.releaseClient cl) :=
  releaseClient_elim s cl (Frame.refl s) (frame_fail s)
    (fun _ _ _ => Frame.same rfl rfl rfl rfl (modClient_ids s cl _ (by intro _; rfl)) (Nat.le_refl _))
    (fun _ _ _ _ => frame_modClient _ cl _ (by intro _; rfl))

theorem frameP_modFile (s : State) (sid : Nat) (g : OFile → OFile)
    (hlive : ∀ f, (g f).live = f.live) (hfile : ∀ f, (g f).file = f.file) :
    FrameP s (s.modFile sid g) := by
  refine ⟨?_, ?_, rfl⟩
  · intro file
    unfold liveOn State.modFile
    simp only [List.countP_map]
    apply List.countP_congr
    intro f _
    simp only [Function.comp]
    split <;> simp [hlive, hfile]
  · intro f' hf' hl'
    obtain ⟨f, hf, ⟨_, e⟩ | ⟨_, e⟩⟩ := mem_modFile hf'
    · exact ⟨f, hf, e ▸ hl', by rw [e]⟩
    · exact ⟨f, hf, by rw [e, hlive] at hl'; exact hl', by rw [e, hfile]⟩

theorem frameL_modFile (s : State) (sid : Nat) (g : OFile → OFile)
    (hcl : ∀ f, (g f).cl = f.cl)
    (hlofs : ∀ f, ((g f).lofs.map (·.lo)).Sublist (f.lofs.map (·.lo))) :
    FrameL s (s.modFile sid g) := by
  refine ⟨?_, rfl, Nat.le_refl _⟩
  intro f' hf'
  obtain ⟨f, hf, ⟨_, e⟩ | ⟨_, e⟩⟩ := mem_modFile hf'
  · exact Or.inr ⟨f, hf, by rw [e], by rw [e]; exact List.Sublist.refl _⟩
  · exact Or.inr ⟨f, hf, by rw [e, hcl], by rw [e]; exact hlofs f⟩

theorem frameR_modFile (s : State) (sid : Nat) (g : OFile → OFile)
    (hlive : ∀ f, (g f).live = true → f.live = true) (hcl : ∀ f, (g f).cl = f.cl) :
    FrameR s (s.modFile sid g) := by
  refine ⟨?_, fun o ho => ⟨o, ho, rfl⟩, fun l hl => ⟨l, hl, rfl⟩, fun c hc => ⟨c, hc, rfl⟩⟩
  intro f' hf' hl'
  obtain ⟨f, hf, ⟨_, e⟩ | ⟨_, e⟩⟩ := mem_modFile hf'
  · exact ⟨f, hf, e ▸ hl', by rw [e]⟩
  · exact ⟨f, hf, hlive f (e ▸ hl'), by rw [e, hcl]⟩

/-- `modFile` with an update that keeps `live`, `file`, `cl` and only removes lock-owner files -/
theorem frame_modFile (s : State) (sid : Nat) (g : OFile → OFile)
    (hlive : ∀ f, (g f).live = f.live) (hfile : ∀ f, (g f).file = f.file)
    (hcl : ∀ f, (g f).cl = f.cl)
    (hlofs : ∀ f, ((g f).lofs.map (·.lo)).Sublist (f.lofs.map (·.lo))) :
    Frame s (s.modFile sid g) :=
  ⟨frameP_modFile s sid g hlive hfile, frameL_modFile s sid g hcl hlofs,
   frameR_modFile s sid g (fun f h => hlive f ▸ h) hcl⟩

theorem frame_modPool (s : State) (file : Nat) (g : PoolEnt → PoolEnt)
    (hfile : ∀ e, (g e).file = e.file) (hcnt : ∀ e, (g e).useCount = e.useCount) :
    Frame s (s.modPool file g) := by
  refine ⟨⟨fun _ => rfl, fun f hf hl => ⟨f, hf, hl, rfl⟩, ?_⟩,
    FrameL.same rfl rfl (Nat.le_refl _), FrameR.same rfl rfl rfl (fun c hc => ⟨c, hc, rfl⟩)⟩
  unfold State.modPool
  simp only [List.map_map]
  apply List.map_congr_left
  intro e _
  simp only [Function.comp]
  split <;> simp [hfile, hcnt]

/-- garbage collection removes only records that are not live -/
theorem frame_gc (s : State) : Frame s s.gc := by
  unfold State.gc
  refine ⟨⟨?_, ?_, rfl⟩, ⟨?_, rfl, Nat.le_refl _⟩, ⟨?_, fun o ho => ⟨o, ho, rfl⟩,
    fun l hl => ⟨l, hl, rfl⟩, fun c hc => ⟨c, hc, rfl⟩⟩⟩
  · intro file
    unfold liveOn
    simp only [List.countP_filter]
    apply List.countP_congr
    intro f _
    cases hl : f.live <;> simp
  · intro f' hf' hl'
    exact ⟨f', (List.mem_filter.1 hf').1, hl', rfl⟩
  · intro f' hf'
    exact Or.inr ⟨f', (List.mem_filter.1 hf').1, rfl, List.Sublist.refl _⟩
  · intro f' hf' hl'
    exact ⟨f', (List.mem_filter.1 hf').1, hl', rfl⟩

/-- composition, last step first (so that elaboration determines the intermediate state) -/
theorem Frame.after {a b c : State} (h2 : Frame b c) (h1 : Frame a b) : Frame a c := h1.trans h2

theorem lofs_lockCount_lo (lofs : List LOFile) (lsid : Nat) (d : Int) :
    ((lofs.map (fun l => if l.sid == lsid then { l with lockCount := l.lockCount + d } else l)).map
      (·.lo)).Sublist (lofs.map (·.lo)) := by
  have : (lofs.map (fun l => if l.sid == lsid then { l with lockCount := l.lockCount + d } else l)).map
      (·.lo) = lofs.map (·.lo) := by
    simp only [List.map_map]
    apply List.map_congr_left
    intro l _
    simp only [Function.comp]
    split <;> rfl
  rw [this]
  exact List.Sublist.refl _

/-! ## Actions that are frames for all three groups -/

theorem frame_tick (s : State) (d : Nat) : Frame s (Do.tick s d) :=
  Frame.same rfl rfl rfl rfl rfl (Nat.le_refl _)

theorem frame_setNow (s : State) : Frame s (Do.setNow s) :=
  Frame.same rfl rfl rfl rfl rfl (Nat.le_refl _)

theorem frame_newClient (s : State) (long ver : Nat) : Frame s (Do.newClient s long ver) :=
  newClient_elim s long ver (Frame.refl s) ⟨FrameP.same rfl rfl, FrameL.same rfl rfl (Nat.le_succ _),
    FrameR.same rfl rfl rfl (fun c hc => ⟨c, List.mem_append_left _ hc, rfl⟩)⟩

theorem frame_touch (s : State) (cl : Nat) : Frame s (Do.touch s cl) :=
  (frame_holdClient s cl).trans (frame_releaseClient _ cl)

theorem frame_confirmClient (s : State) (cl : Nat) : Frame s (Do.confirmClient s cl) :=
  confirmClient_elim s cl (Frame.refl s) (frame_fail s)
    fun _ _ => frame_modClient s cl _ (by intro _; rfl)

theorem frame_addSession (s : State) (cl k : Nat) : Frame s (Do.addSession s cl k) :=
  frame_modClient s cl _ (by intro _; rfl)

theorem frame_delSession (s : State) (cl k : Nat) : Frame s (Do.delSession s cl k) :=
  frame_modClient s cl _ (by intro _; rfl)

theorem frame_holdBegin (s : State) (tag cl : Nat) : Frame s (Do.holdBegin s tag cl) :=
  holdBegin_elim s tag cl (Frame.refl s) fun _ _ =>
    Frame.after (frame_holdClient _ cl) (Frame.same rfl rfl rfl rfl rfl (Nat.le_refl _))

theorem frame_holdEnd (s : State) (tag : Nat) : Frame s (Do.holdEnd s tag) :=
  holdEnd_elim s tag (Frame.refl s) fun _ _ =>
    Frame.after (frame_releaseClient _ _) (Frame.same rfl rfl rfl rfl rfl (Nat.le_refl _))

theorem frame_ooDel (s : State) (cl key : Nat) : Frame s (Do.ooDel s cl key) :=
  ite_elim (fun _ => frame_fail s _) fun _ =>
    ⟨FrameP.same rfl rfl, FrameL.same rfl rfl (Nat.le_refl _),
      ⟨fun f hf hl => ⟨f, hf, hl, rfl⟩, fun o ho => ⟨o, (List.mem_filter.1 ho).1, rfl⟩,
       fun l hl => ⟨l, hl, rfl⟩, fun c hc => ⟨c, hc, rfl⟩⟩⟩

theorem frame_loSet (s : State) (id lastSeq : Nat) (resp : Option (Nat × String × Nat × Nat)) :
    Frame s (Do.loSet s id lastSeq resp) := by
  unfold Do.loSet
  refine ⟨FrameP.same rfl rfl, ⟨fun f hf => Or.inr ⟨f, hf, rfl, List.Sublist.refl _⟩, ?_, Nat.le_refl _⟩,
    ⟨fun f hf hl => ⟨f, hf, hl, rfl⟩, fun o ho => ⟨o, ho, rfl⟩, ?_, fun c hc => ⟨c, hc, rfl⟩⟩⟩
  · simp only [List.map_map]
    apply List.map_congr_left
    intro l _
    simp only [Function.comp]
    split <;> rfl
  · intro l' hl'
    simp only [List.mem_map] at hl'
    obtain ⟨l, hl, rfl⟩ := hl'
    refine ⟨l, hl, ?_⟩
    split <;> rfl

theorem frame_vopen (s : State) (tag leaf : Nat) (m : Mask) (create trunc : Bool) :
    Frame s (Do.vopen s tag leaf m create trunc) :=
  ite_elim (fun _ => Frame.refl s) (fun _ => Frame.same rfl rfl rfl rfl rfl (Nat.le_refl _))

theorem frame_tempClose (s : State) (tag : Nat) : Frame s (Do.tempClose s tag) :=
  tempClose_elim s tag (Frame.refl s) fun _ _ => Frame.same rfl rfl rfl rfl rfl (Nat.le_refl _)

theorem frame_tempToPend (s : State) (tag : Nat) : Frame s (Do.tempToPend s tag) :=
  tempToPend_elim s tag (Frame.refl s) fun _ _ =>
    Frame.after (frame_pushPend _ _ _) (Frame.same rfl rfl rfl rfl rfl (Nat.le_refl _))

theorem frame_openUpgrade (s : State) (tag sid : Nat) : Frame s (Do.openUpgrade s tag sid) :=
  openUpgrade_elim s tag sid (Frame.refl s) fun _ _ _ _ _ _ =>
    Frame.after (frame_pushPend _ _ _) (Frame.after
      (frame_modFile _ sid _ (fun _ => rfl) (fun _ => rfl) (fun _ => rfl) fun _ => .refl _)
      (Frame.same rfl rfl rfl rfl rfl (Nat.le_refl _)))

theorem frame_downgradeOpen (s : State) (sid : Nat) (new : Mask) :
    Frame s (Do.downgradeOpen s sid new) :=
  downgradeOpen_elim s sid new (Frame.refl s) (frame_fail s) fun _ _ _ _ _ _ _ =>
    Frame.after (frame_pushPend _ _ _)
      (frame_modFile _ sid _ (fun _ => rfl) (fun _ => rfl) (fun _ => rfl) fun _ => .refl _)

theorem frame_removeLofs (s : State) (sid lsid : Nat) : Frame s (Do.removeLofs s sid lsid) :=
  removeLofs_elim s sid lsid (Frame.refl s) (frame_fail s) fun _ _ _ _ _ _ _ =>
    Frame.after (frame_pushPend _ _ _) (frame_modFile _ sid _ (fun _ => rfl) (fun _ => rfl)
      (fun _ => rfl) fun _ => List.filter_sublist.map _)

theorem frame_unlockAllLofs (s : State) (sid lsid : Nat) : Frame s (Do.unlockAllLofs s sid lsid) :=
  unlockAllLofs_elim s sid lsid (Frame.refl s) fun _ _ _ _ _ _ =>
    Frame.after (frame_modFile _ sid _ (fun _ => rfl) (fun _ => rfl) (fun _ => rfl)
      fun _ => lofs_lockCount_lo _ _ _) (frame_modPool s _ _ (fun _ => rfl) fun _ => rfl)

theorem frame_lockSet (s : State) (sid lsid : Nat) (lk : BRL.Lock) :
    Frame s (Do.lockSet s sid lsid lk) :=
  lockSet_elim s sid lsid lk (Frame.refl s) (frame_fail s) fun _ _ _ _ _ _ =>
    Frame.after (frame_modFile _ sid _ (fun _ => rfl) (fun _ => rfl) (fun _ => rfl)
      fun _ => lofs_lockCount_lo _ _ _) (frame_modPool s _ _ (fun _ => rfl) fun _ => rfl)

theorem frame_ioBegin (s : State) (tag sid : Nat) (m : Mask) (holds : Bool) :
    Frame s (Do.ioBegin s tag sid m holds) := by
  refine ioBegin_elim s tag sid m holds (Frame.refl s) (frame_fail s) fun f c _ _ _ _ _ => ?_
  have hX : Frame s (ioBegun s tag sid m holds f c) :=
    (frame_modFile s sid (fun f => { f with count := c }) (fun _ => rfl)
      (fun _ => rfl) (fun _ => rfl) fun _ => .refl _).trans
      (Frame.same rfl rfl rfl rfl rfl (Nat.le_refl _))
  exact ⟨fun _ => Frame.after (frame_holdClient _ _) hX, fun _ => hX⟩

theorem frame_ioEnd (s : State) (tag : Nat) : Frame s (Do.ioEnd s tag) := by
  refine ioEnd_elim s tag (Frame.refl s) (frame_fail s) fun io f c z _ _ _ => ?_
  have hX : Frame s (ioEnded s tag io f c z) :=
    Frame.after (frame_pushPend _ _ _) (Frame.after (frame_modFile _ _ _ (fun _ => rfl)
      (fun _ => rfl) (fun _ => rfl) fun _ => .refl _)
      (Frame.same rfl rfl rfl rfl rfl (Nat.le_refl _)))
  exact ⟨fun _ => Frame.after (frame_gc _) (Frame.after (frame_releaseClient _ _) hX),
    fun _ => Frame.after (frame_gc _) hX⟩

theorem frame_flush (s : State) : Frame s (Do.flush s) :=
  flush_elim s (Frame.refl s) fun _ _ _ _ => Frame.same rfl rfl rfl rfl rfl (Nat.le_refl _)

theorem frame_setCur (s : State) (tag : Nat) : Frame s (Do.setCur s tag) :=
  Frame.same rfl rfl rfl rfl rfl (Nat.le_refl _)

theorem frame_setProto (s : State) (p : Proto) : Frame s (Do.setProto s p) :=
  Frame.same rfl rfl rfl rfl rfl (Nat.le_refl _)

theorem frameP_dropClient (s : State) (cl : Nat) : FrameP s (Do.dropClient s cl) :=
  dropClient_elim s cl (fun _ => .refl s) (fun _ => .same rfl rfl) fun _ _ _ _ _ _ => .same rfl rfl

theorem frameL_dropClient (s : State) (cl : Nat) : FrameL s (Do.dropClient s cl) :=
  dropClient_elim s cl (fun _ => .refl s) (fun _ => .same rfl rfl (Nat.le_refl _))
    fun _ _ _ _ _ _ => .same rfl rfl (Nat.le_refl _)

theorem invR_dropClient (s : State) (cl : Nat) (h : InvR s) : InvR (Do.dropClient s cl) := by
  refine dropClient_elim s cl (fun _ => h) (fun _ => (frame_fail s _).r.inv h)
    fun _ _ _ hf ho hl => ⟨?_, ?_, ?_⟩
  · intro f hf' hlv
    obtain ⟨c, hc, e⟩ := h.fileCl f hf' hlv
    refine ⟨c, List.mem_filter.2 ⟨hc, ?_⟩, e⟩
    have : f.cl ≠ cl := fun e' => hf (List.any_eq_true.2 ⟨f, hf', by simp [hlv, e']⟩)
    simp [e, this]
  · intro o ho'
    obtain ⟨c, hc, e⟩ := h.ooCl o ho'
    refine ⟨c, List.mem_filter.2 ⟨hc, ?_⟩, e⟩
    have : o.cl ≠ cl := fun e' => ho (List.any_eq_true.2 ⟨o, ho', by simp [e']⟩)
    simp [e, this]
  · intro l hl'
    obtain ⟨c, hc, e⟩ := h.loCl l hl'
    refine ⟨c, List.mem_filter.2 ⟨hc, ?_⟩, e⟩
    have : l.cl ≠ cl := fun e' => hl (List.any_eq_true.2 ⟨l, hl', by simp [e']⟩)
    simp [e, this]

theorem frameP_ooSet (s : State) (oo : OOwner) : FrameP s (Do.ooSet s oo) :=
  ooSet_elim s oo (.refl s) (fun _ _ => .same rfl rfl) (fun _ _ => .same rfl rfl)

theorem frameL_ooSet (s : State) (oo : OOwner) : FrameL s (Do.ooSet s oo) :=
  ooSet_elim s oo (.refl s) (fun _ _ => .same rfl rfl (Nat.le_refl _))
    (fun _ _ => .same rfl rfl (Nat.le_refl _))

theorem invR_ooSet (s : State) (oo : OOwner) (h : InvR s) : InvR (Do.ooSet s oo) := by
  refine ooSet_elim s oo h (fun c hc => ?_) (fun c hc => ?_) <;>
    obtain ⟨hc1, hc2⟩ := getClient_some hc <;> refine ⟨h.fileCl, fun o' ho' => ?_, h.loCl⟩
  · simp only [List.mem_map] at ho'
    obtain ⟨o, ho, rfl⟩ := ho'
    split
    · exact ⟨c, hc1, hc2⟩
    · exact h.ooCl o ho
  · rcases List.mem_append.1 ho' with ho | ho
    · exact h.ooCl o' ho
    · simp only [List.mem_singleton] at ho
      exact ⟨c, hc1, ho ▸ hc2⟩

theorem frameP_loRegister (s : State) (cl key : Nat) : FrameP s (Do.loRegister s cl key) :=
  ite_elim (fun _ => .refl s) (fun _ => .same rfl rfl)

theorem invL_loRegister (s : State) (cl key : Nat) (h : InvL s) : InvL (Do.loRegister s cl key) := by
  unfold Do.loRegister
  split
  · exact h
  · rename_i hg
    have hlo : s.getLO cl key = none := by
      cases hl : s.getLO cl key
      · rfl
      · simp [hl] at hg
    have hno := getLO_none hlo
    refine ⟨?_, ?_, ?_, ?_, h.lofsLoNodup⟩
    · show ((s.lowners ++ [_]).map _).Nodup
      rw [List.map_append, List.nodup_append]
      refine ⟨h.loKeyNodup, by simp, ?_⟩
      intro a ha b hb
      simp only [List.map_cons, List.map_nil, List.mem_singleton] at hb
      obtain ⟨l, hl, rfl⟩ := List.mem_map.1 ha
      intro e
      rw [hb] at e
      simp only [Prod.mk.injEq] at e
      exact hno l hl e
    · show ((s.lowners ++ [_]).map _).Nodup
      rw [List.map_append, List.nodup_append]
      refine ⟨h.loIdNodup, by simp, ?_⟩
      intro a ha b hb
      simp only [List.map_cons, List.map_nil, List.mem_singleton] at hb
      obtain ⟨l, hl, rfl⟩ := List.mem_map.1 ha
      have := h.loIdLt l hl
      omega
    · intro l hl
      show l.id < s.nextId + 1
      rcases List.mem_append.1 hl with hl | hl
      · exact Nat.lt_succ_of_lt (h.loIdLt l hl)
      · simp only [List.mem_singleton] at hl
        rw [hl]
        exact Nat.lt_succ_self _
    · intro f hf l hl
      obtain ⟨lo, hlo', e⟩ := h.lofsRef f hf l hl
      exact ⟨lo, List.mem_append_left _ hlo', e⟩

theorem invR_loRegister (s : State) (cl key : Nat) (h : InvR s) : InvR (Do.loRegister s cl key) := by
  unfold Do.loRegister
  split
  · exact h
  · rename_i hg
    cases hc : s.getClient cl with
    | none => simp [hc] at hg
    | some c =>
      obtain ⟨hc1, hc2⟩ := getClient_some hc
      refine ⟨h.fileCl, h.ooCl, ?_⟩
      intro l hl
      rcases List.mem_append.1 hl with hl | hl
      · exact h.loCl l hl
      · simp only [List.mem_singleton] at hl
        exact ⟨c, hc1, by rw [hl]; exact hc2⟩

theorem frameP_loPrune (s : State) (id : Nat) : FrameP s (Do.loPrune s id) :=
  ite_elim (fun _ => .refl s) (fun _ => .same rfl rfl)

theorem frameR_loPrune (s : State) (id : Nat) : FrameR s (Do.loPrune s id) :=
  ite_elim (fun _ => .refl s) fun _ =>
    ⟨fun f hf hl => ⟨f, hf, hl, rfl⟩, fun o ho => ⟨o, ho, rfl⟩,
      fun l hl => ⟨l, (List.mem_filter.1 hl).1, rfl⟩, fun c hc => ⟨c, hc, rfl⟩⟩

theorem invL_loPrune (s : State) (id : Nat) (h : InvL s) : InvL (Do.loPrune s id) := by
  unfold Do.loPrune
  split
  · exact h
  · rename_i hg
    refine ⟨h.loKeyNodup.sublist (List.filter_sublist.map _), h.loIdNodup.sublist (List.filter_sublist.map _),
      fun l hl => h.loIdLt l (List.mem_filter.1 hl).1, ?_, h.lofsLoNodup⟩
    intro f hf l hl
    obtain ⟨lo, hlo, e1, e2⟩ := h.lofsRef f hf l hl
    refine ⟨lo, List.mem_filter.2 ⟨hlo, ?_⟩, e1, e2⟩
    have : l.lo ≠ id := fun e' => hg (List.any_eq_true.2 ⟨f, hf, List.any_eq_true.2 ⟨l, hl, by simp [e']⟩⟩)
    simp [e1, this]

theorem frameL_openNew (s : State) (tag cl owner : Nat) : FrameL s (Do.openNew s tag cl owner) := by
  refine openNew_elim s tag cl owner (.refl s) fun _ _ _ _ => ⟨fun f' hf' => ?_, rfl, Nat.le_succ _⟩
  rcases List.mem_append.1 hf' with hf | hf
  · exact Or.inr ⟨f', hf, rfl, List.Sublist.refl _⟩
  · simp only [List.mem_singleton] at hf
    left; rw [hf]

theorem invR_openNew (s : State) (tag cl owner : Nat) (h : InvR s) : InvR (Do.openNew s tag cl owner) := by
  refine openNew_elim s tag cl owner h fun _ c _ hc => ⟨fun f' hf' hlv => ?_, h.ooCl, h.loCl⟩
  obtain ⟨hc1, hc2⟩ := getClient_some hc
  rcases List.mem_append.1 hf' with hf | hf
  · exact h.fileCl f' hf hlv
  · simp only [List.mem_singleton] at hf
    exact ⟨c, hc1, by rw [hf]; exact hc2⟩

theorem invP_openNew_aux {s s' : State} (leaf : Nat) (f : OFile) (hl : f.live = true)
    (hfile : f.file = leaf) (hf : s'.files = s.files ++ [f])
    (hp : s'.pool = if (s.getPool leaf).isSome
      then s.pool.map (fun e => if e.file == leaf then { e with useCount := e.useCount + 1 } else e)
      else s.pool ++ [{ file := leaf, useCount := 1, locks := [] }])
    (h : InvP s) : InvP s' := by
  have hlive : ∀ file, liveOn s' file = liveOn s file + (if leaf = file then 1 else 0) := by
    intro file
    unfold liveOn
    rw [hf, List.countP_append]
    by_cases e : leaf = file <;> simp [hl, hfile, e]
  cases hg : s.getPool leaf with
  | none =>
    have hno := getPool_none hg
    simp only [hg, Option.isSome_none, Bool.false_eq_true, if_false] at hp
    refine ⟨?_, ?_, ?_⟩
    · rw [hp, List.map_append, List.nodup_append]
      refine ⟨h.poolNodup, by simp, ?_⟩
      intro a ha b hb
      simp only [List.map_cons, List.map_nil, List.mem_singleton] at hb
      obtain ⟨e, he, rfl⟩ := List.mem_map.1 ha
      rw [hb]
      exact hno e he
    · intro e he
      rw [hp] at he
      rw [hlive]
      rcases List.mem_append.1 he with he | he
      · have := hno e he
        have := h.poolCount e he
        rw [if_neg (fun e' => hno e he e'.symm)]
        omega
      · simp only [List.mem_singleton] at he
        have h0 : liveOn s leaf = 0 := by
          unfold liveOn
          rw [List.countP_eq_zero]
          intro a ha hpa
          simp only [Bool.and_eq_true, beq_iff_eq] at hpa
          obtain ⟨e0, he0, e1⟩ := h.poolHas a ha hpa.1
          exact hno e0 he0 (e1.trans hpa.2)
        rw [he]
        simp [h0]
    · intro f' hf' hlv
      rw [hf] at hf'
      rw [hp]
      rcases List.mem_append.1 hf' with hf'' | hf''
      · obtain ⟨e, he, e1⟩ := h.poolHas f' hf'' hlv
        exact ⟨e, List.mem_append_left _ he, e1⟩
      · simp only [List.mem_singleton] at hf''
        exact ⟨_, List.mem_append_right _ (List.mem_singleton.2 rfl), by rw [hf'', hfile]⟩
  | some e0 =>
    obtain ⟨he0, he0f⟩ := getPool_some hg
    simp only [hg, Option.isSome_some, if_true] at hp
    have hfl : s'.pool.map (·.file) = s.pool.map (·.file) := by
      rw [hp, List.map_map]
      apply List.map_congr_left
      intro e _
      simp only [Function.comp]
      split <;> rfl
    refine ⟨by rw [hfl]; exact h.poolNodup, ?_, ?_⟩
    · intro e' he'
      rw [hp] at he'
      obtain ⟨e, he, rfl⟩ := List.mem_map.1 he'
      have := h.poolCount e he
      by_cases hef : e.file = leaf
      · simp only [hef, beq_self_eq_true, if_true, hlive]
        rw [hef] at this
        omega
      · have hef' : (e.file == leaf) = false := by simp [hef]
        simp only [hef', Bool.false_eq_true, if_false, hlive]
        rw [if_neg (fun e' => hef e'.symm)]
        omega
    · intro f' hf' hlv
      rw [hf] at hf'
      have hkey : ∀ file, (∃ e ∈ s.pool, e.file = file) → ∃ e ∈ s'.pool, e.file = file := by
        intro file ⟨e, he, e1⟩
        have : file ∈ s.pool.map (·.file) := List.mem_map.2 ⟨e, he, e1⟩
        rw [← hfl] at this
        exact List.mem_map.1 this
      rcases List.mem_append.1 hf' with hf'' | hf''
      · exact hkey _ (h.poolHas f' hf'' hlv)
      · simp only [List.mem_singleton] at hf''
        exact hkey _ ⟨e0, he0, by rw [hf'', hfile, he0f]⟩

theorem invP_openNew (s : State) (tag cl owner : Nat) (h : InvP s) :
    InvP (Do.openNew s tag cl owner) :=
  openNew_elim s tag cl owner h fun _ _ _ _ => invP_openNew_aux _ _ rfl rfl rfl rfl h

theorem frameP_addLofs (s : State) (sid lo : Nat) : FrameP s (Do.addLofs s sid lo) :=
  addLofs_elim s sid lo (.refl s) (fun _ => (frame_fail s _).p) fun _ _ _ _ _ _ _ =>
    (frameP_modFile s sid _ (by intro _; rfl) (by intro _; rfl)).trans (FrameP.same rfl rfl)

theorem frameR_addLofs (s : State) (sid lo : Nat) : FrameR s (Do.addLofs s sid lo) :=
  addLofs_elim s sid lo (.refl s) (fun _ => (frame_fail s _).r) fun _ _ _ _ _ _ _ =>
    (frameR_modFile s sid _ (by intro _ h; exact h) (by intro _; rfl)).trans
      (FrameR.same rfl rfl rfl (fun c hc => ⟨c, hc, rfl⟩))

theorem invL_addLofs (s : State) (sid lo : Nat) (hs : InvS s) (h : InvL s) : InvL (Do.addLofs s sid lo) := by
  refine addLofs_elim s sid lo h (fun _ => (frame_fail s _).l.inv h)
    fun f c hgf _ hnolo hreg _ => ?_
  obtain ⟨hfm, hfs⟩ := getFile_some hgf
  refine ⟨h.loKeyNodup, h.loIdNodup, fun l hl => Nat.lt_succ_of_lt (h.loIdLt l hl), ?_, ?_⟩
  · intro f' hf' l hl
    obtain ⟨f0, hf0, ⟨_, e⟩ | ⟨e0, e⟩⟩ := mem_modFile hf'
    · rw [e] at hl ⊢
      exact h.lofsRef f0 hf0 l hl
    · have hff : f0 = f := eq_of_nodup_map (·.sid) hs.sidNodup hf0 hfm (e0.trans hfs.symm)
      rw [e] at hl ⊢
      rw [hff] at hl ⊢
      rcases List.mem_append.1 hl with hl | hl
      · exact h.lofsRef f hfm l hl
      · simp only [List.mem_singleton] at hl
        obtain ⟨lo', hlo', hp'⟩ := List.any_eq_true.1 hreg
        simp only [Bool.and_eq_true, beq_iff_eq] at hp'
        exact ⟨lo', hlo', by rw [hl]; exact hp'.1, hp'.2⟩
  · intro f' hf'
    obtain ⟨f0, hf0, ⟨_, e⟩ | ⟨e0, e⟩⟩ := mem_modFile hf'
    · rw [e]
      exact h.lofsLoNodup f0 hf0
    · have hff : f0 = f := eq_of_nodup_map (·.sid) hs.sidNodup hf0 hfm (e0.trans hfs.symm)
      rw [e, hff]
      show ((f.lofs ++ [_]).map _).Nodup
      rw [List.map_append, List.nodup_append]
      refine ⟨h.lofsLoNodup f hfm, by simp, ?_⟩
      intro a ha b hb
      simp only [List.map_cons, List.map_nil, List.mem_singleton] at hb
      obtain ⟨l, hl, rfl⟩ := List.mem_map.1 ha
      rw [hb]
      intro e'
      have := List.any_eq_false.1 hnolo l hl
      simp [e'] at this

theorem frameL_finalize (s : State) (sid : Nat) : FrameL s (Do.finalize s sid) :=
  finalize_elim s sid (.refl s) (fun _ => (frame_fail s _).l) fun _ _ _ _ _ _ _ => by
    refine .trans ?_ (frame_gc _).l
    refine .trans ?_ (frameL_modFile _ sid _ (by intro _; rfl) (by intro _; exact .refl _))
    exact .same rfl rfl (Nat.le_refl _)

theorem frameR_finalize (s : State) (sid : Nat) : FrameR s (Do.finalize s sid) :=
  finalize_elim s sid (.refl s) (fun _ => (frame_fail s _).r) fun _ _ _ _ _ _ _ => by
    refine .trans ?_ (frame_gc _).r
    refine .trans ?_ (frameR_modFile _ sid _ (by intro _ h; exact absurd h (by simp)) (by intro _; rfl))
    exact .same rfl rfl rfl fun c hc => ⟨c, hc, rfl⟩

/-- `OpenedFile.Close` on a pool whose use counts are the numbers `L` of live records, when the
record being closed is on file `F`: the counts of the new pool are the new numbers `L'`, and
every file that still has a live record keeps its entry. -/
theorem pool_close {pool : List PoolEnt} {F : Nat} {e : PoolEnt} {L L' : Nat → Nat}
    (hnd : (pool.map (·.file)).Nodup) (he : e ∈ pool) (hef : e.file = F)
    (hcnt : ∀ e' ∈ pool, e'.useCount = L e'.file ∧ 0 < e'.useCount)
    (hL : ∀ file, L' file + (if F = file then 1 else 0) = L file)
    {pool' : List PoolEnt}
    (hp : pool' = if e.useCount = 1 then pool.filter (fun e => e.file != F)
      else pool.map (fun e => if e.file == F then { e with useCount := e.useCount - 1 } else e)) :
    (pool'.map (·.file)).Nodup ∧ (∀ e' ∈ pool', e'.useCount = L' e'.file ∧ 0 < e'.useCount) ∧
      ∀ file, (∃ e' ∈ pool, e'.file = file) → 0 < L' file → ∃ e' ∈ pool', e'.file = file := by
  have heF : e.useCount = L' F + 1 := by rw [(hcnt e he).1, hef, ← hL F, if_pos rfl]
  by_cases h1 : e.useCount = 1
  · rw [if_pos h1] at hp
    subst hp
    refine ⟨hnd.sublist (List.filter_sublist.map _), fun e' he' => ?_, fun file ⟨e', he', e1⟩ hpos => ?_⟩
    · obtain ⟨hm, hne⟩ := List.mem_filter.1 he'
      have hne : F ≠ e'.file := fun e => by simp [e] at hne
      have := hL e'.file
      rw [if_neg hne] at this
      exact ⟨(hcnt e' hm).1.trans this.symm, (hcnt e' hm).2⟩
    · refine ⟨e', List.mem_filter.2 ⟨he', ?_⟩, e1⟩
      have : file ≠ F := fun e => by
        rw [e] at hpos; rw [heF] at h1
        exact absurd (Nat.succ.inj h1) (Nat.ne_of_gt hpos)
      simp [e1, this]
  · rw [if_neg h1] at hp
    subst hp
    have hfl : (pool.map (fun e => if e.file == F then { e with useCount := e.useCount - 1 } else e)).map
        (·.file) = pool.map (·.file) := by
      rw [List.map_map]
      exact List.map_congr_left fun e _ => by simp only [Function.comp]; split <;> rfl
    refine ⟨hfl ▸ hnd, fun e' he' => ?_, fun file hex _ => ?_⟩
    · obtain ⟨e0, he0, rfl⟩ := List.mem_map.1 he'
      have hc0 := hcnt e0 he0
      have := hL e0.file
      by_cases hef0 : e0.file = F
      · rw [if_pos (by simpa using hef0)]
        rw [hef0, if_pos rfl] at this
        have hu : e0.useCount = L' F + 1 := by rw [hc0.1, hef0, ← this]
        show e0.useCount - 1 = L' e0.file ∧ 0 < e0.useCount - 1
        rw [hu, hef0, Nat.add_sub_cancel]
        exact ⟨rfl, Nat.pos_of_ne_zero fun h0 => h1 (by rw [heF, h0])⟩
      · rw [if_neg (by simpa using hef0)]
        rw [if_neg (fun e => hef0 e.symm)] at this
        exact ⟨hc0.1.trans this.symm, hc0.2⟩
    · obtain ⟨e', he', e1⟩ := hex
      have : file ∈ pool.map (·.file) := List.mem_map.2 ⟨e', he', e1⟩
      rw [← hfl] at this
      exact List.mem_map.1 this

/-- the state of `finalize` before garbage collection -/
theorem invP_finalize_aux (s : State) (sid : Nat) (f : OFile) (e : PoolEnt) (hs : InvS s) (h : InvP s)
    (hgf : s.getFile sid = some f) (hlv : f.live = true) (hgp : s.getPool f.file = some e) :
    InvP (State.modFile
      { s with
        pool :=
          if e.useCount = 1 then s.pool.filter (fun e : PoolEnt => e.file != f.file)
          else s.pool.map (fun e : PoolEnt =>
            if e.file == f.file then { e with useCount := e.useCount - 1 } else e) }
      sid (fun f => { f with live := false })) := by
  obtain ⟨hfm, hfs⟩ := getFile_some hgf
  obtain ⟨hem, hef⟩ := getPool_some hgp
  -- the number of live records on `f.file` drops by one, the others are unchanged
  have hlive : ∀ file, liveOn (s.modFile sid (fun f => { f with live := false })) file
      + (if f.file = file then 1 else 0) = liveOn s file := by
    intro file
    have := countP_map_key (·.sid) (fun x => x.live && x.file == file) (fun f => { f with live := false })
      sid s.files hs.sidNodup f hfm hfs
    unfold liveOn State.modFile
    by_cases e : f.file = file
    · simp only [hlv, e, beq_self_eq_true, Bool.and_self, if_true, Bool.false_and, Bool.false_eq_true,
        if_false, Nat.add_zero] at this
      simpa [e] using this
    · simp only [hlv, e, Bool.true_and, beq_iff_eq, if_false, Bool.false_and, Bool.false_eq_true,
        Nat.add_zero] at this
      simpa [e] using this
  obtain ⟨h1, h2, h3⟩ := pool_close h.poolNodup hem hef h.poolCount hlive rfl
  refine ⟨h1, h2, fun f' hf' hl' => ?_⟩
  -- a live record of the new state is a live record of the old one
  have hold : f' ∈ s.files := by
    obtain ⟨f0, hf0, ⟨_, e⟩ | ⟨_, e⟩⟩ := mem_modFile hf'
    · exact e ▸ hf0
    · rw [e] at hl'; cases hl'
  refine h3 f'.file (h.poolHas f' hold hl') ?_
  unfold liveOn
  exact List.countP_pos_iff.2 ⟨f', hf', by simp [hl']⟩

theorem invP_finalize (s : State) (sid : Nat) (hs : InvS s) (h : InvP s) :
    InvP (Do.finalize s sid) :=
  finalize_elim s sid h (fun _ => (frame_fail s _).p.inv h) fun f e hgf hlv _ _ hgp =>
    (frame_gc _).p.inv (invP_finalize_aux s sid f e hs h hgf hlv hgp)

theorem invP_init (ver n : Nat) : InvP (BbRe.NfsState.init ver n) := by
  refine ⟨List.nodup_nil, ?_, ?_⟩ <;> intro _ hx <;> cases hx

theorem invL_init (ver n : Nat) : InvL (BbRe.NfsState.init ver n) := by
  refine ⟨List.nodup_nil, List.nodup_nil, ?_, ?_, ?_⟩ <;> intro _ hx <;> cases hx

theorem invR_init (ver n : Nat) : InvR (BbRe.NfsState.init ver n) := by
  refine ⟨?_, ?_, ?_⟩ <;> intro _ hx <;> cases hx

/-- the 24 actions that are frames for all three groups -/
theorem frame_apply_common (s : State) (a : Act)
    (ha : match a with
      | .dropClient _ | .ooSet _ | .loRegister _ _ | .loPrune _ | .openNew _ _ _ | .addLofs _ _
      | .finalize _ => False
      | _ => True) :
    Frame s (apply s a) := by
  unfold apply
  split
  · exact Frame.refl s
  · cases a with
    | tick d => exact frame_tick s d
    | setNow => exact frame_setNow s
    | newClient long ver => exact frame_newClient s long ver
    | touch cl => exact frame_touch s cl
    | confirmClient cl => exact frame_confirmClient s cl
    | dropClient cl => exact ha.elim
    | addSession cl k => exact frame_addSession s cl k
    | delSession cl k => exact frame_delSession s cl k
    | holdBegin tag cl => exact frame_holdBegin s tag cl
    | holdEnd tag => exact frame_holdEnd s tag
    | ooSet oo => exact ha.elim
    | ooDel cl key => exact frame_ooDel s cl key
    | loRegister cl key => exact ha.elim
    | loPrune id => exact ha.elim
    | loSet id lastSeq resp => exact frame_loSet s id lastSeq resp
    | vopen tag leaf m create trunc => exact frame_vopen s tag leaf m create trunc
    | tempClose tag => exact frame_tempClose s tag
    | tempToPend tag => exact frame_tempToPend s tag
    | openNew tag cl owner => exact ha.elim
    | openUpgrade tag sid => exact frame_openUpgrade s tag sid
    | downgradeOpen sid new => exact frame_downgradeOpen s sid new
    | addLofs sid lo => exact ha.elim
    | removeLofs sid lsid => exact frame_removeLofs s sid lsid
    | unlockAllLofs sid lsid => exact frame_unlockAllLofs s sid lsid
    | lockSet sid lsid lk => exact frame_lockSet s sid lsid lk
    | finalize sid => exact ha.elim
    | ioBegin tag sid m holds => exact frame_ioBegin s tag sid m holds
    | ioEnd tag => exact frame_ioEnd s tag
    | flush => exact frame_flush s
    | setCur tag => exact frame_setCur s tag
    | proto p => exact frame_setProto s p

theorem invP_apply (s : State) (a : Act) (hs : InvS s) (h : InvP s) : InvP (apply s a) := by
  cases a with
  | dropClient cl => exact ite_elim (fun _ => h) fun _ => (frameP_dropClient s cl).inv h
  | ooSet oo => exact ite_elim (fun _ => h) fun _ => (frameP_ooSet s oo).inv h
  | loRegister cl key => exact ite_elim (fun _ => h) fun _ => (frameP_loRegister s cl key).inv h
  | loPrune id => exact ite_elim (fun _ => h) fun _ => (frameP_loPrune s id).inv h
  | openNew tag cl owner => exact ite_elim (fun _ => h) fun _ => invP_openNew s tag cl owner h
  | addLofs sid lo => exact ite_elim (fun _ => h) fun _ => (frameP_addLofs s sid lo).inv h
  | finalize sid => exact ite_elim (fun _ => h) fun _ => invP_finalize s sid hs h
  | _ => exact (frame_apply_common s _ trivial).p.inv h

/-- `InvS` is needed for `addLofs` only: the lock-owner file is added to the record found by
state ID, the guards are evaluated on that record. -/
theorem invL_apply (s : State) (a : Act) (hs : InvS s) (h : InvL s) : InvL (apply s a) := by
  cases a with
  | dropClient cl => exact ite_elim (fun _ => h) fun _ => (frameL_dropClient s cl).inv h
  | ooSet oo => exact ite_elim (fun _ => h) fun _ => (frameL_ooSet s oo).inv h
  | loRegister cl key => exact ite_elim (fun _ => h) fun _ => invL_loRegister s cl key h
  | loPrune id => exact ite_elim (fun _ => h) fun _ => invL_loPrune s id h
  | openNew tag cl owner => exact ite_elim (fun _ => h) fun _ => (frameL_openNew s tag cl owner).inv h
  | addLofs sid lo => exact ite_elim (fun _ => h) fun _ => invL_addLofs s sid lo hs h
  | finalize sid => exact ite_elim (fun _ => h) fun _ => (frameL_finalize s sid).inv h
  | _ => exact (frame_apply_common s _ trivial).l.inv h

theorem invR_apply (s : State) (a : Act) (h : InvR s) : InvR (apply s a) := by
  cases a with
  | dropClient cl => exact ite_elim (fun _ => h) fun _ => invR_dropClient s cl h
  | ooSet oo => exact ite_elim (fun _ => h) fun _ => invR_ooSet s oo h
  | loRegister cl key => exact ite_elim (fun _ => h) fun _ => invR_loRegister s cl key h
  | loPrune id => exact ite_elim (fun _ => h) fun _ => (frameR_loPrune s id).inv h
  | openNew tag cl owner => exact ite_elim (fun _ => h) fun _ => invR_openNew s tag cl owner h
  | addLofs sid lo => exact ite_elim (fun _ => h) fun _ => (frameR_addLofs s sid lo).inv h
  | finalize sid => exact ite_elim (fun _ => h) fun _ => (frameR_finalize s sid).inv h
  | _ => exact (frame_apply_common s _ trivial).r.inv h

end BbRe.Lemmas.NfsInvPLR
