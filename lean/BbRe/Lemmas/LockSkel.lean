/-
What the soundness proofs of the lock-skeleton checker (property C14) share: permutation and
renaming facts about the checker's list operations, ghost-free traces, `execA` on composite
statements in bind form, the one induction over the path semantics for every simulation
between the checker and a replay (`SimSpec`, `SimG`, `simG_all`, `simG_body`), and what a
successful `run` says about the counts of acquisitions and releases (`run_counts`).
`checker_sound` itself is in `Lemmas/LockSkelCtx.lean`. Core Lean only.
-/
import BbRe.Model.LockSkel

namespace BbRe.Lemmas.LockSkel
open BbRe.LockSkel

theorem insertS_perm (l : Nat) (h : List Nat) : (insertS l h).Perm (l :: h) := by
  induction h with
  | nil => exact List.Perm.refl _
  | cons x xs ih =>
    unfold insertS
    split
    · exact List.Perm.refl _
    · exact (List.Perm.cons x ih).trans (List.Perm.swap l x xs)

theorem addAll_perm (h xs : List Nat) : (addAll h xs).Perm (xs ++ h) := by
  induction xs with
  | nil => exact List.Perm.refl _
  | cons x xs ih =>
    show (insertS x (addAll h xs)).Perm (x :: (xs ++ h))
    exact (insertS_perm x _).trans (List.Perm.cons x ih)

theorem sortS_perm (xs : List Nat) : (sortS xs).Perm xs := by
  have := addAll_perm [] xs
  simpa [addAll, sortS] using this

theorem removeAll_perm : ∀ (xs h h' : List Nat), removeAll h xs = some h' → h.Perm (xs ++ h')
  | [], h, h', e => by
    simp only [removeAll, Option.some.injEq] at e
    subst e; exact List.Perm.refl _
  | x :: xs, h, h', e => by
    unfold removeAll at e
    split at e
    · rename_i hc
      have hm : x ∈ h := List.contains_iff_mem.mp hc
      exact (List.perm_cons_erase hm).trans (List.Perm.cons x (removeAll_perm xs _ _ e))
    · cases e

theorem removeAll_mem {xs h h' : List Nat} (e : removeAll h xs = some h') {z : Nat} (hz : z ∈ h') :
    z ∈ h :=
  (removeAll_perm _ _ _ e).mem_iff.mpr (List.mem_append_right _ hz)

theorem holdsClass_iff {h cs : List Nat} :
    holdsClass h cs = true ↔ ∃ l, l ∈ h ∧ cs.contains (gcls l) = true := by
  unfold holdsClass; exact List.any_eq_true

theorem mem_of_lookup {α : Type} (f : Nat) (b : α) :
    ∀ (l : List (Nat × α)), l.lookup f = some b → (f, b) ∈ l
  | [], e => by cases e
  | (k, x) :: rest, e => by
    rw [List.lookup_cons] at e
    split at e
    · rename_i hk
      cases e
      have : f = k := by simpa using hk
      subst this
      exact List.mem_cons_self
    · exact List.mem_cons_of_mem _ (mem_of_lookup f b rest e)

theorem renOk_mem {ren : List (Nat × Nat)} (hr : renOk ren = true) {a b : Nat}
    (hm : (a, b) ∈ ren) : gcls a = gcls b ∧ isGhost a = false ∧ isGhost b = false := by
  unfold renOk at hr
  have := List.all_eq_true.mp hr _ hm
  simp only [Bool.and_eq_true, beq_iff_eq, Bool.not_eq_true'] at this
  exact ⟨this.1.1, this.1.2, this.2⟩

theorem rn_cases (ren : List (Nat × Nat)) (l : Nat) : rn ren l = l ∨ (l, rn ren l) ∈ ren := by
  unfold rn
  split
  · rename_i l' hl; exact Or.inr (mem_of_lookup l l' ren hl)
  · exact Or.inl rfl

theorem rn_gcls {ren : List (Nat × Nat)} (hr : renOk ren = true) (l : Nat) :
    gcls (rn ren l) = gcls l := by
  rcases rn_cases ren l with h | h
  · rw [h]
  · exact (renOk_mem hr h).1.symm

theorem rn_isGhost {ren : List (Nat × Nat)} (hr : renOk ren = true) (l : Nat) :
    isGhost (rn ren l) = isGhost l := by
  rcases rn_cases ren l with h | h
  · rw [h]
  · rw [(renOk_mem hr h).2.1, (renOk_mem hr h).2.2]

/-- The lock an event operates on (directly or through a pile). -/
def evLock : Ev → Option Nat
  | .acq l => some l
  | .rel l => some l
  | .pacq _ l => some l
  | .prel _ l => some l
  | .need _ => none

/-- acq/rel events (plain or through a pile) never mention a ghost lock -/
def GhostFree (tr : List Ev) : Prop := ∀ e ∈ tr, ∀ l, evLock e = some l → isGhost l = false

theorem ghostFree_nil : GhostFree [] := by intro e he; cases he

theorem ghostFree_append {t1 t2 : List Ev} (h1 : GhostFree t1) (h2 : GhostFree t2) :
    GhostFree (t1 ++ t2) := by
  intro e he
  rcases List.mem_append.mp he with h | h
  · exact h1 e h
  · exact h2 e h

theorem ghostFree_single {e : Ev} (h : ∀ l, evLock e = some l → isGhost l = false) :
    GhostFree [e] := by
  intro e' he
  rw [List.mem_singleton] at he; subst he
  exact h

theorem ghostFree_acq {l : Nat} (hl : isGhost l = false) : GhostFree [.acq l] :=
  ghostFree_single (fun l' h => by simp only [evLock, Option.some.injEq] at h; subst h; exact hl)

theorem ghostFree_rel {l : Nat} (hl : isGhost l = false) : GhostFree [.rel l] :=
  ghostFree_single (fun l' h => by simp only [evLock, Option.some.injEq] at h; subst h; exact hl)

theorem ghostFree_pacq {p l : Nat} (hl : isGhost l = false) : GhostFree [.pacq p l] :=
  ghostFree_single (fun l' h => by simp only [evLock, Option.some.injEq] at h; subst h; exact hl)

theorem ghostFree_prel {p l : Nat} (hl : isGhost l = false) : GhostFree [.prel p l] :=
  ghostFree_single (fun l' h => by simp only [evLock, Option.some.injEq] at h; subst h; exact hl)

theorem ghostFree_need (cs : List Nat) : GhostFree [.need cs] :=
  ghostFree_single (fun l' h => by simp only [evLock] at h; cases h)

theorem ghostFree_prels (p : Nat) {xs : List Nat} (hx : ∀ l ∈ xs, isGhost l = false) :
    GhostFree (xs.map (Ev.prel p)) := by
  intro e he
  obtain ⟨l, hl, rfl⟩ := List.mem_map.mp he
  intro l' h
  simp only [evLock, Option.some.injEq] at h
  subst h; exact hx l hl

theorem evLock_rnEv (ren : List (Nat × Nat)) (e : Ev) :
    evLock (rnEv ren e) = (evLock e).map (rn ren) := by
  cases e <;> rfl

theorem ghostFree_rename {ren : List (Nat × Nat)} (hr : renOk ren = true) {t : List Ev}
    (h : GhostFree t) : GhostFree (t.map (rnEv ren)) := by
  intro e he l hl
  obtain ⟨e0, he0, rfl⟩ := List.mem_map.mp he
  rw [evLock_rnEv] at hl
  cases h0 : evLock e0 with
  | none => rw [h0] at hl; cases hl
  | some l0 =>
    rw [h0] at hl
    simp only [Option.map_some, Option.some.injEq] at hl
    subst hl
    rw [rn_isGhost hr]; exact h e0 he0 l0 h0

theorem run_append (h : List Nat) (t1 t2 : List Ev) :
    run h (t1 ++ t2) = (run h t1).bind (fun h1 => run h1 t2) := by
  induction t1 generalizing h with
  | nil => rfl
  | cons e t ih =>
    simp only [List.cons_append, run]
    cases stepH h e with
    | none => rfl
    | some h1 => exact ih h1

theorem run_append_some {h h1 h2 : List Nat} {t1 t2 : List Ev}
    (e1 : run h t1 = some h1) (e2 : run h1 t2 = some h2) : run h (t1 ++ t2) = some h2 := by
  rw [run_append, e1]; exact e2

theorem map_erase_perm (r : Nat → Nat) {l : Nat} {h : List Nat} (hm : l ∈ h) :
    ((h.map r).erase (r l)).Perm ((h.erase l).map r) := by
  have p1 : (h.map r).Perm (r l :: (h.erase l).map r) := by
    simpa using List.Perm.map r (List.perm_cons_erase hm)
  have := List.Perm.erase (r l) p1
  simpa using this

theorem run_prels_eq_removeAll (p : Nat) :
    ∀ (xs h : List Nat), run h (xs.map (Ev.prel p)) = removeAll h xs
  | [], h => rfl
  | x :: xs, h => by
    simp only [List.map_cons, run, stepH, removeAll]
    by_cases hc : h.contains x = true
    · rw [if_pos hc, if_pos hc]; exact run_prels_eq_removeAll p xs _
    · rw [if_neg hc, if_neg hc]

/-! ## The checker on composite statements, in bind form

`execA` and `bindAll` are written with nested `match`es on `Except`; these equations give each
composite case as a chain of `Except.bind`, so that one inversion lemma (`bind_ok`) opens them. -/

theorem bind_ok {ε α β : Type} {x : Except ε α} {f : α → Except ε β} {R : β}
    (h : x.bind f = .ok R) : ∃ r, x = .ok r ∧ f r = .ok R := by
  cases x with
  | error e => cases h
  | ok r => exact ⟨r, rfl, h⟩

theorem bindAll_cons (o : Out) (s : AS) (rest : Outs) (k : Out → AS → Res) :
    bindAll ((o, s) :: rest) k =
      (k o s).bind fun r1 => (bindAll rest k).bind fun r2 => .ok (union r1 r2) := by
  simp only [bindAll]
  cases k o s with
  | error e => rfl
  | ok r1 => cases bindAll rest k <;> rfl

section ExecA
variable (sig : Sig) (s : AS)

theorem execA_seq (a b : Stmt) : execA sig (.seq a b) s = (execA sig a s).bind fun r =>
    bindAll r (fun o s1 => if o = .norm then execA sig b s1 else .ok [(o, s1)]) := by
  simp only [execA]; cases execA sig a s <;> rfl

theorem execA_choice (t : Nat) (a b : Stmt) : execA sig (.choice t a b) s =
    (execA sig a s).bind fun r1 => (execA sig b s).bind fun r2 => .ok (union r1 r2) := by
  simp only [execA]
  cases execA sig a s with
  | error e => rfl
  | ok r1 => cases execA sig b s <;> rfl

theorem execA_loop (ce : Bool) (a : Stmt) :
    execA sig (.loop ce a) s = (execA sig a s).bind (loopOuts ce s) := by
  simp only [execA]; cases execA sig a s <;> rfl

/-- What `fin _ d` does with an outcome of its body. -/
def finK (sig : Sig) (d : Stmt) (o : Out) (s1 : AS) : Res :=
  if o = .pnc then .ok [(.pnc, s1)]
  else (execA sig d s1).bind fun r2 => .ok (r2.map (fun x => (if x.1 = .pnc then Out.pnc else o, x.2)))

theorem execA_fin (a d : Stmt) :
    execA sig (.fin a d) s = (execA sig a s).bind fun r => bindAll r (finK sig d) := by
  have hk : (fun o s1 => if o = .pnc then .ok [(.pnc, s1)]
      else match execA sig d s1 with
        | .error e => .error e
        | .ok r2 => .ok (r2.map (fun x => (if x.1 = .pnc then Out.pnc else o, x.2)))) = finK sig d := by
    funext o s1
    unfold finK
    split
    · rfl
    · cases execA sig d s1 <;> rfl
  simp only [execA]
  cases execA sig a s with
  | error e => rfl
  | ok r => exact congrArg (bindAll r) hk

theorem execA_scope (a : Stmt) : execA sig (.scope a) s =
    (execA sig a s).bind fun r => .ok (r.map (fun x => (unscope x.1, x.2))) := by
  simp only [execA]; cases execA sig a s <;> rfl

theorem execA_block (a : Stmt) : execA sig (.block a) s =
    (execA sig a s).bind fun r => .ok (r.map (fun x => (unblock x.1, x.2))) := by
  simp only [execA]; cases execA sig a s <;> rfl

end ExecA

theorem mem_insertNew {y x : Out × AS} {l : Outs} : y ∈ insertNew x l ↔ y = x ∨ y ∈ l := by
  unfold insertNew
  split
  · rename_i hc
    have hm : x ∈ l := List.contains_iff_mem.mp hc
    constructor
    · exact Or.inr
    · rintro (rfl | h)
      · exact hm
      · exact h
  · exact List.mem_cons

theorem mem_union {y : Out × AS} {a b : Outs} : y ∈ union a b ↔ y ∈ a ∨ y ∈ b := by
  induction a with
  | nil => simp [union]
  | cons x xs ih =>
    show y ∈ insertNew x (union xs b) ↔ _
    rw [mem_insertNew, ih, List.mem_cons, or_assoc]

theorem bindAll_mem {k : Out → AS → Res} : ∀ {r : Outs} {R : Outs} {o : Out} {s : AS},
    bindAll r k = .ok R → (o, s) ∈ r → ∃ R1, k o s = .ok R1 ∧ ∀ x, x ∈ R1 → x ∈ R
  | [], _, _, _, _, hm => by cases hm
  | (o0, s0) :: rest, R, o, s, he, hm => by
    rw [bindAll_cons] at he
    obtain ⟨r1, h1, he⟩ := bind_ok he
    obtain ⟨r2, h2, he⟩ := bind_ok he
    cases he
    rcases List.mem_cons.mp hm with heq | hm'
    · cases heq
      exact ⟨r1, h1, fun x hx => mem_union.mpr (Or.inl hx)⟩
    · obtain ⟨R1, e1, sub⟩ := bindAll_mem h2 hm'
      exact ⟨R1, e1, fun x hx => mem_union.mpr (Or.inr (sub x hx))⟩

/-- Invariant of the control state along checked paths: no pile contains a ghost lock. -/
def PilesOK (c : CS) : Prop := ∀ kv ∈ c.piles, ∀ l ∈ kv.2, isGhost l = false

theorem getP_mem : ∀ (ps : List (Nat × List Nat)) (p l : Nat), l ∈ getP ps p →
    ∃ kv, kv ∈ ps ∧ l ∈ kv.2
  | [], p, l, h => by cases h
  | (k, x) :: r, p, l, h => by
    unfold getP at h
    split at h
    · exact ⟨(k, x), List.mem_cons_self, h⟩
    · obtain ⟨kv, hkv, hl⟩ := getP_mem r p l h
      exact ⟨kv, List.mem_cons_of_mem _ hkv, hl⟩

theorem setP_mem : ∀ (ps : List (Nat × List Nat)) (p : Nat) (xs : List Nat) (kv : Nat × List Nat),
    kv ∈ setP ps p xs → kv ∈ ps ∨ kv = (p, xs)
  | [], p, xs, kv, h => by
    unfold setP at h
    split at h
    · cases h
    · exact Or.inr (List.mem_singleton.mp h)
  | (k, x) :: r, p, xs, kv, h => by
    unfold setP at h
    by_cases h1 : p < k
    · rw [if_pos h1] at h
      split at h
      · exact Or.inl h
      · rcases List.mem_cons.mp h with h | h
        · exact Or.inr h
        · exact Or.inl h
    · rw [if_neg h1] at h
      by_cases h2 : p = k
      · rw [if_pos h2] at h
        split at h
        · exact Or.inl (List.mem_cons_of_mem _ h)
        · rcases List.mem_cons.mp h with h | h
          · exact Or.inr h
          · exact Or.inl (List.mem_cons_of_mem _ h)
      · rw [if_neg h2] at h
        rcases List.mem_cons.mp h with h | h
        · exact Or.inl (h ▸ List.mem_cons_self)
        · rcases setP_mem r p xs kv h with h | h
          · exact Or.inl (List.mem_cons_of_mem _ h)
          · exact Or.inr h

theorem pilesOK_get {c : CS} (hc : PilesOK c) (p : Nat) :
    ∀ l ∈ getP c.piles p, isGhost l = false := by
  intro l hl
  obtain ⟨kv, hkv, hl'⟩ := getP_mem _ _ _ hl
  exact hc kv hkv l hl'

theorem pilesOK_set {c : CS} (hc : PilesOK c) (p : Nat) {xs : List Nat}
    (hxs : ∀ l ∈ xs, isGhost l = false) :
    PilesOK { c with piles := setP c.piles p xs } := by
  intro kv hkv l hl
  rcases setP_mem _ _ _ _ hkv with h | h
  · exact hc kv h l hl
  · subst h; exact hxs l hl

theorem loopOuts_ok {ce : Bool} {s : AS} {r R : Outs} (he : loopOuts ce s r = .ok R) :
    (∀ o a, (o, a) ∈ r → (o = .norm ∨ o = .cont) → a = s) ∧
    (ce = true → (Out.norm, s) ∈ R) ∧
    (∀ a, (Out.brk, a) ∈ r → (Out.norm, a) ∈ R) ∧
    (∀ a, (Out.ret, a) ∈ r → (Out.ret, a) ∈ R) := by
  unfold loopOuts at he
  split at he
  · rename_i hall
    cases he
    rw [List.all_eq_true] at hall
    refine ⟨?_, ?_, ?_, ?_⟩
    · intro o a hm ho
      have := hall _ hm
      rcases ho with rfl | rfl <;> simpa using this
    · intro hce; subst hce
      exact mem_union.mpr (Or.inl (List.mem_singleton.mpr rfl))
    · intro a hm
      exact mem_union.mpr (Or.inr (List.mem_filterMap.mpr ⟨_, hm, rfl⟩))
    · intro a hm
      exact mem_union.mpr (Or.inr (List.mem_filterMap.mpr ⟨_, hm, rfl⟩))
  · cases he

/-! ## One induction over `sem` for every simulation between the checker and a replay

A simulation is given by a type of replay states, how a trace advances a replay state (`Adv`,
closed under `[]` and `++`), the relation `Rel` between a replay state and the checker's
abstract state, and a side condition `H` that travels with (statement, abstract start state)
and decomposes along the checker's own recursion. `balSpec` (`Lemmas/LockSkelCtx.lean`, lock
balance) and `edgeSpec` (`Lemmas/LockSkelEdges.lean`, which adds where the acquired-while-holding
pairs go) are the instances; the first proves the leaves, the second refines them. -/

structure SimSpec (sig : Sig) where
  St : Type
  Adv : St → List Ev → St → Prop
  Rel : St → List Nat → CS → Prop
  H : Stmt → AS → Prop
  adv_nil : ∀ st, Adv st [] st
  adv_append : ∀ {st st1 st2 t1 t2}, Adv st t1 st1 → Adv st1 t2 st2 → Adv st (t1 ++ t2) st2
  H_seq : ∀ {a b s r}, H (.seq a b) s → execA sig a s = .ok r →
    H a s ∧ ∀ s1, (Out.norm, s1) ∈ r → H b s1
  H_choice : ∀ {t a b s}, H (.choice t a b) s → H a s ∧ H b s
  H_ifFlag : ∀ {v a b s}, H (.ifFlag v a b) s → H (if getF s.c.flags v then a else b) s
  H_loop : ∀ {ce a s}, H (.loop ce a) s → H a s
  H_scope : ∀ {a s}, H (.scope a) s → H a s
  H_block : ∀ {a s}, H (.block a) s → H a s
  H_fin : ∀ {a d s r}, H (.fin a d) s → execA sig a s = .ok r →
    H a s ∧ ∀ o s1, (o, s1) ∈ r → o ≠ .pnc → H d s1

section SimG
variable {sig : Sig} {C : Nat → List Ev → Prop}

/-- The symbolic execution of `s` covers every non-panicking concrete path of `s`. -/
def SimG (S : SimSpec sig) (C : Nat → List Ev → Prop) (s : Stmt) : Prop :=
  ∀ (ha : List Nat) (c : CS) (R : Outs) (st : S.St) (tr : List Ev) (o : Out) (c' : CS),
    S.H s ⟨ha, c⟩ → execA sig s ⟨ha, c⟩ = .ok R → S.Rel st ha c → sem C s c tr o c' →
    o = .pnc ∨ ∃ st' ha', S.Adv st tr st' ∧ (o, (⟨ha', c'⟩ : AS)) ∈ R ∧ S.Rel st' ha' c'

theorem simG_seq {S : SimSpec sig} {a b : Stmt} (ia : SimG S C a) (ib : SimG S C b) :
    SimG S C (.seq a b) := by
  intro ha c R st tr o c' hH he hrel hs
  rw [execA_seq] at he
  obtain ⟨r, hra, he⟩ := bind_ok he
  obtain ⟨hHa, hHb⟩ := S.H_seq hH hra
  simp only [sem] at hs
  rcases hs with ⟨c1, t1, t2, s1, s2, rfl⟩ | ⟨hne, s1⟩
  · rcases ia ha c r st t1 .norm c1 hHa hra hrel s1 with hpn | ⟨st1, ha1, a1, m1, rel1⟩
    · cases hpn
    · obtain ⟨R1, k1, sub⟩ := bindAll_mem he m1
      rw [if_pos rfl] at k1
      rcases ib ha1 c1 R1 st1 t2 o c' (hHb _ m1) k1 rel1 s2 with hpn | ⟨st2, ha2, a2, m2, rel2⟩
      · exact Or.inl hpn
      · exact Or.inr ⟨st2, ha2, S.adv_append a1 a2, sub _ m2, rel2⟩
  · rcases ia ha c r st tr o c' hHa hra hrel s1 with hpn | ⟨st1, ha1, a1, m1, rel1⟩
    · exact Or.inl hpn
    · obtain ⟨R1, k1, sub⟩ := bindAll_mem he m1
      rw [if_neg hne] at k1
      cases k1
      exact Or.inr ⟨st1, ha1, a1, sub _ (List.mem_singleton.mpr rfl), rel1⟩

theorem simG_choice {S : SimSpec sig} {a b : Stmt} (tag : Nat) (ia : SimG S C a)
    (ib : SimG S C b) : SimG S C (.choice tag a b) := by
  intro ha c R st tr o c' hH he hrel hs
  rw [execA_choice] at he
  obtain ⟨r1, hr1, he⟩ := bind_ok he
  obtain ⟨r2, hr2, he⟩ := bind_ok he
  cases he
  obtain ⟨hHa, hHb⟩ := S.H_choice hH
  simp only [sem] at hs
  rcases hs with s1 | s2
  · rcases ia ha c r1 st tr o c' hHa hr1 hrel s1 with hpn | ⟨st1, ha1, a1, m1, rel1⟩
    · exact Or.inl hpn
    · exact Or.inr ⟨st1, ha1, a1, mem_union.mpr (Or.inl m1), rel1⟩
  · rcases ib ha c r2 st tr o c' hHb hr2 hrel s2 with hpn | ⟨st1, ha1, a1, m1, rel1⟩
    · exact Or.inl hpn
    · exact Or.inr ⟨st1, ha1, a1, mem_union.mpr (Or.inr m1), rel1⟩

theorem simG_ifFlag {S : SimSpec sig} {a b : Stmt} (v : Nat) (ia : SimG S C a) (ib : SimG S C b) :
    SimG S C (.ifFlag v a b) := by
  intro ha c R st tr o c' hH he hrel hs
  have hH' := S.H_ifFlag hH
  simp only [execA] at he
  simp only [sem] at hs
  by_cases hf : getF c.flags v = true
  · rw [if_pos hf] at he hs hH'
    exact ia ha c R st tr o c' hH' he hrel hs
  · rw [if_neg hf] at he hs hH'
    exact ib ha c R st tr o c' hH' he hrel hs

theorem simG_scope {S : SimSpec sig} {a : Stmt} (ia : SimG S C a) : SimG S C (.scope a) := by
  intro ha c R st tr o c' hH he hrel hs
  rw [execA_scope] at he
  obtain ⟨r, hr, he⟩ := bind_ok he
  cases he
  simp only [sem] at hs
  obtain ⟨o1, s1, rfl⟩ := hs
  rcases ia ha c r st tr o1 c' (S.H_scope hH) hr hrel s1 with hpn | ⟨st1, ha1, a1, m1, rel1⟩
  · subst hpn; exact Or.inl rfl
  · exact Or.inr ⟨st1, ha1, a1, List.mem_map.mpr ⟨_, m1, rfl⟩, rel1⟩

theorem simG_block {S : SimSpec sig} {a : Stmt} (ia : SimG S C a) : SimG S C (.block a) := by
  intro ha c R st tr o c' hH he hrel hs
  rw [execA_block] at he
  obtain ⟨r, hr, he⟩ := bind_ok he
  cases he
  simp only [sem] at hs
  obtain ⟨o1, s1, rfl⟩ := hs
  rcases ia ha c r st tr o1 c' (S.H_block hH) hr hrel s1 with hpn | ⟨st1, ha1, a1, m1, rel1⟩
  · subst hpn; exact Or.inl rfl
  · exact Or.inr ⟨st1, ha1, a1, List.mem_map.mpr ⟨_, m1, rfl⟩, rel1⟩

theorem simG_fin {S : SimSpec sig} {a d : Stmt} (ia : SimG S C a) (id : SimG S C d) :
    SimG S C (.fin a d) := by
  intro ha c R st tr o c' hH he hrel hs
  rw [execA_fin] at he
  obtain ⟨r, hr, he⟩ := bind_ok he
  obtain ⟨hHa, hHd⟩ := S.H_fin hH hr
  simp only [sem] at hs
  obtain ⟨c1, t1, o1, s1, hcase⟩ := hs
  rcases hcase with ⟨_, _, rfl, _⟩ | ⟨hne, t2, o2, s2, rfl, rfl⟩
  · exact Or.inl rfl
  · rcases ia ha c r st t1 o1 c1 hHa hr hrel s1 with hpn | ⟨st1, ha1, a1, m1, rel1⟩
    · exact absurd hpn hne
    · obtain ⟨R1, k1, sub⟩ := bindAll_mem he m1
      rw [finK, if_neg hne] at k1
      obtain ⟨r2, hr2, k1⟩ := bind_ok k1
      cases k1
      rcases id ha1 c1 r2 st1 t2 o2 c' (hHd _ _ m1 hne) hr2 rel1 s2 with
        hpn | ⟨st2, ha2, a2, m2, rel2⟩
      · subst hpn; exact Or.inl rfl
      · exact Or.inr ⟨st2, ha2, S.adv_append a1 a2, sub _ (List.mem_map.mpr ⟨_, m2, rfl⟩), rel2⟩

theorem simG_loop {S : SimSpec sig} {a : Stmt} (ce : Bool) (ia : SimG S C a) :
    SimG S C (.loop ce a) := by
  intro ha c R st tr o c' hH he hrel hs
  rw [execA_loop] at he
  obtain ⟨r, hr, he⟩ := bind_ok he
  have hHa := S.H_loop hH
  obtain ⟨hinv, hnorm, hbrk, hret⟩ := loopOuts_ok he
  simp only [sem] at hs
  obtain ⟨n, hn⟩ := hs
  clear he
  induction n generalizing st tr with
  | zero =>
    simp only [iter] at hn
    obtain ⟨hce, rfl, rfl, rfl⟩ := hn
    exact Or.inr ⟨st, ha, S.adv_nil st, hnorm hce, hrel⟩
  | succ n ih =>
    simp only [iter] at hn
    obtain ⟨t1, o1, c1, s1, hcase⟩ := hn
    rcases ia ha c r st t1 o1 c1 hHa hr hrel s1 with hpn | ⟨st1, ha1, a1, m1, rel1⟩
    · subst hpn
      rcases hcase with ⟨hx | hx, _⟩ | ⟨hx, _⟩ | ⟨_, _, rfl, _⟩
      · cases hx
      · cases hx
      · cases hx
      · exact Or.inl rfl
    · rcases hcase with ⟨hnc, t2, it2, rfl⟩ | ⟨rfl, rfl, rfl, rfl⟩ | ⟨hrp, rfl, rfl, rfl⟩
      · have hs := hinv o1 _ m1 hnc
        injection hs with hs1 hs2
        subst hs1 hs2
        rcases ih st1 t2 rel1 it2 with hpn | ⟨st2, ha2, a2, m2, rel2⟩
        · exact Or.inl hpn
        · exact Or.inr ⟨st2, ha2, S.adv_append a1 a2, m2, rel2⟩
      · exact Or.inr ⟨st1, ha1, a1, hbrk _ m1, rel1⟩
      · rcases hrp with rfl | rfl
        · exact Or.inr ⟨st1, ha1, a1, hret _ m1, rel1⟩
        · exact Or.inl rfl

theorem simG_panic {S : SimSpec sig} : SimG S C .panic := by
  intro ha c R st tr o c' hH he hrel hs
  simp only [sem] at hs
  exact Or.inl hs.2.1

theorem simG_unsupported {S : SimSpec sig} (w : Nat) : SimG S C (.unsupported w) := by
  intro ha c R st tr o c' hH he hrel hs
  cases he

/-- Statements that the instances have to treat themselves. -/
def IsLeaf : Stmt → Prop
  | .seq .. | .choice .. | .loop .. | .fin .. | .scope .. | .block .. | .ifFlag .. | .panic
  | .unsupported .. => False
  | _ => True

/-- The simulation holds for every statement if it holds for the leaves. -/
theorem simG_all {S : SimSpec sig} (hleaf : ∀ s, IsLeaf s → SimG S C s) (s : Stmt) :
    SimG S C s := by
  induction s with
  | seq a b ia ib => exact simG_seq ia ib
  | choice tag a b ia ib => exact simG_choice tag ia ib
  | loop ce body ib => exact simG_loop ce ib
  | fin body d ib id => exact simG_fin ib id
  | scope s is => exact simG_scope is
  | block s is => exact simG_block is
  | ifFlag v a b ia ib => exact simG_ifFlag v ia ib
  | panic => exact simG_panic
  | unsupported w => exact simG_unsupported w
  | _ => exact hleaf _ trivial

/-- A checked body, simulated from its entry requirement, ends in its summary's post state. -/
theorem simG_body {S : SimSpec sig} {g : Nat} {body : Stmt} {req post : List Nat}
    (hsim : SimG S C body) (hchk : checkFn sig g body = true)
    (hsig : sig.get g = some (req, post)) {st : S.St} (hH : S.H body ⟨sortS req, CS.init⟩)
    (hrel : S.Rel st (sortS req) CS.init) {tr : List Ev} {o : Out} {c' : CS}
    (hsem : sem C body CS.init tr o c') (ho : o = .norm ∨ o = .ret) :
    ∃ st', S.Adv st tr st' ∧ S.Rel st' (sortS post) c' := by
  unfold checkFn at hchk
  rw [hsig] at hchk
  simp only at hchk
  split at hchk
  · cases hchk
  · rename_i r hr
    rcases hsim (sortS req) CS.init r st tr o c' hH hr hrel hsem with hpn | ⟨st', ha', adv, m, rel⟩
    · subst hpn; rcases ho with ho | ho <;> cases ho
    · have hfin := (List.all_eq_true.mp hchk) _ m
      unfold okFinal at hfin
      have hheld : ha' = sortS post := by
        rcases ho with rfl | rfl <;> simpa using hfin
      subst hheld
      exact ⟨st', adv, rel⟩

theorem fnSem_body {prog : Prog} {n f : Nat} {tr : List Ev} (h : fnSem prog (n + 1) f tr) :
    ∃ body, (f, body) ∈ prog ∧
      ∃ o c', sem (fnSem prog n) body CS.init tr o c' ∧ (o = .norm ∨ o = .ret) := by
  simp only [fnSem] at h
  obtain ⟨body, hb, h⟩ := h
  exact ⟨body, mem_of_lookup f body prog hb, h⟩

theorem exec_body {prog : Prog} {f : Nat} {tr : List Ev} (he : Exec prog f tr) :
    ∃ n body, (f, body) ∈ prog ∧
      ∃ o c', sem (fnSem prog n) body CS.init tr o c' ∧ (o = .norm ∨ o = .ret) := by
  obtain ⟨n, hn⟩ := he
  cases n with
  | zero => cases hn
  | succ n => exact ⟨n, fnSem_body hn⟩

end SimG

theorem callA_ok {sig : Sig} {g : Nat} {ren : List (Nat × Nat)} {held frame h' : List Nat}
    (he : callA sig g ren held = .ok (frame, h')) :
    ∃ req post, sig.get g = some (req, post) ∧ renOk ren = true ∧
      removeAll held ((req.filter (fun l => !isGhost l)).map (rn ren)) = some frame ∧
      (∀ gh ∈ req.filter isGhost, holdsClass frame [gcls gh] = true) ∧
      h' = addAll frame ((post.filter (fun l => !isGhost l)).map (rn ren)) := by
  unfold callA at he
  split at he
  · cases he
  · rename_i req post hsig
    by_cases hr : renOk ren = true
    · simp only [hr, Bool.not_true, Bool.false_eq_true, if_false] at he
      split at he
      · cases he
      · rename_i fr hrem
        split at he
        · rename_i hall
          simp only [Except.ok.injEq, Prod.mk.injEq] at he
          obtain ⟨rfl, rfl⟩ := he
          exact ⟨req, post, hsig, hr, hrem, fun gh hgh => List.all_eq_true.mp hall gh hgh, rfl⟩
        · cases he
    · have : renOk ren = false := eq_false_of_ne_true hr
      simp only [this, Bool.not_false, if_true] at he
      cases he

theorem pilesOK_init : PilesOK CS.init := by
  intro kv hkv; cases hkv

theorem consistent_nil (sig : Sig) : consistent sig [] = true := rfl

theorem consistent_cons {sig : Sig} {f : Nat} {b : Stmt} {rest : Prog}
    (h1 : checkFn sig f b = true) (h2 : consistent sig rest = true) :
    consistent sig ((f, b) :: rest) = true := by
  simp only [consistent, List.all_cons, Bool.and_eq_true] at h2 ⊢
  exact ⟨h1, h2⟩

theorem consistent_mem {sig : Sig} {prog : Prog} (hc : consistent sig prog = true) {g : Nat} {body : Stmt}
    (hm : (g, body) ∈ prog) : checkFn sig g body = true := by
  unfold consistent at hc
  exact (List.all_eq_true.mp hc) _ hm

theorem exec_sig (sig : Sig) (prog : Prog) (hc : consistent sig prog = true)
    {f : Nat} {tr : List Ev} (he : Exec prog f tr) : ∃ req post, sig.get f = some (req, post) := by
  obtain ⟨n, body, hm, _⟩ := exec_body he
  have hchk := consistent_mem hc hm
  unfold checkFn at hchk
  split at hchk
  · cases hchk
  · rename_i req post hsig
    exact ⟨req, post, hsig⟩

/-- event `e` acquires lock `l` (directly or through a pile) -/
def isAcq (l : Nat) : Ev → Bool
  | .acq k => k == l
  | .pacq _ k => k == l
  | _ => false

/-- event `e` releases lock `l` (directly or through a pile) -/
def isRel (l : Nat) : Ev → Bool
  | .rel k => k == l
  | .prel _ k => k == l
  | _ => false

def acqs (l : Nat) (tr : List Ev) : Nat := tr.countP (isAcq l)
def rels (l : Nat) (tr : List Ev) : Nat := tr.countP (isRel l)

/-- no prefix of the trace releases `l` more often than it was held initially plus acquired -/
def NeverUnderflows (h : List Nat) (tr : List Ev) : Prop :=
  ∀ p, p <+: tr → ∀ l, rels l p ≤ h.count l + acqs l p

theorem count_rel_step {k : Nat} (l : Nat) {h : List Nat} (hm : k ∈ h) :
    (h.erase k).count l + (if (k == l) = true then 1 else 0) = h.count l := by
  by_cases hk : k = l
  · subst hk
    have hpos : 0 < h.count k := List.count_pos_iff.mpr hm
    rw [List.count_erase_self]
    simp; omega
  · have hne : ¬ (l = k) := fun h => hk h.symm
    rw [List.count_erase_of_ne hne]
    simp [hk]

/-- One event changes the count of `l` by what it acquires minus what it releases. -/
theorem stepH_count {h h1 : List Nat} {e : Ev} (hs : stepH h e = some h1) (l : Nat) :
    h1.count l + (if isRel l e then 1 else 0) = h.count l + (if isAcq l e then 1 else 0) := by
  cases e with
  | acq k | pacq _ k => cases hs; simp [isRel, isAcq, List.count_cons]
  | rel k | prel _ k =>
    simp only [stepH] at hs
    split at hs
    · cases hs
      simpa [isRel, isAcq] using count_rel_step l (List.contains_iff_mem.mp ‹_›)
    · cases hs
  | need cs =>
    simp only [stepH] at hs
    split at hs
    · cases hs; simp [isRel, isAcq]
    · cases hs

theorem run_count : ∀ (tr : List Ev) (h h' : List Nat), run h tr = some h' →
    ∀ l, h'.count l + rels l tr = h.count l + acqs l tr
  | [], h, h', e, l => by cases e; rfl
  | ev :: t, h, h', e, l => by
    simp only [run] at e
    cases hs : stepH h ev with
    | none => rw [hs] at e; cases e
    | some h1 =>
      rw [hs] at e
      have ih := run_count t h1 h' e l
      have st := stepH_count hs l
      simp only [rels, acqs, List.countP_cons] at ih ⊢
      omega

theorem run_counts (h h' : List Nat) (tr : List Ev) (hr : run h tr = some h') :
    NeverUnderflows h tr ∧ ∀ l, h'.count l + rels l tr = h.count l + acqs l tr := by
  refine ⟨?_, run_count tr h h' hr⟩
  intro p ⟨s, hps⟩ l
  subst hps
  rw [run_append] at hr
  cases hp : run h p with
  | none => rw [hp] at hr; cases hr
  | some h1 =>
    have := run_count p h h1 hp l
    omega

end BbRe.Lemmas.LockSkel
