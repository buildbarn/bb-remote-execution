import BbRe.Spec.ByteLocks
/-!
# Helper lemmas for C20: the per-byte abstraction `abs` and the invariant `WF`
-/
namespace BbRe.Lemmas.BRL
open BbRe.BRL BbRe.Spec.ByteLocks

@[simp] theorem abs_nil (o b : Nat) : abs [] o b = none := rfl

theorem abs_cons (e : Lock) (ls : List Lock) (o b : Nat) :
    abs (e :: ls) o b = if Covers e o b then some e.ty else abs ls o b := rfl

theorem abs_append (xs ys : List Lock) (o b : Nat) :
    abs (xs ++ ys) o b = (abs xs o b).orElse (fun _ => abs ys o b) := by
  induction xs with
  | nil => simp
  | cons e xs ih =>
    simp only [List.cons_append, abs_cons]
    split <;> simp [ih]

/-- An entry that does not cover the byte can be left out anywhere. -/
theorem abs_skip {s : Lock} {o b : Nat} (h : ¬ Covers s o b) (A R : List Lock) :
    abs (A ++ s :: R) o b = abs (A ++ R) o b := by
  rw [abs_append, abs_cons, if_neg h, ← abs_append]

/-- `abs` returns the type of some covering entry. -/
theorem abs_some_mem {ls : List Lock} {o b : Nat} {t : Ty} (h : abs ls o b = some t) :
    ∃ e ∈ ls, Covers e o b ∧ e.ty = t := by
  induction ls with
  | nil => simp at h
  | cons e ls ih =>
    rw [abs_cons] at h
    split at h
    · exact ⟨e, by simp, by assumption, by simpa using h⟩
    · obtain ⟨e', h1, h2⟩ := ih h
      exact ⟨e', by simp [h1], h2⟩

/-- `abs` is `none` exactly when no entry of the owner covers the byte. -/
theorem abs_eq_none_iff {ls : List Lock} {o b : Nat} :
    abs ls o b = none ↔ ∀ e ∈ ls, ¬ Covers e o b := by
  induction ls with
  | nil => simp
  | cons e ls ih =>
    rw [abs_cons]
    by_cases h : Covers e o b
    · rw [if_pos h]
      exact ⟨fun h' => (by cases h'), fun h' => absurd h (h' e (by simp))⟩
    · rw [if_neg h, ih]
      constructor
      · intro h' x hx
        simp only [List.mem_cons] at hx
        rcases hx with rfl | hx
        · exact h
        · exact h' x hx
      · exact fun h' x hx => h' x (by simp [hx])

/-- Entries of other owners are invisible to `abs`. -/
theorem abs_filter_owner (ls : List Lock) (o b : Nat) (p : Lock → Bool)
    (hp : ∀ e, e.owner = o → p e = true) :
    abs (ls.filter p) o b = abs ls o b := by
  induction ls with
  | nil => rfl
  | cons e ls ih =>
    by_cases h : p e = true
    · simp only [List.filter_cons_of_pos h, abs_cons, ih]
    · have : ¬ Covers e o b := fun hc => h (hp e hc.1)
      simp only [List.filter_cons_of_neg h, abs_cons, ih, this, if_false]

/-! ## `WF` as one `Pairwise` relation -/

/-- The relation between an earlier entry `a` and a later entry `b`. -/
def Rel (a b : Lock) : Prop :=
  a.start ≤ b.start ∧
  (a.owner = b.owner → a.stop ≤ b.start ∧ (a.ty = b.ty → a.stop < b.start)) ∧
  (a.owner ≠ b.owner → a.start < b.stop → b.start < a.stop → a.ty = .shared ∧ b.ty = .shared)

/-- Per-entry part of `WF`. -/
def Ok (e : Lock) : Prop := e.start < e.stop ∧ e.ty ≠ .unlocked

theorem wf_iff (ls : List Lock) : WF ls ↔ (∀ e ∈ ls, Ok e) ∧ ls.Pairwise Rel := by
  unfold Rel Ok
  simp only [List.pairwise_and_iff]
  constructor
  · intro h
    exact ⟨fun e he => ⟨h.nonempty e he, h.locked e he⟩, h.sorted, h.own, h.cross⟩
  · intro ⟨h1, h2, h3, h4⟩
    exact ⟨h2, fun e he => (h1 e he).1, fun e he => (h1 e he).2, h3, h4⟩

theorem wf_nil : WF [] := by
  constructor <;> simp

/-- Order-free form of the pairwise part: any two members with `x.start <
y.start` are related. -/
theorem rel_of_mem_of_lt {ls : List Lock} (hp : ls.Pairwise Rel) {x y : Lock}
    (hx : x ∈ ls) (hy : y ∈ ls) (hlt : x.start < y.start) : Rel x y := by
  induction ls with
  | nil => simp at hx
  | cons a ls ih =>
    rw [List.pairwise_cons] at hp
    simp only [List.mem_cons] at hx hy
    rcases hx with rfl | hx <;> rcases hy with rfl | hy
    · omega
    · exact hp.1 _ hy
    · have := (hp.1 _ hx).1; omega
    · exact ih hp.2 hx hy

/-- Two members of different owners sharing a byte are both shared. -/
theorem cross_of_mem {ls : List Lock} (hp : ls.Pairwise Rel) {x y : Lock}
    (hx : x ∈ ls) (hy : y ∈ ls) (hne : x.owner ≠ y.owner)
    (h1 : x.start < y.stop) (h2 : y.start < x.stop) : x.ty = .shared ∧ y.ty = .shared := by
  induction ls with
  | nil => simp at hx
  | cons a ls ih =>
    rw [List.pairwise_cons] at hp
    simp only [List.mem_cons] at hx hy
    rcases hx with rfl | hx <;> rcases hy with rfl | hy
    · exact absurd rfl hne
    · exact (hp.1 _ hy).2.2 hne h1 h2
    · exact ((hp.1 _ hx).2.2 (Ne.symm hne) h2 h1).symm
    · exact ih hp.2 hx hy

/-- Under the invariant, at most one entry of an owner covers a byte, so `abs`
is exactly "some entry of `o` of type `t` covers `b`". -/
theorem abs_eq_some_iff {ls : List Lock} (hok : ∀ e ∈ ls, Ok e) (hp : ls.Pairwise Rel)
    {o b : Nat} {t : Ty} :
    abs ls o b = some t ↔ ∃ e ∈ ls, Covers e o b ∧ e.ty = t := by
  constructor
  · exact abs_some_mem
  · intro ⟨e, he, hc, ht⟩
    induction ls with
    | nil => simp at he
    | cons a ls ih =>
      rw [List.pairwise_cons] at hp
      rw [abs_cons]
      simp only [List.mem_cons] at he
      rcases he with rfl | he
      · simp [hc, ht]
      · split
        · rename_i hca
          have := (hp.1 _ he).2.1 (by unfold Covers at hc hca; omega)
          have := (hp.1 _ he).1
          unfold Covers at hc hca; omega
        · exact ih (fun e he => hok e (List.mem_cons_of_mem _ he)) hp.2 he

end BbRe.Lemmas.BRL
