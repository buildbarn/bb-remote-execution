import BbRe.Lemmas.SchedTreeLinkStepA
/-!
The stage switch of `task.complete` on the tree (`TState.detachTree`): a QUEUED task is assigned to a
temporary worker and dequeued, an EXECUTING task leaves its worker (`setLastInvocation`); then
`decrementExecutingWorkersCount` for every operation.
-/
namespace BbRe.Lemmas.SchedTree
open BbRe.Sched BbRe.SchedTree BbRe.Lemmas.SchedInv

/-! ### lowest common ancestor -/

theorem lcp2_prefix_left : ∀ (a b : List Nat), lcp2 a b <+: a
  | [], _ => by simp [lcp2]
  | _ :: _, [] => by simp [lcp2]
  | x :: p, y :: q => by
    unfold lcp2
    split
    · rename_i h; exact List.cons_prefix_cons.mpr ⟨rfl, lcp2_prefix_left p q⟩
    · exact List.nil_prefix

theorem lcp2_prefix_right : ∀ (a b : List Nat), lcp2 a b <+: b
  | [], _ => by simp [lcp2]
  | _ :: _, [] => by simp [lcp2]
  | x :: p, y :: q => by
    unfold lcp2
    split
    · rename_i h; exact List.cons_prefix_cons.mpr ⟨h, lcp2_prefix_right p q⟩
    · exact List.nil_prefix

theorem lcp_prefix : ∀ (l : List (List Nat)) (p : List Nat), p ∈ l → lcp l <+: p
  | [], _, h => by cases h
  | [a], p, h => by
    simp only [List.mem_singleton] at h; subst h; exact List.prefix_refl _
  | a :: b :: r, p, h => by
    show lcp2 a (lcp (b :: r)) <+: p
    rcases List.mem_cons.mp h with e | e
    · subst e; exact lcp2_prefix_left _ _
    · exact (lcp2_prefix_right _ _).trans (lcp_prefix (b :: r) p e)

/-! ### node lists of the composite updates -/

theorem decOps_nodes (ts : TState) (t : Task) (k : WKey) :
    (ts.decOps t k).nodes = t.ops.foldl (fun ns o => decExecR ts.legacyPrio ts.prioOf ns t.scq (ts.invOf o) k ts.s.now) ts.nodes := rfl
theorem deqOps_nodes (ts : TState) (t : Task) :
    (ts.deqOps t).nodes = t.ops.foldl (fun ns o => removeQueuedOp ts.prioOf ns t.scq (ts.invOf o) o) ts.nodes := rfl

/-- the stage switch of a QUEUED task on the node list -/
theorem detachQueued_nodes_ok {E : List EC} {I : List IC} {Q : List QC} {P : List PC} (ts : TState) (t : Task)
    (hT : TreeOK [] ts.nodes E I Q P) (hQ : Q.Nodup) (hnd : t.ops.Nodup)
    (hq : ∀ o ∈ t.ops, (t.scq, ts.invOf o, o) ∈ Q) :
    TreeOK [] (((ts.incOps t none).deqOps t).decOps t none).nodes E I
      (Q.filter (fun c => !(t.ops.map (fun o => (t.scq, ts.invOf o, o))).contains c)) P := by
  have hn : ∀ o ∈ t.ops, (node? ts.nodes t.scq (ts.invOf o)).isSome = true := fun o ho => hT.rfQ _ (hq o ho)
  have h1 := incOps_ok hT ts.legacyPrio ts.prioOf t.scq ts.invOf none ts.s.now t.ops hn
  rw [List.filter_nil] at h1
  have h2 := deqOps_ok h1 ts.prioOf t.scq ts.invOf t.ops hQ hnd hq
  -- the invocations on the operations' paths are kept alive by the temporary worker's entries
  have h3 : TreeOK [] (t.ops.foldl (fun ns o => removeQueuedOp ts.prioOf ns t.scq (ts.invOf o) o)
      (t.ops.foldl (fun ns o => incExecR ts.legacyPrio ts.prioOf ns t.scq (ts.invOf o) none ts.s.now) ts.nodes))
      (t.ops.map (fun o => (t.scq, ts.invOf o, none)) ++ E) I
      (Q.filter (fun c => !(t.ops.map (fun o => (t.scq, ts.invOf o, o))).contains c)) P := by
    apply h2.reexempt
    intro n hn' hp hx _
    simp only [List.nil_append, List.mem_flatMap, List.mem_map, mem_prefixes] at hx
    obtain ⟨o, ho, pi, ⟨hpre, _⟩, he⟩ := hx
    simp only [Prod.mk.injEq] at he
    apply (h2.not_empty_iff hn').mpr
    left
    exact ⟨(t.scq, ts.invOf o, none), List.mem_append_left _ (List.mem_map.mpr ⟨o, ho, rfl⟩), he.1, by rw [← he.2]; exact hpre⟩
  exact decOps_ok ts.legacyPrio ts.prioOf t.scq ts.invOf none ts.s.now t.ops h3

/-- membership in a bag that is a `flatMap` over the task table, after one entry is replaced -/
theorem mem_flatMap_aset {β} (f : Task → List β) (tasks : List (Nat × Task)) (hnd : (keys tasks).Nodup)
    (k : Nat) (t' : Task) (c : β) :
    c ∈ (aset k t' tasks).flatMap (fun kt => f kt.2) ↔
      c ∈ f t' ∨ ∃ k' t'', k' ≠ k ∧ alookup k' tasks = some t'' ∧ c ∈ f t'' := by
  rw [List.mem_flatMap]
  constructor
  · rintro ⟨⟨k', t''⟩, hm, hc⟩
    have h1 := (mem_iff_alookup (nodup_aset k t' tasks hnd)).mp hm
    rw [alookup_aset] at h1
    by_cases hk : k = k'
    · rw [if_pos hk] at h1; cases h1; exact Or.inl hc
    · rw [if_neg hk] at h1; exact Or.inr ⟨k', t'', fun e => hk e.symm, h1, hc⟩
  · rintro (hc | ⟨k', t'', hk, h1, hc⟩)
    · refine ⟨(k, t'), ?_, hc⟩
      apply mem_of_alookup; rw [alookup_aset, if_pos rfl]
    · refine ⟨(k', t''), ?_, hc⟩
      apply mem_of_alookup; rw [alookup_aset, if_neg (fun e => hk e.symm)]; exact h1

theorem mem_flatMap_tasks {β} (f : Task → List β) (tasks : List (Nat × Task)) (hnd : (keys tasks).Nodup) (c : β) :
    c ∈ tasks.flatMap (fun kt => f kt.2) ↔ ∃ k t, alookup k tasks = some t ∧ c ∈ f t := by
  rw [List.mem_flatMap]
  constructor
  · rintro ⟨⟨k, t⟩, hm, hc⟩; exact ⟨k, t, (mem_iff_alookup hnd).mp hm, hc⟩
  · rintro ⟨k, t, h1, hc⟩; exact ⟨(k, t), mem_of_alookup h1, hc⟩

/-- **stage switch of a QUEUED task** (`task.complete`, `case QUEUED`), up to the point where the task
record is written back as neither queued nor assigned -/
theorem detachQueued_ts {ex exo} {ts : TState} {t t' : Task} {bw : Bool} {s' : State}
    (hT : TInvX ex exo [] ts) (ht : alookup t.id ts.s.tasks = some t) (htw : t.worker = none) (hq : t.queued = true)
    (hown : ∀ k t'', alookup k ts.s.tasks = some t'' → ∀ o ∈ t''.ops, o ∈ t.ops → k = t.id)
    (hk : t'.id = t.id ∧ t'.worker = none ∧ t'.queued = false)
    (hst : s'.tasks = aset t.id t' ts.s.tasks) (hsw : s'.workers = ts.s.workers) (hsq : s'.scqs = ts.s.scqs)
    (hso : ∀ o op', s'.op? o = some op' → ∃ op, ts.s.op? o = some op ∧ op'.inv = op.inv ∧ op'.prio = op.prio) :
    TS [] ((ts.detachTree t bw).setS s') := by
  have htnd := hT.inv.core.tnd
  have hond := (hT.inv.oinv.o3 t.id t ht).1
  have hdt : ts.detachTree t bw = ((ts.incOps t none).deqOps t).decOps t none := by
    unfold TState.detachTree; rw [htw]
  rw [hdt]
  -- the tree
  have hT0 : TreeOK [] ts.nodes (bagE ts) (bagI ts) (ddup (bagQ ts)) (bagP ts) :=
    hT.tree.congr (List.Perm.refl _) (List.Perm.refl _) (fun c => (mem_ddup c _).symm) (fun c => Iff.rfl)
  have hqm : ∀ o ∈ t.ops, (t.scq, ts.invOf o, o) ∈ ddup (bagQ ts) :=
    fun o ho => (mem_ddup _ _).mpr (mem_bagQ_of_task ht hq ho)
  have h1 := detachQueued_nodes_ok ts t hT0 (nodup_ddup _) hond hqm
  let ts' : TState := (((ts.incOps t none).deqOps t).decOps t none).setS s'
  have hE : (bagE ts).Perm (bagE ts') := by
    have := bagE_setTask ts s' t t' ts.ox (by rw [hk.1]; exact ht) (by rw [hk.1]; exact hst) (fun _ _ => rfl) ts' rfl rfl
    rw [conE_unassigned _ t htw, conE_unassigned _ t' hk.2.1, List.append_nil, List.append_nil] at this
    exact this
  have hQ : ∀ c, c ∈ (ddup (bagQ ts)).filter (fun c => !(t.ops.map (fun o => (t.scq, ts.invOf o, o))).contains c) ↔
      c ∈ bagQ ts' := by
    intro c
    rw [List.mem_filter, mem_ddup]
    show _ ↔ c ∈ s'.tasks.flatMap (fun kt => conQ ts.ox kt.2)
    rw [hst, mem_flatMap_aset (conQ ts.ox) ts.s.tasks htnd, conQ_unqueued _ t' hk.2.2, bagQ_def,
      mem_flatMap_tasks (conQ ts.ox) ts.s.tasks htnd]
    simp only [List.not_mem_nil, false_or, Bool.not_eq_true', List.contains_eq_mem, decide_eq_false_iff_not]
    constructor
    · rintro ⟨⟨k, t'', h1, hc⟩, hnot⟩
      refine ⟨k, t'', ?_, h1, hc⟩
      intro e; subst e
      rw [ht] at h1; cases h1
      apply hnot
      rw [conQ_queued' _ _ hq] at hc
      exact hc
    · rintro ⟨k, t'', hne, h1, hc⟩
      refine ⟨⟨k, t'', h1, hc⟩, ?_⟩
      intro hm
      obtain ⟨o, ho, he⟩ := List.mem_map.mp hm
      -- `c` is the entry of operation `o` of `t`, but it comes from the queued task `t''`
      unfold conQ at hc
      split at hc
      · obtain ⟨o', ho', he'⟩ := List.mem_map.mp hc
        rw [← he] at he'
        simp only [Prod.mk.injEq] at he'
        have : o' = o := he'.2.2
        subst this
        exact hne (hown k t'' h1 o' ho' ho)
      · cases hc
  refine ⟨h1.congr hE (List.Perm.refl _) hQ (fun c => Iff.rfl), ?_⟩
  -- the coupling
  have hS := hT.side
  have hnf : NFrame [] ts.nodes ts'.nodes :=
    NFrame.trans0 (NFrame.trans0 (incOps_nframe ts t none) (deqOps_nframe _ t)) (decOps_nframe _ t none)
  have hnodes := side_nodes hS hnf (scqs' := s'.scqs) (by intro q hq; cases hq)
    (fun sq h => by rw [hsq]; exact h) (fun sq h => Or.inl (by rw [hsq] at h; exact h))
  refine ⟨hnodes.1, hnodes.2, hS.wxnd, ?_, ?_, ?_, ?_⟩
  · intro q w; show (ts.wx? q w).isSome = (s'.worker? q w).isSome
    rw [worker?_def, hsw]; exact hS.wxw q w
  · intro q w wk x hwk hx
    rw [worker?_def] at hwk
    change wfind s'.workers q w = some wk at hwk
    rw [hsw] at hwk
    exact hS.wpl q w wk x (by rw [worker?_def]; exact hwk) hx
  · intro o op' hop
    obtain ⟨op, h1, h2, h3⟩ := hso o op' hop
    have := hS.oxok o op h1
    show alookup o ts.ox = some ⟨op'.inv, op'.prio⟩
    rw [this, h2, h3]
  · exact hS.wq_aset hst fun q w h2 => by rw [hk.2.1] at h2; cases h2

theorem detachW_workers (s : State) (t : Task) (q0 : ScqId) (w : WId) (wk : Worker)
    (hw : t.worker = some (q0, w)) (hwk : wfind s.workers q0 w = some wk) :
    (BbRe.SchedTree.detachW s t).workers = wset s.workers { wk with task := none } := by
  unfold BbRe.SchedTree.detachW
  rw [hw]
  simp only [worker?_def, hwk]
  rfl

theorem setLast_nodes (ts : TState) (tq q : ScqId) (w : WId) (p : List Nat) :
    (ts.setLast tq q w p).nodes = setLastN ts.nodes tq p := rfl
theorem setLast_wx (ts : TState) (tq q : ScqId) (w : WId) (p : List Nat) :
    (ts.setLast tq q w p).wx = setWX ts.wx q w (fun y => { y with last := some p }) := rfl

/-- **stage switch of an EXECUTING task** (`task.complete`, `case EXECUTING`): `setLastInvocation` of its
worker and `decrementExecutingWorkersCount` for every operation, up to the point where the task record is
written back as neither queued nor assigned -/
theorem detachExec_ts {ex exo} {ts : TState} {t t' : Task} {q0 : ScqId} {w : WId} {bw : Bool} {s' : State}
    (hT : TInvX ex exo [] ts) (ht : alookup t.id ts.s.tasks = some t) (hw : t.worker = some (q0, w))
    (hk : t'.id = t.id ∧ t'.worker = none ∧ t'.queued = false)
    (hst : s'.tasks = aset t.id t' ts.s.tasks) (hsw : s'.workers = (BbRe.SchedTree.detachW ts.s t).workers)
    (hsq : s'.scqs = ts.s.scqs)
    (hso : ∀ o op', s'.op? o = some op' → ∃ op, ts.s.op? o = some op ∧ op'.inv = op.inv ∧ op'.prio = op.prio) :
    TS [] ((ts.detachTree t bw).setS s') := by
  have hS := hT.side
  have hc := hT.inv.core
  have hq0 : q0 = t.scq := hS.wq t.id t q0 w ht hw
  obtain ⟨wk, hwk, hwkt⟩ := hc.p2 t.id t q0 w ht hw
  obtain ⟨x0, hx0, hxq, hxi, hxp, hxl⟩ := hS.wx_of_worker hwk
  have hx0l : x0.last = none := hxl.mpr (by rw [hwkt]; rfl)
  have hwkp : wk.parked = false := by
    cases hp : wk.parked with
    | false => rfl
    | true => have := hc.w1 q0 w wk hwk hp; rw [hwkt] at this; cases this
  have htq : t.queued = false := by
    cases hq : t.queued with
    | false => rfl
    | true => have := (hc.q1 t.id t ht hq).1; rw [hw] at this; cases this
  have hops := hT.inv.oinv.o3 t.id t ht
  let p : List Nat := if bw then lcp (t.ops.map ts.invOf) else []
  have hdt : ts.detachTree t bw = (ts.setLast t.scq q0 w p).decOps t (some w) := by
    unfold TState.detachTree; rw [hw]
  rw [hdt]
  -- the invocation the worker is left at exists
  have hnp : (node? ts.nodes t.scq p).isSome = true := by
    obtain ⟨o1, ho1⟩ := List.exists_mem_of_ne_nil _ hops.2
    have hn1 := hT.tree.rfE _ (mem_bagE_of_task ht hw ho1)
    apply hT.tree.prefix_exists _ hn1
    show (if bw then lcp (t.ops.map ts.invOf) else []) <+: ts.invOf o1
    split
    · exact lcp_prefix _ _ (List.mem_map.mpr ⟨o1, ho1, rfl⟩)
    · exact List.nil_prefix
  have h1 := setLastN_ok hT.tree t.scq p hnp
  have hoff : offPath ([] : List (ScqId × List Nat)) t.scq p = [] := rfl
  rw [hoff] at h1
  -- split off the task's executing entries
  let E0 : List EC := (aerase t.id ts.s.tasks).flatMap (fun kt => conE ts.ox kt.2)
  have hEsplit : (bagE ts).Perm (t.ops.map (fun o => (t.scq, ts.invOf o, some w)) ++ E0) := by
    have := flatMap_aerase_some (fun kt : Nat × Task => conE ts.ox kt.2) t.id ts.s.tasks t ht
    simp only [] at this
    rw [conE_worker _ t q0 w hw] at this
    exact this
  have h2 := h1.congr hEsplit (List.Perm.refl _) (fun c => Iff.rfl) (fun c => Iff.rfl)
  have h3 := decOps_ok ts.legacyPrio ts.prioOf t.scq ts.invOf (some w) ts.s.now t.ops h2
  let ts' : TState := ((ts.setLast t.scq q0 w p).decOps t (some w)).setS s'
  -- the bags of the new state
  have hE : E0.Perm (bagE ts') := by
    have := bagE_setTask ts s' t t' ts.ox (by rw [hk.1]; exact ht) (by rw [hk.1]; exact hst) (fun _ _ => rfl) ts' rfl rfl
    rw [conE_unassigned _ t' hk.2.1, List.append_nil, conE_worker _ t q0 w hw] at this
    have h4 : (t.ops.map (fun o => (t.scq, ts.invOf o, some w)) ++ E0).Perm
        (bagE ts' ++ t.ops.map (fun o => (t.scq, ts.invOf o, some w))) := hEsplit.symm.trans this
    exact (List.perm_append_right_iff _).mp (List.perm_append_comm.trans h4)
  have hQ : (bagQ ts).Perm (bagQ ts') := by
    have := bagQ_setTask ts s' t t' ts.ox (by rw [hk.1]; exact ht) (by rw [hk.1]; exact hst) (fun _ _ => rfl) ts' rfl rfl
    rw [conQ_unqueued _ t htq, conQ_unqueued _ t' hk.2.2, List.append_nil, List.append_nil] at this
    exact this
  let g : WX → WX := fun y => { y with last := some p }
  have hg : ∀ y, wxkey (g y) = wxkey y := fun y => rfl
  have hwx' : ts'.wx = setWX ts.wx q0 w g := rfl
  have hI : ((t.scq, p) :: bagI ts).Perm (bagI ts') := by
    have := bagI_setWX ts.wx q0 w g hg hS.wxnd x0 hx0
    have e1 : conI (g x0) = [(t.scq, p)] := by show (match (g x0).last with | some p => [((g x0).scq, p)] | none => []) = _; simp [g, hxq, hq0]
    have e2 : conI x0 = [] := by unfold conI; rw [hx0l]
    rw [e1, e2, List.append_nil] at this
    rw [bagI_def, bagI_def, hwx']
    exact (List.perm_append_comm (l₁ := [(t.scq, p)])).trans this
  have hP : (bagP ts).Perm (bagP ts') := by
    have := bagP_setWX ts.wx q0 w g hg hS.wxnd x0 hx0
    have e1 : conP (g x0) = [] := by unfold conP; simp [g, hxp, hwkp]
    have e2 : conP x0 = [] := by unfold conP; simp [hxp, hwkp]
    rw [e1, e2, List.append_nil, List.append_nil] at this
    rw [bagP_def, bagP_def, hwx']; exact this
  refine ⟨h3.congr hE hI (fun c => hQ.mem_iff) (fun c => hP.mem_iff), ?_⟩
  -- the coupling
  have hnf : NFrame [] ts.nodes ts'.nodes :=
    NFrame.trans0 (setLast_nframe ts t.scq q0 w p) (decOps_nframe _ t (some w))
  have hnodes := side_nodes hS hnf (scqs' := s'.scqs) (by intro q hq; cases hq)
    (fun sq h => by rw [hsq]; exact h) (fun sq h => Or.inl (by rw [hsq] at h; exact h))
  have hsw' : s'.workers = wset ts.s.workers { wk with task := none } := by
    rw [hsw]; exact detachW_workers ts.s t q0 w wk hw hwk
  have hkey := wfind_key hwk
  refine ⟨hnodes.1, hnodes.2, ?_, ?_, ?_, ?_, ?_⟩
  · show ((setWX ts.wx q0 w g).map wxkey).Nodup
    rw [setWX_keys ts.wx q0 w g hg]; exact hS.wxnd
  · intro q' w'
    show (List.find? _ (setWX ts.wx q0 w g)).isSome = (s'.worker? q' w').isSome
    rw [worker?_def, hsw', find?_setWX _ _ _ _ hg, wfind_wset]
    have := hS.wxw q' w'
    rw [worker?_def, wx?_eq] at this
    by_cases hkk : wk.scq = q' ∧ wk.id = w'
    · simp only [hkk, and_self, if_true, Option.isSome_map]
      rw [this]; cases (wfind ts.s.workers q' w') <;> rfl
    · simp only [hkk, if_false, Option.isSome_map]; exact this
  · intro q' w' wk2 x hwk2 hx
    rw [worker?_def] at hwk2
    change wfind s'.workers q' w' = some wk2 at hwk2
    rw [hsw', wfind_wset] at hwk2
    change List.find? _ (setWX ts.wx q0 w g) = some x at hx
    rw [find?_setWX _ _ _ _ hg] at hx
    by_cases hkk : wk.scq = q' ∧ wk.id = w'
    · simp only [hkk, and_self, if_true] at hwk2
      have e1 : q' = q0 := by rw [← hkk.1, hkey.1]
      have e2 : w' = w := by rw [← hkk.2, hkey.2]
      subst e1; subst e2
      rw [hwk] at hwk2
      simp only [Option.isSome_some, if_true, Option.some.injEq] at hwk2
      rw [hx0] at hx
      simp only [Option.map_some, hxq, hxi, and_self, if_true, Option.some.injEq] at hx
      subst hwk2; subst hx
      exact ⟨hxp, by simp [g]⟩
    · simp only [hkk, if_false] at hwk2
      cases hf : ts.wx.find? (fun x => x.scq = q' ∧ x.id = w') with
      | none => rw [hf] at hx; cases hx
      | some y =>
        rw [hf] at hx
        have hyk := List.find?_some hf
        simp only [decide_eq_true_eq] at hyk
        have : ¬ (y.scq = q0 ∧ y.id = w) := by
          rw [hyk.1, hyk.2, ← hkey.1, ← hkey.2]; exact fun h => hkk ⟨h.1.symm, h.2.symm⟩
        simp only [Option.map_some, this, if_false, Option.some.injEq] at hx
        subst hx
        exact hS.wpl q' w' wk2 y (by rw [worker?_def]; exact hwk2) hf
  · intro o op' hop
    obtain ⟨op, h1, h2, h3⟩ := hso o op' hop
    have := hS.oxok o op h1
    show alookup o ts.ox = some ⟨op'.inv, op'.prio⟩
    rw [this, h2, h3]
  · exact hS.wq_aset hst fun q w h2 => by rw [hk.2.1] at h2; cases h2

end BbRe.Lemmas.SchedTree
