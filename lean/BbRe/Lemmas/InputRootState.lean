import BbRe.Lemmas.InputRootRename
/-!
State level corollaries for C17: every operation of `step` respects `SEquiv`,
leaves the CAS alone, and under faults is unaffected or fails with an I/O error.
-/
namespace BbRe.Lemmas.InputRoot
open BbRe.InputRoot

theorem step_cas (s : State) (F : List Dig) (op : Op) : (step s F op).1.cas = s.cas := by
  cases op with
  | merge d m =>
    simp only [step, merge]
    split
    · rfl
    · split <;> rfl
  | _ => rfl

theorem run_cas (s : State) (hs : List (List Dig × Op)) : (run s hs).1.cas = s.cas := by
  induction hs generalizing s with
  | nil => rfl
  | cons h rest ih =>
    obtain ⟨F, op⟩ := h
    simp only [run]
    rw [ih, step_cas]

/-- The same fetched entries wrapped for two different monitors (or none). -/
theorem annotated_rel (c : CAS) (ch : Children) (m m' : Option Path) :
    ChRel (Equiv c) (ch.map (annotate m)) (ch.map (annotate m')) :=
  chrel_annotate (Equiv.refl c) (equiv_mon c)
    (fun d x a a' => eqv_of_notDir c (a := .file d x a) (b := .file d x a') rfl rfl rfl) m m' ch

/-- Merging a digest into equivalent trees, with or without an access monitor. -/
theorem merge_equiv (l e : State) (d : Dig) (m m' : Bool) (h : SEquiv l e) :
    (merge l [] d m).2 = (merge e [] d m').2 ∧ SEquiv (merge l [] d m).1 (merge e [] d m').1 := by
  obtain ⟨hc, hr⟩ := h
  simp only [merge, ← hc, fetch_result_mon]
  cases (fetchBase l.cas [] d).result with
  | error err => exact ⟨rfl, hc, hr⟩
  | ok new =>
    rcases equiv_cases hr with ⟨hl, he⟩ | ⟨_, hl, he⟩ | ⟨a, b, hl, he, hab⟩ <;> simp only [hl, he]
    · exact ⟨trivial, hc, hr⟩
    · exact ⟨trivial, hc, hr⟩
    · exact (actMerge_rel l.cas (annotated_rel l.cas new _ _) a b hab).imp id fun h => ⟨rfl, equiv_dir h⟩

theorem step_equiv (l e : State) (op : Op) (h : SEquiv l e) :
    (step l [] op).2 = (step e [] op).2 ∧ SEquiv (step l [] op).1 (step e [] op).1 := by
  have hc := h.1
  have on := fun act (ha : ActResp l.cas act) p => withDir_equiv l.cas act act ha p _ _ h.2
  have lift : ∀ {r r' : Node × Out}, Sim l.cas r r' →
      r.2 = r'.2 ∧ SEquiv ⟨l.cas, r.1⟩ ⟨l.cas, r'.1⟩ := fun s => ⟨s.1, rfl, s.2⟩
  cases op with
  | merge d m => exact merge_equiv l e d m m h
  | lookup p x => simp only [step, ← hc]; exact lift (on _ (actLookup_resp _ x) p)
  | readdir p => simp only [step, ← hc]; exact lift (on _ (actReaddir_resp _) p)
  | leaf o p x => simp only [step, ← hc]; exact lift (on _ (actLeaf_resp _ [] o x) p)
  | remove p x => simp only [step, ← hc]; exact lift (on _ (actRemove_resp _ x) p)
  | create p x => simp only [step, ← hc]; exact lift (on _ (actCreate_resp _ x) p)
  | mkdir p x => simp only [step, ← hc]; exact lift (on _ (actMkdir_resp _ x) p)
  | rename p1 x1 p2 x2 => simp only [step, ← hc]; exact lift (rename_equiv _ _ _ h.2 p1 x1 p2 x2)
  | link ps xs pd xd => simp only [step, ← hc]; exact lift (link_equiv _ _ _ h.2 ps xs pd xd)

/-- Output of an operation that a storage fault made fail. -/
def isFaultOut (o : Out) : Prop := o = .status .eio ∨ o = .mergeErr .unavailable

theorem merge_fault (s : State) (F : List Dig) (d : Dig) (m : Bool) :
    merge s F d m = merge s [] d m ∨ (isFaultOut (merge s F d m).2 ∧ (merge s F d m).1 = s) := by
  simp only [merge]
  rcases fetch_fault s.cas F d (if m = true then some [] else none) with h | h <;> rw [h]
  · cases (fetch s.cas [] d (if m = true then some [] else none)).result with
    | error e => exact .inl rfl
    | ok new =>
      rcases contents_fault s.cas F s.root with h2 | h2 <;> rw [h2]
      · exact .inl rfl
      · exact .inr ⟨.inl rfl, rfl⟩
  · exact .inr ⟨.inr rfl, rfl⟩

theorem step_fault (s : State) (F : List Dig) (op : Op) :
    step s F op = step s [] op ∨ (isFaultOut (step s F op).2 ∧ SEquiv (step s F op).1 s) := by
  have lift : ∀ {rF r0 : Node × Out}, FaultOr s.cas s.root rF r0 →
      (({ s with root := rF.1 } : State), rF.2) = ({ s with root := r0.1 }, r0.2) ∨
      (isFaultOut rF.2 ∧ SEquiv { s with root := rF.1 } s) :=
    fun h => h.imp (fun e => by rw [e]) fun ⟨h1, h2⟩ => ⟨.inl h1, rfl, h2⟩
  have same := fun act => act_fault_same s.cas act
  cases op with
  | merge d m =>
    exact (merge_fault s F d m).imp_right fun ⟨h1, h2⟩ => ⟨h1, by simp only [step, h2]; exact .refl s⟩
  | lookup p x => exact lift (withDir_fault s.cas F _ _ (same _) p _)
  | readdir p => exact lift (withDir_fault s.cas F _ _ (same _) p _)
  | leaf o p x => exact lift (withDir_fault s.cas F _ _ (actLeaf_fault s.cas F o x) p _)
  | remove p x => exact lift (withDir_fault s.cas F _ _ (actRemove_fault s.cas F x) p _)
  | create p x => exact lift (withDir_fault s.cas F _ _ (same _) p _)
  | mkdir p x => exact lift (withDir_fault s.cas F _ _ (same _) p _)
  | rename p1 x1 p2 x2 => exact lift (rename_fault s.cas F s.root p1 x1 p2 x2)
  | link ps xs pd xd => exact lift (link_fault s.cas F s.root ps xs pd xd)

/-! ### directories that cannot be loaded -/

theorem bad_equiv {c : CAS} {a b : Node} {e : Err} (h : Equiv c a b)
    (he : contents c [] a = .err e) : contents c [] b = .err e := by
  rcases equiv_cases h with ⟨ha, _⟩ | ⟨_, ha, hb⟩ | ⟨_, _, ha, _⟩ <;> rw [he] at ha <;> cases ha
  exact hb

/-- The path an operation walks first. -/
def firstPath : Op → Option Path
  | .merge _ _ => none
  | .lookup p _ => some p
  | .readdir p => some p
  | .leaf _ p _ => some p
  | .remove p _ => some p
  | .create p _ => some p
  | .mkdir p _ => some p
  | .rename _ _ _ _ => none
  | .link ps _ _ _ => some ps

/-- The directories a rename works in (old and new), the directory a link attaches to. -/
def viaPaths : Op → List Path
  | .rename p1 _ p2 _ => [p1, p2]
  | .link _ _ pd _ => [pd]
  | _ => []

/-- A directory that cannot be loaded is still there, and still cannot be loaded, in every
equivalent tree: any access through it fails there too. -/
theorem through_bad_equiv {c : CAS} {t t' : Node} (hk : Equiv c t' t) {p : Path} {b : Node} {e : Err}
    (hb : nodeAt c t p = some b) (he : contents c [] b = .err e) (F : List Dig)
    (act : Children → Children × Out) (q : Path) :
    (withDir c F act (p ++ q) t').2 = .status .eio := by
  rcases (nodeAt_equiv c p _ _ hk).cases with ⟨_, h2⟩ | ⟨va, vb, h1, h2, hv⟩ <;> rw [hb] at h2 <;> cases h2
  exact withDir_through_bad c F act p q t' va e h1 (bad_equiv hv.symm he)

/-- A stage `if r.2 ≠ .ok then r else …` of `rename`/`link` does not end well unless what
follows it does. -/
theorem stage_ne_ok {r k : Node × Out} (hk : r.2 = .ok → k.2 ≠ .ok) :
    (if r.2 ≠ .ok then r else k).2 ≠ .ok := by
  split
  · assumption
  · exact hk (Decidable.not_not.1 ‹_›)

end BbRe.Lemmas.InputRoot
