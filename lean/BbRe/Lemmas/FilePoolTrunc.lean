import BbRe.Lemmas.FilePoolRead
/-!
`Truncate` on `content`: normal form of the four paths, the effect of the
zeroing write and of dropping sectors; success refines the byte-array truncate,
every path keeps `FileOK` and leaves the sectors of other files alone.
-/
namespace BbRe.Lemmas.FilePool
open BbRe.FilePool

/-- the zeroing write of `Truncate` happens. -/
def zeroCond (c : Cfg) (f : File) (sz : Nat) : Prop :=
  sz % c.ss ≠ 0 ∧ sz < f.size ∧ sz / c.ss < f.sectors.length ∧ f.sectors.getD (sz / c.ss) 0 ≠ 0

instance (c : Cfg) (f : File) (sz : Nat) : Decidable (zeroCond c f sz) := by unfold zeroCond; infer_instance

/-- environment and result of the zeroing write. -/
def truncZr (c : Cfg) (f : File) (e : Env) (sz : Nat) : Env × Option Nat :=
  if zeroCond c f sz then
    e.devWrite ((f.sectors.getD (sz / c.ss) 0 - 1) * c.ss + sz % c.ss)
      (List.replicate (min (c.ss - sz % c.ss) (f.size - sz)) 0)
  else (e, none)

/-- number of sectors kept. -/
def truncK (c : Cfg) (sz : Nat) : Nat := if sz % c.ss = 0 then sz / c.ss else sz / c.ss + 1

/-- `Truncate` to a non-negative size, path by path. -/
theorem truncate_eq (c : Cfg) (f : File) (e : Env) (sz : Nat) :
    truncate c f e (sz : Int) =
      match (truncZr c f e sz).2 with
      | some _ => (f, (truncZr c f e sz).1, some .io)
      | none =>
        let fe := truncateSectors f (truncZr c f e sz).1 (truncK c sz)
        if sz < f.size then
          if fe.2.faults.ht then (fe.1, { fe.2 with faults := { fe.2.faults with ht := false } }, some .hole)
          else ({ fe.1 with size := sz, hole := f.hole.truncate sz }, fe.2, none)
        else ({ fe.1 with size := sz }, fe.2, none) := by
  unfold truncate truncZr truncK zeroCond
  rw [if_neg (by omega)]
  simp only [Int.toNat_natCast]
  rfl

theorem truncate_neg (c : Cfg) (f : File) (e : Env) (size : Int) (h : size < 0) :
    truncate c f e size = (f, e, some .invalid) := by
  unfold truncate; rw [if_pos h]

theorem getD_take_replicate_zero (k m j : Nat) : ((List.replicate k (0 : Byte)).take m).getD j 0 = 0 := by
  simp only [List.take_replicate, List.getD_eq_getElem?_getD, List.getElem?_replicate]
  split <;> rfl

/-- effect of the zeroing write (complete or cut short by a device fault) on the contents. -/
theorem truncZr_content {O : Nat → Prop} {c : Cfg} {f : File} {e : Env} (sz : Nat) (hss : 0 < c.ss)
    (hP : Part c.nsec O e.allocd (nz f.sectors)) :
    ∃ m, m ≤ min (c.ss - sz % c.ss) (f.size - sz) ∧
      ((truncZr c f e sz).2 = none → zeroCond c f sz → m = min (c.ss - sz % c.ss) (f.size - sz)) ∧
      (∀ i, content c.ss (truncZr c f e sz).1.dev f i =
        if zeroCond c f sz ∧ sz ≤ i ∧ i < sz + m then 0 else content c.ss e.dev f i) ∧
      (∀ t k, k < c.ss → O (t + 1) → rd (truncZr c f e sz).1.dev (t * c.ss + k) = rd e.dev (t * c.ss + k)) ∧
      SameAlloc e (truncZr c f e sz).1 := by
  unfold truncZr
  split
  · rename_i hz
    obtain ⟨hz1, hz2, hz3, hz4⟩ := hz
    obtain ⟨m, hm, hdev, _, hnone⟩ := devWrite_dev e ((f.sectors.getD (sz / c.ss) 0 - 1) * c.ss + sz % c.ss)
      (List.replicate (min (c.ss - sz % c.ss) (f.size - sz)) 0)
    rw [List.length_replicate] at hm hnone
    obtain ⟨hc1, hc2, _, _, hc5⟩ := contig_spec f.sectors (sz / c.ss) (sz / c.ss + 1) hz3
    have hcs : c.ss ≤ (contig f.sectors (sz / c.ss) (sz / c.ss + 1)).2 * c.ss := Nat.le_mul_of_pos_left c.ss hc2
    have hmod := Nat.mod_lt sz hss
    have hov := fun i => overwrite_content (f := f) (e := e)
      (List.replicate (min (c.ss - sz % c.ss) (f.size - sz)) 0) (sz / c.ss) (sz / c.ss + 1) (sz % c.ss) m hss hz3
      (by rw [hc1]; exact hz4) hP (by omega) (by rw [List.length_replicate]; exact hm) i
    rw [hc1, div_mul_mod] at hov
    refine ⟨m, hm, fun hn _ => hnone hn, fun i => ?_, fun t k hk ho => ?_, devWrite_same _ _ _⟩
    · rw [hdev, hov i]
      unfold overlay
      have hl : ((List.replicate (min (c.ss - sz % c.ss) (f.size - sz)) (0 : Byte)).take m).length = m := by
        rw [List.length_take, List.length_replicate]; omega
      rw [hl]
      by_cases hin : sz ≤ i ∧ i < sz + m
      · rw [if_pos hin, if_pos ⟨⟨hz1, hz2, hz3, hz4⟩, hin⟩, getD_take_replicate_zero]
      · rw [if_neg hin, if_neg (fun hc => hin hc.2)]
    · rw [hdev, ← hc1]
      exact overwrite_frame e.dev (sz / c.ss + 1) _ hz3 (by rw [hc1]; exact hz4)
        (by rw [List.length_take, List.length_replicate]; omega) hk (oth_frame hP ho).2
  · rename_i hz
    refine ⟨0, Nat.zero_le _, fun _ h => absurd h hz, fun i => ?_, fun _ _ _ _ => rfl, SameAlloc.refl e⟩
    rw [if_neg (fun hc => hz hc.1)]

/-- dropping sectors: entries below `k` stay, everything from `k` on is a hole. -/
theorem truncateSectors_getD (f : File) (e : Env) (k q : Nat) :
    (truncateSectors f e k).1.sectors.getD q 0 = if q < k then f.sectors.getD q 0 else 0 := by
  unfold truncateSectors
  split
  · dsimp only
    rw [trimZeros_getD]
    simp only [List.getD_eq_getElem?_getD, List.getElem?_take]
    split <;> rfl
  · rename_i hlen
    split
    · rfl
    · exact getD_ge f.sectors q (by omega)

theorem hole_truncate_read (h : Hole) (sz i : Nat) :
    (h.truncate sz).read i = if i < sz then h.read i else 0 := by
  unfold Hole.read Hole.isData Hole.truncate
  dsimp only
  by_cases hi : i < sz
  · rw [if_pos hi]
    by_cases hl : i < h.limit
    · have : i < min h.limit sz := by omega
      simp [hl, this]
    · have : ¬ i < min h.limit sz := by omega
      simp [hl, this]
  · rw [if_neg hi]
    have : ¬ i < min h.limit sz := by omega
    simp [this]

/-! ## the surviving contents -/

theorem trunc_arith (ss sz i : Nat) (hss : 0 < ss) :
    (i / ss < truncK ⟨ss, 0⟩ sz → i < sz ∨ (sz % ss ≠ 0 ∧ i / ss = sz / ss)) ∧
      (¬ i / ss < truncK ⟨ss, 0⟩ sz → sz ≤ i) ∧ (i < sz → i / ss < truncK ⟨ss, 0⟩ sz) ∧
      (i / ss = sz / ss → i < sz + (ss - sz % ss)) := by
  unfold truncK
  dsimp only
  have hi := div_mul_mod i ss
  have hs := div_mul_mod sz ss
  have hmi := Nat.mod_lt i hss
  have hms := Nat.mod_lt sz hss
  generalize i / ss = q at *
  generalize sz / ss = idx at *
  refine ⟨fun h => ?_, fun h => ?_, fun h => ?_, fun h => ?_⟩
  · split at h
    · left
      have := Nat.mul_le_mul_right ss (show q + 1 ≤ idx by omega)
      rw [Nat.add_mul, Nat.one_mul] at this; omega
    · by_cases hq : q = idx
      · right; rename_i hne; exact ⟨hne, hq⟩
      · left
        have := Nat.mul_le_mul_right ss (show q + 1 ≤ idx by omega)
        rw [Nat.add_mul, Nat.one_mul] at this; omega
  · split at h
    · have := Nat.mul_le_mul_right ss (show idx ≤ q by omega); omega
    · have := Nat.mul_le_mul_right ss (show idx + 1 ≤ q by omega)
      rw [Nat.add_mul, Nat.one_mul] at this; omega
  · have h1 : q * ss < (idx + 1) * ss := by rw [Nat.add_mul, Nat.one_mul]; omega
    have h2 := lt_of_mul_lt h1
    split
    · rename_i h0
      have h3 : q * ss < idx * ss := by omega
      exact lt_of_mul_lt h3
    · exact h2
  · rw [h] at hi; omega

theorem truncateSectors_env (f : File) (e : Env) (k : Nat) :
    (truncateSectors f e k).2.dev = e.dev ∧ (truncateSectors f e k).1.hole = f.hole ∧
      (truncateSectors f e k).1.size = f.size := by
  unfold truncateSectors; split <;> exact ⟨rfl, rfl, rfl⟩

/-- contents after the zeroing write and dropping sectors, with hole source `h'`. -/
theorem trunc_keep_content (c : Cfg) (f : File) (e : Env) (k : Nat) (h' : Hole) (sz' : Nat) (cl : Bool) (i : Nat) :
    content c.ss e.dev { sectors := (truncateSectors f e k).1.sectors, size := sz', hole := h', closed := cl } i =
      if i / c.ss < k then (if f.sectors.getD (i / c.ss) 0 = 0 then h'.read i else content c.ss e.dev f i)
      else h'.read i := by
  unfold content
  dsimp only
  rw [truncateSectors_getD]
  split
  · split
    · rfl
    · rfl
  · rw [if_pos rfl]

/-- The heart of `Truncate`: what the surviving contents are, given the zeroing
effect `cz` and the hole source `h'` in force afterwards. -/
theorem trunc_core (c : Cfg) (f : File) (sz m : Nat) (hss : 0 < c.ss) (base cz : Nat → Byte) (h' : Hole)
    (hcz : ∀ i, cz i = if zeroCond c f sz ∧ sz ≤ i ∧ i < sz + m then 0 else base i)
    (hbase0 : ∀ i, f.sectors.getD (i / c.ss) 0 = 0 → base i = f.hole.read i)
    (hZ : ∀ i, f.size ≤ i → base i = 0)
    (hm : zeroCond c f sz → m = min (c.ss - sz % c.ss) (f.size - sz))
    (hh1 : ∀ i, i < sz → h'.read i = f.hole.read i) (hh2 : ∀ i, sz ≤ i → h'.read i = 0) (i : Nat) :
    (if i / c.ss < truncK c sz then (if f.sectors.getD (i / c.ss) 0 = 0 then h'.read i else cz i) else h'.read i) =
      if i < sz then base i else 0 := by
  obtain ⟨a1, a2, a3, a4⟩ := trunc_arith c.ss sz i hss
  have hk : truncK ⟨c.ss, 0⟩ sz = truncK c sz := rfl
  rw [hk] at a1 a2 a3
  by_cases hi : i < sz
  · rw [if_pos hi, if_pos (a3 hi)]
    split
    · rename_i h0; rw [hh1 i hi, hbase0 i h0]
    · rw [hcz, if_neg (by omega)]
  · rw [if_neg hi]
    split
    · rename_i hq
      split
      · exact hh2 i (by omega)
      · rename_i hne
        rcases a1 hq with h1 | ⟨h1, h2⟩
        · omega
        · rw [hcz]
          split
          · rfl
          · rename_i hnz
            by_cases hsz : sz < f.size
            · have hzc : zeroCond c f sz := by
                refine ⟨h1, hsz, ?_, by rw [← h2]; exact hne⟩
                rcases Nat.lt_or_ge (sz / c.ss) f.sectors.length with hl | hl
                · exact hl
                · exfalso; apply hne
                  exact getD_ge _ _ (by omega)
              have hmm := hm hzc
              have := a4 h2
              apply hZ
              have : ¬ (sz ≤ i ∧ i < sz + m) := fun hc => hnz ⟨hzc, hc⟩
              omega
            · exact hZ i (by omega)
    · exact hh2 i (by omega)

/-! ## refinement, `FileOK`, frame -/

theorem content_hole_of_zero (ss : Nat) (dev : Array Byte) (f : File) (i : Nat)
    (h : f.sectors.getD (i / ss) 0 = 0) : content ss dev f i = f.hole.read i := by
  unfold content; rw [if_pos h]

/-- file and environment after dropping sectors. -/
abbrev truncFe (c : Cfg) (f : File) (e : Env) (sz : Nat) : File × Env :=
  truncateSectors f (truncZr c f e sz).1 (truncK c sz)

theorem truncate_some {c : Cfg} {f : File} {e : Env} {sz n : Nat} (h : (truncZr c f e sz).2 = some n) :
    truncate c f e (sz : Int) = (f, (truncZr c f e sz).1, some .io) := by
  rw [truncate_eq, h]

theorem truncate_shrink_fault {c : Cfg} {f : File} {e : Env} {sz : Nat} (h : (truncZr c f e sz).2 = none)
    (hlt : sz < f.size) (hht : (truncFe c f e sz).2.faults.ht = true) :
    truncate c f e (sz : Int) =
      ((truncFe c f e sz).1,
        { (truncFe c f e sz).2 with faults := { (truncFe c f e sz).2.faults with ht := false } }, some .hole) := by
  rw [truncate_eq, h]; dsimp only; rw [if_pos hlt, if_pos hht]

theorem truncate_shrink_ok {c : Cfg} {f : File} {e : Env} {sz : Nat} (h : (truncZr c f e sz).2 = none)
    (hlt : sz < f.size) (hht : ¬ (truncFe c f e sz).2.faults.ht = true) :
    truncate c f e (sz : Int) =
      ({ (truncFe c f e sz).1 with size := sz, hole := f.hole.truncate sz }, (truncFe c f e sz).2, none) := by
  rw [truncate_eq, h]; dsimp only; rw [if_pos hlt, if_neg hht]

theorem truncate_grow {c : Cfg} {f : File} {e : Env} {sz : Nat} (h : (truncZr c f e sz).2 = none)
    (hge : ¬ sz < f.size) :
    truncate c f e (sz : Int) = ({ (truncFe c f e sz).1 with size := sz }, (truncFe c f e sz).2, none) := by
  rw [truncate_eq, h]; dsimp only; rw [if_neg hge]

/-- the device after `Truncate` (any path) is the device after the zeroing write. -/
theorem truncate_dev (c : Cfg) (f : File) (e : Env) (sz : Nat) :
    (truncate c f e (sz : Int)).2.1.dev = (truncZr c f e sz).1.dev := by
  cases hz : (truncZr c f e sz).2 with
  | some n => rw [truncate_some hz]
  | none =>
    by_cases hlt : sz < f.size
    · by_cases hht : (truncFe c f e sz).2.faults.ht = true
      · rw [truncate_shrink_fault hz hlt hht]; exact (truncateSectors_env _ _ _).1
      · rw [truncate_shrink_ok hz hlt hht]; exact (truncateSectors_env _ _ _).1
    · rw [truncate_grow hz hlt]; exact (truncateSectors_env _ _ _).1

/-- **`Truncate` refines the byte-array truncate**: when it succeeds the
contents below the new size are kept and everything from the new size on reads
as zero (also when the file grows again later: the tail of the last kept sector
was zeroed, the dropped sectors became holes, and the hole source was
truncated). -/
theorem truncate_content_ok {O : Nat → Prop} {c : Cfg} {f : File} {e : Env} (sz : Nat) (hss : 0 < c.ss)
    (hP : Part c.nsec O e.allocd (nz f.sectors)) (hok : FileOK c.ss e.dev f)
    (hres : (truncate c f e (sz : Int)).2.2 = none) :
    (∀ i, content c.ss (truncate c f e (sz : Int)).2.1.dev (truncate c f e (sz : Int)).1 i =
        if i < sz then content c.ss e.dev f i else 0) ∧
      (truncate c f e (sz : Int)).1.size = sz ∧
      (truncate c f e (sz : Int)).1.hole.limit ≤ sz := by
  obtain ⟨m, hm, hmz, hcz, _, _⟩ := truncZr_content (O := O) (c := c) (f := f) (e := e) sz hss hP
  have hdev := truncate_dev c f e sz
  obtain ⟨e1, e2, e3⟩ := truncateSectors_env f (truncZr c f e sz).1 (truncK c sz)
  cases hz : (truncZr c f e sz).2 with
  | some n => rw [truncate_some hz] at hres; simp at hres
  | none =>
    by_cases hlt : sz < f.size
    · by_cases hht : (truncFe c f e sz).2.faults.ht = true
      · rw [truncate_shrink_fault hz hlt hht] at hres; simp at hres
      · rw [truncate_shrink_ok hz hlt hht] at hdev ⊢
        dsimp only at hdev ⊢
        refine ⟨fun i => ?_, rfl, by unfold Hole.truncate; dsimp only; omega⟩
        rw [hdev, trunc_keep_content c f (truncZr c f e sz).1 (truncK c sz) (f.hole.truncate sz) sz _ i]
        exact trunc_core c f sz m hss (content c.ss e.dev f) (content c.ss (truncZr c f e sz).1.dev f)
          (f.hole.truncate sz) hcz (fun i h0 => content_hole_of_zero _ _ _ _ h0) hok.2 (hmz hz)
          (fun i hi => by rw [hole_truncate_read, if_pos hi])
          (fun i hi => by rw [hole_truncate_read, if_neg (by omega)]) i
    · rw [truncate_grow hz hlt] at hdev ⊢
      dsimp only at hdev ⊢
      refine ⟨fun i => ?_, rfl, ?_⟩
      · rw [hdev, e2, trunc_keep_content c f (truncZr c f e sz).1 (truncK c sz) f.hole sz _ i]
        exact trunc_core c f sz m hss (content c.ss e.dev f) (content c.ss (truncZr c f e sz).1.dev f)
          f.hole hcz (fun i h0 => content_hole_of_zero _ _ _ _ h0) hok.2 (hmz hz)
          (fun i _ => rfl) (fun i hi => hole_read_beyond _ _ (by have := hok.1; omega)) i
      · rw [e2]; have := hok.1; omega

/-- no byte of a sector owned by another file changes (any path). -/
theorem truncate_frame {O : Nat → Prop} {c : Cfg} {f : File} {e : Env} (size : Int) (hss : 0 < c.ss)
    (hP : Part c.nsec O e.allocd (nz f.sectors)) (t k : Nat) (hk : k < c.ss) (ho : O (t + 1)) :
    rd (truncate c f e size).2.1.dev (t * c.ss + k) = rd e.dev (t * c.ss + k) := by
  by_cases hneg : size < 0
  · rw [truncate_neg _ _ _ _ hneg]
  · obtain ⟨sz, rfl⟩ : ∃ sz : Nat, size = (sz : Int) := ⟨size.toNat, by omega⟩
    obtain ⟨m, _, _, _, hfr, _⟩ := truncZr_content (O := O) (c := c) (f := f) (e := e) sz hss hP
    rw [truncate_dev]
    exact hfr t k hk ho

/-- `Truncate` keeps the per-file invariant on every path (also when the zeroing
write or the hole source's `Truncate` fails). -/
theorem truncate_fileOK {O : Nat → Prop} {c : Cfg} {f : File} {e : Env} (size : Int) (hss : 0 < c.ss)
    (hP : Part c.nsec O e.allocd (nz f.sectors)) (hok : FileOK c.ss e.dev f) :
    FileOK c.ss (truncate c f e size).2.1.dev (truncate c f e size).1 := by
  by_cases hneg : size < 0
  · rw [truncate_neg _ _ _ _ hneg]; exact hok
  · obtain ⟨sz, rfl⟩ : ∃ sz : Nat, size = (sz : Int) := ⟨size.toNat, by omega⟩
    by_cases hres : (truncate c f e (sz : Int)).2.2 = none
    · obtain ⟨h1, h2, h3⟩ := truncate_content_ok (O := O) sz hss hP hok hres
      refine ⟨by rw [h2]; exact h3, fun i hi => ?_⟩
      rw [h1 i, if_neg (by rw [h2] at hi; omega)]
    · obtain ⟨m, hm, hmz, hcz, _, _⟩ := truncZr_content (O := O) (c := c) (f := f) (e := e) sz hss hP
      have hczs : ∀ i, f.size ≤ i → content c.ss (truncZr c f e sz).1.dev f i = 0 := by
        intro i hi
        rw [hcz i]; split
        · rfl
        · exact hok.2 i hi
      obtain ⟨e1, e2, e3⟩ := truncateSectors_env f (truncZr c f e sz).1 (truncK c sz)
      cases hz : (truncZr c f e sz).2 with
      | some n => rw [truncate_some hz]; exact ⟨hok.1, hczs⟩
      | none =>
        by_cases hlt : sz < f.size
        · by_cases hht : (truncFe c f e sz).2.faults.ht = true
          · -- the hole source's Truncate failed: sectors dropped, size and hole source unchanged
            rw [truncate_shrink_fault hz hlt hht]
            dsimp only
            refine ⟨by rw [e2, e3]; exact hok.1, fun i hi => ?_⟩
            rw [e3] at hi
            have : (truncFe c f e sz).1 =
                { sectors := (truncateSectors f (truncZr c f e sz).1 (truncK c sz)).1.sectors, size := f.size,
                  hole := f.hole, closed := (truncFe c f e sz).1.closed } := by
              rw [← e2, ← e3]
            rw [this, e1, trunc_keep_content]
            have hzr : f.hole.read i = 0 := hole_read_beyond _ _ (by have := hok.1; omega)
            split
            · split
              · exact hzr
              · exact hczs i hi
            · exact hzr
          · rw [truncate_shrink_ok hz hlt hht] at hres; simp at hres
        · rw [truncate_grow hz hlt] at hres; simp at hres

end BbRe.Lemmas.FilePool
