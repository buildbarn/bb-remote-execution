import BbRe.Lemmas.SchedTreeFnDefs
/-!
`worker.assignNextQueuedTask`, `getNextTask`, `getCurrentOrNextTask` at the level of the tree layer's
functions: the tree part of the invariant is kept by `tAssignNext`, `tGetNextTask`, `tGetCurrentOrNext`.
-/
namespace BbRe.Lemmas.SchedTree
open BbRe.Sched BbRe.SchedTree BbRe.Lemmas.SchedInv

/-- what membership in `queuedTasks` says (more than `mem_queuedTasks`: also the queue and the flag) -/
private theorem mem_queuedTasks' {s : State} {q : ScqId} {t : Task} (hn : (keys s.tasks).Nodup)
    (h : t ∈ queuedTasks s q) :
    ∃ k, alookup k s.tasks = some t ∧ t.scq = q ∧ t.queued = true ∧ t.worker = none ∧ t.response = none := by
  unfold queuedTasks at h
  simp only [List.mem_map, List.mem_filter] at h
  obtain ⟨⟨k, t'⟩, ⟨hm, hp⟩, rfl⟩ := h
  simp only [decide_eq_true_eq] at hp
  refine ⟨k, alookup_of_mem hn hm, hp.1, hp.2.1, ?_, ?_⟩
  · simpa using hp.2.2.1
  · simpa using hp.2.2.2

/-- `removeQueuedFromInvocation` does not look at the scheduler state -/
theorem deqOps_setS (ts : TState) (s s' : State) (t : Task) :
    ((ts.setS s).deqOps t).setS s' = (ts.deqOps t).setS s' := rfl

/-- `worker.assignNextQueuedTask` keeps the tree part of the invariant -/
theorem tAssignNext_ts {h : Hints} {x : Extras} {ts ts' : TState} {w : Worker} {got : Bool} (hI : TInv ts)
    (hw : wfind ts.s.workers w.scq w.id = some w) (hwt : w.task = none) (hwp : w.parked = false)
    (hh : tAssignNext h x ts w = .ok (ts', got)) : TS [] ts' := by
  unfold tAssignNext at hh
  split at hh
  · rename_i a _
    split at hh
    · rename_i t hf
      have hm := List.mem_of_find?_eq_some hf
      obtain ⟨k, hk, hsq, hq, htw, hr⟩ := mem_queuedTasks' hI.inv.core.tnd hm
      have hid : t.id = k := (hI.inv.core.tid k t hk).1
      have ht : alookup t.id ts.s.tasks = some t := by rw [hid]; exact hk
      split at hh
      · rename_i c hc
        unfold tAssignTo at hh
        simp only [log_s, assignTo_eq, hwt, htw, Option.isSome_none, Bool.false_eq_true, if_false, ok_bind',
          pure_bind] at hh
        have ht1 : alookup t.id (assignSt ts.s w t).tasks =
            some { t with worker := some (w.scq, w.id), retry := 0, queued := false } := by
          simp only [assignSt, State.setTask, setWorker_eq]; rw [alookup_aset, if_pos rfl]
        simp only [deqOps_s, setS_s, task?_def, ht1, pure_ok, Except.ok.injEq, Prod.mk.injEq] at hh
        obtain ⟨hh, -⟩ := hh
        subst hh
        have hT := hI.x.log (.pick w.scq w.id t.id (snapshot ts.opOf ts.nodes w.scq) (ts.view w) c.1 c.2)
        have hM := hI.x.inv
        rw [deqOps_setS]
        exact pick_ts (t2 := bumpGen { t with worker := some (w.scq, w.id), retry := 0, queued := false })
          (r := c.2) hT hw hwt hwp ht htw hq hsq.symm (hM.oinv.o3 _ _ ht).1
          (fun k' t' hk' o ho ho' => hM.oinv.own k' t' t.id t o hk' ht ho ho')
          ⟨rfl, rfl, rfl, rfl, rfl⟩
          (aset_aset t.id _ _ ts.s.tasks) rfl rfl rfl
      · cases hh
    · cases hh
  · split at hh
    · split at hh
      · cases hh
      · cases hh; exact hI.ts
    · cases hh

/-- the `Sched` facts about the result of `tAssignNext` (from `assignNext_spec` through the refinement) -/
theorem tAssignNext_post {h : Hints} {x : Extras} {ts ts' : TState} {w : Worker} {got : Bool} (hI : Inv ts.s)
    (hw : wfind ts.s.workers w.scq w.id = some w) (hwt : w.task = none) (hwp : w.parked = false)
    (hwd : w.drainWait = none) (hh : tAssignNext h x ts w = .ok (ts', got)) :
    Inv ts'.s ∧ (got = false → ts'.s = ts.s) ∧
      (got = true → ∃ tid, wfind ts'.s.workers w.scq w.id = some { w with task := some tid }) := by
  have h1 := wp_of_ok (assignNext_spec (h := h) hI hw hwt hwp hwd) (tAssignNext_ref h x ts w ts' got hh)
  exact ⟨h1.1, h1.2.2.2.1, h1.2.2.2.2⟩

/-- `getNextTask` keeps the tree part of the invariant -/
theorem nextOK : NextOK := by
  intro h x ts ts' q w wk pi bl hI hw hr hh
  have hk := wfind_key hw
  have hw' : wfind ts.s.workers wk.scq wk.id = some wk := by rw [hk.1, hk.2]; exact hw
  have hM : MInv (fun _ => False) ts.s := hI.x.inv
  have hidle : ∀ e, TS [] (ts.setS (syncReturn (emit ts.s e) q w)) := fun e =>
    syncReturn_ts hI.x (emit_sframe _ _)
      (fun wk1 h1 => by rw [hw] at h1; cases h1; exact hr.parked)
  unfold tGetNextTask at hh
  simp only [worker?_def, hw] at hh
  split at hh
  · rename_i sq hsq
    by_cases hpi : pi = true
    · simp only [hpi, if_true, pure_ok, Except.ok.injEq] at hh
      subst hh; exact hidle _
    · simp only [hpi, Bool.false_eq_true, if_false] at hh
      by_cases hd : isDrained sq wk = true
      · simp only [hd, Bool.not_true, Bool.false_eq_true, if_false] at hh
        by_cases hb : bl = true
        · simp only [hb, Bool.not_true, Bool.false_eq_true, if_false, pure_ok, Except.ok.injEq] at hh
          subst hh
          exact wset_ts
            (wk' := { wk with drainWait := some sq.undrainGen, timer := some (wk.timer.getD (ts.s.now + ts.s.cfg.idleInterval)) })
            hI.x hw ⟨rfl, rfl, rfl, rfl⟩ rfl rfl rfl (fun o op' ho => ⟨op', ho, rfl, rfl⟩)
        · simp only [hb, Bool.not_false, if_true, pure_ok, Except.ok.injEq] at hh
          subst hh; exact hidle _
      · simp only [hd, Bool.not_false, if_true] at hh
        cases ha : tAssignNext h x ts wk with
        | error e => rw [ha] at hh; cases hh
        | ok r =>
          obtain ⟨ts1, got⟩ := r
          rw [ha] at hh
          simp only [ok_bind'] at hh
          have hT1 : TS [] ts1 := tAssignNext_ts hI hw' hr.task hr.parked ha
          obtain ⟨hI1, hf, hg⟩ := tAssignNext_post hI.inv hw' hr.task hr.parked hr.drainWait ha
          have hM1 : MInv (fun _ => False) ts1.s := MInv.of_inv hI1
          cases got with
          | true =>
            obtain ⟨tid, hw1⟩ := hg rfl
            generalize hwk1 : ({ wk with task := some tid } : Worker) = wk1 at hw1
            have hp1 : wk1.parked = false := by rw [← hwk1]; exact hr.parked
            rw [hk.1, hk.2] at hw1
            simp only [if_true, hw1] at hh
            cases he : execResponse ts1.s wk1 with
            | error e => rw [he] at hh; cases hh
            | ok s2 =>
              rw [he] at hh
              simp only [ok_bind', pure_ok, Except.ok.injEq] at hh
              subst hh
              have hf2 := execResponse_sframe he
              exact syncReturn_ts (TInvX.mk' (exo := fun _ => False) hM1 hT1) hf2
                (fun wk2 h1 => by rw [hw1] at h1; cases h1; exact hp1)
          | false =>
            have hs1 := hf rfl
            have hw1 : wfind ts1.s.workers q w = some wk := by rw [hs1]; exact hw
            simp only [Bool.false_eq_true, if_false] at hh
            by_cases hb : bl = true
            · simp only [hb, Bool.not_true, Bool.false_eq_true, if_false, hw1, hr.parked, pure_ok,
                Except.ok.injEq] at hh
              subst hh
              exact park_ts
                (wk' := { wk with parked := true, woken := false, timer := some (wk.timer.getD (ts1.s.now + ts1.s.cfg.idleInterval)) })
                (TInvX.mk' (exo := fun _ => False) hM1 hT1) hw1 hr.task hr.parked ⟨rfl, rfl, hr.task, rfl⟩ rfl rfl rfl rfl
            · simp only [hb, Bool.not_false, if_true, pure_ok, Except.ok.injEq] at hh
              subst hh
              exact syncReturn_ts (TInvX.mk' (exo := fun _ => False) hM1 hT1) (emit_sframe _ _)
                (fun wk1 h1 => by rw [hw1] at h1; cases h1; exact hr.parked)
  · cases hh

/-- `getCurrentOrNextTask` keeps the tree part of the invariant, provided `task.complete` does -/
theorem curOK (hC : CompleteOK) : CurOK := by
  intro h x ts ts' q w wk pi bl hI hw hr hh
  unfold tGetCurrentOrNext at hh
  simp only [worker?_def, hw] at hh
  cases hwt : wk.task with
  | none =>
    simp only [hwt] at hh
    exact nextOK h x ts ts' q w wk pi bl hI hw ⟨hr.parked, hr.woken, hwt, hr.drainWait, hr.inSync⟩ hh
  | some tid =>
    simp only [hwt] at hh
    obtain ⟨t, ht, htw⟩ := hI.inv.core.p1 q w wk tid hw hwt
    simp only [task?_def, ht] at hh
    have hid : t.id = tid := (hI.inv.core.tid tid t ht).1
    by_cases hret : t.retry < ts.s.cfg.retryCount
    · simp only [hret, if_true, pure_ok, Except.ok.injEq] at hh
      subst hh
      have hI1 : Inv (ts.s.setTask { t with retry := t.retry + 1 }) := setRetry_inv (n := t.retry + 1) hI.inv ht
      have ht' : alookup t.id ts.s.tasks = some t := by rw [hid]; exact ht
      have h1 : TS [] (ts.setS (ts.s.setTask { t with retry := t.retry + 1 })) :=
        taskset_ts (t' := { t with retry := t.retry + 1 }) hI.x ht' ⟨rfl, rfl, rfl, rfl, rfl⟩ rfl rfl rfl
          (fun o op' ho => ⟨op', ho, rfl, rfl⟩)
      have h2 := syncReturn_ts (ts := ts.setS (ts.s.setTask { t with retry := t.retry + 1 })) (q := q) (w := w)
        (TInvX.mk' (exo := fun _ => False) (MInv.of_inv hI1) h1)
        (emit_sframe _ (.syncExecute q w t.digest (ts.s.now + ts.s.cfg.busyInterval)))
        (fun wk1 hw1 => by
          have : wfind ts.s.workers q w = some wk1 := hw1
          rw [hw] at this; cases this; exact hr.parked)
      exact h2
    · simp only [hret, if_false] at hh
      cases hc : tComplete h x ts tid ⟨cInternal, 0, 0, .retryLimit⟩ false with
      | error e => rw [hc] at hh; cases hh
      | ok ts1 =>
        rw [hc] at hh
        simp only [ok_bind'] at hh
        have hex : (alookup tid ts.s.tasks).isSome = true := by rw [ht]; rfl
        have hT1 : TS [] ts1 := hC h x ts ts1 tid _ false hI hex hc
        obtain ⟨hI1, hcp, -, -⟩ := inv_of_ref (tComplete_ref h x ts tid _ false) (complete_spec (h := h) hI.inv hex) hc
        have hw1 := complete_clears hI.inv hI1 hcp hw hwt hr.parked
        exact nextOK h x ts1 ts' q w _ pi bl (TInv.mk' hI1 hT1) hw1
          ⟨hr.parked, hr.woken, rfl, hr.drainWait, hr.inSync⟩ hh

end BbRe.Lemmas.SchedTree
