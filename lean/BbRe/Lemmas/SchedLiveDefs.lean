import BbRe.Lemmas.SchedLiveBasic
/-!
Names for sub-terms of the definitions of `Model/Sched.lean` and equational lemmas
that restate the model's definitions through them.  Nothing here changes the model.
-/
namespace BbRe.Lemmas.SchedLive
open BbRe.Sched

/-- explore every path of a monadic definition unfolded in hypothesis `h`, dropping failing paths -/
macro "paths" h:ident : tactic => `(tactic| (
  simp only [bind, Except.bind, pure, Except.pure] at $h:ident
  repeat' split at $h:ident
  all_goals first
    | (simp at $h:ident; done)
    | (exfalso; exact ‹∀ _, some _ = some _ → False› _ rfl)
    | (exfalso; exact absurd ‹throw _ = Except.ok _› (by simp))
    | skip ))

/-- result of `assignTo` -/
def assignS (s : State) (w : Worker) (t : Task) : State :=
  { ((s.setWorker { w with task := some t.id }).setTask
      { t with worker := some (w.scq, w.id), retry := 0, queued := false }) with
    assigned := (w.scq, w.id, t.id) :: s.assigned }

/-- the task after the "assigned to a temporary worker / detached from the real worker" prefix of `complete` -/
def detachT (t : Task) : Task :=
  { (if t.worker.isNone then bumpGen { t with queued := false, retry := 0 } else t) with worker := none }

/-- the state after clearing the worker's `currentTask` in `complete` -/
def detachW (s : State) (t : Task) : State :=
  match t.worker with
  | some (q, w) => match s.worker? q w with
    | some wk => s.setWorker { wk with task := none }
    | none => s
  | none => s

def dropDedup (s : State) (t : Task) : State :=
  if alookup t.dkey s.dedup = some t.id then { s with dedup := aerase t.dkey s.dedup } else s

/-- one iteration of `complete.finishOps` -/
def finishOp (s : State) (o : Nat) : State :=
  match s.op? o with
  | some op => if op.mayExistWithoutWaiters
      then maybeStartCleanup (s.setOp { op with mayExistWithoutWaiters := false }) o else s
  | none => s

theorem finishOps_nil (s : State) : complete.finishOps s [] = s := rfl
theorem finishOps_cons (s : State) (o : Nat) (l : List Nat) :
    complete.finishOps s (o :: l) = complete.finishOps (finishOp s o) l := rfl

/-- `complete.finalize` as a pure function -/
def finalizeS (s : State) (t : Task) (r : Resp) : State :=
  complete.finishOps ((dropDedup s t).setTask (bumpGen { t with response := some r })) t.ops

theorem finalize_eq (s : State) (t : Task) (r : Resp) : complete.finalize s t r = .ok (finalizeS s t r) := rfl

/-- the background task and operation created by a successful completion -/
def bgTask (s : State) (t : Task) (bq : ScqId) (bl : Nat) : Task :=
  { id := s.nextTask, digest := t.digest, dkey := t.dkey, doNotCache := true, scq := bq, ops := [s.nextOp],
    worker := none, retry := 0, response := none, gen := 0, learner := some bl, background := true, queued := false }
def bgOp (s : State) (pq : PQ) : Op :=
  { name := s.nextOp, task := s.nextTask, inv := [0], prio := pq.bgPrio, waiters := 0, mayExistWithoutWaiters := true }
def bgState (s : State) (t : Task) (bq : ScqId) (bl : Nat) (pq : PQ) : State :=
  ({ s with nextTask := s.nextTask + 1, nextOp := s.nextOp + 1 }.setTask (bgTask s t bq bl)).setOp (bgOp s pq)

def bumpLearner (s : State) : State := { s with nextLearner := s.nextLearner + 1 }

/-- events addressed to a client stream (`msg`, `ret`) as opposed to workers / analyzers / operators -/
def isClientEv : Event → Bool
  | .msg .. => true
  | .ret .. => true
  | _ => false

/-- state after a final completion: the learner event `ev` emitted and task `t` finalised with response `r`.
The success branch of `complete` ends in it, and so do its two failing completions without retry (`complete_ok`). -/
def succS (s : State) (t : Task) (ev : Event) (r : Resp) : State :=
  finalizeS (emit s ev) { t with learner := none } r

/-- success branch of `complete` (after the detach prefix): `s`, `t` are the detached state / task -/
def completeSucc (h : Hints) (s : State) (t : Task) (learner : Nat) (r : Resp) : M State := do
    let s := emit s (.learnerSucceeded learner (if h.bg.isSome then some s.nextLearner else none))
    let t := { t with learner := none }
    let s := finalizeS s t r
    match h.bg with
    | none => return s
    | some bgIdx =>
      let bl := s.nextLearner
      let s := { s with nextLearner := bl + 1 }
      let some pq := s.pq? t.scq.pq | throw "complete: no platform queue"
      if pq.bgMax = 0 then return emit s (.learnerAbandoned bl)
      let sizes := s.sizes t.scq.pq
      let some bsc := sizes[min bgIdx (sizes.length - 1)]? | throw "platform queue without size classes"
      let bq : ScqId := ⟨t.scq.pq, bsc⟩
      if countQueuedBackground s bq ≥ pq.bgMax then return emit s (.learnerAbandoned bl)
      schedule h (bgState s t bq bl pq) s.nextTask

/-- state and task handed to `schedule` in the retry branch -/
def retryS (s : State) (l : Nat) (r : Resp) : State :=
  emit (bumpLearner s) (.learnerFailed l (r.code = cDeadlineExceeded) (some s.nextLearner))
def retryT (s : State) (t : Task) (l : Nat) (r : Resp) : Task :=
  { t with learner := some s.nextLearner, scq := largestScq (retryS s l r) t.scq }

/-- retry branch of `complete` -/
def completeRetry (h : Hints) (s : State) (t : Task) (learner : Nat) (r : Resp) : M State := do
    let nl := s.nextLearner
    let s := emit { s with nextLearner := nl + 1 } (.learnerFailed learner (r.code = cDeadlineExceeded) (some nl))
    let t := { t with learner := some nl, scq := largestScq s t.scq }
    let s := s.setTask t
    let s ← schedule h s t.id
    let some t := s.task? t.id | throw "complete: task vanished"
    return s.setTask (bumpGen t)

def eraseOp (s : State) (o : Nat) : State := { s with ops := aerase o s.ops }

/-- tail of `removeOp`: drop `o` from the task's operation list; drop the task with its last operation -/
def dropOpT (s : State) (t : Task) (o : Nat) : State :=
  if (t.ops.filter (· ≠ o)).isEmpty then { s with tasks := aerase t.id s.tasks }
  else s.setTask { t with ops := t.ops.filter (· ≠ o) }

/-- tail of `removeScq` -/
def dropScq (s : State) (q : ScqId) : State :=
  if (s.scqs.filter (fun x => x.id ≠ q)).any (fun x => x.id.pq = q.pq)
  then { s with scqs := s.scqs.filter (fun x => x.id ≠ q) }
  else { s with scqs := s.scqs.filter (fun x => x.id ≠ q), pqs := s.pqs.filter (fun p => p.id ≠ q.pq) }

def filterWorkers (s : State) (q : ScqId) (w : WId) : State :=
  { s with workers := s.workers.filter (fun x => ¬ (x.scq = q ∧ x.id = w)) }

/-- tail of `removeStaleWorker` -/
def dropWorker (s : State) (q : ScqId) (w : WId) (rt : Nat) : State :=
  match (filterWorkers s q w).scq? q with
  | some sq =>
    if !(filterWorkers s q w).workers.any (fun x => x.scq = q) ∧ sq.mayBeRemoved
    then (filterWorkers s q w).addCleanup (rt + s.cfg.pqTimeout) (.scq q) else filterWorkers s q w
  | none => filterWorkers s q w

def setCleanup (s : State) (cs : List CleanupEntry) : State := { s with cleanup := cs }
def setNow (s : State) (t : Nat) : State := { s with now := t }

/-- the callback of one cleanup entry -/
def callback (h : Hints) (s : State) (e : CleanupEntry) : M State :=
  match e.kind with
  | .worker q w => removeStaleWorker h s q w e.deadline
  | .op o => removeOp h s o
  | .scq q => removeScq h s q

theorem runCleanup_zero (h : Hints) (s : State) : runCleanup h 0 s = pure s := rfl
theorem runCleanup_succ (h : Hints) (f : Nat) (s : State) :
    runCleanup h (f + 1) s =
      match popDue s.now s.cleanup with
      | none => pure s
      | some (e, rest) => callback h (setCleanup s rest) e >>= runCleanup h f := by
  rw [runCleanup]
  cases popDue s.now s.cleanup with
  | none => rfl
  | some p => obtain ⟨e, rest⟩ := p; cases e with | mk d k => cases k <;> rfl

def dropStream (s : State) (c : Nat) : State := { s with streams := s.streams.filter (fun x => x.client ≠ c) }

def sendDone (s : State) (c o : Nat) (op : Op) (t : Task) (r : Resp) : State :=
  maybeStartCleanup ((emit (emit (dropStream s c) (.msg c o t.stage true r.code r.tok)) (.ret c cOK)).setOp
    { op with waiters := op.waiters - 1 }) o

def addStream (s : State) (st : Stream) : State := { s with streams := st :: s.streams }

def sendPark (s : State) (c o : Nat) (t : Task) : State :=
  addStream (emit (dropStream s c) (.msg c o t.stage false 0 0)) ⟨c, o, t.gen, s.now + s.cfg.updateInterval⟩

def attachS (s : State) (o : Nat) (op : Op) : State :=
  (s.removeCleanup (.op o)).setOp { op with waiters := op.waiters + 1 }

def leaveS (s : State) (c : Nat) (st : Stream) (op : Op) (code : Nat) : State :=
  emit (maybeStartCleanup ((dropStream s c).setOp { op with waiters := op.waiters - 1 }) st.op) (.ret c code)

/-- a further operation (other invocation) on an in-flight task -/
def addOpS (s : State) (tid : Nat) (t : Task) (inv : List Nat) (prio : Int) : State :=
  ({ s with nextOp := s.nextOp + 1 }.setOp
      { name := s.nextOp, task := tid, inv := inv, prio := prio, waiters := 0, mayExistWithoutWaiters := false }).setTask
    { t with ops := t.ops ++ [s.nextOp] }

def newTask (s : State) (digest dkey : Nat) (dnc : Bool) (q : ScqId) : Task :=
  { id := s.nextTask, digest := digest, dkey := dkey, doNotCache := dnc, scq := q, ops := [s.nextOp], worker := none,
    retry := 0, response := none, gen := 0, learner := some s.nextLearner, background := false, queued := false }

def newOp (s : State) (inv : List Nat) (prio : Int) : Op :=
  { name := s.nextOp, task := s.nextTask, inv := inv, prio := prio, waiters := 0, mayExistWithoutWaiters := false }

/-- the state after `Execute` created a task and its first operation -/
def newTaskS (s : State) (digest dkey : Nat) (dnc : Bool) (q : ScqId) (inv : List Nat) (prio : Int) : State :=
  ((if dnc then
      { (emit { s with nextLearner := s.nextLearner + 1 } (.selSelect s.nextLearner)) with
        nextTask := s.nextTask + 1, nextOp := s.nextOp + 1 }
    else
      { (emit { s with nextLearner := s.nextLearner + 1 } (.selSelect s.nextLearner)) with
        nextTask := s.nextTask + 1, nextOp := s.nextOp + 1, dedup := aset dkey s.nextTask s.dedup }).setTask
    (newTask s digest dkey dnc q)).setOp (newOp s inv prio)

def parkS (s : State) (wk : Worker) : State :=
  s.setWorker { wk with parked := true, woken := false, timer := some (wk.timer.getD (s.now + s.cfg.idleInterval)) }

def drainWaitS (s : State) (wk : Worker) (sq : Scq) : State :=
  s.setWorker { wk with drainWait := some sq.undrainGen, timer := some (wk.timer.getD (s.now + s.cfg.idleInterval)) }

def addScq (s : State) (q : ScqId) : State :=
  { s with scqs := s.scqs ++ [{ id := q, mayBeRemoved := true, drains := [], undrainGen := 0 }] }

def addPqScq (s : State) (q : ScqId) (comps : List Nat) (platform : Nat) : State :=
  { s with pqs := s.pqs ++ [{ id := q.pq, comps := comps, platform := platform, bgMax := 0, bgPrio := 0 }],
           scqs := s.scqs ++ [{ id := q, mayBeRemoved := true, drains := [], undrainGen := 0 }] }

def addWorker (s : State) (q : ScqId) (w : WId) : State :=
  { s with workers := s.workers ++ [{ scq := q, id := w, task := none, terminating := false, parked := false, woken := false, inSync := true, drainWait := none, timer := none }] }

def addTerm (s : State) (tc : TermCall) : State := { s with terms := tc :: s.terms }
def dropTerm (s : State) (id : Nat) : State := { s with terms := s.terms.filter (fun t => t.id ≠ id) }

/-- `complete` restated: lookup, COMPLETED short-cut, detach prefix, three-way split. -/
theorem complete_eq (h : Hints) (s : State) (tid : Nat) (r : Resp) (bw : Bool) :
    complete h s tid r bw =
      match s.task? tid with
      | none => throw "complete: no task"
      | some t =>
        if t.response.isSome then pure s else
        match t.learner with
        | none => throw "complete: task without learner"
        | some l =>
          if r.code = cOK ∧ r.exit = 0 then completeSucc h (detachW s t) (detachT t) l r
          else if bw then
            if h.retry then completeRetry h (detachW s t) (detachT t) l r
            else pure (finalizeS (emit (detachW s t) (.learnerFailed l (r.code = cDeadlineExceeded) none)) { detachT t with learner := none } r)
          else pure (finalizeS (emit (detachW s t) (.learnerAbandoned l)) { detachT t with learner := none } r) := by
  unfold complete
  cases s.task? tid with
  | none => rfl
  | some t =>
    obtain ⟨id, digest, dkey, dnc, scq, ops, worker, retry, response, gen, learner, bg, queued⟩ := t
    cases response with
    | some r' => rfl
    | none =>
      cases learner with
      | none => cases worker <;> rfl
      | some l =>
        cases worker with
        | none => rfl
        | some qw => obtain ⟨q, w⟩ := qw; rfl

end BbRe.Lemmas.SchedLive
