/-
Checking one function reads only the table rows of that function and of its callees.

The generated tables `sigma`, `acqTbl`, `relTbl` are association lists with one row per
function (some hundred rows), and the checkers of `Model/LockSkel.lean` do a `List.lookup` into them at
every call statement. The frame lemmas below (`execA_congr`, `edgesS_congr`, `txS_congr`) say
that a statement's check depends on a table only through the rows of `stmtCalls`; so the
whole-program checks can be run function by function on tables of those few rows (`rows`), in one
pass over the program (`progOkL`). The rows come from a binary trie (`Trie`, `find?_ofList`)
built over the three tables side by side (`zip3`, `aligned`); `tablesOkZ` is the resulting
check and `tablesOk_of_zip` what it establishes. Core Lean only.
-/
import BbRe.Model.LockSkel

namespace BbRe.Lemmas.LockSkelLocal
open BbRe.LockSkel

/-! ## A binary trie with the lookup of an association list -/

/-- Keys are read least significant bit first; key `0` sits at the root. -/
inductive Trie (α : Type) where
  | nil
  | node (v : Option α) (z o : Trie α)

namespace Trie
variable {α : Type}

def find? : Trie α → Nat → Option α
  | nil, _ => none
  | node v _ _, 0 => v
  | node _ z o, k + 1 =>
    match (k + 1) % 2 with
    | 0 => z.find? ((k + 1) / 2)
    | _ => o.find? ((k + 1) / 2)

def val : Trie α → Option α
  | nil => none
  | node v _ _ => v

def zero : Trie α → Trie α
  | nil => nil
  | node _ z _ => z

def one : Trie α → Trie α
  | nil => nil
  | node _ _ o => o

/-- `fuel` bounds the number of bits of `k`; `k < fuel` is enough. -/
def insert : Nat → Trie α → Nat → α → Trie α
  | 0, t, _, _ => t
  | _ + 1, t, 0, a => node (some a) t.zero t.one
  | fuel + 1, t, k + 1, a =>
    match (k + 1) % 2 with
    | 0 => node t.val (insert fuel t.zero ((k + 1) / 2) a) t.one
    | _ => node t.val t.zero (insert fuel t.one ((k + 1) / 2) a)

/-- Earlier rows are inserted last, so they win as in `List.lookup`. -/
def ofList (l : List (Nat × α)) : Trie α :=
  l.foldr (fun kv t => insert (kv.1 + 1) t kv.1 kv.2) nil

/- `find?` and `insert` are written with `match` on `k` and on `k % 2` (these reduce by
`Nat.casesOn` on a literal, without a `Decidable` instance); the lemmas below state them with `if`. -/
theorem find?_eq (t : Trie α) (k : Nat) :
    t.find? k = if k = 0 then t.val else if k % 2 = 0 then t.zero.find? (k / 2) else t.one.find? (k / 2) := by
  cases t with
  | nil => simp [find?, val, zero, one]
  | node v z o =>
    cases k with
    | zero => rfl
    | succ k =>
      by_cases he : (k + 1) % 2 = 0
      · simp only [find?, val, zero, one, he, Nat.succ_ne_zero, if_false, if_true]
      · have h1 : (k + 1) % 2 = 1 := by omega
        simp only [find?, val, zero, one, h1, Nat.succ_ne_zero, if_false]

theorem find?_node (v : Option α) (z o : Trie α) (k : Nat) :
    (node v z o).find? k = if k = 0 then v else if k % 2 = 0 then z.find? (k / 2) else o.find? (k / 2) :=
  find?_eq _ k

theorem insert_succ (fuel : Nat) (t : Trie α) (k : Nat) (a : α) :
    insert (fuel + 1) t k a = if k = 0 then node (some a) t.zero t.one
      else if k % 2 = 0 then node t.val (insert fuel t.zero (k / 2) a) t.one
      else node t.val t.zero (insert fuel t.one (k / 2) a) := by
  cases k with
  | zero => rfl
  | succ k =>
    by_cases he : (k + 1) % 2 = 0
    · simp only [insert, he, Nat.succ_ne_zero, if_false, if_true]
    · have h1 : (k + 1) % 2 = 1 := by omega
      simp only [insert, h1, Nat.succ_ne_zero, if_false]

theorem find?_insert : ∀ (fuel : Nat) (t : Trie α) (k : Nat) (a : α) (k' : Nat), k < fuel →
    (insert fuel t k a).find? k' = if k' = k then some a else t.find? k'
  | 0, _, _, _, _, h => by omega
  | fuel + 1, t, k, a, k', h => by
    rw [find?_eq t k', insert_succ]
    by_cases hk : k = 0
    · subst hk
      by_cases hk' : k' = 0 <;> simp [find?_node, hk']
    · have ih := fun t => find?_insert fuel t (k / 2) a (k' / 2) (by omega)
      by_cases hk' : k' = 0
      · subst hk'
        have : ¬ (0 = k) := fun h => hk h.symm
        by_cases he : k % 2 = 0 <;> simp [find?_node, hk, he, this]
      -- the two keys go down the same subtree iff they have the same parity
      · by_cases he : k % 2 = 0
        · by_cases he' : k' % 2 = 0
          · have : k' / 2 = k / 2 ↔ k' = k := by omega
            simp only [find?_node, hk, hk', he, he', ih, if_true, if_false, this]
          · have : ¬ k' = k := by omega
            simp only [find?_node, hk, hk', he, he', if_true, if_false, this]
        · by_cases he' : k' % 2 = 0
          · have : ¬ k' = k := by omega
            simp only [find?_node, hk, hk', he, he', if_true, if_false, this]
          · have : k' / 2 = k / 2 ↔ k' = k := by omega
            simp only [find?_node, hk, hk', he, he', ih, if_false, this]

theorem find?_ofList (l : List (Nat × α)) (k : Nat) : (ofList l).find? k = l.lookup k := by
  induction l with
  | nil => rfl
  | cons kv l ih =>
    show (insert (kv.1 + 1) (ofList l) kv.1 kv.2).find? k = _
    rw [find?_insert _ _ _ _ _ (Nat.lt_succ_self _), ih]
    obtain ⟨a, b⟩ := kv
    by_cases h : k = a
    · simp [h]
    · have hb : (k == a) = false := by simp [h]
      simp [List.lookup_cons, hb, h]

end Trie

/-! ## The rows of a table for a few keys -/

/-- The association list with the rows `(g, get g)` for `g ∈ gs`. -/
def rows {α : Type} (get : Nat → Option α) (gs : List Nat) : List (Nat × α) :=
  gs.filterMap (fun g => (get g).map (fun a => (g, a)))

theorem lookup_rows {α : Type} (get : Nat → Option α) (gs : List Nat) (g : Nat) :
    (rows get gs).lookup g = if g ∈ gs then get g else none := by
  induction gs with
  | nil => rfl
  | cons x gs ih =>
    unfold rows at ih ⊢
    rw [List.filterMap_cons]
    by_cases hx : g = x
    · subst hx
      cases hg : get g with
      | none => simp [ih, hg]
      | some a => simp
    · have hm : (g ∈ x :: gs) = (g ∈ gs) := by simp [hx]
      have hb : (g == x) = false := by simp [hx]
      cases hg : get x with
      | none => simp only [Option.map_none, ih, hm]
      | some a => simp [List.lookup_cons, hb, hx, ih]

theorem lookup_rows_mem {α : Type} {get : Nat → Option α} {gs : List Nat} {g : Nat} (h : g ∈ gs) :
    (rows get gs).lookup g = get g := by
  rw [lookup_rows, if_pos h]

/-! ## Three tables with the same keys, as one -/

/-- Row by row: the rows of three tables side by side (they have the same keys, `aligned`). -/
def zip3 {α β γ : Type} : List (Nat × α) → List (Nat × β) → List (Nat × γ) → List (Nat × (α × β × γ))
  | (k, a) :: l1, (_, b) :: l2, (_, c) :: l3 => (k, (a, b, c)) :: zip3 l1 l2 l3
  | _, _, _ => []

def aligned {α β γ : Type} : List (Nat × α) → List (Nat × β) → List (Nat × γ) → Bool
  | (k1, _) :: l1, (k2, _) :: l2, (k3, _) :: l3 => k1 == k2 && k1 == k3 && aligned l1 l2 l3
  | [], [], [] => true
  | _, _, _ => false

theorem lookup_zip3 {α β γ : Type} (g : Nat) : ∀ (l1 : List (Nat × α)) (l2 : List (Nat × β))
    (l3 : List (Nat × γ)), aligned l1 l2 l3 = true →
    ((zip3 l1 l2 l3).lookup g).map (·.1) = l1.lookup g ∧
    ((zip3 l1 l2 l3).lookup g).map (·.2.1) = l2.lookup g ∧
    ((zip3 l1 l2 l3).lookup g).map (·.2.2) = l3.lookup g
  | [], [], [], _ => ⟨rfl, rfl, rfl⟩
  | (k1, a) :: l1, (k2, b) :: l2, (k3, c) :: l3, h => by
    simp only [aligned, Bool.and_eq_true, beq_iff_eq] at h
    obtain ⟨⟨rfl, rfl⟩, h⟩ := h
    simp only [zip3, List.lookup_cons]
    cases g == k1 with
    | true => exact ⟨rfl, rfl, rfl⟩
    | false => exact lookup_zip3 g l1 l2 l3 h
  | [], _ :: _, _, h | [], [], _ :: _, h | _ :: _, [], _, h | _ :: _, _ :: _, [], h => by
    simp [aligned] at h

/-! ## Frame lemmas: a statement reads the tables at its callees only -/

/-- Two tables have the same rows for the keys `gs`. -/
def AgreeOn {α : Type} (t t' : List (Nat × α)) (gs : List Nat) : Prop :=
  ∀ g ∈ gs, t.lookup g = t'.lookup g

theorem AgreeOn.left {α : Type} {t t' : List (Nat × α)} {xs ys : List Nat}
    (h : AgreeOn t t' (xs ++ ys)) : AgreeOn t t' xs :=
  fun g hg => h g (List.mem_append_left _ hg)

theorem AgreeOn.right {α : Type} {t t' : List (Nat × α)} {xs ys : List Nat}
    (h : AgreeOn t t' (xs ++ ys)) : AgreeOn t t' ys :=
  fun g hg => h g (List.mem_append_right _ hg)

theorem agreeOn_rows {α : Type} {t : List (Nat × α)} {get : Nat → Option α}
    (h : ∀ g, get g = t.lookup g) (gs : List Nat) : AgreeOn t (rows get gs) gs :=
  fun g hg => by rw [lookup_rows_mem hg, h]

theorem execA_congr {sig sig' : Sig} : ∀ (b : Stmt), AgreeOn sig sig' (stmtCalls b) →
    ∀ s, execA sig b s = execA sig' b s := by
  intro b
  induction b with
  | call g ren =>
    intro h s
    simp only [execA, callA, Sig.get, h g (List.mem_singleton_self g)]
  | seq a b iha ihb => intro h s; simp only [execA, iha h.left, ihb h.right]
  | choice _ a b iha ihb => intro h s; simp only [execA, iha h.left, ihb h.right]
  | fin a b iha ihb => intro h s; simp only [execA, iha h.left, ihb h.right]
  | ifFlag _ a b iha ihb => intro h s; simp only [execA, iha h.left, ihb h.right]
  | loop _ a iha => intro h s; simp only [execA, iha h]
  | scope a iha => intro h s; simp only [execA, iha h]
  | block a iha => intro h s; simp only [execA, iha h]
  | _ => intro _ _; rfl

theorem edgesS_congr {cls : List Nat} {tbl tbl' : AcqTbl} {sig sig' : Sig} : ∀ (b : Stmt),
    AgreeOn tbl tbl' (stmtCalls b) → AgreeOn sig sig' (stmtCalls b) →
    ∀ s es, edgesS cls tbl sig b s es = edgesS cls tbl' sig' b s es := by
  intro b
  induction b with
  | call g ren =>
    intro ht h s es
    simp only [edgesS, callA, Sig.get, AcqTbl.get, h g (List.mem_singleton_self g),
      ht g (List.mem_singleton_self g)]
  | seq a b iha ihb =>
    intro ht h s es; simp only [edgesS, iha ht.left h.left, ihb ht.right h.right]
  | choice _ a b iha ihb =>
    intro ht h s es; simp only [edgesS, iha ht.left h.left, ihb ht.right h.right]
  | fin a b iha ihb =>
    intro ht h s es; simp only [edgesS, iha ht.left h.left, ihb ht.right h.right]
  | ifFlag _ a b iha ihb =>
    intro ht h s es; simp only [edgesS, iha ht.left h.left, ihb ht.right h.right]
  | loop _ a iha => intro ht h s es; simp only [edgesS, iha ht h]
  | scope a iha => intro ht h s es; simp only [edgesS, iha ht h]
  | block a iha => intro ht h s es; simp only [edgesS, iha ht h]
  | _ => intro _ _ _ _; rfl

theorem txS_congr {base : List Nat} {relT relT' : AcqTbl} : ∀ (b : Stmt),
    AgreeOn relT relT' (stmtCalls b) →
    ∀ inScope s, txS base relT inScope b s = txS base relT' inScope b s := by
  intro b
  induction b with
  | call g ren =>
    intro h i s
    simp only [txS, AcqTbl.get, h g (List.mem_singleton_self g)]
  | seq a b iha ihb => intro h i s; simp only [txS, iha h.left, ihb h.right]
  | choice _ a b iha ihb => intro h i s; simp only [txS, iha h.left, ihb h.right]
  | fin a b iha ihb => intro h i s; simp only [txS, iha h.left, ihb h.right]
  | ifFlag _ a b iha ihb => intro h i s; simp only [txS, iha h.left, ihb h.right]
  | loop _ a iha => intro h i s; simp only [txS, funext (iha h i)]
  | scope a iha => intro h i s; simp only [txS, iha h]
  | block a iha => intro h i s; simp only [txS, iha h]
  | mark k c => intro _ _ _; cases k <;> rfl
  | _ => intro _ _ _; rfl

/-! ## All whole-program checks in one pass, function by function on the rows each reads

`sget`, `tget`, `rget` fetch a row of the summary table, the acquisition table and the
release table (in the generated obligations: from one trie over the three tables, `tablesOkZ`).
All obligations of a function use the same list of callees and the same rows. -/

section Local
variable {cls base : List Nat} {sig : Sig} {tbl relT : AcqTbl}
  {sget : Nat → Option (List Nat × List Nat)} {tget rget : Nat → Option (List Nat)}

theorem all_congr_mem {α : Type} {l : List α} {p q : α → Bool} (h : ∀ a ∈ l, p a = q a) :
    l.all p = l.all q := by
  induction l with
  | nil => rfl
  | cons a l ih =>
    rw [List.all_cons, List.all_cons, h a (List.mem_cons_self ..),
      ih (fun b hb => h b (List.mem_cons_of_mem _ hb))]

theorem checkFn_local (hs : ∀ g, sget g = sig.lookup g) (f : Nat) (b : Stmt) :
    checkFn sig f b = checkFn (rows sget (f :: stmtCalls b)) f b := by
  have ha := agreeOn_rows hs (f :: stmtCalls b)
  simp only [checkFn, Sig.get, ← ha f (List.mem_cons_self ..),
    ← execA_congr b (fun g hg => ha g (List.mem_cons_of_mem _ hg))]

theorem acqClosed_local (ht : ∀ g, tget g = tbl.lookup g) (f : Nat) (b : Stmt) :
    acqClosed cls tbl [(f, b)] = acqClosed cls (rows tget (f :: stmtCalls b)) [(f, b)] := by
  have ha := agreeOn_rows ht (f :: stmtCalls b)
  simp only [acqClosed, List.all_cons, List.all_nil, Bool.and_true, AcqTbl.get,
    ← ha f (List.mem_cons_self ..)]
  congr 1
  exact all_congr_mem (fun g hg => by rw [ha g (List.mem_cons_of_mem _ hg)])

theorem txOk_local (hr : ∀ g, rget g = relT.lookup g) (f : Nat) (b : Stmt) :
    txOk base relT [(f, b)] = txOk base (rows rget (stmtCalls b)) [(f, b)] := by
  simp only [txOk, List.all_cons, List.all_nil, Bool.and_true,
    txS_congr b (agreeOn_rows hr (stmtCalls b))]

theorem edgesProg_local (ht : ∀ g, tget g = tbl.lookup g) (hs : ∀ g, sget g = sig.lookup g)
    (f : Nat) (b : Stmt) (es : Edges) :
    edgesProg cls tbl sig [(f, b)] es =
      edgesProg cls (rows tget (f :: stmtCalls b)) (rows sget (f :: stmtCalls b)) [(f, b)] es := by
  have hs' := agreeOn_rows hs (f :: stmtCalls b)
  have ht' := agreeOn_rows ht (f :: stmtCalls b)
  simp only [edgesProg, Sig.get, ← hs' f (List.mem_cons_self ..),
    ← edgesS_congr (cls := cls) b (fun g hg => ht' g (List.mem_cons_of_mem _ hg))
      (fun g hg => hs' g (List.mem_cons_of_mem _ hg))]

theorem edgesProg_cons (fb : Nat × Stmt) (prog : Prog) (es : Edges) :
    edgesProg cls tbl sig (fb :: prog) es =
      (edgesProg cls tbl sig [fb] es).bind (edgesProg cls tbl sig prog) := by
  obtain ⟨f, b⟩ := fb
  simp only [edgesProg]
  cases sig.get f with
  | none => rfl
  | some rp =>
    obtain ⟨req, post⟩ := rp
    dsimp only
    cases edgesS cls tbl sig b ⟨sortS req, CS.init⟩ es with
    | error _ => rfl
    | ok r => rfl

/-- The obligations of function `f` with callees `gs`: it meets its summary, its row of the
acquisition table is closed, it acts on no stale check; the result is `es` extended by its
acquired-while-holding pairs. -/
def fnOkL (cls base : List Nat) (sget : Nat → Option (List Nat × List Nat))
    (tget rget : Nat → Option (List Nat)) (f : Nat) (b : Stmt) (gs : List Nat) (es : Edges) :
    Option Edges :=
  if checkFn (rows sget (f :: gs)) f b && acqClosed cls (rows tget (f :: gs)) [(f, b)]
      && txOk base (rows rget gs) [(f, b)] then
    edgesProg cls (rows tget (f :: gs)) (rows sget (f :: gs)) [(f, b)] es
  else none

def progOkL (cls base : List Nat) (sget : Nat → Option (List Nat × List Nat))
    (tget rget : Nat → Option (List Nat)) : Prog → Edges → Option Edges
  | [], es => some es
  | (f, b) :: rest, es =>
    match fnOkL cls base sget tget rget f b (stmtCalls b) es with
    | none => none
    | some es1 => progOkL cls base sget tget rget rest es1

theorem progOkL_spec (hs : ∀ g, sget g = sig.lookup g) (ht : ∀ g, tget g = tbl.lookup g)
    (hr : ∀ g, rget g = relT.lookup g) : ∀ (prog : Prog) (es es' : Edges),
    progOkL cls base sget tget rget prog es = some es' →
    consistent sig prog = true ∧ acqClosed cls tbl prog = true ∧ txOk base relT prog = true ∧
      edgesProg cls tbl sig prog es = some es'
  | [], _, _, h => ⟨rfl, rfl, rfl, h⟩
  | (f, b) :: rest, es, es', h => by
    simp only [progOkL, fnOkL] at h
    split at h
    · cases h
    · rename_i es1 h1
      split at h1
      · rename_i hc
        simp only [Bool.and_eq_true, ← checkFn_local hs, ← acqClosed_local ht,
          ← txOk_local hr] at hc
        rw [← edgesProg_local ht hs] at h1
        obtain ⟨hcon, hacq, htx, hed⟩ := progOkL_spec hs ht hr rest es1 es' h
        refine ⟨?_, ?_, ?_, ?_⟩
        · simp only [consistent, List.all_cons, Bool.and_eq_true]
          exact ⟨hc.1.1, hcon⟩
        · have := hc.1.2
          simp only [acqClosed, List.all_cons, List.all_nil, Bool.and_true, Bool.and_eq_true] at this hacq ⊢
          exact ⟨this, hacq⟩
        · have := hc.2
          simp only [txOk, List.all_cons, List.all_nil, Bool.and_true, Bool.and_eq_true] at this htx ⊢
          exact ⟨this, htx⟩
        · rw [edgesProg_cons, h1]; exact hed
      · cases h1

/-- Every obligation about the generated tables: those of `progOkL`, a rank computed from
the extracted edges increases along each of them, and the entry points have empty summaries. -/
def tablesOkL (cls base : List Nat) (sget : Nat → Option (List Nat × List Nat))
    (tget rget : Nat → Option (List Nat)) (prog : Prog) (nClasses : Nat) (entries : List Nat) : Bool :=
  match progOkL cls base sget tget rget prog [] with
  | none => false
  | some es => ranksOk (rankTable nClasses es) es && entries.all (fun f => sget f == some ([], []))

/-- What `tablesOkL` establishes about the full tables. -/
structure TablesOk (cls base : List Nat) (sig : Sig) (tbl relT : AcqTbl) (prog : Prog)
    (nClasses : Nat) (entries : List Nat) : Prop where
  consistent : consistent sig prog = true
  balanced : entriesBalanced sig entries = true
  tx : txOk base relT prog = true
  closed : acqClosed cls tbl prog = true
  graph : ∃ es, edgesProg cls tbl sig prog [] = some es ∧ ranksOk (rankTable nClasses es) es = true

theorem tablesOk_of_local (hs : ∀ g, sget g = sig.lookup g) (ht : ∀ g, tget g = tbl.lookup g)
    (hr : ∀ g, rget g = relT.lookup g) {prog : Prog} {n : Nat} {entries : List Nat}
    (h : tablesOkL cls base sget tget rget prog n entries = true) :
    TablesOk cls base sig tbl relT prog n entries := by
  unfold tablesOkL at h
  split at h
  · cases h
  · rename_i es he
    obtain ⟨hcon, hacq, htx, hed⟩ := progOkL_spec (sig := sig) (tbl := tbl) (relT := relT) hs ht hr prog [] es he
    rw [Bool.and_eq_true] at h
    refine ⟨hcon, ?_, htx, hacq, ?_⟩
    · simpa only [entriesBalanced, Sig.get, hs] using h.2
    · exact ⟨es, hed, h.1⟩

/-- `tablesOkL` with the rows of the three tables (which must have the same keys) fetched from
one trie. -/
def tablesOkZ (cls base : List Nat) (sig : Sig) (tbl relT : AcqTbl) (prog : Prog) (nClasses : Nat)
    (entries : List Nat) : Bool :=
  let row := (Trie.ofList (zip3 sig tbl relT)).find?
  aligned sig tbl relT && tablesOkL cls base (fun g => (row g).map (·.1)) (fun g => (row g).map (·.2.1))
    (fun g => (row g).map (·.2.2)) prog nClasses entries

theorem tablesOk_of_zip {prog : Prog} {n : Nat} {entries : List Nat}
    (h : tablesOkZ cls base sig tbl relT prog n entries = true) :
    TablesOk cls base sig tbl relT prog n entries := by
  simp only [tablesOkZ, Bool.and_eq_true] at h
  have hz := fun g => Trie.find?_ofList (zip3 sig tbl relT) g ▸ lookup_zip3 g sig tbl relT h.1
  exact tablesOk_of_local (fun g => (hz g).1) (fun g => (hz g).2.1) (fun g => (hz g).2.2) h.2

end Local

end BbRe.Lemmas.LockSkelLocal
