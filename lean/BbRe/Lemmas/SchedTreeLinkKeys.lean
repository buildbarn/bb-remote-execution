import BbRe.Lemmas.SchedTreeLinkFold
import BbRe.Lemmas.SchedTreePrimPark
import BbRe.Lemmas.SchedTreePrimIdle
/-!
Every update of the node list made by the tree layer keeps the root invocations and creates invocations
only in the queue it is told to (`NFrame`).
-/
namespace BbRe.Lemmas.SchedTree
open BbRe.Sched BbRe.SchedTree

/-- `ns'` was obtained from `ns` by updates that keep every root invocation and create invocations only
in the queues `qs` -/
structure NFrame (qs : List ScqId) (ns ns' : List Node) : Prop where
  roots : ∀ q, (node? ns q []).isSome = true → (node? ns' q []).isSome = true
  scqs : ∀ n' ∈ ns', (∃ n ∈ ns, n.scq = n'.scq) ∨ n'.scq ∈ qs

theorem NFrame.refl (ns : List Node) : NFrame [] ns ns :=
  ⟨fun _ h => h, fun n' hn' => Or.inl ⟨n', hn', rfl⟩⟩

theorem NFrame.trans {qs qs' : List ScqId} {a b c : List Node} (h1 : NFrame qs a b) (h2 : NFrame qs' b c) :
    NFrame (qs ++ qs') a c := by
  refine ⟨fun q h => h2.roots q (h1.roots q h), ?_⟩
  intro n' hn'
  rcases h2.scqs n' hn' with ⟨m, hm, e⟩ | hq
  · rcases h1.scqs m hm with ⟨n, hn, e'⟩ | hq
    · exact Or.inl ⟨n, hn, e'.trans e⟩
    · exact Or.inr (List.mem_append_left _ (e ▸ hq))
  · exact Or.inr (List.mem_append_right _ hq)

theorem NFrame.mono {qs qs' : List ScqId} {a b : List Node} (h : NFrame qs a b) (hs : ∀ q ∈ qs, q ∈ qs') :
    NFrame qs' a b := by
  refine ⟨h.roots, ?_⟩
  intro n' hn'
  rcases h.scqs n' hn' with h1 | h1
  · exact Or.inl h1
  · exact Or.inr (hs _ h1)

/-- composition of two updates that create nothing -/
theorem NFrame.trans0 {a b c : List Node} (h1 : NFrame [] a b) (h2 : NFrame [] b c) : NFrame [] a c :=
  (h1.trans h2).mono (fun _ hq => by simp at hq)

theorem NFrame.of_keys {ns ns' : List Node} (h : ns'.map nkey = ns.map nkey) : NFrame [] ns ns' := by
  refine ⟨fun q hq => by rw [node?_isSome_of_keys h]; exact hq, ?_⟩
  intro n' hn'
  have hm : nkey n' ∈ ns.map nkey := by rw [← h]; exact List.mem_map_of_mem hn'
  obtain ⟨n, hn, e⟩ := List.mem_map.mp hm
  exact Or.inl ⟨n, hn, congrArg Prod.fst e⟩

/-- a filter that keeps every root -/
theorem NFrame.of_filter (ns : List Node) (keep : Node → Bool) (hk : ∀ n ∈ ns, n.path = [] → keep n = true) :
    NFrame [] ns (ns.filter keep) := by
  refine ⟨?_, fun n' hn' => Or.inl ⟨n', (List.mem_filter.mp hn').1, rfl⟩⟩
  intro q hq
  obtain ⟨n, hn, h1, h2⟩ := node?_isSome_iff.mp hq
  exact node?_isSome_iff.mpr ⟨n, List.mem_filter.mpr ⟨hn, hk n hn h2⟩, h1, h2⟩

theorem foldl_nframe {α : Type _} (qs : List ScqId) (step : List Node → α → List Node)
    (hs : ∀ ns a, NFrame qs ns (step ns a)) (l : List α) :
    ∀ ns : List Node, NFrame qs ns (l.foldl step ns) := by
  induction l with
  | nil => intro ns; exact (NFrame.refl ns).mono (fun _ hq => nomatch hq)
  | cons a r ih =>
    intro ns
    rw [List.foldl_cons]
    exact ((hs ns a).trans (ih (step ns a))).mono (fun q hq => by
      rcases List.mem_append.mp hq with h | h <;> exact h)

/-! ### node-level primitives -/

theorem updPath_keys (ns : List Node) (q : ScqId) (p : List Nat) (f : Node → Node) (hf : KeepsKey f) :
    (updPath ns q p f).map nkey = ns.map nkey := by
  rw [updPath_eq_map]; exact map_keys (keepsKey_ite hf)

theorem pruneP_nframe (ns : List Node) (q : ScqId) (p : List Nat) : NFrame [] ns (pruneP ns q p) := by
  unfold pruneP
  apply NFrame.of_filter
  intro n _ hp
  simp [hp]

theorem incExec_nframe (ns : List Node) (q : ScqId) (p : List Nat) (k : WKey) (now : Nat) :
    NFrame [] ns (incExec ns q p k now) :=
  NFrame.of_keys (updPath_keys _ _ _ _ (fun _ => ⟨rfl, rfl⟩))

theorem refreshUp_nframe (pr : Nat → Int) (ns : List Node) (q : ScqId) (p : List Nat) : NFrame [] ns (refreshUp pr ns q p) :=
  NFrame.of_keys (refreshUp_keys pr ns q p)

theorem incExecR_nframe (lg : Bool) (pr : Nat → Int) (ns : List Node) (q : ScqId) (p : List Nat) (k : WKey) (now : Nat) :
    NFrame [] ns (incExecR lg pr ns q p k now) := by
  unfold incExecR
  split
  · exact incExec_nframe ns q p k now
  · exact NFrame.trans0 (incExec_nframe ns q p k now) (refreshUp_nframe pr _ q p)

theorem decExec_nframe (ns : List Node) (q : ScqId) (p : List Nat) (k : WKey) (now : Nat) :
    NFrame [] ns (decExec ns q p k now) := by
  unfold decExec
  refine NFrame.trans0 (NFrame.of_keys ?_) (pruneP_nframe _ q p)
  exact updPath_keys ns q p _ (fun _ => ⟨rfl, rfl⟩)

theorem decExecR_nframe (lg : Bool) (pr : Nat → Int) (ns : List Node) (q : ScqId) (p : List Nat) (k : WKey) (now : Nat) :
    NFrame [] ns (decExecR lg pr ns q p k now) := by
  unfold decExecR
  split
  · exact decExec_nframe ns q p k now
  · exact NFrame.trans0 (decExec_nframe ns q p k now) (refreshUp_nframe pr _ q p)

theorem setLastN_nframe (ns : List Node) (q : ScqId) (p : List Nat) : NFrame [] ns (setLastN ns q p) :=
  NFrame.of_keys (updPath_keys _ _ _ _ (fun _ => ⟨rfl, rfl⟩))

theorem clearLastN_nframe (ns : List Node) (q : ScqId) (p : List Nat) : NFrame [] ns (clearLastN ns q p) := by
  unfold clearLastN
  refine NFrame.trans0 (NFrame.of_keys ?_) (pruneP_nframe _ q p)
  exact updPath_keys ns q p _ (fun _ => ⟨rfl, rfl⟩)

theorem enqueueOp_keys (prioOf : Nat → Int) (ns : List Node) (q : ScqId) (p : List Nat) (o : Nat) :
    (enqueueOp prioOf ns q p o).map nkey = ns.map nkey := by
  unfold enqueueOp
  rw [foldl_keys _ (enqStep_keys prioOf q), updNode_keys]
  intro _ _ _; rfl

theorem removeQueuedOp_keys (prioOf : Nat → Int) (ns : List Node) (q : ScqId) (p : List Nat) (o : Nat) :
    (removeQueuedOp prioOf ns q p o).map nkey = ns.map nkey := by
  unfold removeQueuedOp
  rw [foldl_keys _ (deqStep_keys prioOf q), updNode_keys]
  intro _ _ _; rfl

theorem enqueueOp_nframe (prioOf : Nat → Int) (ns : List Node) (q : ScqId) (p : List Nat) (o : Nat) :
    NFrame [] ns (enqueueOp prioOf ns q p o) :=
  NFrame.of_keys (enqueueOp_keys prioOf ns q p o)

theorem removeQueuedOp_nframe (prioOf : Nat → Int) (ns : List Node) (q : ScqId) (p : List Nat) (o : Nat) :
    NFrame [] ns (removeQueuedOp prioOf ns q p o) :=
  NFrame.of_keys (removeQueuedOp_keys prioOf ns q p o)

theorem parkStep_keys (q : ScqId) (ns : List Node) (pi : List Nat) :
    (parkStep q ns pi).map nkey = ns.map nkey := by
  unfold parkStep
  apply updNode_keys
  intro _ _ _; rfl

theorem unparkStep_keys (q : ScqId) (ns : List Node) (pi : List Nat) :
    (unparkStep q ns pi).map nkey = ns.map nkey := by
  unfold unparkStep
  split
  · rfl
  · split
    · apply updNode_keys
      intro _ _ _; rfl
    · rfl

theorem parkW_keys (ns : List Node) (q : ScqId) (p : List Nat) (w : WId) :
    (parkW ns q p w).map nkey = ns.map nkey := by
  unfold parkW
  rw [foldl_keys _ (parkStep_keys q), updNode_keys]
  intro _ _ _; rfl

theorem dequeueW_keys (ns : List Node) (q : ScqId) (p : List Nat) (w : WId) :
    (dequeueW ns q p w).map nkey = ns.map nkey := by
  unfold dequeueW
  rw [foldl_keys _ (unparkStep_keys q), updNode_keys]
  intro _ _ _; rfl

theorem parkW_nframe (ns : List Node) (q : ScqId) (p : List Nat) (w : WId) : NFrame [] ns (parkW ns q p w) :=
  NFrame.of_keys (parkW_keys ns q p w)

theorem dequeueW_nframe (ns : List Node) (q : ScqId) (p : List Nat) (w : WId) : NFrame [] ns (dequeueW ns q p w) :=
  NFrame.of_keys (dequeueW_keys ns q p w)

theorem pruneChain_nframe (ns : List Node) (q : ScqId) (l : List (List Nat)) (hl : ∀ pi ∈ l, pi ≠ []) :
    NFrame [] ns (pruneChain ns q l) := by
  induction l generalizing ns with
  | nil => exact NFrame.refl ns
  | cons pi rest ih =>
    unfold pruneChain
    split
    · split
      · refine (NFrame.of_filter ns _ ?_).trans0 (ih _ (fun x hx => hl x (List.mem_cons_of_mem _ hx)))
        intro n _ hp
        have hne : pi ≠ [] := hl pi List.mem_cons_self
        have : n.isAt q pi = false := by
          rw [Bool.eq_false_iff]
          intro hc
          exact hne (((isAt_iff n q pi).mp hc).2.symm.trans hp)
        rw [this]; rfl
      · exact NFrame.refl ns
    · exact NFrame.refl ns

theorem append_mkNode_nframe (ns : List Node) (q : ScqId) (pi : List Nat) (now : Nat) :
    NFrame [q] ns (ns ++ [mkNode q pi now]) := by
  refine ⟨fun q' h => node?_append_isSome _ h, ?_⟩
  intro n' hn'
  rcases List.mem_append.mp hn' with h | h
  · exact Or.inl ⟨n', h, rfl⟩
  · have : n' = mkNode q pi now := by simpa using h
    subst this
    exact Or.inr (by simp [mkNode])

theorem getOrCreate_nframe (ns : List Node) (q : ScqId) (p : List Nat) (now : Nat) :
    NFrame [q] ns (getOrCreate ns q p now) := by
  unfold getOrCreate
  apply foldl_nframe
  intro ms pi
  split
  · exact (NFrame.refl ms).mono (fun _ hq => nomatch hq)
  · exact append_mkNode_nframe ms q pi now

/-! ### the tree-only updates of the state -/

theorem incOps_nframe (ts : TState) (t : Task) (k : WKey) : NFrame [] ts.nodes (ts.incOps t k).nodes :=
  foldl_nframe [] _ (fun ns o => incExecR_nframe ts.legacyPrio ts.prioOf ns t.scq (ts.invOf o) k ts.s.now) t.ops ts.nodes

theorem decOps_nframe (ts : TState) (t : Task) (k : WKey) : NFrame [] ts.nodes (ts.decOps t k).nodes :=
  foldl_nframe [] _ (fun ns o => decExecR_nframe ts.legacyPrio ts.prioOf ns t.scq (ts.invOf o) k ts.s.now) t.ops ts.nodes

theorem enqOps_nframe (ts : TState) (t : Task) : NFrame [] ts.nodes (ts.enqOps t).nodes :=
  foldl_nframe [] _ (fun ns o => enqueueOp_nframe ts.prioOf ns t.scq (ts.invOf o) o) t.ops ts.nodes

theorem deqOps_nframe (ts : TState) (t : Task) : NFrame [] ts.nodes (ts.deqOps t).nodes :=
  foldl_nframe [] _ (fun ns o => removeQueuedOp_nframe ts.prioOf ns t.scq (ts.invOf o) o) t.ops ts.nodes

theorem clearLast_nframe (ts : TState) (q : ScqId) (w : WId) : NFrame [] ts.nodes (ts.clearLast q w).nodes := by
  show NFrame [] ts.nodes (match ts.lastOf q w with
    | some p => clearLastN ts.nodes q p
    | none => ts.nodes)
  split
  · exact clearLastN_nframe _ _ _
  · exact NFrame.refl _

theorem setLast_nframe (ts : TState) (tq q : ScqId) (w : WId) (p : List Nat) :
    NFrame [] ts.nodes (ts.setLast tq q w p).nodes :=
  setLastN_nframe ts.nodes tq p

theorem unparkTree_nframe (ts : TState) (q : ScqId) (w : WId) : NFrame [] ts.nodes (ts.unparkTree q w).nodes := by
  show NFrame [] ts.nodes (match ts.lastOf q w with
    | some p => dequeueW ts.nodes q p w
    | none => ts.nodes)
  split
  · exact dequeueW_nframe _ _ _ _
  · exact NFrame.refl _

theorem parkTree_nframe (ts : TState) (q : ScqId) (w : WId) : NFrame [] ts.nodes (ts.parkTree q w).nodes := by
  show NFrame [] ts.nodes (match ts.lastOf q w with
    | some p => parkW ts.nodes q p w
    | none => ts.nodes)
  split
  · exact parkW_nframe _ _ _ _
  · exact NFrame.refl _

theorem createOps_nframe (ts : TState) (t : Task) : NFrame [t.scq] ts.nodes (ts.createOps t).nodes :=
  foldl_nframe [t.scq] _ (fun ns o => getOrCreate_nframe ns t.scq (ts.invOf o) ts.s.now) t.ops ts.nodes

theorem create_nframe (ts : TState) (q : ScqId) (p : List Nat) : NFrame [q] ts.nodes (ts.create q p).nodes :=
  getOrCreate_nframe ts.nodes q p ts.s.now

theorem assignTree_nframe (ts : TState) (w : Worker) (t : Task) (r : Nat) :
    NFrame [] ts.nodes (ts.assignTree w t r).nodes :=
  (incOps_nframe ts t (some w.id)).trans0 (clearLast_nframe (ts.incOps t (some w.id)) w.scq w.id)

theorem detachTree_nframe (ts : TState) (t : Task) (bw : Bool) : NFrame [] ts.nodes (ts.detachTree t bw).nodes := by
  unfold TState.detachTree
  split
  · exact ((incOps_nframe ts t none).trans0 (deqOps_nframe _ t)).trans0 (decOps_nframe _ t none)
  · exact (setLast_nframe ts _ _ _ _).trans0 (decOps_nframe _ t _)

theorem removeOpTree_nframe (ts : TState) (t : Task) (o : Nat) : NFrame [] ts.nodes (ts.removeOpTree t o).nodes := by
  unfold TState.removeOpTree
  split
  · exact NFrame.refl _
  · exact decExecR_nframe _ _ _ _ _ _ _
  · exact (removeQueuedOp_nframe _ _ _ _ _).trans0
      (pruneChain_nframe _ _ _ (fun pi hpi => (mem_ups.mp hpi).2))

theorem maybeDequeue_nframe (ts : TState) (wk : Worker) : NFrame [] ts.nodes (ts.maybeDequeue wk).nodes := by
  unfold TState.maybeDequeue
  split
  · exact unparkTree_nframe _ _ _
  · exact NFrame.refl _

theorem tWake_nframe (ts : TState) (w : Worker) : NFrame [] ts.nodes (tWake ts w).nodes :=
  unparkTree_nframe ts w.scq w.id

end BbRe.Lemmas.SchedTree
