import BbRe.Lemmas.FilePoolTrunc
import BbRe.Lemmas.FilePoolState
import BbRe.Spec.ByteFile
/-!
The abstraction `absFile` from the model's files to `Spec/ByteFile.lean`, and
the step-level refinement lemmas used by `Properties/C15.lean`.
-/
namespace BbRe.Lemmas.FilePool
open BbRe.FilePool BbRe.ByteFile

/-- the file as a byte array. -/
def absFile (ss : Nat) (dev : Array FilePool.Byte) (f : File) : ByteFile := ⟨f.size, content ss dev f⟩

theorem absFile_wf {ss : Nat} {dev : Array FilePool.Byte} {f : File} (h : FileOK ss dev f) : WF (absFile ss dev f) :=
  h.2

/-- a file without sectors over a hole source without data beyond `size` is `create`. -/
theorem absFile_new (ss : Nat) (dev : Array FilePool.Byte) (hole : Hole) (size : Nat) (hwf : hole.limit ≤ size) :
    Eqv (absFile ss dev ⟨[], size, hole, false⟩) (create hole.read size) := by
  refine ⟨rfl, fun k => ?_⟩
  show content ss dev ⟨[], size, hole, false⟩ k = _
  rw [content_hole_of_zero _ _ _ _ rfl]
  unfold create
  dsimp only
  split
  · rfl
  · exact hole_read_beyond _ _ (by omega)

theorem list_eq_of_getD (a b : List Nat) (hl : a.length = b.length)
    (h : ∀ j, j < a.length → a.getD j 0 = b.getD j 0) : a = b := by
  apply List.ext_getElem hl
  intro j h1 h2
  have := h j h1
  simp only [List.getD_eq_getElem?_getD, List.getElem?_eq_getElem h1, List.getElem?_eq_getElem h2,
    Option.getD_some] at this
  exact this

theorem byteRead_snd (b : ByteFile) (o n : Nat) :
    (ByteFile.read b o n).2 = decide (n ≠ 0 ∧ b.size ≤ o + n) := by
  unfold ByteFile.read
  by_cases hn : n = 0
  · rw [if_pos hn]; simp [hn]
  · rw [if_neg hn]
    by_cases ho : b.size ≤ o
    · rw [if_pos ho]; simp [hn]; omega
    · rw [if_neg ho]; simp [hn]

theorem byteRead_fst (b : ByteFile) (o n : Nat) :
    (ByteFile.read b o n).1 =
      if n = 0 ∨ b.size ≤ o then [] else (List.range (min n (b.size - o))).map (fun j => b.data (o + j)) := by
  unfold ByteFile.read
  by_cases hn : n = 0
  · rw [if_pos hn, if_pos (Or.inl hn)]
  · rw [if_neg hn]
    by_cases ho : b.size ≤ o
    · rw [if_pos ho, if_pos (Or.inr ho)]
    · rw [if_neg ho, if_neg (by omega)]

theorem readAt_trivial {c : Cfg} {f : File} {e : Env} (o n : Nat) (h : n = 0 ∨ f.size ≤ o) :
    readAt c f e o n = (e, [], if n = 0 then none else some .eof) := by
  have hneg : ¬ ((o : Int) < 0) := by omega
  unfold readAt
  rw [if_neg hneg]
  by_cases hn : n = 0
  · rw [if_pos hn, if_pos hn]
  · rw [if_neg hn, if_neg hn]
    dsimp only
    rw [Int.toNat_natCast, if_pos (by omega)]

/-- `ReadAt` on the model = `ByteFile.read` on the abstraction (no read faults). -/
theorem readAt_refines {c : Cfg} {f : File} {e : Env} (o n : Nat) (hss : 0 < c.ss)
    (hdr : e.faults.dr = none) (hhr : e.faults.hr = none) :
    (readAt c f e o n).2.1 = (ByteFile.read (absFile c.ss e.dev f) o n).1 ∧
      (readAt c f e o n).2.2 = (if (ByteFile.read (absFile c.ss e.dev f) o n).2 then some .eof else none) ∧
      SameAlloc e (readAt c f e o n).1 := by
  rw [byteRead_snd, byteRead_fst]
  have hsz : (absFile c.ss e.dev f).size = f.size := rfl
  rw [hsz]
  refine ⟨?_, ?_, readAt_same _ _ _ _ _⟩
  · by_cases htriv : n = 0 ∨ f.size ≤ o
    · rw [if_pos htriv, readAt_trivial o n htriv]
    · rw [if_neg htriv]
      obtain ⟨_, _, h3, h4⟩ := readAt_content (c := c) (f := f) (e := e) o n hss (by omega) (by omega) hdr hhr
      apply list_eq_of_getD
      · rw [h3]; simp
      · intro j hj
        rw [h3] at hj
        rw [h4 j hj, List.getD_eq_getElem?_getD, List.getElem?_map, List.getElem?_range hj]
        rfl
  · by_cases htriv : n = 0 ∨ f.size ≤ o
    · rw [readAt_trivial o n htriv]
      dsimp only
      by_cases hn : n = 0
      · rw [if_pos hn]; simp [hn]
      · rw [if_neg hn]
        have : n ≠ 0 ∧ f.size ≤ o + n := ⟨hn, by omega⟩
        simp [this]
    · obtain ⟨_, h2, _, _⟩ := readAt_content (c := c) (f := f) (e := e) o n hss (by omega) (by omega) hdr hhr
      rw [h2]
      by_cases hge : o + n ≥ f.size
      · rw [if_pos hge]
        have : n ≠ 0 ∧ f.size ≤ o + n := ⟨by omega, hge⟩
        simp [this]
      · rw [if_neg hge]
        have : ¬ (n ≠ 0 ∧ f.size ≤ o + n) := by omega
        simp [this]

/-- the data of `ByteFile.write` is `overlay`, in which the write loop's lemmas speak. -/
theorem byteWrite_data (b : ByteFile) (o : Nat) (q : List FilePool.Byte) (i : Nat) :
    (ByteFile.write b o q).data i = overlay b.data o q i := by
  unfold ByteFile.write overlay
  split
  · rw [if_neg (by omega)]
  · rfl

theorem byteWrite_size (b : ByteFile) (o : Nat) (q : List FilePool.Byte) :
    (ByteFile.write b o q).size = if 0 < q.length then max b.size (o + q.length) else b.size := by
  unfold ByteFile.write
  split
  · rw [if_neg (by omega)]
  · rw [if_pos (by omega)]

/-- `WriteAt` on the model = `ByteFile.write` of the bytes reported written (every oracle). -/
theorem writeAt_refines {O : Nat → Prop} {c : Cfg} {f : File} {e : Env} (p : List FilePool.Byte) (o : Nat)
    (hss : 0 < c.ss) (hP : Part c.nsec O e.allocd (nz f.sectors)) (hd : e.dfree = false) :
    Eqv (absFile c.ss (writeAt c f e p o).2.1.dev (writeAt c f e p o).1)
      (ByteFile.write (absFile c.ss e.dev f) o (p.take (writeAt c f e p o).2.2.1)) := by
  obtain ⟨hc, hl, hs, _, _, _⟩ := writeAt_content (O := O) (f := f) (e := e) p o hss hP hd
  have hlen : (p.take (writeAt c f e p o).2.2.1).length = (writeAt c f e p o).2.2.1 := by
    rw [List.length_take]; omega
  exact ⟨by rw [byteWrite_size, hlen]; exact hs, fun i => by rw [byteWrite_data]; exact hc i⟩

/-- a successful `Truncate` on the model = `ByteFile.truncate` on the abstraction. -/
theorem truncate_refines {O : Nat → Prop} {c : Cfg} {f : File} {e : Env} (sz : Nat) (hss : 0 < c.ss)
    (hP : Part c.nsec O e.allocd (nz f.sectors)) (hok : FileOK c.ss e.dev f)
    (hres : (truncate c f e (sz : Int)).2.2 = none) :
    Eqv (absFile c.ss (truncate c f e (sz : Int)).2.1.dev (truncate c f e (sz : Int)).1)
      (ByteFile.truncate (absFile c.ss e.dev f) sz) := by
  obtain ⟨h1, h2, _⟩ := truncate_content_ok (O := O) sz hss hP hok hres
  exact ⟨h2, h1⟩

/-! ## `ReadAt` under arbitrary read faults: a prefix of the contents -/

theorem prefix_of_getD (a b : List Nat) (hl : a.length ≤ b.length)
    (h : ∀ j, j < a.length → a.getD j 0 = b.getD j 0) : a <+: b := by
  have : a = b.take a.length := by
    apply list_eq_of_getD
    · rw [List.length_take]; omega
    · intro j hj
      rw [h j hj]
      simp only [List.getD_eq_getElem?_getD, List.getElem?_take, hj, ↓reduceIte]
  rw [this]
  exact List.take_prefix _ _

/-- **`ReadAt` under any read faults** returns a prefix of what the byte-array read returns, and never panics. -/
theorem readAt_prefix {c : Cfg} {f : File} {e : Env} (o n : Nat) (hss : 0 < c.ss) :
    (readAt c f e o n).2.1 <+: (ByteFile.read (absFile c.ss e.dev f) o n).1 ∧
      (readAt c f e o n).2.2 ≠ some .panic := by
  rw [byteRead_fst]
  have hsz : (absFile c.ss e.dev f).size = f.size := rfl
  rw [hsz]
  by_cases htriv : n = 0 ∨ f.size ≤ o
  · rw [if_pos htriv, readAt_trivial o n htriv]
    exact ⟨List.prefix_refl _, by dsimp only; split <;> simp⟩
  · rw [if_neg htriv]
    unfold readAt
    rw [if_neg (by omega), if_neg (by omega)]
    dsimp only
    rw [Int.toNat_natCast, if_neg (by omega)]
    have hn' : 0 < (if o + n ≥ f.size then f.size - o else n) := by split <;> omega
    obtain ⟨l1, l2, l3, _⟩ := readLoop_gen (c := c) (f := f) hss
      ((if o + n ≥ f.size then f.size - o else n) + 1) e (if o + n ≥ f.size then f.size - o else n) (o / c.ss)
      (min ((o + (if o + n ≥ f.size then f.size - o else n) + c.ss - 1) / c.ss) f.sectors.length) (o % c.ss)
      (Nat.mod_lt _ hss) hn' (Nat.lt_succ_self _)
    rw [div_mul_mod] at l2
    have hmin : (if o + n ≥ f.size then f.size - o else n) = min n (f.size - o) := by split <;> omega
    constructor
    · dsimp only
      apply prefix_of_getD
      · simp only [List.length_map, List.length_range]; rw [← hmin]; exact l1
      · intro j hj
        rw [l2 j hj, List.getD_eq_getElem?_getD, List.getElem?_map, List.getElem?_range (by rw [← hmin]; omega)]
        rfl
    · dsimp only
      split
      · rename_i x hx; rw [hx] at l3; exact l3
      · split <;> simp

end BbRe.Lemmas.FilePool
