import BbRe.Lemmas.PoolStack
import BbRe.Lemmas.FilePoolAllocSpec
/-!
The acceptance step between the two allocator models of the stack (`alloc_accepts_bitmap`): where
the file layer's allocated list and the bitmap agree, the answer `Bitmap.alloc` gives to a request
with `maximum = m ≥ 1` passes the file model's contract check `Env.alloc` *for that same `m`*.

Not proved anywhere: that over a whole history the composed model never takes the file model's
`.oracle` branch.  That needs, beyond this step, that replaying `writeAt` with the answers collected
so far reaches the state in which the previous run stopped for want of an answer, and that the
`maximum` it passes there is the `nextMax` the stack computed; the harness compares at run time.
-/
namespace BbRe.Lemmas.PoolStack
open BbRe BbRe.PoolStack BbRe.FilePool BbRe.Lemmas.FilePool

theorem alloc_accepts_bitmap {c : Cfg} {e : Env} {bm : Bitmap.State} {m first count : Nat}
    (rest : List AllocAns) (hinv : Bitmap.Inv c.nsec bm)
    (hag : ∀ s, Bitmap.abs c.nsec bm s = e.allocd.contains s) (hm : 1 ≤ m)
    (h : (Bitmap.alloc bm m).2 = some (first, count)) (ha : e.answers = .range first count :: rest) :
    (e.alloc c m).2 = .ok first count := by
  have hok := Lemmas.Bitmap.alloc_ok_spec c.nsec bm m first count hinv hm h
  apply alloc_accepts_spec rest ha
  unfold AllocSpec.allocAnswerOk
  simp only [Bool.and_eq_true, decide_eq_true_eq, List.all_eq_true, List.mem_range]
  refine ⟨⟨⟨⟨hok.count_pos, hok.count_le⟩, hok.first_pos⟩, hok.in_range⟩, fun i hi => ?_⟩
  have := hok.were_free (first + i) (by omega) (by omega)
  rw [hag] at this
  simp only [absAlloc, this]
  rfl

end BbRe.Lemmas.PoolStack
