import BbRe.Lemmas.SchedQExistsSync
import BbRe.Lemmas.SchedInvProps
/-!
A fresh worker that synchronizes on a size-class queue holding queued tasks is handed one of them:
the `Synchronize` arrival segment computed step by step (no oracle freedom beyond the choice among the
queued tasks of that queue).
-/
namespace BbRe.Lemmas.SchedQ
open BbRe.Sched BbRe.Lemmas.SchedInv

/-- the task record after `assignQueuedTask` handed `t` to worker `wk` -/
def assignedT (wk : Worker) (t : Task) : Task :=
  bumpGen { t with worker := some (wk.scq, wk.id), retry := 0, queued := false }

/-- the state after `assignNextQueuedTask` handed `t` to worker `wk` -/
def assignedSt (s : State) (wk : Worker) (t : Task) : State := (assignSt s wk t).setTask (assignedT wk t)

theorem queued_worker_none {s : State} {q : ScqId} {t : Task} (h : t ∈ queuedTasks s q) :
    t.worker = none ∧ t.response = none ∧ t.scq = q := by
  unfold queuedTasks at h
  obtain ⟨p, hp, he⟩ := List.mem_map.mp h
  have hp2 := (List.mem_filter.mp hp).2
  simp only [decide_eq_true_eq] at hp2
  subst he
  exact ⟨by simpa using hp2.2.2.1, by simpa using hp2.2.2.2, hp2.1⟩

/-- an admissible hint for worker `(q, w)`: it names the lowest operation of a queued task of `q` -/
def Admissible (h : Hints) (s : State) (q : ScqId) (w : WId) (t' : Task) : Prop :=
  ∃ a, h.assign.find? (fun a => a.1 = q ∧ a.2.1 = w) = some a ∧
    (queuedTasks s q).find? (fun t => lowestOp t = a.2.2) = some t'

theorem Admissible.mem {h : Hints} {s : State} {q : ScqId} {w : WId} {t' : Task} (ha : Admissible h s q w t') :
    t' ∈ queuedTasks s q := by
  obtain ⟨a, _, h2⟩ := ha
  exact List.mem_of_find?_eq_some h2

theorem assignNext_hit {h : Hints} {s : State} {wk : Worker} {t' : Task} (hwt : wk.task = none)
    (ha : Admissible h s wk.scq wk.id t') : assignNext h s wk = .ok (assignedSt s wk t', true) := by
  obtain ⟨a, h1, h2⟩ := ha
  have htw := (queued_worker_none (List.mem_of_find?_eq_some h2)).1
  unfold assignNext
  simp only [h1, h2]
  rw [assignTo_eq]
  simp only [hwt, htw, Option.isSome_none, Bool.false_eq_true, if_false, ok_bind', task?_def]
  have : alookup t'.id (assignSt s wk t').tasks =
      some { t' with worker := some (wk.scq, wk.id), retry := 0, queued := false } := by
    simp only [assignSt, State.setTask]; rw [alookup_aset]; simp
  rw [this]
  rfl

theorem assignedSt_worker {s : State} {q : ScqId} {w : WId} {wk : Worker} (t : Task)
    (hw : wfind s.workers q w = some wk) :
    wfind (assignedSt s wk t).workers q w = some { wk with task := some t.id } := by
  have := wfind_setWorker_self (wk' := { wk with task := some t.id }) hw rfl rfl
  exact this

theorem assignedSt_task (s : State) (wk : Worker) (t : Task) :
    alookup t.id (assignedSt s wk t).tasks = some (assignedT wk t) := by
  simp only [assignedSt, State.setTask, assignedT, bumpGen]; rw [alookup_aset]; simp

/-- what the segment leaves behind -/
structure Served (s s' : State) (q : ScqId) (w : WId) (t : Task) : Prop where
  ev : s'.events = .syncExecute q w t.digest (s.now + s.cfg.busyInterval) :: s.events
  tk : ∃ T, s'.task? t.id = some T ∧ T.worker = some (q, w) ∧ T.response = none ∧ T.stage = 3 ∧
    T.digest = t.digest ∧ T.ops = t.ops
  wk : ∃ W, s'.worker? q w = some W ∧ W.task = some t.id ∧ W.inSync = false

theorem getNextTask_hit {h : Hints} {s : State} {q : ScqId} {w : WId} {wk : Worker} {sq : Scq} {t' : Task}
    (hw : wfind s.workers q w = some wk) (hwt : wk.task = none) (hsq : s.scq? q = some sq)
    (hnd : isDrained sq wk = false) (ha : Admissible h s q w t') :
    ∃ s', getNextTask h s q w false true = .ok s' ∧ s'.events = .syncExecute q w t'.digest (s.now + s.cfg.busyInterval) :: s.events ∧
      s'.tasks = (assignedSt s wk t').tasks ∧
      ∃ W, wfind s'.workers q w = some W ∧ W.task = some t'.id ∧ W.inSync = false := by
  obtain ⟨hk1, hk2⟩ := wfind_key hw
  have ha' : Admissible h s wk.scq wk.id t' := by rw [hk1, hk2]; exact ha
  have hw3 := assignedSt_worker t' hw
  have ht3 := assignedSt_task s wk t'
  unfold getNextTask
  simp only [worker?_def, hw, hsq, hnd, Bool.false_eq_true, if_false, Bool.not_false, if_true,
    assignNext_hit hwt ha', ok_bind', hw3]
  unfold execResponse
  simp only [task?_def, ht3]
  have hwe : wfind (emit (assignedSt s wk t') (.syncExecute wk.scq wk.id (assignedT wk t').digest
      ((assignedSt s wk t').now + (assignedSt s wk t').cfg.busyInterval))).workers q w =
      some { wk with task := some t'.id } := hw3
  refine ⟨_, rfl, ?_, ?_, ?_⟩
  · rw [syncReturn_events]
    simp only [emit, assignedT, bumpGen, hk1, hk2]
    rfl
  · rw [syncReturn_eq]
    simp only [worker?_def]
    rw [hwe]
    rfl
  · rw [syncReturn_eq]
    simp only [worker?_def]
    rw [hwe]
    exact ⟨resetW { wk with task := some t'.id }, wfind_setWorker_self (s := emit (assignedSt s wk t') _) hwe rfl rfl,
      rfl, rfl⟩

/-- **A joining worker is served.**  `Synchronize` of a worker `(q, w)` that is not registered, on a
registered queue `q` that has no drain matching it, reporting idle, not preferring to stay idle, with a
hint naming a queued task `t'` of `q`: the segment succeeds, tells the worker to execute `t'`, and
`t'` is assigned to it. -/
theorem sync_join_served {h : Hints} {s : State} {now : Nat} {q : ScqId} {comps : List Nat} {platform : Nat}
    {w : WId} {sq : Scq} {t' : Task} (hnow : now ≤ s.now) (hsq : s.scq? q = some sq)
    (hfresh : s.worker? q w = none) (hnd : sq.drains.any (fun p => p.matches w) = false)
    (ha : Admissible h s q w t') :
    ∃ s', step s (.sync h now q comps platform w .idle false) = .ok s' ∧ Served s s' q w t' := by
  have hfresh' : wfind s.workers q w = none := hfresh
  let s2 : State := { s.removeCleanup (.scq q) with workers := s.workers ++ [freshW q w] }
  have hw2 : wfind s2.workers q w = some (freshW q w) := by
    show wfind (s.workers ++ [freshW q w]) q w = _
    rw [wfind_append, hfresh']; simp [freshW]
  have hsq2 : s2.scq? q = some sq := hsq
  have ha2 : Admissible h s2 q w t' := ha
  have hnd2 : isDrained sq (freshW q w) = false := by
    unfold isDrained; simp only [freshW, Bool.false_or]; exact hnd
  obtain ⟨s', he, hev, htk, W, hW, hWt, hWs⟩ := getNextTask_hit (h := h) hw2 rfl hsq2 hnd2 ha2
  refine ⟨s', ?_, ⟨hev, ?_, ⟨W, hW, hWt, hWs⟩⟩⟩
  · show syncArrive h s now q comps platform w .idle false = .ok s'
    rw [syncArrive_eq, enter_noop hnow]
    simp only [ok_bind']
    unfold syncQueue
    simp only [hsq]
    simp only [pure_bind]
    have hsw : syncWorker (s.removeCleanup (.scq q)) q w = .inr s2 := by
      unfold syncWorker
      have : (s.removeCleanup (.scq q)).worker? q w = none := hfresh
      simp only [this]
      rfl
    rw [hsw]
    simp only []
    unfold syncBody
    simp only [worker?_def, hw2]
    unfold getCurrentOrNext
    simp only [worker?_def, hw2, freshW]
    exact he
  · refine ⟨assignedT (freshW q w) t', ?_, rfl, ?_, ?_, rfl, rfl⟩
    · show alookup t'.id s'.tasks = _
      rw [htk]; exact assignedSt_task s2 _ t'
    · exact (queued_worker_none ha.mem).2.1
    · simp [Task.stage, assignedT, bumpGen, (queued_worker_none ha.mem).2.1]

/-- the hint that names task `t` is admissible up to ties on the lowest operation name: it selects a
queued task of the same queue -/
theorem admissible_of_mem {s : State} {q : ScqId} (w : WId) {t : Task} (h : t ∈ queuedTasks s q) :
    ∃ t', Admissible ⟨[(q, w, lowestOp t)], 0, none, false⟩ s q w t' := by
  cases hf : (queuedTasks s q).find? (fun x => lowestOp x = lowestOp t) with
  | some t' => exact ⟨t', (q, w, lowestOp t), by simp, hf⟩
  | none =>
    have := List.find?_eq_none.mp hf t h
    simp at this

/-! ## the hint identifies the task: operation names belong to one task -/

theorem foldl_low_mem (l : List Nat) (a : Nat) :
    l.foldl (fun a b => if a = 0 ∨ b < a then b else a) a ∈ a :: l := by
  induction l generalizing a with
  | nil => simp
  | cons b r ih =>
    rw [List.foldl_cons]
    have := ih (if a = 0 ∨ b < a then b else a)
    rcases List.mem_cons.mp this with h | h
    · rw [h]; split <;> simp
    · exact List.mem_cons_of_mem _ (List.mem_cons_of_mem _ h)

theorem lowestOp_mem {t : Task} (h : t.ops ≠ []) : lowestOp t ∈ t.ops := by
  unfold lowestOp
  cases ho : t.ops with
  | nil => exact absurd ho h
  | cons b r =>
    rw [List.foldl_cons]
    simp only [true_or, if_true]
    exact foldl_low_mem r b

/-- two tasks of a state satisfying `Inv` with the same lowest operation name are the same task -/
theorem lowestOp_inj {s : State} (hI : Inv s) {k k' : Nat} {t t' : Task} (ht : alookup k s.tasks = some t)
    (ht' : alookup k' s.tasks = some t') (h : lowestOp t = lowestOp t') : t = t' := by
  have h1 := lowestOp_mem (hI.oinv.o3 k t ht).2
  have h2 := lowestOp_mem (hI.oinv.o3 k' t' ht').2
  rw [h] at h1
  rcases (hI.oinv.o2 k t _ ht h1).2 with a | ⟨op, a, b⟩
  · exact absurd a id
  · rcases (hI.oinv.o2 k' t' _ ht' h2).2 with a' | ⟨op', a', b'⟩
    · exact absurd a' id
    · rw [a] at a'; cases a'
      have : k = k' := b.symm.trans b'
      subst this
      rw [ht] at ht'; exact Option.some.inj ht'

/-- in a state satisfying `Inv` the hint that names queued task `t` selects exactly `t` -/
theorem admissible_self {s : State} (hI : Inv s) {q : ScqId} (w : WId) {t : Task} (h : t ∈ queuedTasks s q) :
    Admissible ⟨[(q, w, lowestOp t)], 0, none, false⟩ s q w t := by
  obtain ⟨t', a, h1, h2⟩ := admissible_of_mem w h
  have ha : a = (q, w, lowestOp t) := by simpa using h1.symm
  have hm := List.mem_of_find?_eq_some h2
  have hp := List.find?_some h2
  simp only [decide_eq_true_eq, ha] at hp
  obtain ⟨k, hk, _⟩ := mem_queuedTasks hI.core.tnd h
  obtain ⟨k', hk', _⟩ := mem_queuedTasks hI.core.tnd hm
  have := lowestOp_inj hI hk' hk hp
  subst this
  exact ⟨a, h1, h2⟩

end BbRe.Lemmas.SchedQ
