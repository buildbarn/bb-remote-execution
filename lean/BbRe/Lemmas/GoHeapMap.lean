import BbRe.Lemmas.GoHeapOps
/-!
The heap operations commute with mapping the elements: a heap of *references* ordered by a
comparison that reads the keys through the references (`fun x y => less (f x) (f y)`, as the
scheduler's heaps of `*invocation` / `*operation` pointers) behaves exactly like the heap of the
referenced values.
-/
namespace BbRe.Lemmas.GoHeap
open BbRe.GoHeap

variable {α β : Type}

/-- The comparison of references through `f`. -/
def via (f : β → α) (less : α → α → Bool) (x y : β) : Bool := less (f x) (f y)

theorem lessAt_map (f : β → α) (less : α → α → Bool) (a : Array β) (i j : Nat) :
    lessAt (via f less) a i j = lessAt less (a.map f) i j := by
  unfold lessAt via
  simp only [Array.getElem?_map]
  cases a[i]? <;> cases a[j]? <;> rfl

theorem swp_map (f : β → α) (a : Array β) (i j : Nat) : (swp a i j).map f = swp (a.map f) i j := by
  by_cases h : i < a.size ∧ j < a.size
  · apply Array.ext_getElem?
    intro k
    rw [Array.getElem?_map, getElem?_swp a i j k h.1 h.2,
      getElem?_swp (a.map f) i j k (by simpa using h.1) (by simpa using h.2), Array.getElem?_map]
  · rw [swp_oob a i j h, swp_oob (a.map f) i j (by simpa using h)]

theorem upAux_map (f : β → α) (less : α → α → Bool) : ∀ (fuel : Nat) (a : Array β) (j : Nat),
    (upAux (via f less) fuel a j).map f = upAux less fuel (a.map f) j := by
  intro fuel
  induction fuel with
  | zero => intro a j; rfl
  | succ n ih =>
    intro a j
    unfold upAux
    simp only [lessAt_map]
    split
    · rfl
    · rw [ih, swp_map]

theorem downAux_map (f : β → α) (less : α → α → Bool) : ∀ (fuel : Nat) (a : Array β) (i n : Nat),
    (downAux (via f less) fuel a i n).1.map f = (downAux less fuel (a.map f) i n).1 ∧
    (downAux (via f less) fuel a i n).2 = (downAux less fuel (a.map f) i n).2 := by
  intro fuel
  induction fuel with
  | zero => intro a i n; exact ⟨rfl, rfl⟩
  | succ m ih =>
    intro a i n
    rw [downAux_succ, downAux_succ]
    have hs : smaller (via f less) a i n = smaller less (a.map f) i n := by
      unfold smaller; simp only [lessAt_map]
    rw [hs]
    simp only [lessAt_map]
    split
    · exact ⟨rfl, rfl⟩
    · split
      · exact ⟨rfl, rfl⟩
      · rw [← swp_map]; exact ih _ _ _

theorem up_map (f : β → α) (less : α → α → Bool) (a : Array β) (j : Nat) :
    (up (via f less) a j).map f = up less (a.map f) j := upAux_map f less j a j

theorem down_map (f : β → α) (less : α → α → Bool) (a : Array β) (i n : Nat) :
    (down (via f less) a i n).1.map f = (down less (a.map f) i n).1 ∧
    (down (via f less) a i n).2 = (down less (a.map f) i n).2 := by
  unfold down
  have := downAux_map f less (n - i) a i n
  exact ⟨this.1, by simp only [this.2]⟩

theorem siftBoth_map (f : β → α) (less : α → α → Bool) (a : Array β) (i n : Nat) :
    (siftBoth (via f less) a i n).map f = siftBoth less (a.map f) i n := by
  unfold siftBoth
  have := down_map f less a i n
  simp only []
  rw [← this.2]
  split
  · rw [up_map, this.1]
  · exact this.1

theorem fix_map (f : β → α) (less : α → α → Bool) (a : Array β) (i : Nat) :
    (fix (via f less) a i).map f = fix less (a.map f) i := by
  rw [fix_eq_siftBoth, fix_eq_siftBoth, siftBoth_map, Array.size_map]

theorem push_map (f : β → α) (less : α → α → Bool) (a : Array β) (x : β) :
    (push (via f less) a x).map f = push less (a.map f) (f x) := by
  unfold push
  rw [up_map, Array.map_push, Array.size_map]

theorem removePrep_map (f : β → α) (less : α → α → Bool) (a : Array β) (i : Nat) :
    (removePrep (via f less) a i).map f = removePrep less (a.map f) i := by
  unfold removePrep
  simp only [Array.size_map]
  split
  · show (siftBoth (via f less) (swp a i (a.size - 1)) i (a.size - 1)).map f =
      siftBoth less (swp (a.map f) i (a.size - 1)) i (a.size - 1)
    rw [siftBoth_map, swp_map]
  · rfl

theorem remove_map (f : β → α) (less : α → α → Bool) (a : Array β) (i : Nat) :
    (remove (via f less) a i).1.map f = (remove less (a.map f) i).1 := by
  unfold remove
  simp only []
  rw [← removePrep_map, Array.map_pop]

end BbRe.Lemmas.GoHeap
