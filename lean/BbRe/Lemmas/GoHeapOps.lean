import BbRe.Lemmas.GoHeapLoops
/-!
`Push`, `Pop`, `Remove`, `Fix` of the `container/heap` model: permutation, preservation of the
heap property, minimality of the root.
-/
namespace BbRe.Lemmas.GoHeap
open BbRe.GoHeap

variable {α : Type}

theorem lessAt_root_false (less : α → α → Bool) (sw : StrictWeak less) (a : Array α) (n : Nat)
    (hn : n ≤ a.size) (h : IsHeapN less a n) : ∀ k, k < n → lessAt less a k 0 = false := by
  have swn := SWOn.of_strictWeak sw a
  intro k
  induction k using Nat.strongRecOn with
  | _ k ih =>
    intro hk
    by_cases h0 : k = 0
    · subst h0; exact swn.irrefl 0
    · have hp := par_lt (Nat.pos_of_ne_zero h0)
      have hpn := Nat.lt_trans hp hk
      exact swn.negTrans k ((k - 1) / 2) 0 (Nat.lt_of_lt_of_le hpn hn) (h k (Nat.pos_of_ne_zero h0) hk) (ih _ hp hpn)

/-- `down(h, i, n)` followed by `up(h, i)` when nothing moved — the common body of `Fix` and
`Remove` — turns `DownInv` into the heap property of the first `n` slots. -/
def siftBoth (less : α → α → Bool) (a : Array α) (i n : Nat) : Array α :=
  let r := down less a i n
  if !r.2 then up less r.1 i else r.1

theorem siftBoth_shuf (less : α → α → Bool) (a : Array α) {i n m : Nat} (hi : i < m) (hn : n ≤ m) :
    Shuf m a (siftBoth less a i n) := by
  unfold siftBoth
  simp only []
  split
  · exact ((down_shuf less a i n).mono hn).trans ((up_shuf less _ i).mono hi)
  · exact (down_shuf less a i n).mono hn

theorem siftBoth_heap (less : α → α → Bool) (sw : StrictWeak less) (a : Array α) (i n : Nat)
    (hn : n ≤ a.size) (hi : i < n) (inv : DownInv (lessAt less a) n i) :
    IsHeapN less (siftBoth less a i n) n := by
  obtain ⟨hmoved, hstayed⟩ := down_spec less sw a i n hn inv
  unfold siftBoth
  simp only []
  split
  · rename_i h
    exact up_heap less sw _ i n hi ((down_shuf less a i n).size ▸ hn) (hstayed (Bool.not_eq_true' _ ▸ h))
  · rename_i h
    exact hmoved (by simpa using h)

theorem fix_eq_siftBoth (less : α → α → Bool) (a : Array α) (i : Nat) : fix less a i = siftBoth less a i a.size := rfl

theorem fix_shuf (less : α → α → Bool) (a : Array α) (i : Nat) : Shuf (max a.size (i + 1)) a (fix less a i) :=
  siftBoth_shuf less a (Nat.le_max_right _ _) (Nat.le_max_left _ _)

theorem fix_size (less : α → α → Bool) (a : Array α) (i : Nat) : (fix less a i).size = a.size := (fix_shuf less a i).size

theorem fix_perm (less : α → α → Bool) (a : Array α) (i : Nat) : (fix less a i).Perm a := (fix_shuf less a i).perm

/-- `Fix(h, i)` restores the heap property when only the pairs that involve position `i` may be
out of order. -/
theorem fix_heap_of_inv (less : α → α → Bool) (sw : StrictWeak less) (a : Array α) (i : Nat) (hi : i < a.size)
    (inv : DownInv (lessAt less a) a.size i) : IsHeap less (fix less a i) := by
  unfold IsHeap
  rw [fix_size, fix_eq_siftBoth]
  exact siftBoth_heap less sw a i a.size (Nat.le_refl _) hi inv

/-- A relation that agrees, away from position `i`, with one satisfying the heap property lacks
it at most in the pairs that involve `i`. -/
theorem DownInv.of_agree {R R' : Nat → Nat → Bool} {m n i : Nat} (sw : SWOn R m) (hn : n ≤ m)
    (h : ∀ c, 0 < c → c < m → R c ((c - 1) / 2) = false)
    (hR : ∀ p q, p ≠ i → q ≠ i → p < n → q < n → R' p q = R p q) : DownInv R' n i := by
  constructor
  · intro c hc0 hcn hci hpi
    rw [hR c _ hci hpi hcn (Nat.lt_trans (par_lt hc0) hcn)]
    exact h c hc0 (Nat.lt_of_lt_of_le hcn hn)
  · intro c hc0 hcn hpc hi0
    have hic : i < c := hpc ▸ par_lt hc0
    have hpi := par_lt hi0
    have him : i < m := Nat.lt_of_lt_of_le (Nat.lt_trans hic hcn) hn
    rw [hR c _ (Nat.ne_of_gt hic) (Nat.ne_of_lt hpi) hcn (Nat.lt_trans hpi (Nat.lt_trans hic hcn))]
    have hc := h c hc0 (Nat.lt_of_lt_of_le hcn hn)
    rw [hpc] at hc
    exact sw.negTrans c i _ him hc (h i hi0 him)

/-- Replacing the element at position `i` of a heap (= changing its key) leaves a state from
which `Fix(h, i)` restores the heap property. -/
theorem downInv_of_set (less : α → α → Bool) (sw : StrictWeak less) (a : Array α) (i : Nat) (x : α)
    (h : IsHeap less a) : DownInv (lessAt less (a.setIfInBounds i x)) (a.setIfInBounds i x).size i := by
  rw [Array.size_setIfInBounds]
  refine DownInv.of_agree (SWOn.of_strictWeak sw a) (Nat.le_refl _) h fun p q hp hq _ _ => ?_
  unfold lessAt
  rw [Array.getElem?_setIfInBounds_ne hp.symm, Array.getElem?_setIfInBounds_ne hq.symm]

theorem fix_heap_of_set (less : α → α → Bool) (sw : StrictWeak less) (a : Array α) (i : Nat) (x : α)
    (hi : i < a.size) (h : IsHeap less a) : IsHeap less (fix less (a.setIfInBounds i x) i) :=
  fix_heap_of_inv less sw _ i (Nat.lt_of_lt_of_eq hi Array.size_setIfInBounds.symm) (downInv_of_set less sw a i x h)

theorem push_perm (less : α → α → Bool) (a : Array α) (x : α) : (push less a x).Perm (a.push x) :=
  (up_shuf less _ _).perm

theorem push_size (less : α → α → Bool) (a : Array α) (x : α) : (push less a x).size = a.size + 1 :=
  (up_shuf less _ _).size.trans (Array.size_push x)

theorem push_heap (less : α → α → Bool) (sw : StrictWeak less) (a : Array α) (x : α) (h : IsHeap less a) :
    IsHeap less (push less a x) := by
  unfold IsHeap
  rw [push_size]
  apply up_heap less sw (a.push x) a.size (a.size + 1) (Nat.lt_succ_self _) (Nat.le_of_eq (Array.size_push x).symm)
  constructor
  · intro c hc0 hcn hne
    have hc : c < a.size := Nat.lt_of_le_of_ne (Nat.le_of_lt_succ hcn) hne
    have hp : (c - 1) / 2 < a.size := Nat.lt_trans (par_lt hc0) hc
    unfold lessAt
    rw [Array.getElem?_push_lt hc, Array.getElem?_push_lt hp, ← Array.getElem?_eq_getElem hc,
      ← Array.getElem?_eq_getElem hp]
    exact h c hc0 hc
  · intro c hc0 hcn hpc _
    exact absurd hcn (Nat.not_lt.mpr (hpc ▸ par_lt hc0))

theorem isHeap_pop_of_isHeapN (less : α → α → Bool) (a : Array α) (h : IsHeapN less a (a.size - 1)) :
    IsHeap less a.pop := by
  intro c hc0 hcn
  rw [Array.size_pop] at hcn
  unfold lessAt
  rw [Array.getElem?_pop, Array.getElem?_pop, if_pos hcn, if_pos (Nat.lt_trans (par_lt hc0) hcn)]
  exact h c hc0 hcn

theorem isHeapN_mono (less : α → α → Bool) (a : Array α) (n m : Nat) (hnm : m ≤ n) (h : IsHeapN less a n) :
    IsHeapN less a m := fun c hc0 hcm => h c hc0 (Nat.lt_of_lt_of_le hcm hnm)

/-- The array of `Remove(h, i)` before the final `h.Pop()`, for any `Less`: `h.Swap(i, n)`, then the
first `n = Len()-1` slots rearranged. -/
theorem removePrep_shuf (less : α → α → Bool) (a : Array α) (i : Nat) (hi : i < a.size) :
    Shuf (a.size - 1) (swp a i (a.size - 1)) (removePrep less a i) := by
  unfold removePrep
  simp only []
  split
  · rename_i hne
    exact siftBoth_shuf less _ (Nat.lt_of_le_of_ne (Nat.le_sub_one_of_lt hi) (Ne.symm hne)) (Nat.le_refl _)
  · rename_i heq
    rw [ne_eq, Decidable.not_not] at heq
    rw [heq, swp_self]
    exact Shuf.refl _ a

/-- … and for a strict weak order its first `Len()-1` slots form a heap. -/
theorem removePrep_heap (less : α → α → Bool) (sw : StrictWeak less) (a : Array α) (i : Nat) (hi : i < a.size)
    (h : IsHeap less a) : IsHeapN less (removePrep less a i) (a.size - 1) := by
  unfold removePrep
  simp only []
  split
  · rename_i hne
    have hn : a.size - 1 < a.size := Nat.sub_lt (Nat.zero_lt_of_lt hi) Nat.one_pos
    have hin : i < a.size - 1 := Nat.lt_of_le_of_ne (Nat.le_sub_one_of_lt hi) (Ne.symm hne)
    show IsHeapN less (siftBoth less (swp a i (a.size - 1)) i (a.size - 1)) (a.size - 1)
    apply siftBoth_heap less sw _ i (a.size - 1) (Nat.le_of_lt (Nat.lt_of_lt_of_eq hn (size_swp a _ _).symm)) hin
    refine DownInv.of_agree (SWOn.of_strictWeak sw a) (Nat.le_of_lt hn) h fun p q hp hq hpn hqn => ?_
    rw [lessAt_swp less a _ _ _ _ hi hn, tr_other hp (Nat.ne_of_lt hpn), tr_other hq (Nat.ne_of_lt hqn)]
  · exact isHeapN_mono less a _ _ (Nat.sub_le _ _) h

theorem push_pop_back (a : Array α) (x : α) (hx : a.back? = some x) : a.pop.push x = a := by
  have h0 : a.size ≠ 0 := fun h0 => by
    rw [Array.back?_eq_getElem?, Array.getElem?_eq_none (Nat.le_of_eq (by rw [h0]))] at hx; cases hx
  obtain ⟨b, y, rfl⟩ := Array.eq_push_of_size_ne_zero h0
  rw [Array.back?_push] at hx
  rw [Array.pop_push, Option.some.inj hx]

theorem removePrep_back (less : α → α → Bool) (a : Array α) (i : Nat) (hi : i < a.size) :
    (removePrep less a i).back? = some a[i] := by
  have h := removePrep_shuf less a i hi
  rw [Array.back?_eq_getElem?, h.size, size_swp, h.frame _ (Nat.le_refl _),
    getElem?_swp a _ _ _ hi (Nat.sub_lt (Nat.zero_lt_of_lt hi) Nat.one_pos), tr_right, Array.getElem?_eq_getElem hi]

theorem remove_perm_any (less : α → α → Bool) (a : Array α) (i : Nat) (hi : i < a.size) :
    ((remove less a i).1.push a[i]).Perm a := by
  show ((removePrep less a i).pop.push a[i]).Perm a
  rw [push_pop_back _ _ (removePrep_back less a i hi)]
  exact (removePrep_shuf less a i hi).perm.trans (swp_perm a _ _)

theorem remove_spec (less : α → α → Bool) (sw : StrictWeak less) (a : Array α) (i : Nat) (hi : i < a.size)
    (h : IsHeap less a) :
    (remove less a i).2 = a[i]? ∧ ((remove less a i).1.push a[i]).Perm a ∧ IsHeap less (remove less a i).1 := by
  refine ⟨(removePrep_back less a i hi).trans (Array.getElem?_eq_getElem hi).symm, remove_perm_any less a i hi, ?_⟩
  apply isHeap_pop_of_isHeapN
  rw [(removePrep_shuf less a i hi).size, size_swp]
  exact removePrep_heap less sw a i hi h

theorem removePrep_zero_eq_pop (less : α → α → Bool) (a : Array α) (h : 1 < a.size) :
    removePrep less a 0 = (down less (swp a 0 (a.size - 1)) 0 (a.size - 1)).1 := by
  unfold removePrep
  simp only []
  have : a.size - 1 ≠ 0 := by omega
  rw [if_pos this]
  split
  · -- not moved: `up(h, 0)` does nothing
    unfold up upAux; rfl
  · rfl

/-- `Pop` = `Remove(h, 0)` (the Go code differs only by an `up(h, 0)` that does nothing). -/
theorem pop_eq_remove_zero (less : α → α → Bool) (a : Array α) : pop less a = remove less a 0 := by
  unfold pop remove
  simp only []
  by_cases h : 1 < a.size
  · rw [removePrep_zero_eq_pop less a h]
  · have hsz : a.size - 1 = 0 := by omega
    unfold removePrep
    simp only [hsz, ne_eq, not_true_eq_false, if_false]
    rw [swp_self]
    unfold down downAux
    simp

theorem pop_spec (less : α → α → Bool) (sw : StrictWeak less) (a : Array α) (h0 : 0 < a.size)
    (h : IsHeap less a) :
    (pop less a).2 = a[0]? ∧ ((pop less a).1.push a[0]).Perm a ∧ IsHeap less (pop less a).1 := by
  rw [pop_eq_remove_zero]
  exact remove_spec less sw a 0 h0 h

end BbRe.Lemmas.GoHeap
