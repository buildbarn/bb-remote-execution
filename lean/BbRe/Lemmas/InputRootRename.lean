import BbRe.Lemmas.InputRootPaths
/-!
`rename` and `link` of `Model/InputRoot.lean` respect `Equiv`, and under storage
faults either are not affected or fail with `EIO` leaving an equivalent tree (C17).
-/
namespace BbRe.Lemmas.InputRoot
open BbRe.InputRoot

theorem moveEntry_equiv (c : CAS) {tl te odl ode : Node} (ht : Equiv c tl te) (ho : Equiv c odl ode)
    {p1 : Path} {x1 : Name} {p2 : Path} {x2 : Name} :
    Equiv c (moveEntry c tl p1 x1 p2 x2 odl) (moveEntry c te p1 x1 p2 x2 ode) :=
  (withDir_equiv c _ _ (actPut_rel c x2 ho) p2 _ _
    (withDir_equiv c _ _ (actErase_resp c x1) p1 tl te ht).2).2

theorem out_ne_ok_congr {a b : Out} (h : a = b) : (a ≠ .ok) = (b ≠ .ok) := by rw [h]

/-! `rename` and `link` are chains of stages `if r.2 ≠ .ok then r else …`, where `r` is the
result of a walk and `…` goes on with the tree `r.1`. One lemma per kind of statement takes a
chain apart stage by stage. -/

theorem Sim.ite {c : CAS} {p : Prop} [Decidable p] {a a' b b' : Node × Out} (ha : p → Sim c a a')
    (hb : ¬ p → Sim c b b') : Sim c (if p then a else b) (if p then a' else b') := by
  split
  · exact ha ‹_›
  · exact hb ‹_›

theorem Sim.stage {c : CAS} {r r' k k' : Node × Out} (h : Sim c r r')
    (hk : Equiv c r.1 r'.1 → Sim c k k') :
    Sim c (if r.2 ≠ .ok then r else k) (if r'.2 ≠ .ok then r' else k') := by
  rw [← h.1]
  exact .ite (fun _ => h) fun _ => hk h.2

theorem rename_equiv (c : CAS) (l e : Node) (h : Equiv c l e) (p1 : Path) (x1 : Name) (p2 : Path)
    (x2 : Name) : Sim c (rename c [] l p1 x1 p2 x2) (rename c [] e p1 x1 p2 x2) := by
  unfold rename
  refine .stage (walkTo_equiv c p1 l e h) fun g1 => ?_
  refine .stage (walkTo_equiv c p2 _ _ g1) fun g2 => ?_
  refine .stage (withDir_equiv c _ _ (actNop_resp c) p1 _ _ g2) fun g3 => ?_
  refine .stage (withDir_equiv c _ _ (actNop_resp c) p2 _ _ g3) fun g4 => ?_
  rcases (nodeAt_equiv c (p2 ++ [x2]) _ _ g4).cases with ⟨hn1, hn2⟩ | ⟨nwl, nwe, hn1, hn2, hnw⟩ <;>
    rcases (nodeAt_equiv c (p1 ++ [x1]) _ _ g4).cases with ⟨ho1, ho2⟩ | ⟨odl, ode, ho1, ho2, hod⟩ <;>
    simp only [hn1, hn2, ho1, ho2]
  · exact ⟨rfl, g4⟩
  · exact ⟨rfl, moveEntry_equiv c g4 hod⟩
  · exact ⟨rfl, g4⟩
  · rw [hnw.kind, hod.kind]
    exact .ite
      (fun _ => .ite (fun _ => ⟨rfl, g4⟩) fun _ => .ite (fun _ => ⟨rfl, g4⟩) fun _ =>
        .stage (withDir_equiv c _ _ (actForceChild_resp c x2) p2 _ _ g4) fun g5 =>
          ⟨rfl, moveEntry_equiv c g5 hod⟩)
      (fun _ => .ite (fun _ => ⟨rfl, g4⟩) fun _ => .ite (fun _ => ⟨rfl, g4⟩) fun _ =>
        ⟨rfl, moveEntry_equiv c g4 hod⟩)

theorem link_equiv (c : CAS) (l e : Node) (h : Equiv c l e) (ps : Path) (xs : Name) (pd : Path)
    (xd : Name) : Sim c (link c [] l ps xs pd xd) (link c [] e ps xs pd xd) := by
  unfold link
  refine .stage (withDir_equiv c _ _ (actNop_resp c) ps l e h) fun g1 => ?_
  rcases (nodeAt_equiv c (ps ++ [xs]) _ _ g1).cases with ⟨ho1, ho2⟩ | ⟨vl, ve, ho1, ho2, hv⟩ <;>
    simp only [ho1, ho2]
  · exact ⟨rfl, g1⟩
  · rw [hv.kind]
    exact .ite (fun _ => ⟨rfl, g1⟩) fun _ => withDir_equiv c _ _ (actPutNew_rel c xd hv) pd _ _ g1

theorem FaultOr.ite {c : CAS} {n : Node} {p : Prop} [Decidable p] {a a' b b' : Node × Out}
    (ha : p → FaultOr c n a a') (hb : ¬ p → FaultOr c n b b') :
    FaultOr c n (if p then a else b) (if p then a' else b') := by
  split
  · exact ha ‹_›
  · exact hb ‹_›

/-- A stage whose walk, started on a tree `t` equivalent to `n`, does not change what `t` shows. -/
theorem FaultOr.stage {c : CAS} {t n : Node} {rF r0 kF k0 : Node × Out} (ht : Equiv c t n)
    (h : FaultOr c t rF r0) (hkeep : Equiv c r0.1 t)
    (hk : rF = r0 → Equiv c r0.1 n → FaultOr c n kF k0) :
    FaultOr c n (if rF.2 ≠ .ok then rF else kF) (if r0.2 ≠ .ok then r0 else k0) := by
  rcases h with rfl | ⟨h1, h2⟩
  · exact .ite (fun _ => .inl rfl) fun _ => hk rfl (hkeep.trans ht)
  · rw [if_pos (by rw [h1]; decide)]
    exact .inr ⟨h1, h2.trans ht⟩

theorem rename_fault (c : CAS) (F : List Dig) (n : Node) (p1 : Path) (x1 : Name) (p2 : Path) (x2 : Name) :
    FaultOr c n (rename c F n p1 x1 p2 x2) (rename c [] n p1 x1 p2 x2) := by
  have nop := withDir_fault c F actNop actNop (act_fault_same c actNop)
  have nopk := withDir_keeps c [] actNop (actNop_keeps c)
  unfold rename
  refine .stage (.refl c n) (walkTo_fault c F p1 n) (walkTo_keeps c [] p1 n) fun e k1 => ?_
  rw [e]
  refine .stage k1 (walkTo_fault c F p2 _) (walkTo_keeps c [] p2 _) fun e k2 => ?_
  rw [e]
  refine .stage k2 (nop p1 _) (nopk p1 _) fun e k3 => ?_
  rw [e]
  refine .stage k3 (nop p2 _) (nopk p2 _) fun e k4 => ?_
  rw [e]
  -- from here on only the walk that initialises an overwritten directory (to see that it is empty)
  -- reads the storage
  generalize (withDir c [] actNop p2 _).1 = t at k4 ⊢
  dsimp only
  cases nodeAt c t (p2 ++ [x2]) <;> cases nodeAt c t (p1 ++ [x1])
  case some.some nw od =>
    refine .ite (fun _ => .ite (fun _ => .inl rfl) fun _ => .ite (fun _ => .inl rfl) fun _ => ?_)
      fun _ => .inl rfl
    exact .stage k4 (withDir_fault c F _ _ (actForceChild_fault c F x2) p2 t)
      (withDir_keeps c [] _ (actForceChild_keeps c [] x2) p2 t) fun e _ => by rw [e]; exact .inl rfl
  all_goals exact .inl rfl

theorem link_fault (c : CAS) (F : List Dig) (n : Node) (ps : Path) (xs : Name) (pd : Path) (xd : Name) :
    FaultOr c n (link c F n ps xs pd xd) (link c [] n ps xs pd xd) := by
  unfold link
  refine .stage (.refl c n) (withDir_fault c F actNop actNop (act_fault_same c actNop) ps n)
    (withDir_keeps c [] actNop (actNop_keeps c) ps n) fun e k1 => ?_
  rw [e]
  cases nodeAt c _ (ps ++ [xs]) with
  | none => exact .inl rfl
  | some v =>
    exact .ite (fun _ => .inl rfl) fun _ =>
      (withDir_fault c F _ _ (act_fault_same c (actPutNew xd v)) pd _).mono k1

end BbRe.Lemmas.InputRoot
