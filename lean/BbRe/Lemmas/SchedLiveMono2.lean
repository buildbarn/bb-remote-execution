import BbRe.Lemmas.SchedLiveMono
import BbRe.Lemmas.SchedLiveFrame
/-!
`TStep` for every segment: the compound updates (`schedule` of a fresh task, final completion, retry, `assignNext`,
the operation updates of the client calls) one by one, then the closure over the primitives of `SchedLivePath`.
-/
namespace BbRe.Lemmas.SchedLive
open BbRe.Sched

/-- what `schedule` does to the task it is given -/
inductive SchedLe (t : Task) : Task → Prop
  | queued : SchedLe t { t with queued := true }
  | handed (w : ScqId × WId) : t.worker = none → SchedLe t { t with worker := some w, retry := 0, queued := false }

/-- `schedule` rewrites exactly one task (under its own id) and nothing else of the task / operation maps. -/
theorem schedule_shape {h : Hints} {s s' : State} {tid : Nat} (hh : schedule h s tid = .ok s') :
    ∃ t t', s.task? tid = some t ∧ SchedLe t t' ∧ s'.tasks = aset t.id t' s.tasks ∧ s'.ops = s.ops ∧
      s'.nextTask = s.nextTask ∧ s'.nextOp = s.nextOp := by
  obtain ⟨t, h0, ⟨_, rfl⟩ | ⟨_, w, w1, _, _, _, _, htw, rfl⟩⟩ := schedule_ok hh
  · exact ⟨t, _, h0, .queued, rfl, rfl, rfl, rfl⟩
  · exact ⟨t, _, h0, .handed (w1.scq, w1.id) htw, by simp, by simp, by simp, by simp⟩

/-- a fresh task and operation followed by `schedule` of that task -/
theorem tstep_new_then_schedule {allow : Prop} {h : Hints} {s s1 s' : State} {tn : Task} {on : Op}
    (hid : tn.id = s.nextTask) (hon : on.name = s.nextOp) (hot : on.task = s.nextTask)
    (h1t : s1.tasks = aset s.nextTask tn s.tasks) (h1o : s1.ops = aset s.nextOp on s.ops)
    (h1nt : s1.nextTask = s.nextTask + 1) (h1no : s1.nextOp = s.nextOp + 1)
    (hh : schedule h s1 s.nextTask = .ok s')
    (hmew : on.mayExistWithoutWaiters = true → tn.background = true := by
      simp [bgOp, bgTask, newOp, newTask]) : TStep allow s s' := by
  obtain ⟨t, t', h0, hle, e1, e2, e3, e4⟩ := schedule_shape hh
  have ht : t = tn := by simpa [State.task?, h1t] using h0.symm
  subst ht
  have hid' : t'.id = s.nextTask := by cases hle <;> exact hid
  apply TStep.intro; intro hk
  refine ⟨?_, ?_, by rw [e3, h1nt]; exact Nat.le_succ _, by rw [e4, h1no]; exact Nat.le_succ _, ?_, ?_⟩
  · rw [e1, h1t]; exact nodup_akeys_aset _ _ _ (nodup_akeys_aset _ _ _ hk.tnodup)
  · rw [e2, h1o]; exact nodup_akeys_aset _ _ _ hk.onodup
  · intro k tk e
    simp only [State.task?, e1, h1t, alookup_aset, hid] at e
    by_cases hkk : s.nextTask = k
    · simp only [hkk, if_true] at e; injection e with e; subst e
      exact .inr ⟨hkk ▸ Nat.le_refl _, by rw [e3, h1nt, ← hkk]; exact Nat.lt_succ_self _, hkk ▸ hid'⟩
    · simp only [hkk, if_false] at e; exact .inl ⟨tk, e, TaskLe.refl _ _⟩
  · intro k ok e
    simp only [State.op?, e2, h1o, alookup_aset] at e
    by_cases hkk : s.nextOp = k
    · simp only [hkk, if_true] at e; injection e with e; subst e
      refine .inr ⟨hkk ▸ Nat.le_refl _, by rw [e4, h1no, ← hkk]; exact Nat.lt_succ_self _, hkk ▸ hon,
        by rw [e3, h1nt, hot]; exact Nat.lt_succ_self _, ?_⟩
      intro hm tk' htk'
      simp only [State.task?, e1, h1t, alookup_aset, hid, hot, if_true, Option.some.injEq] at htk'
      subst htk'
      cases hle <;> exact hmew hm
    · simp only [hkk, if_false] at e; exact .inl ⟨ok, e, rfl, rfl, id⟩

theorem succS_tstep (allow : Prop) {s : State} {t : Task} {tid : Nat} (ev : Event) (r : Resp)
    (h0 : s.task? tid = some t) (hr : t.response = none) :
    TStep allow s (succS (detachW s t) (detachT t) ev r) := by
  intro hk
  have hid := (hk.tid tid t h0).1
  -- first the task update, then the flag clearing of `finishOps`
  let m : State := (dropDedup (emit (detachW s t) ev) { detachT t with learner := none }).setTask
      (bumpGen { detachT t with learner := none, response := some r })
  have e1 : succS (detachW s t) (detachT t) ev r = complete.finishOps m (detachT t).ops := rfl
  have s1 : TStep allow s m := by
    refine TStep.of_task (t0 := t) (by rw [hid]; exact h0) (taskLe_final allow r hr none) ?_ (by simp [m]) (by simp [m]) (by simp [m])
    simp [m, bumpGen]
  obtain ⟨km, rm⟩ := s1 hk
  have s2 : TStep allow m (complete.finishOps m (detachT t).ops) :=
    TStep.of_opsSame (by simp) (finishOps_opsSame _ m (fun k op e => (km.oname k op e).1)) (by simp) (by simp)
  rw [e1]
  exact TStep.trans (fun _ => ⟨km, rm⟩) s2 hk

/-- the retry branch of `complete` rewrites the task to a scheduled copy of `retryT ..` and nothing else -/
theorem completeRetry_shape {h : Hints} {s s' : State} {t : Task} {l : Nat} {r : Resp}
    (hh : completeRetry h (detachW s t) (detachT t) l r = .ok s') :
    ∃ s2 t2, schedule h ((retryS (detachW s t) l r).setTask (retryT (detachW s t) (detachT t) l r)) t.id = .ok s2 ∧
      SchedLe (retryT (detachW s t) (detachT t) l r) t2 ∧ t2.id = t.id ∧ s' = s2.setTask (bumpGen t2) ∧
      s2.tasks = aset t.id t2 (aset t.id (retryT (detachW s t) (detachT t) l r) s.tasks) ∧
      s2.ops = s.ops ∧ s2.nextTask = s.nextTask ∧ s2.nextOp = s.nextOp := by
  obtain ⟨s2, t2, h2, h3, rfl⟩ := completeRetry_ok hh
  obtain ⟨t1, t1', h4, hle, e1, e2, e3, e4⟩ := schedule_shape h2
  have hid : (retryT (detachW s t) (detachT t) l r).id = t.id := by simp [retryT]
  have ht1 : t1 = retryT (detachW s t) (detachT t) l r := by simpa [State.task?, retryT] using h4.symm
  subst ht1
  rw [hid] at e1
  have ht2 : t2 = t1' := by
    simp only [State.task?, e1, detachT_id, alookup_aset, if_true] at h3
    injection h3 with h3; exact h3.symm
  subst ht2
  refine ⟨s2, t2, by simpa using h2, hle, by cases hle <;> exact hid, rfl, ?_, by simpa using e2, by simpa using e3, by simpa using e4⟩
  rw [e1]; simp [hid]

theorem completeRetry_tstep {h : Hints} {s s' : State} {t : Task} {tid l : Nat} {r : Resp}
    (h0 : s.task? tid = some t) (hr : t.response = none)
    (hh : completeRetry h (detachW s t) (detachT t) l r = .ok s') : TStep True s s' := by
  obtain ⟨s2, t2, _, hle, hid2, rfl, e1, e2, e3, e4⟩ := completeRetry_shape hh
  intro hk
  have hid := (hk.tid tid t h0).1
  have hgen : t2.gen = (detachT t).gen := by cases hle <;> rfl
  have hresp : t2.response = none := by cases hle <;> simp [retryT, hr]
  have hpq : t2.scq.pq = t.scq.pq := by
    have : (retryT (detachW s t) (detachT t) l r).scq.pq = t.scq.pq := by
      simp only [retryT, largestScq]; split <;> simp
    cases hle <;> exact this
  have hdg : t2.digest = t.digest ∧ t2.dkey = t.dkey := by cases hle <;> simp [retryT]
  have hbg : t2.background = t.background := by cases hle <;> simp [retryT]
  have := detachT_gen_ge t
  refine TStep.of_task' (k0 := t.id) (t0 := t) (t2 := bumpGen t2) (by rw [hid]; exact h0)
    ⟨by simp [bumpGen, hid2], by simp [bumpGen, hgen]; omega, by simp [bumpGen, hpq], by simp [bumpGen, hdg.1],
     by simp [bumpGen, hdg.2], by simp [hr], by intro _; simp [bumpGen, hgen]; omega, fun _ => trivial,
     by simp [bumpGen, hbg]⟩
    ?_ ?_ (by simp [e2]) (by simp [e3]) (by simp [e4]) hk
  · intro k
    simp only [State.task?, setTask_tasks, e1, alookup_aset, bumpGen, hid2]
    by_cases hkk : t.id = k <;> simp [hkk]
  · intro hn
    simp only [setTask_tasks, e1]
    exact nodup_akeys_aset _ _ _ (nodup_akeys_aset _ _ _ (nodup_akeys_aset _ _ _ hn))

theorem eraseOp_tstep (allow : Prop) (s : State) (o : Nat) : TStep allow s (eraseOp s o) := by
  apply TStep.intro; intro hk
  refine ⟨hk.tnodup, nodup_akeys_aerase _ _ hk.onodup, Nat.le_refl _, Nat.le_refl _, ?_, ?_⟩
  · intro k t' e; exact .inl ⟨t', e, TaskLe.refl _ _⟩
  · intro k o' e
    simp only [State.op?, eraseOp_ops, alookup_aerase _ _ _ hk.onodup] at e
    split at e
    · cases e
    · exact .inl ⟨o', e, rfl, rfl, id⟩

theorem dropOpT_tstep (allow : Prop) {s : State} {t : Task} {k0 : Nat} (o : Nat) (h0 : s.task? k0 = some t) :
    TStep allow s (dropOpT s t o) := by
  intro hk
  have hid := (hk.tid k0 t h0).1
  unfold dropOpT
  split
  · refine TStep.intro (fun hk => ⟨nodup_akeys_aerase _ _ hk.tnodup, hk.onodup, Nat.le_refl _, Nat.le_refl _, ?_, ?_⟩) hk
    · intro k t' e
      simp only [State.task?, alookup_aerase _ _ _ hk.tnodup] at e
      split at e
      · cases e
      · exact .inl ⟨t', e, TaskLe.refl _ _⟩
    · intro k o' e; exact .inl ⟨o', e, rfl, rfl, id⟩
  · exact TStep.of_task (t0 := t) (t2 := { t with ops := t.ops.filter (· ≠ o) }) (by rw [hid]; exact h0)
      ⟨rfl, Nat.le_refl _, rfl, rfl, rfl, fun _ h => h, by simp, by simp [Task.stage], rfl⟩ rfl rfl rfl rfl hk

/-- replace one existing operation by a version with the same name and task -/
theorem TStep.of_op {allow : Prop} {s s' : State} {k0 : Nat} {o0 o2 : Op} (h0 : s.op? k0 = some o0)
    (hn : o2.name = o0.name) (ht : o2.task = o0.task)
    (hm : o2.mayExistWithoutWaiters = true → o0.mayExistWithoutWaiters = true) (h1 : s'.tasks = s.tasks)
    (h2 : s'.ops = aset o0.name o2 s.ops) (h3 : s'.nextTask = s.nextTask) (h4 : s'.nextOp = s.nextOp) :
    TStep allow s s' := by
  intro hk
  have hname := (hk.oname k0 o0 h0).1
  refine TStep.of_ops h1 (fun h => h2 ▸ nodup_akeys_aset _ _ _ h) ?_ h3 h4 hk
  intro k o' e
  simp only [State.op?, h2, alookup_aset, hname] at e
  split at e
  · rename_i hkk; subst hkk; injection e with e; subst e; exact ⟨o0, h0, ht, hn, hm⟩
  · exact ⟨o', e, rfl, rfl, id⟩

/-- a further operation on an existing task -/
theorem addOpS_tstep (allow : Prop) {s : State} {tid : Nat} {t : Task} (inv : List Nat) (prio : Int)
    (h0 : s.task? tid = some t) : TStep allow s (addOpS s tid t inv prio) := by
  apply TStep.intro; intro hk
  have hid := hk.tid tid t h0
  refine ⟨by simp only [addOpS_tasks]; exact nodup_akeys_aset _ _ _ hk.tnodup,
    by simp only [addOpS_ops]; exact nodup_akeys_aset _ _ _ hk.onodup, by simp, by simp, ?_, ?_⟩
  · intro k t' e
    simp only [State.task?, addOpS_tasks, alookup_aset] at e
    split at e
    · rename_i hkk; injection e with e; subst e
      refine .inl ⟨t, by rw [← hkk, hid.1]; exact h0, ⟨rfl, Nat.le_refl _, rfl, rfl, rfl, fun _ h => h, by simp, by simp [Task.stage], rfl⟩⟩
    · exact .inl ⟨t', e, TaskLe.refl _ _⟩
  · intro k o' e
    simp only [State.op?, addOpS_ops, alookup_aset] at e
    split at e
    · rename_i hkk; injection e with e; subst e
      exact .inr ⟨by omega, by simp; omega, hkk, by simp; exact hid.2, by simp⟩
    · exact .inl ⟨o', e, rfl, rfl, id⟩

theorem assignNext_tstep {allow : Prop} {h : Hints} {s s1 : State} {w : Worker} {got : Bool}
    (hh : assignNext h s w = .ok (s1, got)) : TStep allow s s1 := by
  rcases assignNext_ok hh with ⟨_, rfl, _⟩ | ⟨_, t, t', hq, _, htw, h3, rfl⟩
  · exact TStep.refl _ _
  · -- `t` is a queued task of the state: it is stored under its own id
    unfold queuedTasks at hq
    simp only [List.mem_map, List.mem_filter] at hq
    obtain ⟨⟨k, t0⟩, ⟨hm, hc⟩, rfl⟩ := hq
    intro hk
    have ht' : t' = { t0 with worker := some (w.scq, w.id), retry := 0, queued := false } := by
      simp only [State.task?, assignS_tasks, alookup_aset, if_true] at h3
      injection h3 with h3; exact h3.symm
    subst ht'
    have hl : s.task? k = some t0 := alookup_of_mem hk.tnodup hm
    have hid := (hk.tid k t0 hl).1
    simp only [decide_eq_true_eq] at hc
    have hresp : t0.response = none := by simpa using hc.2.2.2
    refine TStep.of_task' (k0 := t0.id) (t0 := t0)
      (t2 := bumpGen { t0 with worker := some (w.scq, w.id), retry := 0, queued := false })
      (by rw [hid]; exact hl)
      ⟨rfl, by simp [bumpGen], rfl, rfl, rfl, fun _ h => h, by intro _; simp [bumpGen], ?_, rfl⟩ ?_ ?_ (by simp) (by simp) (by simp) hk
    · rintro (h | h)
      · simp [bumpGen, Task.stage, hresp] at h; split at h <;> omega
      · simp [bumpGen] at h
    · intro k'
      simp only [State.task?, setTask_tasks, assignS_tasks, alookup_aset, bumpGen]
      by_cases hkk : t0.id = k' <;> simp [hkk]
    · intro hn
      simp only [setTask_tasks, assignS_tasks]
      exact nodup_akeys_aset _ _ _ (nodup_akeys_aset _ _ _ hn)

theorem syncReturn_tstep (allow : Prop) (s : State) (q : ScqId) (w : WId) : TStep allow s (syncReturn s q w) :=
  TStep.of_same (by simp) (by simp) (by simp) (by simp)

theorem syncQueue_tstep {allow : Prop} {s : State} {q : ScqId} {comps : List Nat} {pf : Nat} {w : WId}
    {x : State ⊕ State} (hh : syncQueue s q comps pf w = .ok x) : TStep allow s (unsum x) := by
  rcases syncQueue_ok hh with ⟨_, rfl⟩ | ⟨_, rfl⟩ | ⟨_, _, rfl⟩ | ⟨_, _, rfl⟩ <;> exact TStep.of_same rfl rfl rfl rfl

theorem syncWorker_tstep (allow : Prop) (s : State) (q : ScqId) (w : WId) : TStep allow s (unsum (syncWorker s q w)) := by
  rcases syncWorker_cases s q w with ⟨wk, _, _, e⟩ | ⟨wk, _, _, e⟩ | ⟨_, e⟩ <;> rw [e] <;> exact TStep.of_same rfl rfl rfl rfl

theorem foldl_tstep {allow : Prop} {α} (f : State → α → State) (hf : ∀ s a, TStep allow s (f s a)) (l : List α) (s : State) :
    TStep allow s (l.foldl f s) :=
  foldl_rel (TStep allow) (TStep.refl allow) TStep.trans f hf l s

theorem drainWake_tstep (allow : Prop) (q : ScqId) (p : Pattern) (s : State) (w : Worker) :
    TStep allow s (drainWake q p s w) := by
  unfold drainWake; split
  · exact TStep.of_same rfl rfl rfl rfl
  · exact TStep.refl _ _

theorem termMark_tstep (allow : Prop) (s : State) (w : Worker) : TStep allow s (termMark s w) := by
  unfold termMark
  split
  · split
    · split <;> exact TStep.of_same rfl rfl rfl rfl
    · exact TStep.of_same rfl rfl rfl rfl
  · exact TStep.refl _ _

/-! ## the primitive updates -/

theorem IPrim.tstep {P : Nat → Resp → Prop} {allow : Prop} {a b : State} (p : IPrim P allow a b) : TStep allow a b := by
  cases p with
  | now | pop => exact TStep.of_same rfl rfl rfl rfl
  | dropWorker | dropScq | learner => exact TStep.of_same (by simp) (by simp) (by simp) (by simp)
  | eraseOp => exact eraseOp_tstep _ _ _
  | dropOpT o h0 => exact dropOpT_tstep _ o h0
  | final r h0 hn => exact succS_tstep _ _ r h0 hn
  | bg t bq pq _ _ _ h2 =>
    exact (TStep.of_same (s' := bumpLearner a) (by simp) (by simp) (by simp) (by simp)).trans
      (tstep_new_then_schedule (s := bumpLearner a) (tn := bgTask _ _ bq _) (on := bgOp _ pq) rfl rfl rfl rfl rfl rfl rfl h2)
  | retry hb h0 hn _ h1 => exact (completeRetry_tstep h0 hn h1).mono (fun _ => hb)

theorem SPrim.tstep (allow : Prop) {a b : State} (p : SPrim a b) : TStep allow a b := by
  cases p with
  | int p => exact p.tstep.mono (fun e => nomatch e)
  | @attach _ o op h0 =>
    intro hk; have hname := (hk.oname _ _ h0).1
    exact TStep.of_op h0 (o2 := { op with waiters := op.waiters + 1 }) rfl rfl id rfl (by simp [attachS, hname]) rfl rfl hk
  | @done _ o op t r c h0 =>
    intro hk; have hname := (hk.oname _ _ h0).1
    exact TStep.of_op h0 (o2 := { op with waiters := op.waiters - 1 }) rfl rfl id (by simp) (by simp [sendDone, hname]) (by simp) (by simp) hk
  | @leave _ c st op code _ h0 =>
    intro hk; have hname := (hk.oname _ _ h0).1
    exact TStep.of_op h0 (o2 := { op with waiters := op.waiters - 1 }) rfl rfl id (by simp) (by simp [leaveS, hname]) (by simp) (by simp) hk
  | park => exact TStep.of_same (by simp) (by simp) (by simp) (by simp)
  | ret | ev => exact TStep.of_same rfl rfl rfl rfl
  | addOp inv prio _ h0 => exact addOpS_tstep allow inv prio h0
  | @newTask _ _ _ _ _ sc pq digest dkey dnc inv prio _ _ _ h3 =>
    exact tstep_new_then_schedule (tn := SchedLive.newTask a digest dkey dnc ⟨pq.id, sc⟩) (on := newOp a inv prio)
      rfl rfl rfl (by simp) (by simp) (by simp) (by simp) h3

theorem WPrim.tstep {P : Nat → Resp → Prop} {allow : Prop} {q : ScqId} {w : WId} {a b : State}
    (p : WPrim P allow q w a b) : TStep allow a b := by
  cases p with
  | int p => exact p.tstep
  | ev | qKnown | addScq | addPqScq | inSync | addWorker | park | drainWait | unpark | unwoken | undrain =>
    exact TStep.of_same rfl rfl rfl rfl
  | ret => exact syncReturn_tstep _ _ _ _
  | assign _ _ _ h2 => exact assignNext_tstep h2
  | @retryInc _ wk tid t _ _ h0 =>
    intro hk
    have hid := (hk.tid tid t h0).1
    exact TStep.of_task (t0 := t) (t2 := { t with retry := t.retry + 1 }) (by rw [hid]; exact h0)
      ⟨rfl, Nat.le_refl _, rfl, rfl, rfl, fun _ h => h, by simp, by simp [Task.stage], rfl⟩
      (by simp) (by simp) (by simp) (by simp) hk

theorem OPrim.tstep (allow : Prop) {term : Prop} {a b : State} (p : OPrim term a b) : TStep allow a b := by
  cases p with
  | int p => exact p.tstep.mono (fun e => nomatch e)
  | ev | removeDrain | addTerm | dropTerm | register => exact TStep.of_same rfl rfl rfl rfl
  | addDrain p =>
    exact (TStep.of_same (s := a) (s' := a.setScq _) rfl rfl rfl rfl).trans (foldl_tstep _ (drainWake_tstep allow _ p) _ _)
  | termMark => exact termMark_tstep _ _ _

/-- **Every segment** preserves the key discipline and evolves old tasks monotonically; stage / size
class may only drop in a retrying `Synchronize`. -/
theorem step_tstep {s s' : State} {g : Seg} (hstep : step s g = .ok s') : TStep (isRetrySeg g) s s' := by
  have p := step_path hstep
  cases g with
  | exec | wait | streamWake => exact p.rel _ (TStep.refl _) TStep.trans (SPrim.tstep _)
  | sync | syncWake => exact p.rel _ (TStep.refl _) TStep.trans (fun x => x.tstep.mono (fun e => e))
  | _ => exact p.rel _ (TStep.refl _) TStep.trans (OPrim.tstep _)

/-! ## the calls that later modules name -/

theorem complete_tstep {h : Hints} {s s' : State} {tid : Nat} {r : Resp} {bw : Bool}
    (hh : complete h s tid r bw = .ok s') : TStep (retryAllowed h r bw) s s' :=
  (complete_path hh).rel _ (TStep.refl _) TStep.trans IPrim.tstep

theorem enter_tstep {allow : Prop} {h : Hints} {s s' : State} {t : Nat} (hh : enter h s t = .ok s') :
    TStep allow s s' :=
  (enter_path hh).rel _ (TStep.refl _) TStep.trans (fun p => p.tstep.mono (fun e => nomatch e))

theorem streamSend_tstep {allow : Prop} {s s' : State} {c o : Nat} (hh : streamSend s c o = .ok s') :
    TStep allow s s' :=
  (streamSend_path hh).rel _ (TStep.refl _) TStep.trans (SPrim.tstep allow)

theorem streamAttach_tstep {allow : Prop} {s s' : State} {c o : Nat} (hh : streamAttach s c o = .ok s') :
    TStep allow s s' :=
  (streamAttach_path hh).rel _ (TStep.refl _) TStep.trans (SPrim.tstep allow)

theorem streamLeave_tstep {allow : Prop} {s s' : State} {c code : Nat} (hh : streamLeave s c code = .ok s') :
    TStep allow s s' :=
  (streamLeave_path hh).rel _ (TStep.refl _) TStep.trans (SPrim.tstep allow)

theorem getNextTask_tstep {allow : Prop} {h : Hints} {s s' : State} {q : ScqId} {w : WId} {pi block : Bool}
    (hh : getNextTask h s q w pi block = .ok s') : TStep allow s s' :=
  (getNextTask_path (P := SchedMade) hh).rel _ (TStep.refl _) TStep.trans WPrim.tstep

theorem getCurrentOrNext_tstep {allow : Prop} {h : Hints} {s s' : State} {q : ScqId} {w : WId} {pi block : Bool}
    (hh : getCurrentOrNext h s q w pi block = .ok s') : TStep allow s s' :=
  (getCurrentOrNext_path (fun _ _ e => e) hh).rel _ (TStep.refl _) TStep.trans WPrim.tstep

theorem addDrain_tstep {allow : Prop} {h : Hints} {s s' : State} {now : Nat} {q : ScqId} {p : Pattern}
    (hh : addDrain h s now q p = .ok s') : TStep allow s s' :=
  (Path.ofEnter .int (addDrain_path (term := False) hh)).rel _ (TStep.refl _) TStep.trans (OPrim.tstep allow)

theorem terminate_tstep {allow : Prop} {h : Hints} {s s' : State} {now id : Nat} {p : Pattern}
    (hh : terminate h s now id p = .ok s') : TStep allow s s' :=
  (Path.ofEnter .int (terminate_path hh)).rel _ (TStep.refl _) TStep.trans (OPrim.tstep allow)

theorem keysOK_init (cfg : Cfg) : KeysOK (State.init cfg) :=
  ⟨by simp [State.init, akeys], by simp [State.init, akeys],
   by intro k t h; simp [State.init, State.task?] at h,
   by intro k o h; simp [State.init, State.op?] at h⟩

theorem keysOK_reachable {s : State} (hs : Reachable s) : KeysOK s := by
  induction hs with
  | init cfg => exact keysOK_init cfg
  | step g _ hstep ih => exact (step_tstep hstep ih).1

end BbRe.Lemmas.SchedLive
