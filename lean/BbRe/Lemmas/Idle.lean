import BbRe.Model.Idle
import BbRe.Lemmas.Counted
/-!
Invariant of `Model/Idle.lean` (the `IdleInvoker` transition system) and its
preservation by every step.  Every lock-held segment is made of five moves
(park or cancel, join, leave, open the cleaner's channel, close it), each of
which preserves the invariant; `step_cases` lists what an enabled step does to a
state satisfying the invariant, and the theorems about single steps here and in
`Properties/C12.lean` are case analyses of it.  `Counted p f n` (`Lemmas/Counted.lean`: exactly `n` thread
ids `t` have `p (f t)`) is the form of the invariant's user count.  At the end: what `chainedFrom`
(`ChainedCleaner`) returns.
-/
namespace BbRe.Lemmas.Idle
open BbRe.Idle

/-- The invariant of the invoker.  `users` is "useCount = number of threads
that are `inUse`" (a duplicate-free list enumerating exactly those threads). -/
structure Inv (s : State) : Prop where
  noPanic : s.panicked = false
  cleanNone : s.wakeup = none → ∀ t, (s.pc t).cleaning = false
  cleanSome : ∀ c, s.wakeup = some c →
    ∃ t, (s.pc t).cleaning = true ∧ ∀ t', (s.pc t').cleaning = true → t' = t
  useZero : s.wakeup ≠ none → s.useCount = 0
  -- `Counted (· = .inUse) s.pc s.useCount` (`Lemmas/Counted.lean`), written out
  users : ∃ l : List Nat, l.Nodup ∧ (∀ t, t ∈ l ↔ s.pc t = .inUse) ∧ s.useCount = l.length
  chanOpen : ∀ c, s.wakeup = some c → c < s.gen ∧ c ∉ s.closed
  chanClosed : ∀ c, c < s.gen → s.wakeup = some c ∨ c ∈ s.closed
  closedLt : ∀ c, c ∈ s.closed → c < s.gen
  waitChan : ∀ t c, s.pc t = .waiting c → c < s.gen

theorem inv_init : Inv init :=
  ⟨rfl, fun _ _ => rfl, nofun, fun h => absurd rfl h, ⟨[], List.nodup_nil, fun _ => ⟨nofun, nofun⟩, rfl⟩,
    nofun, nofun, nofun, nofun⟩

@[simp] theorem setPc_pc (s : State) (t : Nat) (v : PC) (x : Nat) :
    (s.setPc t v).pc x = if x = t then v else s.pc x := rfl
@[simp] theorem setPc_useCount (s : State) (t : Nat) (v : PC) : (s.setPc t v).useCount = s.useCount := rfl
@[simp] theorem setPc_wakeup (s : State) (t : Nat) (v : PC) : (s.setPc t v).wakeup = s.wakeup := rfl
@[simp] theorem setPc_gen (s : State) (t : Nat) (v : PC) : (s.setPc t v).gen = s.gen := rfl
@[simp] theorem setPc_closed (s : State) (t : Nat) (v : PC) : (s.setPc t v).closed = s.closed := rfl
@[simp] theorem setPc_panicked (s : State) (t : Nat) (v : PC) : (s.setPc t v).panicked = s.panicked := rfl

theorem setPc_setPc (s : State) (t : Nat) (a b : PC) : (s.setPc t a).setPc t b = s.setPc t b := by
  unfold State.setPc
  congr 1
  funext x
  dsimp only
  split <;> rfl

theorem forall_setPc {Q : PC → Prop} {s : State} {t : Nat} {v : PC} (h : ∀ x, Q (s.pc x)) (hv : Q v) (x : Nat) :
    Q ((s.setPc t v).pc x) := by
  rw [setPc_pc]
  split
  · exact hv
  · exact h x

/-! ### the five moves every segment is made of -/

section moves
variable {s : State}

theorem Inv.counted (h : Inv s) : Counted (· = PC.inUse) s.pc s.useCount := h.users

theorem Inv.wakeup_none_of_users (h : Inv s) (hu : s.useCount ≠ 0) : s.wakeup = none := by
  cases hw : s.wakeup with
  | none => rfl
  | some c => exact absurd (h.useZero (by rw [hw]; nofun)) hu

theorem Inv.user_facts (h : Inv s) {t : Nat} (hpc : s.pc t = .inUse) : s.wakeup = none ∧ s.useCount ≠ 0 :=
  have hu := h.counted.pos hpc
  ⟨h.wakeup_none_of_users hu, hu⟩

theorem Inv.exclusive (h : Inv s) {t : Nat} (ht : (s.pc t).cleaning = true) :
    (∀ t', s.pc t' ≠ .inUse) ∧ (∀ t', (s.pc t').cleaning = true → t' = t) := by
  cases hw : s.wakeup with
  | none => rw [h.cleanNone hw t] at ht; cases ht
  | some c =>
    obtain ⟨t0, _, huniq⟩ := h.cleanSome c hw
    have hc := h.counted
    rw [h.useZero (by rw [hw]; nofun)] at hc
    exact ⟨hc.zero, fun t' ht' => (huniq t' ht').trans (huniq t ht).symm⟩

/-- Moving a thread that is neither cleaning nor a user to another such
program counter (parking it, cancelling it). -/
theorem inv_setPc_neutral (h : Inv s) (t : Nat) (v : PC)
    (hold1 : (s.pc t).cleaning = false) (hold2 : s.pc t ≠ .inUse)
    (hv1 : v.cleaning = false) (hv2 : v ≠ .inUse) (hv3 : ∀ c, v = .waiting c → c < s.gen) :
    Inv (s.setPc t v) :=
  { h with
    cleanNone := fun hw => forall_setPc (Q := fun p => p.cleaning = false) (h.cleanNone hw) hv1
    cleanSome := fun c hc => by
      obtain ⟨t0, ht0, huniq⟩ := h.cleanSome c hc
      have hne : t0 ≠ t := fun e => by rw [e, hold1] at ht0; cases ht0
      refine ⟨t0, by rw [setPc_pc, if_neg hne]; exact ht0, fun t' ht' => huniq t' ?_⟩
      rw [setPc_pc] at ht'
      split at ht'
      · rw [hv1] at ht'; cases ht'
      · exact ht'
    users := h.counted.set_same t v ⟨fun e => absurd e hv2, fun e => absurd e hold2⟩
    waitChan := forall_setPc (Q := fun p => ∀ c, p = .waiting c → c < s.gen) h.waitChan hv3 }

/-- `useCount++` on behalf of `t`. -/
theorem inv_join (h : Inv s) (t : Nat) (hw : s.wakeup = none) (hold : s.pc t ≠ .inUse) :
    Inv { (s.setPc t .inUse) with useCount := s.useCount + 1 } :=
  { h with
    cleanNone := fun _ => forall_setPc (Q := fun p => p.cleaning = false) (h.cleanNone hw) rfl
    cleanSome := fun _ hc => nomatch hw.symm.trans hc
    useZero := fun hn => absurd hw hn
    users := h.counted.set_add t .inUse hold rfl
    chanOpen := fun _ hc => nomatch hw.symm.trans hc
    waitChan := forall_setPc (Q := fun p => ∀ c, p = .waiting c → c < s.gen) h.waitChan nofun }

/-- `useCount--` on behalf of the user `t`. -/
theorem inv_leave (h : Inv s) (t : Nat) (hpc : s.pc t = .inUse) :
    Inv (({ s with useCount := s.useCount - 1 } : State).setPc t .out) :=
  have hw := (h.user_facts hpc).1
  { h with
    cleanNone := fun _ => forall_setPc (Q := fun p => p.cleaning = false) (h.cleanNone hw) rfl
    cleanSome := fun _ hc => nomatch hw.symm.trans hc
    useZero := fun hn => absurd hw hn
    users := h.counted.set_remove t .out hpc nofun
    waitChan := forall_setPc (Q := fun p => ∀ c, p = .waiting c → c < s.gen) h.waitChan nofun }

/-- First half of `clean` on an idle invoker: `t` enters the cleaner and a fresh channel is published. -/
theorem inv_open (h : Inv s) (t : Nat) (v : PC) (hw : s.wakeup = none) (hu : s.useCount = 0)
    (hold : s.pc t ≠ .inUse) (hv : v.cleaning = true) :
    Inv { (s.setPc t v) with wakeup := some s.gen, gen := s.gen + 1 } :=
  { h with
    cleanNone := nofun
    cleanSome := fun _ _ => by
      refine ⟨t, by rw [setPc_pc, if_pos rfl]; exact hv, fun t' ht' => ?_⟩
      rw [setPc_pc] at ht'
      split at ht'
      · assumption
      · rw [h.cleanNone hw t'] at ht'; cases ht'
    useZero := fun _ => hu
    users := h.counted.set_same t v ⟨fun e => (by rw [e] at hv; cases hv), fun e => absurd e hold⟩
    chanOpen := fun c hc => by
      cases hc
      exact ⟨Nat.lt_succ_self _, fun hm => Nat.lt_irrefl _ (h.closedLt _ hm)⟩
    chanClosed := fun c hc => by
      rcases Nat.lt_succ_iff_lt_or_eq.1 hc with hlt | e
      · exact .inr ((h.chanClosed c hlt).resolve_left fun e => nomatch hw.symm.trans e)
      · exact .inl (congrArg some e.symm)
    closedLt := fun c hc => Nat.lt_succ_of_lt (h.closedLt c hc)
    waitChan := forall_setPc (Q := fun p => ∀ c, p = .waiting c → c < s.gen + 1)
      (fun x c hx => Nat.lt_succ_of_lt (h.waitChan x c hx)) fun c e => by rw [e] at hv; cases hv }

/-- Second half of `clean`: the channel is closed and the cleaning thread `t` leaves. -/
theorem inv_close (h : Inv s) (t c : Nat) (hw : s.wakeup = some c) (ht : (s.pc t).cleaning = true) :
    Inv (({ s with closed := c :: s.closed, wakeup := none } : State).setPc t .out) :=
  { h with
    cleanNone := fun _ x => by
      -- `t` was the only cleaning thread
      rw [setPc_pc]
      split
      · rfl
      · rename_i e
        exact Bool.eq_false_iff.2 fun hx => e ((h.exclusive ht).2 x hx)
    cleanSome := nofun
    useZero := fun hn => absurd rfl hn
    users := h.counted.set_same t .out ⟨nofun, fun e => by rw [e] at ht; cases ht⟩
    chanOpen := nofun
    chanClosed := fun c' hlt => by
      rcases h.chanClosed c' hlt with e | hm
      · rw [hw] at e; cases e; exact .inr (List.mem_cons_self ..)
      · exact .inr (List.mem_cons_of_mem _ hm)
    closedLt := fun c' hc' => by
      rcases List.mem_cons.1 hc' with e | hm
      · rw [e]; exact (h.chanOpen c hw).1
      · exact h.closedLt c' hm
    waitChan := forall_setPc (Q := fun p => ∀ c, p = .waiting c → c < s.gen) h.waitChan nofun }

end moves

/-! ### the enabled steps -/

theorem startClean_of_none {s : State} (hw : s.wakeup = none) (t : Nat) (v : PC) :
    startClean s t v = { (s.setPc t v) with wakeup := some s.gen, gen := s.gen + 1 } := by
  unfold startClean
  rw [hw]

/-- Thread `t` runs `acquireBody` in `op`: it arrives, or is woken on a closed channel. -/
inductive Arrives (s : State) : Op → Nat → Prop
  | acquire (t : Nat) : s.pc t = .out → Arrives s (.acquireEnter t) t
  | wake (t c : Nat) : s.pc t = .waiting c → c ∈ s.closed → Arrives s (.wake t) t

theorem Arrives.op_eq {s : State} {op : Op} {t : Nat} (h : Arrives s op t) : op = .acquireEnter t ∨ op = .wake t := by
  cases h
  · exact Or.inl rfl
  · exact Or.inr rfl

theorem Arrives.neutral {s : State} {op : Op} {t : Nat} (h : Arrives s op t) :
    (s.pc t).cleaning = false ∧ s.pc t ≠ .inUse := by
  cases h <;> rename_i hpc <;> rw [hpc] <;> exact ⟨rfl, nofun⟩

/-- What an enabled step does to a state satisfying the invariant, one
constructor per outcome; `t` is the thread that moves (`step_cases`).  The
panics of `step` do not occur here: the invariant excludes them. -/
inductive Step (s : State) : Op → State → Prop
  | park {op : Op} (t c : Nat) : Arrives s op t → s.wakeup = some c → Step s op (s.setPc t (.waiting c))
  | acqClean {op : Op} (t : Nat) : Arrives s op t → s.wakeup = none → s.useCount = 0 →
      Step s op { (s.setPc t .cleanAcq) with wakeup := some s.gen, gen := s.gen + 1 }
  | join {op : Op} (t : Nat) : Arrives s op t → s.wakeup = none → s.useCount ≠ 0 →
      Step s op { (s.setPc t .inUse) with useCount := s.useCount + 1 }
  | cancel (t c : Nat) : s.pc t = .waiting c → Step s (.cancel t) (s.setPc t .out)
  | cleanOk (t c : Nat) : s.wakeup = some c → s.pc t = .cleanAcq →
      Step s (.cleanDone t true)
        { (({ s with closed := c :: s.closed, wakeup := none } : State).setPc t .inUse) with useCount := s.useCount + 1 }
  | cleanEnd (t : Nat) (ok : Bool) (c : Nat) : s.wakeup = some c → (s.pc t).cleaning = true →
      (s.pc t = .cleanAcq → ok = false) →
      Step s (.cleanDone t ok) (({ s with closed := c :: s.closed, wakeup := none } : State).setPc t .out)
  | relReturn (t : Nat) : s.pc t = .inUse → s.wakeup = none → 1 < s.useCount →
      Step s (.releaseEnter t) (({ s with useCount := s.useCount - 1 } : State).setPc t .out)
  | relClean (t : Nat) : s.pc t = .inUse → s.wakeup = none → s.useCount = 1 →
      Step s (.releaseEnter t)
        { (({ s with useCount := s.useCount - 1 } : State).setPc t .cleanRel) with wakeup := some s.gen, gen := s.gen + 1 }

theorem Step.arrive {s : State} {op : Op} {t : Nat} (ha : Arrives s op t) : Step s op (acquireBody s t) := by
  unfold acquireBody
  split
  · rename_i c hw; exact .park t c ha hw
  · rename_i hw
    split
    · rename_i hu; rw [startClean_of_none hw]; exact .acqClean t ha hw hu
    · rename_i hu; exact .join t ha hw hu

theorem step_cases {s s' : State} {op : Op} (h : Inv s) (hs : step s op = some s') : Step s op s' := by
  have hp : ¬ s.panicked = true := by rw [h.noPanic]; nofun
  unfold step at hs
  -- one goal per operation, in the order of `Op`
  split at hs <;> rw [if_neg hp] at hs
  next t =>
    split at hs
    · rename_i hpc; cases hs; exact .arrive (.acquire t hpc)
    · cases hs
  next t =>
    split at hs
    · rename_i c hpc
      split at hs
      · rename_i hc; cases hs; exact .arrive (.wake t c hpc hc)
      · cases hs
    · cases hs
  next t =>
    split at hs
    · rename_i c hpc; cases hs; exact .cancel t c hpc
    · cases hs
  next t ok =>
    split at hs
    · cases hs
    · rename_i c hw
      split at hs
      · rename_i hpc
        cases ok <;> cases hs
        · exact .cleanEnd t false c hw (by rw [hpc]; rfl) fun _ => rfl
        · exact .cleanOk t c hw hpc
      · rename_i hpc; cases hs; exact .cleanEnd t ok c hw (by rw [hpc]; rfl) fun e => nomatch hpc.symm.trans e
      · cases hs
  next t =>
    split at hs
    · rename_i hpc
      obtain ⟨hw, hu⟩ := h.user_facts hpc
      rw [if_neg hu] at hs
      dsimp only at hs
      split at hs
      · rename_i hgt; cases hs; exact .relReturn t hpc hw (Nat.lt_of_sub_pos hgt)
      · rename_i hgt
        cases hs
        rw [startClean_of_none (s := { s with useCount := s.useCount - 1 }) hw]
        exact .relClean t hpc hw
          (Nat.le_antisymm (Nat.le_of_sub_eq_zero (Nat.eq_zero_of_not_pos hgt)) (Nat.pos_of_ne_zero hu))
    · cases hs

/-! `step` on the inputs on which a waiter or a cleaner call proceeds -/

theorem step_wake {s : State} (hp : s.panicked = false) {t c : Nat} (hpc : s.pc t = .waiting c) (hc : c ∈ s.closed) :
    step s (.wake t) = some (acquireBody s t) := by
  simp only [step, hp, hpc, hc, Bool.false_eq_true, ↓reduceIte]

theorem step_cancel {s : State} (hp : s.panicked = false) {t c : Nat} (hpc : s.pc t = .waiting c) :
    step s (.cancel t) = some (s.setPc t .out) := by
  simp only [step, hp, hpc, Bool.false_eq_true, ↓reduceIte]

theorem step_cleanDone_isSome {s : State} (hp : s.panicked = false) {t c : Nat} (hw : s.wakeup = some c)
    (ht : (s.pc t).cleaning = true) (ok : Bool) : (step s (.cleanDone t ok)).isSome = true := by
  simp only [step, hp, hw, Bool.false_eq_true, ↓reduceIte]
  cases hpc : s.pc t <;> rw [hpc] at ht <;> cases ht
  · cases ok <;> rfl
  · rfl

theorem step_cleanDone_facts {s s' : State} {t : Nat} {ok : Bool} (h : Inv s)
    (hs : step s (.cleanDone t ok) = some s') : (s.pc t).cleaning = true ∧ s'.wakeup = none := by
  cases step_cases h hs with
  | park _ _ ha => cases ha
  | acqClean _ ha => cases ha
  | join _ ha => cases ha
  | cleanOk _ _ _ hpc => exact ⟨by rw [hpc]; rfl, rfl⟩
  | cleanEnd _ _ _ _ ht => exact ⟨ht, rfl⟩

/-- A user stays a user in every step except its own `Release`. -/
theorem step_keeps_inUse {s s' : State} {op : Op} (h : Inv s) (hs : step s op = some s') {x : Nat}
    (hx : s.pc x = .inUse) : op = .releaseEnter x ∨ s'.pc x = .inUse := by
  -- `t` moves and was a user only if the step is its `Release`
  have key : ∀ {t v}, (s.pc t = .inUse → op = .releaseEnter t) →
      op = .releaseEnter x ∨ (if x = t then v else s.pc x) = PC.inUse := fun {t _} ht =>
    (Decidable.em (x = t)).elim (fun e => .inl (e ▸ ht (e ▸ hx))) fun e => .inr ((if_neg e).trans hx)
  cases step_cases h hs with
  | park _ _ ha => exact key fun e => absurd e ha.neutral.2
  | acqClean _ ha => exact key fun e => absurd e ha.neutral.2
  | join _ ha => exact key fun e => absurd e ha.neutral.2
  | cancel _ _ hpc => exact key fun e => nomatch hpc.symm.trans e
  | cleanOk _ _ _ hpc => exact key fun e => nomatch hpc.symm.trans e
  | cleanEnd _ _ _ _ ht => exact key fun e => by rw [e] at ht; cases ht
  | relReturn => exact key fun _ => rfl
  | relClean => exact key fun _ => rfl

theorem inv_step {s s' : State} (h : Inv s) (op : Op) (hs : step s op = some s') : Inv s' := by
  cases step_cases h hs with
  | park t c ha hw =>
    exact inv_setPc_neutral h t _ ha.neutral.1 ha.neutral.2 rfl nofun fun c' e => by cases e; exact (h.chanOpen c hw).1
  | acqClean t ha hw hu => exact inv_open h t _ hw hu ha.neutral.2 rfl
  | join t ha hw _ => exact inv_join h t hw ha.neutral.2
  | cancel t c hpc => exact inv_setPc_neutral h t .out (by rw [hpc]; rfl) (by rw [hpc]; nofun) rfl nofun nofun
  | cleanOk t c hw hpc =>
    -- the channel is closed, then `t` joins the users
    have := inv_join (inv_close h t c hw (by rw [hpc]; rfl)) t rfl (by rw [setPc_pc, if_pos rfl]; nofun)
    rwa [setPc_setPc] at this
  | cleanEnd t ok c hw ht _ => exact inv_close h t c hw ht
  | relReturn t hpc _ _ => exact inv_leave h t hpc
  | relClean t hpc hw hu =>
    -- the last user leaves, then enters the cleaner
    have := inv_open (inv_leave h t hpc) t .cleanRel hw (by show s.useCount - 1 = 0; rw [hu])
      (by rw [setPc_pc, if_pos rfl]; nofun) rfl
    rwa [setPc_setPc] at this

theorem inv_reachable {s : State} (h : Reachable s) : Inv s := by
  induction h with
  | init => exact inv_init
  | step op _ hs ih => exact inv_step ih op hs

/-- `run` (which skips disabled steps) only visits reachable states. -/
theorem reachable_run {s : State} (h : Reachable s) (ops : List Op) : Reachable (run s ops) := by
  induction ops generalizing s with
  | nil => exact h
  | cons op rest ih =>
    unfold run
    split
    · rename_i s' hs; exact ih (Reachable.step op h hs)
    · exact ih h


/-! ### ChainedCleaner -/

theorem chainedFrom_fst (err n : Nat) (outs : List Nat) :
    (chainedFrom err n outs).1 = if err = 0 then (outs.find? (· ≠ 0)).getD 0 else err := by
  induction outs generalizing err n with
  | nil => simp [chainedFrom]
  | cons o rest ih =>
    simp only [chainedFrom, ih]
    by_cases he : err = 0
    · by_cases ho : o = 0 <;> simp [he, ho]
    · simp [he]

theorem chainedFrom_fst_zero_iff (err n : Nat) (outs : List Nat) :
    (chainedFrom err n outs).1 = 0 ↔ err = 0 ∧ ∀ o, o ∈ outs → o = 0 := by
  induction outs generalizing err n with
  | nil => simp [chainedFrom]
  | cons o rest ih =>
    simp only [chainedFrom, ih, List.mem_cons]
    by_cases he : err = 0
    · simp [he]
    · simp [he]

theorem chainedFrom_snd (err n : Nat) (outs : List Nat) : (chainedFrom err n outs).2 = n + outs.length := by
  induction outs generalizing err n with
  | nil => simp [chainedFrom]
  | cons o rest ih => simp only [chainedFrom, ih, List.length_cons]; omega

end BbRe.Lemmas.Idle
