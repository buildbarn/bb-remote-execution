import BbRe.Model.NaiveDir
import BbRe.Lemmas.InputRootHardLink
/-!
The eager walk through the hard-linking file fetcher (`mergeHL`): what one `GetFile` of the
walk does to the build directory and to the cache, under the cache invariant of
`Lemmas/InputRootHardLink.lean`.
-/
namespace BbRe.Lemmas.NaiveDir
open BbRe.InputRoot BbRe.NaiveDir BbRe.InputRoot.HardLink BbRe.Lemmas.InputRoot.HardLink

/-- The cache invariant: regular files in the cache directory have the contents of their
key, the bookkeeping is within its limits. -/
def CacheInv (s : HardLink.State) : Prop :=
  CacheClean s.disk ∧ Lim s.maxFiles s.maxSize s.entries

theorem CacheInv.good {s : HardLink.State} (h : CacheInv s) : Good s.maxFiles s.maxSize s :=
  ⟨rfl, rfl, h.1, h.2⟩

theorem cacheInv_of_good {mf ms : Nat} {s : HardLink.State} (h : Good mf ms s) : CacheInv s := by
  obtain ⟨m, z, c, l⟩ := h
  exact ⟨c, by rw [m, z]; exact l⟩

/-- One `GetFile` of the walk: the cache invariant is kept; and if it reports success the
name was free and exactly the requested file (digest, executable bit) is now there. -/
theorem getFileHL_spec (c : CAS) (O : Oracle) (K : HLParams) (hK : ∀ d x, K.unkey (K.key d x) = (d, x))
    (s : HardLink.State) (q : Path) (d : Dig) (exec : Bool) (name : Name) (ch : Children)
    (h : CacheInv s) :
    CacheInv (getFileHL c O K s q d exec name ch).1 ∧
    ∀ ch', (getFileHL c O K s q d exec name ch).2 = some ch' →
      hasName ch name = false ∧ ch' = ch ++ [(name, .file d exec none)] := by
  unfold getFileHL
  cases hn : hasName ch name
  · simp only [Bool.false_eq_true, if_false]
    generalize (!(O.fails .create q) && !(O.cas.contains d) && (assoc c.blobs d).isSome &&
      !(O.fails .chtimes q)) = casHas
    obtain ⟨hg, hres⟩ := getFile_good (K.key d exec) d.size casHas h.good
    have hinv := cacheInv_of_good hg
    generalize HardLink.getFile s (K.key d exec) d.size casHas = g at hinv hres
    obtain ⟨s', r⟩ := g
    rcases hres with hr | hr <;> cases hr
    · refine ⟨hinv, fun ch' h' => ?_⟩
      cases h'
      rw [hK]
      exact ⟨trivial, rfl⟩
    · exact ⟨hinv, nofun⟩
  · exact ⟨cacheInv_of_good (tryLink_good _ h.good), nofun⟩

/-- The file loop step: invariant kept; a step that goes on without a failed download has
appended exactly the requested file under a valid, fresh name — the same conclusion
`fileStep_next` has for the plain fetcher. -/
theorem fileStepHL_next (c : CAS) (O : Oracle) (K : HLParams) (hK : ∀ d x, K.unkey (K.key d x) = (d, x))
    (p : Path) (e : FileNode) (s : HardLink.State) (ch : Children) (bad : Bool) (h : CacheInv s) :
    CacheInv (fileStepHL c O K p e s ch bad).1 ∧
    ∀ ch', (fileStepHL c O K p e s ch bad).2 = .next ch' false →
      bad = false ∧ validName e.name = true ∧ hasName ch e.name = false ∧
      ∃ d, parseDigest c.hashLen e.digest = some d ∧ ch' = ch ++ [(e.name, .file d e.exec none)] := by
  unfold fileStepHL
  by_cases hv : (!validName e.name) = true
  · rw [if_pos hv]; exact ⟨h, nofun⟩
  rw [if_neg hv]
  cases hd : parseDigest c.hashLen e.digest with
  | none => exact ⟨h, nofun⟩
  | some d =>
    dsimp only
    by_cases hb : (bad && O.stop.contains (p ++ [e.name])) = true
    · rw [if_pos hb]; exact ⟨h, nofun⟩
    rw [if_neg hb]
    have hs := getFileHL_spec c O K hK s (p ++ [e.name]) d e.exec e.name ch h
    generalize getFileHL c O K s (p ++ [e.name]) d e.exec e.name ch = g at hs
    obtain ⟨s', o⟩ := g
    cases o with
    | none => exact ⟨hs.1, nofun⟩
    | some ch'' =>
      refine ⟨hs.1, fun ch' h' => ?_⟩
      cases h'
      obtain ⟨h1, h2⟩ := hs.2 _ rfl
      exact ⟨rfl, by simpa using hv, h1, d, rfl, h2⟩

/-- Whatever happens to the cache directory behind the worker's back (entries deleted or
replaced by directories) before a `GetFile` of the walk: the invariant survives, and the call
re-downloads, links or fails — it never puts another file into the build directory. -/
theorem getFileHL_after_fault (c : CAS) (O : Oracle) (K : HLParams) (hK : ∀ d x, K.unkey (K.key d x) = (d, x))
    (s : HardLink.State) (fl : Fault) (q : Path) (d : Dig) (exec : Bool) (name : Name) (ch : Children)
    (h : CacheInv s) :
    CacheInv (getFileHL c O K (fault s fl) q d exec name ch).1 ∧
    ∀ ch', (getFileHL c O K (fault s fl) q d exec name ch).2 = some ch' →
      ch' = ch ++ [(name, .file d exec none)] := by
  obtain ⟨a, b⟩ := getFileHL_spec c O K hK (fault s fl) q d exec name ch
    (cacheInv_of_good (fault_good fl h.good))
  exact ⟨a, fun ch' h' => (b ch' h').2⟩

end BbRe.Lemmas.NaiveDir
