import BbRe.Lemmas.SchedTreeLinkDefs
import BbRe.Lemmas.SchedTreeLock
/-!
Frame steps of `Sched`: the steps that leave tasks, workers, queues and the clock alone and keep the
invocation / priority / task of every operation.  Such a step keeps the coupling `Side`, the four bags and
therefore the tree clause of the invariant of the tree layer.
-/
namespace BbRe.Lemmas.SchedTree
open BbRe.Sched BbRe.SchedTree

/-- a step of `Sched` that does not touch what the tree layer's invariant looks at: tasks, workers, queues
and the clock are the same, operations keep their invocation and priority (none is added) -/
structure SFrame (s s' : State) : Prop where
  tasks : s'.tasks = s.tasks
  workers : s'.workers = s.workers
  scqs : s'.scqs = s.scqs
  pqs : s'.pqs = s.pqs
  now : s'.now = s.now
  ops : ∀ o op', s'.op? o = some op' → ∃ op, s.op? o = some op ∧ op'.inv = op.inv ∧ op'.prio = op.prio ∧ op'.task = op.task

theorem SFrame.refl (s : State) : SFrame s s :=
  ⟨rfl, rfl, rfl, rfl, rfl, fun _ op' h => ⟨op', h, rfl, rfl, rfl⟩⟩

theorem SFrame.trans {a b c : State} (h1 : SFrame a b) (h2 : SFrame b c) : SFrame a c := by
  refine ⟨h2.tasks.trans h1.tasks, h2.workers.trans h1.workers, h2.scqs.trans h1.scqs, h2.pqs.trans h1.pqs,
    h2.now.trans h1.now, ?_⟩
  intro o op' h
  obtain ⟨op1, e1, i1, p1, t1⟩ := h2.ops o op' h
  obtain ⟨op0, e0, i0, p0, t0⟩ := h1.ops o op1 e1
  exact ⟨op0, e0, i1.trans i0, p1.trans p0, t1.trans t0⟩

/-- the six tables the frame looks at are literally the same -/
theorem SFrame.of_eq {s s' : State} (h1 : s'.tasks = s.tasks) (h2 : s'.workers = s.workers)
    (h3 : s'.scqs = s.scqs) (h4 : s'.pqs = s.pqs) (h5 : s'.now = s.now) (h6 : s'.ops = s.ops) : SFrame s s' := by
  refine ⟨h1, h2, h3, h4, h5, ?_⟩
  intro o op' h
  refine ⟨op', ?_, rfl, rfl, rfl⟩
  unfold State.op? at h ⊢
  rw [← h6]; exact h

/-- replacing an existing operation by one with the same invocation, priority and task -/
theorem setOp_sframe (s : State) (op0 op : Op) (h : s.op? op.name = some op0) (hi : op.inv = op0.inv)
    (hp : op.prio = op0.prio) (ht : op.task = op0.task) : SFrame s (s.setOp op) := by
  refine ⟨rfl, rfl, rfl, rfl, rfl, ?_⟩
  intro o op' h'
  unfold State.op? State.setOp at *
  simp only [] at h'
  rw [BbRe.Lemmas.SchedInv.alookup_aset] at h'
  split at h'
  · rename_i hk
    cases h'
    exact ⟨op0, hk ▸ h, hi, hp, ht⟩
  · exact ⟨op', h', rfl, rfl, rfl⟩

/-- … in the form the model uses it: the operation was looked up under `o` and is written back under its name -/
theorem setOp_sframe_at {s : State} (hid : ∀ k op, s.op? k = some op → op.name = k) {o : Nat} {op0 : Op}
    (h : s.op? o = some op0) (op : Op) (hn : op.name = op0.name) (hi : op.inv = op0.inv)
    (hp : op.prio = op0.prio) (ht : op.task = op0.task) : SFrame s (s.setOp op) := by
  refine setOp_sframe s op0 op ?_ hi hp ht
  rw [hn, hid _ _ h]; exact h

/-- … after a step that left the operation table alone -/
theorem setOp_sframe_via {s s1 : State} (hf : SFrame s s1) (hops : s1.ops = s.ops)
    (hid : ∀ k op, s.op? k = some op → op.name = k) {o : Nat} {op0 : Op}
    (h : s.op? o = some op0) (op : Op) (hn : op.name = op0.name) (hi : op.inv = op0.inv)
    (hp : op.prio = op0.prio) (ht : op.task = op0.task) : SFrame s (s1.setOp op) := by
  have e : ∀ k, s1.op? k = s.op? k := fun k => by unfold State.op?; rw [hops]
  refine SFrame.trans hf (setOp_sframe_at (s := s1) ?_ (o := o) (op0 := op0) ?_ op hn hi hp ht)
  · intro k op1 h1; exact hid k op1 ((e k) ▸ h1)
  · rw [e]; exact h

/-- `setOp` of an operation stored under its own name keeps "every operation is stored under its name" -/
theorem setOp_oid (s : State) (op : Op) (hid : ∀ k op, s.op? k = some op → op.name = k) :
    ∀ k op', (s.setOp op).op? k = some op' → op'.name = k := by
  intro k op' h'
  unfold State.op? State.setOp at *
  simp only [] at h'
  rw [BbRe.Lemmas.SchedInv.alookup_aset] at h'
  split at h'
  · rename_i hk; cases h'; exact hk
  · exact hid _ _ h'

theorem emit_sframe (s : State) (e : Event) : SFrame s (emit s e) := SFrame.of_eq rfl rfl rfl rfl rfl rfl

theorem addCleanup_sframe (s : State) (d : Nat) (k : CleanupKind) : SFrame s (s.addCleanup d k) :=
  SFrame.of_eq rfl rfl rfl rfl rfl rfl

theorem removeCleanup_sframe (s : State) (k : CleanupKind) : SFrame s (s.removeCleanup k) :=
  SFrame.of_eq rfl rfl rfl rfl rfl rfl

theorem setCleanup_sframe (s : State) (cs : List CleanupEntry) : SFrame s { s with cleanup := cs } :=
  SFrame.of_eq rfl rfl rfl rfl rfl rfl

theorem addTerm_sframe (s : State) (tc : TermCall) : SFrame s { s with terms := tc :: s.terms } :=
  SFrame.of_eq rfl rfl rfl rfl rfl rfl

theorem setStreams_sframe (s : State) (l : List Stream) : SFrame s { s with streams := l } :=
  SFrame.of_eq rfl rfl rfl rfl rfl rfl

theorem setTerms_sframe (s : State) (l : List TermCall) : SFrame s { s with terms := l } :=
  SFrame.of_eq rfl rfl rfl rfl rfl rfl

theorem maybeStartCleanup_sframe (s : State) (o : Nat) : SFrame s (maybeStartCleanup s o) := by
  unfold maybeStartCleanup; split
  · split
    · exact addCleanup_sframe _ _ _
    · exact SFrame.refl _
  · exact SFrame.refl _

theorem maybeStartCleanup_ops (s : State) (o : Nat) : (maybeStartCleanup s o).ops = s.ops := by
  unfold maybeStartCleanup; split
  · split <;> rfl
  · rfl

/-- erasing an operation from `operationsNameMap` (first statement of `operation.remove`).  The keys of the
operation table have to be distinct (`OInv.ond`): `aerase` removes the first entry only, a later duplicate
of the key would surface. -/
theorem eraseOp_sframe (s : State) (o : Nat) (hnd : (BbRe.Lemmas.SchedInv.keys s.ops).Nodup) :
    SFrame s { s with ops := aerase o s.ops } := by
  refine ⟨rfl, rfl, rfl, rfl, rfl, ?_⟩
  intro o' op' h'
  unfold State.op? at *
  simp only [] at h'
  rw [BbRe.Lemmas.SchedInv.alookup_aerase _ _ _ hnd] at h'
  split at h'
  · cases h'
  · exact ⟨op', h', rfl, rfl, rfl⟩

/-- one round of the loop of `finishOps` -/
def finishOp (s : State) (o : Nat) : State :=
  match s.op? o with
  | some op => if op.mayExistWithoutWaiters
      then maybeStartCleanup (s.setOp { op with mayExistWithoutWaiters := false }) o else s
  | none => s

theorem finishOps_cons (s : State) (o : Nat) (l : List Nat) :
    complete.finishOps s (o :: l) = complete.finishOps (finishOp s o) l := rfl

theorem finishOp_sframe (s : State) (o : Nat) (hid : ∀ k op, s.op? k = some op → op.name = k) :
    SFrame s (finishOp s o) ∧ ∀ k op, (finishOp s o).op? k = some op → op.name = k := by
  unfold finishOp
  split
  · rename_i op hop
    split
    · have hn := hid _ _ hop
      constructor
      · refine SFrame.trans ?_ (maybeStartCleanup_sframe _ _)
        exact setOp_sframe_at hid hop _ rfl rfl rfl rfl
      · intro k op' h'
        unfold State.op? at h'
        rw [maybeStartCleanup_ops] at h'
        exact setOp_oid s _ hid k op' h'
    · exact ⟨SFrame.refl _, hid⟩
  · exact ⟨SFrame.refl _, hid⟩

/-- needs that every operation is stored under its own name (`OInv.oid`): `finishOps` writes the updated
operation back under `op.name`, having found it under `o` -/
theorem finishOps_sframe_oid (ops : List Nat) : ∀ (s : State), (∀ k op, s.op? k = some op → op.name = k) →
    SFrame s (complete.finishOps s ops) ∧ ∀ k op, (complete.finishOps s ops).op? k = some op → op.name = k := by
  induction ops with
  | nil => intro s hid; exact ⟨SFrame.refl _, hid⟩
  | cons o l ih =>
    intro s hid
    rw [finishOps_cons]
    obtain ⟨h1, hid1⟩ := finishOp_sframe s o hid
    obtain ⟨h2, hid2⟩ := ih _ hid1
    exact ⟨SFrame.trans h1 h2, hid2⟩

theorem finishOps_sframe (ops : List Nat) (s : State) (hid : ∀ k op, s.op? k = some op → op.name = k) :
    SFrame s (complete.finishOps s ops) := (finishOps_sframe_oid ops s hid).1

theorem streamSend_sframe {s s' : State} {c o : Nat} (hid : ∀ k op, s.op? k = some op → op.name = k)
    (h : streamSend s c o = .ok s') : SFrame s s' := by
  unfold streamSend at h
  cases hop : s.op? o with
  | none => rw [hop] at h; cases h
  | some op =>
    simp only [hop] at h
    cases ht : s.task? op.task with
    | none => simp only [ht] at h; cases h
    | some t =>
      simp only [ht, bind, Except.bind, pure, Except.pure] at h
      cases hr : t.response with
      | none =>
        simp only [hr] at h
        cases h
        exact ((setStreams_sframe s _).trans (emit_sframe _ _)).trans (setStreams_sframe _ _)
      | some r =>
        simp only [hr] at h
        by_cases hw : op.waiters = 0
        · rw [if_pos hw] at h; cases h
        · rw [if_neg hw] at h
          cases h
          refine SFrame.trans ?_ (maybeStartCleanup_sframe _ _)
          refine setOp_sframe_via ?_ ?_ hid hop _ ?_ ?_ ?_ ?_
          · exact ((setStreams_sframe s _).trans (emit_sframe _ _)).trans (emit_sframe _ _)
          all_goals rfl

theorem streamAttach_sframe {s s' : State} {c o : Nat} (hid : ∀ k op, s.op? k = some op → op.name = k)
    (h : streamAttach s c o = .ok s') : SFrame s s' := by
  unfold streamAttach at h
  cases hop : s.op? o with
  | none => rw [hop] at h; cases h
  | some op =>
    simp only [hop] at h
    refine SFrame.trans ?_ (streamSend_sframe ?_ h)
    · refine setOp_sframe_via ?_ ?_ hid hop _ ?_ ?_ ?_ ?_
      · exact removeCleanup_sframe s (.op o)
      all_goals rfl
    · exact setOp_oid (s.removeCleanup (.op o)) _ hid

theorem streamLeave_sframe {s s' : State} {c code : Nat} (hid : ∀ k op, s.op? k = some op → op.name = k)
    (h : streamLeave s c code = .ok s') : SFrame s s' := by
  unfold streamLeave at h
  cases hst : s.streams.find? (fun x => x.client = c) with
  | none => rw [hst] at h; cases h
  | some st =>
    simp only [hst] at h
    cases hop : s.op? st.op with
    | none => simp only [hop] at h; cases h
    | some op =>
      simp only [hop, bind, Except.bind, pure, Except.pure] at h
      by_cases hw : op.waiters = 0
      · rw [if_pos hw] at h; cases h
      · rw [if_neg hw] at h
        cases h
        refine SFrame.trans (SFrame.trans ?_ (maybeStartCleanup_sframe _ _)) (emit_sframe _ _)
        refine setOp_sframe_via ?_ ?_ hid hop _ ?_ ?_ ?_ ?_
        · exact setStreams_sframe s _
        all_goals rfl

theorem execResponse_sframe {s s' : State} {w : Worker} (h : execResponse s w = .ok s') : SFrame s s' := by
  unfold execResponse at h
  cases hw : w.task with
  | none => rw [hw] at h; cases h
  | some tid =>
    rw [hw] at h
    cases ht : s.task? tid with
    | none => simp only [ht] at h; cases h
    | some t => simp only [ht] at h; cases h; exact emit_sframe _ _

theorem termWake_sframe {s s' : State} {id reason : Nat} (h : termWake s id reason = .ok s') : SFrame s s' := by
  unfold termWake at h
  cases hf : s.terms.find? (fun t => t.id = id) with
  | none => rw [hf] at h; cases h
  | some tc =>
    rw [hf] at h
    simp only [bind, Except.bind, pure, Except.pure] at h
    by_cases hr : reason = 2
    · rw [if_pos hr] at h; cases h; exact (setTerms_sframe s _).trans (emit_sframe _ _)
    · rw [if_neg hr] at h
      split at h
      · cases h
      · cases h; exact (setTerms_sframe s _).trans (emit_sframe _ _)

/-- the bags only depend on the task table (and the tree layer's own tables) -/
theorem bags_setS_of_tasks (ts : TState) (s' : State) (h : s'.tasks = ts.s.tasks) :
    bagE (ts.setS s') = bagE ts ∧ bagQ (ts.setS s') = bagQ ts ∧ bagI (ts.setS s') = bagI ts ∧ bagP (ts.setS s') = bagP ts := by
  refine ⟨?_, ?_, rfl, rfl⟩
  · show s'.tasks.flatMap _ = ts.s.tasks.flatMap _
    rw [h]; rfl
  · show s'.tasks.flatMap _ = ts.s.tasks.flatMap _
    rw [h]; rfl

/-- The coupling only looks at the queues, at which workers exist with which `parked` and `task`, at the
invocation and priority of the operations and at the queue of assigned tasks. -/
theorem Side.setS {ts : TState} (hS : Side ts) {s' : State} (hsq : s'.scqs = ts.s.scqs)
    (hw : ∀ q w wk', BbRe.Lemmas.SchedInv.wfind s'.workers q w = some wk' →
      ∃ wk, BbRe.Lemmas.SchedInv.wfind ts.s.workers q w = some wk ∧ wk'.parked = wk.parked ∧ wk'.task = wk.task)
    (hwn : ∀ q w, BbRe.Lemmas.SchedInv.wfind s'.workers q w = none → BbRe.Lemmas.SchedInv.wfind ts.s.workers q w = none)
    (hso : ∀ o op', s'.op? o = some op' → ∃ op, ts.s.op? o = some op ∧ op'.inv = op.inv ∧ op'.prio = op.prio)
    (hwq : ∀ k t q w, alookup k s'.tasks = some t → t.worker = some (q, w) → q = t.scq) :
    Side (ts.setS s') := by
  refine ⟨fun sq h => hS.roots sq (hsq ▸ h), fun n hn => ?_, hS.wxnd, fun q w => ?_, ?_, ?_, hwq⟩
  · obtain ⟨sq, h1, h2⟩ := hS.nscq n hn
    exact ⟨sq, hsq.symm ▸ h1, h2⟩
  · refine (hS.wxw q w).trans ?_
    show (BbRe.Lemmas.SchedInv.wfind ts.s.workers q w).isSome = (BbRe.Lemmas.SchedInv.wfind s'.workers q w).isSome
    cases h : BbRe.Lemmas.SchedInv.wfind s'.workers q w with
    | none => rw [hwn q w h]
    | some wk' => obtain ⟨wk, e, _⟩ := hw q w wk' h; rw [e]; rfl
  · intro q w wk' x h1 h2
    obtain ⟨wk, e, hp, ht⟩ := hw q w wk' h1
    rw [hp, ht]
    exact hS.wpl q w wk x e h2
  · intro o op' h
    obtain ⟨op, e, hi, hp⟩ := hso o op' h
    show alookup o ts.ox = _
    rw [hS.oxok o op e, hi, hp]

/-- the coupling survives a frame step -/
theorem Side.of_sframe {ts : TState} (hs : Side ts) {s' : State} (hf : SFrame ts.s s') : Side (ts.setS s') :=
  hs.setS hf.scqs (fun q w wk' h => ⟨wk', hf.workers ▸ h, rfl, rfl⟩) (fun q w h => hf.workers ▸ h)
    (fun o op' h => let ⟨op, e, hi, hp, _⟩ := hf.ops o op' h; ⟨op, e, hi, hp⟩)
    (fun k t q w h1 h2 => hs.wq k t q w (hf.tasks ▸ h1) h2)

/-- … and so does the tree clause of the invariant -/
theorem TreeOK.of_sframe {X : List (ScqId × List Nat)} {ts : TState} {s' : State}
    (ht : TreeOK X ts.nodes (bagE ts) (bagI ts) (bagQ ts) (bagP ts)) (hf : SFrame ts.s s') :
    TreeOK X (ts.setS s').nodes (bagE (ts.setS s')) (bagI (ts.setS s')) (bagQ (ts.setS s')) (bagP (ts.setS s')) := by
  obtain ⟨h1, h2, h3, h4⟩ := bags_setS_of_tasks ts s' hf.tasks
  rw [h1, h2, h3, h4]
  exact ht

end BbRe.Lemmas.SchedTree
