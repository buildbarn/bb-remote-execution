/-
`platform.Trie` (Model/Trie.lean `Trie`): abstraction `tval`, well-formedness, `Set`, `Remove`,
lookups, and the refinement of Set/Remove histories to the finite map of Spec/PrefixMap.lean.
-/
import BbRe.Lemmas.TrieRemove
import BbRe.Lemmas.TriePrefixMap
namespace BbRe.Lemmas.TrieTop
open BbRe.Model.Trie BbRe.Lemmas.TrieAssoc BbRe.Lemmas.TrieNode BbRe.Lemmas.TrieRemove
open BbRe.Lemmas.TriePrefixMap
open BbRe.Spec.PrefixMap (Comp Plat Key PrefixMap toInt)

/-- value stored for a key (−1 = none). -/
def tval (t : Trie) (k : Key) : Int :=
  match aget k.plat t.platforms with
  | some pt => val pt k.inst
  | none => -1

/-- well-formed: the platform map has distinct keys, every per-platform trie is well-formed
(pruned) and non-empty. -/
structure WF (t : Trie) : Prop where
  nodup : (keys t.platforms).Nodup
  roots : ∀ p pt, aget p t.platforms = some pt → WFRoot pt ∧ ¬ (pt.value < 0 ∧ pt.kids = [])

theorem wf_empty : WF Trie.empty := ⟨List.nodup_nil, nofun⟩

theorem tval_empty (k : Key) : tval Trie.empty k = -1 := rfl

open BbRe.Lemmas.TrieLongest

theorem tval_of_some {t : Trie} {k : Key} {pt : Node} (h : aget k.plat t.platforms = some pt) :
    tval t k = val pt k.inst := by rw [tval, h]

theorem tval_of_none {t : Trie} {k : Key} (h : aget k.plat t.platforms = none) : tval t k = -1 := by
  rw [tval, h]

/-- an unknown platform behaves like a fresh per-platform trie (what `Set` starts from). -/
theorem tval_eq_getD (t : Trie) (k : Key) :
    tval t k = val ((aget k.plat t.platforms).getD Node.empty) k.inst := by
  unfold tval
  cases aget k.plat t.platforms with
  | none => exact (val_empty _).symm
  | some pt => rfl

theorem tval_ge {t : Trie} (h : WF t) (k : Key) : -1 ≤ tval t k := by
  unfold tval
  cases hp : aget k.plat t.platforms with
  | none => exact Int.le_refl _
  | some pt => exact (h.roots _ pt hp).1.val_ge _

theorem getExact_eq {t : Trie} (h : WF t) (k : Key) : t.getExact k = tval t k := by
  unfold Trie.getExact tval
  cases hp : aget k.plat t.platforms with
  | none => rfl
  | some pt => exact TrieNode.getExact_eq (h.roots _ pt hp).1 _

theorem containsExact_iff {t : Trie} (h : WF t) (k : Key) : t.containsExact k = true ↔ 0 ≤ tval t k := by
  rw [← getExact_eq h]
  unfold Trie.containsExact Trie.getExact
  cases aget k.plat t.platforms with
  | none => exact ⟨nofun, fun h => absurd h (by decide : ¬ (0 : Int) ≤ -1)⟩
  | some pt => exact decide_eq_true_iff

theorem getLongestPrefix_eq (t : Trie) (k : Key) :
    t.getLongestPrefix k = lp (fun q => tval t ⟨q, k.plat⟩) k.inst := by
  unfold Trie.getLongestPrefix
  cases hp : aget k.plat t.platforms with
  | none =>
    rw [show (fun q => tval t ⟨q, k.plat⟩) = fun _ => -1 from funext fun q => tval_of_none hp, lp_const]
  | some pt =>
    rw [show (fun q => tval t ⟨q, k.plat⟩) = val pt from funext fun q => tval_of_some hp]
    exact TrieNode.getLongestPrefix_eq pt k.inst

theorem key_eq_iff (a b : Key) : a = b ↔ a.plat = b.plat ∧ a.inst = b.inst := by
  cases a; cases b; simp [and_comm]

theorem glp_neg_iff (t : Trie) (k : Key) :
    t.getLongestPrefix k < 0 ↔ ∀ q, q <+: k.inst → tval t ⟨q, k.plat⟩ < 0 := by
  rw [getLongestPrefix_eq]; exact lp_neg_iff _ _

theorem glp_nonneg_iff (t : Trie) (k : Key) (v : Int) (hv : 0 ≤ v) :
    t.getLongestPrefix k = v ↔
      ∃ q, q <+: k.inst ∧ tval t ⟨q, k.plat⟩ = v ∧
        ∀ q', q' <+: k.inst → q.length < q'.length → tval t ⟨q', k.plat⟩ < 0 := by
  rw [getLongestPrefix_eq]; exact lp_eq_iff _ _ hv

theorem glp_ge {t : Trie} (h : WF t) (k : Key) : -1 ≤ t.getLongestPrefix k := by
  rw [getLongestPrefix_eq]; exact le_lp (fun _ => tval_ge h _) _

theorem tval_aput (t : Trie) (p : Plat) (pt : Node) (k : Key) :
    tval ⟨aput p pt t.platforms⟩ k = if k.plat = p then val pt k.inst else tval t k := by
  unfold tval
  rw [aget_aput]
  by_cases h : k.plat = p
  · rw [if_pos h, if_pos h]
  · rw [if_neg h, if_neg h]

theorem tval_adel (t : Trie) (p : Plat) (k : Key) :
    tval ⟨adel p t.platforms⟩ k = if k.plat = p then -1 else tval t k := by
  unfold tval
  rw [aget_adel]
  by_cases h : k.plat = p
  · rw [if_pos h, if_pos h]
  · rw [if_neg h, if_neg h]

theorem wf_aput {t : Trie} (h : WF t) (p : Plat) {pt : Node} (hpt : WFRoot pt)
    (hne : ¬ (pt.value < 0 ∧ pt.kids = [])) : WF ⟨aput p pt t.platforms⟩ := by
  refine ⟨nodup_keys_aput h.nodup, fun p' x hx => ?_⟩
  rw [aget_aput] at hx
  split at hx
  · cases hx; exact ⟨hpt, hne⟩
  · exact h.roots p' x hx

theorem wf_adel {t : Trie} (h : WF t) (p : Plat) : WF ⟨adel p t.platforms⟩ := by
  refine ⟨nodup_keys_adel h.nodup, fun p' x hx => ?_⟩
  rw [aget_adel] at hx
  split at hx
  · cases hx
  · exact h.roots p' x hx

theorem wfRoot_getD {t : Trie} (h : WF t) (p : Plat) :
    WFRoot ((aget p t.platforms).getD Node.empty) := by
  cases hq : aget p t.platforms with
  | none => exact wfRoot_empty
  | some x => exact (h.roots _ x hq).1

/-- rewriting a per-platform statement "at `k.plat`, the path `k.inst`" as one about keys. -/
theorem ite_plat_inst {k k' : Key} {a b c : Int} :
    (if k'.plat = k.plat then (if k'.inst = k.inst then a else b) else c) =
      if k' = k then a else if k'.plat = k.plat then b else c := by
  by_cases hp : k'.plat = k.plat
  · by_cases hi : k'.inst = k.inst
    · rw [if_pos hp, if_pos hi, if_pos ((key_eq_iff _ _).2 ⟨hp, hi⟩)]
    · rw [if_pos hp, if_neg hi, if_neg fun e => hi (congrArg Key.inst e), if_pos hp]
  · rw [if_neg hp, if_neg fun e => hp (congrArg Key.plat e), if_neg hp]

theorem tval_set (t : Trie) (k : Key) (v : Int) (k' : Key) :
    tval (t.set k v) k' = if k' = k then v else tval t k' := by
  rw [Trie.set, tval_aput]
  simp only [val_setPath, ite_plat_inst]
  congr 1
  split
  · next hp => rw [tval_eq_getD, hp]
  · rfl

theorem wf_set {t : Trie} (h : WF t) (k : Key) {v : Int} (hv : 0 ≤ v) : WF (t.set k v) :=
  wf_aput h _ (wfSub_setPath (wfRoot_getD h _) _ hv).toRoot (setPath_nonempty _ _ hv)

theorem remove_none_iff (t : Trie) (k : Key) :
    t.remove k = none ↔
      (aget k.plat t.platforms = none ∨ ∃ pt, aget k.plat t.platforms = some pt ∧ at? pt k.inst = none) := by
  unfold Trie.remove
  cases hp : aget k.plat t.platforms with
  | none => exact ⟨fun _ => Or.inl rfl, fun _ => rfl⟩
  | some pt =>
    simp only [Option.some.injEq, exists_eq_left', false_or, reduceCtorEq]
    rw [← TrieRemove.remove_none_iff]
    cases hr : pt.remove k.inst with
    | none => exact ⟨fun _ => rfl, fun _ => rfl⟩
    | some x =>
      obtain ⟨r, b⟩ := x
      cases b <;> exact ⟨nofun, nofun⟩

theorem remove_spec {t t' : Trie} (hwf : WF t) (k : Key) (h : t.remove k = some t') :
    WF t' ∧ ∀ k', tval t' k' = if k' = k then -1 else tval t k' := by
  unfold Trie.remove at h
  cases hp : aget k.plat t.platforms with
  | none => rw [hp] at h; cases h
  | some pt =>
    simp only [hp] at h
    cases hr : pt.remove k.inst with
    | none => simp only [hr] at h; cases h
    | some x =>
      obtain ⟨r, emp⟩ := x
      simp only [hr] at h
      obtain ⟨hrw, hval, hemp⟩ := TrieRemove.remove_spec k.inst (hwf.roots _ pt hp).1 hr
      -- either way platform `k.plat` now answers as `r` does (an emptied `r` answers −1 everywhere)
      have key : (∀ k', tval t' k' = if k'.plat = k.plat then val r k'.inst else tval t k') →
          ∀ k', tval t' k' = if k' = k then -1 else tval t k' := fun hv k' => by
        rw [hv]
        simp only [hval, ite_plat_inst]
        congr 1
        split
        · next hpk => exact (tval_of_some (hpk ▸ hp)).symm
        · rfl
      cases emp with
      | true =>
        cases h
        refine ⟨wf_adel hwf _, key fun k' => ?_⟩
        rw [tval_adel, val_eq_neg_one hrw (hemp.1 rfl)]
      | false =>
        cases h
        exact ⟨wf_aput hwf _ hrw fun hc => Bool.noConfusion (hemp.2 hc), key (tval_aput t _ r)⟩

theorem remove_present {t : Trie} (k : Key) (h : 0 ≤ tval t k) : ∃ t', t.remove k = some t' := by
  cases hr : t.remove k with
  | some t' => exact ⟨t', rfl⟩
  | none =>
    exfalso
    rcases (remove_none_iff t k).1 hr with hp | ⟨pt, hp, hat⟩
    · rw [tval_of_none hp] at h; exact absurd h (by decide)
    · rw [tval_of_some hp, val, hat] at h; exact absurd h (by decide)

/-- the trie holds exactly the bindings of the finite map. -/
def Refines (t : Trie) (m : PrefixMap) : Prop :=
  WF t ∧ ∀ k, tval t k = toInt (BbRe.Spec.PrefixMap.get m k)

theorem refines_empty : Refines Trie.empty [] := ⟨wf_empty, fun _ => rfl⟩

theorem refines_step {t t' : Trie} {m : PrefixMap} (h : Refines t m) (op : BbRe.Spec.PrefixMap.Op)
    (hs : Trie.applyOp t op = some t') : Refines t' (BbRe.Spec.PrefixMap.apply m op) := by
  cases op with
  | set k v =>
    cases hs
    refine ⟨wf_set h.1 k (Int.natCast_nonneg v), fun k' => ?_⟩
    show _ = toInt (BbRe.Spec.PrefixMap.get (BbRe.Spec.PrefixMap.set m k v) k')
    rw [tval_set, get_set, h.2 k']
    split <;> rfl
  | remove k =>
    obtain ⟨hw, hv⟩ := remove_spec h.1 k hs
    refine ⟨hw, fun k' => ?_⟩
    show _ = toInt (BbRe.Spec.PrefixMap.get (BbRe.Spec.PrefixMap.erase m k) k')
    rw [hv, get_erase, h.2 k']
    split <;> rfl

theorem run_cons (t : Trie) (op : BbRe.Spec.PrefixMap.Op) (ops : List BbRe.Spec.PrefixMap.Op) :
    Trie.run t (op :: ops) = match Trie.applyOp t op with
      | none => none
      | some t' => Trie.run t' ops := rfl

theorem refines_run {t t' : Trie} {m : PrefixMap} (h : Refines t m) (ops : List BbRe.Spec.PrefixMap.Op)
    (hr : Trie.run t ops = some t') : Refines t' (BbRe.Spec.PrefixMap.run m ops) := by
  induction ops generalizing t m with
  | nil => cases hr; exact h
  | cons op ops ih =>
    rw [run_cons] at hr
    cases hs : Trie.applyOp t op with
    | none => rw [hs] at hr; cases hr
    | some t1 =>
      rw [hs] at hr
      exact ih (refines_step h op hs) hr

theorem refines_longest {t : Trie} {m : PrefixMap} (h : Refines t m) (k : Key) :
    t.getLongestPrefix k = toInt (BbRe.Spec.PrefixMap.longestPrefix m k) := by
  rw [getLongestPrefix_eq, BbRe.Spec.PrefixMap.longestPrefix, toInt_longestPrefixFrom]
  exact congrArg (lp · k.inst) (funext fun q => h.2 _)

end BbRe.Lemmas.TrieTop
