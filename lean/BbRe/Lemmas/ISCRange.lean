import BbRe.Model.ISC
import BbRe.Lemmas.ISCPath
import BbRe.Lemmas.IteCases
/-!
Helper lemmas for C07 (b): ranges of the values handed to the scheduler (size-class
indices, timeouts), for arbitrary `FloatOps`.
-/
namespace BbRe.Lemmas.ISC
open BbRe.ISC

/-! ## `getSmallerSizeClassExecutionParameters` clamps whatever the float arithmetic does -/

theorem smallerParams_range (F : FloatOps) (minTO : Int) (s l : Nat) (med origTO : Int)
    (hmin : 0 ≤ minTO) (horig : 0 ≤ origTO) :
    0 ≤ (smallerParams F minTO s l med origTO).execTimeout ∧
    (smallerParams F minTO s l med origTO).execTimeout ≤ origTO := by
  -- the timeout is the float result clamped from below by `minTO`, then from above by `origTO`
  show 0 ≤ (if (if _ < minTO then minTO else _) > origTO then origTO else _) ∧
    (if (if _ < minTO then minTO else _) > origTO then origTO else _) ≤ origTO
  omega

/-! ## Strategies -/

/-- Every strategy's foreground timeout lies in `[0, origTO]`. -/
def StratOK (origTO : Int) (s : Strategy) : Prop := 0 ≤ s.fgTimeout ∧ s.fgTimeout ≤ origTO

theorem stratOK_zero (origTO : Int) (h : 0 ≤ origTO) (s : Strategy) (hs : s.fgTimeout = 0) :
    StratOK origTO s := by
  rw [StratOK, hs]; exact ⟨Int.le_refl 0, h⟩

/-- What the loop of `GetStrategies` appends for a smaller size class: the probability is filled
in later, and the foreground timeout (zero for a background run) is the clamped one. -/
def Smaller (minTO origTO : Int) (s : Strategy) : Prop :=
  s.prob = 0 ∧ (0 ≤ minTO → 0 ≤ origTO → StratOK origTO s)

/-- The two results of `build`: an early return ends in the certain background run on the
largest size class after fewer entries than there are smaller size classes; a full run has one
entry (and one outcome set) per smaller size class. -/
theorem build_shape (F : FloatOps) (minTO : Int) (largest : Nat) (med origTO : Int)
    (l : List (Nat × PerClass)) : ∀ rb res, build F minTO largest med origTO l rb = res →
    match res with
    | .early ss => ∃ ts, ss = ts ++ [{ prob := 1, background := true }] ∧ ts.length < l.length ∧
        ∀ s ∈ ts, Smaller minTO origTO s
    | .full os ss => os.length = l.length ∧ ss.length = l.length ∧
        ∀ s ∈ ss, Smaller minTO origTO s := by
  induction l with
  | nil => intro rb res h; subst h; exact ⟨rfl, rfl, fun _ h => nomatch h⟩
  | cons e rest ih =>
    intro rb res h
    obtain ⟨sc, pc⟩ := e
    unfold build at h
    simp only at h
    -- `split at h` is slow on this `if`
    rcases ite_eq_cases h with ⟨_, h⟩ | ⟨_, h⟩
    · subst h; exact ⟨[], rfl, Nat.succ_pos _, fun _ h => nomatch h⟩
    · have hs : ∀ c : Prop, [Decidable c] → Smaller minTO origTO
          (if c then { background := true }
           else { fgTimeout := (smallerParams F minTO sc largest med origTO).execTimeout }) := by
        intro c _; split
        · exact ⟨rfl, fun _ horig => stratOK_zero origTO horig _ rfl⟩
        · exact ⟨rfl, smallerParams_range F minTO sc largest med origTO⟩
      split at h
      · rename_i ss heq
        obtain ⟨ts, rfl, hlen, hts⟩ := ih _ _ heq
        subst h
        exact ⟨_ :: ts, rfl, Nat.succ_lt_succ hlen, List.forall_mem_cons.mpr ⟨hs _, hts⟩⟩
      · rename_i os ss heq
        have ih := ih _ _ heq
        subst h
        exact ⟨congrArg Nat.succ ih.1, congrArg Nat.succ ih.2.1, List.forall_mem_cons.mpr ⟨hs _, ih.2.2⟩⟩

theorem setProbs_mem (ss : List Strategy) : ∀ (ps : List Rat) (s : Strategy), s ∈ setProbs ss ps →
    ∃ s0 ∈ ss, s.fgTimeout = s0.fgTimeout ∧ s.background = s0.background := by
  induction ss with
  | nil => intro ps s h; cases ps <;> exact nomatch h
  | cons a ss ih =>
    intro ps s h
    cases ps with
    | nil => exact nomatch h
    | cons p ps =>
      rcases List.mem_cons.mp h with rfl | h
      · exact ⟨a, List.mem_cons_self, rfl, rfl⟩
      · obtain ⟨s0, hm, h12⟩ := ih ps s h
        exact ⟨s0, List.mem_cons_of_mem a hm, h12⟩

theorem setProbs_length_le (ss : List Strategy) : ∀ (ps : List Rat), (setProbs ss ps).length ≤ ss.length := by
  induction ss with
  | nil => intro ps; cases ps <;> exact Nat.le_refl 0
  | cons a ss ih =>
    intro ps
    cases ps with
    | nil => exact Nat.zero_le _
    | cons p ps => exact Nat.succ_le_succ (ih ps)

theorem firstEmpty_lt (l : List PerClass) : ∀ (k i : Nat), firstEmpty l k = some i → k ≤ i ∧ i < k + l.length := by
  induction l with
  | nil => intro k i h; exact nomatch h
  | cons pc rest ih =>
    intro k i h
    unfold firstEmpty at h
    rw [List.length_cons]
    split at h
    · cases h; omega
    · have := ih (k + 1) i h
      omega

/-- The `medianExecutionTimeOnLargest == nil` branch returns untouched entries followed by one
certain foreground run. -/
theorem forcedStrategies_shape (minTO origTO : Int) (pcs : List PerClass) (n : Nat) :
    ∃ k t, forcedStrategies minTO origTO pcs n =
        List.replicate k ({} : Strategy) ++ [{ prob := 1, fgTimeout := t }] ∧
      k ≤ n - 1 ∧ (0 ≤ minTO → 0 ≤ origTO → 0 ≤ t ∧ t ≤ origTO) := by
  unfold forcedStrategies
  split
  · rename_i i hi
    have := firstEmpty_lt _ _ _ hi
    rw [List.length_take] at this
    exact ⟨i, if origTO ≤ minTO then origTO else minTO, rfl, by omega, by omega⟩
  · exact ⟨n - 1, origTO, rfl, Nat.le_refl _, fun _ h => ⟨h, Int.le_refl _⟩⟩

section PageRank
variable (c : PageRankCfg) (m : ClassMap) (classes : List Nat) (origTO : Int)

theorem classList_length : (classList m classes).length = classes.length :=
  List.length_map _

/-- Case analysis on `GetStrategies` of the PageRank calculator: nothing for at most one size
class; without a median on the largest, or when `build` returns early, untouched entries
followed by one certain run; else the entries of the smaller size classes with the iterated
probabilities.  The timeouts are in range once the two configured bounds are not negative. -/
theorem pageRankStrategies_cases (P : List Strategy → Prop) (pcs : List PerClass)
    (hpcs : pcs = classList (ensureClasses m classes) classes) (hnil : P [])
    (hpoint : ∀ ts t, ts.length < classes.length → (∀ s ∈ ts, s.prob = 0) → t.prob = 1 →
      (0 ≤ c.minTO → 0 ≤ origTO → (∀ s ∈ ts, StratOK origTO s) ∧ StratOK origTO t) → P (ts ++ [t]))
    (hfull : ∀ ss outs, 2 ≤ classes.length → ss.length + 1 = classes.length →
      (0 ≤ c.minTO → 0 ≤ origTO → ∀ s ∈ ss, StratOK origTO s) →
      P ((setProbs (ss ++ [({} : Strategy)])
        (iterate (matrix outs classes.length) c.eps c.fuel (startVec pcs)).1).take (classes.length - 1))) :
    P (pageRankStrategies c m classes origTO).2.1 := by
  subst hpcs
  unfold pageRankStrategies
  simp only
  split
  · exact hnil
  · have hn : 2 ≤ classes.length := Nat.lt_of_not_le ‹_›
    have hpred : classes.length - 1 < classes.length :=
      Nat.sub_lt (Nat.lt_of_lt_of_le Nat.zero_lt_two hn) Nat.one_pos
    split
    · obtain ⟨k, t, h, hk, ht⟩ :=
        forcedStrategies_shape c.minTO origTO (classList (ensureClasses m classes) classes) classes.length
      rw [h]
      have h0 : ∀ s ∈ List.replicate k ({} : Strategy), s = {} := fun s hs => (List.mem_replicate.mp hs).2
      exact hpoint _ _ (by rw [List.length_replicate]; exact Nat.lt_of_le_of_lt hk hpred)
        (fun s hs => by rw [h0 s hs]) rfl
        fun hmin horig => ⟨fun s hs => stratOK_zero origTO horig s (by rw [h0 s hs]), ht hmin horig⟩
    · have hlen := List.length_take_le (classes.length - 1)
        (classes.zip (classList (ensureClasses m classes) classes))
      split
      · rename_i ss heq
        obtain ⟨ts, rfl, hts, hsm⟩ := build_shape _ _ _ _ _ _ _ _ heq
        exact hpoint ts _ (Nat.lt_of_lt_of_le hts (Nat.le_trans hlen (Nat.sub_le _ _)))
          (fun s hs => (hsm s hs).1) rfl
          fun hmin horig => ⟨fun s hs => (hsm s hs).2 hmin horig, stratOK_zero origTO horig _ rfl⟩
      · rename_i os ss heq
        obtain ⟨_, hss, hsm⟩ := build_shape _ _ _ _ _ _ _ _ heq
        rw [List.length_take, List.length_zip, classList_length, Nat.min_self,
          Nat.min_eq_left (Nat.sub_le _ _)] at hss
        exact hfull ss _ hn (by rw [hss]; exact Nat.sub_add_cancel (Nat.le_of_succ_le hn))
          fun hmin horig s hs => (hsm s hs).2 hmin horig

theorem pageRankStrategies_length :
    (pageRankStrategies c m classes origTO).2.1.length ≤ classes.length :=
  pageRankStrategies_cases c m classes origTO (fun ss => ss.length ≤ classes.length) _ rfl
    (Nat.zero_le _) (fun ts t hlen _ _ _ => by rw [List.length_append]; exact hlen)
    fun _ _ _ _ _ => Nat.le_trans (List.length_take_le _ _) (Nat.sub_le _ _)

theorem pageRankStrategies_ok (hmin : 0 ≤ c.minTO) (horig : 0 ≤ origTO) :
    ∀ s ∈ (pageRankStrategies c m classes origTO).2.1, StratOK origTO s :=
  pageRankStrategies_cases c m classes origTO (fun ss => ∀ s ∈ ss, StratOK origTO s) _ rfl
    (fun _ h => nomatch h)
    (fun _ _ _ _ _ hok => List.forall_mem_append.mpr
      ⟨(hok hmin horig).1, List.forall_mem_singleton.mpr (hok hmin horig).2⟩)
    fun ss outs _ _ hok s hs => by
      obtain ⟨s0, hm, h1, _⟩ := setProbs_mem _ _ _ (List.mem_of_mem_take hs)
      rw [StratOK, h1]
      rcases List.mem_append.mp hm with hm | hm
      · exact hok hmin horig s0 hm
      · exact stratOK_zero origTO horig s0 (by rw [List.mem_singleton.mp hm])

end PageRank

/-- The minimum execution timeout of the configured calculator is not negative. -/
def minNonneg (env : Env) : Prop :=
  match env.calculator with
  | .pageRank c => 0 ≤ c.minTO
  | .smallest => True

section Select
variable (env : Env) (stats : Stats) (origTO : Int) (classes : List Nat) (now : Int)

/-- Case analysis on the strategies `Select` works with: none while a failure is remembered,
else those of the configured calculator. -/
theorem strategiesFD_cases (P : List Strategy → Prop) (hnil : P [])
    (hpr : ∀ c, env.calculator = .pageRank c → P (pageRankStrategies c stats.classes classes origTO).2.1)
    (hsm : env.calculator = .smallest → 2 ≤ classes.length → P [{ prob := 1, fgTimeout := origTO }]) :
    P (strategiesFD env stats origTO classes now).2.1 := by
  unfold strategiesFD
  split
  · unfold Calc.strategies
    split
    · exact hpr _ ‹_›
    · unfold smallestStrategies
      split
      · exact hnil
      · exact hsm ‹_› (by omega)
  · exact hnil

theorem strategiesFD_ok (hmin : minNonneg env) (horig : 0 ≤ origTO) :
    ∀ s ∈ (strategiesFD env stats origTO classes now).2.1, StratOK origTO s := by
  refine strategiesFD_cases env stats origTO classes now (fun ss => ∀ s ∈ ss, StratOK origTO s)
    (fun _ h => nomatch h) ?_ ?_
  · intro c hc
    rw [minNonneg, hc] at hmin
    exact pageRankStrategies_ok c _ _ _ hmin horig
  · intro _ _ s hs
    rw [List.mem_singleton.mp hs]
    exact ⟨horig, Int.le_refl _⟩

theorem strategiesFD_length :
    (strategiesFD env stats origTO classes now).2.1.length ≤ classes.length :=
  strategiesFD_cases env stats origTO classes now (fun ss => ss.length ≤ classes.length)
    (Nat.zero_le _) (fun c _ => pageRankStrategies_length c _ _ _) (fun _ h => Nat.le_of_succ_le h)

end Select

theorem pick_spec (ss : List Strategy) : ∀ (k : Nat) (r : Rat) (i : Nat) (s : Strategy),
    pick ss k r = some (i, s) → k ≤ i ∧ i < k + ss.length ∧ s ∈ ss := by
  induction ss with
  | nil => intro k r i s h; exact nomatch h
  | cons a ss ih =>
    intro k r i s h
    unfold pick at h
    rw [List.length_cons]
    split at h
    · cases h
      exact ⟨Nat.le_refl _, by omega, List.mem_cons_self⟩
    · have := ih (k + 1) _ i s h
      exact ⟨by omega, by omega, List.mem_cons_of_mem a this.2.2⟩

/-- The timeout-related facts a learner must carry so that later calls stay in range. -/
def TOk (origTO : Int) : Learner → Prop
  | .smallerFg _ _ _ largestTO => largestTO = origTO
  | .largestBg _ largestTO _ => largestTO = origTO
  | .fbSmaller t => t = origTO
  | _ => True

/-- The loop of `Select` returns a result when there are no more strategies than size classes. -/
theorem chooseFD_isSome (stats1 : Stats) (strategies : List Strategy) (origTO : Int) (classes : List Nat)
    (largest : Nat) (r : Rat) (hlen : strategies.length ≤ classes.length) :
    (chooseFD stats1 strategies origTO classes largest r).isSome = true := by
  unfold chooseFD
  split
  · rename_i i s hp
    have hps := pick_spec _ _ _ _ _ hp
    rw [List.getElem?_eq_getElem (by omega)]
    simp only
    split <;> rfl
  · rfl

/-! ## Terminal calls -/

theorem findClass_lt (sc : Nat) (xs : List Nat) : ∀ (k i : Nat), findClass sc xs k = some i →
    k ≤ i ∧ i < k + xs.length := by
  induction xs with
  | nil => intro k i h; exact nomatch h
  | cons x xs ih =>
    intro k i h
    unfold findClass at h
    rw [List.length_cons]
    split at h
    · cases h; omega
    · have := ih (k + 1) i h
      omega

/-- `GetBackgroundExecutionTimeout` returns a clamped timeout. -/
theorem backgroundTimeout_range (env : Env) (m : ClassMap) (classes : List Nat) (i : Nat) (origTO x : Int)
    (h : env.calculator.backgroundTimeout m classes i origTO = some x)
    (hmin : minNonneg env) (horig : 0 ≤ origTO) : 0 ≤ x ∧ x ≤ origTO := by
  unfold Calc.backgroundTimeout at h
  split at h
  · rename_i c hc
    rw [minNonneg, hc] at hmin
    unfold backgroundTimeout at h
    simp only at h
    split at h
    · exact nomatch h
    · split at h
      · exact nomatch h
      · cases h; exact smallerParams_range c.F c.minTO _ _ _ _ hmin horig
  · exact nomatch h

/-- One terminal call: a returned index is an index of the list that was passed, a
returned timeout is in range, and the successor carries the timeout facts. -/
theorem step_range (env : Env) (origTO : Int) (l : Learner) (stats : Stats) (ev : Ev) (o : StepOut) (l' : Learner)
    (hok : TOk origTO l) (h : l.step env stats ev = some o) (hn : o.next = some l') :
    (∀ p ∈ ev.indexLog o, p.1 < p.2) ∧
    (minNonneg env → 0 ≤ origTO → 0 ≤ o.timeout ∧ o.timeout ≤ origTO) ∧
    TOk origTO l' := by
  rcases step_next h hn with ⟨_, _, _, _, _, _, rfl, rfl, ht, rfl⟩ |
    ⟨lg, lgTO, sm, d, cs, rfl, rfl, hf, hbt, rfl⟩ | ⟨_, _, _, rfl, rfl, ht, rfl⟩
  · exact ⟨fun _ hp => (nomatch hp), fun _ h0 => by rw [ht, hok]; exact ⟨h0, Int.le_refl _⟩, trivial⟩
  · cases hok
    refine ⟨?_, backgroundTimeout_range env _ cs _ _ _ hbt, trivial⟩
    intro p hp
    rw [Ev.indexLog, hn] at hp
    cases List.mem_singleton.mp hp
    have := findClass_lt _ _ _ _ hf
    omega
  · exact ⟨fun _ hp => (nomatch hp), fun _ h0 => by rw [ht, hok]; exact ⟨h0, Int.le_refl _⟩, trivial⟩

/-- Invariant of the ghost logs of a trace. -/
def InRange (env : Env) (origTO : Int) (t : Trace) : Prop :=
  (∀ p ∈ t.indices, p.1 < p.2) ∧
  (minNonneg env → 0 ≤ origTO → ∀ x ∈ t.timeouts, 0 ≤ x ∧ x ≤ origTO) ∧
  (∀ l, t.cur = some l → TOk origTO l)

theorem runPath_inRange (env : Env) (origTO : Int) (interfere : Nat → Stats → Stats) (evs : List Ev)
    (t : Trace) (stats : Stats) (h : InRange env origTO t) :
    InRange env origTO (runPath env interfere t stats evs).1 :=
  runPath_invariant env interfere evs (fun t _ => InRange env origTO t)
    (fun _ _ _ _ _ h _ _ => ⟨h.1, h.2.1, fun _ hl => nomatch hl⟩)
    (fun t _ l ev o _ h hc hs => by
      cases hn : o.next with
      | none =>
        refine ⟨List.forall_mem_append.mpr ⟨h.1, ?_⟩,
          fun hmin horig x hx => h.2.1 hmin horig x (by simpa using hx), fun _ hl => nomatch hl⟩
        cases ev <;> simp [Ev.indexLog, hn]
      | some l' =>
        have hr := step_range env origTO l _ ev o l' (h.2.2 l hc) hs hn
        exact ⟨List.forall_mem_append.mpr ⟨h.1, hr.1⟩,
          fun hmin horig => List.forall_mem_append.mpr
            ⟨h.2.1 hmin horig, List.forall_mem_singleton.mpr (hr.2.1 hmin horig)⟩,
          fun _ hl => by cases hl; exact hr.2.2⟩) t stats h

/-- The ghost logs of a complete request against the feedback-driven analyzer are in range. -/
theorem selectorRun_inRange (env : Env) (interfere : Nat → Stats → Stats) (stats : Stats) (origTO : Int)
    (classes : List Nat) (now : Int) (r : Rat) (evs : List Ev) (t : Trace)
    (h : selectorRun env interfere stats origTO classes now r evs = some t) : InRange env origTO t := by
  obtain ⟨o, largest, hlast, hc, rfl⟩ := selectorRun_eq h
  have last : classes.length - 1 < classes.length := by
    cases classes with
    | nil => exact nomatch hlast
    | cons => exact Nat.lt_succ_self _
  refine runPath_inRange env origTO interfere evs _ _ ?_
  obtain ⟨_, ⟨_, hn, hi, ht⟩ | ⟨i, s, smaller, hp, hs, ⟨_, hn, hi, ht⟩ | ⟨_, hn, hi, ht⟩⟩⟩ := chooseFD_cases hc <;>
    simp only [InRange, Trace.ofSelect, hn, hi, ht, Option.isSome_some, if_true, List.mem_singleton,
      forall_eq, Option.some.injEq, forall_eq']
  · exact ⟨last, fun _ h0 => ⟨h0, Int.le_refl _⟩, trivial⟩
  · exact ⟨last, fun _ h0 => ⟨h0, Int.le_refl _⟩, rfl⟩
  · exact ⟨(List.getElem?_eq_some_iff.mp hs).1, fun hmin horig =>
      strategiesFD_ok env stats origTO classes now hmin horig s (pick_spec _ _ _ _ _ hp).2.2, rfl⟩

end BbRe.Lemmas.ISC
