import BbRe.Lemmas.BitmapArr
/-! `AllocateContiguous` / `allocateAt`: what they return and how they change the bit view. -/
namespace BbRe.Lemmas.Bitmap
open BbRe.Bitmap

/-- The `for maximum >= 64 && freeBitmap[index] == allBits` loop clears `k` whole words, all free. -/
theorem fullWords_wr (bm : Array Word) (index maximum allocated : Nat) {lo : Nat} (hlo : lo = index * 64) :
    ∃ k, (fullWords bm index maximum allocated).2.1 = index + k ∧
      (fullWords bm index maximum allocated).2.2.1 + 64 * k = maximum ∧
      (fullWords bm index maximum allocated).2.2.2 = allocated + 64 * k ∧
      (fullWords bm index maximum allocated).1.size = bm.size ∧
      Wr false lo (64 * k) bm (fullWords bm index maximum allocated).1 ∧ Run true lo (64 * k) bm := by
  fun_induction fullWords bm index maximum allocated generalizing lo with
  | case1 bm index maximum allocated hc ih =>
    obtain ⟨k, h1, h2, h3, h4, h5, h6⟩ := ih (lo := lo + 64) (by rw [hlo, Nat.succ_mul])
    have hlt : index < bm.size := lt_size_of_getW_ne_zero (by rw [hc.2]; decide)
    have w : Wr false lo 64 bm (setW bm index 0) :=
      Wr.word (w := 0) index 0 (at_bit0 hlo) (Nat.le_refl _) (fun K => by rw [getW_setW]; simp [hlt]) (fun j hj => by
        rw [if_pos ⟨Nat.zero_le _, by omega⟩]; simp)
    have r : Run true lo 64 bm := Run.word index 0 (at_bit0 hlo) (Nat.le_refl _) fun j _ hj => by
      rw [hc.2, getLsbD_allBits]; exact decide_eq_true (by omega)
    refine ⟨k + 1, by omega, by omega, by omega, by rw [h4, size_setW], ?_, ?_⟩ <;>
      rw [Nat.mul_succ 64 k, Nat.add_comm (64 * k)]
    · exact w.trans h5
    · exact r.append (w.run_after.1 h6)
  | case2 bm index maximum allocated hc =>
    exact ⟨0, rfl, rfl, rfl, rfl, Wr.nil _ _ _, Run.nil _ _ _⟩

theorem findNz_some {bm : Array Word} {i fuel j : Nat} (h : findNz bm i fuel = some j) :
    i ≤ j ∧ j < i + fuel ∧ getW bm j ≠ 0 := by
  induction fuel generalizing i with
  | zero => simp [findNz] at h
  | succ f ih =>
    unfold findNz at h
    split at h
    · rename_i hne; simp at h; subst h; exact ⟨by omega, by omega, hne⟩
    · obtain ⟨a, b, c⟩ := ih h; exact ⟨by omega, by omega, c⟩

theorem findNz_none {bm : Array Word} {i fuel : Nat} (h : findNz bm i fuel = none) :
    ∀ j, i ≤ j → j < i + fuel → getW bm j = 0 := by
  induction fuel generalizing i with
  | zero => intro j h1 h2; omega
  | succ f ih =>
    unfold findNz at h
    split at h
    · simp at h
    · rename_i hz
      intro j h1 h2
      by_cases hj : j = i
      · subst hj; simpa using hz
      · exact ih h j (by omega) (by omega)

/-- Facts about the first word of `allocateAt`: shift `s`, run length `t`. -/
theorem firstWord_facts (mask : Word) (hm0 : mask ≠ 0) :
    tz mask < 64 ∧ 1 ≤ tz (~~~(mask >>> tz mask)) ∧ tz mask + tz (~~~(mask >>> tz mask)) ≤ 64 ∧
    (∀ j, j < tz (~~~(mask >>> tz mask)) → mask.getLsbD (tz mask + j) = true) := by
  have hs : tz mask < 64 := tz_lt_of_ne_zero mask hm0
  have hrun : ∀ j, j < tz (~~~(mask >>> tz mask)) → mask.getLsbD (tz mask + j) = true := by
    intro j hj
    have h1 := tz_below _ j hj
    have hj64 : j < 64 := by have := tz_le (~~~(mask >>> tz mask)); omega
    rw [BitVec.getLsbD_not, getLsbD_shr] at h1
    simpa [hj64] using h1
  refine ⟨hs, ?_, ?_, hrun⟩
  · by_cases h0 : tz (~~~(mask >>> tz mask)) = 0
    · exfalso
      have hb := tz_bit (~~~(mask >>> tz mask)) (by omega)
      rw [h0, BitVec.getLsbD_not, getLsbD_shr] at hb
      have := tz_bit mask hs
      simp [this] at hb
    · omega
  · by_cases h0 : tz (~~~(mask >>> tz mask)) = 0
    · omega
    · have := lt_of_getLsbD (hrun (tz (~~~(mask >>> tz mask)) - 1) (by omega)); omega


/-- the low free bits of a word, as counted by `tz (~~~w)` -/
theorem Run.tz_not (bm : Array Word) {lo K : Nat} (hlo : lo = K * 64) (m : Nat) :
    Run true lo (min (tz (~~~getW bm K)) m) bm :=
  have h64 := tz_le (~~~getW bm K)
  Run.word K 0 (at_bit0 hlo) (by omega) fun j _ hj => by
    have := tz_below (~~~getW bm K) j (by omega)
    rw [BitVec.getLsbD_not] at this
    simpa [show j < 64 by omega] using this

/-- What `allocateAt` returns and does, for a mask that agrees with the word from its lowest
one bit upwards (both call sites of `AllocateContiguous`): the run it returns was free and is cleared. -/
theorem allocateAt_spec (st : State) (index : Nat) (mask : Word) (maximum : Nat)
    (hm0 : mask ≠ 0) (hmax : 1 ≤ maximum)
    (hmask : ∀ j, tz mask ≤ j → mask.getLsbD j = (getW st.bm index).getLsbD j) :
    (allocateAt st index mask maximum).2.1 = index * 64 + tz mask + 1 ∧
    1 ≤ (allocateAt st index mask maximum).2.2 ∧
    (allocateAt st index mask maximum).2.2 ≤ maximum ∧
    (allocateAt st index mask maximum).1.next = index * 64 + tz mask + (allocateAt st index mask maximum).2.2 ∧
    (allocateAt st index mask maximum).1.bm.size = st.bm.size ∧
    Run true (index * 64 + tz mask) (allocateAt st index mask maximum).2.2 st.bm ∧
    Wr false (index * 64 + tz mask) (allocateAt st index mask maximum).2.2 st.bm
      (allocateAt st index mask maximum).1.bm := by
  obtain ⟨hs, ht1, hst, hrun⟩ := firstWord_facts mask hm0
  generalize hsd : tz mask = s at *
  generalize htd : tz (~~~(mask >>> s)) = t at *
  simp only [allocateAt, hsd, htd]
  have ha : 1 ≤ min t maximum ∧ min t maximum ≤ maximum ∧ min t maximum ≤ t := by omega
  generalize min t maximum = a at *
  have hsa : a ≤ 64 - s := by omega
  -- the first word: bits `[s, s+a)` were free and are cleared
  have r1 : Run true (index * 64 + s) a st.bm := Run.word index s rfl hsa fun j j1 j2 => by
    rw [← hmask j j1, ← Nat.add_sub_cancel' j1]; exact hrun _ (by omega)
  have w1 : Wr false (index * 64 + s) a st.bm _ := Wr.andMask index s rfl hsa fun j hj => clearMask_run a s hj
  by_cases hc : s + a = 64
  · -- the run reaches the end of the word: `k` whole words, then the low free bits of the next
    simp only [hc, if_true]
    generalize hbm1 : setW st.bm index (getW st.bm index &&& ~~~(~~~(allBits <<< a) <<< s)) = bm1 at w1 ⊢
    have hsz1 : bm1.size = st.bm.size := by rw [← hbm1, size_setW]
    obtain ⟨k, h1, h2, h3, h4, w2, r2⟩ :=
      fullWords_wr bm1 (index + 1) (maximum - a) a (lo := index * 64 + s + a) (word_after index hc 0)
    generalize fullWords bm1 (index + 1) (maximum - a) a = r at *
    obtain ⟨bm2, idx', max', alloc'⟩ := r
    simp only at h1 h2 h3 h4 w2 ⊢
    subst h1 h3
    have r3 := Run.tz_not bm2 (K := index + 1 + k) (word_after index hc k) max'
    have hav : min (tz (~~~getW bm2 (index + 1 + k))) max' ≤ 64 :=
      Nat.le_trans (Nat.min_le_left _ _) (tz_le _)
    have hav' := Nat.min_le_right (tz (~~~getW bm2 (index + 1 + k))) max'
    generalize min (tz (~~~getW bm2 (index + 1 + k))) max' = av at *
    have w12 := w1.trans w2
    have w3 : Wr false _ av bm2 _ :=
      Wr.andMask (index + 1 + k) 0 (at_bit0 (word_after index hc k)) hav fun j hj => keepMask_run av hj
    exact ⟨trivial, by omega, by omega, trivial, by rw [size_setW, h4, hsz1],
      (r1.append (w1.run_after.1 r2)).append (w12.run_after.1 r3), w12.trans w3⟩
  · simp only [hc, if_false]
    exact ⟨trivial, ha.1, ha.2.1, trivial, size_setW _ _ _, r1, w1⟩

/-- `allocateAt` on a state satisfying the invariant: the answer is a run of free bits inside
the device, exactly these bits are cleared, and the invariant is kept. -/
theorem allocateAt_inv {n : Nat} {st : State} (hinv : Inv n st) (index : Nat) (mask : Word) (maximum : Nat)
    (hm0 : mask ≠ 0) (hmax : 1 ≤ maximum)
    (hmask : ∀ j, tz mask ≤ j → mask.getLsbD j = (getW st.bm index).getLsbD j)
    {first count : Nat} (h : (allocateAt st index mask maximum).2 = (first, count)) :
    1 ≤ count ∧ count ≤ maximum ∧ 1 ≤ first ∧ first + count ≤ n + 1 ∧
    Run true (first - 1) count st.bm ∧ Wr false (first - 1) count st.bm (allocateAt st index mask maximum).1.bm ∧
    Inv n (allocateAt st index mask maximum).1 := by
  obtain ⟨h1, h2, h3, h4, h5, h6, h7⟩ := allocateAt_spec st index mask maximum hm0 hmax hmask
  rw [h] at h1 h2 h3 h4 h6 h7
  dsimp only at h1 h2 h3 h4 h6 h7
  have hp : index * 64 + tz mask = first - 1 := by rw [h1, Nat.add_sub_cancel]
  rw [hp] at h4 h6 h7
  -- the last bit of the run is free, so it lies below `n`
  have hend : first - 1 + count ≤ n := by
    apply Nat.le_of_not_lt
    intro hlt
    have hi : first - 1 ≤ first - 1 + count - 1 ∧ first - 1 + count - 1 < first - 1 + count ∧
        n ≤ first - 1 + count - 1 := by omega
    have := h6 _ hi.1 hi.2.1
    rw [hinv.tail _ hi.2.2] at this; cases this
  exact ⟨h2, h3, by rw [h1]; exact Nat.le_add_left _ _, by omega, h6, h7,
    ⟨by rw [h5]; exact hinv.size, h7.tail hend hinv.tail, by rw [h4]; exact hend⟩⟩

/-- The three scans of `AllocateContiguous`: either `allocateAt` is called on a non-empty
mask that agrees with its word from the lowest one bit upwards, or every word is zero. -/
theorem alloc_cases (st : State) (maximum : Nat) :
    (∃ index mask, mask ≠ 0 ∧ (∀ j, tz mask ≤ j → mask.getLsbD j = (getW st.bm index).getLsbD j) ∧
      alloc st maximum = ((allocateAt st index mask maximum).1, some (allocateAt st index mask maximum).2)) ∨
    (alloc st maximum = (st, none) ∧ ∀ i, bit st.bm i = false) := by
  unfold alloc
  simp only
  by_cases hm : getW st.bm (st.next / 64) &&& allBits <<< (st.next % 64) ≠ 0
  · left
    refine ⟨_, _, hm, ?_, by rw [if_pos hm]⟩
    intro j hj
    rw [getLsbD_keepFrom]
    have hb := tz_bit _ (tz_lt_of_ne_zero _ hm)
    rw [getLsbD_keepFrom] at hb
    have : st.next % 64 ≤ j := by
      simp at hb; omega
    simp [this]
  · rw [if_neg hm]
    cases hn1 : findNz st.bm (st.next / 64 + 1) (st.bm.size - (st.next / 64 + 1)) with
    | some i =>
      left
      exact ⟨i, _, (findNz_some hn1).2.2, fun _ _ => rfl, rfl⟩
    | none =>
      simp only
      cases hn2 : findNz st.bm 0 (st.next / 64 + 1) with
      | some i =>
        left
        exact ⟨i, _, (findNz_some hn2).2.2, fun _ _ => rfl, rfl⟩
      | none =>
        right
        refine ⟨rfl, ?_⟩
        intro i
        apply bits_of_getW_eq_zero
        by_cases c1 : st.bm.size ≤ i / 64
        · exact getW_of_size_le _ _ c1
        · by_cases c2 : i / 64 < st.next / 64 + 1
          · exact findNz_none hn2 _ (by omega) (by omega)
          · exact findNz_none hn1 _ (by omega) (by omega)

theorem alloc_some {n : Nat} {st : State} (hinv : Inv n st) {maximum : Nat} (hmax : 1 ≤ maximum)
    {first count : Nat} (h : (alloc st maximum).2 = some (first, count)) :
    1 ≤ count ∧ count ≤ maximum ∧ 1 ≤ first ∧ first + count ≤ n + 1 ∧
    Run true (first - 1) count st.bm ∧ Wr false (first - 1) count st.bm (alloc st maximum).1.bm ∧
    Inv n (alloc st maximum).1 := by
  rcases alloc_cases st maximum with ⟨index, mask, hm0, hmask, he⟩ | ⟨he, _⟩
  · rw [he] at h ⊢
    simp only [Option.some.injEq] at h
    exact allocateAt_inv hinv index mask maximum hm0 hmax hmask h
  · rw [he] at h; simp at h

theorem alloc_none {st : State} {maximum : Nat} (h : (alloc st maximum).2 = none) :
    (alloc st maximum).1 = st ∧ ∀ i, bit st.bm i = false := by
  rcases alloc_cases st maximum with ⟨index, mask, hm0, hmask, he⟩ | ⟨he, hall⟩
  · rw [he] at h; simp at h
  · rw [he]; exact ⟨rfl, hall⟩

end BbRe.Lemmas.Bitmap
