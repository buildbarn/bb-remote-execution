import BbRe.Model.InputRoot
/-!
Invariants of the model of `hardlinkingFileFetcher` (C17, non-virtual workers).
-/
namespace BbRe.Lemmas.InputRoot.HardLink
open BbRe.InputRoot.HardLink

/-- Every regular file in the cache directory has the contents of its key (the
worker only ever links downloaded files of that key there; faults delete entries or
replace them by directories). -/
def CacheClean (d : List (Nat × Entry)) : Prop := ∀ k c, (k, Entry.file c) ∈ d → c = k

/-- The limits of the cache as `GetFile` maintains them. -/
def Lim (maxFiles maxSize : Nat) (es : List (Nat × Nat)) : Prop :=
  es.length ≤ max maxFiles 1 ∧ (total es ≤ maxSize ∨ es.length ≤ 1)

theorem onDisk_mem {d : List (Nat × Entry)} {k : Nat} {e : Entry} (h : onDisk d k = some e) : (k, e) ∈ d := by
  simp only [onDisk, Option.map_eq_some_iff] at h
  obtain ⟨⟨k', e'⟩, hf, rfl⟩ := h
  have hm := List.mem_of_find?_eq_some hf
  have hk := List.find?_some hf
  simp only [beq_iff_eq] at hk
  subst hk
  exact hm

theorem clean_remove {d : List (Nat × Entry)} (h : CacheClean d) (k : Nat) : CacheClean (diskRemove d k) := by
  intro k' c hm
  simp only [diskRemove, List.mem_filter] at hm
  exact h k' c hm.1

theorem clean_add {d : List (Nat × Entry)} (h : CacheClean d) (k : Nat) : CacheClean (d ++ [(k, .file k)]) := by
  intro k' c hm
  simp only [List.mem_append, List.mem_singleton, Prod.mk.injEq, Entry.file.injEq] at hm
  rcases hm with hm | ⟨rfl, rfl⟩
  · exact h k' c hm
  · rfl

theorem clean_add_dir {d : List (Nat × Entry)} (h : CacheClean d) (k : Nat) : CacheClean (d ++ [(k, .dir)]) := by
  intro k' c hm
  simp only [List.mem_append, List.mem_singleton, Prod.mk.injEq, reduceCtorEq, and_false, or_false] at hm
  exact h k' c hm

/-- `makeSpace` keeps the cache directory clean and leaves nothing, or room for one more file of size `sz`. -/
theorem makeSpace_spec (mf ms sz : Nat) : ∀ (es : List (Nat × Nat)) (d : List (Nat × Entry)),
    CacheClean d → CacheClean (makeSpace mf ms sz es d).2 ∧
    ((makeSpace mf ms sz es d).1 = [] ∨
      ((makeSpace mf ms sz es d).1.length < mf ∧ total (makeSpace mf ms sz es d).1 + sz ≤ ms)) := by
  intro es
  induction es with
  | nil => intro d h; exact ⟨h, .inl rfl⟩
  | cons e rest ih =>
    intro d h
    simp only [makeSpace]
    split
    · exact ih _ (clean_remove h e.1)
    · rename_i hc
      simp only [Bool.or_eq_true, decide_eq_true_eq, not_or, Nat.not_le, Nat.not_lt] at hc
      exact ⟨h, .inr hc⟩

theorem total_cons (x : Nat × Nat) (rest : List (Nat × Nat)) : total (x :: rest) = x.2 + total rest := rfl

theorem total_append (a b : List (Nat × Nat)) : total (a ++ b) = total a + total b := by
  simp [total, List.map_append, List.sum_append]

theorem total_filter_le (p : Nat × Nat → Bool) : ∀ es : List (Nat × Nat), total (es.filter p) ≤ total es
  | [] => Nat.le_refl _
  | x :: rest => by
    have := total_filter_le p rest
    rw [List.filter_cons]
    split
    · exact Nat.add_le_add_left this _
    · exact Nat.le_trans this (Nat.le_add_left _ _)

/-- Removing all entries of a key and adding one of them back does not grow anything. -/
theorem filter_out_add_back (k : Nat) : ∀ (es : List (Nat × Nat)) (e : Nat × Nat),
    e ∈ es → e.1 = k →
    total (es.filter (·.1 != k)) + e.2 ≤ total es ∧ (es.filter (·.1 != k)).length + 1 ≤ es.length
  | x :: rest, e, he, hk => by
    rw [List.filter_cons]
    rcases List.mem_cons.1 he with rfl | hm
    · rw [if_neg (by simp [hk])]
      exact ⟨Nat.add_comm _ _ ▸ Nat.add_le_add_left (total_filter_le _ rest) _,
        Nat.succ_le_succ (List.length_filter_le _ rest)⟩
    · have ih := filter_out_add_back k rest e hm hk
      split
      · exact ⟨by rw [total_cons, total_cons, Nat.add_assoc]; exact Nat.add_le_add_left ih.1 _,
          Nat.succ_le_succ ih.2⟩
      · exact ⟨Nat.le_trans ih.1 (Nat.le_add_left _ _), Nat.le_succ_of_le ih.2⟩

theorem touch_le (es : List (Nat × Nat)) (k : Nat) :
    total (touch es k) ≤ total es ∧ (touch es k).length ≤ es.length := by
  simp only [touch]
  cases hf : es.find? (·.1 == k) with
  | none => exact ⟨Nat.le_refl _, Nat.le_refl _⟩
  | some e =>
    have hm := List.mem_of_find?_eq_some hf
    have hk : e.1 = k := by simpa using List.find?_some hf
    have := filter_out_add_back k es e hm hk
    simp only [total_append, List.length_append, List.length_cons, List.length_nil]
    simp only [total, List.map_cons, List.map_nil, List.sum_cons, List.sum_nil] at this ⊢
    exact ⟨by omega, by omega⟩

theorem lim_touch {mf ms : Nat} {es : List (Nat × Nat)} (h : Lim mf ms es) (k : Nat) : Lim mf ms (touch es k) := by
  have := touch_le es k
  obtain ⟨h1, h2⟩ := h
  refine ⟨by omega, ?_⟩
  rcases h2 with h2 | h2
  · left; omega
  · right; omega

/-- The invariant of a cache with the limits `mf`, `ms`: clean, and within the limits. -/
def Good (mf ms : Nat) (s : State) : Prop :=
  s.maxFiles = mf ∧ s.maxSize = ms ∧ CacheClean s.disk ∧ Lim mf ms s.entries

theorem tryLink_good {mf ms : Nat} {s : State} (k : Nat) (h : Good mf ms s) :
    Good mf ms (tryLink s k).1 := by
  obtain ⟨m, z, c, l⟩ := h
  unfold tryLink
  split
  · split <;> exact ⟨m, z, c, lim_touch l k⟩
  · exact ⟨m, z, c, l⟩

theorem tryLink_linked {s : State} {k c : Nat} (h : (tryLink s k).2 = .linked c) :
    onDisk s.disk k = some (.file c) := by
  unfold tryLink at h
  split at h
  · split at h
    · cases h; assumption
    · cases h
    · cases h
  · cases h

/-- The main invariant step: a clean cache stays clean, the limits are kept, and a
`nil` return means the target has the requested contents. -/
theorem getFile_good {mf ms : Nat} {s : State} (k size : Nat) (casHas : Bool) (h : Good mf ms s) :
    Good mf ms (getFile s k size casHas).1 ∧
    ((getFile s k size casHas).2 = .ok k ∨ (getFile s k size casHas).2 = .error) := by
  have h1 := tryLink_good k h
  have l1 := @tryLink_linked s k
  unfold getFile
  generalize tryLink s k = t1 at h1 l1 ⊢
  obtain ⟨s1, r1⟩ := t1
  cases r1 with
  | linked c => exact ⟨h1, .inl (congrArg Result.ok (h.2.2.1 k c (onDisk_mem (l1 rfl))))⟩
  | failed => exact ⟨h1, .inr rfl⟩
  | notExist =>
    have h2 := tryLink_good k h1
    have l2 := @tryLink_linked s1 k
    dsimp only at h1 ⊢
    generalize tryLink s1 k = t2 at h2 l2 ⊢
    obtain ⟨s2, r2⟩ := t2
    cases r2 with
    | linked c => exact ⟨h2, .inl (congrArg Result.ok (h1.2.2.1 k c (onDisk_mem (l2 rfl))))⟩
    | failed => exact ⟨h2, .inr rfl⟩
    | notExist =>
      obtain ⟨m, z, c2, lim2⟩ := h2
      dsimp only at m z c2 lim2 ⊢
      cases casHas with
      | false => exact ⟨⟨m, z, c2, lim2⟩, .inr rfl⟩
      | true =>
        simp only [Bool.not_true, Bool.false_eq_true, if_false]
        by_cases hk : known s2.entries k = true
        · simp only [hk, Bool.not_true, Bool.false_eq_true, if_false]
          refine ⟨⟨m, z, ?_, lim2⟩, .inl trivial⟩
          cases onDisk s2.disk k with
          | none => exact clean_add c2 k
          | some e => exact c2
        · simp only [hk, Bool.not_false, if_true]
          obtain ⟨hcm, hroom⟩ := makeSpace_spec s2.maxFiles s2.maxSize size s2.entries s2.disk c2
          generalize makeSpace s2.maxFiles s2.maxSize size s2.entries s2.disk = r at hroom hcm ⊢
          rw [m, z] at hroom
          refine ⟨⟨m, z, ?_, ?_⟩, .inl trivial⟩
          · cases onDisk r.2 k with
            | none => exact clean_add hcm k
            | some e => exact hcm
          · simp only [Lim, List.length_append, List.length_cons, List.length_nil, total_append]
            rcases hroom with h0 | ⟨h1, h2⟩
            · rw [h0]; simp [total]; omega
            · refine ⟨by omega, Or.inl ?_⟩
              simp only [total, List.map_cons, List.map_nil, List.sum_cons, List.sum_nil] at h2 ⊢
              omega

theorem fault_good {mf ms : Nat} {s : State} (f : Fault) (h : Good mf ms s) : Good mf ms (fault s f) := by
  obtain ⟨m, z, c, l⟩ := h
  cases f with
  | remove k => exact ⟨m, z, clean_remove c k, l⟩
  | mkdir k => exact ⟨m, z, clean_add_dir (clean_remove c k) k, l⟩

/-- The repair path: known to the bookkeeping, vanished from the cache directory,
still downloadable ⇒ downloaded again and put back. -/
theorem getFile_repairs (s : State) (k size : Nat) (hk : known s.entries k = true)
    (hd : onDisk s.disk k = none) :
    (getFile s k size true).2 = .ok k ∧ onDisk (getFile s k size true).1.disk k = some (.file k) := by
  have hk' : ∀ es, known es k = true → known (touch es k) k = true := by
    intro es h
    simp only [touch]
    cases hf : es.find? (·.1 == k) with
    | none => exact h
    | some e =>
      have : e.1 = k := by simpa using List.find?_some hf
      simp [known, this]
  have hdisk : onDisk (s.disk ++ [(k, Entry.file k)]) k = some (.file k) := by
    simp only [onDisk, Option.map_eq_some_iff] at hd ⊢
    simp only [Option.map_eq_none_iff] at hd
    refine ⟨(k, .file k), ?_, rfl⟩
    rw [List.find?_append, hd]
    simp
  simp only [getFile, tryLink, hk, hd, if_true, hk' s.entries hk, hk' _ (hk' s.entries hk),
    Bool.not_true, Bool.false_eq_true, if_false]
  exact ⟨trivial, hdisk⟩

/-- A step of a history: a `GetFile` or something happening to the cache directory. -/
inductive HLOp
  | get (k size : Nat) (casHas : Bool)
  | fault (f : Fault)

def hlStep (s : State) : HLOp → State × Option (Nat × Result)
  | .get k size casHas => let r := getFile s k size casHas; (r.1, some (k, r.2))
  | .fault f => (fault s f, none)

def hlRun (s : State) : List HLOp → State × List (Nat × Result)
  | [] => (s, [])
  | op :: rest =>
    let r := hlStep s op
    let rr := hlRun r.1 rest
    (rr.1, match r.2 with | some x => x :: rr.2 | none => rr.2)

theorem hlRun_inv {mf ms : Nat} : ∀ (ops : List HLOp) (s : State), Good mf ms s →
    Good mf ms (hlRun s ops).1 ∧ ∀ x ∈ (hlRun s ops).2, x.2 = .ok x.1 ∨ x.2 = .error := by
  intro ops
  induction ops with
  | nil => intro s h; exact ⟨h, nofun⟩
  | cons op rest ih =>
    intro s h
    cases op with
    | get k size casHas =>
      obtain ⟨g, r⟩ := getFile_good k size casHas h
      exact ⟨(ih _ g).1, List.forall_mem_cons.2 ⟨r, (ih _ g).2⟩⟩
    | fault f => exact ih _ (fault_good f h)

end BbRe.Lemmas.InputRoot.HardLink
