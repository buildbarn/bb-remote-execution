import BbRe.Lemmas.DirLe
/-!
Every operation of `Model/Dir.lean` preserves the invariant (`Inv`) and moves
the store forward (`Le`).  One lemma per operation (`Outcome`): case analysis along the
definition; a branch that changes the store returns OK and chains the primitive lemmas of
`DirInv.lean` / `DirLe.lean`, in all others only directories were materialised (`Mats`).
The same analysis says what a call that does not return OK has done (`DirFail.lean`).
-/
namespace BbRe.Lemmas.Dir
open BbRe.Dir

/-- What is known after `getContents` / `createChildren` succeeded on directory `d`. -/
structure MatOK (P : Params) (s s1 : Store) (d : Nat) (fl : List Child) : Prop where
  inv    : InvF P s1 fl
  le     : Le s s1
  lazy   : (s1.dir d).lazy = none
  leaves : s1.leaves.length = s.leaves.length
  tmpls  : s1.tmpls = s.tmpls
  ff     : s1.fetchFail = s.fetchFail
  af     : s1.allocFail = s.allocFail
  del    : (s1.dir d).deleted = (s.dir d).deleted
  frame  : ∀ d', d' ≠ d → d' < s.dirs.length → s1.dir d' = s.dir d'

theorem link_modDir (s : Store) (d : Nat) (f : Dir → Dir) (l : Nat) :
    (s.modDir d f).link l = (s.link l).modDir d f := rfl

theorem unlink_modDir (s : Store) (d : Nat) (f : Dir → Dir) (l : Nat) :
    (s.modDir d f).unlink l = (s.unlink l).modDir d f := rfl

/-- `MatOK` after a first step `s → s0` that only touches directory `d` and newly allocated directories. -/
theorem MatOK.after {P : Params} {s s0 s' : Store} {d : Nat} {fl : List Child} (r : MatOK P s0 s' d fl) (le : Le s s0)
    (hlv : s0.leaves.length = s.leaves.length) (htm : s0.tmpls = s.tmpls) (hff : s0.fetchFail = s.fetchFail)
    (haf : s0.allocFail = s.allocFail) (hdel : (s0.dir d).deleted = (s.dir d).deleted)
    (hfr : ∀ d', d' ≠ d → d' < s.dirs.length → s0.dir d' = s.dir d') : MatOK P s s' d fl :=
  ⟨r.inv, le.trans r.le, r.lazy, r.leaves.trans hlv, r.tmpls.trans htm, r.ff.trans hff, r.af.trans haf, r.del.trans hdel,
   fun d' hne hlt => (r.frame d' hne (Nat.lt_of_lt_of_le hlt le.dirsLen)).trans (hfr d' hne hlt)⟩

theorem attachInitial_ok {P : Params} {d : Nat} {fl : List Child} :
    ∀ (cs : List (Nat × TChild)) (s s' : Store), InvF P s fl → d < s.dirs.length → (s.dir d).lazy = none →
      (∀ c ∈ cs, ∀ l, c.2 = TChild.leaf l → l < s.leaves.length) →
      attachInitial P d cs s = some s' → MatOK P s s' d fl
  | [], s, s', h, _, hl, _, he => by
    cases he
    exact ⟨h, Le.refl s, hl, rfl, rfl, rfl, rfl, rfl, fun _ _ _ => rfl⟩
  | (name, tc) :: rest, s, s', h, hd, hl, hcs, he => by
    unfold attachInitial at he
    simp only [] at he
    split at he
    · cases he
    · rename_i hma
      have hma' : (s.dir d).mayAttach (P.normalize name) = none := Option.not_isSome_iff_eq_none.mp hma
      cases tc with
      | leaf l =>
        have hlv : l < s.leaves.length := hcs (name, TChild.leaf l) List.mem_cons_self l rfl
        -- `Link()` first, then attach: by definition the same store as attach-then-link (`link_modDir`)
        have hdir := dir_modDir_self (s.link l) d (fun x => x.attach name (P.normalize name) (Child.leaf l)) hd
        have r := attachInitial_ok rest _ s' ((h.link l hlv).attach d hd name _ rfl hma' hl)
          (by rw [dirs_modDir, List.length_set]; exact hd) (by rw [hdir]; exact hl)
          (fun c hc l' hl' => by
            rw [leaves_modDir, leaves_length_link]; exact hcs c (List.mem_cons_of_mem _ hc) l' hl') he
        exact r.after ((Le.link s l).trans (Le.attach _ d name _ _)) (leaves_length_link s l) rfl rfl rfl
          (by rw [hdir]; rfl) (fun d' hne _ => dir_modDir_ne (s.link l) d d' _ (Ne.symm hne))
      | dir t =>
        have hdir0 : (s.pushDir { lazy := some t, fs := (s.dir d).fs }).dir d = s.dir d := dir_pushDir_lt s _ d hd
        have hd0 : d < (s.pushDir { lazy := some t, fs := (s.dir d).fs }).dirs.length := by
          rw [dirs_pushDir, List.length_append]; exact Nat.lt_add_right _ hd
        have hdir : ((s.pushDir { lazy := some t, fs := (s.dir d).fs }).modDir d
            (fun x => x.attach name (P.normalize name) (Child.dir s.dirs.length))).dir d =
              (s.dir d).attach name (P.normalize name) (Child.dir s.dirs.length) :=
          (dir_modDir_self _ d _ hd0).trans (congrArg (·.attach name (P.normalize name) (Child.dir s.dirs.length)) hdir0)
        have h1 := ((h.pushDir _ (dirOK_fresh P (some t) (s.dir d).fs) rfl).attach d hd0 name (P.normalize name) rfl
          (by rw [hdir0]; exact hma') (by rw [hdir0]; exact hl))
        have r := attachInitial_ok rest _ s' h1 (by rw [dirs_modDir, List.length_set]; exact hd0)
          (by rw [hdir]; exact hl) (fun c hc l' hl' => hcs c (List.mem_cons_of_mem _ hc) l' hl') he
        exact r.after ((Le.pushDir s _).trans (Le.attach _ d name _ _)) rfl rfl rfl rfl (by rw [hdir]; rfl)
          (fun d' hne hlt => (dir_modDir_ne _ d d' _ (Ne.symm hne)).trans (dir_pushDir_lt s _ d' hlt))

theorem mem_insertByName {c x : Nat × TChild} {l : List (Nat × TChild)} (h : x ∈ insertByName c l) : x = c ∨ x ∈ l := by
  induction l with
  | nil => simp [insertByName] at h; exact Or.inl h
  | cons y rest ih =>
    unfold insertByName at h
    split at h
    · simp at h; rcases h with h | h | h <;> simp [h]
    · simp at h
      rcases h with h | h
      · simp [h]
      · rcases ih h with h' | h' <;> simp [h']

theorem mem_sortChildren {x : Nat × TChild} {l : List (Nat × TChild)} (h : x ∈ sortChildren l) : x ∈ l := by
  induction l with
  | nil => simp [sortChildren] at h
  | cons y rest ih =>
    unfold sortChildren at h
    rcases mem_insertByName h with h' | h'
    · simp [h']
    · simp [ih h']

theorem tmpl_mem (s : Store) (t : Nat) (c : Nat × TChild) (h : c ∈ s.tmpl t) : ∃ tt ∈ s.tmpls, c ∈ tt := by
  unfold Store.tmpl at h
  cases ht : s.tmpls[t]? with
  | none => simp [ht] at h
  | some tt =>
    simp [ht] at h
    exact ⟨tt, List.mem_of_getElem? ht, h⟩

/-- Only an allocated directory can be lazy. -/
theorem lt_of_lazy {s : Store} {d t : Nat} (hl : (s.dir d).lazy = some t) : d < s.dirs.length :=
  Nat.lt_of_not_le fun hge => by rw [dir_default s d hge] at hl; cases hl

theorem materialize_ok {P : Params} {s s1 : Store} {d : Nat} {fl : List Child} (h : InvF P s fl)
    (he : materialize P s d = .ok s1) : MatOK P s s1 d fl := by
  unfold materialize at he
  split at he
  · rename_i hl
    cases he
    exact ⟨h, Le.refl s, hl, rfl, rfl, rfl, rfl, rfl, fun _ _ _ => rfl⟩
  · rename_i t hl
    have hd := lt_of_lazy hl
    split at he
    · cases he
    · split at he
      · rename_i s' hs'
        cases he
        have h1 := h.unlazy d
        have r := attachInitial_ok (sortChildren (s.tmpl t)) _ s1 h1 (by simpa using hd)
          (by rw [dir_modDir_self s d _ hd]) (by
            intro c hc l hl'
            obtain ⟨tt, htt, hct⟩ := tmpl_mem s t c (mem_sortChildren hc)
            have := h.tmplLeaf tt htt c hct l hl'
            simpa using this) hs'
        exact r.after (Le.unlazy s d) rfl rfl rfl rfl (by rw [dir_modDir_self s d _ hd])
          (fun d' hne _ => dir_modDir_ne s d d' _ (Ne.symm hne))
      · cases he

theorem materialize_nonlazy (P : Params) (s : Store) (d : Nat) (h : (s.dir d).lazy = none) :
    materialize P s d = .ok s := by
  unfold materialize; simp [h]

theorem materialize_error_cases {P : Params} {s : Store} {d : Nat} {e : Status} (h : materialize P s d = .error e) :
    e = .io ∨ e = .panic := by
  unfold materialize at h
  split at h
  · cases h
  · split at h
    · cases h; exact Or.inl rfl
    · split at h
      · cases h
      · cases h; exact Or.inr rfl

theorem materialize_error_ne_ok {P : Params} {s : Store} {d : Nat} {e : Status} (h : materialize P s d = .error e) :
    e ≠ .ok := by
  rcases materialize_error_cases h with rfl | rfl <;> exact fun hx => nomatch hx

theorem clearDir_dir_ne (s : Store) (c d : Nat) (del : Bool) (h : c ≠ d) : (clearDir s c del).dir d = s.dir d := by
  rw [clearDir_eq, dir_setDir_ne _ c d _ h]
  exact dir_eq_of_dirs (unlinkLeaves_dirs s _) d

theorem clearDir_dirs_length (s : Store) (c : Nat) (del : Bool) : (clearDir s c del).dirs.length = s.dirs.length := by
  rw [clearDir_eq]; simp [unlinkLeaves_dirs]

theorem entry_child_ref {s : Store} {d n : Nat} {e : Entry} (hd : d < s.dirs.length) (h : (s.dir d).find? n = some e) :
    e.child ∈ refs s :=
  mem_refs.mpr ⟨s.dir d, dir_mem s d hd, e, (find?_some h).1, rfl⟩

theorem isDeletable_no_dir {P : Params} {x : Dir} (h : isDeletable P x = true) {e : Entry} (he : e ∈ x.entries) :
    e.child.isDir = false := by
  unfold isDeletable at h
  have := List.all_eq_true.mp h e he
  cases hc : e.child.isDir with
  | false => rfl
  | true => rw [hc] at this; cases this

/-- A materialised directory that holds a directory entry is not the directory `c` found deletable:
`Remove` of a directory and a rename over one never clear a directory they work in. -/
theorem ne_of_isDeletable {P : Params} {s s' : Store} {c d n : Nat} {e : Entry} (hlz : (s.dir d).lazy = none)
    (hf : (s.dir d).find? n = some e) (hdir : e.child.isDir = true) (he : materialize P s c = .ok s')
    (hdel : isDeletable P (s'.dir c) = true) : c ≠ d := by
  rintro rfl
  rw [materialize_nonlazy P s c hlz] at he
  cases he
  rw [isDeletable_no_dir hdel (find?_some hf).1] at hdir
  cases hdir

structure StepOK (P : Params) (s s' : Store) : Prop where
  inv : Inv P s'
  le  : Le s s'

theorem StepOK.refl {P : Params} {s : Store} (h : Inv P s) : StepOK P s s := ⟨h, Le.refl s⟩

theorem StepOK.step {P : Params} {s s1 s2 : Store} (r : StepOK P s s1) (hi : Inv P s2) (hl : Le s1 s2) : StepOK P s s2 :=
  ⟨hi, r.le.trans hl⟩

/-- `s'` is reached from `s` by materialising directories and nothing else: every branch of an operation
that does not go on to change the store, in particular every failing one. -/
inductive Mats (P : Params) : Store → Store → Prop
  | refl (s : Store) : Mats P s s
  | step {s s1 s2 : Store} {d : Nat} : Mats P s s1 → materialize P s1 d = .ok s2 → Mats P s s2

theorem Mats.stepOK {P : Params} {s s' : Store} (hi : Inv P s) (h : Mats P s s') : StepOK P s s' := by
  induction h with
  | refl => exact .refl hi
  | step _ he ih =>
    have m := materialize_ok ih.inv he
    exact ⟨m.inv, ih.le.trans m.le⟩

/-- Closes `Mats P s sₙ` by walking back along the `materialize … = .ok …` hypotheses in the context. -/
macro "mats" : tactic =>
  `(tactic| repeat (first
    | exact Mats.refl _
    | refine Mats.step ?_ ‹_›))

/-- What an operation with result `r` does to `s`: it only materialises directories, or it returns OK and,
when `s` satisfies the invariant and the arguments are allocated (`V`), it ends in a later store that does.
Every branch of every operation is of one of the two kinds, so one case analysis per operation gives
both the invariant and what a failing call leaves untouched. -/
inductive Outcome (P : Params) (s : Store) (V : Prop) (r : Store × Out) : Prop
  | mats : Mats P s r.1 → Outcome P s V r
  | ok : r.2.status = .ok → (Inv P s → V → StepOK P s r.1) → Outcome P s V r

theorem Outcome.stepOK {P : Params} {s : Store} {V : Prop} {r : Store × Out} (w : Outcome P s V r) (h : Inv P s)
    (hv : V) : StepOK P s r.1 := by
  cases w with
  | mats m => exact m.stepOK h
  | ok _ k => exact k h hv

theorem Outcome.fail {P : Params} {s : Store} {V : Prop} {r : Store × Out} (w : Outcome P s V r) :
    r.2.status = .ok ∨ Mats P s r.1 := by
  cases w with
  | mats m => exact .inr m
  | ok e _ => exact .inl e

theorem Outcome.mono {P : Params} {s : Store} {V V' : Prop} {r : Store × Out} (w : Outcome P s V r) (hv : V' → V) :
    Outcome P s V' r := by
  cases w with
  | mats m => exact .mats m
  | ok e k => exact .ok e fun h hv' => k h (hv hv')

theorem MatOK.hd {P : Params} {s s1 : Store} {d : Nat} {fl : List Child} (r : MatOK P s s1 d fl)
    {d' : Nat} (h : d' < s.dirs.length) : d' < s1.dirs.length :=
  Nat.lt_of_lt_of_le h r.le.dirsLen

theorem attachNewDir_ok {P : Params} {s : Store} {fl : List Child} (h : InvF P s fl) (d : Nat) (hd : d < s.dirs.length)
    (name : Nat) (hma : (s.dir d).mayAttach (P.normalize name) = none) (hl : (s.dir d).lazy = none) (x : Dir) :
    InvF P ((s.pushDir (newDirOf x)).modDir d (fun y => y.attach name (P.normalize name) (Child.dir s.dirs.length))) fl := by
  have h0 := h.pushDir (newDirOf x) (dirOK_fresh P _ _) rfl
  have hdir0 : (s.pushDir (newDirOf x)).dir d = s.dir d := dir_pushDir_lt s _ d hd
  exact h0.attach d (by simp; omega) name _ rfl (by rw [hdir0]; exact hma) (by rw [hdir0]; exact hl)

theorem attachNewLeaf_ok {P : Params} {s : Store} {fl : List Child} (h : InvF P s fl) (d : Nat) (hd : d < s.dirs.length)
    (name : Nat) (hma : (s.dir d).mayAttach (P.normalize name) = none) (hl : (s.dir d).lazy = none) (k : Nat) :
    InvF P ((s.pushLeaf { kind := k, links := 1 }).modDir d
      (fun y => y.attach name (P.normalize name) (Child.leaf s.leaves.length))) fl :=
  (h.pushLeafOwned k).attach d hd name _ rfl hma hl

theorem Le.attachNewDir (s : Store) (x : Dir) (d name nn : Nat) (c : Child) :
    Le s ((s.pushDir x).modDir d (fun y => y.attach name nn c)) :=
  (Le.pushDir s x).trans (Le.attach _ d name nn c)

theorem Le.attachNewLeaf (s : Store) (x : Leaf) (d name nn : Nat) (c : Child) :
    Le s ((s.pushLeaf x).modDir d (fun y => y.attach name nn c)) :=
  (Le.pushLeaf s x).trans (Le.attach _ d name nn c)

theorem vmkdir_outcome (P : Params) (s : Store) (d name : Nat) :
    Outcome P s (d < s.dirs.length) (vmkdir P s d name) := by
  fun_cases vmkdir P s d name
  -- the name is free: the new directory is attached
  case case3 s1 he _ hma _ _ _ =>
    refine .ok rfl fun h hd => ?_
    have r := materialize_ok h he
    exact ⟨attachNewDir_ok r.inv d (r.hd hd) name hma r.lazy _, r.le.trans (Le.attachNewDir ..)⟩
  all_goals exact .mats (by mats)

theorem vmknod_outcome (P : Params) (s : Store) (d name kind : Nat) :
    Outcome P s (d < s.dirs.length) (vmknod P s d name kind) := by
  fun_cases vmknod P s d name kind
  -- the name is free, the kind is FIFO / socket / symlink and the allocation succeeds: the new leaf is attached
  case case4 s1 he _ hma _ _ _ _ _ =>
    refine .ok rfl fun h hd => ?_
    have r := materialize_ok h he
    exact ⟨attachNewLeaf_ok r.inv d (r.hd hd) name hma r.lazy _, r.le.trans (Le.attachNewLeaf ..)⟩
  all_goals exact .mats (by mats)

theorem mayAttach_of {x : Dir} {n : Nat} (hdel : x.deleted = false) (hf : x.find? n = none) : x.mayAttach n = none := by
  unfold Dir.mayAttach; simp [hdel, hf]

theorem vopen_outcome (P : Params) (s : Store) (d name : Nat) (c e : Bool) :
    Outcome P s (d < s.dirs.length) (vopen P s d name c e) := by
  fun_cases vopen P s d name c e
  -- no such entry, `create` is set, the directory is not deleted, the allocation succeeds: the new file is attached
  case case7 s1 he _ _ hf hdc _ _ _ =>
    refine .ok rfl fun h hd => ?_
    have r := materialize_ok h he
    have hdel : (s1.dir d).deleted = false :=
      Bool.eq_false_iff.mpr fun hx => hdc (by show ((s1.dir d).deleted || !c) = true; rw [hx]; rfl)
    exact ⟨attachNewLeaf_ok r.inv d (r.hd hd) name (mayAttach_of hdel hf) r.lazy _, r.le.trans (Le.attachNewLeaf ..)⟩
  all_goals exact .mats (by mats)

theorem vlink_outcome (P : Params) (s : Store) (d name l : Nat) :
    Outcome P s (d < s.dirs.length ∧ l < s.leaves.length) (vlink P s d name l) := by
  fun_cases vlink P s d name l
  -- the name is free and the leaf still has a link: one more link is attached
  case case4 s1 he _ hma _ _ _ =>
    refine .ok rfl fun h ⟨hd, hl⟩ => ?_
    have r := materialize_ok h he
    exact ⟨(r.inv.link l (r.leaves ▸ hl)).attach d (r.hd hd) name _ rfl hma r.lazy,
      r.le.trans ((Le.link s1 l).trans (Le.attach ..))⟩
  all_goals exact .mats (by mats)

theorem vremove_outcome (P : Params) (s : Store) (d name : Nat) (a b : Bool) :
    Outcome P s (d < s.dirs.length) (vremove P s d name a b) := by
  fun_cases vremove P s d name a b
  -- the entry is a directory `c` that materialises and is deletable: `c` is cleared, the entry detached
  case case6 s1 he _ e hf c hc _ s2 he2 hdel _ _ _ =>
    refine .ok rfl fun h hd => ?_
    have r := materialize_ok h he
    have hcl : c < s1.dirs.length := r.inv.dirRef c (List.mem_append_left _ (hc ▸ entry_child_ref (r.hd hd) hf))
    have r2 := materialize_ok r.inv he2
    have hne : c ≠ d := ne_of_isDeletable r.lazy hf (by rw [hc]; rfl) he2 (by simpa using hdel)
    have hf3 : ((clearDir s2 c true).dir d).find? (P.normalize name) = some e := by
      rw [clearDir_dir_ne _ c d _ hne, r2.frame d (Ne.symm hne) (r.hd hd)]; exact hf
    have h4 := (r2.inv.clearDir c true).detach d (by rw [clearDir_dirs_length]; exact r2.hd (r.hd hd)) _ e hf3
    rw [hc] at h4
    exact ⟨h4.dropDir, r.le.trans (r2.le.trans ((Le.clearDir s2 c true).trans (Le.detach ..)))⟩
  -- the entry is a leaf and `rmLeaf` is set: the entry is detached, the leaf unlinked
  case case8 s1 he _ e hf l hc _ _ _ _ =>
    refine .ok rfl fun h hd => ?_
    have r := materialize_ok h he
    have h4 := r.inv.detach d (r.hd hd) _ e hf
    rw [hc] at h4
    exact ⟨h4.unlink, r.le.trans ((Le.unlink s1 l).trans (Le.detach ..))⟩
  all_goals exact .mats (by mats)

theorem removeAll_outcome (P : Params) (s : Store) (d name : Nat) :
    Outcome P s (d < s.dirs.length) (removeAll P s d name) := by
  fun_cases removeAll P s d name
  -- the entry exists: it is detached and removed with everything below it
  case case3 s1 he _ e hf =>
    refine .ok rfl fun h hd => ?_
    have r := materialize_ok h he
    have h4 := r.inv.detach d (r.hd hd) _ e hf
    exact ⟨InvF.postRemove [e] (by simpa using h4), r.le.trans ((Le.detach ..).trans (Le.postRemove ..))⟩
  all_goals exact .mats (by mats)

theorem not_deleted_of_find {P : Params} {x : Dir} (h : DirOK P x) {n : Nat} {e : Entry} (hf : x.find? n = some e) :
    x.deleted = false :=
  Bool.eq_false_iff.mpr fun hx => by
    have hm := (find?_some hf).1
    rw [(h.del hx).1] at hm; cases hm

theorem createAndEnter_outcome (P : Params) (s : Store) (d name : Nat) :
    Outcome P s (d < s.dirs.length) (createAndEnter P s d name) := by
  fun_cases createAndEnter P s d name
  -- the name is taken by a leaf: the leaf is replaced by a new directory
  case case3 s1 he _ _ e hf l hc _ _ =>
    refine .ok rfl fun h hd => ?_
    have r := materialize_ok h he
    have h4 := r.inv.detach d (r.hd hd) _ e hf
    rw [hc] at h4
    have hlen : ((s1.modDir d (fun x => x.detach (P.normalize name))).unlink l).dirs.length = s1.dirs.length := by
      rw [dirs_unlink, dirs_modDir, List.length_set]
    have hdir5 : ((s1.modDir d (fun x => x.detach (P.normalize name))).unlink l).dir d =
        (s1.dir d).detach (P.normalize name) := (dir_unlink _ l d).trans (dir_modDir_self s1 d _ (r.hd hd))
    have hdel := not_deleted_of_find (r.inv.dirOK d) hf
    have h6 := attachNewDir_ok h4.unlink d (hlen ▸ r.hd hd) name
      (by rw [hdir5]; exact mayAttach_of hdel (find?_detach_self _ _)) (by rw [hdir5]; exact r.lazy) (s1.dir d)
    rw [hlen] at h6
    exact ⟨h6, r.le.trans ((Le.detach ..).trans ((Le.unlink _ l).trans (Le.attachNewDir ..)))⟩
  -- the name is free and the directory not deleted: a new directory is attached
  case case5 s1 he _ _ hf hdel _ =>
    refine .ok rfl fun h hd => ?_
    have r := materialize_ok h he
    exact ⟨attachNewDir_ok r.inv d (r.hd hd) name (mayAttach_of (Bool.eq_false_iff.mpr hdel) hf) r.lazy _,
      r.le.trans (Le.attachNewDir ..)⟩
  all_goals exact .mats (by mats)

theorem find_after_detach (s : Store) (dOld dNew nOld nNew : Nat) (hdiff : dOld = dNew → nOld ≠ nNew) :
    ((s.modDir dOld (fun x => x.detach nOld)).dir dNew).find? nNew = (s.dir dNew).find? nNew := by
  rw [dir_modDir]
  split
  · next hc => obtain ⟨rfl, _⟩ := hc; exact find?_detach_ne _ _ _ (hdiff rfl)
  · rfl

/-- Both entries of a rename over an existing entry are detached and floating; the name in `dNew` is free again. -/
theorem rename_detach_both {P : Params} {s : Store} (h : Inv P s) {dOld dNew : Nat} (hO : dOld < s.dirs.length)
    (hN : dNew < s.dirs.length) {nOld nNew : Nat} {oldE newE : Entry}
    (hfO : (s.dir dOld).find? nOld = some oldE) (hfN : (s.dir dNew).find? nNew = some newE)
    (hdiff : dOld = dNew → nOld ≠ nNew) (hlz : (s.dir dNew).lazy = none) :
    let s5 := (s.modDir dOld (fun x => x.detach nOld)).modDir dNew (fun x => x.detach nNew)
    InvF P s5 [newE.child, oldE.child] ∧ (s5.dir dNew).mayAttach nNew = none ∧ (s5.dir dNew).lazy = none := by
  intro s5
  have hdel := not_deleted_of_find (h.dirOK dNew) hfN
  have hN4 : dNew < (s.modDir dOld (fun x => x.detach nOld)).dirs.length := by simpa using hN
  have h5 := (h.detach dOld hO nOld oldE hfO).detach dNew hN4 nNew newE (by
    rw [find_after_detach s dOld dNew nOld _ hdiff]; exact hfN)
  have e5 : s5.dir dNew = ((s.modDir dOld (fun x => x.detach nOld)).dir dNew).detach nNew :=
    dir_modDir_self _ dNew _ hN4
  rw [e5]
  exact ⟨h5, mayAttach_of (dir_modDir_keeps (φ := (·.deleted = false)) (fun _ h => h) hdel)
    (find?_detach_self _ _), dir_modDir_keeps (φ := (·.lazy = none)) (fun _ h => h) hlz⟩

/-- Two entries of one directory with different children are stored under different names. -/
theorem norm_ne_of_child_ne {x : Dir} {n m : Nat} {e e' : Entry} (h1 : x.find? n = some e) (h2 : x.find? m = some e')
    (hc : e.child ≠ e'.child) : n ≠ m := by
  rintro rfl
  rw [h1] at h2; cases h2
  exact hc rfl

theorem materialize_two_ok {P : Params} {s s1 s2 : Store} {dOld dNew : Nat} (h : Inv P s) (hd1 : dOld < s.dirs.length)
    (hd2 : dNew < s.dirs.length) (he1 : materialize P s dOld = .ok s1) (he2 : materialize P s1 dNew = .ok s2) :
    StepOK P s s2 ∧ dOld < s2.dirs.length ∧ dNew < s2.dirs.length ∧
      (s2.dir dOld).lazy = none ∧ (s2.dir dNew).lazy = none := by
  have r1 := materialize_ok h he1
  have r2 := materialize_ok r1.inv he2
  refine ⟨⟨r2.inv, r1.le.trans r2.le⟩, r2.hd (r1.hd hd1), r2.hd (r1.hd hd2), ?_, r2.lazy⟩
  by_cases hdd : dOld = dNew
  · rw [hdd]; exact r2.lazy
  · rw [r2.frame dOld hdd (r1.hd hd1)]; exact r1.lazy

theorem vrename_outcome (P : Params) (s : Store) (dOld oldName dNew newName : Nat) :
    Outcome P s (dOld < s.dirs.length ∧ dNew < s.dirs.length) (vrename P s dOld oldName dNew newName) := by
  fun_cases vrename P s dOld oldName dNew newName
  -- over another directory `nd` (same file system, `nd` materialises and is deletable): both entries are
  -- detached, `nd` is cleared, the old child is attached under the new name
  case case9 s1 he1 s2 he2 _ _ _ _ newE hfN oldE hfO nd hcN od hcO hne _ s3 he3 hdl _ _ _ _ =>
    refine .ok rfl fun h ⟨hd1, hd2⟩ => ?_
    obtain ⟨r2, hO, hN, lzO, lzN⟩ := materialize_two_ok h hd1 hd2 he1 he2
    have hnd : nd < s2.dirs.length := r2.inv.dirRef nd (List.mem_append_left _ (hcN ▸ entry_child_ref hN hfN))
    have r3 := materialize_ok r2.inv he3
    have hdl' : isDeletable P (s3.dir nd) = true := by simpa using hdl
    have hneN : nd ≠ dNew := ne_of_isDeletable lzN hfN (by rw [hcN]; rfl) he3 hdl'
    have hneO : nd ≠ dOld := ne_of_isDeletable lzO hfO (by rw [hcO]; rfl) he3 hdl'
    have hfO3 : (s3.dir dOld).find? (P.normalize oldName) = some oldE := by
      rw [r3.frame dOld (Ne.symm hneO) hO]; exact hfO
    have hfN3 : (s3.dir dNew).find? (P.normalize newName) = some newE := by
      rw [r3.frame dNew (Ne.symm hneN) hN]; exact hfN
    have hlz3 : (s3.dir dNew).lazy = none := by
      rw [r3.frame dNew (Ne.symm hneN) hN]; exact lzN
    have hcne : oldE.child ≠ newE.child := by
      rw [hcO, hcN]; intro hx; cases hx; exact hne rfl
    obtain ⟨h5, hma, hlz5⟩ := rename_detach_both r3.inv (r3.hd hO) (r3.hd hN) hfO3 hfN3
      (fun hdd => by subst hdd; exact norm_ne_of_child_ne hfO hfN hcne) hlz3
    rw [hcN] at h5
    exact r2.step ((h5.clearDir nd true).dropDir.attach dNew (by rw [clearDir_dirs_length]; simpa using r3.hd hN)
        newName _ rfl (by rw [clearDir_dir_ne _ nd dNew _ hneN]; exact hma)
        (by rw [clearDir_dir_ne _ nd dNew _ hneN]; exact hlz5))
      (r3.le.trans ((Le.detach ..).trans ((Le.detach ..).trans ((Le.clearDir ..).trans (Le.attach ..)))))
  -- over another leaf `nl`: both entries are detached, `nl` is unlinked, the old child attached under the new name
  case case12 s1 he1 s2 he2 _ _ _ _ newE hfN oldE hfO nl hcN ol hcO hne _ _ _ _ =>
    refine .ok rfl fun h ⟨hd1, hd2⟩ => ?_
    obtain ⟨r2, hO, hN, lzO, lzN⟩ := materialize_two_ok h hd1 hd2 he1 he2
    have hcne : oldE.child ≠ newE.child := by
      rw [hcO, hcN]; intro hx; cases hx; exact hne rfl
    obtain ⟨h5, hma, hlz5⟩ := rename_detach_both r2.inv hO hN hfO hfN
      (fun hdd => by subst hdd; exact norm_ne_of_child_ne hfO hfN hcne) lzN
    rw [hcN] at h5
    exact r2.step (h5.unlink.attach dNew (by simpa using hN) newName _ rfl hma hlz5)
      ((Le.detach ..).trans ((Le.detach ..).trans ((Le.unlink ..).trans (Le.attach ..))))
  -- to a free name in a directory that is not deleted (no move of a directory across file systems)
  case case16 s1 he1 s2 he2 _ _ nOld nNew hfN hdel oldE hfO _ _ _ =>
    refine .ok rfl fun h ⟨hd1, hd2⟩ => ?_
    obtain ⟨r2, hO, hN, lzO, lzN⟩ := materialize_two_ok h hd1 hd2 he1 he2
    have hdel' : (s2.dir dNew).deleted = false := Bool.eq_false_iff.mpr hdel
    -- detaching leaves the new name free in `dNew` (in the same directory it may be the name just detached)
    exact r2.step ((r2.inv.detach dOld hO _ oldE hfO).attach dNew (by simpa using hN) newName _ rfl
        (mayAttach_of (dir_modDir_keeps (φ := (·.deleted = false)) (fun _ h => h) hdel')
          (dir_modDir_keeps (φ := (·.find? _ = none)) (fun _ => find?_detach_none) hfN))
        (dir_modDir_keeps (φ := (·.lazy = none)) (fun _ h => h) lzN))
      ((Le.detach ..).trans (Le.attach ..))
  all_goals exact .mats (by mats)

theorem createChildren_outcome (P : Params) (s : Store) (d : Nat) (ow : Bool) (cs : List (Nat × TChild)) :
    Outcome P s (d < s.dirs.length ∧ ∀ c ∈ cs, ∀ l, c.2 = TChild.leaf l → l < s.leaves.length)
      (createChildren P s d ow cs) := by
  fun_cases createChildren P s d ow cs
  -- overwrite: the entries in the way become floating, then are destroyed
  case case4 s1 he _ _ norms _ _ _ s3 he3 =>
    refine .ok rfl fun h ⟨hd, hcs⟩ => ?_
    have r := materialize_ok h he
    have hq : (fun e : Entry => !(fun e : Entry => !norms.contains e.norm) e) =
        (fun e => norms.contains e.norm) := funext fun e => Bool.not_not _
    have h2 := r.inv.detachMany d (r.hd hd) (fun e => !norms.contains e.norm)
      ((s1.dir d).entries.filter (fun e => norms.contains e.norm)).length
    have l2 := Le.shrink s1 d (fun e => !norms.contains e.norm)
    rw [hq] at h2 l2
    have r3 := attachInitial_ok (sortChildren cs) _ s3 h2 (by rw [dirs_setDir, List.length_set]; exact r.hd hd)
      (by rw [dir_setDir_self s1 d _ (r.hd hd)]; exact r.lazy)
      (fun c hc l hl => r.leaves ▸ hcs c (mem_sortChildren hc) l hl) he3
    exact ⟨InvF.postRemove _ r3.inv, r.le.trans (l2.trans (r3.le.trans (Le.postRemove _ _)))⟩
  -- without overwrite, no name is taken: the children are attached
  case case7 s1 he _ _ _ _ _ s3 he3 =>
    refine .ok rfl fun h ⟨hd, hcs⟩ => ?_
    have r := materialize_ok h he
    have r3 := attachInitial_ok (sortChildren cs) _ s3 r.inv (r.hd hd) r.lazy
      (fun c hc l hl => r.leaves ▸ hcs c (mem_sortChildren hc) l hl) he3
    exact ⟨r3.inv, r.le.trans r3.le⟩
  all_goals exact .mats (by mats)

theorem tchildOK_leaf {s : Store} {cs : List (Nat × TChild)} (h : cs.all (tchildOK s) = true) :
    ∀ c ∈ cs, ∀ l, c.2 = TChild.leaf l → l < s.leaves.length := by
  intro c hc l hl
  have := List.all_eq_true.mp h c hc
  obtain ⟨n, tc⟩ := c
  cases hl
  exact of_decide_eq_true this

/-- Read-only operations. -/
def readOnly : Op → Bool
  | .lookup _ _ | .readdir _ _ _ | .getattr _ | .lookupChild _ _ | .lookupAll _ | .readDirB _
  | .filter _ _ | .installHooks _ => true
  | _ => false

theorem exec_readOnly (P : Params) (s : Store) (op : Op) (h : readOnly op = true) : Mats P s (exec P s op).1 := by
  cases op with
  | lookup d n => simp only [exec]; fun_cases vlookup P s d n <;> mats
  | readdir d c k => simp only [exec]; fun_cases vreaddir P s d c k <;> mats
  | lookupChild d n => simp only [exec]; fun_cases lookupChild P s d n <;> mats
  | lookupAll d => simp only [exec]; fun_cases lookupAll P s d <;> mats
  | readDirB d => simp only [exec]; fun_cases readDirB P s d <;> mats
  | getattr d | filter d k | installHooks d => exact .refl s
  | _ => cases h

theorem exec_outcome (P : Params) (s : Store) (op : Op) : Outcome P s (validOp s op = true) (exec P s op) := by
  cases op with
  | mkdir d n => exact (vmkdir_outcome P s d n).mono of_decide_eq_true
  | mknod d n k => exact (vmknod_outcome P s d n k).mono of_decide_eq_true
  | openc d n c e => exact (vopen_outcome P s d n c e).mono of_decide_eq_true
  | link d n l =>
    exact (vlink_outcome P s d n l).mono fun hv => (Bool.and_eq_true_iff.mp hv).imp of_decide_eq_true of_decide_eq_true
  | rename d1 n1 d2 n2 =>
    exact (vrename_outcome P s d1 n1 d2 n2).mono fun hv =>
      (Bool.and_eq_true_iff.mp hv).imp of_decide_eq_true of_decide_eq_true
  | vremove d n a b => exact (vremove_outcome P s d n a b).mono of_decide_eq_true
  | remove d n =>
    -- `Remove` is `vremove` with both flags set, with the same store and status
    cases vremove_outcome P s d n true true with
    | mats m => exact .mats m
    | ok e k => exact .ok e fun h hv => k h (of_decide_eq_true hv)
  | removeAll d n => exact (removeAll_outcome P s d n).mono of_decide_eq_true
  | createChildren d ow cs =>
    exact (createChildren_outcome P s d ow cs).mono fun hv =>
      (Bool.and_eq_true_iff.mp hv).imp of_decide_eq_true tchildOK_leaf
  | createAndEnter d n => exact (createAndEnter_outcome P s d n).mono of_decide_eq_true
  | lookup d n | readdir d c k | getattr d | lookupChild d n | lookupAll d | readDirB d | filter d k
  | installHooks d => exact .mats (exec_readOnly P s _ rfl)
  | removeAllChildren d b =>
    exact .ok rfl fun h _ => ⟨(h.clearDir d b).removeTree _ _, (Le.clearDir s d b).trans (Le.removeTree ..)⟩
  | newRoot fs => exact .ok rfl fun h _ => ⟨(h.pushDir _ (dirOK_fresh P _ _) rfl).dropDir, Le.pushDir s _⟩
  | newLeaf k => exact .ok rfl fun h _ => ⟨h.pushLeafFree k, Le.pushLeaf s _⟩
  | defTmpl cs =>
    refine .ok rfl fun h hv => ⟨⟨h.dirs, h.dirRef, h.leafRef, h.oneParent, h.links, ?_⟩, Le.of_dirs_eq rfl (Nat.le_refl _)⟩
    intro t ht c hc l hl
    rcases List.mem_append.mp ht with ht | ht
    · exact h.tmplLeaf t ht c hc l hl
    · cases List.mem_singleton.mp ht; exact tchildOK_leaf hv c hc l hl
  | setFetchFail b | setAllocFail b =>
    exact .ok rfl fun h _ =>
      ⟨⟨h.dirs, h.dirRef, h.leafRef, h.oneParent, h.links, h.tmplLeaf⟩, Le.of_dirs_eq rfl (Nat.le_refl _)⟩

theorem step_outcome (P : Params) (s : Store) (op : Op) : Outcome P s True (step P s op) := by
  unfold step
  split
  · next hv => exact (exec_outcome P s op).mono fun _ => hv
  · exact .mats (.refl s)

theorem step_ok {P : Params} {s : Store} (h : Inv P s) (op : Op) : StepOK P s (step P s op).1 :=
  (step_outcome P s op).stepOK h trivial

theorem inv_init (P : Params) : Inv P init :=
  ⟨(by intro x hx; cases hx), (by intro d hd; simp [refs, init] at hd), (by intro l hl; simp [refs, init] at hl),
   (by intro d; simp [refs, init]), (by intro l; simp [refs, init, Store.leaf]; rfl),
   (by intro t ht c hc; simp [init] at ht; subst ht; cases hc)⟩

theorem run_ok {P : Params} (ops : List Op) {s : Store} (h : Inv P s) : StepOK P s (run P s ops) := by
  induction ops generalizing s with
  | nil => exact .refl h
  | cons op rest ih =>
    have h1 := step_ok h op
    exact h1.step (ih h1.inv).inv (ih h1.inv).le

end BbRe.Lemmas.Dir
