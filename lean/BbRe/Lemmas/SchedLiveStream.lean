import BbRe.Lemmas.SchedLiveFrame
/-!
What a segment does to client streams, as seen by one client `c`: the `msg`
events it appends for `c` and whether `c` has a parked stream before / after
(C02 `at_most_one_done`).
-/
namespace BbRe.Lemmas.SchedLive
open BbRe.Sched

/-- `e` is a `msg` event addressed to client `c` -/
def isMsgOf (c : Nat) : Event → Bool
  | .msg c' _ _ _ _ _ => c' == c
  | _ => false

/-- client `c` has a parked stream -/
def hasStream (s : State) (c : Nat) : Bool := s.streams.any (fun x => x.client = c)

/-- the segment is an `Execute` / `WaitExecution` call of client `c` -/
def isAttachOf (c : Nat) : Seg → Bool
  | .exec _ _ c' _ _ _ _ _ _ _ => c' == c
  | .wait _ _ c' _ => c' == c
  | _ => false

theorem isClientEv_of_isMsgOf {c : Nat} {e : Event} (h : isMsgOf c e = true) : isClientEv e = true := by
  cases e <;> first | rfl | cases h

theorem filter_msg_nonclient (c : Nat) (l : List Event) (h : ∀ e ∈ l, isClientEv e = false) :
    l.filter (isMsgOf c) = [] := by
  rw [List.filter_eq_nil_iff]
  intro e he hm
  cases (h e he).symm.trans (isClientEv_of_isMsgOf hm)

/-- Effect of a segment of client `c0` on all clients. -/
structure ClientEff (c0 : Nat) (s s' : State) : Prop where
  ev : ∃ new, s'.events = new ++ s.events ∧
        (∀ c, c ≠ c0 → new.filter (isMsgOf c) = []) ∧
        ((new.filter (isMsgOf c0) = [] ∧ (hasStream s' c0 = true → hasStream s c0 = true)) ∨
         (∃ o st code tok, new.filter (isMsgOf c0) = [.msg c0 o st true code tok] ∧ hasStream s' c0 = false) ∨
         (∃ o st, new.filter (isMsgOf c0) = [.msg c0 o st false 0 0] ∧ hasStream s' c0 = true))
  others : ∀ c, c ≠ c0 → hasStream s' c = hasStream s c

theorem ClientEff.after_frame {c0 : Nat} {a b c : State} (h1 : Frame a b) (h2 : ClientEff c0 b c) :
    ClientEff c0 a c := by
  obtain ⟨n1, e1, p1⟩ := h1.events
  obtain ⟨⟨n2, e2, q1, q2⟩, q3⟩ := h2
  have hs : ∀ x, hasStream b x = hasStream a x := by intro x; unfold hasStream; rw [h1.streams]
  refine ⟨⟨n2 ++ n1, by rw [e2, e1, List.append_assoc], ?_, ?_⟩, ?_⟩
  · intro x hx; rw [List.filter_append, q1 x hx, filter_msg_nonclient x n1 p1]; rfl
  · rw [List.filter_append, filter_msg_nonclient c0 n1 p1, List.append_nil, ← hs]; exact q2
  · intro x hx; rw [q3 x hx, hs]

theorem ClientEff.then_frame {c0 : Nat} {a b c : State} (h1 : ClientEff c0 a b) (h2 : Frame b c) :
    ClientEff c0 a c := by
  obtain ⟨n2, e2, p2⟩ := h2.events
  obtain ⟨⟨n1, e1, q1, q2⟩, q3⟩ := h1
  have hs : ∀ x, hasStream c x = hasStream b x := by intro x; unfold hasStream; rw [h2.streams]
  refine ⟨⟨n2 ++ n1, by rw [e2, e1, List.append_assoc], ?_, ?_⟩, ?_⟩
  · intro x hx; rw [List.filter_append, q1 x hx, filter_msg_nonclient x n2 p2]; rfl
  · rw [List.filter_append, filter_msg_nonclient c0 n2 p2, List.nil_append, hs]; exact q2
  · intro x hx; rw [hs, q3 x hx]

theorem any_filter_ne (l : List Stream) (c c0 : Nat) (h : c ≠ c0) :
    (l.filter (fun x => x.client ≠ c0)).any (fun x => x.client = c) = l.any (fun x => x.client = c) := by
  rw [Bool.eq_iff_iff]; simp only [List.any_eq_true, List.mem_filter, decide_eq_true_eq]
  constructor
  · rintro ⟨x, ⟨hx, _⟩, hc⟩; exact ⟨x, hx, hc⟩
  · rintro ⟨x, hx, hc⟩; exact ⟨x, ⟨hx, by rw [hc]; exact h⟩, hc⟩

theorem any_filter_self (l : List Stream) (c0 : Nat) :
    (l.filter (fun x => x.client ≠ c0)).any (fun x => x.client = c0) = false := by
  rw [Bool.eq_false_iff]; simp only [ne_eq, List.any_eq_true, List.mem_filter, decide_eq_true_eq, decide_not,
    Bool.not_eq_eq_eq_not, Bool.not_true, decide_eq_false_iff_not]
  rintro ⟨x, ⟨_, hx⟩, hc⟩; exact hx hc

theorem streamSend_eff {s s' : State} {c0 o : Nat} (hh : streamSend s c0 o = .ok s') : ClientEff c0 s s' := by
  obtain ⟨op, t, _, _, ⟨r, _, _, rfl⟩ | ⟨_, rfl⟩⟩ := streamSend_ok hh
  · refine ⟨⟨[.ret c0 cOK, .msg c0 o t.stage true r.code r.tok], by simp, ?_, .inr (.inl ⟨o, t.stage, r.code, r.tok, ?_, ?_⟩)⟩, ?_⟩
    · intro c hc; simp [isMsgOf, Ne.symm hc]
    · simp [isMsgOf]
    · simp only [hasStream, sendDone_streams]; exact any_filter_self _ _
    · intro c hc; simp only [hasStream, sendDone_streams]; exact any_filter_ne _ _ _ hc
  · refine ⟨⟨[.msg c0 o t.stage false 0 0], by simp, ?_, .inr (.inr ⟨o, t.stage, ?_, ?_⟩)⟩, ?_⟩
    · intro c hc; simp [isMsgOf, Ne.symm hc]
    · simp [isMsgOf]
    · simp [hasStream]
    · intro c hc; simp only [hasStream, sendPark_streams, List.any_cons]
      rw [any_filter_ne _ _ _ hc]; simp [Ne.symm hc]

theorem streamAttach_eff {s s' : State} {c0 o : Nat} (hh : streamAttach s c0 o = .ok s') : ClientEff c0 s s' := by
  obtain ⟨op, _, h1⟩ := streamAttach_ok hh
  exact ClientEff.after_frame (Frame.of_eq (s := s) (s' := attachS s o op) rfl rfl rfl rfl) (streamSend_eff h1)

theorem streamLeave_eff {s s' : State} {c0 code : Nat} (hh : streamLeave s c0 code = .ok s') : ClientEff c0 s s' := by
  obtain ⟨st, op, _, _, _, rfl⟩ := streamLeave_ok hh
  refine ⟨⟨[.ret c0 code], by simp, ?_, .inl ⟨by simp [isMsgOf], ?_⟩⟩, ?_⟩
  · intro c _; simp [isMsgOf]
  · simp only [hasStream, leaveS_streams]; rw [any_filter_self]; simp
  · intro c hc; simp only [hasStream, leaveS_streams]; exact any_filter_ne _ _ _ hc

theorem execArrive_eff {h : Hints} {s s' : State} {now c digest dkey : Nat} {dnc : Bool} {comps : List Nat}
    {platform : Nat} {inv : List Nat} {prio : Int}
    (hh : execArrive h s now c digest dkey dnc comps platform inv prio = .ok s') : ClientEff c s s' := by
  obtain ⟨s1, h1, h2 | h2 | h2⟩ := execArrive_ok hh
  · obtain ⟨tid, t, _, _, ⟨o, _, h3⟩ | ⟨_, h3⟩⟩ := h2
    · exact ClientEff.after_frame ((enter_frame h1).trans
        (Frame.of_ev (s := s1) (s' := emit s1 .selAbandoned) (ev := .selAbandoned) rfl rfl rfl rfl rfl)) (streamAttach_eff h3)
    · exact ClientEff.after_frame (((enter_frame h1).trans
        (Frame.of_ev (s := s1) (s' := emit s1 .selAbandoned) (ev := .selAbandoned) rfl rfl rfl rfl rfl)).trans
        (Frame.of_eq (s' := addOpS (emit s1 .selAbandoned) tid t inv prio) rfl rfl rfl rfl)) (streamAttach_eff h3)
  · obtain ⟨_, _, rfl⟩ := h2
    refine ClientEff.after_frame ((enter_frame h1).trans
      (Frame.of_ev (s := s1) (s' := emit s1 .selAbandoned) (ev := .selAbandoned) rfl rfl rfl rfl rfl)) ?_
    refine ⟨⟨[_], rfl, ?_, .inl ⟨by simp [isMsgOf], fun h => h⟩⟩, fun _ _ => rfl⟩
    intro c' _; simp [isMsgOf]
  · obtain ⟨_, pq, sc, s3, _, _, h3, h4⟩ := h2
    exact ClientEff.after_frame (((enter_frame h1).trans
      (Frame.of_ev (s := s1) (s' := newTaskS s1 digest dkey dnc ⟨pq.id, sc⟩ inv prio) (ev := .selSelect s1.nextLearner)
        (by simp) (by simp) (by simp) (by simp) rfl)).trans
        (schedule_frame h3)) (streamAttach_eff h4)

theorem waitArrive_eff {h : Hints} {s s' : State} {now c name : Nat}
    (hh : waitArrive h s now c name = .ok s') : ClientEff c s s' := by
  obtain ⟨s1, h1, ⟨_, rfl⟩ | ⟨op, _, h2⟩⟩ := waitArrive_ok hh
  · refine ClientEff.after_frame (enter_frame h1) ?_
    refine ⟨⟨[_], rfl, ?_, .inl ⟨by simp [isMsgOf], fun h => h⟩⟩, fun _ _ => rfl⟩
    intro c' _; simp [isMsgOf]
  · exact ClientEff.after_frame (enter_frame h1) (streamAttach_eff h2)

theorem streamWake_eff {h : Hints} {s s' : State} {now c reason : Nat}
    (hh : streamWake h s now c reason = .ok s') : ClientEff c s s' ∧ hasStream s c = true := by
  obtain ⟨s1, st, h1, h2, h3⟩ := streamWake_ok hh
  have hst : hasStream s c = true := by
    unfold hasStream; rw [← (enter_frame h1).streams]
    rw [List.any_eq_true]
    exact ⟨st, List.mem_of_find?_eq_some h2, by simpa using List.find?_some h2⟩
  refine ⟨ClientEff.after_frame (enter_frame h1) ?_, hst⟩
  rcases h3 with ⟨_, h3⟩ | ⟨_, _, h3⟩
  · exact streamLeave_eff h3
  · exact streamSend_eff h3

theorem ClientEff.of_sframe {c0 : Nat} {s s' : State} (h : SFrame s s') : ClientEff c0 s s' := by
  obtain ⟨new, e, p⟩ := h.events
  refine ⟨⟨new, e, fun c _ => filter_msg_nonclient c new p, .inl ⟨filter_msg_nonclient c0 new p, ?_⟩⟩, ?_⟩
  · unfold hasStream; rw [h.streams]; exact id
  · intro c _; unfold hasStream; rw [h.streams]

/-- **Per-segment client view.**  For every successful segment and every client `c` the segment
appends (i) no `msg` for `c`, and then it creates no parked stream for `c`; or (ii) exactly one
`msg` for `c`, marked `done`, and `c` has no parked stream afterwards; or (iii) exactly one `msg`
for `c`, not `done`, and `c` is parked afterwards.  Cases (ii)/(iii) only happen in an
`Execute`/`WaitExecution` segment of `c` itself or when `c` had a parked stream before. -/
theorem step_client {s s' : State} {g : Seg} (hstep : step s g = .ok s') (c : Nat) :
    ∃ new, s'.events = new ++ s.events ∧
      ((new.filter (isMsgOf c) = [] ∧ (hasStream s' c = true → hasStream s c = true)) ∨
       ((isAttachOf c g = true ∨ hasStream s c = true) ∧
        ((∃ o st code tok, new.filter (isMsgOf c) = [.msg c o st true code tok] ∧ hasStream s' c = false) ∨
         (∃ o st, new.filter (isMsgOf c) = [.msg c o st false 0 0] ∧ hasStream s' c = true)))) := by
  -- every segment is a `ClientEff` of some client `c0`, which is `c` only in the three stream segments
  have key : ∀ c0, ClientEff c0 s s' → (c0 = c → isAttachOf c g = true ∨ hasStream s c = true) →
      ∃ new, s'.events = new ++ s.events ∧
      ((new.filter (isMsgOf c) = [] ∧ (hasStream s' c = true → hasStream s c = true)) ∨
       ((isAttachOf c g = true ∨ hasStream s c = true) ∧
        ((∃ o st code tok, new.filter (isMsgOf c) = [.msg c o st true code tok] ∧ hasStream s' c = false) ∨
         (∃ o st, new.filter (isMsgOf c) = [.msg c o st false 0 0] ∧ hasStream s' c = true)))) := by
    intro c0 ⟨⟨new, e, q1, q2⟩, q3⟩ hc
    refine ⟨new, e, ?_⟩
    by_cases hcc : c = c0
    · subst hcc
      rcases q2 with q2 | q2 | q2
      · exact .inl q2
      · exact .inr ⟨hc rfl, .inl q2⟩
      · exact .inr ⟨hc rfl, .inr q2⟩
    · exact .inl ⟨q1 c hcc, by rw [q3 c hcc]; exact id⟩
  cases g with
  | exec h now c0 d dk dnc comps pf inv prio =>
    exact key c0 (execArrive_eff hstep) (fun e => .inl (by simp [isAttachOf, e]))
  | wait h now c0 name =>
    exact key c0 (waitArrive_eff hstep) (fun e => .inl (by simp [isAttachOf, e]))
  | streamWake h now c0 reason =>
    obtain ⟨h1, h2⟩ := streamWake_eff hstep
    exact key c0 h1 (fun e => .inr (e ▸ h2))
  | _ => exact key (c + 1) (ClientEff.of_sframe (step_sframe hstep rfl).1) (fun e => absurd e (by omega))

/-- no segment of the list is an `Execute` / `WaitExecution` call of client `c` -/
def noAttach (c : Nat) (gs : List Seg) : Prop := ∀ g ∈ gs, isAttachOf c g = false

/-- **Run-level corollary.**  Once client `c` has no parked stream, no run without a new
`Execute` / `WaitExecution` of `c` sends it any message, and `c` stays without a stream. -/
theorem run_no_msg {s : State} {c : Nat} (gs : List Seg) (hs : hasStream s c = false) (hg : noAttach c gs) :
    hasStream (run s gs) c = false ∧
    ∃ new, (run s gs).events = new ++ s.events ∧ new.filter (isMsgOf c) = [] := by
  induction gs generalizing s with
  | nil => exact ⟨hs, [], rfl, rfl⟩
  | cons g rest ih =>
    have hg' : noAttach c rest := fun x hx => hg x (List.mem_cons_of_mem _ hx)
    unfold run
    split
    · rename_i s1 h1
      obtain ⟨new, e, h2 | ⟨h2, _⟩⟩ := step_client h1 c
      · have hs1 : hasStream s1 c = false := by
          cases hb : hasStream s1 c with
          | false => rfl
          | true => rw [h2.2 hb] at hs; cases hs
        obtain ⟨i1, new2, e2, i2⟩ := ih hs1 hg'
        exact ⟨i1, new2 ++ new, by rw [e2, e, List.append_assoc], by rw [List.filter_append, i2, h2.1]; rfl⟩
      · rcases h2 with h2 | h2
        · rw [hg g (List.mem_cons_self ..)] at h2; cases h2
        · rw [hs] at h2; cases h2
    · exact ih hs hg'

end BbRe.Lemmas.SchedLive
