import BbRe.Lemmas.SchedTreePrioFixPrim
/-!
Tree-level reading of `PrioFix`: on the snapshot (`Fair.Inv`) of a node list in which every non-root
invocation's cached priority is a fixpoint of `updateFirstOperationPriority`, every invocation below the root
caches its TRUE priority (`TrueDefs.truthful`): the least priority of its directly queued operations, or else
the cached priority of the queued child the heap order puts first.  The definitions do not depend on the order
in which the snapshot lists `ops` / `queued`.
-/
namespace BbRe.Lemmas.SchedTree
open BbRe.Sched BbRe.SchedTree

namespace TrueDefs
open BbRe

/-- the queued child `updateFirstOperationPriority` reads: the first of the children listed in `queued` that no
other listed child is `Fair.childLess` than (any heap root is such a child) -/
def firstKid (c : Fair.Inv) : Option Fair.Inv :=
  let ks := c.queued.filterMap (fun k => c.child k)
  match ks.find? (fun g => ks.all (fun g' => !Fair.childLess g' g)) with
  | some g => some g
  | none => ks.head?

/-- the priority of the operation expected to be executed next below `c` -/
def truePrio (c : Fair.Inv) : Int :=
  if !c.ops.isEmpty then minPrio (c.ops.map (·.prio))
  else match firstKid c with
    | some g => g.prio
    | none => c.prio

mutual
/-- every invocation below the root caches its true priority -/
def truthful : Fair.Inv → Bool
  | .mk _ _ _ _ _ _ _ _ _ kids => kids.all (fun c => c.prio == truePrio c) && truthfulL kids
def truthfulL : List Fair.Inv → Bool
  | [] => true
  | c :: cs => truthful c && truthfulL cs
end

/-! ### the reading of `truthful` -/

mutual
/-- the operations queued at or below an invocation: its own and, recursively, those of the children listed in
`queued` -/
def allOps : Fair.Inv → List Fair.Op
  | .mk _ ops queued _ _ _ _ _ _ kids => ops ++ allOpsL queued kids
def allOpsL (queued : List Nat) : List Fair.Inv → List Fair.Op
  | [] => []
  | c :: cs => (if queued.contains c.key then allOps c else []) ++ allOpsL queued cs
end

mutual
/-- every key listed in `queued` is the key of a child (`i.children[k]`) that is itself queued -/
def queuedLive : Fair.Inv → Bool
  | .mk _ _ queued _ _ _ _ _ _ kids =>
    queued.all (fun k => (kids.find? (fun c => c.key == k)).any Fair.Inv.isQueued) && queuedLiveL kids
def queuedLiveL : List Fair.Inv → Bool
  | [] => true
  | c :: cs => queuedLive c && queuedLiveL cs
end

/-- `c` is an invocation strictly below `t` -/
inductive Below : Fair.Inv → Fair.Inv → Prop
  | kid {t c : Fair.Inv} : c ∈ t.kids → Below t c
  | step {t c d : Fair.Inv} : c ∈ t.kids → Below c d → Below t d

end TrueDefs

open TrueDefs

/-! ### unfolding -/

theorem truthfulL_eq (cs : List Fair.Inv) : truthfulL cs = cs.all truthful := by
  induction cs with
  | nil => rfl
  | cons c cs ih => rw [truthfulL, ih, List.all_cons]

theorem truthful_eq (i : Fair.Inv) :
    truthful i = (i.kids.all (fun c => c.prio == truePrio c) && i.kids.all truthful) := by
  cases i with
  | mk k ops q p e s pk pkk c kids => rw [truthful, truthfulL_eq]; rfl

/-! ### what `firstKid` / `truePrio` read -/

/-- what `Fair.childLess` reads of a snapshot node -/
def ckI (g : Fair.Inv) : CK := (g.exec, g.prio, g.started)

theorem fairChildLess_ck (a b : Fair.Inv) : Fair.childLess a b = lessK (ckI a) (ckI b) := rfl

theorem firstKid_ck (c : Fair.Inv) :
    (firstKid c).map ckI = bestK ((c.queued.filterMap (fun k => c.child k)).map ckI) := by
  unfold firstKid bestK
  simp only []
  rw [List.find?_map, List.head?_map]
  have : ((fun g => ((c.queued.filterMap (fun k => c.child k)).map ckI).all (fun g' => !lessK g' g)) ∘ ckI) =
      (fun g => (c.queued.filterMap (fun k => c.child k)).all (fun g' => !Fair.childLess g' g)) := by
    funext g
    simp only [Function.comp, List.all_map, fairChildLess_ck]
    rfl
  rw [this]
  cases (c.queued.filterMap (fun k => c.child k)).find?
      (fun g => (c.queued.filterMap (fun k => c.child k)).all (fun g' => !Fair.childLess g' g)) with
  | none => rfl
  | some g => rfl

/-- `truePrio` as a function of the operations' priorities, the cache and the listed children's `ckI` -/
theorem truePrio_eq (c : Fair.Inv) :
    truePrio c = if !c.ops.isEmpty then minPrio (c.ops.map (·.prio))
      else match bestK ((c.queued.filterMap (fun k => c.child k)).map ckI) with
        | some x => x.2.1
        | none => c.prio := by
  unfold truePrio
  split
  · rfl
  · rw [← firstKid_ck]
    cases firstKid c with
    | none => rfl
    | some g => rfl

/-! ### `childKeys`, `maxDepth` -/

theorem mem_childKeys {ns : List Node} {q : ScqId} {p : List Nat} {k : Nat} :
    k ∈ childKeys ns q p ↔ ∃ m ∈ ns, m.scq = q ∧ m.path = p ++ [k] := by
  unfold childKeys
  simp only [List.mem_map, List.mem_filter, Bool.and_eq_true, decide_eq_true_eq, List.isPrefixOf_iff_prefix]
  constructor
  · rintro ⟨m, ⟨hm, ⟨hq, hl⟩, hp⟩, hk⟩
    refine ⟨m, hm, hq, ?_⟩
    obtain ⟨t, ht⟩ := hp
    rw [← ht] at hl hk ⊢
    rw [List.length_append] at hl
    match t, hl, hk with
    | [x], _, hk => rw [lastKey_snoc] at hk; rw [hk]
    | [], hl, _ => simp at hl
    | _ :: _ :: _, hl, _ => simp at hl
  · rintro ⟨m, hm, hq, hp⟩
    refine ⟨m, ⟨hm, ⟨hq, ?_⟩, ?_⟩, ?_⟩
    · rw [hp]; simp
    · rw [hp]; exact List.prefix_append _ _
    · rw [hp, lastKey_snoc]

theorem mem_childKeys_iff_node {ns : List Node} {q : ScqId} {p : List Nat} {k : Nat} :
    k ∈ childKeys ns q p ↔ (node? ns q (p ++ [k])).isSome = true := by
  rw [mem_childKeys, node?_isSome_iff]

theorem foldl_maxDepth_ge (q : ScqId) : ∀ (ns : List Node) (d : Nat),
    d ≤ ns.foldl (fun d n => if n.scq = q then max d n.path.length else d) d ∧
    ∀ n ∈ ns, n.scq = q → n.path.length ≤ ns.foldl (fun d n => if n.scq = q then max d n.path.length else d) d
  | [], d => ⟨Nat.le_refl _, fun _ h => by cases h⟩
  | a :: l, d => by
    rw [List.foldl_cons]
    have ih := foldl_maxDepth_ge q l (if a.scq = q then max d a.path.length else d)
    constructor
    · refine Nat.le_trans ?_ ih.1
      split
      · exact Nat.le_max_left _ _
      · exact Nat.le_refl _
    · intro n hn hq
      rcases List.mem_cons.mp hn with e | hm
      · refine Nat.le_trans ?_ ih.1
        rw [← e, if_pos hq]
        exact Nat.le_max_right _ _
      · exact ih.2 n hm hq

theorem length_le_maxDepth {ns : List Node} {q : ScqId} {n : Node} (hn : n ∈ ns) (hq : n.scq = q) :
    n.path.length ≤ maxDepth ns q :=
  (foldl_maxDepth_ge q ns 0).2 n hn hq

/-! ### fields of `toInv` -/

theorem toInv_fields {opOf : Nat → Fair.Op} {enc : WId → Nat} {ns : List Node} {q : ScqId} {p : List Nat} {n : Node}
    (h : node? ns q p = some n) (fuel : Nat) :
    (toInv opOf enc ns q fuel p).ops = n.qops.map opOf ∧ (toInv opOf enc ns q fuel p).queued = n.qkids ∧
    (toInv opOf enc ns q fuel p).prio = n.prio ∧ ckI (toInv opOf enc ns q fuel p) = ck n := by
  cases fuel with
  | zero => simp only [toInv, h]; exact ⟨rfl, rfl, rfl, rfl⟩
  | succ f => simp only [toInv, h]; exact ⟨rfl, rfl, rfl, rfl⟩

theorem toInv_key (opOf : Nat → Fair.Op) (enc : WId → Nat) (ns : List Node) (q : ScqId) (p : List Nat) (fuel : Nat) :
    (toInv opOf enc ns q fuel p).key = lastKey p := by
  cases fuel with
  | zero => simp only [toInv]; cases node? ns q p <;> rfl
  | succ f => simp only [toInv]; cases node? ns q p <;> rfl

theorem toInv_kids {opOf : Nat → Fair.Op} {enc : WId → Nat} {ns : List Node} {q : ScqId} {p : List Nat} {n : Node}
    (h : node? ns q p = some n) (f : Nat) :
    (toInv opOf enc ns q (f + 1) p).kids = (childKeys ns q p).map (fun k => toInv opOf enc ns q f (p ++ [k])) := by
  simp only [toInv, h]; rfl

theorem toInv_kids_none {opOf : Nat → Fair.Op} {enc : WId → Nat} {ns : List Node} {q : ScqId} {p : List Nat}
    (h : node? ns q p = none) (fuel : Nat) : (toInv opOf enc ns q fuel p).kids = [] := by
  cases fuel with
  | zero => simp only [toInv, h]; rfl
  | succ f => simp only [toInv, h]; rfl

theorem toInv_kids_zero (opOf : Nat → Fair.Op) (enc : WId → Nat) (ns : List Node) (q : ScqId) (p : List Nat) :
    (toInv opOf enc ns q 0 p).kids = [] := by
  simp only [toInv]; cases node? ns q p <;> rfl

theorem find?_eq_self (k : Nat) : ∀ (l : List Nat), l.find? (fun k' => k' == k) = if k ∈ l then some k else none
  | [] => rfl
  | a :: l => by
    rw [List.find?_cons]
    by_cases h : a = k
    · subst h; simp
    · have : (a == k) = false := by simpa using h
      rw [this, find?_eq_self k l]
      have : (k ∈ a :: l) ↔ k ∈ l := by
        rw [List.mem_cons]; constructor
        · rintro (e | e); exact absurd e.symm h; exact e
        · exact Or.inr
      simp only [this]

/-- `i.children[k]` on the snapshot: the snapshot of the node at `p ++ [k]`, exactly when that node exists -/
theorem toInv_child {opOf : Nat → Fair.Op} {enc : WId → Nat} {ns : List Node} {q : ScqId} {p : List Nat} {n : Node}
    (h : node? ns q p = some n) (f : Nat) (k : Nat) :
    (toInv opOf enc ns q (f + 1) p).child k =
      (node? ns q (p ++ [k])).map (fun _ => toInv opOf enc ns q f (p ++ [k])) := by
  unfold Fair.Inv.child
  rw [toInv_kids h, List.find?_map]
  have : ((fun c : Fair.Inv => c.key == k) ∘ fun k' => toInv opOf enc ns q f (p ++ [k'])) = fun k' => k' == k := by
    funext k'
    simp only [Function.comp, toInv_key, lastKey_snoc]
  rw [this, find?_eq_self]
  by_cases hk : k ∈ childKeys ns q p
  · rw [if_pos hk]
    obtain ⟨c, hc⟩ := Option.isSome_iff_exists.mp (mem_childKeys_iff_node.mp hk)
    rw [hc]; rfl
  · rw [if_neg hk]
    have : node? ns q (p ++ [k]) = none := by
      cases hc : node? ns q (p ++ [k]) with
      | none => rfl
      | some c => exact absurd (mem_childKeys_iff_node.mpr (by rw [hc]; rfl)) hk
    rw [this]; rfl

/-- the listed children of the snapshot node, as `updateFirstOperationPriority` sees them, are those of the flat node -/
theorem toInv_kidsK {opOf : Nat → Fair.Op} {enc : WId → Nat} {ns : List Node} {q : ScqId} {p : List Nat} {n : Node}
    (h : node? ns q p = some n) (f : Nat) :
    ((toInv opOf enc ns q (f + 1) p).queued.filterMap (fun k => (toInv opOf enc ns q (f + 1) p).child k)).map ckI =
      kidsK ns n := by
  obtain ⟨_, hq, hp⟩ := node?_some h
  unfold kidsK
  rw [List.map_filterMap, (toInv_fields h (f + 1)).2.1]
  apply filterMap_congr'
  intro k _
  rw [toInv_child h, hq, hp]
  unfold ckAt
  cases hc : node? ns q (p ++ [k]) with
  | none => rfl
  | some c =>
    simp only [Option.map_some]
    rw [(toInv_fields hc f).2.2.2]

/-- the true priority of a snapshot node that still has its children is what `updateFirstOperationPriority` stores -/
theorem truePrio_toInv {pr : Nat → Int} {opOf : Nat → Fair.Op} {enc : WId → Nat} {ns : List Node} {q : ScqId}
    {p : List Nat} {n : Node} (hop : ∀ o, (opOf o).prio = pr o) (h : node? ns q p = some n) (f : Nat) :
    truePrio (toInv opOf enc ns q (f + 1) p) = (updPrio pr ns n).prio := by
  rw [truePrio_eq, updPrio_prio, toInv_kidsK h f]
  obtain ⟨ho, _, hpr, _⟩ := toInv_fields (opOf := opOf) (enc := enc) h (f + 1)
  rw [ho, hpr]
  unfold upval
  have e1 : (n.qops.map opOf).isEmpty = n.qops.isEmpty := by cases n.qops <;> rfl
  have e2 : (n.qops.map opOf).map (·.prio) = n.qops.map pr := by
    rw [List.map_map]; apply List.map_congr_left; intro o _; exact hop o
  rw [e1, e2]
  split
  · rfl
  · cases bestK (kidsK ns n) with
    | none => rfl
    | some x => rfl

/-! ### the snapshot is truthful -/

theorem truthful_toInv {pr : Nat → Int} {ns : List Node} {opOf : Nat → Fair.Op} {enc : WId → Nat} (q : ScqId)
    (hf : PrioFix pr ns) (hop : ∀ o, (opOf o).prio = pr o) :
    ∀ (fuel : Nat) (p : List Nat), maxDepth ns q + 1 ≤ fuel + p.length →
      truthful (toInv opOf enc ns q fuel p) = true
  | 0, p, _ => by rw [truthful_eq, toInv_kids_zero]; rfl
  | f + 1, p, hd => by
    rw [truthful_eq]
    cases h : node? ns q p with
    | none => rw [toInv_kids_none h]; rfl
    | some n =>
      rw [toInv_kids h, List.all_map, List.all_map, Bool.and_eq_true, List.all_eq_true, List.all_eq_true]
      have key : ∀ k ∈ childKeys ns q p,
          ((toInv opOf enc ns q f (p ++ [k])).prio == truePrio (toInv opOf enc ns q f (p ++ [k]))) = true ∧
          truthful (toInv opOf enc ns q f (p ++ [k])) = true := by
        intro k hk
        have hd' : maxDepth ns q + 1 ≤ f + (p ++ [k]).length := by
          rw [List.length_append, List.length_singleton]; omega
        refine ⟨?_, truthful_toInv q hf hop f (p ++ [k]) hd'⟩
        obtain ⟨c, hc⟩ := Option.isSome_iff_exists.mp (mem_childKeys_iff_node.mp hk)
        obtain ⟨hcm, hcq, hcp⟩ := node?_some hc
        have hlen := length_le_maxDepth hcm hcq
        rw [hcp, List.length_append, List.length_singleton] at hlen
        obtain ⟨f', rfl⟩ : ∃ f', f = f' + 1 := ⟨f - 1, by omega⟩
        rw [truePrio_toInv hop hc f', (toInv_fields hc (f' + 1)).2.2.1, hf c hcm (by rw [hcp]; simp)]
        exact beq_self_eq_true _
      exact ⟨fun k hk => (key k hk).1, fun k hk => (key k hk).2⟩

theorem truthful_snapshot {pr : Nat → Int} {ns : List Node} {opOf : Nat → Fair.Op} (q : ScqId)
    (hf : PrioFix pr ns) (hs : StructOK ns) (hop : ∀ o, (opOf o).prio = pr o) :
    TrueDefs.truthful (snapshot opOf ns q) = true := by
  -- `hs` is not needed here; it is part of the statement because callers pass it alongside `queuedLive_snapshot`
  have _ := hs
  unfold snapshot
  exact truthful_toInv q hf hop _ _ (by simp)

/-! ### the reading of `truthful`: the cache of a queued invocation is the priority of an operation queued at or
below it -/

theorem minPrio_spec : ∀ (l : List Int), l ≠ [] → minPrio l ∈ l ∧ ∀ x ∈ l, minPrio l ≤ x
  | [], h => absurd rfl h
  | [a], _ => by simp [minPrio]
  | a :: b :: r, _ => by
    have ih := minPrio_spec (b :: r) (List.cons_ne_nil _ _)
    have e : minPrio (a :: b :: r) = min a (minPrio (b :: r)) := by rw [minPrio]; simp
    rw [e]
    constructor
    · by_cases h : a ≤ minPrio (b :: r)
      · rw [Int.min_eq_left h]; exact List.mem_cons_self
      · rw [Int.min_eq_right (by omega)]; exact List.mem_cons_of_mem _ ih.1
    · intro x hx
      rcases List.mem_cons.mp hx with e | hm
      · rw [e]; exact Int.min_le_left _ _
      · exact Int.le_trans (Int.min_le_right _ _) (ih.2 x hm)

theorem allOpsL_mem {qd : List Nat} {o : Fair.Op} : ∀ {cs : List Fair.Inv},
    o ∈ allOpsL qd cs ↔ ∃ c ∈ cs, qd.contains c.key = true ∧ o ∈ allOps c
  | [] => by simp [allOpsL]
  | a :: cs => by
    rw [allOpsL, List.mem_append, allOpsL_mem (cs := cs)]
    constructor
    · rintro (h | ⟨c, hc, h⟩)
      · split at h
        · exact ⟨a, List.mem_cons_self, ‹_›, h⟩
        · cases h
      · exact ⟨c, List.mem_cons_of_mem _ hc, h⟩
    · rintro ⟨c, hc, hk, ho⟩
      rcases List.mem_cons.mp hc with e | hm
      · left; rw [← e, if_pos hk]; exact ho
      · exact Or.inr ⟨c, hm, hk, ho⟩

theorem allOps_mem {i : Fair.Inv} {o : Fair.Op} :
    o ∈ allOps i ↔ o ∈ i.ops ∨ ∃ c ∈ i.kids, i.queued.contains c.key = true ∧ o ∈ allOps c := by
  cases i with
  | mk k ops q p e s pk pkk c kids => rw [allOps, List.mem_append, allOpsL_mem]; rfl

theorem queuedLiveL_eq (cs : List Fair.Inv) : queuedLiveL cs = cs.all queuedLive := by
  induction cs with
  | nil => rfl
  | cons c cs ih => rw [queuedLiveL, ih, List.all_cons]

theorem queuedLive_eq (i : Fair.Inv) :
    queuedLive i = (i.queued.all (fun k => (i.child k).any Fair.Inv.isQueued) && i.kids.all queuedLive) := by
  cases i with
  | mk k ops q p e s pk pkk c kids => rw [queuedLive, queuedLiveL_eq]; rfl

theorem firstKid_mem {c g : Fair.Inv} (h : firstKid c = some g) : g ∈ c.queued.filterMap (fun k => c.child k) := by
  unfold firstKid at h
  simp only [] at h
  split at h
  · rename_i g' hg'
    cases h
    exact List.mem_of_find?_eq_some hg'
  · obtain ⟨ys, hy⟩ := List.head?_eq_some_iff.mp h
    rw [hy]; exact List.mem_cons_self

theorem firstKid_isSome {c : Fair.Inv} (h : c.queued.filterMap (fun k => c.child k) ≠ []) :
    ∃ g, firstKid c = some g := by
  unfold firstKid
  simp only []
  split
  · exact ⟨_, rfl⟩
  · obtain ⟨g, ys, hy⟩ := List.exists_cons_of_ne_nil h
    exact ⟨g, by rw [hy]; rfl⟩

theorem mem_of_child {c g : Fair.Inv} {k : Nat} (h : c.child k = some g) : g ∈ c.kids ∧ g.key = k := by
  unfold Fair.Inv.child at h
  exact ⟨List.mem_of_find?_eq_some h, by simpa using List.find?_some h⟩

/-- for the operations queued directly at `c`: the cache is the least of their priorities -/
theorem truthful_ops {t c : Fair.Inv} (ht : truthful t = true) (hc : c ∈ t.kids) (ho : c.ops ≠ []) :
    (∃ o ∈ c.ops, o.prio = c.prio) ∧ ∀ o ∈ c.ops, c.prio ≤ o.prio := by
  rw [truthful_eq, Bool.and_eq_true, List.all_eq_true] at ht
  have hcp : c.prio = truePrio c := by simpa using ht.1 c hc
  have he : c.ops.isEmpty = false := by cases hh : c.ops with
    | nil => exact absurd hh ho
    | cons _ _ => rfl
  have htp : truePrio c = minPrio (c.ops.map (·.prio)) := by
    unfold truePrio; rw [he]; rfl
  have hm := minPrio_spec (c.ops.map (·.prio)) (by simpa using ho)
  rw [← htp, ← hcp] at hm
  constructor
  · obtain ⟨o, ho1, ho2⟩ := List.mem_map.mp hm.1
    exact ⟨o, ho1, ho2⟩
  · intro o hom
    exact hm.2 _ (List.mem_map.mpr ⟨o, hom, rfl⟩)

theorem sizeOf_lt_of_mem_kids {t c : Fair.Inv} (hc : c ∈ t.kids) : sizeOf c < sizeOf t := by
  cases t with
  | mk k ops q p e s pk pkk cc kids =>
    have := List.sizeOf_lt_of_mem (show c ∈ kids from hc)
    simp only [Fair.Inv.mk.sizeOf_spec]
    omega

theorem truthful_reading_aux : ∀ (n : Nat) (t : Fair.Inv), sizeOf t ≤ n → truthful t = true → queuedLive t = true →
    ∀ c ∈ t.kids, c.isQueued = true → ∃ o ∈ allOps c, o.prio = c.prio := by
  intro n
  induction n with
  | zero =>
    intro t hn _ _ c hc _
    have := sizeOf_lt_of_mem_kids hc
    omega
  | succ n ih =>
  intro t hn ht hl c hc hq
  by_cases ho : c.ops = []
  · have ht' := ht
    have hl' := hl
    rw [truthful_eq, Bool.and_eq_true, List.all_eq_true, List.all_eq_true] at ht'
    rw [queuedLive_eq, Bool.and_eq_true, List.all_eq_true, List.all_eq_true] at hl'
    have hcp : c.prio = truePrio c := by simpa using ht'.1 c hc
    have hlc := hl'.2 c hc
    have hlc' := hlc
    rw [queuedLive_eq, Bool.and_eq_true, List.all_eq_true] at hlc'
    have hqd : c.queued ≠ [] := by
      unfold Fair.Inv.isQueued at hq; rw [ho] at hq
      intro e; rw [e] at hq; simp at hq
    obtain ⟨k, rest, hk⟩ := List.exists_cons_of_ne_nil hqd
    have hk1 := hlc'.1 k (by rw [hk]; exact List.mem_cons_self)
    have hks : c.queued.filterMap (fun k => c.child k) ≠ [] := by
      rw [hk, List.filterMap_cons]
      cases hck : c.child k with
      | none => rw [hck] at hk1; simp at hk1
      | some g0 => simp
    obtain ⟨g, hg⟩ := firstKid_isSome hks
    have htp : truePrio c = g.prio := by
      unfold truePrio; rw [ho, hg]; rfl
    obtain ⟨k', hk', hgc⟩ := List.mem_filterMap.mp (firstKid_mem hg)
    obtain ⟨hgm, hgk⟩ := mem_of_child hgc
    have hgq : g.isQueued = true := by
      have := hlc'.1 k' hk'
      rw [hgc] at this; simpa using this
    obtain ⟨o, ho1, ho2⟩ := ih c (by have := sizeOf_lt_of_mem_kids hc; omega) (ht'.2 c hc) hlc g hgm hgq
    refine ⟨o, allOps_mem.mpr (Or.inr ⟨g, hgm, ?_, ho1⟩), by rw [ho2, hcp, htp]⟩
    rw [hgk]; simpa using hk'
  · obtain ⟨o, ho1, ho2⟩ := (truthful_ops ht hc ho).1
    exact ⟨o, allOps_mem.mpr (Or.inl ho1), ho2⟩

/-- the cache of a queued child of the root of a truthful tree is the priority of an operation queued at or below it -/
theorem truthful_reading_kid (t : Fair.Inv) (ht : truthful t = true) (hl : queuedLive t = true) :
    ∀ c ∈ t.kids, c.isQueued = true → ∃ o ∈ allOps c, o.prio = c.prio :=
  truthful_reading_aux (sizeOf t) t (Nat.le_refl _) ht hl

theorem truthful_of_mem {t c : Fair.Inv} (ht : truthful t = true) (hc : c ∈ t.kids) : truthful c = true := by
  rw [truthful_eq, Bool.and_eq_true, List.all_eq_true, List.all_eq_true] at ht
  exact ht.2 c hc

theorem queuedLive_of_mem {t c : Fair.Inv} (ht : queuedLive t = true) (hc : c ∈ t.kids) : queuedLive c = true := by
  rw [queuedLive_eq, Bool.and_eq_true, List.all_eq_true, List.all_eq_true] at ht
  exact ht.2 c hc

/-- THE READING: in a truthful tree (whose `queued` lists name queued children), the cache of every invocation `c`
below the root that has queued work is the priority of an operation queued at or below `c`; when operations are
queued directly at `c`, it is the least of their priorities. -/
theorem truthful_reading {t c : Fair.Inv} (hb : Below t c) (ht : truthful t = true) (hl : queuedLive t = true) :
    (c.isQueued = true → ∃ o ∈ allOps c, o.prio = c.prio) ∧
    (c.ops ≠ [] → (∃ o ∈ c.ops, o.prio = c.prio) ∧ ∀ o ∈ c.ops, c.prio ≤ o.prio) := by
  induction hb with
  | kid hc => exact ⟨truthful_reading_kid _ ht hl _ hc, truthful_ops ht hc⟩
  | step hc _ ih => exact ih (truthful_of_mem ht hc) (queuedLive_of_mem hl hc)

/-! ### the snapshot's `queued` lists name queued children (`StructOK`) -/

theorem toInv_isQueued {opOf : Nat → Fair.Op} {enc : WId → Nat} {ns : List Node} {q : ScqId} {p : List Nat} {n : Node}
    (h : node? ns q p = some n) (fuel : Nat) : (toInv opOf enc ns q fuel p).isQueued = n.isQueued := by
  obtain ⟨ho, hq, _, _⟩ := toInv_fields (opOf := opOf) (enc := enc) h fuel
  unfold Fair.Inv.isQueued Node.isQueued
  rw [ho, hq]
  cases n.qops <;> rfl

theorem toInv_queued_none {opOf : Nat → Fair.Op} {enc : WId → Nat} {ns : List Node} {q : ScqId} {p : List Nat}
    (h : node? ns q p = none) (fuel : Nat) : (toInv opOf enc ns q fuel p).queued = [] := by
  cases fuel with
  | zero => simp only [toInv, h]; rfl
  | succ f => simp only [toInv, h]; rfl

theorem queuedLive_toInv {ns : List Node} {opOf : Nat → Fair.Op} {enc : WId → Nat} (q : ScqId) (hs : StructOK ns) :
    ∀ (fuel : Nat) (p : List Nat), maxDepth ns q + 1 ≤ fuel + p.length →
      queuedLive (toInv opOf enc ns q fuel p) = true := by
  intro fuel
  induction fuel with
  | zero =>
    intro p hd
    rw [queuedLive_eq, Bool.and_eq_true, List.all_eq_true, List.all_eq_true, toInv_kids_zero]
    refine ⟨?_, fun _ hk => (by cases hk)⟩
    cases h : node? ns q p with
    | none => rw [toInv_queued_none h]; exact fun _ hk => (by cases hk)
    | some n =>
      obtain ⟨hn, hnq, hnp⟩ := node?_some h
      -- no node of queue `q` is as deep as a child of `n` would be
      rw [(toInv_fields h 0).2.1]
      intro k hk
      obtain ⟨c, hc, _⟩ := hs.2 n hn k hk
      rw [hnq, hnp] at hc
      obtain ⟨hcm, hcq, hcp⟩ := node?_some hc
      have hlen := length_le_maxDepth hcm hcq
      rw [hcp, List.length_append, List.length_singleton] at hlen
      omega
  | succ f ih =>
    intro p hd
    rw [queuedLive_eq, Bool.and_eq_true, List.all_eq_true, List.all_eq_true]
    cases h : node? ns q p with
    | none =>
      rw [toInv_queued_none h, toInv_kids_none h]
      exact ⟨fun _ hk => (by cases hk), fun _ hk => (by cases hk)⟩
    | some n =>
      obtain ⟨hn, hnq, hnp⟩ := node?_some h
      constructor
      · intro k hk
        rw [(toInv_fields h (f + 1)).2.1] at hk
        obtain ⟨c, hc, hcq⟩ := hs.2 n hn k hk
        rw [hnq, hnp] at hc
        rw [toInv_child h, hc]
        simp only [Option.map_some, Option.any_some]
        rw [toInv_isQueued hc, hcq]
      · intro g hg
        rw [toInv_kids h] at hg
        obtain ⟨k, _, rfl⟩ := List.mem_map.mp hg
        exact ih (p ++ [k]) (by rw [List.length_append, List.length_singleton]; omega)

theorem queuedLive_snapshot {ns : List Node} {opOf : Nat → Fair.Op} (q : ScqId) (hs : StructOK ns) :
    TrueDefs.queuedLive (snapshot opOf ns q) = true := by
  unfold snapshot
  exact queuedLive_toInv q hs _ _ (by simp)

/-- the reading on the snapshot of a node list satisfying `PrioFix` -/
theorem snapshot_reading {pr : Nat → Int} {ns : List Node} {opOf : Nat → Fair.Op} (q : ScqId)
    (hf : PrioFix pr ns) (hs : StructOK ns) (hop : ∀ o, (opOf o).prio = pr o) {c : Fair.Inv}
    (hb : TrueDefs.Below (snapshot opOf ns q) c) :
    (c.isQueued = true → ∃ o ∈ TrueDefs.allOps c, o.prio = c.prio) ∧
    (c.ops ≠ [] → (∃ o ∈ c.ops, o.prio = c.prio) ∧ ∀ o ∈ c.ops, c.prio ≤ o.prio) :=
  truthful_reading hb (truthful_snapshot q hf hs hop) (queuedLive_snapshot q hs)

end BbRe.Lemmas.SchedTree
