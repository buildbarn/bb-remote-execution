import BbRe.Lemmas.FileRefInv
import BbRe.Lemmas.FileRefRel
/-!
`inv_init`, then the invariant under the body of a mutating call (`Inv.after_perform`,
`Inv.after_mutBody`, with `MutOk` for what the call needs), under `VirtualClose` (`Inv.dropBits`) and
under `Link`/`Unlink` (`Inv.relink_layered`, `Inv.relink_bare`); then `Step.inv`, the case analysis of the
relation `Step` (`Lemmas/FileRefRel.lean`) that sends each kind of step to the lemma about its
primitive, with `inv_step` and `inv_reachable`.
-/
namespace BbRe.Lemmas.FileRef
open BbRe.FileRef

theorem baseLinks_pos_of_link {s : State} (hl : 0 < s.linkCount) : 0 < baseLinks s := by
  unfold baseLinks
  split
  · simp
  · exact hl

theorem Inv.refs_pos_of_desc {s : State} (h : Inv s) (hd : 0 < s.rd + s.wr) : 0 < s.refs := by
  have := h.refsEq; omega

theorem Inv.refs_pos_of_link {s : State} (h : Inv s) (hl : 0 < s.linkCount) : 0 < s.refs := by
  have := h.refsEq; have := baseLinks_pos_of_link hl; omega

theorem inv_init (checked layered exec : Bool) (size : Nat) (m : Mask) :
    Inv (init checked layered exec size m) := by
  refine ⟨rfl, ?_, ?_, ?_, rfl, PcInv.init _ _, ?_, ?_⟩
  rotate_left 3
  · intro d hd; cases hd
  · intro e he; cases he
  · show 1 + m.count = (if layered then (if 1 > 0 then 1 else 0) else 1) + (0 + b2n m.r) + (0 + b2n m.w) + 0 + 0
    unfold Mask.count
    cases layered <;> simp <;> omega
  · show 0 + b2n m.w = 0 + b2n m.w
    rfl
  · show false = true ↔ 1 + m.count = 0
    simp

/-- States that differ only in fields the invariant does not mention. -/
theorem Inv.light {s : State} (h : Inv s) (exec : Bool) (chg wf : Nat) (tf rf : Bool) (fired : Nat → Bool) :
    Inv { s with exec := exec, changeID := chg, wfault := wf, tfault := tf, rfault := rf, fired := fired } :=
  ⟨h.noPanic, h.refsEq, h.writersEq, h.closedIff, h.closesEq, h.pcs, h.cachedOk, h.casOk⟩

/-- The contents change while nobody holds the file frozen (`cachedDigest` is reset). -/
theorem Inv.bytesChange {s : State} (h : Inv s) (hf : s.frozen = 0) (b' : Bytes) (c : Nat) :
    Inv { s with bytes := b', cached := none, changeID := c } := by
  refine ⟨h.noPanic, h.refsEq, h.writersEq, h.closedIff, h.closesEq, ?_, ?_, h.casOk⟩
  · have := h.pcs
    rw [hf] at this
    show PcInv s.pc s.frozen s.writers b'
    rw [hf]
    exact this.bytes_change _
  · intro d hd; cases hd

/-- What a mutating call needs when it performs its change: nothing in the current code,
the caller contract in the code before fix 17054c0.  This is the model's
`s.checked || mutContract s op` (the `mbegin`/`mwake` cases of `legal`) as a proposition: `legal_mut`. -/
def MutOk (s : State) (op : MutOp) : Prop :=
  s.checked = true ∨
    ((op.needsDescriptor = true → 0 < s.rd + s.wr) ∧
     (∀ n x, op = .setattr n x → 0 < s.rd + s.wr ∨ 0 < s.linkCount))

/-- Body of a mutating call: it returns STALE without touching anything, or the pool file is
still open and the contents change with nobody holding the file frozen. -/
theorem Inv.after_perform {s : State} (h : Inv s) (op : MutOp) (hf : s.frozen = 0) (hok : MutOk s op) :
    Inv (perform s op).1 ∧ (perform s op).1.pc = s.pc ∧ (perform s op).1.frozen = s.frozen := by
  have open_ : ¬ (s.checked = true ∧ s.refs = 0) → (∀ m, op ≠ .openTrunc m) → s.closed = false := by
    intro hc hm
    rcases hok with hck | ⟨hd, hsz⟩
    · exact h.notClosed_of_refs (Nat.pos_of_ne_zero fun h0 => hc ⟨hck, h0⟩)
    · cases op with
      | write off data => exact h.notClosed_of_refs (h.refs_pos_of_desc (hd rfl))
      | alloc off len => exact h.notClosed_of_refs (h.refs_pos_of_desc (hd rfl))
      | setattr n x =>
        rcases hsz n x rfl with h1 | h1
        · exact h.notClosed_of_refs (h.refs_pos_of_desc h1)
        · exact h.notClosed_of_refs (h.refs_pos_of_link h1)
      | openTrunc m => exact absurd rfl (hm m)
  have trunc : ∀ n, s.closed = false → Inv (truncate s n).1 ∧ (truncate s n).1.pc = s.pc ∧
      (truncate s n).1.frozen = s.frozen ∧ ¬ (truncate s n).1.panicked = true := fun n hnc =>
    have ht := h.after_truncate n hf hnc
    ⟨ht, (truncate_frame s n).1, (truncate_frame s n).2.1, ht.running⟩
  cases op with
  | write off data =>
    rw [perform]
    by_cases hst : s.checked = true ∧ s.refs = 0
    · rw [if_pos hst]; exact ⟨h, rfl, rfl⟩
    · rw [if_neg hst, if_neg (by rw [open_ hst nofun]; nofun)]
      dsimp only
      by_cases hn : writeCount s.wfault data.length > 0
      · rw [if_pos hn]; exact ⟨h.bytesChange hf _ _, rfl, rfl⟩
      · rw [if_neg hn]; exact ⟨h, rfl, rfl⟩
  | alloc off len =>
    rw [perform]
    by_cases hst : s.checked = true ∧ s.refs = 0
    · rw [if_pos hst]; exact ⟨h, rfl, rfl⟩
    · rw [if_neg hst]
      by_cases hl : s.bytes.length < off + len
      · rw [if_pos hl]
        obtain ⟨ht, h1, h2, _⟩ := trunc (off + len) (open_ hst nofun)
        exact ⟨ht, h1, h2⟩
      · rw [if_neg hl]; exact ⟨h, rfl, rfl⟩
  | setattr n x =>
    rw [perform]
    by_cases hst : s.checked = true ∧ s.refs = 0
    · rw [if_pos hst]; exact ⟨h, rfl, rfl⟩
    · obtain ⟨ht, h1, h2, hnp⟩ := trunc n (open_ hst nofun)
      rw [if_neg hst]
      dsimp only
      rw [if_neg hnp]
      by_cases hr : (truncate s n).2 = true
      · rw [if_pos hr]
        cases x with
        | none => exact ⟨ht, h1, h2⟩
        | some b => exact ⟨ht.light b _ _ _ _ _, h1, h2⟩
      · rw [if_neg hr]; exact ⟨ht, h1, h2⟩
  | openTrunc m =>
    rw [perform]
    by_cases hr : s.refs = 0
    · rw [if_pos hr]; exact ⟨h, rfl, rfl⟩
    · have hpos : 0 < s.refs := Nat.pos_of_ne_zero hr
      obtain ⟨ht, h1, h2, hnp⟩ := trunc 0 (h.notClosed_of_refs hpos)
      rw [if_neg hr]
      dsimp only
      rw [if_neg hnp]
      by_cases hr : (truncate s 0).2 = true
      · rw [if_pos hr]
        exact ⟨ht.after_acquire m (by rw [(truncate_frame s 0).2.2.1]; exact hpos), h1, h2⟩
      · rw [if_neg hr]; exact ⟨ht, h1, h2⟩

/-- `lockMutatingData` + body, by a thread that holds no frozen reader. -/
theorem Inv.after_mutBody {s : State} (h : Inv s) (t : Nat) (op : MutOp)
    (hold : (s.pc t).isFrozen = false) (hok : MutOk s op) :
    Inv (mutBody s t op).1 := by
  unfold mutBody
  split
  · rename_i hf
    exact h.setPc_plain t _ hold rfl (fun _ _ => hf) (fun _ _ _ e => by cases e)
  · rename_i hf
    have hf0 : s.frozen = 0 := Nat.eq_zero_of_not_pos hf
    have hp := h.after_perform op hf0 hok
    apply hp.1.setPc_plain t .idle _ rfl (fun _ e => by cases e) (fun _ _ _ e => by cases e)
    rw [hp.2.1]; exact hold

theorem legal_mut {s : State} {op : MutOp} (hl : (s.checked || mutContract s op) = true) : MutOk s op := by
  cases hc : s.checked
  · right
    simp only [hc, Bool.false_or] at hl
    unfold mutContract at hl
    cases op <;> simp_all [MutOp.needsDescriptor]
  · exact Or.inl hc

theorem baseLinks_layered {s : State} (hl : s.layered = true) :
    baseLinks s = if s.linkCount > 0 then 1 else 0 := by
  unfold baseLinks; rw [if_pos hl]

theorem baseLinks_bare {s : State} (hl : ¬ s.layered = true) : baseLinks s = s.linkCount := by
  unfold baseLinks; rw [if_neg hl]

/-- Behind a handle allocator `Link`/`Unlink` move the link count only, and the file holds one
reference for it while it is positive: when it becomes zero that reference (`n = 1`) is about to be
released. -/
theorem Inv.relink_layered {s : State} (h : Inv s) (hlay : s.layered = true) (hp : 0 < s.linkCount)
    {l n : Nat} (hn : n = if l = 0 then 1 else 0) : Inv' { s with linkCount := l } n := by
  refine ⟨h.noPanic, ?_, h.writersEq, h.closedIff, h.closesEq, h.pcs, h.cachedOk, h.casOk⟩
  have hr := h.refsEq
  rw [baseLinks_layered hlay, if_pos hp] at hr
  rw [baseLinks_layered (s := { s with linkCount := l }) hlay, hn]
  show s.refs = (if l > 0 then 1 else 0) + s.rd + s.wr + s.frozen + if l = 0 then 1 else 0
  by_cases h0 : l = 0
  · rw [if_neg (by omega), if_pos h0]; omega
  · rw [if_pos (by omega), if_neg h0]; exact hr

/-- The bare file's own `Link`/`Unlink`: every link is a reference. -/
theorem Inv.relink_bare {s : State} (h : Inv s) (hlay : ¬ s.layered = true) {r l n : Nat}
    (hz : r = 0 ↔ s.refs = 0) (he : r + s.linkCount = s.refs + l + n) :
    Inv' { s with refs := r, linkCount := l } n := by
  refine ⟨h.noPanic, ?_, h.writersEq, h.closedIff.trans hz.symm, h.closesEq, h.pcs, h.cachedOk, h.casOk⟩
  have hr := h.refsEq
  rw [baseLinks_bare hlay] at hr
  rw [baseLinks_bare (s := { s with refs := r, linkCount := l }) hlay]
  show r = l + s.rd + s.wr + s.frozen + n
  omega

/-- The holders of `r` read bits and `w` write bits leave the ghost counters (and the writer
count); their `r + w` references are still counted. -/
theorem Inv.dropBits {s : State} (h : Inv s) (r w : Nat) (hr : r ≤ s.rd) (hw : w ≤ s.wr) (pc' : Nat → PC)
    (hpc : PcInv pc' s.frozen (s.writers - w) s.bytes) :
    Inv' { s with writers := s.writers - w, pc := pc', rd := s.rd - r, wr := s.wr - w } (r + w) := by
  have h1 := h.refsEq
  have h2 := h.writersEq
  refine ⟨h.noPanic, ?_, ?_, h.closedIff, h.closesEq, hpc, h.cachedOk, h.casOk⟩
  · show s.refs = baseLinks s + (s.rd - r) + (s.wr - w) + s.frozen + (r + w)
    omega
  · show s.writers - w = s.wr - w
    omega

theorem frozenPcFor_frozen (u : Bool) (fn : Nat) :
    (frozenPcFor u fn).isFrozen = true ∧ ∀ d, frozenPcFor u fn ≠ .upPut d := by
  cases u <;> exact ⟨rfl, nofun⟩

theorem Inv.setPc_keep {s : State} (h : Inv s) (t : Nat) (v : PC)
    (hold : (s.pc t).isFrozen = true) (hv : v.isFrozen = true) (hd : ∀ d, v = .upPut d → d.2 = s.bytes) :
    Inv (s.setPc t v) :=
  ⟨h.noPanic, h.refsEq, h.writersEq, h.closedIff, h.closesEq,
    h.pcs.upd_keep t v hold hv hd, h.cachedOk, h.casOk⟩

theorem Inv.casPush {s : State} (h : Inv s) (d : Digest) (got : Bytes) (hg : d.2 = got) :
    Inv { s with cas := (d, got) :: s.cas } :=
  ⟨h.noPanic, h.refsEq, h.writersEq, h.closedIff, h.closesEq, h.pcs, h.cachedOk,
    fun e he => by
      rcases List.mem_cons.mp he with rfl | he
      · exact hg
      · exact h.casOk e he⟩

/-- Every kind of step that respects the caller contract preserves the invariant. -/
theorem Step.inv {s s' : State} {op : Op} {o : Out} (hs : Step s op s' o) (h : Inv s)
    (hl : legal s op = true) : Inv s' := by
  have hr := h.refsEq
  have open_ : 0 < s.refs → ¬ s.closed = true := fun hp hc => by rw [h.notClosed_of_refs hp] at hc; cases hc
  cases hs
  case linkLayered hlay hz => exact h.relink_layered hlay (Nat.pos_of_ne_zero hz) (if_neg (Nat.succ_ne_zero _)).symm
  case linkBare hlay hz => exact h.relink_bare hlay (n := 0) (by omega) (by omega)
  case unlinkPanic h0 => rw [legal, h0] at hl; cases hl
  case unlinkLast hlay h0 h1 =>
    exact (h.relink_layered hlay (Nat.pos_of_ne_zero h0) rfl).after_release (Nat.le_refl 1)
  case unlinkMore hlay h1 => exact h.relink_layered hlay (by omega) (if_neg h1).symm
  case unlinkBare hlay =>
    have hl : 0 < s.linkCount := of_decide_eq_true hl
    exact (h.relink_bare hlay Iff.rfl (by omega)).after_release (Nat.le_refl 1)
  case openOk m hr => exact h.after_acquire m (Nat.pos_of_ne_zero hr)
  case closePanic m hw =>
    obtain ⟨_, _, hwr⟩ : 1 ≤ m.count ∧ b2n m.r ≤ s.rd ∧ b2n m.w ≤ s.wr := of_decide_eq_true hl
    rw [hw.1, ← h.writersEq, hw.2] at hwr
    cases hwr
  case closeOk m =>
    obtain ⟨hc, hrd, hwr⟩ : 1 ≤ m.count ∧ b2n m.r ≤ s.rd ∧ b2n m.w ≤ s.wr := of_decide_eq_true hl
    obtain ⟨r, w⟩ := m
    cases w
    · exact Inv'.after_release (h.dropBits (b2n r) 0 hrd (Nat.zero_le _) s.pc h.pcs) hc
    · exact Inv'.after_release (h.dropBits (b2n r) 1 hrd hwr _ h.pcs.writers_dec) hc
  case readPanic hc => exact absurd hc (open_ (h.refs_pos_of_desc (of_decide_eq_true hl)))
  case seekPanic hc => exact absurd hc (open_ (h.refs_pos_of_desc (of_decide_eq_true hl)))
  case freadPanic t _ _ hpc hc =>
    have := h.pcs.counted.pos (t := t) (by rw [hpc]; rfl)
    exact absurd hc (open_ (by omega))
  case setperm => exact h.light _ _ _ _ _ _
  case fire => exact h.light _ _ _ _ _ _
  case fault => exact h.light _ _ _ _ _ _
  case mbegin t op hpc => exact h.after_mutBody t op (by rw [hpc]; rfl) (legal_mut hl)
  case mwake t op hpc =>
    rw [legal, hpc] at hl
    exact h.after_mutBody t op (by rw [hpc]; rfl) (legal_mut hl)
  case ubeginPark t u k fn hpc hw => exact h.setPc_plain t _ (by rw [hpc]; rfl) rfl nofun (fun _ _ _ _ => hw)
  case uwakePark t _ u k fn hpc hw => exact h.setPc_plain t _ (by rw [hpc]; rfl) rfl nofun (fun _ _ _ _ => hw)
  case ubeginOpen t u k fn hpc _ =>
    exact h.after_openFrozenFor t _ (by rw [hpc]; rfl) (frozenPcFor_frozen u fn).1 (frozenPcFor_frozen u fn).2
  case uwakeOpen t _ u k fn hpc _ =>
    exact h.after_openFrozenFor t _ (by rw [hpc]; rfl) (frozenPcFor_frozen u fn).1 (frozenPcFor_frozen u fn).2
  case uwakeDelay t u k fn w hpc _ =>
    exact h.after_openFrozenFor t _ (by rw [hpc]; rfl) (frozenPcFor_frozen u fn).1 (frozenPcFor_frozen u fn).2
  case udigestPut t fn d hpc hdig =>
    have hfr := digestStep_frame s fn
    refine (h.after_digestStep fn).setPc_keep t _ (by rw [hfr.1, hpc]; rfl) rfl fun d' e => ?_
    cases e
    rw [hfr.2.1]
    exact (digestStep_valid h fn d hdig).1
  case udigestFail t fn hpc _ =>
    exact (h.after_digestStep fn).after_frozenClose t (by rw [(digestStep_frame s fn).1, hpc]; rfl)
  case statFinish t fn hpc =>
    exact (h.after_digestStep fn).after_frozenClose t (by rw [(digestStep_frame s fn).1, hpc]; rfl)
  case putErr t _ d hpc => exact h.after_frozenClose t (by rw [hpc]; rfl)
  case putOk t d hpc _ =>
    have hg : d.2 = s.bytes.take d.2.length := by rw [h.pcs.putOk t d hpc, List.take_length]
    exact (h.casPush d _ hg).after_frozenClose t (by rw [hpc]; rfl)
  case fclose t hpc => exact h.after_frozenClose t (by rw [hpc]; rfl)
  case statOpen t fn hpc _ => exact h.after_openFrozenFor t _ (by rw [hpc]; rfl) rfl nofun
  all_goals exact h

/-- Every enabled step that respects the caller contract preserves the invariant. -/
theorem inv_step {s s' : State} {o : Out} (op : Op) (h : Inv s) (hl : legal s op = true)
    (hs : step s op = some (s', o)) : Inv s' :=
  (step_sound hs).inv h hl

theorem inv_reachable {s : State} (h : Reachable s) : Inv s := by
  induction h with
  | init c l x n m => exact inv_init c l x n m
  | step op _ hl hs ih => exact inv_step op ih hl hs

end BbRe.Lemmas.FileRef
