import BbRe.Model.Replay41
/-! The NFSv4.1 replay model (`Model/Replay41.lean`): `execsOn` (the executions started on a slot)
and `seqsTo`; the invariant `Inv` (per slot: the started sequence ids are `1, 2, …`, a busy slot runs
the last one, `lastDone` is what is cached; every parked call is a registered waiter) with
`inv_update` for a change of one slot; the equations of `arrive`, arm by arm, its elimination
principle `arrive_elim` and `createSession_cases`; `legacy` is never written. -/
namespace BbRe.Lemmas.Replay41
open BbRe.Replay41

/-- Requests whose execution was started on (sid, slot), in order. -/
def execsOn (es : List (Nat × Req)) (sid slot : Nat) : List Req :=
  (es.filter (fun e => e.2.sess == sid && e.2.slot == slot)).map (·.2)

/-- `1, 2, …, n` as `uint32` sequence ids. -/
def seqsTo (n : Nat) : List Nat := (List.range n).map (fun k => (k + 1) % M)

theorem execsOn_nil (sid slot : Nat) : execsOn [] sid slot = [] := rfl

theorem execsOn_append_same (es : List (Nat × Req)) (c : Nat) (r : Req) :
    execsOn (es ++ [(c, r)]) r.sess r.slot = execsOn es r.sess r.slot ++ [r] := by
  simp [execsOn, List.filter_append]

theorem execsOn_append_other (es : List (Nat × Req)) (c : Nat) (r : Req) (sid slot : Nat)
    (h : ¬ (r.sess = sid ∧ r.slot = slot)) :
    execsOn (es ++ [(c, r)]) sid slot = execsOn es sid slot := by
  have : (r.sess == sid && r.slot == slot) = false := by
    cases h1 : (r.sess == sid && r.slot == slot)
    · rfl
    · simp at h1; exact absurd h1 h
  simp [execsOn, List.filter_append, this]

theorem seqsTo_succ (n : Nat) : seqsTo (n + 1) = seqsTo n ++ [(n + 1) % M] := by
  simp [seqsTo, List.range_succ]

theorem seqsTo_length (n : Nat) : (seqsTo n).length = n := by simp [seqsTo]

theorem seqsTo_get (n i : Nat) (h : i < (seqsTo n).length) : (seqsTo n)[i] = (i + 1) % M := by
  simp [seqsTo]

/-- What must hold for one slot given the executions started on it. -/
structure SlotInv (ex : List Req) (sl : Slot) : Prop where
  seqs : ex.map (·.seq) = seqsTo sl.nExec
  idle : sl.busy = none → sl.lastSeq = sl.nExec % M
  busy : ∀ b, sl.busy = some b →
    1 ≤ sl.nExec ∧ sl.lastSeq = (sl.nExec - 1) % M ∧ b.req.seq = sl.nExec % M ∧ sl.lastDone = none ∧
      ex.getLast? = some b.req
  done : ∀ r0 x0, sl.lastDone = some (r0, x0) →
    sl.lastResult = cachedRes r0.cache x0 ∧ sl.lastSeq = r0.seq ∧ ex.getLast? = some r0

theorem slotInv_fresh : SlotInv [] ({} : Slot) where
  seqs := rfl
  idle := fun _ => rfl
  busy := fun b h => by simp at h
  done := fun r0 x0 h => by simp at h

structure Inv (s : State) : Prop where
  fresh : ∀ sid, s.nsess ≤ sid → s.sess sid = none
  noexec : ∀ sid slot, s.sess sid = none → execsOn s.execs sid slot = []
  slots : ∀ sid se slot, s.sess sid = some se → SlotInv (execsOn s.execs sid slot) (se.slot slot)
  parked : s.legacy = false → ∀ c sid slot, (c, sid, slot) ∈ s.parked →
    ∃ se b, s.sess sid = some se ∧ (se.slot slot).busy = some b ∧ c ∈ b.waiters.map (·.1)

theorem inv_init (a b : Nat) (l lj : Bool) : Inv (init a b l lj) where
  fresh := fun _ _ => rfl
  noexec := fun _ _ _ => rfl
  slots := fun sid se slot h => by simp [init] at h
  parked := fun _ c sid slot h => by simp [init] at h

theorem setSlot_sess_same (s : State) (sid slot : Nat) (sl : Slot) (se : Session) (h : s.sess sid = some se) :
    (setSlot s sid slot sl).sess sid =
      some { se with slot := fun j => if j = slot then sl else se.slot j } := by
  simp [setSlot, h]

theorem setSlot_sess_other (s : State) (sid slot : Nat) (sl : Slot) (k : Nat) (h : k ≠ sid) :
    (setSlot s sid slot sl).sess k = s.sess k := by
  simp [setSlot, h]

theorem setSlot_sess_none (s : State) (sid slot : Nat) (sl : Slot) (k : Nat) :
    (setSlot s sid slot sl).sess k = none ↔ s.sess k = none := by
  unfold setSlot
  by_cases hk : k = sid
  · subst hk; simp
  · simp [hk]

/-- Replacing one slot (and possibly appending one execution of that slot,
changing the parked list) keeps the invariant if the new slot value is fine. -/
theorem inv_update (s : State) (sid slot : Nat) (se : Session) (sl' : Slot)
    (ex' : List (Nat × Req)) (pk' : List (Nat × Nat × Nat))
    (hinv : Inv s) (hse : s.sess sid = some se)
    (hex : ∀ sid2 slot2, ¬ (sid2 = sid ∧ slot2 = slot) → execsOn ex' sid2 slot2 = execsOn s.execs sid2 slot2)
    (hslot : SlotInv (execsOn ex' sid slot) sl')
    (hpk : s.legacy = false → ∀ c sid2 slot2, (c, sid2, slot2) ∈ pk' →
      if sid2 = sid ∧ slot2 = slot then ∃ b, sl'.busy = some b ∧ c ∈ b.waiters.map (·.1)
      else (c, sid2, slot2) ∈ s.parked) :
    Inv { setSlot s sid slot sl' with execs := ex', parked := pk' } where
  fresh := fun k hk => by
    have := hinv.fresh k hk
    show (setSlot s sid slot sl').sess k = none
    exact (setSlot_sess_none ..).2 this
  noexec := fun k j hk => by
    have hk' : s.sess k = none := (setSlot_sess_none s sid slot sl' k).1 hk
    have hne : ¬ (k = sid ∧ j = slot) := by
      intro ⟨h1, _⟩; subst h1; rw [hse] at hk'; cases hk'
    show execsOn ex' k j = []
    rw [hex k j hne]; exact hinv.noexec k j hk'
  slots := fun k se2 j hk => by
    show SlotInv (execsOn ex' k j) (se2.slot j)
    by_cases hks : k = sid
    · subst hks
      have h2 : (setSlot s k slot sl').sess k = some { se with slot := fun j => if j = slot then sl' else se.slot j } :=
        setSlot_sess_same s k slot sl' se hse
      have : se2 = { se with slot := fun j => if j = slot then sl' else se.slot j } := by
        have h3 : (setSlot s k slot sl').sess k = some se2 := hk
        rw [h2] at h3; exact (Option.some.inj h3).symm
      subst this
      by_cases hj : j = slot
      · subst hj; simpa using hslot
      · simp only [hj, if_false]
        rw [hex k j (by intro ⟨_, h⟩; exact hj h)]
        exact hinv.slots k se j hse
    · have h3 : s.sess k = some se2 := by
        have : (setSlot s sid slot sl').sess k = some se2 := hk
        rwa [setSlot_sess_other s sid slot sl' k hks] at this
      rw [hex k j (by intro ⟨h, _⟩; exact hks h)]
      exact hinv.slots k se2 j h3
  parked := fun hl c k j hmem => by
    have hl' : s.legacy = false := hl
    have := hpk hl' c k j hmem
    by_cases hks : k = sid ∧ j = slot
    · rw [if_pos hks] at this
      obtain ⟨b, hb, hc⟩ := this
      obtain ⟨h1, h2⟩ := hks
      subst h1; subst h2
      refine ⟨_, b, setSlot_sess_same s k j sl' se hse, ?_, hc⟩
      simpa using hb
    · rw [if_neg hks] at this
      obtain ⟨se2, b, h1, h2, h3⟩ := hinv.parked hl' c k j this
      by_cases hk : k = sid
      · subst hk
        have hj : j ≠ slot := fun h => hks ⟨rfl, h⟩
        rw [hse] at h1; cases h1
        refine ⟨_, b, setSlot_sess_same s k slot sl' se hse, ?_, h3⟩
        simpa [hj] using h2
      · exact ⟨se2, b, by rw [show ({ setSlot s sid slot sl' with execs := ex', parked := pk' } : State).sess k = (setSlot s sid slot sl').sess k from rfl, setSlot_sess_other s sid slot sl' k hk]; exact h1, h2, h3⟩


/-- States that differ only in session liveness / client bookkeeping. -/
def SameSlots (s s' : State) : Prop :=
  s'.execs = s.execs ∧ s'.parked = s.parked ∧ s'.legacy = s.legacy ∧ s'.nsess = s.nsess ∧
  ∀ k, (s'.sess k = none ↔ s.sess k = none) ∧
    ∀ a b, s.sess k = some a → s'.sess k = some b → b.slot = a.slot

theorem inv_sameSlots {s s' : State} (h : SameSlots s s') (hinv : Inv s) : Inv s' := by
  obtain ⟨he, hp, hl, hn, hk⟩ := h
  refine ⟨?_, ?_, ?_, ?_⟩
  · intro k hk'; rw [hn] at hk'; exact ((hk k).1).2 (hinv.fresh k hk')
  · intro k j h0; rw [he]; exact hinv.noexec k j (((hk k).1).1 h0)
  · intro k se j h0
    rw [he]
    cases h1 : s.sess k with
    | none => have := ((hk k).1).2 h1; rw [h0] at this; cases this
    | some a =>
      have := (hk k).2 a se h1 h0
      rw [this]; exact hinv.slots k a j h1
  · intro hl' c k j hmem
    rw [hp] at hmem
    rw [hl] at hl'
    obtain ⟨se, b, h1, h2, h3⟩ := hinv.parked hl' c k j hmem
    cases h4 : s'.sess k with
    | none => have := ((hk k).1).1 h4; rw [h1] at this; cases this
    | some a =>
      have := (hk k).2 se a h1 h4
      exact ⟨a, b, rfl, by rw [this]; exact h2, h3⟩

theorem sameSlots_removeInc (s : State) (k : Nat) : SameSlots s (removeInc s k) := by
  refine ⟨rfl, rfl, rfl, rfl, fun i => ⟨?_, ?_⟩⟩
  · simp [removeInc]
  · intro a b ha hb
    simp [removeInc, ha] at hb
    subst hb; split <;> rfl

theorem inv_destroySession (s : State) (sid : Nat) (hinv : Inv s) : Inv (destroySession s sid).1 := by
  unfold destroySession
  split
  · exact hinv
  · rename_i se hse
    split
    · refine inv_sameSlots (s := s) ⟨rfl, rfl, rfl, rfl, fun i => ⟨?_, ?_⟩⟩ hinv
      · by_cases hi : i = sid
        · subst hi; simp [hse]
        · simp [hi]
      · intro a b ha hb
        by_cases hi : i = sid
        · subst hi; simp at hb; rw [hse] at ha; cases ha; subst hb; rfl
        · simp [hi] at hb; rw [ha] at hb; cases hb; rfl
    · exact hinv

theorem inv_exchangeId (s : State) (c v o : Nat) (hinv : Inv s) : Inv (exchangeId s c v o).1 := by
  unfold exchangeId
  split
  · exact hinv
  · exact inv_sameSlots (s := s) ⟨rfl, rfl, rfl, rfl, fun i => ⟨Iff.rfl, fun a b ha hb => by rw [show s.sess i = some a from ha] at hb; cases hb; rfl⟩⟩ hinv

theorem inv_newSession (s : State) (k client seq : Nat) (hinv : Inv s) : Inv (newSession s k client seq).1 where
  fresh := fun i hi => by
    have h1 : i ≠ s.nsess := by intro h; subst h; exact Nat.lt_irrefl _ (Nat.lt_of_succ_le hi)
    show (if i = s.nsess then _ else s.sess i) = none
    rw [if_neg h1]
    exact hinv.fresh i (Nat.le_of_succ_le hi)
  noexec := fun i j h0 => by
    have h0' : (if i = s.nsess then some (⟨k, true, s.nslots, fun _ => {}⟩ : Session) else s.sess i) = none := h0
    by_cases h1 : i = s.nsess
    · rw [if_pos h1] at h0'; cases h0'
    · rw [if_neg h1] at h0'; exact hinv.noexec i j h0'
  slots := fun i se2 j h0 => by
    have h0' : (if i = s.nsess then some (⟨k, true, s.nslots, fun _ => {}⟩ : Session) else s.sess i) = some se2 := h0
    show SlotInv (execsOn s.execs i j) (se2.slot j)
    by_cases h1 : i = s.nsess
    · rw [if_pos h1] at h0'; cases h0'
      rw [h1, hinv.noexec s.nsess j (hinv.fresh _ (Nat.le_refl _))]
      exact slotInv_fresh
    · rw [if_neg h1] at h0'; exact hinv.slots i se2 j h0'
  parked := fun hl c i j hmem => by
    obtain ⟨se2, b, h1, h2, h3⟩ := hinv.parked hl c i j hmem
    have hk : i ≠ s.nsess := by
      intro h; subst h; rw [hinv.fresh _ (Nat.le_refl _)] at h1; cases h1
    refine ⟨se2, b, ?_, h2, h3⟩
    show (if i = s.nsess then _ else s.sess i) = some se2
    rw [if_neg hk]; exact h1

/-- Case analysis of `opCreateSession`, once: nothing happens, or a session is allocated for a live
incarnation, possibly after another confirmed incarnation of the client was removed. -/
theorem createSession_cases (s : State) (k q : Nat) :
    (∃ out, createSession s k q = (s, out) ∧ ∀ sid, out ≠ .created sid) ∨
    (k < s.ninc ∧ (s.inc k).alive = true ∧
      ∃ s0, (s0 = s ∨ ∃ old, old ≠ k ∧ s0 = removeInc s old) ∧
        createSession s k q = newSession s0 k (s.inc k).client q) := by
  unfold createSession
  by_cases hv : (decide (k ≥ s.ninc) || !(s.inc k).alive) = true
  · rw [if_pos hv]; exact Or.inl ⟨_, rfl, nofun⟩
  rw [if_neg hv]
  simp only [Bool.or_eq_true, decide_eq_true_eq, Bool.not_eq_true', not_or, Nat.not_le, Bool.not_eq_false] at hv
  by_cases h1 : q = (s.inc k).csLast
  · rw [if_pos h1]; exact Or.inl ⟨_, rfl, nofun⟩
  rw [if_neg h1]
  by_cases h2 : q = ((s.inc k).csLast + 1) % M
  · rw [if_pos h2]
    cases s.confirmed (s.inc k).client with
    | none => exact Or.inr ⟨hv.1, hv.2, s, Or.inl rfl, rfl⟩
    | some old =>
      simp only
      by_cases h3 : old = k
      · rw [if_pos h3]; exact Or.inr ⟨hv.1, hv.2, s, Or.inl rfl, rfl⟩
      rw [if_neg h3]
      by_cases h4 : holdCount s old > 0
      · rw [if_pos h4]; exact Or.inl ⟨_, rfl, nofun⟩
      · rw [if_neg h4]; exact Or.inr ⟨hv.1, hv.2, _, Or.inr ⟨old, h3, rfl⟩, rfl⟩
  · rw [if_neg h2]; exact Or.inl ⟨_, rfl, nofun⟩

theorem inv_createSession (s : State) (k q : Nat) (hinv : Inv s) : Inv (createSession s k q).1 := by
  rcases createSession_cases s k q with ⟨_, e, _⟩ | ⟨_, _, s0, hs0, e⟩ <;> rw [e]
  · exact hinv
  · rcases hs0 with rfl | ⟨old, _, rfl⟩
    · exact inv_newSession _ _ _ _ hinv
    · exact inv_newSession _ _ _ _ (inv_sameSlots (sameSlots_removeInc s old) hinv)

theorem mod_succ_eq (n : Nat) : (n % M + 1) % M = (n + 1) % M := by
  simp [Nat.add_mod]

theorem inv_finish (s : State) (sid slot : Nat) (x : XRes) (hinv : Inv s) : Inv (finish s sid slot x).1 := by
  unfold finish
  split
  · exact hinv
  · rename_i sl hsl
    split
    · exact hinv
    · rename_i b hb
      unfold getSlot at hsl
      cases hse : s.sess sid with
      | none => rw [hse] at hsl; cases hsl
      | some se =>
        rw [hse] at hsl
        simp only [Option.map_some, Option.some.injEq] at hsl
        subst hsl
        have hs := hinv.slots sid se slot hse
        obtain ⟨h1, h2, h3, h4, h5⟩ := hs.busy b hb
        refine inv_update s sid slot se _ s.execs _ hinv hse (fun _ _ _ => rfl) ?_ ?_
        · refine ⟨hs.seqs, fun _ => h3, fun b2 hb2 => by simp at hb2, fun r0 x0 h => ?_⟩
          simp only [Option.some.injEq, Prod.mk.injEq] at h
          obtain ⟨e1, e2⟩ := h
          subst e1; subst e2
          exact ⟨rfl, rfl, h5⟩
        · intro hl c sid2 slot2 hmem
          simp only [List.mem_filter] at hmem
          obtain ⟨hm1, hm2⟩ := hmem
          split
          · rename_i hsame; obtain ⟨e1, e2⟩ := hsame; subst e1; subst e2
            obtain ⟨se2, b2, e1, e2, e3⟩ := hinv.parked hl c _ _ hm1
            rw [hse] at e1; cases e1
            rw [hb] at e2; cases e2
            simp only [Bool.not_eq_true', List.contains_eq_mem, decide_eq_false_iff_not] at hm2
            exact absurd e3 hm2
          · exact hm1

theorem arrive_eq_nosession (s : State) (c : Nat) (r : Req) (h : s.sess r.sess = none) :
    arrive s c r = (s, .reply (seqErr errBadSession)) := by
  unfold arrive; rw [h]

theorem arrive_eq_dead (s : State) (c : Nat) (r : Req) (se : Session) (hse : s.sess r.sess = some se)
    (h : se.alive = false) : arrive s c r = (s, .reply (seqErr errBadSession)) := by
  unfold arrive; rw [hse]; simp [h]

theorem arrive_eq_badslot (s : State) (c : Nat) (r : Req) (se : Session) (hse : s.sess r.sess = some se)
    (ha : se.alive = true) (h : se.nslots ≤ r.slot) : arrive s c r = (s, .reply (seqErr errBadSlot)) := by
  unfold arrive; rw [hse]; simp [ha, h]

theorem arrive_eq_replay (s : State) (c : Nat) (r : Req) (se : Session) (hse : s.sess r.sess = some se)
    (ha : se.alive = true) (hs : r.slot < se.nslots) (hq : r.seq = (se.slot r.slot).lastSeq) :
    arrive s c r = (s, .reply (if shapeOK (se.slot r.slot).lastResult r.ops then (se.slot r.slot).lastResult
      else seqErr errSeqFalseRetry)) := by
  unfold arrive; rw [hse]; simp [ha, Nat.not_le.2 hs, hq]

theorem arrive_eq_misordered (s : State) (c : Nat) (r : Req) (se : Session) (hse : s.sess r.sess = some se)
    (ha : se.alive = true) (hs : r.slot < se.nslots) (hq : r.seq ≠ (se.slot r.slot).lastSeq)
    (hn : r.seq ≠ ((se.slot r.slot).lastSeq + 1) % M) :
    arrive s c r = (s, .reply (seqErr errSeqMisordered)) := by
  unfold arrive; rw [hse]; simp [ha, Nat.not_le.2 hs, hq, hn]

theorem arrive_eq_join (s : State) (c : Nat) (r : Req) (se : Session) (b : Busy) (hse : s.sess r.sess = some se)
    (ha : se.alive = true) (hs : r.slot < se.nslots) (hq : r.seq ≠ (se.slot r.slot).lastSeq)
    (hn : r.seq = ((se.slot r.slot).lastSeq + 1) % M) (hb : (se.slot r.slot).busy = some b) :
    arrive s c r =
      ({ setSlot s r.sess r.slot ⟨(se.slot r.slot).lastSeq, (se.slot r.slot).lastResult,
            some (if s.legacy then b else { b with waiters := b.waiters ++ [(c, r.ops)] }),
            (se.slot r.slot).nExec, (se.slot r.slot).lastDone⟩ with
          parked := s.parked ++ [(c, r.sess, r.slot)] }, .parked) := by
  unfold arrive; rw [hse]
  simp only [ha, Bool.not_true, Bool.false_eq_true, if_false, ge_iff_le, Nat.not_le.2 hs, hq]
  rw [if_pos hn, hb]

theorem arrive_eq_toomany (s : State) (c : Nat) (r : Req) (se : Session) (hse : s.sess r.sess = some se)
    (ha : se.alive = true) (hs : r.slot < se.nslots) (hq : r.seq ≠ (se.slot r.slot).lastSeq)
    (hn : r.seq = ((se.slot r.slot).lastSeq + 1) % M) (hb : (se.slot r.slot).busy = none)
    (ho : 1 + r.ops.length > s.maxOps) :
    arrive s c r =
      (setSlot s r.sess r.slot ⟨(se.slot r.slot).lastSeq, seqErr errSeqMisordered, (se.slot r.slot).busy,
          (se.slot r.slot).nExec, none⟩,
       .reply (seqErr errTooManyOps)) := by
  unfold arrive; rw [hse]
  simp only [ha, Bool.not_true, Bool.false_eq_true, if_false, ge_iff_le, Nat.not_le.2 hs, hq]
  rw [if_pos hn, hb]
  simp only [ho, if_true]

theorem arrive_eq_start (s : State) (c : Nat) (r : Req) (se : Session) (hse : s.sess r.sess = some se)
    (ha : se.alive = true) (hs : r.slot < se.nslots) (hq : r.seq ≠ (se.slot r.slot).lastSeq)
    (hn : r.seq = ((se.slot r.slot).lastSeq + 1) % M) (hb : (se.slot r.slot).busy = none)
    (ho : ¬ 1 + r.ops.length > s.maxOps) :
    arrive s c r =
      ({ setSlot s r.sess r.slot ⟨(se.slot r.slot).lastSeq, seqErr errSeqMisordered, some ⟨c, r, []⟩,
            (se.slot r.slot).nExec + 1, none⟩ with
          execs := s.execs ++ [(c, r)] }, .started) := by
  unfold arrive; rw [hse]
  simp only [ha, Bool.not_true, Bool.false_eq_true, if_false, ge_iff_le, Nat.not_le.2 hs, hq]
  rw [if_pos hn, hb]
  simp only [ho, if_false]

/-- Case analysis of `arrive`, once: either the state is untouched and the call is answered, or
the request carries the successor of the slot's sequence id on a live session and valid slot, and
joins the in-flight original, is refused for its length, or starts executing. -/
theorem arrive_elim (s : State) (c : Nat) (r : Req) {P : State × ArriveOut → Prop}
    (reply : ∀ rep,
      ((∃ code, rep = seqErr code) ∨
       ∃ se, s.sess r.sess = some se ∧ se.alive = true ∧ r.slot < se.nslots ∧
         r.seq = (se.slot r.slot).lastSeq ∧ shapeOK (se.slot r.slot).lastResult r.ops = true ∧
         rep = (se.slot r.slot).lastResult) → P (s, .reply rep))
    (next : ∀ se, s.sess r.sess = some se → se.alive = true → r.slot < se.nslots →
      r.seq = ((se.slot r.slot).lastSeq + 1) % M →
      (∀ b, (se.slot r.slot).busy = some b →
        P ({ setSlot s r.sess r.slot ⟨(se.slot r.slot).lastSeq, (se.slot r.slot).lastResult,
                some (if s.legacy then b else { b with waiters := b.waiters ++ [(c, r.ops)] }),
                (se.slot r.slot).nExec, (se.slot r.slot).lastDone⟩ with
              parked := s.parked ++ [(c, r.sess, r.slot)] }, .parked)) ∧
      ((se.slot r.slot).busy = none →
        (1 + r.ops.length > s.maxOps →
          P (setSlot s r.sess r.slot ⟨(se.slot r.slot).lastSeq, seqErr errSeqMisordered, (se.slot r.slot).busy,
              (se.slot r.slot).nExec, none⟩, .reply (seqErr errTooManyOps))) ∧
        (¬ 1 + r.ops.length > s.maxOps →
          P ({ setSlot s r.sess r.slot ⟨(se.slot r.slot).lastSeq, seqErr errSeqMisordered, some ⟨c, r, []⟩,
                (se.slot r.slot).nExec + 1, none⟩ with
              execs := s.execs ++ [(c, r)] }, .started)))) :
    P (arrive s c r) := by
  have err : ∀ code, arrive s c r = (s, .reply (seqErr code)) → P (arrive s c r) :=
    fun code e => e ▸ reply _ (Or.inl ⟨code, rfl⟩)
  cases hse : s.sess r.sess with
  | none => exact err _ (arrive_eq_nosession s c r hse)
  | some se =>
    cases ha : se.alive with
    | false => exact err _ (arrive_eq_dead s c r se hse ha)
    | true =>
      by_cases hs : r.slot < se.nslots
      · by_cases hq : r.seq = (se.slot r.slot).lastSeq
        · have e := arrive_eq_replay s c r se hse ha hs hq
          cases hok : shapeOK (se.slot r.slot).lastResult r.ops
          · rw [hok] at e; exact err _ e
          · rw [hok, if_pos rfl] at e; exact e ▸ reply _ (Or.inr ⟨se, hse, ha, hs, hq, hok, rfl⟩)
        · by_cases hn : r.seq = ((se.slot r.slot).lastSeq + 1) % M
          · obtain ⟨join, idle⟩ := next se hse ha hs hn
            cases hb : (se.slot r.slot).busy with
            | some b => rw [arrive_eq_join s c r se b hse ha hs hq hn hb]; exact join b hb
            | none =>
              by_cases ho : 1 + r.ops.length > s.maxOps
              · rw [arrive_eq_toomany s c r se hse ha hs hq hn hb ho]; exact (idle hb).1 ho
              · rw [arrive_eq_start s c r se hse ha hs hq hn hb ho]; exact (idle hb).2 ho
          · exact err _ (arrive_eq_misordered s c r se hse ha hs hq hn)
      · exact err _ (arrive_eq_badslot s c r se hse ha (Nat.le_of_not_lt hs))

theorem arrive_legacy (s : State) (c : Nat) (r : Req) : (arrive s c r).1.legacy = s.legacy :=
  arrive_elim s c r (P := fun p => p.1.legacy = s.legacy) (fun _ _ => rfl)
    (fun _ _ _ _ _ => ⟨fun _ _ => rfl, fun _ => ⟨fun _ => rfl, fun _ => rfl⟩⟩)

theorem inv_arrive (s : State) (call : Nat) (r : Req) (hinv : Inv s) : Inv (arrive s call r).1 := by
  refine arrive_elim s call r (P := fun p => Inv p.1) (fun _ _ => hinv) fun se hse _ _ hseq => ?_
  have hsl := hinv.slots r.sess se r.slot hse
  refine ⟨fun b hb => ?_, fun hb => ?_⟩
  · -- join the in-flight original
    have hbusy := hsl.busy b hb
    refine inv_update s r.sess r.slot se _ s.execs _ hinv hse (fun _ _ _ => rfl) ?_ ?_
    · refine ⟨hsl.seqs, fun h => by simp at h, ?_, fun r0 x0 h => ?_⟩
      · intro b2 hb2
        simp only [Option.some.injEq] at hb2
        subst hb2
        obtain ⟨h1, h2, h3, h4, h5⟩ := hbusy
        have e : (if s.legacy = true then b else { b with waiters := b.waiters ++ [(call, r.ops)] }).req = b.req := by
          cases s.legacy <;> rfl
        refine ⟨h1, h2, ?_, h4, ?_⟩
        · rw [e]; exact h3
        · rw [e]; exact h5
      · have : (se.slot r.slot).lastDone = some (r0, x0) := h
        rw [hbusy.2.2.2.1] at this; cases this
    · intro hl c sid2 slot2 hmem
      simp only [List.mem_append, List.mem_singleton, Prod.mk.injEq] at hmem
      split
      · rename_i hsame
        obtain ⟨h1, h2⟩ := hsame
        subst h1; subst h2
        refine ⟨_, rfl, ?_⟩
        simp only [hl, Bool.false_eq_true, if_false, List.map_append, List.mem_append]
        rcases hmem with hmem | ⟨h1, _, _⟩
        · obtain ⟨se2, b2, e1, e2, e3⟩ := hinv.parked hl c _ _ hmem
          rw [hse] at e1; cases e1
          rw [hb] at e2; cases e2
          exact Or.inl e3
        · subst h1; simp
      · rename_i hne
        rcases hmem with hmem | ⟨_, h2, h3⟩
        · exact hmem
        · exact absurd ⟨h2, h3⟩ hne
  · -- slot idle
    have hidle := hsl.idle hb
    have hnopark : s.legacy = false → ∀ c sid2 slot2, (c, sid2, slot2) ∈ s.parked →
        if sid2 = r.sess ∧ slot2 = r.slot then
          ∃ b, (none : Option Busy) = some b ∧ c ∈ b.waiters.map (·.1)
        else (c, sid2, slot2) ∈ s.parked := by
      intro hl c sid2 slot2 hmem
      split
      · rename_i hsame; obtain ⟨h1, h2⟩ := hsame; subst h1; subst h2
        obtain ⟨se2, b2, e1, e2, _⟩ := hinv.parked hl c _ _ hmem
        rw [hse] at e1; cases e1
        rw [hb] at e2; cases e2
      · exact hmem
    refine ⟨fun _ => ?_, fun _ => ?_⟩
    · -- TOO_MANY_OPS: only the cache is forgotten
      refine inv_update s r.sess r.slot se _ s.execs s.parked hinv hse (fun _ _ _ => rfl) ?_ (hb ▸ hnopark)
      refine ⟨hsl.seqs, hsl.idle, fun b2 hb2 => ?_, fun r0 x0 h => by simp at h⟩
      have hb3 : (se.slot r.slot).busy = some b2 := hb2
      rw [hb] at hb3; cases hb3
    · -- start executing
      refine inv_update s r.sess r.slot se _ (s.execs ++ [(call, r)]) s.parked hinv hse
        (fun sid2 slot2 hne => execsOn_append_other _ _ _ _ _ (fun ⟨a, b⟩ => hne ⟨a.symm, b.symm⟩)) ?_ ?_
      · rw [execsOn_append_same]
        refine ⟨?_, fun h => by simp at h, ?_, fun r0 x0 h => by simp at h⟩
        · simp only [List.map_append, List.map_cons, List.map_nil]
          rw [hsl.seqs, seqsTo_succ, hseq, hidle, mod_succ_eq]
        · intro b2 hb2
          simp only [Option.some.injEq] at hb2
          subst hb2
          refine ⟨Nat.succ_le_succ (Nat.zero_le _), ?_, ?_, rfl, by simp⟩
          · simpa using hidle
          · show r.seq = _
            rw [hseq, hidle, mod_succ_eq]
      · intro hl c sid2 slot2 hmem
        have := hnopark hl c sid2 slot2 hmem
        split
        · rw [if_pos ‹_›] at this; obtain ⟨_, e, _⟩ := this; cases e
        · rw [if_neg ‹_›] at this; exact this


theorem step_arrive_fst (s : State) (c : Nat) (r : Req) : (step s (.arrive c r)).1 = (arrive s c r).1 := by
  show (match arrive s c r with
    | (s', ArriveOut.reply rep) => (s', [(c, rep)])
    | (s', _) => (s', [])).1 = _
  rcases arrive s c r with ⟨s', o⟩
  cases o <;> rfl

theorem inv_step (s : State) (o : Op) (hinv : Inv s) : Inv (step s o).1 := by
  cases o with
  | exchangeId c v ob => exact inv_exchangeId s c v ob hinv
  | createSession k q => exact inv_createSession s k q hinv
  | destroySession sid => exact inv_destroySession s sid hinv
  | arrive c r => rw [step_arrive_fst]; exact inv_arrive s c r hinv
  | finish sid slot x => exact inv_finish s sid slot x hinv

theorem inv_reachable {s0 s : State} (h0 : Inv s0) (h : Reachable s0 s) : Inv s := by
  induction h with
  | init => exact h0
  | step o _ ih => exact inv_step _ o ih


theorem createSession_legacy (s : State) (k q : Nat) : (createSession s k q).1.legacy = s.legacy := by
  rcases createSession_cases s k q with ⟨_, e, _⟩ | ⟨_, _, s0, hs0, e⟩ <;> rw [e]
  rcases hs0 with rfl | ⟨old, _, rfl⟩ <;> rfl

theorem step_legacy (s : State) (o : Op) : (step s o).1.legacy = s.legacy := by
  cases o with
  | exchangeId c v ob =>
    show (exchangeId s c v ob).1.legacy = s.legacy
    unfold exchangeId; split <;> rfl
  | createSession k q => exact createSession_legacy s k q
  | destroySession sid =>
    show (destroySession s sid).1.legacy = s.legacy
    unfold destroySession
    split
    · rfl
    · split <;> rfl
  | arrive c r => rw [step_arrive_fst]; exact arrive_legacy s c r
  | finish sid slot x =>
    show (finish s sid slot x).1.legacy = s.legacy
    unfold finish
    split
    · rfl
    · split <;> rfl

theorem reachable_legacy {s0 s : State} (h : Reachable s0 s) : s.legacy = s0.legacy := by
  induction h with
  | init => rfl
  | step o _ ih => rw [step_legacy, ih]

end BbRe.Lemmas.Replay41
