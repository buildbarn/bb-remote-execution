import BbRe.Lemmas.FairDynTree
/-!
`cached_priority`: what `invocation.firstQueuedOperationPriority` is, in every state the update
functions of the dynamic C04 model can reach.
-/
namespace BbRe.Lemmas.Fair
open BbRe.Fair BbRe.GoHeap BbRe.Lemmas.GoHeap

/-- What `updateFirstOperationPriority` stores: the priority of `queuedOperations[0]`, else the
cached priority of `queuedChildren[0]`, else (nothing queued) the old value. -/
def firstPrio (c : Inv) : Int :=
  match c.ops with
  | o :: _ => o.prio
  | [] =>
    match c.queued with
    | b :: _ => (kidOr c.kids b).prio
    | [] => c.prio

theorem updateFirst_prio (c : Inv) : (updateFirstOperationPriority c).prio = firstPrio c := by
  unfold updateFirstOperationPriority firstPrio
  cases c.ops with
  | cons o _ => simp
  | nil =>
    cases c.queued with
    | cons b _ => simp
    | nil => rfl

theorem firstPrio_congr (c d : Inv) (ho : d.ops = c.ops) (hq : d.queued = c.queued) (hk : d.kids = c.kids)
    (hp : d.prio = c.prio) : firstPrio d = firstPrio c := by
  unfold firstPrio; rw [ho, hq, hk, hp]

theorem firstPrio_updateFirst (c : Inv) : firstPrio (updateFirstOperationPriority c) = firstPrio c := by
  obtain ⟨_, fkids, fq, fo, _⟩ := updateFirst_fields c
  have hp := updateFirst_prio c
  unfold firstPrio at hp ⊢
  rw [fo, fq, fkids, hp]
  cases c.ops with
  | cons _ _ => rfl
  | nil =>
    cases c.queued with
    | cons _ _ => rfl
    | nil => rfl

/-! ### exact caches: preserved by enqueue / dequeue, and they predict the walk -/

/-- Every invocation below the root caches exactly what `updateFirstOperationPriority` would
store now. -/
inductive ExactTree : Inv → Prop
  | mk (t : Inv) (hp : ∀ c ∈ t.kids, c.prio = firstPrio c) (hk : ∀ c ∈ t.kids, ExactTree c) : ExactTree t

theorem exactTree_iff (t : Inv) : ExactTree t ↔ ∀ c ∈ t.kids, c.prio = firstPrio c ∧ ExactTree c :=
  ⟨fun h => by cases h with | mk _ hp hk => exact fun c hc => ⟨hp c hc, hk c hc⟩,
   fun h => ExactTree.mk t (fun c hc => (h c hc).1) (fun c hc => (h c hc).2)⟩

theorem exactTree_congr (t u : Inv) (hk : u.kids = t.kids) (h : ExactTree t) : ExactTree u := by
  rw [exactTree_iff] at h ⊢; rw [hk]; exact h

/-- A walk that refreshes the cache of every invocation it passes (bottom-up, after the
invocation's own heaps were updated) keeps all caches exact. -/
theorem exact_refreshing (leaf : Inv → Inv) (up : Inv → Inv → Inv)
    (hleaf : ∀ i, (leaf i).kids = i.kids)
    (hup : ∀ P c', (up P c').kids = replaceKid P.kids (updateFirstOperationPriority c')) :
    ∀ (path : List Nat) (t : Inv), ExactTree t → ExactTree (updatePath leaf up path t) := by
  refine updatePath_induct (fun _ t => ExactTree t) (fun _ t' => ExactTree t')
    (fun t ht => exactTree_congr t _ (hleaf t) ht) (fun _ _ _ ht _ => ht)
    (fun k _ t c ht hck => (((exactTree_iff t).mp ht) c (mem_of_child t k c hck).1).2) ?_
  · intro k p t c c' ht hck hc'
    show ExactTree (up t c')
    rw [exactTree_iff, hup]
    exact forall_mem_replaceKid ((exactTree_iff t).mp ht) ⟨by rw [updateFirst_prio, firstPrio_updateFirst],
      exactTree_congr c' _ (updateFirst_fields c').2.1 hc'⟩

theorem exact_enqueue (o : Op) (path : List Nat) (t : Inv) (h : ExactTree t) : ExactTree (enqueue path o t) :=
  exact_refreshing _ _ (by simp) (by intro P c'; simp [upEnqueue, storeKid]) path t h

theorem exact_removeQueued (idx : Nat) (path : List Nat) (t : Inv) (h : ExactTree t) :
    ExactTree (removeQueued path idx t) :=
  exact_refreshing _ _ (by simp) (by
    intro P c'; unfold upRemove; simp only []; split <;> simp [storeKid]) path t h

/-- With exact caches, the cached priority of an invocation is the priority of the operation a
walk without stickiness selects below it. -/
theorem exact_walk (win : Nat → Bool) (nlim : Nat) : ∀ (fuel : Nat) (c : Inv) (lvl : Nat) (o : Op) (r : Nat),
    ExactTree c → pickAux win nlim fuel c [] lvl = some (o, r) → o.prio = firstPrio c := by
  intro fuel
  induction fuel with
  | zero => intro c lvl o r _ h; cases h
  | succ f ih =>
    intro c lvl o r hc h
    unfold pickAux at h
    unfold firstPrio
    cases hops : c.ops with
    | cons o' rest =>
      rw [hops] at h
      simp only [Option.some.injEq, Prod.mk.injEq] at h
      rw [← h.1]
    | nil =>
      rw [hops] at h
      simp only [] at h
      unfold chooseChild at h
      cases hq : c.queued with
      | nil => rw [hq] at h; cases h
      | cons b qs =>
        rw [hq] at h
        simp only [] at h
        cases hb : c.child b with
        | none => rw [hb] at h; cases h
        | some bb =>
          rw [hb] at h
          simp only [] at h
          have hbm := (mem_of_child c b bb hb).1
          obtain ⟨hbp, hbe⟩ := ((exactTree_iff c).mp hc) bb hbm
          have := ih bb lvl o r hbe h
          rw [this, ← hbp]
          show bb.prio = (kidOr c.kids b).prio
          rw [kidOr_of_child c b bb hb]

/-! ### the invariant that survives executing-count changes -/

/-- The cache of one invocation: exact when it has directly queued operations; otherwise it is
the cached priority of one of its queued children (exact when there is only one). -/
def cacheNode (c : Inv) : Prop :=
  match c.ops with
  | o :: _ => c.prio = o.prio
  | [] => c.queued = [] ∨ ∃ g ∈ c.kids, g.key ∈ c.queued ∧ g.prio = c.prio

inductive CacheTree : Inv → Prop
  | mk (t : Inv) (hn : ∀ c ∈ t.kids, cacheNode c) (hk : ∀ c ∈ t.kids, CacheTree c) : CacheTree t

theorem cacheTree_iff (t : Inv) : CacheTree t ↔ ∀ c ∈ t.kids, cacheNode c ∧ CacheTree c :=
  ⟨fun h => by cases h with | mk _ hn hk => exact fun c hc => ⟨hn c hc, hk c hc⟩,
   fun h => CacheTree.mk t (fun c hc => (h c hc).1) (fun c hc => (h c hc).2)⟩

theorem cacheTree_congr (t u : Inv) (hk : u.kids = t.kids) (h : CacheTree t) : CacheTree u := by
  rw [cacheTree_iff] at h ⊢; rw [hk]; exact h

/-- `cacheNode` survives when operations, cached priority and the set of queued references stay
and every queued child keeps a counterpart with its key and cached priority. -/
theorem cacheNode_transfer (P N : Inv) (ho : N.ops = P.ops) (hp : N.prio = P.prio)
    (hq : ∀ x, x ∈ N.queued ↔ x ∈ P.queued)
    (hk : ∀ g ∈ P.kids, g.key ∈ P.queued → ∃ g' ∈ N.kids, g'.key = g.key ∧ g'.prio = g.prio)
    (h : cacheNode P) : cacheNode N := by
  unfold cacheNode at h ⊢
  rw [ho, hp]
  cases hops : P.ops with
  | cons o _ => rw [hops] at h; exact h
  | nil =>
    rw [hops] at h
    rcases h with hnil | ⟨g, hg, hgq, hgp⟩
    · refine Or.inl (List.eq_nil_iff_forall_not_mem.mpr fun x hx => ?_)
      have := (hq x).mp hx
      rw [hnil] at this
      cases this
    · obtain ⟨g', hg', hk', hp'⟩ := hk g hg hgq
      exact Or.inr ⟨g', hg', (hq _).mpr (hk' ▸ hgq), hp'.trans hgp⟩

theorem cacheNode_updateFirst (c : Inv) (hres : ∀ k ∈ c.queued, ∃ g ∈ c.kids, g.key = k) :
    cacheNode (updateFirstOperationPriority c) := by
  obtain ⟨_, fkids, fq, fo, _⟩ := updateFirst_fields c
  have hp := updateFirst_prio c
  unfold cacheNode
  unfold firstPrio at hp
  rw [fo, fq, fkids]
  cases hops : c.ops with
  | cons o _ => rw [hops] at hp; exact hp
  | nil =>
    rw [hops] at hp
    cases hq : c.queued with
    | nil => exact Or.inl rfl
    | cons b qs =>
      rw [hq] at hp
      right
      obtain ⟨g, hg, hgk⟩ := hres b (by rw [hq]; exact List.mem_cons_self)
      have hfind : kidOr c.kids b ∈ c.kids ∧ (kidOr c.kids b).key = b := by
        unfold kidOr
        cases hf : c.kids.find? (fun x => x.key == b) with
        | none =>
          have := List.find?_eq_none.mp hf g hg
          simp [hgk] at this
        | some d =>
          exact ⟨List.mem_of_find?_eq_some hf, by simpa using List.find?_some hf⟩
      exact ⟨kidOr c.kids b, hfind.1, by rw [hfind.2]; exact List.mem_cons_self, hp.symm⟩

/-- Refreshing walks (`enqueue`, `removeQueuedFromInvocation`). -/
theorem cache_refreshing (leaf : Inv → Inv) (up : Inv → Inv → Inv) (cond : List Nat → Inv → Prop)
    (hleaf : ∀ i, (leaf i).kids = i.kids)
    (hup : ∀ P c', (up P c').kids = replaceKid P.kids (updateFirstOperationPriority c'))
    (hcond : ∀ k p t c, cond (k :: p) t → t.child k = some c → cond p c)
    (hheap : ∀ p c, HeapTree c → cond p c → HeapTree (updatePath leaf up p c)) :
    ∀ (path : List Nat) (t : Inv), HeapTree t → cond path t → CacheTree t → CacheTree (updatePath leaf up path t) := by
  intro path
  induction path with
  | nil => intro t _ _ h; exact cacheTree_congr t _ (hleaf t) h
  | cons k p ih =>
    intro t ht hc h
    cases hck : t.child k with
    | none =>
      have : updatePath leaf up (k :: p) t = t := by simp only [updatePath, hck]
      rw [this]; exact h
    | some c =>
      obtain ⟨hcmem, _⟩ := mem_of_child t k c hck
      have hct : HeapTree c := ((heapTree_iff t).mp ht).2 c hcmem
      have hcc := hcond k p t c hc hck
      have hc' := ih c hct hcc (((cacheTree_iff t).mp h) c hcmem).2
      have hc't := hheap p c hct hcc
      rw [updatePath_cons _ _ k p t c hck]
      generalize updatePath leaf up p c = c' at hc' hc't
      rw [cacheTree_iff, hup]
      intro d hd
      rcases (mem_replaceKid _ _ _).mp hd with ⟨rfl, _⟩ | ⟨hd', _⟩
      · refine ⟨cacheNode_updateFirst c' ?_, cacheTree_congr c' _ (updateFirst_fields c').2.1 hc'⟩
        intro x hx
        obtain ⟨g, hg, hgk, _⟩ := ((heapTree_iff c').mp hc't).1.qsub x hx
        exact ⟨g, hg, hgk⟩
      · exact ((cacheTree_iff t).mp h) d hd'

theorem cache_enqueue (o : Op) (path : List Nat) (t : Inv) (ht : HeapTree t)
    (hv : (nodeAt t path).isSome = true) (h : CacheTree t) : CacheTree (enqueue path o t) :=
  cache_refreshing _ upEnqueue (fun p c => (nodeAt c p).isSome = true) (by simp)
    (by intro P c'; simp [upEnqueue, storeKid])
    (by
      intro k p t c hc hck
      simpa [nodeAt, hck] using hc)
    (fun p c hc hv => (enqueue_spec o p c hc hv).1) path t ht hv h

theorem cache_removeQueued (idx : Nat) (path : List Nat) (t n : Inv) (ht : HeapTree t)
    (hn : nodeAt t path = some n) (hidx : idx < n.ops.length) (h : CacheTree t) :
    CacheTree (removeQueued path idx t) :=
  cache_refreshing _ upRemove (fun p c => nodeAt c p = some n) (by simp)
    (by intro P c'; unfold upRemove; simp only []; split <;> simp [storeKid])
    (by
      intro k p t c hc hck
      simpa [nodeAt, hck] using hc)
    (fun p c hc hv => (removeQueued_spec idx p c n hc hv hidx).1) path t ht hn h

/-- A first step that changes none of the fields the caches speak of. -/
theorem cache_leaf_of_fields (leaf : Inv → Inv) (hk : ∀ i, (leaf i).key = i.key) (ho : ∀ i, (leaf i).ops = i.ops)
    (hq : ∀ i, (leaf i).queued = i.queued) (hkids : ∀ i, (leaf i).kids = i.kids) (hp : ∀ i, (leaf i).prio = i.prio)
    (i : Inv) (_ : HeapTree i) (h : CacheTree i) :
    CacheTree (leaf i) ∧ (cacheNode i → cacheNode (leaf i)) ∧ (leaf i).prio = i.prio ∧ (leaf i).key = i.key := by
  refine ⟨cacheTree_congr i _ (hkids i) h, fun hn => ?_, hp i, hk i⟩
  unfold cacheNode at hn ⊢
  rw [ho, hq, hkids, hp]; exact hn

/-- Walks that neither enqueue nor dequeue (executing-count changes, parking): the caches are
not refreshed although `queuedChildren` may be reordered; every cache still is the cached
priority of one of the queued children. -/
theorem cache_stable (leaf : Inv → Inv) (up : Inv → Inv → Inv)
    (hl : ∀ i, HeapTree i → CacheTree i → CacheTree (leaf i) ∧ (cacheNode i → cacheNode (leaf i)) ∧
      (leaf i).prio = i.prio ∧ (leaf i).key = i.key)
    (hu : ∀ P c', (up P c').key = P.key ∧ (up P c').ops = P.ops ∧
      (∀ x, x ∈ (up P c').queued ↔ x ∈ P.queued) ∧ (up P c').kids = replaceKid P.kids c' ∧ (up P c').prio = P.prio) :
    ∀ (path : List Nat) (t : Inv), HeapTree t → CacheTree t →
      CacheTree (updatePath leaf up path t) ∧ (cacheNode t → cacheNode (updatePath leaf up path t)) ∧
      (updatePath leaf up path t).prio = t.prio ∧ (updatePath leaf up path t).key = t.key := by
  intro path t hnd h
  refine updatePath_induct (fun _ t => HeapTree t ∧ CacheTree t)
    (fun t t' => CacheTree t' ∧ (cacheNode t → cacheNode t') ∧ t'.prio = t.prio ∧ t'.key = t.key)
    (fun t h => hl t h.1 h.2) (fun _ _ _ h _ => ⟨h.2, id, rfl, rfl⟩)
    (fun k _ t c h hck => ⟨h.1.child hck, (((cacheTree_iff t).mp h.2) c (mem_of_child t k c hck).1).2⟩) ?_
    path t ⟨hnd, h⟩
  · rintro k p t c c' ⟨hnd, h⟩ hck ⟨i1, i2, i3, i4⟩
    obtain ⟨hcmem, _⟩ := mem_of_child t k c hck
    have hcall := ((cacheTree_iff t).mp h) c hcmem
    have hq := (heapTree_iff t).mp hnd
    obtain ⟨u1, u2, u3, u4, u5⟩ := hu t c'
    refine ⟨?_, ?_, u5, u1⟩
    · rw [cacheTree_iff, u4]
      exact forall_mem_replaceKid ((cacheTree_iff t).mp h) ⟨i2 hcall.1, i1⟩
    · refine cacheNode_transfer t _ u2 u5 u3 fun g0 hg0 _ => ?_
      rw [u4]
      by_cases hgk : g0.key = c.key
      · rw [kid_unique t.kids hq.1.keys c g0 hcmem hg0 hgk]
        exact ⟨c', (mem_replaceKid _ _ _).mpr (Or.inl ⟨rfl, c, hcmem, i4.symm⟩), i4, i3⟩
      · exact ⟨g0, (mem_replaceKid _ _ _).mpr (Or.inr ⟨hg0, by rw [i4]; exact hgk⟩), rfl, rfl⟩

/-- The code before fix ca91fdf (no refresh after an executing-count change): only this weaker
invariant survives. -/
theorem cache_rekey_legacy (g : Inv → Inv) (hg : KeyOnly g) (path : List Nat) (t : Inv) (ht : HeapTree t)
    (h : CacheTree t) : CacheTree (rekey true g path t) := by
  refine (cache_stable g (upRekey true g) (cache_leaf_of_fields g hg.key hg.ops hg.queued hg.kids hg.prio) ?_
    path t ht h).1
  intro P c'
  obtain ⟨f1, f2, f3, f4, _, _⟩ := upRekey_fields true g hg P c'
  refine ⟨f4, f2, ?_, f1, ?_⟩
  · intro x
    rw [f3]
    unfold maybeFix
    split
    · simp
    · rename_i idx _
      exact mem_of_perm_toList (fix_perm _ _ idx) x
  · unfold upRekey; simp [hg.prio, storeKid]

theorem cache_park (w : Nat) (path : List Nat) (t : Inv) (ht : HeapTree t) (h : CacheTree t) :
    CacheTree (park w path t) :=
  (cache_stable _ upPark (cache_leaf_of_fields _ (by simp) (by simp) (by simp) (by simp) (by simp))
    (by intro P c'; simp [upPark, storeKid]) path t ht h).1

theorem cache_unpark (idx : Nat) (path : List Nat) (t : Inv) (ht : HeapTree t) (h : CacheTree t) :
    CacheTree (unpark idx path t) :=
  (cache_stable _ upUnpark (cache_leaf_of_fields _ (by simp) (by simp) (by simp) (by simp) (by simp)) (by
    intro P c'; unfold upUnpark; simp only []; split <;> simp [storeKid]) path t ht h).1

/-! ### exact caches under every update (after fix ca91fdf) -/

theorem cacheNode_of_exact (c : Inv) (hres : ∀ k ∈ c.queued, ∃ g ∈ c.kids, g.key = k) (h : c.prio = firstPrio c) :
    cacheNode c := by
  have := cacheNode_updateFirst c hres
  obtain ⟨_, fkids, fq, fo, _⟩ := updateFirst_fields c
  unfold cacheNode at this ⊢
  rw [fo, fq, fkids, updateFirst_prio, ← h] at this
  exact this

/-- Exact caches imply the weaker invariant. -/
theorem cacheTree_of_exact : ∀ (t : Inv), HeapTree t → ExactTree t → CacheTree t := by
  intro t ht
  induction ht with
  | mk i _ _ _ _ _ _ hk ih =>
    intro he
    rw [cacheTree_iff]
    intro c hc
    obtain ⟨hp, hce⟩ := ((exactTree_iff i).mp he) c hc
    refine ⟨cacheNode_of_exact c ?_ hp, ih c hc hce⟩
    intro x hx
    obtain ⟨g, hg, hgk, _⟩ := ((heapTree_iff c).mp (hk c hc)).1.qsub x hx
    exact ⟨g, hg, hgk⟩

theorem exact_rekey (g : Inv → Inv) (hg : KeyOnly g) : ∀ (path : List Nat) (t : Inv), ExactTree t →
    ExactTree (rekey false g path t) ∧ (t.prio = firstPrio t → (rekey false g path t).prio = firstPrio (rekey false g path t)) := by
  refine updatePath_induct (fun _ t => ExactTree t)
    (fun t t' => ExactTree t' ∧ (t.prio = firstPrio t → t'.prio = firstPrio t')) ?_ (fun _ _ _ ht _ => ⟨ht, id⟩)
    (fun k _ t c ht hck => (((exactTree_iff t).mp ht) c (mem_of_child t k c hck).1).2) ?_
  · intro t ht
    refine ⟨exactTree_congr t _ (hg.kids t) ht, fun h => ?_⟩
    rw [firstPrio_congr t (g t) (hg.ops t) (hg.queued t) (hg.kids t) (hg.prio t), hg.prio]; exact h
  · rintro k p t c c' ht hck ⟨i1, i2⟩
    obtain ⟨hcmem, _⟩ := mem_of_child t k c hck
    obtain ⟨hcp, hce⟩ := ((exactTree_iff t).mp ht) c hcmem
    obtain ⟨hrk, _, _, _, _, _⟩ := upRekey_fields false g hg t c'
    refine ⟨?_, fun _ => ?_⟩
    · rw [exactTree_iff, hrk]
      exact forall_mem_replaceKid ((exactTree_iff t).mp ht) ⟨i2 hcp, i1⟩
    · -- the parent was refreshed right after its queuedChildren heap was fixed
      unfold upRekey
      simp only [Bool.false_eq_true, if_false]
      generalize (storeKid t c').setQueued _ = N1
      obtain ⟨_, fkids, fq, fo, _⟩ := updateFirst_fields N1
      rw [firstPrio_congr (updateFirstOperationPriority N1) _ (by rw [hg.ops]; simp) (by rw [hg.queued]; simp)
        (by rw [hg.kids]; simp) (by rw [hg.prio]; simp), firstPrio_updateFirst, hg.prio]
      simp [updateFirst_prio]

/-- Walks that change neither operations, nor `queuedChildren`, nor cached priorities (parking,
`dequeue`, creation and removal of invocations that are in no heap). -/
theorem exact_stable (leaf : Inv → Inv) (up : Inv → Inv → Inv)
    (hleaf : ∀ i, HeapTree i → ExactTree i → ExactTree (leaf i) ∧ (leaf i).prio = i.prio ∧
      firstPrio (leaf i) = firstPrio i ∧ (leaf i).key = i.key)
    (hu : ∀ P c', (up P c').key = P.key ∧ (up P c').ops = P.ops ∧ (up P c').queued = P.queued ∧
      (up P c').kids = replaceKid P.kids c' ∧ (up P c').prio = P.prio) :
    ∀ (path : List Nat) (t : Inv), HeapTree t → ExactTree t →
      ExactTree (updatePath leaf up path t) ∧ (updatePath leaf up path t).prio = t.prio ∧
      firstPrio (updatePath leaf up path t) = firstPrio t ∧ (updatePath leaf up path t).key = t.key := by
  intro path t ht he
  refine updatePath_induct (fun _ t => HeapTree t ∧ ExactTree t)
    (fun t t' => ExactTree t' ∧ t'.prio = t.prio ∧ firstPrio t' = firstPrio t ∧ t'.key = t.key)
    (fun t h => hleaf t h.1 h.2) (fun _ _ _ h _ => ⟨h.2, rfl, rfl, rfl⟩)
    (fun k _ t c h hck => ⟨h.1.child hck, (((exactTree_iff t).mp h.2) c (mem_of_child t k c hck).1).2⟩) ?_
    path t ⟨ht, he⟩
  · rintro k p t c c' ⟨ht, he⟩ hck ⟨i1, i2, i3, i4⟩
    obtain ⟨hcmem, hckey⟩ := mem_of_child t k c hck
    obtain ⟨hcp, hce⟩ := ((exactTree_iff t).mp he) c hcmem
    obtain ⟨u1, u2, u3, u4, u5⟩ := hu t c'
    refine ⟨?_, u5, ?_, u1⟩
    · rw [exactTree_iff, u4]
      exact forall_mem_replaceKid ((exactTree_iff t).mp he) ⟨by rw [i2, i3]; exact hcp, i1⟩
    · unfold firstPrio
      rw [u2, u3, u4, u5]
      cases t.ops with
      | cons _ _ => rfl
      | nil =>
        cases t.queued with
        | nil => rfl
        | cons b _ =>
          simp only []
          by_cases hb : b = c'.key
          · rw [hb, kidOr_replaceKid_self t.kids c' c hcmem i4.symm, i4, hckey, kidOr_of_child t k c hck, i2]
          · rw [kidOr_replaceKid_ne t.kids c' b hb]

theorem exact_park (w : Nat) (path : List Nat) (t : Inv) (ht : HeapTree t) (h : ExactTree t) :
    ExactTree (park w path t) :=
  (exact_stable _ upPark (fun i _ he => ⟨exactTree_congr i _ (by simp) he, by simp,
      firstPrio_congr i _ (by simp) (by simp) (by simp) (by simp), by simp⟩)
    (by intro P c'; simp [upPark, storeKid]) path t ht h).1

theorem exact_unpark (idx : Nat) (path : List Nat) (t : Inv) (ht : HeapTree t) (h : ExactTree t) :
    ExactTree (unpark idx path t) :=
  (exact_stable _ upUnpark (fun i _ he => ⟨exactTree_congr i _ (by simp) he, by simp,
      firstPrio_congr i _ (by simp) (by simp) (by simp) (by simp), by simp⟩)
    (by intro P c'; unfold upUnpark; simp only []; split <;> simp [storeKid]) path t ht h).1

end BbRe.Lemmas.Fair
