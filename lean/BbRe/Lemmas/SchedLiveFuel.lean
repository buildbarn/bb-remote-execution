import BbRe.Lemmas.SchedLiveTimeout
/-!
Termination measure of the cleanup loop (C06 `quiescence`, key lemma): every
callback removes the object of its entry (a worker, an operation or a
size-class queue) and creates none, so `workers + operations + queues` strictly
decreases; `cleanupFuel` exceeds it, hence `enter` leaves no due entry behind.
-/
namespace BbRe.Lemmas.SchedLive
open BbRe.Sched

/-- number of objects a cleanup callback can still remove -/
def objCount (s : State) : Nat := s.workers.length + s.ops.length + s.scqs.length

/-- the clock, the object counts: unchanged -/
structure Same (s s' : State) : Prop where
  now : s'.now = s.now
  w : s'.workers.length = s.workers.length
  o : s'.ops.length = s.ops.length
  q : s'.scqs.length = s.scqs.length

theorem Same.refl (s : State) : Same s s := ⟨rfl, rfl, rfl, rfl⟩
theorem Same.trans {a b c : State} (h1 : Same a b) (h2 : Same b c) : Same a c :=
  ⟨h2.now.trans h1.now, h2.w.trans h1.w, h2.o.trans h1.o, h2.q.trans h1.q⟩

theorem length_setWorker (s : State) (w : Worker) : (s.setWorker w).workers.length = s.workers.length := by
  rw [setWorker_workers, List.length_map]

theorem detachW_same (s : State) (t : Task) : Same s (detachW s t) := by
  unfold detachW
  (repeat' split) <;> first | exact Same.refl _ | exact ⟨rfl, length_setWorker _ _, rfl, rfl⟩

theorem length_of_akeys {α} {l l' : List (Nat × α)} (h : akeys l' = akeys l) : l'.length = l.length := by
  have := congrArg List.length h
  simpa [akeys] using this

/-- a scheduler-made (non-success, not by the worker) completion creates and removes no object -/
theorem complete_same {h : Hints} {s s' : State} {tid : Nat} {r : Resp} (hk : KeysOK s) (hns : ¬ isSucc r)
    (hh : complete h s tid r false = .ok s') : Same s s' := by
  obtain ⟨t, h0, ⟨_, rfl⟩ | ⟨_, l, _, h1 | h1 | h1⟩⟩ := complete_ok hh
  · exact Same.refl _
  · exact absurd h1.1 hns
  · cases h1.2.1
  · obtain ⟨_, _, ev, _, rfl⟩ := h1
    refine (detachW_same s t).trans ?_
    let M : State := (dropDedup (emit (detachW s t) ev) { detachT t with learner := none }).setTask
        (bumpGen { detachT t with learner := none, response := some r })
    have eM : succS (detachW s t) (detachT t) ev r = complete.finishOps M (detachT t).ops := rfl
    have hMo : M.ops = (detachW s t).ops := by simp [M]
    have hn : ∀ k op, M.op? k = some op → op.name = k := by
      intro k op e
      have : s.op? k = some op := by simpa [State.op?, hMo] using e
      exact (hk.oname k op this).1
    have hs := finishOps_opsSame (detachT t).ops M hn
    refine ⟨by simp, by simp, ?_, by simp⟩
    rw [eM, length_of_akeys hs.keys, hMo]

theorem cancelAllQueued_same {h : Hints} {s s' : State} {q : ScqId} {r : Resp} (hns : ¬ isSucc r)
    (hk : KeysOK s) (hh : cancelAllQueued h s q r = .ok s') : KeysOK s' ∧ Same s s' := by
  have := cancelAllQueued_rel (fun a b => KeysOK a → KeysOK b ∧ Same a b) (fun a ha => ⟨ha, Same.refl a⟩)
    (fun a b c h1 h2 ha => by
      obtain ⟨hb, s1⟩ := h1 ha; obtain ⟨hc, s2⟩ := h2 hb; exact ⟨hc, s1.trans s2⟩)
    (h := h) (r := r) (fun a t b hc ha => ⟨(complete_tstep hc ha).1, complete_same ha hns hc⟩) hh
  exact this hk

/-- **Each callback removes its object.** -/
theorem callback_decreases {h : Hints} {s s' : State} {e : CleanupEntry} {rest : List CleanupEntry}
    (hi : KWC noEx s) (hp : popDue s.now s.cleanup = some (e, rest))
    (hh : callback h (setCleanup s rest) e = .ok s') : objCount s' < objCount s ∧ s'.now = s.now := by
  obtain ⟨hmem, _, _, rfl⟩ := popDue_some hp
  have hkP : KeysOK (setCleanup s (s.cleanup.filter (fun x => x ≠ e))) :=
    (TStep.of_same (allow := True) (s := s) (s' := setCleanup s (s.cleanup.filter (fun x => x ≠ e))) rfl rfl rfl rfl hi.1.1).1
  have hek : hasK s e.kind := ⟨e, hmem, rfl⟩
  unfold callback at hh
  cases hkind : e.kind with
  | worker q w =>
    simp only [hkind] at hh
    obtain ⟨wk, hm, hq, hw⟩ := hi.2.eW q w (hkind ▸ hek)
    have hlk : (setCleanup s (s.cleanup.filter (fun x => x ≠ e))).worker? q w = some wk := by
      have := worker?_of_mem hi.1.2.uniq hm; rw [hq, hw] at this; exact this
    have hin : wk.inSync = false := by
      cases hin : wk.inSync with
      | false => rfl
      | true => exact absurd (by rw [hq, hw, ← hkind]; exact hek) (hi.2.wIn wk hm hin)
    have hpk : wk.parked = false := (flags_of_not_inSync (hi.1.2.ok wk hm) hin).1
    rcases removeStaleWorker_ok hh with ⟨hn, _⟩ | ⟨wk', s1, hwk', h1, rfl⟩
    · rw [hlk] at hn; cases hn
    · have hs1 : Same (setCleanup s (s.cleanup.filter (fun x => x ≠ e))) s1 ∧ ∃ x ∈ s1.workers, x.scq = q ∧ x.id = w := by
        rcases h1 with ⟨t, _, h1⟩ | ⟨_, rfl⟩
        · refine ⟨complete_same hkP (by simp [isSucc, cUnavailable, cOK]) h1, ?_⟩
          have hwP : WInv (setCleanup s (s.cleanup.filter (fun x => x ≠ e))) := winv_same hi.1.2 rfl rfl rfl rfl
          obtain ⟨keep, _⟩ := complete_keep (q := q) (w := w) h1 hwP
          obtain ⟨wk2, e1, _⟩ := keep wk hlk hpk
          obtain ⟨a, b, c⟩ := worker?_mem e1
          exact ⟨wk2, a, b, c⟩
        · exact ⟨Same.refl _, wk, hm, hq, hw⟩
      obtain ⟨sm, x, hx, hxq, hxw⟩ := hs1
      have hwl : (dropWorker s1 q w e.deadline).workers.length < s1.workers.length := by
        rw [dropWorker_workers, filterWorkers_workers]
        exact List.length_filter_lt_length_iff_exists.2 ⟨x, hx, by simp [hxq, hxw]⟩
      have hrest : (dropWorker s1 q w e.deadline).ops = s1.ops ∧ (dropWorker s1 q w e.deadline).scqs = s1.scqs ∧
          (dropWorker s1 q w e.deadline).now = s1.now := ⟨by simp, by simp, by simp⟩
      refine ⟨?_, by rw [hrest.2.2, sm.now]; rfl⟩
      unfold objCount
      rw [hrest.1, hrest.2.1]
      have e1 := sm.w; have e2 := sm.o; have e3 := sm.q
      simp only [setCleanup_workers, setCleanup_ops, setCleanup_scqs] at e1 e2 e3
      omega
  | op o =>
    simp only [hkind] at hh
    obtain ⟨op, hop, _, _⟩ := hi.2.eO o (hkind ▸ hek)
    rcases removeOp_ok hh with ⟨hn, _⟩ | ⟨op', t, s1, t1, hop', _, h1, h2, rfl⟩
    · have : (setCleanup s (s.cleanup.filter (fun x => x ≠ e))).op? o = some op := hop
      rw [this] at hn; cases hn
    · have hlt : (eraseOp (setCleanup s (s.cleanup.filter (fun x => x ≠ e))) o).ops.length < s.ops.length :=
        length_aerase_lt o s.ops op hop
      have hkE : KeysOK (eraseOp (setCleanup s (s.cleanup.filter (fun x => x ≠ e))) o) := (eraseOp_tstep True _ o hkP).1
      have hs1 : s1.now = s.now ∧ s1.workers.length = s.workers.length ∧ s1.ops.length < s.ops.length ∧
          s1.scqs.length = s.scqs.length := by
        rcases h1 with ⟨_, h1⟩ | ⟨_, rfl⟩
        · have sm := complete_same hkE (by simp [isSucc, cCanceled, cOK]) h1
          exact ⟨sm.now, sm.w, by rw [sm.o]; exact hlt, sm.q⟩
        · exact ⟨rfl, rfl, hlt, rfl⟩
      refine ⟨?_, by simp [hs1.1]⟩
      unfold objCount
      simp only [dropOpT_workers, dropOpT_ops, dropOpT_scqs]
      omega
  | scq q =>
    simp only [hkind] at hh
    obtain ⟨⟨sq, hsq, _⟩, _⟩ := hi.2.eS q (hkind ▸ hek)
    obtain ⟨s1, h1, rfl⟩ := removeScq_ok hh
    obtain ⟨hk1, sm⟩ := cancelAllQueued_same (by simp [isSucc, cUnavailable, cOK]) hkP h1
    -- the queue is still there before `dropScq` removes it
    have hsq1 : ∃ x ∈ s1.scqs, x.id = q := by
      -- `cancelAllQueued` keeps queue lookups
      have : (s1.scq? q).map (·.mayBeRemoved) = (s.scq? q).map (·.mayBeRemoved) := by
        have hfr := cancelAllQueued_rel (fun a b => a.scqs = b.scqs) (fun _ => rfl) (fun _ _ _ h1 h2 => h1.trans h2)
          (h := h) (r := ⟨cUnavailable, 0, 0, .queueRemoved⟩)
          (fun a t b hc => by
            obtain ⟨t0, _, ⟨_, rfl⟩ | ⟨_, l, _, c1 | c1 | c1⟩⟩ := complete_ok hc
            · rfl
            · exact absurd c1.1 (by simp [isSucc, cUnavailable, cOK])
            · cases c1.2.1
            · obtain ⟨_, _, ev, _, rfl⟩ := c1; simp) h1
        simp [State.scq?, ← hfr]
      rw [hsq] at this
      cases hs1 : s1.scq? q with
      | none => rw [hs1] at this; cases this
      | some x =>
        have hx := List.mem_of_find?_eq_some (show s1.scqs.find? (fun y => y.id = q) = some x from hs1)
        have hid := List.find?_some (show s1.scqs.find? (fun y => y.id = q) = some x from hs1)
        exact ⟨x, hx, by simpa using hid⟩
    obtain ⟨x, hx, hxq⟩ := hsq1
    have hql : (dropScq s1 q).scqs.length < s1.scqs.length := by
      rw [dropScq_scqs]
      exact List.length_filter_lt_length_iff_exists.2 ⟨x, hx, by simp [hxq]⟩
    refine ⟨?_, by simp [sm.now]⟩
    unfold objCount
    simp only [dropScq_workers, dropScq_ops]
    have e1 := sm.w; have e2 := sm.o; have e3 := sm.q
    simp only [setCleanup_workers, setCleanup_ops, setCleanup_scqs] at e1 e2 e3
    omega

/-- **The cleanup loop is exhaustive**: with fuel above the number of removable objects it stops only
when no entry is due. -/
theorem runCleanup_exhaustive {h : Hints} (f : Nat) (s s' : State) (hi : KWC noEx s) (hf : objCount s < f)
    (hh : runCleanup h f s = .ok s') : s'.now = s.now ∧ popDue s'.now s'.cleanup = none := by
  induction f generalizing s with
  | zero => omega
  | succ f ih =>
    rw [runCleanup_succ] at hh
    cases hp : popDue s.now s.cleanup with
    | none => simp only [hp, pure_ok] at hh; subst hh; exact ⟨rfl, hp⟩
    | some p =>
      obtain ⟨e, rest⟩ := p
      simp only [hp, bind_ok] at hh
      obtain ⟨s1, h1, h2⟩ := hh
      have hi1 := callback_kwc hi hp h1
      obtain ⟨hd, hn⟩ := callback_decreases hi hp h1
      obtain ⟨a, b⟩ := ih s1 hi1 (by omega) h2
      exact ⟨a.trans hn, b⟩

/-- **`enter` leaves no due entry**: after `enter(now)` every remaining cleanup entry has a deadline
in the future — every timed failure that was due has happened. -/
theorem enter_exhaustive {h : Hints} {s s' : State} {now : Nat} (hi : KWC noEx s) (hnow : s.now < now)
    (hh : enter h s now = .ok s') : s'.now = now ∧ ∀ e ∈ s'.cleanup, now < e.deadline := by
  rcases enter_ok hh with ⟨hle, _⟩ | ⟨_, h1⟩
  · omega
  · have hi0 : KWC noEx (setNow s now) :=
      hi.same
    obtain ⟨a, b⟩ := runCleanup_exhaustive (cleanupFuel s) (setNow s now) s' hi0
      (by unfold objCount cleanupFuel; simp only [setNow_workers, setNow_ops, setNow_scqs]; omega) h1
    have hn : s'.now = now := a
    refine ⟨hn, ?_⟩
    rw [hn] at b
    exact popDue_none.1 b

end BbRe.Lemmas.SchedLive
