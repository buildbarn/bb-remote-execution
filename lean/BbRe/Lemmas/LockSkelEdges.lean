/-
Soundness of the extraction of the acquired-while-holding relation (C14 part b).

`pairsRun` replays a trace and lists every pair (class of a held lock, class of the lock
being acquired); an acquisition through a `LockPile` does not count the locks currently
held through the same pile. `edges_sound`: for a program accepted by `consistent`,
`acqClosed`, `ownOk` and `edgesProg`, every such pair of every returning run of every
function (started with the locks its summary requires, ghosts included) is one of the
edges computed by `edgesProg`.
Core Lean only.
-/
import BbRe.Model.LockSkel
import BbRe.Lemmas.LockSkel
import BbRe.Lemmas.LockSkelCtx

namespace BbRe.Lemmas.LockSkelEdges
open BbRe.LockSkel BbRe.Lemmas.LockSkel

/-- Pairs (class of a held lock, class of the acquired lock) contributed by one event.
Taking an ownership token (`isOwn`) never blocks; `LockPile.Lock` does not block while
holding locks of the same pile. -/
def stepPairs (cls : List Nat) (s : RS) : Ev → List (Nat × Nat)
  | .acq l => if isOwn l then [] else s.held.map (fun x => (clsOf cls x, clsOf cls l))
  | .pacq p l => (mdiff s.held (s.piles p)).map (fun x => (clsOf cls x, clsOf cls l))
  | _ => []

def pairsFrom (cls : List Nat) (s : RS) : List Ev → List (Nat × Nat)
  | [] => []
  | e :: t => stepPairs cls s e ++ pairsFrom cls (stepR s e) t

/-- All acquired-while-holding class pairs of the trace `tr` replayed from `held`/`piles`. -/
def pairsRun (cls : List Nat) (held : List Nat) (piles : Nat → List Nat) (tr : List Ev) :
    List (Nat × Nat) := pairsFrom cls ⟨held, piles⟩ tr

theorem mem_pairsFrom_append {cls : List Nat} {s : RS} {t1 t2 : List Ev} {e : Nat × Nat} :
    e ∈ pairsFrom cls s (t1 ++ t2) ↔
      e ∈ pairsFrom cls s t1 ∨ e ∈ pairsFrom cls (stRun s t1) t2 := by
  induction t1 generalizing s with
  | nil => simp [pairsFrom, stRun]
  | cons x t ih =>
    simp only [List.cons_append, pairsFrom, stRun, List.mem_append, ih, or_assoc]

theorem mem_addEdge {e x : Nat × Nat} {es : Edges} : e ∈ addEdge x es ↔ e = x ∨ e ∈ es := by
  unfold addEdge
  split
  · rename_i hc
    have hm : x ∈ es := List.contains_iff_mem.mp hc
    constructor
    · exact Or.inr
    · rintro (rfl | h)
      · exact hm
      · exact h
  · exact List.mem_cons

theorem mem_addEdges {e : Nat × Nat} {c : Nat} : ∀ {hs : List Nat} {es : Edges},
    e ∈ addEdges hs c es ↔ e ∈ es ∨ ∃ h, h ∈ hs ∧ e = (h, c)
  | [], es => by simp [addEdges]
  | x :: xs, es => by
    show e ∈ addEdges xs c (addEdge (x, c) es) ↔ _
    rw [mem_addEdges, mem_addEdge]
    constructor
    · rintro ((h | h) | ⟨y, hy, h⟩)
      · exact Or.inr ⟨x, List.mem_cons_self, h⟩
      · exact Or.inl h
      · exact Or.inr ⟨y, List.mem_cons_of_mem _ hy, h⟩
    · rintro (h | ⟨y, hy, h⟩)
      · exact Or.inl (Or.inr h)
      · rcases List.mem_cons.mp hy with rfl | hy
        · exact Or.inl (Or.inl h)
        · exact Or.inr ⟨y, hy, h⟩

theorem mem_callEdges {e : Nat × Nat} {fr : List Nat} : ∀ {T : List Nat} {es : Edges},
    e ∈ T.foldl (fun acc c => addEdges fr c acc) es ↔
      e ∈ es ∨ ∃ c, c ∈ T ∧ ∃ h, h ∈ fr ∧ e = (h, c)
  | [], es => by simp
  | t :: T, es => by
    rw [List.foldl_cons, mem_callEdges, mem_addEdges]
    constructor
    · rintro ((h | ⟨y, hy, h⟩) | ⟨c, hc, y, hy, h⟩)
      · exact Or.inl h
      · exact Or.inr ⟨t, List.mem_cons_self, y, hy, h⟩
      · exact Or.inr ⟨c, List.mem_cons_of_mem _ hc, y, hy, h⟩
    · rintro (h | ⟨c, hc, y, hy, h⟩)
      · exact Or.inl (Or.inl h)
      · rcases List.mem_cons.mp hc with rfl | hc
        · exact Or.inl (Or.inr ⟨y, hy, h⟩)
        · exact Or.inr ⟨c, hc, y, hy, h⟩

/-! ## `edgesS` only adds edges, and computes the same outcomes as `execA` -/

def ESub (a b : Edges) : Prop := ∀ e, e ∈ a → e ∈ b

theorem ESub.refl (a : Edges) : ESub a a := fun _ h => h
theorem ESub.trans {a b c : Edges} (h1 : ESub a b) (h2 : ESub b c) : ESub a c :=
  fun e h => h2 e (h1 e h)

theorem esub_addEdges (hs : List Nat) (c : Nat) (es : Edges) : ESub es (addEdges hs c es) :=
  fun _ h => mem_addEdges.mpr (Or.inl h)

theorem esub_callEdges (fr T : List Nat) (es : Edges) :
    ESub es (T.foldl (fun acc c => addEdges fr c acc) es) :=
  fun _ h => mem_callEdges.mpr (Or.inl h)

/-! ### `edgesS` on composite statements, in bind form (as for `execA` in `Lemmas/LockSkel.lean`) -/

theorem bindE_cons (o : Out) (s : AS) (rest : Outs) (es : Edges) (k : Out → AS → Edges → ResE) :
    bindE ((o, s) :: rest) es k = (k o s es).bind fun p1 =>
      (bindE rest p1.2 k).bind fun p2 => .ok (union p1.1 p2.1, p2.2) := by
  simp only [bindE]
  cases k o s es with
  | error e => rfl
  | ok p1 => obtain ⟨r1, es1⟩ := p1; dsimp only [Except.bind]; cases bindE rest es1 k <;> rfl

section EdgesS
variable (cls : List Nat) (tbl : AcqTbl) (sig : Sig) (s : AS) (es : Edges)

theorem edgesS_seq (a b : Stmt) : edgesS cls tbl sig (.seq a b) s es =
    (edgesS cls tbl sig a s es).bind fun p => bindE p.1 p.2 (fun o s1 es2 =>
      if o = .norm then edgesS cls tbl sig b s1 es2 else .ok ([(o, s1)], es2)) := by
  simp only [edgesS]; cases edgesS cls tbl sig a s es <;> rfl

theorem edgesS_choice (t : Nat) (a b : Stmt) : edgesS cls tbl sig (.choice t a b) s es =
    (edgesS cls tbl sig a s es).bind fun p1 =>
      (edgesS cls tbl sig b s p1.2).bind fun p2 => .ok (union p1.1 p2.1, p2.2) := by
  simp only [edgesS]
  cases edgesS cls tbl sig a s es with
  | error e => rfl
  | ok p1 => obtain ⟨r1, es1⟩ := p1; dsimp only [Except.bind]; cases edgesS cls tbl sig b s es1 <;> rfl

theorem edgesS_loop (ce : Bool) (a : Stmt) : edgesS cls tbl sig (.loop ce a) s es =
    (edgesS cls tbl sig a s es).bind fun p => (loopOuts ce s p.1).bind fun r' => .ok (r', p.2) := by
  simp only [edgesS]
  cases edgesS cls tbl sig a s es with
  | error e => rfl
  | ok p => obtain ⟨r, es1⟩ := p; dsimp only [Except.bind]; cases loopOuts ce s r <;> rfl

/-- What `fin _ d` does with an outcome of its body. -/
def finKE (cls : List Nat) (tbl : AcqTbl) (sig : Sig) (d : Stmt) (o : Out) (s1 : AS) (es2 : Edges) : ResE :=
  if o = .pnc then .ok ([(.pnc, s1)], es2)
  else (edgesS cls tbl sig d s1 es2).bind fun p =>
    .ok (p.1.map (fun x => (if x.1 = .pnc then Out.pnc else o, x.2)), p.2)

theorem edgesS_fin (a d : Stmt) : edgesS cls tbl sig (.fin a d) s es =
    (edgesS cls tbl sig a s es).bind fun p => bindE p.1 p.2 (finKE cls tbl sig d) := by
  have hk : (fun o s1 es2 => if o = .pnc then .ok ([(.pnc, s1)], es2)
      else match edgesS cls tbl sig d s1 es2 with
        | .error e => .error e
        | .ok (r2, es3) => .ok (r2.map (fun x => (if x.1 = .pnc then Out.pnc else o, x.2)), es3)) =
      finKE cls tbl sig d := by
    funext o s1 es2
    unfold finKE
    split
    · rfl
    · cases edgesS cls tbl sig d s1 es2 <;> rfl
  simp only [edgesS]
  cases edgesS cls tbl sig a s es with
  | error e => rfl
  | ok p => exact congrArg (bindE p.1 p.2) hk

theorem edgesS_scope (a : Stmt) : edgesS cls tbl sig (.scope a) s es =
    (edgesS cls tbl sig a s es).bind fun p => .ok (p.1.map (fun x => (unscope x.1, x.2)), p.2) := by
  simp only [edgesS]; cases edgesS cls tbl sig a s es <;> rfl

theorem edgesS_block (a : Stmt) : edgesS cls tbl sig (.block a) s es =
    (edgesS cls tbl sig a s es).bind fun p => .ok (p.1.map (fun x => (unblock x.1, x.2)), p.2) := by
  simp only [edgesS]; cases edgesS cls tbl sig a s es <;> rfl

end EdgesS

/-- the continuation only adds edges -/
def KMono (k : Out → AS → Edges → ResE) : Prop :=
  ∀ o s e1 R1 e2, k o s e1 = .ok (R1, e2) → ESub e1 e2

theorem bindE_mono {k : Out → AS → Edges → ResE} (hk : KMono k) :
    ∀ {r : Outs} {es : Edges} {R : Outs} {es' : Edges}, bindE r es k = .ok (R, es') → ESub es es'
  | [], es, R, es', h => by
    simp only [bindE, Except.ok.injEq, Prod.mk.injEq] at h
    rw [h.2]; exact ESub.refl _
  | (o, s) :: rest, es, R, es', h => by
    rw [bindE_cons] at h
    obtain ⟨⟨r1, es1⟩, h1, h⟩ := bind_ok h
    obtain ⟨⟨r2, es2⟩, h2, h⟩ := bind_ok h
    cases h
    exact (hk _ _ _ _ _ h1).trans (bindE_mono hk h2)

theorem bindE_mem {k : Out → AS → Edges → ResE} (hk : KMono k) :
    ∀ {r : Outs} {es : Edges} {R : Outs} {es' : Edges} {o : Out} {s : AS},
      bindE r es k = .ok (R, es') → (o, s) ∈ r →
      ∃ e1 R1 e2, k o s e1 = .ok (R1, e2) ∧ ESub e2 es' ∧ ∀ x, x ∈ R1 → x ∈ R
  | [], _, _, _, _, _, _, hm => by cases hm
  | (o0, s0) :: rest, es, R, es', o, s, h, hm => by
    rw [bindE_cons] at h
    obtain ⟨⟨r1, es1⟩, h1, h⟩ := bind_ok h
    obtain ⟨⟨r2, es2⟩, h2, h⟩ := bind_ok h
    cases h
    rcases List.mem_cons.mp hm with heq | hm'
    · cases heq
      exact ⟨es, r1, es1, h1, bindE_mono hk h2, fun x hx => mem_union.mpr (Or.inl hx)⟩
    · obtain ⟨e1, R1, e2, hk1, hsub, hR1⟩ := bindE_mem hk h2 hm'
      exact ⟨e1, R1, e2, hk1, hsub, fun x hx => mem_union.mpr (Or.inr (hR1 x hx))⟩

/-- `bindE` and `bindAll` agree on outcomes if the continuations do. -/
theorem bind_outs_eq {kE : Out → AS → Edges → ResE} {kA : Out → AS → Res}
    (hk : ∀ o s e R1 e' R1', kA o s = .ok R1' → kE o s e = .ok (R1, e') → R1 = R1') :
    ∀ {r : Outs} {es : Edges} {R R' : Outs} {es' : Edges},
      bindAll r kA = .ok R' → bindE r es kE = .ok (R, es') → R = R'
  | [], es, R, R', es', h1, h2 => by
    simp only [bindAll, Except.ok.injEq] at h1
    simp only [bindE, Except.ok.injEq, Prod.mk.injEq] at h2
    rw [← h1, ← h2.1]
  | (o, s) :: rest, es, R, R', es', h1, h2 => by
    rw [bindAll_cons] at h1
    rw [bindE_cons] at h2
    obtain ⟨a1, ha1, h1⟩ := bind_ok h1
    obtain ⟨a2, ha2, h1⟩ := bind_ok h1
    obtain ⟨⟨b1, eb1⟩, hb1, h2⟩ := bind_ok h2
    obtain ⟨⟨b2, eb2⟩, hb2, h2⟩ := bind_ok h2
    cases h1; cases h2
    rw [hk _ _ _ _ _ _ ha1 hb1, bind_outs_eq hk ha2 hb2]

theorem edgesS_mono (cls : List Nat) (tbl : AcqTbl) (sig : Sig) : ∀ (s : Stmt) (a : AS)
    (es : Edges) (R : Outs) (es' : Edges), edgesS cls tbl sig s a es = .ok (R, es') → ESub es es' := by
  intro s
  induction s with
  | skip | mark _ _ | ret _ | brk | cont | panic | setFlag _ _ =>
    intro a es R es' h
    simp only [edgesS, Except.ok.injEq, Prod.mk.injEq] at h
    rw [← h.2]; exact ESub.refl _
  | unsupported w => intro a es R es' h; simp only [edgesS] at h; cases h
  | acq l =>
    intro a es R es' h
    simp only [edgesS, Except.ok.injEq, Prod.mk.injEq] at h
    rw [← h.2]
    split
    · exact ESub.refl _
    · exact esub_addEdges _ _ _
  | rel l =>
    intro a es R es' h
    simp only [edgesS] at h
    split at h
    · simp only [Except.ok.injEq, Prod.mk.injEq] at h
      rw [← h.2]; exact ESub.refl _
    · cases h
  | need cs =>
    intro a es R es' h
    simp only [edgesS] at h
    split at h
    · simp only [Except.ok.injEq, Prod.mk.injEq] at h
      rw [← h.2]; exact ESub.refl _
    · cases h
  | pileLock p l =>
    intro a es R es' h
    simp only [edgesS] at h
    split at h
    · cases h
    · simp only [Except.ok.injEq, Prod.mk.injEq] at h
      rw [← h.2]; exact esub_addEdges _ _ _
  | pileUnlock p l =>
    intro a es R es' h
    simp only [edgesS] at h
    split at h
    · split at h
      · simp only [Except.ok.injEq, Prod.mk.injEq] at h
        rw [← h.2]; exact ESub.refl _
      · cases h
    · cases h
  | pileUnlockAll p =>
    intro a es R es' h
    simp only [edgesS] at h
    split at h
    · simp only [Except.ok.injEq, Prod.mk.injEq] at h
      rw [← h.2]; exact ESub.refl _
    · cases h
  | call g ren =>
    intro a es R es' h
    simp only [edgesS] at h
    split at h
    · cases h
    · simp only [Except.ok.injEq, Prod.mk.injEq] at h
      rw [← h.2]; exact esub_callEdges _ _ _
  | seq x y ix iy =>
    intro a es R es' h
    rw [edgesS_seq] at h
    obtain ⟨⟨r, es1⟩, h1, h⟩ := bind_ok h
    refine (ix _ _ _ _ h1).trans (bindE_mono ?_ h)
    intro o s e1 R1 e2 hk
    dsimp only at hk
    split at hk
    · exact iy _ _ _ _ hk
    · cases hk; exact ESub.refl _
  | choice t x y ix iy =>
    intro a es R es' h
    rw [edgesS_choice] at h
    obtain ⟨⟨r1, es1⟩, h1, h⟩ := bind_ok h
    obtain ⟨⟨r2, es2⟩, h2, h⟩ := bind_ok h
    cases h
    exact (ix _ _ _ _ h1).trans (iy _ _ _ _ h2)
  | loop ce x ix =>
    intro a es R es' h
    rw [edgesS_loop] at h
    obtain ⟨⟨r, es1⟩, h1, h⟩ := bind_ok h
    obtain ⟨r', _, h⟩ := bind_ok h
    cases h
    exact ix _ _ _ _ h1
  | fin x y ix iy =>
    intro a es R es' h
    rw [edgesS_fin] at h
    obtain ⟨⟨r, es1⟩, h1, h⟩ := bind_ok h
    refine (ix _ _ _ _ h1).trans (bindE_mono ?_ h)
    intro o s e1 R1 e2 hk
    unfold finKE at hk
    split at hk
    · cases hk; exact ESub.refl _
    · obtain ⟨⟨r2, es3⟩, h3, hk⟩ := bind_ok hk
      cases hk
      exact iy _ _ _ _ h3
  | scope x ix =>
    intro a es R es' h
    rw [edgesS_scope] at h
    obtain ⟨⟨r, es1⟩, h1, h⟩ := bind_ok h
    cases h
    exact ix _ _ _ _ h1
  | block x ix =>
    intro a es R es' h
    rw [edgesS_block] at h
    obtain ⟨⟨r, es1⟩, h1, h⟩ := bind_ok h
    cases h
    exact ix _ _ _ _ h1
  | ifFlag v x y ix iy =>
    intro a es R es' h
    simp only [edgesS] at h
    split at h
    · exact ix _ _ _ _ h
    · exact iy _ _ _ _ h

theorem kmono_seq (cls : List Nat) (tbl : AcqTbl) (sig : Sig) (b : Stmt) :
    KMono (fun o s1 es2 => if o = .norm then edgesS cls tbl sig b s1 es2 else .ok ([(o, s1)], es2)) := by
  intro o s e1 R1 e2 hk
  dsimp only at hk
  split at hk
  · exact edgesS_mono cls tbl sig b _ _ _ _ hk
  · cases hk; exact ESub.refl _

theorem kmono_fin (cls : List Nat) (tbl : AcqTbl) (sig : Sig) (d : Stmt) :
    KMono (finKE cls tbl sig d) := by
  intro o s e1 R1 e2 hk
  unfold finKE at hk
  split at hk
  · cases hk; exact ESub.refl _
  · obtain ⟨⟨r2, es3⟩, h3, hk⟩ := bind_ok hk
    cases hk
    exact edgesS_mono cls tbl sig d _ _ _ _ h3

theorem edgesS_outs_eq_execA (cls : List Nat) (tbl : AcqTbl) (sig : Sig) : ∀ (s : Stmt) (a : AS)
    (es : Edges) (R R' : Outs) (es' : Edges),
    execA sig s a = .ok R' → edgesS cls tbl sig s a es = .ok (R, es') → R = R' := by
  intro s
  induction s with
  | skip | mark _ _ | ret _ | brk | cont | panic | setFlag _ _ =>
    intro a es R R' es' h1 h2
    cases h1; cases h2; rfl
  | unsupported _ => intro a es R R' es' h1 h2; cases h1
  | acq l =>
    intro a es R R' es' h1 h2
    simp only [execA] at h1
    split at h1
    · cases h1
    · cases h1; cases h2; rfl
  | rel l =>
    intro a es R R' es' h1 h2
    simp only [execA] at h1
    simp only [edgesS] at h2
    split at h1
    · cases h1
    · split at h1
      · rw [if_pos ‹_›] at h2; cases h1; cases h2; rfl
      · cases h1
  | need cs =>
    intro a es R R' es' h1 h2
    simp only [execA] at h1
    simp only [edgesS] at h2
    split at h1
    · rw [if_pos ‹_›] at h2; cases h1; cases h2; rfl
    · cases h1
  | pileLock p l =>
    intro a es R R' es' h1 h2
    simp only [execA] at h1
    simp only [edgesS] at h2
    split at h1
    · cases h1
    · split at h2
      · cases h2
      · cases h1; cases h2; rfl
  | pileUnlock p l =>
    intro a es R R' es' h1 h2
    simp only [execA] at h1
    simp only [edgesS] at h2
    split at h1
    · cases h1
    · split at h1
      · split at h1
        · rw [if_pos ‹_›, if_pos ‹_›] at h2; cases h1; cases h2; rfl
        · cases h1
      · cases h1
  | pileUnlockAll p =>
    intro a es R R' es' h1 h2
    simp only [execA] at h1
    simp only [edgesS] at h2
    cases hr : removeAll a.held (getP a.c.piles p) with
    | none => simp only [hr] at h1; cases h1
    | some h => simp only [hr] at h1 h2; cases h1; cases h2; rfl
  | call g ren =>
    intro a es R R' es' h1 h2
    simp only [execA] at h1
    simp only [edgesS] at h2
    cases hc : callA sig g ren a.held with
    | error e => simp only [hc] at h1; cases h1
    | ok fh => simp only [hc] at h1 h2; cases h1; cases h2; rfl
  | seq x y ix iy =>
    intro a es R R' es' h1 h2
    rw [execA_seq] at h1
    rw [edgesS_seq] at h2
    obtain ⟨ra, hra, h1⟩ := bind_ok h1
    obtain ⟨⟨rb, es1⟩, hrb, h2⟩ := bind_ok h2
    cases ix _ _ _ _ _ hra hrb
    refine bind_outs_eq ?_ h1 h2
    intro o s e R1 e' R1' k1 k2
    split at k1
    · rw [if_pos ‹_›] at k2
      exact iy _ _ _ _ _ k1 k2
    · rw [if_neg ‹_›] at k2
      cases k1; cases k2; rfl
  | choice t x y ix iy =>
    intro a es R R' es' h1 h2
    rw [execA_choice] at h1
    rw [edgesS_choice] at h2
    obtain ⟨ra, hra, h1⟩ := bind_ok h1
    obtain ⟨ra2, hra2, h1⟩ := bind_ok h1
    obtain ⟨⟨rb, es1⟩, hrb, h2⟩ := bind_ok h2
    obtain ⟨⟨rb2, es2⟩, hrb2, h2⟩ := bind_ok h2
    cases ix _ _ _ _ _ hra hrb
    cases iy _ _ _ _ _ hra2 hrb2
    cases h1; cases h2; rfl
  | loop ce x ix =>
    intro a es R R' es' h1 h2
    rw [execA_loop] at h1
    rw [edgesS_loop] at h2
    obtain ⟨ra, hra, h1⟩ := bind_ok h1
    obtain ⟨⟨rb, es1⟩, hrb, h2⟩ := bind_ok h2
    cases ix _ _ _ _ _ hra hrb
    rw [h1] at h2
    cases h2; rfl
  | fin x y ix iy =>
    intro a es R R' es' h1 h2
    rw [execA_fin] at h1
    rw [edgesS_fin] at h2
    obtain ⟨ra, hra, h1⟩ := bind_ok h1
    obtain ⟨⟨rb, es1⟩, hrb, h2⟩ := bind_ok h2
    cases ix _ _ _ _ _ hra hrb
    refine bind_outs_eq ?_ h1 h2
    intro o s e R1 e' R1' k1 k2
    unfold finK at k1
    unfold finKE at k2
    split at k1
    · rw [if_pos ‹_›] at k2
      cases k1; cases k2; rfl
    · rw [if_neg ‹_›] at k2
      obtain ⟨r2, hr2, k1⟩ := bind_ok k1
      obtain ⟨⟨r3, es3⟩, hr3, k2⟩ := bind_ok k2
      cases iy _ _ _ _ _ hr2 hr3
      cases k1; cases k2; rfl
  | scope x ix =>
    intro a es R R' es' h1 h2
    rw [execA_scope] at h1
    rw [edgesS_scope] at h2
    obtain ⟨ra, hra, h1⟩ := bind_ok h1
    obtain ⟨⟨rb, es1⟩, hrb, h2⟩ := bind_ok h2
    cases ix _ _ _ _ _ hra hrb
    cases h1; cases h2; rfl
  | block x ix =>
    intro a es R R' es' h1 h2
    rw [execA_block] at h1
    rw [edgesS_block] at h2
    obtain ⟨ra, hra, h1⟩ := bind_ok h1
    obtain ⟨⟨rb, es1⟩, hrb, h2⟩ := bind_ok h2
    cases ix _ _ _ _ _ hra hrb
    cases h1; cases h2; rfl
  | ifFlag v x y ix iy =>
    intro a es R R' es' h1 h2
    simp only [execA] at h1
    simp only [edgesS] at h2
    split at h1
    · rw [if_pos ‹_›] at h2
      exact ix _ _ _ _ _ h1 h2
    · rw [if_neg ‹_›] at h2
      exact iy _ _ _ _ _ h1 h2

/-- A renaming never turns an ownership token (which is taken without blocking and
contributes no pair) into a real lock. -/
def renOwnOk (ren : List (Nat × Nat)) : Bool := ren.all (fun ab => !isOwn ab.1 || isOwn ab.2)

/-- Renamings used by the calls of a statement. -/
def stmtRens : Stmt → List (List (Nat × Nat))
  | .call _ ren => [ren]
  | .seq a b => stmtRens a ++ stmtRens b
  | .choice _ a b => stmtRens a ++ stmtRens b
  | .loop _ b => stmtRens b
  | .fin a b => stmtRens a ++ stmtRens b
  | .scope a => stmtRens a
  | .block a => stmtRens a
  | .ifFlag _ a b => stmtRens a ++ stmtRens b
  | _ => []

/-- Checkable: no call of the program renames an ownership token to a real lock. -/
def ownOk (prog : Prog) : Bool := prog.all (fun fb => (stmtRens fb.2).all renOwnOk)

/-- What `acqClosed` and `ownOk` say about (a part of) the body of a function whose
table entry is `T`. -/
structure Static (cls : List Nat) (tbl : AcqTbl) (T : List Nat) (s : Stmt) : Prop where
  acq : ∀ c, c ∈ stmtAcq cls s → c ∈ T
  calls : ∀ g, g ∈ stmtCalls s → ∀ c, c ∈ tbl.get g → c ∈ T
  rens : ∀ ren, ren ∈ stmtRens s → renOwnOk ren = true

section StaticLemmas
variable {cls : List Nat} {tbl : AcqTbl} {T : List Nat}

theorem static_seq {a b : Stmt} (h : Static cls tbl T (.seq a b)) :
    Static cls tbl T a ∧ Static cls tbl T b := by
  obtain ⟨h1, h2, h3⟩ := h
  simp only [stmtAcq, stmtCalls, stmtRens, List.mem_append] at h1 h2 h3
  exact ⟨⟨fun c hc => h1 c (Or.inl hc), fun g hg => h2 g (Or.inl hg), fun r hr => h3 r (Or.inl hr)⟩,
    ⟨fun c hc => h1 c (Or.inr hc), fun g hg => h2 g (Or.inr hg), fun r hr => h3 r (Or.inr hr)⟩⟩

theorem static_choice {t : Nat} {a b : Stmt} (h : Static cls tbl T (.choice t a b)) :
    Static cls tbl T a ∧ Static cls tbl T b := by
  obtain ⟨h1, h2, h3⟩ := h
  simp only [stmtAcq, stmtCalls, stmtRens, List.mem_append] at h1 h2 h3
  exact ⟨⟨fun c hc => h1 c (Or.inl hc), fun g hg => h2 g (Or.inl hg), fun r hr => h3 r (Or.inl hr)⟩,
    ⟨fun c hc => h1 c (Or.inr hc), fun g hg => h2 g (Or.inr hg), fun r hr => h3 r (Or.inr hr)⟩⟩

theorem static_fin {a b : Stmt} (h : Static cls tbl T (.fin a b)) :
    Static cls tbl T a ∧ Static cls tbl T b := by
  obtain ⟨h1, h2, h3⟩ := h
  simp only [stmtAcq, stmtCalls, stmtRens, List.mem_append] at h1 h2 h3
  exact ⟨⟨fun c hc => h1 c (Or.inl hc), fun g hg => h2 g (Or.inl hg), fun r hr => h3 r (Or.inl hr)⟩,
    ⟨fun c hc => h1 c (Or.inr hc), fun g hg => h2 g (Or.inr hg), fun r hr => h3 r (Or.inr hr)⟩⟩

theorem static_ifFlag {v : Nat} {a b : Stmt} (h : Static cls tbl T (.ifFlag v a b)) :
    Static cls tbl T a ∧ Static cls tbl T b := by
  obtain ⟨h1, h2, h3⟩ := h
  simp only [stmtAcq, stmtCalls, stmtRens, List.mem_append] at h1 h2 h3
  exact ⟨⟨fun c hc => h1 c (Or.inl hc), fun g hg => h2 g (Or.inl hg), fun r hr => h3 r (Or.inl hr)⟩,
    ⟨fun c hc => h1 c (Or.inr hc), fun g hg => h2 g (Or.inr hg), fun r hr => h3 r (Or.inr hr)⟩⟩

theorem static_loop {ce : Bool} {a : Stmt} (h : Static cls tbl T (.loop ce a)) :
    Static cls tbl T a := by
  obtain ⟨h1, h2, h3⟩ := h
  simp only [stmtAcq, stmtCalls, stmtRens] at h1 h2 h3
  exact ⟨h1, h2, h3⟩

theorem static_scope {a : Stmt} (h : Static cls tbl T (.scope a)) : Static cls tbl T a := by
  obtain ⟨h1, h2, h3⟩ := h
  simp only [stmtAcq, stmtCalls, stmtRens] at h1 h2 h3
  exact ⟨h1, h2, h3⟩

theorem static_block {a : Stmt} (h : Static cls tbl T (.block a)) : Static cls tbl T a := by
  obtain ⟨h1, h2, h3⟩ := h
  simp only [stmtAcq, stmtCalls, stmtRens] at h1 h2 h3
  exact ⟨h1, h2, h3⟩

end StaticLemmas

theorem rn_own {ren : List (Nat × Nat)} (ho : renOwnOk ren = true) {x : Nat}
    (hx : isOwn x = true) : isOwn (rn ren x) = true := by
  rcases rn_cases ren x with h | h
  · rw [h]; exact hx
  · unfold renOwnOk at ho
    have := List.all_eq_true.mp ho _ h
    simp only [hx, Bool.not_true, Bool.false_or] at this
    exact this

/-- A context admissible for the edge extraction: ownership tokens stay ownership tokens under
the renaming, and every lock of the frame has an edge to every class of `T`. -/
structure Ctx.OK (cls : List Nat) (ES : Edges) (k : Ctx) : Prop extends OK0 k where
  own_r : ∀ x, isOwn x = true → isOwn (k.r x) = true
  edgesF : ∀ x, x ∈ k.F → ∀ c, c ∈ k.T → (clsOf cls x, c) ∈ ES

theorem ok_top (cls : List Nat) (ES : Edges) (T : List Nat) : (topCtx T).OK cls ES :=
  ⟨ok0_top T, fun _ h => h, fun x hx => by cases hx⟩

theorem clsOf_r {cls : List Nat} {ES : Edges} {k : Ctx} (hk : k.OK cls ES) (x : Nat) :
    clsOf cls (k.r x) = clsOf cls x := by
  unfold clsOf; rw [hk.cls_r]

theorem clsOf_gcls {cls : List Nat} {x y : Nat} (h : gcls x = gcls y) :
    clsOf cls x = clsOf cls y := by
  unfold clsOf; rw [h]

theorem pairs_prels (cls : List Nat) (r : Nat → Nat) (p : Nat) : ∀ (Y : List Nat) (st : RS),
    pairsFrom cls st ((Y.map (Ev.prel p)).map (evMap r)) = []
  | [], st => rfl
  | y :: Y, st => by
    simp only [List.map_cons, pairsFrom, evMap, stepPairs, List.nil_append]
    exact pairs_prels cls r p Y _

theorem pairs_append {cls : List Nat} {ES : Edges} {r : Nat → Nat} {st : RS} {t1 t2 : List Ev}
    (h1 : ∀ e, e ∈ pairsFrom cls st (t1.map (evMap r)) → e ∈ ES)
    (h2 : ∀ e, e ∈ pairsFrom cls (stRun st (t1.map (evMap r))) (t2.map (evMap r)) → e ∈ ES) :
    ∀ e, e ∈ pairsFrom cls st ((t1 ++ t2).map (evMap r)) → e ∈ ES := by
  intro e he
  rw [List.map_append, mem_pairsFrom_append] at he
  exact he.elim (h1 e) (h2 e)

/-! ## The simulation as an instance of `SimG`

It refines `balSpec` (`Lemmas/LockSkelCtx.lean`), which maintains `Rel k`: a leaf here only
says where the pairs of its events go (`simE_of_bal`). The side condition that travels with
(statement, abstract start state): the context is admissible, the statement is static for it,
and `edgesS` succeeds with edges inside `ES`. -/

section Spec
variable (cls : List Nat) (tbl : AcqTbl) (sig : Sig) (ES : Edges)

/-- `s` is static for the context and `edgesS` succeeds on it from `a` with edges inside `ES`. -/
def EdgeH (k : Ctx) (s : Stmt) (a : AS) : Prop :=
  k.OK cls ES ∧ Static cls tbl k.T s ∧
    ∃ es0 R es1, edgesS cls tbl sig s a es0 = .ok (R, es1) ∧ ESub es1 ES

variable {cls tbl sig ES}

theorem edgeH_seq {k : Ctx} {a b : Stmt} {s : AS} {r : Outs} (h : EdgeH cls tbl sig ES k (.seq a b) s)
    (hra : execA sig a s = .ok r) :
    EdgeH cls tbl sig ES k a s ∧ ∀ s1, (Out.norm, s1) ∈ r → EdgeH cls tbl sig ES k b s1 := by
  obtain ⟨hk, hs, es0, R, es1, h2, hsub⟩ := h
  obtain ⟨hsa, hsb⟩ := static_seq hs
  rw [edgesS_seq] at h2
  obtain ⟨⟨rb, esa⟩, hrb, h2⟩ := bind_ok h2
  cases edgesS_outs_eq_execA cls tbl sig a _ _ _ _ _ hra hrb
  refine ⟨⟨hk, hsa, es0, _, esa, hrb, (bindE_mono (kmono_seq cls tbl sig b) h2).trans hsub⟩, ?_⟩
  intro s1 m1
  obtain ⟨e1, R1, e2, kk, hsub2, _⟩ := bindE_mem (kmono_seq cls tbl sig b) h2 m1
  rw [if_pos rfl] at kk
  exact ⟨hk, hsb, e1, R1, e2, kk, hsub2.trans hsub⟩

theorem edgeH_choice {k : Ctx} {t : Nat} {a b : Stmt} {s : AS}
    (h : EdgeH cls tbl sig ES k (.choice t a b) s) :
    EdgeH cls tbl sig ES k a s ∧ EdgeH cls tbl sig ES k b s := by
  obtain ⟨hk, hs, es0, R, es1, h2, hsub⟩ := h
  obtain ⟨hsa, hsb⟩ := static_choice hs
  rw [edgesS_choice] at h2
  obtain ⟨⟨rb1, esa⟩, hrb1, h2⟩ := bind_ok h2
  obtain ⟨⟨rb2, esb⟩, hrb2, h2⟩ := bind_ok h2
  cases h2
  exact ⟨⟨hk, hsa, es0, _, esa, hrb1, (edgesS_mono cls tbl sig b _ _ _ _ hrb2).trans hsub⟩,
    hk, hsb, esa, _, esb, hrb2, hsub⟩

theorem edgeH_ifFlag {k : Ctx} {v : Nat} {a b : Stmt} {s : AS}
    (h : EdgeH cls tbl sig ES k (.ifFlag v a b) s) :
    EdgeH cls tbl sig ES k (if getF s.c.flags v then a else b) s := by
  obtain ⟨hk, hs, es0, R, es1, h2, hsub⟩ := h
  obtain ⟨hsa, hsb⟩ := static_ifFlag hs
  simp only [edgesS] at h2
  by_cases hf : getF s.c.flags v = true
  · rw [if_pos hf] at h2 ⊢; exact ⟨hk, hsa, es0, R, es1, h2, hsub⟩
  · rw [if_neg hf] at h2 ⊢; exact ⟨hk, hsb, es0, R, es1, h2, hsub⟩

theorem edgeH_loop {k : Ctx} {ce : Bool} {a : Stmt} {s : AS}
    (h : EdgeH cls tbl sig ES k (.loop ce a) s) : EdgeH cls tbl sig ES k a s := by
  obtain ⟨hk, hs, es0, R, es1, h2, hsub⟩ := h
  rw [edgesS_loop] at h2
  obtain ⟨⟨rb, esa⟩, hrb, h2⟩ := bind_ok h2
  obtain ⟨r', _, h2⟩ := bind_ok h2
  cases h2
  exact ⟨hk, static_loop hs, es0, rb, esa, hrb, hsub⟩

theorem edgeH_scope {k : Ctx} {a : Stmt} {s : AS}
    (h : EdgeH cls tbl sig ES k (.scope a) s) : EdgeH cls tbl sig ES k a s := by
  obtain ⟨hk, hs, es0, R, es1, h2, hsub⟩ := h
  rw [edgesS_scope] at h2
  obtain ⟨⟨rb, esa⟩, hrb, h2⟩ := bind_ok h2
  cases h2
  exact ⟨hk, static_scope hs, es0, rb, esa, hrb, hsub⟩

theorem edgeH_block {k : Ctx} {a : Stmt} {s : AS}
    (h : EdgeH cls tbl sig ES k (.block a) s) : EdgeH cls tbl sig ES k a s := by
  obtain ⟨hk, hs, es0, R, es1, h2, hsub⟩ := h
  rw [edgesS_block] at h2
  obtain ⟨⟨rb, esa⟩, hrb, h2⟩ := bind_ok h2
  cases h2
  exact ⟨hk, static_block hs, es0, rb, esa, hrb, hsub⟩

theorem edgeH_fin {k : Ctx} {a d : Stmt} {s : AS} {r : Outs}
    (h : EdgeH cls tbl sig ES k (.fin a d) s) (hra : execA sig a s = .ok r) :
    EdgeH cls tbl sig ES k a s ∧
      ∀ o s1, (o, s1) ∈ r → o ≠ .pnc → EdgeH cls tbl sig ES k d s1 := by
  obtain ⟨hk, hs, es0, R, es1, h2, hsub⟩ := h
  obtain ⟨hsa, hsd⟩ := static_fin hs
  rw [edgesS_fin] at h2
  obtain ⟨⟨rb, esa⟩, hrb, h2⟩ := bind_ok h2
  cases edgesS_outs_eq_execA cls tbl sig a _ _ _ _ _ hra hrb
  refine ⟨⟨hk, hsa, es0, _, esa, hrb, (bindE_mono (kmono_fin cls tbl sig d) h2).trans hsub⟩, ?_⟩
  intro o s1 m1 hne
  obtain ⟨e1, R1, e2, kk, hsub2, _⟩ := bindE_mem (kmono_fin cls tbl sig d) h2 m1
  rw [finKE, if_neg hne] at kk
  obtain ⟨⟨r3, es3⟩, hr3, kk⟩ := bind_ok kk
  cases kk
  exact ⟨hk, hsd, e1, r3, es3, hr3, hsub2.trans hsub⟩

/-- `balSpec` with the further claim that the pairs of the trace are in `ES`. -/
def edgeSpec (cls : List Nat) (tbl : AcqTbl) (sig : Sig) (ES : Edges) (k : Ctx) : SimSpec sig where
  St := RS
  Adv st tr st' := (balSpec sig k).Adv st tr st' ∧
    ∀ e, e ∈ pairsFrom cls st (tr.map (evMap k.r)) → e ∈ ES
  Rel st ha c := Rel k st ha c
  H := EdgeH cls tbl sig ES k
  adv_nil st := ⟨(balSpec sig k).adv_nil st, fun e he => by simp [pairsFrom] at he⟩
  adv_append a1 a2 := by
    obtain ⟨b1, p1⟩ := a1
    obtain ⟨b2, p2⟩ := a2
    refine ⟨(balSpec sig k).adv_append b1 b2, ?_⟩
    obtain ⟨_, _, rfl⟩ := b1
    exact pairs_append p1 p2
  H_seq := edgeH_seq
  H_choice := edgeH_choice
  H_ifFlag := edgeH_ifFlag
  H_loop := edgeH_loop
  H_scope := edgeH_scope
  H_block := edgeH_block
  H_fin := edgeH_fin

end Spec

section Sim
variable (cls : List Nat) (tbl : AcqTbl) (sig : Sig) (ES : Edges) (C : Nat → List Ev → Prop)

/-- What the induction on the call depth assumes about callees, beside `CalleeK`: replayed
inside any context that provides the (non-ghost part of the) entry requirement and covers its
ghosts, a callee run contributes only extracted edges, ends holding the non-ghost part of
`post` in place of `req`, and leaves the outer piles alone. -/
def CalleeE : Prop :=
  ∀ g t, C g t → ∀ req post, sig.get g = some (req, post) →
    ∀ (k : Ctx) (st : RS), k.OK cls ES → k.T = tbl.get g → k.keep = (fun x => !isGhost x) →
      Rel k st (sortS req) CS.init →
      (∀ e, e ∈ pairsFrom cls st (t.map (evMap k.r)) → e ∈ ES) ∧
      (stRun st (t.map (evMap k.r))).held.Perm
        ((post.filter (fun x => !isGhost x)).map k.r ++ k.F) ∧
      ∀ q, Sub (k.Z q) ((stRun st (t.map (evMap k.r))).piles q)

variable {cls tbl sig ES C}

/-- A leaf of the edge simulation: the balance simulation, and where its pairs go. -/
theorem simE_of_bal {k : Ctx} {s : Stmt} (hb : SimG (balSpec sig k) C s)
    (hp : ∀ ha c R (st : RS) tr o c', EdgeH cls tbl sig ES k s ⟨ha, c⟩ →
      execA sig s ⟨ha, c⟩ = .ok R → Rel k st ha c → sem C s c tr o c' → o ≠ .pnc →
      ∀ e, e ∈ pairsFrom cls st (tr.map (evMap k.r)) → e ∈ ES) :
    SimG (edgeSpec cls tbl sig ES k) C s := by
  intro ha c R st tr o c' hH he hrel hs
  rcases hb ha c R st tr o c' hH.1.toOK0 he hrel hs with hpn | ⟨st', ha', adv, m, rel⟩
  · exact Or.inl hpn
  · by_cases ho : o = .pnc
    · exact Or.inl ho
    · exact Or.inr ⟨st', ha', ⟨adv, hp ha c R st tr o c' hH he hrel hs ho⟩, m, rel⟩

/-- No pairs: every leaf but `acq`, `pileLock`, `call`. -/
theorem simE_quiet {k : Ctx} {s : Stmt} (hb : SimG (balSpec sig k) C s)
    (hq : ∀ c tr o c' (st : RS), sem C s c tr o c' →
      pairsFrom cls st (tr.map (evMap k.r)) = []) :
    SimG (edgeSpec cls tbl sig ES k) C s :=
  simE_of_bal hb fun _ c _ st tr o c' _ _ _ hs _ e he => by rw [hq c tr o c' st hs] at he; cases he

theorem simE_acq (k : Ctx) (l : Nat) : SimG (edgeSpec cls tbl sig ES k) C (.acq l) := by
  refine simE_of_bal (balK_acq l k) ?_
  intro ha c R' st tr o c' ⟨hk, hs, es0, R, es1, h2, hsub⟩ _ hrel hsem _ e he
  simp only [edgesS, Except.ok.injEq, Prod.mk.injEq] at h2
  simp only [sem] at hsem
  obtain ⟨rfl, rfl, rfl⟩ := hsem
  simp only [List.map_cons, List.map_nil, evMap, pairsFrom, stepPairs, List.append_nil] at he
  by_cases ho : isOwn (k.r l) = true
  · rw [if_pos ho] at he; cases he
  · rw [if_neg ho] at he
    obtain ⟨x, hx, rfl⟩ := List.mem_map.mp he
    have hnown : ¬ isOwn l = true := fun h => ho (hk.own_r l h)
    rw [if_neg hnown] at h2
    rw [clsOf_r hk l]
    rcases held_mem hrel.held hx with ⟨y, hy, rfl⟩ | hxF
    · apply hsub
      rw [← h2.2, clsOf_r hk y]
      exact mem_addEdges.mpr (Or.inr ⟨clsOf cls y, List.mem_map.mpr ⟨y, hy, rfl⟩, rfl⟩)
    · refine hk.edgesF x hxF _ (hs.acq _ ?_)
      simp only [stmtAcq, if_neg hnown, List.mem_singleton]

theorem simE_pileLock (k : Ctx) (p l : Nat) :
    SimG (edgeSpec cls tbl sig ES k) C (.pileLock p l) := by
  refine simE_of_bal (balK_pileLock p l k) ?_
  intro ha c R' st tr o c' ⟨hk, hs, es0, R, es1, h2, hsub⟩ _ hrel hsem _ e he
  simp only [edgesS] at h2
  simp only [sem] at hsem
  obtain ⟨rfl, rfl, rfl⟩ := hsem
  split at h2
  · cases h2
  · rename_i outside hrem
    simp only [Except.ok.injEq, Prod.mk.injEq] at h2
    simp only [List.map_cons, List.map_nil, evMap, pairsFrom, stepPairs, List.append_nil] at he
    obtain ⟨x, hx, rfl⟩ := List.mem_map.mp he
    rw [clsOf_r hk l]
    -- a lock held outside pile `p` is, abstractly, outside it too, or in the frame
    have hx1 : x ∈ mdiff st.held ((getP c.piles p).map k.r) :=
      mdiff_anti (sub_left (hrel.piles p)) hx
    have ph := held_split hrel hrem
      (fun x hx => hk.keep_ng x (pilesOK_get hrel.pok p x hx))
    rcases List.mem_append.mp ((mdiff_perm ph).mem_iff.mp hx1) with hx2 | hxF
    · obtain ⟨y, hy, rfl⟩ := List.mem_map.mp hx2
      apply hsub
      rw [← h2.2, clsOf_r hk y]
      exact mem_addEdges.mpr (Or.inr ⟨clsOf cls y,
        List.mem_map.mpr ⟨y, (List.mem_filter.mp hy).1, rfl⟩, rfl⟩)
    · refine hk.edgesF x hxF _ (hs.acq _ ?_)
      simp only [stmtAcq, List.mem_singleton]

/-- The pairs of a call are the callee's, in the callee's context; its frame is admissible
because `edgesS` added an edge from every lock of the frame to every class of the callee's
table entry. -/
theorem simE_call (hCK : CalleeK sig C) (hCE : CalleeE cls tbl sig ES C) (k : Ctx) (g : Nat)
    (ren : List (Nat × Nat)) : SimG (edgeSpec cls tbl sig ES k) C (.call g ren) := by
  refine simE_of_bal (balK_call hCK g ren k) ?_
  intro ha c R' st tr o c' ⟨hk, hs, es0, R, es1, h2, hsub⟩ h1 hrel hsem _
  simp only [execA] at h1
  simp only [edgesS] at h2
  simp only [sem] at hsem
  obtain ⟨t, hct, rfl, rfl, rfl⟩ := hsem
  split at h1
  · cases h1
  · rename_i frame hnew hcall
    simp only [hcall, Except.ok.injEq, Prod.mk.injEq] at h2
    obtain ⟨req, post, hsig, hr, hrem, hcov, rfl⟩ := callA_ok hcall
    rw [evMap_rn]
    have hk' : (callCtx k ren frame c' (tbl.get g)).OK cls ES := by
      refine ⟨ok0_call hk.toOK0 hr _ _ _,
        fun x hx => hk.own_r _ (rn_own (hs.rens ren (by simp [stmtRens])) hx), ?_⟩
      intro x hx cc hcc
      rcases List.mem_append.mp hx with hx | hx
      · obtain ⟨z, hz, rfl⟩ := List.mem_map.mp hx
        rw [clsOf_r hk z]
        apply hsub
        rw [← h2.2]
        exact mem_callEdges.mpr (Or.inr ⟨cc, hcc, clsOf cls z,
          List.mem_map.mpr ⟨z, (List.mem_filter.mp hz).1, rfl⟩, rfl⟩)
      · exact hk.edgesF x hx cc (hs.calls g (by simp [stmtCalls]) cc hcc)
    exact (hCE g t hct req post hsig _ st hk' rfl rfl (rel_enter hk.toOK0 hrel hr hrem hcov _)).1

theorem simE_leaf (hCK : CalleeK sig C) (hCE : CalleeE cls tbl sig ES C) (k : Ctx) :
    ∀ s, IsLeaf s → SimG (edgeSpec cls tbl sig ES k) C s
  | .acq l, _ => simE_acq k l
  | .pileLock p l, _ => simE_pileLock k p l
  | .call g ren, _ => simE_call hCK hCE k g ren
  | .pileUnlockAll p, h => simE_quiet (balK_leaf hCK _ h k) fun c tr o c' st hs => by
      simp only [sem] at hs; rw [hs.1]; exact pairs_prels cls k.r p _ st
  | .pileUnlock p l, h => simE_quiet (balK_leaf hCK _ h k) fun c tr o c' st hs => by
      simp only [sem] at hs; split at hs <;> (rw [hs.1]; rfl)
  | .skip, h | .ret _, h | .brk, h | .cont, h | .mark _ _, h | .setFlag _ _, h | .rel _, h
  | .need _, h => simE_quiet (balK_leaf hCK _ h k) fun c tr o c' st hs => by
      simp only [sem] at hs; rw [hs.1]; rfl

end Sim

theorem edgesProg_spec (cls : List Nat) (tbl : AcqTbl) (sig : Sig) :
    ∀ (prog : Prog) (es ES : Edges), edgesProg cls tbl sig prog es = some ES →
      ESub es ES ∧ ∀ f body, (f, body) ∈ prog → ∃ req post es0 R es1,
        sig.get f = some (req, post) ∧
        edgesS cls tbl sig body ⟨sortS req, CS.init⟩ es0 = .ok (R, es1) ∧ ESub es1 ES
  | [], es, ES, h => by
    simp only [edgesProg, Option.some.injEq] at h
    subst h
    exact ⟨ESub.refl _, fun f body hm => by cases hm⟩
  | (f0, b0) :: rest, es, ES, h => by
    unfold edgesProg at h
    split at h
    · cases h
    · rename_i req post hsig
      split at h
      · cases h
      · rename_i R es1 hE
        obtain ⟨hsub, hall⟩ := edgesProg_spec cls tbl sig rest es1 ES h
        refine ⟨(edgesS_mono cls tbl sig _ _ _ _ _ hE).trans hsub, ?_⟩
        intro f body hm
        rcases List.mem_cons.mp hm with heq | hm
        · cases heq
          exact ⟨req, post, es, R, es1, hsig, hE, hsub⟩
        · exact hall f body hm

theorem static_of_prog {cls : List Nat} {tbl : AcqTbl} {prog : Prog}
    (hcl : acqClosed cls tbl prog = true) (hown : ownOk prog = true) {f : Nat} {body : Stmt}
    (hm : (f, body) ∈ prog) : Static cls tbl (tbl.get f) body := by
  unfold acqClosed at hcl
  unfold ownOk at hown
  have h1 := List.all_eq_true.mp hcl _ hm
  have h2 := List.all_eq_true.mp hown _ hm
  simp only [Bool.and_eq_true, List.all_eq_true, List.contains_iff_mem] at h1 h2
  exact ⟨h1.1, fun g hg c hc => h1.2 g hg c hc, h2⟩

/-- Everything the final theorem assumes about the program, with `ES` the extracted edges. -/
structure ProgOK (cls : List Nat) (tbl : AcqTbl) (sig : Sig) (prog : Prog) (ES : Edges) : Prop where
  cons : consistent sig prog = true
  closed : acqClosed cls tbl prog = true
  own : ownOk prog = true
  edges : ∀ f body, (f, body) ∈ prog → ∃ req post es0 R es1,
    sig.get f = some (req, post) ∧
    edgesS cls tbl sig body ⟨sortS req, CS.init⟩ es0 = .ok (R, es1) ∧ ESub es1 ES

section Prog
variable {cls : List Nat} {tbl : AcqTbl} {sig : Sig} {prog : Prog} {ES : Edges}

/-- One function body, replayed in a context that matches its entry requirement. -/
theorem body_sim (hP : ProgOK cls tbl sig prog ES) {C : Nat → List Ev → Prop}
    (hCK : CalleeK sig C) (hCE : CalleeE cls tbl sig ES C) {g : Nat} {body : Stmt}
    {req post : List Nat} (hm : (g, body) ∈ prog) (hsig : sig.get g = some (req, post))
    (k : Ctx) (st : RS) (hk : k.OK cls ES) (hT : k.T = tbl.get g)
    (hrel : Rel k st (sortS req) CS.init)
    {tr : List Ev} {o : Out} {c' : CS} (hsem : sem C body CS.init tr o c')
    (ho : o = .norm ∨ o = .ret) :
    (∀ e, e ∈ pairsFrom cls st (tr.map (evMap k.r)) → e ∈ ES) ∧
      Rel k (stRun st (tr.map (evMap k.r))) (sortS post) c' := by
  obtain ⟨req', post', es0, R, es1, hsig', hE, hsub⟩ := hP.edges g body hm
  rw [hsig] at hsig'
  cases hsig'
  have hst : Static cls tbl k.T body := by
    rw [hT]; exact static_of_prog hP.closed hP.own hm
  obtain ⟨_, ⟨⟨_, _, rfl⟩, hp⟩, rel⟩ := simG_body (S := edgeSpec cls tbl sig ES k)
    (simG_all (simE_leaf hCK hCE k) body) (consistent_mem hP.cons hm) hsig
    ⟨hk, hst, es0, R, es1, hE, hsub⟩ hrel hsem ho
  exact ⟨hp, rel⟩

theorem calleeE_all (hP : ProgOK cls tbl sig prog ES) :
    ∀ n, CalleeE cls tbl sig ES (fnSem prog n)
  | 0 => by intro g t h; cases h
  | n + 1 => by
    intro g t hg req post hsig k st hk hT hkeep hrel
    obtain ⟨body, hm, o, c', hs, ho⟩ := fnSem_body hg
    obtain ⟨hp, rel⟩ := body_sim hP (calleeK_all hP.cons n) (calleeE_all hP n) hm hsig
      k st hk hT hrel hs ho
    exact ⟨hp, rel_exit rel hkeep⟩

end Prog

/-- **Soundness of the extracted acquired-while-holding relation.** For a program accepted
by the lock-balance checker (`consistent`), whose acquisition table is closed
(`acqClosed`), whose calls never rename an ownership token to a real lock (`ownOk`), and
for which `edgesProg` succeeds with edge set `es`: replay any returning run of any function
`f` from the locks its summary requires (ghosts included, no pile holding anything). Every
pair (class of a lock held at that moment, class of the lock being acquired) — where an
acquisition through a `LockPile` does not count the locks held through the same pile, and
taking an ownership token counts nothing — is in `es`. -/
theorem edges_sound (cls : List Nat) (tbl : AcqTbl) (sig : Sig) (prog : Prog) (es : Edges)
    (hc : consistent sig prog = true) (hcl : acqClosed cls tbl prog = true)
    (hown : ownOk prog = true) (he : edgesProg cls tbl sig prog [] = some es) :
    ∀ f tr, Exec prog f tr → ∀ req post, sig.get f = some (req, post) →
      ∀ e ∈ pairsRun cls req (fun _ => []) tr, e ∈ es := by
  intro f tr hex req post hsig e hmem
  have hP : ProgOK cls tbl sig prog es := ⟨hc, hcl, hown, (edgesProg_spec cls tbl sig prog [] es he).2⟩
  obtain ⟨n, body, hm, o, c', hs, ho⟩ := exec_body hex
  have := (body_sim hP (calleeK_all hc n) (calleeE_all hP n) hm hsig (topCtx (tbl.get f))
    ⟨req, fun _ => []⟩ (ok_top cls es _) rfl (rel_top req _) hs ho).1 e
  rw [evMap_top] at this
  exact this hmem

/-- With a rank table that is strictly increasing along every extracted edge (`ranksOk`),
every acquisition of every run happens in increasing rank order: the class of the acquired
lock has a strictly larger rank than the class of every lock held at that moment (locks of
the same pile excepted for acquisitions through a `LockPile`). -/
theorem pairs_ranked (cls : List Nat) (tbl : AcqTbl) (sig : Sig) (prog : Prog) (es : Edges)
    (rt : List (Nat × Nat))
    (hc : consistent sig prog = true) (hcl : acqClosed cls tbl prog = true)
    (hown : ownOk prog = true) (he : edgesProg cls tbl sig prog [] = some es)
    (hr : ranksOk rt es = true) :
    ∀ f tr, Exec prog f tr → ∀ req post, sig.get f = some (req, post) →
      ∀ e ∈ pairsRun cls req (fun _ => []) tr, rankOf rt e.1 < rankOf rt e.2 := by
  intro f tr hex req post hsig e hmem
  have hm := edges_sound cls tbl sig prog es hc hcl hown he f tr hex req post hsig e hmem
  unfold ranksOk at hr
  have := List.all_eq_true.mp hr e hm
  simpa using this

/-! Non-vacuity: `f` takes `a` (class 1), then through pile 7 `b` and `c` (class 2), calls
`g` (which needs `a`, renamed from its own name `a'`, and takes `d` of class 3), and unlocks. -/
namespace Ex
def cls : List Nat := [0, 1, 2, 3]
def prog : Prog :=
  [(0, .seq (.acq 1000) (.seq (.pileLock 7 2000) (.seq (.pileLock 7 2001)
        (.seq (.call 1 [(1005, 1000)]) (.seq (.pileUnlockAll 7) (.rel 1000)))))),
   (1, .seq (.need [1]) (.seq (.acq 3000) (.rel 3000)))]
def sig : Sig := [(0, ([], [])), (1, ([1005], [1005]))]
def tbl : AcqTbl := [(0, [1, 2, 3]), (1, [3])]
def tr : List Ev :=
  [.acq 1000, .pacq 7 2000, .pacq 7 2001, .need [1], .acq 3000, .rel 3000,
   .prel 7 2000, .prel 7 2001, .rel 1000]

example : consistent sig prog = true := by decide
example : acqClosed cls tbl prog = true := by decide
example : ownOk prog = true := by decide
example : edgesProg cls tbl sig prog [] = some [(1, 3), (2, 3), (1, 2)] := by decide
/-- the second pile acquisition does not pair with the first one (same pile) -/
example : pairsRun cls [] (fun _ => []) tr = [(1, 2), (1, 2), (2, 3), (2, 3), (1, 3)] := by decide
theorem exec1 : fnSem prog 1 1 [.need [1], .acq 3000, .rel 3000] := by
  refine ⟨_, rfl, .norm, CS.init, ?_, Or.inl rfl⟩
  unfold sem
  refine Or.inl ⟨CS.init, [.need [1]], [.acq 3000, .rel 3000], ?_, ?_, rfl⟩
  · unfold sem; exact ⟨rfl, rfl, rfl⟩
  · unfold sem
    refine Or.inl ⟨CS.init, [.acq 3000], [.rel 3000], ?_, ?_, rfl⟩
    · unfold sem; exact ⟨rfl, rfl, rfl⟩
    · unfold sem; exact ⟨rfl, rfl, rfl⟩

/-- `tr` is a run of `f` -/
theorem exec : Exec prog 0 tr := by
  refine ⟨2, _, rfl, .norm, ⟨[], []⟩, ?_, Or.inl rfl⟩
  unfold sem
  refine Or.inl ⟨CS.init, [.acq 1000], _, ?_, ?_, rfl⟩
  · unfold sem; exact ⟨rfl, rfl, rfl⟩
  unfold sem
  refine Or.inl ⟨⟨[], [(7, [2000])]⟩, [.pacq 7 2000], _, ?_, ?_, rfl⟩
  · unfold sem; exact ⟨rfl, rfl, rfl⟩
  unfold sem
  refine Or.inl ⟨⟨[], [(7, [2000, 2001])]⟩, [.pacq 7 2001], _, ?_, ?_, rfl⟩
  · unfold sem; exact ⟨rfl, rfl, rfl⟩
  unfold sem
  refine Or.inl ⟨⟨[], [(7, [2000, 2001])]⟩, [.need [1], .acq 3000, .rel 3000], _, ?_, ?_, rfl⟩
  · unfold sem; exact ⟨_, exec1, rfl, rfl, rfl⟩
  unfold sem
  refine Or.inl ⟨⟨[], []⟩, [.prel 7 2000, .prel 7 2001], [.rel 1000], ?_, ?_, rfl⟩
  · unfold sem; exact ⟨rfl, rfl, rfl⟩
  · unfold sem; exact ⟨rfl, rfl, rfl⟩

/-- the theorem instantiated on that run -/
example : ∀ e ∈ pairsRun cls [] (fun _ => []) tr, e ∈ [(1, 3), (2, 3), (1, 2)] :=
  edges_sound cls tbl sig prog _ (by decide) (by decide) (by decide) (by decide) 0 tr exec [] [] rfl
end Ex

end BbRe.Lemmas.LockSkelEdges
