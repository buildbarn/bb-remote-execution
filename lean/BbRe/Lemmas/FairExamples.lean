import BbRe.Lemmas.FairWalk
import BbRe.Lemmas.FairHandoff
import BbRe.Lemmas.FairHandoffLive
/-!
Concrete snapshots used as non-vacuity witnesses and counterexamples in `Properties/C04.lean`,
and executable forms of the hypotheses (`isHeapB_iff`, `parkedListedB`).
-/
namespace BbRe.Lemmas.Fair
open BbRe.GoHeap BbRe.Fair BbRe.Lemmas.GoHeap

def natLess (a b : Nat) : Bool := decide (a < b)

theorem natLess_strictWeak : StrictWeak natLess := key_strictWeak_nat id

theorem isHeapB_iff {α : Type} (less : α → α → Bool) (a : Array α) : isHeapB less a = true ↔ IsHeap less a := by
  unfold isHeapB IsHeap IsHeapN
  rw [List.all_eq_true]
  constructor
  · intro h c hc0 hcn
    have := h c (List.mem_range.mpr hcn)
    simp only [Bool.or_eq_true, beq_iff_eq, Bool.not_eq_true'] at this
    rcases this with h0 | h1
    · omega
    · exact h1
  · intro h c hc
    simp only [Bool.or_eq_true, beq_iff_eq, Bool.not_eq_true']
    by_cases h0 : c = 0
    · exact Or.inl h0
    · exact Or.inr (h c (by omega) (List.mem_range.mp hc))

/-- A non-trivial snapshot: invocation `1` with children `2` (least recently started) and `3`,
one queued operation each, equal scores. -/
def exTree : Inv :=
  .mk 0 [] [1] 0 0 0 [] [] 0
    [.mk 1 [] [2, 3] 0 0 20 [] [] 0
      [.mk 2 [⟨2, 0, 10, 5⟩] [] 0 0 10 [] [] 0 [],
       .mk 3 [⟨3, 0, 10, 6⟩] [] 0 0 20 [] [] 0 []]]

/-- A worker that last served `[1, 3]`, started on `1` at time 100 and on `[1,3]` at time 480;
limits 1000 (level 0) and 50 (level 1); now 500. -/
def exW : WView := ⟨[1, 3], [1000, 50], [100, 480], 500⟩

theorem exTree_heapTree : HeapTree exTree := by
  have leaf : ∀ (k : Nat) (o : Op) (s : Nat), HeapTree (.mk k [o] [] 0 0 s [] [] 0 []) := by
    intro k o s
    refine HeapTree.mk _ (by simp [Inv.kids]) (by simp [Inv.queued]) ?_ ?_ ?_ ?_ ?_
    · intro k hk; simp [Inv.queued] at hk
    · intro c hc; simp [Inv.kids] at hc
    · intro c hc0 hcn; simp [Inv.ops] at hcn; omega
    · intro c hc0 hcn; simp [queuedNodes, Inv.queued] at hcn
    · intro c hc; simp [Inv.kids] at hc
  refine HeapTree.mk _ (by decide) (by decide) (by decide) (by decide)
    ((isHeapB_iff _ _).mp (by decide)) ((isHeapB_iff _ _).mp (by decide)) ?_
  intro c hc
  simp only [exTree, Inv.kids, List.mem_singleton] at hc
  subst hc
  refine HeapTree.mk _ (by decide) (by decide) (by decide) (by decide)
    ((isHeapB_iff _ _).mp (by decide)) ((isHeapB_iff _ _).mp (by decide)) ?_
  intro c hc
  simp only [Inv.kids, List.mem_cons, List.not_mem_nil, or_false] at hc
  rcases hc with rfl | rfl
  · exact leaf _ _ _
  · exact leaf _ _ _

mutual
/-- Executable form of `ParkedListed`. -/
def parkedListedB : Inv → Bool
  | .mk _ _ _ _ _ _ _ pk _ kids => kids.all (fun c => !c.hasParked || pk.contains c.key) && parkedListedL kids
def parkedListedL : List Inv → Bool
  | [] => true
  | c :: cs => parkedListedB c && parkedListedL cs
end

theorem parkedListedL_iff (cs : List Inv) : parkedListedL cs = true ↔ ∀ c ∈ cs, parkedListedB c = true := by
  induction cs with
  | nil => simp [parkedListedL]
  | cons c cs ih => rw [parkedListedL]; simp [ih]

/-- What the check says at one invocation, and that it passes to the children. -/
theorem parkedListedB_spec (n : Inv) (h : parkedListedB n = true) :
    (∀ k c, n.child k = some c → c.hasParked = true → k ∈ n.parkedKids) ∧ ∀ c ∈ n.kids, parkedListedB c = true := by
  cases n with
  | mk _ _ _ _ _ _ _ pk _ kids =>
    rw [parkedListedB] at h
    simp only [Bool.and_eq_true, List.all_eq_true, Bool.or_eq_true, Bool.not_eq_true', List.contains_iff_mem] at h
    refine ⟨fun k c hc hp => ?_, (parkedListedL_iff kids).mp h.2⟩
    obtain ⟨hmem, hkey⟩ := mem_of_child _ k c hc
    rcases h.1 c hmem with h' | h'
    · rw [hp] at h'; cases h'
    · rw [hkey] at h'; exact h'

theorem parkedListed_of_checkB (t : Inv) (h : parkedListedB t = true) : ParkedListed t :=
  fun p n hn => (parkedListedB_spec n (nodeAt_induct (parkedListedB · = true)
    (fun t k c ht hc => (parkedListedB_spec t ht).2 c (mem_of_child t k c hc).1) p t n h hn)).1

/-- Workers 11 (at `[1,2]`), 12 (at `[1,3]`) and 13 (at `[4]`) are parked. -/
def exParked : Inv :=
  .mk 0 [] [] 0 0 0 [] [1, 4] 0
    [.mk 1 [] [] 0 1 0 [] [3, 2] 5
      [.mk 2 [] [] 0 1 0 [11] [] 5 [], .mk 3 [] [] 0 0 0 [12] [] 4 []],
     .mk 4 [] [] 0 0 0 [13] [] 3 []]

mutual
/-- Executable form of `ParkedSound`. -/
def parkedSoundB : Inv → Bool
  | .mk _ _ _ _ _ _ _ pk _ kids =>
    pk.all (fun k => match kids.find? (fun c => c.key == k) with | some c => c.hasParked | none => false) &&
      parkedSoundL kids
def parkedSoundL : List Inv → Bool
  | [] => true
  | c :: cs => parkedSoundB c && parkedSoundL cs
end

theorem parkedSoundL_iff (cs : List Inv) : parkedSoundL cs = true ↔ ∀ c ∈ cs, parkedSoundB c = true := by
  induction cs with
  | nil => simp [parkedSoundL]
  | cons c cs ih => rw [parkedSoundL]; simp [ih]

theorem parkedSoundB_spec (n : Inv) (h : parkedSoundB n = true) :
    (∀ k ∈ n.parkedKids, ∃ c, n.child k = some c ∧ c.hasParked = true) ∧ ∀ c ∈ n.kids, parkedSoundB c = true := by
  cases n with
  | mk _ _ _ _ _ _ _ pk _ kids =>
    rw [parkedSoundB] at h
    simp only [Bool.and_eq_true, List.all_eq_true] at h
    refine ⟨fun k hk => ?_, (parkedSoundL_iff kids).mp h.2⟩
    have := h.1 k hk
    unfold Inv.child
    simp only [Inv.kids]
    cases hf : kids.find? (fun c => c.key == k) with
    | none => rw [hf] at this; cases this
    | some c => rw [hf] at this; exact ⟨c, rfl, this⟩

theorem parkedSound_of_checkB (t : Inv) (h : parkedSoundB t = true) : ParkedSound t :=
  fun p n hn => (parkedSoundB_spec n (nodeAt_induct (parkedSoundB · = true)
    (fun t k c ht hc => (parkedSoundB_spec t ht).2 c (mem_of_child t k c hc).1) p t n h hn)).1

end BbRe.Lemmas.Fair
