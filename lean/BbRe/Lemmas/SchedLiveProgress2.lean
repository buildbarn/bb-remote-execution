import BbRe.Lemmas.SchedLiveProgress
import BbRe.Lemmas.SchedLiveQuiesce6
/-!
**Progress, general form** (C02 `eventually_done`): the *settling schedule* — every blocked `Synchronize`
call returns and no worker ever calls again, and the clock advances beyond all cleanup deadlines until
no cleanup entry is left — completes every task that can complete at all.
-/
namespace BbRe.Lemmas.SchedLive
open BbRe.Sched

/-- workers stop synchronizing, time passes until nothing is left to clean up -/
def settle (s : State) : State :=
  let b := run s (syncSegs s.now (s.workers.map wkey))
  drain (objCount b + 1) b

theorem run_nil (s : State) : run s [] = s := by simp [run]

theorem run_app (s : State) (a b : List Seg) : run s (a ++ b) = run (run s a) b := by
  induction a generalizing s with
  | nil => rw [List.nil_append, run_nil]
  | cons g r ih => rw [List.cons_append, run_cons, ih, ← run_cons]

/-- `drain f` is a run of at most `f` clock segments -/
theorem drain_is_run : ∀ (f : Nat) (s : State), ∃ gs : List Seg, gs.length ≤ f ∧ drain f s = run s gs ∧
    ∀ g ∈ gs, ∃ T, g = .touch qh T := by
  intro f
  induction f with
  | zero => intro s; exact ⟨[], Nat.le_refl _, by simp [drain, run], by intro g hg; cases hg⟩
  | succ f ih =>
    intro s
    unfold drain
    by_cases he : s.cleanup.isEmpty = true
    · rw [if_pos he]; exact ⟨[], Nat.zero_le _, by simp [run], by intro g hg; cases hg⟩
    · rw [if_neg he]
      obtain ⟨gs, hl, hr, hall⟩ := ih (run s [.touch qh (maxDeadline s + 1)])
      refine ⟨.touch qh (maxDeadline s + 1) :: gs, by simp; omega, by rw [hr, ← run_cons], ?_⟩
      intro g hg
      rcases List.mem_cons.1 hg with rfl | hg
      · exact ⟨_, rfl⟩
      · exact hall g hg

/-- **eventually_done, general form.**  After the settling schedule no worker, no cleanup entry and no
removable queue is left, every parked stream is still parked, and the task it waits for is either completed
— then delivering the stream's wake-up sends `done` — or it is queued, without a worker, and every size-class
queue that still exists is a predeclared one (such a task waits for a worker to appear, by design). -/
theorem settle_spec {s : State} (hs : Reachable s) {c : Nat} {st : Stream}
    (hst : s.streams.find? (fun x => x.client = c) = some st) :
    Reachable (settle s) ∧ (settle s).workers = [] ∧ (settle s).cleanup = [] ∧
    (∀ q sq, (settle s).scq? q = some sq → sq.mayBeRemoved = false) ∧
    (settle s).streams = s.streams ∧
    ∃ op t, (settle s).op? st.op = some op ∧ (settle s).task? op.task = some t ∧
      ((∃ r, t.response = some r ∧
          (run (settle s) [.streamWake qh (settle s).now c 0]).events =
            .ret c cOK :: .msg c st.op 4 true r.code r.tok :: (settle s).events) ∨
       (t.response = none ∧ t.worker = none ∧ t.queued = true)) := by
  unfold settle
  simp only
  obtain ⟨b1, _, hwb⟩ := sync_all_out hs
  have hrb : Reachable (run s (syncSegs s.now (s.workers.map wkey))) := reachable_run hs _
  generalize run s (syncSegs s.now (s.workers.map wkey)) = b at hrb hwb b1
  obtain ⟨d1, d2, d3, _, d5⟩ := drain_spec (objCount b + 1) b hrb (Nat.lt_succ_self _)
  generalize drain (objCount b + 1) b = s' at d1 d2 d3 d5
  have hc := cinv_reachable d1
  have hI := BbRe.Lemmas.SchedInv.inv_reachable d1
  have hno : ∀ k, ¬ hasK s' k := by intro k ⟨e, he, _⟩; rw [d2] at he; cases he
  have hw : s'.workers = [] := by
    cases hl : s'.workers with
    | nil => rfl
    | cons a r =>
      have hm : a ∈ s'.workers := by rw [hl]; exact List.mem_cons_self ..
      have hout : a.inSync = false := by
        obtain ⟨x, hx, _, e⟩ := d5 a hm
        rw [← e]; exact hwb x hx
      exact absurd (hc.wOut a hm hout (by simp [noEx])) (hno _)
  have hstr : s'.streams = s.streams := d3.trans b1
  have hst' : s'.streams.find? (fun x => x.client = c) = some st := by rw [hstr]; exact hst
  refine ⟨d1, hw, d2, ?_, hstr, ?_⟩
  · intro q sq e
    cases hm : sq.mayBeRemoved with
    | false => rfl
    | true =>
      rcases hc.scqW q sq e hm (by simp [noEx]) with ⟨wk, hmw, _⟩ | h
      · rw [hw] at hmw; cases hmw
      · exact absurd h (hno _)
  · obtain ⟨op, t, hop, _, ht⟩ := stream_op_exists d1 (List.mem_of_find?_eq_some hst')
    refine ⟨op, t, hop, ht, ?_⟩
    cases hr : t.response with
    | some r =>
      left
      obtain ⟨s'', op2, t2, r2, hop2, ht2, hr2, hsw, hev⟩ := completed_wakes d1 qh hst'
        (by intro op2 t2 h1 h2; rw [hop] at h1; injection h1 with h1; subst h1
            rw [ht] at h2; injection h2 with h2; subst h2; rw [hr]; rfl)
      rw [hop] at hop2; injection hop2 with hop2; subst hop2
      rw [ht] at ht2; injection ht2 with ht2; subst ht2
      rw [hr] at hr2; injection hr2 with hr2; subst hr2
      refine ⟨r, rfl, ?_⟩
      rw [run_single]
      have : step s' (.streamWake qh s'.now c 0) = .ok s'' := hsw
      rw [this]; exact hev
    | none =>
      right
      have hwn : t.worker = none := by
        cases hwk : t.worker with
        | none => rfl
        | some qw =>
          obtain ⟨q, w⟩ := qw
          obtain ⟨wk, hf, _⟩ := hI.core.p2 _ t q w ht hwk
          rw [hw] at hf; simp [BbRe.Lemmas.SchedInv.wfind] at hf
      refine ⟨rfl, hwn, ?_⟩
      rcases hI.core.q2 _ t ht hr with h | h | h
      · exact h
      · rw [hwn] at h; cases h
      · exact absurd h (fun h => h)

/-- the settling schedule is a run of at most `#workers + objCount + 1` segments -/
theorem settle_bound (s : State) :
    ∃ gs : List Seg, settle s = run s gs ∧
      gs.length ≤ s.workers.length + objCount (run s (syncSegs s.now (s.workers.map wkey))) + 1 := by
  unfold settle
  simp only
  obtain ⟨gs, hl, hr, _⟩ := drain_is_run (objCount (run s (syncSegs s.now (s.workers.map wkey))) + 1)
    (run s (syncSegs s.now (s.workers.map wkey)))
  refine ⟨syncSegs s.now (s.workers.map wkey) ++ gs, by rw [run_app, hr], ?_⟩
  have : (syncSegs s.now (s.workers.map wkey)).length = s.workers.length := by
    simp only [syncSegs, List.length_map]
  rw [List.length_append, this]
  omega

end BbRe.Lemmas.SchedLive
