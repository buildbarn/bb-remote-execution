import BbRe.Lemmas.SchedTreeInvDefs
/-!
Basic facts about the flat node list of `Model/SchedTree.lean` (`node?`, `updNode`, `updPath`, the
multiset operations, `prefixes`, `insk`) and about the counters `cntE`, `cntI` of the invariant.
-/
namespace BbRe.Lemmas.SchedTree
open BbRe.Sched BbRe.SchedTree

/-! ### keys -/

def nkey (n : Node) : ScqId × List Nat := (n.scq, n.path)

theorem isAt_iff (n : Node) (q : ScqId) (p : List Nat) : n.isAt q p = true ↔ n.scq = q ∧ n.path = p := by
  simp [Node.isAt]

theorem onPath_iff (n : Node) (q : ScqId) (p : List Nat) : n.onPath q p = true ↔ n.scq = q ∧ n.path <+: p := by
  simp [Node.onPath, List.isPrefixOf_iff_prefix]

theorem node?_some {ns : List Node} {q : ScqId} {p : List Nat} {n : Node} (h : node? ns q p = some n) :
    n ∈ ns ∧ n.scq = q ∧ n.path = p := by
  unfold node? at h
  have h2 := List.find?_some h
  exact ⟨List.mem_of_find?_eq_some h, (isAt_iff n q p).mp h2⟩

theorem node?_isSome_iff {ns : List Node} {q : ScqId} {p : List Nat} :
    (node? ns q p).isSome = true ↔ ∃ n ∈ ns, n.scq = q ∧ n.path = p := by
  unfold node?
  rw [List.find?_isSome]
  constructor
  · rintro ⟨n, hn, h⟩; exact ⟨n, hn, (isAt_iff n q p).mp h⟩
  · rintro ⟨n, hn, h⟩; exact ⟨n, hn, (isAt_iff n q p).mpr h⟩

theorem node?_eq_none_iff {ns : List Node} {q : ScqId} {p : List Nat} :
    node? ns q p = none ↔ ∀ n ∈ ns, ¬ (n.scq = q ∧ n.path = p) := by
  unfold node?
  rw [List.find?_eq_none]
  constructor
  · intro h n hn hc; exact h n hn ((isAt_iff n q p).mpr hc)
  · intro h n hn hc; exact h n hn ((isAt_iff n q p).mp hc)

/-- with distinct keys, membership determines `node?` -/
theorem node?_of_mem {ns : List Node} (hnd : (ns.map nkey).Nodup) {n : Node} (hn : n ∈ ns) :
    node? ns n.scq n.path = some n := by
  induction ns with
  | nil => cases hn
  | cons a l ih =>
    simp only [List.map_cons, List.nodup_cons] at hnd
    unfold node?
    rw [List.find?_cons]
    by_cases ha : a.isAt n.scq n.path = true
    · rw [ha]
      rcases List.mem_cons.mp hn with e | hm
      · rw [e]
      · exfalso
        have := (isAt_iff a n.scq n.path).mp ha
        apply hnd.1
        rw [List.mem_map]
        exact ⟨n, hm, by simp [nkey, this.1, this.2]⟩
    · have ha' : a.isAt n.scq n.path = false := by simpa using ha
      rw [ha']
      rcases List.mem_cons.mp hn with e | hm
      · exfalso; apply ha; rw [e]; exact (isAt_iff a a.scq a.path).mpr ⟨rfl, rfl⟩
      · exact ih hnd.2 hm

/-! ### maps that keep the keys -/

/-- `f` keeps queue and path -/
def KeepsKey (f : Node → Node) : Prop := ∀ n, (f n).scq = n.scq ∧ (f n).path = n.path

theorem map_keys {ns : List Node} {g : Node → Node} (hg : KeepsKey g) : (ns.map g).map nkey = ns.map nkey := by
  rw [List.map_map]
  apply List.map_congr_left
  intro n _
  simp [nkey, (hg n).1, (hg n).2]

theorem node?_map {ns : List Node} {g : Node → Node} (hg : KeepsKey g) (q : ScqId) (p : List Nat) :
    node? (ns.map g) q p = (node? ns q p).map g := by
  induction ns with
  | nil => rfl
  | cons a l ih =>
    unfold node? at ih ⊢
    rw [List.map_cons, List.find?_cons, List.find?_cons]
    have : (g a).isAt q p = a.isAt q p := by simp [Node.isAt, (hg a).1, (hg a).2]
    rw [this]
    cases a.isAt q p with
    | true => rfl
    | false => exact ih

theorem keepsKey_ite {c : Node → Bool} {f : Node → Node} (hf : KeepsKey f) :
    KeepsKey (fun n => if c n then f n else n) := by
  intro n; by_cases h : c n = true <;> simp [h, hf n]

theorem updNode_eq_map (ns : List Node) (q : ScqId) (p : List Nat) (f : Node → Node) :
    updNode ns q p f = ns.map (fun n => if n.isAt q p then f n else n) := rfl

theorem updPath_eq_map (ns : List Node) (q : ScqId) (p : List Nat) (f : Node → Node) :
    updPath ns q p f = ns.map (fun n => if n.onPath q p then f n else n) := rfl

theorem mem_updPath {ns : List Node} {q : ScqId} {p : List Nat} {f : Node → Node} {m : Node} :
    m ∈ updPath ns q p f ↔ ∃ n ∈ ns, m = if n.onPath q p then f n else n := by
  rw [updPath_eq_map, List.mem_map]
  constructor
  · rintro ⟨n, hn, e⟩; exact ⟨n, hn, e.symm⟩
  · rintro ⟨n, hn, e⟩; exact ⟨n, hn, e.symm⟩

theorem mem_updNode {ns : List Node} {q : ScqId} {p : List Nat} {f : Node → Node} {m : Node} :
    m ∈ updNode ns q p f ↔ ∃ n ∈ ns, m = if n.isAt q p then f n else n := by
  rw [updNode_eq_map, List.mem_map]
  constructor
  · rintro ⟨n, hn, e⟩; exact ⟨n, hn, e.symm⟩
  · rintro ⟨n, hn, e⟩; exact ⟨n, hn, e.symm⟩

/-! ### the multiset operations -/

theorem mget_minc (k k' : WKey) (m : List (WKey × Nat)) :
    mget k' (minc k m) = mget k' m + (if k = k' then 1 else 0) := by
  induction m with
  | nil => by_cases h : k = k' <;> simp [minc, mget, h]
  | cons a l ih =>
    obtain ⟨ka, c⟩ := a
    simp only [minc]
    by_cases h1 : ka = k
    · subst h1
      by_cases h2 : ka = k' <;> simp [mget, h2]
    · simp only [h1, if_false, mget]
      by_cases h2 : ka = k'
      · subst h2
        have : ¬ k = ka := fun e => h1 e.symm
        simp [this]
      · simp [h2, ih]

theorem keys_minc (k : WKey) (m : List (WKey × Nat)) (h : (m.map (·.1)).Nodup) :
    ((minc k m).map (·.1)).Nodup ∧ ∀ k', k' ∈ (minc k m).map (·.1) ↔ k' = k ∨ k' ∈ m.map (·.1) := by
  induction m with
  | nil => simp [minc]
  | cons a l ih =>
    obtain ⟨ka, c⟩ := a
    simp only [List.map_cons, List.nodup_cons] at h
    obtain ⟨ih1, ih2⟩ := ih h.2
    simp only [minc]
    by_cases h1 : ka = k
    · subst h1; simp only [if_true, List.map_cons, List.nodup_cons]
      refine ⟨⟨h.1, h.2⟩, ?_⟩
      intro k'; simp only [List.mem_cons]
      exact ⟨Or.inr, fun h => h.elim Or.inl id⟩
    · simp only [h1, if_false, List.map_cons, List.nodup_cons]
      refine ⟨⟨?_, ih1⟩, ?_⟩
      · intro hm; rcases (ih2 ka).mp hm with e | e
        · exact h1 e
        · exact h.1 e
      · intro k'; simp only [List.mem_cons, ih2]; exact or_left_comm

theorem pos_minc (k : WKey) (m : List (WKey × Nat)) (h : ∀ e ∈ m, 0 < e.2) : ∀ e ∈ minc k m, 0 < e.2 := by
  induction m with
  | nil => intro e he; simp [minc] at he; subst he; simp
  | cons a l ih =>
    obtain ⟨ka, c⟩ := a
    simp only [minc]
    by_cases h1 : ka = k
    · simp only [h1, if_true]; intro e he
      rcases List.mem_cons.mp he with e1 | e1
      · subst e1; simp
      · exact h e (List.mem_cons_of_mem _ e1)
    · simp only [h1, if_false]; intro e he
      rcases List.mem_cons.mp he with e1 | e1
      · subst e1; exact h _ (List.mem_cons_self)
      · exact ih (fun e he => h e (List.mem_cons_of_mem _ he)) e e1

theorem mget_pos_iff (k : WKey) (m : List (WKey × Nat)) (h : ∀ e ∈ m, 0 < e.2) :
    0 < mget k m ↔ k ∈ m.map (·.1) := by
  induction m with
  | nil => simp [mget]
  | cons a l ih =>
    obtain ⟨ka, c⟩ := a
    have hc : 0 < c := h (ka, c) List.mem_cons_self
    have ih' := ih (fun e he => h e (List.mem_cons_of_mem _ he))
    simp only [mget, List.map_cons, List.mem_cons]
    by_cases h1 : ka = k
    · simp [h1, hc]
    · simp only [h1, if_false, ih']
      constructor
      · intro hh; exact Or.inr hh
      · rintro (e | e)
        · exact absurd e.symm h1
        · exact e

theorem mget_mdec (k k' : WKey) (m : List (WKey × Nat)) (hnd : (m.map (·.1)).Nodup) (hp : ∀ e ∈ m, 0 < e.2) :
    mget k' (mdec k m) = mget k' m - (if k = k' then 1 else 0) := by
  induction m with
  | nil => simp [mdec, mget]
  | cons a l ih =>
    obtain ⟨ka, c⟩ := a
    simp only [List.map_cons, List.nodup_cons] at hnd
    have ih' := ih hnd.2 (fun e he => hp e (List.mem_cons_of_mem _ he))
    have hc : 0 < c := hp (ka, c) List.mem_cons_self
    simp only [mdec]
    by_cases h1 : ka = k
    · subst h1
      simp only [if_true]
      by_cases hc1 : c ≤ 1
      · simp only [hc1, if_true]
        by_cases h2 : ka = k'
        · subst h2
          have : mget ka l = 0 := by
            cases hz : mget ka l with
            | zero => rfl
            | succ n =>
              exfalso
              have := (mget_pos_iff ka l (fun e he => hp e (List.mem_cons_of_mem _ he))).mp (by omega)
              exact hnd.1 this
          simp [mget, this]; omega
        · simp [mget, h2]
      · simp only [hc1, if_false]
        by_cases h2 : ka = k' <;> simp [mget, h2]
    · simp only [h1, if_false, mget]
      by_cases h2 : ka = k'
      · subst h2
        have : ¬ k = ka := fun e => h1 e.symm
        simp [this]
      · simp [h2, ih']

theorem keys_mdec (k : WKey) (m : List (WKey × Nat)) (h : (m.map (·.1)).Nodup) :
    ((mdec k m).map (·.1)).Nodup ∧ ∀ k', k' ∈ (mdec k m).map (·.1) → k' ∈ m.map (·.1) := by
  induction m with
  | nil => simp [mdec]
  | cons a l ih =>
    obtain ⟨ka, c⟩ := a
    simp only [List.map_cons, List.nodup_cons] at h
    obtain ⟨ih1, ih2⟩ := ih h.2
    simp only [mdec]
    by_cases h1 : ka = k
    · simp only [h1, if_true]
      by_cases hc1 : c ≤ 1
      · simp only [hc1, if_true]; exact ⟨h.2, fun k' hk => List.mem_cons_of_mem _ hk⟩
      · simp only [hc1, if_false, List.map_cons, List.nodup_cons]
        exact ⟨⟨h1 ▸ h.1, h.2⟩, fun k' hk => by simpa [h1] using hk⟩
    · simp only [h1, if_false, List.map_cons, List.nodup_cons]
      refine ⟨⟨fun hm => h.1 (ih2 ka hm), ih1⟩, ?_⟩
      intro k' hk
      rcases List.mem_cons.mp hk with e | e
      · exact e ▸ List.mem_cons_self
      · exact List.mem_cons_of_mem _ (ih2 k' e)

theorem pos_mdec (k : WKey) (m : List (WKey × Nat)) (h : ∀ e ∈ m, 0 < e.2) : ∀ e ∈ mdec k m, 0 < e.2 := by
  induction m with
  | nil => intro e he; simp [mdec] at he
  | cons a l ih =>
    obtain ⟨ka, c⟩ := a
    have ih' := ih (fun e he => h e (List.mem_cons_of_mem _ he))
    simp only [mdec]
    by_cases h1 : ka = k
    · simp only [h1, if_true]
      by_cases hc1 : c ≤ 1
      · simp only [hc1, if_true]; exact fun e he => h e (List.mem_cons_of_mem _ he)
      · simp only [hc1, if_false]; intro e he
        rcases List.mem_cons.mp he with e1 | e1
        · subst e1; simp; omega
        · exact h e (List.mem_cons_of_mem _ e1)
    · simp only [h1, if_false]; intro e he
      rcases List.mem_cons.mp he with e1 | e1
      · subst e1; exact h _ List.mem_cons_self
      · exact ih' e e1

theorem exec_nonempty_of_mget {k : WKey} {m : List (WKey × Nat)} (h : 0 < mget k m) : m.isEmpty = false := by
  cases m with
  | nil => simp [mget] at h
  | cons a l => rfl

/-! ### prefixes -/

theorem list_snoc_ind {α : Type _} {motive : List α → Prop} (hnil : motive [])
    (hsnoc : ∀ l a, motive l → motive (l ++ [a])) : ∀ l, motive l := by
  intro l
  have hr : ∀ r : List α, motive r.reverse := by
    intro r
    induction r with
    | nil => exact hnil
    | cons a t ih => rw [List.reverse_cons]; exact hsnoc _ _ ih
  have h := hr l.reverse
  rwa [List.reverse_reverse] at h

theorem mem_prefixes {p pi : List Nat} : pi ∈ prefixes p ↔ pi <+: p ∧ pi ≠ [] := by
  induction p generalizing pi with
  | nil => simp [prefixes]
  | cons k r ih =>
    simp only [prefixes, List.mem_cons, List.mem_map]
    constructor
    · rintro (e | ⟨x, hx, e⟩)
      · subst e; exact ⟨by simp, by simp⟩
      · subst e; exact ⟨by simpa using (ih.mp hx).1, by simp⟩
    · rintro ⟨hp, hne⟩
      cases pi with
      | nil => exact absurd rfl hne
      | cons a t =>
        have := List.cons_prefix_cons.mp hp
        obtain ⟨e, ht⟩ := this
        subst e
        cases t with
        | nil => exact Or.inl rfl
        | cons b t' => exact Or.inr ⟨b :: t', ih.mpr ⟨ht, by simp⟩, rfl⟩

theorem prefixes_concat (p : List Nat) (k : Nat) : prefixes (p ++ [k]) = prefixes p ++ [p ++ [k]] := by
  induction p with
  | nil => rfl
  | cons a r ih =>
    show prefixes (a :: (r ++ [k])) = _
    simp only [prefixes, ih, List.map_append, List.map_cons, List.map_nil, List.cons_append]

theorem mem_ups {p pi : List Nat} : pi ∈ ups p ↔ pi <+: p ∧ pi ≠ [] := by
  unfold ups; rw [List.mem_reverse]; exact mem_prefixes

theorem dropLast_prefix_of_prefix {a p : List Nat} (h : a <+: p) : a.dropLast <+: p :=
  List.IsPrefix.trans (List.dropLast_prefix a) h

theorem dropLast_append_lastKey {p : List Nat} (h : p ≠ []) : p.dropLast ++ [lastKey p] = p := by
  unfold lastKey
  rw [List.getLast?_eq_some_getLast h]
  simp [List.dropLast_concat_getLast]

/-! ### `insk` -/

theorem mem_insk {k k0 : Nat} {l : List Nat} : k ∈ insk k0 l ↔ k = k0 ∨ k ∈ l := by
  unfold insk
  split
  · constructor
    · exact Or.inr
    · rintro (e | e)
      · subst e; assumption
      · exact e
  · simp only [List.mem_append, List.mem_singleton]
    constructor
    · rintro (e | e)
      · exact Or.inr e
      · exact Or.inl e
    · rintro (e | e)
      · exact Or.inr e
      · exact Or.inl e

theorem nodup_insk {k0 : Nat} {l : List Nat} (h : l.Nodup) : (insk k0 l).Nodup := by
  unfold insk
  split
  · exact h
  · rename_i hk
    rw [List.nodup_append]
    refine ⟨h, by simp, ?_⟩
    intro a ha b hb e
    simp only [List.mem_singleton] at hb
    subst hb; subst e; exact hk ha

/-! ### the counters -/

theorem countP_erase_mem {α} [BEq α] [LawfulBEq α] (f : α → Bool) (c : α) (l : List α) (hc : c ∈ l) :
    (l.erase c).countP f = l.countP f - (if f c then 1 else 0) := by
  rw [(List.perm_cons_erase hc).countP_eq f, List.countP_cons, Nat.add_sub_cancel]

/-- what `cntE` counts -/
theorem cntE_pred (q : ScqId) (p : List Nat) (k : WKey) (c : EC) :
    (decide (c.1 = q) && p.isPrefixOf c.2.1 && decide (c.2.2 = k)) = true ↔ c.1 = q ∧ p <+: c.2.1 ∧ c.2.2 = k := by
  simp only [Bool.and_eq_true, decide_eq_true_eq, List.isPrefixOf_iff_prefix, and_assoc]

theorem cntE_cons (q : ScqId) (p : List Nat) (k : WKey) (c : EC) (E : List EC) :
    cntE q p k (c :: E) = cntE q p k E + (if c.1 = q ∧ p <+: c.2.1 ∧ c.2.2 = k then 1 else 0) := by
  unfold cntE
  rw [List.countP_cons]
  simp only [cntE_pred]

theorem cntE_erase (q : ScqId) (p : List Nat) (k : WKey) (c : EC) (E : List EC) (hc : c ∈ E) :
    cntE q p k (E.erase c) = cntE q p k E - (if c.1 = q ∧ p <+: c.2.1 ∧ c.2.2 = k then 1 else 0) := by
  unfold cntE
  rw [countP_erase_mem _ _ _ hc]
  simp only [cntE_pred]

theorem cntE_pos_iff (q : ScqId) (p : List Nat) (k : WKey) (E : List EC) :
    0 < cntE q p k E ↔ ∃ c ∈ E, c.1 = q ∧ p <+: c.2.1 ∧ c.2.2 = k := by
  unfold cntE
  rw [List.countP_pos_iff]
  simp only [cntE_pred]

/-- what `cntI` counts -/
theorem cntI_pred (q : ScqId) (p : List Nat) (c : IC) :
    (decide (c.1 = q) && p.isPrefixOf c.2) = true ↔ c.1 = q ∧ p <+: c.2 := by
  simp only [Bool.and_eq_true, decide_eq_true_eq, List.isPrefixOf_iff_prefix]

theorem cntI_cons (q : ScqId) (p : List Nat) (c : IC) (I : List IC) :
    cntI q p (c :: I) = cntI q p I + (if c.1 = q ∧ p <+: c.2 then 1 else 0) := by
  unfold cntI
  rw [List.countP_cons]
  simp only [cntI_pred]

theorem cntI_erase (q : ScqId) (p : List Nat) (c : IC) (I : List IC) (hc : c ∈ I) :
    cntI q p (I.erase c) = cntI q p I - (if c.1 = q ∧ p <+: c.2 then 1 else 0) := by
  unfold cntI
  rw [countP_erase_mem _ _ _ hc]
  simp only [cntI_pred]

theorem cntI_pos_iff (q : ScqId) (p : List Nat) (I : List IC) :
    0 < cntI q p I ↔ ∃ c ∈ I, c.1 = q ∧ p <+: c.2 := by
  unfold cntI
  rw [List.countP_pos_iff]
  simp only [cntI_pred]

end BbRe.Lemmas.SchedTree
