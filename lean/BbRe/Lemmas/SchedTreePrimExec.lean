import BbRe.Lemmas.SchedTreePrimStruct
/-!
The loops over the invocations on the path to `(q, p)` that change a counter (`TreeOK.of_updPath`) and then
call `removeIfEmpty` (`TreeOK.pruneP`); `incrementExecutingWorkersCount` / `decrementExecutingWorkersCount`
preserve the tree invariant for the addition / removal of one executing operation.
-/
namespace BbRe.Lemmas.SchedTree
open BbRe.Sched BbRe.SchedTree

variable {X : List (ScqId × List Nat)} {ns : List Node} {E : List EC} {I : List IC} {Q : List QC} {P : List PC}

theorem mem_offPath {X : List (ScqId × List Nat)} {q : ScqId} {p : List Nat} {x : ScqId × List Nat} :
    x ∈ offPath X q p ↔ x ∈ X ∧ ¬ (x.1 = q ∧ x.2 <+: p) := by
  unfold offPath onPathOf
  rw [List.mem_filter]
  simp only [Bool.not_eq_eq_eq_not, Bool.not_true, Bool.and_eq_false_iff, decide_eq_false_iff_not]
  constructor
  · rintro ⟨hx, hc⟩; refine ⟨hx, ?_⟩
    rintro ⟨h1, h2⟩
    rcases hc with hc | hc
    · exact hc h1
    · rw [List.isPrefixOf_iff_prefix.mpr h2] at hc; cases hc
  · rintro ⟨hx, hc⟩; refine ⟨hx, ?_⟩
    by_cases h1 : x.1 = q
    · right
      cases hp : x.2.isPrefixOf p with
      | false => rfl
      | true => exact absurd ⟨h1, List.isPrefixOf_iff_prefix.mp hp⟩ hc
    · left; exact h1

theorem pruneKeep_false {n : Node} {q : ScqId} {p : List Nat}
    (h : (!(n.onPath q p && !n.path.isEmpty && n.isEmptyInv)) = false) :
    n.onPath q p = true ∧ n.path ≠ [] ∧ n.isEmptyInv = true := by
  cases h1 : n.onPath q p <;> cases h2 : n.isEmptyInv <;> cases h3 : n.path <;> simp_all

theorem pruneKeep_true {n : Node} {q : ScqId} {p : List Nat}
    (h : (!(n.onPath q p && !n.path.isEmpty && n.isEmptyInv)) = true) (h1 : n.onPath q p = true) (h2 : n.path ≠ []) :
    n.isEmptyInv = false := by
  cases h3 : n.isEmptyInv <;> cases h4 : n.path <;> simp_all

/-- A loop that changes the counters of the invocations on the path to `(q, p)`: the counter clauses are
checked on the path against the new bags, off the path the counts must not have changed.  `hne`: on the
path a non-exempt invocation stays non-empty, off the path nothing becomes non-exempt. -/
theorem TreeOK.of_updPath (h : TreeOK X ns E I Q P) (q : ScqId) (p : List Nat) {f : Node → Node} (hk : KeepsKey f)
    (hf : ∀ n, (f n).qops = n.qops ∧ (f n).qkids = n.qkids ∧ (f n).parked = n.parked ∧ (f n).ikids = n.ikids)
    {X' : List (ScqId × List Nat)} {E' : List EC} {I' : List IC}
    (hE : ∀ n ∈ ns, (n.onPath q p = false → ∀ k, cntE n.scq n.path k E' = cntE n.scq n.path k E) ∧
      (n.onPath q p = true → (∀ k, mget k (f n).exec = cntE n.scq n.path k E') ∧
        ((f n).exec.map (·.1)).Nodup ∧ ∀ e ∈ (f n).exec, 0 < e.2))
    (hI : ∀ n ∈ ns, (n.onPath q p = false → cntI n.scq n.path I' = cntI n.scq n.path I) ∧
      (n.onPath q p = true → (f n).idle = cntI n.scq n.path I'))
    (hne : ∀ n ∈ ns, n.path ≠ [] → (n.scq, n.path) ∉ X' →
      (n.onPath q p = true → (f n).isEmptyInv = false) ∧ (n.onPath q p = false → (n.scq, n.path) ∉ X))
    (hrE : ∀ c ∈ E', (node? ns c.1 c.2.1).isSome = true) (hrI : ∀ c ∈ I', (node? ns c.1 c.2).isSome = true)
    (hpi : ∀ c ∈ P, (c.1, c.2.1) ∈ I') : TreeOK X' (updPath ns q p f) E' I' Q P := by
  rw [updPath_eq_map]
  refine h.of_map _ (keepsKey_ite hk) X' E' I' Q P ?_ ?_ ?_ ?_ ?_ ?_ ?_ ?_ hrE hrI h.rfQ h.rfP hpi
  · intro n hn k
    cases hc : n.onPath q p
    · rw [(hE n hn).1 hc k]; exact h.ex n hn k
    · exact ((hE n hn).2 hc).1 k
  · intro n hn
    cases hc : n.onPath q p
    · exact h.exnd n hn
    · exact ((hE n hn).2 hc).2
  · intro n hn
    cases hc : n.onPath q p
    · rw [(hI n hn).1 hc]; exact h.id n hn
    · exact (hI n hn).2 hc
  · intro n hn; cases hc : n.onPath q p
    · exact h.qo n hn
    · rw [if_pos rfl, (hf n).1]; exact h.qo n hn
  · intro n hn; cases hc : n.onPath q p
    · exact h.qk n hn
    · rw [if_pos rfl, (hf n).2.1]; exact h.qk n hn
  · intro n hn; cases hc : n.onPath q p
    · exact h.pk n hn
    · rw [if_pos rfl, (hf n).2.2.1]; exact h.pk n hn
  · intro n hn; cases hc : n.onPath q p
    · exact h.ik n hn
    · rw [if_pos rfl, (hf n).2.2.2]; exact h.ik n hn
  · intro n hn hp hx
    cases hc : n.onPath q p
    · exact h.ne n hn hp ((hne n hn hp hx).2 hc)
    · exact (hne n hn hp hx).1 hc

/-- off the path to `(q, p)` an entry at `(q, p)` is not counted -/
theorem not_counted {n : Node} {q : ScqId} {p : List Nat} (hc : n.onPath q p = false) : ¬ (q = n.scq ∧ n.path <+: p) :=
  fun hc' => by rw [(onPath_iff n q p).mpr ⟨hc'.1.symm, hc'.2⟩] at hc; cases hc

/-- nothing off the path to `(q, p)` loses its exemption in `offPath X q p` -/
theorem offPath_of_off {n : Node} {q : ScqId} {p : List Nat} (hx : (n.scq, n.path) ∉ offPath X q p)
    (hc : n.onPath q p = false) : (n.scq, n.path) ∉ X :=
  fun hX => hx (mem_offPath.mpr ⟨hX, fun hc' => by rw [(onPath_iff n q p).mpr hc'] at hc; cases hc⟩)

/-- `for i.removeIfEmpty() { i = i.parent }` after a loop over the path to `(q, p)`, when exactly the non-root
invocations on that path are exempt. -/
theorem TreeOK.pruneP (h : TreeOK ((prefixes p).map (fun pi => (q, pi))) ns E I Q P) :
    TreeOK [] (pruneP ns q p) E I Q P := by
  have hmem : ∀ n : Node, (n.scq, n.path) ∈ (prefixes p).map (fun pi => (q, pi)) →
      n.onPath q p = true ∧ n.path ≠ [] := by
    intro n hx
    obtain ⟨pi, hpi, e⟩ := List.mem_map.mp hx
    obtain ⟨e1, e2⟩ := Prod.mk.inj e
    rw [e2] at hpi
    exact ⟨(onPath_iff n q p).mpr ⟨e1.symm, (mem_prefixes.mp hpi).1⟩, (mem_prefixes.mp hpi).2⟩
  exact h.of_filter _ (fun n _ hk => (pruneKeep_false hk).2)
    (fun n _ hx hk => pruneKeep_true hk (hmem n hx).1 (hmem n hx).2)

/-- on the path to `(q, p)` every non-root invocation is among `prefixes p` -/
theorem mem_prefixes_of_on {n : Node} {q : ScqId} {p : List Nat} (hc : n.onPath q p = true) (hp : n.path ≠ []) :
    (n.scq, n.path) ∈ (prefixes p).map (fun pi => (q, pi)) :=
  have ho := (onPath_iff n q p).mp hc
  List.mem_map.mpr ⟨n.path, mem_prefixes.mpr ⟨ho.2, hp⟩, by rw [ho.1]⟩

/-- the exemptions `X`, all on the path to `(q, p)`, exempt nothing off the path -/
theorem not_mem_of_off {n : Node} {q : ScqId} {p : List Nat} (hX : ∀ x ∈ X, x.1 = q ∧ x.2 <+: p)
    (hc : n.onPath q p = false) : (n.scq, n.path) ∉ X :=
  fun hXn => by rw [(onPath_iff n q p).mpr (hX _ hXn)] at hc; cases hc

/-- `incrementExecutingWorkersCount(i, w)`: one more executing operation at `(q, p)` on worker `k` -/
theorem incExec_ok (h : TreeOK X ns E I Q P) (q : ScqId) (p : List Nat) (k : WKey) (now : Nat)
    (hn : (node? ns q p).isSome = true) :
    TreeOK (offPath X q p) (incExec ns q p k now) ((q, p, k) :: E) I Q P := by
  unfold incExec
  refine h.of_updPath q p (by exact fun _ => ⟨rfl, rfl⟩) (by exact fun _ => ⟨rfl, rfl, rfl, rfl⟩) ?_
    (fun n hn' => ⟨fun _ => rfl, fun _ => h.id n hn'⟩) ?_ ?_ h.rfI h.pi
  · intro n hn'
    refine ⟨fun hc k' => ?_, fun hc => ⟨fun k' => ?_, (keys_minc k n.exec (h.exnd n hn').1).1,
      pos_minc k n.exec (h.exnd n hn').2⟩⟩
    · have : ¬ (q = n.scq ∧ n.path <+: p ∧ k = k') := fun hc' => not_counted hc ⟨hc'.1, hc'.2.1⟩
      rw [cntE_cons, if_neg this, Nat.add_zero]
    · have ho := (onPath_iff n q p).mp hc
      show mget k' (minc k n.exec) = _
      rw [mget_minc, cntE_cons, h.ex n hn' k']
      by_cases hk : k = k' <;> simp [hk, ho.1, ho.2]
  · intro n hn' _ hx
    refine ⟨fun _ => ?_, offPath_of_off hx⟩
    have : (minc k n.exec).isEmpty = false := by cases n.exec <;> simp [minc] <;> split <;> simp
    simp [Node.isEmptyInv, Node.isActive, this]
  · intro c hc
    rcases List.mem_cons.mp hc with e | e
    · subst e; exact hn
    · exact h.rfE c e

/-- `decrementExecutingWorkersCount(i, w)`: one executing operation at `(q, p)` on worker `k` less;
invocations on the path that became empty are removed.  Exemptions are allowed on that path only. -/
theorem decExec_ok (h : TreeOK X ns E I Q P) (q : ScqId) (p : List Nat) (k : WKey) (now : Nat)
    (hc : (q, p, k) ∈ E) (hX : ∀ x ∈ X, x.1 = q ∧ x.2 <+: p) :
    TreeOK [] (decExec ns q p k now) (E.erase (q, p, k)) I Q P := by
  unfold decExec
  refine TreeOK.pruneP (h.of_updPath q p (by exact fun _ => ⟨rfl, rfl⟩) (by exact fun _ => ⟨rfl, rfl, rfl, rfl⟩) ?_
    (fun n hn' => ⟨fun _ => rfl, fun _ => h.id n hn'⟩)
    (fun n _ hp hx => ⟨fun hcn => absurd (mem_prefixes_of_on hcn hp) hx, not_mem_of_off hX⟩)
    (fun c hc' => h.rfE c (List.mem_of_mem_erase hc')) h.rfI h.pi)
  intro n hn'
  refine ⟨fun hcn k' => ?_, fun hcn => ⟨fun k' => ?_, (keys_mdec k n.exec (h.exnd n hn').1).1,
    pos_mdec k n.exec (h.exnd n hn').2⟩⟩
  · have : ¬ (q = n.scq ∧ n.path <+: p ∧ k = k') := fun hc' => not_counted hcn ⟨hc'.1, hc'.2.1⟩
    rw [cntE_erase _ _ _ _ _ hc, if_neg this, Nat.sub_zero]
  · have ho := (onPath_iff n q p).mp hcn
    show mget k' (mdec k n.exec) = _
    rw [mget_mdec k k' n.exec (h.exnd n hn').1 (h.exnd n hn').2, cntE_erase _ _ _ _ _ hc, h.ex n hn' k']
    by_cases hk : k = k' <;> simp [hk, ho.1, ho.2]

end BbRe.Lemmas.SchedTree
