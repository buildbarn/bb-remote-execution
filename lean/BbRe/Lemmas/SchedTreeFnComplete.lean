import BbRe.Lemmas.SchedTreeFnDefs
import BbRe.Lemmas.SchedLiveRoute
/-!
`task.complete` at the level of the tree layer's functions: the tree part of the invariant is kept by
`tComplete` (final completion, background learning task, retry on the largest size class).
-/
namespace BbRe.Lemmas.SchedTree
open BbRe.Sched BbRe.SchedTree BbRe.Lemmas.SchedInv

/-- a step of `Sched` that the tree layer does not see keeps its invariant -/
theorem TInvX.frame {ex exo X} {ts : TState} {s' : State} (hT : TInvX ex exo X ts) (hf : SFrame ts.s s')
    (hnt : s'.nextTask = ts.s.nextTask) (hno : s'.nextOp = ts.s.nextOp) : TInvX ex exo X (ts.setS s') :=
  ⟨hT.inv.of_eq hf.tasks hf.workers hnt hno, TreeOK.of_sframe hT.tree hf, Side.of_sframe hT.side hf⟩

/-! ### a new task -/

/-- a new task that is neither queued nor assigned yet, with one new operation -/
theorem MInv.newTask {ex} {s s' : State} (h : MInv ex s) {t : Task} (hid : t.id = s.nextTask) (hw : t.worker = none)
    (hq : t.queued = false) (hops : t.ops = [s.nextOp])
    (hst : s'.tasks = aset t.id t s.tasks) (hsw : s'.workers = s.workers) (hnt : s'.nextTask = s.nextTask + 1)
    (hno : s'.nextOp = s.nextOp + 1) : MInv (fun k => ex k ∨ k = t.id) s' := by
  obtain ⟨⟨tnd, tid, p2, p3, q1, q2, w1⟩, ⟨o3, own, bound⟩⟩ := h
  have old : ∀ {k u}, alookup k s'.tasks = some u → k = t.id ∧ u = t ∨ k ≠ t.id ∧ alookup k s.tasks = some u := by
    intro k u hu; rw [hst] at hu; exact alookup_aset_some hu
  -- the operation of `t` is new
  have fresh : ∀ {k u o}, alookup k s.tasks = some u → o ∈ u.ops → o ∉ t.ops := by
    intro k u o hu ho hm
    rw [hops, List.mem_singleton] at hm
    exact absurd (bound k u o hu ho) (by omega)
  refine ⟨⟨?_, ?_, ?_, ?_, ?_, ?_, ?_⟩, ⟨?_, ?_, ?_⟩⟩
  · rw [hst]; exact nodup_aset _ _ _ tnd
  · intro k u hu
    rw [hnt]
    rcases old hu with ⟨rfl, rfl⟩ | ⟨_, hu⟩
    · exact ⟨rfl, by omega⟩
    · exact ⟨(tid k u hu).1, Nat.lt_succ_of_lt (tid k u hu).2⟩
  · intro k u q w hu hw'
    rcases old hu with ⟨rfl, rfl⟩ | ⟨_, hu⟩
    · rw [hw] at hw'; cases hw'
    · rw [hsw]; exact p2 k u q w hu hw'
  · intro k u hu hw'
    rcases old hu with ⟨rfl, rfl⟩ | ⟨_, hu⟩
    · rw [hw] at hw'; cases hw'
    · exact p3 k u hu hw'
  · intro k u hu hq'
    rcases old hu with ⟨rfl, rfl⟩ | ⟨_, hu⟩
    · rw [hq] at hq'; cases hq'
    · exact q1 k u hu hq'
  · intro k u hu hr
    rcases old hu with ⟨rfl, rfl⟩ | ⟨_, hu⟩
    · exact Or.inr (Or.inr (Or.inr rfl))
    · rcases q2 k u hu hr with a | a | a
      · exact Or.inl a
      · exact Or.inr (Or.inl a)
      · exact Or.inr (Or.inr (Or.inl a))
  · rw [hsw]; exact w1
  · intro k u hu
    rcases old hu with ⟨rfl, rfl⟩ | ⟨_, hu⟩
    · rw [hops]; exact ⟨List.nodup_cons.mpr ⟨List.not_mem_nil, List.nodup_nil⟩, List.cons_ne_nil _ _⟩
    · exact o3 k u hu
  · intro k u k' u' o hu hu' ho ho'
    rcases old hu with ⟨rfl, rfl⟩ | ⟨_, hu⟩ <;> rcases old hu' with ⟨rfl, rfl⟩ | ⟨_, hu'⟩
    · rfl
    · exact absurd ho (fresh hu' ho')
    · exact absurd ho' (fresh hu ho)
    · exact own k u k' u' o hu hu' ho ho'
  · intro k u o hu ho
    rw [hno]
    rcases old hu with ⟨rfl, rfl⟩ | ⟨_, hu⟩
    · rw [hops, List.mem_singleton] at ho; omega
    · exact Nat.lt_succ_of_lt (bound k u o hu ho)

/-! ### `getOrCreateInvocation` of an invocation that has queued operations -/

theorem getOrCreate_single (ns : List Node) (q : ScqId) (k : Nat) (now : Nat) :
    getOrCreate ns q [k] now = if (node? ns q [k]).isSome then ns else ns ++ [mkNode q [k] now] := rfl

theorem getOrCreate_of_queuedHere {ns : List Node} {q : ScqId} {k now m : Nat} (hm : m ≠ 0)
    (h : queuedHere (getOrCreate ns q [k] now) q [k] ≥ m) : getOrCreate ns q [k] now = ns := by
  rw [getOrCreate_single] at h ⊢
  split
  · rfl
  · rename_i hn
    exfalso
    rw [if_neg hn] at h
    have hnone : node? ns q [k] = none := by
      cases hx : node? ns q [k] with
      | none => rfl
      | some n => rw [hx] at hn; exact absurd rfl hn
    have : node? (ns ++ [mkNode q [k] now]) q [k] = some (mkNode q [k] now) := by
      unfold node? at hnone ⊢
      rw [List.find?_append, hnone]
      simp [mkNode, Node.isAt]
    unfold queuedHere at h
    rw [this] at h
    simp [mkNode] at h
    exact hm h

/-! ### `task.schedule` leaves the operation table alone -/

theorem schedule_ops {h : Hints} {s s' : State} {tid : Nat} (hh : schedule h s tid = .ok s') :
    s'.ops = s.ops ∧ s'.nextOp = s.nextOp ∧ s'.nextTask = s.nextTask := by
  obtain ⟨t, _, ⟨_, rfl⟩ | ⟨_, w, w1, _, _, _, _, _, rfl⟩⟩ := BbRe.Lemmas.SchedLive.schedule_ok hh
  · exact ⟨rfl, rfl, rfl⟩
  · exact ⟨rfl, rfl, rfl⟩

theorem tSchedule_ops {h : Hints} {ts ts' : TState} {tid : Nat} (hh : tSchedule h ts tid = .ok ts') :
    ts'.s.ops = ts.s.ops ∧ ts'.s.nextOp = ts.s.nextOp ∧ ts'.s.nextTask = ts.s.nextTask :=
  schedule_ops (tSchedule_ref h ts tid ts' hh)

/-! ### the background learning task -/

/-- too many background tasks are queued already: the invocation exists, nothing is created -/
theorem bg_abandon_tinv {ex exo} {B ts' : TState} (hB : TInvX ex exo [] B) {q : ScqId} {k now m : Nat} (hm : m ≠ 0)
    (hq : queuedHere (getOrCreate B.nodes q [k] now) q [k] ≥ m) (hf : SFrame B.s ts'.s)
    (hnt : ts'.s.nextTask = B.s.nextTask) (hno : ts'.s.nextOp = B.s.nextOp)
    (hn : ts'.nodes = getOrCreate B.nodes q [k] now) (hw : ts'.wx = B.wx) (ho : ts'.ox = B.ox) :
    TInvX ex exo [] ts' := by
  have h1 := hB.frame hf hnt hno
  exact TInvX.mk' h1.inv (TS.of_fields h1.ts rfl (hn.trans (getOrCreate_of_queuedHere hm hq)) hw ho)

/-- a new task with one new operation in invocation `inv` is created and scheduled -/
theorem bg_schedule_tinv {exo} {h : Hints} {B ts0 ts' : TState} {bt : Task} {bo : Op} {inv : List Nat}
    (hh : tSchedule h ts0 bt.id = .ok ts') (hB : TInvX (fun _ => False) exo [] B) (hoid : OID B.s)
    (hbt : bt.id = B.s.nextTask ∧ bt.worker = none ∧ bt.queued = false ∧ bt.ops = [B.s.nextOp] ∧ bt.response = none)
    (hscq : ∃ sq ∈ B.s.scqs, sq.id = bt.scq) (hbo : bo.name = B.s.nextOp ∧ bo.inv = inv)
    (hst : ts0.s.tasks = aset bt.id bt B.s.tasks) (hsw : ts0.s.workers = B.s.workers) (hsq : ts0.s.scqs = B.s.scqs)
    (hso : ts0.s.ops = aset bo.name bo B.s.ops)
    (hnt : ts0.s.nextTask = B.s.nextTask + 1) (hno : ts0.s.nextOp = B.s.nextOp + 1) (hnow : ts0.s.now = B.s.now)
    (h0n : ts0.nodes = getOrCreate B.nodes bt.scq inv ts0.s.now)
    (h0w : ts0.wx = B.wx) (h0o : ts0.ox = aset B.s.nextOp ⟨inv, bo.prio⟩ B.ox) : TInvX (fun _ => False) exo [] ts' ∧ OID ts'.s := by
  obtain ⟨b1, b2, b3, b4, b5⟩ := hbt
  have hfresh : alookup bt.id B.s.tasks = none := by
    cases hl : alookup bt.id B.s.tasks with
    | none => rfl
    | some t0 => have := (hB.inv.core.tid _ _ hl).2; omega
  have hopf : ∀ k t', alookup k B.s.tasks = some t' → B.s.nextOp ∉ t'.ops := by
    intro k t' hk hm; have := hB.inv.oinv.bound k t' _ hk hm; omega
  have hso' : ∀ o op', ts0.s.op? o = some op' → (o = B.s.nextOp ∧ op'.inv = inv ∧ op'.prio = bo.prio) ∨
      (o ≠ B.s.nextOp ∧ ∃ op, B.s.op? o = some op ∧ op'.inv = op.inv ∧ op'.prio = op.prio) := by
    intro o op' ho
    rw [op?_def, hso, alookup_aset, hbo.1] at ho
    split at ho
    · rename_i e; cases ho; exact Or.inl ⟨e.symm, hbo.2, rfl⟩
    · rename_i e; exact Or.inr ⟨fun e' => e e'.symm, op', by rw [op?_def]; exact ho, rfl, rfl⟩
  obtain ⟨n1, n2, n3⟩ := newTask_ts (t := bt) (opn := B.s.nextOp) (inv := inv) (prio := bo.prio) (y := ⟨0, 0⟩) (s' := ts0.s)
    hB hfresh hopf b2 b3 b4 hscq hst hsw hsq hnow hso'
  have hinv : ∀ o, ts0.invOf o =
      ((((B.setOX B.s.nextOp ⟨inv, bo.prio⟩).setTX bt.id ⟨0, 0⟩).setS ts0.s).create bt.scq inv).invOf o := by
    intro o; unfold TState.invOf; rw [h0o]; rfl
  have hM : MInv (fun k => False ∨ k = bt.id) ts0.s := hB.inv.newTask b1 b2 b3 b4 hst hsw hnt hno
  have hT0 : TInvX (fun k => False ∨ k = bt.id) exo ([] ++ (prefixes inv).map (fun pi => (bt.scq, pi))) ts0 :=
    TInvX.mk' hM (TS.of_fields n1 rfl h0n h0w h0o)
  have htk : alookup bt.id ts0.s.tasks = some bt := by rw [hst, alookup_aset]; simp
  have hres := tSchedule_tinv hT0 htk b5 b2 b3
    (by intro o ho; rw [b4] at ho; simp only [List.mem_singleton] at ho; subst ho
        rw [hinv, n3, h0n]; exact n2)
    (by intro x hx
        simp only [List.nil_append, List.mem_map] at hx
        obtain ⟨pi, hpi, e⟩ := hx
        refine ⟨B.s.nextOp, by rw [b4]; exact List.mem_singleton.mpr rfl, ?_⟩
        rw [hinv, n3, ← e]
        simp only [onPathOf, decide_true, Bool.true_and]
        exact List.isPrefixOf_iff_prefix.mpr (mem_prefixes.mp hpi).1)
    hh
  obtain ⟨o1, o2, o3⟩ := tSchedule_ops hh
  refine ⟨⟨hres.inv.mono ?_, hres.tree, hres.side⟩, ?_⟩
  · rintro k ⟨hk | hk, hne⟩
    · exact hk
    · exact hne hk
  · intro k op hk
    rw [op?_def, o1, hso, alookup_aset] at hk
    split at hk
    · rename_i e; cases hk; rw [e]
    · exact hoid k op (by rw [op?_def]; exact hk)

/-! ### successful completion -/

/-- the ways `tCompleteSucc` succeeds: after `complete.finalize` (state `s1`) either no background learning task
is asked for, or it is abandoned (no background tasks allowed, or enough of them queued already: only the
invocation is created), or it is created and scheduled -/
theorem tCompleteSucc_shape {h : Hints} {x : Extras} {ts ts' : TState} {t : Task} {l : Nat} {r : Resp}
    (hh : tCompleteSucc h x ts t l r = .ok ts') :
    ∃ s1, complete.finalize (emit ts.s (.learnerSucceeded l (if h.bg.isSome then some ts.s.nextLearner else none)))
        { t with learner := none } r = .ok s1 ∧
      ((h.bg = none ∧ ts' = ts.setS s1) ∨
       ∃ bgIdx pq, h.bg = some bgIdx ∧ State.pq? { s1 with nextLearner := s1.nextLearner + 1 } t.scq.pq = some pq ∧
        ((pq.bgMax = 0 ∧ ts' = ts.setS (emit { s1 with nextLearner := s1.nextLearner + 1 } (.learnerAbandoned s1.nextLearner))) ∨
         ∃ bsc, (State.sizes { s1 with nextLearner := s1.nextLearner + 1 } t.scq.pq)[min bgIdx
              ((State.sizes { s1 with nextLearner := s1.nextLearner + 1 } t.scq.pq).length - 1)]? = some bsc ∧ pq.bgMax ≠ 0 ∧
          ((queuedHere (ts.create ⟨t.scq.pq, bsc⟩ [0]).nodes ⟨t.scq.pq, bsc⟩ [0] ≥ pq.bgMax ∧
              ts' = (ts.create ⟨t.scq.pq, bsc⟩ [0]).setS
                (emit { s1 with nextLearner := s1.nextLearner + 1 } (.learnerAbandoned s1.nextLearner))) ∨
           tSchedule h ((((ts.create ⟨t.scq.pq, bsc⟩ [0]).setOX s1.nextOp ⟨[0], pq.bgPrio⟩).setTX s1.nextTask
                ⟨x.bgDur, (ts.create ⟨t.scq.pq, bsc⟩ [0]).qtsOf t.id⟩).setS
              ((({ ({ s1 with nextLearner := s1.nextLearner + 1 } : State) with nextTask := s1.nextTask + 1, nextOp := s1.nextOp + 1 } : State).setTask
                { id := s1.nextTask, digest := t.digest, dkey := t.dkey, doNotCache := true, scq := ⟨t.scq.pq, bsc⟩,
                  ops := [s1.nextOp], worker := none, retry := 0, response := none, gen := 0,
                  learner := some s1.nextLearner, background := true, queued := false }).setOp
                { name := s1.nextOp, task := s1.nextTask, inv := [0], prio := pq.bgPrio, waiters := 0,
                  mayExistWithoutWaiters := true })) s1.nextTask = .ok ts'))) := by
  unfold tCompleteSucc at hh
  simp only [bind, Except.bind, pure, Except.pure] at hh
  split at hh
  · cases hh
  rename_i s1 hf
  refine ⟨s1, hf, ?_⟩
  split at hh
  · rename_i hb; cases hh; exact Or.inl ⟨hb, rfl⟩
  rename_i bgIdx hb
  refine Or.inr ⟨bgIdx, ?_⟩
  split at hh
  · rename_i pq hpq
    refine ⟨pq, hb, hpq, ?_⟩
    split at hh
    · rename_i hmax; cases hh; exact Or.inl ⟨hmax, rfl⟩
    rename_i hmax
    split at hh
    · rename_i bsc hbsc
      refine Or.inr ⟨bsc, hbsc, hmax, ?_⟩
      split at hh
      · cases hh
      rename_i hcross
      split at hh
      · rename_i hcnt
        cases hh
        exact Or.inl ⟨(decide_eq_decide.mp (Decidable.of_not_not hcross)).mp hcnt, rfl⟩
      · exact Or.inr hh
    · cases hh
  · cases hh
theorem tSucc_tinv {exo} {h : Hints} {x : Extras} {ts ts' : TState} {t : Task} {bw : Bool} {l : Nat} {r : Resp}
    (hT : TInvX (fun _ => False) exo [] ts) (ht : alookup t.id ts.s.tasks = some t) (hr : t.response = none)
    (hoid : OID ts.s)
    (hh : tCompleteSucc h x ((ts.detachTree t bw).setS (BbRe.SchedTree.detachW ts.s t)) (BbRe.SchedTree.detachT t) l r = .ok ts') :
    TInvX (fun _ => False) exo [] ts' ∧ OID ts'.s := by
  have htD : (BbRe.SchedTree.detachT t).id = t.id ∧ (BbRe.SchedTree.detachT t).worker = none ∧
      (BbRe.SchedTree.detachT t).queued = false ∧ (BbRe.SchedTree.detachT t).ops = t.ops :=
    ⟨detachT_id t, rfl, detachT_queued t (queued_false_of_worker hT.inv ht), detachT_ops t⟩
  obtain ⟨s1, hf, hcase⟩ := tCompleteSucc_shape hh
  obtain ⟨hB, hoid1, e1, e2, e3, e4, e5⟩ := tFinal_tinv (bw := bw) (tD := { BbRe.SchedTree.detachT t with learner := none })
    hT ht hr (fun h => h) hoid htD hf
  rcases hcase with ⟨_, rfl⟩ | ⟨bgIdx, pq, _, hpq, ⟨_, rfl⟩ | ⟨bsc, hbsc, hmax, ⟨hq, rfl⟩ | hh⟩⟩
  · exact ⟨hB, hoid1⟩
  · exact ⟨hB.frame (SFrame.of_eq rfl rfl rfl rfl rfl rfl) rfl rfl, OID.of_ops hoid1 rfl⟩
  · exact ⟨bg_abandon_tinv (B := (ts.detachTree t bw).setS s1) hB hmax hq (SFrame.of_eq rfl rfl rfl rfl rfl rfl)
      rfl rfl rfl rfl rfl, OID.of_ops hoid1 rfl⟩
  · have hscq : ∃ sq ∈ s1.scqs, sq.id = ⟨(BbRe.SchedTree.detachT t).scq.pq, bsc⟩ :=
      BbRe.Lemmas.SchedLive.getElem?_mem_sizes hbsc
    refine bg_schedule_tinv (B := (ts.detachTree t bw).setS s1) (inv := [0])
      (bt := { id := s1.nextTask, digest := (BbRe.SchedTree.detachT t).digest, dkey := (BbRe.SchedTree.detachT t).dkey,
               doNotCache := true, scq := ⟨(BbRe.SchedTree.detachT t).scq.pq, bsc⟩, ops := [s1.nextOp], worker := none,
               retry := 0, response := none, gen := 0, learner := some s1.nextLearner, background := true,
               queued := false }) hh hB hoid1
      ⟨rfl, rfl, rfl, rfl, rfl⟩ hscq ⟨rfl, rfl⟩ rfl rfl rfl rfl rfl rfl rfl ?_ rfl rfl
    show getOrCreate _ _ _ (BbRe.SchedTree.detachW ts.s t).now = getOrCreate _ _ _ s1.now
    rw [e3, (detachW_next ts.s t).2.2]
    rfl

/-! ### retry on the largest size class -/

/-- `for o in t.operations { getOrCreateInvocation(o.invocation keys) }` in the queue of `t` -/
theorem createOps_ts {ex exo X} {C : TState} (hC : TInvX ex exo X C) (t : Task) (hscq : ∃ sq ∈ C.s.scqs, sq.id = t.scq) :
    TS (X ++ t.ops.flatMap (fun o => (prefixes (C.invOf o)).map (fun pi => (t.scq, pi)))) (C.createOps t) ∧
    ∀ o ∈ t.ops, (node? (C.createOps t).nodes t.scq (C.invOf o)).isSome = true := by
  obtain ⟨sq, hsq, hid⟩ := hscq
  have hroot : (node? C.nodes t.scq []).isSome = true := by rw [← hid]; exact hC.side.roots sq hsq
  obtain ⟨a, b, c⟩ := createOps_ok hC.tree t.scq C.invOf C.s.now t.ops hroot
  refine ⟨⟨a, ?_⟩, b⟩
  have hsn := side_nodes hC.side (createOps_nframe C t) (scqs' := C.s.scqs)
    (by intro q hq; simp only [List.mem_singleton] at hq; subst hq; exact ⟨sq, hsq, hid⟩)
    (fun _ h => h) (fun _ h => Or.inl h)
  exact Side.of_nodes (ts' := C.createOps t) hC.side hsn.1 hsn.2 rfl rfl rfl rfl rfl

/-- the size-class queue of a task that is queued or executing exists -/
theorem live_scq_exists {exo X} {ts : TState} {t : Task} (hT : TInvX (fun _ => False) exo X ts)
    (ht : alookup t.id ts.s.tasks = some t) (hr : t.response = none) : ∃ sq ∈ ts.s.scqs, sq.id = t.scq := by
  obtain ⟨o, ho⟩ := List.exists_mem_of_ne_nil _ (hT.inv.oinv.o3 t.id t ht).2
  have hnode : ∃ p, (node? ts.nodes t.scq p).isSome = true := by
    rcases hT.inv.core.q2 t.id t ht hr with hq | hw | hf
    · exact ⟨_, hT.tree.rfQ _ (mem_bagQ_of_task ht hq ho)⟩
    · cases hw' : t.worker with
      | none => rw [hw'] at hw; cases hw
      | some qw => exact ⟨_, hT.tree.rfE _ (mem_bagE_of_task (q0 := qw.1) (w := qw.2) ht hw' ho)⟩
    · exact absurd hf id
  obtain ⟨p, hp⟩ := hnode
  obtain ⟨n, hn, hq, _⟩ := node?_isSome_iff.mp hp
  obtain ⟨sq, h1, h2⟩ := hT.side.nscq n hn
  exact ⟨sq, h1, h2.trans hq⟩

theorem largestScq_exists {s : State} {q : ScqId} (h : ∃ sq ∈ s.scqs, sq.id = q) :
    ∃ sq ∈ s.scqs, sq.id = largestScq s q := by
  unfold largestScq
  split
  · rename_i sc hsc
    exact BbRe.Lemmas.SchedLive.mem_sizes.mp (List.mem_of_getLast? hsc)
  · exact h

/-- the operations of the detached task are transplanted to the queue of `tr`, the task is rescheduled and
its generation bumped -/
theorem retry_schedule_tinv {exo} {h : Hints} {ts ts0 ts2 : TState} {t tr t2 : Task} {bw : Bool}
    (hsch : tSchedule h ts0 tr.id = .ok ts2) (ht2 : ts2.s.task? tr.id = some t2)
    (hT : TInvX (fun _ => False) exo [] ts) (ht : alookup t.id ts.s.tasks = some t) (hr : t.response = none)
    (hoid : OID ts.s)
    (hk : tr.id = t.id ∧ tr.worker = none ∧ tr.queued = false ∧ tr.ops = t.ops ∧ tr.response = none)
    (hscq : ∃ sq ∈ ts.s.scqs, sq.id = tr.scq)
    (hst : ts0.s.tasks = aset t.id tr ts.s.tasks) (hsw : ts0.s.workers = (BbRe.SchedTree.detachW ts.s t).workers)
    (hsq : ts0.s.scqs = ts.s.scqs) (hnt : ts0.s.nextTask = ts.s.nextTask) (hno : ts0.s.nextOp = ts.s.nextOp)
    (hso : ts0.s.ops = ts.s.ops)
    (h0n : ts0.nodes = (((ts.detachTree t bw).setS ts0.s).createOps tr).nodes)
    (h0w : ts0.wx = (ts.detachTree t bw).wx) (h0o : ts0.ox = (ts.detachTree t bw).ox) :
    TInvX (fun _ => False) exo [] (ts2.setS (ts2.s.setTask (bumpGen t2))) ∧
      OID (ts2.setS (ts2.s.setTask (bumpGen t2))).s := by
  obtain ⟨k1, k2, k3, k4, k5⟩ := hk
  have hC := detach_tinv (bw := bw) (s1 := ts0.s) (t' := tr) hT ht hr (fun h => h) ⟨k1, k2, k3, k4⟩ hst hsw hsq hnt hno
    (op?_of_ops hso)
  obtain ⟨c1, c2⟩ := createOps_ts hC tr (by rw [show ((ts.detachTree t bw).setS ts0.s).s.scqs = ts.s.scqs from hsq]; exact hscq)
  have hinv : ∀ o, ts0.invOf o = ((ts.detachTree t bw).setS ts0.s).invOf o := by
    intro o; unfold TState.invOf; rw [h0o]; rfl
  have hT0 := TInvX.mk' (exo := exo) (ts := ts0) (show MInv _ ts0.s from hC.inv) (TS.of_fields (ts2 := ts0) c1 rfl h0n h0w h0o)
  have htk : alookup tr.id ts0.s.tasks = some tr := by rw [hst, k1, alookup_aset]; simp
  have hres := tSchedule_tinv hT0 htk k5 k2 k3
    (by intro o ho; rw [hinv, h0n]; exact c2 o ho)
    (by intro x hx
        simp only [List.nil_append, List.mem_flatMap, List.mem_map] at hx
        obtain ⟨o, ho, pi, hpi, e⟩ := hx
        refine ⟨o, ho, ?_⟩
        rw [hinv, ← e]
        simp only [onPathOf, decide_true, Bool.true_and]
        exact List.isPrefixOf_iff_prefix.mpr (mem_prefixes.mp hpi).1)
    hsch
  have hres' : TInvX (fun _ => False) exo [] ts2 := ⟨hres.inv.mono (by
    rintro k ⟨hk | ⟨hk, _⟩, hne⟩
    · exact hk
    · exact hne (hk.trans k1.symm)), hres.tree, hres.side⟩
  obtain ⟨o1, o2, o3⟩ := tSchedule_ops hsch
  rw [task?_def] at ht2
  have hid2 : t2.id = tr.id := (hres'.inv.core.tid _ _ ht2).1
  have ht2' : alookup t2.id ts2.s.tasks = some t2 := by rw [hid2]; exact ht2
  have hst2 : (ts2.s.setTask (bumpGen t2)).tasks = aset t2.id (bumpGen t2) ts2.s.tasks := rfl
  refine ⟨TInvX.mk' ?_ (taskset_ts (t' := bumpGen t2) hres' ht2' ⟨rfl, rfl, rfl, rfl, rfl⟩ hst2 rfl rfl (op?_of_ops rfl)), ?_⟩
  · exact hres'.inv.taskset (t' := bumpGen t2) ht2' ⟨rfl, rfl, rfl, rfl, rfl⟩ hst2 rfl rfl rfl
  · apply OID.of_ops hoid
    show ts2.s.ops = ts.s.ops
    rw [o1, hso]

theorem tRetry_tinv {exo} {h : Hints} {x : Extras} {ts ts' : TState} {t : Task} {bw : Bool} {l : Nat} {r : Resp}
    (hT : TInvX (fun _ => False) exo [] ts) (ht : alookup t.id ts.s.tasks = some t) (hr : t.response = none)
    (hoid : OID ts.s)
    (hh : tCompleteRetry h x ((ts.detachTree t bw).setS (BbRe.SchedTree.detachW ts.s t)) (BbRe.SchedTree.detachT t) l r = .ok ts') :
    TInvX (fun _ => False) exo [] ts' ∧ OID ts'.s := by
  have hq0 := detachT_queued t (queued_false_of_worker hT.inv ht)
  unfold tCompleteRetry at hh
  simp only [bind, Except.bind, pure, Except.pure] at hh
  split at hh
  · cases hh
  rename_i ts2 hsch
  split at hh <;> try (cases hh; done)
  rename_i t2 ht2
  cases hh
  have hD := detachW_next ts.s t
  refine retry_schedule_tinv (bw := bw) (t := t)
    (tr := { BbRe.SchedTree.detachT t with
      learner := some (BbRe.SchedTree.detachW ts.s t).nextLearner,
      scq := largestScq (emit { BbRe.SchedTree.detachW ts.s t with nextLearner := (BbRe.SchedTree.detachW ts.s t).nextLearner + 1 }
        (.learnerFailed l (decide (r.code = cDeadlineExceeded)) (some (BbRe.SchedTree.detachW ts.s t).nextLearner)))
        (BbRe.SchedTree.detachT t).scq })
    hsch ht2 hT ht hr hoid
    ⟨detachT_id t, rfl, hq0, detachT_ops t, (detachT_response t).trans hr⟩ ?_ ?_ rfl (detachW_scqs _ _) hD.1 hD.2.1
    (detachW_ops _ _) ?_ rfl rfl
  · have h1 : ∃ sq ∈ (BbRe.SchedTree.detachW ts.s t).scqs, sq.id = (BbRe.SchedTree.detachT t).scq := by
      rw [detachW_scqs, detachT_scq]; exact live_scq_exists hT ht hr
    obtain ⟨sq, hm, he⟩ := largestScq_exists (s := emit { BbRe.SchedTree.detachW ts.s t with nextLearner := (BbRe.SchedTree.detachW ts.s t).nextLearner + 1 }
        (.learnerFailed l (decide (r.code = cDeadlineExceeded)) (some (BbRe.SchedTree.detachW ts.s t).nextLearner))) h1
    exact ⟨sq, by rw [← detachW_scqs ts.s t]; exact hm, he⟩
  · show aset (BbRe.SchedTree.detachT t).id _ (BbRe.SchedTree.detachW ts.s t).tasks = _
    rw [detachW_tasks]
    conv => lhs; arg 1; rw [detachT_id]
    rfl
  · rfl

/-! ### `task.complete` -/

/-- what `task.complete` leaves behind when the task does not run again and no background task is created -/
structure DonePost (s : State) (tid : Nat) (s' : State) : Prop where
  done : ∃ t', alookup tid s'.tasks = some t' ∧ t'.response.isSome = true ∧
    ∀ t, alookup tid s.tasks = some t → t'.ops = t.ops
  others : ∀ k, k ≠ tid → alookup k s'.tasks = alookup k s.tasks
  ops : ∀ o, s.op? o = none → s'.op? o = none

theorem final_post {ts : TState} {t tD : Task} {ev : Event} {r : Resp} {s1 : State}
    (ht : alookup t.id ts.s.tasks = some t) (hoid : OID ts.s) (htD : tD.id = t.id ∧ tD.ops = t.ops)
    (hf : complete.finalize (emit (BbRe.SchedTree.detachW ts.s t) ev) tD r = .ok s1) : DonePost ts.s t.id s1 := by
  have hoid0 : ∀ k op, (emit (BbRe.SchedTree.detachW ts.s t) ev).op? k = some op → op.name = k := by
    intro k op h; apply hoid k op; simpa [emit, State.op?, detachW_ops] using h
  obtain ⟨f1, _, _, _, _, _, _, _, f9, _⟩ := finalize_fields hoid0 hf
  have f1' : s1.tasks = aset t.id (bumpGen { tD with response := some r }) ts.s.tasks := by
    rw [f1, htD.1]; show aset t.id _ (BbRe.SchedTree.detachW ts.s t).tasks = _; rw [detachW_tasks]
  refine ⟨⟨bumpGen { tD with response := some r }, by rw [f1', alookup_aset]; simp, rfl, ?_⟩, ?_, ?_⟩
  · intro t0 h0; rw [ht] at h0; cases h0; exact htD.2
  · intro k hk; rw [f1', alookup_aset]; rw [if_neg (fun e => hk e.symm)]
  · intro o ho
    cases h1 : s1.op? o with
    | none => rfl
    | some op' =>
      obtain ⟨op, h2, _⟩ := f9 o op' h1
      have : ts.s.op? o = some op := by simpa [emit, State.op?, detachW_ops] using h2
      rw [ho] at this; cases this

theorem tComplete_tinv {exo} {h : Hints} {x : Extras} {ts ts' : TState} {tid : Nat} {r : Resp} {bw : Bool}
    (hT : TInvX (fun _ => False) exo [] ts) (hoid : OID ts.s) (hh : tComplete h x ts tid r bw = .ok ts') :
    TInvX (fun _ => False) exo [] ts' ∧ OID ts'.s ∧
      (¬ (r.code = cOK ∧ r.exit = 0) → (bw = false ∨ h.retry = false) → DonePost ts.s tid ts'.s) := by
  unfold tComplete at hh
  simp only [bind, Except.bind, pure, Except.pure, task?_def] at hh
  split at hh <;> try (cases hh; done)
  rename_i t ht0
  have hid : t.id = tid := (hT.inv.core.tid tid t ht0).1
  have ht : alookup t.id ts.s.tasks = some t := by rw [hid]; exact ht0
  split at hh
  · cases hh
    rename_i hdone
    exact ⟨hT, hoid, fun _ _ => ⟨⟨t, ht0, hdone, fun t0 h0 => by rw [ht0] at h0; cases h0; rfl⟩, fun _ _ => rfl, fun _ h => h⟩⟩
  rename_i hnd
  have hr : t.response = none := by
    cases hx : t.response with
    | none => rfl
    | some _ => rw [hx] at hnd; exact absurd rfl hnd
  split at hh <;> try (cases hh; done)
  rename_i l hl
  have htD : (BbRe.SchedTree.detachT t).id = t.id ∧ (BbRe.SchedTree.detachT t).worker = none ∧
      (BbRe.SchedTree.detachT t).queued = false ∧ (BbRe.SchedTree.detachT t).ops = t.ops :=
    ⟨detachT_id t, rfl, detachT_queued t (queued_false_of_worker hT.inv ht), detachT_ops t⟩
  split at hh
  · rename_i hok
    obtain ⟨a, b⟩ := tSucc_tinv hT ht hr hoid hh
    exact ⟨a, b, fun hn => absurd hok hn⟩
  rename_i hnok
  split at hh
  · rename_i hbw
    split at hh
    · rename_i hretry
      obtain ⟨a, b⟩ := tRetry_tinv hT ht hr hoid hh
      exact ⟨a, b, fun _ hor => by rcases hor with e | e <;> simp_all⟩
    · split at hh <;> try (cases hh; done)
      rename_i s1 hf
      cases hh
      obtain ⟨hB, hoid1, _⟩ := tFinal_tinv (bw := bw) (tD := { BbRe.SchedTree.detachT t with learner := none })
        hT ht hr (fun h => h) hoid htD hf
      exact ⟨hB, hoid1, fun _ _ => hid ▸ final_post (tD := { BbRe.SchedTree.detachT t with learner := none }) ht hoid ⟨htD.1, htD.2.2.2⟩ hf⟩
  · split at hh <;> try (cases hh; done)
    rename_i s1 hf
    cases hh
    obtain ⟨hB, hoid1, _⟩ := tFinal_tinv (bw := bw) (tD := { BbRe.SchedTree.detachT t with learner := none })
      hT ht hr (fun h => h) hoid htD hf
    exact ⟨hB, hoid1, fun _ _ => hid ▸ final_post (tD := { BbRe.SchedTree.detachT t with learner := none }) ht hoid ⟨htD.1, htD.2.2.2⟩ hf⟩

theorem completeOK : CompleteOK := by
  intro h x ts ts' tid r bw hI _ hh
  exact (tComplete_tinv hI.x (OID.of_inv hI.inv) hh).1.ts

end BbRe.Lemmas.SchedTree
