import BbRe.Lemmas.FileRefStep
/-!
Consequences of the C16 invariant used by `Properties/C16.lean`, as case analyses of the relation
`Step` (`Lemmas/FileRefRel.lean`): what a step never writes (`Step.keeps`: `checked`; the contents
while a frozen reader exists), what every step does once the last reference is gone
(`Step.closed`); and two facts about single calls: the body of a mutating call never parks
(`perform_not_parked`), an upload that gets past the wait for writers is out of it
(`openFrozenFor_leaves`).
-/
namespace BbRe.Lemmas.FileRef
open BbRe.FileRef

theorem frozenClose_bytes (s : State) : (frozenClose s).bytes = s.bytes := by
  unfold frozenClose State.panic
  split
  · rfl
  · rw [release_bytes]

theorem frozenClose_cas (s : State) : (frozenClose s).cas = s.cas := by
  unfold frozenClose State.panic
  split
  · rfl
  · rw [release_cas]

theorem frozenClose_checked (s : State) : (frozenClose s).checked = s.checked := by
  unfold frozenClose State.panic
  split
  · rfl
  · rw [release_checked]

theorem openFrozenFor_keeps (s : State) (t : Nat) (v : PC) :
    (openFrozenFor s t v).1.checked = s.checked ∧ (openFrozenFor s t v).1.bytes = s.bytes := by
  unfold openFrozenFor; split <;> exact ⟨rfl, rfl⟩

/-- An upload or frozen open that gets past the wait for writers is out of the wait. -/
theorem openFrozenFor_leaves (s : State) (t : Nat) (u : Bool) (fn : Nat) :
    (openFrozenFor s t (frozenPcFor u fn)).2 ≠ .parked ∧
      ∀ u' k' fn' w, (openFrozenFor s t (frozenPcFor u fn)).1.pc t ≠ .upWait u' k' fn' w := by
  unfold openFrozenFor frozenPcFor
  split
  · exact ⟨nofun, fun _ _ _ _ => by simp [State.setPc]⟩
  · exact ⟨nofun, fun _ _ _ _ => by cases u <;> simp [State.setPc]⟩

theorem truncate_checked (s : State) (n : Nat) : (truncate s n).1.checked = s.checked := by
  unfold truncate State.panic
  split
  · rfl
  · split <;> rfl

theorem digestStep_checked (s : State) (fn : Nat) : (digestStep s fn).1.checked = s.checked := by
  rcases digestStep_cases s fn with ⟨_, _, _, e⟩ | e | e <;> rw [e]

/-- `apply_ite` moves the projections to the leaves of `perform`, where each is `s.checked` or
`(truncate s n).1.checked`. -/
theorem perform_checked (s : State) (op : MutOp) : (perform s op).1.checked = s.checked := by
  cases op <;>
    simp only [perform, apply_ite Prod.fst, apply_ite State.checked, truncate_checked, State.panic, acquire,
      ite_self]
  case setattr n x => cases x <;> simp only [truncate_checked, ite_self]

theorem ite_ne {α : Type} {c : Prop} [Decidable c] {a b x : α} (ha : a ≠ x) (hb : b ≠ x) :
    (if c then a else b) ≠ x := by
  split <;> assumption

/-- The body of a mutating call never parks: only the `lockMutatingData` loop does. -/
theorem perform_not_parked (s : State) (op : MutOp) : (perform s op).2 ≠ .parked := by
  cases op <;> simp only [perform, apply_ite Prod.snd, attrsOf]
  case write => exact ite_ne nofun (ite_ne nofun nofun)
  case alloc => exact ite_ne nofun (ite_ne (ite_ne nofun (ite_ne nofun nofun)) nofun)
  case setattr => exact ite_ne nofun (ite_ne nofun (ite_ne nofun nofun))
  case openTrunc => exact ite_ne nofun (ite_ne nofun (ite_ne nofun nofun))

theorem mutBody_frozen {s : State} (t : Nat) (op : MutOp) (hf : 0 < s.frozen) :
    mutBody s t op = (s.setPc t (.mutWait op false), .parked) := by
  unfold mutBody; rw [if_pos hf]

/-- The body of a mutating call is the only place where the contents are written, and it runs
with `frozenDescriptorsCount = 0`. -/
theorem mutBody_keeps (s : State) (t : Nat) (op : MutOp) :
    (mutBody s t op).1.checked = s.checked ∧ ((mutBody s t op).1.bytes = s.bytes ∨ s.frozen = 0) := by
  unfold mutBody
  split
  · exact ⟨rfl, Or.inl rfl⟩
  · exact ⟨perform_checked s op, Or.inr (Nat.eq_zero_of_not_pos ‹_›)⟩

theorem dropMask_keeps (s : State) (m : Mask) :
    (dropMask s m).checked = s.checked ∧ (dropMask s m).bytes = s.bytes := by
  unfold dropMask; split <;> exact ⟨rfl, rfl⟩

/-- No step changes which version of the code is modelled, and while a frozen reader exists no
step changes the contents (mechanism only: no invariant needed). -/
theorem Step.keeps {s s' : State} {op : Op} {o : Out} (h : Step s op s' o) :
    s'.checked = s.checked ∧ (s'.bytes = s.bytes ∨ s.frozen = 0) := by
  have rel : ∀ (s1 : State) n, s1.checked = s.checked → s1.bytes = s.bytes →
      (release s1 n).checked = s.checked ∧ ((release s1 n).bytes = s.bytes ∨ s.frozen = 0) :=
    fun s1 n h1 h2 => ⟨(release_checked s1 n).trans h1, Or.inl ((release_bytes s1 n).trans h2)⟩
  have closes : ∀ s1 : State, s1.checked = s.checked → s1.bytes = s.bytes →
      (frozenClose s1).checked = s.checked ∧ ((frozenClose s1).bytes = s.bytes ∨ s.frozen = 0) :=
    fun s1 h1 h2 => ⟨(frozenClose_checked s1).trans h1, Or.inl ((frozenClose_bytes s1).trans h2)⟩
  have opens := fun t v => And.imp_right (Or.inl (b := s.frozen = 0)) (openFrozenFor_keeps s t v)
  have dig := fun fn => And.intro (digestStep_checked s fn) (digestStep_frame s fn).2.1
  cases h
  case mbegin t op _ => exact mutBody_keeps s t op
  case mwake t op _ => exact mutBody_keeps s t op
  case unlinkLast => exact rel _ 1 rfl rfl
  case unlinkBare => exact rel _ 1 rfl rfl
  case closeOk m => exact rel _ _ (dropMask_keeps s m).1 (dropMask_keeps s m).2
  case ubeginOpen t u _ fn _ _ => exact opens t _
  case uwakeOpen t _ u _ fn _ _ => exact opens t _
  case uwakeDelay t u _ fn _ _ _ => exact opens t _
  case statOpen t fn _ _ => exact opens t _
  case udigestPut t fn d _ _ => exact ⟨(dig fn).1, Or.inl (dig fn).2⟩
  case udigestFail t fn _ _ => exact closes _ (dig fn).1 (dig fn).2
  case statFinish t fn _ => exact closes _ (dig fn).1 (dig fn).2
  case putErr => exact closes _ rfl rfl
  case putOk => exact closes _ rfl rfl
  case fclose => exact closes _ rfl rfl
  all_goals exact ⟨rfl, Or.inl rfl⟩

theorem baseLinks_zero {s : State} (h : baseLinks s = 0) : s.linkCount = 0 := by
  unfold baseLinks at h
  split at h
  · split at h
    · cases h
    · omega
  · exact h

theorem perform_openTrunc_stale {s : State} (m : Mask) (h : s.refs = 0) :
    perform s (.openTrunc m) = (s, .st .stale) := by
  rw [perform, if_pos h]

/-- A mutating call on a file whose last reference is gone (`referenceCount = 0`) changes
nothing and returns STALE: always for `O_TRUNC`, for the other calls in the current code. -/
theorem perform_stale {s : State} (op : MutOp) (h : s.refs = 0)
    (hc : s.checked = true ∨ ∃ m, op = .openTrunc m) :
    perform s op = (s, .st .stale) ∨ perform s op = (s, .wrote 0 .stale) := by
  cases op with
  | openTrunc m => exact Or.inl (perform_openTrunc_stale m h)
  | write off data =>
    rcases hc with hc | ⟨m, e⟩
    · exact Or.inr (by rw [perform, if_pos ⟨hc, h⟩])
    · cases e
  | alloc off len =>
    rcases hc with hc | ⟨m, e⟩
    · exact Or.inl (by rw [perform, if_pos ⟨hc, h⟩])
    · cases e
  | setattr n x =>
    rcases hc with hc | ⟨m, e⟩
    · exact Or.inl (by rw [perform, if_pos ⟨hc, h⟩])
    · cases e

structure ClosedFacts (s : State) : Prop where
  refs : s.refs = 0
  links : s.linkCount = 0
  rd : s.rd = 0
  wr : s.wr = 0
  frozen : s.frozen = 0
  writers : s.writers = 0
  noFrozen : ∀ t, (s.pc t).isFrozen = false

theorem Inv.closedFacts {s : State} (h : Inv s) (hc : s.closed = true) : ClosedFacts s := by
  have h0 := h.closedIff.mp hc
  -- `refs = 0` is a sum of naturals: every summand is zero
  obtain ⟨⟨⟨hb, hrd⟩, hwr⟩, hf⟩ : ((baseLinks s = 0 ∧ s.rd = 0) ∧ s.wr = 0) ∧ s.frozen = 0 := by
    simpa [Nat.add_eq_zero_iff] using h.refsEq.symm.trans h0
  refine ⟨h0, baseLinks_zero hb, hrd, hwr, hf, h.writersEq.trans hwr, ?_⟩
  have := h.pcs.counted
  rw [hf] at this
  exact fun t => Bool.eq_false_iff.2 (this.zero t)

/-- What a call returns once the last reference is gone: `Link`/`VirtualOpenSelf` (with or
without `O_TRUNC`), `VirtualAllocate`, `VirtualSetAttributes` with a size → `StatusErrStale`,
`VirtualWrite` → `(0, StatusErrStale)`; upload / frozen open / output-service stat → NotFound. -/
def CleanFail : Op → Out → Prop
  | .link, o => o = .st .stale
  | .open_ _, o => o = .st .stale
  | .mbegin _ _, o => o = .st .stale ∨ o = .wrote 0 .stale
  | .mwake _, o => o = .st .stale ∨ o = .wrote 0 .stale
  | .ubegin _ _ _ _, o => o = .st .notFound
  | .uwake _ _, o => o = .st .notFound
  | .statOpen _ _, o => o = .st .notFound
  | _, _ => True

/-- `p` is a result in which the pool file is still released and closed, with the `Close` count and
the contents of `s`. -/
def StaysClosed (s : State) (p : State × Out) : Prop :=
  p.1.refs = 0 ∧ p.1.closed = true ∧ p.1.closeCalls = s.closeCalls ∧ p.1.bytes = s.bytes

theorem closed_mutBody {s : State} (hc : s.closed = true) (cf : ClosedFacts s) (t : Nat)
    (mop : MutOp) (hok : MutOk s mop) :
    StaysClosed s (mutBody s t mop) ∧
      ((mutBody s t mop).2 = .st .stale ∨ (mutBody s t mop).2 = .wrote 0 .stale) := by
  have hcase : s.checked = true ∨ ∃ m, mop = .openTrunc m := by
    rcases hok with hck | ⟨hd, hsz⟩
    · exact Or.inl hck
    · have := cf.rd; have := cf.wr; have := cf.links
      cases mop with
      | write off data => have := hd rfl; omega
      | alloc off len => have := hd rfl; omega
      | setattr n x => have := hsz n x rfl; omega
      | openTrunc m => exact Or.inr ⟨m, rfl⟩
  unfold mutBody
  rw [if_neg (by rw [cf.frozen]; exact Nat.lt_irrefl 0)]
  rcases perform_stale mop cf.refs hcase with e | e <;> rw [e]
  · exact ⟨⟨cf.refs, hc, rfl, rfl⟩, Or.inl rfl⟩
  · exact ⟨⟨cf.refs, hc, rfl, rfl⟩, Or.inr rfl⟩

theorem closed_openFrozenFor {s : State} (hc : s.closed = true) (cf : ClosedFacts s) (t : Nat) (v : PC) :
    StaysClosed s (openFrozenFor s t v) ∧ (openFrozenFor s t v).2 = .st .notFound := by
  unfold openFrozenFor
  rw [if_pos cf.refs]
  exact ⟨⟨cf.refs, hc, rfl, rfl⟩, rfl⟩

/-- Once the pool file has been closed, every step the caller contract allows leaves
`referenceCount = 0`, does not call `Close` again, does not change the contents, and the
calls that would take a new reference fail cleanly. -/
theorem Step.closed {s s' : State} {op : Op} {o : Out} (hs : Step s op s' o) (h : Inv s)
    (hc : s.closed = true) (hl : legal s op = true) : StaysClosed s (s', o) ∧ CleanFail op o := by
  have cf := h.closedFacts hc
  have same : ∀ o, StaysClosed s (s, o) := fun _ => ⟨cf.refs, hc, rfl, rfl⟩
  have hdesc : ¬ 0 < s.rd + s.wr := by rw [cf.rd, cf.wr]; exact Nat.lt_irrefl 0
  have thawed : ∀ {t v}, s.pc t = v → v.isFrozen = true → False := fun {t _} e hv => by
    have := cf.noFrozen t; rw [e, hv] at this; cases this
  cases hs
  case linkStale => exact ⟨same _, rfl⟩
  case linkLayered hz => exact absurd cf.links hz
  case linkBare hz => exact absurd cf.refs hz
  case openStale => exact ⟨same _, rfl⟩
  case openOk hr => exact absurd cf.refs hr
  case mbegin t mop _ => exact closed_mutBody hc cf t mop (legal_mut hl)
  case mwake t mop hpc => rw [legal, hpc] at hl; exact closed_mutBody hc cf t mop (legal_mut hl)
  case ubeginPark hw | uwakePark hw => rw [cf.writers] at hw; cases hw
  case ubeginOpen t u k fn _ _ => exact closed_openFrozenFor hc cf t _
  case uwakeOpen t _ u k fn _ _ => exact closed_openFrozenFor hc cf t _
  case uwakeDelay t u k fn _ _ _ => exact closed_openFrozenFor hc cf t _
  case statOpen t fn _ _ => exact closed_openFrozenFor hc cf t _
  case statBusy hw => exact absurd cf.writers hw
  case unlinkPanic | unlinkLast | unlinkMore | unlinkBare =>
    have : 0 < s.linkCount := of_decide_eq_true hl
    rw [cf.links] at this; cases this
  case closePanic m _ | closeOk m =>
    have hh : 1 ≤ m.count ∧ b2n m.r ≤ s.rd ∧ b2n m.w ≤ s.wr := of_decide_eq_true hl
    have : m.count = b2n m.r + b2n m.w := rfl
    omega
  case read | readPanic | seek | seekPanic => exact absurd (of_decide_eq_true hl) hdesc
  case udigestPut hpc _ | udigestFail hpc _ | putErr hpc | putOk hpc _ | fread hpc | freadPanic hpc _
      | fclose hpc | statFinish hpc => exact (thawed hpc rfl).elim
  all_goals exact ⟨⟨cf.refs, hc, rfl, rfl⟩, trivial⟩

end BbRe.Lemmas.FileRef
