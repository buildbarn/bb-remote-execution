import BbRe.Lemmas.FairPick
import BbRe.Lemmas.GoHeapOps
/-!
What one step of `assignNextQueuedTask` guarantees (directly queued operations first and in order;
the chosen child is score-minimal; stickiness only breaks ties), the bridge from the heap property
of the real heaps to `Inv.wf`, independence of the iteration bound, and that a worker that asks
gets a task whenever one is queued.
-/
namespace BbRe.Lemmas.Fair
open BbRe.Fair BbRe.GoHeap BbRe.Lemmas.GoHeap

/-! ### heap property ⇒ root minimal -/

theorem rootMin_of_isHeap {α : Type} (less : α → α → Bool) (sw : StrictWeak less) (l : List α)
    (h : IsHeap less l.toArray) : rootMin less l = true := by
  cases l with
  | nil => rfl
  | cons r rest =>
    unfold rootMin
    rw [List.all_eq_true]
    intro x hx
    obtain ⟨k, hk, hxk⟩ := List.getElem_of_mem hx
    have h0 := lessAt_root_false less sw (r :: rest).toArray (r :: rest).toArray.size (Nat.le_refl _) h k
      (by simpa using hk)
    rw [lessAt_eq less _ k 0 (by simpa using hk) (by simp)] at h0
    simp only [List.getElem_toArray, List.getElem_cons_zero] at h0
    rw [hxk] at h0
    simp [h0]

/-- The nodes `queuedChildren` points to, in heap order. -/
def queuedNodes (i : Inv) : List Inv := i.queued.filterMap fun k => i.kids.find? fun c => c.key == k

/-- A snapshot whose `queuedOperations` and `queuedChildren` heaps satisfy the heap property for
the `Less` methods at every invocation (what `VerifDumpState` checks on the real structures, and
what `Lemmas/GoHeapOps.lean` shows `Push`/`Remove`/`Fix` preserve), and whose `queuedChildren`
lists exactly the children with queued work. -/
inductive HeapTree : Inv → Prop
  | mk (i : Inv)
      (keys : (i.kids.map Inv.key).Nodup)
      (qnodup : i.queued.Nodup)
      (qsub : ∀ k ∈ i.queued, ∃ c ∈ i.kids, c.key = k ∧ c.hasQueued = true)
      (qsup : ∀ c ∈ i.kids, c.hasQueued = true → c.key ∈ i.queued)
      (opsHeap : IsHeap opLess i.ops.toArray)
      (kidsHeap : IsHeap childLess (queuedNodes i).toArray)
      (kids : ∀ c ∈ i.kids, HeapTree c) : HeapTree i

theorem HeapTree.wf {i : Inv} (h : HeapTree i) : i.wf = true := by
  induction h with
  | mk i keys qnodup qsub qsup opsHeap kidsHeap _ ih =>
    rw [wf_iff]
    exact ⟨keys, qnodup, qsub, qsup, rootMin_of_isHeap opLess opLess_strictWeak _ opsHeap,
      rootMin_of_isHeap childLess childLess_strictWeak _ kidsHeap, ih⟩

theorem direct_first (win : Nat → Bool) (nlim fuel : Nat) (i : Inv) (keys : List Nat) (lvl : Nat)
    (hw : i.wf = true) (hne : i.ops ≠ []) :
    ∃ o, pickAux win nlim (fuel + 1) i keys lvl = some (o, lvl) ∧ o ∈ i.ops ∧
      ∀ o' ∈ i.ops, opLess o' o = false := by
  have hw' := (wf_iff i).mp hw
  cases hops : i.ops with
  | nil => exact absurd hops hne
  | cons o rest =>
    refine ⟨o, ?_, List.mem_cons_self, ?_⟩
    · unfold pickAux; rw [hops]
    · have := hw'.opsRoot
      rw [hops] at this
      exact rootMin_cons opLess o rest this

/-- Everything `specChildren` admits is a candidate of minimal score; it is least recently
started among those, unless it is the worker's sticky child inside its window; and stickiness
keeps being tracked only below the sticky child. -/
theorem mem_specChildren (win : Nat → Bool) (nlim : Nat) (i : Inv) (keys : List Nat) (lvl : Nat)
    (c : Inv) (ks' : List Nat) (l' : Nat) (h : (c, ks', l') ∈ specChildren win nlim i keys lvl) :
    c ∈ minScore (cands i) ∧
    (c ∈ lru (minScore (cands i)) ∨ ∃ k ks, keys = k :: ks ∧ lvl < nlim ∧ c.key = k ∧ win lvl = true) ∧
    ((∃ k ks, keys = k :: ks ∧ lvl < nlim ∧ c.key = k ∧ ks' = ks ∧ l' = lvl + 1) ∨
      (l' = lvl ∧ (ks' = [] ∨ (ks' = keys ∧ ¬ ∃ k ks, keys = k :: ks ∧ lvl < nlim)))) := by
  have lruSub : ∀ x, x ∈ lru (minScore (cands i)) → x ∈ minScore (cands i) := fun x hx => ((mem_lru _ _).mp hx).1
  unfold specChildren at h
  simp only [] at h
  cases keys with
  | nil =>
    simp only [List.mem_map, Prod.mk.injEq] at h
    obtain ⟨x, hx, rfl, rfl, rfl⟩ := h
    exact ⟨lruSub _ hx, Or.inl hx, Or.inr ⟨rfl, Or.inl rfl⟩⟩
  | cons k ks =>
    simp only [] at h
    by_cases hl : lvl < nlim
    · rw [if_pos hl] at h
      cases hf : (minScore (cands i)).find? (fun c => c.key == k) with
      | none =>
        rw [hf] at h
        simp only [List.mem_map, Prod.mk.injEq] at h
        obtain ⟨x, hx, rfl, rfl, rfl⟩ := h
        exact ⟨lruSub _ hx, Or.inl hx, Or.inr ⟨rfl, Or.inl rfl⟩⟩
      | some s =>
        rw [hf] at h
        simp only [] at h
        have hsm := List.mem_of_find?_eq_some hf
        have hsk : s.key = k := by simpa using List.find?_some hf
        cases hw1 : win lvl with
        | true =>
          rw [hw1] at h
          simp only [if_true, List.mem_singleton, Prod.mk.injEq] at h
          obtain ⟨rfl, rfl, rfl⟩ := h
          exact ⟨hsm, Or.inr ⟨k, ks', rfl, hl, hsk, rfl⟩, Or.inl ⟨k, ks', rfl, hl, hsk, rfl, rfl⟩⟩
        | false =>
          rw [hw1] at h
          simp only [Bool.false_eq_true, if_false, List.mem_map] at h
          obtain ⟨x, hx, hxe⟩ := h
          by_cases hxk : x.key = k
          · rw [if_pos hxk] at hxe
            simp only [Prod.mk.injEq] at hxe
            obtain ⟨rfl, rfl, rfl⟩ := hxe
            exact ⟨lruSub _ hx, Or.inl hx, Or.inl ⟨k, ks, rfl, hl, hxk, rfl, rfl⟩⟩
          · rw [if_neg hxk] at hxe
            simp only [Prod.mk.injEq] at hxe
            obtain ⟨rfl, rfl, rfl⟩ := hxe
            exact ⟨lruSub _ hx, Or.inl hx, Or.inr ⟨rfl, Or.inl rfl⟩⟩
    · rw [if_neg hl] at h
      simp only [List.mem_map, Prod.mk.injEq] at h
      obtain ⟨x, hx, rfl, rfl, rfl⟩ := h
      refine ⟨lruSub _ hx, Or.inl hx, Or.inr ⟨rfl, Or.inr ⟨rfl, ?_⟩⟩⟩
      rintro ⟨_, _, _, h2⟩
      exact hl h2

/-- If the code descends into a child other than the root of `queuedChildren`, that child is
the worker's sticky child at a level that still has a stickiness limit, its window is open, and
its score ties with the root's. -/
theorem chooseChild_ne_root (win : Nat → Bool) (nlim : Nat) (i : Inv) (hw : WF i)
    (keys : List Nat) (lvl : Nat) (ck : Nat) (keys' : List Nat) (lvl' : Nat) (b : Nat) (qs : List Nat)
    (hq : i.queued = b :: qs) (h : chooseChild win nlim i keys lvl = some (ck, keys', lvl')) (hne : ck ≠ b) :
    ∃ k ks s bb, keys = k :: ks ∧ lvl < nlim ∧ ck = k ∧ i.child k = some s ∧ i.child b = some bb ∧
      win lvl = true ∧ s.scoreLt bb = false ∧ bb.scoreLt s = false := by
  obtain ⟨bb, hchild, hbc, hle⟩ := root_le_cands i hw b qs hq
  by_cases hpl : keys = [] ∨ ¬ lvl < nlim
  · rw [chooseChild_plain win nlim i keys lvl b qs hq hpl] at h
    exact absurd (Prod.mk.inj (Option.some.inj h)).1.symm hne
  · rw [not_or, Decidable.not_not] at hpl
    obtain ⟨hk, hl⟩ := hpl
    obtain ⟨k, ks, rfl⟩ := List.exists_cons_of_ne_nil hk
    cases hsk : i.child k with
    | none => rw [chooseChild_none win nlim i k ks lvl b qs hq hl hsk] at h; cases h
    | some s =>
      rw [chooseChild_sticky win nlim i k ks lvl b qs s bb hq hl hsk hchild] at h
      split at h
      · rename_i hc
        have hck : ck = k := (Prod.mk.inj (Option.some.inj h)).1.symm
        rcases hc with hwin | hbk
        · rw [Bool.and_eq_true] at hwin
          obtain ⟨hsQ, hpref⟩ := hwin
          obtain ⟨hsmem, _⟩ := mem_of_child i k s hsk
          have hswf : WF s := (wf_iff s).mp (hw.kidsWf s hsmem)
          have hsc : s ∈ cands i := (mem_cands i s).mpr ⟨hsmem, by rw [← isQueued_eq_hasQueued s hswf]; exact hsQ⟩
          have h1 : scoreLt s.exec s.prio bb.exec bb.prio = false := childLess_false_score s bb (hle s hsc)
          unfold isPreferred at hpref
          rw [h1, Bool.false_or, Bool.and_eq_true, Bool.not_eq_true'] at hpref
          exact ⟨k, ks, s, bb, rfl, hl, hck, hsk, hchild, hpref.2, h1, hpref.1⟩
        · exact absurd (hck.trans hbk.symm) hne
      · exact absurd (Prod.mk.inj (Option.some.inj h)).1.symm hne

/-- Inside the window, a sticky child with queued work whose score is not worse than the best
one's is taken. -/
theorem chooseChild_sticky_tie (win : Nat → Bool) (nlim : Nat) (i : Inv) (k : Nat) (ks : List Nat)
    (lvl : Nat) (b : Nat) (qs : List Nat) (s bb : Inv) (hq : i.queued = b :: qs) (hl : lvl < nlim)
    (hs : i.child k = some s) (hb : i.child b = some bb) (hsq : s.isQueued = true)
    (htie : bb.scoreLt s = false) (hwin : win lvl = true) :
    chooseChild win nlim i (k :: ks) lvl = some (k, ks, lvl + 1) := by
  rw [chooseChild_sticky win nlim i k ks lvl b qs s bb hq hl hs hb, if_pos]
  left
  have htie' : scoreLt bb.exec bb.prio s.exec s.prio = false := htie
  unfold isPreferred
  rw [hsq, htie', hwin]
  cases scoreLt s.exec s.prio bb.exec bb.prio <;> rfl

/-! ### the iteration bound is never exhausted -/

theorem depthL_mem (c : Inv) (cs : List Inv) (h : c ∈ cs) : c.depth ≤ depthL cs := by
  induction cs with
  | nil => cases h
  | cons d ds ih =>
    rw [depthL]
    cases h with
    | head => exact Nat.le_max_left _ _
    | tail _ h => exact Nat.le_trans (ih h) (Nat.le_max_right _ _)

theorem depth_eq (i : Inv) : i.depth = depthL i.kids + 1 := by
  cases i with
  | mk => rw [Inv.depth]; rfl

theorem child_depth_lt (i : Inv) (k : Nat) (c : Inv) (h : i.child k = some c) : c.depth < i.depth := by
  rw [depth_eq i]
  exact Nat.lt_succ_of_le (depthL_mem c i.kids (mem_of_child i k c h).1)

theorem depth_pos (i : Inv) : 0 < i.depth := depth_eq i ▸ Nat.succ_pos _

/-- Two bounds of at least the depth of the tree give the same result. -/
theorem pickAux_fuel_eq (win : Nat → Bool) (nlim : Nat) : ∀ (f g : Nat) (i : Inv) (keys : List Nat) (lvl : Nat),
    i.depth ≤ f → i.depth ≤ g → pickAux win nlim f i keys lvl = pickAux win nlim g i keys lvl := by
  intro f
  induction f with
  | zero => intro g i _ _ hf; exact absurd (depth_pos i) (Nat.not_lt.mpr hf)
  | succ f ih =>
    intro g i keys lvl hf hg
    cases g with
    | zero => exact absurd (depth_pos i) (Nat.not_lt.mpr hg)
    | succ g =>
      unfold pickAux
      cases i.ops with
      | cons o rest => rfl
      | nil =>
        simp only []
        cases chooseChild win nlim i keys lvl with
        | none => rfl
        | some x =>
          obtain ⟨ck, keys', lvl'⟩ := x
          simp only []
          cases hc : i.child ck with
          | none => rfl
          | some c =>
            have hlt := child_depth_lt i ck c hc
            exact ih g c keys' lvl' (Nat.le_of_lt_succ (Nat.lt_of_lt_of_le hlt hf))
              (Nat.le_of_lt_succ (Nat.lt_of_lt_of_le hlt hg))

/-- Any bound of at least the depth of the tree gives the same result: the loop of
`assignNextQueuedTask` ends by itself (at directly queued operations or at an invocation without
queued children) before the bound is reached. -/
theorem pickAux_fuel (win : Nat → Bool) (nlim : Nat) (f : Nat) (i : Inv) (keys : List Nat) (lvl : Nat)
    (hd : i.depth ≤ f) : pickAux win nlim f i keys lvl = pickAux win nlim i.depth i keys lvl :=
  pickAux_fuel_eq win nlim f i.depth i keys lvl hd (Nat.le_refl _)

/-! ### a worker that asks gets a task whenever one is queued -/

theorem queued_ne_nil_of_hasQueued (i : Inv) (hw : WF i) (hops : i.ops = []) (hq : i.hasQueued = true) :
    i.queued ≠ [] := by
  rw [hasQueued_eq, hops] at hq
  simp only [List.isEmpty_nil, Bool.not_true, Bool.false_or, List.any_eq_true] at hq
  obtain ⟨c, hc, hcq⟩ := hq
  intro hnil
  have := hw.qsup c hc hcq
  rw [hnil] at this
  cases this

/-- While stickiness is tracked, the worker's remaining last-invocation keys name a path that
exists below the current invocation (the scheduler keeps a worker's last invocation and its
ancestors alive through `idleWorkersCount`); under that condition the walk never dereferences a
missing child, and it ends at an operation whenever one is queued below. -/
theorem pickAux_some_of_queued (win : Nat → Bool) (nlim : Nat) :
    ∀ (f : Nat) (i : Inv) (keys : List Nat) (lvl : Nat), i.depth ≤ f → i.wf = true → i.hasQueued = true →
      (lvl < nlim → ∃ n, nodeAt i keys = some n) →
      ∃ r, pickAux win nlim f i keys lvl = some r := by
  intro f
  induction f with
  | zero => intro i _ _ hd; exact absurd (depth_pos i) (Nat.not_lt.mpr hd)
  | succ f' ih =>
    intro i keys lvl hd hwf hq hpath
    have hw := (wf_iff i).mp hwf
    unfold pickAux
    cases hops : i.ops with
    | cons o rest => exact ⟨_, rfl⟩
    | nil =>
      simp only []
      have hqne := queued_ne_nil_of_hasQueued i hw hops hq
      -- chooseChild succeeds
      have hchoose : ∃ x, chooseChild win nlim i keys lvl = some x := by
        obtain ⟨b, qs, hqq⟩ := List.exists_cons_of_ne_nil hqne
        obtain ⟨bb, hchild, _, _⟩ := root_le_cands i hw b qs hqq
        by_cases hpl : keys = [] ∨ ¬ lvl < nlim
        · exact ⟨_, chooseChild_plain win nlim i keys lvl b qs hqq hpl⟩
        · rw [not_or, Decidable.not_not] at hpl
          obtain ⟨k, ks, rfl⟩ := List.exists_cons_of_ne_nil hpl.1
          obtain ⟨n, hn⟩ := hpath hpl.2
          cases hk : i.child k with
          | none => rw [nodeAt, hk] at hn; cases hn
          | some s =>
            rw [chooseChild_sticky win nlim i k ks lvl b qs s bb hqq hpl.2 hk hchild]
            split <;> exact ⟨_, rfl⟩
      obtain ⟨⟨ck, keys', lvl'⟩, hc⟩ := hchoose
      rw [hc]
      simp only []
      obtain ⟨c, hchild, hmem⟩ := chooseChild_mem_specChildren win nlim i hw keys lvl ck keys' lvl' hc
      rw [hchild]
      simp only []
      obtain ⟨hmin, _, htrack⟩ := mem_specChildren win nlim i keys lvl c keys' lvl' hmem
      have hcq : c.hasQueued = true := ((mem_cands i c).mp ((mem_minScore _ _).mp hmin).1).2
      have hcmem := (mem_of_child i ck c hchild).1
      have hlt := child_depth_lt i ck c hchild
      apply ih c keys' lvl' (Nat.le_of_lt_succ (Nat.lt_of_lt_of_le hlt hd)) (hw.kidsWf c hcmem) hcq
      intro hl'
      rcases htrack with ⟨k, ks, hk, hl, hck, hks, hlv⟩ | ⟨hlv, hoff⟩
      · -- the sticky child was taken: the rest of the path lies below it
        subst hk hks
        obtain ⟨n, hn⟩ := hpath hl
        simp only [nodeAt] at hn
        have hck' : ck = k := by rw [← hck]; exact (mem_of_child i ck c hchild).2.symm
        rw [← hck', hchild] at hn
        exact ⟨n, hn⟩
      · rcases hoff with hnil | ⟨hsame, hinactive⟩
        · rw [hnil]; exact ⟨c, rfl⟩
        · -- stickiness was not active at this level: with `lvl < nlim` this means `keys = []`
          cases keys with
          | nil => rw [hsame]; exact ⟨c, rfl⟩
          | cons k ks => exact absurd ⟨k, ks, rfl, hlv ▸ hl'⟩ hinactive

end BbRe.Lemmas.Fair
