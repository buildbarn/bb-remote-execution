import BbRe.Lemmas.SchedQExistsStreams
/-!
`QExists` across the worker-side segments (`Synchronize` and its wake-ups), `register`, and hence
every `step`; `QExists` holds in every reachable state.
-/
namespace BbRe.Lemmas.SchedQ
open BbRe.Sched BbRe.Lemmas.SchedInv

variable {ne : Prop}

theorem queuedTasks_sub {s : State} {q : ScqId} {t : Task} (h : t ∈ queuedTasks s q) :
    (∃ p ∈ s.tasks, p.2 = t) ∧ t.scq = q := by
  unfold queuedTasks at h
  obtain ⟨p, hp, he⟩ := List.mem_map.mp h
  obtain ⟨hp1, hp2⟩ := List.mem_filter.mp hp
  simp only [decide_eq_true_eq] at hp2
  exact ⟨⟨p, hp1, he⟩, by rw [← he]; exact hp2.1⟩

theorem assignNext_q {h : Hints} {s : State} {wk : Worker} (hq : QExists ne s) (hwk : wk ∈ s.workers) :
    wpR ne (assignNext h s wk) (fun r => QP ne s r.1) := by
  unfold assignNext
  split
  · split
    · rename_i t hfind
      obtain ⟨⟨p, hp, hpe⟩, hscq⟩ := queuedTasks_sub (List.mem_of_find?_eq_some hfind)
      have hok : TaskOK s t := by rw [← hpe]; exact hq.tq p hp
      rw [assignTo_eq]
      split
      · noterr
      · split
        · noterr
        · simp only [ok_bind']
          have h1 := assignSt_q hq (w := wk) (t := t) ⟨wk, hwk, rfl⟩ hok hscq.symm
          simp only [task?_def]
          cases ht : alookup t.id (assignSt s wk t).tasks with
          | none => noterr
          | some t2 =>
            simp only [wpR_pure]
            have hok2 := taskOK_of_lookup h1.1 ht
            exact h1.trans (h1.1.setTask (bumpGen t2) (fun hr => hok2 hr))
    · noterr
  · apply wpR_ite
    · exact ⟨hq, QFr.refl s⟩
    · noterr

theorem execResponse_q {s : State} {w : Worker} (hq : QExists ne s) : wpR ne (execResponse s w) (QP ne s) := by
  unfold execResponse
  cases hw : w.task with
  | none => noterr
  | some tid =>
    simp only [task?_def]
    cases ht : alookup tid s.tasks with
    | none => noterr
    | some t => exact hq.emit _

theorem syncReturn_q {s : State} (hq : QExists ne s) (q : ScqId) (w : WId) : QP ne s (syncReturn s q w) := by
  unfold syncReturn
  simp only [worker?_def]
  split
  · rename_i wk hwk
    have h1 := hq.setWorker { wk with inSync := false, parked := false, woken := false, drainWait := none, timer := none }
      ⟨wk, wfind_mem hwk, rfl⟩
    exact h1.trans (h1.1.addCleanup _ _ (by intro q'; simp))
  · exact ⟨hq, QFr.refl s⟩

theorem syncReturn_emit_q {s : State} (hq : QExists ne s) (e : Event) (q : ScqId) (w : WId) :
    QP ne s (syncReturn (emit s e) q w) :=
  (hq.emit e).trans (syncReturn_q (hq.emit e).1 q w)

theorem getNextTask_q {h : Hints} {s : State} {q : ScqId} {w : WId} {pi block : Bool} (hq : QExists ne s) :
    wpR ne (getNextTask h s q w pi block) (QP ne s) := by
  unfold getNextTask
  cases hw : s.worker? q w with
  | none => noterr
  | some wk =>
    have hs : HasScq s q := by
      have := hq.wq wk (wfind_mem hw); rw [(wfind_key hw).1] at this; exact this
    obtain ⟨sq, hsq⟩ := (hasScq_iff s q).mp hs
    simp only [hsq]
    refine wpR_ite ?_ (wpR_ite ?_ (wpR_ite ?_ ?_))
    · exact syncReturn_emit_q hq _ q w
    · refine wpR_seq (assignNext_q hq (wfind_mem hw)) ?_
      rintro ⟨s2, got⟩ h2
      simp only at h2
      dsimp only
      refine wpR_ite ?_ (wpR_ite ?_ ?_)
      · cases hw2 : s2.worker? q w with
        | none => noterr
        | some wk2 =>
          simp only []
          refine wpR_seq (execResponse_q h2.1) ?_
          intro s3 h3
          exact (h2.trans h3).trans (syncReturn_q h3.1 q w)
      · exact h2.trans (syncReturn_emit_q h2.1 _ q w)
      · cases hw2 : s2.worker? q w with
        | none => noterr
        | some wk2 =>
          simp only []
          apply wpR_ite
          · noterr
          · exact h2.trans (h2.1.setWorker _ ⟨wk2, wfind_mem hw2, rfl⟩)
    · exact syncReturn_emit_q hq _ q w
    · exact hq.setWorker _ ⟨wk, wfind_mem hw, rfl⟩

theorem getCurrentOrNext_q {h : Hints} {s : State} {q : ScqId} {w : WId} {pi block : Bool} (hq : QExists ne s) :
    wpR ne (getCurrentOrNext h s q w pi block) (QP ne s) := by
  unfold getCurrentOrNext
  cases hw : s.worker? q w with
  | none => noterr
  | some wk =>
    simp only []
    split
    · rename_i tid _
      simp only [task?_def]
      cases ht : alookup tid s.tasks with
      | none => noterr
      | some t =>
        simp only []
        apply wpR_ite
        · simp only [wpR_pure]
          have hok := taskOK_of_lookup hq ht
          have h1 := hq.setTask { t with retry := t.retry + 1 } (fun hr => hok hr)
          exact h1.trans (syncReturn_emit_q h1.1 _ q w)
        · refine wpR_seq (complete_q hq) ?_
          intro s2 h2
          exact wpR_mono (getNextTask_q h2.1) (fun s' hp => h2.trans hp)
    · exact getNextTask_q hq

theorem QExists.grow {s s' : State} (hq : QExists ne s) (h1 : s'.tasks = s.tasks) (h2 : s'.workers = s.workers)
    (h5 : s'.cleanup = s.cleanup) (hsub : ∀ x ∈ scqIds s, x ∈ scqIds s') (hqp : ∀ x ∈ scqIds s', HasPq s' x.pq)
    (hpn : ne → ∀ p ∈ pqIds s', ∃ x ∈ scqIds s', x.pq = p) : QExists ne s' := by
  refine ⟨?_, ?_, hqp, ?_, ?_, hpn⟩
  · intro p hp hr
    rw [h1] at hp
    obtain ⟨a, b⟩ := hq.tq p hp hr
    exact ⟨hsub _ a, b⟩
  · intro wk hwk; rw [h2] at hwk; exact hsub _ (hq.wq wk hwk)
  · intro e he q hk
    rw [h5] at he
    obtain ⟨a, b⟩ := hq.cq e he q hk
    exact ⟨hsub _ a, by rw [h2]; exact b⟩
  · rw [h5]; exact hq.cu

theorem registerPQ_q {s : State} (hq : QExists ne s) (id : Nat) (comps : List Nat) (platform : Nat) (sizes : List Nat)
    (bgMax : Nat) (bgPrio : Int) (hsz : ne → sizes ≠ []) :
    QExists ne (registerPQ s id comps platform sizes bgMax bgPrio) := by
  have hS : ∀ x, x ∈ scqIds (registerPQ s id comps platform sizes bgMax bgPrio) ↔
      x ∈ scqIds s ∨ ∃ sc ∈ sizes, x = ⟨id, sc⟩ := by
    intro x
    simp only [scqIds, registerPQ, List.map_append, List.mem_append, List.map_map, List.mem_map, Function.comp]
    constructor
    · rintro (a | ⟨sc, b, c⟩)
      · exact Or.inl a
      · exact Or.inr ⟨sc, b, c.symm⟩
    · rintro (a | ⟨sc, b, c⟩)
      · exact Or.inl a
      · exact Or.inr ⟨sc, b, c.symm⟩
  have hP : ∀ p, p ∈ pqIds (registerPQ s id comps platform sizes bgMax bgPrio) ↔ p ∈ pqIds s ∨ p = id := by
    intro p
    simp only [pqIds, registerPQ, List.map_append, List.mem_append, List.map_cons, List.map_nil, List.mem_singleton]
  refine hq.grow rfl rfl rfl (fun x hx => (hS x).mpr (Or.inl hx)) ?_ ?_
  · intro x hx
    rcases (hS x).mp hx with a | ⟨sc, _, c⟩
    · exact (hP _).mpr (Or.inl (hq.qp x a))
    · exact (hP _).mpr (Or.inr (by rw [c]))
  · intro hne p hp
    rcases (hP p).mp hp with a | a
    · obtain ⟨x, hx, hxe⟩ := hq.pn hne p a
      exact ⟨x, (hS x).mpr (Or.inl hx), hxe⟩
    · obtain ⟨sc, r, hsz'⟩ := List.exists_cons_of_ne_nil (hsz hne)
      exact ⟨⟨id, sc⟩, (hS _).mpr (Or.inr ⟨sc, by rw [hsz']; exact List.mem_cons_self, rfl⟩), a.symm⟩

theorem pqIds_snoc (s s' : State) {np : PQ} (e : s'.pqs = s.pqs ++ [np]) {p : Nat} (hp : np.id = p) :
    ∀ x, x ∈ pqIds s' ↔ x ∈ pqIds s ∨ x = p := by
  intro x; simp [pqIds, e, hp]

theorem addScq_q {s s' : State} {nq : Scq} {q : ScqId} (hq : QExists ne s)
    (e4 : (s'.pqs = s.pqs ∧ HasPq s q.pq) ∨ ∃ np : PQ, s'.pqs = s.pqs ++ [np] ∧ np.id = q.pq)
    (e1 : s'.tasks = s.tasks := by rfl) (e2 : s'.workers = s.workers := by rfl)
    (e5 : s'.cleanup = s.cleanup := by rfl) (e3 : s'.scqs = s.scqs ++ [nq] := by rfl) (hid : nq.id = q := by rfl) :
    QExists ne s' ∧ HasScq s' q := by
  have hS : ∀ x, x ∈ scqIds s' ↔ x ∈ scqIds s ∨ x = q := by intro x; simp [scqIds, e3, hid]
  have hP : ∀ p, p ∈ pqIds s → p ∈ pqIds s' := by
    intro p hp
    rcases e4 with ⟨a, _⟩ | ⟨np, a, b⟩
    · unfold pqIds; rw [a]; exact hp
    · exact (pqIds_snoc s s' a b p).mpr (Or.inl hp)
  have hPq : q.pq ∈ pqIds s' := by
    rcases e4 with ⟨a, b⟩ | ⟨np, a, b⟩
    · unfold pqIds; rw [a]; exact b
    · exact (pqIds_snoc s s' a b _).mpr (Or.inr rfl)
  refine ⟨hq.grow e1 e2 e5 (fun x hx => (hS x).mpr (Or.inl hx)) ?_ ?_, (hS q).mpr (Or.inr rfl)⟩
  · intro x hx
    rcases (hS x).mp hx with a | a
    · exact hP _ (hq.qp x a)
    · rw [a]; exact hPq
  · intro hne p hp
    have hp' : p ∈ pqIds s ∨ p = q.pq := by
      rcases e4 with ⟨a, _⟩ | ⟨np, a, b⟩
      · left; unfold pqIds at hp ⊢; rw [a] at hp; exact hp
      · exact (pqIds_snoc s s' a b p).mp hp
    rcases hp' with a | a
    · obtain ⟨x, hx, hxe⟩ := hq.pn hne p a
      exact ⟨x, (hS x).mpr (Or.inl hx), hxe⟩
    · exact ⟨q, (hS q).mpr (Or.inr rfl), a.symm⟩

/-- post-condition of `syncQueue`: after `inr` the queue exists and no removal of it is pending -/
def SyncQueuePost (ne : Prop) (q : ScqId) : State ⊕ State → Prop
  | .inl s' => QExists ne s'
  | .inr s' => QExists ne s' ∧ HasScq s' q ∧ ∀ e ∈ s'.cleanup, e.kind ≠ .scq q

theorem syncQueue_q {s : State} {q : ScqId} {comps : List Nat} {platform : Nat} {w : WId} (hq : QExists ne s) :
    wpR ne (syncQueue s q comps platform w) (SyncQueuePost ne q) := by
  unfold syncQueue
  cases hsq : s.scq? q with
  | some sq =>
    simp only [wpR_pure, SyncQueuePost]
    have h1 := hq.removeCleanup (.scq q)
    refine ⟨h1.1, (h1.2.hasScq q).mpr ((hasScq_iff s q).mpr ⟨sq, hsq⟩), ?_⟩
    intro e he hk
    have := (List.mem_filter.mp he).2
    simp [hk] at this
  | none =>
    have hnq : ¬ HasScq s q := by
      intro hh; obtain ⟨sq, h'⟩ := (hasScq_iff s q).mp hh; rw [hsq] at h'; cases h'
    have hnc : ∀ e ∈ s.cleanup, e.kind ≠ .scq q := fun e he hk => hnq (hq.cq e he q hk).1
    simp only []
    cases hpq : s.pq? q.pq with
    | some pq =>
      simp only []
      have hpm : HasPq s q.pq := (hasPq_iff s q.pq).mpr ⟨pq, hpq⟩
      cases hgl : (s.sizes q.pq).getLast? with
      | none =>
        simp only []
        simp only [wpR_throw, BadErr, routingErrors, sizelessError]
        rintro (hbad | ⟨hne, _⟩)
        · simp at hbad
        · obtain ⟨x, hx, hxe⟩ := hq.pn hne q.pq hpm
          have : x.sc ∈ s.sizes q.pq := by rw [← hxe]; exact (mem_sizes s x.pq x.sc).mpr hx
          rw [List.getLast?_eq_none_iff] at hgl
          rw [hgl] at this; cases this
      | some maxSc =>
        simp only []
        have hmax : HasScq s ⟨q.pq, maxSc⟩ := (mem_sizes s q.pq maxSc).mp (List.mem_of_getLast? hgl)
        obtain ⟨maxQ, hmq⟩ := (hasScq_iff s _).mp hmax
        simp only [hmq]
        apply wpR_ite
        · exact (hq.emit _).1
        · apply wpR_ite
          · exact (hq.emit _).1
          · apply wpR_ite
            · exact (hq.emit _).1
            · simp only [wpR_pure, SyncQueuePost]
              exact And.imp_right (fun hh => ⟨hh, hnc⟩)
                (addScq_q hq (Or.inl ⟨by rfl, hpm⟩))
    | none =>
      simp only [wpR_pure, SyncQueuePost]
      exact And.imp_right (fun hh => ⟨hh, hnc⟩)
        (addScq_q hq (Or.inr ⟨_, by rfl, by rfl⟩))

theorem syncWorker_q {s : State} {q : ScqId} {w : WId} (hq : QExists ne s) (hs : HasScq s q)
    (hnc : ∀ e ∈ s.cleanup, e.kind ≠ .scq q) (s' : State)
    (h : syncWorker s q w = .inl s' ∨ syncWorker s q w = .inr s') : QExists ne s' := by
  unfold syncWorker at h
  simp only [worker?_def] at h
  cases hw : wfind s.workers q w with
  | some wk =>
    rw [hw] at h
    simp only [] at h
    split at h
    · rcases h with e | e
      · cases e; exact (hq.emit _).1
      · cases e
    · rcases h with e | e
      · cases e
      · cases e
        have h1 := hq.removeCleanup (.worker q w)
        exact (h1.1.setWorker { wk with inSync := true } ⟨wk, wfind_mem hw, rfl⟩).1
  | none =>
    rw [hw] at h
    simp only [] at h
    rcases h with e | e
    · cases e
    · cases e
      refine ⟨hq.tq, ?_, hq.qp, ?_, hq.cu, hq.pn⟩
      · intro wk hwk
        rcases List.mem_append.mp hwk with a | a
        · exact hq.wq wk a
        · simp only [List.mem_singleton] at a; rw [a]; exact hs
      · intro e he q' hk
        refine ⟨(hq.cq e he q' hk).1, ?_⟩
        intro wk hwk
        rcases List.mem_append.mp hwk with a | a
        · exact (hq.cq e he q' hk).2 wk a
        · simp only [List.mem_singleton] at a
          rw [a]
          intro e'; simp only at e'; subst e'; exact hnc e he hk

theorem syncArrive_q {h : Hints} {s : State} {now : Nat} {q : ScqId} {comps : List Nat} {platform : Nat}
    {w : WId} {rep : Report} {pi : Bool} (hq : QExists ne s) (hI : Inv s) :
    wpR ne (syncArrive h s now q comps platform w rep pi) (QExists ne) := by
  unfold syncArrive
  refine wpR_seq (enter_q hq hI) ?_
  intro s1 ⟨h1, _⟩
  refine wpR_seq (syncQueue_q h1) ?_
  intro r hr
  cases r with
  | inl s2 => exact hr
  | inr s2 =>
    obtain ⟨h2, hs2, hnc2⟩ := hr
    have hsw := syncWorker_q (w := w) h2 hs2 hnc2
    simp only []
    cases hsw' : syncWorker s2 q w with
    | inl s3 => exact hsw s3 (Or.inl hsw')
    | inr s3 =>
      have h3 := hsw s3 (Or.inr hsw')
      simp only [worker?_def]
      cases hw : wfind s3.workers q w with
      | none => noterr
      | some wk =>
        simp only []
        have hcur : ∀ bl, wpR ne (getCurrentOrNext h s3 q w pi bl) (QExists ne) := fun bl =>
          wpR_mono (getCurrentOrNext_q h3) (fun s' hp => hp.1)
        cases rep with
        | malformed => exact (syncReturn_emit_q h3 _ q w).1
        | idle => exact hcur true
        | executing d =>
          refine wpR_ite ?_ (hcur false)
          exact (syncReturn_emit_q h3 _ q w).1
        | completed d r =>
          refine wpR_ite ?_ (hcur true)
          split
          · refine wpR_seq (complete_q h3) ?_
            intro s4 h4
            exact wpR_mono (getNextTask_q h4.1) (fun s' hp => hp.1)
          · noterr

theorem syncWake_q {h : Hints} {s : State} {now : Nat} {q : ScqId} {w : WId} {reason : Nat}
    (hq : QExists ne s) (hI : Inv s) : wpR ne (syncWake h s now q w reason) (QExists ne) := by
  unfold syncWake
  refine wpR_seq (enter_q hq hI) ?_
  intro s1 ⟨h1, _⟩
  cases hw : s1.worker? q w with
  | none => noterr
  | some wk =>
    simp only []
    have hwm := wfind_mem hw
    have hs : HasScq s1 q := by
      have := h1.wq wk hwm; rw [(wfind_key hw).1] at this; exact this
    apply wpR_ite
    · noterr
    · split
      · -- timeout
        have h2 := h1.setWorker { wk with parked := false, woken := false, drainWait := none } ⟨wk, hwm, rfl⟩
        apply wpR_ite
        · refine wpR_seq (execResponse_q h2.1) ?_
          intro s3 h3
          exact (syncReturn_q h3.1 q w).1
        · exact (syncReturn_emit_q h2.1 _ q w).1
      · have h2 := h1.setWorker { wk with parked := false, woken := false, drainWait := none } ⟨wk, hwm, rfl⟩
        exact (syncReturn_emit_q h2.1 _ q w).1
      · apply wpR_ite
        · noterr
        · have h2 := h1.setWorker { wk with woken := false } ⟨wk, hwm, rfl⟩
          apply wpR_ite
          · refine wpR_seq (execResponse_q h2.1) ?_
            intro s3 h3
            exact (syncReturn_q h3.1 q w).1
          · exact wpR_mono (getNextTask_q h2.1) (fun s' hp => hp.1)
      · obtain ⟨sq, hsq⟩ := (hasScq_iff s1 q).mp hs
        simp only [hsq]
        split
        · apply wpR_ite
          · noterr
          · have h2 := h1.setWorker { wk with drainWait := none } ⟨wk, hwm, rfl⟩
            exact wpR_mono (getNextTask_q h2.1) (fun s' hp => hp.1)
        · noterr
      · noterr

/-- the `register` segments the Go code accepts as far as this invariant is concerned:
`RegisterPredeclaredPlatformQueue` rejects an empty list of size classes -/
def SegValid : Seg → Prop
  | .register _ _ _ sizes _ _ => sizes ≠ []
  | _ => True

theorem step_q {s : State} (g : Seg) (hq : QExists ne s) (hI : Inv s) (hv : ne → SegValid g) :
    wpR ne (step s g) (QExists ne) := by
  cases g with
  | register id comps platform sizes bgMax bgPrio =>
    exact registerPQ_q hq id comps platform sizes bgMax bgPrio hv
  | exec => exact execArrive_q hq hI
  | wait => exact waitArrive_q hq hI
  | streamWake => exact streamWake_q hq hI
  | sync => exact syncArrive_q hq hI
  | syncWake => exact syncWake_q hq hI
  | killOp => exact killOp_q hq hI
  | killQueue => exact killQueue_q hq hI
  | addDrain => exact addDrain_q hq hI
  | removeDrain => exact removeDrain_q hq hI
  | terminate => exact terminate_q hq hI
  | termWake => exact termWake_q hq
  | touch => exact wpR_mono (enter_q hq hI) (fun s' hp => hp.1)

theorem qexists_init (ne : Prop) (cfg : Cfg) : QExists ne (State.init cfg) := by
  refine ⟨?_, ?_, ?_, ?_, ?_, ?_⟩ <;> simp [State.init, scqIds, pqIds]

/-- `QExists False` (all clauses but "every platform queue has a size class") in every reachable state -/
theorem qexists_reachable {s : State} (hr : Reachable s) : QExists False s := by
  induction hr with
  | init cfg => exact qexists_init False cfg
  | step g hr hs ih => exact wpR_of_ok (step_q g ih (inv_reachable hr) (fun hf => hf.elim)) hs

/-- reachable through segments whose `register` inputs the Go code accepts -/
inductive ReachableV : State → Prop
  | init (cfg : Cfg) : ReachableV (State.init cfg)
  | step {s s' : State} (g : Seg) : ReachableV s → SegValid g → step s g = .ok s' → ReachableV s'

theorem ReachableV.reachable {s : State} (h : ReachableV s) : Reachable s := by
  induction h with
  | init cfg => exact Reachable.init cfg
  | step g _ _ hs ih => exact Reachable.step g ih hs

theorem qexists_reachableV {s : State} (hr : ReachableV s) : QExists True s := by
  induction hr with
  | init cfg => exact qexists_init True cfg
  | step g hr hv hs ih => exact wpR_of_ok (step_q g ih (inv_reachable hr.reachable) (fun _ => hv)) hs

theorem reachableV_run {s : State} (hs : ReachableV s) (gs : List Seg) (hv : ∀ g ∈ gs, SegValid g) :
    ReachableV (run s gs) := by
  induction gs generalizing s with
  | nil => exact hs
  | cons g rest ih =>
    unfold run
    split
    · rename_i s' h
      exact ih (ReachableV.step g hs (hv g List.mem_cons_self) h) (fun g' hg' => hv g' (List.mem_cons_of_mem _ hg'))
    · exact ih hs (fun g' hg' => hv g' (List.mem_cons_of_mem _ hg'))

/-- only segments that can fail matter for the error theorems, and `register` never fails -/
theorem segValid_of_error {s : State} {g : Seg} {e : String} (h : step s g = .error e) : SegValid g := by
  cases g with
  | register => cases h
  | _ => trivial

end BbRe.Lemmas.SchedQ
