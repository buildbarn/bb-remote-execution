import BbRe.Lemmas.OutputsListing
import BbRe.Lemmas.OutputsTree
/-!
Helper lemmas for C10 (`errors_do_not_lie`): when no error is saved, the run with a
faulty CAS / unreadable directories produced exactly what a fault-free run produces.
-/
namespace BbRe.Lemmas.Outputs
open BbRe.Outputs

/-- The CAS never fails. -/
def noFaults : Env := { putFails := fun _ => false }

/-- Induction hypothesis on the tree: below a directory where nothing fails, the faulty
environment uploads exactly like the fault-free one. -/
def LClean (env : Env) (n : Node) : Prop :=
  cleanDir env n = true → ∀ st, n.uploadDirectory env st = n.uploadDirectory noFaults st

theorem uploadEntries_clean (env : Env) (es : Entries) (h : ∀ p ∈ es, LClean env p.2)
    (hc : cleanEntries env es = true) (acc : DirMsg) (st : UpState) :
    uploadEntries env es acc st = uploadEntries noFaults es acc st := by
  induction es generalizing acc st with
  | nil => simp [uploadEntries]
  | cons p rest ih =>
    have ihr := ih (fun q hq => h q (List.mem_cons_of_mem _ hq))
    obtain ⟨name, n⟩ := p
    cases acc with
    | mk fs ds ss =>
    cases n with
    | file x c =>
      simp only [cleanEntries, Bool.and_eq_true, Bool.not_eq_eq_eq_not, Bool.not_true] at hc
      simp only [uploadEntries, hc.1, noFaults, Bool.false_eq_true, ↓reduceIte]
      exact ihr hc.2 _ _
    | symlink t =>
      simp only [cleanEntries, Bool.and_eq_true, Bool.not_eq_eq_eq_not, Bool.not_true] at hc
      simp only [uploadEntries, hc.1, noFaults, Bool.false_eq_true, ↓reduceIte]
      exact ihr hc.2 _ _
    | special =>
      simp only [cleanEntries] at hc
      simp only [uploadEntries]
      exact ihr hc _ _
    | dir r ces =>
      simp only [cleanEntries, Bool.and_eq_true] at hc
      have hd := h (name, .dir r ces) (by simp) hc.1 st
      simp only [uploadEntries]
      rw [hd]
      cases Node.uploadDirectory noFaults (.dir r ces) st with
      | mk ro st1 =>
        cases ro with
        | none => exact ihr hc.2 _ _
        | some cm => exact ihr hc.2 _ _

theorem lclean_all (env : Env) : ∀ n, LClean env n := by
  apply Node.induct
  · intro r es ih hc st
    simp only [cleanDir, Bool.and_eq_true] at hc
    obtain ⟨hr, hce⟩ := hc
    subst hr
    rw [Node.uploadDirectory, Node.uploadDirectory]
    simp only [↓reduceIte]
    rw [uploadEntries_clean env es ih hce]
  · intro x c hc; simp [cleanDir] at hc
  · intro t hc; simp [cleanDir] at hc
  · intro hc; simp [cleanDir] at hc

theorem uploadDirectory_errs (env : Env) (n : Node) :
    (n.uploadDirectory env {}).2.errs = [] ↔ cleanDir env n = true := by
  obtain ⟨more, hm, hc⟩ := (pdir_all env n {}).errs
  rw [hm]
  simpa using hc

theorem noFaults_clean_of_clean (env : Env) : ∀ n, cleanDir env n = true → cleanDir noFaults n = true := by
  apply Node.induct
  · intro r es ih hc
    simp only [cleanDir, Bool.and_eq_true] at hc ⊢
    refine ⟨hc.1, ?_⟩
    have hce := hc.2
    clear hc
    induction es with
    | nil => simp [cleanEntries]
    | cons p rest ihl =>
      obtain ⟨name, n⟩ := p
      have ihr := ihl (fun q hq => ih q (List.mem_cons_of_mem _ hq))
      cases n with
      | file x c =>
        simp only [cleanEntries, Bool.and_eq_true] at hce ⊢
        exact ⟨by simp [noFaults], ihr hce.2⟩
      | symlink t =>
        simp only [cleanEntries, Bool.and_eq_true] at hce ⊢
        exact ⟨by simp [noFaults], ihr hce.2⟩
      | special => simp only [cleanEntries] at hce ⊢; exact ihr hce
      | dir r' ces =>
        simp only [cleanEntries, Bool.and_eq_true] at hce ⊢
        exact ⟨ih (name, .dir r' ces) (by simp) hce.1, ihr hce.2⟩
  · intro x c hc; simp [cleanDir] at hc
  · intro t hc; simp [cleanDir] at hc
  · intro hc; simp [cleanDir] at hc

/-- No saved error for an output directory: the entry is the fault-free one. -/
theorem uode_clean_eq (env : Env) (up : Bool) (n : Node) (ps : List Str)
    (h : (uploadOutputDirectoryEntered env up n ps).errs = []) :
    uploadOutputDirectoryEntered env up n ps = uploadOutputDirectoryEntered noFaults up n ps := by
  have hclean : cleanDir env n = true := by
    rw [← uploadDirectory_errs]
    unfold uploadOutputDirectoryEntered at h
    cases hu : n.uploadDirectory env {} with
    | mk ro st =>
      rw [hu] at h
      cases ro with
      | none => simpa using h
      | some root =>
        simp only [List.append_eq_nil_iff] at h
        exact h.1.1
  have heq := lclean_all env n hclean {}
  unfold uploadOutputDirectoryEntered at h ⊢
  rw [heq] at h ⊢
  cases hu : n.uploadDirectory noFaults {} with
  | mk ro st =>
    rw [hu] at h
    cases ro with
    | none => rfl
    | some root =>
      simp only [List.append_eq_nil_iff] at h
      obtain ⟨⟨h1, h2⟩, h3⟩ := h
      have ht : (!env.putFails (.tree st.dirs.reverse)) = true := by
        cases hb : (!env.putFails (.tree st.dirs.reverse)) with
        | true => rfl
        | false => simp [hb] at h2
      have hd : (!up || st.dirs.all fun m => !env.putFails (.dirmsg m)) = true := by
        cases hb : (!up || st.dirs.all fun m => !env.putFails (.dirmsg m)) with
        | true => rfl
        | false => simp [hb] at h3
      simp only [ht, hd, noFaults, Bool.not_false, Bool.and_self, ↓reduceIte, h1]
      simp

theorem atLoc_clean_eq (env : Env) (up : Bool) (s : Str) (found : Option Node)
    (h : (atLoc env up s found).errs = []) :
    atLoc env up s found = atLoc noFaults up s found := by
  cases found with
  | none => rfl
  | some n =>
    cases n with
    | dir r es => exact uode_clean_eq env up _ _ h
    | file x c =>
      simp only [atLoc] at h ⊢
      split at h
      · simp at h
      · rename_i hput
        simp [hput, noFaults]
    | symlink t =>
      simp only [atLoc] at h ⊢
      split at h
      · simp at h
      · rename_i hrl
        simp [hrl, noFaults]
    | special => rfl

end BbRe.Lemmas.Outputs
