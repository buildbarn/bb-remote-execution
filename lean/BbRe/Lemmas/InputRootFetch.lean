import BbRe.Lemmas.InputRootAssoc
/-!
Functional correctness of `fetch` (the three validation loops of
`fetchContentsUnwrapped`) against a declarative notion of a well-formed
Directory message, for C17.
-/
namespace BbRe.Lemmas.InputRoot
open BbRe.InputRoot

/-- All three loops are instances of this one. -/
def addGen {α : Type} (nameOf : α → Name) (mk : α → Option Node) :
    List α → Children → Nat → Except Err Children × Nat
  | [], ch, k => (.ok ch, k)
  | e :: rest, ch, k =>
    if !validName (nameOf e) then (.error .invalidArgument, k)
    else if hasName ch (nameOf e) then (.error .invalidArgument, k)
    else match mk e with
      | none => (.error .invalidArgument, k)
      | some v => addGen nameOf mk rest (ch ++ [(nameOf e, v)]) (k + 1)

def mkDir (hl : Nat) (e : DirNode) : Option Node := (parseDigest hl e.digest).map (.lazy · none)
def mkFile (hl : Nat) (e : FileNode) : Option Node := (parseDigest hl e.digest).map (.file · e.exec none)
def mkSym (e : SymNode) : Option Node := if targetOk e.target then some (.sym e.target) else none

theorem ite_congr_right {α : Type} {p : Prop} [Decidable p] {a b b' : α} (h : ¬ p → b = b') :
    (if p then a else b) = if p then a else b' := by
  split
  · rfl
  · exact h ‹_›

theorem addDirs_eq (hl : Nat) : ∀ (es : List DirNode) (ch : Children) (k : Nat),
    addDirs hl es ch = (addGen DirNode.name (mkDir hl) es ch k).1
  | [], _, _ => rfl
  | e :: rest, ch, k => by
    rw [addDirs, addGen, apply_ite Prod.fst, apply_ite Prod.fst]
    refine ite_congr_right fun _ => ite_congr_right fun _ => ?_
    unfold mkDir
    cases parseDigest hl e.digest with
    | none => rfl
    | some d => exact addDirs_eq hl rest _ _

theorem addFiles_eq (hl : Nat) : ∀ (es : List FileNode) (ch : Children) (k : Nat),
    addFiles hl es ch k = addGen FileNode.name (mkFile hl) es ch k
  | [], _, _ => rfl
  | e :: rest, ch, k => by
    rw [addFiles, addGen]
    refine ite_congr_right fun _ => ite_congr_right fun _ => ?_
    unfold mkFile
    cases parseDigest hl e.digest with
    | none => rfl
    | some d => exact addFiles_eq hl rest _ _

theorem addSyms_eq : ∀ (es : List SymNode) (ch : Children) (k : Nat),
    addSyms es ch k = addGen SymNode.name mkSym es ch k
  | [], _, _ => rfl
  | e :: rest, ch, k => by
    rw [addSyms, addGen]
    refine ite_congr_right fun _ => ite_congr_right fun _ => ?_
    unfold mkSym
    cases targetOk e.target
    · rfl
    · exact addSyms_eq rest _ _

def conv {α : Type} (nameOf : α → Name) (mk : α → Option Node) (es : List α) : Children :=
  es.filterMap fun e => (mk e).map fun v => (nameOf e, v)

/-- What one loop demands of its list, given the children collected so far. -/
def GoodList {α : Type} (nameOf : α → Name) (mk : α → Option Node) (es : List α) (ch : Children) : Prop :=
  (∀ e ∈ es, validName (nameOf e) = true ∧ (mk e).isSome = true) ∧
  (es.map nameOf).Nodup ∧ (∀ e ∈ es, hasName ch (nameOf e) = false)

theorem conv_cons_some {α : Type} {nameOf : α → Name} {mk : α → Option Node} {e : α} {v : Node}
    (hv : mk e = some v) (rest : List α) :
    conv nameOf mk (e :: rest) = (nameOf e, v) :: conv nameOf mk rest := by
  simp only [conv, List.filterMap_cons, hv, Option.map_some]

theorem conv_cons_none {α : Type} {nameOf : α → Name} {mk : α → Option Node} {e : α}
    (hv : mk e = none) (rest : List α) : conv nameOf mk (e :: rest) = conv nameOf mk rest := by
  simp only [conv, List.filterMap_cons, hv, Option.map_none]

/-- One round of a loop: what it demands of the entry, and of the rest afterwards. -/
theorem goodList_cons {α : Type} {nameOf : α → Name} {mk : α → Option Node} {e : α} {v : Node}
    (hv : mk e = some v) (rest : List α) (ch : Children) :
    GoodList nameOf mk (e :: rest) ch ↔
      validName (nameOf e) = true ∧ hasName ch (nameOf e) = false ∧
      GoodList nameOf mk rest (ch ++ [(nameOf e, v)]) := by
  have hfresh : ∀ e', (hasName (ch ++ [(nameOf e, v)]) (nameOf e') = false) ↔
      hasName ch (nameOf e') = false ∧ nameOf e ≠ nameOf e' := fun e' => by
    rw [hasName_append, hasName_single, Bool.or_eq_false_iff, decide_eq_false_iff_not]
  -- both sides become conjunctions of: `e` valid, the entries of `rest` valid and convertible, the name of
  -- `e` not among those of `rest`, these distinct, `e` fresh in `ch`, `rest` fresh in `ch` (and ≠ `e`)
  simp only [GoodList, List.forall_mem_cons, List.map_cons, List.nodup_cons, hv, Option.isSome_some,
    and_true, hfresh, List.mem_map, not_exists, not_and]
  constructor
  · rintro ⟨⟨hval, h1⟩, ⟨hne, h2⟩, hn, h3⟩
    exact ⟨hval, hn, h1, h2, fun e' he' => ⟨h3 e' he', fun h => hne e' he' h.symm⟩⟩
  · rintro ⟨hval, hn, h1, h2, h3⟩
    exact ⟨⟨hval, h1⟩, ⟨fun e' he' h => (h3 e' he').2 h.symm, h2⟩, hn, fun e' he' => (h3 e' he').1⟩

theorem addGen_ok {α : Type} (nameOf : α → Name) (mk : α → Option Node) :
    ∀ (es : List α) (ch : Children) (k : Nat), GoodList nameOf mk es ch →
      addGen nameOf mk es ch k = (.ok (ch ++ conv nameOf mk es), k + es.length) := by
  intro es
  induction es with
  | nil => intro ch k _; simp [addGen, conv]
  | cons e rest ih =>
    intro ch k h
    obtain ⟨v, hv⟩ := Option.isSome_iff_exists.1 (h.1 e List.mem_cons_self).2
    obtain ⟨hval, hn, hgood⟩ := (goodList_cons hv rest ch).1 h
    simp only [addGen, hval, hn, hv, Bool.not_true, Bool.false_eq_true, if_false]
    rw [ih _ _ hgood, conv_cons_some hv]
    simp [Nat.add_comm, Nat.add_left_comm]

theorem addGen_err {α : Type} (nameOf : α → Name) (mk : α → Option Node) :
    ∀ (es : List α) (ch : Children) (k : Nat), ¬ GoodList nameOf mk es ch →
      ∃ k', addGen nameOf mk es ch k = (.error .invalidArgument, k') := by
  intro es
  induction es with
  | nil => intro ch k h; exact absurd ⟨by simp, by simp, by simp⟩ h
  | cons e rest ih =>
    intro ch k h
    simp only [addGen]
    by_cases hv : validName (nameOf e) = true
    · cases hn : hasName ch (nameOf e) with
      | true => exact ⟨k, by simp [hv]⟩
      | false =>
        cases hm : mk e with
        | none => exact ⟨k, by simp [hv]⟩
        | some v =>
          simp only [hv, Bool.not_true, Bool.false_eq_true, if_false]
          exact ih _ _ fun g => h ((goodList_cons hm rest ch).2 ⟨hv, hn, g⟩)
    · exact ⟨k, by simp [hv]⟩

def entryNames (m : DirMsg) : List Name :=
  m.dirs.map (·.name) ++ m.files.map (·.name) ++ m.syms.map (·.name)

/-- A Directory message the fetcher accepts: all names valid, no name twice (within
or across the three lists), every digest well-formed, every symlink target usable. -/
def WellFormed (hl : Nat) (m : DirMsg) : Prop :=
  (∀ n ∈ entryNames m, validName n = true) ∧ (entryNames m).Nodup ∧
  (∀ e ∈ m.dirs, (parseDigest hl e.digest).isSome = true) ∧
  (∀ e ∈ m.files, (parseDigest hl e.digest).isSome = true) ∧
  (∀ e ∈ m.syms, targetOk e.target = true)

/-- The children a well-formed message denotes (sub-directories lazy). -/
def specChildren (hl : Nat) (m : DirMsg) : Children :=
  conv DirNode.name (mkDir hl) m.dirs ++ conv FileNode.name (mkFile hl) m.files ++
    conv SymNode.name mkSym m.syms

theorem hasName_conv {α : Type} (nameOf : α → Name) (mk : α → Option Node) (es : List α)
    (hall : ∀ e ∈ es, (mk e).isSome = true) (x : Name) :
    hasName (conv nameOf mk es) x = true ↔ x ∈ es.map nameOf := by
  induction es with
  | nil => simp [conv, hasName, lookup]
  | cons e rest ih =>
    obtain ⟨v, hv⟩ := Option.isSome_iff_exists.1 (hall e List.mem_cons_self)
    rw [conv_cons_some hv, ← List.singleton_append, hasName_append, hasName_single, Bool.or_eq_true,
      ih fun e' he' => hall e' (List.mem_cons_of_mem _ he'), List.map_cons, List.mem_cons,
      decide_eq_true_eq, eq_comm]

theorem mkSym_isSome (e : SymNode) : (mkSym e).isSome = true ↔ targetOk e.target = true := by
  by_cases h : targetOk e.target = true <;> simp [mkSym, h]

theorem mkDir_isSome (hl : Nat) (e : DirNode) :
    (mkDir hl e).isSome = (parseDigest hl e.digest).isSome := by simp [mkDir]

theorem mkFile_isSome (hl : Nat) (e : FileNode) :
    (mkFile hl e).isSome = (parseDigest hl e.digest).isSome := by simp [mkFile]

/-- What three loops in a row demand, in terms of the lists alone: every entry is valid and
can be converted, and no name occurs twice within or across the lists. -/
theorem goodLists_iff {α β γ : Type} (nA : α → Name) (mkA : α → Option Node) (as : List α)
    (nB : β → Name) (mkB : β → Option Node) (bs : List β)
    (nC : γ → Name) (mkC : γ → Option Node) (cs : List γ) :
    (GoodList nA mkA as [] ∧ GoodList nB mkB bs (conv nA mkA as) ∧
     GoodList nC mkC cs (conv nA mkA as ++ conv nB mkB bs)) ↔
    ((∀ e ∈ as, validName (nA e) = true ∧ (mkA e).isSome = true) ∧
     (∀ e ∈ bs, validName (nB e) = true ∧ (mkB e).isSome = true) ∧
     (∀ e ∈ cs, validName (nC e) = true ∧ (mkC e).isSome = true)) ∧
    (as.map nA ++ bs.map nB ++ cs.map nC).Nodup := by
  constructor
  · rintro ⟨⟨a1, a2, -⟩, ⟨b1, b2, b3⟩, ⟨c1, c2, c3⟩⟩
    have hA := hasName_conv nA mkA as fun e he => (a1 e he).2
    have hB := hasName_conv nB mkB bs fun e he => (b1 e he).2
    refine ⟨⟨a1, b1, c1⟩, List.nodup_append.2 ⟨List.nodup_append.2 ⟨a2, b2, ?_⟩, c2, ?_⟩⟩
    · intro x hx y hy hxy
      obtain ⟨e, he, rfl⟩ := List.mem_map.1 hy
      exact Bool.eq_false_iff.1 (b3 e he) ((hA _).2 (hxy ▸ hx))
    · intro x hx y hy hxy
      obtain ⟨e, he, rfl⟩ := List.mem_map.1 hy
      have := c3 e he
      rw [hasName_append, Bool.or_eq_false_iff] at this
      rcases List.mem_append.1 hx with hx | hx
      · exact Bool.eq_false_iff.1 this.1 ((hA _).2 (hxy ▸ hx))
      · exact Bool.eq_false_iff.1 this.2 ((hB _).2 (hxy ▸ hx))
  · rintro ⟨⟨a1, b1, c1⟩, hn⟩
    obtain ⟨hab, c2, hc⟩ := List.nodup_append.1 hn
    obtain ⟨a2, b2, hd⟩ := List.nodup_append.1 hab
    have hA := hasName_conv nA mkA as fun e he => (a1 e he).2
    have hB := hasName_conv nB mkB bs fun e he => (b1 e he).2
    refine ⟨⟨a1, a2, fun _ _ => rfl⟩, ⟨b1, b2, fun e he => ?_⟩, ⟨c1, c2, fun e he => ?_⟩⟩
    · exact Bool.eq_false_iff.2 fun h => hd _ ((hA _).1 h) _ (List.mem_map_of_mem he) rfl
    · rw [hasName_append, Bool.or_eq_false_iff]
      exact ⟨Bool.eq_false_iff.2 fun h =>
          hc _ (List.mem_append.2 (.inl ((hA _).1 h))) _ (List.mem_map_of_mem he) rfl,
        Bool.eq_false_iff.2 fun h =>
          hc _ (List.mem_append.2 (.inr ((hB _).1 h))) _ (List.mem_map_of_mem he) rfl⟩

/-- Well-formedness entry by entry, in the vocabulary of the loops. -/
theorem wellFormed_iff (hl : Nat) (m : DirMsg) :
    WellFormed hl m ↔
    ((∀ e ∈ m.dirs, validName e.name = true ∧ (mkDir hl e).isSome = true) ∧
     (∀ e ∈ m.files, validName e.name = true ∧ (mkFile hl e).isSome = true) ∧
     (∀ e ∈ m.syms, validName e.name = true ∧ (mkSym e).isSome = true)) ∧
    (entryNames m).Nodup := by
  -- both sides: validity and convertibility list by list; they differ only in how the conjuncts are grouped
  simp only [WellFormed, entryNames, List.forall_mem_append, List.forall_mem_map, mkDir_isSome,
    mkFile_isSome, mkSym_isSome, forall_and]
  constructor
  · rintro ⟨⟨⟨v1, v2⟩, v3⟩, hn, d, f, t⟩
    exact ⟨⟨⟨v1, d⟩, ⟨v2, f⟩, v3, t⟩, hn⟩
  · rintro ⟨⟨⟨v1, d⟩, ⟨v2, f⟩, v3, t⟩, hn⟩
    exact ⟨⟨⟨v1, v2⟩, v3⟩, hn, d, f, t⟩

/-- The three sequential loop conditions are exactly well-formedness. -/
theorem good_iff_wellFormed (hl : Nat) (m : DirMsg) :
    (GoodList DirNode.name (mkDir hl) m.dirs [] ∧
     GoodList FileNode.name (mkFile hl) m.files (conv DirNode.name (mkDir hl) m.dirs) ∧
     GoodList SymNode.name mkSym m.syms
       (conv DirNode.name (mkDir hl) m.dirs ++ conv FileNode.name (mkFile hl) m.files)) ↔
    WellFormed hl m :=
  (goodLists_iff ..).trans (wellFormed_iff hl m).symm

theorem fetchBase_present (c : CAS) (F : List Dig) (d : Dig) (m : DirMsg) (hF : d ∉ F)
    (hm : assoc c.dirs d = some (some m)) :
    fetchBase c F d =
      match (addGen DirNode.name (mkDir c.hashLen) m.dirs [] 0).1 with
      | .error e => ⟨.error e, 0, 0⟩
      | .ok ch1 =>
        match addGen FileNode.name (mkFile c.hashLen) m.files ch1 0 with
        | (.error e, k) => ⟨.error e, k, k⟩
        | (.ok ch2, k) =>
          match addGen SymNode.name mkSym m.syms ch2 k with
          | (.error e, k') => ⟨.error e, k', k'⟩
          | (.ok ch3, k') => ⟨.ok ch3, k', 0⟩ := by
  simp only [fetchBase, hm, List.contains_eq_mem, hF, decide_false, Bool.false_eq_true, if_false]
  rw [addDirs_eq c.hashLen m.dirs [] 0]
  cases (addGen DirNode.name (mkDir c.hashLen) m.dirs [] 0).1 with
  | error e => rfl
  | ok ch1 =>
    simp only [addFiles_eq, addSyms_eq]
    rfl

/-- A well-formed message is attached completely, no leaf is unlinked. -/
theorem fetchBase_wellFormed (c : CAS) (F : List Dig) (d : Dig) (m : DirMsg) (hF : d ∉ F)
    (hm : assoc c.dirs d = some (some m)) (hw : WellFormed c.hashLen m) :
    fetchBase c F d = ⟨.ok (specChildren c.hashLen m), m.files.length + m.syms.length, 0⟩ := by
  obtain ⟨g1, g2, g3⟩ := (good_iff_wellFormed c.hashLen m).2 hw
  rw [fetchBase_present c F d m hF hm, addGen_ok _ _ _ _ _ g1]
  simp only [List.nil_append]
  rw [addGen_ok _ _ _ _ _ g2]
  dsimp only
  rw [addGen_ok _ _ _ _ _ g3]
  simp [specChildren]

/-- A malformed message is rejected as a whole: `InvalidArgument`, and every leaf
that was created before the defect was noticed has been unlinked. -/
theorem fetchBase_malformed (c : CAS) (F : List Dig) (d : Dig) (m : DirMsg) (hF : d ∉ F)
    (hm : assoc c.dirs d = some (some m)) (hw : ¬ WellFormed c.hashLen m) :
    ∃ k, fetchBase c F d = ⟨.error .invalidArgument, k, k⟩ := by
  rw [fetchBase_present c F d m hF hm]
  by_cases g1 : GoodList DirNode.name (mkDir c.hashLen) m.dirs []
  · rw [addGen_ok _ _ _ _ _ g1]
    simp only [List.nil_append]
    by_cases g2 : GoodList FileNode.name (mkFile c.hashLen) m.files (conv DirNode.name (mkDir c.hashLen) m.dirs)
    · rw [addGen_ok _ _ _ _ _ g2]
      dsimp only
      by_cases g3 : GoodList SymNode.name mkSym m.syms
          (conv DirNode.name (mkDir c.hashLen) m.dirs ++ conv FileNode.name (mkFile c.hashLen) m.files)
      · exact absurd ((good_iff_wellFormed c.hashLen m).1 ⟨g1, g2, g3⟩) hw
      · obtain ⟨k', hk'⟩ := addGen_err _ _ _ _ (0 + m.files.length) g3
        rw [hk']; exact ⟨k', rfl⟩
    · obtain ⟨k', hk'⟩ := addGen_err _ _ _ _ 0 g2
      rw [hk']; exact ⟨k', rfl⟩
  · obtain ⟨k', hk'⟩ := addGen_err _ _ _ _ 0 g1
    rw [hk']; exact ⟨0, rfl⟩

/-- Every fetch: it fails and has unlinked each leaf it created, or the message is well-formed and is
attached completely. -/
theorem fetchBase_cases (c : CAS) (F : List Dig) (d : Dig) :
    (∃ e k, fetchBase c F d = ⟨.error e, k, k⟩) ∨
    ∃ m, assoc c.dirs d = some (some m) ∧ WellFormed c.hashLen m ∧
      fetchBase c F d = ⟨.ok (specChildren c.hashLen m), m.files.length + m.syms.length, 0⟩ := by
  by_cases hF : d ∈ F
  · exact .inl ⟨.unavailable, 0, by simp [fetchBase, hF]⟩
  · cases hm : assoc c.dirs d with
    | none => exact .inl ⟨.notFound, 0, by simp [fetchBase, hF, hm]⟩
    | some o =>
      cases o with
      | none => exact .inl ⟨.invalidArgument, 0, by simp [fetchBase, hF, hm]⟩
      | some m =>
        by_cases hw : WellFormed c.hashLen m
        · exact .inr ⟨m, rfl, hw, fetchBase_wellFormed c F d m hF hm hw⟩
        · exact .inl ⟨.invalidArgument, fetchBase_malformed c F d m hF hm hw⟩

/-! ### the same facts for a (possibly wrapped) fetcher -/

/-- A well-formed message is attached completely, no leaf is unlinked; the access
monitoring wrapper only annotates the children. -/
theorem fetch_wellFormed (c : CAS) (F : List Dig) (d : Dig) (mon : Option Path) (m : DirMsg)
    (hF : d ∉ F) (hm : assoc c.dirs d = some (some m)) (hw : WellFormed c.hashLen m) :
    fetch c F d mon =
      ⟨.ok ((specChildren c.hashLen m).map (annotate mon)), m.files.length + m.syms.length, 0⟩ := by
  simp only [fetch, fetchBase_wellFormed c F d m hF hm hw]

theorem fetch_malformed (c : CAS) (F : List Dig) (d : Dig) (mon : Option Path) (m : DirMsg)
    (hF : d ∉ F) (hm : assoc c.dirs d = some (some m)) (hw : ¬ WellFormed c.hashLen m) :
    ∃ k, fetch c F d mon = ⟨.error .invalidArgument, k, k⟩ := by
  obtain ⟨k, hk⟩ := fetchBase_malformed c F d m hF hm hw
  exact ⟨k, by simp only [fetch, hk]⟩

/-- The error of a fetch does not depend on the wrapper. -/
theorem fetch_error_mon (c : CAS) (F : List Dig) (d : Dig) (m m' : Option Path) (e : Err)
    (h : (fetch c F d m).result = .error e) : (fetch c F d m').result = .error e := by
  simp only [fetch] at h ⊢
  cases hr : (fetchBase c F d).result with
  | ok ch => rw [hr] at h; cases h
  | error e' => rw [hr] at h; exact h

end BbRe.Lemmas.InputRoot
