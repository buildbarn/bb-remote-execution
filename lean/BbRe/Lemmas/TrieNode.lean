/-
bb-storage `InstanceNameTrie` (Model/Trie.lean, `Node`): abstraction `val` (value stored at a
path, −1 when there is no node), well-formedness, `Set`, `GetExact`, `GetLongestPrefix`.
-/
import BbRe.Lemmas.TrieAssoc
import BbRe.Lemmas.TrieLongest
namespace BbRe.Lemmas.TrieNode
open BbRe.Model.Trie BbRe.Model.Trie.Node BbRe.Lemmas.TrieAssoc
open BbRe.Spec.PrefixMap (Comp)

@[simp] theorem value_mk (v : Int) (ks : List (Comp × Node)) : (Node.mk v ks).value = v := rfl
@[simp] theorem kids_mk (v : Int) (ks : List (Comp × Node)) : (Node.mk v ks).kids = ks := rfl
@[simp] theorem child?_mk (v : Int) (ks : List (Comp × Node)) (c : Comp) :
    (Node.mk v ks).child? c = aget c ks := rfl
@[simp] theorem empty_value : Node.empty.value = -1 := rfl
@[simp] theorem empty_kids : Node.empty.kids = [] := rfl
@[simp] theorem empty_child? (c : Comp) : Node.empty.child? c = none := rfl

/-- the node reached from `n` along `p`. -/
def at? : Node → List Comp → Option Node
  | n, [] => some n
  | n, c :: cs => match n.child? c with
    | none => none
    | some ch => at? ch cs

/-- the value stored at path `p` below `n`; −1 when the path leaves the trie. -/
def val (n : Node) (p : List Comp) : Int :=
  match at? n p with
  | some m => m.value
  | none => -1

@[simp] theorem at?_nil (n : Node) : at? n [] = some n := rfl
theorem at?_cons (n : Node) (c : Comp) (cs : List Comp) :
    at? n (c :: cs) = match n.child? c with | none => none | some ch => at? ch cs := rfl
@[simp] theorem val_nil (n : Node) : val n [] = n.value := rfl
theorem val_cons (n : Node) (c : Comp) (cs : List Comp) :
    val n (c :: cs) = match n.child? c with | none => -1 | some ch => val ch cs := by
  unfold val; rw [at?_cons]; cases n.child? c <;> rfl

theorem val_cons_none {n : Node} {c : Comp} (h : n.child? c = none) (cs : List Comp) :
    val n (c :: cs) = -1 := by rw [val_cons, h]
theorem val_cons_some {n ch : Node} {c : Comp} (h : n.child? c = some ch) (cs : List Comp) :
    val n (c :: cs) = val ch cs := by rw [val_cons, h]

theorem at?_append (n : Node) (p q : List Comp) :
    at? n (p ++ q) = match at? n p with | none => none | some m => at? m q := by
  induction p generalizing n with
  | nil => rfl
  | cons c cs ih =>
    rw [List.cons_append, at?_cons, at?_cons]
    cases n.child? c with
    | none => rfl
    | some ch => exact ih ch

theorem val_append_some {n m : Node} {p : List Comp} (h : at? n p = some m) (q : List Comp) :
    val n (p ++ q) = val m q := by
  unfold val; rw [at?_append, h]

theorem val_append_none {n : Node} {p : List Comp} (h : at? n p = none) (q : List Comp) :
    val n (p ++ q) = -1 := by
  unfold val; rw [at?_append, h]

theorem val_of_kids_nil {n : Node} (h : n.kids = []) (c : Comp) (cs : List Comp) :
    val n (c :: cs) = -1 :=
  val_cons_none (by rw [child?, h]; rfl) cs

theorem val_empty (q : List Comp) : val Node.empty q = -1 := by
  cases q with
  | nil => rfl
  | cons c cs => exact val_cons_none rfl cs

/-- `Set` and `platform.Trie.Set` start from a fresh node where the map has none. -/
theorem val_getD_empty (o : Option Node) (q : List Comp) :
    val (o.getD Node.empty) q = match o with | none => -1 | some ch => val ch q := by
  cases o with
  | none => exact val_empty q
  | some ch => rfl

/-- local sanity of a node: the value is −1 or an index, the Go map has distinct keys. -/
def NodeOK (m : Node) : Prop := -1 ≤ m.value ∧ (keys m.kids).Nodup

/-- a subtree hanging below the root: every node is sane and every leaf carries a value
(`Remove` prunes value-less chains). -/
def WFSub (n : Node) : Prop :=
  ∀ p m, at? n p = some m → NodeOK m ∧ (m.kids = [] → 0 ≤ m.value)

/-- the root node of an `InstanceNameTrie` (it may be a value-less leaf: the empty trie). -/
def WFRoot (n : Node) : Prop := NodeOK n ∧ ∀ c ch, n.child? c = some ch → WFSub ch

theorem wfSub_iff (n : Node) :
    WFSub n ↔ NodeOK n ∧ (n.kids = [] → 0 ≤ n.value) ∧ ∀ c ch, n.child? c = some ch → WFSub ch := by
  constructor
  · intro h
    refine ⟨(h [] n rfl).1, (h [] n rfl).2, fun c ch hc p m hm => h (c :: p) m ?_⟩
    rw [at?_cons, hc]; exact hm
  · rintro ⟨h1, h2, h3⟩ p m hm
    cases p with
    | nil => cases hm; exact ⟨h1, h2⟩
    | cons c cs =>
      rw [at?_cons] at hm
      cases hc : n.child? c with
      | none => rw [hc] at hm; cases hm
      | some ch => rw [hc] at hm; exact h3 c ch hc cs m hm

theorem WFSub.toRoot {n : Node} (h : WFSub n) : WFRoot n :=
  ⟨((wfSub_iff n).1 h).1, ((wfSub_iff n).1 h).2.2⟩

theorem WFSub.at {n m : Node} {p : List Comp} (h : WFSub n) (hm : at? n p = some m) : WFSub m := by
  intro q x hx
  apply h (p ++ q) x
  rw [at?_append, hm]; exact hx

theorem WFRoot.sub_at {n m : Node} {p : List Comp} (h : WFRoot n) (hp : p ≠ [])
    (hm : at? n p = some m) : WFSub m := by
  cases p with
  | nil => exact absurd rfl hp
  | cons c cs =>
    rw [at?_cons] at hm
    cases hc : n.child? c with
    | none => rw [hc] at hm; cases hm
    | some ch => rw [hc] at hm; exact (h.2 c ch hc).at hm

theorem wfRoot_empty : WFRoot Node.empty :=
  ⟨⟨Int.le_refl _, List.nodup_nil⟩, nofun⟩

/-- storing a subtree under `c` (what `Set` and the write-back of `Remove` do to a node). -/
theorem WFRoot.put {n y : Node} (h : WFRoot n) (hy : WFSub y) (c : Comp) :
    WFSub (.mk n.value (aput c y n.kids)) := by
  rw [wfSub_iff]
  refine ⟨⟨h.1.1, nodup_keys_aput h.1.2⟩, fun hk => absurd hk (aput_ne_nil _ _ _), fun d x hd => ?_⟩
  rw [child?_mk, aget_aput] at hd
  split at hd
  · cases hd; exact hy
  · exact h.2 d x hd

/-- `delete(n.children, c)`. -/
theorem WFRoot.del {n : Node} (h : WFRoot n) (c : Comp) : WFRoot (.mk n.value (adel c n.kids)) := by
  refine ⟨⟨h.1.1, nodup_keys_adel h.1.2⟩, fun d y hd => ?_⟩
  rw [child?_mk, aget_adel] at hd
  split at hd
  · cases hd
  · exact h.2 d y hd

theorem WFRoot.val_ge {n : Node} (h : WFRoot n) (q : List Comp) : -1 ≤ val n q := by
  unfold val
  cases q with
  | nil => exact h.1.1
  | cons c cs =>
    cases hm : at? n (c :: cs) with
    | none => exact Int.le_refl _
    | some m => exact ((h.sub_at (List.cons_ne_nil c cs) hm) [] m rfl).1.1

/-- an empty trie (what `Remove` reports by its flag) stores nothing. -/
theorem val_eq_neg_one {r : Node} (h : WFRoot r) (he : r.value < 0 ∧ r.kids = []) (q : List Comp) :
    val r q = -1 := by
  cases q with
  | nil => exact Int.le_antisymm (Int.le_sub_one_of_lt he.1) h.1.1
  | cons c cs => exact val_of_kids_nil he.2 c cs

theorem WFSub.val_ge {n : Node} (h : WFSub n) (q : List Comp) : -1 ≤ val n q := h.toRoot.val_ge q

theorem getExactLoop_eq {n : Node} (h : ∀ c ch, n.child? c = some ch → WFSub ch) (c : Comp)
    (cs : List Comp) : getExactLoop n c cs = val n (c :: cs) := by
  induction cs generalizing n c with
  | nil =>
    rw [getExactLoop, val_cons]
    cases hc : n.child? c with
    | none => rfl
    | some f =>
      show (if f.value ≥ 0 then f.value else -1) = f.value
      by_cases h0 : f.value ≥ 0
      · exact if_pos h0
      · exact (if_neg h0).trans (Int.le_antisymm ((h c f hc).val_ge []) (Int.le_sub_one_of_lt (Int.not_le.1 h0)))
  | cons d ds ih =>
    rw [getExactLoop, val_cons]
    cases hc : n.child? c with
    | none => rfl
    | some nx => exact ih (h c nx hc).toRoot.2 d

theorem getExact_eq {root : Node} (h : WFRoot root) (p : List Comp) : root.getExact p = val root p := by
  cases p with
  | nil => rfl
  | cons c cs => exact getExactLoop_eq h.2 c cs

theorem val_setPath (n : Node) (p : List Comp) (v : Int) (q : List Comp) :
    val (setPath n p v) q = if q = p then v else val n q := by
  induction p generalizing n q with
  | nil =>
    cases q with
    | nil => rfl
    | cons d ds => rfl
  | cons c cs ih =>
    cases q with
    | nil => rfl
    | cons d ds =>
      rw [setPath, val_cons, child?_mk]
      by_cases hd : d = c
      · subst hd
        rw [aget_aput_self]
        show val (setPath _ cs v) ds = _
        rw [ih, val_getD_empty, val_cons]
        simp only [List.cons.injEq, true_and]
      · rw [aget_aput_ne hd, if_neg (fun e => hd (List.cons.inj e).1), val_cons]; rfl

theorem wfSub_setPath {n : Node} (h : WFRoot n) (p : List Comp) {v : Int} (hv : 0 ≤ v) :
    WFSub (setPath n p v) := by
  induction p generalizing n with
  | nil => exact (wfSub_iff _).2 ⟨⟨Int.le_trans (by decide) hv, h.1.2⟩, fun _ => hv, h.2⟩
  | cons c cs ih =>
    refine h.put (ih ?_) c
    cases hc : n.child? c with
    | none => exact wfRoot_empty
    | some x => exact (h.2 c x hc).toRoot

theorem setPath_nonempty (n : Node) (p : List Comp) {v : Int} (hv : 0 ≤ v) :
    ¬ ((setPath n p v).value < 0 ∧ (setPath n p v).kids = []) := by
  cases p with
  | nil => exact fun h => absurd h.1 (Int.not_lt.2 hv)
  | cons c cs => exact fun h => aput_ne_nil _ _ _ h.2

/-- longest prefix relative to a node, walking down (an intermediate characterisation). -/
def lpRel : Node → List Comp → Int
  | n, [] => n.value
  | n, c :: cs =>
    match n.child? c with
    | none => n.value
    | some ch => let r := lpRel ch cs; if r ≥ 0 then r else n.value

theorem lpRel_nil (n : Node) : lpRel n [] = n.value := rfl
theorem lpRel_cons (n : Node) (c : Comp) (cs : List Comp) :
    lpRel n (c :: cs) = match n.child? c with
      | none => n.value
      | some ch => if lpRel ch cs ≥ 0 then lpRel ch cs else n.value := rfl

theorem glpLoop_eq (n : Node) (c : Comp) (cs : List Comp) (last : Int) :
    glpLoop n c cs last =
      (match n.child? c with
       | none => last
       | some ch => if lpRel ch cs ≥ 0 then lpRel ch cs else last) := by
  induction cs generalizing n c last with
  | nil =>
    rw [glpLoop]
    cases n.child? c <;> rfl
  | cons d ds ih =>
    rw [glpLoop]
    cases n.child? c with
    | none => rfl
    | some nx =>
      show glpLoop nx d ds _ = if lpRel nx (d :: ds) ≥ 0 then lpRel nx (d :: ds) else last
      rw [ih, lpRel_cons]
      cases nx.child? d with
      | none => rfl
      | some ch =>
        show (if lpRel ch ds ≥ 0 then _ else _) = if (if lpRel ch ds ≥ 0 then _ else _) ≥ 0 then _ else _
        by_cases h1 : lpRel ch ds ≥ 0
        · simp only [if_pos h1]
        · simp only [if_neg h1]

theorem getLongestPrefix_eq_lpRel (root : Node) (p : List Comp) :
    root.getLongestPrefix p = lpRel root p := by
  cases p with
  | nil => rfl
  | cons c cs => exact (glpLoop_eq root c cs root.value).trans (lpRel_cons root c cs).symm

open BbRe.Lemmas.TrieLongest

theorem getLongestPrefix_eq (root : Node) (p : List Comp) :
    root.getLongestPrefix p = lp (val root) p := by
  rw [getLongestPrefix_eq_lpRel]
  induction p generalizing root with
  | nil => rfl
  | cons c cs ih =>
    rw [lpRel_cons, lp_cons]
    cases hc : root.child? c with
    | none =>
      have : lp (fun q => val root (c :: q)) cs < 0 :=
        (lp_neg_iff _ _).2 fun q _ => by rw [val_cons_none hc]; decide
      exact (if_neg (Int.not_le.2 this)).symm
    | some ch => rw [funext (val_cons_some hc), ← ih]; rfl

end BbRe.Lemmas.TrieNode
