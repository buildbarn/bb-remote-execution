import BbRe.Lemmas.SchedLiveWorker7
import BbRe.Lemmas.SchedLiveWake
import BbRe.Lemmas.SchedLiveResp
/-!
Wake-up invariant of blocked `TerminateWorkers` calls (C02 `no_lost_wakeup`):
each captured `(task, generation)` pair is not ahead of the task's generation,
and as soon as the task is no longer executing (no worker, or completed) the
generation has moved on — the captured channel is closed.
-/
namespace BbRe.Lemmas.SchedLive
open BbRe.Sched

def TermInv (s : State) : Prop :=
  ∀ tc ∈ s.terms, ∀ tg ∈ tc.waits, tg.1 < s.nextTask ∧
    ∀ tk, s.task? tg.1 = some tk → tg.2 ≤ tk.gen ∧ ((tk.worker = none ∨ tk.response.isSome = true) → tg.2 < tk.gen)

theorem SPrim.terms {a b : State} (p : SPrim a b) : b.terms = a.terms := by
  cases p with
  | int p => exact p.frame.terms
  | newTask _ _ _ _ _ _ _ _ h3 => rw [(schedule_frame h3).terms, newTaskS_terms]
  | _ => simp [attachS]

/-- which segments touch the list of blocked `TerminateWorkers` calls -/
theorem step_terms {s s' : State} {g : Seg} (hstep : step s g = .ok s') :
    s'.terms = s.terms ∨
    (∃ h now id p s1, g = .terminate h now id p ∧ enter h s now = .ok s1 ∧ s'.tasks = s1.tasks ∧
      s'.nextTask = s1.nextTask ∧
      s'.terms = ⟨id, termWaits ((s1.workers.filter (fun w => p.matches w.id)).foldl termMark s1)
        (s1.workers.filter (fun w => p.matches w.id))⟩ :: s.terms) ∨
    (∃ id reason, g = .termWake id reason ∧ s'.terms = s.terms.filter (fun t => t.id ≠ id)) := by
  cases g with
  | exec | wait | streamWake =>
    exact .inl ((step_path hstep).rel (fun a b => b.terms = a.terms) (fun _ => rfl) (fun h1 h2 => h2.trans h1) SPrim.terms)
  | terminate h now id p =>
    obtain ⟨s1, h1, h2⟩ := terminate_ok hstep
    simp only at h2
    have e := (foldl_frame termMark termMark_frame (s1.workers.filter (fun w => p.matches w.id)) s1).terms
    rcases h2 with ⟨_, rfl⟩ | ⟨_, rfl⟩
    · left; show ((s1.workers.filter (fun w => p.matches w.id)).foldl termMark s1).terms = s.terms
      rw [e]; exact (enter_frame h1).terms
    · right; left
      obtain ⟨f1, _, f3, _⟩ := foldl_same termMark termMark_same (s1.workers.filter (fun w => p.matches w.id)) s1
      refine ⟨h, now, id, p, s1, rfl, h1, f1, f3, ?_⟩
      simp only [addTerm_terms, e, (enter_frame h1).terms]
  | termWake id reason =>
    right; right
    obtain ⟨tc, _, ⟨_, rfl⟩ | ⟨_, _, rfl⟩⟩ := termWake_ok hstep <;> exact ⟨id, reason, rfl, rfl⟩
  | _ => exact .inl ((step_sframe hstep rfl).2 rfl).terms

theorem termInv_step {s s' : State} {g : Seg} (hkw : KW s) (hi : TermInv s) (hstep : step s g = .ok s') :
    TermInv s' := by
  obtain ⟨hk', rel⟩ := step_tstep hstep hkw.1
  -- a pair that was fine before is fine after (generations only grow, and grow on every change)
  have old : ∀ tg : Nat × Nat, (tg.1 < s.nextTask ∧ ∀ tk, s.task? tg.1 = some tk → tg.2 ≤ tk.gen ∧
        ((tk.worker = none ∨ tk.response.isSome = true) → tg.2 < tk.gen)) →
      (tg.1 < s'.nextTask ∧ ∀ tk, s'.task? tg.1 = some tk → tg.2 ≤ tk.gen ∧
        ((tk.worker = none ∨ tk.response.isSome = true) → tg.2 < tk.gen)) := by
    intro tg ⟨hlt, hold⟩
    refine ⟨Nat.lt_of_lt_of_le hlt rel.nt, ?_⟩
    intro tk' e'
    obtain ⟨tk, e, le⟩ := rel.tasks _ _ hlt e'
    obtain ⟨a, b⟩ := hold tk e
    have := le.gen
    refine ⟨by omega, ?_⟩
    intro hcond
    by_cases hsame : tk'.worker = tk.worker ∧ tk'.response = tk.response
    · have := b (by rw [← hsame.1, ← hsame.2]; exact hcond); omega
    · have := le.bump (by
        by_cases h1 : tk'.worker = tk.worker
        · exact .inr (fun h2 => hsame ⟨h1, h2⟩)
        · exact .inl h1)
      omega
  rcases step_terms hstep with e | ⟨h, now, id, p, s1, rfl, h1, et, ent, e⟩ | ⟨id, reason, _, e⟩
  · intro tc htc tg htg; rw [e] at htc; exact old tg (hi tc htc tg htg)
  · intro tc htc tg htg
    rw [e] at htc
    rcases List.mem_cons.1 htc with rfl | htc
    · -- freshly captured pairs
      obtain ⟨hk1, hw1⟩ := enter_kw h1 hkw
      obtain ⟨f1, _, f3, _⟩ := foldl_same termMark termMark_same (s1.workers.filter (fun w => p.matches w.id)) s1
      simp only [termWaits, List.mem_filterMap] at htg
      obtain ⟨wk, hwm, hcap⟩ := htg
      have hm : wk ∈ s1.workers := (List.mem_filter.1 hwm).1
      cases htk : wk.task with
      | none => simp [htk] at hcap
      | some t =>
        simp only [htk] at hcap
        have hlk : ((s1.workers.filter (fun w => p.matches w.id)).foldl termMark s1).task? t = s1.task? t := by
          simp [State.task?, f1]
        rw [hlk] at hcap
        cases hts : s1.task? t with
        | none => simp [hts] at hcap
        | some tk =>
          simp only [hts, Option.some.injEq] at hcap
          subst hcap
          obtain ⟨plt, pptr⟩ := (hw1.ok wk hm).ptr t htk
          obtain ⟨pw, pr⟩ := pptr tk hts
          refine ⟨by rw [ent]; exact plt, ?_⟩
          intro tk' e'
          simp only [State.task?, et] at e'
          have hts' : alookup t s1.tasks = some tk := hts
          rw [hts'] at e'; injection e' with e'; subst e'
          refine ⟨Nat.le_refl _, ?_⟩
          rintro (h' | h')
          · rw [pw] at h'; cases h'
          · rw [pr] at h'; cases h'
    · exact old tg (hi tc htc tg htg)
  · intro tc htc tg htg
    rw [e] at htc
    exact old tg (hi tc (List.mem_filter.1 htc).1 tg htg)

theorem termInv_reachable {s : State} (hs : Reachable s) : TermInv s := by
  induction hs with
  | init cfg => intro tc htc; simp [State.init] at htc
  | step g hr hstep ih => exact termInv_step (kw_reachable hr) ih hstep

end BbRe.Lemmas.SchedLive
