import BbRe.Lemmas.DirPosix
import BbRe.Lemmas.DirFuel
/-!
`refines_posix` for the bulk calls: the work-list removal `removeTree` tombstones
exactly the directories that are reachable from the work list (`destroy` of
`Spec/Posix.lean`), hence `RemoveAll`, `RemoveAllChildren`, `CreateChildren`
(with overwrite) and `CreateAndEnterPrepopulatedDirectory` commute with `abs`.  At the end
`refines_step_all`, the refinement over all operations (with the per-operation lemmas of
`DirPosix.lean`), and `listing_entries_abs` for the listing calls.
-/
namespace BbRe.Lemmas.Dir
open BbRe.Dir
open BbRe.Spec.Posix (SDir FS tombstone emptied)

def MEdge (s : Store) (a b : Nat) : Prop := Child.dir b ∈ (s.dir a).entries.map (fun e => e.child)

inductive MReach (s : Store) : Nat → Nat → Prop
  | refl (a : Nat) : MReach s a a
  | step {a b c : Nat} : MEdge s a b → MReach s b c → MReach s a c

theorem mem_dirChildren {es : List Entry} {b : Nat} :
    b ∈ dirChildren es ↔ Child.dir b ∈ es.map (fun e => e.child) := by
  induction es with
  | nil => simp [dirChildren]
  | cons e rest ih =>
    unfold dirChildren
    cases hc : e.child with
    | dir c => simp [hc, ih]
    | leaf l => simp [hc, ih]

theorem dir_entries_of_ge (s : Store) (d : Nat) (h : s.dirs.length ≤ d) : (s.dir d).entries = [] := by
  rw [dir_default s d h]; rfl

theorem medge_clearDir (s : Store) (d : Nat) (del : Bool) (a b : Nat) :
    MEdge (clearDir s d del) a b ↔ a ≠ d ∧ MEdge s a b := by
  unfold MEdge
  by_cases had : a = d
  · subst had
    have : ((clearDir s a del).dir a).entries = [] := by
      by_cases hd : a < s.dirs.length
      · rw [dir_clearDir_self s a del hd]; rfl
      · exact dir_entries_of_ge _ a (by rw [clearDir_dirs_length]; omega)
    simp [this]
  · rw [clearDir_dir_ne s d a del (fun e => had e.symm)]
    simp [had]

theorem MReach.mono {s s' : Store} (h : ∀ a b, MEdge s' a b → MEdge s a b) {a c : Nat} (hr : MReach s' a c) :
    MReach s a c := by
  induction hr with
  | refl a => exact MReach.refl a
  | step he _ ih => exact MReach.step (h _ _ he) ih

theorem MReach.snoc {s : Store} {a b c : Nat} (h1 : MReach s a b) (h2 : MEdge s b c) : MReach s a c := by
  induction h1 with
  | refl a => exact MReach.step h2 (MReach.refl c)
  | step he _ ih => exact MReach.step he (ih h2)

theorem mreach_split (s : Store) (d : Nat) (del : Bool) {a i : Nat} (hr : MReach s a i) (hi : i ≠ d) :
    MReach (clearDir s d del) a i ∨ ∃ k, MEdge s d k ∧ MReach (clearDir s d del) k i := by
  induction hr with
  | refl a => exact Or.inl (MReach.refl a)
  | @step a b c hab _ ih =>
    rcases ih hi with h | h
    · by_cases had : a = d
      · subst had; exact Or.inr ⟨b, hab, h⟩
      · exact Or.inl (MReach.step ((medge_clearDir s d del a b).mpr ⟨had, hab⟩) h)
    · exact Or.inr h

theorem mreach_cleared (s : Store) (d : Nat) (del : Bool) {i : Nat} (hr : MReach (clearDir s d del) d i) : i = d := by
  cases hr with
  | refl => rfl
  | step he _ => exact absurd rfl ((medge_clearDir s d del d _).mp he).1

/-- The directories reachable from the work list, before and after one step of `removeTree`. -/
theorem reach_step (s : Store) (d : Nat) (rest : List Nat) (i : Nat) (hi : i ≠ d) :
    (∃ r ∈ dirChildren (s.dir d).entries ++ rest, MReach (clearDir s d true) r i) ↔
      (∃ r ∈ d :: rest, MReach s r i) := by
  have hmono : ∀ a b, MEdge (clearDir s d true) a b → MEdge s a b := fun a b h => ((medge_clearDir s d true a b).mp h).2
  constructor
  · rintro ⟨r, hr, hri⟩
    rcases List.mem_append.mp hr with h | h
    · exact ⟨d, by simp, MReach.step (mem_dirChildren.mp h) (hri.mono hmono)⟩
    · exact ⟨r, by simp [h], hri.mono hmono⟩
  · rintro ⟨r, hr, hri⟩
    rcases mreach_split s d true hri hi with h | ⟨k, hk, hki⟩
    · rcases List.mem_cons.mp hr with hrd | hrr
      · subst hrd; exact absurd (mreach_cleared s r true h) hi
      · exact ⟨r, List.mem_append.mpr (Or.inr hrr), h⟩
    · exact ⟨k, List.mem_append.mpr (Or.inl (mem_dirChildren.mpr hk)), hki⟩

/-! ### what `removeTree` does to each directory -/

theorem tombstone_idem (x : SDir) : tombstone (tombstone x) = tombstone x := rfl

theorem absDir_cleared (x : Dir) (del : Bool) : absDir (clearedDir x del) = emptied del (absDir x) := rfl

open Classical in
theorem removeTree_absDir : ∀ (fuel : Nat) (s : Store) (stack : List Nat), totalEntries s + stack.length ≤ fuel →
    ∀ i, absDir ((removeTree fuel s stack).dir i) =
      if i < s.dirs.length ∧ ∃ r ∈ stack, MReach s r i then tombstone (absDir (s.dir i)) else absDir (s.dir i)
  | fuel, s, [], _, i => by
    have : removeTree fuel s [] = s := by cases fuel <;> rfl
    simp [this]
  | 0, s, d :: rest, h, i => by simp at h
  | fuel + 1, s, d :: rest, h, i => by
    simp only [removeTree]
    have hm : totalEntries (clearDir s d true) + (dirChildren (s.dir d).entries ++ rest).length ≤ fuel := by
      have e1 := totalEntries_clearDir s d true
      have e2 := length_dirChildren_le (s.dir d).entries
      simp only [List.length_append, List.length_cons] at h ⊢
      omega
    have ih := removeTree_absDir fuel (clearDir s d true) (dirChildren (s.dir d).entries ++ rest) hm i
    rw [ih, clearDir_dirs_length]
    by_cases hlt : i < s.dirs.length
    · by_cases hid : i = d
      · subst hid
        rw [dir_clearDir_self s i true hlt, absDir_cleared, emptied_true]
        have hc : i < s.dirs.length ∧ ∃ r ∈ i :: rest, MReach s r i := ⟨hlt, i, by simp, MReach.refl i⟩
        rw [if_pos hc]
        split <;> rfl
      · rw [clearDir_dir_ne s d i true (fun e => hid e.symm)]
        have := reach_step s d rest i hid
        by_cases hc : ∃ r ∈ d :: rest, MReach s r i
        · rw [if_pos ⟨hlt, this.mpr hc⟩, if_pos ⟨hlt, hc⟩]
        · rw [if_neg (fun hh => hc (this.mp hh.2)), if_neg (fun hh => hc hh.2)]
    · have e1 : (clearDir s d true).dir i = s.dir i := by
        rw [dir_default _ i (by rw [clearDir_dirs_length]; omega), dir_default s i (by omega)]
      rw [if_neg (fun hh => hlt hh.1), if_neg (fun hh => hlt hh.1), e1]

/-! ### lifting to the reference hierarchy -/

theorem edge_iff {P : Params} {s : Store} (hok : ∀ a, DirOK P (s.dir a)) (a b : Nat) :
    BbRe.Spec.Posix.edge (abs s) a b ↔ MEdge s a b := by
  simp only [BbRe.Spec.Posix.edge, MEdge, abs_dir, absDir_entries_iff (hok a), List.mem_map]
  exact ⟨fun ⟨_, _, e, he, _, _, hc⟩ => ⟨e, he, hc⟩, fun ⟨e, he, hc⟩ => ⟨e.norm, e.name, e, he, rfl, rfl, hc⟩⟩

theorem reach_iff {P : Params} {s : Store} (hok : ∀ a, DirOK P (s.dir a)) (a c : Nat) :
    BbRe.Spec.Posix.Reach (abs s) a c ↔ MReach s a c := by
  constructor
  · intro h
    induction h with
    | refl a => exact MReach.refl a
    | step he _ ih => exact MReach.step ((edge_iff hok _ _).mp he) ih
  · intro h
    induction h with
    | refl a => exact BbRe.Spec.Posix.Reach.refl a
    | step he _ ih => exact BbRe.Spec.Posix.Reach.step ((edge_iff hok _ _).mpr he) ih

/-- Everything of the abstraction except the directories. -/
def SameRest (f g : FS) : Prop :=
  f.kinds = g.kinds ∧ f.tmpls = g.tmpls ∧ f.fetchFail = g.fetchFail ∧ f.allocFail = g.allocFail ∧ f.dirs.length = g.dirs.length

theorem sameRest_removeTree (fuel : Nat) (s : Store) (stack : List Nat) : SameRest (abs (removeTree fuel s stack)) (abs s) :=
  removeTree_keeps (Φ := fun t => SameRest (abs t) (abs s))
    (fun t d ⟨h1, h2, h3, h4, h5⟩ => by
      rw [abs_clearDir]; exact ⟨h1, h2, h3, h4, by simpa [FS.modDir] using h5⟩)
    fuel s stack ⟨rfl, rfl, rfl, rfl, rfl⟩

theorem FS.ext' {f g : FS} (hd : f.dirs = g.dirs) (hr : SameRest f g) : f = g := by
  cases f; cases g
  obtain ⟨h1, h2, h3, h4, _⟩ := hr
  simp at hd h1 h2 h3 h4
  subst hd h1 h2 h3 h4
  rfl

open Classical in
/-- `removeTree` with enough fuel is the declarative `destroy`. -/
theorem abs_removeTree {P : Params} (s : Store) (hok : ∀ a, DirOK P (s.dir a)) (stack : List Nat) (fuel : Nat)
    (hf : totalEntries s + stack.length ≤ fuel) :
    abs (removeTree fuel s stack) = BbRe.Spec.Posix.destroy (abs s) (fun r => r ∈ stack) := by
  have hr := sameRest_removeTree fuel s stack
  apply FS.ext'
  · apply List.ext_getElem?
    intro i
    unfold BbRe.Spec.Posix.destroy
    simp only [List.getElem?_mapIdx]
    have hl : (abs (removeTree fuel s stack)).dirs.length = s.dirs.length := by rw [hr.2.2.2.2, abs_dirs_length]
    by_cases hi : i < s.dirs.length
    · have e1 : (abs (removeTree fuel s stack)).dirs[i]? = some ((abs (removeTree fuel s stack)).dir i) := by
        unfold FS.dir; rw [List.getElem?_eq_getElem (by omega)]; rfl
      have e2 : (abs s).dirs[i]? = some ((abs s).dir i) := by
        unfold FS.dir; rw [List.getElem?_eq_getElem (by rw [abs_dirs_length]; exact hi)]; rfl
      rw [e1, e2, abs_dir, abs_dir, removeTree_absDir fuel s stack hf i]
      simp only [Option.map_some]
      congr 1
      by_cases hc : ∃ r ∈ stack, MReach s r i
      · have hc' : ∃ r, r ∈ stack ∧ BbRe.Spec.Posix.Reach (abs s) r i := by
          obtain ⟨r, h1, h2⟩ := hc; exact ⟨r, h1, (reach_iff hok r i).mpr h2⟩
        rw [if_pos ⟨hi, hc⟩, if_pos hc']
      · have hc' : ¬ ∃ r, r ∈ stack ∧ BbRe.Spec.Posix.Reach (abs s) r i := by
          rintro ⟨r, h1, h2⟩; exact hc ⟨r, h1, (reach_iff hok r i).mp h2⟩
        rw [if_neg (fun hh => hc hh.2), if_neg hc']
    · rw [List.getElem?_eq_none_iff.mpr (by omega), List.getElem?_eq_none_iff.mpr (by rw [abs_dirs_length]; omega)]
      rfl
  · unfold BbRe.Spec.Posix.destroy
    exact ⟨hr.1, hr.2.1, hr.2.2.1, hr.2.2.2.1, by simp [hr.2.2.2.2]⟩

theorem destroy_congr (f : FS) (R R' : Nat → Prop) (h : ∀ r, R r ↔ R' r) :
    BbRe.Spec.Posix.destroy f R = BbRe.Spec.Posix.destroy f R' := by
  have : R = R' := funext (fun r => propext (h r))
  rw [this]

theorem removeTree_nil (fuel : Nat) (s : Store) : removeTree fuel s [] = s := by cases fuel <;> rfl

theorem createAndEnter_refines (P : Params) (s : Store) (d name : Nat) (hd : d < s.dirs.length) :
    BbRe.Spec.Posix.createAndEnter P.normalize (abs s) d name =
      (abs (createAndEnter P s d name).1, (createAndEnter P s d name).2.status, (createAndEnter P s d name).2.child) := by
  unfold BbRe.Spec.Posix.createAndEnter createAndEnter
  refine refines_bind fun s1 hm => ?_
  have hd1 : d < s1.dirs.length := by have := materialize_len hm; omega
  dsimp only
  rw [abs_dir, absDir_entries]
  cases hf : (s1.dir d).find? (P.normalize name) with
  | some e =>
    simp only [Option.map]
    cases hc : e.child with
    | dir c => rfl
    | leaf l =>
      simp only []
      rw [absDir_fs, abs_dirs_length]
      have hlen : ((s1.modDir d (fun x => x.detach (P.normalize name))).unlink l).dirs.length = s1.dirs.length := by simp
      have hdir : ((((s1.modDir d (fun x => x.detach (P.normalize name))).unlink l).pushDir (newDirOf (s1.dir d))).dir d) =
          (s1.dir d).detach (P.normalize name) := by
        rw [dir_pushDir_lt _ _ d (by rw [hlen]; exact hd1)]
        simp [dir_modDir_self s1 d _ hd1]
      rw [abs_attach _ d _ _ _ (by rw [hdir]; exact find?_detach_self _ _), abs_pushDir, abs_unlink, abs_detach]
      rfl
  | none =>
    simp only [Option.map]
    rw [absDir_removed]
    by_cases hdel : (s1.dir d).deleted = true
    · rw [if_pos hdel, if_pos hdel]; rfl
    · rw [if_neg hdel, if_neg hdel]
      simp only []
      rw [absDir_fs, abs_dirs_length]
      have hdir : (s1.pushDir (newDirOf (s1.dir d))).dir d = s1.dir d := dir_pushDir_lt s1 _ d hd1
      rw [abs_attach _ d _ _ _ (by rw [hdir]; exact hf), abs_pushDir]
      rfl

theorem removeAll_refines (P : Params) (s : Store) (d name : Nat) (h : Inv P s) (hd : d < s.dirs.length) :
    BbRe.Spec.Posix.removeAll P.normalize (abs s) d name =
      (abs (removeAll P s d name).1, (removeAll P s d name).2.status, (removeAll P s d name).2.child) := by
  unfold BbRe.Spec.Posix.removeAll removeAll
  refine refines_bind fun s1 hm => ?_
  have r := materialize_ok h hm
  have hd1 : d < s1.dirs.length := r.hd hd
  dsimp only
  rw [abs_dir, absDir_entries]
  cases hf : (s1.dir d).find? (P.normalize name) with
  | none => rfl
  | some e =>
    simp only [Option.map]
    have h4 := r.inv.detach d hd1 _ e hf
    have habs : abs (s1.modDir d (fun x => x.detach (P.normalize name))) =
        (abs s1).modDir d (fun x => x.del (P.normalize name)) := abs_detach _ _ _
    cases hc : e.child with
    | leaf l =>
      simp only [postRemove, unlinkLeaves, dirChildren, hc, removeTree_nil]
      rw [abs_unlink, habs]; rfl
    | dir c =>
      simp only [postRemove, unlinkLeaves, dirChildren, hc]
      rw [abs_removeTree (P := P) _ (fun a => h4.dirOK a) [c] _ (by unfold removeFuel; omega), habs]
      rw [destroy_congr _ (fun r => r ∈ [c]) (fun r => r = c) (by intro r; simp)]
      rfl

theorem removeAllChildren_refines (P : Params) (s : Store) (d : Nat) (b : Bool) (h : Inv P s) :
    BbRe.Spec.Posix.removeAllChildren (abs s) d b =
      (abs (removeAllChildren s d b).1, (removeAllChildren s d b).2.status, (removeAllChildren s d b).2.child) := by
  unfold BbRe.Spec.Posix.removeAllChildren removeAllChildren
  have h1 := h.clearDir d b
  simp only []
  rw [abs_removeTree (P := P) _ (fun a => h1.dirOK a) _ _ (by unfold removeFuel; omega), abs_clearDir]
  rw [destroy_congr _ (fun r => r ∈ dirChildren (s.dir d).entries) (fun c => BbRe.Spec.Posix.edge (abs s) d c) (by
    intro r
    rw [edge_iff (fun a => h.dirOK a), mem_dirChildren]
    rfl)]
  rfl

theorem find?_filter_not (es : List Entry) (norms : List Nat) (n : Nat) :
    (es.filter (fun e => !norms.contains e.norm)).find? (fun e => e.norm == n) =
      if norms.contains n then none else es.find? (fun e => e.norm == n) := by
  have hp : ∀ e : Entry, ((!norms.contains e.norm) && e.norm == n) = (!norms.contains n && e.norm == n) := by
    intro e
    by_cases he : e.norm = n
    · rw [he]
    · rw [beq_false_of_ne he, Bool.and_false, Bool.and_false]
  simp only [List.find?_filter, Bool.decide_and, Bool.decide_eq_true, hp]
  cases norms.contains n
  · simp
  · simp

theorem absDir_overwrite (x : Dir) (norms : List Nat) (k : Nat) :
    absDir { x with entries := x.entries.filter (fun e => !norms.contains e.norm), changeID := x.changeID + k } =
      { absDir x with entries := fun n => if norms.contains n then none else (absDir x).entries n } := by
  unfold absDir
  simp only []
  congr 1
  funext n
  unfold Dir.find?
  simp only []
  rw [find?_filter_not]
  by_cases hc : n ∈ norms <;> simp [hc]

theorem any_exists_iff {P : Params} {x : Dir} (hx : DirOK P x) (norms : List Nat) :
    (x.entries.any (fun e => norms.contains e.norm) = true) ↔
      ∃ n, norms.contains n = true ∧ ((absDir x).entries n).isSome = true := by
  simp only [List.any_eq_true, Option.isSome_iff_exists, Prod.exists, absDir_entries_iff hx]
  exact ⟨fun ⟨e, he, hn⟩ => ⟨e.norm, hn, e.name, e.child, e, he, rfl, rfl, rfl⟩,
    fun ⟨_, hn, _, _, e, he, hen, _, _⟩ => ⟨e, he, hen ▸ hn⟩⟩

theorem victims_iff {P : Params} {x : Dir} (hx : DirOK P x) (norms : List Nat) (c : Nat) :
    c ∈ dirChildren (x.entries.filter (fun e => norms.contains e.norm)) ↔
      ∃ n name, norms.contains n = true ∧ (absDir x).entries n = some (name, Child.dir c) := by
  simp only [mem_dirChildren, List.mem_map, List.mem_filter, absDir_entries_iff hx]
  exact ⟨fun ⟨e, ⟨he, hn⟩, hc⟩ => ⟨e.norm, e.name, hn, e, he, rfl, rfl, hc⟩,
    fun ⟨_, _, hn, e, he, hen, _, hc⟩ => ⟨e, ⟨he, hen ▸ hn⟩, hc⟩⟩

theorem createChildren_refines (P : Params) (s : Store) (d : Nat) (ow : Bool) (cs : List (Nat × TChild)) (h : Inv P s)
    (hd : d < s.dirs.length) (hcs : ∀ c ∈ cs, ∀ l, c.2 = TChild.leaf l → l < s.leaves.length) :
    BbRe.Spec.Posix.createChildren P.normalize (abs s) d ow cs =
      (abs (createChildren P s d ow cs).1, (createChildren P s d ow cs).2.status, (createChildren P s d ow cs).2.child) := by
  unfold BbRe.Spec.Posix.createChildren createChildren
  refine refines_bind fun s1 hm => ?_
  have r := materialize_ok h hm
  have hd1 : d < s1.dirs.length := r.hd hd
  have hcs1 : ∀ c ∈ sortChildren cs, ∀ l, c.2 = TChild.leaf l → l < s1.leaves.length := by
    intro c hc l hl
    rw [r.leaves]; exact hcs c (mem_sortChildren hc) l hl
  dsimp only
  generalize cs.map (fun c => P.normalize c.1) = norms
  rw [abs_dir]
  rw [absDir_removed]
  by_cases hdel : (s1.dir d).deleted = true
  · rw [if_pos hdel, if_pos hdel]; rfl
  · rw [if_neg hdel, if_neg hdel]
    cases ow with
    | true =>
      simp only [if_true]
      -- the entries in the way are detached ...
      have hq : (fun e : Entry => !(fun e : Entry => !norms.contains e.norm) e) =
          (fun e => norms.contains e.norm) := funext fun e => Bool.not_not _
      have h2 := r.inv.detachMany d hd1 (fun e => !norms.contains e.norm)
        ((s1.dir d).entries.filter (fun e => norms.contains e.norm)).length
      rw [hq] at h2
      have habs2 := abs_setDir s1 d _
        (fun x : SDir => { x with entries := fun n => if norms.contains n then none else x.entries n })
        (absDir_overwrite (s1.dir d) norms
        ((s1.dir d).entries.filter (fun e => norms.contains e.norm)).length)
      have hd2 : d < (s1.setDir d { s1.dir d with
          entries := (s1.dir d).entries.filter (fun e => !norms.contains e.norm),
          changeID := (s1.dir d).changeID +
            ((s1.dir d).entries.filter (fun e => norms.contains e.norm)).length }).dirs.length := by
        rw [dirs_setDir, List.length_set]; exact hd1
      rw [← habs2, abs_attachInitial P d _ _ hd2]
      cases ha : attachInitial P d (sortChildren cs) _ with
      | none => rfl
      | some s3 =>
        simp only [Option.map]
        have r3 := attachInitial_ok (sortChildren cs) _ s3 h2 hd2
          (by rw [dir_setDir_self s1 d _ hd1]; exact r.lazy) hcs1 ha
        have h3 := InvF.unlinkFloating _ r3.inv
        unfold postRemove
        rw [abs_removeTree (P := P) _ (fun a => h3.dirOK a) _ _ (by unfold removeFuel; omega), abs_unlinkLeaves]
        rw [destroy_congr _ _ _ (fun c => victims_iff (r.inv.dirOK d) norms c)]
        rfl
    | false =>
      simp only [Bool.false_eq_true, if_false]
      have hany := any_exists_iff (r.inv.dirOK d) norms
      by_cases hex : ((s1.dir d).entries.any (fun e => norms.contains e.norm)) = true
      · rw [if_pos (hany.mp hex), if_pos hex]; rfl
      · rw [if_neg (fun hh => hex (hany.mpr hh)), if_neg hex]
        rw [abs_attachInitial P d _ _ hd1]
        cases ha : attachInitial P d (sortChildren cs) s1 <;> rfl

/-- Every operation of the model as an operation of the reference hierarchy. -/
def absOpAll : Op → BbRe.Spec.Posix.Op
  | .mkdir d n => .mkdir d n
  | .mknod d n k => .mknod d n k
  | .openc d n c e => .openc d n c e
  | .link d n l => .link d n l
  | .lookup d n => .lookup d n
  | .vremove d n a b => .remove d n a b
  | .remove d n => .remove d n true true
  | .rename d1 n1 d2 n2 => .rename d1 n1 d2 n2
  | .lookupChild d n => .lookup d n
  | .createAndEnter d n => .createAndEnter d n
  | .removeAll d n => .removeAll d n
  | .removeAllChildren d b => .removeAllChildren d b
  | .createChildren d ow cs => .createChildren d ow cs
  | .readdir d _ _ => .access d
  | .lookupAll d => .access d
  | .readDirB d => .access d
  | .getattr _ => .nop
  | .filter _ _ => .nop
  | .installHooks _ => .nop
  | .newRoot fs => .newRoot fs
  | .newLeaf k => .newLeaf k
  | .defTmpl cs => .defTmpl cs
  | .setFetchFail b => .setFetchFail b
  | .setAllocFail b => .setAllocFail b

theorem access_refines (P : Params) (s : Store) (d : Nat) :
    BbRe.Spec.Posix.access P.normalize (abs s) d =
      (abs (match materialize P s d with | .error _ => s | .ok s1 => s1),
       (match materialize P s d with | .error e => e | .ok _ => Status.ok), none) := by
  unfold BbRe.Spec.Posix.access
  rw [abs_materialize P s d]
  cases materialize P s d <;> rfl

theorem refines_step_all (P : Params) (s : Store) (op : Op) (h : Inv P s) (hv : validOp s op = true) :
    BbRe.Spec.Posix.step P.normalize P.hidden (abs s) (absOpAll op) =
      (abs (step P s op).1, (step P s op).2.status, (step P s op).2.child) := by
  unfold step
  rw [if_pos hv]
  cases op with
  | mkdir d n => exact mkdir_refines P s d n (of_decide_eq_true hv)
  | mknod d n k => exact mknod_refines P s d n k
  | openc d n c e => exact openc_refines P s d n c e
  | link d n l => exact link_refines P s d n l h
  | lookup d n => exact lookup_refines P s d n
  | vremove d n a b => exact vremove_refines P s d n a b h
  | remove d n => exact remove_refines P s d n h
  | rename d1 n1 d2 n2 =>
    exact rename_refines P s d1 n1 d2 n2 h (of_decide_eq_true (Bool.and_eq_true_iff.mp hv).2)
  | lookupChild d n => exact lookupChild_refines P s d n
  | createAndEnter d n => exact createAndEnter_refines P s d n (of_decide_eq_true hv)
  | removeAll d n => exact removeAll_refines P s d n h (of_decide_eq_true hv)
  | removeAllChildren d b => exact removeAllChildren_refines P s d b h
  | createChildren d ow cs =>
    have hv' := Bool.and_eq_true_iff.mp hv
    exact createChildren_refines P s d ow cs h (of_decide_eq_true hv'.1) (tchildOK_leaf hv'.2)
  | readdir d c k =>
    refine (access_refines P s d).trans ?_
    simp only [exec, vreaddir]
    cases materialize P s d <;> rfl
  | lookupAll d =>
    refine (access_refines P s d).trans ?_
    simp only [exec, lookupAll]
    cases materialize P s d <;> rfl
  | readDirB d =>
    refine (access_refines P s d).trans ?_
    simp only [exec, readDirB]
    cases materialize P s d <;> rfl
  | newRoot fs =>
    simp only [absOpAll, BbRe.Spec.Posix.step, exec]
    rw [abs_pushDir, abs_dirs_length]; rfl
  | newLeaf k =>
    simp only [absOpAll, BbRe.Spec.Posix.step, exec]
    rw [abs_pushLeaf, abs_kinds_length]
  | getattr d | filter d k | installHooks d | defTmpl cs | setFetchFail b | setAllocFail b => rfl

/-- The (name, child) pairs of the entry list are those of the abstract directory (used for
what `LookupAllChildren` / `ReadDir` show in terms of the reference hierarchy, `C13.listings_refine`). -/
theorem listing_entries_abs {P : Params} {x : Dir} (hx : DirOK P x) (name : Nat) (c : Child) :
    (∃ e ∈ x.entries, e.name = name ∧ e.child = c) ↔ ∃ n, (absDir x).entries n = some (name, c) := by
  simp only [absDir_entries_iff hx]
  exact ⟨fun ⟨e, he, hn, hc⟩ => ⟨e.norm, e, he, rfl, hn, hc⟩, fun ⟨_, e, he, _, hn, hc⟩ => ⟨e, he, hn, hc⟩⟩

end BbRe.Lemmas.Dir
