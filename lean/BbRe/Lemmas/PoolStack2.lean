import BbRe.Lemmas.PoolStack
import BbRe.Lemmas.PoolStackSub
import BbRe.Lemmas.FilePoolWriteAt
/-!
Step- and history-level lemmas for `Properties/C15Stack.lean`.  One call into the base keeps the
coupling and leaves the consistency flag as it was (`base_good`); a step is nothing, or a base call
followed by a quota move, or a write whose base reports more bytes than it was given (`step_shape`),
and the file layer's invariant excludes the last; so a step keeps the coupling and the flag
(`step_good`), and so does a history (`run_good`; `run_inv` is the induction over histories).  The
file-pool component of the stack is a run of `Model/FilePool.lean` whose oracles are the bitmap's
answers (`run_simulates`).
-/
namespace BbRe.Lemmas.PoolStack
open BbRe BbRe.PoolStack BbRe.FilePool

theorem base_fp (st : PoolStack.State) (op : Op) (inp : Inputs) :
    (base st op inp).1.fp = (FilePool.step st.fp op { answers := (answersFor st op inp).2, faults := inp.faults }).1 := rfl

/-- One call into the base keeps the coupling and leaves the flag as it was: the file layer ends up
holding only what it held or was handed (`step_allocd_sub`), so `syncFree` has nothing to complain of. -/
theorem base_good {st : PoolStack.State} (h : Coupled st) (op : Op) (inp : Inputs) :
    Coupled (base st op inp).1 ∧ (base st op inp).1.broken = st.broken := by
  have hcfg := Lemmas.FilePool.step_cfg st.fp op { answers := (answersFor st op inp).2, faults := inp.faults }
  obtain ⟨h0, h1, h2⟩ := syncFree_spec (answersFor_ok st op inp h.bmInv) h.agree h.fpInv.allocNodup
    (step_allocd_sub st.fp op { answers := (answersFor st op inp).2, faults := inp.faults })
  refine ⟨⟨Lemmas.FilePool.inv_step h.fpInv op _, by rw [base_fp, hcfg]; exact h1,
    by rw [base_fp, hcfg]; exact h2⟩, ?_⟩
  show (st.broken || _) = st.broken
  rw [h0, Bool.or_false]

theorem base_coupled {st : PoolStack.State} (h : Coupled st) (op : Op) (inp : Inputs)
    (_hflag : (base st op inp).1.broken = false) : Coupled (base st op inp).1 :=
  (base_good h op inp).1

/-- the file layer never reports more bytes written than it was given -/
theorem fp_write_le {st : FilePool.State} (hinv : Lemmas.FilePool.Inv st) (i : Nat) (off : Int) (p : List Byte)
    (o : Oracle) (n : Nat) (err : Option Err) (hout : (FilePool.step st (.write i off p) o).2 = .wrote n err) :
    n ≤ p.length := by
  unfold FilePool.step at hout
  dsimp only at hout
  split at hout
  · cases hout
  · rename_i f hf
    unfold finish at hout
    split at hout
    · simp only [Out.wrote.injEq] at hout
      obtain ⟨rfl, _⟩ := hout
      by_cases hneg : off < 0
      · rw [Lemmas.FilePool.writeAt_neg _ _ hneg]; exact Nat.zero_le _
      · have hfi := Lemmas.FilePool.file?_some hf
        obtain ⟨m, rfl⟩ := Int.eq_ofNat_of_zero_le (Int.not_lt.1 hneg)
        exact (Lemmas.FilePool.writeAt_content (O := Lemmas.FilePool.Oth st i) (c := st.cfg) (f := f)
          (e := st.env o) p m hinv.ssPos (Lemmas.FilePool.inv_part hinv hfi.1) hinv.noDoubleFree).2.1
    · cases hout

/-! ## one step -/

theorem settle_some {r : PoolStack.State × Out × List AllocAns} {q : Quota.State} {qop : Quota.Op}
    {qr : Quota.State × Quota.Out} (h : Quota.step q qop = some qr) :
    (settle r q qop).1 = { r.1 with q := qr.1 } := by
  unfold settle; rw [h]

theorem settle_none {r : PoolStack.State × Out × List AllocAns} {q : Quota.State} {qop : Quota.Op}
    (h : Quota.step q qop = none) : (settle r q qop).1 = { r.1 with broken := true } := by
  unfold settle; rw [h]

/-- the quota component after a step: unchanged, or one `Quota.step` -/
def QMove (q q' : Quota.State) : Prop := q' = q ∨ ∃ qop qr, Quota.step q qop = some qr ∧ q' = qr.1

/-- The states a step of `st` with `op`, `inp` can end in: `st` itself, or the base's state after a
quota move, or the base's state with the flag raised, the last only for a write whose base reports
more bytes written than it was given. -/
def StepTo (st : PoolStack.State) (op : Op) (inp : Inputs) (s' : PoolStack.State) : Prop :=
  s' = st ∨ (∃ q, s' = { (base st op inp).1 with q := q } ∧ QMove st.q q) ∨
    (s' = { (base st op inp).1 with broken := true } ∧
      ∃ i off p n err, op = .write i off p ∧ (base st op inp).2.1 = .wrote n err ∧ ¬ n ≤ p.length)

theorem step_shape (st : PoolStack.State) (op : Op) (inp : Inputs) :
    StepTo st op inp (PoolStack.step st op inp).1 := by
  have keep : StepTo st op inp (base st op inp).1 := Or.inr (Or.inl ⟨st.q, rfl, Or.inl rfl⟩)
  have moved : ∀ {qop qr}, Quota.step st.q qop = some qr →
      StepTo st op inp (settle (base st op inp) st.q qop).1 :=
    fun {qop qr} hq => Or.inr (Or.inl ⟨qr.1, settle_some hq, Or.inr ⟨qop, qr, hq, rfl⟩⟩)
  unfold PoolStack.step
  split
  · dsimp only
    split
    · exact Or.inr (Or.inl ⟨_, rfl, Or.inr ⟨.newFile _ true, _, rfl, rfl⟩⟩)
    · exact Or.inl rfl
  · split
    · exact keep
    · exact Or.inl rfl
  · split
    · exact keep
    · exact Or.inl rfl
  · split
    · exact keep
    · exact Or.inl rfl
  · rename_i i off p
    split
    · rename_i fsize hl
      split
      · dsimp only
        split
        · rename_i n err hout
          by_cases hle : n ≤ p.length
          · exact moved ((Lemmas.Quota.step_writeAt hl ..).trans (if_pos hle))
          · exact Or.inr (Or.inr ⟨settle_none ((Lemmas.Quota.step_writeAt hl ..).trans (if_neg hle)),
              i, off, p, n, err, rfl, hout, hle⟩)
        · exact keep
      · exact Or.inl rfl
    · exact Or.inl rfl
  · rename_i i size
    split
    · rename_i fsize hl
      dsimp only
      split
      · split
        · exact moved (Lemmas.Quota.step_truncate hl ..)
        · exact keep
      · exact Or.inl rfl
    · exact Or.inl rfl
  · rename_i i
    split
    · rename_i fsize hl
      dsimp only
      split
      · exact moved (Lemmas.Quota.step_close hl _)
      · exact keep
    · exact Or.inl rfl

/-- with the file layer's invariant the third case cannot occur (`fp_write_le`) -/
theorem step_shape_inv {st : PoolStack.State} (h : Lemmas.FilePool.Inv st.fp) (op : Op) (inp : Inputs) :
    (PoolStack.step st op inp).1 = st ∨
      ∃ q, (PoolStack.step st op inp).1 = { (base st op inp).1 with q := q } ∧ QMove st.q q := by
  rcases step_shape st op inp with e | e | ⟨_, i, off, p, n, err, rfl, hout, hle⟩
  · exact Or.inl e
  · exact Or.inr e
  · exact absurd (fp_write_le h i off p _ n err hout) hle

theorem step_good {st : PoolStack.State} (h : Coupled st) (op : Op) (inp : Inputs) :
    Coupled (PoolStack.step st op inp).1 ∧ (PoolStack.step st op inp).1.broken = st.broken := by
  rcases step_shape_inv h.fpInv op inp with e | ⟨q, e, _⟩ <;> rw [e]
  · exact ⟨h, rfl⟩
  · have := base_good h op inp
    exact ⟨⟨this.1.fpInv, this.1.bmInv, this.1.agree⟩, this.2⟩

theorem step_coupled {st : PoolStack.State} (h : Coupled st) (op : Op) (inp : Inputs)
    (_hflag : (PoolStack.step st op inp).1.broken = false) : Coupled (PoolStack.step st op inp).1 :=
  (step_good h op inp).1

theorem step_fpInv {st : PoolStack.State} (h : Lemmas.FilePool.Inv st.fp) (op : Op) (inp : Inputs) :
    Lemmas.FilePool.Inv (PoolStack.step st op inp).1.fp ∧ (PoolStack.step st op inp).1.fp.cfg = st.fp.cfg := by
  rcases step_shape_inv h op inp with e | ⟨q, e, _⟩ <;> rw [e]
  · exact ⟨h, rfl⟩
  · exact ⟨Lemmas.FilePool.inv_step h op _, Lemmas.FilePool.step_cfg st.fp op _⟩

theorem step_qmove (st : PoolStack.State) (op : Op) (inp : Inputs) : QMove st.q (PoolStack.step st op inp).1.q := by
  rcases step_shape st op inp with e | ⟨q, e, hq⟩ | ⟨e, _⟩ <;> rw [e]
  · exact Or.inl rfl
  · exact hq
  · exact Or.inl rfl

theorem step_quota {mf mb : Nat} {st : PoolStack.State} (h : Lemmas.Quota.ConservedAt mf mb st.q) (op : Op)
    (inp : Inputs) : Lemmas.Quota.ConservedAt mf mb (PoolStack.step st op inp).1.q := by
  rcases step_qmove st op inp with e | ⟨qop, qr, hq, e⟩ <;> rw [e]
  · exact h
  · exact Lemmas.Quota.step_conserved hq h

/-! ## histories -/

theorem run_inv {P : PoolStack.State → Prop}
    (hstep : ∀ st op inp, P st → P (PoolStack.step st op inp).1) (ops : List (Op × Inputs)) :
    ∀ st, P st → P (PoolStack.run st ops) := by
  induction ops with
  | nil => exact fun _ h => h
  | cons x xs ih => exact fun st h => ih _ (hstep st x.1 x.2 h)

/-- A history keeps the coupling and leaves the flag as it was. -/
theorem run_good (ops : List (Op × Inputs)) : ∀ (st : PoolStack.State), Coupled st →
    Coupled (PoolStack.run st ops) ∧ (PoolStack.run st ops).broken = st.broken :=
  fun st h => run_inv (P := fun s => Coupled s ∧ s.broken = st.broken)
    (fun _ op inp hs => ⟨(step_good hs.1 op inp).1, (step_good hs.1 op inp).2.trans hs.2⟩) ops st ⟨h, rfl⟩

/-- The hypothesis on the flag is not needed (`run_good`). -/
theorem run_coupled (ops : List (Op × Inputs)) : ∀ (st : PoolStack.State), Coupled st →
    (PoolStack.run st ops).broken = false → Coupled (PoolStack.run st ops) :=
  fun st h _ => (run_good ops st h).1

theorem run_fpInv (ops : List (Op × Inputs)) : ∀ (st : PoolStack.State), Lemmas.FilePool.Inv st.fp →
    Lemmas.FilePool.Inv (PoolStack.run st ops).fp ∧ (PoolStack.run st ops).fp.cfg = st.fp.cfg :=
  fun st h => run_inv (P := fun s => Lemmas.FilePool.Inv s.fp ∧ s.fp.cfg = st.fp.cfg)
    (fun _ op inp hs => ⟨(step_fpInv hs.1 op inp).1, (step_fpInv hs.1 op inp).2.trans hs.2⟩) ops st ⟨h, rfl⟩

theorem run_quotaAt {mf mb : Nat} (ops : List (Op × Inputs)) : ∀ (st : PoolStack.State),
    Lemmas.Quota.ConservedAt mf mb st.q → Lemmas.Quota.ConservedAt mf mb (PoolStack.run st ops).q :=
  run_inv (P := fun s => Lemmas.Quota.ConservedAt mf mb s.q) (fun _ op inp h => step_quota h op inp) ops

theorem run_quota (ops : List (Op × Inputs)) : ∀ (st : PoolStack.State), Lemmas.Quota.Conserved st.q →
    Lemmas.Quota.Conserved (PoolStack.run st ops).q ∧ (PoolStack.run st ops).q.maxFiles = st.q.maxFiles ∧
      (PoolStack.run st ops).q.maxBytes = st.q.maxBytes :=
  fun st h => have h' := run_quotaAt ops st h.conservedAt
  ⟨h'.conserved, h'.maxFiles, h'.maxBytes⟩

/-- **The consistency flag is never raised.** -/
theorem run_notbroken (c : Cfg) (hss : 0 < c.ss) (mf mb : Nat) (ops : List (Op × Inputs)) :
    Coupled (PoolStack.run (PoolStack.init c mf mb) ops) ∧
      (PoolStack.run (PoolStack.init c mf mb) ops).broken = false :=
  run_good ops _ (coupled_init c hss mf mb)

/-- **The stack simulates the file pool**: its file-pool component after a history is what
`Model/FilePool.lean` reaches from the component at the start by a history with explicit oracles (the
operations that got past the quota layer, each with the answers the bitmap gave). -/
theorem run_simulates (ops : List (Op × Inputs)) : ∀ (st : PoolStack.State),
    ∃ ops' : List (Op × Oracle), (PoolStack.run st ops).fp = FilePool.run st.fp ops' := by
  induction ops with
  | nil => exact fun st => ⟨[], rfl⟩
  | cons x xs ih =>
    intro st
    obtain ⟨ops', e'⟩ := ih (PoolStack.step st x.1 x.2).1
    rcases step_shape st x.1 x.2 with e | ⟨q, e, _⟩ | ⟨e, _⟩
    · exact ⟨ops', e'.trans (by rw [e])⟩
    · exact ⟨(x.1, _) :: ops', e'.trans (by rw [e]; rfl)⟩
    · exact ⟨(x.1, _) :: ops', e'.trans (by rw [e]; rfl)⟩

end BbRe.Lemmas.PoolStack
