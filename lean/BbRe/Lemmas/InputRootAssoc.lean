import BbRe.Model.InputRoot
import BbRe.Lemmas.Basic.AssocList
/-!
The association lists of `Model/InputRoot.lean`: `assoc` and `lookup` are `AL.get`, `replaceFirst` is
`AL.repl` (`Lemmas/Basic/AssocList.lean` has the laws); then what `hasName` says after an append.
-/
namespace BbRe.Lemmas.InputRoot
open BbRe.InputRoot

theorem assoc_eq {α β : Type} [DecidableEq α] (l : List (α × β)) (k : α) : assoc l k = AL.get k l := by
  induction l with
  | nil => rfl
  | cons p l ih => obtain ⟨a, b⟩ := p; simp only [assoc, AL.get, ih]

theorem lookup_eq (ch : Children) (x : Name) : lookup ch x = AL.get x ch := by
  induction ch with
  | nil => rfl
  | cons p l ih => obtain ⟨a, b⟩ := p; simp only [lookup, AL.get, ih]

theorem replaceFirst_eq (ch : Children) (x : Name) (v : Node) : replaceFirst ch x v = AL.repl x v ch := by
  induction ch with
  | nil => rfl
  | cons p l ih => obtain ⟨a, b⟩ := p; simp only [replaceFirst, AL.repl, ih]

theorem assoc_mem {α β : Type} [DecidableEq α] {l : List (α × β)} {k : α} {v : β}
    (h : assoc l k = some v) : (k, v) ∈ l :=
  AL.mem_of_get (assoc_eq l k ▸ h)

/-- `lookup` is `assoc` at the type of children lists (the model writes it out twice). -/
theorem lookup_eq_assoc (ch : Children) (x : Name) : lookup ch x = assoc ch x :=
  (lookup_eq ch x).trans (assoc_eq ch x).symm

theorem lookup_mem (ch : Children) (x : Name) (v : Node) (h : lookup ch x = some v) : (x, v) ∈ ch :=
  AL.mem_of_get (lookup_eq ch x ▸ h)

theorem lookup_append (a b : Children) (x : Name) :
    lookup (a ++ b) x = (lookup a x).or (lookup b x) := by
  simp only [lookup_eq, AL.get_append]

theorem lookup_append_new (ch : Children) (x : Name) (v : Node) (h : lookup ch x = none) :
    lookup (ch ++ [(x, v)]) x = some v := by
  simp [lookup_append, h, lookup]

theorem lookup_map (g : Node → Node) (ch : Children) (x : Name) :
    lookup (ch.map fun e => (e.1, g e.2)) x = (lookup ch x).map g := by
  simp only [lookup_eq, AL.get_map]

/-- Putting back what is there changes nothing. -/
theorem replaceFirst_self {ch : Children} {x : Name} {v : Node} (h : lookup ch x = some v) :
    replaceFirst ch x v = ch := by
  rw [lookup_eq] at h
  rw [replaceFirst_eq, ← AL.put_eq_repl h, AL.put_of_some h]

theorem lookup_replaceFirst_self (ch : Children) (x : Name) (v w : Node) (h : lookup ch x = some w) :
    lookup (replaceFirst ch x v) x = some v := by
  rw [replaceFirst_eq, lookup_eq, AL.get_repl, if_pos rfl, ← lookup_eq, h]; rfl

theorem lookup_replaceFirst_ne (ch : Children) (x y : Name) (w : Node) (h : x ≠ y) :
    lookup (replaceFirst ch x w) y = lookup ch y := by
  rw [replaceFirst_eq, lookup_eq, lookup_eq, AL.get_repl, if_neg (Ne.symm h)]

theorem hasName_eq_false {ch : Children} {x : Name} : hasName ch x = false ↔ lookup ch x = none := by
  simp [hasName]

theorem hasName_append (a b : Children) (x : Name) :
    hasName (a ++ b) x = (hasName a x || hasName b x) := by
  simp only [hasName, lookup_append]
  cases lookup a x <;> simp

theorem hasName_single (n : Name) (v : Node) (x : Name) : hasName [(n, v)] x = decide (n = x) := by
  by_cases h : n = x <;> simp [hasName, lookup, h]

end BbRe.Lemmas.InputRoot
