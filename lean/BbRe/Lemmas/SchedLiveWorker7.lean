import BbRe.Lemmas.SchedLiveWorker6
/-!
Worker invariant through the operator calls (`AddDrain` / `TerminateWorkers`
wake every matching parked worker) and for every reachable state.
-/
namespace BbRe.Lemmas.SchedLive
open BbRe.Sched

/-- A fold of per-worker updates over (a sublist of) the worker list is a `map`. -/
theorem foldl_workers_map (step : State → Worker → State) (G : Worker → Worker) (hG : ∀ x, wkey (G x) = wkey x)
    (hstep : ∀ acc w, (acc.workers.map wkey).Nodup → w ∈ acc.workers →
      (step acc w).workers = acc.workers.map (fun x => if wkey x = wkey w then G w else x)) :
    ∀ (l : List Worker) (acc : State), (acc.workers.map wkey).Nodup → (l.map wkey).Nodup →
      (∀ w ∈ l, w ∈ acc.workers) →
      (l.foldl step acc).workers = acc.workers.map (fun x => if wkey x ∈ l.map wkey then G x else x) := by
  intro l
  induction l with
  | nil => intro acc _ _ _; simp
  | cons w r ih =>
    intro acc hn hl hm
    simp only [List.foldl_cons]
    have hw := hm w (List.mem_cons_self ..)
    have e1 := hstep acc w hn hw
    simp only [List.map_cons, List.nodup_cons] at hl
    have hn1 : ((step acc w).workers.map wkey).Nodup := by
      rw [e1, List.map_map]
      have : (wkey ∘ fun x => if wkey x = wkey w then G w else x) = wkey := by
        funext x; simp only [Function.comp]; split
        · rename_i h; rw [hG, h]
        · rfl
      rw [this]; exact hn
    have hm1 : ∀ w' ∈ r, w' ∈ (step acc w).workers := by
      intro w' hw'
      rw [e1, List.mem_map]
      refine ⟨w', hm w' (List.mem_cons_of_mem _ hw'), ?_⟩
      have : ¬ wkey w' = wkey w := fun e => hl.1 (e ▸ List.mem_map.2 ⟨w', hw', rfl⟩)
      simp [this]
    rw [ih (step acc w) hn1 hl.2 hm1, e1, List.map_map]
    apply List.map_congr_left
    intro x hx
    simp only [Function.comp, List.map_cons, List.mem_cons]
    by_cases hk : wkey x = wkey w
    · have : x = w := eq_of_wkey hn hx hw hk
      subst this
      simp only [if_true, hG, hl.1, if_false, true_or]
    · simp only [hk, if_false, false_or]

theorem wkey_ite {c : Prop} [Decidable c] {G : Worker → Worker} (hG : ∀ x, wkey (G x) = wkey x) (x : Worker) :
    wkey (if c then G x else x) = wkey x := by
  split
  · exact hG x
  · rfl

theorem winv_of_map {s s' : State} (hw : WInv s) (G : Worker → Worker) (hG : ∀ x, wkey (G x) = wkey x)
    (hws : s'.workers = s.workers.map G) (hok : ∀ x ∈ s.workers, WOk s' (G x)) : WInv s' := by
  refine ⟨?_, ?_⟩
  · rw [hws, List.map_map]
    have : (wkey ∘ G) = wkey := by funext x; exact hG x
    rw [this]; exact hw.uniq
  · intro y hy
    rw [hws, List.mem_map] at hy
    obtain ⟨x, hx, rfl⟩ := hy
    exact hok x hx

theorem foldl_fields {α} (f : State → α → State) (hf : ∀ s a, (f s a).tasks = s.tasks ∧ (f s a).ops = s.ops ∧
    (f s a).nextTask = s.nextTask ∧ (f s a).nextOp = s.nextOp ∧ (f s a).scqs = s.scqs) (l : List α) (s : State) :
    (l.foldl f s).tasks = s.tasks ∧ (l.foldl f s).ops = s.ops ∧ (l.foldl f s).nextTask = s.nextTask ∧
    (l.foldl f s).nextOp = s.nextOp ∧ (l.foldl f s).scqs = s.scqs :=
  foldl_rel (fun s s' => s'.tasks = s.tasks ∧ s'.ops = s.ops ∧ s'.nextTask = s.nextTask ∧ s'.nextOp = s.nextOp ∧
      s'.scqs = s.scqs) (fun _ => ⟨rfl, rfl, rfl, rfl, rfl⟩)
    (fun ⟨a1, a2, a3, a4, a5⟩ ⟨b1, b2, b3, b4, b5⟩ => ⟨b1.trans a1, b2.trans a2, b3.trans a3, b4.trans a4, b5.trans a5⟩)
    f hf l s

def drainG (q : ScqId) (p : Pattern) (w : Worker) : Worker :=
  if w.scq = q ∧ w.parked = true ∧ p.matches w.id = true then { w with parked := false, woken := true } else w

theorem wkey_drainG (q : ScqId) (p : Pattern) (x : Worker) : wkey (drainG q p x) = wkey x := by
  unfold drainG; split <;> rfl

theorem map_if_self {l : List Worker} (hn : (l.map wkey).Nodup) {w : Worker} (hw : w ∈ l) :
    l.map (fun x => if wkey x = wkey w then w else x) = l := by
  conv => rhs; rw [← List.map_id l]
  apply List.map_congr_left
  intro x hx
  split
  · rename_i hk; exact (eq_of_wkey hn hx hw hk).symm
  · rfl

theorem drainWake_workers (q : ScqId) (p : Pattern) (acc : State) (w : Worker)
    (hn : (acc.workers.map wkey).Nodup) (hw : w ∈ acc.workers) :
    (drainWake q p acc w).workers = acc.workers.map (fun x => if wkey x = wkey w then drainG q p w else x) := by
  by_cases hc : w.scq = q ∧ w.parked = true ∧ p.matches w.id = true
  · have e1 : drainWake q p acc w = acc.setWorker { w with parked := false, woken := true } := by
      unfold drainWake wakeWorker; rw [if_pos hc]
    have e2 : drainG q p w = { w with parked := false, woken := true } := by
      unfold drainG; rw [if_pos hc]
    rw [e1, e2, setWorker_workers]; rfl
  · have e1 : drainWake q p acc w = acc := by unfold drainWake; rw [if_neg hc]
    have e2 : drainG q p w = w := by unfold drainG; rw [if_neg hc]
    rw [e1, e2, map_if_self hn hw]

theorem addDrain_winv {s : State} {q : ScqId} {p : Pattern} {sq : Scq} (hw : WInv s) (hsq : s.scq? q = some sq)
    (s0 : State) (hs0 : s0 = s.setScq { sq with drains := if sq.drains.contains p then sq.drains else sq.drains ++ [p] }) :
    WInv (s.workers.foldl (drainWake q p) s0) := by
  have hws0 : s0.workers = s.workers := by rw [hs0]; rfl
  have hmap := foldl_workers_map (drainWake q p) (drainG q p) (wkey_drainG q p) (drainWake_workers q p)
    s.workers s0 (hws0 ▸ hw.uniq) hw.uniq (fun _ h => hws0 ▸ h)
  obtain ⟨f1, _, f3, _, f5⟩ := foldl_fields (drainWake q p)
    (by intro a b; unfold drainWake; split <;> exact ⟨rfl, rfl, rfl, rfl, rfl⟩) s.workers s0
  have hid : sq.id = q := by
    have := List.find?_some (show s.scqs.find? (fun x => x.id = q) = some sq from hsq); simpa using this
  have g1 : s0.tasks = s.tasks := by rw [hs0]; rfl
  have g3 : s0.nextTask = s.nextTask := by rw [hs0]; rfl
  rw [hws0] at hmap
  refine winv_of_map hw _ (fun x => wkey_ite (wkey_drainG q p) x) hmap ?_
  intro x hx
  have hin : wkey x ∈ s.workers.map wkey := List.mem_map.2 ⟨x, hx, rfl⟩
  simp only [hin, if_true]
  have hok := hw.ok x hx
  have ptr' : ∀ (y : Worker), y.scq = x.scq → y.id = x.id → y.task = x.task →
      ∀ tid, y.task = some tid → tid < (s.workers.foldl (drainWake q p) s0).nextTask ∧
        ∀ t, (s.workers.foldl (drainWake q p) s0).task? tid = some t → t.worker = some (y.scq, y.id) ∧ t.response = none := by
    intro y e1 e2 e3 tid ht
    rw [e3] at ht; rw [e1, e2, f3, g3]
    simp only [State.task?, f1, g1]
    exact hok.ptr tid ht
  by_cases hc : x.scq = q ∧ x.parked = true ∧ p.matches x.id = true
  · have e2 : drainG q p x = { x with parked := false, woken := true } := by unfold drainG; rw [if_pos hc]
    rw [e2]
    obtain ⟨a, _, _, _, e, _⟩ := hok.parked hc.2.1
    exact ⟨by simp, by simp [a, e], by simp [e], ptr' _ rfl rfl rfl⟩
  · have e2 : drainG q p x = x := by unfold drainG; rw [if_neg hc]
    rw [e2]
    refine ⟨?_, hok.woken, hok.dwait, ptr' x rfl rfl rfl⟩
    intro hp
    obtain ⟨a, b, c, d, e, g⟩ := hok.parked hp
    refine ⟨a, b, c, d, e, ?_⟩
    intro sq' hsq' p' hp'
    simp only [State.scq?, f5] at hsq'
    have hsq'' : s0.scq? x.scq = some sq' := hsq'
    rw [hs0, scq?_setScq] at hsq''
    simp only [hid] at hsq''
    by_cases hxq : q = x.scq
    · simp only [hxq, if_true] at hsq''
      rw [← hxq, hsq] at hsq''
      simp only [Option.map_some, Option.some.injEq] at hsq''
      subst hsq''
      simp only at hp'
      have hold := g sq (by rw [← hxq]; exact hsq)
      split at hp'
      · exact hold p' hp'
      · rcases List.mem_append.1 hp' with hp' | hp'
        · exact hold p' hp'
        · simp only [List.mem_singleton] at hp'; subst hp'
          cases hm : p'.matches x.id with
          | false => rfl
          | true => exact absurd ⟨hxq.symm, hp, hm⟩ hc
    · simp only [hxq, if_false] at hsq''
      exact g sq' hsq'' p' hp'

def termG (w : Worker) : Worker :=
  if w.task.isNone ∧ w.parked then { w with terminating := true, parked := false, woken := true }
  else { w with terminating := true }

theorem wkey_termG (x : Worker) : wkey (termG x) = wkey x := by
  unfold termG; split <;> rfl

theorem termMark_workers (acc : State) (w : Worker) (hn : (acc.workers.map wkey).Nodup) (hw : w ∈ acc.workers) :
    (termMark acc w).workers = acc.workers.map (fun x => if wkey x = wkey w then termG w else x) := by
  have hlk := worker?_of_mem hn hw
  unfold termMark termG
  simp only [hlk]
  split
  · have : (acc.setWorker { w with terminating := true }).worker? w.scq w.id = some { w with terminating := true } := by
      rw [worker?_setWorker]; simp [hlk]
    simp only [this, wakeWorker]
    rw [setWorker_twice _ _ _ (show wkey ({ w with terminating := true } : Worker) =
      wkey ({ w with terminating := true, parked := false, woken := true } : Worker) from rfl), setWorker_workers]; rfl
  · rw [setWorker_workers]; rfl

theorem terminate_winv {s : State} (p : Pattern) (hw : WInv s) :
    WInv ((s.workers.filter (fun w => p.matches w.id)).foldl termMark s) := by
  have hsub : ((s.workers.filter (fun w => p.matches w.id)).map wkey).Nodup :=
    List.Nodup.sublist (List.Sublist.map _ List.filter_sublist) hw.uniq
  have hmap := foldl_workers_map termMark termG wkey_termG termMark_workers
    (s.workers.filter (fun w => p.matches w.id)) s hw.uniq hsub (fun _ h => (List.mem_filter.1 h).1)
  obtain ⟨f1, _, f3, _, f5⟩ := foldl_fields termMark
    (by intro a b; rw [termMark_eq]; exact ⟨rfl, rfl, rfl, rfl, rfl⟩)
    (s.workers.filter (fun w => p.matches w.id)) s
  refine winv_of_map hw _ (fun x => wkey_ite wkey_termG x) hmap ?_
  intro x hx
  have hok := hw.ok x hx
  have fr : WFrame noX s ((s.workers.filter (fun w => p.matches w.id)).foldl termMark s) := WFrame.of_eq f3 f5 f1
  split
  · have ptr' := (hok.frame fr (fun _ _ h => h)).ptr
    unfold termG
    split
    · rename_i hc
      obtain ⟨a, _, _, _, e, _⟩ := hok.parked hc.2
      exact ⟨by simp, by simp [a, e], by simp [e], ptr'⟩
    · rename_i hc
      refine ⟨?_, hok.woken, hok.dwait, ptr'⟩
      intro hp
      have hp' : x.parked = true := hp
      obtain ⟨_, _, c, _⟩ := hok.parked hp'
      exact absurd ⟨by simp [c], hp'⟩ hc
  · exact hok.frame fr (fun _ _ h => h)

theorem killOp_kw {h : Hints} {s s' : State} {now name code : Nat} (hh : killOp h s now name code = .ok s') :
    KWStep s s' := by
  obtain ⟨s1, h1, ⟨_, rfl⟩ | ⟨op, s2, _, h2, rfl⟩⟩ := killOp_ok hh
  · exact (enter_kw h1).trans (KWStep.emit _ _)
  · exact ((enter_kw h1).trans (complete_kw h2)).trans (KWStep.emit _ _)

theorem killQueue_kw {h : Hints} {s s' : State} {now : Nat} {q : ScqId} {code : Nat}
    (hh : killQueue h s now q code = .ok s') : KWStep s s' := by
  obtain ⟨s1, h1, ⟨ev, _, rfl⟩ | ⟨s2, h2, rfl⟩⟩ := killQueue_ok hh
  · exact (enter_kw h1).trans (KWStep.emit _ _)
  · exact ((enter_kw h1).trans (cancelAllQueued_kw h2)).trans (KWStep.emit _ _)

theorem addDrain_kw {h : Hints} {s s' : State} {now : Nat} {q : ScqId} {p : Pattern}
    (hh : addDrain h s now q p = .ok s') : KWStep s s' := by
  have ht := addDrain_tstep (allow := True) hh
  obtain ⟨s1, h1, ⟨_, rfl⟩ | ⟨sq, hsq, rfl⟩⟩ := addDrain_ok hh
  · exact (enter_kw h1).trans (KWStep.emit _ _)
  · intro hkw
    have hkw1 := enter_kw h1 hkw
    exact ⟨(ht hkw.1).1, winv_same (addDrain_winv hkw1.2 hsq _ rfl) rfl rfl rfl rfl⟩

theorem removeDrain_kw {h : Hints} {s s' : State} {now : Nat} {q : ScqId} {p : Pattern}
    (hh : removeDrain h s now q p = .ok s') : KWStep s s' := by
  obtain ⟨s1, h1, ⟨_, rfl⟩ | ⟨sq, hsq, rfl⟩⟩ := removeDrain_ok hh
  · exact (enter_kw h1).trans (KWStep.emit _ _)
  · refine (enter_kw h1).trans (KWStep.of (TStep.of_same (allow := True) rfl rfl rfl rfl) (fun _ hw => ?_))
    refine hw.of_frame (X := noX) rfl ⟨Nat.le_refl _, ?_, ?_⟩ (NoPtr.noX _)
    · intro q' sq' hq' p' hp'
      have hq'' : (s1.setScq { sq with drains := sq.drains.filter (· ≠ p), undrainGen := sq.undrainGen + 1 }).scq? q' = some sq' := hq'
      rw [scq?_setScq] at hq''
      have hid : sq.id = q := by
        have := List.find?_some (show s1.scqs.find? (fun x => x.id = q) = some sq from hsq); simpa using this
      simp only [hid] at hq''
      by_cases hqq : q = q'
      · subst hqq
        simp only [if_true, hsq, Option.map_some, Option.some.injEq] at hq''
        subst hq''
        exact ⟨sq, hsq, (List.mem_filter.1 hp').1⟩
      · simp only [hqq, if_false] at hq''; exact ⟨sq', hq'', hp'⟩
    · intro tid t' _ _ ht'; exact ⟨t', ht', rfl, rfl⟩

theorem terminate_kw {h : Hints} {s s' : State} {now id : Nat} {p : Pattern}
    (hh : terminate h s now id p = .ok s') : KWStep s s' := by
  have ht := terminate_tstep (allow := True) hh
  obtain ⟨s1, h1, h2⟩ := terminate_ok hh
  simp only at h2
  intro hkw
  have hkw1 := enter_kw h1 hkw
  have := terminate_winv p hkw1.2
  rcases h2 with ⟨_, rfl⟩ | ⟨_, rfl⟩ <;> exact ⟨(ht hkw.1).1, winv_same this rfl rfl rfl rfl⟩

theorem termWake_kw {s s' : State} {id reason : Nat} (hh : termWake s id reason = .ok s') : KWStep s s' := by
  obtain ⟨tc, _, ⟨_, rfl⟩ | ⟨_, _, rfl⟩⟩ := termWake_ok hh <;>
    exact KWStep.of_same (by simp) (by simp) (by simp) (by simp) (by simp) (by simp)

theorem find?_append_nodrains {l n : List Scq} {q : ScqId} {x : Scq} (hn : ∀ y ∈ n, y.drains = [])
    (h : (l ++ n).find? (fun y => y.id = q) = some x) : l.find? (fun y => y.id = q) = some x ∨ x.drains = [] := by
  rw [List.find?_append] at h
  cases hl : l.find? (fun y => y.id = q) with
  | some y => rw [hl] at h; simp at h; exact .inl (by rw [h])
  | none =>
    rw [hl] at h; simp only [Option.none_or] at h
    exact .inr (hn x (List.mem_of_find?_eq_some h))

theorem registerPQ_kw (s : State) (id : Nat) (comps : List Nat) (pf : Nat) (sizes : List Nat) (bm : Nat) (bp : Int) :
    KWStep s (registerPQ s id comps pf sizes bm bp) := by
  refine KWStep.of (TStep.of_same (allow := True) rfl rfl rfl rfl) (fun _ hw => ?_)
  refine hw.of_frame (X := noX) rfl ⟨Nat.le_refl _, ?_, ?_⟩ (NoPtr.noX _)
  · intro q sq' hq p hp
    have hq' : (s.scqs ++ sizes.map (fun sc => ({ id := ⟨id, sc⟩, mayBeRemoved := false, drains := [], undrainGen := 0 } : Scq))).find?
        (fun y => y.id = q) = some sq' := hq
    rcases find?_append_nodrains (by intro y hy; obtain ⟨_, _, rfl⟩ := List.mem_map.1 hy; rfl) hq' with h | h
    · exact ⟨sq', h, hp⟩
    · rw [h] at hp; cases hp
  · intro tid t' _ _ ht'; exact ⟨t', ht', rfl, rfl⟩

/-- **Every segment** preserves key discipline and worker invariant. -/
theorem step_kw {s s' : State} {g : Seg} (hstep : step s g = .ok s') : KWStep s s' := by
  cases g with
  | register id comps pf sizes bm bp =>
    simp only [step, pure_ok] at hstep; subst hstep; exact registerPQ_kw s id comps pf sizes bm bp
  | exec h now c0 d dk dnc comps pf inv prio => exact execArrive_kw hstep
  | wait h now c0 name => exact waitArrive_kw hstep
  | streamWake h now c0 reason => exact streamWake_kw hstep
  | sync h now q comps pf w rep pi => exact syncArrive_kw hstep
  | syncWake h now q w reason => exact syncWake_kw hstep
  | killOp h now name code => exact killOp_kw hstep
  | killQueue h now q code => exact killQueue_kw hstep
  | addDrain h now q p => exact addDrain_kw hstep
  | removeDrain h now q p => exact removeDrain_kw hstep
  | terminate h now id p => exact terminate_kw hstep
  | termWake id reason => exact termWake_kw hstep
  | touch h now => exact enter_kw hstep

theorem winv_init (cfg : Cfg) : WInv (State.init cfg) :=
  ⟨by simp [State.init], by intro wk h; simp [State.init] at h⟩

theorem kw_reachable {s : State} (hs : Reachable s) : KW s := by
  induction hs with
  | init cfg => exact ⟨keysOK_init cfg, winv_init cfg⟩
  | step g _ hstep ih => exact step_kw hstep ih

theorem winv_reachable {s : State} (hs : Reachable s) : WInv s := (kw_reachable hs).2

end BbRe.Lemmas.SchedLive
