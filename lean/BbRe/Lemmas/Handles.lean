import BbRe.Model.Handles
/-!
Invariant of `Model/Handles.lean` over all histories that respect the caller contract and the
random number generator assumption (`legalOp`).
-/
namespace BbRe.Lemmas.Handles
open BbRe.Handles

/-- Caller contract and environment assumption, per operation:
* `newLeaf` / `newDir`: the object id is new (naming only), the wrapped leaf is not wrapped twice and
  the random number has not been handed out before (assumption on `random.*Generator.Uint64()`;
  the code does not check it);
* `unlink`: only for a directory entry the callers hold (`entries` is the ghost count: 1 at creation,
  +1 per accepted `Link`, -1 per `Unlink`);
* `link`: fewer than 2^32 - 1 entries exist (the counter is a `uint32`). -/
def legalOp (s : State) : Op → Prop
  | .newLeaf i _ u n => s.leaves i = none ∧ (∀ j l, s.leaves j = some l → l.ino ≠ n ∧ l.under ≠ u) ∧
      (∀ d x, s.dirs d = some x → x.ino ≠ n)
  | .newDir d _ _ n => s.dirs d = none ∧ (∀ j l, s.leaves j = some l → l.ino ≠ n) ∧
      (∀ e x, s.dirs e = some x → x.ino ≠ n)
  | .unlink i => 0 < s.entries i
  | .link i => s.entries i + 1 < u32
  | _ => True

/-- States reachable by ANY sequence of operations within the contract. -/
inductive Reach : State → Prop
  | init : Reach init
  | step {s : State} (op : Op) : Reach s → legalOp s op → Reach (step s op).1

structure Inv (s : State) : Prop where
  count : ∀ i l, s.leaves i = some l → l.linkCount = s.entries i ∧ s.entries i < u32
  mapTo : ∀ n i, s.statefulLeaves n = some i →
    ∃ l, s.leaves i = some l ∧ l.ino = n ∧ l.kind = .nfs ∧ 0 < l.linkCount
  mapFrom : ∀ i l, s.leaves i = some l → l.kind = .nfs → 0 < l.linkCount →
    s.statefulLeaves l.ino = some i
  inj : ∀ i j li lj, s.leaves i = some li → s.leaves j = some lj →
    (li.ino = lj.ino ∨ li.under = lj.under) → i = j
  dirTo : ∀ n d, s.directories n = some d → ∃ x, s.dirs d = some x ∧ x.ino = n
  dirLeaf : ∀ i l d x, s.leaves i = some l → s.dirs d = some x → l.ino ≠ x.ino
  dirInj : ∀ d e x y, s.dirs d = some x → s.dirs e = some y → x.ino = y.ino → d = e

theorem inv_init : Inv init := by
  constructor <;> simp [init]

theorem upd_same {α : Type} (f : Nat → Option α) (k : Nat) (v : Option α) : upd f k v k = v := by
  simp [upd]

theorem upd_other {α : Type} (f : Nat → Option α) (k x : Nat) (v : Option α) (h : x ≠ k) :
    upd f k v x = f x := by
  simp [upd, h]

theorem updN_same (f : Nat → Nat) (k v : Nat) : updN f k v k = v := by simp [updN]

theorem updN_other (f : Nat → Nat) (k x v : Nat) (h : x ≠ k) : updN f k v x = f x := by
  simp [updN, h]

/-- The FUSE wrapper's `Add(^uint32(0))` on a positive 32-bit counter is a decrement. -/
theorem u32_dec {n : Nat} (hp : 0 < n) (hlt : n < u32) : (n + (u32 - 1)) % u32 = n - 1 := by
  have e : n + (u32 - 1) = n - 1 + u32 := by omega
  rw [e, Nat.add_mod_right, Nat.mod_eq_of_lt (Nat.lt_of_le_of_lt (Nat.sub_le _ _) hlt)]

/-- Leaf `i` is created (with an inode number and a wrapped leaf that are new) or replaced by a
leaf `l'` of the same identity (kind, inode number, wrapped leaf), the entry count follows its link
count, and the handle map holds it exactly if it is an NFS leaf with a positive count.  `newLeaf`,
`link` and all branches of `unlink` are instances. -/
theorem inv_setLeaf {s : State} (h : Inv s) {i : Nat} (l' : Leaf) (sl : Nat → Option Nat) (lg : List Event)
    (e' : Nat) (he : l'.linkCount = e') (hlt : e' < u32)
    (hid : (∃ l, s.leaves i = some l ∧ l'.kind = l.kind ∧ l'.ino = l.ino ∧ l'.under = l.under) ∨
      (s.leaves i = none ∧ (∀ j l, s.leaves j = some l → l.ino ≠ l'.ino ∧ l.under ≠ l'.under) ∧
        ∀ d x, s.dirs d = some x → x.ino ≠ l'.ino))
    (hsl : ∀ m, sl m = if l'.kind = .nfs ∧ m = l'.ino then (if 0 < l'.linkCount then some i else none)
                       else s.statefulLeaves m) :
    Inv { s with leaves := upd s.leaves i (some l'), statefulLeaves := sl,
                 entries := updN s.entries i e', log := lg } := by
  have hold : ∀ l, s.leaves i = some l → l'.kind = l.kind ∧ l'.ino = l.ino := by
    intro l hi
    rcases hid with ⟨l0, h0, h1, h2, _⟩ | ⟨h0, _⟩ <;> rw [hi] at h0 <;> cases h0
    exact ⟨h1, h2⟩
  have hdist : ∀ j l, j ≠ i → s.leaves j = some l → l.ino ≠ l'.ino ∧ l.under ≠ l'.under := by
    intro j l hne hj
    rcases hid with ⟨l0, h0, _, h2, h3⟩ | ⟨_, h1, _⟩
    · exact ⟨fun e => hne (h.inj j i l l0 hj h0 (Or.inl (e.trans h2))),
        fun e => hne (h.inj j i l l0 hj h0 (Or.inr (e.trans h3)))⟩
    · exact h1 j l hj
  have hdir : ∀ d x, s.dirs d = some x → l'.ino ≠ x.ino := by
    intro d x hd
    rcases hid with ⟨l0, h0, _, h2, _⟩ | ⟨_, _, h1⟩
    · rw [h2]; exact h.dirLeaf i l0 d x h0 hd
    · exact fun e => h1 d x hd e.symm
  have at_i : ∀ {l}, upd s.leaves i (some l') i = some l → l = l' := fun hj => by
    rw [upd_same] at hj; exact (Option.some.inj hj).symm
  refine ⟨?_, ?_, ?_, ?_, h.dirTo, ?_, h.dirInj⟩ <;> simp only
  · intro j l hj
    by_cases e : j = i
    · subst e; cases at_i hj; rw [updN_same]; exact ⟨he, hlt⟩
    · rw [upd_other _ _ _ _ e] at hj; rw [updN_other _ _ _ _ e]; exact h.count j l hj
  · intro m j hm
    rw [hsl] at hm
    by_cases c : l'.kind = .nfs ∧ m = l'.ino
    · rw [if_pos c] at hm
      by_cases hp : 0 < l'.linkCount
      · rw [if_pos hp] at hm; cases hm
        exact ⟨l', upd_same _ _ _, c.2.symm, c.1, hp⟩
      · rw [if_neg hp] at hm; cases hm
    · rw [if_neg c] at hm
      obtain ⟨l, h1, h2, h3, h4⟩ := h.mapTo m j hm
      have : j ≠ i := by
        intro e; subst e
        exact c ⟨(hold l h1).1.trans h3, ((hold l h1).2.trans h2).symm⟩
      exact ⟨l, by rw [upd_other _ _ _ _ this]; exact h1, h2, h3, h4⟩
  · intro j l hj hk hp
    rw [hsl]
    by_cases e : j = i
    · subst e; cases at_i hj
      rw [if_pos ⟨hk, rfl⟩, if_pos hp]
    · rw [upd_other _ _ _ _ e] at hj
      rw [if_neg fun c => (hdist j l e hj).1 c.2]
      exact h.mapFrom j l hj hk hp
  · intro a b la lb ha hb hor
    by_cases ea : a = i <;> by_cases eb : b = i
    · rw [ea, eb]
    · subst ea; cases at_i ha; rw [upd_other _ _ _ _ eb] at hb
      have := hdist b lb eb hb
      rcases hor with e | e
      · exact absurd e.symm this.1
      · exact absurd e.symm this.2
    · subst eb; cases at_i hb; rw [upd_other _ _ _ _ ea] at ha
      have := hdist a la ea ha
      rcases hor with e | e
      · exact absurd e this.1
      · exact absurd e this.2
    · rw [upd_other _ _ _ _ ea] at ha; rw [upd_other _ _ _ _ eb] at hb
      exact h.inj a b la lb ha hb hor
  · intro j l d x hj hd
    by_cases e : j = i
    · subst e; cases at_i hj; exact hdir d x hd
    · rw [upd_other _ _ _ _ e] at hj; exact h.dirLeaf j l d x hj hd

theorem inv_newLeaf {s : State} (h : Inv s) {i : Nat} {k : Kind} {u n : Nat}
    (hl : legalOp s (.newLeaf i k u n)) : Inv (newLeaf s i k u n).1 := by
  obtain ⟨hnone, hfresh, hdfresh⟩ := hl
  unfold newLeaf
  rw [hnone]
  cases k
  · exact inv_setLeaf h ⟨.nfs, u, n, 1, 0⟩ _ _ 1 rfl (by decide) (Or.inr ⟨hnone, hfresh, hdfresh⟩)
      (fun m => by by_cases e : m = n <;> simp [upd, e])
  · exact inv_setLeaf h ⟨.fuse, u, n, 1, 0⟩ s.statefulLeaves s.log 1 rfl (by decide)
      (Or.inr ⟨hnone, hfresh, hdfresh⟩) (fun m => (if_neg fun c => nomatch c.1).symm)

theorem inv_link {s : State} (h : Inv s) {i : Nat} (hl : legalOp s (.link i)) : Inv (link s i).1 := by
  have hl' : s.entries i + 1 < u32 := hl
  unfold link
  cases hi : s.leaves i with
  | none => exact h
  | some l =>
    dsimp only
    by_cases hz : l.linkCount = 0
    · rw [if_pos hz]; exact h
    · have hc := h.count i l hi
      have hmod : (l.linkCount + 1) % u32 = s.entries i + 1 := by
        rw [hc.1]; exact Nat.mod_eq_of_lt hl'
      have hpos : 0 < (l.linkCount + 1) % u32 := by rw [hmod]; exact Nat.succ_pos _
      rw [if_neg hz]
      cases hk : l.kind <;> dsimp only
      · refine inv_setLeaf h _ s.statefulLeaves s.log _ hmod hl' (Or.inl ⟨l, hi, hk.symm, rfl, rfl⟩) fun m => ?_
        by_cases e : m = l.ino
        · rw [if_pos ⟨rfl, e⟩, if_pos hpos, e]; exact h.mapFrom i l hi hk (Nat.pos_of_ne_zero hz)
        · rw [if_neg fun c => e c.2]
      · exact inv_setLeaf h _ s.statefulLeaves s.log _ hmod hl' (Or.inl ⟨l, hi, hk.symm, rfl, rfl⟩)
          fun m => (if_neg fun c => nomatch c.1).symm

theorem inv_unlink {s : State} (h : Inv s) {i : Nat} (hl : legalOp s (.unlink i)) :
    Inv (unlink s i).1 := by
  have hl' : 0 < s.entries i := hl
  unfold unlink
  cases hi : s.leaves i with
  | none => exact h
  | some l =>
    have hc := h.count i l hi
    have hp : 0 < l.linkCount := hc.1 ▸ hl'
    have hlt : s.entries i - 1 < u32 := Nat.lt_of_le_of_lt (Nat.sub_le _ _) hc.2
    have he : l.linkCount - 1 = s.entries i - 1 := by rw [hc.1]
    have hfuse := u32_dec hp (hc.1 ▸ hc.2)
    dsimp only
    cases hk : l.kind <;> dsimp only
    · -- NFS: the handle leaves the map with the last entry
      have hid : ∃ l0, s.leaves i = some l0 ∧ Kind.nfs = l0.kind ∧ l.ino = l0.ino ∧ l.under = l0.under :=
        ⟨l, hi, hk.symm, rfl, rfl⟩
      rw [if_neg (Nat.ne_of_gt hp)]
      by_cases hz : l.linkCount - 1 = 0
      · rw [if_pos hz]
        refine inv_setLeaf h ⟨.nfs, l.under, l.ino, l.linkCount - 1, l.changeID + 1⟩ _ _ _ he hlt (Or.inl hid)
          fun m => ?_
        by_cases e : m = l.ino
        · rw [if_pos ⟨rfl, e⟩, if_neg (by rw [hz]; exact Nat.lt_irrefl 0), e, upd_same]
        · rw [if_neg fun c => e c.2, upd_other _ _ _ _ e]
      · rw [if_neg hz]
        refine inv_setLeaf h ⟨.nfs, l.under, l.ino, l.linkCount - 1, l.changeID + 1⟩ s.statefulLeaves s.log _ he hlt
          (Or.inl hid) fun m => ?_
        by_cases e : m = l.ino
        · rw [if_pos ⟨rfl, e⟩, if_pos (Nat.pos_of_ne_zero hz), e]; exact h.mapFrom i l hi hk hp
        · rw [if_neg fun c => e c.2]
    · have hid : ∃ l0, s.leaves i = some l0 ∧ Kind.fuse = l0.kind ∧ l.ino = l0.ino ∧ l.under = l0.under :=
        ⟨l, hi, hk.symm, rfl, rfl⟩
      rw [hfuse]
      by_cases hz : l.linkCount - 1 = 0
      · rw [if_pos hz]
        exact inv_setLeaf h ⟨.fuse, l.under, l.ino, l.linkCount - 1, l.changeID⟩ s.statefulLeaves _ _ he hlt
          (Or.inl hid) fun m => (if_neg fun c => nomatch c.1).symm
      · rw [if_neg hz]
        exact inv_setLeaf h ⟨.fuse, l.under, l.ino, l.linkCount - 1, l.changeID⟩ s.statefulLeaves s.log _ he hlt
          (Or.inl hid) fun m => (if_neg fun c => nomatch c.1).symm

/-- Operations that only touch the ghost log / the notifier count keep the invariant. -/
theorem inv_frame {s : State} (h : Inv s) (lg : List Event) (k : Nat) :
    Inv { s with log := lg, notifiers := k } :=
  ⟨h.count, h.mapTo, h.mapFrom, h.inj, h.dirTo, h.dirLeaf, h.dirInj⟩

theorem inv_newDir {s : State} (h : Inv s) {d : Nat} {k : Kind} {u n : Nat}
    (hl : legalOp s (.newDir d k u n)) : Inv (newDir s d k u n).1 := by
  obtain ⟨hnone, hfresh, hdfresh⟩ := hl
  unfold newDir
  rw [hnone]
  have hdirs : ∀ e x, upd s.dirs d (some ⟨k, u, n⟩) e = some x →
      (e = d ∧ x = ⟨k, u, n⟩) ∨ (e ≠ d ∧ s.dirs e = some x) := by
    intro e x he
    by_cases ee : e = d
    · subst ee; simp [upd_same] at he; exact Or.inl ⟨rfl, he.symm⟩
    · rw [upd_other _ _ _ _ ee] at he; exact Or.inr ⟨ee, he⟩
  have hleaf : ∀ i l e x, s.leaves i = some l → upd s.dirs d (some ⟨k, u, n⟩) e = some x →
      l.ino ≠ x.ino := by
    intro i l e x hi he
    rcases hdirs e x he with ⟨_, rfl⟩ | ⟨_, h2⟩
    · exact hfresh i l hi
    · exact h.dirLeaf i l e x hi h2
  have hinj : ∀ a b x y, upd s.dirs d (some ⟨k, u, n⟩) a = some x →
      upd s.dirs d (some ⟨k, u, n⟩) b = some y → x.ino = y.ino → a = b := by
    intro a b x y ha hb hxy
    rcases hdirs a x ha with ⟨ea, rfl⟩ | ⟨ea, h1⟩ <;> rcases hdirs b y hb with ⟨eb, rfl⟩ | ⟨eb, h2⟩
    · rw [ea, eb]
    · exact absurd hxy.symm (hdfresh b y h2)
    · exact absurd hxy (hdfresh a x h1)
    · exact h.dirInj a b x y h1 h2 hxy
  cases k
  · refine ⟨h.count, h.mapTo, h.mapFrom, h.inj, ?_, hleaf, hinj⟩
    simp only
    intro m e hm
    by_cases em : m = n
    · subst em; simp [upd_same] at hm; subst hm; exact ⟨_, upd_same _ _ _, rfl⟩
    · rw [upd_other _ _ _ _ em] at hm
      obtain ⟨x, h1, h2⟩ := h.dirTo m e hm
      have : e ≠ d := by intro e'; subst e'; rw [hnone] at h1; cases h1
      exact ⟨x, by rw [upd_other _ _ _ _ this]; exact h1, h2⟩
  · refine ⟨h.count, h.mapTo, h.mapFrom, h.inj, ?_, hleaf, hinj⟩
    simp only
    intro m e hm
    obtain ⟨x, h1, h2⟩ := h.dirTo m e hm
    have : e ≠ d := by intro e'; subst e'; rw [hnone] at h1; cases h1
    exact ⟨x, by rw [upd_other _ _ _ _ this]; exact h1, h2⟩

theorem inv_release {s : State} (h : Inv s) (d : Nat) : Inv (release s d).1 := by
  unfold release
  cases hd : s.dirs d with
  | none => exact h
  | some dir =>
    simp only
    cases dir.kind <;> simp only
    · refine ⟨h.count, h.mapTo, h.mapFrom, h.inj, ?_, h.dirLeaf, h.dirInj⟩
      simp only
      intro m e hm
      by_cases em : m = dir.ino
      · subst em; simp [upd_same] at hm
      · rw [upd_other _ _ _ _ em] at hm; exact h.dirTo m e hm
    · exact h

theorem inv_step {s : State} (h : Inv s) (op : Op) (hl : legalOp s op) : Inv (step s op).1 := by
  cases op with
  | newLeaf i k u n => exact inv_newLeaf h hl
  | link i => exact inv_link h hl
  | unlink i => exact inv_unlink h hl
  | getattr i m c =>
    simp only [step, getattr]
    cases s.leaves i with
    | none => exact h
    | some l =>
      simp only; split
      · exact h
      · exact inv_frame h _ _
  | setattr i m st c =>
    simp only [step, setattr]
    cases s.leaves i with
    | none => exact h
    | some l => simp only; split <;> exact inv_frame h _ _
  | openSelf i m st c =>
    simp only [step, openSelf]
    cases s.leaves i with
    | none => exact h
    | some l => simp only; split <;> exact inv_frame h _ _
  | resolve n =>
    simp only [step, resolve]
    cases s.directories n with
    | some d => exact h
    | none => simp only; cases s.statefulLeaves n <;> exact h
  | resolveShort => exact h
  | newDir d k u n => exact inv_newDir h hl
  | dirAttr d =>
    simp only [step, dirAttr]
    cases s.dirs d with
    | none => exact h
    | some dir => simp only; cases dir.kind <;> exact h
  | notify d name =>
    simp only [step, notify]
    cases s.dirs d with
    | none => exact h
    | some dir =>
      simp only; cases dir.kind
      · exact h
      · exact inv_frame h _ _
  | release d => exact inv_release h d
  | register => exact inv_frame h _ _

theorem reach_inv {s : State} (r : Reach s) : Inv s := by
  induction r with
  | init => exact inv_init
  | step op _ hl ih => exact inv_step ih op hl

end BbRe.Lemmas.Handles
