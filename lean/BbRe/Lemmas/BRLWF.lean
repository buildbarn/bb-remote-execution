import BbRe.Lemmas.BRLSet
/-!
# Helper lemmas for C20: `setList` preserves the invariant

The output `pre ++ [n2]? ++ kept ++ tr2? ++ rest2` is pairwise related because
`pre ++ kept ++ rest2` is obtained from the input by deleting / shrinking
entries, and the two inserted entries are related to everything around them.
-/
namespace BbRe.Lemmas.BRL
open BbRe.BRL BbRe.Spec.ByteLocks


theorem pairwise_insert {α} {R : α → α → Prop} {A B : List α} {x : α}
    (h : (A ++ B).Pairwise R) (h1 : ∀ a ∈ A, R a x) (h2 : ∀ b ∈ B, R x b) :
    (A ++ x :: B).Pairwise R := by
  rw [List.pairwise_append] at h ⊢
  refine ⟨h.1, List.pairwise_cons.2 ⟨h2, h.2.1⟩, ?_⟩
  intro a ha b hb
  simp only [List.mem_cons] at hb
  rcases hb with rfl | hb
  · exact h1 a ha
  · exact h.2.2 a ha b hb

theorem ty_shared_of {t : Ty} (h1 : t ≠ .unlocked) (h2 : t ≠ .excl) : t = .shared := by
  cases t <;> simp_all

variable {ls : List Lock} {l : Lock} {pre kept rest2 : List Lock} {n2 : Lock} {tr2 : Option Lock}

/-- Another owner's entry that overlaps the grown new lock is shared, and so is
the new lock — because `Test` found no conflict. -/
theorem Pieces.cross_n2 (P : Pieces ls l pre kept rest2 n2 tr2)
    (hok : ∀ e ∈ ls, Ok e) (hp : ls.Pairwise Rel) (hl : l.start < l.stop)
    (hty : l.ty ≠ .unlocked) (ht : test ls l = none)
    {y : Lock} (hy : y ∈ ls) (ho : y.owner ≠ l.owner)
    (h1 : y.start < n2.stop) (h2 : n2.start < y.stop) : y.ty = .shared ∧ l.ty = .shared := by
  have hs : ls.Pairwise (fun a b => a.start ≤ b.start) := hp.imp (fun h => h.1)
  have hyok := hok y hy
  have hne : n2.start < n2.stop := Nat.lt_of_le_of_lt P.n2_start (Nat.lt_of_lt_of_le hl P.n2_stop)
  -- a common byte: the later of the two starts
  obtain ⟨b, hb1, hb2, hb3, hb4⟩ : ∃ b, y.start ≤ b ∧ b < y.stop ∧ n2.start ≤ b ∧ b < n2.stop := by
    by_cases h : y.start ≤ n2.start
    · exact ⟨n2.start, h, h2, Nat.le_refl _, hne⟩
    · exact ⟨y.start, Nat.le_refl _, hyok.1, Nat.le_of_lt (Nat.lt_of_not_le h), h1⟩
  rcases P.n2_cov b hb3 hb4 with h | ⟨e, he, heo, het, he1, he2⟩
  · have := (test_none_iff hs l).1 ht y hy ho (Nat.lt_of_le_of_lt hb1 h.2) (Nat.lt_of_le_of_lt h.1 hb2)
    exact ⟨ty_shared_of hyok.2 (fun h => this (Or.inl h)), ty_shared_of hty (fun h => this (Or.inr h))⟩
  · have := cross_of_mem hp hy he (by rw [heo]; exact ho) (Nat.lt_of_le_of_lt hb1 he2)
      (Nat.lt_of_le_of_lt he1 hb2)
    exact ⟨this.1, by rw [← het]; exact this.2⟩


/-- every entry placed before the re-inserted trailing part is related to it -/
theorem Pieces.tr_rel_before (P : Pieces ls l pre kept rest2 n2 tr2)
    (hp : ls.Pairwise Rel) (hl : l.start < l.stop) {x : Lock} (hx : tr2 = some x) :
    ∀ a ∈ pre ++ kept, Rel a x := by
  obtain ⟨hxo, hxt, hxs, hxne, e, he, heo, het, hes, hee⟩ := P.tr_ok x hx
  have hxl : x.owner = l.owner := hxo.trans P.n2_owner
  -- the trailing part starts where the new lock ends, behind its start
  have hlt : n2.start < x.start :=
    hxs ▸ Nat.lt_of_le_of_lt P.n2_start (Nat.lt_of_lt_of_le hl P.n2_stop)
  intro a ha
  rcases List.mem_append.1 ha with ha | ha
  · obtain ⟨a0, ha0, hs, ho, ht, hstop⟩ := P.pre_src a ha
    obtain ⟨-, hb2, hb3⟩ := P.pre_b a ha
    refine ⟨Nat.le_of_lt (Nat.lt_of_le_of_lt hb2 hlt), fun h => ?_, fun h h1 h2 => ?_⟩
    · have := (hb3 (h.trans hxl)).1
      exact ⟨Nat.le_of_lt (Nat.lt_of_le_of_lt this hlt), fun _ => Nat.lt_of_le_of_lt this hlt⟩
    · rw [ht, ← het]
      exact cross_of_mem hp ha0 he (by rw [← ho, heo, ← hxo]; exact h) (by rw [← hs, hes]; exact h1)
        (Nat.lt_of_le_of_lt hee (Nat.lt_of_lt_of_le h2 hstop))
  · obtain ⟨hk1, hk2, -, hk4⟩ := P.kept_b a ha
    refine ⟨hxs ▸ hk4, fun h => absurd (h.trans hxl) hk2, fun h h1 h2 => ?_⟩
    rw [← het]
    exact cross_of_mem hp hk1 he (by rw [heo, ← hxo]; exact h) (hes ▸ h1)
      (Nat.lt_of_le_of_lt hee h2)

/-- the re-inserted trailing part is related to everything after it -/
theorem Pieces.tr_rel_after (P : Pieces ls l pre kept rest2 n2 tr2)
    (hp : ls.Pairwise Rel) {x : Lock} (hx : tr2 = some x) :
    ∀ y ∈ rest2, Rel x y := by
  obtain ⟨hxo, hxt, hxs, hxne, e, he, heo, het, hes, hee⟩ := P.tr_ok x hx
  intro y hy
  obtain ⟨hy1, hy2⟩ := P.rest_b y hy
  have hlt : x.start < y.start := hxs ▸ hy2
  -- `x` is the end of the entry `e`, which lies before `y`
  obtain ⟨-, hown, hcross⟩ := rel_of_mem_of_lt hp he hy1 (Nat.lt_of_le_of_lt hee hlt)
  refine ⟨Nat.le_of_lt hlt, fun h => ?_, fun h h1 h2 => ?_⟩
  · rw [← hes, ← het]
    exact hown (heo.trans (hxo.symm.trans h))
  · rw [← het]
    exact hcross (by rw [heo, ← hxo]; exact h) (Nat.lt_of_le_of_lt hee h1) (hes ▸ h2)

/-- every entry before the insertion point is related to the new lock -/
theorem Pieces.n2_rel_before (P : Pieces ls l pre kept rest2 n2 tr2)
    (hok : ∀ e ∈ ls, Ok e) (hp : ls.Pairwise Rel) (hl : l.start < l.stop)
    (hty : l.ty ≠ .unlocked) (ht : test ls l = none) :
    ∀ a ∈ pre, Rel a n2 := by
  intro a ha
  obtain ⟨a0, ha0, hs, ho, hta, hstop⟩ := P.pre_src a ha
  obtain ⟨-, hb2, hb3⟩ := P.pre_b a ha
  refine ⟨hb2, fun h => ?_, fun h h1 h2 => ?_⟩
  · rw [P.n2_ty]
    exact hb3 (h.trans P.n2_owner)
  · rw [hta, P.n2_ty]
    exact P.cross_n2 hok hp hl hty ht ha0 (by rw [← ho, ← P.n2_owner]; exact h) (hs ▸ h1)
      (Nat.lt_of_lt_of_le h2 hstop)

/-- the new lock is related to everything after the insertion point -/
theorem Pieces.n2_rel_after (P : Pieces ls l pre kept rest2 n2 tr2)
    (hok : ∀ e ∈ ls, Ok e) (hp : ls.Pairwise Rel) (hl : l.start < l.stop)
    (hty : l.ty ≠ .unlocked) (ht : test ls l = none) :
    ∀ y ∈ kept ++ (tr2.toList ++ rest2), Rel n2 y := by
  intro y hy
  have hne : n2.start < n2.stop :=
    Nat.lt_of_le_of_lt P.n2_start (Nat.lt_of_lt_of_le hl P.n2_stop)
  simp only [List.mem_append, Option.mem_toList] at hy
  rcases hy with hy | hy | hy
  · obtain ⟨hk1, hk2, hk3, -⟩ := P.kept_b y hy
    refine ⟨hk3, fun h => absurd (h.symm.trans P.n2_owner) hk2, fun _ h1 h2 => ?_⟩
    rw [P.n2_ty]
    exact (P.cross_n2 hok hp hl hty ht hk1 hk2 h2 h1).symm
  · obtain ⟨hxo, hxt, hxs, -⟩ := P.tr_ok y hy
    exact ⟨Nat.le_of_lt (hxs ▸ hne), fun _ => ⟨Nat.le_of_eq hxs.symm, fun h => absurd h.symm hxt⟩,
      fun h => absurd hxo.symm h⟩
  · obtain ⟨-, hy2⟩ := P.rest_b y hy
    exact ⟨Nat.le_of_lt (Nat.lt_trans hne hy2), fun _ => ⟨Nat.le_of_lt hy2, fun _ => hy2⟩,
      fun _ _ h => absurd h (Nat.lt_asymm hy2)⟩


theorem Pieces.pairwise_unlock (P : Pieces ls l pre kept rest2 n2 tr2)
    (hp : ls.Pairwise Rel) (hl : l.start < l.stop) :
    (pre ++ (kept ++ (tr2.toList ++ rest2))).Pairwise Rel := by
  cases hx : tr2 with
  | none => simpa using P.base
  | some x =>
    have h := pairwise_insert (x := x) (A := pre ++ kept) (B := rest2)
      (by simpa using P.base) (P.tr_rel_before hp hl hx) (P.tr_rel_after hp hx)
    simpa using h

theorem Pieces.pairwise_lock (P : Pieces ls l pre kept rest2 n2 tr2)
    (hok : ∀ e ∈ ls, Ok e) (hp : ls.Pairwise Rel) (hl : l.start < l.stop)
    (hty : l.ty ≠ .unlocked) (ht : test ls l = none) :
    (pre ++ n2 :: (kept ++ (tr2.toList ++ rest2))).Pairwise Rel :=
  pairwise_insert (P.pairwise_unlock hp hl) (P.n2_rel_before hok hp hl hty ht)
    (P.n2_rel_after hok hp hl hty ht)

theorem Pieces.ok_unlock (P : Pieces ls l pre kept rest2 n2 tr2) (hok : ∀ e ∈ ls, Ok e) :
    ∀ e ∈ pre ++ (kept ++ (tr2.toList ++ rest2)), Ok e := by
  intro e he
  simp only [List.mem_append, Option.mem_toList] at he
  rcases he with he | he | he | he
  · exact P.pre_ok e he
  · exact hok e (P.kept_b e he).1
  · obtain ⟨_, _, _, hne, e0, he0, _, het, _, _⟩ := P.tr_ok e he
    exact ⟨hne, by rw [← het]; exact (hok e0 he0).2⟩
  · exact hok e (P.rest_b e he).1

theorem Pieces.ok_n2 (P : Pieces ls l pre kept rest2 n2 tr2) (hl : l.start < l.stop)
    (hty : l.ty ≠ .unlocked) : Ok n2 := by
  have := P.n2_start
  have := P.n2_stop
  exact ⟨by omega, by rw [P.n2_ty]; exact hty⟩

theorem setList_unlock_eq (ls : List Lock) (l : Lock) (h : l.ty = .unlocked) :
    setList ls l = (phase1 l none ls).1 ++
      ((phase2 (phase1 l none ls).2.2.1 (phase1 l none ls).2.2.2 (phase1 l none ls).2.1).1 ++
      ((phase2 (phase1 l none ls).2.2.1 (phase1 l none ls).2.2.2 (phase1 l none ls).2.1).2.2.2.toList ++
       (phase2 (phase1 l none ls).2.2.1 (phase1 l none ls).2.2.2 (phase1 l none ls).2.1).2.1)) := by
  unfold setList
  simp only [h, if_true, List.append_nil, List.append_assoc]

theorem setList_lock_eq (ls : List Lock) (l : Lock) (h : l.ty ≠ .unlocked) :
    setList ls l = (phase1 l none ls).1 ++
      (phase2 (phase1 l none ls).2.2.1 (phase1 l none ls).2.2.2 (phase1 l none ls).2.1).2.2.1 ::
      ((phase2 (phase1 l none ls).2.2.1 (phase1 l none ls).2.2.2 (phase1 l none ls).2.1).1 ++
      ((phase2 (phase1 l none ls).2.2.1 (phase1 l none ls).2.2.2 (phase1 l none ls).2.1).2.2.2.toList ++
       (phase2 (phase1 l none ls).2.2.1 (phase1 l none ls).2.2.2 (phase1 l none ls).2.1).2.1)) := by
  unfold setList
  simp only [h, if_false, List.append_assoc, List.cons_append, List.nil_append]

theorem wf_setList_unlock {ls : List Lock} {l : Lock} (hwf : WF ls) (hl : l.start < l.stop)
    (hty : l.ty = .unlocked) : WF (setList ls l) := by
  rw [wf_iff] at hwf ⊢
  have P := pieces ls l hwf.1 hwf.2 hl
  rw [setList_unlock_eq ls l hty]
  exact ⟨P.ok_unlock hwf.1, P.pairwise_unlock hwf.2 hl⟩

theorem wf_setList_lock {ls : List Lock} {l : Lock} (hwf : WF ls) (hl : l.start < l.stop)
    (hty : l.ty ≠ .unlocked) (ht : test ls l = none) : WF (setList ls l) := by
  rw [wf_iff] at hwf ⊢
  have P := pieces ls l hwf.1 hwf.2 hl
  rw [setList_lock_eq ls l hty]
  refine ⟨?_, P.pairwise_lock hwf.1 hwf.2 hl hty ht⟩
  intro e he
  simp only [List.mem_append, List.mem_cons] at he
  rcases he with he | rfl | he
  · exact P.ok_unlock hwf.1 e (by simp [he])
  · exact P.ok_n2 hl hty
  · exact P.ok_unlock hwf.1 e (by simp only [List.mem_append]; right; simpa using he)

end BbRe.Lemmas.BRL
