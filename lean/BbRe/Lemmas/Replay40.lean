import BbRe.Model.Replay40
import BbRe.Lemmas.IteCases
/-! The NFSv4.0 replay model (`Model/Replay40.lean`): the equations of `arrive`, arm by arm, and
its elimination principle `arrive_elim`; the invariant `Inv` (a busy owner has nothing cached, the
ghost `lastDone` is the cached response, waiters wait for a running transaction); the equations of
`finish`; `nested_cached` and `lockTx_frame` for lock-owners; and the second invariant `OpenInv`
(the file of a cached successful OPEN still resolves to its owner), over `ReachableWF`. -/
namespace BbRe.Lemmas.Replay40
open BbRe.Replay40

theorem arrive_eq_unresolved (s : State) (c : Nat) (r : Req) (h : resolve s r = none) :
    arrive s c r = (s, .reply (.err errBadStateid)) := by
  unfold arrive; rw [h]

theorem arrive_eq_wait (s : State) (c : Nat) (r : Req) (o : Nat) (h : resolve s r = some o)
    (hb : (s.oo o).busy.isSome = true) :
    arrive s c r = ({ s with waiting := s.waiting ++ [(c, o)] }, .waiting) := by
  unfold arrive; rw [h]; simp [hb]

theorem arrive_eq_replay (s : State) (c : Nat) (r : Req) (o : Nat) (resp : Resp) (h : resolve s r = some o)
    (hb : (s.oo o).busy = none) (hr : (s.oo o).lastResp = some resp) (hq : r.seq = (s.oo o).lastSeq) :
    arrive s c r = (s, .reply (replayReply r resp)) := by
  unfold arrive; rw [h]; simp [hb, hr, hq]

/-- No replay: either nothing is cached or the seqid is not the last one. -/
def NoReplay (ow : OpenOwner) (seq : Nat) : Prop := ow.lastResp = none ∨ seq ≠ ow.lastSeq

theorem noReplay_cond (ow : OpenOwner) (seq : Nat) (h : NoReplay ow seq) :
    (ow.lastResp.isSome && seq == ow.lastSeq) = false := by
  rcases h with h | h
  · simp [h]
  · simp [h]

theorem arrive_eq_badseq_confirmed (s : State) (c : Nat) (r : Req) (o : Nat) (h : resolve s r = some o)
    (hb : (s.oo o).busy = none) (hn : NoReplay (s.oo o) r.seq) (hc : (s.oo o).confirmed = true)
    (hq : r.seq ≠ nextSeq (s.oo o).lastSeq) :
    arrive s c r = (s, .reply (.err errBadSeqid)) := by
  unfold arrive; rw [h]
  simp only [hb, Option.isSome_none, Bool.false_eq_true, if_false, noReplay_cond _ _ hn, hc, if_true]
  simp [hq]

theorem arrive_eq_start_confirmed (s : State) (c : Nat) (r : Req) (o : Nat) (h : resolve s r = some o)
    (hb : (s.oo o).busy = none) (hn : NoReplay (s.oo o) r.seq) (hc : (s.oo o).confirmed = true)
    (hq : r.seq = nextSeq (s.oo o).lastSeq) :
    arrive s c r = (begin s o c r, .started) := by
  unfold arrive; rw [h]
  simp only [hb, Option.isSome_none, Bool.false_eq_true, if_false, noReplay_cond _ _ hn, hc, if_true]
  simp [hq]

theorem arrive_eq_unconfirmed_deny (s : State) (c : Nat) (r : Req) (o : Nat) (h : resolve s r = some o)
    (hb : (s.oo o).busy = none) (hn : NoReplay (s.oo o) r.seq) (hc : (s.oo o).confirmed = false)
    (hk : r.kind ≠ .openConfirm) (hk' : r.kind ≠ .open_) :
    arrive s c r = (s, .reply (.err errBadSeqid)) := by
  unfold arrive; rw [h]; simp only [hb, Option.isSome_none, Bool.false_eq_true, if_false, noReplay_cond _ _ hn, hc]

theorem arrive_eq_unconfirmed_open (s : State) (c : Nat) (r : Req) (o : Nat) (h : resolve s r = some o)
    (hb : (s.oo o).busy = none) (hn : NoReplay (s.oo o) r.seq) (hc : (s.oo o).confirmed = false)
    (hk : r.kind = .open_) :
    arrive s c r = (begin (reinit s o) o c r, .started) := by
  unfold arrive; rw [h]; simp only [hb, Option.isSome_none, Bool.false_eq_true, if_false, noReplay_cond _ _ hn, hc, hk]

theorem arrive_eq_unconfirmed_confirm (s : State) (c : Nat) (r : Req) (o : Nat) (h : resolve s r = some o)
    (hb : (s.oo o).busy = none) (hn : NoReplay (s.oo o) r.seq) (hc : (s.oo o).confirmed = false)
    (hk : r.kind = .openConfirm) :
    arrive s c r = (if r.seq ≠ nextSeq (s.oo o).lastSeq then (s, .reply (.err errBadSeqid)) else (begin s o c r, .started)) := by
  unfold arrive; rw [h]; simp only [hb, Option.isSome_none, Bool.false_eq_true, if_false, noReplay_cond _ _ hn, hc, hk]

/-- Case analysis of `arrive`, once: the call is refused, answered from the owner's cache, made to
wait for the owner's transaction, or starts a transaction (after `reinit` for an OPEN on an
unconfirmed owner). -/
theorem arrive_elim (s : State) (c : Nat) (r : Req) {P : State × Out → Prop}
    (err : ∀ code, P (s, .reply (.err code)))
    (replay : ∀ o resp, resolve s r = some o → (s.oo o).busy = none → (s.oo o).lastResp = some resp →
      r.seq = (s.oo o).lastSeq → P (s, .reply (replayReply r resp)))
    (wait : ∀ o b, resolve s r = some o → (s.oo o).busy = some b →
      P ({ s with waiting := s.waiting ++ [(c, o)] }, .waiting))
    (start : ∀ o, resolve s r = some o → (s.oo o).busy = none → P (begin s o c r, .started))
    (reopen : ∀ o, resolve s r = some o → (s.oo o).busy = none → P (begin (reinit s o) o c r, .started)) :
    P (arrive s c r) := by
  cases hres : resolve s r with
  | none => rw [arrive_eq_unresolved s c r hres]; exact err _
  | some o =>
    cases hb : (s.oo o).busy with
    | some b => rw [arrive_eq_wait s c r o hres (by rw [hb]; rfl)]; exact wait o b hres hb
    | none =>
      by_cases hrep : ∃ resp, (s.oo o).lastResp = some resp ∧ r.seq = (s.oo o).lastSeq
      · obtain ⟨resp, h1, h2⟩ := hrep
        rw [arrive_eq_replay s c r o resp hres hb h1 h2]; exact replay o resp hres hb h1 h2
      · have hn : NoReplay (s.oo o) r.seq := by
          cases h1 : (s.oo o).lastResp with
          | none => exact Or.inl h1
          | some resp => exact Or.inr (fun h2 => hrep ⟨resp, h1, h2⟩)
        cases hc : (s.oo o).confirmed with
        | true =>
          by_cases hq : r.seq = nextSeq (s.oo o).lastSeq
          · rw [arrive_eq_start_confirmed s c r o hres hb hn hc hq]; exact start o hres hb
          · rw [arrive_eq_badseq_confirmed s c r o hres hb hn hc hq]; exact err _
        | false =>
          by_cases hk : r.kind = .open_
          · rw [arrive_eq_unconfirmed_open s c r o hres hb hn hc hk]; exact reopen o hres hb
          · by_cases hk2 : r.kind = .openConfirm
            · rw [arrive_eq_unconfirmed_confirm s c r o hres hb hn hc hk2]
              by_cases hq : r.seq ≠ nextSeq (s.oo o).lastSeq
              · rw [if_pos hq]; exact err _
              · rw [if_neg hq]; exact start o hres hb
            · rw [arrive_eq_unconfirmed_deny s c r o hres hb hn hc hk2 hk]; exact err _

structure Inv (s : State) : Prop where
  busy : ∀ o b, (s.oo o).busy = some b → (s.oo o).lastResp = none ∧ (s.oo o).lastDone = none
  done : ∀ o r0 x0, (s.oo o).lastDone = some (r0, x0) → (s.oo o).lastResp = some x0 ∧ (s.oo o).lastSeq = r0.seq
  waiting : ∀ c o, (c, o) ∈ s.waiting → (s.oo o).busy.isSome = true

theorem inv_init : Inv {} where
  busy := fun o b h => by simp at h
  done := fun o r0 x0 h => by simp at h
  waiting := fun c o h => by simp at h

theorem forget_oo (s : State) (o k : Nat) :
    (forget s o).oo k = if k = o then { s.oo k with lastResp := none, closedFile := none, lastDone := none } else s.oo k := rfl

theorem reinit_oo (s : State) (o k : Nat) : (reinit s o).oo k = (forget s o).oo k := rfl

theorem reinit_waiting (s : State) (o : Nat) : (reinit s o).waiting = s.waiting := rfl

theorem begin_oo (s : State) (o c : Nat) (r : Req) (k : Nat) :
    (begin s o c r).oo k =
      if k = o then { (s.oo k) with lastResp := none, closedFile := none, lastDone := none, busy := some (c, r) }
      else s.oo k := by
  unfold begin
  by_cases hk : k = o
  · simp [hk, forget_oo]
  · simp [hk, forget_oo]

theorem begin_waiting (s : State) (o c : Nat) (r : Req) : (begin s o c r).waiting = s.waiting := rfl

theorem inv_begin (s : State) (o c : Nat) (r : Req) (hinv : Inv s) : Inv (begin s o c r) where
  busy := fun k b h => by
    rw [begin_oo] at h ⊢
    by_cases hk : k = o
    · simp [hk]
    · simp only [hk, if_false] at h ⊢; exact hinv.busy k b h
  done := fun k r0 x0 h => by
    rw [begin_oo] at h ⊢
    by_cases hk : k = o
    · simp [hk] at h
    · simp only [hk, if_false] at h ⊢; exact hinv.done k r0 x0 h
  waiting := fun c' k h => by
    rw [begin_waiting] at h
    rw [begin_oo]
    by_cases hk : k = o
    · simp [hk]
    · simp only [hk, if_false]; exact hinv.waiting c' k h

theorem inv_reinit (s : State) (o : Nat) (hinv : Inv s) (hb : (s.oo o).busy = none) : Inv (reinit s o) where
  busy := fun k b h => by
    rw [reinit_oo, forget_oo] at h ⊢
    by_cases hk : k = o
    · subst hk; simp
    · simp only [hk, if_false] at h ⊢; exact hinv.busy k b h
  done := fun k r0 x0 h => by
    rw [reinit_oo, forget_oo] at h ⊢
    by_cases hk : k = o
    · simp [hk] at h
    · simp only [hk, if_false] at h ⊢; exact hinv.done k r0 x0 h
  waiting := fun c' k h => by
    rw [reinit_waiting] at h
    rw [reinit_oo, forget_oo]
    by_cases hk : k = o
    · subst hk
      have := hinv.waiting c' k h
      rw [hb] at this; simp at this
    · simp only [hk, if_false]; exact hinv.waiting c' k h

theorem inv_arrive (s : State) (c : Nat) (r : Req) (hinv : Inv s) : Inv (arrive s c r).1 := by
  refine arrive_elim s c r (P := fun p => Inv p.1) (fun _ => hinv) (fun _ _ _ _ _ _ => hinv) (fun o b _ hb => ?_)
    (fun o _ _ => inv_begin s o c r hinv) (fun o _ hb => inv_begin _ o c r (inv_reinit s o hinv hb))
  refine ⟨hinv.busy, hinv.done, fun c' k h => ?_⟩
  rcases List.mem_append.mp h with h | h
  · exact hinv.waiting c' k h
  · cases List.mem_singleton.mp h
    rw [hb]; rfl

theorem finish_oo_other (s : State) (o : Nat) (x : Fin) (k : Nat) (hk : k ≠ o) :
    (finish s o x).1.oo k = s.oo k := by
  unfold finish
  split
  · rfl
  · simp [hk]

theorem finish_idle (s : State) (o : Nat) (x : Fin) (h : (s.oo o).busy = none) :
    finish s o x = (s, none, []) := by
  unfold finish; rw [h]

/-- The owner record after `finish` (`effResp` = the response the transaction
completed with; it is `x.resp` unless the nested lock-owner transaction of a
LOCK did not start). -/
theorem finish_oo_same (s : State) (o : Nat) (x : Fin) (call : Nat) (r : Req) (h : (s.oo o).busy = some (call, r)) :
    (finish s o x).1.oo o =
      { (s.oo o) with
        busy := none
        lastSeq := if shouldComplete (effResp s r x).status then r.seq else (s.oo o).lastSeq
        lastResp := if shouldComplete (effResp s r x).status then some (effResp s r x) else (s.oo o).lastResp
        closedFile := if shouldComplete (effResp s r x).status then
            (if ((effResp s r x).status == 0) && r.kind == .close then some r.other else none) else (s.oo o).closedFile
        lastDone := if shouldComplete (effResp s r x).status then some (r, effResp s r x) else (s.oo o).lastDone
        confirmed := (s.oo o).confirmed || (((effResp s r x).status == 0) && r.kind == .openConfirm) } := by
  unfold finish; rw [h]; simp

theorem finish_waiting (s : State) (o : Nat) (x : Fin) (call : Nat) (r : Req) (h : (s.oo o).busy = some (call, r)) :
    (finish s o x).1.waiting = s.waiting.filter (fun w => w.2 != o) ∧
    (finish s o x).2.2 = (s.waiting.filter (fun w => w.2 == o)).map (·.1) ∧
    (finish s o x).2.1 = some (call, effReply s r x) := by
  unfold finish; rw [h]; simp

theorem effResp_not_lock (s : State) (r : Req) (x : Fin) (h : r.kind ≠ .lock) : effResp s r x = x.resp := by
  unfold effResp
  have : (r.kind == Kind.lock) = false := by simpa using h
  simp [this]

theorem effReply_not_lock (s : State) (r : Req) (x : Fin) (h : r.kind ≠ .lock) : effReply s r x = .cached x.resp := by
  unfold effReply
  have : (r.kind == Kind.lock) = false := by simpa using h
  simp [this]

theorem inv_finish (s : State) (o : Nat) (x : Fin) (hinv : Inv s) : Inv (finish s o x).1 := by
  cases hb : (s.oo o).busy with
  | none => rw [finish_idle s o x hb]; exact hinv
  | some b =>
    obtain ⟨call, r⟩ := b
    obtain ⟨hr, hd⟩ := hinv.busy o _ hb
    refine ⟨fun k b2 h => ?_, fun k r0 x0 h => ?_, fun c' k h => ?_⟩
    · by_cases hk : k = o
      · subst hk; rw [finish_oo_same s k x call r hb] at h; simp at h
      · rw [finish_oo_other s o x k hk] at h ⊢; exact hinv.busy k b2 h
    · by_cases hk : k = o
      · subst hk
        rw [finish_oo_same s k x call r hb] at h ⊢
        cases hs : shouldComplete (effResp s r x).status
        · simp only [hs, Bool.false_eq_true, if_false] at h; rw [hd] at h; cases h
        · simp only [hs, if_true, Option.some.injEq, Prod.mk.injEq] at h ⊢
          obtain ⟨h1, h2⟩ := h
          subst h1; subst h2; exact ⟨rfl, rfl⟩
      · rw [finish_oo_other s o x k hk] at h ⊢; exact hinv.done k r0 x0 h
    · rw [(finish_waiting s o x call r hb).1] at h
      simp only [List.mem_filter, bne_iff_ne, ne_eq] at h
      rw [finish_oo_other s o x k h.2]
      exact hinv.waiting c' k h.1

/-- The nested lock-owner transaction answers from the cache only for the lock-owner's last seqid,
and only with a LOCK response. -/
theorem nested_cached {s : State} {lk f q : Nat} {c : Resp} (h : nested s lk f q = .cached c) :
    c.kind = .lock ∧ (s.lo lk).lastResp = some c ∧ q = (s.lo lk).lastSeq := by
  unfold nested at h
  rcases ite_eq_cases h with ⟨_, h⟩ | ⟨_, h⟩
  · cases h
  rcases ite_eq_cases h with ⟨_, h⟩ | ⟨_, h⟩
  · cases h
  cases hr : (s.lo lk).lastResp with
  | none => rw [hr] at h; rcases ite_eq_cases h with ⟨_, h⟩ | ⟨_, h⟩ <;> cases h
  | some resp =>
    rw [hr] at h
    rcases ite_eq_cases h with ⟨hq, h⟩ | ⟨_, h⟩
    · rcases ite_eq_cases h with ⟨hk, h⟩ | ⟨_, h⟩
      · cases h; exact ⟨hk, rfl, by simpa using hq⟩
      · cases h
    · rcases ite_eq_cases h with ⟨_, h⟩ | ⟨_, h⟩ <;> cases h

/-- A lock-owner transaction writes nothing but the lock-owner table.  (The projections are
pushed through the `if`s of `lockTx`, where they all meet `s`.) -/
theorem lockTx_frame (s : State) (r : LReq) (x : Resp) :
    (lockTx s r x).1.oo = s.oo ∧ (lockTx s r x).1.waiting = s.waiting ∧
      (lockTx s r x).1.openOther = s.openOther ∧ (lockTx s r x).1.legacyOpenFH = s.legacyOpenFH := by
  unfold lockTx
  cases lockLookup s r.other <;>
    simp only [apply_ite Prod.fst, apply_ite State.oo, apply_ite State.waiting, apply_ite State.openOther,
      apply_ite State.legacyOpenFH, ite_self, and_self]

theorem inv_step (s : State) (o : Op) (hinv : Inv s) : Inv (step s o) := by
  cases o with
  | arrive c r => exact inv_arrive s c r hinv
  | finish o x => exact inv_finish s o x hinv
  | lockTx r x =>
    obtain ⟨h1, h2, _⟩ := lockTx_frame s r x
    exact ⟨fun k b h => by simp only [step, h1] at h ⊢; exact hinv.busy k b h,
      fun k r0 x0 h => by simp only [step, h1] at h ⊢; exact hinv.done k r0 x0 h,
      fun c k h => by simp only [step, h1, h2] at h ⊢; exact hinv.waiting c k h⟩

theorem inv_reachable {s : State} (h : Reachable s) : Inv s := by
  induction h with
  | init => exact inv_init
  | step o _ ih => exact inv_step _ o ih


/-! ### The opened file of a cached OPEN response stays resolvable

("it cannot have been closed in the meantime": any later transaction of the
owner drops the cached response first.) -/

/-- Executor well-formedness used here: an OPEN that succeeds for owner `o`
returns a state ID whose `other` is new or already belongs to `o` (state ID
`other`s are unique random values). -/
def OpenWF (s : State) : Op → Prop
  | .finish o x => ∀ call r f q, (s.oo o).busy = some (call, r) → r.kind = .open_ →
      (effResp s r x).status = 0 → (effResp s r x).sid = some (f, q) →
      s.openOther f = none ∨ s.openOther f = some o
  | _ => True

inductive ReachableWF : State → Prop
  | init : ReachableWF {}
  | step {s : State} (o : Op) : ReachableWF s → OpenWF s o → ReachableWF (step s o)

theorem ReachableWF.reachable {s : State} (h : ReachableWF s) : Reachable s := by
  induction h with
  | init => exact Reachable.init
  | step o _ _ ih => exact Reachable.step o ih

structure OpenInv (s : State) : Prop where
  legacy : s.legacyOpenFH = false
  opened : ∀ o r0 x0 f q, (s.oo o).lastDone = some (r0, x0) → r0.kind = .open_ → x0.status = 0 →
    x0.sid = some (f, q) → s.openOther f = some o

theorem forget_openOther_ne (s : State) (o k f : Nat) (hk : k ≠ o) (h : s.openOther f = some k) :
    (forget s o).openOther f = some k := by
  unfold forget
  have : (s.openOther f == some o) = false := by rw [h]; simpa using hk
  simp only [this, Bool.and_false, Bool.false_eq_true, if_false]
  exact h

theorem reinit_openOther_ne (s : State) (o k f : Nat) (hk : k ≠ o) (h : s.openOther f = some k) :
    (reinit s o).openOther f = some k := by
  have h1 := forget_openOther_ne s o k f hk h
  unfold reinit
  simp only [h1]
  rw [if_neg]; simpa using hk

theorem begin_openOther (s : State) (o c : Nat) (r : Req) : (begin s o c r).openOther = (forget s o).openOther := rfl

theorem begin_legacy (s : State) (o c : Nat) (r : Req) : (begin s o c r).legacyOpenFH = s.legacyOpenFH := rfl
theorem reinit_legacy (s : State) (o : Nat) : (reinit s o).legacyOpenFH = s.legacyOpenFH := rfl

theorem openInv_begin (s : State) (o c : Nat) (r : Req) (hi : OpenInv s) : OpenInv (begin s o c r) where
  legacy := hi.legacy
  opened := fun k r0 x0 f q hd hk hs hsid => by
    rw [begin_oo] at hd
    by_cases hko : k = o
    · simp [hko] at hd
    · simp only [hko, if_false] at hd
      rw [begin_openOther]
      exact forget_openOther_ne s o k f hko (hi.opened k r0 x0 f q hd hk hs hsid)

theorem openInv_reinit (s : State) (o : Nat) (hi : OpenInv s) : OpenInv (reinit s o) where
  legacy := hi.legacy
  opened := fun k r0 x0 f q hd hk hs hsid => by
    rw [reinit_oo, forget_oo] at hd
    by_cases hko : k = o
    · simp [hko] at hd
    · simp only [hko, if_false] at hd
      exact reinit_openOther_ne s o k f hko (hi.opened k r0 x0 f q hd hk hs hsid)

theorem openInv_arrive (s : State) (c : Nat) (r : Req) (hi : OpenInv s) : OpenInv (arrive s c r).1 :=
  arrive_elim s c r (P := fun p => OpenInv p.1) (fun _ => hi) (fun _ _ _ _ _ _ => hi)
    (fun _ _ _ _ => ⟨hi.legacy, hi.opened⟩) (fun o _ _ => openInv_begin s o c r hi)
    (fun o _ _ => openInv_begin _ o c r (openInv_reinit s o hi))

/-- `openOwnerFilesByOther` after `finish`. -/
theorem finish_openOther (s : State) (o : Nat) (x : Fin) (call : Nat) (r : Req) (h : (s.oo o).busy = some (call, r)) (f : Nat) :
    (finish s o x).1.openOther f =
      match (effResp s r x).sid with
      | some (f', _) => if ((effResp s r x).status == 0) && r.kind == .open_ && f = f' then some o else s.openOther f
      | none => s.openOther f := by
  unfold finish; rw [h]; dsimp only
  cases (effResp s r x).sid with
  | none => rfl
  | some p => rfl

theorem finish_legacy (s : State) (o : Nat) (x : Fin) : (finish s o x).1.legacyOpenFH = s.legacyOpenFH := by
  unfold finish; split <;> rfl

theorem openInv_finish (s : State) (o : Nat) (x : Fin) (hinv : Inv s) (hi : OpenInv s) (hwf : OpenWF s (.finish o x)) :
    OpenInv (finish s o x).1 := by
  cases hb : (s.oo o).busy with
  | none => rw [finish_idle s o x hb]; exact hi
  | some b =>
    obtain ⟨call, r⟩ := b
    refine ⟨by rw [finish_legacy]; exact hi.legacy, fun k r0 x0 f q hd hk hs hsid => ?_⟩
    rw [finish_openOther s o x call r hb f]
    by_cases hko : k = o
    · subst hko
      rw [finish_oo_same s k x call r hb] at hd
      cases hadv : shouldComplete (effResp s r x).status
      · simp only [hadv, Bool.false_eq_true, if_false] at hd
        rw [(hinv.busy k _ hb).2] at hd; cases hd
      · simp only [hadv, if_true, Option.some.injEq, Prod.mk.injEq] at hd
        obtain ⟨e1, e2⟩ := hd
        subst e1; subst e2
        -- the finishing OPEN itself writes `openOther f := some k`
        simp [hsid, hs, hk]
    · rw [finish_oo_other s o x k hko] at hd
      have hold := hi.opened k r0 x0 f q hd hk hs hsid
      cases hsid' : (effResp s r x).sid with
      | none => simpa using hold
      | some p =>
        obtain ⟨f', q'⟩ := p
        simp only []
        by_cases hcond : (((effResp s r x).status == 0) && r.kind == .open_ && decide (f = f')) = true
        · simp only [Bool.and_eq_true, beq_iff_eq, decide_eq_true_eq] at hcond
          obtain ⟨⟨h1, h2⟩, h3⟩ := hcond
          subst h3
          rcases hwf call r f q' hb h2 h1 hsid' with h | h
          · rw [hold] at h; cases h
          · rw [hold] at h; cases h; exact absurd rfl hko
        · simp only [Bool.and_eq_true, beq_iff_eq, decide_eq_true_eq] at hcond
          rw [if_neg (by simpa using hcond)]; exact hold

theorem openInv_reachable {s : State} (h : ReachableWF s) : OpenInv s := by
  induction h with
  | init => exact ⟨rfl, fun o r0 x0 f q hd => by simp at hd⟩
  | step o hr hwf ih =>
    have hinv := inv_reachable hr.reachable
    cases o with
    | arrive c r => exact openInv_arrive _ c r ih
    | finish o x => exact openInv_finish _ o x hinv ih hwf
    | lockTx r x =>
      obtain ⟨h3, _, h1, h2⟩ := lockTx_frame _ r x
      refine ⟨?_, fun k r0 x0 f q hd hk hs hsid => ?_⟩
      · show (lockTx _ r x).1.legacyOpenFH = false
        rw [h2]; exact ih.legacy
      · have hd' : (((lockTx _ r x).1).oo k).lastDone = some (r0, x0) := hd
        rw [h3] at hd'
        show (lockTx _ r x).1.openOther f = some k
        rw [h1]
        exact ih.opened k r0 x0 f q hd' hk hs hsid

end BbRe.Lemmas.Replay40
