import BbRe.Lemmas.SchedLiveDefs
/-!
Projection lemmas of the state updates: for the primitive updates of the model (`setTask`, `emit`, …) by
definition; for each derived update `f` one equation `f_eq : f s .. = { s with <the fields it changes> }`
and its projections read off that equation.  First the fields an update leaves alone, then the values of
the fields it writes, then lookups through `setWorker` / `setScq`.
-/
namespace BbRe.Lemmas.SchedLive
open BbRe.Sched

@[simp] theorem setTask_cfg (s : State) (t : Task) : (s.setTask t).cfg = s.cfg := rfl
@[simp] theorem setTask_now (s : State) (t : Task) : (s.setTask t).now = s.now := rfl
@[simp] theorem setTask_pqs (s : State) (t : Task) : (s.setTask t).pqs = s.pqs := rfl
@[simp] theorem setTask_scqs (s : State) (t : Task) : (s.setTask t).scqs = s.scqs := rfl
@[simp] theorem setTask_workers (s : State) (t : Task) : (s.setTask t).workers = s.workers := rfl
@[simp] theorem setTask_ops (s : State) (t : Task) : (s.setTask t).ops = s.ops := rfl
@[simp] theorem setTask_dedup (s : State) (t : Task) : (s.setTask t).dedup = s.dedup := rfl
@[simp] theorem setTask_cleanup (s : State) (t : Task) : (s.setTask t).cleanup = s.cleanup := rfl
@[simp] theorem setTask_streams (s : State) (t : Task) : (s.setTask t).streams = s.streams := rfl
@[simp] theorem setTask_terms (s : State) (t : Task) : (s.setTask t).terms = s.terms := rfl
@[simp] theorem setTask_nextTask (s : State) (t : Task) : (s.setTask t).nextTask = s.nextTask := rfl
@[simp] theorem setTask_nextOp (s : State) (t : Task) : (s.setTask t).nextOp = s.nextOp := rfl
@[simp] theorem setTask_nextLearner (s : State) (t : Task) : (s.setTask t).nextLearner = s.nextLearner := rfl
@[simp] theorem setTask_events (s : State) (t : Task) : (s.setTask t).events = s.events := rfl
@[simp] theorem setTask_assigned (s : State) (t : Task) : (s.setTask t).assigned = s.assigned := rfl

@[simp] theorem setOp_cfg (s : State) (o : Op) : (s.setOp o).cfg = s.cfg := rfl
@[simp] theorem setOp_now (s : State) (o : Op) : (s.setOp o).now = s.now := rfl
@[simp] theorem setOp_pqs (s : State) (o : Op) : (s.setOp o).pqs = s.pqs := rfl
@[simp] theorem setOp_scqs (s : State) (o : Op) : (s.setOp o).scqs = s.scqs := rfl
@[simp] theorem setOp_workers (s : State) (o : Op) : (s.setOp o).workers = s.workers := rfl
@[simp] theorem setOp_tasks (s : State) (o : Op) : (s.setOp o).tasks = s.tasks := rfl
@[simp] theorem setOp_dedup (s : State) (o : Op) : (s.setOp o).dedup = s.dedup := rfl
@[simp] theorem setOp_cleanup (s : State) (o : Op) : (s.setOp o).cleanup = s.cleanup := rfl
@[simp] theorem setOp_streams (s : State) (o : Op) : (s.setOp o).streams = s.streams := rfl
@[simp] theorem setOp_terms (s : State) (o : Op) : (s.setOp o).terms = s.terms := rfl
@[simp] theorem setOp_nextTask (s : State) (o : Op) : (s.setOp o).nextTask = s.nextTask := rfl
@[simp] theorem setOp_nextOp (s : State) (o : Op) : (s.setOp o).nextOp = s.nextOp := rfl
@[simp] theorem setOp_nextLearner (s : State) (o : Op) : (s.setOp o).nextLearner = s.nextLearner := rfl
@[simp] theorem setOp_events (s : State) (o : Op) : (s.setOp o).events = s.events := rfl
@[simp] theorem setOp_assigned (s : State) (o : Op) : (s.setOp o).assigned = s.assigned := rfl

@[simp] theorem setWorker_cfg (s : State) (w : Worker) : (s.setWorker w).cfg = s.cfg := rfl
@[simp] theorem setWorker_now (s : State) (w : Worker) : (s.setWorker w).now = s.now := rfl
@[simp] theorem setWorker_pqs (s : State) (w : Worker) : (s.setWorker w).pqs = s.pqs := rfl
@[simp] theorem setWorker_scqs (s : State) (w : Worker) : (s.setWorker w).scqs = s.scqs := rfl
@[simp] theorem setWorker_tasks (s : State) (w : Worker) : (s.setWorker w).tasks = s.tasks := rfl
@[simp] theorem setWorker_ops (s : State) (w : Worker) : (s.setWorker w).ops = s.ops := rfl
@[simp] theorem setWorker_dedup (s : State) (w : Worker) : (s.setWorker w).dedup = s.dedup := rfl
@[simp] theorem setWorker_cleanup (s : State) (w : Worker) : (s.setWorker w).cleanup = s.cleanup := rfl
@[simp] theorem setWorker_streams (s : State) (w : Worker) : (s.setWorker w).streams = s.streams := rfl
@[simp] theorem setWorker_terms (s : State) (w : Worker) : (s.setWorker w).terms = s.terms := rfl
@[simp] theorem setWorker_nextTask (s : State) (w : Worker) : (s.setWorker w).nextTask = s.nextTask := rfl
@[simp] theorem setWorker_nextOp (s : State) (w : Worker) : (s.setWorker w).nextOp = s.nextOp := rfl
@[simp] theorem setWorker_nextLearner (s : State) (w : Worker) : (s.setWorker w).nextLearner = s.nextLearner := rfl
@[simp] theorem setWorker_events (s : State) (w : Worker) : (s.setWorker w).events = s.events := rfl
@[simp] theorem setWorker_assigned (s : State) (w : Worker) : (s.setWorker w).assigned = s.assigned := rfl

@[simp] theorem setScq_cfg (s : State) (q : Scq) : (s.setScq q).cfg = s.cfg := rfl
@[simp] theorem setScq_now (s : State) (q : Scq) : (s.setScq q).now = s.now := rfl
@[simp] theorem setScq_pqs (s : State) (q : Scq) : (s.setScq q).pqs = s.pqs := rfl
@[simp] theorem setScq_workers (s : State) (q : Scq) : (s.setScq q).workers = s.workers := rfl
@[simp] theorem setScq_tasks (s : State) (q : Scq) : (s.setScq q).tasks = s.tasks := rfl
@[simp] theorem setScq_ops (s : State) (q : Scq) : (s.setScq q).ops = s.ops := rfl
@[simp] theorem setScq_dedup (s : State) (q : Scq) : (s.setScq q).dedup = s.dedup := rfl
@[simp] theorem setScq_cleanup (s : State) (q : Scq) : (s.setScq q).cleanup = s.cleanup := rfl
@[simp] theorem setScq_streams (s : State) (q : Scq) : (s.setScq q).streams = s.streams := rfl
@[simp] theorem setScq_terms (s : State) (q : Scq) : (s.setScq q).terms = s.terms := rfl
@[simp] theorem setScq_nextTask (s : State) (q : Scq) : (s.setScq q).nextTask = s.nextTask := rfl
@[simp] theorem setScq_nextOp (s : State) (q : Scq) : (s.setScq q).nextOp = s.nextOp := rfl
@[simp] theorem setScq_nextLearner (s : State) (q : Scq) : (s.setScq q).nextLearner = s.nextLearner := rfl
@[simp] theorem setScq_events (s : State) (q : Scq) : (s.setScq q).events = s.events := rfl
@[simp] theorem setScq_assigned (s : State) (q : Scq) : (s.setScq q).assigned = s.assigned := rfl

@[simp] theorem emit_cfg (s : State) (e : Event) : (emit s e).cfg = s.cfg := rfl
@[simp] theorem emit_now (s : State) (e : Event) : (emit s e).now = s.now := rfl
@[simp] theorem emit_pqs (s : State) (e : Event) : (emit s e).pqs = s.pqs := rfl
@[simp] theorem emit_scqs (s : State) (e : Event) : (emit s e).scqs = s.scqs := rfl
@[simp] theorem emit_workers (s : State) (e : Event) : (emit s e).workers = s.workers := rfl
@[simp] theorem emit_tasks (s : State) (e : Event) : (emit s e).tasks = s.tasks := rfl
@[simp] theorem emit_ops (s : State) (e : Event) : (emit s e).ops = s.ops := rfl
@[simp] theorem emit_dedup (s : State) (e : Event) : (emit s e).dedup = s.dedup := rfl
@[simp] theorem emit_cleanup (s : State) (e : Event) : (emit s e).cleanup = s.cleanup := rfl
@[simp] theorem emit_streams (s : State) (e : Event) : (emit s e).streams = s.streams := rfl
@[simp] theorem emit_terms (s : State) (e : Event) : (emit s e).terms = s.terms := rfl
@[simp] theorem emit_nextTask (s : State) (e : Event) : (emit s e).nextTask = s.nextTask := rfl
@[simp] theorem emit_nextOp (s : State) (e : Event) : (emit s e).nextOp = s.nextOp := rfl
@[simp] theorem emit_nextLearner (s : State) (e : Event) : (emit s e).nextLearner = s.nextLearner := rfl
@[simp] theorem emit_assigned (s : State) (e : Event) : (emit s e).assigned = s.assigned := rfl

@[simp] theorem addCleanup_cfg (s : State) (d : Nat) (k : CleanupKind) : (s.addCleanup d k).cfg = s.cfg := rfl
@[simp] theorem addCleanup_now (s : State) (d : Nat) (k : CleanupKind) : (s.addCleanup d k).now = s.now := rfl
@[simp] theorem addCleanup_pqs (s : State) (d : Nat) (k : CleanupKind) : (s.addCleanup d k).pqs = s.pqs := rfl
@[simp] theorem addCleanup_scqs (s : State) (d : Nat) (k : CleanupKind) : (s.addCleanup d k).scqs = s.scqs := rfl
@[simp] theorem addCleanup_workers (s : State) (d : Nat) (k : CleanupKind) : (s.addCleanup d k).workers = s.workers := rfl
@[simp] theorem addCleanup_tasks (s : State) (d : Nat) (k : CleanupKind) : (s.addCleanup d k).tasks = s.tasks := rfl
@[simp] theorem addCleanup_ops (s : State) (d : Nat) (k : CleanupKind) : (s.addCleanup d k).ops = s.ops := rfl
@[simp] theorem addCleanup_dedup (s : State) (d : Nat) (k : CleanupKind) : (s.addCleanup d k).dedup = s.dedup := rfl
@[simp] theorem addCleanup_streams (s : State) (d : Nat) (k : CleanupKind) : (s.addCleanup d k).streams = s.streams := rfl
@[simp] theorem addCleanup_terms (s : State) (d : Nat) (k : CleanupKind) : (s.addCleanup d k).terms = s.terms := rfl
@[simp] theorem addCleanup_nextTask (s : State) (d : Nat) (k : CleanupKind) : (s.addCleanup d k).nextTask = s.nextTask := rfl
@[simp] theorem addCleanup_nextOp (s : State) (d : Nat) (k : CleanupKind) : (s.addCleanup d k).nextOp = s.nextOp := rfl
@[simp] theorem addCleanup_nextLearner (s : State) (d : Nat) (k : CleanupKind) : (s.addCleanup d k).nextLearner = s.nextLearner := rfl
@[simp] theorem addCleanup_events (s : State) (d : Nat) (k : CleanupKind) : (s.addCleanup d k).events = s.events := rfl
@[simp] theorem addCleanup_assigned (s : State) (d : Nat) (k : CleanupKind) : (s.addCleanup d k).assigned = s.assigned := rfl

@[simp] theorem removeCleanup_cfg (s : State) (k : CleanupKind) : (s.removeCleanup k).cfg = s.cfg := rfl
@[simp] theorem removeCleanup_now (s : State) (k : CleanupKind) : (s.removeCleanup k).now = s.now := rfl
@[simp] theorem removeCleanup_pqs (s : State) (k : CleanupKind) : (s.removeCleanup k).pqs = s.pqs := rfl
@[simp] theorem removeCleanup_scqs (s : State) (k : CleanupKind) : (s.removeCleanup k).scqs = s.scqs := rfl
@[simp] theorem removeCleanup_workers (s : State) (k : CleanupKind) : (s.removeCleanup k).workers = s.workers := rfl
@[simp] theorem removeCleanup_tasks (s : State) (k : CleanupKind) : (s.removeCleanup k).tasks = s.tasks := rfl
@[simp] theorem removeCleanup_ops (s : State) (k : CleanupKind) : (s.removeCleanup k).ops = s.ops := rfl
@[simp] theorem removeCleanup_dedup (s : State) (k : CleanupKind) : (s.removeCleanup k).dedup = s.dedup := rfl
@[simp] theorem removeCleanup_streams (s : State) (k : CleanupKind) : (s.removeCleanup k).streams = s.streams := rfl
@[simp] theorem removeCleanup_terms (s : State) (k : CleanupKind) : (s.removeCleanup k).terms = s.terms := rfl
@[simp] theorem removeCleanup_nextTask (s : State) (k : CleanupKind) : (s.removeCleanup k).nextTask = s.nextTask := rfl
@[simp] theorem removeCleanup_nextOp (s : State) (k : CleanupKind) : (s.removeCleanup k).nextOp = s.nextOp := rfl
@[simp] theorem removeCleanup_nextLearner (s : State) (k : CleanupKind) : (s.removeCleanup k).nextLearner = s.nextLearner := rfl
@[simp] theorem removeCleanup_events (s : State) (k : CleanupKind) : (s.removeCleanup k).events = s.events := rfl
@[simp] theorem removeCleanup_assigned (s : State) (k : CleanupKind) : (s.removeCleanup k).assigned = s.assigned := rfl

@[simp] theorem wakeWorker_cfg (s : State) (w : Worker) : (wakeWorker s w).cfg = s.cfg := rfl
@[simp] theorem wakeWorker_now (s : State) (w : Worker) : (wakeWorker s w).now = s.now := rfl
@[simp] theorem wakeWorker_pqs (s : State) (w : Worker) : (wakeWorker s w).pqs = s.pqs := rfl
@[simp] theorem wakeWorker_scqs (s : State) (w : Worker) : (wakeWorker s w).scqs = s.scqs := rfl
@[simp] theorem wakeWorker_tasks (s : State) (w : Worker) : (wakeWorker s w).tasks = s.tasks := rfl
@[simp] theorem wakeWorker_ops (s : State) (w : Worker) : (wakeWorker s w).ops = s.ops := rfl
@[simp] theorem wakeWorker_dedup (s : State) (w : Worker) : (wakeWorker s w).dedup = s.dedup := rfl
@[simp] theorem wakeWorker_cleanup (s : State) (w : Worker) : (wakeWorker s w).cleanup = s.cleanup := rfl
@[simp] theorem wakeWorker_streams (s : State) (w : Worker) : (wakeWorker s w).streams = s.streams := rfl
@[simp] theorem wakeWorker_terms (s : State) (w : Worker) : (wakeWorker s w).terms = s.terms := rfl
@[simp] theorem wakeWorker_nextTask (s : State) (w : Worker) : (wakeWorker s w).nextTask = s.nextTask := rfl
@[simp] theorem wakeWorker_nextOp (s : State) (w : Worker) : (wakeWorker s w).nextOp = s.nextOp := rfl
@[simp] theorem wakeWorker_nextLearner (s : State) (w : Worker) : (wakeWorker s w).nextLearner = s.nextLearner := rfl
@[simp] theorem wakeWorker_events (s : State) (w : Worker) : (wakeWorker s w).events = s.events := rfl
@[simp] theorem wakeWorker_assigned (s : State) (w : Worker) : (wakeWorker s w).assigned = s.assigned := rfl

theorem detachW_eq (s : State) (t : Task) : detachW s t = { s with workers := (detachW s t).workers } := by
  unfold detachW; split
  · split <;> rfl
  · rfl
@[simp] theorem detachW_cfg (s : State) (t : Task) : (detachW s t).cfg = s.cfg := by rw [detachW_eq]
@[simp] theorem detachW_now (s : State) (t : Task) : (detachW s t).now = s.now := by rw [detachW_eq]
@[simp] theorem detachW_pqs (s : State) (t : Task) : (detachW s t).pqs = s.pqs := by rw [detachW_eq]
@[simp] theorem detachW_scqs (s : State) (t : Task) : (detachW s t).scqs = s.scqs := by rw [detachW_eq]
@[simp] theorem detachW_tasks (s : State) (t : Task) : (detachW s t).tasks = s.tasks := by rw [detachW_eq]
@[simp] theorem detachW_ops (s : State) (t : Task) : (detachW s t).ops = s.ops := by rw [detachW_eq]
@[simp] theorem detachW_dedup (s : State) (t : Task) : (detachW s t).dedup = s.dedup := by rw [detachW_eq]
@[simp] theorem detachW_cleanup (s : State) (t : Task) : (detachW s t).cleanup = s.cleanup := by rw [detachW_eq]
@[simp] theorem detachW_streams (s : State) (t : Task) : (detachW s t).streams = s.streams := by rw [detachW_eq]
@[simp] theorem detachW_terms (s : State) (t : Task) : (detachW s t).terms = s.terms := by rw [detachW_eq]
@[simp] theorem detachW_nextTask (s : State) (t : Task) : (detachW s t).nextTask = s.nextTask := by rw [detachW_eq]
@[simp] theorem detachW_nextOp (s : State) (t : Task) : (detachW s t).nextOp = s.nextOp := by rw [detachW_eq]
@[simp] theorem detachW_nextLearner (s : State) (t : Task) : (detachW s t).nextLearner = s.nextLearner := by rw [detachW_eq]
@[simp] theorem detachW_events (s : State) (t : Task) : (detachW s t).events = s.events := by rw [detachW_eq]
@[simp] theorem detachW_assigned (s : State) (t : Task) : (detachW s t).assigned = s.assigned := by rw [detachW_eq]

theorem dropDedup_eq (s : State) (t : Task) : dropDedup s t =
    { s with dedup := if alookup t.dkey s.dedup = some t.id then aerase t.dkey s.dedup else s.dedup } := by
  unfold dropDedup; split <;> rfl
@[simp] theorem dropDedup_scqs (s : State) (t : Task) : (dropDedup s t).scqs = s.scqs := by rw [dropDedup_eq]
@[simp] theorem dropDedup_workers (s : State) (t : Task) : (dropDedup s t).workers = s.workers := by rw [dropDedup_eq]
@[simp] theorem dropDedup_tasks (s : State) (t : Task) : (dropDedup s t).tasks = s.tasks := by rw [dropDedup_eq]
@[simp] theorem dropDedup_ops (s : State) (t : Task) : (dropDedup s t).ops = s.ops := by rw [dropDedup_eq]
@[simp] theorem dropDedup_cleanup (s : State) (t : Task) : (dropDedup s t).cleanup = s.cleanup := by rw [dropDedup_eq]
@[simp] theorem dropDedup_nextTask (s : State) (t : Task) : (dropDedup s t).nextTask = s.nextTask := by rw [dropDedup_eq]
@[simp] theorem dropDedup_nextOp (s : State) (t : Task) : (dropDedup s t).nextOp = s.nextOp := by rw [dropDedup_eq]

theorem maybeStartCleanup_eq (s : State) (o : Nat) :
    maybeStartCleanup s o = { s with cleanup := (maybeStartCleanup s o).cleanup } := by
  unfold maybeStartCleanup; split
  · split <;> rfl
  · rfl
@[simp] theorem maybeStartCleanup_cfg (s : State) (o : Nat) : (maybeStartCleanup s o).cfg = s.cfg := by rw [maybeStartCleanup_eq]
@[simp] theorem maybeStartCleanup_now (s : State) (o : Nat) : (maybeStartCleanup s o).now = s.now := by rw [maybeStartCleanup_eq]
@[simp] theorem maybeStartCleanup_pqs (s : State) (o : Nat) : (maybeStartCleanup s o).pqs = s.pqs := by rw [maybeStartCleanup_eq]
@[simp] theorem maybeStartCleanup_scqs (s : State) (o : Nat) : (maybeStartCleanup s o).scqs = s.scqs := by rw [maybeStartCleanup_eq]
@[simp] theorem maybeStartCleanup_workers (s : State) (o : Nat) : (maybeStartCleanup s o).workers = s.workers := by rw [maybeStartCleanup_eq]
@[simp] theorem maybeStartCleanup_tasks (s : State) (o : Nat) : (maybeStartCleanup s o).tasks = s.tasks := by rw [maybeStartCleanup_eq]
@[simp] theorem maybeStartCleanup_ops (s : State) (o : Nat) : (maybeStartCleanup s o).ops = s.ops := by rw [maybeStartCleanup_eq]
@[simp] theorem maybeStartCleanup_dedup (s : State) (o : Nat) : (maybeStartCleanup s o).dedup = s.dedup := by rw [maybeStartCleanup_eq]
@[simp] theorem maybeStartCleanup_streams (s : State) (o : Nat) : (maybeStartCleanup s o).streams = s.streams := by rw [maybeStartCleanup_eq]
@[simp] theorem maybeStartCleanup_terms (s : State) (o : Nat) : (maybeStartCleanup s o).terms = s.terms := by rw [maybeStartCleanup_eq]
@[simp] theorem maybeStartCleanup_nextTask (s : State) (o : Nat) : (maybeStartCleanup s o).nextTask = s.nextTask := by rw [maybeStartCleanup_eq]
@[simp] theorem maybeStartCleanup_nextOp (s : State) (o : Nat) : (maybeStartCleanup s o).nextOp = s.nextOp := by rw [maybeStartCleanup_eq]
@[simp] theorem maybeStartCleanup_nextLearner (s : State) (o : Nat) : (maybeStartCleanup s o).nextLearner = s.nextLearner := by rw [maybeStartCleanup_eq]
@[simp] theorem maybeStartCleanup_events (s : State) (o : Nat) : (maybeStartCleanup s o).events = s.events := by rw [maybeStartCleanup_eq]
@[simp] theorem maybeStartCleanup_assigned (s : State) (o : Nat) : (maybeStartCleanup s o).assigned = s.assigned := by rw [maybeStartCleanup_eq]

theorem finishOp_eq (s : State) (o : Nat) :
    finishOp s o = { s with ops := (finishOp s o).ops, cleanup := (finishOp s o).cleanup } := by
  unfold finishOp; split
  · split
    · rw [maybeStartCleanup_eq]; rfl
    · rfl
  · rfl

theorem finishOps_eq (s : State) (l : List Nat) : complete.finishOps s l =
    { s with ops := (complete.finishOps s l).ops, cleanup := (complete.finishOps s l).cleanup } := by
  induction l generalizing s with
  | nil => rfl
  | cons o r ih => rw [finishOps_cons, ih, finishOp_eq]
@[simp] theorem finishOps_cfg (s : State) (l : List Nat) : (complete.finishOps s l).cfg = s.cfg := by rw [finishOps_eq]
@[simp] theorem finishOps_now (s : State) (l : List Nat) : (complete.finishOps s l).now = s.now := by rw [finishOps_eq]
@[simp] theorem finishOps_pqs (s : State) (l : List Nat) : (complete.finishOps s l).pqs = s.pqs := by rw [finishOps_eq]
@[simp] theorem finishOps_scqs (s : State) (l : List Nat) : (complete.finishOps s l).scqs = s.scqs := by rw [finishOps_eq]
@[simp] theorem finishOps_workers (s : State) (l : List Nat) : (complete.finishOps s l).workers = s.workers := by rw [finishOps_eq]
@[simp] theorem finishOps_tasks (s : State) (l : List Nat) : (complete.finishOps s l).tasks = s.tasks := by rw [finishOps_eq]
@[simp] theorem finishOps_dedup (s : State) (l : List Nat) : (complete.finishOps s l).dedup = s.dedup := by rw [finishOps_eq]
@[simp] theorem finishOps_streams (s : State) (l : List Nat) : (complete.finishOps s l).streams = s.streams := by rw [finishOps_eq]
@[simp] theorem finishOps_terms (s : State) (l : List Nat) : (complete.finishOps s l).terms = s.terms := by rw [finishOps_eq]
@[simp] theorem finishOps_nextTask (s : State) (l : List Nat) : (complete.finishOps s l).nextTask = s.nextTask := by rw [finishOps_eq]
@[simp] theorem finishOps_nextOp (s : State) (l : List Nat) : (complete.finishOps s l).nextOp = s.nextOp := by rw [finishOps_eq]
@[simp] theorem finishOps_nextLearner (s : State) (l : List Nat) : (complete.finishOps s l).nextLearner = s.nextLearner := by rw [finishOps_eq]
@[simp] theorem finishOps_events (s : State) (l : List Nat) : (complete.finishOps s l).events = s.events := by rw [finishOps_eq]
@[simp] theorem finishOps_assigned (s : State) (l : List Nat) : (complete.finishOps s l).assigned = s.assigned := by rw [finishOps_eq]

theorem finalizeS_eq (s : State) (t : Task) (r : Resp) : finalizeS s t r =
    { s with tasks := aset t.id (bumpGen { t with response := some r }) s.tasks, dedup := (dropDedup s t).dedup,
             ops := (finalizeS s t r).ops, cleanup := (finalizeS s t r).cleanup } := by
  unfold finalizeS; rw [finishOps_eq, dropDedup_eq]; rfl

@[simp] theorem bumpLearner_cfg (s : State) : (bumpLearner s).cfg = s.cfg := rfl
@[simp] theorem bumpLearner_now (s : State) : (bumpLearner s).now = s.now := rfl
@[simp] theorem bumpLearner_pqs (s : State) : (bumpLearner s).pqs = s.pqs := rfl
@[simp] theorem bumpLearner_scqs (s : State) : (bumpLearner s).scqs = s.scqs := rfl
@[simp] theorem bumpLearner_workers (s : State) : (bumpLearner s).workers = s.workers := rfl
@[simp] theorem bumpLearner_tasks (s : State) : (bumpLearner s).tasks = s.tasks := rfl
@[simp] theorem bumpLearner_ops (s : State) : (bumpLearner s).ops = s.ops := rfl
@[simp] theorem bumpLearner_dedup (s : State) : (bumpLearner s).dedup = s.dedup := rfl
@[simp] theorem bumpLearner_cleanup (s : State) : (bumpLearner s).cleanup = s.cleanup := rfl
@[simp] theorem bumpLearner_streams (s : State) : (bumpLearner s).streams = s.streams := rfl
@[simp] theorem bumpLearner_terms (s : State) : (bumpLearner s).terms = s.terms := rfl
@[simp] theorem bumpLearner_nextTask (s : State) : (bumpLearner s).nextTask = s.nextTask := rfl
@[simp] theorem bumpLearner_nextOp (s : State) : (bumpLearner s).nextOp = s.nextOp := rfl
@[simp] theorem bumpLearner_events (s : State) : (bumpLearner s).events = s.events := rfl
@[simp] theorem bumpLearner_assigned (s : State) : (bumpLearner s).assigned = s.assigned := rfl

theorem succS_eq (s : State) (t : Task) (ev : Event) (r : Resp) : succS s t ev r =
    { s with events := ev :: s.events,
             tasks := aset t.id (bumpGen { t with learner := none, response := some r }) s.tasks,
             dedup := (succS s t ev r).dedup, ops := (succS s t ev r).ops, cleanup := (succS s t ev r).cleanup } := by
  unfold succS; rw [finalizeS_eq]; rfl
@[simp] theorem succS_cfg (s : State) (t : Task) (ev : Event) (r : Resp) : (succS s t ev r).cfg = s.cfg := by rw [succS_eq]
@[simp] theorem succS_now (s : State) (t : Task) (ev : Event) (r : Resp) : (succS s t ev r).now = s.now := by rw [succS_eq]
@[simp] theorem succS_pqs (s : State) (t : Task) (ev : Event) (r : Resp) : (succS s t ev r).pqs = s.pqs := by rw [succS_eq]
@[simp] theorem succS_scqs (s : State) (t : Task) (ev : Event) (r : Resp) : (succS s t ev r).scqs = s.scqs := by rw [succS_eq]
@[simp] theorem succS_workers (s : State) (t : Task) (ev : Event) (r : Resp) : (succS s t ev r).workers = s.workers := by rw [succS_eq]
@[simp] theorem succS_streams (s : State) (t : Task) (ev : Event) (r : Resp) : (succS s t ev r).streams = s.streams := by rw [succS_eq]
@[simp] theorem succS_terms (s : State) (t : Task) (ev : Event) (r : Resp) : (succS s t ev r).terms = s.terms := by rw [succS_eq]
@[simp] theorem succS_nextTask (s : State) (t : Task) (ev : Event) (r : Resp) : (succS s t ev r).nextTask = s.nextTask := by rw [succS_eq]
@[simp] theorem succS_nextOp (s : State) (t : Task) (ev : Event) (r : Resp) : (succS s t ev r).nextOp = s.nextOp := by rw [succS_eq]
@[simp] theorem succS_nextLearner (s : State) (t : Task) (ev : Event) (r : Resp) : (succS s t ev r).nextLearner = s.nextLearner := by rw [succS_eq]
@[simp] theorem succS_assigned (s : State) (t : Task) (ev : Event) (r : Resp) : (succS s t ev r).assigned = s.assigned := by rw [succS_eq]

theorem retryS_eq (s : State) (l : Nat) (r : Resp) : retryS s l r =
    { s with nextLearner := s.nextLearner + 1,
             events := .learnerFailed l (r.code = cDeadlineExceeded) (some s.nextLearner) :: s.events } := by
  -- on a variable `s`, `rfl` re-unfolds the nested updates once per field and level; destructured, each projection reduces at once
  cases s; rfl
@[simp] theorem retryS_cfg (s : State) (l : Nat) (r : Resp) : (retryS s l r).cfg = s.cfg := by rw [retryS_eq]
@[simp] theorem retryS_now (s : State) (l : Nat) (r : Resp) : (retryS s l r).now = s.now := by rw [retryS_eq]
@[simp] theorem retryS_pqs (s : State) (l : Nat) (r : Resp) : (retryS s l r).pqs = s.pqs := by rw [retryS_eq]
@[simp] theorem retryS_scqs (s : State) (l : Nat) (r : Resp) : (retryS s l r).scqs = s.scqs := by rw [retryS_eq]
@[simp] theorem retryS_workers (s : State) (l : Nat) (r : Resp) : (retryS s l r).workers = s.workers := by rw [retryS_eq]
@[simp] theorem retryS_tasks (s : State) (l : Nat) (r : Resp) : (retryS s l r).tasks = s.tasks := by rw [retryS_eq]
@[simp] theorem retryS_ops (s : State) (l : Nat) (r : Resp) : (retryS s l r).ops = s.ops := by rw [retryS_eq]
@[simp] theorem retryS_dedup (s : State) (l : Nat) (r : Resp) : (retryS s l r).dedup = s.dedup := by rw [retryS_eq]
@[simp] theorem retryS_cleanup (s : State) (l : Nat) (r : Resp) : (retryS s l r).cleanup = s.cleanup := by rw [retryS_eq]
@[simp] theorem retryS_streams (s : State) (l : Nat) (r : Resp) : (retryS s l r).streams = s.streams := by rw [retryS_eq]
@[simp] theorem retryS_terms (s : State) (l : Nat) (r : Resp) : (retryS s l r).terms = s.terms := by rw [retryS_eq]
@[simp] theorem retryS_nextTask (s : State) (l : Nat) (r : Resp) : (retryS s l r).nextTask = s.nextTask := by rw [retryS_eq]
@[simp] theorem retryS_nextOp (s : State) (l : Nat) (r : Resp) : (retryS s l r).nextOp = s.nextOp := by rw [retryS_eq]
@[simp] theorem retryS_assigned (s : State) (l : Nat) (r : Resp) : (retryS s l r).assigned = s.assigned := by rw [retryS_eq]

@[simp] theorem eraseOp_cfg (s : State) (o : Nat) : (eraseOp s o).cfg = s.cfg := rfl
@[simp] theorem eraseOp_now (s : State) (o : Nat) : (eraseOp s o).now = s.now := rfl
@[simp] theorem eraseOp_pqs (s : State) (o : Nat) : (eraseOp s o).pqs = s.pqs := rfl
@[simp] theorem eraseOp_scqs (s : State) (o : Nat) : (eraseOp s o).scqs = s.scqs := rfl
@[simp] theorem eraseOp_workers (s : State) (o : Nat) : (eraseOp s o).workers = s.workers := rfl
@[simp] theorem eraseOp_tasks (s : State) (o : Nat) : (eraseOp s o).tasks = s.tasks := rfl
@[simp] theorem eraseOp_dedup (s : State) (o : Nat) : (eraseOp s o).dedup = s.dedup := rfl
@[simp] theorem eraseOp_cleanup (s : State) (o : Nat) : (eraseOp s o).cleanup = s.cleanup := rfl
@[simp] theorem eraseOp_streams (s : State) (o : Nat) : (eraseOp s o).streams = s.streams := rfl
@[simp] theorem eraseOp_terms (s : State) (o : Nat) : (eraseOp s o).terms = s.terms := rfl
@[simp] theorem eraseOp_nextTask (s : State) (o : Nat) : (eraseOp s o).nextTask = s.nextTask := rfl
@[simp] theorem eraseOp_nextOp (s : State) (o : Nat) : (eraseOp s o).nextOp = s.nextOp := rfl
@[simp] theorem eraseOp_nextLearner (s : State) (o : Nat) : (eraseOp s o).nextLearner = s.nextLearner := rfl
@[simp] theorem eraseOp_events (s : State) (o : Nat) : (eraseOp s o).events = s.events := rfl
@[simp] theorem eraseOp_assigned (s : State) (o : Nat) : (eraseOp s o).assigned = s.assigned := rfl

theorem dropOpT_eq (s : State) (t : Task) (o : Nat) : dropOpT s t o = { s with tasks := (dropOpT s t o).tasks } := by
  unfold dropOpT; split <;> rfl
@[simp] theorem dropOpT_cfg (s : State) (t : Task) (o : Nat) : (dropOpT s t o).cfg = s.cfg := by rw [dropOpT_eq]
@[simp] theorem dropOpT_now (s : State) (t : Task) (o : Nat) : (dropOpT s t o).now = s.now := by rw [dropOpT_eq]
@[simp] theorem dropOpT_pqs (s : State) (t : Task) (o : Nat) : (dropOpT s t o).pqs = s.pqs := by rw [dropOpT_eq]
@[simp] theorem dropOpT_scqs (s : State) (t : Task) (o : Nat) : (dropOpT s t o).scqs = s.scqs := by rw [dropOpT_eq]
@[simp] theorem dropOpT_workers (s : State) (t : Task) (o : Nat) : (dropOpT s t o).workers = s.workers := by rw [dropOpT_eq]
@[simp] theorem dropOpT_ops (s : State) (t : Task) (o : Nat) : (dropOpT s t o).ops = s.ops := by rw [dropOpT_eq]
@[simp] theorem dropOpT_dedup (s : State) (t : Task) (o : Nat) : (dropOpT s t o).dedup = s.dedup := by rw [dropOpT_eq]
@[simp] theorem dropOpT_cleanup (s : State) (t : Task) (o : Nat) : (dropOpT s t o).cleanup = s.cleanup := by rw [dropOpT_eq]
@[simp] theorem dropOpT_streams (s : State) (t : Task) (o : Nat) : (dropOpT s t o).streams = s.streams := by rw [dropOpT_eq]
@[simp] theorem dropOpT_terms (s : State) (t : Task) (o : Nat) : (dropOpT s t o).terms = s.terms := by rw [dropOpT_eq]
@[simp] theorem dropOpT_nextTask (s : State) (t : Task) (o : Nat) : (dropOpT s t o).nextTask = s.nextTask := by rw [dropOpT_eq]
@[simp] theorem dropOpT_nextOp (s : State) (t : Task) (o : Nat) : (dropOpT s t o).nextOp = s.nextOp := by rw [dropOpT_eq]
@[simp] theorem dropOpT_nextLearner (s : State) (t : Task) (o : Nat) : (dropOpT s t o).nextLearner = s.nextLearner := by rw [dropOpT_eq]
@[simp] theorem dropOpT_events (s : State) (t : Task) (o : Nat) : (dropOpT s t o).events = s.events := by rw [dropOpT_eq]
@[simp] theorem dropOpT_assigned (s : State) (t : Task) (o : Nat) : (dropOpT s t o).assigned = s.assigned := by rw [dropOpT_eq]

theorem dropScq_eq (s : State) (q : ScqId) :
    dropScq s q = { s with scqs := s.scqs.filter (fun x => x.id ≠ q), pqs := (dropScq s q).pqs } := by
  unfold dropScq; split <;> rfl
theorem dropScq_scqs (s : State) (q : ScqId) : (dropScq s q).scqs = s.scqs.filter (fun x => x.id ≠ q) := by
  rw [dropScq_eq]
@[simp] theorem dropScq_cfg (s : State) (q : ScqId) : (dropScq s q).cfg = s.cfg := by rw [dropScq_eq]
@[simp] theorem dropScq_now (s : State) (q : ScqId) : (dropScq s q).now = s.now := by rw [dropScq_eq]
@[simp] theorem dropScq_workers (s : State) (q : ScqId) : (dropScq s q).workers = s.workers := by rw [dropScq_eq]
@[simp] theorem dropScq_tasks (s : State) (q : ScqId) : (dropScq s q).tasks = s.tasks := by rw [dropScq_eq]
@[simp] theorem dropScq_ops (s : State) (q : ScqId) : (dropScq s q).ops = s.ops := by rw [dropScq_eq]
@[simp] theorem dropScq_dedup (s : State) (q : ScqId) : (dropScq s q).dedup = s.dedup := by rw [dropScq_eq]
@[simp] theorem dropScq_cleanup (s : State) (q : ScqId) : (dropScq s q).cleanup = s.cleanup := by rw [dropScq_eq]
@[simp] theorem dropScq_streams (s : State) (q : ScqId) : (dropScq s q).streams = s.streams := by rw [dropScq_eq]
@[simp] theorem dropScq_terms (s : State) (q : ScqId) : (dropScq s q).terms = s.terms := by rw [dropScq_eq]
@[simp] theorem dropScq_nextTask (s : State) (q : ScqId) : (dropScq s q).nextTask = s.nextTask := by rw [dropScq_eq]
@[simp] theorem dropScq_nextOp (s : State) (q : ScqId) : (dropScq s q).nextOp = s.nextOp := by rw [dropScq_eq]
@[simp] theorem dropScq_nextLearner (s : State) (q : ScqId) : (dropScq s q).nextLearner = s.nextLearner := by rw [dropScq_eq]
@[simp] theorem dropScq_events (s : State) (q : ScqId) : (dropScq s q).events = s.events := by rw [dropScq_eq]
@[simp] theorem dropScq_assigned (s : State) (q : ScqId) : (dropScq s q).assigned = s.assigned := by rw [dropScq_eq]

@[simp] theorem filterWorkers_cfg (s : State) (q : ScqId) (w : WId) : (filterWorkers s q w).cfg = s.cfg := rfl
@[simp] theorem filterWorkers_now (s : State) (q : ScqId) (w : WId) : (filterWorkers s q w).now = s.now := rfl
@[simp] theorem filterWorkers_pqs (s : State) (q : ScqId) (w : WId) : (filterWorkers s q w).pqs = s.pqs := rfl
@[simp] theorem filterWorkers_scqs (s : State) (q : ScqId) (w : WId) : (filterWorkers s q w).scqs = s.scqs := rfl
@[simp] theorem filterWorkers_tasks (s : State) (q : ScqId) (w : WId) : (filterWorkers s q w).tasks = s.tasks := rfl
@[simp] theorem filterWorkers_ops (s : State) (q : ScqId) (w : WId) : (filterWorkers s q w).ops = s.ops := rfl
@[simp] theorem filterWorkers_dedup (s : State) (q : ScqId) (w : WId) : (filterWorkers s q w).dedup = s.dedup := rfl
@[simp] theorem filterWorkers_cleanup (s : State) (q : ScqId) (w : WId) : (filterWorkers s q w).cleanup = s.cleanup := rfl
@[simp] theorem filterWorkers_streams (s : State) (q : ScqId) (w : WId) : (filterWorkers s q w).streams = s.streams := rfl
@[simp] theorem filterWorkers_terms (s : State) (q : ScqId) (w : WId) : (filterWorkers s q w).terms = s.terms := rfl
@[simp] theorem filterWorkers_nextTask (s : State) (q : ScqId) (w : WId) : (filterWorkers s q w).nextTask = s.nextTask := rfl
@[simp] theorem filterWorkers_nextOp (s : State) (q : ScqId) (w : WId) : (filterWorkers s q w).nextOp = s.nextOp := rfl
@[simp] theorem filterWorkers_nextLearner (s : State) (q : ScqId) (w : WId) : (filterWorkers s q w).nextLearner = s.nextLearner := rfl
@[simp] theorem filterWorkers_events (s : State) (q : ScqId) (w : WId) : (filterWorkers s q w).events = s.events := rfl
@[simp] theorem filterWorkers_assigned (s : State) (q : ScqId) (w : WId) : (filterWorkers s q w).assigned = s.assigned := rfl

theorem dropWorker_eq (s : State) (q : ScqId) (w : WId) (rt : Nat) : dropWorker s q w rt =
    { s with workers := (filterWorkers s q w).workers, cleanup := (dropWorker s q w rt).cleanup } := by
  unfold dropWorker; split
  · split <;> rfl
  · rfl
@[simp] theorem dropWorker_cfg (s : State) (q : ScqId) (w : WId) (rt : Nat) : (dropWorker s q w rt).cfg = s.cfg := by rw [dropWorker_eq]
@[simp] theorem dropWorker_now (s : State) (q : ScqId) (w : WId) (rt : Nat) : (dropWorker s q w rt).now = s.now := by rw [dropWorker_eq]
@[simp] theorem dropWorker_pqs (s : State) (q : ScqId) (w : WId) (rt : Nat) : (dropWorker s q w rt).pqs = s.pqs := by rw [dropWorker_eq]
@[simp] theorem dropWorker_scqs (s : State) (q : ScqId) (w : WId) (rt : Nat) : (dropWorker s q w rt).scqs = s.scqs := by rw [dropWorker_eq]
@[simp] theorem dropWorker_tasks (s : State) (q : ScqId) (w : WId) (rt : Nat) : (dropWorker s q w rt).tasks = s.tasks := by rw [dropWorker_eq]
@[simp] theorem dropWorker_ops (s : State) (q : ScqId) (w : WId) (rt : Nat) : (dropWorker s q w rt).ops = s.ops := by rw [dropWorker_eq]
@[simp] theorem dropWorker_dedup (s : State) (q : ScqId) (w : WId) (rt : Nat) : (dropWorker s q w rt).dedup = s.dedup := by rw [dropWorker_eq]
@[simp] theorem dropWorker_streams (s : State) (q : ScqId) (w : WId) (rt : Nat) : (dropWorker s q w rt).streams = s.streams := by rw [dropWorker_eq]
@[simp] theorem dropWorker_terms (s : State) (q : ScqId) (w : WId) (rt : Nat) : (dropWorker s q w rt).terms = s.terms := by rw [dropWorker_eq]
@[simp] theorem dropWorker_nextTask (s : State) (q : ScqId) (w : WId) (rt : Nat) : (dropWorker s q w rt).nextTask = s.nextTask := by rw [dropWorker_eq]
@[simp] theorem dropWorker_nextOp (s : State) (q : ScqId) (w : WId) (rt : Nat) : (dropWorker s q w rt).nextOp = s.nextOp := by rw [dropWorker_eq]
@[simp] theorem dropWorker_nextLearner (s : State) (q : ScqId) (w : WId) (rt : Nat) : (dropWorker s q w rt).nextLearner = s.nextLearner := by rw [dropWorker_eq]
@[simp] theorem dropWorker_events (s : State) (q : ScqId) (w : WId) (rt : Nat) : (dropWorker s q w rt).events = s.events := by rw [dropWorker_eq]
@[simp] theorem dropWorker_assigned (s : State) (q : ScqId) (w : WId) (rt : Nat) : (dropWorker s q w rt).assigned = s.assigned := by rw [dropWorker_eq]

@[simp] theorem setCleanup_cfg (s : State) (cs : List CleanupEntry) : (setCleanup s cs).cfg = s.cfg := rfl
@[simp] theorem setCleanup_now (s : State) (cs : List CleanupEntry) : (setCleanup s cs).now = s.now := rfl
@[simp] theorem setCleanup_pqs (s : State) (cs : List CleanupEntry) : (setCleanup s cs).pqs = s.pqs := rfl
@[simp] theorem setCleanup_scqs (s : State) (cs : List CleanupEntry) : (setCleanup s cs).scqs = s.scqs := rfl
@[simp] theorem setCleanup_workers (s : State) (cs : List CleanupEntry) : (setCleanup s cs).workers = s.workers := rfl
@[simp] theorem setCleanup_tasks (s : State) (cs : List CleanupEntry) : (setCleanup s cs).tasks = s.tasks := rfl
@[simp] theorem setCleanup_ops (s : State) (cs : List CleanupEntry) : (setCleanup s cs).ops = s.ops := rfl
@[simp] theorem setCleanup_dedup (s : State) (cs : List CleanupEntry) : (setCleanup s cs).dedup = s.dedup := rfl
@[simp] theorem setCleanup_streams (s : State) (cs : List CleanupEntry) : (setCleanup s cs).streams = s.streams := rfl
@[simp] theorem setCleanup_terms (s : State) (cs : List CleanupEntry) : (setCleanup s cs).terms = s.terms := rfl
@[simp] theorem setCleanup_nextTask (s : State) (cs : List CleanupEntry) : (setCleanup s cs).nextTask = s.nextTask := rfl
@[simp] theorem setCleanup_nextOp (s : State) (cs : List CleanupEntry) : (setCleanup s cs).nextOp = s.nextOp := rfl
@[simp] theorem setCleanup_nextLearner (s : State) (cs : List CleanupEntry) : (setCleanup s cs).nextLearner = s.nextLearner := rfl
@[simp] theorem setCleanup_events (s : State) (cs : List CleanupEntry) : (setCleanup s cs).events = s.events := rfl
@[simp] theorem setCleanup_assigned (s : State) (cs : List CleanupEntry) : (setCleanup s cs).assigned = s.assigned := rfl

@[simp] theorem setNow_cfg (s : State) (t : Nat) : (setNow s t).cfg = s.cfg := rfl
@[simp] theorem setNow_pqs (s : State) (t : Nat) : (setNow s t).pqs = s.pqs := rfl
@[simp] theorem setNow_scqs (s : State) (t : Nat) : (setNow s t).scqs = s.scqs := rfl
@[simp] theorem setNow_workers (s : State) (t : Nat) : (setNow s t).workers = s.workers := rfl
@[simp] theorem setNow_tasks (s : State) (t : Nat) : (setNow s t).tasks = s.tasks := rfl
@[simp] theorem setNow_ops (s : State) (t : Nat) : (setNow s t).ops = s.ops := rfl
@[simp] theorem setNow_dedup (s : State) (t : Nat) : (setNow s t).dedup = s.dedup := rfl
@[simp] theorem setNow_cleanup (s : State) (t : Nat) : (setNow s t).cleanup = s.cleanup := rfl
@[simp] theorem setNow_streams (s : State) (t : Nat) : (setNow s t).streams = s.streams := rfl
@[simp] theorem setNow_terms (s : State) (t : Nat) : (setNow s t).terms = s.terms := rfl
@[simp] theorem setNow_nextTask (s : State) (t : Nat) : (setNow s t).nextTask = s.nextTask := rfl
@[simp] theorem setNow_nextOp (s : State) (t : Nat) : (setNow s t).nextOp = s.nextOp := rfl
@[simp] theorem setNow_nextLearner (s : State) (t : Nat) : (setNow s t).nextLearner = s.nextLearner := rfl
@[simp] theorem setNow_events (s : State) (t : Nat) : (setNow s t).events = s.events := rfl
@[simp] theorem setNow_assigned (s : State) (t : Nat) : (setNow s t).assigned = s.assigned := rfl

@[simp] theorem dropStream_cfg (s : State) (c : Nat) : (dropStream s c).cfg = s.cfg := rfl
@[simp] theorem dropStream_now (s : State) (c : Nat) : (dropStream s c).now = s.now := rfl
@[simp] theorem dropStream_pqs (s : State) (c : Nat) : (dropStream s c).pqs = s.pqs := rfl
@[simp] theorem dropStream_scqs (s : State) (c : Nat) : (dropStream s c).scqs = s.scqs := rfl
@[simp] theorem dropStream_workers (s : State) (c : Nat) : (dropStream s c).workers = s.workers := rfl
@[simp] theorem dropStream_tasks (s : State) (c : Nat) : (dropStream s c).tasks = s.tasks := rfl
@[simp] theorem dropStream_ops (s : State) (c : Nat) : (dropStream s c).ops = s.ops := rfl
@[simp] theorem dropStream_dedup (s : State) (c : Nat) : (dropStream s c).dedup = s.dedup := rfl
@[simp] theorem dropStream_cleanup (s : State) (c : Nat) : (dropStream s c).cleanup = s.cleanup := rfl
@[simp] theorem dropStream_terms (s : State) (c : Nat) : (dropStream s c).terms = s.terms := rfl
@[simp] theorem dropStream_nextTask (s : State) (c : Nat) : (dropStream s c).nextTask = s.nextTask := rfl
@[simp] theorem dropStream_nextOp (s : State) (c : Nat) : (dropStream s c).nextOp = s.nextOp := rfl
@[simp] theorem dropStream_nextLearner (s : State) (c : Nat) : (dropStream s c).nextLearner = s.nextLearner := rfl
@[simp] theorem dropStream_events (s : State) (c : Nat) : (dropStream s c).events = s.events := rfl
@[simp] theorem dropStream_assigned (s : State) (c : Nat) : (dropStream s c).assigned = s.assigned := rfl

@[simp] theorem addStream_cfg (s : State) (st : Stream) : (addStream s st).cfg = s.cfg := rfl
@[simp] theorem addStream_now (s : State) (st : Stream) : (addStream s st).now = s.now := rfl
@[simp] theorem addStream_pqs (s : State) (st : Stream) : (addStream s st).pqs = s.pqs := rfl
@[simp] theorem addStream_scqs (s : State) (st : Stream) : (addStream s st).scqs = s.scqs := rfl
@[simp] theorem addStream_workers (s : State) (st : Stream) : (addStream s st).workers = s.workers := rfl
@[simp] theorem addStream_tasks (s : State) (st : Stream) : (addStream s st).tasks = s.tasks := rfl
@[simp] theorem addStream_ops (s : State) (st : Stream) : (addStream s st).ops = s.ops := rfl
@[simp] theorem addStream_dedup (s : State) (st : Stream) : (addStream s st).dedup = s.dedup := rfl
@[simp] theorem addStream_cleanup (s : State) (st : Stream) : (addStream s st).cleanup = s.cleanup := rfl
@[simp] theorem addStream_terms (s : State) (st : Stream) : (addStream s st).terms = s.terms := rfl
@[simp] theorem addStream_nextTask (s : State) (st : Stream) : (addStream s st).nextTask = s.nextTask := rfl
@[simp] theorem addStream_nextOp (s : State) (st : Stream) : (addStream s st).nextOp = s.nextOp := rfl
@[simp] theorem addStream_nextLearner (s : State) (st : Stream) : (addStream s st).nextLearner = s.nextLearner := rfl
@[simp] theorem addStream_events (s : State) (st : Stream) : (addStream s st).events = s.events := rfl
@[simp] theorem addStream_assigned (s : State) (st : Stream) : (addStream s st).assigned = s.assigned := rfl

theorem sendDone_eq (s : State) (c o : Nat) (op : Op) (t : Task) (r : Resp) : sendDone s c o op t r =
    { s with streams := s.streams.filter (fun x => x.client ≠ c),
             events := .ret c cOK :: .msg c o t.stage true r.code r.tok :: s.events,
             ops := aset op.name { op with waiters := op.waiters - 1 } s.ops,
             cleanup := (sendDone s c o op t r).cleanup } := by
  unfold sendDone; rw [maybeStartCleanup_eq]; cases s; rfl
@[simp] theorem sendDone_cfg (s : State) (c o : Nat) (op : Op) (t : Task) (r : Resp) : (sendDone s c o op t r).cfg = s.cfg := by rw [sendDone_eq]
@[simp] theorem sendDone_now (s : State) (c o : Nat) (op : Op) (t : Task) (r : Resp) : (sendDone s c o op t r).now = s.now := by rw [sendDone_eq]
@[simp] theorem sendDone_pqs (s : State) (c o : Nat) (op : Op) (t : Task) (r : Resp) : (sendDone s c o op t r).pqs = s.pqs := by rw [sendDone_eq]
@[simp] theorem sendDone_scqs (s : State) (c o : Nat) (op : Op) (t : Task) (r : Resp) : (sendDone s c o op t r).scqs = s.scqs := by rw [sendDone_eq]
@[simp] theorem sendDone_workers (s : State) (c o : Nat) (op : Op) (t : Task) (r : Resp) : (sendDone s c o op t r).workers = s.workers := by rw [sendDone_eq]
@[simp] theorem sendDone_tasks (s : State) (c o : Nat) (op : Op) (t : Task) (r : Resp) : (sendDone s c o op t r).tasks = s.tasks := by rw [sendDone_eq]
@[simp] theorem sendDone_dedup (s : State) (c o : Nat) (op : Op) (t : Task) (r : Resp) : (sendDone s c o op t r).dedup = s.dedup := by rw [sendDone_eq]
@[simp] theorem sendDone_terms (s : State) (c o : Nat) (op : Op) (t : Task) (r : Resp) : (sendDone s c o op t r).terms = s.terms := by rw [sendDone_eq]
@[simp] theorem sendDone_nextTask (s : State) (c o : Nat) (op : Op) (t : Task) (r : Resp) : (sendDone s c o op t r).nextTask = s.nextTask := by rw [sendDone_eq]
@[simp] theorem sendDone_nextOp (s : State) (c o : Nat) (op : Op) (t : Task) (r : Resp) : (sendDone s c o op t r).nextOp = s.nextOp := by rw [sendDone_eq]
@[simp] theorem sendDone_nextLearner (s : State) (c o : Nat) (op : Op) (t : Task) (r : Resp) : (sendDone s c o op t r).nextLearner = s.nextLearner := by rw [sendDone_eq]
@[simp] theorem sendDone_assigned (s : State) (c o : Nat) (op : Op) (t : Task) (r : Resp) : (sendDone s c o op t r).assigned = s.assigned := by rw [sendDone_eq]

theorem sendPark_eq (s : State) (c o : Nat) (t : Task) : sendPark s c o t =
    { s with streams := ⟨c, o, t.gen, s.now + s.cfg.updateInterval⟩ :: s.streams.filter (fun x => x.client ≠ c),
             events := .msg c o t.stage false 0 0 :: s.events } := by
  cases s; rfl
@[simp] theorem sendPark_cfg (s : State) (c o : Nat) (t : Task) : (sendPark s c o t).cfg = s.cfg := by rw [sendPark_eq]
@[simp] theorem sendPark_now (s : State) (c o : Nat) (t : Task) : (sendPark s c o t).now = s.now := by rw [sendPark_eq]
@[simp] theorem sendPark_pqs (s : State) (c o : Nat) (t : Task) : (sendPark s c o t).pqs = s.pqs := by rw [sendPark_eq]
@[simp] theorem sendPark_scqs (s : State) (c o : Nat) (t : Task) : (sendPark s c o t).scqs = s.scqs := by rw [sendPark_eq]
@[simp] theorem sendPark_workers (s : State) (c o : Nat) (t : Task) : (sendPark s c o t).workers = s.workers := by rw [sendPark_eq]
@[simp] theorem sendPark_tasks (s : State) (c o : Nat) (t : Task) : (sendPark s c o t).tasks = s.tasks := by rw [sendPark_eq]
@[simp] theorem sendPark_ops (s : State) (c o : Nat) (t : Task) : (sendPark s c o t).ops = s.ops := by rw [sendPark_eq]
@[simp] theorem sendPark_dedup (s : State) (c o : Nat) (t : Task) : (sendPark s c o t).dedup = s.dedup := by rw [sendPark_eq]
@[simp] theorem sendPark_cleanup (s : State) (c o : Nat) (t : Task) : (sendPark s c o t).cleanup = s.cleanup := by rw [sendPark_eq]
@[simp] theorem sendPark_terms (s : State) (c o : Nat) (t : Task) : (sendPark s c o t).terms = s.terms := by rw [sendPark_eq]
@[simp] theorem sendPark_nextTask (s : State) (c o : Nat) (t : Task) : (sendPark s c o t).nextTask = s.nextTask := by rw [sendPark_eq]
@[simp] theorem sendPark_nextOp (s : State) (c o : Nat) (t : Task) : (sendPark s c o t).nextOp = s.nextOp := by rw [sendPark_eq]
@[simp] theorem sendPark_nextLearner (s : State) (c o : Nat) (t : Task) : (sendPark s c o t).nextLearner = s.nextLearner := by rw [sendPark_eq]
@[simp] theorem sendPark_assigned (s : State) (c o : Nat) (t : Task) : (sendPark s c o t).assigned = s.assigned := by rw [sendPark_eq]

theorem attachS_eq (s : State) (o : Nat) (op : Op) : attachS s o op =
    { s with cleanup := s.cleanup.filter (fun e => e.kind ≠ .op o),
             ops := aset op.name { op with waiters := op.waiters + 1 } s.ops } := by
  cases s; rfl
@[simp] theorem attachS_cfg (s : State) (o : Nat) (op : Op) : (attachS s o op).cfg = s.cfg := by rw [attachS_eq]
@[simp] theorem attachS_now (s : State) (o : Nat) (op : Op) : (attachS s o op).now = s.now := by rw [attachS_eq]
@[simp] theorem attachS_pqs (s : State) (o : Nat) (op : Op) : (attachS s o op).pqs = s.pqs := by rw [attachS_eq]
@[simp] theorem attachS_scqs (s : State) (o : Nat) (op : Op) : (attachS s o op).scqs = s.scqs := by rw [attachS_eq]
@[simp] theorem attachS_workers (s : State) (o : Nat) (op : Op) : (attachS s o op).workers = s.workers := by rw [attachS_eq]
@[simp] theorem attachS_tasks (s : State) (o : Nat) (op : Op) : (attachS s o op).tasks = s.tasks := by rw [attachS_eq]
@[simp] theorem attachS_dedup (s : State) (o : Nat) (op : Op) : (attachS s o op).dedup = s.dedup := by rw [attachS_eq]
@[simp] theorem attachS_streams (s : State) (o : Nat) (op : Op) : (attachS s o op).streams = s.streams := by rw [attachS_eq]
@[simp] theorem attachS_terms (s : State) (o : Nat) (op : Op) : (attachS s o op).terms = s.terms := by rw [attachS_eq]
@[simp] theorem attachS_nextTask (s : State) (o : Nat) (op : Op) : (attachS s o op).nextTask = s.nextTask := by rw [attachS_eq]
@[simp] theorem attachS_nextOp (s : State) (o : Nat) (op : Op) : (attachS s o op).nextOp = s.nextOp := by rw [attachS_eq]
@[simp] theorem attachS_nextLearner (s : State) (o : Nat) (op : Op) : (attachS s o op).nextLearner = s.nextLearner := by rw [attachS_eq]
@[simp] theorem attachS_events (s : State) (o : Nat) (op : Op) : (attachS s o op).events = s.events := by rw [attachS_eq]
@[simp] theorem attachS_assigned (s : State) (o : Nat) (op : Op) : (attachS s o op).assigned = s.assigned := by rw [attachS_eq]

theorem leaveS_eq (s : State) (c : Nat) (st : Stream) (op : Op) (code : Nat) : leaveS s c st op code =
    { s with streams := s.streams.filter (fun x => x.client ≠ c), events := .ret c code :: s.events,
             ops := aset op.name { op with waiters := op.waiters - 1 } s.ops,
             cleanup := (leaveS s c st op code).cleanup } := by
  unfold leaveS; rw [maybeStartCleanup_eq]; cases s; rfl
@[simp] theorem leaveS_cfg (s : State) (c : Nat) (st : Stream) (op : Op) (code : Nat) : (leaveS s c st op code).cfg = s.cfg := by rw [leaveS_eq]
@[simp] theorem leaveS_now (s : State) (c : Nat) (st : Stream) (op : Op) (code : Nat) : (leaveS s c st op code).now = s.now := by rw [leaveS_eq]
@[simp] theorem leaveS_pqs (s : State) (c : Nat) (st : Stream) (op : Op) (code : Nat) : (leaveS s c st op code).pqs = s.pqs := by rw [leaveS_eq]
@[simp] theorem leaveS_scqs (s : State) (c : Nat) (st : Stream) (op : Op) (code : Nat) : (leaveS s c st op code).scqs = s.scqs := by rw [leaveS_eq]
@[simp] theorem leaveS_workers (s : State) (c : Nat) (st : Stream) (op : Op) (code : Nat) : (leaveS s c st op code).workers = s.workers := by rw [leaveS_eq]
@[simp] theorem leaveS_tasks (s : State) (c : Nat) (st : Stream) (op : Op) (code : Nat) : (leaveS s c st op code).tasks = s.tasks := by rw [leaveS_eq]
@[simp] theorem leaveS_dedup (s : State) (c : Nat) (st : Stream) (op : Op) (code : Nat) : (leaveS s c st op code).dedup = s.dedup := by rw [leaveS_eq]
@[simp] theorem leaveS_terms (s : State) (c : Nat) (st : Stream) (op : Op) (code : Nat) : (leaveS s c st op code).terms = s.terms := by rw [leaveS_eq]
@[simp] theorem leaveS_nextTask (s : State) (c : Nat) (st : Stream) (op : Op) (code : Nat) : (leaveS s c st op code).nextTask = s.nextTask := by rw [leaveS_eq]
@[simp] theorem leaveS_nextOp (s : State) (c : Nat) (st : Stream) (op : Op) (code : Nat) : (leaveS s c st op code).nextOp = s.nextOp := by rw [leaveS_eq]
@[simp] theorem leaveS_nextLearner (s : State) (c : Nat) (st : Stream) (op : Op) (code : Nat) : (leaveS s c st op code).nextLearner = s.nextLearner := by rw [leaveS_eq]
@[simp] theorem leaveS_assigned (s : State) (c : Nat) (st : Stream) (op : Op) (code : Nat) : (leaveS s c st op code).assigned = s.assigned := by rw [leaveS_eq]

theorem addOpS_eq (s : State) (tid : Nat) (t : Task) (inv : List Nat) (prio : Int) : addOpS s tid t inv prio =
    { s with nextOp := s.nextOp + 1,
             ops := aset s.nextOp { name := s.nextOp, task := tid, inv := inv, prio := prio, waiters := 0, mayExistWithoutWaiters := false } s.ops,
             tasks := aset t.id { t with ops := t.ops ++ [s.nextOp] } s.tasks } := by
  cases s; rfl
@[simp] theorem addOpS_cfg (s : State) (tid : Nat) (t : Task) (inv : List Nat) (prio : Int) : (addOpS s tid t inv prio).cfg = s.cfg := by rw [addOpS_eq]
@[simp] theorem addOpS_now (s : State) (tid : Nat) (t : Task) (inv : List Nat) (prio : Int) : (addOpS s tid t inv prio).now = s.now := by rw [addOpS_eq]
@[simp] theorem addOpS_pqs (s : State) (tid : Nat) (t : Task) (inv : List Nat) (prio : Int) : (addOpS s tid t inv prio).pqs = s.pqs := by rw [addOpS_eq]
@[simp] theorem addOpS_scqs (s : State) (tid : Nat) (t : Task) (inv : List Nat) (prio : Int) : (addOpS s tid t inv prio).scqs = s.scqs := by rw [addOpS_eq]
@[simp] theorem addOpS_workers (s : State) (tid : Nat) (t : Task) (inv : List Nat) (prio : Int) : (addOpS s tid t inv prio).workers = s.workers := by rw [addOpS_eq]
@[simp] theorem addOpS_dedup (s : State) (tid : Nat) (t : Task) (inv : List Nat) (prio : Int) : (addOpS s tid t inv prio).dedup = s.dedup := by rw [addOpS_eq]
@[simp] theorem addOpS_cleanup (s : State) (tid : Nat) (t : Task) (inv : List Nat) (prio : Int) : (addOpS s tid t inv prio).cleanup = s.cleanup := by rw [addOpS_eq]
@[simp] theorem addOpS_streams (s : State) (tid : Nat) (t : Task) (inv : List Nat) (prio : Int) : (addOpS s tid t inv prio).streams = s.streams := by rw [addOpS_eq]
@[simp] theorem addOpS_terms (s : State) (tid : Nat) (t : Task) (inv : List Nat) (prio : Int) : (addOpS s tid t inv prio).terms = s.terms := by rw [addOpS_eq]
@[simp] theorem addOpS_nextTask (s : State) (tid : Nat) (t : Task) (inv : List Nat) (prio : Int) : (addOpS s tid t inv prio).nextTask = s.nextTask := by rw [addOpS_eq]
@[simp] theorem addOpS_nextLearner (s : State) (tid : Nat) (t : Task) (inv : List Nat) (prio : Int) : (addOpS s tid t inv prio).nextLearner = s.nextLearner := by rw [addOpS_eq]
@[simp] theorem addOpS_events (s : State) (tid : Nat) (t : Task) (inv : List Nat) (prio : Int) : (addOpS s tid t inv prio).events = s.events := by rw [addOpS_eq]
@[simp] theorem addOpS_assigned (s : State) (tid : Nat) (t : Task) (inv : List Nat) (prio : Int) : (addOpS s tid t inv prio).assigned = s.assigned := by rw [addOpS_eq]

theorem newTaskS_eq (s : State) (digest dkey : Nat) (dnc : Bool) (q : ScqId) (inv : List Nat) (prio : Int) :
    newTaskS s digest dkey dnc q inv prio =
    { s with nextLearner := s.nextLearner + 1, events := .selSelect s.nextLearner :: s.events,
             nextTask := s.nextTask + 1, nextOp := s.nextOp + 1,
             dedup := if dnc then s.dedup else aset dkey s.nextTask s.dedup,
             tasks := aset s.nextTask (newTask s digest dkey dnc q) s.tasks,
             ops := aset s.nextOp (newOp s inv prio) s.ops } := by
  cases s; cases dnc <;> rfl
@[simp] theorem newTaskS_cfg (s : State) (digest dkey : Nat) (dnc : Bool) (q : ScqId) (inv : List Nat) (prio : Int) : (newTaskS s digest dkey dnc q inv prio).cfg = s.cfg := by rw [newTaskS_eq]
@[simp] theorem newTaskS_now (s : State) (digest dkey : Nat) (dnc : Bool) (q : ScqId) (inv : List Nat) (prio : Int) : (newTaskS s digest dkey dnc q inv prio).now = s.now := by rw [newTaskS_eq]
@[simp] theorem newTaskS_pqs (s : State) (digest dkey : Nat) (dnc : Bool) (q : ScqId) (inv : List Nat) (prio : Int) : (newTaskS s digest dkey dnc q inv prio).pqs = s.pqs := by rw [newTaskS_eq]
@[simp] theorem newTaskS_scqs (s : State) (digest dkey : Nat) (dnc : Bool) (q : ScqId) (inv : List Nat) (prio : Int) : (newTaskS s digest dkey dnc q inv prio).scqs = s.scqs := by rw [newTaskS_eq]
@[simp] theorem newTaskS_workers (s : State) (digest dkey : Nat) (dnc : Bool) (q : ScqId) (inv : List Nat) (prio : Int) : (newTaskS s digest dkey dnc q inv prio).workers = s.workers := by rw [newTaskS_eq]
@[simp] theorem newTaskS_cleanup (s : State) (digest dkey : Nat) (dnc : Bool) (q : ScqId) (inv : List Nat) (prio : Int) : (newTaskS s digest dkey dnc q inv prio).cleanup = s.cleanup := by rw [newTaskS_eq]
@[simp] theorem newTaskS_streams (s : State) (digest dkey : Nat) (dnc : Bool) (q : ScqId) (inv : List Nat) (prio : Int) : (newTaskS s digest dkey dnc q inv prio).streams = s.streams := by rw [newTaskS_eq]
@[simp] theorem newTaskS_terms (s : State) (digest dkey : Nat) (dnc : Bool) (q : ScqId) (inv : List Nat) (prio : Int) : (newTaskS s digest dkey dnc q inv prio).terms = s.terms := by rw [newTaskS_eq]
@[simp] theorem newTaskS_assigned (s : State) (digest dkey : Nat) (dnc : Bool) (q : ScqId) (inv : List Nat) (prio : Int) : (newTaskS s digest dkey dnc q inv prio).assigned = s.assigned := by rw [newTaskS_eq]

@[simp] theorem parkS_cfg (s : State) (wk : Worker) : (parkS s wk).cfg = s.cfg := rfl
@[simp] theorem parkS_now (s : State) (wk : Worker) : (parkS s wk).now = s.now := rfl
@[simp] theorem parkS_pqs (s : State) (wk : Worker) : (parkS s wk).pqs = s.pqs := rfl
@[simp] theorem parkS_scqs (s : State) (wk : Worker) : (parkS s wk).scqs = s.scqs := rfl
@[simp] theorem parkS_tasks (s : State) (wk : Worker) : (parkS s wk).tasks = s.tasks := rfl
@[simp] theorem parkS_ops (s : State) (wk : Worker) : (parkS s wk).ops = s.ops := rfl
@[simp] theorem parkS_dedup (s : State) (wk : Worker) : (parkS s wk).dedup = s.dedup := rfl
@[simp] theorem parkS_cleanup (s : State) (wk : Worker) : (parkS s wk).cleanup = s.cleanup := rfl
@[simp] theorem parkS_streams (s : State) (wk : Worker) : (parkS s wk).streams = s.streams := rfl
@[simp] theorem parkS_terms (s : State) (wk : Worker) : (parkS s wk).terms = s.terms := rfl
@[simp] theorem parkS_nextTask (s : State) (wk : Worker) : (parkS s wk).nextTask = s.nextTask := rfl
@[simp] theorem parkS_nextOp (s : State) (wk : Worker) : (parkS s wk).nextOp = s.nextOp := rfl
@[simp] theorem parkS_nextLearner (s : State) (wk : Worker) : (parkS s wk).nextLearner = s.nextLearner := rfl
@[simp] theorem parkS_events (s : State) (wk : Worker) : (parkS s wk).events = s.events := rfl
@[simp] theorem parkS_assigned (s : State) (wk : Worker) : (parkS s wk).assigned = s.assigned := rfl

@[simp] theorem drainWaitS_cfg (s : State) (wk : Worker) (sq : Scq) : (drainWaitS s wk sq).cfg = s.cfg := rfl
@[simp] theorem drainWaitS_now (s : State) (wk : Worker) (sq : Scq) : (drainWaitS s wk sq).now = s.now := rfl
@[simp] theorem drainWaitS_pqs (s : State) (wk : Worker) (sq : Scq) : (drainWaitS s wk sq).pqs = s.pqs := rfl
@[simp] theorem drainWaitS_scqs (s : State) (wk : Worker) (sq : Scq) : (drainWaitS s wk sq).scqs = s.scqs := rfl
@[simp] theorem drainWaitS_tasks (s : State) (wk : Worker) (sq : Scq) : (drainWaitS s wk sq).tasks = s.tasks := rfl
@[simp] theorem drainWaitS_ops (s : State) (wk : Worker) (sq : Scq) : (drainWaitS s wk sq).ops = s.ops := rfl
@[simp] theorem drainWaitS_dedup (s : State) (wk : Worker) (sq : Scq) : (drainWaitS s wk sq).dedup = s.dedup := rfl
@[simp] theorem drainWaitS_cleanup (s : State) (wk : Worker) (sq : Scq) : (drainWaitS s wk sq).cleanup = s.cleanup := rfl
@[simp] theorem drainWaitS_streams (s : State) (wk : Worker) (sq : Scq) : (drainWaitS s wk sq).streams = s.streams := rfl
@[simp] theorem drainWaitS_terms (s : State) (wk : Worker) (sq : Scq) : (drainWaitS s wk sq).terms = s.terms := rfl
@[simp] theorem drainWaitS_nextTask (s : State) (wk : Worker) (sq : Scq) : (drainWaitS s wk sq).nextTask = s.nextTask := rfl
@[simp] theorem drainWaitS_nextOp (s : State) (wk : Worker) (sq : Scq) : (drainWaitS s wk sq).nextOp = s.nextOp := rfl
@[simp] theorem drainWaitS_nextLearner (s : State) (wk : Worker) (sq : Scq) : (drainWaitS s wk sq).nextLearner = s.nextLearner := rfl
@[simp] theorem drainWaitS_events (s : State) (wk : Worker) (sq : Scq) : (drainWaitS s wk sq).events = s.events := rfl
@[simp] theorem drainWaitS_assigned (s : State) (wk : Worker) (sq : Scq) : (drainWaitS s wk sq).assigned = s.assigned := rfl

@[simp] theorem addScq_cfg (s : State) (q : ScqId) : (addScq s q).cfg = s.cfg := rfl
@[simp] theorem addScq_now (s : State) (q : ScqId) : (addScq s q).now = s.now := rfl
@[simp] theorem addScq_pqs (s : State) (q : ScqId) : (addScq s q).pqs = s.pqs := rfl
@[simp] theorem addScq_workers (s : State) (q : ScqId) : (addScq s q).workers = s.workers := rfl
@[simp] theorem addScq_tasks (s : State) (q : ScqId) : (addScq s q).tasks = s.tasks := rfl
@[simp] theorem addScq_ops (s : State) (q : ScqId) : (addScq s q).ops = s.ops := rfl
@[simp] theorem addScq_dedup (s : State) (q : ScqId) : (addScq s q).dedup = s.dedup := rfl
@[simp] theorem addScq_cleanup (s : State) (q : ScqId) : (addScq s q).cleanup = s.cleanup := rfl
@[simp] theorem addScq_streams (s : State) (q : ScqId) : (addScq s q).streams = s.streams := rfl
@[simp] theorem addScq_terms (s : State) (q : ScqId) : (addScq s q).terms = s.terms := rfl
@[simp] theorem addScq_nextTask (s : State) (q : ScqId) : (addScq s q).nextTask = s.nextTask := rfl
@[simp] theorem addScq_nextOp (s : State) (q : ScqId) : (addScq s q).nextOp = s.nextOp := rfl
@[simp] theorem addScq_nextLearner (s : State) (q : ScqId) : (addScq s q).nextLearner = s.nextLearner := rfl
@[simp] theorem addScq_events (s : State) (q : ScqId) : (addScq s q).events = s.events := rfl
@[simp] theorem addScq_assigned (s : State) (q : ScqId) : (addScq s q).assigned = s.assigned := rfl

@[simp] theorem addPqScq_cfg (s : State) (q : ScqId) (comps : List Nat) (pf : Nat) : (addPqScq s q comps pf).cfg = s.cfg := rfl
@[simp] theorem addPqScq_now (s : State) (q : ScqId) (comps : List Nat) (pf : Nat) : (addPqScq s q comps pf).now = s.now := rfl
@[simp] theorem addPqScq_workers (s : State) (q : ScqId) (comps : List Nat) (pf : Nat) : (addPqScq s q comps pf).workers = s.workers := rfl
@[simp] theorem addPqScq_tasks (s : State) (q : ScqId) (comps : List Nat) (pf : Nat) : (addPqScq s q comps pf).tasks = s.tasks := rfl
@[simp] theorem addPqScq_ops (s : State) (q : ScqId) (comps : List Nat) (pf : Nat) : (addPqScq s q comps pf).ops = s.ops := rfl
@[simp] theorem addPqScq_dedup (s : State) (q : ScqId) (comps : List Nat) (pf : Nat) : (addPqScq s q comps pf).dedup = s.dedup := rfl
@[simp] theorem addPqScq_cleanup (s : State) (q : ScqId) (comps : List Nat) (pf : Nat) : (addPqScq s q comps pf).cleanup = s.cleanup := rfl
@[simp] theorem addPqScq_streams (s : State) (q : ScqId) (comps : List Nat) (pf : Nat) : (addPqScq s q comps pf).streams = s.streams := rfl
@[simp] theorem addPqScq_terms (s : State) (q : ScqId) (comps : List Nat) (pf : Nat) : (addPqScq s q comps pf).terms = s.terms := rfl
@[simp] theorem addPqScq_nextTask (s : State) (q : ScqId) (comps : List Nat) (pf : Nat) : (addPqScq s q comps pf).nextTask = s.nextTask := rfl
@[simp] theorem addPqScq_nextOp (s : State) (q : ScqId) (comps : List Nat) (pf : Nat) : (addPqScq s q comps pf).nextOp = s.nextOp := rfl
@[simp] theorem addPqScq_nextLearner (s : State) (q : ScqId) (comps : List Nat) (pf : Nat) : (addPqScq s q comps pf).nextLearner = s.nextLearner := rfl
@[simp] theorem addPqScq_events (s : State) (q : ScqId) (comps : List Nat) (pf : Nat) : (addPqScq s q comps pf).events = s.events := rfl
@[simp] theorem addPqScq_assigned (s : State) (q : ScqId) (comps : List Nat) (pf : Nat) : (addPqScq s q comps pf).assigned = s.assigned := rfl

@[simp] theorem addWorker_cfg (s : State) (q : ScqId) (w : WId) : (addWorker s q w).cfg = s.cfg := rfl
@[simp] theorem addWorker_now (s : State) (q : ScqId) (w : WId) : (addWorker s q w).now = s.now := rfl
@[simp] theorem addWorker_pqs (s : State) (q : ScqId) (w : WId) : (addWorker s q w).pqs = s.pqs := rfl
@[simp] theorem addWorker_scqs (s : State) (q : ScqId) (w : WId) : (addWorker s q w).scqs = s.scqs := rfl
@[simp] theorem addWorker_tasks (s : State) (q : ScqId) (w : WId) : (addWorker s q w).tasks = s.tasks := rfl
@[simp] theorem addWorker_ops (s : State) (q : ScqId) (w : WId) : (addWorker s q w).ops = s.ops := rfl
@[simp] theorem addWorker_dedup (s : State) (q : ScqId) (w : WId) : (addWorker s q w).dedup = s.dedup := rfl
@[simp] theorem addWorker_cleanup (s : State) (q : ScqId) (w : WId) : (addWorker s q w).cleanup = s.cleanup := rfl
@[simp] theorem addWorker_streams (s : State) (q : ScqId) (w : WId) : (addWorker s q w).streams = s.streams := rfl
@[simp] theorem addWorker_terms (s : State) (q : ScqId) (w : WId) : (addWorker s q w).terms = s.terms := rfl
@[simp] theorem addWorker_nextTask (s : State) (q : ScqId) (w : WId) : (addWorker s q w).nextTask = s.nextTask := rfl
@[simp] theorem addWorker_nextOp (s : State) (q : ScqId) (w : WId) : (addWorker s q w).nextOp = s.nextOp := rfl
@[simp] theorem addWorker_nextLearner (s : State) (q : ScqId) (w : WId) : (addWorker s q w).nextLearner = s.nextLearner := rfl
@[simp] theorem addWorker_events (s : State) (q : ScqId) (w : WId) : (addWorker s q w).events = s.events := rfl
@[simp] theorem addWorker_assigned (s : State) (q : ScqId) (w : WId) : (addWorker s q w).assigned = s.assigned := rfl

@[simp] theorem addTerm_cfg (s : State) (tc : TermCall) : (addTerm s tc).cfg = s.cfg := rfl
@[simp] theorem addTerm_now (s : State) (tc : TermCall) : (addTerm s tc).now = s.now := rfl
@[simp] theorem addTerm_pqs (s : State) (tc : TermCall) : (addTerm s tc).pqs = s.pqs := rfl
@[simp] theorem addTerm_scqs (s : State) (tc : TermCall) : (addTerm s tc).scqs = s.scqs := rfl
@[simp] theorem addTerm_workers (s : State) (tc : TermCall) : (addTerm s tc).workers = s.workers := rfl
@[simp] theorem addTerm_tasks (s : State) (tc : TermCall) : (addTerm s tc).tasks = s.tasks := rfl
@[simp] theorem addTerm_ops (s : State) (tc : TermCall) : (addTerm s tc).ops = s.ops := rfl
@[simp] theorem addTerm_dedup (s : State) (tc : TermCall) : (addTerm s tc).dedup = s.dedup := rfl
@[simp] theorem addTerm_cleanup (s : State) (tc : TermCall) : (addTerm s tc).cleanup = s.cleanup := rfl
@[simp] theorem addTerm_streams (s : State) (tc : TermCall) : (addTerm s tc).streams = s.streams := rfl
@[simp] theorem addTerm_nextTask (s : State) (tc : TermCall) : (addTerm s tc).nextTask = s.nextTask := rfl
@[simp] theorem addTerm_nextOp (s : State) (tc : TermCall) : (addTerm s tc).nextOp = s.nextOp := rfl
@[simp] theorem addTerm_nextLearner (s : State) (tc : TermCall) : (addTerm s tc).nextLearner = s.nextLearner := rfl
@[simp] theorem addTerm_events (s : State) (tc : TermCall) : (addTerm s tc).events = s.events := rfl
@[simp] theorem addTerm_assigned (s : State) (tc : TermCall) : (addTerm s tc).assigned = s.assigned := rfl

@[simp] theorem dropTerm_cfg (s : State) (id : Nat) : (dropTerm s id).cfg = s.cfg := rfl
@[simp] theorem dropTerm_now (s : State) (id : Nat) : (dropTerm s id).now = s.now := rfl
@[simp] theorem dropTerm_pqs (s : State) (id : Nat) : (dropTerm s id).pqs = s.pqs := rfl
@[simp] theorem dropTerm_scqs (s : State) (id : Nat) : (dropTerm s id).scqs = s.scqs := rfl
@[simp] theorem dropTerm_workers (s : State) (id : Nat) : (dropTerm s id).workers = s.workers := rfl
@[simp] theorem dropTerm_tasks (s : State) (id : Nat) : (dropTerm s id).tasks = s.tasks := rfl
@[simp] theorem dropTerm_ops (s : State) (id : Nat) : (dropTerm s id).ops = s.ops := rfl
@[simp] theorem dropTerm_dedup (s : State) (id : Nat) : (dropTerm s id).dedup = s.dedup := rfl
@[simp] theorem dropTerm_cleanup (s : State) (id : Nat) : (dropTerm s id).cleanup = s.cleanup := rfl
@[simp] theorem dropTerm_streams (s : State) (id : Nat) : (dropTerm s id).streams = s.streams := rfl
@[simp] theorem dropTerm_nextTask (s : State) (id : Nat) : (dropTerm s id).nextTask = s.nextTask := rfl
@[simp] theorem dropTerm_nextOp (s : State) (id : Nat) : (dropTerm s id).nextOp = s.nextOp := rfl
@[simp] theorem dropTerm_nextLearner (s : State) (id : Nat) : (dropTerm s id).nextLearner = s.nextLearner := rfl
@[simp] theorem dropTerm_events (s : State) (id : Nat) : (dropTerm s id).events = s.events := rfl
@[simp] theorem dropTerm_assigned (s : State) (id : Nat) : (dropTerm s id).assigned = s.assigned := rfl

theorem assignS_eq (s : State) (w : Worker) (t : Task) : assignS s w t =
    { s with workers := (s.setWorker { w with task := some t.id }).workers,
             tasks := aset t.id { t with worker := some (w.scq, w.id), retry := 0, queued := false } s.tasks,
             assigned := (w.scq, w.id, t.id) :: s.assigned } := by
  cases s; rfl
@[simp] theorem assignS_cfg (s : State) (w : Worker) (t : Task) : (assignS s w t).cfg = s.cfg := by rw [assignS_eq]
@[simp] theorem assignS_now (s : State) (w : Worker) (t : Task) : (assignS s w t).now = s.now := by rw [assignS_eq]
@[simp] theorem assignS_pqs (s : State) (w : Worker) (t : Task) : (assignS s w t).pqs = s.pqs := by rw [assignS_eq]
@[simp] theorem assignS_scqs (s : State) (w : Worker) (t : Task) : (assignS s w t).scqs = s.scqs := by rw [assignS_eq]
@[simp] theorem assignS_ops (s : State) (w : Worker) (t : Task) : (assignS s w t).ops = s.ops := by rw [assignS_eq]
@[simp] theorem assignS_dedup (s : State) (w : Worker) (t : Task) : (assignS s w t).dedup = s.dedup := by rw [assignS_eq]
@[simp] theorem assignS_cleanup (s : State) (w : Worker) (t : Task) : (assignS s w t).cleanup = s.cleanup := by rw [assignS_eq]
@[simp] theorem assignS_streams (s : State) (w : Worker) (t : Task) : (assignS s w t).streams = s.streams := by rw [assignS_eq]
@[simp] theorem assignS_terms (s : State) (w : Worker) (t : Task) : (assignS s w t).terms = s.terms := by rw [assignS_eq]
@[simp] theorem assignS_nextTask (s : State) (w : Worker) (t : Task) : (assignS s w t).nextTask = s.nextTask := by rw [assignS_eq]
@[simp] theorem assignS_nextOp (s : State) (w : Worker) (t : Task) : (assignS s w t).nextOp = s.nextOp := by rw [assignS_eq]
@[simp] theorem assignS_nextLearner (s : State) (w : Worker) (t : Task) : (assignS s w t).nextLearner = s.nextLearner := by rw [assignS_eq]
@[simp] theorem assignS_events (s : State) (w : Worker) (t : Task) : (assignS s w t).events = s.events := by rw [assignS_eq]

theorem bgState_eq (s : State) (t : Task) (bq : ScqId) (bl : Nat) (pq : PQ) : bgState s t bq bl pq =
    { s with nextTask := s.nextTask + 1, nextOp := s.nextOp + 1,
             tasks := aset s.nextTask (bgTask s t bq bl) s.tasks, ops := aset s.nextOp (bgOp s pq) s.ops } := by
  cases s; rfl
@[simp] theorem bgState_cfg (s : State) (t : Task) (bq : ScqId) (bl : Nat) (pq : PQ) : (bgState s t bq bl pq).cfg = s.cfg := by rw [bgState_eq]
@[simp] theorem bgState_now (s : State) (t : Task) (bq : ScqId) (bl : Nat) (pq : PQ) : (bgState s t bq bl pq).now = s.now := by rw [bgState_eq]
@[simp] theorem bgState_pqs (s : State) (t : Task) (bq : ScqId) (bl : Nat) (pq : PQ) : (bgState s t bq bl pq).pqs = s.pqs := by rw [bgState_eq]
@[simp] theorem bgState_scqs (s : State) (t : Task) (bq : ScqId) (bl : Nat) (pq : PQ) : (bgState s t bq bl pq).scqs = s.scqs := by rw [bgState_eq]
@[simp] theorem bgState_workers (s : State) (t : Task) (bq : ScqId) (bl : Nat) (pq : PQ) : (bgState s t bq bl pq).workers = s.workers := by rw [bgState_eq]
@[simp] theorem bgState_dedup (s : State) (t : Task) (bq : ScqId) (bl : Nat) (pq : PQ) : (bgState s t bq bl pq).dedup = s.dedup := by rw [bgState_eq]
@[simp] theorem bgState_cleanup (s : State) (t : Task) (bq : ScqId) (bl : Nat) (pq : PQ) : (bgState s t bq bl pq).cleanup = s.cleanup := by rw [bgState_eq]
@[simp] theorem bgState_streams (s : State) (t : Task) (bq : ScqId) (bl : Nat) (pq : PQ) : (bgState s t bq bl pq).streams = s.streams := by rw [bgState_eq]
@[simp] theorem bgState_terms (s : State) (t : Task) (bq : ScqId) (bl : Nat) (pq : PQ) : (bgState s t bq bl pq).terms = s.terms := by rw [bgState_eq]
@[simp] theorem bgState_nextLearner (s : State) (t : Task) (bq : ScqId) (bl : Nat) (pq : PQ) : (bgState s t bq bl pq).nextLearner = s.nextLearner := by rw [bgState_eq]
@[simp] theorem bgState_events (s : State) (t : Task) (bq : ScqId) (bl : Nat) (pq : PQ) : (bgState s t bq bl pq).events = s.events := by rw [bgState_eq]
@[simp] theorem bgState_assigned (s : State) (t : Task) (bq : ScqId) (bl : Nat) (pq : PQ) : (bgState s t bq bl pq).assigned = s.assigned := by rw [bgState_eq]

theorem syncReturn_eq (s : State) (q : ScqId) (w : WId) :
    syncReturn s q w = { s with workers := (syncReturn s q w).workers, cleanup := (syncReturn s q w).cleanup } := by
  unfold syncReturn; split <;> rfl
@[simp] theorem syncReturn_cfg (s : State) (q : ScqId) (w : WId) : (syncReturn s q w).cfg = s.cfg := by rw [syncReturn_eq]
@[simp] theorem syncReturn_now (s : State) (q : ScqId) (w : WId) : (syncReturn s q w).now = s.now := by rw [syncReturn_eq]
@[simp] theorem syncReturn_pqs (s : State) (q : ScqId) (w : WId) : (syncReturn s q w).pqs = s.pqs := by rw [syncReturn_eq]
@[simp] theorem syncReturn_scqs (s : State) (q : ScqId) (w : WId) : (syncReturn s q w).scqs = s.scqs := by rw [syncReturn_eq]
@[simp] theorem syncReturn_tasks (s : State) (q : ScqId) (w : WId) : (syncReturn s q w).tasks = s.tasks := by rw [syncReturn_eq]
@[simp] theorem syncReturn_ops (s : State) (q : ScqId) (w : WId) : (syncReturn s q w).ops = s.ops := by rw [syncReturn_eq]
@[simp] theorem syncReturn_dedup (s : State) (q : ScqId) (w : WId) : (syncReturn s q w).dedup = s.dedup := by rw [syncReturn_eq]
@[simp] theorem syncReturn_streams (s : State) (q : ScqId) (w : WId) : (syncReturn s q w).streams = s.streams := by rw [syncReturn_eq]
@[simp] theorem syncReturn_terms (s : State) (q : ScqId) (w : WId) : (syncReturn s q w).terms = s.terms := by rw [syncReturn_eq]
@[simp] theorem syncReturn_nextTask (s : State) (q : ScqId) (w : WId) : (syncReturn s q w).nextTask = s.nextTask := by rw [syncReturn_eq]
@[simp] theorem syncReturn_nextOp (s : State) (q : ScqId) (w : WId) : (syncReturn s q w).nextOp = s.nextOp := by rw [syncReturn_eq]
@[simp] theorem syncReturn_nextLearner (s : State) (q : ScqId) (w : WId) : (syncReturn s q w).nextLearner = s.nextLearner := by rw [syncReturn_eq]
@[simp] theorem syncReturn_events (s : State) (q : ScqId) (w : WId) : (syncReturn s q w).events = s.events := by rw [syncReturn_eq]
@[simp] theorem syncReturn_assigned (s : State) (q : ScqId) (w : WId) : (syncReturn s q w).assigned = s.assigned := by rw [syncReturn_eq]

@[simp] theorem registerPQ_cfg (s : State) (id : Nat) (comps : List Nat) (pf : Nat) (sizes : List Nat) (bm : Nat) (bp : Int) : (registerPQ s id comps pf sizes bm bp).cfg = s.cfg := rfl
@[simp] theorem registerPQ_now (s : State) (id : Nat) (comps : List Nat) (pf : Nat) (sizes : List Nat) (bm : Nat) (bp : Int) : (registerPQ s id comps pf sizes bm bp).now = s.now := rfl
@[simp] theorem registerPQ_workers (s : State) (id : Nat) (comps : List Nat) (pf : Nat) (sizes : List Nat) (bm : Nat) (bp : Int) : (registerPQ s id comps pf sizes bm bp).workers = s.workers := rfl
@[simp] theorem registerPQ_tasks (s : State) (id : Nat) (comps : List Nat) (pf : Nat) (sizes : List Nat) (bm : Nat) (bp : Int) : (registerPQ s id comps pf sizes bm bp).tasks = s.tasks := rfl
@[simp] theorem registerPQ_ops (s : State) (id : Nat) (comps : List Nat) (pf : Nat) (sizes : List Nat) (bm : Nat) (bp : Int) : (registerPQ s id comps pf sizes bm bp).ops = s.ops := rfl
@[simp] theorem registerPQ_dedup (s : State) (id : Nat) (comps : List Nat) (pf : Nat) (sizes : List Nat) (bm : Nat) (bp : Int) : (registerPQ s id comps pf sizes bm bp).dedup = s.dedup := rfl
@[simp] theorem registerPQ_cleanup (s : State) (id : Nat) (comps : List Nat) (pf : Nat) (sizes : List Nat) (bm : Nat) (bp : Int) : (registerPQ s id comps pf sizes bm bp).cleanup = s.cleanup := rfl
@[simp] theorem registerPQ_streams (s : State) (id : Nat) (comps : List Nat) (pf : Nat) (sizes : List Nat) (bm : Nat) (bp : Int) : (registerPQ s id comps pf sizes bm bp).streams = s.streams := rfl
@[simp] theorem registerPQ_terms (s : State) (id : Nat) (comps : List Nat) (pf : Nat) (sizes : List Nat) (bm : Nat) (bp : Int) : (registerPQ s id comps pf sizes bm bp).terms = s.terms := rfl
@[simp] theorem registerPQ_nextTask (s : State) (id : Nat) (comps : List Nat) (pf : Nat) (sizes : List Nat) (bm : Nat) (bp : Int) : (registerPQ s id comps pf sizes bm bp).nextTask = s.nextTask := rfl
@[simp] theorem registerPQ_nextOp (s : State) (id : Nat) (comps : List Nat) (pf : Nat) (sizes : List Nat) (bm : Nat) (bp : Int) : (registerPQ s id comps pf sizes bm bp).nextOp = s.nextOp := rfl
@[simp] theorem registerPQ_nextLearner (s : State) (id : Nat) (comps : List Nat) (pf : Nat) (sizes : List Nat) (bm : Nat) (bp : Int) : (registerPQ s id comps pf sizes bm bp).nextLearner = s.nextLearner := rfl
@[simp] theorem registerPQ_events (s : State) (id : Nat) (comps : List Nat) (pf : Nat) (sizes : List Nat) (bm : Nat) (bp : Int) : (registerPQ s id comps pf sizes bm bp).events = s.events := rfl
@[simp] theorem registerPQ_assigned (s : State) (id : Nat) (comps : List Nat) (pf : Nat) (sizes : List Nat) (bm : Nat) (bp : Int) : (registerPQ s id comps pf sizes bm bp).assigned = s.assigned := rfl

@[simp] theorem setTask_tasks (s : State) (t : Task) : (s.setTask t).tasks = aset t.id t s.tasks := rfl
@[simp] theorem setOp_ops (s : State) (o : Op) : (s.setOp o).ops = aset o.name o s.ops := rfl
@[simp] theorem emit_events (s : State) (e : Event) : (emit s e).events = e :: s.events := rfl
@[simp] theorem addCleanup_cleanup (s : State) (d : Nat) (k : CleanupKind) : (s.addCleanup d k).cleanup = ⟨d, k⟩ :: s.cleanup := rfl
@[simp] theorem removeCleanup_cleanup (s : State) (k : CleanupKind) :
    (s.removeCleanup k).cleanup = s.cleanup.filter (fun e => e.kind ≠ k) := rfl
@[simp] theorem assignS_assigned (s : State) (w : Worker) (t : Task) :
    (assignS s w t).assigned = (w.scq, w.id, t.id) :: s.assigned := by rw [assignS_eq]
@[simp] theorem assignS_tasks (s : State) (w : Worker) (t : Task) :
    (assignS s w t).tasks = aset t.id { t with worker := some (w.scq, w.id), retry := 0, queued := false } s.tasks := by rw [assignS_eq]
@[simp] theorem bgState_nextTask (s : State) (t : Task) (bq : ScqId) (bl : Nat) (pq : PQ) :
    (bgState s t bq bl pq).nextTask = s.nextTask + 1 := by rw [bgState_eq]
@[simp] theorem bgState_nextOp (s : State) (t : Task) (bq : ScqId) (bl : Nat) (pq : PQ) :
    (bgState s t bq bl pq).nextOp = s.nextOp + 1 := by rw [bgState_eq]
@[simp] theorem bgState_tasks (s : State) (t : Task) (bq : ScqId) (bl : Nat) (pq : PQ) :
    (bgState s t bq bl pq).tasks = aset s.nextTask (bgTask s t bq bl) s.tasks := by rw [bgState_eq]
@[simp] theorem bgState_ops (s : State) (t : Task) (bq : ScqId) (bl : Nat) (pq : PQ) :
    (bgState s t bq bl pq).ops = aset s.nextOp (bgOp s pq) s.ops := by rw [bgState_eq]
@[simp] theorem bumpLearner_nextLearner (s : State) : (bumpLearner s).nextLearner = s.nextLearner + 1 := rfl
@[simp] theorem succS_events (s : State) (t : Task) (ev : Event) (r : Resp) : (succS s t ev r).events = ev :: s.events := by rw [succS_eq]
@[simp] theorem succS_tasks (s : State) (t : Task) (ev : Event) (r : Resp) :
    (succS s t ev r).tasks = aset t.id (bumpGen { t with learner := none, response := some r }) s.tasks := by rw [succS_eq]
@[simp] theorem retryS_events (s : State) (l : Nat) (r : Resp) :
    (retryS s l r).events = .learnerFailed l (r.code = cDeadlineExceeded) (some s.nextLearner) :: s.events := by rw [retryS_eq]
@[simp] theorem retryS_nextLearner (s : State) (l : Nat) (r : Resp) : (retryS s l r).nextLearner = s.nextLearner + 1 := by rw [retryS_eq]
@[simp] theorem setCleanup_cleanup (s : State) (cs : List CleanupEntry) : (setCleanup s cs).cleanup = cs := rfl
@[simp] theorem setNow_now (s : State) (t : Nat) : (setNow s t).now = t := rfl
@[simp] theorem eraseOp_ops (s : State) (o : Nat) : (eraseOp s o).ops = aerase o s.ops := rfl
@[simp] theorem dropStream_streams (s : State) (c : Nat) : (dropStream s c).streams = s.streams.filter (fun x => x.client ≠ c) := rfl
@[simp] theorem addStream_streams (s : State) (st : Stream) : (addStream s st).streams = st :: s.streams := rfl
@[simp] theorem sendPark_streams (s : State) (c o : Nat) (t : Task) :
    (sendPark s c o t).streams = ⟨c, o, t.gen, s.now + s.cfg.updateInterval⟩ :: s.streams.filter (fun x => x.client ≠ c) := by rw [sendPark_eq]
@[simp] theorem sendPark_events (s : State) (c o : Nat) (t : Task) :
    (sendPark s c o t).events = .msg c o t.stage false 0 0 :: s.events := by rw [sendPark_eq]
@[simp] theorem sendDone_streams (s : State) (c o : Nat) (op : Op) (t : Task) (r : Resp) :
    (sendDone s c o op t r).streams = s.streams.filter (fun x => x.client ≠ c) := by rw [sendDone_eq]
@[simp] theorem sendDone_events (s : State) (c o : Nat) (op : Op) (t : Task) (r : Resp) :
    (sendDone s c o op t r).events = .ret c cOK :: .msg c o t.stage true r.code r.tok :: s.events := by rw [sendDone_eq]
@[simp] theorem leaveS_streams (s : State) (c : Nat) (st : Stream) (op : Op) (code : Nat) :
    (leaveS s c st op code).streams = s.streams.filter (fun x => x.client ≠ c) := by rw [leaveS_eq]
@[simp] theorem leaveS_events (s : State) (c : Nat) (st : Stream) (op : Op) (code : Nat) :
    (leaveS s c st op code).events = .ret c code :: s.events := by rw [leaveS_eq]
@[simp] theorem filterWorkers_workers (s : State) (q : ScqId) (w : WId) :
    (filterWorkers s q w).workers = s.workers.filter (fun x => ¬ (x.scq = q ∧ x.id = w)) := rfl
@[simp] theorem addOpS_nextOp (s : State) (tid : Nat) (t : Task) (inv : List Nat) (prio : Int) :
    (addOpS s tid t inv prio).nextOp = s.nextOp + 1 := by rw [addOpS_eq]
@[simp] theorem newTaskS_nextOp (s : State) (digest dkey : Nat) (dnc : Bool) (q : ScqId) (inv : List Nat) (prio : Int) :
    (newTaskS s digest dkey dnc q inv prio).nextOp = s.nextOp + 1 := by rw [newTaskS_eq]
@[simp] theorem newTaskS_nextTask (s : State) (digest dkey : Nat) (dnc : Bool) (q : ScqId) (inv : List Nat) (prio : Int) :
    (newTaskS s digest dkey dnc q inv prio).nextTask = s.nextTask + 1 := by rw [newTaskS_eq]
@[simp] theorem newTaskS_nextLearner (s : State) (digest dkey : Nat) (dnc : Bool) (q : ScqId) (inv : List Nat) (prio : Int) :
    (newTaskS s digest dkey dnc q inv prio).nextLearner = s.nextLearner + 1 := by rw [newTaskS_eq]
@[simp] theorem newTaskS_events (s : State) (digest dkey : Nat) (dnc : Bool) (q : ScqId) (inv : List Nat) (prio : Int) :
    (newTaskS s digest dkey dnc q inv prio).events = .selSelect s.nextLearner :: s.events := by rw [newTaskS_eq]
@[simp] theorem newTaskS_tasks (s : State) (digest dkey : Nat) (dnc : Bool) (q : ScqId) (inv : List Nat) (prio : Int) :
    (newTaskS s digest dkey dnc q inv prio).tasks = aset s.nextTask (newTask s digest dkey dnc q) s.tasks := by rw [newTaskS_eq]
@[simp] theorem newTaskS_ops (s : State) (digest dkey : Nat) (dnc : Bool) (q : ScqId) (inv : List Nat) (prio : Int) :
    (newTaskS s digest dkey dnc q inv prio).ops = aset s.nextOp (newOp s inv prio) s.ops := by rw [newTaskS_eq]
@[simp] theorem addOpS_tasks (s : State) (tid : Nat) (t : Task) (inv : List Nat) (prio : Int) :
    (addOpS s tid t inv prio).tasks = aset t.id { t with ops := t.ops ++ [s.nextOp] } s.tasks := by rw [addOpS_eq]
@[simp] theorem addOpS_ops (s : State) (tid : Nat) (t : Task) (inv : List Nat) (prio : Int) :
    (addOpS s tid t inv prio).ops = aset s.nextOp { name := s.nextOp, task := tid, inv := inv, prio := prio, waiters := 0, mayExistWithoutWaiters := false } s.ops := by rw [addOpS_eq]
@[simp] theorem addTerm_terms (s : State) (tc : TermCall) : (addTerm s tc).terms = tc :: s.terms := rfl
@[simp] theorem dropTerm_terms (s : State) (id : Nat) : (dropTerm s id).terms = s.terms.filter (fun t => t.id ≠ id) := rfl
@[simp] theorem addWorker_workers (s : State) (q : ScqId) (w : WId) :
    (addWorker s q w).workers = s.workers ++ [{ scq := q, id := w, task := none, terminating := false, parked := false, woken := false, inSync := true, drainWait := none, timer := none }] := rfl
@[simp] theorem finalizeS_tasks (s : State) (t : Task) (r : Resp) :
    (finalizeS s t r).tasks = aset t.id (bumpGen { t with response := some r }) s.tasks := by rw [finalizeS_eq]

theorem find?_map_upd {α} (l : List α) (p key : α → Bool) (w : α)
    (hp : ∀ x, key x = true → p x = p w) (hp2 : p w = true → ∀ x, p x = true → key x = true) :
    (l.map (fun x => if key x then w else x)).find? p =
      if p w then (l.find? p).map (fun _ => w) else l.find? p := by
  induction l with
  | nil => simp
  | cons a r ih =>
    simp only [List.map_cons, List.find?_cons]
    by_cases hk : key a = true
    · have := hp a hk
      simp only [hk, if_true]
      by_cases hpw : p w = true
      · simp [hpw, this]
      · simp only [hpw, this] at ih ⊢; simpa using ih
    · simp only [hk]
      by_cases hpa : p a = true
      · have : ¬ p w = true := fun h => hk (hp2 h a hpa)
        simp [hpa, this]
      · have hpa' : p a = false := by simpa using hpa
        simp only [hpa', Bool.false_eq_true, if_false]; exact ih

theorem worker?_setWorker (s : State) (w : Worker) (q : ScqId) (i : WId) :
    (s.setWorker w).worker? q i =
      if w.scq = q ∧ w.id = i then (s.worker? q i).map (fun _ => w) else s.worker? q i := by
  unfold State.setWorker State.worker?
  simp only
  have := find?_map_upd s.workers (fun x => decide (x.scq = q ∧ x.id = i))
    (fun x => decide (x.scq = w.scq ∧ x.id = w.id)) w
    (by intro x hx; simp at hx; simp [hx.1, hx.2])
    (by intro h x hx; simp at h hx; simp [hx.1, hx.2, h.1, h.2])
  simp only [decide_eq_true_eq] at this
  exact this

theorem scq?_setScq (s : State) (sq : Scq) (q : ScqId) :
    (s.setScq sq).scq? q = if sq.id = q then (s.scq? q).map (fun _ => sq) else s.scq? q := by
  unfold State.setScq State.scq?
  simp only
  have := find?_map_upd s.scqs (fun x => decide (x.id = q)) (fun x => decide (x.id = sq.id)) sq
    (by intro x hx; simp at hx; simp [hx])
    (by intro h x hx; simp at h hx; simp [hx, h])
  simp only [decide_eq_true_eq] at this
  exact this

end BbRe.Lemmas.SchedLive
