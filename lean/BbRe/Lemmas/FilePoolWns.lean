import BbRe.Lemmas.FilePoolDev
/-!
`writeToNewSectors`, device contents.  The three write phases store consecutive
pieces of one buffer, the `image` of the run: hole-source bytes up to the write
offset, the data, hole-source bytes up to the next sector boundary.  So on every
path a prefix of the image is stored at the start of the run, and all of it on
success: the allocated sectors are completely written, and nothing outside them
changes.
-/
namespace BbRe.Lemmas.FilePool
open BbRe.FilePool

theorem getD_append_lt (a b : List Byte) (j : Nat) (h : j < a.length) : (a ++ b).getD j 0 = a.getD j 0 := by
  simp only [List.getD_eq_getElem?_getD, List.getElem?_append_left h]

theorem getD_append_ge (a b : List Byte) (j : Nat) (h : a.length ≤ j) :
    (a ++ b).getD j 0 = b.getD (j - a.length) 0 := by
  simp only [List.getD_eq_getElem?_getD, List.getElem?_append_right h]

theorem getD_take (l : List Byte) (n j : Nat) (h : j < n) : (l.take n).getD j 0 = l.getD j 0 := by
  simp only [List.getD_eq_getElem?_getD, List.getElem?_take, h, ↓reduceIte]

theorem getD_ge (l : List Byte) (j : Nat) (h : l.length ≤ j) : l.getD j 0 = 0 := by
  simp only [List.getD_eq_getElem?_getD, List.getElem?_eq_none h, Option.getD_none]

theorem lt_of_mul_lt {a b ss : Nat} (h : a * ss < b * ss) : a < b :=
  Nat.lt_of_mul_lt_mul_right h

theorem le_of_mul_le {a b ss : Nat} (hss : 0 < ss) (h : a * ss ≤ b * ss) : a ≤ b :=
  Nat.le_of_mul_le_mul_right h hss

/-- sector `t` lies outside the `b` sectors from `a` on, so do its bytes. -/
theorem pos_outside (ss t a b k : Nat) (hk : k < ss) (h : t < a ∨ a + b ≤ t) :
    t * ss + k < a * ss ∨ (a + b) * ss ≤ t * ss + k := by
  rcases h with h | h
  · left
    have := Nat.mul_le_mul_right ss (show t + 1 ≤ a by omega)
    rw [Nat.add_mul, Nat.one_mul] at this; omega
  · right
    have := Nat.mul_le_mul_right ss h
    omega

theorem ceil_bounds (a ss : Nat) (hss : 0 < ss) :
    a ≤ (a + ss - 1) / ss * ss ∧ (a + ss - 1) / ss * ss < a + ss := by
  have h1 := Nat.div_mul_le_self (a + ss - 1) ss
  have h2 := Nat.lt_mul_div_succ (a + ss - 1) hss
  rw [Nat.mul_add, Nat.mul_one, Nat.mul_comm] at h2
  omega

/-- `p` laid over `base` at offset `off`. -/
def overlay (base : Nat → Byte) (off : Nat) (p : List Byte) (i : Nat) : Byte :=
  if off ≤ i ∧ i < off + p.length then p.getD (i - off) 0 else base i

theorem overlay_nil (base : Nat → Byte) (off i : Nat) : overlay base off [] i = base i := by
  unfold overlay; rw [if_neg]; simp

/-- number of bytes from `n` up to the next multiple of `ss`. -/
def pad (ss n : Nat) : Nat := (ss - n % ss) % ss

/-- the only multiple of `ss` in `[a, a + ss)` is `a + pad ss a`. -/
theorem pad_unique {ss a k : Nat} (h1 : a ≤ k * ss) (h2 : k * ss < a + ss) : a + pad ss a = k * ss := by
  have hss : 0 < ss := by omega
  have hdm := Nat.div_add_mod a ss
  have hr := Nat.mod_lt a hss
  rw [Nat.mul_comm] at hdm
  unfold pad
  rcases Nat.eq_zero_or_pos (a % ss) with h0 | hpos
  · have : k < a / ss + 1 := lt_of_mul_lt (ss := ss) (by rw [Nat.add_mul, Nat.one_mul]; omega)
    have : a / ss ≤ k := le_of_mul_le (ss := ss) hss (by omega)
    rw [h0, Nat.sub_zero, Nat.mod_self, ← hdm, h0, show k = a / ss by omega]; rfl
  · have : k < a / ss + 2 := lt_of_mul_lt (ss := ss) (by rw [Nat.add_mul]; omega)
    have : a / ss < k := lt_of_mul_lt (ss := ss) (by omega)
    rw [Nat.mod_eq_of_lt (by omega), show k = a / ss + 1 by omega, Nat.add_mul, Nat.one_mul]
    omega

/-- what the run of new sectors holds when `p` has been written at offset `ow` of file sector `idx`. -/
def image (ss : Nat) (h : Hole) (p : List Byte) (idx ow : Nat) : List Byte :=
  h.bytes (idx * ss) ow ++ p ++ h.bytes (idx * ss + (ow + p.length)) (pad ss (ow + p.length))

theorem image_length (ss : Nat) (h : Hole) (p : List Byte) (idx ow : Nat) :
    (image ss h p idx ow).length = ow + p.length + pad ss (ow + p.length) := by
  simp only [image, List.length_append, holeBytes_length]

theorem image_getD (ss : Nat) (h : Hole) (p : List Byte) (idx ow j : Nat)
    (hj : j < ow + p.length + pad ss (ow + p.length)) :
    (image ss h p idx ow).getD j 0 = overlay (fun j => h.read (idx * ss + j)) ow p j := by
  unfold image overlay
  dsimp only
  have hl : (h.bytes (idx * ss) ow).length = ow := holeBytes_length _ _ _
  by_cases h1 : j < ow
  · rw [List.append_assoc, getD_append_lt _ _ _ (by omega), holeBytes_getD _ _ _ _ h1, if_neg (by omega)]
  · by_cases h2 : j < ow + p.length
    · rw [getD_append_lt _ _ _ (by rw [List.length_append]; omega), getD_append_ge _ _ _ (by omega), hl,
        if_pos (by omega)]
    · rw [getD_append_ge _ _ _ (by rw [List.length_append]; omega), List.length_append, hl,
        holeBytes_getD _ _ _ _ (by omega), if_neg (by omega)]
      congr 1; omega

/-- The image of the part of `p` that fits into `got` sectors fills exactly these. -/
theorem image_take_length (ss : Nat) (h : Hole) (p : List Byte) (idx ow got : Nat) (how : ow < ss)
    (hg1 : 1 ≤ got) (hg2 : got ≤ (ow + p.length + ss - 1) / ss) :
    (image ss h (p.take (got * ss - ow)) idx ow).length = got * ss := by
  have hss : 0 < ss := by omega
  have := (ceil_bounds (ow + p.length) ss hss).2
  have := Nat.mul_le_mul_right ss hg2
  have := Nat.le_mul_of_pos_left ss hg1
  rw [image_length, List.length_take]
  exact pad_unique (by omega) (by omega)

/-- phases 2 and 3 store `r` and the padding behind it: the complete sectors of `r`, then the rest
with the padding. -/
theorem tail_image {ss : Nat} (hss : 0 < ss) (h : Hole) (r : List Byte) (i : Nat) :
    r.take (r.length / ss * ss) ++
      (if (r.drop (r.length / ss * ss)).length > 0 then
        r.drop (r.length / ss * ss) ++ h.bytes ((i + r.length / ss) * ss + (r.drop (r.length / ss * ss)).length)
          (ss - (r.drop (r.length / ss * ss)).length)
      else []) =
    r ++ h.bytes (i * ss + r.length) (pad ss r.length) := by
  have hdm := Nat.div_add_mod r.length ss
  rw [Nat.mul_comm] at hdm
  have hl : (r.drop (r.length / ss * ss)).length = r.length % ss := by rw [List.length_drop]; omega
  rw [hl]
  unfold pad
  split
  · rename_i hpos
    have hr := Nat.mod_lt r.length hss
    rw [Nat.mod_eq_of_lt (show ss - r.length % ss < ss by omega), ← List.append_assoc, List.take_append_drop,
      Nat.add_mul, Nat.add_assoc, hdm]
  · rename_i h0
    have h0' : r.length % ss = 0 := Nat.eq_zero_of_not_pos h0
    rw [h0', Nat.sub_zero, Nat.mod_self, List.append_nil, List.take_of_length_le (by omega)]
    exact (List.append_nil _).symm

/-- phase 1 (with `0 < ow`) stores the first sector of the image, phases 2 and 3 the image of what is left. -/
theorem image_split {ss : Nat} (h : Hole) (p : List Byte) (idx ow : Nat) (hpos : 0 < ow) (how : ow < ss) :
    h.bytes (idx * ss) ow ++ p.take (min (ss - ow) p.length) ++
        (if ow + p.length < ss then h.bytes (idx * ss + (ow + p.length)) (ss - (ow + p.length)) else []) ++
      (p.drop (min (ss - ow) p.length) ++ h.bytes ((idx + 1) * ss + (p.drop (min (ss - ow) p.length)).length)
        (pad ss (p.drop (min (ss - ow) p.length)).length)) =
    image ss h p idx ow := by
  unfold image
  by_cases hlt : ow + p.length < ss
  · rw [if_pos hlt, Nat.min_eq_right (show p.length ≤ ss - ow by omega), List.take_length, List.drop_length]
    have e1 : pad ss (ow + p.length) = ss - (ow + p.length) := by
      unfold pad; rw [Nat.mod_eq_of_lt hlt, Nat.mod_eq_of_lt (by omega)]
    have e2 : pad ss ([] : List Byte).length = 0 := by
      unfold pad; rw [List.length_nil, Nat.zero_mod, Nat.sub_zero, Nat.mod_self]
    rw [e1, e2]
    exact List.append_nil _
  · rw [if_neg hlt, Nat.min_eq_left (show ss - ow ≤ p.length by omega), List.append_nil, List.length_drop]
    have e1 : (idx + 1) * ss + (p.length - (ss - ow)) = idx * ss + (ow + p.length) := by
      rw [Nat.add_mul, Nat.one_mul]; omega
    have e2 : pad ss (p.length - (ss - ow)) = pad ss (ow + p.length) := by
      unfold pad
      rw [show ow + p.length = p.length - (ss - ow) + ss by omega, Nat.add_mod_right]
    rw [e1, e2, List.append_assoc, List.append_assoc, ← List.append_assoc (p.take _), List.take_append_drop]

theorem buf1_length (ss : Nat) (h : Hole) (p : List Byte) (idx ow : Nat) (how : ow < ss) :
    (h.bytes (idx * ss) ow ++ p.take (min (ss - ow) p.length) ++
      (if ow + p.length < ss then h.bytes (idx * ss + (ow + p.length)) (ss - (ow + p.length)) else [])).length = ss := by
  simp only [List.length_append, holeBytes_length, List.length_take]
  split
  · simp only [holeBytes_length]; omega
  · simp only [List.length_nil]; omega

/-- phases 2 and 3 from the start of device sector `t + 1`. -/
theorem wnsPhase23_wrote {c : Cfg} (hss : 0 < c.ss) (h : Hole) (e : Env) (r : List Byte) (t i : Nat) :
    (∀ e2 x, wnsPhase2 c e (r, t + 1, i) = (e2, .error x) →
      Wrote e.dev e2.dev (t * c.ss) (r ++ h.bytes (i * c.ss + r.length) (pad c.ss r.length)) False) ∧
    (∀ e2 cur2, wnsPhase2 c e (r, t + 1, i) = (e2, .ok cur2) →
      Wrote e.dev (wnsPhase3 c h e2 cur2).1.dev (t * c.ss) (r ++ h.bytes (i * c.ss + r.length) (pad c.ss r.length))
        ((wnsPhase3 c h e2 cur2).2 = none)) := by
  obtain ⟨hw2, hc2⟩ := wnsPhase2_wrote c e (r, t + 1, i)
  dsimp only at hw2 hc2
  rw [Nat.add_sub_cancel] at hw2
  rw [← tail_image hss h r i]
  constructor
  · intro e2 x heq
    rw [heq] at hw2
    exact hw2.stop _
  · intro e2 cur2 heq
    rw [heq] at hw2 hc2
    rw [hc2 _ rfl]
    have h3 := wnsPhase3_wrote c h e2 (r.drop (r.length / c.ss * c.ss), t + 1 + r.length / c.ss, i + r.length / c.ss)
    dsimp only at h3
    rw [show (t + 1 + r.length / c.ss - 1) * c.ss = t * c.ss + (r.take (r.length / c.ss * c.ss)).length by
      rw [List.length_take, Nat.min_eq_left (Nat.div_mul_le_self _ _), Nat.add_right_comm, Nat.add_sub_cancel,
        Nat.add_mul]] at h3
    exact Wrote.seq (hw2.all rfl) h3

theorem wnsPhases_wrote {c : Cfg} {h : Hole} {e : Env} {p : List Byte} {t0 idx ow : Nat}
    (hss : 0 < c.ss) (how : ow < c.ss) :
    Wrote e.dev (wnsPhases c h e p (t0 + 1) idx ow).1.dev (t0 * c.ss) (image c.ss h p idx ow)
      ((wnsPhases c h e p (t0 + 1) idx ow).2 = none) := by
  unfold wnsPhases
  rcases Nat.eq_zero_or_pos ow with h0 | hpos
  · subst h0
    have h23 := wnsPhase23_wrote hss h e p t0 idx
    have himg : image c.ss h p idx 0 = p ++ h.bytes (idx * c.ss + p.length) (pad c.ss p.length) := by
      unfold image; rw [Nat.zero_add]; rfl
    rw [wnsPhase1_ok0, himg]
    dsimp only
    split
    · rename_i heq2; exact (h23.1 _ _ heq2).mono (fun x => nomatch x)
    · rename_i heq2; exact h23.2 _ _ heq2
  · obtain ⟨hw1, hc1⟩ := wnsPhase1_wrote c h e p (t0 + 1) idx ow hpos
    rw [Nat.add_sub_cancel] at hw1
    rw [← image_split h p idx ow hpos how]
    split
    · rename_i heq1
      rw [heq1] at hw1
      exact (hw1.stop _).mono (fun x => nomatch x)
    · rename_i e1 cur1 heq1
      rw [heq1] at hw1 hc1
      rw [hc1 _ rfl]
      have h23 := wnsPhase23_wrote hss h e1 (p.drop (min (c.ss - ow) p.length)) (t0 + 1) (idx + 1)
      rw [show (t0 + 1) * c.ss = t0 * c.ss + (h.bytes (idx * c.ss) ow ++ p.take (min (c.ss - ow) p.length) ++
          (if ow + p.length < c.ss then h.bytes (idx * c.ss + (ow + p.length)) (c.ss - (ow + p.length))
            else [])).length by rw [buf1_length _ _ _ _ _ how, Nat.add_mul, Nat.one_mul]] at h23
      split
      · rename_i heq2; exact (Wrote.seq (hw1.all rfl) (h23.1 _ _ heq2)).mono (fun x => nomatch x)
      · rename_i heq2; exact Wrote.seq (hw1.all rfl) (h23.2 _ _ heq2)

/-- **A new run is fully written before it becomes part of the file.**  After a
successful `writeToNewSectors` every byte of the `got` allocated sectors holds
either the written data or the hole source's contents for that file offset —
nothing of what the sectors held before — and nothing outside the run changed. -/
theorem wns_ok_dev {c : Cfg} {h : Hole} {e e' : Env} {p : List Byte} {idx ow n first got : Nat}
    (hss : 0 < c.ss) (how : ow < c.ss)
    (hr : writeToNewSectors c h e p idx ow = (e', .ok (n, first, got))) :
    (∀ j, j < got * c.ss → rd e'.dev ((first - 1) * c.ss + j) =
        overlay (fun j => h.read (idx * c.ss + j)) ow (p.take n) j) ∧
      (∀ q, (q < (first - 1) * c.ss ∨ (first - 1 + got) * c.ss ≤ q) → rd e'.dev q = rd e.dev q) := by
  obtain ⟨_, _, hg1, hg2, hf1, _⟩ := wns_ok hr
  unfold writeToNewSectors at hr
  split at hr
  · simp at hr
  · simp at hr
  · rename_i e1 first' got' heq
    obtain ⟨_, _, hdev1, _⟩ := alloc_ok heq
    dsimp only at hr
    split at hr
    · simp at hr
    · rename_i e2 heq2
      simp only [Prod.mk.injEq, Except.ok.injEq] at hr
      obtain ⟨rfl, rfl, rfl, rfl⟩ := hr
      obtain ⟨t0, rfl⟩ : ∃ t0, first' = t0 + 1 := ⟨first' - 1, (Nat.sub_add_cancel hf1).symm⟩
      have hres := wnsPhases_wrote (h := h) (e := e1) (p := p.take (got' * c.ss - ow)) (t0 := t0) (idx := idx) hss how
      rw [heq2] at hres
      have hlen := image_take_length c.ss h p idx ow got' how hg1 hg2
      have htake : List.take (List.take (got' * c.ss - ow) p).length p = List.take (got' * c.ss - ow) p := by
        rw [List.length_take, List.take_eq_take_iff]; omega
      rw [Nat.add_sub_cancel, htake, ← hdev1]
      refine ⟨fun j hj => ?_, fun q hq => hres.frame (by rw [hlen]; rw [Nat.add_mul] at hq; exact hq)⟩
      rw [hres.all rfl, rd_writeBytes, if_pos (by omega), Nat.add_sub_cancel_left]
      exact image_getD _ _ _ _ _ _ (by rw [← image_length, hlen]; exact hj)

/-- **Frame on every path**: whatever `writeToNewSectors` does — succeed, or
fail at the allocation, a hole-source read or a device write — the bytes of all
sectors that were allocated before the call are unchanged. -/
theorem wns_frame {c : Cfg} {h : Hole} {e : Env} {p : List Byte} {idx ow : Nat}
    (hss : 0 < c.ss) (how : ow < c.ss) (t k : Nat) (hk : k < c.ss) (hta : t + 1 ∈ e.allocd) :
    rd (writeToNewSectors c h e p idx ow).1.dev (t * c.ss + k) = rd e.dev (t * c.ss + k) := by
  unfold writeToNewSectors
  split
  · rename_i e1 heq
    rw [(alloc_notok heq (fun _ _ x => nomatch x)).2.2.1]
  · rename_i e1 heq
    rw [(alloc_notok heq (fun _ _ x => nomatch x)).2.2.1]
  · rename_i e1 first got heq
    obtain ⟨_, _, hdev1, _, hg1, hg2, hf1, _, hfresh⟩ := alloc_ok heq
    obtain ⟨t0, rfl⟩ : ∃ t0, first = t0 + 1 := ⟨first - 1, (Nat.sub_add_cancel hf1).symm⟩
    have hres := wnsPhases_wrote (h := h) (e := e1) (p := p.take (got * c.ss - ow)) (t0 := t0) (idx := idx) hss how
    have hout : t < t0 ∨ t0 + got ≤ t := by
      by_cases hc : t0 + 1 ≤ t + 1 ∧ t + 1 < t0 + 1 + got
      · exact absurd hta (hfresh (t + 1) hc.1 hc.2)
      · omega
    have hfr := hres.frame (i := t * c.ss + k) (by
      rw [image_take_length c.ss h p idx ow got how hg1 hg2, ← Nat.add_mul]
      exact pos_outside c.ss t t0 got k hk hout)
    rw [hdev1] at hfr
    dsimp only
    split
    · rename_i heq2; rw [heq2] at hfr; exact hfr
    · rename_i heq2; rw [heq2] at hfr; exact hfr

end BbRe.Lemmas.FilePool
