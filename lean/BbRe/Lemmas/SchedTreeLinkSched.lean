import BbRe.Lemmas.SchedTreeLinkDetach
import BbRe.Lemmas.SchedTreeLinkStepB
import BbRe.Lemmas.SchedTreeLinkStepC
import BbRe.Lemmas.SchedTreeLinkStepD
import BbRe.Lemmas.SchedTreeLinkMInv
/-!
`task.schedule` and `task.complete` of the tree layer preserve the invariant `TInvX`.
-/
namespace BbRe.Lemmas.SchedTree
open BbRe.Sched BbRe.SchedTree BbRe.Lemmas.SchedInv

variable {X : List (ScqId × List Nat)}

theorem TInvX.log {ex exo} {ts : TState} (h : TInvX ex exo X ts) (d : Decision) : TInvX ex exo X (ts.log d) :=
  ⟨h.inv, (h.ts.of_fields (ts2 := ts.log d) rfl rfl rfl rfl).tree, (h.ts.of_fields (ts2 := ts.log d) rfl rfl rfl rfl).side⟩

theorem tWake_keys (ts : TState) (w : Worker) : (tWake ts w).nodes.map nkey = ts.nodes.map nkey := by
  show (ts.unparkTree w.scq w.id).nodes.map nkey = _
  unfold TState.unparkTree
  simp only []
  split
  · exact dequeueW_keys _ _ _ _
  · rfl

theorem tWake_isSome (ts : TState) (w : Worker) (q : ScqId) (p : List Nat) :
    (node? (tWake ts w).nodes q p).isSome = (node? ts.nodes q p).isSome :=
  node?_isSome_of_keys (tWake_keys ts w) q p

/-- the two ways `task.schedule` succeeds: the task is handed to the parked worker the hint names (woken first), or
nobody is parked and its operations are enqueued -/
theorem tSchedule_shape {h : Hints} {ts ts' : TState} {tid : Nat} (hh : tSchedule h ts tid = .ok ts') :
    ∃ t, ts.s.task? tid = some t ∧
      ((∃ w w2, hintedWorker h ts.s t = some w ∧ w.parked = true ∧
          (tWake (ts.log (.handoff w.scq w.id t.id ts.nodes (t.ops.map ts.invOf))) w).s.worker? w.scq w.id = some w2 ∧
          tAssignTo (tWake (ts.log (.handoff w.scq w.id t.id ts.nodes (t.ops.map ts.invOf))) w) w2 t 0 = .ok ts') ∨
       ts' = (ts.enqOps t).setS (ts.s.setTask { t with queued := true })) := by
  unfold tSchedule at hh
  cases ht : ts.s.task? tid with
  | none => simp only [ht] at hh; cases hh
  | some t =>
    simp only [ht] at hh
    refine ⟨t, rfl, ?_⟩
    split at hh
    · split at hh
      · rename_i w hw
        split at hh
        · cases hh
        rename_i hpk
        split at hh
        · cases hh
        split at hh
        · rename_i w2 hw2
          exact Or.inl ⟨w, w2, hw, by simpa using hpk, hw2, hh⟩
        · cases hh
      · cases hh
    · split at hh
      · cases hh
      · cases hh; exact Or.inr rfl

/-- `task.schedule` of a task that is neither queued nor assigned and whose invocations exist -/
theorem tSchedule_tinv {ex exo} {h : Hints} {ts ts' : TState} {tid : Nat} {t : Task}
    (hT : TInvX ex exo X ts) (ht : alookup tid ts.s.tasks = some t) (hr : t.response = none)
    (htw : t.worker = none) (hq : t.queued = false)
    (hn : ∀ o ∈ t.ops, (node? ts.nodes t.scq (ts.invOf o)).isSome = true)
    (hX : ∀ x ∈ X, ∃ o ∈ t.ops, onPathOf t.scq (ts.invOf o) x = true)
    (hh : tSchedule h ts tid = .ok ts') :
    TInvX (fun k => ex k ∧ k ≠ tid) exo [] ts' := by
  have hid : t.id = tid := (hT.inv.core.tid tid t ht).1
  have ht' : alookup t.id ts.s.tasks = some t := by rw [hid]; exact ht
  have hown : ∀ k t', alookup k ts.s.tasks = some t' → ∀ o ∈ t'.ops, o ∈ t.ops → k = t.id :=
    fun k t' hk o ho ho' => hT.inv.oinv.own k t' t.id t o hk ht' ho ho'
  obtain ⟨t0, ht0, ⟨w, w2, hw, hpk', hw2, hh⟩ | rfl⟩ := tSchedule_shape hh
  all_goals (rw [task?_def, ht] at ht0; cases ht0)
  · -- direct hand-off
    have hwf := hintedWorker_some hw
    have hw1 := hT.inv.core.w1 _ _ _ hwf hpk'
    have hTl := hT.log (.handoff w.scq w.id t.id ts.nodes (t.ops.map ts.invOf))
    have hT1 : TInvX ex exo X (tWake (ts.log (.handoff w.scq w.id t.id ts.nodes (t.ops.map ts.invOf))) w) :=
      TInvX.mk' (hT.inv.wake hwf) (wake_ts hTl hwf hpk')
    have hw2' : wfind (wakeWorker ts.s w).workers w.scq w.id = some w2 := by simpa using hw2
    have hk2 := wfind_key hw2'
    have hw2e : w2 = { w with parked := false, woken := true } := by
      simp only [wakeWorker, setWorker_eq, wfind_wset, hwf, and_self, Option.isSome_some, if_true, Option.some.injEq] at hw2'
      exact hw2'.symm
    have hsq : w2.scq = t.scq := by rw [hk2.1]; exact hintedWorker_scq hw
    unfold tAssignTo at hh
    rw [assignTo_eq] at hh
    have hwt2 : w2.task = none := by rw [hw2e]; exact hw1
    have htw' : t.worker.isSome = false := by rw [htw]; rfl
    simp only [hwt2, Option.isSome_none, Bool.false_eq_true, if_false, htw', bind, Except.bind, pure, Except.pure] at hh
    cases hh
    have hwf2 : wfind (wakeWorker ts.s w).workers w2.scq w2.id = some w2 := by rw [hk2.1, hk2.2]; exact hw2'
    refine TInvX.mk' ?_ (assign_ts hT1 hwf2 hwt2 (by rw [hw2e]) ht' htw hq hsq
      (fun o ho => by rw [tWake_isSome]; exact hn o ho) hX)
    exact ((hT.inv.wake hwf).assign (t := t) hwf2 hwt2 (by rw [hw2e]) ht' hr).mono
      (fun k hk => ⟨hk.1, by rw [← hid]; exact hk.2⟩)
  · -- nobody is parked: enqueue
    have hnd := (hT.inv.oinv.o3 tid t ht).1
    refine TInvX.mk' ?_ (enqueue_ts hT ht' htw hq hnd hown hn hX)
    exact (hT.inv.queue ht' hr htw).mono (fun k hk => ⟨hk.1, by rw [← hid]; exact hk.2⟩)

/-! ### `task.complete`: detach and final completion -/

theorem detachT_id (t : Task) : (BbRe.SchedTree.detachT t).id = t.id := by
  unfold BbRe.SchedTree.detachT; split <;> rfl
theorem detachT_worker (t : Task) : (BbRe.SchedTree.detachT t).worker = none := rfl
theorem detachT_ops (t : Task) : (BbRe.SchedTree.detachT t).ops = t.ops := by
  unfold BbRe.SchedTree.detachT; split <;> rfl
theorem detachT_scq (t : Task) : (BbRe.SchedTree.detachT t).scq = t.scq := by
  unfold BbRe.SchedTree.detachT; split <;> rfl
theorem detachT_response (t : Task) : (BbRe.SchedTree.detachT t).response = t.response := by
  unfold BbRe.SchedTree.detachT; split <;> rfl
theorem detachT_queued (t : Task) (h : t.worker = none ∨ t.queued = false) : (BbRe.SchedTree.detachT t).queued = false := by
  unfold BbRe.SchedTree.detachT
  rcases h with h | h
  · simp [h, bumpGen]
  · split <;> simp [bumpGen, h]

theorem detachW_tasks (s : State) (t : Task) : (BbRe.SchedTree.detachW s t).tasks = s.tasks := by
  unfold BbRe.SchedTree.detachW; split
  · split <;> rfl
  · rfl
theorem detachW_ops (s : State) (t : Task) : (BbRe.SchedTree.detachW s t).ops = s.ops := by
  unfold BbRe.SchedTree.detachW; split
  · split <;> rfl
  · rfl
theorem detachW_scqs (s : State) (t : Task) : (BbRe.SchedTree.detachW s t).scqs = s.scqs := by
  unfold BbRe.SchedTree.detachW; split
  · split <;> rfl
  · rfl
theorem detachW_next (s : State) (t : Task) :
    (BbRe.SchedTree.detachW s t).nextTask = s.nextTask ∧ (BbRe.SchedTree.detachW s t).nextOp = s.nextOp ∧
    (BbRe.SchedTree.detachW s t).now = s.now := by
  unfold BbRe.SchedTree.detachW; split
  · split <;> exact ⟨rfl, rfl, rfl⟩
  · exact ⟨rfl, rfl, rfl⟩
theorem detachW_workers_none (s : State) (t : Task) (h : t.worker = none) : (BbRe.SchedTree.detachW s t).workers = s.workers := by
  unfold BbRe.SchedTree.detachW; rw [h]

/-- the task record written back after the stage switch: neither queued nor assigned; the worker of an
executing task is released.  `s1` is any state with these tasks / workers. -/
theorem detach_tinv {ex exo} {ts : TState} {t t' : Task} {bw : Bool} {s1 : State}
    (hT : TInvX ex exo [] ts) (ht : alookup t.id ts.s.tasks = some t) (hr : t.response = none) (hnex : ¬ ex t.id)
    (hk : t'.id = t.id ∧ t'.worker = none ∧ t'.queued = false ∧ t'.ops = t.ops)
    (hst : s1.tasks = aset t.id t' ts.s.tasks) (hsw : s1.workers = (BbRe.SchedTree.detachW ts.s t).workers)
    (hsq : s1.scqs = ts.s.scqs) (hnt : s1.nextTask = ts.s.nextTask) (hno : s1.nextOp = ts.s.nextOp)
    (hso : ∀ o op', s1.op? o = some op' → ∃ op, ts.s.op? o = some op ∧ op'.inv = op.inv ∧ op'.prio = op.prio) :
    TInvX (fun k => ex k ∨ (k = t.id ∧ t'.response = none)) exo [] ((ts.detachTree t bw).setS s1) := by
  have hown : ∀ k t'', alookup k ts.s.tasks = some t'' → ∀ o ∈ t''.ops, o ∈ t.ops → k = t.id :=
    fun k t'' hk' o ho ho' => hT.inv.oinv.own k t'' t.id t o hk' ht ho ho'
  cases hw : t.worker with
  | none =>
    have hq : t.queued = true := by
      rcases hT.inv.core.q2 t.id t ht hr with h | h | h
      · exact h
      · rw [hw] at h; cases h
      · exact absurd h hnex
    have hsw' : s1.workers = ts.s.workers := by rw [hsw, detachW_workers_none _ _ hw]
    refine TInvX.mk' ?_ (detachQueued_ts hT ht hw hq hown ⟨hk.1, hk.2.1, hk.2.2.1⟩ hst hsw' hsq hso)
    exact hT.inv.settle (s' := s1) ht hk hst hnt hno (Or.inl ⟨hsw', hw⟩)
  | some qw =>
    obtain ⟨q0, w⟩ := qw
    refine TInvX.mk' ?_ (detachExec_ts hT ht hw ⟨hk.1, hk.2.1, hk.2.2.1⟩ hst hsw hsq hso)
    obtain ⟨wk, hwk, _⟩ := hT.inv.core.p2 t.id t q0 w ht hw
    exact hT.inv.settle (s' := s1) ht hk hst hnt hno (Or.inr ⟨q0, w, wk, hw, hwk, hsw.trans (detachW_workers ts.s t q0 w wk hw hwk)⟩)

/-- `finishOps` only changes the operation table and the cleanup queue -/
theorem finishOps_shape (ops : List Nat) : ∀ s : State, ∃ os cl, complete.finishOps s ops = { s with ops := os, cleanup := cl } := by
  induction ops with
  | nil => intro s; exact ⟨s.ops, s.cleanup, rfl⟩
  | cons o l ih =>
    intro s
    rw [finishOps_cons]
    have h1 : ∃ os cl, finishOp s o = { s with ops := os, cleanup := cl } := by
      unfold finishOp
      split
      · split
        · unfold maybeStartCleanup
          split
          · split
            · exact ⟨_, _, rfl⟩
            · exact ⟨_, _, rfl⟩
          · exact ⟨_, _, rfl⟩
        · exact ⟨_, _, rfl⟩
      · exact ⟨_, _, rfl⟩
    obtain ⟨os1, cl1, e1⟩ := h1
    obtain ⟨os2, cl2, e2⟩ := ih (finishOp s o)
    rw [e2, e1]
    exact ⟨os2, cl2, rfl⟩

/-- what `complete.finalize` does to the parts of the state the tree layer looks at -/
theorem finalize_fields {s s1 : State} {tD : Task} {r : Resp}
    (hoid : ∀ k op, s.op? k = some op → op.name = k) (hf : complete.finalize s tD r = .ok s1) :
    s1.tasks = aset tD.id (bumpGen { tD with response := some r }) s.tasks ∧ s1.workers = s.workers ∧
    s1.scqs = s.scqs ∧ s1.pqs = s.pqs ∧ s1.nextTask = s.nextTask ∧ s1.nextOp = s.nextOp ∧ s1.now = s.now ∧
    s1.nextLearner = s.nextLearner ∧
    (∀ o op', s1.op? o = some op' → ∃ op, s.op? o = some op ∧ op'.inv = op.inv ∧ op'.prio = op.prio) ∧
    (∀ k op, s1.op? k = some op → op.name = k) := by
  rw [BbRe.Lemmas.SchedInv.finalize_eq] at hf
  cases hf
  obtain ⟨os, cl, e⟩ := finishOps_shape tD.ops (finSt0 s tD r)
  have hoid0 : ∀ k op, (finSt0 s tD r).op? k = some op → op.name = k := hoid
  obtain ⟨hfr, hoid1⟩ := finishOps_sframe_oid tD.ops (finSt0 s tD r) hoid0
  refine ⟨?_, ?_, ?_, ?_, ?_, ?_, ?_, ?_, ?_, hoid1⟩
  · rw [hfr.tasks]; rfl
  · rw [hfr.workers]; rfl
  · rw [hfr.scqs]; rfl
  · rw [hfr.pqs]; rfl
  · rw [e]; rfl
  · rw [e]; rfl
  · rw [hfr.now]; rfl
  · rw [e]; rfl
  · intro o op' h
    obtain ⟨op, h1, h2, h3, _⟩ := hfr.ops o op' h
    exact ⟨op, h1, h2, h3⟩

theorem queued_false_of_worker {ex} {s : State} (h : MInv ex s) {t : Task} (ht : alookup t.id s.tasks = some t) :
    t.worker = none ∨ t.queued = false := by
  cases hq : t.queued with
  | false => exact Or.inr rfl
  | true => exact Or.inl (h.core.q1 t.id t ht hq).1

/-- **final completion**: the stage switch followed by `complete.finalize` of the detached task `tD` -/
theorem tFinal_tinv {ex exo} {ts : TState} {t tD : Task} {bw : Bool} {ev : Event} {r : Resp} {s1 : State}
    (hT : TInvX ex exo [] ts) (ht : alookup t.id ts.s.tasks = some t) (hr : t.response = none) (hnex : ¬ ex t.id)
    (hoid : ∀ k op, ts.s.op? k = some op → op.name = k)
    (htD : tD.id = t.id ∧ tD.worker = none ∧ tD.queued = false ∧ tD.ops = t.ops)
    (hf : complete.finalize (emit (BbRe.SchedTree.detachW ts.s t) ev) tD r = .ok s1) :
    TInvX ex exo [] ((ts.detachTree t bw).setS s1) ∧ (∀ k op, s1.op? k = some op → op.name = k) ∧
    s1.nextOp = ts.s.nextOp ∧ s1.nextTask = ts.s.nextTask ∧ s1.now = ts.s.now ∧ s1.scqs = ts.s.scqs ∧
    s1.pqs = ts.s.pqs := by
  have hoid0 : ∀ k op, (emit (BbRe.SchedTree.detachW ts.s t) ev).op? k = some op → op.name = k := by
    intro k op h; apply hoid k op; simpa [emit, State.op?, detachW_ops] using h
  obtain ⟨f1, f2, f3, f4, f5, f6, f7, f8, f9, f10⟩ := finalize_fields hoid0 hf
  have hn := detachW_next ts.s t
  have hk : (bumpGen { tD with response := some r }).id = t.id ∧ (bumpGen { tD with response := some r }).worker = none ∧
      (bumpGen { tD with response := some r }).queued = false ∧ (bumpGen { tD with response := some r }).ops = t.ops :=
    ⟨htD.1, htD.2.1, htD.2.2.1, htD.2.2.2⟩
  have h := detach_tinv (bw := bw) (s1 := s1) hT ht hr hnex hk
    (by rw [f1, htD.1]; show aset t.id _ (BbRe.SchedTree.detachW ts.s t).tasks = _; rw [detachW_tasks])
    (by rw [f2]; rfl) (by rw [f3]; exact detachW_scqs _ _) (by rw [f5]; exact hn.1) (by rw [f6]; exact hn.2.1)
    (by intro o op' ho
        obtain ⟨op, h1, h2, h3⟩ := f9 o op' ho
        exact ⟨op, by simpa [emit, State.op?, detachW_ops] using h1, h2, h3⟩)
  refine ⟨⟨h.inv.mono ?_, h.tree, h.side⟩, f10, by rw [f6]; exact hn.2.1, by rw [f5]; exact hn.1, by rw [f7]; exact hn.2.2,
    by rw [f3]; exact detachW_scqs _ _, ?_⟩
  · rintro k (hk' | ⟨_, hk'⟩)
    · exact hk'
    · cases hk'
  · rw [f4]; show (BbRe.SchedTree.detachW ts.s t).pqs = _
    unfold BbRe.SchedTree.detachW; split
    · split <;> rfl
    · rfl

end BbRe.Lemmas.SchedTree
