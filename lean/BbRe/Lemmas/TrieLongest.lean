/-
"The value at the longest prefix": for `f` from lists to `Int`, a negative value meaning "nothing
stored here", `lp f l` is `f q` for the longest `q <+: l` with `0 ≤ f q`, and `f []` when there
is none.  `GetLongestPrefix` (with `f` = the value stored at a path) and the specification's
`longestPrefix` (with `f` = the bound index or −1) both compute it.
-/
import BbRe.Spec.PrefixMap
namespace BbRe.Lemmas.TrieLongest

variable {α : Type}

def lp (f : List α → Int) : List α → Int
  | [] => f []
  | c :: cs => let r := lp (fun q => f (c :: q)) cs; if r ≥ 0 then r else f []

theorem lp_nil (f : List α → Int) : lp f [] = f [] := rfl
theorem lp_cons (f : List α → Int) (c : α) (cs : List α) :
    lp f (c :: cs) = if lp (fun q => f (c :: q)) cs ≥ 0 then lp (fun q => f (c :: q)) cs else f [] := rfl

theorem lp_const (a : Int) (l : List α) : lp (fun _ => a) l = a := by
  induction l with
  | nil => rfl
  | cons c cs ih => rw [lp_cons, ih, ite_self]

theorem le_lp {f : List α → Int} {a : Int} (h : ∀ q, a ≤ f q) (l : List α) : a ≤ lp f l := by
  induction l generalizing f with
  | nil => exact h []
  | cons c cs ih =>
    rw [lp_cons]
    split
    · exact ih fun q => h (c :: q)
    · exact h []

theorem forall_prefix_cons {c : α} {cs : List α} {P : List α → Prop} :
    (∀ q, q <+: c :: cs → P q) ↔ P [] ∧ ∀ q, q <+: cs → P (c :: q) := by
  constructor
  · exact fun h => ⟨h [] List.nil_prefix, fun q hq => h _ (List.cons_prefix_cons.2 ⟨rfl, hq⟩)⟩
  · rintro ⟨h0, h1⟩ q hq
    rcases List.prefix_cons_iff.1 hq with rfl | ⟨q', rfl, hq'⟩
    · exact h0
    · exact h1 q' hq'

theorem exists_prefix_cons {c : α} {cs : List α} {P : List α → Prop} :
    (∃ q, q <+: c :: cs ∧ P q) ↔ P [] ∨ ∃ q, q <+: cs ∧ P (c :: q) := by
  constructor
  · rintro ⟨q, hq, hp⟩
    rcases List.prefix_cons_iff.1 hq with rfl | ⟨q', rfl, hq'⟩
    · exact Or.inl hp
    · exact Or.inr ⟨q', hq', hp⟩
  · rintro (h0 | ⟨q, hq, hp⟩)
    · exact ⟨[], List.nil_prefix, h0⟩
    · exact ⟨c :: q, List.cons_prefix_cons.2 ⟨rfl, hq⟩, hp⟩

theorem lp_neg_iff (f : List α → Int) (l : List α) : lp f l < 0 ↔ ∀ q, q <+: l → f q < 0 := by
  induction l generalizing f with
  | nil => exact ⟨fun h q hq => List.prefix_nil.1 hq ▸ h, fun h => h [] List.nil_prefix⟩
  | cons c cs ih =>
    rw [lp_cons, forall_prefix_cons, ← ih]
    split <;> omega

theorem lp_eq_iff (f : List α → Int) (l : List α) {v : Int} (hv : 0 ≤ v) :
    lp f l = v ↔
      ∃ q, q <+: l ∧ f q = v ∧ ∀ q', q' <+: l → q.length < q'.length → f q' < 0 := by
  induction l generalizing f with
  | nil =>
    constructor
    · exact fun h => ⟨[], List.nil_prefix, h, fun q' hq' hl => by cases List.prefix_nil.1 hq'; cases hl⟩
    · rintro ⟨q, hq, hf, _⟩; cases List.prefix_nil.1 hq; exact hf
  | cons c cs ih =>
    -- A witness `c :: q` is longer than `[]`, so it wins whenever there is one, which by `ih` is when
    -- the recursive `lp` equals `v ≥ 0`; otherwise `[]` is the witness and every prefix under `c`
    -- is negative (`lp_neg_iff`).  Both sides are rewritten to statements about the recursive `lp`.
    rw [lp_cons, exists_prefix_cons]
    simp only [forall_prefix_cons, List.length_cons, List.length_nil, Nat.add_lt_add_iff_right,
      Nat.not_lt_zero, Nat.lt_irrefl, false_imp_iff, true_and, Nat.zero_lt_succ, true_imp_iff, ← ih,
      ← lp_neg_iff]
    split <;> omega

end BbRe.Lemmas.TrieLongest
