import BbRe.Lemmas.FileRefPc
/-!
The C16 invariant of `Model/FileRef.lean` and its preservation by the primitives
(`release`, `frozenClose`, `acquire`, `truncate`, `digestStep`, `openFrozenFor`).
`Inv' s n` is the invariant of a state in which `referenceCount` still counts `n`
references whose holders have already been removed from the ghost bookkeeping
(the state between "drop the holder" and `releaseReferencesLocked(n)`).
-/
namespace BbRe.Lemmas.FileRef
open BbRe.FileRef

/-- References that the link layer holds on the `fileBackedFile`: one while the handle
allocator's link count is positive; without a handle allocator every link is one. -/
def baseLinks (s : State) : Nat :=
  if s.layered then (if s.linkCount > 0 then 1 else 0) else s.linkCount

structure Inv' (s : State) (n : Nat) : Prop where
  noPanic : s.panicked = false
  refsEq : s.refs = baseLinks s + s.rd + s.wr + s.frozen + n
  writersEq : s.writers = s.wr
  closedIff : s.closed = true ↔ s.refs = 0
  closesEq : s.closeCalls = if s.closed = true then 1 else 0
  pcs : PcInv s.pc s.frozen s.writers s.bytes
  cachedOk : ∀ d, s.cached = some d → d.2 = s.bytes
  casOk : ∀ e, e ∈ s.cas → e.1.2 = e.2

abbrev Inv (s : State) : Prop := Inv' s 0

theorem Inv'.running {s : State} {n : Nat} (h : Inv' s n) : ¬ s.panicked = true := by simp [h.noPanic]

theorem Inv'.notClosed {s : State} {n : Nat} (h : Inv' s n) (hn : 1 ≤ n) : s.closed = false := by
  cases hc : s.closed
  · rfl
  · have := h.closedIff.mp hc
    have := h.refsEq
    omega

theorem Inv.notClosed_of_refs {s : State} (h : Inv s) (hr : 0 < s.refs) : s.closed = false := by
  cases hc : s.closed
  · rfl
  · have := h.closedIff.mp hc
    omega

/-- `releaseReferencesLocked(n)` of references whose holders are gone. -/
theorem Inv'.after_release {s : State} {n : Nat} (h : Inv' s n) (hn : 1 ≤ n) : Inv (release s n) := by
  have hnc := h.notClosed hn
  have hr := h.refsEq
  have hcl := h.closesEq
  rw [hnc, if_neg nofun] at hcl
  unfold release
  rw [if_neg (show ¬ s.refs < n by omega)]
  by_cases h0 : s.refs - n = 0
  · rw [if_pos h0, if_neg (by rw [hnc]; nofun)]
    refine ⟨h.noPanic, ?_, h.writersEq, ⟨fun _ => rfl, fun _ => rfl⟩, ?_, h.pcs, h.cachedOk, h.casOk⟩
    · show 0 = baseLinks s + s.rd + s.wr + s.frozen + 0
      omega
    · show s.closeCalls + 1 = if true = true then 1 else 0
      rw [hcl]; rfl
  · rw [if_neg h0]
    refine ⟨h.noPanic, ?_, h.writersEq, ?_, ?_, h.pcs, h.cachedOk, h.casOk⟩
    · show s.refs - n = baseLinks s + s.rd + s.wr + s.frozen + 0
      omega
    · show s.closed = true ↔ s.refs - n = 0
      rw [hnc]; exact ⟨nofun, fun e => absurd e h0⟩
    · show s.closeCalls = if s.closed = true then 1 else 0
      rw [hnc, hcl]; rfl

/-- `releaseReferencesLocked` writes nothing but the reference count, the closed flag, the
`Close` counter and the panic flag. -/
theorem release_writes (s : State) (n : Nat) :
    release s n = { s with refs := (release s n).refs, closed := (release s n).closed,
                           closeCalls := (release s n).closeCalls, panicked := (release s n).panicked } := by
  unfold release State.panic
  split
  · rfl
  · split
    · split <;> rfl
    · rfl

theorem release_pc (s : State) (n : Nat) : (release s n).pc = s.pc := by
  rw [release_writes]

theorem release_bytes (s : State) (n : Nat) : (release s n).bytes = s.bytes := by
  rw [release_writes]

theorem release_frozen (s : State) (n : Nat) : (release s n).frozen = s.frozen := by
  rw [release_writes]

theorem release_cas (s : State) (n : Nat) : (release s n).cas = s.cas := by
  rw [release_writes]

theorem release_cached (s : State) (n : Nat) : (release s n).cached = s.cached := by
  rw [release_writes]

theorem release_checked (s : State) (n : Nat) : (release s n).checked = s.checked := by
  rw [release_writes]

/-- `frozenFileBackedFile.Close` by a thread that holds a frozen reader and then returns. -/
theorem Inv.after_frozenClose {s : State} (h : Inv s) (t : Nat) (ht : (s.pc t).isFrozen = true) :
    Inv (frozenClose (s.setPc t .idle)) := by
  have hpos := Nat.pos_of_ne_zero (h.pcs.counted.pos ht)
  unfold frozenClose
  have h1 : ¬ (s.setPc t .idle).frozen = 0 := Nat.ne_of_gt hpos
  simp only [h1, if_false]
  apply Inv'.after_release _ (Nat.le_refl 1)
  refine ⟨h.noPanic, ?_, h.writersEq, h.closedIff, h.closesEq, ?_, h.cachedOk, h.casOk⟩
  · have := h.refsEq
    show s.refs = baseLinks s + s.rd + s.wr + (s.frozen - 1) + 1
    omega
  · exact h.pcs.unfreeze t ht

/-- `acquireShareAccessLocked`. -/
theorem Inv.after_acquire {s : State} (h : Inv s) (m : Mask) (hr : 0 < s.refs) : Inv (acquire s m) := by
  have hnc := h.notClosed_of_refs hr
  refine ⟨h.noPanic, ?_, ?_, ?_, h.closesEq, h.pcs.writers_inc _, h.cachedOk, h.casOk⟩
  · have := h.refsEq
    show s.refs + m.count = baseLinks s + (s.rd + b2n m.r) + (s.wr + b2n m.w) + s.frozen + 0
    unfold Mask.count
    omega
  · have := h.writersEq
    show s.writers + b2n m.w = s.wr + b2n m.w
    omega
  · show s.closed = true ↔ s.refs + m.count = 0
    simp only [hnc, Bool.false_eq_true, false_iff]
    omega

/-- A change of thread `t`'s program counter between places without a frozen reader. -/
theorem Inv.setPc_plain {s : State} (h : Inv s) (t : Nat) (v : PC)
    (hold : (s.pc t).isFrozen = false) (hv : v.isFrozen = false)
    (hm : ∀ op, v = .mutWait op false → 0 < s.frozen)
    (hu : ∀ u k fn, v = .upWait u k fn false → 0 < s.writers) : Inv (s.setPc t v) :=
  ⟨h.noPanic, h.refsEq, h.writersEq, h.closedIff, h.closesEq,
    h.pcs.upd_plain t v hold hv hm hu, h.cachedOk, h.casOk⟩

/-- `openReadFrozen` by thread `t` (not holding a frozen reader), continuing at `v`. -/
theorem Inv.after_openFrozenFor {s : State} (h : Inv s) (t : Nat) (v : PC)
    (hold : (s.pc t).isFrozen = false) (hv : v.isFrozen = true) (hd : ∀ d, v ≠ .upPut d) :
    Inv (openFrozenFor s t v).1 := by
  unfold openFrozenFor
  split
  · exact h.setPc_plain t .idle hold rfl (fun _ e => by cases e) (fun _ _ _ e => by cases e)
  · rename_i hr
    have hnc := h.notClosed_of_refs (Nat.pos_of_ne_zero hr)
    refine ⟨h.noPanic, ?_, h.writersEq, ?_, h.closesEq, ?_, h.cachedOk, h.casOk⟩
    · have := h.refsEq
      show s.refs + 1 = baseLinks s + s.rd + s.wr + (s.frozen + 1) + 0
      omega
    · show s.closed = true ↔ s.refs + 1 = 0
      simp only [hnc, Bool.false_eq_true, false_iff]
      omega
    · exact h.pcs.upd_freeze t v hold hv (fun d e => absurd e (hd d))

/-- `virtualTruncate` with nobody holding the file frozen. -/
theorem Inv.after_truncate {s : State} (h : Inv s) (n : Nat) (hf : s.frozen = 0) (hnc : s.closed = false) :
    Inv (truncate s n).1 := by
  unfold truncate
  rw [if_neg (by simp [hnc])]
  split
  · exact h
  · refine ⟨h.noPanic, h.refsEq, h.writersEq, h.closedIff, h.closesEq, ?_, ?_, h.casOk⟩
    · have := h.pcs
      rw [hf] at this
      show PcInv s.pc s.frozen s.writers _
      rw [hf]
      exact this.bytes_change _
    · intro d hd; cases hd

theorem truncate_frame (s : State) (n : Nat) :
    (truncate s n).1.pc = s.pc ∧ (truncate s n).1.frozen = s.frozen ∧ (truncate s n).1.refs = s.refs ∧
    (truncate s n).1.closed = s.closed := by
  unfold truncate State.panic
  split
  · simp
  · split <;> simp

/-- `updateCachedDigest`: the cached digest is for this digest function and is returned; or reading
fails and nothing changes; or the digest of the contents is computed, cached and returned. -/
theorem digestStep_cases (s : State) (fn : Nat) :
    (∃ d, s.cached = some d ∧ d.1 = fn ∧ digestStep s fn = (s, some d)) ∨ digestStep s fn = (s, none) ∨
    digestStep s fn = ({ s with cached := some (digestOf fn s.bytes) }, some (digestOf fn s.bytes)) := by
  unfold digestStep
  split
  · split
    · exact .inl ⟨_, ‹_›, ‹_›, rfl⟩
    · split
      · exact .inr (.inl rfl)
      · exact .inr (.inr rfl)
  · split
    · exact .inr (.inl rfl)
    · exact .inr (.inr rfl)

/-- `updateCachedDigest` (the file is frozen or not: the contents do not change). -/
theorem Inv.after_digestStep {s : State} (h : Inv s) (fn : Nat) : Inv (digestStep s fn).1 := by
  rcases digestStep_cases s fn with ⟨_, _, _, e⟩ | e | e <;> rw [e]
  · exact h
  · exact h
  · exact ⟨h.noPanic, h.refsEq, h.writersEq, h.closedIff, h.closesEq, h.pcs,
      fun d hd => by cases hd; rfl, h.casOk⟩

theorem digestStep_frame (s : State) (fn : Nat) :
    (digestStep s fn).1.pc = s.pc ∧ (digestStep s fn).1.bytes = s.bytes ∧
    (digestStep s fn).1.frozen = s.frozen ∧ (digestStep s fn).1.cas = s.cas ∧
    (digestStep s fn).1.rfault = s.rfault := by
  rcases digestStep_cases s fn with ⟨_, _, _, e⟩ | e | e <;> rw [e] <;> exact ⟨rfl, rfl, rfl, rfl, rfl⟩

/-- The digest `updateCachedDigest` returns is the digest of the current contents. -/
theorem digestStep_valid {s : State} (h : Inv s) (fn : Nat) (d : Digest)
    (hd : (digestStep s fn).2 = some d) : d.2 = s.bytes ∧ d.1 = fn := by
  rcases digestStep_cases s fn with ⟨d0, hc, hfn, e⟩ | e | e <;> rw [e] at hd <;> cases hd
  · exact ⟨h.cachedOk _ hc, hfn⟩
  · exact ⟨rfl, rfl⟩

end BbRe.Lemmas.FileRef
