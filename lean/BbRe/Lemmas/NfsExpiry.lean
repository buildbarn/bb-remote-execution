import BbRe.Lemmas.NfsClose
/-!
# Lease expiry empties the server (C18.expiry_empties)

`expireActs s` is the first loop of the server's `enter()`: it removes every client record
at the head of the idle list whose lease has run out.  When nothing is in flight and every
lease has run out, the loop removes every client record (`expire_removes_all`), and once the
files it closed are flushed (`ll.closeAll()`), no record of any kind is left and the ledger
of opens and closes is balanced (`expiry_empties`).  Core Lean only.
-/
namespace BbRe.Lemmas.NfsExpiry
open BbRe.NfsState BbRe.NfsShare BbRe.Lemmas.NfsInv BbRe.Lemmas.NfsActs
open BbRe.Lemmas.NfsInvC (ids mem_ids getClient_some getClient_none)
open BbRe.Lemmas.NfsClose (applyAll_nil applyAll_cons applyAll_append apply_of_panic apply_run
  panic_none_of_applyAll)

/-- nothing is in flight -/
structure Quiescent (s : State) : Prop where
  noPanic : s.panic = none
  noHolders : s.holders = []
  noIos : s.ios = []
  noTemps : s.temps = []
  noPend : s.pend = []

/-! ## No client record left -/

/-- consequences of "no client record is left" in a state satisfying the invariant -/
theorem no_clients_empty (s : State) (h : Inv s) (hc : s.clients = []) :
    s.idle = [] ∧ s.holders = [] ∧ s.oowners = [] ∧ s.lowners = [] ∧ s.pool = [] ∧
    (∀ f ∈ s.files, f.live = false) ∧ (s.ios = [] → s.files = []) ∧
    (s.ios = [] → s.pend = [] → s.temps = [] → ∀ leaf bit, opens s leaf bit = closes s leaf bit) := by
  have hnone : ∀ {P : Client → Prop}, ¬ ∃ c ∈ s.clients, P c := by
    intro P ⟨c, hm, _⟩; rw [hc] at hm; cases hm
  have hlive : ∀ f ∈ s.files, f.live = false := by
    intro f hf
    cases hl : f.live with
    | false => rfl
    | true => exact absurd (h.r.fileCl f hf hl) hnone
  have hfiles : s.ios = [] → s.files = [] := by
    intro hio
    apply List.eq_nil_iff_forall_not_mem.mpr
    intro f hf
    obtain ⟨io, hm, _⟩ := h.s.deadUsed f hf (hlive f hf)
    rw [hio] at hm; cases hm
  refine ⟨?_, ?_, ?_, ?_, ?_, hlive, hfiles, ?_⟩
  · apply List.eq_nil_iff_forall_not_mem.mpr
    intro id hid
    obtain ⟨c, hm, _⟩ := (h.c.idleIff id).mp hid
    exact hnone (P := fun _ => True) ⟨c, hm, trivial⟩
  · apply List.eq_nil_iff_forall_not_mem.mpr
    intro x hx
    exact hnone (h.c.holderCl x hx)
  · apply List.eq_nil_iff_forall_not_mem.mpr
    intro x hx
    exact hnone (h.r.ooCl x hx)
  · apply List.eq_nil_iff_forall_not_mem.mpr
    intro x hx
    exact hnone (h.r.loCl x hx)
  · apply List.eq_nil_iff_forall_not_mem.mpr
    intro e he
    obtain ⟨h1, h2⟩ := h.p.poolCount e he
    have h0 : liveOn s e.file = 0 := by
      unfold liveOn
      apply List.countP_eq_zero.mpr
      intro f hf
      rw [hlive f hf]
      simp
    omega
  · intro hio hp ht leaf bit
    have := h.g.ledger leaf bit
    rw [this]
    unfold held heldFiles heldPend heldTemps
    rw [hfiles hio, hp, ht]
    rfl

/-! ## What the actions of the expiry loop leave alone -/

/-- the kinds of actions the expiry loop performs -/
def isExp : Act → Bool
  | .unlockAllLofs .. => true
  | .removeLofs .. => true
  | .loPrune .. => true
  | .downgradeOpen .. => true
  | .finalize .. => true
  | .ooDel .. => true
  | .delSession .. => true
  | .dropClient .. => true
  | _ => false

/-- `s'` has the in-flight records of `s`, no client id that `s` did not have, and its new
`leavesToClose` entries belong to the current request -/
structure Q (s s' : State) : Prop where
  holders : s'.holders = s.holders
  ios : s'.ios = s.ios
  temps : s'.temps = s.temps
  cur : s'.cur = s.cur
  pend : ∀ p ∈ s'.pend, p ∈ s.pend ∨ p.1 = s.cur
  ids : ∀ id ∈ ids s', id ∈ ids s

theorem Q.refl (s : State) : Q s s := ⟨rfl, rfl, rfl, rfl, fun _ hp => Or.inl hp, fun _ h => h⟩

theorem Q.trans {a b c : State} (h1 : Q a b) (h2 : Q b c) : Q a c := by
  refine ⟨h2.holders.trans h1.holders, h2.ios.trans h1.ios, h2.temps.trans h1.temps,
    h2.cur.trans h1.cur, ?_, fun id h => h1.ids id (h2.ids id h)⟩
  intro p hp
  rcases h2.pend p hp with h | h
  · exact h1.pend p h
  · exact Or.inr (h.trans h1.cur)

theorem Q_fail (s : State) (m : String) : Q s (s.fail m) :=
  ⟨rfl, rfl, rfl, rfl, fun _ hp => Or.inl hp, fun _ h => h⟩

theorem Q_pushPend (s : State) (l : Nat) (m : Mask) : Q s (s.pushPend l m) := by
  unfold State.pushPend
  split
  · exact Q.refl s
  · refine ⟨rfl, rfl, rfl, rfl, ?_, fun _ h => h⟩
    intro p hp
    rcases List.mem_append.mp hp with h | h
    · exact Or.inl h
    · rw [List.mem_singleton] at h; subst h; exact Or.inr rfl

theorem Q_modFile (s : State) (sid : Nat) (g : OFile → OFile) : Q s (s.modFile sid g) :=
  ⟨rfl, rfl, rfl, rfl, fun _ hp => Or.inl hp, fun _ h => h⟩

theorem Q_modFile_pushPend (s : State) (sid : Nat) (g : OFile → OFile) (l : Nat) (m : Mask) :
    Q s ((s.modFile sid g).pushPend l m) :=
  (Q_modFile s sid g).trans (Q_pushPend _ l m)

theorem Q_same {s s' : State} (hh : s'.holders = s.holders) (hi : s'.ios = s.ios)
    (ht : s'.temps = s.temps) (hc : s'.cur = s.cur) (hp : s'.pend = s.pend)
    (hcl : s'.clients = s.clients) : Q s s' :=
  ⟨hh, hi, ht, hc, fun _ h => Or.inl (hp ▸ h), fun _ h => by unfold ids at h ⊢; exact hcl ▸ h⟩

theorem Q_gc (s : State) : Q s s.gc := Q_same rfl rfl rfl rfl rfl rfl

theorem Q_unlockAllLofs (s : State) (sid lsid : Nat) : Q s (Do.unlockAllLofs s sid lsid) :=
  unlockAllLofs_elim s sid lsid (.refl s) fun _ _ _ _ _ _ => by
    refine .trans ?_ (Q_modFile _ _ _)
    exact Q_same rfl rfl rfl rfl rfl rfl
theorem Q_removeLofs (s : State) (sid lsid : Nat) : Q s (Do.removeLofs s sid lsid) :=
  removeLofs_elim s sid lsid (.refl s) (Q_fail s) fun _ _ _ _ _ _ _ => Q_modFile_pushPend ..
theorem Q_loPrune (s : State) (id : Nat) : Q s (Do.loPrune s id) :=
  ite_elim (fun _ => .refl s) (fun _ => Q_same rfl rfl rfl rfl rfl rfl)
theorem Q_downgradeOpen (s : State) (sid : Nat) (new : Mask) : Q s (Do.downgradeOpen s sid new) :=
  downgradeOpen_elim s sid new (.refl s) (Q_fail s) fun _ _ _ _ _ _ _ => Q_modFile_pushPend ..
theorem Q_finalize (s : State) (sid : Nat) : Q s (Do.finalize s sid) :=
  finalize_elim s sid (.refl s) (Q_fail s) fun _ _ _ _ _ _ _ => by
    refine .trans (.trans ?_ (Q_modFile _ _ _)) (Q_gc _)
    exact Q_same rfl rfl rfl rfl rfl rfl
theorem Q_ooDel (s : State) (cl key : Nat) : Q s (Do.ooDel s cl key) :=
  ite_elim (fun _ => Q_fail s _) (fun _ => Q_same rfl rfl rfl rfl rfl rfl)
theorem Q_delSession (s : State) (cl k : Nat) : Q s (Do.delSession s cl k) :=
  ⟨rfl, rfl, rfl, rfl, fun _ hp => Or.inl hp,
    fun _ h => (BbRe.Lemmas.NfsInvC.ids_delSession s cl k) ▸ h⟩
theorem Q_dropClient (s : State) (cl : Nat) : Q s (Do.dropClient s cl) := by
  refine dropClient_elim s cl (fun _ => .refl s) (Q_fail s) fun _ _ _ _ _ _ =>
    ⟨rfl, rfl, rfl, rfl, fun _ hp => Or.inl hp, fun id hid => ?_⟩
  obtain ⟨c, hc, rfl⟩ := mem_ids.mp hid
  exact mem_ids.mpr ⟨c, (List.mem_filter.mp hc).1, rfl⟩

theorem Q_apply (s : State) (a : Act) (h : isExp a = true) : Q s (apply s a) := by
  unfold apply
  split
  · exact Q.refl s
  · cases a with
    | unlockAllLofs sid lsid => exact Q_unlockAllLofs s sid lsid
    | removeLofs sid lsid => exact Q_removeLofs s sid lsid
    | loPrune id => exact Q_loPrune s id
    | downgradeOpen sid new => exact Q_downgradeOpen s sid new
    | finalize sid => exact Q_finalize s sid
    | ooDel cl key => exact Q_ooDel s cl key
    | delSession cl k => exact Q_delSession s cl k
    | dropClient cl => exact Q_dropClient s cl
    | _ => exact Bool.noConfusion h

theorem Q_applyAll (s : State) (acts : List Act) (h : ∀ a ∈ acts, isExp a = true) :
    Q s (applyAll s acts) := by
  induction acts generalizing s with
  | nil => exact Q.refl s
  | cons a rest ih =>
    rw [applyAll_cons]
    exact Q.trans (Q_apply s a (h a (List.mem_cons_self ..)))
      (ih (apply s a) (fun b hb => h b (List.mem_cons_of_mem _ hb)))

/-! ## The actions of the expiry loop -/

theorem isExp_closeAndFinalize (s : State) (sid : Nat) : ∀ a ∈ closeAndFinalizeActs s sid, isExp a = true := by
  intro a ha
  unfold closeAndFinalizeActs closeStartActs at ha
  split at ha
  · simp only [List.nil_append, List.mem_singleton] at ha; subst ha; rfl
  · simp only [List.mem_append, List.mem_flatMap, List.mem_cons, List.not_mem_nil, or_false] at ha
    rcases ha with (⟨l, _, rfl | rfl | rfl⟩ | rfl) | rfl <;> rfl

/-- `removeClientActs s cl` ends with `dropClient cl`; everything is of an expiry kind -/
theorem removeClientActs_split (s : State) (cl : Nat) :
    ∃ pre, removeClientActs s cl = pre ++ [Act.dropClient cl] ∧ ∀ a ∈ pre, isExp a = true := by
  refine ⟨_, rfl, ?_⟩
  intro a ha
  simp only [List.mem_append, List.mem_flatMap, List.mem_map] at ha
  rcases ha with (⟨f, _, h⟩ | ⟨o, _, rfl⟩) | h
  · exact isExp_closeAndFinalize s f.sid a h
  · rfl
  · split at h
    · obtain ⟨k, _, rfl⟩ := List.mem_map.mp h; rfl
    · cases h

theorem isExp_removeClientActs (s : State) (cl : Nat) : ∀ a ∈ removeClientActs s cl, isExp a = true := by
  obtain ⟨pre, e, hpre⟩ := removeClientActs_split s cl
  intro a ha
  rw [e] at ha
  rcases List.mem_append.mp ha with h | h
  · exact hpre a h
  · rw [List.mem_singleton] at h; subst h; rfl

theorem isExp_flatMap (s : State) (l : List Nat) : ∀ a ∈ l.flatMap (removeClientActs s), isExp a = true := by
  intro a ha
  obtain ⟨cl, _, h⟩ := List.mem_flatMap.mp ha
  exact isExp_removeClientActs s cl a h

theorem isExp_expireActs (s : State) : ∀ a ∈ expireActs s, isExp a = true :=
  isExp_flatMap s _

/-! ## `dropClient` removes the record unless it panics -/

theorem dropClient_removes (s : State) (cl : Nat) (h : (Do.dropClient s cl).panic = none) :
    cl ∉ ids (Do.dropClient s cl) := by
  revert h
  refine dropClient_elim (P := fun s' => s'.panic = none → cl ∉ ids s') s cl
    (fun hg _ hm => ?_) (fun _ h => nomatch h) fun _ _ _ _ _ _ _ hm => ?_
  · obtain ⟨c, hc, e⟩ := mem_ids.mp hm
    exact getClient_none s cl hg c hc e
  · obtain ⟨c', hc', e⟩ := mem_ids.mp hm
    have := (List.mem_filter.mp hc').2
    simp only [bne_iff_ne, ne_eq] at this
    exact this e

/-! ## Every lease has run out: the loop visits every record -/

theorem takeWhile_all {α : Type} (p : α → Bool) : ∀ (l : List α), (∀ x ∈ l, p x = true) → l.takeWhile p = l
  | [], _ => rfl
  | x :: l, h => by
    rw [List.takeWhile_cons, if_pos (h x (List.mem_cons_self ..)),
      takeWhile_all p l (fun y hy => h y (List.mem_cons_of_mem _ hy))]

theorem all_idle (s : State) (h : Inv s) (hh : s.holders = []) (hio : s.ios = []) :
    ∀ c ∈ s.clients, c.id ∈ s.idle := by
  intro c hc
  have h0 : c.hold = 0 := by
    rw [h.c.holdCount c hc]; unfold holdsOf; rw [hh, hio]; rfl
  exact (h.c.idleIff c.id).mpr ⟨c, hc, rfl, h0⟩

theorem expired_eq_idle (s : State) (h : Inv s)
    (hexp : ∀ c ∈ s.clients, c.lastSeen + s.lease < s.now) : expiredClients s = s.idle := by
  unfold expiredClients
  apply takeWhile_all
  intro cl hcl
  obtain ⟨c, hc, e, _⟩ := (h.c.idleIff cl).mp hcl
  cases hg : s.getClient cl with
  | none => exact absurd e (getClient_none s cl hg c hc)
  | some c' =>
    obtain ⟨hc', _⟩ := getClient_some s cl c' hg
    exact decide_eq_true (hexp c' hc')

/-- the expiry loop removes every record when all leases have run out (unless the server panics,
which the known finding "lock-owner shared by two open-owners" can cause) -/
theorem expire_removes_all (s : State) (h : Inv s) (hq : Quiescent s)
    (hexp : ∀ c ∈ s.clients, c.lastSeen + s.lease < s.now)
    (hp : (applyAll s (expireActs s)).panic = none) :
    (applyAll s (expireActs s)).clients = [] := by
  have hE := expired_eq_idle s h hexp
  have hnot : ∀ cl ∈ s.idle, cl ∉ ids (applyAll s (expireActs s)) := by
    intro cl hcl
    rw [← hE] at hcl
    obtain ⟨l1, l2, hl⟩ := List.append_of_mem hcl
    obtain ⟨pre, e, _⟩ := removeClientActs_split s cl
    have hsplit : expireActs s =
        ((l1.flatMap (removeClientActs s) ++ pre) ++ [Act.dropClient cl]) ++ l2.flatMap (removeClientActs s) := by
      unfold expireActs
      rw [hl, List.flatMap_append, List.flatMap_cons, e]
      simp only [List.append_assoc]
    rw [hsplit] at hp ⊢
    rw [applyAll_append] at hp ⊢
    have hp1 := panic_none_of_applyAll hp
    rw [applyAll_append] at hp1 ⊢
    have hp0 := panic_none_of_applyAll hp1
    rw [applyAll_cons, applyAll_nil,
      show apply _ (Act.dropClient cl) = Do.dropClient _ cl from apply_run hp0] at hp1 ⊢
    intro hm
    exact dropClient_removes _ cl hp1 ((Q_applyAll _ _ (isExp_flatMap s l2)).ids cl hm)
  have hsub := (Q_applyAll s _ (isExp_expireActs s)).ids
  apply List.eq_nil_iff_forall_not_mem.mpr
  intro c hc
  have hm : c.id ∈ ids (applyAll s (expireActs s)) := mem_ids.mpr ⟨c, hc, rfl⟩
  obtain ⟨c', hc', e⟩ := mem_ids.mp (hsub c.id hm)
  have := all_idle s h hq.noHolders hq.noIos c' hc'
  rw [e] at this
  exact hnot c.id this hm

/-! ## `ll.closeAll()` -/

theorem flush_panic (s : State) : (Do.flush s).panic = s.panic := by
  unfold Do.flush; split <;> rfl

theorem applyAll_flush_panic : ∀ (n : Nat) (s : State),
    (applyAll s (List.replicate n Act.flush)).panic = s.panic
  | 0, _ => rfl
  | n + 1, s => by
    rw [List.replicate_succ, applyAll_cons, applyAll_flush_panic n]
    cases hp : s.panic with
    | none => rw [show apply s .flush = Do.flush s from apply_run hp, flush_panic, hp]
    | some m => rw [apply_of_panic (by rw [hp]; rfl), hp]

theorem flush_cons (s : State) (x : Nat × Nat × Mask) (rest : List (Nat × Nat × Mask))
    (hp : s.pend = x :: rest) (hx : x.1 = s.cur) :
    Do.flush s = { s with pend := rest, log := s.log ++ [.closeEv x.2.1 x.2.2] } := by
  obtain ⟨t, leaf, m⟩ := x
  have hx' : ((t, leaf, m).1 == s.cur) = true := by simpa using hx
  unfold Do.flush
  rw [hp, List.find?_cons_of_pos (by exact hx'), List.eraseP_cons_of_pos (by exact hx')]

/-- when every entry of `leavesToClose` belongs to the current request, `closeAll` empties it -/
theorem flush_all : ∀ (n : Nat) (s : State), s.panic = none → (∀ p ∈ s.pend, p.1 = s.cur) →
    s.pend.length = n →
    (applyAll s (List.replicate n Act.flush)).pend = [] ∧
    (applyAll s (List.replicate n Act.flush)).clients = s.clients ∧
    (applyAll s (List.replicate n Act.flush)).ios = s.ios ∧
    (applyAll s (List.replicate n Act.flush)).temps = s.temps
  | 0, s, _, _, hn => ⟨List.eq_nil_of_length_eq_zero hn, rfl, rfl, rfl⟩
  | n + 1, s, h0, hall, hn => by
    cases hp : s.pend with
    | nil => rw [hp] at hn; cases hn
    | cons x rest =>
      have hx : x.1 = s.cur := hall x (hp ▸ List.mem_cons_self ..)
      rw [List.replicate_succ, applyAll_cons, show apply s .flush = Do.flush s from apply_run h0,
        flush_cons s x rest hp hx]
      have := flush_all n { s with pend := rest, log := s.log ++ [.closeEv x.2.1 x.2.2] } h0
        (fun p hm => hall p (hp ▸ List.mem_cons_of_mem _ hm))
        (by rw [hp] at hn; simpa using hn)
      exact this

/-- after the expiry loop and `ll.closeAll()` nothing at all is left and the ledger is balanced to zero -/
theorem expiry_empties (s : State) (h : Inv s) (hq : Quiescent s)
    (hexp : ∀ c ∈ s.clients, c.lastSeen + s.lease < s.now) :
    let s1 := applyAll s (expireActs s)
    let s2 := applyAll s1 (List.replicate s1.pend.length Act.flush)
    s2.panic = none →
    s2.clients = [] ∧ s2.idle = [] ∧ s2.holders = [] ∧ s2.oowners = [] ∧ s2.lowners = [] ∧
    s2.files = [] ∧ s2.pool = [] ∧ s2.ios = [] ∧ s2.temps = [] ∧ s2.pend = [] ∧
    ∀ leaf bit, opens s2 leaf bit = closes s2 leaf bit := by
  intro s1 s2 hp2
  have hp1 : s1.panic = none := by rw [← applyAll_flush_panic s1.pend.length s1]; exact hp2
  have hcl1 : s1.clients = [] := expire_removes_all s h hq hexp hp1
  have q := Q_applyAll s _ (isExp_expireActs s)
  have htags : ∀ p ∈ s1.pend, p.1 = s1.cur := by
    intro p hm
    rcases q.pend p hm with h' | h'
    · rw [hq.noPend] at h'; cases h'
    · exact h'.trans q.cur.symm
  obtain ⟨f1, f2, f3, f4⟩ := flush_all s1.pend.length s1 hp1 htags rfl
  have hinv : Inv s2 := inv_applyAll _ _ (inv_applyAll s _ h)
  have hcl2 : s2.clients = [] := f2.trans hcl1
  have hio2 : s2.ios = [] := f3.trans (q.ios.trans hq.noIos)
  have htm2 : s2.temps = [] := f4.trans (q.temps.trans hq.noTemps)
  obtain ⟨e1, e2, e3, e4, e5, _, e7, e8⟩ := no_clients_empty s2 hinv hcl2
  exact ⟨hcl2, e1, e2, e3, e4, e7 hio2, e5, hio2, htm2, f1, e8 hio2 f1 htm2⟩

/-! ## Non-vacuity

A reachable state with one confirmed client record (one session), one open file, one
lock-owner with a lock-owner file holding a byte-range lock, whose lease has run out: the
hypotheses of `expiry_empties` hold, and the run does not panic. -/

def demoState : State := applyAll (init 41 1)
  [.newClient 5 0, .confirmClient 1, .addSession 1 7, .vopen 10 0 Mask.both false false, .openNew 10 1 3,
   .loRegister 1 9, .addLofs 2 3, .lockSet 2 4 ⟨0, 10, 0, .excl⟩, .tick 1000, .setNow]

example : Inv demoState := inv_reachable 41 1 _
example : Quiescent demoState := ⟨by decide, by rfl, by rfl, by rfl, by rfl⟩
example : ∀ c ∈ demoState.clients, c.lastSeen + demoState.lease < demoState.now := by decide
example : demoState.files.length = 1 ∧ demoState.lowners.length = 1 ∧ demoState.clients.length = 1 ∧
    demoState.pool.map (fun e => e.locks.length) = [1] := by decide
example : (expireActs demoState).length = 7 := by decide
example : (applyAll (applyAll demoState (expireActs demoState))
    (List.replicate (applyAll demoState (expireActs demoState)).pend.length Act.flush)).panic = none := by
  decide
example : (applyAll demoState (expireActs demoState)).pend.length = 1 := by decide

end BbRe.Lemmas.NfsExpiry
