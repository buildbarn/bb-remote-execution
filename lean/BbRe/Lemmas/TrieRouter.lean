/-
`DemultiplexingActionRouter` (Model/Trie.lean `Router`): the invariant `RInv` tying the router's
trie and backend list to the registrations made so far (it reuses `TrieIndex.Inv` on the
`PQIndex` built from them), its preservation by `register`, and `route_of_glp`: a request goes
to the backend registered under the longest matching instance-name prefix, else to the default.
-/
import BbRe.Lemmas.TrieIndex
import BbRe.Lemmas.TrieKey
namespace BbRe.Lemmas.TrieRouter
open BbRe.Model.Trie BbRe.Lemmas.TrieTop BbRe.Lemmas.TrieIndex
open BbRe.Spec.PrefixMap (Comp Plat Key)

/-- `regs` = the successful registrations (key, router id) in order. -/
structure RInv (r : Router) (dflt : Nat) (regs : List (Key × Nat)) : Prop where
  entries : r.entries = dflt :: regs.map Prod.snd
  inv : Inv ⟨regs.map Prod.fst, r.trie⟩

theorem rinv_new (dflt : Nat) : RInv (Router.new dflt) dflt [] :=
  ⟨rfl, inv_empty⟩

/-- one `RegisterActionRouter` call on the list of successful registrations. -/
def regStep (regs : List (Key × Nat)) (c : List Comp × List (Nat × Nat) × Nat) : List (Key × Nat) :=
  match newKey c.1 c.2.1 with
  | none => regs
  | some key => if key ∈ regs.map Prod.fst then regs else regs ++ [(key, c.2.2)]

/-- the status `RegisterActionRouter` must return. -/
def regStatus (regs : List (Key × Nat)) (c : List Comp × List (Nat × Nat) × Nat) : Status :=
  match newKey c.1 c.2.1 with
  | none => .invalidArgument
  | some key => if key ∈ regs.map Prod.fst then .alreadyExists else .ok

theorem rinv_register {r : Router} {dflt : Nat} {regs : List (Key × Nat)} (h : RInv r dflt regs)
    (c : List Comp × List (Nat × Nat) × Nat) :
    RInv (r.register c.1 c.2.1 c.2.2).1 dflt (regStep regs c) ∧
      (r.register c.1 c.2.1 c.2.2).2 = regStatus regs c := by
  unfold Router.register regStep regStatus
  cases newKey c.1 c.2.1 with
  | none => exact ⟨h, rfl⟩
  | some key =>
    have hmem : key ∈ regs.map Prod.fst ↔ r.trie.containsExact key = true :=
      (h.inv.mem_iff key).trans (containsExact_iff h.inv.wf key).symm
    by_cases hc : r.trie.containsExact key = true
    · simp only [if_pos hc, if_pos (hmem.2 hc)]; exact ⟨h, trivial⟩
    · have hnm : key ∉ regs.map Prod.fst := fun hh => hc (hmem.1 hh)
      simp only [if_neg hc, if_neg hnm]
      refine ⟨⟨by rw [h.entries, List.map_append]; rfl, ?_⟩, trivial⟩
      -- `len(entries) - 1` is the number of registrations so far
      have hlen : (r.entries.length : Int) - 1 = ((regs.map Prod.fst).length : Int) := by
        rw [h.entries, List.length_cons, List.length_map, List.length_map, Int.natCast_succ,
          Int.add_sub_cancel]
      rw [hlen, List.map_append]
      exact inv_add h.inv key (Int.not_le.1 fun hh => hnm ((h.inv.mem_iff key).2 hh))

def runRegs (r : Router) (calls : List (List Comp × List (Nat × Nat) × Nat)) : Router :=
  calls.foldl (fun r c => (r.register c.1 c.2.1 c.2.2).1) r

def regsOf (regs : List (Key × Nat)) (calls : List (List Comp × List (Nat × Nat) × Nat)) :
    List (Key × Nat) := calls.foldl regStep regs

theorem rinv_run {r : Router} {dflt : Nat} {regs : List (Key × Nat)} (h : RInv r dflt regs)
    (calls : List (List Comp × List (Nat × Nat) × Nat)) :
    RInv (runRegs r calls) dflt (regsOf regs calls) := by
  induction calls generalizing r regs with
  | nil => exact h
  | cons c cs ih => exact ih (rinv_register h c).1

/-- `RouteAction` once the trie's answer `j − 1` and `entries[j]` are known. -/
theorem route_of_glp {r : Router} {inst : List Comp} {props : List (Nat × Nat)} {key : Key}
    (hk : newKey inst props = some key) {j id : Nat}
    (hj : r.trie.getLongestPrefix key + 1 = (j : Int)) (hid : r.entries[j]? = some id) :
    r.route inst props = .to id inst := by
  unfold Router.route
  simp only [hk, hj, Int.toNat_natCast, hid]
  exact if_neg (Int.not_lt.2 (Int.natCast_nonneg j))

theorem mem_regs_keys {regs : List (Key × Nat)} {P : Key → Prop} (h : ∀ e, e ∈ regs → P e.1) :
    ∀ q, q ∈ regs.map Prod.fst → P q := fun q hq => by
  obtain ⟨e, he, rfl⟩ := List.mem_map.1 hq; exact h e he

end BbRe.Lemmas.TrieRouter
