import BbRe.Model.ISC
import BbRe.Lemmas.ISCFaster
/-!
Helper lemmas for C07 (b): `Outcomes.IsFaster` is antisymmetric,
`x.IsFaster(y) + y.IsFaster(x) = 1`, for sorted success lists (as `NewOutcomes` produces).
The merge loop is shown to compute the Mann-Whitney pair score.
-/
namespace BbRe.Lemmas.ISC
open BbRe.ISC

/-- Points for one pair: 2 if `a` is faster, 1 on a tie, 0 otherwise. -/
def pw (a b : Int) : Int := if a < b then 2 else if a = b then 1 else 0

def rowScore (a : Int) : List Int → Int
  | [] => 0
  | b :: B => pw a b + rowScore a B

def colScore : List Int → Int → Int
  | [], _ => 0
  | a :: A, b => pw a b + colScore A b

def pairScore : List Int → List Int → Int
  | [], _ => 0
  | a :: A, B => rowScore a B + pairScore A B

theorem pw_lt {a b : Int} (h : a < b) : pw a b = 2 := if_pos h

theorem pw_gt {a b : Int} (h : b < a) : pw a b = 0 := by
  rw [pw, if_neg (Int.lt_asymm h), if_neg (Int.ne_of_gt h)]

theorem pw_self (a : Int) : pw a a = 1 := by
  rw [pw, if_neg (Int.lt_irrefl a), if_pos rfl]

theorem pw_sym (a b : Int) : pw a b + pw b a = 2 := by
  rcases Int.lt_trichotomy a b with h | rfl | h
  · rw [pw_lt h, pw_gt h]; rfl
  · rw [pw_self]; rfl
  · rw [pw_gt h, pw_lt h]; rfl

theorem rowScore_all_gt (a : Int) (B : List Int) (h : ∀ b ∈ B, a < b) : rowScore a B = 2 * (B.length : Int) := by
  induction B with
  | nil => rfl
  | cons b B ih =>
    rw [List.forall_mem_cons] at h
    rw [rowScore, pw_lt h.1, ih h.2, List.length_cons, Int.natCast_add, Int.mul_add, Int.add_comm]
    rfl

theorem colScore_all_gt (A : List Int) (b : Int) (h : ∀ a ∈ A, b < a) : colScore A b = 0 := by
  induction A with
  | nil => rfl
  | cons a A ih =>
    rw [List.forall_mem_cons] at h
    rw [colScore, pw_gt h.1, ih h.2]
    rfl

theorem pairScore_nil_right (A : List Int) : pairScore A [] = 0 := by
  induction A with
  | nil => rfl
  | cons a A ih => rw [pairScore, ih]; rfl

theorem pairScore_cons_right (A : List Int) (b : Int) (B : List Int) :
    pairScore A (b :: B) = colScore A b + pairScore A B := by
  induction A with
  | nil => rfl
  | cons a A ih => simp only [pairScore, rowScore, colScore, ih]; omega

theorem row_col (a : Int) (B : List Int) : rowScore a B + colScore B a = 2 * (B.length : Int) := by
  induction B with
  | nil => rfl
  | cons b B ih =>
    have := pw_sym a b
    simp only [rowScore, colScore, List.length_cons, Int.natCast_add, Int.mul_add]
    omega

/-- Every pair is worth two points in total. -/
theorem pairScore_sym (A B : List Int) : pairScore A B + pairScore B A = 2 * ((A.length : Int) * (B.length : Int)) := by
  induction A with
  | nil => rw [pairScore_nil_right, List.length_nil, Int.natCast_zero, Int.zero_mul]; rfl
  | cons a A ih =>
    have := row_col a B
    rw [pairScore_cons_right, pairScore, List.length_cons, Int.natCast_add, Int.add_mul]
    omega

/-! ## Sorted lists and `takeEq` -/

def Sorted (l : List Int) : Prop := l.Pairwise (· ≤ ·)

theorem rowScore_replicate_append (c : Int) (k : Nat) (R : List Int) :
    rowScore c (List.replicate k c ++ R) = (k : Int) + rowScore c R := by
  induction k with
  | zero => exact (Int.zero_add _).symm
  | succ k ih =>
    rw [List.replicate_succ, List.cons_append, rowScore, ih, pw_self, Int.natCast_add]
    omega

theorem rowScore_gt_replicate_append (a c : Int) (h : c < a) (k : Nat) (R : List Int) :
    rowScore a (List.replicate k c ++ R) = rowScore a R := by
  induction k with
  | zero => rfl
  | succ k ih => rw [List.replicate_succ, List.cons_append, rowScore, ih, pw_gt h, Int.zero_add]

theorem pairScore_replicate_append (c : Int) (k : Nat) (R B : List Int) :
    pairScore (List.replicate k c ++ R) B = (k : Int) * rowScore c B + pairScore R B := by
  induction k with
  | zero => rw [Int.natCast_zero, Int.zero_mul, Int.zero_add]; rfl
  | succ k ih =>
    rw [List.replicate_succ, List.cons_append, pairScore, ih, Int.natCast_add, Int.add_mul]
    omega

theorem pairScore_gt_replicate_append (R : List Int) (c : Int) (h : ∀ a ∈ R, c < a) (k : Nat) (B : List Int) :
    pairScore R (List.replicate k c ++ B) = pairScore R B := by
  induction R with
  | nil => rfl
  | cons a R ih =>
    rw [List.forall_mem_cons] at h
    rw [pairScore, pairScore, rowScore_gt_replicate_append a c h.1, ih h.2]

/-- On a sorted list starting with (elements ≥) `c`, `takeEq c` splits off exactly the run of `c`s. -/
theorem takeEq_sorted (c : Int) (xs : List Int) (hs : Sorted xs) (hge : ∀ x ∈ xs, c ≤ x) :
    xs = List.replicate (takeEq c xs).1 c ++ (takeEq c xs).2 ∧
    (∀ x ∈ (takeEq c xs).2, c < x) ∧ Sorted (takeEq c xs).2 := by
  induction xs with
  | nil => exact ⟨rfl, fun _ h => (nomatch h), List.Pairwise.nil⟩
  | cons x xs ih =>
    obtain ⟨hx, hs'⟩ := List.pairwise_cons.mp hs
    rw [List.forall_mem_cons] at hge
    unfold takeEq
    split
    · rename_i heq
      subst heq
      have := ih hs' hge.2
      exact ⟨congrArg (x :: ·) this.1, this.2.1, this.2.2⟩
    · rename_i hne
      refine ⟨rfl, List.forall_mem_cons.mpr ⟨by omega, fun y hy => ?_⟩, hs⟩
      have := hx y hy
      omega

/-! ## The merge loop computes the pair score -/

/-- `d` is what `remB` counts beyond the successes of `B` still to be merged (its failures); it
stays the same throughout the loop. -/
theorem mergeScore_spec (A B : List Int) (score remB d : Int) (hA : Sorted A) (hB : Sorted B)
    (hd : remB = (B.length : Int) + d) :
    mergeScore A B score remB = score + pairScore A B + (A.length : Int) * (2 * d) := by
  fun_induction mergeScore A B score remB with
  | case1 B score remB => simp [pairScore]
  | case2 score remB a A' =>
    have hd' : remB = d := by rw [hd, List.length_nil]; omega
    rw [pairScore_nil_right, Int.mul_comm 2, Int.mul_assoc, hd']
    omega
  | case3 score remB a A' b B' hlt ih =>
    have hall : ∀ x ∈ b :: B', a < x :=
      List.forall_mem_cons.mpr ⟨hlt, fun x hx => Int.lt_of_lt_of_le hlt ((List.pairwise_cons.mp hB).1 x hx)⟩
    rw [ih (List.pairwise_cons.mp hA).2 hB hd, pairScore, rowScore_all_gt a (b :: B') hall,
      List.length_cons (a := a), Int.natCast_add, Int.add_mul]
    omega
  | case4 score remB a A' b B' hlt hgt ih =>
    have hall : ∀ x ∈ a :: A', b < x :=
      List.forall_mem_cons.mpr ⟨hgt, fun x hx => Int.lt_of_lt_of_le hgt ((List.pairwise_cons.mp hA).1 x hx)⟩
    rw [List.length_cons] at hd
    rw [ih hA (List.pairwise_cons.mp hB).2 (by omega), pairScore_cons_right, colScore_all_gt (a :: A') b hall]
    omega
  | case5 score remB a A' b B' hlt hgt ea eb ih =>
    have hab : b = a := by omega
    subst hab
    obtain ⟨hA1, hA'⟩ := List.pairwise_cons.mp hA
    obtain ⟨hB1, hB'⟩ := List.pairwise_cons.mp hB
    have tA := takeEq_sorted b A' hA' hA1
    have tB := takeEq_sorted b B' hB' hB1
    -- rewrite A and B as runs of `b` followed by strictly larger elements
    have eA : b :: A' = List.replicate ((takeEq b A').1 + 1) b ++ (takeEq b A').2 :=
      congrArg (b :: ·) tA.1
    have eB : b :: B' = List.replicate ((takeEq b B').1 + 1) b ++ (takeEq b B').2 :=
      congrArg (b :: ·) tB.1
    have hps : pairScore (b :: A') (b :: B') =
        ea * (eb + 2 * ((takeEq b B').2.length : Int)) + pairScore (takeEq b A').2 (takeEq b B').2 := by
      rw [eA, pairScore_replicate_append, eB, rowScore_replicate_append,
        rowScore_all_gt b _ tB.2.1, pairScore_gt_replicate_append _ b tA.2.1]
      rfl
    have hlin : ((b :: A').length : Int) = ea + ((takeEq b A').2.length : Int) ∧
        remB - eb = ((takeEq b B').2.length : Int) + d ∧
        2 * remB - eb = eb + 2 * ((takeEq b B').2.length : Int) + 2 * d := by
      have cA := takeEq_count b A'
      have cB := takeEq_count b B'
      simp only [List.length_cons] at hd ⊢
      omega
    rw [ih tA.2.2 tB.2.2 hlin.2.1, hps, hlin.1, hlin.2.2, Int.mul_add, Int.add_mul ea]
    omega

theorem mem_insertSorted (x : Int) (l : List Int) (z : Int) (h : z ∈ insertSorted x l) : z = x ∨ z ∈ l := by
  induction l with
  | nil => exact .inl (List.mem_singleton.mp h)
  | cons w ws ih =>
    unfold insertSorted at h
    split at h
    · exact List.mem_cons.mp h
    · rcases List.mem_cons.mp h with h | h
      · exact .inr (h ▸ List.mem_cons_self)
      · exact (ih h).imp_right (List.mem_cons_of_mem w)

theorem insertSorted_sorted (x : Int) (l : List Int) (h : Sorted l) : Sorted (insertSorted x l) := by
  induction l with
  | nil => exact List.pairwise_singleton _ _
  | cons y ys ih =>
    obtain ⟨hy, hys⟩ := List.pairwise_cons.mp h
    unfold insertSorted
    split
    · rename_i hle
      exact List.pairwise_cons.mpr
        ⟨List.forall_mem_cons.mpr ⟨hle, fun z hz => Int.le_trans hle (hy z hz)⟩, h⟩
    · rename_i hgt
      refine List.pairwise_cons.mpr ⟨fun z hz => ?_, ih hys⟩
      rcases mem_insertSorted x ys z hz with rfl | hz
      · omega
      · exact hy z hz

theorem sortInts_sorted (l : List Int) : Sorted (sortInts l) := by
  induction l with
  | nil => exact List.Pairwise.nil
  | cons x xs ih => exact insertSorted_sorted x _ ih

theorem isFasterScore_sym (a b : Outcomes) (ha : Sorted a.successes) (hb : Sorted b.successes) :
    isFasterScore a b + isFasterScore b a = isFasterDenom a b := by
  unfold isFasterScore isFasterDenom
  rw [mergeScore_spec _ _ _ b.count b.failures ha hb rfl, mergeScore_spec _ _ _ a.count a.failures hb ha rfl]
  have := pairScore_sym a.successes b.successes
  unfold Outcomes.count
  -- the two pair scores add up to `2·|A|·|B|` (`this`); the failure terms are the same products on both sides
  grind

theorem isFasterDenom_comm (a b : Outcomes) : isFasterDenom b a = isFasterDenom a b := by
  -- commutativity of the sums and products the denominator is made of
  unfold isFasterDenom; grind

theorem isFaster_sym (a b : Outcomes) (ha : Sorted a.successes) (hb : Sorted b.successes) :
    isFaster a b + isFaster b a = 1 := by
  unfold isFaster
  rw [isFasterDenom_comm a b]
  have hne : (isFasterDenom a b : Rat) ≠ 0 :=
    Rat.ne_of_gt (Rat.intCast_pos.mpr (isFasterDenom_pos a b))
  have hs : (isFasterScore a b : Rat) + (isFasterScore b a : Rat) = (isFasterDenom a b : Rat) := by
    exact_mod_cast isFasterScore_sym a b ha hb
  rw [Rat.div_def, Rat.div_def, ← Rat.add_mul, hs]
  exact Rat.mul_inv_cancel _ hne

end BbRe.Lemmas.ISC
