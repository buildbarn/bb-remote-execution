import BbRe.Lemmas.FilePoolState2
/-!
History-level refinement: the per-file byte-array specification run side by
side with the model.  `absFiles` maps a pool state to the list of its files as
byte arrays (`none` = closed); `SpecStep` says what one operation may do to
that list and which output it may produce, given the environment's oracle;
`spec_step` shows every model step is such a specification step.
-/
namespace BbRe.Lemmas.FilePool
open BbRe.FilePool BbRe.ByteFile

abbrev SpecState := List (Option ByteFile)

/-- the pool as a list of byte arrays, indexed by file id. -/
def absFiles (st : State) : SpecState :=
  st.files.map fun f => if f.closed then none else some (absFile st.cfg.ss st.dev f)

/-- same entry (absent / closed / extensionally equal byte arrays). -/
def OEqv : Option (Option ByteFile) → Option (Option ByteFile) → Prop
  | none, none => True
  | some none, some none => True
  | some (some a), some (some b) => Eqv a b
  | _, _ => False

theorem OEqv.refl : ∀ a, OEqv a a
  | none => trivial
  | some none => trivial
  | some (some _) => ⟨rfl, fun _ => rfl⟩

/-- same number of files, and every entry except possibly `i` is the same byte array. -/
def SameExcept (i : Option Nat) (s s' : SpecState) : Prop :=
  s'.length = s.length ∧ ∀ j, i ≠ some j → OEqv s[j]? s'[j]?

/-- outputs of the region seeks of a sparse byte array whose holes read as zero: `D` is the
data map (at whatever granularity the implementation keeps it). -/
def SeekOk (b : ByteFile) (D : Nat → Prop) (off : Nat) (data : Bool) (r : Except Err Nat) : Prop :=
  (∀ k, ¬ D k → b.data k = 0) ∧
  (data = true →
    (∃ j, r = .ok j ∧ off ≤ j ∧ D j ∧ ∀ k, off ≤ k → k < j → ¬ D k) ∨ (r = .error .eof ∧ ∀ k, off ≤ k → ¬ D k)) ∧
  (data = false →
    ∃ j, r = .ok j ∧ off ≤ j ∧ j ≤ b.size ∧ (∀ k, off ≤ k → k < j → D k) ∧ (j < b.size → ¬ D j))

/-- One step of the byte-array specification, for the environment `o`: which output `out` and
which next state `s'` are allowed from `s`. -/
def SpecStep (s : SpecState) (op : Op) (o : Oracle) (out : Out) (s' : SpecState) : Prop :=
  match op with
  | .new hole size =>
    out = .created s.length ∧ s'.length = s.length + 1 ∧ (∀ j, j < s.length → OEqv s[j]? s'[j]?) ∧
      OEqv s'[s.length]? (some (some (create hole.read size)))
  | .read i off n =>
    SameExcept none s s' ∧
    match s[i]? with
    | some (some b) =>
      if off < 0 then out = .read [] (some .invalid)
      else ∃ bs err, out = .read bs err ∧ bs <+: (ByteFile.read b off.toNat n).1 ∧ err ≠ some .panic ∧
        (o.faults.dr = none → o.faults.hr = none →
          bs = (ByteFile.read b off.toNat n).1 ∧
            err = if (ByteFile.read b off.toNat n).2 then some .eof else none)
    | _ => out = .noFile
  | .write i off p =>
    match s[i]? with
    | some (some b) =>
      if off < 0 then out = .wrote 0 (some .invalid) ∧ SameExcept none s s'
      else ∃ n err, out = .wrote n err ∧ n ≤ p.length ∧ (err = none → n = p.length) ∧ err ≠ some .panic ∧
        SameExcept (some i) s s' ∧ OEqv s'[i]? (some (some (ByteFile.write b off.toNat (p.take n))))
    | _ => out = .noFile ∧ SameExcept none s s'
  | .trunc i size =>
    match s[i]? with
    | some (some b) =>
      if size < 0 then out = .done (some .invalid) ∧ SameExcept none s s'
      else ∃ err, out = .done err ∧ SameExcept (some i) s s' ∧
        (err = none → OEqv s'[i]? (some (some (ByteFile.truncate b size.toNat)))) ∧
        (err ≠ none → ∃ b', s'[i]? = some (some b') ∧ b'.size = b.size ∧
          (∀ k, k < size.toNat → b'.data k = b.data k) ∧ WF b')
    | _ => out = .noFile ∧ SameExcept none s s'
  | .seek i off data =>
    SameExcept none s s' ∧
    match s[i]? with
    | some (some b) =>
      if off < 0 then out = .offset (.error .invalid)
      else if b.size ≤ off.toNat then out = .offset (.error .eof)
      else ∃ r, out = .offset r ∧ (o.faults.hs = none → ∃ D, SeekOk b D off.toNat data r)
    | _ => out = .noFile
  | .len i =>
    SameExcept none s s' ∧
    match s[i]? with
    | some (some b) => out = .len b.size
    | _ => out = .noFile
  | .close i =>
    match s[i]? with
    | some (some _) => (∃ err, out = .done err) ∧ SameExcept (some i) s s' ∧ s'[i]? = some none
    | _ => out = .noFile ∧ SameExcept none s s'

/-- a step whose output was replaced by the harness-protocol marker "more allocator answers
supplied than consumed" is still a specification step (with the output it would have had). -/
def SpecStepL (s : SpecState) (op : Op) (o : Oracle) (out : Out) (s' : SpecState) : Prop :=
  SpecStep s op o out s' ∨ (out = .leftover ∧ ∃ out', SpecStep s op o out' s')

/-- a run of the specification producing the outputs `outs`. -/
inductive SpecRun : SpecState → List (Op × Oracle) → List Out → SpecState → Prop
  | nil (s : SpecState) : SpecRun s [] [] s
  | cons {s s1 s2 : SpecState} {op : Op} {o : Oracle} {out : Out} {rest : List (Op × Oracle)} {outs : List Out} :
      SpecStepL s op o out s1 → SpecRun s1 rest outs s2 → SpecRun s ((op, o) :: rest) (out :: outs) s2

/-- the outputs of the model along a history. -/
def outputs : State → List (Op × Oracle) → List Out
  | _, [] => []
  | st, (op, o) :: rest => (step st op o).2 :: outputs (step st op o).1 rest

/-! ## basic facts -/

theorem absFiles_get (st : State) (j : Nat) :
    (absFiles st)[j]? = (st.files[j]?).map fun f => if f.closed then none else some (absFile st.cfg.ss st.dev f) := by
  unfold absFiles; rw [List.getElem?_map]

theorem absFiles_length (st : State) : (absFiles st).length = st.files.length := by
  unfold absFiles; rw [List.length_map]

theorem absFiles_open {st : State} {i : Nat} {f : File} (hf : st.file? i = some f) :
    (absFiles st)[i]? = some (some (absFile st.cfg.ss st.dev f)) := by
  have := file?_some hf
  rw [absFiles_get, this.1]; simp [this.2]

theorem absFiles_notopen {st : State} {i : Nat} (hf : st.file? i = none) :
    (absFiles st)[i]? = none ∨ (absFiles st)[i]? = some none := by
  rw [absFiles_get]
  unfold State.file? at hf
  cases hg : st.files[i]? with
  | none => left; rfl
  | some g =>
    rw [hg] at hf
    dsimp only at hf
    split at hf
    · rename_i hc; right; simp [hc]
    · simp at hf

theorem specStepL_of {s s' : SpecState} {op : Op} {o : Oracle} {out0 out : Out}
    (h : SpecStep s op o out0 s') (hout : out = out0 ∨ out = .leftover) : SpecStepL s op o out s' := by
  rcases hout with rfl | rfl
  · exact Or.inl h
  · exact Or.inr ⟨rfl, out0, h⟩

/-- an operation on an open file is a specification step if what `fileOp` returns is one. -/
theorem specStepL_open {st : State} {op : Op} {i : Nat} {f : File} (hop : opTarget op = some i)
    (hf : st.file? i = some f) (o : Oracle)
    (h : SpecStep (absFiles st) op o (fileOp st.cfg f (st.env o) op).2.2
      (absFiles { st.put (fileOp st.cfg f (st.env o) op).2.1 with
        files := st.files.set i (fileOp st.cfg f (st.env o) op).1 })) :
    SpecStepL (absFiles st) op o (step st op o).2 (absFiles (step st op o).1) := by
  rw [step_open hop hf]
  exact specStepL_of (by rw [finish_fst]; exact h) (finish_snd _ _ _)

/-- entries of files other than the target are the same byte arrays after a step. -/
theorem absFiles_others {st : State} (h : Inv st) (op : Op) (o : Oracle) (j : Nat) (hj : opTarget op ≠ some j)
    (hjl : j < st.files.length) : OEqv (absFiles st)[j]? (absFiles (step st op o).1)[j]? := by
  obtain ⟨g, hg⟩ : ∃ g, st.files[j]? = some g := ⟨st.files[j], List.getElem?_eq_getElem hjl⟩
  obtain ⟨h1, h2⟩ := step_others h op o j g hj hg
  rw [absFiles_get, absFiles_get, hg, h1, step_cfg]
  dsimp only [Option.map_some]
  split
  · trivial
  · exact ⟨rfl, fun x => (h2 x).symm⟩

theorem step_length_ne_new (st : State) (op : Op) (o : Oracle) (hop : ∀ h s, op ≠ .new h s) :
    (step st op o).1.files.length = st.files.length :=
  step_elim st op o (fun s => s.files.length = st.files.length) (fun h s e => absurd e (hop h s)) rfl
    (fun _ _ _ _ => List.length_set)

theorem sameExcept_target {st : State} (h : Inv st) (op : Op) (o : Oracle) (hop : ∀ h s, op ≠ .new h s) :
    SameExcept (opTarget op) (absFiles st) (absFiles (step st op o).1) := by
  refine ⟨by rw [absFiles_length, absFiles_length, step_length_ne_new st op o hop], fun j hj => ?_⟩
  by_cases hjl : j < st.files.length
  · exact absFiles_others h op o j hj hjl
  · have h1 : (absFiles st)[j]? = none := by
      rw [List.getElem?_eq_none]; rw [absFiles_length]; omega
    have h2 : (absFiles (step st op o).1)[j]? = none := by
      rw [List.getElem?_eq_none]; rw [absFiles_length, step_length_ne_new st op o hop]; omega
    rw [h1, h2]; trivial

/-- a step that changes neither the files nor the device leaves every byte array as it is. -/
theorem sameExcept_none_of_eq {st st' : State} (hf : st'.files = st.files) (hd : st'.dev = st.dev)
    (hc : st'.cfg = st.cfg) : SameExcept none (absFiles st) (absFiles st') := by
  have : absFiles st' = absFiles st := by unfold absFiles; rw [hf, hd, hc]
  rw [this]
  exact ⟨rfl, fun j _ => OEqv.refl _⟩

theorem not_dataAt_zero (c : Cfg) (dev : Array FilePool.Byte) (f : File) (k : Nat) (h : ¬ dataAt c f k) :
    content c.ss dev f k = 0 := by
  unfold dataAt at h
  have h1 : f.sectors.getD (k / c.ss) 0 = 0 := by
    rcases Nat.eq_zero_or_pos (f.sectors.getD (k / c.ss) 0) with h0 | h0
    · exact h0
    · exact absurd (Or.inl (by omega)) h
  rw [content_hole_of_zero _ _ _ _ h1]
  unfold Hole.read
  rw [if_neg]
  intro hd; exact h (Or.inr hd)

/-- effect of a failed `Truncate` (device failure while zeroing, or failing hole-source
`Truncate`): the size and everything below the requested size are unchanged. -/
theorem truncate_fail_effect {O : Nat → Prop} {c : Cfg} {f : File} {e : Env} (sz : Nat) (hss : 0 < c.ss)
    (hP : Part c.nsec O e.allocd (nz f.sectors))
    (hres : (truncate c f e (sz : Int)).2.2 ≠ none) :
    (truncate c f e (sz : Int)).1.size = f.size ∧
      ∀ i, i < sz → content c.ss (truncate c f e (sz : Int)).2.1.dev (truncate c f e (sz : Int)).1 i =
        content c.ss e.dev f i := by
  obtain ⟨m, hm, hmz, hcz, _, _⟩ := truncZr_content (O := O) (c := c) (f := f) (e := e) sz hss hP
  obtain ⟨e1, e2, e3⟩ := truncateSectors_env f (truncZr c f e sz).1 (truncK c sz)
  have hbelow : ∀ i, i < sz → content c.ss (truncZr c f e sz).1.dev f i = content c.ss e.dev f i := by
    intro i hi; rw [hcz i, if_neg (by omega)]
  cases hz : (truncZr c f e sz).2 with
  | some n => rw [truncate_some hz]; exact ⟨rfl, hbelow⟩
  | none =>
    by_cases hlt : sz < f.size
    · by_cases hht : (truncFe c f e sz).2.faults.ht = true
      · rw [truncate_shrink_fault hz hlt hht]
        dsimp only
        refine ⟨e3, fun i hi => ?_⟩
        have : (truncFe c f e sz).1 =
            { sectors := (truncateSectors f (truncZr c f e sz).1 (truncK c sz)).1.sectors, size := f.size,
              hole := f.hole, closed := (truncFe c f e sz).1.closed } := by
          rw [← e2, ← e3]
        rw [this, e1, trunc_keep_content]
        have a3 := (trunc_arith c.ss sz i hss).2.2.1 hi
        have hk : truncK ⟨c.ss, 0⟩ sz = truncK c sz := rfl
        rw [hk] at a3
        rw [if_pos a3]
        split
        · rename_i h0; rw [← hbelow i hi, content_hole_of_zero _ _ _ _ h0]
        · exact hbelow i hi
      · rw [truncate_shrink_ok hz hlt hht] at hres; simp at hres
    · rw [truncate_grow hz hlt] at hres; simp at hres

/-! ## every model step is a specification step -/

theorem sameExcept_refl (i : Option Nat) (s : SpecState) : SameExcept i s s :=
  ⟨rfl, fun _ _ => OEqv.refl _⟩

theorem sameExcept_none_of {i : Nat} {s s' : SpecState} (hT : SameExcept (some i) s s')
    (hi : OEqv s[i]? s'[i]?) : SameExcept none s s' := by
  refine ⟨hT.1, fun j _ => ?_⟩
  by_cases hji : j = i
  · subst hji; exact hi
  · exact hT.2 j (fun e => hji (Option.some.inj e).symm)

/-- the entry of the open file `i` after it has been replaced by `f'` (still open). -/
theorem absFiles_set {st : State} {i : Nat} {f f' : File} (hf : st.file? i = some f) (e : Env)
    (hc : f'.closed = f.closed) :
    (absFiles { st.put e with files := st.files.set i f' })[i]? = some (some (absFile st.cfg.ss e.dev f')) :=
  absFiles_open (file?_set hf e hc)

theorem spec_step_noFile {st : State} {op : Op} {i : Nat} (hop : opTarget op = some i) (hf : st.file? i = none)
    (o : Oracle) : SpecStepL (absFiles st) op o (step st op o).2 (absFiles (step st op o).1) := by
  have hs := absFiles_notopen hf
  rw [step_notOpen hop hf]
  left
  cases op with
  | new _ _ => cases hop
  | read j _ _ | seek j _ _ | len j =>
    cases hop; unfold SpecStep; dsimp only
    refine ⟨sameExcept_refl _ _, ?_⟩
    rcases hs with h | h <;> rw [h]
  | write j _ _ | trunc j _ | close j =>
    cases hop; unfold SpecStep; dsimp only
    rcases hs with h | h <;> rw [h] <;> exact ⟨rfl, sameExcept_refl _ _⟩

/-- ... so for an operation aimed at file `i` only the case that `i` is open is left. -/
theorem spec_step_target {st : State} {op : Op} {i : Nat} (hop : opTarget op = some i) (o : Oracle)
    (h : ∀ f, st.file? i = some f → SpecStepL (absFiles st) op o (step st op o).2 (absFiles (step st op o).1)) :
    SpecStepL (absFiles st) op o (step st op o).2 (absFiles (step st op o).1) :=
  match hf : st.file? i with
  | none => spec_step_noFile hop hf o
  | some f => h f hf

theorem spec_step_read {st : State} (h : Inv st) {i : Nat} {f : File} (hf : st.file? i = some f) (off : Int)
    (n : Nat) (o : Oracle) :
    SpecStepL (absFiles st) (.read i off n) o (step st (.read i off n) o).2
      (absFiles (step st (.read i off n) o).1) := by
  refine specStepL_open rfl hf o ?_
  unfold SpecStep
  dsimp only [fileOp]
  rw [absFiles_open hf]
  dsimp only
  refine ⟨sameExcept_none_of_eq (set_self (file?_some hf).1) (readAt_dev _ _ _ _ _) rfl, ?_⟩
  by_cases hneg : off < 0
  · rw [if_pos hneg]; unfold readAt; rw [if_pos hneg]
  · rw [if_neg hneg]
    obtain ⟨ofs, rfl⟩ : ∃ ofs : Nat, off = (ofs : Int) := ⟨off.toNat, by omega⟩
    rw [Int.toNat_natCast]
    obtain ⟨p1, p2⟩ := readAt_prefix (c := st.cfg) (f := f) (e := st.env o) ofs n h.ssPos
    refine ⟨_, _, rfl, p1, p2, fun hdr hhr => ?_⟩
    obtain ⟨r1, r2, _⟩ := readAt_refines (c := st.cfg) (f := f) (e := st.env o) ofs n h.ssPos hdr hhr
    exact ⟨r1, r2⟩

theorem spec_step_write {st : State} (h : Inv st) {i : Nat} {f : File} (hf : st.file? i = some f) (off : Int)
    (p : List FilePool.Byte) (o : Oracle) :
    SpecStepL (absFiles st) (.write i off p) o (step st (.write i off p) o).2
      (absFiles (step st (.write i off p) o).1) := by
  have hfi := file?_some hf
  have hP := inv_part h hfi.1
  have hT := sameExcept_target h (.write i off p) o (by intro _ _ hc; cases hc)
  have hcl := (writeAt_part (O := Oth st i) (c := st.cfg) (f := f) (e := st.env o) p off h.ssPos hP
    h.noDoubleFree).2.2.1
  rw [step_open rfl hf, finish_fst] at hT
  refine specStepL_open rfl hf o ?_
  have hnew := absFiles_set hf (writeAt st.cfg f (st.env o) p off).2.1 hcl
  unfold SpecStep
  dsimp only [fileOp] at hT ⊢
  rw [absFiles_open hf]
  dsimp only
  by_cases hneg : off < 0
  · rw [if_pos hneg]
    rw [writeAt_neg p off hneg] at hT hnew ⊢
    refine ⟨rfl, sameExcept_none_of hT ?_⟩
    rw [absFiles_open hf, hnew]
    exact ⟨rfl, fun _ => rfl⟩
  · rw [if_neg hneg]
    obtain ⟨ofs, rfl⟩ : ∃ ofs : Nat, off = (ofs : Int) := ⟨off.toNat, by omega⟩
    rw [Int.toNat_natCast]
    obtain ⟨_, hl, _, hnone, hpanic, _⟩ := writeAt_content (O := Oth st i) (f := f) (e := st.env o) p ofs h.ssPos hP
      h.noDoubleFree
    have href := writeAt_refines (O := Oth st i) (f := f) (e := st.env o) p ofs h.ssPos hP h.noDoubleFree
    refine ⟨_, _, rfl, hl, hnone, hpanic, hT, ?_⟩
    rw [hnew]
    exact href

theorem spec_step_trunc {st : State} (h2 : Inv2 st) {i : Nat} {f : File} (hf : st.file? i = some f) (size : Int)
    (o : Oracle) :
    SpecStepL (absFiles st) (.trunc i size) o (step st (.trunc i size) o).2
      (absFiles (step st (.trunc i size) o).1) := by
  have h := h2.inv
  have hfi := file?_some hf
  have hP := inv_part h hfi.1
  have hok := h2.files i f hfi.1
  have hT := sameExcept_target h (.trunc i size) o (by intro _ _ hc; cases hc)
  have hcl := (truncate_part (c := st.cfg) (f := f) (e := st.env o) size hP h.noDoubleFree).2.2
  rw [step_open rfl hf, finish_fst] at hT
  refine specStepL_open rfl hf o ?_
  have hnew := absFiles_set hf (truncate st.cfg f (st.env o) size).2.1 hcl
  unfold SpecStep
  dsimp only [fileOp] at hT ⊢
  rw [absFiles_open hf]
  dsimp only
  by_cases hneg : size < 0
  · rw [if_pos hneg]
    rw [truncate_neg _ _ _ _ hneg] at hT hnew ⊢
    refine ⟨rfl, sameExcept_none_of hT ?_⟩
    rw [absFiles_open hf, hnew]
    exact ⟨rfl, fun _ => rfl⟩
  · rw [if_neg hneg]
    obtain ⟨sz, rfl⟩ : ∃ sz : Nat, size = (sz : Int) := ⟨size.toNat, by omega⟩
    rw [Int.toNat_natCast]
    refine ⟨_, rfl, hT, fun hnone => ?_, fun hsome => ?_⟩
    · rw [hnew]
      exact truncate_refines (O := Oth st i) (f := f) (e := st.env o) sz h.ssPos hP hok hnone
    · obtain ⟨t1, t2⟩ := truncate_fail_effect (O := Oth st i) (c := st.cfg) (f := f) (e := st.env o) sz h.ssPos hP hsome
      have hwf := truncate_fileOK (O := Oth st i) (c := st.cfg) (f := f) (e := st.env o) (sz : Int) h.ssPos hP hok
      exact ⟨_, hnew, t1, t2, absFile_wf hwf⟩

theorem spec_step_seek {st : State} (h2 : Inv2 st) {i : Nat} {f : File} (hf : st.file? i = some f)
    (off : Int) (data : Bool) (o : Oracle) :
    SpecStepL (absFiles st) (.seek i off data) o (step st (.seek i off data) o).2
      (absFiles (step st (.seek i off data) o).1) := by
  have hfi := file?_some hf
  refine specStepL_open rfl hf o ?_
  unfold SpecStep
  dsimp only [fileOp]
  rw [absFiles_open hf]
  dsimp only
  refine ⟨sameExcept_none_of_eq (set_self hfi.1) (seek_dev _ _ _ _ _) rfl, ?_⟩
  by_cases hneg : off < 0
  · rw [if_pos hneg]; unfold seek; rw [if_pos hneg]
  · rw [if_neg hneg]
    obtain ⟨ofs, rfl⟩ : ∃ ofs : Nat, off = (ofs : Int) := ⟨off.toNat, by omega⟩
    rw [Int.toNat_natCast]
    have hsz : (absFile st.cfg.ss st.dev f).size = f.size := rfl
    rw [hsz]
    by_cases hge : f.size ≤ ofs
    · rw [if_pos hge]; unfold seek; rw [if_neg hneg, Int.toNat_natCast, if_pos hge]
    · rw [if_neg hge]
      refine ⟨_, rfl, fun hs => ⟨dataAt st.cfg f, ?_⟩⟩
      have hok := h2.files i f hfi.1
      obtain ⟨_, s2, s3⟩ := seek_spec (c := st.cfg) (f := f) (e := st.env o) ofs data h2.inv.ssPos hs
        (h2.noTrail i f hfi.1) hok.1 (by omega)
      exact ⟨fun k hk => not_dataAt_zero st.cfg st.dev f k hk, s2, s3⟩

theorem spec_step_len {st : State} {i : Nat} {f : File} (hf : st.file? i = some f) (o : Oracle) :
    SpecStepL (absFiles st) (.len i) o (step st (.len i) o).2 (absFiles (step st (.len i) o).1) := by
  refine specStepL_open rfl hf o ?_
  unfold SpecStep
  dsimp only [fileOp]
  rw [absFiles_open hf]
  exact ⟨sameExcept_none_of_eq (set_self (file?_some hf).1) rfl rfl, rfl⟩

theorem spec_step_close {st : State} (h : Inv st) {i : Nat} {f : File} (hf : st.file? i = some f) (o : Oracle) :
    SpecStepL (absFiles st) (.close i) o (step st (.close i) o).2 (absFiles (step st (.close i) o).1) := by
  have hfi := file?_some hf
  have hP := inv_part h hfi.1
  have hT := sameExcept_target h (.close i) o (by intro _ _ hc; cases hc)
  have hcl := close_part (f := f) (e := st.env o) hP h.noDoubleFree
  rw [step_open rfl hf, finish_fst] at hT
  refine specStepL_open rfl hf o ?_
  unfold SpecStep
  dsimp only [fileOp] at hT ⊢
  rw [absFiles_open hf]
  dsimp only
  refine ⟨⟨_, rfl⟩, hT, ?_⟩
  rw [absFiles_get]
  dsimp only
  have hlen : i < st.files.length := (List.getElem?_eq_some_iff.mp hfi.1).1
  simp only [List.getElem?_set, hlen, ↓reduceIte, Option.map_some]
  rw [hcl.2.2.2.1]; rfl

theorem spec_step_new {st : State} (h : Inv st) (hole : Hole) (size : Nat) (hwf : hole.limit ≤ size) (o : Oracle) :
    SpecStepL (absFiles st) (.new hole size) o (step st (.new hole size) o).2
      (absFiles (step st (.new hole size) o).1) := by
  have hoth : ∀ j, j < st.files.length →
      OEqv (absFiles st)[j]? (absFiles (step st (.new hole size) o).1)[j]? :=
    fun j hj => absFiles_others h (.new hole size) o j (by simp [opTarget]) hj
  rw [step_new] at hoth ⊢
  refine specStepL_of ?_ (finish_snd _ _ _)
  rw [finish_fst] at hoth ⊢
  unfold SpecStep
  dsimp only
  refine ⟨by rw [absFiles_length], by rw [absFiles_length, absFiles_length]; simp, fun j hj => ?_, ?_⟩
  · exact hoth j (by rw [absFiles_length] at hj; exact hj)
  · rw [absFiles_length, absFiles_get]
    dsimp only
    rw [List.getElem?_append_right (Nat.le_refl _)]
    simp only [Nat.sub_self, List.getElem?_cons_zero, Option.map_some, Bool.false_eq_true, ↓reduceIte]
    exact absFile_new _ _ hole size hwf

/-- **Every model step is a specification step.** -/
theorem spec_step {st : State} (h2 : Inv2 st) (op : Op) (o : Oracle) (hwf : WFOp op) :
    SpecStepL (absFiles st) op o (step st op o).2 (absFiles (step st op o).1) := by
  cases op with
  | new hole size => exact spec_step_new h2.inv hole size hwf o
  | read i off n => exact spec_step_target rfl o fun _ hf => spec_step_read h2.inv hf off n o
  | write i off p => exact spec_step_target rfl o fun _ hf => spec_step_write h2.inv hf off p o
  | trunc i size => exact spec_step_target rfl o fun _ hf => spec_step_trunc h2 hf size o
  | seek i off data => exact spec_step_target rfl o fun _ hf => spec_step_seek h2 hf off data o
  | len i => exact spec_step_target rfl o fun _ hf => spec_step_len hf o
  | close i => exact spec_step_target rfl o fun _ hf => spec_step_close h2.inv hf o

/-- **History-level refinement.** -/
theorem spec_run {st : State} (h2 : Inv2 st) (ops : List (Op × Oracle)) (hwf : ∀ x ∈ ops, WFOp x.1) :
    SpecRun (absFiles st) ops (outputs st ops) (absFiles (run st ops)) := by
  induction ops generalizing st with
  | nil => exact SpecRun.nil _
  | cons x xs ih =>
    obtain ⟨op, o⟩ := x
    have hw := hwf (op, o) List.mem_cons_self
    exact SpecRun.cons (spec_step h2 op o hw)
      (ih (inv2_step h2 op o hw) (fun y hy => hwf y (List.mem_cons_of_mem _ hy)))

end BbRe.Lemmas.FilePool
