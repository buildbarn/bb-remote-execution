import BbRe.Lemmas.SchedLiveQuiesce6
/-!
Progress (C02 `eventually_done`): if the worker executing a task stops
synchronizing, the worker timeout fails the task and the waiting stream's
stage-change wake-up delivers `done`.
-/
namespace BbRe.Lemmas.SchedLive
open BbRe.Sched

/-! ### `enter` arms no worker entries -/

/-- every entry after was there before, or is an operation / queue entry -/
def CSub (s s' : State) : Prop :=
  ∀ e ∈ s'.cleanup, e ∈ s.cleanup ∨ (∃ o, e.kind = .op o) ∨ (∃ q, e.kind = .scq q)

theorem CSub.refl (s : State) : CSub s s := fun _ h => .inl h
theorem CSub.trans {a b c : State} (h1 : CSub a b) (h2 : CSub b c) : CSub a c := by
  intro e he
  rcases h2 e he with h | h
  · exact h1 e h
  · exact .inr h
theorem CSub.of_eq {s s' : State} (h : s'.cleanup = s.cleanup) : CSub s s' := fun _ he => .inl (h ▸ he)

theorem maybeStartCleanup_csub (s : State) (o : Nat) : CSub s (maybeStartCleanup s o) := by
  unfold maybeStartCleanup
  (repeat' split)
  · intro e he
    simp only [addCleanup_cleanup, List.mem_cons] at he
    rcases he with rfl | he
    · exact .inr (.inl ⟨o, rfl⟩)
    · exact .inl he
  · exact CSub.refl _
  · exact CSub.refl _

theorem finishOps_csub (l : List Nat) (s : State) : CSub s (complete.finishOps s l) := by
  induction l generalizing s with
  | nil => exact CSub.refl _
  | cons o r ih =>
    rw [finishOps_cons]
    refine CSub.trans ?_ (ih _)
    unfold finishOp
    (repeat' split)
    · exact (CSub.of_eq (s := s) rfl).trans (maybeStartCleanup_csub _ o)
    · exact CSub.refl _
    · exact CSub.refl _

theorem IPrim.csub {a b : State} (p : IPrim CleanupMade False a b) : CSub a b := by
  cases p with
  | now | eraseOp | learner => exact CSub.of_eq rfl
  | dropOpT | dropScq => exact CSub.of_eq (by simp)
  | pop hp =>
    obtain ⟨_, _, _, rfl⟩ := popDue_some hp
    exact fun y hy => .inl (List.mem_filter.1 hy).1
  | dropWorker _ q =>
    unfold SchedLive.dropWorker
    (repeat' split)
    · intro x hx
      simp only [addCleanup_cleanup, List.mem_cons] at hx
      rcases hx with rfl | hx
      · exact .inr (.inr ⟨q, rfl⟩)
      · exact .inl hx
    · exact CSub.of_eq rfl
    · exact CSub.of_eq rfl
  | @final _ _ _ t ev r =>
    have : CSub a ((dropDedup (emit (detachW a t) ev) { detachT t with learner := none }).setTask
        (bumpGen { detachT t with learner := none, response := some r })) := CSub.of_eq (by simp)
    exact this.trans (finishOps_csub _ _)
  | bg _ _ _ hp hs => exact absurd hs hp.2
  | retry hb => exact hb.elim

theorem enter_csub {h : Hints} {s s' : State} {t : Nat} (hh : enter h s t = .ok s') : CSub s s' :=
  (enter_path hh).rel CSub CSub.refl CSub.trans IPrim.csub

/-! ### `enter` leaves uncompleted tasks with their worker -/

/-- every uncompleted task after was uncompleted before, on the same worker -/
def UW (s s' : State) : Prop :=
  ∀ k t', s'.task? k = some t' → t'.response = none →
    ∃ t, s.task? k = some t ∧ t.response = none ∧ t'.worker = t.worker

/-- `UW` for key-disciplined states -/
def UWStep (s s' : State) : Prop := KeysOK s → KeysOK s' ∧ UW s s'

theorem UWStep.refl (s : State) : UWStep s s := fun hk => ⟨hk, fun _ t' h hr => ⟨t', h, hr, rfl⟩⟩
theorem UWStep.trans {a b c : State} (h1 : UWStep a b) (h2 : UWStep b c) : UWStep a c := by
  intro hk
  obtain ⟨kb, r1⟩ := h1 hk
  obtain ⟨kc, r2⟩ := h2 kb
  refine ⟨kc, ?_⟩
  intro k t' h hr
  obtain ⟨tb, hb, rb, wb⟩ := r2 k t' h hr
  obtain ⟨ta, ha, ra, wa⟩ := r1 k tb hb rb
  exact ⟨ta, ha, ra, wb.trans wa⟩

theorem UWStep.same {s s' : State} (h1 : s'.tasks = s.tasks := by simp) (h2 : s'.ops = s.ops := by simp)
    (h3 : s'.nextTask = s.nextTask := by simp) (h4 : s'.nextOp = s.nextOp := by simp) : UWStep s s' := fun hk =>
  ⟨(TStep.of_same (allow := True) h1 h2 h3 h4 hk).1, fun k t' h hr => ⟨t', by simpa [State.task?, h1] using h, hr, rfl⟩⟩

theorem IPrim.uw {a b : State} (p : IPrim CleanupMade False a b) : UWStep a b := by
  cases p with
  | now | pop | dropWorker | dropScq | learner => exact UWStep.same
  | eraseOp => exact fun hk => ⟨(eraseOp_tstep True a _ hk).1, fun k t' h hr => ⟨t', h, hr, rfl⟩⟩
  | @dropOpT _ _ t1 o h2 =>
    intro hk1
    refine ⟨(dropOpT_tstep True o h2 hk1).1, ?_⟩
    have hid := (hk1.tid _ _ h2).1
    unfold SchedLive.dropOpT
    split
    · intro k t' h hr
      simp only [State.task?, alookup_aerase _ _ _ hk1.tnodup] at h
      split at h
      · cases h
      · exact ⟨t', h, hr, rfl⟩
    · intro k' t' h hr
      simp only [State.task?, setTask_tasks, alookup_aset] at h
      split at h
      · rename_i hkk; injection h with h; subst h
        exact ⟨t1, by rw [← hkk, hid]; exact h2, hr, rfl⟩
      · exact ⟨t', h, hr, rfl⟩
  | @final _ tid _ _ ev r h0 hn =>
    intro hk
    refine ⟨(succS_tstep True ev r h0 hn hk).1, ?_⟩
    obtain ⟨t1, e1, e2, _, eoth⟩ := succS_final hk h0 ev r
    intro k t' hk' hr'
    by_cases hkk : k = tid
    · subst hkk; rw [e1] at hk'; injection hk' with e; subst e; rw [e2] at hr'; cases hr'
    · rw [eoth k hkk] at hk'; exact ⟨t', hk', hr', rfl⟩
  | bg _ _ _ hp hs => exact absurd hs hp.2
  | retry hb => exact hb.elim

theorem enter_uw {h : Hints} {s s' : State} {t : Nat} (hh : enter h s t = .ok s') : UWStep s s' :=
  (enter_path hh).rel UWStep UWStep.refl UWStep.trans IPrim.uw

/-! ### a completed task wakes its parked streams -/

theorem completed_wakes {s : State} (hs : Reachable s) (h : Hints) {c : Nat} {st : Stream}
    (hst : s.streams.find? (fun x => x.client = c) = some st)
    (hdone : ∀ op t, s.op? st.op = some op → s.task? op.task = some t → t.response.isSome = true) :
    ∃ s' op t r, s.op? st.op = some op ∧ s.task? op.task = some t ∧ t.response = some r ∧
      streamWake h s s.now c 0 = .ok s' ∧
      s'.events = .ret c cOK :: .msg c st.op 4 true r.code r.tok :: s.events := by
  have hmem := List.mem_of_find?_eq_some hst
  obtain ⟨op, t, hop, hw, ht⟩ := stream_op_exists hs hmem
  have hsome := hdone op t hop ht
  cases hr : t.response with
  | none => rw [hr] at hsome; cases hsome
  | some r =>
    have hlt := ((wakeInv_reachable hs st hmem).2 op t hop ht).2 (by simp [hr])
    have hne : t.gen ≠ st.snap := by omega
    have hw' : ¬ op.waiters = 0 := by omega
    refine ⟨sendDone s c st.op op t r, op, t, r, hop, ht, hr, ?_, by simp [stage_of_resp hr]⟩
    rw [streamWake_changed h s c st op t hst hop ht hne]
    unfold streamSend
    simp only [hop, ht, hr, hw', bind, Except.bind, pure, Except.pure, if_false]
    rfl

/-! ### the worker timeout completes the task -/

/-- If the worker that executes task `tid` is outside `Synchronize`, then once the clock has passed the
deadline of its cleanup entry the task is completed (by the worker timeout, or earlier by something else). -/
theorem worker_timeout_completes {s s1 : State} (hs : Reachable s) {h : Hints} {T : Nat} (hT : s.now < T)
    (hent : enter h s T = .ok s1) {q : ScqId} {w : WId} {wk : Worker} {e : CleanupEntry}
    (hwk : s.worker? q w = some wk) (hout : wk.inSync = false) (he : e ∈ s.cleanup) (hek : e.kind = .worker q w)
    (hd : e.deadline ≤ T) {tid : Nat} {t : Task} (ht : s.task? tid = some t) (htw : t.worker = some (q, w)) :
    ∀ t', s1.task? tid = some t' → t'.response.isSome = true := by
  intro t' ht'
  cases hr : t'.response with
  | some r => rfl
  | none =>
    exfalso
    have hs1 : Reachable s1 := Reachable.step (.touch h T) hs hent
    have hk := keysOK_reachable hs
    obtain ⟨_, huw⟩ := enter_uw hent hk
    obtain ⟨t0, e0, _, ew⟩ := huw tid t' ht' hr
    rw [ht] at e0; injection e0 with e0; subst e0
    -- the worker is still there, still outside `Synchronize`
    have hI1 := BbRe.Lemmas.SchedInv.inv_reachable hs1
    obtain ⟨wk1, hf1, _⟩ := hI1.core.p2 tid t' q w ht' (ew.trans htw)
    have hwk1 : s1.worker? q w = some wk1 := hf1
    obtain ⟨hm1, hq1, hw1⟩ := worker?_mem hwk1
    obtain ⟨x, hx, ekey, ein⟩ := enter_wsub hent wk1 hm1
    have hxeq : x = wk := by
      refine eq_of_wkey (winv_reachable hs).uniq hx (worker?_mem hwk).1 ?_
      obtain ⟨_, a, b⟩ := worker?_mem hwk
      rw [ekey]; simp [wkey, hq1, hw1, a, b]
    subst hxeq
    have hout1 : wk1.inSync = false := by rw [← ein]; exact hout
    -- hence it has an armed entry, which is the old one, which is due: impossible after `enter`
    obtain ⟨e1, he1, hk1⟩ := (cinv_reachable hs1).wOut wk1 hm1 hout1 (by simp [noEx])
    rw [hq1, hw1] at hk1
    have hold : e1 ∈ s.cleanup := by
      rcases enter_csub hent e1 he1 with h' | ⟨o, h'⟩ | ⟨q', h'⟩
      · exact h'
      · rw [hk1] at h'; cases h'
      · rw [hk1] at h'; cases h'
    have hsame : e1 = e := eq_of_nodup_map (cinv_reachable hs).uniq hold he (hk1.trans hek.symm)
    obtain ⟨_, hex⟩ := enter_exhaustive (kwc_reachable hs) hT hent
    have := hex e1 he1
    rw [hsame] at this; omega

/-- **eventually_done (executing task, worker gone silent).**  A client parked on an operation of a task
that is executing on a worker which is outside `Synchronize` and never synchronizes again: advancing the
clock to any `T` at or beyond the worker's cleanup deadline and delivering the client's stage-change
wake-up — two segments — sends the client its `done` message. -/
theorem eventually_done_exec {s : State} (hs : Reachable s) (h : Hints) {c : Nat} {st : Stream}
    (hst : s.streams.find? (fun x => x.client = c) = some st) {op : Op} {t : Task}
    (hop : s.op? st.op = some op) (ht : s.task? op.task = some t) {q : ScqId} {w : WId} {wk : Worker}
    (htw : t.worker = some (q, w)) (hwk : s.worker? q w = some wk) (hout : wk.inSync = false) :
    ∃ e ∈ s.cleanup, e.kind = .worker q w ∧ ∀ T, s.now < T → e.deadline ≤ T →
      ∃ (r : Resp) (s1 : State), run s [.touch h T] = s1 ∧ s1.events.filter (isMsgOf c) = s.events.filter (isMsgOf c) ∧
        (run s [.touch h T, .streamWake h T c 0]).events =
          .ret c cOK :: .msg c st.op 4 true r.code r.tok :: s1.events := by
  obtain ⟨hm, hq, hw'⟩ := worker?_mem hwk
  obtain ⟨e, he, hek⟩ := (cinv_reachable hs).wOut wk hm hout (by simp [noEx])
  rw [hq, hw'] at hek
  refine ⟨e, he, hek, ?_⟩
  intro T hT hd
  obtain ⟨s1, hstep, hrun⟩ := touch_ok hs h T
  have hent : enter h s T = .ok s1 := hstep
  have hs1 : Reachable s1 := Reachable.step (.touch h T) hs hstep
  have hdone := worker_timeout_completes hs hT hent hwk hout he hek hd ht htw
  -- the stream is still parked, on the same operation, whose task is the same
  have hst1 : s1.streams.find? (fun x => x.client = c) = some st := by rw [(enter_frame hent).streams]; exact hst
  have hnow : s1.now = T := (enter_exhaustive (kwc_reachable hs) hT hent).1
  obtain ⟨hk1, rel⟩ := enter_tstep (allow := True) hent (keysOK_reachable hs)
  obtain ⟨s2, op1, t1, r, hop1, ht1, hr1, hwake, hev⟩ := completed_wakes hs1 h hst1 (by
    intro op1 t1 hop1 ht1
    have hlt := ((keysOK_reachable hs).oname _ _ hop).2.1
    obtain ⟨op0, e0, etask⟩ := rel.ops _ op1 hlt hop1
    rw [hop] at e0; injection e0 with e0; subst e0
    rw [etask] at ht1
    exact hdone t1 ht1)
  refine ⟨r, s1, hrun, ?_, ?_⟩
  · obtain ⟨new, en, pn⟩ := (enter_frame hent).events
    rw [en, List.filter_append, filter_msg_nonclient c new pn]; rfl
  · rw [run_cons, hrun]
    rw [run_single]
    have : step s1 (.streamWake h T c 0) = .ok s2 := by rw [← hnow]; exact hwake
    rw [this]; exact hev

/-- **eventually_done (hand-off pending).**  The task was handed to a worker blocked in `Synchronize`
whose wake-up has not been delivered yet: delivering it (the worker receives `execute` and leaves
`Synchronize`), and then — the worker staying silent — advancing the clock beyond its new cleanup deadline
and delivering the client's wake-up sends `done`: three segments. -/
theorem eventually_done_handoff {s : State} (hs : Reachable s) (h : Hints) {c : Nat} {st : Stream}
    (hst : s.streams.find? (fun x => x.client = c) = some st) {op : Op} {t : Task}
    (hop : s.op? st.op = some op) (ht : s.task? op.task = some t) {q : ScqId} {w : WId} {wk : Worker}
    (htw : t.worker = some (q, w)) (hwk : s.worker? q w = some wk) (hwo : wk.woken = true) :
    ∃ s0, run s [.syncWake h s.now q w 0] = s0 ∧ Reachable s0 ∧ s0.now = s.now ∧
      ∃ e ∈ s0.cleanup, e.kind = .worker q w ∧ ∀ T, s.now < T → e.deadline ≤ T →
        ∃ (r : Resp) (s1 : State), run s0 [.touch h T] = s1 ∧
          (run s [.syncWake h s.now q w 0, .touch h T, .streamWake h T c 0]).events =
            .ret c cOK :: .msg c st.op 4 true r.code r.tok :: s1.events := by
  obtain ⟨hm, hq, hw'⟩ := worker?_mem hwk
  subst hq; subst hw'
  have hok := (winv_reachable hs).ok wk hm
  obtain ⟨hin, _, _⟩ := hok.woken hwo
  -- the worker holds exactly this task
  have hI := BbRe.Lemmas.SchedInv.inv_reachable hs
  obtain ⟨wk', hf', htk'⟩ := hI.core.p2 _ t wk.scq wk.id ht htw
  have : s.worker? wk.scq wk.id = some wk' := hf'
  rw [hwk] at this; injection this with this; subst this
  have hsome : wk.task.isSome = true := by rw [htk']; rfl
  have hexec : execResponse (s.setWorker { wk with woken := false }) wk =
      .ok (emit (s.setWorker { wk with woken := false }) (.syncExecute wk.scq wk.id t.digest (s.now + s.cfg.busyInterval))) := by
    unfold execResponse
    simp only [htk', pure, Except.pure]
    split
    · rename_i t2 heq
      have h2 : some t2 = some t := heq.symm.trans ht
      injection h2 with h2; subst h2; rfl
    · rename_i hne
      exact absurd ht (hne t)
  have hstep : step s (.syncWake h s.now wk.scq wk.id 0) =
      .ok (syncReturn (emit (s.setWorker { wk with woken := false })
        (.syncExecute wk.scq wk.id t.digest (s.now + s.cfg.busyInterval))) wk.scq wk.id) := by
    show syncWake h s s.now wk.scq wk.id 0 = _
    rw [syncWake_woken h s wk.scq wk.id wk hwk hin hwo, if_pos hsome, hexec]; rfl
  let s0 : State := syncReturn (emit (s.setWorker { wk with woken := false })
    (.syncExecute wk.scq wk.id t.digest (s.now + s.cfg.busyInterval))) wk.scq wk.id
  have hrun0 : run s [.syncWake h s.now wk.scq wk.id 0] = s0 := by rw [run_single, hstep]
  have hs0 : Reachable s0 := Reachable.step _ hs hstep
  -- shape of `s0`
  have hA : (emit (s.setWorker { wk with woken := false })
      (.syncExecute wk.scq wk.id t.digest (s.now + s.cfg.busyInterval))).worker? wk.scq wk.id = some { wk with woken := false } := by
    show (s.setWorker { wk with woken := false }).worker? wk.scq wk.id = _
    rw [worker?_setWorker, if_pos ⟨rfl, rfl⟩, hwk]; rfl
  have hs0eq : s0 = ((emit (s.setWorker { wk with woken := false })
      (.syncExecute wk.scq wk.id t.digest (s.now + s.cfg.busyInterval))).setWorker
        { wk with woken := false, inSync := false, parked := false, drainWait := none, timer := none }).addCleanup
        (s.now + s.cfg.workerTimeout) (.worker wk.scq wk.id) := by
    show syncReturn _ wk.scq wk.id = _
    unfold syncReturn; rw [hA]; rfl
  have hwk0 : s0.worker? wk.scq wk.id = some { wk with woken := false, inSync := false, parked := false, drainWait := none, timer := none } := by
    rw [hs0eq]
    show ((emit (s.setWorker { wk with woken := false }) _).setWorker _).worker? wk.scq wk.id = _
    rw [worker?_setWorker, if_pos ⟨rfl, rfl⟩, hA]; rfl
  have hst0 : s0.streams.find? (fun x => x.client = c) = some st := by rw [hs0eq]; simpa using hst
  have hop0 : s0.op? st.op = some op := by rw [hs0eq]; simpa [State.op?] using hop
  have ht0 : s0.task? op.task = some t := by rw [hs0eq]; simpa [State.task?] using ht
  have hnow0 : s0.now = s.now := by rw [hs0eq]; simp
  refine ⟨s0, hrun0, hs0, hnow0, ?_⟩
  obtain ⟨e, he, hek, hall⟩ := eventually_done_exec hs0 h hst0 hop0 ht0 htw hwk0 rfl
  refine ⟨e, he, hek, ?_⟩
  intro T hT hd
  obtain ⟨r, s1, hr1, _, hev⟩ := hall T (by rw [hnow0]; exact hT) hd
  refine ⟨r, s1, hr1, ?_⟩
  rw [run_cons, hrun0]; exact hev

end BbRe.Lemmas.SchedLive
