import BbRe.Model.Idle
import BbRe.Model.BuildDirs
import BbRe.Lemmas.Idle
import BbRe.Lemmas.IdleDirs
/-!
Invariant of the coupled system `BbRe.Worker` (namespace in `Model/BuildDirs.lean`: invoker + build directories):
both components stay reachable in their own transition systems and every
directory thread between `begin` and `release` is a user of the invoker.
-/
namespace BbRe.Lemmas.IdleWorker
open BbRe
open BbRe.Lemmas.Idle BbRe.Lemmas.IdleDirs

structure WInv (s : Worker.State) : Prop where
  idle : Idle.Reachable s.idle
  dirs : BuildDirs.Reachable s.dirs
  coupled : ∀ t, BuildDirs.DPC.user (s.dirs.pc t) = true → s.idle.pc t = .inUse

/-- While a cleaner call runs no directory thread is a user, so emptying the
root is an enabled `clean` step of `Model/BuildDirs.lean`. -/
theorem no_dir_users_while_cleaning {s : Worker.State} (h : WInv s) (t : Nat)
    (ht : (s.idle.pc t).cleaning = true) :
    (∀ x, BuildDirs.DPC.user (s.dirs.pc x) = false) ∧ s.dirs.active = 0 := by
  have nodir : ∀ x, BuildDirs.DPC.user (s.dirs.pc x) = false := fun x =>
    Bool.eq_false_iff.2 fun hu => ((inv_reachable h.idle).exclusive ht).1 x (h.coupled x hu)
  exact ⟨nodir, (dinv_reachable h.dirs).users.eq_zero fun x => Bool.eq_false_iff.1 (nodir x)⟩

theorem winv_init : WInv Worker.init :=
  ⟨.init, .init, fun _ h => nomatch h⟩

theorem winv_step {s s' : Worker.State} (h : WInv s) (hs : Worker.Step s s') : WInv s' := by
  have inv := inv_reachable h.idle
  cases hs with
  | idle op i' hstep hrel hnc =>
    refine ⟨.step op h.idle hstep, h.dirs, fun x hx => ?_⟩
    rcases step_keeps_inUse inv hstep (h.coupled x hx) with e | e
    · rw [hrel x e] at hx; cases hx
    · exact e
  | «begin» t d d' hin hstep =>
    refine ⟨h.idle, .step _ h.dirs hstep, fun x hx => ?_⟩
    rcases dstep_user hstep x with e | ⟨_, e⟩ | e
    · exact h.coupled x (e ▸ hx)
    · cases e; exact hin
    · cases e
  | dir op d' hp hstep =>
    refine ⟨h.idle, .step _ h.dirs hstep, fun x hx => ?_⟩
    rcases dstep_user hstep x with e | ⟨_, e⟩ | e
    · exact h.coupled x (e ▸ hx)
    · subst e; cases hp
    · subst e; cases hp
  | release t i' d' hi hd =>
    refine ⟨.step _ h.idle hi, .step _ h.dirs hd, fun x hx => ?_⟩
    cases dstep_cases hd with
    | move hm => cases hm
    | release _ g r =>
      change BuildDirs.DPC.user (if x = t then .releasing g r else s.dirs.pc x) = true at hx
      split at hx
      · cases hx
      · rename_i e
        exact (step_keeps_inUse inv hi (h.coupled x hx)).resolve_left fun e' => by cases e'; exact e rfl
  | cleanDone t ok i' hi =>
    have hact := (no_dir_users_while_cleaning h t (step_cleanDone_facts inv hi).1).2
    refine ⟨.step _ h.idle hi, .step _ h.dirs (dstep_clean hact ok), fun x hx => ?_⟩
    have hx' : BuildDirs.DPC.user (s.dirs.pc x) = true := by cases ok <;> exact hx
    exact (step_keeps_inUse inv hi (h.coupled x hx')).resolve_left nofun

theorem winv_reachable {s : Worker.State} (h : Worker.Reachable s) : WInv s := by
  induction h with
  | init => exact winv_init
  | step _ hs ih => exact winv_step ih hs

end BbRe.Lemmas.IdleWorker
