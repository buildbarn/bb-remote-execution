import BbRe.Lemmas.NaiveDirReach
/-!
Completeness of the eager merge: without faults, on a store whose Directory messages below
the root are present, well-formed, acyclic (rank below the fuel) and whose file blobs are
present, the walk ends clean — fuel never runs out and `MergeDirectoryContents` returns OK.
-/
namespace BbRe.Lemmas.NaiveDir
open BbRe.InputRoot BbRe.NaiveDir BbRe.Lemmas.InputRoot

theorem loop_complete {α : Type} (step : α → Children → Bool → StepR) (nameOf : α → Name)
    (mk : α → Option Node) :
    ∀ (es : List α) (ch : Children),
      (∀ e ∈ es, ∀ ch0, hasName ch0 (nameOf e) = false →
        ∃ v, mk e = some v ∧ step e ch0 false = .next (ch0 ++ [(nameOf e, v)]) false) →
      GoodList nameOf mk es ch →
      loop step es ch false = ⟨ch ++ conv nameOf mk es, false, none⟩ := by
  intro es
  induction es with
  | nil => intro ch _ _; simp [loop, conv]
  | cons e rest ih =>
    intro ch H ⟨h1, h2, h3⟩
    obtain ⟨v, hv, hs⟩ := H e List.mem_cons_self ch (h3 e List.mem_cons_self)
    simp only [loop, hs]
    rw [ih _ (fun e' he' => H e' (List.mem_cons_of_mem _ he'))
      ((goodList_cons hv rest ch).1 ⟨h1, h2, h3⟩).2.2, conv_cons_some hv, List.append_assoc]
    rfl

/-- A well-formed message passes the three loop conditions of the eager walk. -/
theorem goodLists_of_wellFormed (hl : Nat) (m : DirMsg) (mkD : DirNode → Option Node)
    (hD : ∀ e ∈ m.dirs, (mkD e).isSome = true) (hw : WellFormed hl m) :
    GoodList FileNode.name (mkFile hl) m.files [] ∧
    GoodList DirNode.name mkD m.dirs (conv FileNode.name (mkFile hl) m.files) ∧
    GoodList SymNode.name mkSym m.syms
      (conv FileNode.name (mkFile hl) m.files ++ conv DirNode.name mkD m.dirs) := by
  obtain ⟨⟨hd, hf, hs⟩, hn⟩ := (wellFormed_iff hl m).1 hw
  exact (goodLists_iff ..).2 ⟨⟨hf, fun e he => ⟨(hd e he).1, hD e he⟩, hs⟩,
    (List.perm_append_comm.append_right _).nodup_iff.1 hn⟩

/-- What the store has to offer below `d` for a merge to succeed: every Directory reachable is
present and well-formed, and the blob of every file it lists is present. -/
def Complete (c : CAS) (d : Dig) : Prop :=
  ∀ d', Reach c d d' → ∃ m, assoc c.dirs d' = some (some m) ∧ WellFormed c.hashLen m ∧
    ∀ e ∈ m.files, ∀ fd, parseDigest c.hashLen e.digest = some fd → (assoc c.blobs fd).isSome = true

theorem clean_of_complete (c : CAS) (O : Oracle) (hcas : O.cas = []) (hfs : O.fs = [])
    (rank : Dig → Nat) (hr : Acyclic c rank) :
    ∀ (f : Nat) (d : Dig) (p : Path), rank d < f → Complete c d →
      ∃ ch, mergeDirIn c O f d p [] false = ⟨ch, false, none⟩ := by
  intro f
  induction f with
  | zero => intro d p h; omega
  | succ f ih =>
    intro d p hrank hcomp
    obtain ⟨m, hm, hw, hblobs⟩ := hcomp d (.refl d)
    have hw' := hw
    obtain ⟨hvalid, _, hdirs, hfiles, hsyms⟩ := hw'
    -- sub-directories end clean
    have hsub : ∀ e ∈ m.dirs, (mkDirN c O f p e).isSome = true := by
      intro e he
      obtain ⟨d1, hp⟩ := Option.isSome_iff_exists.1 (hdirs e he)
      have hlt : rank d1 < f := by have := hr d m hm e he d1 hp; omega
      obtain ⟨chE, hE⟩ := ih d1 (p ++ [e.name]) hlt
        (fun d' hr' => hcomp d' (.step hm he hp hr'))
      rw [mkDirN_of_clean hp hE]
      rfl
    obtain ⟨g1, g2, g3⟩ := goodLists_of_wellFormed c.hashLen m (mkDirN c O f p) hsub hw
    have hget : getDirectory c O.cas d = .ok m := by simp [getDirectory, hcas, hm]
    have l1 := loop_complete (fileStep c O p) FileNode.name (mkFile c.hashLen) m.files [] (by
      intro e he ch0 hfresh
      obtain ⟨fd, hp⟩ := Option.isSome_iff_exists.1 (hfiles e he)
      obtain ⟨b, hb⟩ := Option.isSome_iff_exists.1 (hblobs e he fd hp)
      have hv : validName e.name = true := g1.1 e he |>.1
      refine ⟨.file fd e.exec none, by simp [mkFile, hp], ?_⟩
      simp [fileStep, getFile, Oracle.fails, hcas, hfs, hv, hp, hfresh, hb]) g1
    have l2 := loop_complete (dirStep c O (fun d' q b => mergeDirIn c O f d' q [] b) p) DirNode.name
      (mkDirN c O f p) m.dirs (conv FileNode.name (mkFile c.hashLen) m.files) (by
      intro e he ch0 hfresh
      obtain ⟨d1, hp⟩ := Option.isSome_iff_exists.1 (hdirs e he)
      have hv : validName e.name = true := g2.1 e he |>.1
      obtain ⟨chd, hcl, hmk⟩ := clean_of_mkDirN hp (hsub e he)
      refine ⟨_, hmk, ?_⟩
      simp [dirStep, Oracle.fails, hfs, hv, hp, hasName_eq_false.1 hfresh, hcl]) g2
    have l3 := loop_complete (symStep O p) SymNode.name mkSym m.syms _ (by
      intro e he ch0 hfresh
      have hv : validName e.name = true := g3.1 e he |>.1
      have ht := hsyms e he
      refine ⟨.sym e.target, by simp [mkSym, ht], ?_⟩
      simp [symStep, Oracle.fails, hfs, hv, ht, hasName_eq_false.1 hfresh]) g3
    refine ⟨naiveChildren c O f p m, ?_⟩
    simp only [List.nil_append] at l1
    simp only [mergeDirIn, hget, l1, l2, l3, naiveChildren]

end BbRe.Lemmas.NaiveDir
