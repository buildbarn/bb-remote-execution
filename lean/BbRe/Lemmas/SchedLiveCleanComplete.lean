import BbRe.Lemmas.SchedLiveClean
/-!
Cleanup accounting through `schedule`, `finishOps` and `complete`.
-/
namespace BbRe.Lemmas.SchedLive
open BbRe.Sched

/-- replacing a worker by a record with the same identity and `inSync` flag -/
theorem setWorker_proj {s : State} {w' : Worker} (hn : (s.workers.map wkey).Nodup) {wk : Worker} (hm : wk ∈ s.workers)
    (hk : wkey wk = wkey w') (hi : wk.inSync = w'.inSync) :
    (s.setWorker w').workers.map (fun w => (w.scq, w.id, w.inSync)) = s.workers.map (fun w => (w.scq, w.id, w.inSync)) := by
  rw [setWorker_workers, List.map_map]
  apply List.map_congr_left
  intro x hx
  simp only [Function.comp]
  split
  · rename_i hkx
    have : x = wk := eq_of_wkey hn hx hm (hkx.trans hk.symm)
    subst this
    simp only [wkey, Prod.mk.injEq] at hk
    simp [hk.1, hk.2, hi]
  · rfl

theorem CFrame.of_same {s s' : State} (h1 : s'.cleanup = s.cleanup) (h2 : s'.workers = s.workers)
    (h3 : s'.scqs = s.scqs) (h4 : s'.ops = s.ops) (h5 : s'.tasks = s.tasks) : CFrame s s' :=
  ⟨h1, by rw [h2], fun q => by simp [State.scq?, h3], h4, fun k => by simp [State.task?, h5]⟩

/-- transport to a state with the same cleanup queue, workers, queues, operations and tasks; the equalities are
found by `simp` from the projection lemmas of the state-building functions -/
theorem CInv.same {x : Ex} {s s' : State} (hc : CInv x s) (h1 : s'.cleanup = s.cleanup := by simp)
    (h2 : s'.workers = s.workers := by simp) (h3 : s'.scqs = s.scqs := by simp) (h4 : s'.ops = s.ops := by simp)
    (h5 : s'.tasks = s.tasks := by simp) : CInv x s' :=
  hc.frame (CFrame.of_same h1 h2 h3 h4 h5)

/-- one task rewritten keeping `response.isSome` and `ops` -/
theorem CFrame.of_task {s s' : State} {k0 : Nat} {t0 t2 : Task} (h0 : s.task? k0 = some t0)
    (hr : t2.response.isSome = t0.response.isSome) (ho : t2.ops = t0.ops)
    (h1 : s'.cleanup = s.cleanup) (h2 : s'.workers = s.workers) (h3 : s'.scqs = s.scqs) (h4 : s'.ops = s.ops)
    (h5 : ∀ k, s'.task? k = if k0 = k then some t2 else s.task? k) : CFrame s s' := by
  refine ⟨h1, by rw [h2], fun q => by simp [State.scq?, h3], h4, ?_⟩
  intro k; rw [h5]
  split
  · rename_i e; subst e; rw [h0]; simp [hr, ho]
  · rfl

theorem detachW_cframe {s : State} (t : Task) (hw : WInv s) : CFrame s (detachW s t) := by
  unfold detachW
  split
  · split
    · rename_i q w wk hwk
      obtain ⟨hm, _, _⟩ := worker?_mem hwk
      exact ⟨rfl, setWorker_proj hw.uniq hm rfl rfl, fun _ => rfl, rfl, fun _ => rfl⟩
    · exact CFrame.refl _
  · exact CFrame.refl _

theorem schedule_cframe {h : Hints} {s s' : State} {tid : Nat} (hh : schedule h s tid = .ok s') (hw : WInv s)
    (hid : ∀ t, s.task? tid = some t → t.id = tid) : CFrame s s' := by
  obtain ⟨t, h0, ⟨_, rfl⟩ | ⟨_, w, w1, hhw, hpk, hw1, hw1t, htw, rfl⟩⟩ := schedule_ok hh
  · refine CFrame.of_task (t2 := { t with queued := true }) h0 rfl rfl rfl rfl rfl rfl ?_
    intro k; simp [State.task?, alookup_aset, hid t h0]
  · have hm := hintedWorker_mem hhw
    have hlk : s.worker? w.scq w.id = some w := worker?_of_mem hw.uniq hm
    have e1 : w1 = { w with parked := false, woken := true } := by
      simp only [wakeWorker, worker?_setWorker, and_self, if_true, hlk, Option.map_some, Option.some.injEq] at hw1
      exact hw1.symm
    subst e1
    refine ⟨by simp, ?_, fun _ => by simp [State.scq?], by simp, ?_⟩
    · have : (assignS (wakeWorker s w) { w with parked := false, woken := true } t).workers =
          (s.setWorker { w with parked := false, woken := true, task := some t.id }).workers := by
        simp only [assignS_workers, wakeWorker]; exact setWorker_twice s _ _ rfl
      rw [this]; exact setWorker_proj hw.uniq hm rfl rfl
    · intro k
      simp only [State.task?, assignS_tasks, alookup_aset, wakeWorker_tasks, hid t h0]
      split
      · rename_i e; subst e
        have : alookup tid s.tasks = some t := h0
        rw [this]; rfl
      · rfl

/-- what one iteration of `finishOps` does to operation `o` -/
theorem finishOp_spec (s : State) (o : Nat) (hn : ∀ k op, s.op? k = some op → op.name = k) :
    (∀ k, (finishOp s o).op? k = (s.op? k).map (fun op => if k = o then { op with mayExistWithoutWaiters := false } else op)) ∧
    (∀ k, hasK (finishOp s o) k ↔ hasK s k ∨
      (k = .op o ∧ ∃ op, s.op? o = some op ∧ op.mayExistWithoutWaiters = true ∧ op.waiters = 0)) ∧
    ((s.cleanup.map (·.kind)).Nodup → ((finishOp s o).cleanup.map (·.kind)).Nodup) := by
  unfold finishOp
  cases hop : s.op? o with
  | none =>
    simp only
    refine ⟨?_, ?_, id⟩
    · intro k
      by_cases hk : k = o
      · subst hk; rw [hop]; rfl
      · cases s.op? k <;> simp [hk]
    · intro k; constructor
      · exact .inl
      · rintro (h | ⟨_, op, e, _⟩)
        · exact h
        · cases e
  | some op =>
    have hname := hn o op hop
    simp only
    by_cases hb : op.mayExistWithoutWaiters = true
    · simp only [hb, if_true]
      -- state after clearing the flag
      have hop1 : (s.setOp { op with mayExistWithoutWaiters := false }).op? o = some { op with mayExistWithoutWaiters := false } := by
        simp [State.op?, hname]
      unfold maybeStartCleanup
      simp only [hop1]
      have opl : ∀ k, (s.setOp { op with mayExistWithoutWaiters := false }).op? k =
          (s.op? k).map (fun op' => if k = o then { op' with mayExistWithoutWaiters := false } else op') := by
        intro k
        simp only [State.op?, setOp_ops, alookup_aset, hname]
        by_cases hk : o = k
        · subst hk
          have : alookup o s.ops = some op := hop
          simp [this, hname]
        · have : ¬ k = o := fun e => hk e.symm
          simp only [hk, if_false]
          cases alookup k s.ops <;> simp [this]
      split
      · rename_i hc
        refine ⟨?_, ?_, ?_⟩
        · intro k; rw [← opl]; rfl
        · intro k
          rw [hasK_add]
          constructor
          · rintro (rfl | h)
            · exact .inr ⟨rfl, op, rfl, hb, hc.1⟩
            · exact .inl h
          · rintro (h | ⟨rfl, _⟩)
            · exact .inr h
            · exact .inl rfl
        · refine uniq_add (s := s.setOp { op with mayExistWithoutWaiters := false }) ?_
          intro hh
          simp [(hasCleanup_iff _ _).2 hh] at hc
      · rename_i hc
        refine ⟨?_, ?_, id⟩
        · intro k; rw [← opl]
        · intro k
          constructor
          · exact .inl
          · rintro (h | ⟨rfl, op', e, _, hw0⟩)
            · exact h
            · injection e with e; subst e
              -- the entry was already armed
              have : (s.setOp { op with mayExistWithoutWaiters := false }).hasCleanup (.op o) = true := by
                cases hh : (s.setOp { op with mayExistWithoutWaiters := false }).hasCleanup (.op o) with
                | true => rfl
                | false => exact absurd ⟨hw0, by simp, by simp [hh]⟩ hc
              exact (hasCleanup_iff _ _).1 this
    · have hb' : op.mayExistWithoutWaiters = false := by simpa using hb
      simp only [hb', Bool.false_eq_true, if_false]
      refine ⟨?_, ?_, id⟩
      · intro k
        by_cases hk : k = o
        · subst hk; rw [hop]; simp only [Option.map_some, if_true]
          congr 1; cases op; simp_all
        · cases s.op? k <;> simp [hk]
      · intro k; constructor
        · exact .inl
        · rintro (h | ⟨_, op', e, hm, _⟩)
          · exact h
          · injection e with e; subst e; rw [hb'] at hm; cases hm

/-- `finishOps` over a list: flags of the listed operations cleared; an entry armed for those that were
background operations without waiters -/
theorem finishOps_spec (l : List Nat) (s : State) (hn : ∀ k op, s.op? k = some op → op.name = k) :
    (∀ k, (complete.finishOps s l).op? k =
      (s.op? k).map (fun op => if k ∈ l then { op with mayExistWithoutWaiters := false } else op)) ∧
    (∀ k, hasK (complete.finishOps s l) k ↔ hasK s k ∨
      (∃ o ∈ l, k = .op o ∧ ∃ op, s.op? o = some op ∧ op.mayExistWithoutWaiters = true ∧ op.waiters = 0)) ∧
    ((s.cleanup.map (·.kind)).Nodup → ((complete.finishOps s l).cleanup.map (·.kind)).Nodup) := by
  induction l generalizing s with
  | nil =>
    refine ⟨?_, ?_, id⟩
    · intro k; rw [finishOps_nil]; cases s.op? k <;> simp
    · intro k; rw [finishOps_nil]; simp
  | cons o r ih =>
    rw [finishOps_cons]
    obtain ⟨a1, a2, a3⟩ := finishOp_spec s o hn
    have hn1 : ∀ k op, (finishOp s o).op? k = some op → op.name = k := by
      intro k op e
      rw [a1] at e
      cases hs : s.op? k with
      | none => rw [hs] at e; cases e
      | some op0 =>
        rw [hs] at e; simp only [Option.map_some, Option.some.injEq] at e
        subst e; split <;> exact hn k op0 hs
    obtain ⟨b1, b2, b3⟩ := ih (finishOp s o) hn1
    refine ⟨?_, ?_, fun h => b3 (a3 h)⟩
    · intro k
      rw [b1, a1]
      cases s.op? k with
      | none => rfl
      | some op0 =>
        simp only [Option.map_some, List.mem_cons]
        by_cases h1 : k = o <;> by_cases h2 : k ∈ r <;> simp [h1, h2]
    · intro k
      rw [b2, a2]
      constructor
      · rintro ((h | ⟨rfl, op, e, hm, hw⟩) | ⟨o', ho', rfl, op', e', hm', hw'⟩)
        · exact .inl h
        · exact .inr ⟨o, List.mem_cons_self .., rfl, op, e, hm, hw⟩
        · -- the operation had the flag in the intermediate state, hence before
          rw [a1] at e'
          cases hs : s.op? o' with
          | none => rw [hs] at e'; cases e'
          | some op0 =>
            rw [hs] at e'; simp only [Option.map_some, Option.some.injEq] at e'
            subst e'
            by_cases h1 : o' = o
            · simp [h1] at hm'
            · simp only [h1, if_false] at hm' hw'
              exact .inr ⟨o', List.mem_cons_of_mem _ ho', rfl, op0, hs, hm', hw'⟩
      · rintro (h | ⟨o', ho', rfl, op, e, hm, hw⟩)
        · exact .inl (.inl h)
        · rcases List.mem_cons.1 ho' with rfl | ho'
          · exact .inl (.inr ⟨rfl, op, e, hm, hw⟩)
          · by_cases h1 : o' = o
            · subst h1; exact .inl (.inr ⟨rfl, op, e, hm, hw⟩)
            · refine .inr ⟨o', ho', rfl, op, ?_, hm, hw⟩
              rw [a1, e]; simp [h1]

/-- the final completion of task `t` (stored under `tid`): response stored, background flags cleared,
entries armed for background operations without waiters -/
theorem finalize_cinv {x : Ex} {D : State} {tid : Nat} {t : Task} (ev : Event) (r : Resp)
    (hk : KeysOK D) (hc : CInv x D) (h0 : D.task? tid = some t) :
    CInv x (succS D (detachT t) ev r) := by
  have hid := (hk.tid tid t h0).1
  let M : State := (dropDedup (emit D ev) { detachT t with learner := none }).setTask
      (bumpGen { detachT t with learner := none, response := some r })
  have eM : succS D (detachT t) ev r = complete.finishOps M t.ops := by
    show complete.finishOps M (detachT t).ops = _; rw [detachT_ops]
  have hMops : M.ops = D.ops := by simp [M]
  have hMcl : M.cleanup = D.cleanup := by simp [M]
  have hMw : M.workers = D.workers := by simp [M]
  have hMq : M.scqs = D.scqs := by simp [M]
  have hMt : ∀ k, M.task? k = if tid = k then some (bumpGen { detachT t with learner := none, response := some r })
      else D.task? k := by
    intro k; simp [M, State.task?, alookup_aset, bumpGen, hid]
  have hMop : ∀ k, M.op? k = D.op? k := by intro k; simp [State.op?, hMops]
  have hMk : ∀ k, hasK M k ↔ hasK D k := hasK_congr hMcl
  obtain ⟨s1, s2, s3⟩ := finishOps_spec t.ops M (by intro k op e; rw [hMop] at e; exact (hk.oname k op e).1)
  rw [eM]
  -- abbreviations for the final state
  have fw : (complete.finishOps M t.ops).workers = D.workers := by simp [hMw]
  have fq : (complete.finishOps M t.ops).scqs = D.scqs := by simp [hMq]
  have ft : ∀ k, (complete.finishOps M t.ops).task? k = M.task? k := by intro k; simp [State.task?]
  have hmono : ∀ k, hasK D k → hasK (complete.finishOps M t.ops) k := fun k h => (s2 k).2 (.inl ((hMk k).2 h))
  have hnew : ∀ k, hasK (complete.finishOps M t.ops) k → hasK D k ∨
      ∃ o ∈ t.ops, k = .op o ∧ ∃ op, D.op? o = some op ∧ op.mayExistWithoutWaiters = true ∧ op.waiters = 0 := by
    intro k h
    rcases (s2 k).1 h with h | ⟨o, ho, rfl, op, e, a, b⟩
    · exact .inl ((hMk k).1 h)
    · exact .inr ⟨o, ho, rfl, op, (hMop o) ▸ e, a, b⟩
  refine hc.of_ops (s3 (hMcl ▸ hc.uniq)) ?_ fw fq rfl rfl ⟨?_, ?_, ?_, ?_⟩
  · intro k hk; rw [s2, hMk]; exact or_iff_left (fun ⟨o, _, e, _⟩ => hk o e)
  · intro o hh
    rw [s1, hMop]
    rcases hnew _ hh with h | ⟨o', ho', e, op, e1, a, b⟩
    · obtain ⟨op, e1, a, b⟩ := hc.eO o h
      refine ⟨_, by rw [e1]; rfl, ?_, ?_⟩
      · split <;> exact a
      · split
        · rfl
        · exact b
    · injection e with e; subst e
      refine ⟨_, by rw [e1]; rfl, ?_, ?_⟩
      · simp [ho', b]
      · simp [ho']
  · intro o op' ho hb
    rw [s1, hMop] at ho
    cases hs : D.op? o with
    | none => rw [hs] at ho; cases ho
    | some op =>
      rw [hs] at ho; simp only [Option.map_some, Option.some.injEq] at ho
      subst ho
      by_cases hmem : o ∈ t.ops
      · simp [hmem] at hb
      · simp only [hmem, if_false] at hb ⊢
        obtain ⟨t1, e1, e2⟩ := hc.opBg o op hs hb
        rw [ft, hMt]
        by_cases hkk : tid = op.task
        · -- an operation of the completed task is listed in its `ops`
          obtain ⟨t2, e3, e4⟩ := hc.opT o op hs
          rw [← hkk, h0] at e3; injection e3 with e3; subst e3
          exact absurd e4 hmem
        · simp only [hkk, if_false]; exact ⟨t1, e1, e2⟩
  · intro o op' ho hb hx
    rw [s1, hMop] at ho
    cases hs : D.op? o with
    | none => rw [hs] at ho; cases ho
    | some op =>
      rw [hs] at ho; simp only [Option.map_some, Option.some.injEq] at ho
      subst ho
      by_cases hbo : op.mayExistWithoutWaiters = false
      · have hw : (if o ∈ t.ops then { op with mayExistWithoutWaiters := false } else op).waiters = op.waiters := by
          split <;> rfl
        rw [hw]
        rcases hc.opFg o op hs hbo hx with h | h
        · exact .inl h
        · exact .inr (hmono _ h)
      · have hbo' : op.mayExistWithoutWaiters = true := by simpa using hbo
        by_cases hmem : o ∈ t.ops
        · simp only [hmem, if_true]
          by_cases hw0 : op.waiters = 0
          · exact .inr ((s2 _).2 (.inr ⟨o, hmem, rfl, op, (hMop o).symm ▸ hs, hbo', hw0⟩))
          · exact .inl (Nat.pos_of_ne_zero hw0)
        · simp only [hmem, if_false] at hb; rw [hbo'] at hb; cases hb
  · intro o op' ho
    rw [s1, hMop] at ho
    cases hs : D.op? o with
    | none => rw [hs] at ho; cases ho
    | some op =>
      rw [hs] at ho; simp only [Option.map_some, Option.some.injEq] at ho
      subst ho
      obtain ⟨t1, e1, e2⟩ := hc.opT o op hs
      have htk : (if o ∈ t.ops then { op with mayExistWithoutWaiters := false } else op).task = op.task := by
        split <;> rfl
      rw [htk, ft, hMt]
      by_cases hkk : tid = op.task
      · rw [← hkk, h0] at e1; injection e1 with e1; subst e1
        simp only [hkk, if_true]
        exact ⟨_, rfl, by simpa [bumpGen] using e2⟩
      · simp only [hkk, if_false]; exact ⟨t1, e1, e2⟩

/-- a fresh background task with one operation that may exist without waiters -/
theorem bgState_cinv {x : Ex} {s : State} (t : Task) (bq : ScqId) (bl : Nat) (pq : PQ)
    (hk : KeysOK s) (hc : CInv x s) : CInv x (bgState s t bq bl pq) := by
  have hop : ∀ k, (bgState s t bq bl pq).op? k = if s.nextOp = k then some (bgOp s pq) else s.op? k := by
    intro k; simp [State.op?, alookup_aset]
  have htk : ∀ k, (bgState s t bq bl pq).task? k = if s.nextTask = k then some (bgTask s t bq bl) else s.task? k := by
    intro k; simp [State.task?, alookup_aset]
  have hkk : ∀ k, hasK (bgState s t bq bl pq) k ↔ hasK s k := hasK_congr (by simp)
  have oldtask : ∀ k t', s.task? k = some t' → (bgState s t bq bl pq).task? k = some t' := by
    intro k t' e; rw [htk]
    have := (hk.tid k t' e).2
    have : ¬ s.nextTask = k := by omega
    simp [this, e]
  refine hc.of_ops (by simpa using hc.uniq) (.of_eq (by simp)) (by simp) (by simp) rfl rfl ⟨?_, ?_, ?_, ?_⟩
  · intro o hh
    obtain ⟨op, e, a, b⟩ := hc.eO o ((hkk _).1 hh)
    have := (hk.oname o op e).2.1
    have hne : ¬ s.nextOp = o := by omega
    exact ⟨op, by rw [hop]; simp [hne, e], a, b⟩
  · intro o op ho hb
    rw [hop] at ho
    split at ho
    · injection ho with ho; subst ho
      exact ⟨bgTask s t bq bl, by rw [htk]; simp [bgOp], rfl⟩
    · obtain ⟨t1, e1, e2⟩ := hc.opBg o op ho hb
      exact ⟨t1, oldtask _ _ e1, e2⟩
  · intro o op ho hb hx
    rw [hop] at ho
    split at ho
    · injection ho with ho; subst ho; simp [bgOp] at hb
    · rw [hkk]; exact hc.opFg o op ho hb hx
  · intro o op ho
    rw [hop] at ho
    split at ho
    · rename_i e; injection ho with ho; subst ho
      exact ⟨bgTask s t bq bl, by rw [htk]; simp [bgOp], by simp [bgTask, e]⟩
    · obtain ⟨t1, e1, e2⟩ := hc.opT o op ho
      exact ⟨t1, oldtask _ _ e1, e2⟩

theorem complete_cinv {x : Ex} {h : Hints} {s s' : State} {tid : Nat} {r : Resp} {bw : Bool}
    (hh : complete h s tid r bw = .ok s') (hkw : KW s) (hc : CInv x s) : CInv x s' := by
  obtain ⟨hk, hw⟩ := hkw
  obtain ⟨t, h0, ⟨_, rfl⟩ | ⟨hr, l, _, h1 | h1 | h1⟩⟩ := complete_ok hh
  · exact hc
  all_goals obtain ⟨hid, hlt⟩ := hk.tid tid t h0
  all_goals have hD : CInv x (detachW s t) := hc.frame (detachW_cframe t hw)
  all_goals have hkD : KeysOK (detachW s t) := (TStep.of_same (allow := True) (by simp) (by simp) (by simp) (by simp) hk).1
  all_goals have h0D : (detachW s t).task? tid = some t := by simpa [State.task?] using h0
  · obtain ⟨ev, _, rfl | ⟨ev', _, rfl⟩ | ⟨bq, pq, h2, _⟩⟩ := completeSucc_ok h1.2
    · exact finalize_cinv ev r hkD hD h0D
    · exact (finalize_cinv ev r hkD hD h0D).same
    · have hkF : KeysOK (succS (detachW s t) (detachT t) ev r) := (succS_tstep True ev r h0 hr hk).1
      have hF := finalize_cinv ev r hkD hD h0D
      have hkB : KeysOK (bumpLearner (succS (detachW s t) (detachT t) ev r)) :=
        (TStep.of_same (allow := True) (s := succS (detachW s t) (detachT t) ev r)
          (s' := bumpLearner (succS (detachW s t) (detachT t) ev r)) (by simp) (by simp) (by simp) (by simp) hkF).1
      have hB := bgState_cinv { detachT t with learner := none } bq (succS (detachW s t) (detachT t) ev r).nextLearner pq hkB
        (hF.same (s' := bumpLearner (succS (detachW s t) (detachT t) ev r)))
      -- worker invariant of the state handed to `schedule`
      have hwB := bgState_winv (hw.of_detach (s' := succS (detachW s t) (detachT t) ev r) hk h0 (by simp) (by simp) (by simp)
        (by other_keys)) { detachT t with learner := none } bq (succS (detachW s t) (detachT t) ev r).nextLearner pq
      refine hB.frame (schedule_cframe h2 hwB ?_)
      intro tb htb
      simp only [State.task?, bgState_tasks, alookup_aset, bumpLearner_nextTask, if_true, Option.some.injEq] at htb
      subst htb; rfl
  · obtain ⟨s2, t2, h2, _, ht2id, rfl, e1, _⟩ := completeRetry_shape h1.2.2.2
    have hwM : WInv ((retryS (detachW s t) l r).setTask (retryT (detachW s t) (detachT t) l r)) :=
      hw.of_detach hk h0 (by simp) (by simp) (by simp) (by other_keys)
    have f1 : CFrame (detachW s t) ((retryS (detachW s t) l r).setTask (retryT (detachW s t) (detachT t) l r)) := by
      refine CFrame.of_task (k0 := tid) (t2 := retryT (detachW s t) (detachT t) l r) h0D (by simp [retryT]) (by simp [retryT])
        (by simp) (by simp) (by simp) (by simp) ?_
      intro k; simp [State.task?, alookup_aset, retryT, hid]
    have hidM : ∀ tb, ((retryS (detachW s t) l r).setTask (retryT (detachW s t) (detachT t) l r)).task? t.id = some tb →
        tb.id = t.id := by
      intro tb htb
      simp only [State.task?, setTask_tasks, alookup_aset] at htb
      have : (retryT (detachW s t) (detachT t) l r).id = t.id := by simp [retryT]
      simp only [this, if_true, Option.some.injEq] at htb
      subst htb; exact this
    have f3 : CFrame s2 (s2.setTask (bumpGen t2)) := by
      refine CFrame.of_task (k0 := t.id) (t0 := t2) (t2 := bumpGen t2) (by unfold State.task?; rw [e1, alookup_aset, if_pos rfl]) rfl rfl
        (by simp) (by simp) (by simp) (by simp) ?_
      intro k; simp [State.task?, alookup_aset, bumpGen, ht2id]
    exact hD.frame ((f1.trans (schedule_cframe h2 hwM hidM)).trans f3)
  · obtain ⟨_, _, ev, _, rfl⟩ := h1
    exact finalize_cinv ev r hkD hD h0D

end BbRe.Lemmas.SchedLive
