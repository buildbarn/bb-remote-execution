import BbRe.Lemmas.DirInv
/-!
`Le s s'`: the store `s'` is a later state of `s` — nothing is deallocated, the
change counter of no directory goes back, a directory whose change counter is
unchanged has exactly the same entry list, tombstones stay, file-system ids
stay.  Reflexive, transitive, and satisfied by every primitive update; hence by
every operation (see `DirOps.lean`).
-/
namespace BbRe.Lemmas.Dir
open BbRe.Dir

structure Le (s s' : Store) : Prop where
  dirsLen   : s.dirs.length ≤ s'.dirs.length
  leavesLen : s.leaves.length ≤ s'.leaves.length
  cid       : ∀ d, (s.dir d).changeID ≤ (s'.dir d).changeID
  same      : ∀ d, d < s.dirs.length → (s'.dir d).changeID = (s.dir d).changeID → (s'.dir d).entries = (s.dir d).entries
  del       : ∀ d, (s.dir d).deleted = true → (s'.dir d).deleted = true
  fs        : ∀ d, d < s.dirs.length → (s'.dir d).fs = (s.dir d).fs

theorem Le.refl (s : Store) : Le s s :=
  ⟨Nat.le_refl _, Nat.le_refl _, fun _ => Nat.le_refl _, fun _ _ _ => rfl, fun _ h => h, fun _ _ => rfl⟩

theorem Le.trans {a b c : Store} (h1 : Le a b) (h2 : Le b c) : Le a c := by
  refine ⟨Nat.le_trans h1.dirsLen h2.dirsLen, Nat.le_trans h1.leavesLen h2.leavesLen,
    fun d => Nat.le_trans (h1.cid d) (h2.cid d), ?_, fun d h => h2.del d (h1.del d h), ?_⟩
  · intro d hd he
    have e1 := h1.cid d
    have e2 := h2.cid d
    have hb : (b.dir d).changeID = (a.dir d).changeID := by omega
    have hc : (c.dir d).changeID = (b.dir d).changeID := by omega
    rw [h2.same d (by have := h1.dirsLen; omega) hc, h1.same d hd hb]
  · intro d hd
    rw [h2.fs d (by have := h1.dirsLen; omega), h1.fs d hd]

theorem Le.of_dirs_eq {s s' : Store} (h : s'.dirs = s.dirs) (hl : s.leaves.length ≤ s'.leaves.length) : Le s s' := by
  have hd : ∀ d, s'.dir d = s.dir d := fun d => dir_eq_of_dirs h d
  refine ⟨by rw [h]; exact Nat.le_refl _, hl, ?_, ?_, ?_, ?_⟩
  · intro d; rw [hd]; exact Nat.le_refl _
  · intro d _ _; rw [hd]
  · intro d hh; rw [hd]; exact hh
  · intro d _; rw [hd]

/-- Replacing one directory record by a later version of it. -/
theorem Le.setDir (s : Store) (d : Nat) (x : Dir)
    (hc : (s.dir d).changeID ≤ x.changeID)
    (hs : x.changeID = (s.dir d).changeID → x.entries = (s.dir d).entries)
    (hdel : (s.dir d).deleted = true → x.deleted = true) (hfs : x.fs = (s.dir d).fs) :
    Le s (s.setDir d x) := by
  refine ⟨by simp, by simp, ?_, ?_, ?_, ?_⟩
  · intro d'
    rw [dir_setDir]
    by_cases h : d = d' ∧ d < s.dirs.length
    · obtain ⟨rfl, _⟩ := h; simp [*]
    · simp [h]
  · intro d' _ he
    rw [dir_setDir] at he ⊢
    by_cases h : d = d' ∧ d < s.dirs.length
    · obtain ⟨rfl, h2⟩ := h; simp [h2] at he ⊢; exact hs he
    · simp [h]
  · intro d' hh
    rw [dir_setDir]
    by_cases h : d = d' ∧ d < s.dirs.length
    · obtain ⟨rfl, h2⟩ := h; simp [h2]; exact hdel hh
    · simp [h]; exact hh
  · intro d' _
    rw [dir_setDir]
    by_cases h : d = d' ∧ d < s.dirs.length
    · obtain ⟨rfl, h2⟩ := h; simp [h2]; exact hfs
    · simp [h]

theorem Le.attach (s : Store) (d name nn : Nat) (c : Child) : Le s (s.modDir d (fun x => x.attach name nn c)) := by
  apply Le.setDir
  · simp
  · intro h; simp at h
  · intro h; simpa using h
  · simp

theorem Le.detach (s : Store) (d n : Nat) : Le s (s.modDir d (fun x => x.detach n)) := by
  apply Le.setDir
  · simp
  · intro h; simp at h
  · intro h; simpa using h
  · simp

theorem filter_eq_self_of_neg_empty (es : List Entry) (p : Entry → Bool)
    (h : (es.filter (fun e => !p e)).length = 0) : es.filter p = es := by
  apply List.filter_eq_self.mpr
  intro a ha
  cases hp : p a with
  | true => rfl
  | false =>
    have : a ∈ es.filter (fun e => !p e) := List.mem_filter.mpr ⟨ha, by simp [hp]⟩
    have h0 : es.filter (fun e => !p e) = [] := List.eq_nil_of_length_eq_zero h
    rw [h0] at this; cases this

theorem Le.shrink (s : Store) (d : Nat) (p : Entry → Bool) :
    Le s (s.setDir d { s.dir d with entries := (s.dir d).entries.filter p,
                                     changeID := (s.dir d).changeID + ((s.dir d).entries.filter (fun e => !p e)).length }) := by
  apply Le.setDir
  · simp
  · intro h
    exact filter_eq_self_of_neg_empty _ p (by simp at h; simpa using h)
  · intro h; simpa using h
  · simp

theorem Le.unlazy (s : Store) (d : Nat) : Le s (s.modDir d (fun x => { x with lazy := none })) := by
  apply Le.setDir <;> simp

theorem Le.pushDir (s : Store) (x : Dir) : Le s (s.pushDir x) := by
  refine ⟨by simp, by simp, ?_, ?_, ?_, ?_⟩
  · intro d
    by_cases h : d < s.dirs.length
    · rw [dir_pushDir_lt s x d h]; exact Nat.le_refl _
    · rw [dir_default s d (by omega)]; exact Nat.zero_le _
  · intro d h _; rw [dir_pushDir_lt s x d h]
  · intro d hh
    by_cases h : d < s.dirs.length
    · rw [dir_pushDir_lt s x d h]; exact hh
    · rw [dir_default s d (by omega)] at hh; cases hh
  · intro d h; rw [dir_pushDir_lt s x d h]

theorem Le.link (s : Store) (l : Nat) : Le s (s.link l) := Le.of_dirs_eq rfl (by simp)

theorem Le.unlink (s : Store) (l : Nat) : Le s (s.unlink l) := Le.of_dirs_eq rfl (by simp)

theorem Le.pushLeaf (s : Store) (x : Leaf) : Le s (s.pushLeaf x) := Le.of_dirs_eq rfl (by simp)

theorem Le.unlinkLeaves (s : Store) (es : List Entry) : Le s (unlinkLeaves s es) :=
  Le.of_dirs_eq (unlinkLeaves_dirs s es) (by rw [unlinkLeaves_leaves_length]; exact Nat.le_refl _)

theorem Le.clearDir (s : Store) (d : Nat) (del : Bool) : Le s (clearDir s d del) := by
  rw [clearDir_eq]
  apply Le.trans (Le.unlinkLeaves s (s.dir d).entries)
  have hd : (BbRe.Dir.unlinkLeaves s (s.dir d).entries).dir d = s.dir d := dir_eq_of_dirs (unlinkLeaves_dirs s _) d
  apply Le.setDir
  · rw [hd]; simp [clearedDir]
  · rw [hd]; intro h
    -- the counter moves by the number of entries: if it did not move there were none
    have h0 : (s.dir d).entries.length = 0 := by
      have : (s.dir d).changeID + (s.dir d).entries.length = (s.dir d).changeID := h
      omega
    exact (List.eq_nil_of_length_eq_zero h0).symm
  · rw [hd]; intro h; simp [clearedDir, h]
  · rw [hd]; simp [clearedDir]

theorem Le.removeTree (fuel : Nat) (s : Store) (stack : List Nat) : Le s (removeTree fuel s stack) :=
  removeTree_keeps (Φ := Le s) (fun t d h => h.trans (Le.clearDir t d true)) fuel s stack (Le.refl s)

theorem Le.postRemove (s : Store) (es : List Entry) : Le s (postRemove s es) := by
  unfold BbRe.Dir.postRemove
  exact Le.trans (Le.unlinkLeaves s es) (Le.removeTree _ _ _)

end BbRe.Lemmas.Dir
