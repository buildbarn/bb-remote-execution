import BbRe.Lemmas.FilePoolContent
/-!
Effect of `writeToSectors` on `content`: the bytes reported written are laid
over the old contents; every other byte of the file is unchanged — on every
path (success, short allocation, failure).
-/
namespace BbRe.Lemmas.FilePool
open BbRe.FilePool

/-- content of an allocated own sector is not affected by `writeToNewSectors` (any outcome). -/
theorem content_wns_unchanged {O : Nat → Prop} {c : Cfg} {f : File} {e : Env} {p : List Byte} {idx ow : Nat}
    (hss : 0 < c.ss) (how : ow < c.ss)
    (hP : Part c.nsec O e.allocd (nz f.sectors)) (i : Nat) :
    content c.ss (writeToNewSectors c f.hole e p idx ow).1.dev f i = content c.ss e.dev f i := by
  unfold content
  split
  · rfl
  · rename_i hne
    have hmem : f.sectors.getD (i / c.ss) 0 ∈ e.allocd := (hP.mem _).mpr (Or.inl (getD_mem_nz hne))
    obtain ⟨t, ht⟩ : ∃ t, f.sectors.getD (i / c.ss) 0 = t + 1 := ⟨f.sectors.getD (i / c.ss) 0 - 1, by omega⟩
    rw [ht, Nat.add_sub_cancel]
    exact wns_frame hss how t (i % c.ss) (Nat.mod_lt _ hss) (ht ▸ hmem)

theorem range_div {ss idx ow m cnt i : Nat} (h1 : idx * ss + ow ≤ i) (h2 : i < idx * ss + ow + m)
    (h3 : ow + m ≤ cnt * ss) : idx ≤ i / ss ∧ i / ss < idx + cnt := by
  constructor
  · rcases Nat.lt_or_ge (i / ss) idx with hlt | hge
    · have := Nat.mul_le_mul_right ss (show i / ss + 1 ≤ idx by omega)
      rw [Nat.add_mul, Nat.one_mul] at this
      have hi := div_mul_mod i ss
      have : i % ss < ss := Nat.mod_lt _ (by
        rcases Nat.eq_zero_or_pos ss with h0 | h0
        · rw [h0] at h3; omega
        · exact h0)
      omega
    · exact hge
  · have : i < (idx + cnt) * ss := by rw [Nat.add_mul]; omega
    exact div_lt_of_lt_mul' this

/-- Inserting a freshly written run into a region of holes. -/
theorem insert_content {O : Nat → Prop} {c : Cfg} {f : File} {e e1 : Env} {p : List Byte}
    {idx ow n first got : Nat} (secs0 secs' : List Nat)
    (hss : 0 < c.ss) (how : ow < c.ss)
    (hget0 : ∀ q, secs0.getD q 0 = f.sectors.getD q 0)
    (hr : writeToNewSectors c f.hole e p idx ow = (e1, .ok (n, first, got)))
    (hins : insertSectors secs0 idx first got = some secs')
    (hzero : ∀ q, idx ≤ q → q < idx + got → f.sectors.getD q 0 = 0)
    (hP : Part c.nsec O e.allocd (nz f.sectors)) (i : Nat) :
    content c.ss e1.dev { f with sectors := secs' } i =
      overlay (content c.ss e.dev f) (idx * c.ss + ow) (p.take n) i := by
  obtain ⟨_, _, hg1, _, hf1, _, _, hnmin⟩ := wns_ok hr
  obtain ⟨hrun, _⟩ := wns_ok_dev hss how hr
  obtain ⟨t0, rfl⟩ : ∃ t0, first = t0 + 1 := ⟨first - 1, (Nat.sub_add_cancel hf1).symm⟩
  simp only [Nat.add_sub_cancel] at hrun
  have hunch := content_wns_unchanged (f := f) (p := p) (idx := idx) hss how hP i
  rw [hr] at hunch
  have hn : (p.take n).length = n := by rw [List.length_take, hnmin]; omega
  have hnle : ow + n ≤ got * c.ss := by
    have : c.ss ≤ got * c.ss := Nat.le_mul_of_pos_left c.ss hg1
    rw [hnmin]; omega
  rcases run_cases hss idx got i with ⟨k, hk, rfl⟩ | hq
  · -- inside the new run: sector `idx + d` of the file is device sector `t0 + 1 + d`, a hole before
    have hd : idx ≤ idx + k / c.ss ∧ idx + k / c.ss < idx + got :=
      ⟨Nat.le_add_right _ _, Nat.add_lt_add_left (div_lt_of_lt_mul' hk) _⟩
    rw [overlay_add, content_at _ _ hss, content_at _ _ hss]
    dsimp only
    rw [insertSectors_getD hins, if_pos hd, Nat.add_sub_cancel_left, Nat.add_right_comm t0,
      if_neg (Nat.succ_ne_zero _), hzero _ hd.1 hd.2, if_pos rfl, Nat.add_sub_cancel, Nat.add_mul, Nat.add_assoc,
      div_mul_mod, hrun k hk]
    rfl
  · -- outside the new run: same sector entry as before, device unchanged there
    have hsec : secs'.getD (i / c.ss) 0 = f.sectors.getD (i / c.ss) 0 := by
      rw [insertSectors_getD hins, if_neg hq, hget0]
    have hov : overlay (content c.ss e.dev f) (idx * c.ss + ow) (p.take n) i = content c.ss e.dev f i := by
      unfold overlay
      rw [if_neg]
      rw [hn]
      intro hc
      exact hq (range_div hc.1 hc.2 hnle)
    rw [hov, ← hunch]
    unfold content
    dsimp only
    rw [hsec]

/-- a write of `m` bytes at offset `ow` of the `cnt` sectors from `t0` misses the bytes of every other sector. -/
theorem outside_write {ss t t0 cnt k ow m : Nat} (hk : k < ss) (h : t < t0 ∨ t0 + cnt ≤ t) (hm : ow + m ≤ cnt * ss) :
    t * ss + k < t0 * ss + ow ∨ t0 * ss + ow + m ≤ t * ss + k := by
  have := pos_outside ss t t0 cnt k hk h
  rw [Nat.add_mul] at this
  omega

/-- the run found by `contig` holds the device sectors `t0 + 1 + d`, and no other entry of the list does. -/
theorem contig_sector_unique {secs : List Nat} {idx endIdx t0 q t : Nat} (hidx : idx < secs.length)
    (hs : (contig secs idx endIdx).1 = t0 + 1) (hnd : (nz secs).Nodup) (hq : secs.getD q 0 = t + 1)
    (hout : ¬ (idx ≤ q ∧ q < idx + (contig secs idx endIdx).2)) :
    t < t0 ∨ t0 + (contig secs idx endIdx).2 ≤ t := by
  rcases Nat.lt_or_ge t t0 with hlt | hge
  · exact Or.inl hlt
  · rcases Nat.lt_or_ge t (t0 + (contig secs idx endIdx).2) with hlt2 | hge2
    · exfalso
      obtain ⟨d, rfl⟩ : ∃ d, t = t0 + d := ⟨t - t0, (Nat.add_sub_cancel' hge).symm⟩
      have hd : d < (contig secs idx endIdx).2 := Nat.lt_of_add_lt_add_left hlt2
      have h5 := contig_getD secs idx endIdx hidx (Nat.le_add_right idx d) (Nat.add_lt_add_left hd _)
      rw [hs, if_neg (Nat.succ_ne_zero _), Nat.add_sub_cancel_left, Nat.add_right_comm] at h5
      have := nodup_nz_getD secs q (idx + d) hnd (hq.trans h5.symm) (hq ▸ Nat.succ_ne_zero _)
      exact hout ⟨this ▸ Nat.le_add_right _ _, this ▸ Nat.add_lt_add_left hd _⟩
    · exact Or.inr hge2

/-- Overwriting a run of existing sectors with (a prefix of) the data. -/
theorem overwrite_content {O : Nat → Prop} {c : Cfg} {f : File} {e : Env} (p : List Byte)
    (idx endIdx ow m : Nat) (hss : 0 < c.ss) (hidx : idx < f.sectors.length)
    (hne : (contig f.sectors idx endIdx).1 ≠ 0) (hP : Part c.nsec O e.allocd (nz f.sectors))
    (hm : ow + m ≤ (contig f.sectors idx endIdx).2 * c.ss) (hmp : m ≤ p.length) (i : Nat) :
    content c.ss (writeBytes e.dev (((contig f.sectors idx endIdx).1 - 1) * c.ss + ow) (p.take m)) f i =
      overlay (content c.ss e.dev f) (idx * c.ss + ow) (p.take m) i := by
  obtain ⟨hc1, hc2, hc3, hc4, hc5⟩ := contig_spec f.sectors idx endIdx hidx
  have hrun := fun (dev : Array Byte) (k : Nat) hk =>
    content_contig (ss := c.ss) dev (f := f) endIdx hss hidx (k := k) hk
  have hsec := fun {t0 q t : Nat} (hs : (contig f.sectors idx endIdx).1 = t0 + 1) =>
    contig_sector_unique (q := q) (t := t) hidx hs hP.nodupF
  generalize (contig f.sectors idx endIdx).1 = s0 at *
  generalize (contig f.sectors idx endIdx).2 = cnt at *
  obtain ⟨t0, rfl⟩ : ∃ t0, s0 = t0 + 1 := ⟨s0 - 1, (Nat.sub_add_cancel (Nat.pos_of_ne_zero hne)).symm⟩
  have hsec := fun {q t : Nat} => hsec (q := q) (t := t) rfl
  simp only [Nat.add_sub_cancel] at hrun ⊢
  have hlen : (p.take m).length = m := by rw [List.length_take, Nat.min_eq_left hmp]
  rcases run_cases hss idx cnt i with ⟨k, hk, rfl⟩ | hq
  · -- inside the run: both sides read the device from the start of sector `t0 + 1`
    rw [hrun _ k hk, if_neg (Nat.succ_ne_zero _), rd_writeBytes_add, overlay_add, hrun _ k hk,
      if_neg (Nat.succ_ne_zero _)]
  · -- outside: the overlay does not reach `i`, and `i`'s sector is not one of the run's
    have hov : overlay (content c.ss e.dev f) (idx * c.ss + ow) (p.take m) i = content c.ss e.dev f i := by
      unfold overlay
      rw [if_neg]
      rw [hlen]
      intro hc
      exact hq (range_div hc.1 hc.2 hm)
    rw [hov]
    unfold content
    split
    · rfl
    · rename_i hs
      obtain ⟨t, ht⟩ : ∃ t, f.sectors.getD (i / c.ss) 0 = t + 1 :=
        ⟨_, (Nat.sub_add_cancel (Nat.pos_of_ne_zero hs)).symm⟩
      rw [ht, Nat.add_sub_cancel, rd_writeBytes_outside]
      rw [hlen]
      exact outside_write (Nat.mod_lt _ hss) (hsec ht hq) hm

/-- ... and leaves alone every device sector that is not one of the file's. -/
theorem overwrite_frame {c : Cfg} {f : File} (dev : Array Byte) {idx : Nat} (endIdx : Nat) {ow : Nat} (q : List Byte)
    (hidx : idx < f.sectors.length) (hne : (contig f.sectors idx endIdx).1 ≠ 0)
    (hq : ow + q.length ≤ (contig f.sectors idx endIdx).2 * c.ss) {t k : Nat} (hk : k < c.ss)
    (hnot : t + 1 ∉ f.sectors) :
    rd (writeBytes dev (((contig f.sectors idx endIdx).1 - 1) * c.ss + ow) q) (t * c.ss + k) = rd dev (t * c.ss + k) := by
  obtain ⟨t0, ht0⟩ : ∃ t0, (contig f.sectors idx endIdx).1 = t0 + 1 :=
    ⟨_, (Nat.sub_add_cancel (Nat.pos_of_ne_zero hne)).symm⟩
  rw [ht0, Nat.add_sub_cancel, rd_writeBytes_outside]
  refine outside_write hk ?_ hq
  -- a sector of the run is an entry of the list
  rcases Nat.lt_or_ge t t0 with hlt | hge
  · exact Or.inl hlt
  · rcases Nat.lt_or_ge t (t0 + (contig f.sectors idx endIdx).2) with hlt2 | hge2
    · exfalso
      apply hnot
      obtain ⟨d, rfl⟩ : ∃ d, t = t0 + d := ⟨t - t0, (Nat.add_sub_cancel' hge).symm⟩
      have hd : d < (contig f.sectors idx endIdx).2 := Nat.lt_of_add_lt_add_left hlt2
      have h5 := contig_getD f.sectors idx endIdx hidx (Nat.le_add_right idx d) (Nat.add_lt_add_left hd _)
      rw [ht0, if_neg (Nat.succ_ne_zero _), Nat.add_sub_cancel_left, Nat.add_right_comm] at h5
      exact (mem_iff_getD (Nat.succ_ne_zero _)).mpr ⟨_, h5⟩
    · exact Or.inr hge2

end BbRe.Lemmas.FilePool
