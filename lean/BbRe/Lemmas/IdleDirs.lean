import BbRe.Model.BuildDirs
import BbRe.Lemmas.Idle
import BbRe.Lemmas.Basic.AssocList
import Std.Data.String.ToNat
/-!
Lemmas about the root-directory association list of `Model/BuildDirs.lean` and
the invariant of the build-directory decorator stack.  `dstep_cases` lists what
an enabled step does; the invariant's preservation, the worker invariant and the
theorems of `Properties/C12.lean` about single steps are case analyses of it.
`drun` is the run function of the directory machine (as `run` of `Model/Idle.lean` is for the invoker).
-/
namespace BbRe.Lemmas.IdleDirs
open BbRe.BuildDirs
open BbRe.Lemmas.Idle (Counted)

/-! ### the root as an association list -/

theorem lookup_isSome_iff (r : Root) (n : Name) : (lookup r n).isSome = hasName r n := by
  induction r with
  | nil => rfl
  | cons e r ih =>
    unfold lookup hasName
    split
    · rfl
    · exact ih

/-! `lookup` and `eraseName` are `AL.get` and `AL.delAll` of `Lemmas/Basic/AssocList.lean`. -/

theorem lookup_eq (r : Root) (n : Name) : lookup r n = AL.get n r := by
  induction r with
  | nil => rfl
  | cons e r ih => obtain ⟨a, b⟩ := e; simp only [lookup, AL.get, ih]

theorem eraseName_eq (r : Root) (n : Name) : eraseName r n = AL.delAll n r := by
  induction r with
  | nil => rfl
  | cons e r ih => obtain ⟨a, b⟩ := e; simp only [eraseName, AL.delAll, ih]

theorem lookup_erase (r : Root) (n m : Name) :
    lookup (eraseName r n) m = if m = n then none else lookup r m := by
  rw [eraseName_eq, lookup_eq, lookup_eq]; exact AL.get_delAll ..

theorem lookup_addFile (r : Root) (n m : Name) (f : Nat) :
    lookup (addFile r n f) m = if m = n then (lookup r m).map (f :: ·) else lookup r m := by
  induction r with
  | nil => exact (ite_self none).symm
  | cons e r ih =>
    show lookup (if e.1 = n then (e.1, f :: e.2) :: addFile r n f else e :: addFile r n f) m =
      if m = n then (if e.1 = m then some e.2 else lookup r m).map (f :: ·)
      else if e.1 = m then some e.2 else lookup r m
    by_cases hn : e.1 = n
    · rw [if_pos hn]
      show (if e.1 = m then some (f :: e.2) else lookup (addFile r n f) m) = _
      rw [ih]
      by_cases hm : e.1 = m
      · rw [if_pos hm, if_pos (hm.symm.trans hn), if_pos hm]; rfl
      · rw [if_neg hm, if_neg hm]
    · rw [if_neg hn]
      show (if e.1 = m then some e.2 else lookup (addFile r n f) m) = _
      rw [ih]
      by_cases hm : e.1 = m
      · rw [if_pos hm, if_neg fun (hmn : m = n) => hn (hm.trans hmn), if_pos hm]
      · rw [if_neg hm, if_neg hm]

theorem lookup_addFile_ne (r : Root) (n m : Name) (f : Nat) (h : m ≠ n) :
    lookup (addFile r n f) m = lookup r m := by
  rw [lookup_addFile, if_neg h]

theorem hasName_erase (r : Root) (n m : Name) :
    hasName (eraseName r n) m = true ↔ (hasName r m = true ∧ m ≠ n) := by
  rw [← lookup_isSome_iff, lookup_erase, ← lookup_isSome_iff]
  split
  · rename_i e; exact ⟨nofun, fun h => absurd e h.2⟩
  · rename_i e; exact ⟨fun h => ⟨h, e⟩, fun h => h.1⟩

theorem hasName_addFile (r : Root) (n m : Name) (f : Nat) : hasName (addFile r n f) m = hasName r m := by
  rw [← lookup_isSome_iff, lookup_addFile, ← lookup_isSome_iff]
  split
  · exact Option.isSome_map
  · rfl

/-! ### the invariant -/

/-- `made n` / `enterFailed n`: created, not yet handed out. -/
def DPC.fresh : DPC → Name → Prop
  | .made m, n => m = n
  | .enterFailed m, n => m = n
  | _, _ => False

structure DInv (s : State) : Prop where
  ownsIn : ∀ t n, (s.pc t).owns n → hasName s.root n = true
  ownsUniq : ∀ t t' n, (s.pc t).owns n → (s.pc t').owns n → t = t'
  freshEmpty : ∀ t n, DPC.fresh (s.pc t) n → lookup s.root n = some []
  issuedNodup : s.issued.Nodup
  issuedRange : ∀ x, x ∈ s.issued → ∃ k, 1 ≤ k ∧ k ≤ s.next ∧ x = Nat.repr k
  users : Counted (DPC.user · = true) s.pc s.active

theorem dinv_init : DInv init :=
  ⟨fun _ _ => False.elim, fun _ _ _ => False.elim, fun _ _ => False.elim, List.nodup_nil, nofun,
    ⟨[], List.nodup_nil, fun _ => ⟨nofun, nofun⟩, rfl⟩⟩

@[simp] theorem setPc_pc (s : State) (t : Nat) (v : DPC) (x : Nat) :
    (s.setPc t v).pc x = if x = t then v else s.pc x := rfl
@[simp] theorem setPc_root (s : State) (t : Nat) (v : DPC) : (s.setPc t v).root = s.root := rfl
@[simp] theorem setPc_next (s : State) (t : Nat) (v : DPC) : (s.setPc t v).next = s.next := rfl
@[simp] theorem setPc_active (s : State) (t : Nat) (v : DPC) : (s.setPc t v).active = s.active := rfl
@[simp] theorem setPc_issued (s : State) (t : Nat) (v : DPC) : (s.setPc t v).issued = s.issued := rfl

theorem fresh_owns {p : DPC} {n : Name} (h : DPC.fresh p n) : p.owns n := by
  cases p with
  | made | enterFailed => exact h
  | _ => cases h

theorem user_of_owns {p : DPC} {n : Name} (h : p.owns n) : DPC.user p = true := by
  cases p with
  | made | enterFailed | holding | closing => rfl
  | _ => cases h

/-! ### the enabled steps -/

/-- The outcomes that only move thread `t` from `p` to `v`. -/
inductive Move : Op → Nat → DPC → DPC → Prop
  | nameDigest (t : Nat) (h : Name) : Move (.name t) t (.acquired (some h)) (.named h)
  | mkdirFail (t : Nat) (fault : Bool) (n : Name) : Move (.mkdir t fault) t (.named n) (.finishing true .internal)
  | enterFail (t : Nat) (fault : Bool) (n : Name) : Move (.enter t fault) t (.made n) (.enterFailed n)
  | enter (t : Nat) (fault : Bool) (n : Name) : Move (.enter t fault) t (.made n) (.holding n)
  | rmdirKeep (t : Nat) (fault : Bool) (n : Name) : Move (.rmdir t fault) t (.enterFailed n) (.finishing true .internal)
  | closeChild (t : Nat) (e1 : Bool) (n : Name) : Move (.closeChild t e1) t (.holding n) (.closing n e1)
  | removeAllFail (t : Nat) (fault : Bool) (n : Name) (e1 : Bool) :
      Move (.removeAll t fault) t (.closing n e1) (.finishing false (if e1 then .childErr else .internal))
  | finish (t : Nat) (relErr g : Bool) (r : Res) : Move (.finish t relErr) t (.releasing g r) .idle

theorem Move.keeps {op : Op} {t : Nat} {p v : DPC} (h : Move op t p v) :
    (∀ n, v.owns n → p.owns n) ∧ (∀ n, DPC.fresh v n → DPC.fresh p n) ∧ DPC.user v = DPC.user p := by
  cases h with
  | nameDigest => exact ⟨fun _ => False.elim, fun _ => False.elim, rfl⟩
  | mkdirFail => exact ⟨fun _ => False.elim, fun _ => False.elim, rfl⟩
  | enterFail => exact ⟨fun _ h => h, fun _ h => h, rfl⟩
  | enter => exact ⟨fun _ h => h, fun _ => False.elim, rfl⟩
  | rmdirKeep => exact ⟨fun _ => False.elim, fun _ => False.elim, rfl⟩
  | closeChild => exact ⟨fun _ h => h, fun _ => False.elim, rfl⟩
  | removeAllFail => exact ⟨fun _ => False.elim, fun _ => False.elim, rfl⟩
  | finish => exact ⟨fun _ => False.elim, fun _ => False.elim, rfl⟩

/-- What an enabled step does, one constructor per outcome (`dstep_cases`). -/
inductive DStep (s : State) : Op → State → Prop
  | move {op : Op} {t : Nat} {p v : DPC} : Move op t p v → s.pc t = p → DStep s op (s.setPc t v)
  | begin (t : Nat) (d : Option Name) : s.pc t = .idle →
      DStep s (.begin t d) { (s.setPc t (.acquired d)) with active := s.active + 1 }
  | nameCounter (t : Nat) : s.pc t = .acquired none →
      DStep s (.name t) { (s.setPc t (.named (Nat.repr (s.next + 1)))) with
        next := s.next + 1, issued := Nat.repr (s.next + 1) :: s.issued }
  | mkdir (t : Nat) (fault : Bool) (n : Name) : s.pc t = .named n → hasName s.root n = false →
      DStep s (.mkdir t fault) { (s.setPc t (.made n)) with root := (n, []) :: s.root }
  | rmdir (t : Nat) (fault : Bool) (n : Name) : s.pc t = .enterFailed n →
      DStep s (.rmdir t fault) { (s.setPc t (.finishing true .internal)) with root := eraseName s.root n }
  | write (t f : Nat) (n : Name) : s.pc t = .holding n → DStep s (.write t f) { s with root := addFile s.root n f }
  | removeAll (t : Nat) (fault : Bool) (n : Name) (e1 : Bool) : s.pc t = .closing n e1 →
      DStep s (.removeAll t fault)
        { (s.setPc t (.finishing false (if e1 then .childErr else .ok))) with root := eraseName s.root n }
  | release (t : Nat) (g : Bool) (r : Res) : s.pc t = .finishing g r →
      DStep s (.release t) { (s.setPc t (.releasing g r)) with active := s.active - 1 }
  | clean : s.active = 0 → DStep s (.clean true) { s with root := [] }
  | cleanFail : s.active = 0 → DStep s (.clean false) s

theorem dstep_cases {s s' : State} {op : Op} (hs : step s op = some s') : DStep s op s' := by
  unfold step at hs
  -- one goal per operation, in the order of `Op`
  split at hs
  next t d =>
    split at hs
    · rename_i hpc; cases hs; exact .begin t d hpc
    · cases hs
  next t =>
    split at hs
    · rename_i hpc; cases hs; exact .nameCounter t hpc
    · rename_i h hpc; cases hs; exact .move (.nameDigest t h) hpc
    · cases hs
  next t fault =>
    split at hs
    · rename_i n hpc
      split at hs
      · cases hs; exact .move (.mkdirFail t fault n) hpc
      · rename_i hcond
        cases hs
        exact .mkdir t fault n hpc (Bool.eq_false_iff.2 fun hh => hcond (by rw [hh, Bool.or_true]))
    · cases hs
  next t fault =>
    split at hs
    · rename_i n hpc
      split at hs
      · cases hs; exact .move (.enterFail t fault n) hpc
      · cases hs; exact .move (.enter t fault n) hpc
    · cases hs
  next t fault =>
    split at hs
    · rename_i n hpc
      split at hs
      · cases hs; exact .rmdir t fault n hpc
      · cases hs; exact .move (.rmdirKeep t fault n) hpc
    · cases hs
  next t f =>
    split at hs
    · rename_i n hpc; cases hs; exact .write t f n hpc
    · cases hs
  next t e1 =>
    split at hs
    · rename_i n hpc; cases hs; exact .move (.closeChild t e1 n) hpc
    · cases hs
  next t fault =>
    split at hs
    · rename_i n e1 hpc
      cases fault <;> cases hs
      · exact .removeAll t false n e1 hpc
      · exact .move (.removeAllFail t true n e1) hpc
    · cases hs
  next t =>
    split at hs
    · rename_i g r hpc; cases hs; exact .release t g r hpc
    · cases hs
  next t relErr =>
    split at hs
    · rename_i g r hpc; cases hs; exact .move (.finish t relErr g r) hpc
    · cases hs
  next ok =>
    by_cases hact : s.active = 0
    · rw [if_pos hact] at hs
      cases ok <;> cases hs
      · exact .cleanFail hact
      · exact .clean hact
    · rw [if_neg hact] at hs; cases hs

theorem dstep_clean {s : State} (hact : s.active = 0) (ok : Bool) :
    step s (.clean ok) = some (if ok then { s with root := [] } else s) := by
  show (if s.active = 0 then (if ok then some { s with root := [] } else some s) else none) = _
  rw [if_pos hact]
  cases ok <;> rfl

theorem dstep_user {s s' : State} {op : Op} (hs : step s op = some s') (x : Nat) :
    DPC.user (s'.pc x) = DPC.user (s.pc x) ∨ (∃ d, op = .begin x d) ∨ op = .release x := by
  have same : ∀ {t p v}, s.pc t = p → DPC.user v = DPC.user p →
      DPC.user (if x = t then v else s.pc x) = DPC.user (s.pc x) := fun hpc hu => by
    split
    · rename_i e; rw [e, hpc, hu]
    · rfl
  cases dstep_cases hs with
  | move hm hpc => exact .inl (same hpc hm.keeps.2.2)
  | «begin» t d => exact (Decidable.em (x = t)).elim (fun e => .inr (.inl ⟨d, by rw [e]⟩)) fun e => .inl (by rw [setPc_pc, if_neg e])
  | nameCounter t hpc => exact .inl (same hpc rfl)
  | mkdir t fault n hpc => exact .inl (same hpc rfl)
  | rmdir t fault n hpc => exact .inl (same hpc rfl)
  | write => exact .inl rfl
  | removeAll t fault n e1 hpc => exact .inl (same hpc rfl)
  | release t => exact (Decidable.em (x = t)).elim (fun e => .inr (.inr (by rw [e]))) fun e => .inl (by rw [setPc_pc, if_neg e])
  | clean => exact .inl rfl
  | cleanFail => exact .inl rfl

/-! ### preservation -/

section preservation
variable {s : State}

theorem DInv.no_user (h : DInv s) (hact : s.active = 0) (x : Nat) : DPC.user (s.pc x) = false := by
  have hc := h.users
  rw [hact] at hc
  exact Bool.eq_false_iff.2 (hc.zero x)

/-- Thread `t` moves to `v` while the root becomes `r'` and the number of users `a`:
what has to be checked is that `v` and the other threads find their directories in `r'`. -/
theorem dinv_update (h : DInv s) (t : Nat) (v : DPC) (r' : Root) {a : Nat}
    (hin : ∀ m, v.owns m → hasName r' m = true)
    (hin' : ∀ x m, x ≠ t → (s.pc x).owns m → hasName r' m = true)
    (huniq : ∀ x m, x ≠ t → v.owns m → ¬ (s.pc x).owns m)
    (hfr : ∀ m, DPC.fresh v m → lookup r' m = some [])
    (hfr' : ∀ x m, x ≠ t → DPC.fresh (s.pc x) m → lookup r' m = some [])
    (hu : Counted (DPC.user · = true) (fun x => if x = t then v else s.pc x) a) :
    DInv { (s.setPc t v) with root := r', active := a } := by
  refine ⟨?_, ?_, ?_, h.issuedNodup, h.issuedRange, hu⟩
  · intro x m hx
    rw [setPc_pc] at hx
    split at hx
    · exact hin m hx
    · rename_i e; exact hin' x m e hx
  · intro x y m hx hy
    rw [setPc_pc] at hx hy
    split at hx <;> split at hy
    · rename_i e e'; rw [e, e']
    · rename_i e; exact absurd hy (huniq y m e hx)
    · rename_i e _; exact absurd hx (huniq x m e hy)
    · exact h.ownsUniq x y m hx hy
  · intro x m hx
    rw [setPc_pc] at hx
    split at hx
    · exact hfr m hx
    · rename_i e; exact hfr' x m e hx

/-- Thread `t` moves from `p` to `v`, leaving the root alone, and comes to own
or be fresh on nothing new. -/
theorem dinv_setPc (h : DInv s) {t : Nat} {p : DPC} (hpc : s.pc t = p) (v : DPC) {a : Nat}
    (hown : ∀ n, v.owns n → p.owns n) (hfresh : ∀ n, DPC.fresh v n → DPC.fresh p n)
    (hu : Counted (DPC.user · = true) (fun x => if x = t then v else s.pc x) a) :
    DInv { (s.setPc t v) with active := a } := by
  subst hpc
  exact dinv_update h t v s.root (fun m hm => h.ownsIn t m (hown m hm)) (fun x m _ => h.ownsIn x m)
    (fun x m e hv hx => e (h.ownsUniq x t m hx (hown m hv)))
    (fun m hm => h.freshEmpty t m (hfresh m hm)) (fun x m _ => h.freshEmpty x m) hu

/-- Thread `t`, owner of `n`, removes `n` from the root and gives it up. -/
theorem dinv_erase (h : DInv s) {t : Nat} {p : DPC} (hpc : s.pc t = p) (n : Name) (v : DPC)
    (hold : p.owns n) (hown : ∀ m, ¬ v.owns m) (hu : DPC.user v = DPC.user p) :
    DInv { (s.setPc t v) with root := eraseName s.root n } := by
  subst hpc
  have other : ∀ x m, x ≠ t → (s.pc x).owns m → m ≠ n := fun x m hx hm e =>
    hx (h.ownsUniq x t m hm (e ▸ hold))
  exact dinv_update h t v (eraseName s.root n) (fun m hm => absurd hm (hown m))
    (fun x m e hx => (hasName_erase _ _ _).2 ⟨h.ownsIn x m hx, other x m e hx⟩)
    (fun x m _ hv => absurd hv (hown m)) (fun m hm => absurd (fresh_owns hm) (hown m))
    (fun x m e hx => by rw [lookup_erase, if_neg (other x m e (fresh_owns hx))]; exact h.freshEmpty x m hx)
    (h.users.set_same t v (by rw [hu]))

/-- `Mkdir` of a name that is not in the root. -/
theorem dinv_mkdir (h : DInv s) {t : Nat} {n : Name} (hpc : s.pc t = .named n) (hno : hasName s.root n = false) :
    DInv { (s.setPc t (.made n)) with root := (n, []) :: s.root } := by
  have notOwned : ∀ x m, (s.pc x).owns m → m ≠ n := fun x m hm e => by
    have := h.ownsIn x m hm
    rw [e, hno] at this; cases this
  exact dinv_update h t (.made n) ((n, []) :: s.root) (fun m hm => if_pos hm)
    (fun x m _ hx => by
      show (if n = m then true else hasName s.root m) = true
      rw [h.ownsIn x m hx]; exact ite_self true)
    (fun x m _ hv hx => notOwned x m hx hv.symm) (fun m hm => if_pos hm)
    (fun x m _ hx => by
      show (if n = m then some [] else lookup s.root m) = some []
      rw [if_neg fun e => notOwned x m (fresh_owns hx) e.symm]; exact h.freshEmpty x m hx)
    (h.users.set_same t _ (by rw [hpc]; rfl))

/-- The action writes into the directory it holds. -/
theorem dinv_write (h : DInv s) {t : Nat} {n : Name} (hpc : s.pc t = .holding n) (f : Nat) :
    DInv { s with root := addFile s.root n f } := by
  refine ⟨?_, h.ownsUniq, ?_, h.issuedNodup, h.issuedRange, h.users⟩
  · intro x m hx
    show hasName (addFile s.root n f) m = true
    rw [hasName_addFile]; exact h.ownsIn x m hx
  · intro x m hx
    show lookup (addFile s.root n f) m = some []
    -- a fresh directory is not the one `t` holds
    have hne : m ≠ n := fun e => by
      rw [h.ownsUniq x t n (e ▸ fresh_owns hx) (by rw [hpc]; rfl), hpc] at hx
      exact hx
    rw [lookup_addFile_ne _ _ _ _ hne]
    exact h.freshEmpty x m hx

/-- `nextParallelActionID.Add(1)`: the new name was never issued. -/
theorem dinv_nameCounter (h : DInv s) {t : Nat} (hpc : s.pc t = .acquired none) :
    DInv { (s.setPc t (.named (Nat.repr (s.next + 1)))) with
      next := s.next + 1, issued := Nat.repr (s.next + 1) :: s.issued } := by
  have base := dinv_setPc h hpc (.named (Nat.repr (s.next + 1))) (fun _ => False.elim) (fun _ => False.elim)
    (h.users.set_same t _ (by rw [hpc]; rfl))
  refine { base with issuedNodup := ?_, issuedRange := ?_ }
  · refine List.nodup_cons.2 ⟨fun hmem => ?_, h.issuedNodup⟩
    obtain ⟨k, _, hk2, hk3⟩ := h.issuedRange _ hmem
    exact absurd (Nat.repr_injective hk3 ▸ hk2) (Nat.not_succ_le_self _)
  · intro x hx
    rcases List.mem_cons.1 hx with e | hm
    · exact ⟨s.next + 1, Nat.succ_pos _, Nat.le_refl _, e⟩
    · obtain ⟨k, hk1, hk2, hk3⟩ := h.issuedRange x hm
      exact ⟨k, hk1, Nat.le_succ_of_le hk2, hk3⟩

/-- Every step of `Model/BuildDirs.lean` preserves the invariant. -/
theorem dinv_step {s' : State} (h : DInv s) (op : Op) (hs : step s op = some s') : DInv s' := by
  cases dstep_cases hs with
  | move hm hpc =>
    exact dinv_setPc h hpc _ hm.keeps.1 hm.keeps.2.1 (h.users.set_same _ _ (by rw [hm.keeps.2.2, hpc]))
  | «begin» t d hpc =>
    exact dinv_setPc h hpc _ (fun _ => False.elim) (fun _ => False.elim)
      (h.users.set_add t _ (by rw [hpc]; nofun) rfl)
  | nameCounter t hpc => exact dinv_nameCounter h hpc
  | mkdir t fault n hpc hno => exact dinv_mkdir h hpc hno
  | rmdir t fault n hpc => exact dinv_erase h hpc n _ rfl (fun _ => id) rfl
  | write t f n hpc => exact dinv_write h hpc f
  | removeAll t fault n e1 hpc => exact dinv_erase h hpc n _ rfl (fun _ => id) rfl
  | release t g r hpc =>
    exact dinv_setPc h hpc _ (fun _ => False.elim) (fun _ => False.elim)
      (h.users.set_remove t _ (by rw [hpc]; rfl) nofun)
  | clean hact =>
    have noown : ∀ x m, ¬ (s.pc x).owns m := fun x m hm =>
      nomatch (h.no_user hact x).symm.trans (user_of_owns hm)
    exact ⟨fun x m hm => absurd hm (noown x m), h.ownsUniq,
      fun x m hm => absurd (fresh_owns hm) (noown x m), h.issuedNodup, h.issuedRange, h.users⟩
  | cleanFail => exact h

end preservation

theorem dinv_reachable {s : State} (h : Reachable s) : DInv s := by
  induction h with
  | init => exact dinv_init
  | step op _ hs ih => exact dinv_step ih op hs

/-- run a list of steps, skipping the disabled ones (for the non-vacuity examples) -/
def drun (s : State) : List Op → State
  | [] => s
  | op :: rest => match step s op with
    | some s' => drun s' rest
    | none => drun s rest

theorem reachable_drun {s : State} (h : Reachable s) (ops : List Op) :
    Reachable (drun s ops) := by
  induction ops generalizing s with
  | nil => exact h
  | cons op rest ih =>
    unfold drun
    split
    · rename_i s' hs; exact ih (Reachable.step op h hs)
    · exact ih h


end BbRe.Lemmas.IdleDirs
