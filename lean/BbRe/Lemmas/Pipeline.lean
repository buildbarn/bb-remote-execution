import BbRe.Model.Pipeline
/-!
Lemmas about `Model/Pipeline.lean`.  The batched store is handled through two
transitive relations: `Progress` between the states of the errgroup inside one
`flushLocked`, and `Evolves` between states of the store; every step of the
model is an instance, so facts about `runPuts` and about histories need one
induction each.  The flushing and caching layers are characterised by what they
do to the status (`firstErr`), the outputs and the Action Cache.
-/
namespace BbRe.Lemmas.Pipeline
open BbRe.Pipeline

@[simp] theorem Status.err_error (c : Code) : (Status.error c).err = some c := rfl
@[simp] theorem Status.err_unset : Status.unset.err = none := rfl
@[simp] theorem Status.err_ok (m : Bool) : (Status.ok m).err = none := rfl

theorem firstErr_none_right (a : Option Code) : firstErr a none = a := by cases a <;> rfl

theorem firstErr_assoc (a b c : Option Code) : firstErr (firstErr a b) c = firstErr a (firstErr b c) := by
  cases a <;> rfl

theorem firstErr_eq_none {a b : Option Code} : firstErr a b = none ↔ a = none ∧ b = none := by
  cases a
  · exact ⟨fun h => ⟨rfl, h⟩, fun h => h.2⟩
  · exact ⟨nofun, fun h => nomatch h.1⟩

theorem firstErr_none {a b : Option Code} (h : firstErr a b = none) : a = none ∧ b = none :=
  firstErr_eq_none.1 h

theorem firstErr_some_left {a b : Option Code} (h : a ≠ none) : firstErr a b ≠ none :=
  fun hn => h (firstErr_eq_none.1 hn).1

theorem firstErr_some_right {a b : Option Code} (h : b ≠ none) : firstErr a b ≠ none :=
  fun hn => h (firstErr_eq_none.1 hn).2

/-- `group.Wait()` of a group in which something failed reports one of the errors. -/
theorem chooseErr_cons (e : Code) (es : List Code) (w : Option Code) :
    ∃ c ∈ e :: es, chooseErr (e :: es) w = some c := by
  cases w with
  | none => exact ⟨e, List.mem_cons_self, rfl⟩
  | some c =>
    by_cases hc : c ∈ e :: es
    · exact ⟨c, hc, if_pos hc⟩
    · exact ⟨e, List.mem_cons_self, if_neg hc⟩

theorem chooseErr_eq_none {errs : List Code} {w : Option Code} : chooseErr errs w = none ↔ errs = [] := by
  cases errs with
  | nil => exact ⟨fun _ => rfl, fun _ => rfl⟩
  | cons e es =>
    obtain ⟨c, _, h⟩ := chooseErr_cons e es w
    rw [h]
    exact ⟨nofun, nofun⟩

theorem chooseErr_mem {errs : List Code} {w : Option Code} {c : Code} (h : chooseErr errs w = some c) : c ∈ errs := by
  cases errs with
  | nil => cases h
  | cons e es =>
    obtain ⟨c', hc, h'⟩ := chooseErr_cons e es w
    cases h'.symm.trans h
    exact hc

theorem append_singleton_ne_nil (errs : List Code) (c : Code) : errs ++ [c] ≠ [] :=
  List.append_ne_nil_of_right_ne_nil _ (List.cons_ne_nil _ _)

theorem takeOp_perm {d : Digest} {l : List (Digest × Buf)} {b : Buf} {rest : List (Digest × Buf)}
    (h : takeOp d l = some (b, rest)) : l.Perm ((d, b) :: rest) := by
  induction l generalizing rest with
  | nil => cases h
  | cons p ps ih =>
    unfold takeOp at h
    split at h
    · rename_i hp
      cases h; cases hp
      exact .refl _
    · split at h
      · cases h
      · rename_i heq
        cases h
        exact ((ih heq).cons p).trans (.swap _ _ _)

/-! ### The upload loop -/

/-- The three behaviours of one iteration of the upload loop. -/
theorem issueOne_cases (cas0 : List Digest) (g : Group) (e : Digest × Option Code) :
    issueOne cas0 g e = g ∨
    (∃ b pend', takeOp e.1 g.pend = some (b, pend') ∧
      issueOne cas0 g e = { pend := pend', cas := e.1 :: g.cas, consumed := b :: g.consumed, errs := g.errs }) ∨
    (∃ b pend' c, takeOp e.1 g.pend = some (b, pend') ∧
      issueOne cas0 g e = { pend := pend', cas := g.cas, consumed := b :: g.consumed, errs := g.errs ++ [c] }) := by
  obtain ⟨d, r⟩ := e
  unfold issueOne
  by_cases h : d ∈ cas0
  · exact .inl (if_pos h)
  · rw [if_neg h]
    cases ht : takeOp d g.pend with
    | none => exact .inl rfl
    | some bp =>
      cases r with
      | none => exact .inr (.inl ⟨_, _, rfl, rfl⟩)
      | some c => exact .inr (.inr ⟨_, _, c, rfl, rfl⟩)

/-- What every step of the upload loop preserves: the CAS only grows, every
buffer stays accounted for, and as long as no error is recorded every operation
that was pending is still pending or its blob has been stored. -/
structure Progress (g g' : Group) : Prop where
  cas_mono : ∀ x ∈ g.cas, x ∈ g'.cas
  consumed : (g'.pend.map (·.2) ++ g'.consumed).Perm (g.pend.map (·.2) ++ g.consumed)
  sound : g'.errs = [] → g.errs = [] ∧ ∀ p ∈ g.pend, p ∈ g'.pend ∨ p.1 ∈ g'.cas

theorem Progress.refl (g : Group) : Progress g g :=
  ⟨fun _ h => h, .refl _, fun h => ⟨h, fun _ hp => .inl hp⟩⟩

theorem Progress.trans {g₁ g₂ g₃ : Group} (h₁ : Progress g₁ g₂) (h₂ : Progress g₂ g₃) : Progress g₁ g₃ where
  cas_mono x hx := h₂.cas_mono x (h₁.cas_mono x hx)
  consumed := h₂.consumed.trans h₁.consumed
  sound h :=
    have ⟨e₂, s₂⟩ := h₂.sound h
    have ⟨e₁, s₁⟩ := h₁.sound e₂
    ⟨e₁, fun p hp => (s₁ p hp).elim (s₂ p) fun hc => .inr (h₂.cas_mono _ hc)⟩

theorem issueOne_progress (cas0 : List Digest) (g : Group) (e : Digest × Option Code) :
    Progress g (issueOne cas0 g e) := by
  have moved {b pend'} (ht : takeOp e.1 g.pend = some (b, pend')) :
      (pend'.map (·.2) ++ b :: g.consumed).Perm (g.pend.map (·.2) ++ g.consumed) :=
    List.perm_middle.trans (((takeOp_perm ht).map (·.2)).symm.append_right _)
  rcases issueOne_cases cas0 g e with h | ⟨b, pend', ht, h⟩ | ⟨b, pend', c, ht, h⟩ <;> rw [h]
  · exact .refl g
  · refine ⟨fun _ hx => List.mem_cons_of_mem _ hx, moved ht, fun he => ⟨he, fun p hp => ?_⟩⟩
    rcases List.mem_cons.1 ((takeOp_perm ht).mem_iff.1 hp) with rfl | hp'
    · exact .inr List.mem_cons_self
    · exact .inl hp'
  · exact ⟨fun _ hx => hx, moved ht, fun he => absurd he (append_singleton_ne_nil _ _)⟩

theorem issuePuts_progress (cas0 : List Digest) (g : Group) (t : List IssueEv) :
    Progress g (issuePuts cas0 g t) := by
  induction t generalizing g with
  | nil => exact .refl g
  | cons ev rest ih =>
    cases ev with
    | put d r => exact (issueOne_progress cas0 g (d, r)).trans (ih _)
    | acquireFailed c => exact ⟨fun _ hx => hx, .refl _, fun he => absurd he (append_singleton_ne_nil _ _)⟩

/-- A failed semaphore acquisition is an error of the group, whatever was issued before it. -/
theorem issuePuts_acquireFailed (cas0 : List Digest) (g : Group) (pre : List (Digest × Option Code))
    (c : Code) (post : List IssueEv) :
    (issuePuts cas0 g (pre.map (fun e => IssueEv.put e.1 e.2) ++ .acquireFailed c :: post)).errs ≠ [] := by
  induction pre generalizing g with
  | nil => exact append_singleton_ne_nil _ c
  | cons e rest ih => exact ih _

/-- `flushLocked` empties the pending map, only adds to the CAS and consumes
every pending buffer; it either records an error, or leaves `flushError` and
the error count alone, and then every blob that was pending is in the CAS,
FindMissing succeeded and the errgroup ended without error. -/
theorem flushLocked_cases (s : Store) (o : FlushOracle) :
    ∃ cas' consumed', (∀ x ∈ s.cas, x ∈ cas') ∧ consumed'.Perm (s.pending.map (·.2) ++ s.consumed) ∧
      ((∃ c, flushLocked s o =
          { s with pending := [], cas := cas', consumed := consumed', flushError := some c,
                   errorsRecorded := s.errorsRecorded + 1 }) ∨
       (flushLocked s o = { s with pending := [], cas := cas', consumed := consumed' } ∧
          (∀ p ∈ s.pending, p.1 ∈ cas') ∧
          o.fm = none ∧ (issuePuts s.cas ⟨s.pending, s.cas, s.consumed, []⟩ o.puts).errs = [])) := by
  unfold flushLocked
  cases hfm : o.fm with
  | some c => exact ⟨_, _, fun _ h => h, .refl _, .inl ⟨_, rfl⟩⟩
  | none =>
    have hg := issuePuts_progress s.cas ⟨s.pending, s.cas, s.consumed, []⟩ o.puts
    refine ⟨_, _, hg.cas_mono, hg.consumed, ?_⟩
    dsimp only
    cases herr : chooseErr _ o.winner with
    | some c => exact .inl ⟨_, rfl⟩
    | none =>
      rw [chooseErr_eq_none] at herr
      split at herr
      · exact absurd herr (append_singleton_ne_nil _ _)
      · rename_i hany
        refine .inr ⟨rfl, fun p hp => ?_, rfl, herr⟩
        -- `p` was uploaded, or is still pending and then (`hany`) was not missing
        rcases (hg.sound herr).2 p hp with h | h
        · exact hg.cas_mono _ (Classical.not_not.1 fun hn =>
            hany (List.any_eq_true.2 ⟨p, h, decide_eq_true hn⟩))
        · exact h

theorem flushLocked_pending (s : Store) (o : FlushOracle) : (flushLocked s o).pending = [] := by
  obtain ⟨_, _, _, _, ⟨_, h⟩ | ⟨h, _⟩⟩ := flushLocked_cases s o <;> rw [h]

theorem flushLocked_batchSize (s : Store) (o : FlushOracle) : (flushLocked s o).batchSize = s.batchSize := by
  obtain ⟨_, _, _, _, ⟨_, h⟩ | ⟨h, _⟩⟩ := flushLocked_cases s o <;> rw [h]

/-- Every pending buffer is consumed exactly once by a flush (Put or Discard). -/
theorem flushLocked_consumed (s : Store) (o : FlushOracle) :
    (flushLocked s o).consumed.Perm (s.pending.map (·.2) ++ s.consumed) := by
  obtain ⟨_, _, _, hp, ⟨_, h⟩ | ⟨h, _⟩⟩ := flushLocked_cases s o <;> rw [h] <;> exact hp

/-! ### What Puts and flushes preserve -/

/-- `s'` is a later state of the store `s`: the CAS only grows; `flushError` is
only ever set and the error count moves only together with it, so a state
without error has seen none; and in such a state whatever was pending is still
pending or stored. -/
structure Evolves (s s' : Store) : Prop where
  cas_mono : ∀ x ∈ s.cas, x ∈ s'.cas
  quiet : s'.flushError = none → s.flushError = none ∧ s'.errorsRecorded = s.errorsRecorded
  kept : s'.flushError = none → ∀ d ∈ s.pending.map (·.1), d ∈ s'.cas ∨ d ∈ s'.pending.map (·.1)

theorem Evolves.refl (s : Store) : Evolves s s :=
  ⟨fun _ h => h, fun h => ⟨h, rfl⟩, fun _ _ h => .inr h⟩

theorem Evolves.trans {s₁ s₂ s₃ : Store} (h₁ : Evolves s₁ s₂) (h₂ : Evolves s₂ s₃) : Evolves s₁ s₃ where
  cas_mono x hx := h₂.cas_mono x (h₁.cas_mono x hx)
  quiet h :=
    have ⟨e₂, n₂⟩ := h₂.quiet h
    have ⟨e₁, n₁⟩ := h₁.quiet e₂
    ⟨e₁, n₂.trans n₁⟩
  kept h d hd := (h₁.kept (h₂.quiet h).1 d hd).elim (fun hc => .inl (h₂.cas_mono d hc)) (h₂.kept h d)

/-- An error that is recorded stays recorded. -/
theorem Evolves.sticky {s s' : Store} (h : Evolves s s') (hs : s.flushError ≠ none) : s'.flushError ≠ none :=
  fun hn => hs (h.quiet hn).1

/-- Without an error, whatever was stored or pending is stored or pending. -/
theorem Evolves.held {s s' : Store} (h : Evolves s s') (hn : s'.flushError = none) (d : Digest)
    (hd : d ∈ s.cas ∨ d ∈ s.pending.map (·.1)) : d ∈ s'.cas ∨ d ∈ s'.pending.map (·.1) :=
  hd.elim (fun hc => .inl (h.cas_mono d hc)) (h.kept hn d)

theorem flushLocked_evolves (s : Store) (o : FlushOracle) : Evolves s (flushLocked s o) := by
  obtain ⟨_, _, hc, _, ⟨_, h⟩ | ⟨h, hall, _⟩⟩ := flushLocked_cases s o <;> rw [h]
  · exact ⟨hc, nofun, nofun⟩
  · refine ⟨hc, fun hn => ⟨hn, rfl⟩, fun _ d hd => ?_⟩
    obtain ⟨p, hp, rfl⟩ := List.mem_map.1 hd
    exact .inl (hall p hp)

theorem maybeFlush_cases (s : Store) (o : FlushOracle) :
    maybeFlush s o = s ∨ maybeFlush s o = flushLocked s o := by
  unfold maybeFlush; split
  · exact .inr rfl
  · exact .inl rfl

theorem maybeFlush_evolves (s : Store) (o : FlushOracle) : Evolves s (maybeFlush s o) := by
  rcases maybeFlush_cases s o with h | h <;> rw [h]
  · exact .refl s
  · exact flushLocked_evolves s o

theorem maybeFlush_consumed (s : Store) (o : FlushOracle) :
    ((maybeFlush s o).pending.map (·.2) ++ (maybeFlush s o).consumed).Perm
      (s.pending.map (·.2) ++ s.consumed) := by
  rcases maybeFlush_cases s o with h | h <;> rw [h]
  rw [flushLocked_pending]
  exact flushLocked_consumed s o

/-- The three behaviours of `Put`: duplicate, error, enqueued. -/
theorem put_cases (s : Store) (d : Digest) (b : Buf) (o : FlushOracle) :
    (s.pending.any (fun p => p.1 == d) = true ∧
      put s d b o = ({ s with consumed := b :: s.consumed }, none)) ∨
    (∃ c, (maybeFlush s o).flushError = some c ∧
      put s d b o = ({ maybeFlush s o with consumed := b :: (maybeFlush s o).consumed }, some c)) ∨
    ((maybeFlush s o).flushError = none ∧
      put s d b o = ({ maybeFlush s o with pending := (maybeFlush s o).pending ++ [(d, b)] }, none)) := by
  unfold put
  by_cases hd : s.pending.any (fun p => p.1 == d) = true
  · exact .inl ⟨hd, if_pos hd⟩
  · rw [if_neg hd]
    cases hc : (maybeFlush s o).flushError with
    | some c => exact .inr (.inl ⟨c, rfl, by dsimp only; rw [hc]⟩)
    | none => exact .inr (.inr ⟨rfl, by dsimp only; rw [hc]⟩)

theorem put_evolves (s : Store) (d : Digest) (b : Buf) (o : FlushOracle) : Evolves s (put s d b o).1 := by
  have hm := maybeFlush_evolves s o
  rcases put_cases s d b o with ⟨_, h⟩ | ⟨c, hc, h⟩ | ⟨_, h⟩ <;> rw [h]
  · exact ⟨fun _ h => h, fun h => ⟨h, rfl⟩, fun _ _ h => .inr h⟩
  · exact ⟨hm.cas_mono, fun hn => (nomatch hc.symm.trans hn), fun hn => (nomatch hc.symm.trans hn)⟩
  · refine ⟨hm.cas_mono, hm.quiet, fun hn x hx => (hm.kept hn x hx).imp_right fun hp => ?_⟩
    rw [List.map_append]
    exact List.mem_append_left _ hp

/-- A Put that returns an error leaves that error in `flushError`. -/
theorem put_error_recorded (s : Store) (d : Digest) (b : Buf) (o : FlushOracle) (c : Code)
    (h : (put s d b o).2 = some c) : (put s d b o).1.flushError = some c := by
  rcases put_cases s d b o with ⟨_, h1⟩ | ⟨c', hc, h1⟩ | ⟨_, h1⟩ <;> rw [h1] at h ⊢
  · cases h
  · exact hc.trans h
  · cases h

/-- After a Put that returns nil its digest is pending. -/
theorem put_acked (s : Store) (d : Digest) (b : Buf) (o : FlushOracle) (h : (put s d b o).2 = none) :
    d ∈ (put s d b o).1.pending.map (·.1) := by
  rcases put_cases s d b o with ⟨hd, h1⟩ | ⟨c', _, h1⟩ | ⟨_, h1⟩ <;> rw [h1] at h ⊢
  · obtain ⟨p, hp, he⟩ := List.any_eq_true.1 hd
    exact List.mem_map.2 ⟨p, hp, beq_iff_eq.1 he⟩
  · cases h
  · exact List.mem_map.2 ⟨(d, b), List.mem_append_right _ List.mem_cons_self, rfl⟩

theorem put_consumed (s : Store) (d : Digest) (b : Buf) (o : FlushOracle) :
    ((put s d b o).1.pending.map (·.2) ++ (put s d b o).1.consumed).Perm
      (b :: (s.pending.map (·.2) ++ s.consumed)) := by
  rcases put_cases s d b o with ⟨hd, h1⟩ | ⟨c', hc, h1⟩ | ⟨hn, h1⟩ <;> rw [h1]
  · exact List.perm_middle
  · exact List.perm_middle.trans ((maybeFlush_consumed s o).cons b)
  · rw [List.map_append, List.append_assoc]
    exact List.perm_middle.trans ((maybeFlush_consumed s o).cons b)

theorem flusher_clears (s : Store) (o : FlushOracle) : (flusher s o).1.flushError = none := rfl

theorem flusher_pending (s : Store) (o : FlushOracle) : (flusher s o).1.pending = [] :=
  flushLocked_pending s o

theorem flusher_cas_mono (s : Store) (o : FlushOracle) (x : Digest) (h : x ∈ s.cas) :
    x ∈ (flusher s o).1.cas := (flushLocked_evolves s o).cas_mono x h

theorem flusher_consumed (s : Store) (o : FlushOracle) :
    (flusher s o).1.consumed.Perm (s.pending.map (·.2) ++ s.consumed) := flushLocked_consumed s o

/-- If the flusher returns nil, no error had been recorded since the state `s₀`,
and everything that was stored or pending is stored. -/
theorem flusher_ok {s₀ s : Store} (o : FlushOracle) (h : Evolves s₀ s) (hr : (flusher s o).2 = none) :
    s₀.flushError = none ∧ (flusher s o).1.errorsRecorded = s₀.errorsRecorded ∧
    ∀ d, d ∈ s.cas ∨ d ∈ s.pending.map (·.1) → d ∈ (flusher s o).1.cas := by
  have hf := flushLocked_evolves s o
  refine ⟨((h.trans hf).quiet hr).1, ((h.trans hf).quiet hr).2, fun d hd => ?_⟩
  rcases hf.held hr d hd with hc | hp
  · exact hc
  · rw [flushLocked_pending] at hp; cases hp

theorem runPuts_evolves (s : Store) (calls : List PutCall) : Evolves s (runPuts s calls).1 := by
  induction calls generalizing s with
  | nil => exact .refl s
  | cons c cs ih => exact (put_evolves s c.digest c.buf c.oracle).trans (ih _)

theorem runPuts_cas_mono (s : Store) (calls : List PutCall) (x : Digest) (h : x ∈ s.cas) :
    x ∈ (runPuts s calls).1.cas := (runPuts_evolves s calls).cas_mono x h

/-- If no error is recorded after the Puts, none of them returned one, and the
digest of each is stored or pending. -/
theorem runPuts_acked (s : Store) (calls : List PutCall) (hn : (runPuts s calls).1.flushError = none) :
    ∀ e ∈ (runPuts s calls).2, e.2 = none ∧
      (e.1 ∈ (runPuts s calls).1.cas ∨ e.1 ∈ (runPuts s calls).1.pending.map (·.1)) := by
  induction calls generalizing s with
  | nil => nofun
  | cons c cs ih =>
    have hcs := runPuts_evolves (put s c.digest c.buf c.oracle).1 cs
    intro e he
    rcases List.mem_cons.1 he with rfl | he
    · cases hr : (put s c.digest c.buf c.oracle).2 with
      | none => exact ⟨rfl, hcs.held hn _ (.inr (put_acked s _ _ _ hr))⟩
      | some code => exact absurd (put_error_recorded s _ _ _ code hr) fun h => nomatch h.symm.trans (hcs.quiet hn).1
    · exact ih _ hn e he

/-- If the flusher returns nil after a sequence of Puts, then no error was
recorded before, during or after them, each of them returned nil, and each of
their digests is in the CAS. -/
theorem runPuts_flusher_ok (s : Store) (calls : List PutCall) (o : FlushOracle)
    (hr : (flusher (runPuts s calls).1 o).2 = none) :
    s.flushError = none ∧ (flusher (runPuts s calls).1 o).1.errorsRecorded = s.errorsRecorded ∧
    ∀ e ∈ (runPuts s calls).2, e.2 = none ∧ e.1 ∈ (flusher (runPuts s calls).1 o).1.cas :=
  have ⟨h₀, hn, _⟩ := flusher_ok o (runPuts_evolves s calls) hr
  have ⟨h₁, _, hcas⟩ := flusher_ok o (.refl _) hr
  ⟨h₀, hn, fun e he => (runPuts_acked s calls h₁ e he).imp_right (hcas e.1)⟩

theorem runPuts_log_digests (s : Store) (calls : List PutCall) :
    (runPuts s calls).2.map (·.1) = calls.map (·.digest) := by
  induction calls generalizing s with
  | nil => rfl
  | cons c cs ih => exact congrArg (c.digest :: ·) (ih _)

theorem runPuts_consumed (s : Store) (calls : List PutCall) :
    ((runPuts s calls).1.pending.map (·.2) ++ (runPuts s calls).1.consumed).Perm
      (calls.map (·.buf) ++ (s.pending.map (·.2) ++ s.consumed)) := by
  induction calls generalizing s with
  | nil => exact .refl _
  | cons c cs ih =>
    exact (ih _).trans (((put_consumed s c.digest c.buf c.oracle).append_left _).trans List.perm_middle)

theorem runOps_invariant {P : Hist → Prop} (step : ∀ h op, P h → P (stepOp h op)) (h : Hist)
    (ops : List StoreOp) (hp : P h) : P (runOps h ops) := by
  induction ops generalizing h with
  | nil => exact hp
  | cons op rest ih => exact ih _ (step h op hp)

/-- The invariant behind `batched_ack_sound_history`: as long as no error is
recorded, every acknowledged digest is stored or still pending. -/
def AckedHeld (h : Hist) : Prop :=
  h.store.flushError = none → ∀ d ∈ h.acked, d ∈ h.store.cas ∨ d ∈ h.store.pending.map (·.1)

theorem stepOp_ackedHeld (h : Hist) (op : StoreOp) (hh : AckedHeld h) : AckedHeld (stepOp h op) := by
  cases op with
  | flush o => exact fun _ => nofun
  | put c =>
    have he := put_evolves h.store c.digest c.buf c.oracle
    intro hn x hx
    have hold (hx : x ∈ h.acked) := he.held hn x (hh (he.quiet hn).1 x hx)
    dsimp only [stepOp] at hx
    split at hx
    · rename_i hr
      rcases List.mem_cons.1 hx with rfl | hx
      · exact .inr (put_acked _ _ _ _ hr)
      · exact hold hx
    · exact hold hx

/-- The invariant behind `buffers_history`, relative to the buffers `base` of the initial state. -/
theorem stepOp_buffers (base : List Buf) (h : Hist) (op : StoreOp)
    (hh : (h.store.pending.map (·.2) ++ h.store.consumed).Perm (h.handed ++ base)) :
    ((stepOp h op).store.pending.map (·.2) ++ (stepOp h op).store.consumed).Perm
      ((stepOp h op).handed ++ base) := by
  cases op with
  | put c => exact (put_consumed h.store c.digest c.buf c.oracle).trans (hh.cons _)
  | flush o =>
    show ((flusher h.store o).1.pending.map (·.2) ++ (flusher h.store o).1.consumed).Perm _
    rw [flusher_pending]
    exact (flusher_consumed h.store o).trans hh

/-! ### attachError and the flushing layer -/

theorem attachError_err (r : Response) (c : Code) :
    (attachError r c).status.err = firstErr r.status.err (some c) := by
  unfold attachError
  cases h : r.status.err with
  | none => rfl
  | some c' => exact h

/-- `attachError` touches nothing but the status. -/
theorem attachError_eq (r : Response) (c : Code) :
    attachError r c = { r with status := (attachError r c).status } := by
  unfold attachError
  cases r.status.err <;> rfl

theorem flushingPost_none (s : Store) (resp : Response) (o : FlushOracle) (h : (flusher s o).2 = none) :
    flushingPost s resp o = ((flusher s o).1, resp, none) := by
  unfold flushingPost; dsimp only; rw [h]

theorem flushingPost_some (s : Store) (resp : Response) (o : FlushOracle) (c : Code)
    (h : (flusher s o).2 = some c) :
    flushingPost s resp o = ((flusher s o).1,
      { attachError resp c with files := [], dirs := [], stdout := none, stderr := none, logs := [] }, some c) := by
  unfold flushingPost; dsimp only; rw [h]

theorem flushingPost_store (s : Store) (resp : Response) (o : FlushOracle) :
    (flushingPost s resp o).1 = (flusher s o).1 := by
  cases h : (flusher s o).2 with
  | none => rw [flushingPost_none s resp o h]
  | some c => rw [flushingPost_some s resp o c h]

theorem flushingPost_err (s : Store) (resp : Response) (o : FlushOracle) :
    (flushingPost s resp o).2.2 = (flusher s o).2 := by
  cases h : (flusher s o).2 with
  | none => rw [flushingPost_none s resp o h]
  | some c => rw [flushingPost_some s resp o c h]

/-- The flushing layer attaches its error unless the inner executor reported one. -/
theorem flushingPost_status (s : Store) (resp : Response) (o : FlushOracle) :
    (flushingPost s resp o).2.1.status.err = firstErr resp.status.err (flushingPost s resp o).2.2 := by
  cases h : (flusher s o).2 with
  | none => rw [flushingPost_none s resp o h]; exact (firstErr_none_right _).symm
  | some c => rw [flushingPost_some s resp o c h]; exact attachError_err resp c

theorem flushingPost_exitCode (s : Store) (resp : Response) (o : FlushOracle) :
    (flushingPost s resp o).2.1.exitCode = resp.exitCode := by
  cases h : (flusher s o).2 with
  | none => rw [flushingPost_none s resp o h]
  | some c => rw [flushingPost_some s resp o c h, attachError_eq]

/-- The error, if any, that the caching layer itself adds. -/
def cachingError (req : Request) (flushed : Response) (o : ExecOracle) : Option Code :=
  if !req.digestValid then some invalidArgument
  else if !req.actionPresent then some invalidArgument
  else if !req.doNotCache && isSuccessful flushed then o.ac
  else o.hist

/-- The caching condition evaluated on what the caching layer sees. -/
def cacheable (req : Request) (flushed : Response) : Prop :=
  req.digestValid = true ∧ req.actionPresent = true ∧ req.doNotCache = false ∧
    flushed.status.err = none ∧ flushed.exitCode = 0

theorem isSuccessful_iff (r : Response) : isSuccessful r = true ↔ r.status.err = none ∧ r.exitCode = 0 := by
  unfold isSuccessful
  rw [Bool.and_eq_true, Option.isNone_iff_eq_none, beq_iff_eq]

/-- `cacheable` in terms of the three tests of `cachingPost`. -/
theorem cacheable_iff (req : Request) (r : Response) :
    cacheable req r ↔
      req.digestValid = true ∧ req.actionPresent = true ∧ (!req.doNotCache && isSuccessful r) = true := by
  unfold cacheable
  rw [Bool.and_eq_true, Bool.not_eq_true', isSuccessful_iff]

theorem cachingError_of_cacheable {req : Request} {r : Response} (hc : cacheable req r) (o : ExecOracle) :
    cachingError req r o = o.ac := by
  obtain ⟨hv, hp, hb⟩ := (cacheable_iff req r).1 hc
  unfold cachingError
  rw [hv, hp, hb]
  rfl

/-- What the caching layer answers: the response with the layer's error
attached, or, if there is none, with a message. -/
theorem cachingPost_response (w : World) (req : Request) (r : Response) (o : ExecOracle) :
    (∃ c, cachingError req r o = some c ∧ (cachingPost w req r o.ac o.hist).2 = attachError r c) ∨
    (cachingError req r o = none ∧ ∃ m, (cachingPost w req r o.ac o.hist).2 = { r with message := m }) := by
  unfold cachingPost cachingError
  cases req.digestValid
  · exact .inl ⟨_, rfl, rfl⟩
  cases req.actionPresent
  · exact .inl ⟨_, rfl, rfl⟩
  cases (!req.doNotCache && isSuccessful r)
  · cases o.hist
    · exact .inr ⟨rfl, _, rfl⟩
    · exact .inl ⟨_, rfl, rfl⟩
  · cases o.ac
    · exact .inr ⟨rfl, _, rfl⟩
    · exact .inl ⟨_, rfl, rfl⟩

/-- A cacheable result costs exactly one Action Cache call, which adds the entry if it succeeds. -/
theorem cachingPost_world_of_cacheable {req : Request} {r : Response} (hc : cacheable req r) (w : World)
    (a h : Option Code) :
    (cachingPost w req r a h).1 =
      { w with acCalls := w.acCalls + 1, ac := match a with | none => entryOf req r :: w.ac | some _ => w.ac } := by
  obtain ⟨hv, hp, hb⟩ := (cacheable_iff req r).1 hc
  unfold cachingPost
  rw [hv, hp, hb]
  cases a <;> rfl

/-- Any other result leaves the Action Cache, its call count and the store alone. -/
theorem cachingPost_world_of_not_cacheable {req : Request} {r : Response} (hc : ¬ cacheable req r) (w : World)
    (a h : Option Code) :
    (cachingPost w req r a h).1.ac = w.ac ∧ (cachingPost w req r a h).1.acCalls = w.acCalls ∧
    (cachingPost w req r a h).1.store = w.store := by
  unfold cachingPost
  cases hv : req.digestValid
  · exact ⟨rfl, rfl, rfl⟩
  cases hp : req.actionPresent
  · exact ⟨rfl, rfl, rfl⟩
  cases hb : (!req.doNotCache && isSuccessful r)
  · cases h <;> exact ⟨rfl, rfl, rfl⟩
  · exact absurd ((cacheable_iff req r).2 ⟨hv, hp, hb⟩) hc

theorem cachingPost_store (w : World) (req : Request) (r : Response) (a h : Option Code) :
    (cachingPost w req r a h).1.store = w.store := by
  by_cases hc : cacheable req r
  · rw [cachingPost_world_of_cacheable hc]
  · exact (cachingPost_world_of_not_cacheable hc w a h).2.2

/-- The status after the caching layer: its own error comes last. -/
theorem cachingPost_status (w : World) (req : Request) (r : Response) (o : ExecOracle) :
    (cachingPost w req r o.ac o.hist).2.status.err = firstErr r.status.err (cachingError req r o) := by
  rcases cachingPost_response w req r o with ⟨c, hc, e⟩ | ⟨hc, m, e⟩ <;> rw [e, hc]
  · exact attachError_err r c
  · exact (firstErr_none_right _).symm

/-- The caching layer touches nothing but the status and the message. -/
theorem cachingPost_outputs (w : World) (req : Request) (r : Response) (o : ExecOracle) :
    ∃ st m, (cachingPost w req r o.ac o.hist).2 = { r with status := st, message := m } := by
  rcases cachingPost_response w req r o with ⟨c, _, e⟩ | ⟨_, m, e⟩
  · exact ⟨_, _, e.trans (attachError_eq r c)⟩
  · exact ⟨_, _, e⟩

theorem cachingPost_acCalls (w : World) (req : Request) (r : Response) (a h : Option Code) :
    ((cachingPost w req r a h).1.acCalls = w.acCalls + 1 ↔ cacheable req r) ∧
    ((cachingPost w req r a h).1.acCalls = w.acCalls ∨ (cachingPost w req r a h).1.acCalls = w.acCalls + 1) := by
  by_cases hc : cacheable req r
  · rw [cachingPost_world_of_cacheable hc]
    exact ⟨⟨fun _ => hc, fun _ => rfl⟩, .inr rfl⟩
  · rw [(cachingPost_world_of_not_cacheable hc w a h).2.1]
    exact ⟨⟨fun h => absurd h (Nat.ne_of_lt (Nat.lt_succ_self _)), fun h => absurd h hc⟩, .inl rfl⟩

/-- The Action Cache gains the entry exactly when the result is cacheable and
the Action Cache Put succeeds, and then the final status is OK. -/
theorem cachingPost_ac (w : World) (req : Request) (r : Response) (o : ExecOracle) :
    ((cachingPost w req r o.ac o.hist).1.ac = entryOf req r :: w.ac ∧ cacheable req r ∧ o.ac = none ∧
      (cachingPost w req r o.ac o.hist).2.status.err = none) ∨
    ((cachingPost w req r o.ac o.hist).1.ac = w.ac ∧ (¬ cacheable req r ∨ o.ac ≠ none)) := by
  by_cases hc : cacheable req r
  · rw [cachingPost_status, cachingPost_world_of_cacheable hc, cachingError_of_cacheable hc, hc.2.2.2.1]
    cases o.ac with
    | none => exact .inl ⟨rfl, hc, rfl, rfl⟩
    | some c => exact .inr ⟨rfl, .inr nofun⟩
  · exact .inr ⟨(cachingPost_world_of_not_cacheable hc w o.ac o.hist).1, .inl hc⟩

/-- What the caching layer sees is cacheable iff the request allows it, the
inner executor reported success and the flush returned nil. -/
theorem cacheable_flushingPost (req : Request) (s : Store) (resp : Response) (o : FlushOracle) :
    cacheable req (flushingPost s resp o).2.1 ↔
      (req.digestValid = true ∧ req.actionPresent = true ∧ req.doNotCache = false ∧
        resp.status.err = none ∧ resp.exitCode = 0 ∧ (flushingPost s resp o).2.2 = none) := by
  unfold cacheable
  rw [flushingPost_status, flushingPost_exitCode, firstErr_eq_none, and_right_comm, and_assoc]

/-! ### The composed pipeline -/

theorem execute_flushErr (w : World) (req : Request) (i : Inner) (o : ExecOracle) :
    (execute w req i o).flushErr = (flusher (runPuts w.store i.puts).1 o.flush).2 :=
  flushingPost_err _ _ _

theorem execute_store (w : World) (req : Request) (i : Inner) (o : ExecOracle) :
    (execute w req i o).world.store = (flusher (runPuts w.store i.puts).1 o.flush).1 :=
  (cachingPost_store _ req _ o.ac o.hist).trans (flushingPost_store _ _ _)

end BbRe.Lemmas.Pipeline
