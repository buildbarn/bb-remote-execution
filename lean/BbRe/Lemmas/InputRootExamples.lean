import BbRe.Lemmas.InputRootEager
import BbRe.Lemmas.InputRootState
/-!
Vocabulary and concrete objects used by `Properties/C17.lean` (kept out of the
property namespace, which holds theorems only).
-/
namespace BbRe.Lemmas.InputRoot
open BbRe.InputRoot

/-- A history without storage faults. -/
def noFaults (ops : List Op) : List (List Dig × Op) := ops.map fun o => ([], o)

/-- The refusals of a CAS backed file. -/
def isRefusal (o : Out) : Prop :=
  o = .status .eacces ∨ o = .status .ewrongtype ∨ o = .unreachable

/-- The same history without any `UnreadDirectoryMonitor`. -/
def unmonitored : Op → Op
  | .merge d _ => .merge d false
  | op => op

namespace Ex

/-- digests "a0", "b0", "c0", "f1", "f2" of a store with 2-character hashes -/
def dA : Dig := ⟨[97, 48], 7⟩
def dB : Dig := ⟨[98, 48], 5⟩
def dC : Dig := ⟨[99, 48], 3⟩
def f1 : Dig := ⟨[102, 49], 4⟩
def f2 : Dig := ⟨[102, 50], 0⟩
def raw (d : Dig) : RawDigest := ⟨true, d.hash, d.size⟩

/-- root `a0` = { sub/ → b0, shared/ → c0, bad/ → b0' (malformed), x (exec file), l → "t" },
`b0` = { again/ → c0, y }, `c0` = {} (shared empty directory),
`dd` = a directory that lists the name "y" twice (file and symlink). -/
def dD : Dig := ⟨[100, 100], 9⟩
def exCAS : CAS where
  hashLen := 2
  dirs := [
    (dA, some ⟨[⟨[115], raw dB⟩, ⟨[104], raw dC⟩, ⟨[98], raw dD⟩], [⟨[120], raw f1, true⟩], [⟨[108], [116]⟩]⟩),
    (dB, some ⟨[⟨[97], raw dC⟩], [⟨[121], raw f2, false⟩], []⟩),
    (dC, some ⟨[], [], []⟩),
    (dD, some ⟨[], [⟨[121], raw f1, false⟩], [⟨[121], [116]⟩]⟩)]
  blobs := [(f1, [1, 2, 3, 4]), (f2, [])]

/-- `exCAS` is a DAG. -/
theorem exCAS_acyclic : Acyclic exCAS (fun d => if d = dA then 2 else if d = dB then 1 else 0) :=
  acyclic_of_check (by decide +kernel)

end Ex
end BbRe.Lemmas.InputRoot
