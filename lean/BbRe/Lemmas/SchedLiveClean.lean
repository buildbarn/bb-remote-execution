import BbRe.Lemmas.SchedLiveWorker7
/-!
Cleanup accounting (C06): every object the scheduler created on behalf of a
client or worker is either actively held (a worker inside `Synchronize`, an
operation with waiters, a background operation of an uncompleted task, a
removable queue with workers) or has exactly one armed cleanup entry.
-/
namespace BbRe.Lemmas.SchedLive
open BbRe.Sched

/-- an entry of kind `k` is armed -/
def hasK (s : State) (k : CleanupKind) : Prop := ∃ e ∈ s.cleanup, e.kind = k

theorem hasCleanup_iff (s : State) (k : CleanupKind) : s.hasCleanup k = true ↔ hasK s k := by
  unfold State.hasCleanup hasK
  simp only [List.any_eq_true, decide_eq_true_eq]

theorem hasK_congr {s s' : State} (h : s'.cleanup = s.cleanup) (k : CleanupKind) : hasK s' k ↔ hasK s k := by
  unfold hasK; rw [h]

theorem hasK_add (s : State) (d : Nat) (k0 k : CleanupKind) : hasK (s.addCleanup d k0) k ↔ k = k0 ∨ hasK s k := by
  unfold hasK
  simp only [addCleanup_cleanup, List.mem_cons]
  constructor
  · rintro ⟨e, rfl | he, hk⟩
    · exact .inl hk.symm
    · exact .inr ⟨e, he, hk⟩
  · rintro (rfl | ⟨e, he, hk⟩)
    · exact ⟨_, .inl rfl, rfl⟩
    · exact ⟨e, .inr he, hk⟩

theorem hasK_remove (s : State) (k0 k : CleanupKind) : hasK (s.removeCleanup k0) k ↔ k ≠ k0 ∧ hasK s k := by
  unfold hasK
  simp only [removeCleanup_cleanup, List.mem_filter, decide_eq_true_eq]
  constructor
  · rintro ⟨e, ⟨he, hne⟩, hk⟩; exact ⟨hk ▸ hne, e, he, hk⟩
  · rintro ⟨hne, e, he, hk⟩; exact ⟨e, ⟨he, hk ▸ hne⟩, hk⟩

theorem uniq_add {s : State} {d : Nat} {k : CleanupKind} (hno : ¬ hasK s k) (hu : (s.cleanup.map (·.kind)).Nodup) :
    ((s.addCleanup d k).cleanup.map (·.kind)).Nodup := by
  rw [addCleanup_cleanup, List.map_cons, List.nodup_cons]
  refine ⟨fun hmem => hno ?_, hu⟩
  obtain ⟨e, he, hk⟩ := List.mem_map.1 hmem; exact ⟨e, he, hk⟩

theorem uniq_filter {l : List CleanupEntry} (p : CleanupEntry → Bool) (hu : (l.map (·.kind)).Nodup) :
    ((l.filter p).map (·.kind)).Nodup :=
  hu.sublist (List.filter_sublist.map _)

/-- after popping entry `e` (all copies) from a queue with distinct kinds, exactly its kind disappears -/
theorem hasK_pop {s : State} {e : CleanupEntry} (hn : (s.cleanup.map (·.kind)).Nodup) (he : e ∈ s.cleanup)
    (k : CleanupKind) : hasK (setCleanup s (s.cleanup.filter (fun x => x ≠ e))) k ↔ k ≠ e.kind ∧ hasK s k := by
  unfold hasK
  simp only [setCleanup_cleanup, List.mem_filter, decide_eq_true_eq]
  constructor
  · rintro ⟨x, ⟨hx, hne⟩, hk⟩
    refine ⟨?_, x, hx, hk⟩
    exact fun hke => hne (eq_of_nodup_map hn hx he (hk.trans hke))
  · rintro ⟨hne, x, hx, hk⟩
    exact ⟨x, ⟨hx, fun h => hne (by rw [← hk, h])⟩, hk⟩

/-- objects temporarily exempt from the "held or armed" clauses in the middle of a segment: an operation
that was just created and is about to be attached to (or whose entry was just popped), a size-class queue /
a worker whose cleanup entry was just popped and whose callback is running -/
structure Ex where
  op : Option Nat := none
  scq : Option ScqId := none
  wk : Option (ScqId × WId) := none

/-- **Cleanup accounting invariant** (with exemptions `x`, all `none` between segments). -/
structure CInv (x : Ex) (s : State) : Prop where
  uniq : (s.cleanup.map (·.kind)).Nodup
  wIn : ∀ wk ∈ s.workers, wk.inSync = true → ¬ hasK s (.worker wk.scq wk.id)
  wOut : ∀ wk ∈ s.workers, wk.inSync = false → some (wk.scq, wk.id) ≠ x.wk → hasK s (.worker wk.scq wk.id)
  eW : ∀ q w, hasK s (.worker q w) → ∃ wk ∈ s.workers, wk.scq = q ∧ wk.id = w
  eO : ∀ o, hasK s (.op o) → ∃ op, s.op? o = some op ∧ op.waiters = 0 ∧ op.mayExistWithoutWaiters = false
  eS : ∀ q, hasK s (.scq q) → (∃ sq, s.scq? q = some sq ∧ sq.mayBeRemoved = true) ∧ ∀ wk ∈ s.workers, wk.scq ≠ q
  opBg : ∀ o op, s.op? o = some op → op.mayExistWithoutWaiters = true →
    ∃ t, s.task? op.task = some t ∧ t.response = none
  opFg : ∀ o op, s.op? o = some op → op.mayExistWithoutWaiters = false → some o ≠ x.op →
    0 < op.waiters ∨ hasK s (.op o)
  opT : ∀ o op, s.op? o = some op → ∃ t, s.task? op.task = some t ∧ o ∈ t.ops
  scqW : ∀ q sq, s.scq? q = some sq → sq.mayBeRemoved = true → some q ≠ x.scq →
    (∃ wk ∈ s.workers, wk.scq = q) ∨ hasK s (.scq q)
  wScq : ∀ wk ∈ s.workers, ∃ sq, s.scq? wk.scq = some sq
  exScq : ∀ q, x.scq = some q → (∀ wk ∈ s.workers, wk.scq ≠ q) ∧ ¬ hasK s (.scq q)
  exWk : ∀ q w, x.wk = some (q, w) → ¬ hasK s (.worker q w)

theorem mem_of_map_eq {α β} {f : α → β} {l l' : List α} (h : l'.map f = l.map f) {a' : α} (ha : a' ∈ l') :
    ∃ a ∈ l, f a = f a' := by
  have : f a' ∈ l.map f := h ▸ List.mem_map.2 ⟨a', ha, rfl⟩
  obtain ⟨a, ha, e⟩ := List.mem_map.1 this
  exact ⟨a, ha, e⟩

/-- lookups by id in two queue lists with equal `(id, mayBeRemoved)` projections agree on these -/
theorem find?_scq_proj {l l' : List Scq} (h : l'.map (fun q => (q.id, q.mayBeRemoved)) = l.map (fun q => (q.id, q.mayBeRemoved)))
    (q : ScqId) :
    (l'.find? (fun y => y.id = q)).map (fun q => (q.id, q.mayBeRemoved)) =
      (l.find? (fun y => y.id = q)).map (fun q => (q.id, q.mayBeRemoved)) := by
  induction l generalizing l' with
  | nil => cases l' <;> simp_all
  | cons a r ih =>
    cases l' with
    | nil => simp at h
    | cons a' r' =>
      simp only [List.map_cons, List.cons.injEq, Prod.mk.injEq] at h
      simp only [List.find?_cons, h.1.1]
      by_cases hq : a.id = q
      · simp [hq, h.1.1, h.1.2]
      · simp only [hq, decide_false]; exact ih h.2

/-- what the accounting invariant depends on is unchanged -/
structure CFrame (s s' : State) : Prop where
  cleanup : s'.cleanup = s.cleanup
  workers : s'.workers.map (fun w => (w.scq, w.id, w.inSync)) = s.workers.map (fun w => (w.scq, w.id, w.inSync))
  scqs : ∀ q, (s'.scq? q).map (·.mayBeRemoved) = (s.scq? q).map (·.mayBeRemoved)
  ops : s'.ops = s.ops
  tasks : ∀ k, (s'.task? k).map (fun t => (t.response.isSome, t.ops)) = (s.task? k).map (fun t => (t.response.isSome, t.ops))

theorem CFrame.refl (s : State) : CFrame s s := ⟨rfl, rfl, fun _ => rfl, rfl, fun _ => rfl⟩

theorem CFrame.trans {a b c : State} (h1 : CFrame a b) (h2 : CFrame b c) : CFrame a c :=
  ⟨h2.cleanup.trans h1.cleanup, h2.workers.trans h1.workers, fun q => (h2.scqs q).trans (h1.scqs q), h2.ops.trans h1.ops,
   fun k => (h2.tasks k).trans (h1.tasks k)⟩

theorem CInv.frame {x : Ex} {s s' : State} (h : CInv x s) (f : CFrame s s') : CInv x s' := by
  have hk : ∀ k, hasK s' k ↔ hasK s k := hasK_congr f.cleanup
  have wfwd : ∀ wk' ∈ s'.workers, ∃ wk ∈ s.workers, wk.scq = wk'.scq ∧ wk.id = wk'.id ∧ wk.inSync = wk'.inSync := by
    intro wk' hm
    obtain ⟨wk, hm', e⟩ := mem_of_map_eq f.workers hm
    simp only [Prod.mk.injEq] at e
    exact ⟨wk, hm', e.1, e.2.1, e.2.2⟩
  have wbwd : ∀ wk ∈ s.workers, ∃ wk' ∈ s'.workers, wk'.scq = wk.scq ∧ wk'.id = wk.id ∧ wk'.inSync = wk.inSync := by
    intro wk hm
    obtain ⟨wk', hm', e⟩ := mem_of_map_eq f.workers.symm hm
    simp only [Prod.mk.injEq] at e
    exact ⟨wk', hm', e.1, e.2.1, e.2.2⟩
  have qfwd : ∀ q sq', s'.scq? q = some sq' → ∃ sq, s.scq? q = some sq ∧ sq.mayBeRemoved = sq'.mayBeRemoved := by
    intro q sq' e
    have := f.scqs q
    rw [e] at this
    cases hs : s.scq? q with
    | none => rw [hs] at this; cases this
    | some sq =>
      rw [hs] at this; simp only [Option.map_some, Option.some.injEq] at this
      exact ⟨sq, rfl, this.symm⟩
  have qbwd : ∀ q sq, s.scq? q = some sq → ∃ sq', s'.scq? q = some sq' ∧ sq'.mayBeRemoved = sq.mayBeRemoved := by
    intro q sq e
    have := f.scqs q
    rw [e] at this
    cases hs : s'.scq? q with
    | none => rw [hs] at this; cases this
    | some sq' =>
      rw [hs] at this; simp only [Option.map_some, Option.some.injEq] at this
      exact ⟨sq', rfl, this⟩
  have hop : ∀ o, s'.op? o = s.op? o := by intro o; simp [State.op?, f.ops]
  have htask' : ∀ k t, s.task? k = some t → ∃ t', s'.task? k = some t' ∧ t'.response.isSome = t.response.isSome ∧ t'.ops = t.ops := by
    intro k t e
    have := f.tasks k
    rw [e] at this
    cases hs : s'.task? k with
    | none => rw [hs] at this; cases this
    | some t' =>
      rw [hs] at this; simp only [Option.map_some, Option.some.injEq, Prod.mk.injEq] at this
      exact ⟨t', rfl, this.1, this.2⟩
  refine ⟨by rw [f.cleanup]; exact h.uniq, ?_, ?_, ?_, ?_, ?_, ?_, ?_, ?_, ?_, ?_, ?_, ?_⟩
  · intro wk' hm hi
    obtain ⟨wk, hm', e1, e2, e3⟩ := wfwd wk' hm
    rw [hk, ← e1, ← e2]; exact h.wIn wk hm' (e3.trans hi)
  · intro wk' hm hi hx
    obtain ⟨wk, hm', e1, e2, e3⟩ := wfwd wk' hm
    rw [hk, ← e1, ← e2]; exact h.wOut wk hm' (e3.trans hi) (by rw [e1, e2]; exact hx)
  · intro q w hh
    obtain ⟨wk, hm, e1, e2⟩ := h.eW q w ((hk _).1 hh)
    obtain ⟨wk', hm', a1, a2, _⟩ := wbwd wk hm
    exact ⟨wk', hm', a1.trans e1, a2.trans e2⟩
  · intro o hh; rw [hop]; exact h.eO o ((hk _).1 hh)
  · intro q hh
    obtain ⟨⟨sq, e1, e2⟩, hno⟩ := h.eS q ((hk _).1 hh)
    obtain ⟨sq', a1, a2⟩ := qbwd q sq e1
    refine ⟨⟨sq', a1, a2.trans e2⟩, ?_⟩
    intro wk' hm'' e
    obtain ⟨wk, hm3, b1, _⟩ := wfwd wk' hm''
    exact hno wk hm3 (b1.trans e)
  · intro o op ho hb
    rw [hop] at ho
    obtain ⟨t, e1, e2⟩ := h.opBg o op ho hb
    obtain ⟨t', a1, a2, _⟩ := htask' _ t e1
    refine ⟨t', a1, ?_⟩
    cases hr : t'.response with
    | none => rfl
    | some r => rw [hr, e2] at a2; cases a2
  · intro o op ho hb hx
    rw [hop] at ho; rw [hk]; exact h.opFg o op ho hb hx
  · intro o op ho
    rw [hop] at ho
    obtain ⟨t, e1, e2⟩ := h.opT o op ho
    obtain ⟨t', a1, _, a3⟩ := htask' _ t e1
    exact ⟨t', a1, a3 ▸ e2⟩
  · intro q sq' e hb hx
    obtain ⟨sq, e1, e2⟩ := qfwd q sq' e
    rcases h.scqW q sq e1 (e2.trans hb) hx with ⟨wk, hmw, ew⟩ | hh
    · obtain ⟨wk', hmw', a1, _⟩ := wbwd wk hmw
      exact .inl ⟨wk', hmw', a1.trans ew⟩
    · exact .inr ((hk _).2 hh)
  · intro wk' hm
    obtain ⟨wk, hm', e1, _⟩ := wfwd wk' hm
    obtain ⟨sq, es⟩ := h.wScq wk hm'
    obtain ⟨sq', a1, _⟩ := qbwd _ sq es
    exact ⟨sq', by rw [← e1]; exact a1⟩
  · intro q hq
    obtain ⟨a, b⟩ := h.exScq q hq
    refine ⟨?_, fun hh => b ((hk _).1 hh)⟩
    intro wk' hm e
    obtain ⟨wk, hm', e1, _⟩ := wfwd wk' hm
    exact a wk hm' (e1.trans e)
  · intro q w hq hh; exact h.exWk q w hq ((hk _).1 hh)

def noEx : Ex := {}

/-! The clauses of `CInv` fall into three groups, about workers, operations (with their tasks) and queues,
which share only the cleanup queue and, for queues, the worker list.  A primitive that touches only operations
and tasks shows the operation clauses (`CInv.of_ops`); one that touches only workers and queues carries them
over (`OpClauses.congr`). -/

/-- the clauses about operations: what they read of the state are `op?`, `task?` and the `.op` entries -/
structure OpClauses (xo : Option Nat) (s : State) : Prop where
  eO : ∀ o, hasK s (.op o) → ∃ op, s.op? o = some op ∧ op.waiters = 0 ∧ op.mayExistWithoutWaiters = false
  opBg : ∀ o op, s.op? o = some op → op.mayExistWithoutWaiters = true →
    ∃ t, s.task? op.task = some t ∧ t.response = none
  opFg : ∀ o op, s.op? o = some op → op.mayExistWithoutWaiters = false → some o ≠ xo →
    0 < op.waiters ∨ hasK s (.op o)
  opT : ∀ o op, s.op? o = some op → ∃ t, s.task? op.task = some t ∧ o ∈ t.ops

theorem CInv.ops {x : Ex} {s : State} (hc : CInv x s) : OpClauses x.op s := ⟨hc.eO, hc.opBg, hc.opFg, hc.opT⟩

/-- operations, tasks and `.op` entries unchanged -/
theorem OpClauses.congr {xo : Option Nat} {s s' : State} (h : OpClauses xo s) (ho : s'.ops = s.ops)
    (ht : s'.tasks = s.tasks) (hK : ∀ o, hasK s' (.op o) ↔ hasK s (.op o)) : OpClauses xo s' := by
  have hop : ∀ o, s'.op? o = s.op? o := fun o => by simp only [State.op?, ho]
  have htk : ∀ k, s'.task? k = s.task? k := fun k => by simp only [State.task?, ht]
  refine ⟨?_, ?_, ?_, ?_⟩
  · intro o hh; rw [hop]; exact h.eO o ((hK o).1 hh)
  · intro o op e hb; rw [htk]; exact h.opBg o op (hop o ▸ e) hb
  · intro o op e hb hx; rw [hK]; exact h.opFg o op (hop o ▸ e) hb hx
  · intro o op e; rw [htk]; exact h.opT o op (hop o ▸ e)

/-- the cleanup queue changed at most in its `.op` entries -/
def OpEntriesOnly (s s' : State) : Prop := ∀ k, (∀ o, k ≠ .op o) → (hasK s' k ↔ hasK s k)

theorem OpEntriesOnly.of_eq {s s' : State} (h : s'.cleanup = s.cleanup) : OpEntriesOnly s s' :=
  fun k _ => hasK_congr h k

theorem OpEntriesOnly.add {s s' : State} (h : OpEntriesOnly s s') (d o : Nat) : OpEntriesOnly s (s'.addCleanup d (.op o)) :=
  fun k hk => by rw [hasK_add, h k hk]; exact or_iff_right (hk o)

/-- a change confined to operations, tasks and `.op` entries: only the operation clauses are to be shown -/
theorem CInv.of_ops {x x' : Ex} {s s' : State} (hc : CInv x s) (hu : (s'.cleanup.map (·.kind)).Nodup)
    (hK : OpEntriesOnly s s') (hw : s'.workers = s.workers) (hq : s'.scqs = s.scqs) (hxw : x'.wk = x.wk)
    (hxq : x'.scq = x.scq) (ho : OpClauses x'.op s') : CInv x' s' := by
  have kw : ∀ q w, hasK s' (.worker q w) ↔ hasK s (.worker q w) := fun q w => hK _ (fun _ => nofun)
  have kq : ∀ q, hasK s' (.scq q) ↔ hasK s (.scq q) := fun q => hK _ (fun _ => nofun)
  have hscq : ∀ q, s'.scq? q = s.scq? q := fun q => by simp only [State.scq?, hq]
  refine ⟨hu, ?_, ?_, ?_, ho.eO, ?_, ho.opBg, ho.opFg, ho.opT, ?_, ?_, ?_, ?_⟩
  · intro wk hm hi; rw [kw]; exact hc.wIn wk (hw ▸ hm) hi
  · intro wk hm hi hx; rw [kw]; exact hc.wOut wk (hw ▸ hm) hi (hxw ▸ hx)
  · intro q w hh; rw [hw]; exact hc.eW q w ((kw q w).1 hh)
  · intro q hh; rw [hw, hscq]; exact hc.eS q ((kq q).1 hh)
  · intro q sq e hb hx; rw [hw, kq]; exact hc.scqW q sq (hscq q ▸ e) hb (hxq ▸ hx)
  · intro wk hm; rw [hscq]; exact hc.wScq wk (hw ▸ hm)
  · intro q e; rw [hw, kq]; exact hc.exScq q (hxq ▸ e)
  · intro q w e; rw [kw]; exact hc.exWk q w (hxw ▸ e)

/-- adding an operation exemption -/
theorem CInv.exempt {s : State} (o : Option Nat) (h : CInv noEx s) : CInv { op := o } s :=
  ⟨h.uniq, h.wIn, h.wOut, h.eW, h.eO, h.eS, h.opBg, fun k op a b _ => h.opFg k op a b (by simp [noEx]), h.opT, h.scqW,
   h.wScq, (fun _ hq => nomatch hq), (fun _ _ hq => nomatch hq)⟩

/-- the exemptions may be dropped once the exempt objects satisfy their "held or armed" clauses again -/
theorem CInv.unexempt {x : Ex} {s : State} (hc : CInv x s)
    (hwk : ∀ wk ∈ s.workers, wk.inSync = false → some (wk.scq, wk.id) = x.wk → hasK s (.worker wk.scq wk.id))
    (hop : ∀ o op, s.op? o = some op → op.mayExistWithoutWaiters = false → some o = x.op →
      0 < op.waiters ∨ hasK s (.op o))
    (hscq : ∀ q sq, s.scq? q = some sq → sq.mayBeRemoved = true → some q = x.scq →
      (∃ wk ∈ s.workers, wk.scq = q) ∨ hasK s (.scq q)) : CInv noEx s := by
  refine ⟨hc.uniq, hc.wIn, ?_, hc.eW, hc.eO, hc.eS, hc.opBg, ?_, hc.opT, ?_, hc.wScq, (fun _ hq => nomatch hq),
    (fun _ _ hq => nomatch hq)⟩
  · intro wk hm hi _
    exact Classical.byCases (hwk wk hm hi) (hc.wOut wk hm hi)
  · intro o op e hb _
    exact Classical.byCases (hop o op e hb) (hc.opFg o op e hb)
  · intro q sq e hb _
    exact Classical.byCases (hscq q sq e hb) (hc.scqW q sq e hb)

end BbRe.Lemmas.SchedLive
