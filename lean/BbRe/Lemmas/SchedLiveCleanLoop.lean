import BbRe.Lemmas.SchedLiveCleanComplete
import BbRe.Lemmas.SchedLiveRoute
/-!
Cleanup accounting through the cleanup callbacks (stale worker, operation, queue), `runCleanup` and `enter`.
-/
namespace BbRe.Lemmas.SchedLive
open BbRe.Sched

/-- the object whose entry was just popped is exempt until its callback has run -/
def exOf : CleanupKind → Ex
  | .worker q w => { wk := some (q, w) }
  | .op o => { op := some o }
  | .scq q => { scq := some q }

/-- popping an entry leaves the invariant intact up to the exemption of its object -/
theorem pop_cinv {s : State} {e : CleanupEntry} (hc : CInv noEx s) (he : e ∈ s.cleanup) :
    CInv (exOf e.kind) (setCleanup s (s.cleanup.filter (fun x => x ≠ e))) := by
  have hp := hasK_pop hc.uniq he
  have hsub : ∀ k, hasK (setCleanup s (s.cleanup.filter (fun x => x ≠ e))) k → hasK s k := fun k h => ((hp k).1 h).2
  have hkeep : ∀ k, k ≠ e.kind → hasK s k → hasK (setCleanup s (s.cleanup.filter (fun x => x ≠ e))) k :=
    fun k h1 h2 => (hp k).2 ⟨h1, h2⟩
  have hek : hasK s e.kind := ⟨e, he, rfl⟩
  refine ⟨?_, ?_, ?_, ?_, ?_, ?_, hc.opBg, ?_, hc.opT, ?_, hc.wScq, ?_, ?_⟩
  · exact uniq_filter _ hc.uniq
  · intro wk hm hi hh; exact hc.wIn wk hm hi (hsub _ hh)
  · intro wk hm hi hx
    refine hkeep _ ?_ (hc.wOut wk hm hi (by simp [noEx]))
    intro hk; rw [← hk] at hx; simp [exOf] at hx
  · intro q w hh; exact hc.eW q w (hsub _ hh)
  · intro o hh; exact hc.eO o (hsub _ hh)
  · intro q hh; exact hc.eS q (hsub _ hh)
  · intro o op ho hb hx
    rcases hc.opFg o op ho hb (by simp [noEx]) with h | h
    · exact .inl h
    · refine .inr (hkeep _ ?_ h)
      intro hk; rw [← hk] at hx; simp [exOf] at hx
  · intro q sq hq hb hx
    rcases hc.scqW q sq hq hb (by simp [noEx]) with h | h
    · exact .inl h
    · refine .inr (hkeep _ ?_ h)
      intro hk; rw [← hk] at hx; simp [exOf] at hx
  · intro q hq
    have hk : e.kind = .scq q := by
      cases hkk : e.kind <;> simp [exOf, hkk] at hq
      subst hq; rfl
    refine ⟨(hc.eS q (hk ▸ hek)).2, ?_⟩
    intro hh; exact ((hp _).1 hh).1 hk.symm
  · intro q w hq
    have hk : e.kind = .worker q w := by
      cases hkk : e.kind <;> simp [exOf, hkk] at hq
      obtain ⟨rfl, rfl⟩ := hq; rfl
    intro hh; exact ((hp _).1 hh).1 hk.symm

/-- invariant bundle carried through the cleanup loop -/
def KWC (x : Ex) (s : State) : Prop := KW s ∧ CInv x s

theorem KWC.same {x : Ex} {s s' : State} (hi : KWC x s) (hc : s'.cleanup = s.cleanup := by simp)
    (hw : s'.workers = s.workers := by simp) (hq : s'.scqs = s.scqs := by simp) (ho : s'.ops = s.ops := by simp)
    (ht : s'.tasks = s.tasks := by simp) (hnt : s'.nextTask = s.nextTask := by simp)
    (hno : s'.nextOp = s.nextOp := by simp) : KWC x s' :=
  ⟨KWStep.of_same hw hnt hq ht ho hno hi.1, hi.2.same hc hw hq ho ht⟩

theorem complete_kwc {x : Ex} {h : Hints} {s s' : State} {tid : Nat} {r : Resp} {bw : Bool}
    (hh : complete h s tid r bw = .ok s') (hi : KWC x s) : KWC x s' :=
  ⟨complete_kw hh hi.1, complete_cinv hh hi.1 hi.2⟩

theorem cancelAllQueued_kwc {x : Ex} {h : Hints} {s s' : State} {q : ScqId} {r : Resp}
    (hh : cancelAllQueued h s q r = .ok s') (hi : KWC x s) : KWC x s' :=
  cancelAllQueued_inv (KWC x) (fun _ _ _ hi' h1 => complete_kwc h1 hi') hi hh

theorem eraseOp_cinv {s : State} {o : Nat} (hk : KeysOK s) (hc : CInv { op := some o } s) (hno : ¬ hasK s (.op o)) :
    CInv noEx (eraseOp s o) := by
  have hop : ∀ k, (eraseOp s o).op? k = if o = k then none else s.op? k := by
    intro k; simp [State.op?, alookup_aerase _ _ _ hk.onodup]
  refine hc.of_ops (by simpa using hc.uniq) (.of_eq (by simp)) (by simp) (by simp) rfl rfl ⟨?_, ?_, ?_, ?_⟩
  · intro o' hh
    obtain ⟨op, e, a, b⟩ := hc.eO o' hh
    have : ¬ o = o' := by intro e'; subst e'; exact hno hh
    exact ⟨op, by rw [hop]; simp [this, e], a, b⟩
  · intro k op e hb
    rw [hop] at e; split at e
    · cases e
    · exact hc.opBg k op e hb
  · intro k op e hb _
    rw [hop] at e; split at e
    · cases e
    · rename_i hne; exact hc.opFg k op e hb (by simp; exact fun e' => hne e'.symm)
  · intro k op e
    rw [hop] at e; split at e
    · cases e
    · exact hc.opT k op e

theorem dropOpT_cinv {s : State} {t : Task} {k0 : Nat} {o : Nat} (hk : KeysOK s) (hc : CInv noEx s)
    (h0 : s.task? k0 = some t) (hno : s.op? o = none) : CInv noEx (dropOpT s t o) := by
  have hid := (hk.tid k0 t h0).1
  unfold dropOpT
  split
  · rename_i hemp
    -- no operation refers to the erased task
    have hnone : ∀ k op, s.op? k = some op → op.task ≠ t.id := by
      intro k op e htk
      obtain ⟨t1, e1, e2⟩ := hc.opT k op e
      rw [htk, hid, h0] at e1; injection e1 with e1; subst e1
      have hko : k ≠ o := by intro e'; subst e'; rw [hno] at e; cases e
      have : k ∈ t.ops.filter (· ≠ o) := List.mem_filter.2 ⟨e2, by simpa using hko⟩
      rw [List.isEmpty_iff] at hemp; rw [hemp] at this; cases this
    have htk : ∀ k, k ≠ t.id → ({ s with tasks := aerase t.id s.tasks } : State).task? k = s.task? k := by
      intro k hk'; simp [State.task?, alookup_aerase_ne _ _ _ (Ne.symm hk')]
    refine hc.of_ops hc.uniq (.of_eq rfl) rfl rfl rfl rfl ⟨hc.eO, ?_, hc.opFg, ?_⟩
    · intro k op e hb
      obtain ⟨t1, e1, e2⟩ := hc.opBg k op e hb
      exact ⟨t1, by rw [htk _ (hnone k op e)]; exact e1, e2⟩
    · intro k op e
      obtain ⟨t1, e1, e2⟩ := hc.opT k op e
      exact ⟨t1, by rw [htk _ (hnone k op e)]; exact e1, e2⟩
  · have htk : ∀ k, (s.setTask { t with ops := t.ops.filter (· ≠ o) }).task? k =
        if k0 = k then some { t with ops := t.ops.filter (· ≠ o) } else s.task? k := by
      intro k; simp [State.task?, alookup_aset, hid]
    refine hc.of_ops hc.uniq (.of_eq rfl) rfl rfl rfl rfl ⟨hc.eO, ?_, hc.opFg, ?_⟩
    · intro k op e hb
      obtain ⟨t1, e1, e2⟩ := hc.opBg k op e hb
      rw [htk]
      split
      · rename_i hkk; rw [← hkk, h0] at e1; injection e1 with e1; subst e1; exact ⟨_, rfl, e2⟩
      · exact ⟨t1, e1, e2⟩
    · intro k op e
      obtain ⟨t1, e1, e2⟩ := hc.opT k op e
      rw [htk]
      split
      · rename_i hkk; rw [← hkk, h0] at e1; injection e1 with e1; subst e1
        have e' : s.op? k = some op := e
        have hko : k ≠ o := by intro e''; subst e''; rw [hno] at e'; cases e'
        exact ⟨_, rfl, List.mem_filter.2 ⟨e2, by simpa using hko⟩⟩
      · exact ⟨t1, e1, e2⟩

theorem removeOp_kwc {h : Hints} {P s' : State} {o : Nat} (hh : removeOp h P o = .ok s')
    (hi : KWC { op := some o } P) (hno : ¬ hasK P (.op o)) : KWC noEx s' := by
  obtain ⟨hkw, hc⟩ := hi
  refine ⟨removeOp_kw hh hkw, ?_⟩
  rcases removeOp_ok hh with ⟨hn, rfl⟩ | ⟨op, t, s1, t1, hop, _, h1, h2, rfl⟩
  · -- the operation is gone already: nothing is exempt
    refine hc.unexempt (fun _ _ _ h => nomatch h) ?_ (fun _ _ _ _ h => nomatch h)
    intro k opk e _ hk
    cases hk; rw [hn] at e; cases e
  · have hkE : KW (eraseOp P o) := KWStep.of (eraseOp_tstep True P o) (fun _ hw => winv_same hw (by simp) (by simp) (by simp) (by simp)) hkw
    have hcE := eraseOp_cinv hkw.1 hc hno
    have hlt : o < P.nextOp := (hkw.1.oname o op hop).2.1
    have hnoE : (eraseOp P o).op? o = none := by simp [State.op?, alookup_aerase _ _ _ hkw.1.onodup]
    have h1' : KWC noEx s1 ∧ s1.op? o = none := by
      rcases h1 with ⟨_, h1⟩ | ⟨_, rfl⟩
      · refine ⟨complete_kwc h1 ⟨hkE, hcE⟩, ?_⟩
        obtain ⟨_, rel⟩ := complete_tstep h1 hkE.1
        cases hs : s1.op? o with
        | none => rfl
        | some op1 =>
          obtain ⟨op0, e0, _⟩ := rel.ops o op1 hlt hs
          rw [hnoE] at e0; cases e0
      · exact ⟨⟨hkE, hcE⟩, hnoE⟩
    exact dropOpT_cinv h1'.1.1.1 h1'.1.2 h2 h1'.2

theorem dropWorker_workers (s : State) (q : ScqId) (w : WId) (rt : Nat) :
    (dropWorker s q w rt).workers = (filterWorkers s q w).workers := by
  unfold dropWorker; (repeat' split) <;> rfl

theorem find?_filter_id' {l : List Scq} {q q' : ScqId} (hne : q' ≠ q) :
    (l.filter (fun y => y.id ≠ q)).find? (fun y => y.id = q') = l.find? (fun y => y.id = q') := by
  induction l with
  | nil => rfl
  | cons a r ih =>
    by_cases ha : a.id = q
    · have h1 : (a :: r).filter (fun y => y.id ≠ q) = r.filter (fun y => y.id ≠ q) := by
        simp [ha]
      have h2 : ¬ a.id = q' := by rw [ha]; exact fun e => hne e.symm
      rw [h1, ih, List.find?_cons]; simp [h2]
    · have h1 : (a :: r).filter (fun y => y.id ≠ q) = a :: r.filter (fun y => y.id ≠ q) := by
        simp [ha]
      rw [h1, List.find?_cons, List.find?_cons, ih]

theorem find?_filter_self {l : List Scq} {q : ScqId} :
    (l.filter (fun y => y.id ≠ q)).find? (fun y => y.id = q) = none := by
  rw [List.find?_eq_none]
  intro x hx
  simpa using (List.mem_filter.1 hx).2

theorem dropScq_cinv {s : State} {q : ScqId} (hc : CInv { scq := some q } s) : CInv noEx (dropScq s q) := by
  have hscq : ∀ q', (dropScq s q).scq? q' = if q' = q then none else s.scq? q' := by
    intro q'
    simp only [State.scq?, dropScq_scqs]
    split
    · rename_i h; subst h; exact find?_filter_self
    · rename_i h; exact find?_filter_id' h
  have hkk : ∀ k, hasK (dropScq s q) k ↔ hasK s k := hasK_congr (by simp)
  have hop : ∀ k, (dropScq s q).op? k = s.op? k := by intro k; simp [State.op?]
  have htk : ∀ k, (dropScq s q).task? k = s.task? k := by intro k; simp [State.task?]
  obtain ⟨hnow, hnoe⟩ := hc.exScq q rfl
  refine ⟨by simpa using hc.uniq, ?_, ?_, ?_, ?_, ?_, ?_, ?_, ?_, ?_, ?_, (fun _ hq => nomatch hq), (fun _ _ hq => nomatch hq)⟩
  · intro wk hm hi; rw [hkk]; exact hc.wIn wk (by simpa using hm) hi
  · intro wk hm hi _; rw [hkk]; exact hc.wOut wk (by simpa using hm) hi (by simp)
  · intro q' w hh; simpa using hc.eW q' w ((hkk _).1 hh)
  · intro o hh; rw [hop]; exact hc.eO o ((hkk _).1 hh)
  · intro q' hh
    have hh' := (hkk _).1 hh
    have hne : q' ≠ q := by intro e; subst e; exact hnoe hh'
    obtain ⟨a, b⟩ := hc.eS q' hh'
    rw [hscq]; simp only [hne, if_false]
    exact ⟨a, by simpa using b⟩
  · intro o op e hb; rw [hop] at e; rw [htk]; exact hc.opBg o op e hb
  · intro o op e hb _; rw [hop] at e; rw [hkk]; exact hc.opFg o op e hb (by simp)
  · intro o op e; rw [hop] at e; rw [htk]; exact hc.opT o op e
  · intro q' sq e hb _
    rw [hscq] at e
    split at e
    · cases e
    · rename_i hne
      rw [hkk]
      rcases hc.scqW q' sq e hb (by simp; exact fun e' => hne e') with h | h
      · exact .inl (by simpa using h)
      · exact .inr h
  · intro wk hm
    have hm' : wk ∈ s.workers := by simpa using hm
    rw [hscq]
    have := hnow wk hm'
    simp only [this, if_false]
    exact hc.wScq wk hm'

theorem removeScq_kwc {h : Hints} {P s' : State} {q : ScqId} (hh : removeScq h P q = .ok s')
    (hi : KWC { scq := some q } P) : KWC noEx s' := by
  refine ⟨removeScq_kw hh hi.1, ?_⟩
  obtain ⟨s1, h1, rfl⟩ := removeScq_ok hh
  exact dropScq_cinv (cancelAllQueued_kwc h1 hi).2

theorem mem_filterWorkers {s : State} {q : ScqId} {w : WId} {x : Worker} :
    x ∈ (filterWorkers s q w).workers ↔ x ∈ s.workers ∧ ¬ (x.scq = q ∧ x.id = w) := by
  simp only [filterWorkers_workers, List.mem_filter, decide_eq_true_eq]

theorem dropWorker_cinv {s : State} {q : ScqId} {w : WId} (rt : Nat) (hc : CInv { wk := some (q, w) } s)
    (hex : ∃ wk ∈ s.workers, wk.scq = q ∧ wk.id = w) : CInv noEx (dropWorker s q w rt) := by
  obtain ⟨wk0, hm0, hq0, hw0⟩ := hex
  have hnoW : ¬ hasK s (.worker q w) := hc.exWk q w rfl
  have hnoS : ¬ hasK s (.scq q) := fun hh => (hc.eS q hh).2 wk0 hm0 hq0
  -- the state after filtering, before the optional new entry
  have base : ∀ (F : State), F.workers = (filterWorkers s q w).workers → F.scqs = s.scqs → F.ops = s.ops →
      F.tasks = s.tasks → (∀ k, hasK F k ↔ (hasK s k ∨ (k = .scq q ∧ hasK F (.scq q)))) →
      ((F.cleanup.map (·.kind)).Nodup) →
      ((∃ wk ∈ F.workers, wk.scq = q) ∨ hasK F (.scq q) ∨ ∀ sq, s.scq? q = some sq → sq.mayBeRemoved = false) →
      (hasK F (.scq q) → (∃ sq, s.scq? q = some sq ∧ sq.mayBeRemoved = true) ∧ ∀ wk ∈ F.workers, wk.scq ≠ q) →
      CInv noEx F := by
    intro F fw fq fo ft fk fu fcase fnew
    have hscq : ∀ q', F.scq? q' = s.scq? q' := by intro q'; simp [State.scq?, fq]
    have hmono : ∀ k, hasK s k → hasK F k := fun k h => (fk k).2 (.inl h)
    have hmem : ∀ x, x ∈ F.workers ↔ x ∈ s.workers ∧ ¬ (x.scq = q ∧ x.id = w) := by
      intro x; rw [fw]; exact mem_filterWorkers
    have oc := hc.ops.congr fo ft (fun o => (fk _).trans (or_iff_left (fun h => nomatch h.1)))
    refine ⟨fu, ?_, ?_, ?_, oc.eO, ?_, oc.opBg, oc.opFg, oc.opT, ?_, ?_, (fun _ hq => nomatch hq), (fun _ _ hq => nomatch hq)⟩
    · intro x hx hi hh
      rcases (fk _).1 hh with h | ⟨e, _⟩
      · exact hc.wIn x ((hmem x).1 hx).1 hi h
      · cases e
    · intro x hx hi _
      obtain ⟨hx1, hx2⟩ := (hmem x).1 hx
      exact hmono _ (hc.wOut x hx1 hi (by simp; exact fun a b => hx2 ⟨a, b⟩))
    · intro q' w' hh
      rcases (fk _).1 hh with h | ⟨e, _⟩
      · obtain ⟨x, hx, e1, e2⟩ := hc.eW q' w' h
        refine ⟨x, (hmem x).2 ⟨hx, ?_⟩, e1, e2⟩
        rintro ⟨a, b⟩; rw [← e1, ← e2, a, b] at h; exact hnoW h
      · cases e
    · intro q' hh
      rw [hscq]
      rcases (fk _).1 hh with h | ⟨e, hF⟩
      · obtain ⟨a, b⟩ := hc.eS q' h
        exact ⟨a, fun x hx => b x ((hmem x).1 hx).1⟩
      · injection e with e; subst e; exact fnew hF
    · intro q' sq e hb _
      rw [hscq] at e
      rcases hc.scqW q' sq e hb (by simp) with ⟨x, hx, ex⟩ | h
      · by_cases hk : x.scq = q ∧ x.id = w
        · have hqq : q' = q := by rw [← ex, hk.1]
          subst hqq
          rcases fcase with h1 | h1 | h1
          · exact .inl h1
          · exact .inr h1
          · rw [h1 sq e] at hb; cases hb
        · exact .inl ⟨x, (hmem x).2 ⟨hx, hk⟩, ex⟩
      · exact .inr (hmono _ h)
    · intro x hx; rw [hscq]; exact hc.wScq x ((hmem x).1 hx).1
  unfold dropWorker
  have hsq := hc.wScq wk0 hm0
  rw [hq0] at hsq
  obtain ⟨sq, hsq⟩ := hsq
  have hsqF : (filterWorkers s q w).scq? q = some sq := hsq
  simp only [hsqF]
  split
  · rename_i hcond
    have hnoF : ∀ x ∈ (filterWorkers s q w).workers, x.scq ≠ q := by
      have := hcond.1
      simp only [Bool.not_eq_true', List.any_eq_false, decide_eq_true_eq] at this
      exact this
    refine base _ rfl rfl rfl rfl ?_ ?_ (.inr (.inl ((hasK_add _ _ _ _).2 (.inl rfl)))) ?_
    · intro k; rw [hasK_add]
      constructor
      · rintro (rfl | h)
        · exact .inr ⟨rfl, (hasK_add _ _ _ _).2 (.inl rfl)⟩
        · exact .inl h
      · rintro (h | ⟨rfl, _⟩)
        · exact .inr h
        · exact .inl rfl
    · exact uniq_add (s := filterWorkers s q w) hnoS hc.uniq
    · intro _; exact ⟨⟨sq, hsq, hcond.2⟩, hnoF⟩
  · rename_i hcond
    refine base _ rfl rfl rfl rfl ?_ hc.uniq ?_ ?_
    · intro k
      constructor
      · exact .inl
      · rintro (h | ⟨_, h⟩)
        · exact h
        · exact absurd h hnoS
    · by_cases hany : (filterWorkers s q w).workers.any (fun x => x.scq = q) = true
      · rw [List.any_eq_true] at hany
        obtain ⟨x, hx, ex⟩ := hany
        exact .inl ⟨x, hx, by simpa using ex⟩
      · refine .inr (.inr ?_)
        intro sq' e; rw [hsq] at e; injection e with e; subst e
        cases hb : sq.mayBeRemoved with
        | false => rfl
        | true => exact absurd ⟨by simpa only [Bool.not_eq_true', Bool.not_eq_true] using hany, hb⟩ hcond
    · intro h; exact absurd h hnoS

theorem removeStaleWorker_kwc {h : Hints} {P s' : State} {q : ScqId} {w : WId} {rt : Nat}
    (hh : removeStaleWorker h P q w rt = .ok s') (hi : KWC { wk := some (q, w) } P)
    (hin : ∀ wk, P.worker? q w = some wk → wk.inSync = false) : KWC noEx s' := by
  obtain ⟨hkw, hc⟩ := hi
  refine ⟨removeStaleWorker_kw hh hkw, ?_⟩
  rcases removeStaleWorker_ok hh with ⟨hn, rfl⟩ | ⟨wk, s1, hwk, h1, rfl⟩
  · refine hc.unexempt ?_ (fun _ _ _ _ h => nomatch h) (fun _ _ _ _ h => nomatch h)
    intro x hx _ e
    simp only [Option.some.injEq, Prod.mk.injEq] at e
    have := worker?_of_mem hkw.2.uniq hx
    rw [e.1, e.2, hn] at this; cases this
  · obtain ⟨hm, hq', hw'⟩ := worker?_mem hwk
    have hpk : wk.parked = false := (flags_of_not_inSync (hkw.2.ok wk hm) (hin wk hwk)).1
    rcases h1 with ⟨t, _, h1⟩ | ⟨_, rfl⟩
    · obtain ⟨keep, _⟩ := complete_keep (q := q) (w := w) h1 hkw.2
      obtain ⟨wk', e1, _⟩ := keep wk hwk hpk
      obtain ⟨hm', hq'', hw''⟩ := worker?_mem e1
      exact dropWorker_cinv rt (complete_cinv h1 hkw hc) ⟨wk', hm', hq'', hw''⟩
    · exact dropWorker_cinv rt hc ⟨wk, hm, hq', hw'⟩

/-- one iteration of the cleanup loop: pop the earliest due entry and run its callback -/
theorem callback_kwc {h : Hints} {s s' : State} {e : CleanupEntry} {rest : List CleanupEntry}
    (hi : KWC noEx s) (hp : popDue s.now s.cleanup = some (e, rest))
    (hh : callback h (setCleanup s rest) e = .ok s') : KWC noEx s' := by
  obtain ⟨hmem, _, _, rfl⟩ := popDue_some hp
  have hkwP : KW (setCleanup s (s.cleanup.filter (fun x => x ≠ e))) :=
    KWStep.of_same (by simp) (by simp) (by simp) (by simp) (by simp) (by simp) hi.1
  have hcP := pop_cinv hi.2 hmem
  have hpop := hasK_pop hi.2.uniq hmem
  unfold callback at hh
  cases hk : e.kind with
  | worker q w =>
    simp only [hk] at hh
    rw [hk] at hcP
    refine removeStaleWorker_kwc hh ⟨hkwP, hcP⟩ ?_
    intro wk hwk
    have hwk' : s.worker? q w = some wk := hwk
    obtain ⟨hm, hq, hw⟩ := worker?_mem hwk'
    cases hin : wk.inSync with
    | false => rfl
    | true => exact absurd (by rw [hq, hw, ← hk]; exact ⟨e, hmem, rfl⟩) (hi.2.wIn wk hm hin)
  | op o =>
    simp only [hk] at hh
    rw [hk] at hcP
    exact removeOp_kwc hh ⟨hkwP, hcP⟩ (fun hh' => ((hpop _).1 hh').1 hk.symm)
  | scq q =>
    simp only [hk] at hh
    rw [hk] at hcP
    exact removeScq_kwc hh ⟨hkwP, hcP⟩

theorem runCleanup_kwc {h : Hints} {f : Nat} {s s' : State} (hi : KWC noEx s) (hh : runCleanup h f s = .ok s') :
    KWC noEx s' :=
  runCleanup_inv (KWC noEx) (fun _ _ _ _ hi' hp hcb => callback_kwc hi' hp hcb) f s s' hi hh

theorem enter_kwc {h : Hints} {s s' : State} {t : Nat} (hi : KWC noEx s) (hh : enter h s t = .ok s') : KWC noEx s' := by
  rcases enter_ok hh with ⟨_, rfl⟩ | ⟨_, h1⟩
  · exact hi
  · exact runCleanup_kwc (s := setNow s t) hi.same h1

end BbRe.Lemmas.SchedLive
