import BbRe.Lemmas.SchedTreePrioFn
/-!
The invariants of the cached priorities for the RPC segments of the tree layer and in every reachable state:
the walk through the segments for any `I` that the tree-only updates keep (`CacheInv`), and `PrioOK` as its first
instance.
-/
namespace BbRe.Lemmas.SchedTree
open BbRe.Sched BbRe.SchedTree BbRe.Lemmas.SchedInv

variable {I : TState → Prop} (hC : CacheInv I)
include hC

/-! ### `Execute`, `WaitExecution` -/

theorem tExecDedup_kept {ts ts' : TState} {c tid : Nat} {t : Task} {inv : List Nat} {prio : Int}
    (hp : I ts) (hq : QB ts.s.nextOp ts) (hh : tExecDedup ts c tid t inv prio = .ok ts') : I ts' := by
  unfold tExecDedup at hh
  tpaths hh
  · cases hh; exact hC.setS _ (hC.create _ _ hp)
  · cases hh
    have hA : I ((ts.create t.scq inv).setOX ts.s.nextOp { inv := inv, prio := prio }) :=
      hC.setOX _ (hC.create _ _ hp) (hq.create _ _).notin
    exact hC.setS _ (hC.withIncExec _ _ _ _ hA)
  · cases hh
    have hA : I ((ts.create t.scq inv).setOX ts.s.nextOp { inv := inv, prio := prio }) :=
      hC.setOX _ (hC.create _ _ hp) (hq.create _ _).notin
    exact hC.setS _ (hC.withEnqueue _ _ _ hA (getOrCreate_pathEx _ _ _ _))

theorem tExecArrive_kept {h : Hints} {x : Extras} {ts ts' : TState} {now c digest dkey : Nat} {dnc : Bool}
    {comps : List Nat} {platform : Nat} {inv : List Nat} {prio : Int} (hI : TInv ts) (hp : I ts)
    (hh : tExecArrive h x ts now c digest dkey dnc comps platform inv prio = .ok ts') : I ts' := by
  unfold tExecArrive at hh
  tpaths hh
  all_goals have hI0 := tEnter_tinv hI (by assumption)
  all_goals have hp0 := tEnter_kept hC hI hp (by assumption)
  · exact tExecDedup_kept hC hp0 (qb_of_tinv hI0) hh
  · cases hh; exact hC.setS _ hp0
  · cases hh; exact hC.setS _ hp0
  · cases hh
    refine hC.setS _ (tSchedule_kept hC ?_ ?_ (by assumption))
    · refine hC.create _ _ (hC.setS _ (hC.setTX _ _ (hC.setOX _ hp0 ?_)))
      exact (qb_of_tinv hI0).notin
    · intro t' ht' o ho
      simp only [create_s, setS_s, task?_def, State.setOp, State.setTask, alookup_aset, if_true, Option.some.injEq] at ht'
      subst ht'
      simp only [List.mem_singleton] at ho
      subst ho
      show PathEx (getOrCreate _ _ _ _) _ (TState.invOf (TState.setOX _ _ _) _)
      rw [invOf_setOX]
      exact getOrCreate_pathEx _ _ _ _

theorem tWaitArrive_kept {h : Hints} {x : Extras} {ts ts' : TState} {now c name : Nat} (hI : TInv ts) (hp : I ts)
    (hh : tWaitArrive h x ts now c name = .ok ts') : I ts' := by
  unfold tWaitArrive at hh
  tpaths hh
  all_goals have hp0 := tEnter_kept hC hI hp (by assumption)
  all_goals (cases hh; exact hC.setS _ hp0)

theorem tStreamWake_kept {h : Hints} {x : Extras} {ts ts' : TState} {now c reason : Nat} (hI : TInv ts) (hp : I ts)
    (hh : tStreamWake h x ts now c reason = .ok ts') : I ts' := by
  obtain ⟨ts0, s, he, rfl, _⟩ := tStreamWake_shape hh
  exact hC.setS _ (tEnter_kept hC hI hp he)

/-! ### `getNextTask`, `getCurrentOrNextTask` -/

theorem tAssignNext_kept {h : Hints} {x : Extras} {ts ts' : TState} {w : Worker} {b : Bool} (hp : I ts)
    (hh : tAssignNext h x ts w = .ok (ts', b)) : I ts' := by
  unfold tAssignNext at hh
  tpaths hh
  · have h1 := tAssignTo_kept hC (hC.log (d := .pick _ _ _ _ _ _ _) hp
      fun hf => ⟨ts.opOf, ts.prioOf, ts.nodes, hf.n.fix, hf.n.structOK, fun _ => rfl, rfl⟩) (by assumption)
    cases hh
    exact hC.setS _ (hC.deqOps _ h1)
  · cases hh; exact hp

omit hC in
/-- what `getNextTask` does to the tree: `assignNextQueuedTask` or nothing, then possibly the worker is parked -/
theorem tGetNextTask_shape {h : Hints} {x : Extras} {ts ts' : TState} {q : ScqId} {w : WId} {pi bl : Bool}
    (hh : tGetNextTask h x ts q w pi bl = .ok ts') :
    ∃ ts1, (ts1 = ts ∨ ∃ wk b, tAssignNext h x ts wk = .ok (ts1, b)) ∧
      ∃ s, ts' = ts1.setS s ∨ ts' = (ts1.parkTree q w).setS s := by
  unfold tGetNextTask at hh
  cases hw : ts.s.worker? q w with
  | none => simp only [hw] at hh; cases hh
  | some wk =>
    simp only [hw] at hh
    split at hh
    · rename_i sq hsq
      by_cases hpi : pi = true
      · simp only [hpi, if_true, pure_ok, Except.ok.injEq] at hh
        exact ⟨ts, Or.inl rfl, _, Or.inl hh.symm⟩
      · simp only [hpi, Bool.false_eq_true, if_false] at hh
        by_cases hd : isDrained sq wk = true
        · simp only [hd, Bool.not_true, Bool.false_eq_true, if_false] at hh
          by_cases hb : bl = true
          · simp only [hb, Bool.not_true, Bool.false_eq_true, if_false, pure_ok, Except.ok.injEq] at hh
            exact ⟨ts, Or.inl rfl, _, Or.inl hh.symm⟩
          · simp only [hb, Bool.not_false, if_true, pure_ok, Except.ok.injEq] at hh
            exact ⟨ts, Or.inl rfl, _, Or.inl hh.symm⟩
        · simp only [hd, Bool.not_false, if_true] at hh
          cases ha : tAssignNext h x ts wk with
          | error e => rw [ha] at hh; cases hh
          | ok r =>
            obtain ⟨ts1, got⟩ := r
            rw [ha] at hh
            simp only [ok_bind'] at hh
            refine ⟨ts1, Or.inr ⟨wk, got, ha⟩, ?_⟩
            cases got with
            | true =>
              simp only [if_true] at hh
              split at hh
              · cases he : execResponse ts1.s _ with
                | error e => rw [he] at hh; cases hh
                | ok s2 =>
                  rw [he] at hh
                  simp only [ok_bind', pure_ok, Except.ok.injEq] at hh
                  exact ⟨_, Or.inl hh.symm⟩
              · cases hh
            | false =>
              simp only [Bool.false_eq_true, if_false] at hh
              by_cases hb : bl = true
              · simp only [hb, Bool.not_true, Bool.false_eq_true, if_false] at hh
                split at hh
                · split at hh
                  · cases hh
                  · simp only [pure_ok, Except.ok.injEq] at hh
                    exact ⟨_, Or.inr hh.symm⟩
                · cases hh
              · simp only [hb, Bool.not_false, if_true, pure_ok, Except.ok.injEq] at hh
                exact ⟨_, Or.inl hh.symm⟩
    · cases hh
theorem tGetNextTask_kept {h : Hints} {x : Extras} {ts ts' : TState} {q : ScqId} {w : WId} {pi bl : Bool}
    (hp : I ts) (hh : tGetNextTask h x ts q w pi bl = .ok ts') : I ts' := by
  obtain ⟨ts1, h1, s, h2⟩ := tGetNextTask_shape hh
  have hp1 : I ts1 := by
    rcases h1 with rfl | ⟨wk, b, ha⟩
    · exact hp
    · exact tAssignNext_kept hC hp ha
  rcases h2 with rfl | rfl
  · exact hC.setS _ hp1
  · exact hC.setS _ (hC.parkTree _ _ hp1)

theorem tGetCurrentOrNext_kept {h : Hints} {x : Extras} {ts ts' : TState} {q : ScqId} {w : WId} {pi bl : Bool}
    (hp : I ts) (hq : QB ts.s.nextOp ts) (hh : tGetCurrentOrNext h x ts q w pi bl = .ok ts') : I ts' := by
  unfold tGetCurrentOrNext at hh
  tpaths hh
  · cases hh; exact hC.setS _ hp
  · exact tGetNextTask_kept hC (tComplete_kept hC hp hq (by assumption)) hh
  · exact tGetNextTask_kept hC hp hh

/-! ### `Synchronize` -/

omit hC in
/-- no invocation belongs to a size-class queue that does not exist -/
theorem fresh_of_tinv {ts : TState} (hI : TInv ts) {q : ScqId} (h : ts.s.scq? q = none) : ∀ n ∈ ts.nodes, n.scq ≠ q := by
  intro n hn e
  obtain ⟨sq, hsq, e'⟩ := hI.side.nscq n hn
  exact scq?_none h sq hsq (e'.trans e)

theorem tSyncQueue_kept {ts : TState} {q : ScqId} {comps : List Nat} {platform : Nat} {w : WId} {r : TState ⊕ TState}
    (hI : TInv ts) (hp : I ts) (hh : tSyncQueue ts q comps platform w = .ok r) : I (sumT r) := by
  unfold tSyncQueue at hh
  tpaths hh
  · cases hh; simp only [sumT]; exact hC.setS _ hp
  · cases hh; simp only [sumT]; exact hC.setS _ hp
  · cases hh; simp only [sumT]
    refine hC.setS _ (hC.addScqTree q hp (fresh_of_tinv hI ?_))
    cases hs : ts.s.scq? q with
    | none => rfl
    | some _ => simp_all

theorem tSyncWorker_kept {ts : TState} (hp : I ts) (q : ScqId) (w : WId) : I (sumT (tSyncWorker ts q w)) := by
  unfold tSyncWorker
  cases syncWorker ts.s q w with
  | inl s => simp only [sumT]; exact hC.setS _ hp
  | inr s =>
    simp only []
    split
    · simp only [sumT]; exact hC.setS _ hp
    · simp only [sumT]; exact hC.setS _ (hC.addWorkerTree _ _ hp)

theorem tSyncBody_kept {h : Hints} {x : Extras} {ts ts' : TState} {q : ScqId} {w : WId} {rep : Report} {pi : Bool}
    (hp : I ts) (hq : QB ts.s.nextOp ts) (hh : tSyncBody h x ts q w rep pi = .ok ts') : I ts' := by
  unfold tSyncBody at hh
  tpaths hh
  -- the paths that answer at once only replace the scheduler state; the others go on with
  -- `getCurrentOrNextTask`, or complete the worker's task and go on with `getNextTask`
  all_goals first
    | (cases hh; exact hC.setS _ hp)
    | exact tGetCurrentOrNext_kept hC hp hq hh
    | exact tGetNextTask_kept hC (tComplete_kept hC hp hq (by assumption)) hh

theorem tSyncArrive_kept {h : Hints} {x : Extras} {ts ts' : TState} {now : Nat} {q : ScqId} {comps : List Nat}
    {platform : Nat} {w : WId} {rep : Report} {pi : Bool} (hI : TInv ts) (hp : I ts)
    (hh : tSyncArrive h x ts now q comps platform w rep pi = .ok ts') : I ts' := by
  rw [tSyncArrive_eq] at hh
  simp only [bind, Except.bind] at hh
  split at hh
  · cases hh
  · rename_i ts0 he
    have hTI0 : TInv ts0 := tEnter_tinv hI he
    have hp0 := tEnter_kept hC hI hp he
    have hI0 := hTI0.inv
    split at hh
    · cases hh
    · rename_i r hq
      have htq := tSyncQueue_ts hTI0 hq
      have hpq := tSyncQueue_kept hC hTI0 hp0 hq
      have hrq := tSyncQueue_ref ts0 q comps platform w r hq
      have hsq := wp_of_ok (syncQueue_spec (q := q) (comps := comps) (platform := platform) (w := w) hI0) hrq
      cases r with
      | inl ts1 =>
        cases hh
        exact hpq
      | inr ts1 =>
        dsimp only at hh htq
        simp only [sproj] at hrq hsq
        simp only [sumT] at hpq
        have hTI1 : TInv ts1 := TInv.mk' hsq.1 htq
        have hex := syncQueue_has hrq
        have htw := tSyncWorker_ts (w := w) hTI1 hex
        have hpw := tSyncWorker_kept hC hpq q w
        have hsw := syncWorker_spec (q := q) (w := w) hsq.1
        rw [tSyncWorker_ref] at hsw
        cases hw : tSyncWorker ts1 q w with
        | inl ts2 =>
          rw [hw] at hh htw hpw
          cases hh
          exact hpw
        | inr ts2 =>
          rw [hw] at hh htw hsw hpw
          simp only [sproj] at hsw
          simp only [sumT] at hpw
          obtain ⟨hI2, _, wk2, hw2, hr2⟩ := hsw
          exact tSyncBody_kept hC hpw (qb_of_tinv (TInv.mk' hI2 htw)) hh

omit hC in
/-- what `tSyncWake` does to the tree after `bq.enter`: the worker leaves `idleSynchronizingWorkers`, or nothing,
or `getNextTask` runs -/
theorem tSyncWake_shape {h : Hints} {x : Extras} {ts ts' : TState} {now : Nat} {q : ScqId} {w : WId} {reason : Nat}
    (hh : tSyncWake h x ts now q w reason = .ok ts') :
    ∃ ts0, tEnter h x ts now = .ok ts0 ∧
      ((∃ wk s, ts' = (ts0.maybeDequeue wk).setS s) ∨ (∃ s, ts' = ts0.setS s) ∨
       ∃ s, tGetNextTask h x (ts0.setS s) q w false true = .ok ts') := by
  unfold tSyncWake at hh
  cases he : tEnter h x ts now with
  | error e => rw [he] at hh; cases hh
  | ok ts0 =>
    rw [he] at hh
    simp only [ok_bind'] at hh
    refine ⟨ts0, rfl, ?_⟩
    split at hh
    · rename_i wk hw
      split at hh
      · cases hh
      split at hh
      · split at hh
        · cases hx : execResponse _ wk with
          | error e => rw [hx] at hh; cases hh
          | ok s2 =>
            rw [hx] at hh
            simp only [ok_bind', pure_ok, Except.ok.injEq] at hh
            exact Or.inl ⟨wk, _, hh.symm⟩
        · simp only [pure_ok, Except.ok.injEq] at hh
          exact Or.inl ⟨wk, _, hh.symm⟩
      · simp only [pure_ok, Except.ok.injEq] at hh
        exact Or.inl ⟨wk, _, hh.symm⟩
      · split at hh
        · cases hh
        split at hh
        · cases hx : execResponse _ wk with
          | error e => rw [hx] at hh; cases hh
          | ok s2 =>
            rw [hx] at hh
            simp only [ok_bind', pure_ok, Except.ok.injEq] at hh
            exact Or.inr (Or.inl ⟨_, hh.symm⟩)
        · exact Or.inr (Or.inr ⟨_, hh⟩)
      · split at hh
        · split at hh
          · split at hh
            · cases hh
            · exact Or.inr (Or.inr ⟨_, hh⟩)
          · cases hh
        · cases hh
      · cases hh
    · cases hh

theorem tSyncWake_kept {h : Hints} {x : Extras} {ts ts' : TState} {now : Nat} {q : ScqId} {w : WId} {reason : Nat}
    (hI : TInv ts) (hp : I ts) (hh : tSyncWake h x ts now q w reason = .ok ts') : I ts' := by
  obtain ⟨ts0, he, ⟨wk, s, rfl⟩ | ⟨s, rfl⟩ | ⟨s, hg⟩⟩ := tSyncWake_shape hh
  all_goals have hp0 := tEnter_kept hC hI hp he
  · exact hC.setS _ (hC.maybeDequeue _ hp0)
  · exact hC.setS _ hp0
  · exact tGetNextTask_kept hC (hC.setS _ hp0) hg

/-! ### operator calls -/

theorem tKillOp_kept {h : Hints} {x : Extras} {ts ts' : TState} {now name code : Nat} (hI : TInv ts) (hp : I ts)
    (hh : tKillOp h x ts now name code = .ok ts') : I ts' := by
  unfold tKillOp at hh
  tpaths hh
  all_goals have hI0 := tEnter_tinv hI (by assumption)
  all_goals have hp0 := tEnter_kept hC hI hp (by assumption)
  -- after `bq.enter` the error paths only emit an event; the successful one completes the task first
  all_goals first
    | (cases hh; exact hC.setS _ hp0)
    | (have h2 := tComplete_kept hC hp0 (qb_of_tinv hI0) (by assumption); cases hh; exact hC.setS _ h2)

theorem tKillQueue_kept {h : Hints} {x : Extras} {ts ts' : TState} {now : Nat} {q : ScqId} {code : Nat} (hI : TInv ts)
    (hp : I ts) (hh : tKillQueue h x ts now q code = .ok ts') : I ts' := by
  unfold tKillQueue at hh
  tpaths hh
  all_goals have hI0 := tEnter_tinv hI (by assumption)
  all_goals have hp0 := tEnter_kept hC hI hp (by assumption)
  -- after `bq.enter` the error paths only emit an event; the successful one cancels the queued operations first
  all_goals first
    | (cases hh; exact hC.setS _ hp0)
    | (have h2 := tCancelAllQueued_kept hC hI0 hp0 (by assumption); cases hh; exact hC.setS _ h2)

omit hC in
theorem foldl_kept {β} (l : List β) (f : TState → β → TState) (hf : ∀ ts b, I ts → I (f ts b)) :
    ∀ ts, I ts → I (l.foldl f ts) := by
  induction l with
  | nil => intro ts h; exact h
  | cons b l ih => intro ts h; exact ih _ (hf ts b h)

theorem tAddDrain_kept {h : Hints} {x : Extras} {ts ts' : TState} {now : Nat} {q : ScqId} {p : Pattern} (hI : TInv ts)
    (hp : I ts) (hh : tAddDrain h x ts now q p = .ok ts') : I ts' := by
  unfold tAddDrain at hh
  tpaths hh
  all_goals have hp0 := tEnter_kept hC hI hp (by assumption)
  -- after `bq.enter` either only the scheduler state changes, or the drain is added and the matching parked
  -- workers are woken one by one (`foldl` over `tWake`)
  all_goals first
    | (cases hh; exact hC.setS _ hp0)
    | (cases hh
       refine hC.setS _ (foldl_kept _ _ ?_ _ (hC.setS _ hp0))
       intro ts b hb
       split
       · exact hC.tWake _ hb
       · exact hb)

theorem tRemoveDrain_kept {h : Hints} {x : Extras} {ts ts' : TState} {now : Nat} {q : ScqId} {p : Pattern} (hI : TInv ts)
    (hp : I ts) (hh : tRemoveDrain h x ts now q p = .ok ts') : I ts' := by
  unfold tRemoveDrain at hh
  tpaths hh
  all_goals have hp0 := tEnter_kept hC hI hp (by assumption)
  all_goals (cases hh; exact hC.setS _ hp0)

theorem tTerminate_kept {h : Hints} {x : Extras} {ts ts' : TState} {now id : Nat} {p : Pattern} (hI : TInv ts)
    (hp : I ts) (hh : tTerminate h x ts now id p = .ok ts') : I ts' := by
  unfold tTerminate at hh
  tpaths hh
  all_goals have hp0 := tEnter_kept hC hI hp (by assumption)
  all_goals (cases hh; exact hC.setS _ (foldl_kept _ _ (fun _ b hb => hC.tTerminateOne b hb) _ hp0))

theorem tTermWake_kept {ts ts' : TState} {id reason : Nat} (hp : I ts) (hh : tTermWake ts id reason = .ok ts') :
    I ts' := by
  unfold tTermWake at hh
  tpaths hh
  cases hh; exact hC.setS _ hp

/-! ### steps and reachable states -/

theorem tstep_kept {ts ts' : TState} {g : TSeg} (hI : TInv ts) (hp : I ts) (hh : tstep ts g = .ok ts') :
    I ts' := by
  unfold tstep at hh
  split at hh
  · split at hh
    · rename_i hok
      cases hh
      unfold registerOK at hok
      simp only [Bool.and_eq_true, List.all_eq_true, decide_eq_true_eq] at hok
      refine hC.tRegisterPQ _ _ _ _ _ _ _ hp hok.2 ?_
      intro n hn
      obtain ⟨sq, hsq, e⟩ := hI.side.nscq n hn
      rw [← e]; exact hok.1 sq hsq
    · cases hh
  · exact tExecArrive_kept hC hI hp hh
  · exact tWaitArrive_kept hC hI hp hh
  · exact tStreamWake_kept hC hI hp hh
  · exact tSyncArrive_kept hC hI hp hh
  · exact tSyncWake_kept hC hI hp hh
  · exact tKillOp_kept hC hI hp hh
  · exact tKillQueue_kept hC hI hp hh
  · exact tAddDrain_kept hC hI hp hh
  · exact tRemoveDrain_kept hC hI hp hh
  · exact tTerminate_kept hC hI hp hh
  · exact tTermWake_kept hC hp hh
  · exact tEnter_kept hC hI hp hh

theorem kept_reachable (h0 : ∀ cfg, I (TState.init cfg)) {ts : TState} (h : TReachable ts) : I ts := by
  induction h with
  | init cfg => exact h0 cfg
  | step g hr hs ih => exact tstep_kept hC (tinv_reachable hr) ih hs

omit hC in
/-- in every reachable state of the tree layer the cached priority of an invocation with directly queued
operations is the least priority among them -/
theorem prio_reachable {ts : TState} (h : TReachable ts) : PrioOK ts :=
  kept_reachable prioCache (fun _ _ hn => nomatch hn) h

end BbRe.Lemmas.SchedTree
