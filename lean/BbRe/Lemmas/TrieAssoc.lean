/-
Association lists standing for Go maps (`aget`/`aput`/`adel` of Model/Trie.lean).
-/
import BbRe.Model.Trie
import BbRe.Lemmas.Basic.AssocList
namespace BbRe.Lemmas.TrieAssoc
open BbRe.Model.Trie

variable {κ α : Type} [DecidableEq κ]

def keys (l : List (κ × α)) : List κ := l.map Prod.fst

@[simp] theorem aget_nil (k : κ) : aget k ([] : List (κ × α)) = none := rfl

theorem aget_cons (k k' : κ) (v : α) (r : List (κ × α)) :
    aget k ((k', v) :: r) = if k' = k then some v else aget k r := rfl

theorem aget_cons_self (k : κ) (v : α) (r : List (κ × α)) : aget k ((k, v) :: r) = some v :=
  if_pos rfl

theorem aget_cons_ne {k k' : κ} (h : k' ≠ k) (v : α) (r : List (κ × α)) :
    aget k ((k', v) :: r) = aget k r := if_neg h

theorem aput_cons (k k' : κ) (v v' : α) (r : List (κ × α)) :
    aput k v ((k', v') :: r) = if k' = k then (k, v) :: r else (k', v') :: aput k v r := rfl

theorem adel_cons (k k' : κ) (v' : α) (r : List (κ × α)) :
    adel k ((k', v') :: r) = if k' = k then adel k r else (k', v') :: adel k r := rfl

/-! `aget`, `aput`, `adel` are `AL.get`, `AL.put`, `AL.delAll`; the laws are those of `Lemmas/Basic/AssocList.lean`. -/

theorem aget_eq (k : κ) (l : List (κ × α)) : aget k l = AL.get k l := by
  induction l with
  | nil => rfl
  | cons p l ih => obtain ⟨a, b⟩ := p; simp only [aget, AL.get, ih]

theorem aput_eq (k : κ) (v : α) (l : List (κ × α)) : aput k v l = AL.put k v l := by
  induction l with
  | nil => rfl
  | cons p l ih => obtain ⟨a, b⟩ := p; simp only [aput, AL.put, ih]

theorem adel_eq (k : κ) (l : List (κ × α)) : adel k l = AL.delAll k l := by
  induction l with
  | nil => rfl
  | cons p l ih => obtain ⟨a, b⟩ := p; simp only [adel, AL.delAll, ih]

theorem aget_aput (k k' : κ) (v : α) (l : List (κ × α)) :
    aget k' (aput k v l) = if k' = k then some v else aget k' l := by
  rw [aput_eq, aget_eq, aget_eq, AL.get_put]; simp only [eq_comm]

theorem aget_aput_self (k : κ) (v : α) (l : List (κ × α)) : aget k (aput k v l) = some v := by
  rw [aget_aput, if_pos rfl]

theorem aget_aput_ne {k k' : κ} (h : k' ≠ k) (v : α) (l : List (κ × α)) :
    aget k' (aput k v l) = aget k' l := by
  rw [aget_aput, if_neg h]

theorem aget_adel (k k' : κ) (l : List (κ × α)) :
    aget k' (adel k l) = if k' = k then none else aget k' l := by
  rw [adel_eq, aget_eq, aget_eq]; exact AL.get_delAll ..

theorem aget_adel_self (k : κ) (l : List (κ × α)) : aget k (adel k l) = none := by
  rw [aget_adel, if_pos rfl]

theorem aget_adel_ne {k k' : κ} (h : k' ≠ k) (l : List (κ × α)) :
    aget k' (adel k l) = aget k' l := by
  rw [aget_adel, if_neg h]

theorem aget_none_iff {k : κ} {l : List (κ × α)} : aget k l = none ↔ k ∉ keys l :=
  aget_eq k l ▸ AL.get_eq_none_iff

theorem mem_keys_of_aget {k : κ} {v : α} {l : List (κ × α)} (h : aget k l = some v) : k ∈ keys l :=
  AL.mem_keys_of_get (aget_eq k l ▸ h)

theorem mem_keys_aput {k k' : κ} {v : α} {l : List (κ × α)} :
    k' ∈ keys (aput k v l) ↔ k' = k ∨ k' ∈ keys l := aput_eq k v l ▸ AL.mem_keys_put

theorem nodup_keys_aput {k : κ} {v : α} {l : List (κ × α)} (h : (keys l).Nodup) :
    (keys (aput k v l)).Nodup := aput_eq k v l ▸ AL.nodup_put k v h

theorem adel_eq_filter (k : κ) (l : List (κ × α)) : adel k l = l.filter (fun e => e.1 ≠ k) :=
  adel_eq k l ▸ AL.delAll_eq_filter k l

theorem nodup_keys_adel {k : κ} {l : List (κ × α)} (h : (keys l).Nodup) : (keys (adel k l)).Nodup :=
  adel_eq k l ▸ AL.nodup_delAll k h

theorem aput_ne_nil (k : κ) (v : α) (l : List (κ × α)) : aput k v l ≠ [] := fun h => by
  have := aget_aput_self k v l
  rw [h] at this; cases this

theorem aget_eq_none_of_length_le_one {d e : κ} {x : α} {l : List (κ × α)}
    (hl : l.length ≤ 1) (hd : aget d l = some x) (hne : e ≠ d) : aget e l = none := by
  cases l with
  | nil => cases hd
  | cons a r =>
    cases r with
    | cons b r => exact absurd (Nat.le_of_succ_le_succ hl) (Nat.not_succ_le_zero _)
    | nil =>
      rw [aget_cons] at hd
      split at hd
      · next h0 => subst h0; exact aget_cons_ne (Ne.symm hne) a.2 []
      · cases hd

theorem adel_ne_nil_of_length_gt_one {k : κ} {l : List (κ × α)} (hn : (keys l).Nodup)
    (hl : l.length > 1) : adel k l ≠ [] := by
  cases l with
  | nil => cases hl
  | cons a r =>
    cases r with
    | nil => exact absurd hl (Nat.lt_irrefl 1)
    | cons b r =>
      have hab : b.1 ≠ a.1 := fun e => (List.nodup_cons.1 hn).1 (e ▸ List.mem_cons_self)
      rw [adel_cons]
      split
      · next h0 => rw [adel_cons, if_neg (h0 ▸ hab)]; exact List.cons_ne_nil _ _
      · exact List.cons_ne_nil _ _

theorem adel_eq_nil_of_nil {k : κ} : adel k ([] : List (κ × α)) = [] := rfl

end BbRe.Lemmas.TrieAssoc
