import BbRe.Lemmas.BuildClientInv
/-!
The may-think bound after an execute instruction is the deadline handed out
with that instruction plus one minute (`Handed`), in every reachable state.
-/
namespace BbRe.Lemmas.BuildClient
open BbRe.BuildClient

/-- After a valid execute instruction (until the next scheduler reply is
processed) the may-think bound is the deadline handed out with that
instruction plus one minute — as soon as the thread has left the drain loop. -/
def Handed (s : State) : Prop :=
  ∀ ts d, s.lastReply = some (.reply (some ts) (.execute (.ok d))) →
    ((∃ k, s.pc = .drain k) → s.nextSync = ts) ∧
    ((∀ k, s.pc ≠ .drain k) → s.mayThink = some (ts + 60))

/-- Steps that keep `lastReply`, `mayThink`, and (inside the drain loop)
`nextSync`, and neither enter nor leave the drain loop. -/
theorem handed_frame {s s' : State} (h : Handed s) (h1 : s'.lastReply = s.lastReply)
    (h2 : s'.mayThink = s.mayThink) (h3 : (∃ k, s'.pc = .drain k) → s'.pc = s.pc ∧ s'.nextSync = s.nextSync)
    (h4 : (∃ k, s.pc = .drain k) → ∃ k, s'.pc = .drain k) : Handed s' := by
  intro ts d hl
  obtain ⟨a, b⟩ := h ts d (h1 ▸ hl)
  refine ⟨fun hk => ?_, fun hk => ?_⟩
  · obtain ⟨hp, hn⟩ := h3 hk
    exact hn.trans (a (hp ▸ hk))
  · refine h2.trans (b fun k hp => ?_)
    obtain ⟨k', hk'⟩ := h4 ⟨k, hp⟩
    exact hk k' hk'

/-- A state whose thread is outside the drain loop, reached from one outside the
drain loop without touching `lastReply`/`mayThink`. -/
theorem handed_nd {s s' : State} (h : Handed s) (hs : ∀ k, s.pc ≠ .drain k)
    (h1 : s'.lastReply = s.lastReply) (h2 : s'.mayThink = s.mayThink) (h3 : ∀ k, s'.pc ≠ .drain k) :
    Handed s' :=
  handed_frame h h1 h2 (fun ⟨k, hk⟩ => absurd hk (h3 k)) (fun ⟨k, hk⟩ => absurd hk (hs k))

theorem handed_finishStop {s : State} (k : DrainFor)
    (hk : ∀ ts d, s.lastReply = some (.reply (some ts) (.execute (.ok d))) →
      k = .start d ∧ s.nextSync = ts) : Handed (finishStop s k) := by
  intro ts d hl
  cases k with
  | idle => cases (hk ts d hl).1
  | start d' =>
    exact ⟨fun ⟨k, hp⟩ => absurd hp (retRun_nd _ _ _ k),
      fun _ => congrArg (fun n => some (n + 60)) (hk ts d hl).2⟩

theorem handed_stopThen {s : State} (k : DrainFor)
    (hk : ∀ ts d, s.lastReply = some (.reply (some ts) (.execute (.ok d))) →
      k = .start d ∧ s.nextSync = ts) : Handed (stopThen s k) := by
  unfold stopThen
  split
  · exact fun ts d hl => ⟨fun _ => (hk ts d hl).2, fun hnd => absurd rfl (hnd k)⟩
  · exact handed_finishStop k hk

theorem Step.handed {s s' : State} (hi : Inv s) (h : Handed s) (hs : Step s s') : Handed s' := by
  cases hs with
  | move hnd hm => exact handed_nd h hnd rfl rfl hm.nd
  | consume c hpc => exact handed_nd h (nd_of_pc hpc) rfl rfl (nd_of_pc hpc)
  | record r _ _ _ _ _ hk => exact fun ts d hl => absurd ⟨ts, hl⟩ (hk (.start d))
  | stop r _ _ _ k _ _ hk hns =>
    refine handed_stopThen k fun ts d hl => ?_
    cases Option.some.inj hl
    refine ⟨?_, hns _ _ rfl⟩
    cases k with
    | idle => obtain ⟨_, h'⟩ := hk; cases h'
    | start d' => obtain ⟨_, h'⟩ := hk; cases h'; rfl
  | @drained k e hpc =>
    refine handed_finishStop k fun ts d hl => ⟨?_, (h ts d hl).1 ⟨k, hpc⟩⟩
    cases k with
    | idle => obtain ⟨_, h'⟩ := hi.drainIdle hpc; cases hl.symm.trans h'
    | start d' => obtain ⟨_, h'⟩ := hi.drainStart d' hpc; cases hl.symm.trans h'; rfl
  | _ => exact handed_frame h rfl rfl (fun _ => ⟨rfl, rfl⟩) id

theorem handed_reachable (t0 : Nat) (evs : List Ev) : Handed (run (init t0) evs) :=
  (run_closed (P := fun s => Inv s ∧ Handed s) (fun _ _ h hs => ⟨hs.inv h.1, hs.handed h.1 h.2⟩)
    ⟨inv_init t0, fun _ _ hl => nomatch (hl : none = some _)⟩ evs).2

end BbRe.Lemmas.BuildClient
