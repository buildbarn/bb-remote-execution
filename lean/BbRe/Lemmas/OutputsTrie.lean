import BbRe.Model.Outputs
/-!
Helper lemmas for C10 (`exact_listing`, `errors_do_not_lie`): registering one more
output path in the `outputNode` trie adds to the upload result exactly what that
path alone contributes (`single`), whatever is already in the trie.
-/
namespace BbRe.Lemmas.Outputs
open BbRe.Outputs

@[simp] theorem Res.files_append (a b : Res) : (a ++ b).files = a.files ++ b.files := rfl
@[simp] theorem Res.dirs_append (a b : Res) : (a ++ b).dirs = a.dirs ++ b.dirs := rfl
@[simp] theorem Res.symlinks_append (a b : Res) : (a ++ b).symlinks = a.symlinks ++ b.symlinks := rfl
@[simp] theorem Res.errs_append (a b : Res) : (a ++ b).errs = a.errs ++ b.errs := rfl
@[simp] theorem Res.empty_files : ({} : Res).files = [] := rfl
@[simp] theorem Res.empty_dirs : ({} : Res).dirs = [] := rfl
@[simp] theorem Res.empty_symlinks : ({} : Res).symlinks = [] := rfl
@[simp] theorem Res.empty_errs : ({} : Res).errs = [] := rfl
@[simp] theorem Res.err_files (e : Err) : (Res.err e).files = [] := rfl
@[simp] theorem Res.err_dirs (e : Err) : (Res.err e).dirs = [] := rfl
@[simp] theorem Res.err_symlinks (e : Err) : (Res.err e).symlinks = [] := rfl
@[simp] theorem Res.err_errs (e : Err) : (Res.err e).errs = [e] := rfl

/-- `r'` is `r` plus the contribution `e`: entry lists up to order, and "no error" iff neither had one. -/
structure Adds (r' r e : Res) : Prop where
  files : r'.files.Perm (r.files ++ e.files)
  dirs : r'.dirs.Perm (r.dirs ++ e.dirs)
  symlinks : r'.symlinks.Perm (r.symlinks ++ e.symlinks)
  errs : r'.errs = [] ↔ (r.errs = [] ∧ e.errs = [])

theorem Adds.self_append (r e : Res) : Adds (r ++ e) r e :=
  ⟨by simp, by simp, by simp, by simp⟩

theorem Adds.of_empty (e : Res) : Adds e {} e :=
  ⟨by simp, by simp, by simp, by simp⟩

theorem Adds.zero (r : Res) : Adds r r {} :=
  ⟨by simp, by simp, by simp, by simp⟩

theorem perm_mid {α : Type} {a' a e : List α} (x y : List α) (h : a'.Perm (a ++ e)) :
    (x ++ a' ++ y).Perm ((x ++ a ++ y) ++ e) := by
  have h1 : (x ++ a' ++ y).Perm (x ++ (a ++ e) ++ y) :=
    (List.Perm.append_left x h).append_right y
  refine h1.trans ?_
  simp only [List.append_assoc]
  refine List.Perm.append_left x (List.Perm.append_left a ?_)
  exact List.perm_append_comm

theorem Adds.mid {a' a e : Res} (x y : Res) (h : Adds a' a e) : Adds (x ++ a' ++ y) (x ++ a ++ y) e where
  files := by simpa using perm_mid x.files y.files h.files
  dirs := by simpa using perm_mid x.dirs y.dirs h.dirs
  symlinks := by simpa using perm_mid x.symlinks y.symlinks h.symlinks
  errs := by
    have := h.errs
    simp only [Res.errs_append, List.append_eq_nil_iff]
    constructor
    · rintro ⟨⟨hx, ha⟩, hy⟩
      exact ⟨⟨⟨hx, (this.1 ha).1⟩, hy⟩, (this.1 ha).2⟩
    · rintro ⟨⟨⟨hx, ha⟩, hy⟩, he⟩
      exact ⟨⟨hx, this.2 ⟨ha, he⟩⟩, hy⟩

@[simp] theorem Res.append_empty (a : Res) : a ++ ({} : Res) = a := by
  cases a; show Res.append _ _ = _; simp [Res.append]

@[simp] theorem Res.empty_append (a : Res) : ({} : Res) ++ a = a := by
  cases a; show Res.append _ _ = _; simp [Res.append]

theorem Res.append_assoc (a b c : Res) : a ++ b ++ c = a ++ (b ++ c) := by
  cases a; cases b; cases c
  show Res.append (Res.append _ _) _ = Res.append _ (Res.append _ _)
  simp [Res.append]

theorem Adds.left {a' a e : Res} (x : Res) (h : Adds a' a e) : Adds (x ++ a') (x ++ a) e := by
  simpa using Adds.mid x {} h

theorem Adds.right {a' a e : Res} (y : Res) (h : Adds a' a e) : Adds (a' ++ y) (a ++ y) e := by
  simpa using Adds.mid {} y h

theorem Adds.trans {r2 r1 r0 e1 e2 : Res} (h1 : Adds r1 r0 e1) (h2 : Adds r2 r1 e2) :
    Adds r2 r0 (e1 ++ e2) where
  files := by
    refine h2.files.trans ?_
    simpa [List.append_assoc] using List.Perm.append_right e2.files h1.files
  dirs := by
    refine h2.dirs.trans ?_
    simpa [List.append_assoc] using List.Perm.append_right e2.dirs h1.dirs
  symlinks := by
    refine h2.symlinks.trans ?_
    simpa [List.append_assoc] using List.Perm.append_right e2.symlinks h1.symlinks
  errs := by
    rw [h2.errs, h1.errs]
    simp [and_assoc]

/-- What `uploadOutputs` does for a single declared location `cs ++ [last]` with string `s`,
walking down from the directory `es`: the flat specification of the trie traversal. -/
def single (env : Env) (up : Bool) : List Name → Name → Str → Entries → Res
  | [], last, s, es => uploadPath env up es last [s]
  | c :: cs, last, s, es =>
    match lookupE c es with
    | none => {}
    | some (.dir _ ces) => single env up cs last s ces
    | some _ => .err .fs

/-- Appending one more string to an already expected name adds that string's entries. -/
theorem uode_snoc (env : Env) (up : Bool) (n : Node) (v : List Str) (s : Str) :
    Adds (uploadOutputDirectoryEntered env up n (v ++ [s])) (uploadOutputDirectoryEntered env up n v)
      (uploadOutputDirectoryEntered env up n [s]) := by
  unfold uploadOutputDirectoryEntered
  cases hu : n.uploadDirectory env {} with
  | mk r st =>
    cases r with
    | none => exact ⟨by simp, by simp, by simp, by simp⟩
    | some root =>
      refine ⟨by simp, ?_, by simp, by simp⟩
      simp only
      split <;> simp

theorem uploadPath_snoc (env : Env) (up : Bool) (es : Entries) (k : Name) (v : List Str) (s : Str) :
    Adds (uploadPath env up es k (v ++ [s])) (uploadPath env up es k v) (uploadPath env up es k [s]) := by
  unfold uploadPath
  cases hl : lookupE k es with
  | none => exact ⟨by simp, by simp, by simp, by simp⟩
  | some n =>
    cases n with
    | dir r ces => exact uode_snoc env up _ v s
    | file x c =>
      simp only
      split
      · exact ⟨by simp, by simp, by simp, by simp⟩
      · exact ⟨by simp, by simp, by simp, by simp⟩
    | symlink t =>
      simp only
      split
      · exact ⟨by simp, by simp, by simp, by simp⟩
      · exact ⟨by simp, by simp, by simp, by simp⟩
    | special => exact ⟨by simp, by simp, by simp, by simp⟩

theorem uploadPaths_addPath (env : Env) (up : Bool) (es : Entries) (name : Name) (s : Str)
    (ps : List (Name × List Str)) :
    Adds (uploadPaths env up es (addPath name s ps)) (uploadPaths env up es ps)
      (uploadPath env up es name [s]) := by
  induction ps with
  | nil => simpa [addPath, uploadPaths] using Adds.of_empty _
  | cons kv rest ih =>
    obtain ⟨k, v⟩ := kv
    unfold addPath
    split
    · rename_i hk
      subst hk
      simp only [uploadPaths]
      exact Adds.right _ (uploadPath_snoc env up es k v s)
    · simp only [uploadPaths]
      exact Adds.left _ ih

theorem upload_empty (env : Env) (up : Bool) (es : Entries) : ONode.empty.upload env up es = {} := by
  simp [ONode.empty, ONode.upload, uploadPaths, uploadSubs]

/-- What a subdirectory entry of the trie contributes. -/
def subRes (es : Entries) (c : Name) (f : Entries → Res) : Res :=
  match lookupE c es with
  | none => {}
  | some (.dir _ ces) => f ces
  | some _ => .err .fs

theorem uploadSubs_cons (env : Env) (up : Bool) (k : Name) (v : ONode) (rest : List (Name × ONode))
    (es : Entries) :
    uploadSubs env up ((k, v) :: rest) es = subRes es k (v.upload env up) ++ uploadSubs env up rest es := by
  rw [uploadSubs]
  unfold subRes
  cases lookupE k es with
  | none => rfl
  | some n => cases n <;> rfl

theorem subRes_adds (es : Entries) (c : Name) (f' f e : Entries → Res)
    (h : ∀ ces, Adds (f' ces) (f ces) (e ces)) :
    Adds (subRes es c f') (subRes es c f) (subRes es c e) := by
  unfold subRes
  cases lookupE c es with
  | none => exact Adds.zero _
  | some n =>
    cases n with
    | dir r ces => exact h ces
    | file x c => exact ⟨by simp, by simp, by simp, by simp⟩
    | symlink t => exact ⟨by simp, by simp, by simp, by simp⟩
    | special => exact ⟨by simp, by simp, by simp, by simp⟩

theorem uploadSubs_alterSub (env : Env) (up : Bool) (c : Name) (F : ONode → ONode) (e : Entries → Res)
    (hF : ∀ child ces, Adds ((F child).upload env up ces) (child.upload env up ces) (e ces))
    (subs : List (Name × ONode)) (es : Entries) :
    Adds (uploadSubs env up (alterSub c F subs) es) (uploadSubs env up subs es) (subRes es c e) := by
  induction subs with
  | nil =>
    simp only [alterSub, uploadSubs_cons]
    have h0 : uploadSubs env up [] es = {} := by simp [uploadSubs]
    rw [h0]
    simp only [Res.append_empty]
    unfold subRes
    cases lookupE c es with
    | none => exact Adds.zero _
    | some n =>
      cases n with
      | dir r ces =>
        have := hF .empty ces
        rw [upload_empty] at this
        exact this
      | file x c => exact Adds.of_empty _
      | symlink t => exact Adds.of_empty _
      | special => exact Adds.of_empty _
  | cons kv rest ih =>
    obtain ⟨k, v⟩ := kv
    unfold alterSub
    split
    · rename_i hk
      subst hk
      simp only [uploadSubs_cons]
      exact Adds.right _ (subRes_adds es k _ _ e (hF v))
    · simp only [uploadSubs_cons]
      exact Adds.left _ ih

/-- Registering `(cs ++ [last], s)` adds exactly `single cs last s` to the upload result. -/
theorem upload_insert (env : Env) (up : Bool) (cs : List Name) (last : Name) (s : Str) (n : ONode)
    (es : Entries) :
    Adds ((n.insert cs last s).upload env up es) (n.upload env up es) (single env up cs last s es) := by
  induction cs generalizing n es with
  | nil =>
    cases n with
    | mk ps subs =>
      simp only [ONode.insert, ONode.upload, single]
      exact Adds.right _ (uploadPaths_addPath env up es last s ps)
  | cons c cs ih =>
    cases n with
    | mk ps subs =>
      simp only [ONode.insert, ONode.upload]
      have := uploadSubs_alterSub env up c (ONode.insert cs last s) (single env up cs last s)
        (fun child ces => ih child ces) subs es
      have h2 : subRes es c (single env up cs last s) = single env up (c :: cs) last s es := by
        unfold subRes
        rw [single]
      rw [h2] at this
      exact Adds.left _ this

/-- lstat-walk from a node along names (symlinks are not followed). -/
def walkN : List Name → Node → Option Node
  | [], n => some n
  | c :: cs, .dir _ es =>
    match lookupE c es with
    | none => none
    | some n' => walkN cs n'
  | _ :: _, _ => none

/-- Contribution of one declared path string `p` (resolved against `wd`) on the root `root`. -/
def specOne (env : Env) (up : Bool) (wd : List Name) (root : Node) (p : Str) : Res :=
  match resolveRel wd p with
  | .error _ => {}
  | .ok comps =>
    match splitLast comps with
    | none => uploadOutputDirectoryEntered env up root [p]
    | some (i, l) =>
      match root with
      | .dir _ es => single env up i l p es
      | _ => {}

def sumRes : List Res → Res
  | [] => {}
  | r :: rs => r ++ sumRes rs

theorem uploadOutputs_register (env : Env) (force : Bool) (wd : List Name) (h h' : Hierarchy) (p : Str)
    (r : Bool) (es : Entries) (hr : h.register wd p = .ok h') :
    h'.upDirs = h.upDirs ∧
    Adds (h'.uploadOutputs env force (.dir r es)) (h.uploadOutputs env force (.dir r es))
      (specOne env (h.upDirs || force) wd (.dir r es) p) := by
  unfold Hierarchy.register at hr
  unfold specOne
  cases hres : resolveRel wd p with
  | error e => simp [hres] at hr
  | ok comps =>
    simp only [hres] at hr
    cases hsl : splitLast comps with
    | none =>
      simp only [hsl, Except.ok.injEq] at hr
      subst hr
      refine ⟨rfl, ?_⟩
      simp only [Hierarchy.uploadOutputs, hsl]
      refine Adds.right _ ?_
      cases hroots : h.roots with
      | nil => simpa using Adds.of_empty _
      | cons a as =>
        simp only [List.cons_append, List.isEmpty_cons, Bool.false_eq_true, ↓reduceIte]
        exact uode_snoc env _ _ (a :: as) p
    | some il =>
      obtain ⟨i, l⟩ := il
      simp only [hsl, Except.ok.injEq] at hr
      subst hr
      refine ⟨rfl, ?_⟩
      simp only [Hierarchy.uploadOutputs, hsl]
      exact Adds.left _ (upload_insert env _ i l p h.root es)

theorem uploadOutputs_registerAll (env : Env) (force : Bool) (wd : List Name) (h h' : Hierarchy)
    (ps : List Str) (r : Bool) (es : Entries) (hr : registerAll wd h ps = .ok h') :
    h'.upDirs = h.upDirs ∧
    Adds (h'.uploadOutputs env force (.dir r es)) (h.uploadOutputs env force (.dir r es))
      (sumRes (ps.map (specOne env (h.upDirs || force) wd (.dir r es)))) := by
  induction ps generalizing h with
  | nil =>
    simp only [registerAll, Except.ok.injEq] at hr
    subst hr
    exact ⟨rfl, by simpa [sumRes] using Adds.zero _⟩
  | cons p ps ih =>
    simp only [registerAll] at hr
    cases h1 : h.register wd p with
    | error e => simp [h1] at hr
    | ok hm =>
      simp only [h1] at hr
      obtain ⟨hu1, ha1⟩ := uploadOutputs_register env force wd h hm p r es h1
      obtain ⟨hu2, ha2⟩ := ih hm hr
      refine ⟨hu2.trans hu1, ?_⟩
      rw [hu1] at ha2
      simpa [sumRes] using Adds.trans ha1 ha2

theorem sumRes_files (l : List Res) : (sumRes l).files = l.flatMap (·.files) := by
  induction l with
  | nil => rfl
  | cons a as ih => simp [sumRes, ih]

theorem sumRes_dirs (l : List Res) : (sumRes l).dirs = l.flatMap (·.dirs) := by
  induction l with
  | nil => rfl
  | cons a as ih => simp [sumRes, ih]

theorem sumRes_symlinks (l : List Res) : (sumRes l).symlinks = l.flatMap (·.symlinks) := by
  induction l with
  | nil => rfl
  | cons a as ih => simp [sumRes, ih]

theorem sumRes_errs_nil (l : List Res) : (sumRes l).errs = [] ↔ ∀ r ∈ l, r.errs = [] := by
  induction l with
  | nil => simp [sumRes]
  | cons a as ih => simp [sumRes, ih]

theorem emptyHierarchy_upload (env : Env) (force up : Bool) (r : Bool) (es : Entries) :
    (Hierarchy.mk .empty [] up).uploadOutputs env force (.dir r es) = {} := by
  simp [Hierarchy.uploadOutputs, upload_empty]

end BbRe.Lemmas.Outputs
