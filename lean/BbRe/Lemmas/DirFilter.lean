import BbRe.Lemmas.DirPosixBulk
/-!
The `FilterChildren` traversal (`filterWalk`, the work-list form of
`filterChildrenRecursive`, in_memory_prepopulated_directory.go:622-669): it only hands out
what the reference hierarchy has at or below the start directory (`filter_refines`), and when
it finishes it has handed out all of that, once.

`walkDirs` is the sequence of directories the traversal enters, `dirItems` what one
directory contributes to the callbacks (all its leaves, hidden ones too, in list order;
or the directory itself when its contents are still pending), `kids` where it goes on
from there (nowhere from a pending directory).  `walkDone` says that the
work list is exhausted before the fuel is (the Go recursion returns); on a hierarchy
with a cycle below the start directory the Go recursion does not return and `walkDone`
is false for every fuel (`walkDone_no_cycle`).
-/
namespace BbRe.Lemmas.Dir
open BbRe.Dir

/-- What the callbacks get for directory `x`. -/
def dirItems (s : Store) (x : Nat) : List Report :=
  match (s.dir x).lazy with
  | some _ => [⟨x, 0, .dir x⟩]
  | none => ((s.dir x).entries.filter (fun e => !e.child.isDir)).map (fun e => ⟨x, e.name, e.child⟩)

theorem mem_dirItems {s : Store} {o : Nat} {r : Report} :
    r ∈ dirItems s o ↔ ((s.dir o).lazy ≠ none ∧ r = ⟨o, 0, .dir o⟩) ∨
      ((s.dir o).lazy = none ∧ ∃ e ∈ (s.dir o).entries, e.child.isDir = false ∧ r = ⟨o, e.name, e.child⟩) := by
  unfold dirItems
  cases (s.dir o).lazy with
  | some t => simp
  | none =>
    simp only [List.mem_map, List.mem_filter, Bool.not_eq_true', and_assoc, eq_comm (b := r), ne_eq, not_true_eq_false,
      false_and, true_and, false_or]

theorem cookie_of_mem_dirItems {s : Store} {o : Nat} {r : Report} (h : r ∈ dirItems s o) : r.cookie = o := by
  rcases mem_dirItems.mp h with ⟨_, rfl⟩ | ⟨_, _, _, _, rfl⟩ <;> rfl

/-- The directories `filterWalk` enters, in order. -/
def walkDirs : Nat → Store → List Nat → List Nat
  | 0, _, _ => []
  | _, _, [] => []
  | fuel + 1, s, d :: rest =>
    match (s.dir d).lazy with
    | some _ => d :: walkDirs fuel s rest
    | none => d :: walkDirs fuel s (dirChildren (s.dir d).entries ++ rest)

/-- The work list is exhausted within the fuel. -/
def walkDone : Nat → Store → List Nat → Bool
  | _, _, [] => true
  | 0, _, _ :: _ => false
  | fuel + 1, s, d :: rest =>
    match (s.dir d).lazy with
    | some _ => walkDone fuel s rest
    | none => walkDone fuel s (dirChildren (s.dir d).entries ++ rest)

/-- Where the traversal goes on from `x`: nowhere while the contents of `x` are pending. -/
def kids (s : Store) (x : Nat) : List Nat :=
  match (s.dir x).lazy with
  | some _ => []
  | none => dirChildren (s.dir x).entries

theorem walkDirs_succ (s : Store) (fuel d : Nat) (rest : List Nat) :
    walkDirs (fuel + 1) s (d :: rest) = d :: walkDirs fuel s (kids s d ++ rest) := by
  rw [walkDirs, kids]; cases (s.dir d).lazy <;> rfl

theorem walkDone_succ (s : Store) (fuel d : Nat) (rest : List Nat) :
    walkDone (fuel + 1) s (d :: rest) = walkDone fuel s (kids s d ++ rest) := by
  rw [walkDone, kids]; cases (s.dir d).lazy <;> rfl

theorem filterWalk_succ (s : Store) (fuel d : Nat) (rest : List Nat) :
    filterWalk (fuel + 1) s (d :: rest) = dirItems s d ++ filterWalk fuel s (kids s d ++ rest) := by
  rw [filterWalk, dirItems, kids]; cases (s.dir d).lazy <;> rfl

theorem edge_of_mem_kids {s : Store} {a b : Nat} (h : b ∈ kids s a) : MEdge s a b := by
  unfold kids at h
  split at h
  · cases h
  · exact mem_dirChildren.mp h

/-- In a store where pending directories have no entries, `kids` are the sub-directories. -/
theorem mem_kids {s : Store} (hlazy : ∀ a, (s.dir a).lazy ≠ none → (s.dir a).entries = []) {a b : Nat} :
    b ∈ kids s a ↔ MEdge s a b := by
  refine ⟨edge_of_mem_kids, fun h => ?_⟩
  unfold kids
  split
  · rename_i hl
    rw [MEdge, hlazy a (by rw [hl]; exact Option.some_ne_none _)] at h
    cases h
  · exact mem_dirChildren.mpr h

theorem filterWalk_eq_flatMap (s : Store) : ∀ (fuel : Nat) (stack : List Nat),
    filterWalk fuel s stack = (walkDirs fuel s stack).flatMap (dirItems s)
  | 0, _ => by simp [filterWalk, walkDirs]
  | fuel + 1, [] => by simp [filterWalk, walkDirs]
  | fuel + 1, a :: rest => by
    rw [filterWalk_succ, walkDirs_succ, List.flatMap_cons, filterWalk_eq_flatMap s fuel]

theorem walkDirs_sound (s : Store) : ∀ (fuel : Nat) (stack : List Nat),
    ∀ o ∈ walkDirs fuel s stack, ∃ a ∈ stack, MReach s a o
  | 0, _, o, ho => by simp [walkDirs] at ho
  | fuel + 1, [], o, ho => by simp [walkDirs] at ho
  | fuel + 1, a :: rest, o, ho => by
    rw [walkDirs_succ] at ho
    rcases List.mem_cons.mp ho with h | h
    · exact ⟨a, List.mem_cons_self, h ▸ MReach.refl o⟩
    · obtain ⟨b, hb, hr⟩ := walkDirs_sound s fuel _ o h
      rcases List.mem_append.mp hb with h1 | h1
      · exact ⟨a, List.mem_cons_self, MReach.step (edge_of_mem_kids h1) hr⟩
      · exact ⟨b, List.mem_cons_of_mem _ h1, hr⟩

/-- What a callback gets is an item of a directory at or below the start directory. -/
theorem of_mem_filterWalk (s : Store) (fuel d : Nat) {r : Report} (hr : r ∈ filterWalk fuel s [d]) :
    ∃ o, MReach s d o ∧ r ∈ dirItems s o := by
  rw [filterWalk_eq_flatMap, List.mem_flatMap] at hr
  obtain ⟨o, ho, hro⟩ := hr
  obtain ⟨a, ha, hreach⟩ := walkDirs_sound s fuel [d] o ho
  cases List.mem_singleton.mp ha
  exact ⟨o, hreach, hro⟩

/-- `FilterChildren` changes nothing, makes at most `limit` callbacks, and every callback
gets something the reference hierarchy has at or below `d`. -/
theorem filter_refines (P : Params) (s : Store) (d limit : Nat) (h : Inv P s) :
    (filterChildren s d limit).1 = s ∧ (filterChildren s d limit).2.status = .ok ∧
    (filterChildren s d limit).2.reports.length ≤ limit ∧
    ∀ r ∈ (filterChildren s d limit).2.reports, BbRe.Spec.Posix.filterItem (abs s) d r.cookie r.name r.child := by
  refine ⟨rfl, rfl, by simp [filterChildren, List.length_take]; omega, ?_⟩
  intro r hr
  obtain ⟨o, hreach, hro⟩ := of_mem_filterWalk s _ d (List.mem_of_mem_take hr)
  refine ⟨(reach_iff (fun a => h.dirOK a) d _).mpr (cookie_of_mem_dirItems hro ▸ hreach), ?_⟩
  rcases mem_dirItems.mp hro with ⟨hl, rfl⟩ | ⟨_, e, he, hnd, rfl⟩
  · exact .inr ⟨rfl, by rw [abs_dir]; exact hl⟩
  · cases hch : e.child with
    | dir c => simp [hch, Child.isDir] at hnd
    | leaf l => exact .inl ⟨e.norm, l, rfl, (abs_entries_iff h).mpr ⟨e, he, rfl, rfl, hch⟩⟩

/-- Every directory reachable from the work list is entered when the traversal finishes. -/
theorem walkDirs_complete (s : Store) (hlazy : ∀ a, (s.dir a).lazy ≠ none → (s.dir a).entries = []) :
    ∀ (fuel : Nat) (stack : List Nat), walkDone fuel s stack = true →
      ∀ a ∈ stack, ∀ o, MReach s a o → o ∈ walkDirs fuel s stack
  | _, [], _, a, ha, _, _ => by simp at ha
  | 0, _ :: _, hd, _, _, _, _ => by simp [walkDone] at hd
  | fuel + 1, x :: rest, hd, a, ha, o, hr => by
    rw [walkDone_succ] at hd
    rw [walkDirs_succ]
    rcases List.mem_cons.mp ha with h | h
    · subst h
      cases hr with
      | refl => exact List.mem_cons_self
      | step he hr' =>
        exact List.mem_cons_of_mem _ (walkDirs_complete s hlazy fuel _ hd _
          (List.mem_append_left _ ((mem_kids hlazy).mpr he)) o hr')
    · exact List.mem_cons_of_mem _ (walkDirs_complete s hlazy fuel _ hd a (List.mem_append_right _ h) o hr)

/-- With a callback that never stops and a traversal that finishes, the callbacks are
exactly the items of the directories reachable from the work list. -/
theorem mem_filterWalk_iff (s : Store) (hlazy : ∀ a, (s.dir a).lazy ≠ none → (s.dir a).entries = [])
    (fuel : Nat) (d : Nat) (hd : walkDone fuel s [d] = true) (r : Report) :
    r ∈ filterWalk fuel s [d] ↔ ∃ o, MReach s d o ∧ r ∈ dirItems s o := by
  refine ⟨of_mem_filterWalk s fuel d, fun ⟨o, hreach, hr⟩ => ?_⟩
  rw [filterWalk_eq_flatMap, List.mem_flatMap]
  exact ⟨o, walkDirs_complete s hlazy fuel [d] hd d List.mem_cons_self o hreach, hr⟩

/-- A traversal that finishes has no directory on a cycle in its work list: on a cyclic
hierarchy `filterChildrenRecursive` does not return. -/
theorem walkDone_no_cycle (s : Store) (hlazy : ∀ a, (s.dir a).lazy ≠ none → (s.dir a).entries = []) :
    ∀ (fuel : Nat) (stack : List Nat), walkDone fuel s stack = true →
      ∀ a ∈ stack, ∀ c, MEdge s a c → MReach s c a → False
  | _, [], _, a, ha, _, _, _ => by simp at ha
  | 0, _ :: _, hd, _, _, _, _, _ => by simp [walkDone] at hd
  | fuel + 1, x :: rest, hd, a, ha, c, he, hr => by
    rw [walkDone_succ] at hd
    rcases List.mem_cons.mp ha with h | h
    · subst h
      -- `c` is pushed and lies on the same cycle
      have hc := List.mem_append_left rest ((mem_kids hlazy).mpr he)
      cases hr with
      | refl => exact walkDone_no_cycle s hlazy fuel _ hd a hc a he (MReach.refl a)
      | step he' hr' => exact walkDone_no_cycle s hlazy fuel _ hd c hc _ he' (hr'.snoc he)
    · exact walkDone_no_cycle s hlazy fuel _ hd a (List.mem_append_right _ h) c he hr

/-- More fuel than needed changes nothing. -/
theorem filterWalk_fuel_stable (s : Store) : ∀ (fuel : Nat) (stack : List Nat), walkDone fuel s stack = true →
    ∀ k, filterWalk (fuel + k) s stack = filterWalk fuel s stack
  | fuel, [], _, k => by
    cases fuel <;> cases k <;> simp [filterWalk]
  | 0, _ :: _, hd, _ => by simp [walkDone] at hd
  | fuel + 1, x :: rest, hd, k => by
    rw [walkDone_succ] at hd
    rw [Nat.add_right_comm, filterWalk_succ, filterWalk_succ, filterWalk_fuel_stable s fuel _ hd k]

/-! ### every directory is entered once; the fuel of the model suffices -/

theorem count_dirChildren (es : List Entry) (b : Nat) :
    (dirChildren es).count b = (es.map (fun e => e.child)).count (Child.dir b) := by
  induction es with
  | nil => simp [dirChildren]
  | cons e rest ih =>
    unfold dirChildren
    cases hc : e.child with
    | dir c => simp [hc, List.count_cons, ih]
    | leaf l => simp [hc, ih]

theorem edge_lt {s : Store} {p c : Nat} (hp : MEdge s p c) : p < s.dirs.length := by
  by_cases hlt : p < s.dirs.length
  · exact hlt
  · simp [MEdge, dir_entries_of_ge s p (by omega)] at hp

/-- `contents_inv`'s one-parent clause, on edges. -/
theorem edge_parent_unique {P : Params} {s : Store} (h : Inv P s) {p a c : Nat}
    (hp : MEdge s p c) (ha : MEdge s a c) : p = a := by
  by_cases hpa : p = a
  · exact hpa
  · exfalso
    have hplt := edge_lt hp
    have halt := edge_lt ha
    obtain ⟨x0, hx0⟩ : ∃ x0 : Dir, x0.entries = [] := ⟨{}, rfl⟩
    have h1 := count_refs_setDir s p x0 (Child.dir c) hplt
    have h2 : (refs s).count (Child.dir c) ≤ 1 := by simpa using h.oneParent c
    have h3 : 0 < ((s.dir p).entries.map (fun e => e.child)).count (Child.dir c) := List.count_pos_iff.mpr hp
    have h4 : Child.dir c ∈ refs (s.setDir p x0) := by
      rw [mem_refs]
      refine ⟨(s.setDir p x0).dir a, dir_mem _ a (by simpa [Store.setDir] using halt), ?_⟩
      rw [dir_setDir_ne s p a _ hpa]
      simpa [MEdge] using ha
    have h5 := List.count_pos_iff.mpr h4
    simp [hx0] at h1
    omega

theorem dirChildren_nodup {P : Params} {s : Store} (h : Inv P s) (x : Nat) :
    (dirChildren (s.dir x).entries).Nodup := by
  rw [List.nodup_iff_count]
  intro b
  rw [count_dirChildren]
  by_cases hlt : x < s.dirs.length
  · have h1 := count_refs_setDir s x { s.dir x with entries := [] } (Child.dir b) hlt
    have h2 : (refs s).count (Child.dir b) ≤ 1 := by simpa using h.oneParent b
    simp at h1
    omega
  · simp [dir_entries_of_ge s x (by omega)]

theorem MReach.tail_cases {s : Store} {b c : Nat} (h : MReach s b c) :
    b = c ∨ ∃ p, MReach s b p ∧ MEdge s p c := by
  induction h with
  | refl a => exact Or.inl rfl
  | step he _ ih =>
    rcases ih with h1 | ⟨p, hp, hpe⟩
    · subst h1
      exact Or.inr ⟨_, MReach.refl _, he⟩
    · exact Or.inr ⟨p, MReach.step he hp, hpe⟩

/-- With unique parents the ancestors of a directory form a chain. -/
theorem mreach_chain {s : Store} (uniq : ∀ p a c, MEdge s p c → MEdge s a c → p = a) {a o : Nat}
    (ha : MReach s a o) : ∀ b, MReach s b o → MReach s a b ∨ MReach s b a := by
  induction ha with
  | refl a => intro b hb; exact Or.inr hb
  | step he _ ih =>
    intro b hb
    rcases ih b hb with h1 | h1
    · exact Or.inl (MReach.step he h1)
    · rcases h1.tail_cases with h2 | ⟨p, hp, hpe⟩
      · subst h2
        exact Or.inl (MReach.step he (MReach.refl _))
      · have hpa := uniq _ _ _ hpe he
        subst hpa
        exact Or.inr hp

/-- No directory at or below the work list lies on a cycle. -/
def NoCyc (s : Store) (stack : List Nat) : Prop :=
  ∀ b ∈ stack, ∀ a, MReach s b a → ∀ c, MEdge s a c → MReach s c a → False

/-- No directory is at or below two positions of the work list. -/
def Sep (s : Store) (stack : List Nat) : Prop :=
  stack.Pairwise (fun a b => ∀ o, MReach s a o → MReach s b o → False)

theorem walkDone_noCyc (s : Store) (hlazy : ∀ a, (s.dir a).lazy ≠ none → (s.dir a).entries = []) :
    ∀ (fuel : Nat) (stack : List Nat), walkDone fuel s stack = true → NoCyc s stack
  | _, [], _, b, hb, _, _, _, _, _ => by simp at hb
  | 0, _ :: _, hd, _, _, _, _, _, _, _ => by simp [walkDone] at hd
  | fuel + 1, x :: rest, hd, b, hb, a, hba, c, he, hr => by
    have hfull := hd
    rw [walkDone_succ] at hd
    rcases List.mem_cons.mp hb with h | h
    · subst h
      cases hba with
      | refl => exact walkDone_no_cycle s hlazy (fuel + 1) (b :: rest) hfull b List.mem_cons_self c he hr
      | step he' hr' =>
        exact walkDone_noCyc s hlazy fuel _ hd _ (List.mem_append_left _ ((mem_kids hlazy).mpr he')) a hr' c he hr
    · exact walkDone_noCyc s hlazy fuel _ hd b (List.mem_append_right _ h) a hba c he hr

theorem kids_nodup {s : Store} (hchild : ∀ x, (dirChildren (s.dir x).entries).Nodup) (x : Nat) : (kids s x).Nodup := by
  unfold kids
  split
  · exact List.nodup_nil
  · exact hchild x

theorem walkDirs_nodup (s : Store) (uniq : ∀ p a c, MEdge s p c → MEdge s a c → p = a)
    (hchild : ∀ x, (dirChildren (s.dir x).entries).Nodup) :
    ∀ (fuel : Nat) (stack : List Nat), NoCyc s stack → Sep s stack → (walkDirs fuel s stack).Nodup
  | 0, _, _, _ => by simp [walkDirs]
  | fuel + 1, [], _, _ => by simp [walkDirs]
  | fuel + 1, x :: rest, hnc, hsep => by
    rw [walkDirs_succ]
    have hsep' := List.pairwise_cons.mp hsep
    have hx_rest : ∀ a ∈ rest, MReach s a x → False := fun a ha hr => hsep'.1 a ha x (MReach.refl x) hr
    have hnc' : NoCyc s (kids s x ++ rest) := by
      intro b hb a hba
      rcases List.mem_append.mp hb with h1 | h1
      · exact hnc x List.mem_cons_self a (MReach.step (edge_of_mem_kids h1) hba)
      · exact hnc b (List.mem_cons_of_mem _ h1) a hba
    have hcyc : ∀ c, MEdge s x c → MReach s c x → False :=
      fun c he hr => hnc x List.mem_cons_self x (MReach.refl x) c he hr
    have hsepc : Sep s (kids s x ++ rest) := by
      unfold Sep
      rw [List.pairwise_append]
      refine ⟨?_, hsep'.2, ?_⟩
      · refine List.Pairwise.imp_of_mem ?_ (kids_nodup hchild x)
        intro c1 c2 h1 h2 hne o ho1 ho2
        have e1 := edge_of_mem_kids h1
        have e2 := edge_of_mem_kids h2
        rcases mreach_chain uniq ho1 c2 ho2 with h | h
        · rcases h.tail_cases with h3 | ⟨p, hp, hpe⟩
          · exact hne h3
          · have hpx := uniq _ _ _ hpe e2
            rw [hpx] at hp
            exact hcyc c1 e1 hp
        · rcases h.tail_cases with h3 | ⟨p, hp, hpe⟩
          · exact hne h3.symm
          · have hpx := uniq _ _ _ hpe e1
            rw [hpx] at hp
            exact hcyc c2 e2 hp
      · intro c hc b hb o ho1 ho2
        exact hsep'.1 b hb o (MReach.step (edge_of_mem_kids hc) ho1) ho2
    refine List.nodup_cons.mpr ⟨?_, walkDirs_nodup s uniq hchild fuel _ hnc' hsepc⟩
    intro hmem
    obtain ⟨a, ha, hr⟩ := walkDirs_sound s fuel _ x hmem
    rcases List.mem_append.mp ha with h1 | h1
    · exact hcyc a (edge_of_mem_kids h1) hr
    · exact hx_rest a h1 hr

theorem dirItems_nodup {P : Params} {s : Store} {o : Nat} (hok : DirOK P (s.dir o)) : (dirItems s o).Nodup := by
  unfold dirItems
  split
  · simp
  · have hn : (s.dir o).entries.Pairwise (fun a b => a.name ≠ b.name) :=
      List.Pairwise.imp_of_mem (fun {a b} ha hb hab hname =>
        hab (by rw [hok.norm a ha, hok.norm b hb, hname])) hok.nodup
    exact (hn.filter _).map _ (fun a b hab h => hab (congrArg Report.name h))

theorem filterWalk_nodup {P : Params} (s : Store) (hok : ∀ a, DirOK P (s.dir a)) (fuel : Nat) (stack : List Nat)
    (hd : (walkDirs fuel s stack).Nodup) : (filterWalk fuel s stack).Nodup := by
  rw [filterWalk_eq_flatMap]
  refine List.pairwise_flatMap.mpr ⟨fun a _ => dirItems_nodup (hok a), ?_⟩
  refine List.Pairwise.imp ?_ hd
  intro a b hab x hx y hy hxy
  apply hab
  rw [← cookie_of_mem_dirItems hx, ← cookie_of_mem_dirItems hy, hxy]

theorem walkDirs_length_of_not_done (s : Store) : ∀ (fuel : Nat) (stack : List Nat),
    walkDone fuel s stack = false → (walkDirs fuel s stack).length = fuel
  | fuel, [], h => by cases fuel <;> simp [walkDone] at h
  | 0, _ :: _, _ => by simp [walkDirs]
  | fuel + 1, x :: rest, h => by
    rw [walkDone_succ] at h
    rw [walkDirs_succ, List.length_cons, walkDirs_length_of_not_done s fuel _ h]

theorem mreach_lt {P : Params} {s : Store} (h : Inv P s) {d o : Nat} (hd : d < s.dirs.length)
    (hr : MReach s d o) : o < s.dirs.length := by
  rcases hr.tail_cases with h1 | ⟨p, _, hpe⟩
  · omega
  · apply h.dirRef o
    have hplt := edge_lt hpe
    have : Child.dir o ∈ refs s := by
      rw [mem_refs]
      exact ⟨s.dir p, dir_mem s p hplt, by simpa [MEdge] using hpe⟩
    simp [this]

/-- On a hierarchy without a cycle below `d` the model's fuel is enough. -/
theorem walkDone_of_noCyc {P : Params} {s : Store} (h : Inv P s) (d : Nat) (hd : d < s.dirs.length)
    (hnc : NoCyc s [d]) (k : Nat) : walkDone (s.dirs.length + k + 1) s [d] = true := by
  cases hdone : walkDone (s.dirs.length + k + 1) s [d] with
  | true => rfl
  | false =>
    exfalso
    have hlen := walkDirs_length_of_not_done s _ _ hdone
    have hnd := walkDirs_nodup s (fun p a c => edge_parent_unique h) (dirChildren_nodup h) (s.dirs.length + k + 1) [d] hnc
      (by simp [Sep])
    have hsub : walkDirs (s.dirs.length + k + 1) s [d] ⊆ List.range s.dirs.length := by
      intro o ho
      obtain ⟨a, ha, hr⟩ := walkDirs_sound s _ _ o ho
      simp at ha
      subst ha
      exact List.mem_range.mpr (mreach_lt h hd hr)
    have := hnd.length_le_of_subset hsub
    simp at this
    omega

end BbRe.Lemmas.Dir
