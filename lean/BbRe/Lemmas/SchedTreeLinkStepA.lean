import BbRe.Lemmas.SchedTreeLinkCore
/-!
Step lemmas of the tree layer: `worker.wakeUp` of a parked worker, enqueueing the operations of a task,
and replacing a worker / task record by one that looks the same to the tree layer.
-/
namespace BbRe.Lemmas.SchedTree
open BbRe.Sched BbRe.SchedTree BbRe.Lemmas.SchedInv

variable {X : List (ScqId × List Nat)}

/-! ### `worker.wakeUp` -/

theorem unparkTree_nodes (ts : TState) (q : ScqId) (w : WId) (p : List Nat) (h : ts.lastOf q w = some p) :
    (ts.unparkTree q w).nodes = dequeueW ts.nodes q p w := by
  unfold TState.unparkTree; simp only [h]

/-- an entry of `setWX l q w g` with key `(q, w)` is `g y` for some `y` -/
theorem mem_setWX_key {l : List WX} {q : ScqId} {w : WId} {g : WX → WX} {x : WX}
    (hx : x ∈ setWX l q w g) (hk : x.scq = q ∧ x.id = w) : ∃ y, x = g y := by
  unfold setWX at hx
  obtain ⟨y, _, hy⟩ := List.mem_map.mp hx
  by_cases hc : y.scq = q ∧ y.id = w
  · simp only [hc, and_self, if_true] at hy; exact ⟨y, hy.symm⟩
  · simp only [hc, if_false] at hy
    subst hy; exact absurd hk hc

/-- `worker.wakeUp` of a parked worker: it leaves `idleSynchronizingWorkers` -/
theorem wake_ts {ex exo} {ts : TState} {w : Worker} (hT : TInvX ex exo X ts)
    (hw : wfind ts.s.workers w.scq w.id = some w) (hp : w.parked = true) :
    TS X (tWake ts w) := by
  refine ⟨?_, ?_⟩
  · have hwt : w.task = none := hT.inv.core.w1 w.scq w.id w hw hp
    obtain ⟨x0, p, hx0, hxq, hxi, hxp, hpl, hlo⟩ := hT.side.last_of_idle hw hwt
    let g : WX → WX := fun y => { y with parked := false }
    have hg : ∀ y, wxkey (g y) = wxkey y := fun y => rfl
    have hwx' : (tWake ts w).wx = setWX ts.wx w.scq w.id g := rfl
    have hnodes : (tWake ts w).nodes = dequeueW ts.nodes w.scq p w.id := unparkTree_nodes ts w.scq w.id p hlo
    have hE' : bagE (tWake ts w) = bagE ts := rfl
    have hQ' : bagQ (tWake ts w) = bagQ ts := rfl
    have hP' : ((bagP ts).erase (w.scq, p, w.id)).Perm (bagP (tWake ts w)) := by
      have := bagP_setWX ts.wx w.scq w.id g hg hT.side.wxnd x0 hx0
      have e1 : conP (g x0) = [] := rfl
      have e2 : conP x0 = [(w.scq, p, w.id)] := by unfold conP; rw [hpl, hxq, hxi, hxp, hp]; rfl
      rw [e1, e2, List.append_nil] at this
      rw [bagP_def, bagP_def, hwx']
      exact perm_erase_of_append this
    have hI' : (bagI ts).Perm (bagI (tWake ts w)) := by
      have := bagI_setWX ts.wx w.scq w.id g hg hT.side.wxnd x0 hx0
      have e1 : conI (g x0) = conI x0 := rfl
      rw [e1] at this
      rw [bagI_def, bagI_def, hwx']
      exact (List.perm_append_right_iff _).mp this
    have hc : (w.scq, p, w.id) ∈ bagP ts := by
      rw [bagP_def]
      refine List.mem_flatMap.mpr ⟨x0, List.mem_of_find?_eq_some hx0, ?_⟩
      unfold conP; rw [hpl, hxq, hxi, hxp, hp]; simp
    have h1 : (w.scq, p, w.id) ∉ (bagP ts).erase (w.scq, p, w.id) := by
      intro hm
      have hm' := hP'.mem_iff.mp hm
      rw [bagP_def, hwx'] at hm'
      obtain ⟨x, hx, hcx⟩ := List.mem_flatMap.mp hm'
      have hxpark : x.parked = true ∧ x.scq = w.scq ∧ x.id = w.id := by
        unfold conP at hcx
        split at hcx
        · rename_i hpk
          cases hl : x.last with
          | none => rw [hl] at hcx; cases hcx
          | some p' =>
            rw [hl] at hcx
            simp only [List.mem_singleton, Prod.mk.injEq] at hcx
            exact ⟨hpk, hcx.1.symm, hcx.2.2.symm⟩
        · cases hcx
      obtain ⟨y, hy⟩ := mem_setWX_key hx hxpark.2
      rw [hy] at hxpark
      exact absurd hxpark.1 (by simp [g])
    have h := dequeueW_ok hT.tree w.scq p w.id hc h1
    rw [hnodes, hE', hQ']
    exact h.congr (List.Perm.refl _) hI' (fun c => Iff.rfl) (fun c => hP'.mem_iff)
  · have hS := hT.side
    exact hS.of_setWX (g := fun y => { y with parked := false }) (wn := { w with parked := false, woken := true })
      (fun y => rfl) hw rfl rfl ⟨rfl, rfl⟩ (fun x0 _ _ hl => ⟨rfl, hl⟩)
      (side_nodes hS (tWake_nframe ts w) (scqs' := ts.s.scqs) (by intro q hq; cases hq)
        (fun sq h => h) (fun sq h => Or.inl h)) hS.oxok hS.wq

/-! ### `for o in t.operations { o.enqueue() }` -/

theorem enqOps_nodes (ts : TState) (t : Task) :
    (ts.enqOps t).nodes = t.ops.foldl (fun ns o => enqueueOp ts.prioOf ns t.scq (ts.invOf o) o) ts.nodes := rfl

theorem conQ_queued (ts : TState) (t : Task) :
    conQ ts.ox { t with queued := true } = t.ops.map (fun o => (t.scq, ts.invOf o, o)) := by
  unfold conQ; simp only [if_true]; rfl

/-- `for o in t.operations { o.enqueue() }`: the task becomes queued -/
theorem enqueue_ts {ex exo} {ts : TState} {t : Task} (hT : TInvX ex exo X ts)
    (ht : alookup t.id ts.s.tasks = some t) (htw : t.worker = none) (hq : t.queued = false)
    (hnd : t.ops.Nodup)
    (hown : ∀ k t', alookup k ts.s.tasks = some t' → ∀ o ∈ t'.ops, o ∈ t.ops → k = t.id)
    (hn : ∀ o ∈ t.ops, (node? ts.nodes t.scq (ts.invOf o)).isSome = true)
    (hX : ∀ x ∈ X, ∃ o ∈ t.ops, onPathOf t.scq (ts.invOf o) x = true) :
    TS [] ((ts.enqOps t).setS (ts.s.setTask { t with queued := true })) := by
  let t1 : Task := { t with queued := true }
  let ts' : TState := (ts.enqOps t).setS (ts.s.setTask t1)
  show TS [] ts'
  have hS := hT.side
  -- no operation of `t` is queued
  have hnq : ∀ o ∈ t.ops, (t.scq, ts.invOf o, o) ∉ bagQ ts := by
    intro o ho hm
    rw [bagQ_def] at hm
    obtain ⟨kt, hkt, hc⟩ := List.mem_flatMap.mp hm
    obtain ⟨k, t'⟩ := kt
    have hl : alookup k ts.s.tasks = some t' := alookup_of_mem hT.inv.core.tnd hkt
    simp only [] at hc
    unfold conQ at hc
    split at hc
    · rename_i hqd
      obtain ⟨o', ho', he⟩ := List.mem_map.mp hc
      simp only [Prod.mk.injEq] at he
      have : o' = o := he.2.2
      subst this
      have hk := hown k t' hl o' ho' ho
      subst hk
      rw [ht] at hl; cases hl
      rw [hq] at hqd; cases hqd
    · cases hc
  have h1 := enqOps_ok hT.tree ts.prioOf t.scq ts.invOf t.ops hn hnd hnq
  have hX0 : X.filter (fun x => !t.ops.any (fun o => onPathOf t.scq (ts.invOf o) x)) = [] := by
    rw [List.filter_eq_nil_iff]
    intro x hx
    obtain ⟨o, ho, hon⟩ := hX x hx
    have : t.ops.any (fun o => onPathOf t.scq (ts.invOf o) x) = true := List.any_eq_true.mpr ⟨o, ho, hon⟩
    simp [this]
  rw [hX0] at h1
  have hE' : (bagE ts).Perm (bagE ts') := by
    have := bagE_setTask ts (ts.s.setTask t1) t t1 ts.ox ht rfl (fun _ _ => rfl) ts' rfl rfl
    rw [conE_unassigned _ t htw, conE_unassigned _ t1 htw, List.append_nil, List.append_nil] at this
    exact this
  have hQ' : (t.ops.map (fun o => (t.scq, ts.invOf o, o)) ++ bagQ ts).Perm (bagQ ts') := by
    have := bagQ_setTask ts (ts.s.setTask t1) t t1 ts.ox ht rfl (fun _ _ => rfl) ts' rfl rfl
    rw [conQ_unqueued _ t hq, conQ_queued ts t, List.append_nil] at this
    exact List.perm_append_comm.trans this
  refine ⟨?_, ?_⟩
  · show TreeOK [] (ts.enqOps t).nodes (bagE ts') (bagI ts') (bagQ ts') (bagP ts')
    rw [enqOps_nodes]
    exact h1.congr hE' (List.Perm.refl _) (fun c => hQ'.mem_iff) (fun c => Iff.rfl)
  · have hnodes := side_nodes hS (enqOps_nframe ts t) (scqs' := ts.s.scqs) (by intro q hq; cases hq)
      (fun sq h => h) (fun sq h => Or.inl h)
    refine ⟨hnodes.1, hnodes.2, hS.wxnd, hS.wxw, hS.wpl, hS.oxok, ?_⟩
    intro k t' q' w' hk hw'
    change alookup k (aset t.id t1 ts.s.tasks) = some t' at hk
    rw [alookup_aset] at hk
    by_cases hkk : t.id = k
    · simp only [hkk, if_true, Option.some.injEq] at hk
      subst hk
      have : t.worker = some (q', w') := hw'
      rw [htw] at this; cases this
    · simp only [hkk, if_false] at hk
      exact hS.wq k t' q' w' hk hw'

/-! ### record updates the tree layer does not see -/

/-- a worker record is replaced by one with the same `task` and `parked` (everything else of the scheduler
state that the tree layer looks at is unchanged) -/
theorem wset_ts {ex exo} {ts : TState} {q : ScqId} {w : WId} {wk wk' : Worker} {s' : State}
    (hT : TInvX ex exo X ts) (hw : wfind ts.s.workers q w = some wk)
    (hk : wk'.scq = wk.scq ∧ wk'.id = wk.id ∧ wk'.task = wk.task ∧ wk'.parked = wk.parked)
    (hsw : s'.workers = wset ts.s.workers wk') (hst : s'.tasks = ts.s.tasks) (hsq : s'.scqs = ts.s.scqs)
    (hso : ∀ o op', s'.op? o = some op' → ∃ op, ts.s.op? o = some op ∧ op'.inv = op.inv ∧ op'.prio = op.prio) :
    TS X (ts.setS s') := by
  have hS := hT.side
  obtain ⟨hwq, hwi⟩ := wfind_key hw
  refine ⟨?_, ?_⟩
  · obtain ⟨h1, h2, h3, h4⟩ := bags_setS_of_tasks ts s' hst
    rw [h1, h2, h3, h4]
    exact hT.tree
  · have hwf : ∀ q' w', wfind s'.workers q' w' =
        if wk'.scq = q' ∧ wk'.id = w' then (if (wfind ts.s.workers q' w').isSome then some wk' else none)
        else wfind ts.s.workers q' w' := by
      intro q' w'; rw [hsw, wfind_wset]
    refine hS.setS hsq (fun q' w' wk1 h1 => ?_) (fun q' w' h1 => ?_) hso
      (fun k t q' w' h1 h2 => hS.wq k t q' w' (hst ▸ h1) h2)
    · rw [hwf] at h1
      by_cases hc : wk'.scq = q' ∧ wk'.id = w'
      · rw [if_pos hc] at h1
        have hq' : q' = q := by rw [← hc.1, hk.1, hwq]
        have hw' : w' = w := by rw [← hc.2, hk.2.1, hwi]
        subst hq'; subst hw'
        rw [hw] at h1
        cases h1
        exact ⟨wk, hw, hk.2.2.2, hk.2.2.1⟩
      · rw [if_neg hc] at h1
        exact ⟨wk1, h1, rfl, rfl⟩
    · rw [hwf] at h1
      by_cases hc : wk'.scq = q' ∧ wk'.id = w'
      · rw [if_pos hc] at h1
        cases h : wfind ts.s.workers q' w' with
        | none => rfl
        | some _ => rw [h] at h1; cases h1
      · rw [if_neg hc] at h1; exact h1

theorem conE_congr (ox : List (Nat × OX)) {t t' : Task}
    (hk : t'.worker = t.worker ∧ t'.ops = t.ops ∧ t'.scq = t.scq) : conE ox t' = conE ox t := by
  unfold conE; rw [hk.1, hk.2.1, hk.2.2]

theorem conQ_congr (ox : List (Nat × OX)) {t t' : Task}
    (hk : t'.queued = t.queued ∧ t'.ops = t.ops ∧ t'.scq = t.scq) : conQ ox t' = conQ ox t := by
  unfold conQ; rw [hk.1, hk.2.1, hk.2.2]

/-- a task record is replaced by one with the same `worker`, `queued`, `ops`, `scq` -/
theorem taskset_ts {ex exo} {ts : TState} {t t' : Task} {s' : State}
    (hT : TInvX ex exo X ts) (ht : alookup t.id ts.s.tasks = some t)
    (hk : t'.id = t.id ∧ t'.worker = t.worker ∧ t'.queued = t.queued ∧ t'.ops = t.ops ∧ t'.scq = t.scq)
    (hst : s'.tasks = aset t.id t' ts.s.tasks) (hsw : s'.workers = ts.s.workers) (hsq : s'.scqs = ts.s.scqs)
    (hso : ∀ o op', s'.op? o = some op' → ∃ op, ts.s.op? o = some op ∧ op'.inv = op.inv ∧ op'.prio = op.prio) :
    TS X (ts.setS s') := by
  have hS := hT.side
  have ht' : alookup t'.id ts.s.tasks = some t := by rw [hk.1]; exact ht
  have hst' : s'.tasks = aset t'.id t' ts.s.tasks := by rw [hk.1]; exact hst
  have hE' : (bagE ts).Perm (bagE (ts.setS s')) := by
    have := bagE_setTask ts s' t t' ts.ox ht' hst' (fun _ _ => rfl) (ts.setS s') rfl rfl
    rw [conE_congr ts.ox ⟨hk.2.1, hk.2.2.2.1, hk.2.2.2.2⟩] at this
    exact (List.perm_append_right_iff _).mp this
  have hQ' : (bagQ ts).Perm (bagQ (ts.setS s')) := by
    have := bagQ_setTask ts s' t t' ts.ox ht' hst' (fun _ _ => rfl) (ts.setS s') rfl rfl
    rw [conQ_congr ts.ox ⟨hk.2.2.1, hk.2.2.2.1, hk.2.2.2.2⟩] at this
    exact (List.perm_append_right_iff _).mp this
  refine ⟨?_, ?_⟩
  · show TreeOK X ts.nodes (bagE (ts.setS s')) (bagI ts) (bagQ (ts.setS s')) (bagP ts)
    exact hT.tree.congr hE' (List.Perm.refl _) (fun c => hQ'.mem_iff) (fun c => Iff.rfl)
  · refine hS.setS hsq (fun q w wk' h => ⟨wk', hsw ▸ h, rfl, rfl⟩) (fun q w h => hsw ▸ h) hso ?_
    intro k t'' q w h1 h2
    rw [hst, alookup_aset] at h1
    by_cases hkk : t.id = k
    · rw [if_pos hkk] at h1
      cases h1
      rw [hk.2.1] at h2
      rw [hk.2.2.2.2]
      exact hS.wq t.id t q w ht h2
    · rw [if_neg hkk] at h1
      exact hS.wq k t'' q w h1 h2

end BbRe.Lemmas.SchedTree
