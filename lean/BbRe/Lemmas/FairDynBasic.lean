import BbRe.Model.FairDyn
import BbRe.Lemmas.FairWalk
import BbRe.Lemmas.GoHeapMap
/-!
Basic facts about the dynamic C04 model: the setters in constructor form, lookups after a child
was replaced, positions of references.
-/
namespace BbRe.Lemmas.Fair
open BbRe.Fair BbRe.GoHeap BbRe.Lemmas.GoHeap

namespace S
open BbRe.Fair.Inv
/-! A setter is the constructor applied to the old fields with one replaced.  With the projections'
equations for a constructor (`Inv.key (mk k …) = k`, …) `simp` reads every field of a setter off
these nine. -/
@[simp] theorem setOps_eq (i : Inv) (v : List Op) :
    i.setOps v = .mk i.key v i.queued i.prio i.exec i.started i.parked i.parkedKids i.completed i.kids := by cases i; rfl
@[simp] theorem setQueued_eq (i : Inv) (v : List Nat) :
    i.setQueued v = .mk i.key i.ops v i.prio i.exec i.started i.parked i.parkedKids i.completed i.kids := by cases i; rfl
@[simp] theorem setPrio_eq (i : Inv) (v : Int) :
    i.setPrio v = .mk i.key i.ops i.queued v i.exec i.started i.parked i.parkedKids i.completed i.kids := by cases i; rfl
@[simp] theorem setExec_eq (i : Inv) (v : Nat) :
    i.setExec v = .mk i.key i.ops i.queued i.prio v i.started i.parked i.parkedKids i.completed i.kids := by cases i; rfl
@[simp] theorem setStarted_eq (i : Inv) (v : Nat) :
    i.setStarted v = .mk i.key i.ops i.queued i.prio i.exec v i.parked i.parkedKids i.completed i.kids := by cases i; rfl
@[simp] theorem setParked_eq (i : Inv) (v : List Nat) :
    i.setParked v = .mk i.key i.ops i.queued i.prio i.exec i.started v i.parkedKids i.completed i.kids := by cases i; rfl
@[simp] theorem setParkedKids_eq (i : Inv) (v : List Nat) :
    i.setParkedKids v = .mk i.key i.ops i.queued i.prio i.exec i.started i.parked v i.completed i.kids := by cases i; rfl
@[simp] theorem setCompleted_eq (i : Inv) (v : Nat) :
    i.setCompleted v = .mk i.key i.ops i.queued i.prio i.exec i.started i.parked i.parkedKids v i.kids := by cases i; rfl
@[simp] theorem setKids_eq (i : Inv) (v : List Inv) :
    i.setKids v = .mk i.key i.ops i.queued i.prio i.exec i.started i.parked i.parkedKids i.completed v := by cases i; rfl

attribute [simp] Inv.key.eq_1 Inv.ops.eq_1 Inv.queued.eq_1 Inv.prio.eq_1 Inv.exec.eq_1 Inv.started.eq_1 Inv.parked.eq_1
  Inv.parkedKids.eq_1 Inv.completed.eq_1 Inv.kids.eq_1

theorem setOps_ops (i : Inv) (v : List Op) : (i.setOps v).ops = v := by simp
theorem setOps_queued (i : Inv) (v : List Op) : (i.setOps v).queued = i.queued := by simp
theorem setOps_kids (i : Inv) (v : List Op) : (i.setOps v).kids = i.kids := by simp
theorem setQueued_queued (i : Inv) (v : List Nat) : (i.setQueued v).queued = v := by simp
theorem setKids_ops (i : Inv) (v : List Inv) : (i.setKids v).ops = i.ops := by simp
theorem setKids_queued (i : Inv) (v : List Inv) : (i.setKids v).queued = i.queued := by simp
theorem setKids_kids (i : Inv) (v : List Inv) : (i.setKids v).kids = v := by simp

@[simp] theorem setOps_completed (i : Inv) (v : List Op) : (i.setOps v).completed = i.completed := by cases i; rfl
@[simp] theorem setQueued_completed (i : Inv) (v : List Nat) : (i.setQueued v).completed = i.completed := by cases i; rfl
@[simp] theorem setPrio_completed (i : Inv) (v : Int) : (i.setPrio v).completed = i.completed := by cases i; rfl
@[simp] theorem setExec_exec (i : Inv) (v : Nat) : (i.setExec v).exec = v := by cases i; rfl
@[simp] theorem setExec_started (i : Inv) (v : Nat) : (i.setExec v).started = i.started := by cases i; rfl
@[simp] theorem setExec_completed (i : Inv) (v : Nat) : (i.setExec v).completed = i.completed := by cases i; rfl
@[simp] theorem setStarted_exec (i : Inv) (v : Nat) : (i.setStarted v).exec = i.exec := by cases i; rfl
@[simp] theorem setStarted_started (i : Inv) (v : Nat) : (i.setStarted v).started = v := by cases i; rfl
@[simp] theorem setStarted_completed (i : Inv) (v : Nat) : (i.setStarted v).completed = i.completed := by cases i; rfl
@[simp] theorem setParked_completed (i : Inv) (v : List Nat) : (i.setParked v).completed = i.completed := by cases i; rfl
@[simp] theorem setParkedKids_completed (i : Inv) (v : List Nat) : (i.setParkedKids v).completed = i.completed := by cases i; rfl
@[simp] theorem setCompleted_exec (i : Inv) (v : Nat) : (i.setCompleted v).exec = i.exec := by cases i; rfl
@[simp] theorem setCompleted_started (i : Inv) (v : Nat) : (i.setCompleted v).started = i.started := by cases i; rfl
@[simp] theorem setCompleted_completed (i : Inv) (v : Nat) : (i.setCompleted v).completed = v := by cases i; rfl
@[simp] theorem setKids_completed (i : Inv) (v : List Inv) : (i.setKids v).completed = i.completed := by cases i; rfl
end S

theorem replaceKid_keys (kids : List Inv) (c' : Inv) : (replaceKid kids c').map Inv.key = kids.map Inv.key := by
  unfold replaceKid
  rw [List.map_map]
  apply List.map_congr_left
  intro c _
  simp only [Function.comp]
  split
  · rename_i h; exact h.symm
  · rfl

theorem mem_replaceKid (kids : List Inv) (c' x : Inv) :
    x ∈ replaceKid kids c' ↔ (x = c' ∧ ∃ c ∈ kids, c.key = c'.key) ∨ (x ∈ kids ∧ x.key ≠ c'.key) := by
  unfold replaceKid
  rw [List.mem_map]
  constructor
  · rintro ⟨c, hc, rfl⟩
    split
    · rename_i h; exact Or.inl ⟨rfl, c, hc, h⟩
    · rename_i h; exact Or.inr ⟨hc, h⟩
  · rintro (⟨rfl, c, hc, h⟩ | ⟨hx, hne⟩)
    · exact ⟨c, hc, by rw [if_pos h]⟩
    · exact ⟨x, hx, by rw [if_neg hne]⟩

/-- What holds of the old children and of the new child holds of the children afterwards. -/
theorem forall_mem_replaceKid {P : Inv → Prop} {kids : List Inv} {c' : Inv} (h : ∀ d ∈ kids, P d) (hc : P c') :
    ∀ d ∈ replaceKid kids c', P d := by
  intro d hd
  rcases (mem_replaceKid _ _ _).mp hd with ⟨rfl, _⟩ | ⟨hd', _⟩
  · exact hc
  · exact h d hd'

theorem find?_replaceKid (kids : List Inv) (c' : Inv) (x : Nat) :
    (replaceKid kids c').find? (fun c => c.key == x) =
      if x = c'.key then (kids.find? fun c => c.key == x).map (fun _ => c') else kids.find? fun c => c.key == x := by
  induction kids with
  | nil => simp [replaceKid]
  | cons a kids ih =>
    unfold replaceKid at ih ⊢
    rw [List.map_cons, List.find?_cons, List.find?_cons]
    by_cases hak : a.key = c'.key
    · rw [if_pos hak]
      by_cases hx : x = c'.key
      · subst hx
        simp [hak]
      · have h1 : (c'.key == x) = false := by simpa using fun h => hx h.symm
        have h2 : (a.key == x) = false := by rw [hak]; exact h1
        rw [h1, h2, ih, if_neg hx]
    · rw [if_neg hak]
      cases hax : (a.key == x) with
      | true =>
        have : a.key = x := by simpa using hax
        have hx : ¬ x = c'.key := fun h => hak (this.trans h)
        simp [hx]
      | false => simp only []; rw [ih]

theorem kidOr_replaceKid_ne (kids : List Inv) (c' : Inv) (x : Nat) (h : x ≠ c'.key) :
    kidOr (replaceKid kids c') x = kidOr kids x := by
  unfold kidOr; rw [find?_replaceKid, if_neg h]

theorem kidOr_replaceKid_self (kids : List Inv) (c' c : Inv) (hc : c ∈ kids) (hk : c.key = c'.key) :
    kidOr (replaceKid kids c') c'.key = c' := by
  unfold kidOr
  rw [find?_replaceKid, if_pos rfl]
  cases hf : kids.find? (fun c => c.key == c'.key) with
  | none =>
    have := List.find?_eq_none.mp hf c hc
    simp [hk] at this
  | some _ => rfl

theorem kidOr_of_child (i : Inv) (k : Nat) (c : Inv) (h : i.child k = some c) : kidOr i.kids k = c := by
  unfold kidOr; unfold Inv.child at h; rw [h]; rfl

theorem child_storeKid_ne (P c' : Inv) (x : Nat) (h : x ≠ c'.key) : (storeKid P c').child x = P.child x := by
  unfold storeKid Inv.child
  rw [S.setKids_kids, find?_replaceKid, if_neg h]

theorem refIndex_none_iff (q : List Nat) (k : Nat) : refIndex q k = none ↔ k ∉ q := by
  induction q with
  | nil => simp [refIndex]
  | cons x xs ih =>
    unfold refIndex
    by_cases hx : x = k
    · simp [hx]
    · rw [if_neg hx]
      simp only [Option.map_eq_none_iff, ih, List.mem_cons, not_or]
      exact ⟨fun h => ⟨fun e => hx e.symm, h⟩, fun h => h.2⟩

theorem refIndex_some (q : List Nat) (k idx : Nat) (h : refIndex q k = some idx) :
    idx < q.length ∧ q[idx]? = some k := by
  induction q generalizing idx with
  | nil => simp [refIndex] at h
  | cons x xs ih =>
    unfold refIndex at h
    by_cases hx : x = k
    · rw [if_pos hx] at h
      simp only [Option.some.injEq] at h
      subst h
      simp [hx]
    · rw [if_neg hx] at h
      cases hr : refIndex xs k with
      | none => rw [hr] at h; cases h
      | some j =>
        rw [hr] at h
        simp only [Option.map_some, Option.some.injEq] at h
        subst h
        obtain ⟨h1, h2⟩ := ih j hr
        exact ⟨by simp; omega, by simpa using h2⟩

end BbRe.Lemmas.Fair
