import BbRe.Lemmas.PoolStack
import BbRe.Lemmas.FilePoolOps
/-!
The file layer never holds a sector it was not handed: after any operation of `Model/FilePool.lean`
the allocated list is contained in the allocated list before it plus the sectors of the allocator
answers supplied with the operation (`step_allocd_sub`).  `Bd S e`: everything allocated in `e`, and
everything the remaining answers could still add, lies in `S`.
-/
namespace BbRe.Lemmas.PoolStack
open BbRe BbRe.PoolStack BbRe.FilePool BbRe.Lemmas.FilePool

def Bd (S : Nat → Prop) (e : Env) : Prop :=
  (∀ s ∈ e.allocd, S s) ∧ (∀ s ∈ ansSectors e.answers, S s)

theorem Bd.same {S : Nat → Prop} {e e' : Env} (h : Bd S e) (hs : SameAlloc e e') : Bd S e' := by
  obtain ⟨a, _, c⟩ := hs
  exact ⟨by rw [a]; exact h.1, by rw [c]; exact h.2⟩

theorem Bd.alloc {S : Nat → Prop} {e : Env} (h : Bd S e) (c : Cfg) (m : Nat) : Bd S (e.alloc c m).1 := by
  unfold Env.alloc
  split
  · exact h
  · rename_i rest heq
    refine ⟨h.1, fun s hs => h.2 s ?_⟩
    rw [heq]; simpa [ansSectors] using hs
  · rename_i first count rest heq
    have h2 : ∀ s ∈ ansSectors rest, S s := fun s hs => h.2 s (by
      rw [heq]; simp only [ansSectors, List.mem_append]; exact Or.inr hs)
    have h3 : ∀ s ∈ List.range' first count, S s := fun s hs => h.2 s (by
      rw [heq]; simp only [ansSectors, List.mem_append]; exact Or.inl hs)
    split
    · refine ⟨fun s hs => ?_, h2⟩
      rcases List.mem_append.1 hs with h' | h'
      · exact h3 s h'
      · exact h.1 s h'
    · exact ⟨h.1, h2⟩

theorem foldl_freeOne_sub (l : List Nat) : ∀ (a : List Nat × Bool), ∀ s ∈ (l.foldl freeOne a).1, s ∈ a.1 := by
  induction l with
  | nil => intro a s hs; exact hs
  | cons x xs ih =>
    intro a s hs
    simp only [List.foldl_cons] at hs
    have := ih _ s hs
    unfold freeOne at this
    split at this
    · exact this
    · split at this
      · exact List.mem_of_mem_erase this
      · exact this

theorem Bd.freeList {S : Nat → Prop} {e : Env} (h : Bd S e) (l : List Nat) : Bd S (e.freeList l) := by
  unfold Env.freeList
  exact ⟨fun s hs => h.1 s (foldl_freeOne_sub l _ s hs), h.2⟩

theorem Bd.wns {S : Nat → Prop} {e : Env} (h : Bd S e) (c : Cfg) (hole : Hole) (p : List Byte) (idx ow : Nat) :
    Bd S (writeToNewSectors c hole e p idx ow).1 := by
  unfold writeToNewSectors
  have ha := h.alloc c ((ow + p.length + c.ss - 1) / c.ss)
  split
  · rename_i e1 heq; rw [heq] at ha; exact ha
  · rename_i e1 heq; rw [heq] at ha; exact ha
  · rename_i e1 first got heq
    rw [heq] at ha
    dsimp only
    have hp := wnsPhases_same c hole e1 (List.take (got * c.ss - ow) p) first idx ow
    split
    · rename_i e2 x heq2
      rw [heq2] at hp
      exact Bd.freeList (ha.same hp) _
    · rename_i e2 heq2
      rw [heq2] at hp
      exact ha.same hp

theorem Bd.wns' {S : Nat → Prop} {e : Env} (h : Bd S e) {c : Cfg} {hole : Hole} {p : List Byte} {idx ow : Nat}
    {r : Env × Except Err (Nat × Nat × Nat)} (heq : writeToNewSectors c hole e p idx ow = r) : Bd S r.1 :=
  heq ▸ h.wns c hole p idx ow

theorem Bd.wts {S : Nat → Prop} {e : Env} (h : Bd S e) (c : Cfg) (f : File) (p : List Byte) (idx endIdx ow : Nat) :
    Bd S (writeToSectors c f e p idx endIdx ow).2.1 := by
  unfold writeToSectors
  split
  · split
    · rename_i heq; exact h.wns' heq
    · rename_i heq
      try dsimp only
      split <;> exact h.wns' heq
  · dsimp only
    split
    · split
      · rename_i heq; exact h.wns' heq
      · rename_i heq
        try dsimp only
        split <;> exact h.wns' heq
    · split <;> exact h.same (devWrite_same _ _ _)

theorem Bd.wloop {S : Nat → Prop} (c : Cfg) : ∀ (fuel : Nat) (f : File) (e : Env) (p : List Byte) (idx endIdx ow : Nat),
    Bd S e → Bd S (writeLoop c fuel f e p idx endIdx ow).2.1 := by
  intro fuel
  induction fuel with
  | zero => intro f e p idx endIdx ow h; exact h
  | succ k ih =>
    intro f e p idx endIdx ow h
    unfold writeLoop
    dsimp only
    have hw := h.wts c f p idx endIdx ow
    split
    · exact hw
    · split
      · exact hw
      · exact ih _ _ _ _ _ _ hw

theorem Bd.wat {S : Nat → Prop} {e : Env} (h : Bd S e) (c : Cfg) (f : File) (p : List Byte) (off : Int) :
    Bd S (writeAt c f e p off).2.1 := by
  unfold writeAt
  split
  · exact h
  · split
    · exact h
    · dsimp only
      exact Bd.wloop c _ _ _ _ _ _ _ h

theorem Bd.truncSecs {S : Nat → Prop} {e : Env} (h : Bd S e) (f : File) (k : Nat) : Bd S (truncateSectors f e k).2 := by
  unfold truncateSectors
  split
  · exact h.freeList _
  · exact h

theorem Bd.trunc {S : Nat → Prop} {e : Env} (h : Bd S e) (c : Cfg) (f : File) (size : Int) :
    Bd S (truncate c f e size).2.1 := by
  unfold truncate
  split
  · exact h
  · dsimp only
    generalize hzr : (if size.toNat % c.ss ≠ 0 ∧ size.toNat < f.size ∧ size.toNat / c.ss < f.sectors.length ∧
        f.sectors.getD (size.toNat / c.ss) 0 ≠ 0 then
        e.devWrite ((f.sectors.getD (size.toNat / c.ss) 0 - 1) * c.ss + size.toNat % c.ss)
          (List.replicate (min (c.ss - size.toNat % c.ss) (f.size - size.toNat)) 0)
        else (e, none)) = zr
    have hs : SameAlloc e zr.1 := by
      rw [← hzr]; split
      · exact devWrite_same _ _ _
      · exact SameAlloc.refl e
    have h1 := h.same hs
    split
    · exact h1
    · generalize (if size.toNat % c.ss = 0 then size.toNat / c.ss else size.toNat / c.ss + 1) = k
      have ht := h1.truncSecs f k
      split
      · split
        · exact ⟨ht.1, ht.2⟩
        · exact ht
      · exact ht

theorem Bd.close {S : Nat → Prop} {e : Env} (h : Bd S e) (f : File) : Bd S (close f e).2.1 := by
  unfold FilePool.close
  dsimp only
  have h1 : Bd S (if f.sectors.length > 0 then e.freeList f.sectors else e) := by
    split
    · exact h.freeList _
    · exact h
  generalize (if f.sectors.length > 0 then e.freeList f.sectors else e) = e1 at h1 ⊢
  split
  · exact ⟨h1.1, h1.2⟩
  · exact h1

/-- the environment an operation starts in -/
theorem Bd.env (st : FilePool.State) (o : Oracle) :
    Bd (fun s => s ∈ st.allocd ∨ s ∈ ansSectors o.answers) (st.env o) :=
  ⟨fun _ hs => Or.inl hs, fun _ hs => Or.inr hs⟩

theorem fileOp_bd {S : Nat → Prop} {e : Env} (h : Bd S e) (c : Cfg) (f : File) (op : Op) :
    Bd S (fileOp c f e op).2.1 := by
  cases op with
  | new _ _ => exact h
  | len _ => exact h
  | read _ off n => exact h.same (readAt_same c f e off n)
  | seek _ off data => exact h.same (seek_same c f e off data)
  | write _ off p => exact h.wat c f p off
  | trunc _ size => exact h.trunc c f size
  | close _ => exact h.close f

/-- **The file layer never holds a sector it was not handed.** -/
theorem step_allocd_sub (st : FilePool.State) (op : Op) (o : Oracle) :
    ∀ s ∈ (FilePool.step st op o).1.allocd, s ∈ st.allocd ∨ s ∈ ansSectors o.answers :=
  step_elim st op o (fun s' => ∀ s ∈ s'.allocd, s ∈ st.allocd ∨ s ∈ ansSectors o.answers)
    (fun _ _ _ _ hs => Or.inl hs) (fun _ hs => Or.inl hs)
    (fun _ f _ _ => (fileOp_bd (Bd.env st o) st.cfg f op).1)

end BbRe.Lemmas.PoolStack
