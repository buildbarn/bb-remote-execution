import BbRe.Lemmas.SchedTreePrioFixPrim
import BbRe.Lemmas.SchedTreePrioUpd
/-!
The invariant "exact caches" of the tree layer after the fix (`legacyPrio = false`) and the tree-only updates of
`TState`.
-/
namespace BbRe.Lemmas.SchedTree
open BbRe.Sched BbRe.SchedTree BbRe.Lemmas.SchedInv

/-- the tree recorded with a pick was the snapshot of a node list with exact caches -/
def DecFix (d : Decision) : Prop :=
  match d with
  | .pick q _ _ tree _ _ _ => ∃ (opOf : Nat → Fair.Op) (pr : Nat → Int) (ns : List Node),
      PrioFix pr ns ∧ StructOK ns ∧ (∀ o, (opOf o).prio = pr o) ∧ tree = snapshot opOf ns q
  | .handoff .. => True

/-- the code after the fix runs, every non-root invocation's cached priority is exact, the structural part, and
every logged pick saw such a tree -/
structure FixInv (ts : TState) : Prop where
  legacy : ts.legacyPrio = false
  n : NInv ts.prioOf ts.nodes
  dec : ∀ d ∈ ts.decisions, DecFix d

theorem FixInv.of_nodes {ts ts' : TState} (h : FixInv ts) (hl : ts'.legacyPrio = ts.legacyPrio) (hox : ts'.ox = ts.ox)
    (hd : ts'.decisions = ts.decisions) (hn : NInv ts.prioOf ts'.nodes) : FixInv ts' := by
  refine ⟨hl.trans h.legacy, ?_, by rw [hd]; exact h.dec⟩
  have : ts'.prioOf = ts.prioOf := by unfold TState.prioOf; rw [hox]
  rw [this]; exact hn

section
variable {ts : TState}

theorem FixInv.setS (s : State) (h : FixInv ts) : FixInv (ts.setS s) := h.of_nodes rfl rfl rfl h.n
theorem FixInv.setSticks (q : ScqId) (w : WId) (r : Nat) (h : FixInv ts) : FixInv (ts.setSticks q w r) :=
  h.of_nodes rfl rfl rfl h.n
theorem FixInv.setTX (t : Nat) (y : TX) (h : FixInv ts) : FixInv (ts.setTX t y) := h.of_nodes rfl rfl rfl h.n
theorem FixInv.dropTX (t : Nat) (h : FixInv ts) : FixInv (ts.dropTX t) := h.of_nodes rfl rfl rfl h.n
theorem FixInv.dropLimits (pq : Nat) (h : FixInv ts) : FixInv (ts.dropLimits pq) := h.of_nodes rfl rfl rfl h.n

theorem FixInv.log {d : Decision} (h : FixInv ts) (hd : DecFix d) : FixInv (ts.log d) := by
  refine ⟨h.legacy, h.n, ?_⟩
  intro d' hd'
  rcases List.mem_cons.mp hd' with e | e
  · rw [e]; exact hd
  · exact h.dec d' e

theorem FixInv.unparkTree (q : ScqId) (w : WId) (h : FixInv ts) : FixInv (ts.unparkTree q w) := by
  refine h.of_nodes rfl rfl rfl ?_
  show NInv ts.prioOf (match ts.lastOf q w with | some p => dequeueW ts.nodes q p w | none => ts.nodes)
  split
  · exact h.n.dequeueW _ _ _
  · exact h.n

theorem FixInv.parkTree (q : ScqId) (w : WId) (h : FixInv ts) : FixInv (ts.parkTree q w) := by
  refine h.of_nodes rfl rfl rfl ?_
  show NInv ts.prioOf (match ts.lastOf q w with | some p => parkW ts.nodes q p w | none => ts.nodes)
  split
  · exact h.n.parkW _ _ _
  · exact h.n

theorem FixInv.incOps (t : Task) (k : WKey) (h : FixInv ts) : FixInv (ts.incOps t k) := by
  refine h.of_nodes rfl rfl rfl ?_
  show NInv ts.prioOf (t.ops.foldl (fun ns o => incExecR ts.legacyPrio ts.prioOf ns t.scq (ts.invOf o) k ts.s.now) ts.nodes)
  rw [h.legacy]
  exact NInv.foldl _ (fun _ _ hb => hb.incExecR _ _ _ _) _ _ h.n

theorem FixInv.decOps (t : Task) (k : WKey) (h : FixInv ts) : FixInv (ts.decOps t k) := by
  refine h.of_nodes rfl rfl rfl ?_
  show NInv ts.prioOf (t.ops.foldl (fun ns o => decExecR ts.legacyPrio ts.prioOf ns t.scq (ts.invOf o) k ts.s.now) ts.nodes)
  rw [h.legacy]
  exact NInv.foldl _ (fun _ _ hb => hb.decExecR _ _ _ _) _ _ h.n

theorem FixInv.clearLast (q : ScqId) (w : WId) (h : FixInv ts) : FixInv (ts.clearLast q w) := by
  refine h.of_nodes rfl rfl rfl ?_
  show NInv ts.prioOf (match ts.lastOf q w with | some p => clearLastN ts.nodes q p | none => ts.nodes)
  split
  · exact h.n.clearLastN _ _
  · exact h.n

theorem FixInv.setLast (tq q : ScqId) (w : WId) (p : List Nat) (h : FixInv ts) : FixInv (ts.setLast tq q w p) :=
  h.of_nodes rfl rfl rfl (h.n.setLastN _ _)

theorem FixInv.createOps (t : Task) (h : FixInv ts) : FixInv (ts.createOps t) :=
  h.of_nodes rfl rfl rfl (NInv.foldl _ (fun _ _ hb => hb.getOrCreate _ _ _) _ _ h.n)

theorem FixInv.create (q : ScqId) (p : List Nat) (h : FixInv ts) : FixInv (ts.create q p) :=
  h.of_nodes rfl rfl rfl (h.n.getOrCreate _ _ _)

theorem FixInv.assignTree (w : Worker) (t : Task) (r : Nat) (h : FixInv ts) : FixInv (ts.assignTree w t r) :=
  ((h.incOps t (some w.id)).clearLast w.scq w.id).setSticks w.scq w.id r

theorem FixInv.deqOps (t : Task) (h : FixInv ts) : FixInv (ts.deqOps t) :=
  h.of_nodes rfl rfl rfl (NInv.foldl _ (fun _ _ hb => hb.removeQueuedOp _ _ _) _ _ h.n)

/-- `for _, o := range t.operations { o.enqueue() }` when the invocations of the operations exist -/
theorem FixInv.enqOps (t : Task) (h : FixInv ts) (hex : ∀ o ∈ t.ops, PathEx ts.nodes t.scq (ts.invOf o)) :
    FixInv (ts.enqOps t) :=
  h.of_nodes rfl rfl rfl (NInv.enqueueAll t.scq ts.invOf t.ops h.n hex)

theorem FixInv.detachTree (t : Task) (bw : Bool) (h : FixInv ts) : FixInv (ts.detachTree t bw) :=
  detachTree_keeps (fun _ t k h => FixInv.incOps t k h) (fun _ t k h => FixInv.decOps t k h)
    (fun _ t h => FixInv.deqOps t h) (fun _ tq q w p h => FixInv.setLast tq q w p h) t bw h

theorem FixInv.removeOpTree (t : Task) (o : Nat) (h : FixInv ts) : FixInv (ts.removeOpTree t o) := by
  unfold TState.removeOpTree
  split
  · exact h
  · refine h.of_nodes rfl rfl rfl ?_
    show NInv ts.prioOf (decExecR ts.legacyPrio ts.prioOf ts.nodes _ _ _ _)
    rw [h.legacy]
    exact h.n.decExecR _ _ _ _
  · exact h.of_nodes rfl rfl rfl (NInv.pruneChain _ _ (h.n.removeQueuedOp _ _ _))

theorem FixInv.dropScqTree (q : ScqId) (h : FixInv ts) : FixInv (ts.dropScqTree q) :=
  h.of_nodes rfl rfl rfl (h.n.dropScq q)

theorem FixInv.dropWorkerTree (q : ScqId) (w : WId) (h : FixInv ts) : FixInv (ts.dropWorkerTree q w) :=
  (h.clearLast q w).of_nodes rfl rfl rfl (h.clearLast q w).n

theorem FixInv.addWorkerTree (q : ScqId) (w : WId) (h : FixInv ts) : FixInv (ts.addWorkerTree q w) :=
  h.of_nodes rfl rfl rfl (h.n.setLastN _ _)

theorem FixInv.maybeDequeue (wk : Worker) (h : FixInv ts) : FixInv (ts.maybeDequeue wk) := by
  unfold TState.maybeDequeue
  split
  · exact h.unparkTree _ _
  · exact h

theorem FixInv.tWake (w : Worker) (h : FixInv ts) : FixInv (tWake ts w) := (h.unparkTree _ _).setS _

theorem FixInv.tTerminateOne (w : Worker) (h : FixInv ts) : FixInv (tTerminateOne ts w) :=
  tTerminateOne_keeps (fun _ s h => FixInv.setS s h) (fun _ w h => FixInv.tWake w h) w h

/-- a new size-class queue: no invocation belongs to it yet -/
theorem FixInv.addScqTree (q : ScqId) (h : FixInv ts) (hfresh : ∀ n ∈ ts.nodes, n.scq ≠ q) : FixInv (ts.addScqTree q) := by
  refine h.of_nodes rfl rfl rfl ?_
  have := h.n.append_roots [q] 0 (by simp) (fun n hn hm => hfresh n hn (by simpa using hm))
  exact this

theorem FixInv.tRegisterPQ (x : Extras) (id : Nat) (comps : List Nat) (platform : Nat) (sizes : List Nat) (bgMax : Nat)
    (bgPrio : Int) (h : FixInv ts) (hnd : sizes.Nodup) (hfresh : ∀ n ∈ ts.nodes, n.scq.pq ≠ id) :
    FixInv (tRegisterPQ x ts id comps platform sizes bgMax bgPrio) := by
  refine h.of_nodes rfl rfl rfl ?_
  have := h.n.append_roots (sizes.map (fun sc => (⟨id, sc⟩ : ScqId))) 0
    (nodup_map_injN hnd (fun a b e => by cases e; rfl)) ?_
  · rw [List.map_map] at this; exact this
  · intro n hn hm
    obtain ⟨sc, _, e⟩ := List.mem_map.mp hm
    exact hfresh n hn (by rw [← e])

/-- the table entry of an operation that is in no `queuedOperations` does not matter -/
theorem FixInv.setOX {o : Nat} (y : OX) (h : FixInv ts) (ho : ∀ n ∈ ts.nodes, o ∉ n.qops) : FixInv (ts.setOX o y) :=
  ⟨h.legacy, h.n.pr_congr fun n hn o' ho' => prioOf_setOX_ne ts (o := o) (o' := o') y fun e => ho n hn (e ▸ ho'), h.dec⟩

theorem FixInv.dropOX {o : Nat} (h : FixInv ts) (ho : ∀ n ∈ ts.nodes, o ∉ n.qops) : FixInv (ts.dropOX o) :=
  ⟨h.legacy, h.n.pr_congr fun n hn o' ho' => prioOf_dropOX_ne ts (o := o) (o' := o') fun e => ho n hn (e ▸ ho'), h.dec⟩

theorem FixInv.withIncExec (h : FixInv ts) (q : ScqId) (p : List Nat) (w : WKey) (now : Nat) :
    FixInv { ts with nodes := incExecR ts.legacyPrio ts.prioOf ts.nodes q p w now } := by
  refine h.of_nodes rfl rfl rfl ?_
  show NInv ts.prioOf (incExecR ts.legacyPrio ts.prioOf ts.nodes q p w now)
  rw [h.legacy]
  exact h.n.incExecR _ _ _ _

theorem FixInv.withEnqueue (h : FixInv ts) (q : ScqId) (p : List Nat) (o : Nat) (hex : PathEx ts.nodes q p) :
    FixInv { ts with nodes := enqueueOp ts.prioOf ts.nodes q p o } :=
  h.of_nodes rfl rfl rfl (h.n.enqueueOp q p o hex)

end

end BbRe.Lemmas.SchedTree
