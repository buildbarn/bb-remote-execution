import BbRe.Lemmas.InputRootEquiv
import BbRe.Lemmas.InputRootFetch
/-!
The eager tree (`expand`) for C17: it is equivalent to the lazy one for every
fuel, and with fuel above the DAG depth of the root nothing fetchable is left
lazy in it.
-/
namespace BbRe.Lemmas.InputRoot
open BbRe.InputRoot

theorem expand_equiv (c : CAS) : ∀ (f : Nat) (n : Node), Equiv c (expand c f n) n := by
  intro f
  induction f with
  | zero => intro n; simp only [expand]; exact Equiv.refl c n
  | succ f ih =>
    intro n
    cases n with
    | dir ch =>
      simp only [expand]
      exact equiv_dir (chrel_map (expand c f) ih ch)
    | lazy d m =>
      simp only [expand]
      cases h : (fetch c [] d m).result with
      | error e => exact Equiv.refl c _
      | ok ch =>
        dsimp only
        have hc : contents c [] (.lazy d m) = .ok ch := by simp [contents, h]
        exact (equiv_dir (chrel_map (expand c f) ih ch)).trans (equiv_force hc)
    | _ => simp only [expand]; exact Equiv.refl c _

/-- Merging a digest into a fresh root attaches what the fetch returns; expanding that root
is expanding the digest. -/
theorem merge_init (c : CAS) (d : Dig) (ch : Children) (h : (fetch c [] d none).result = .ok ch) :
    merge (init c) [] d false = (⟨c, .dir ch⟩, .ok) := by
  simp [merge, init, h, contents, actMerge, hasName, lookup]

theorem expand_merged (c : CAS) (d : Dig) (ch : Children) (fuel : Nat)
    (h : (fetch c [] d none).result = .ok ch) :
    expand c (fuel + 1) (.dir ch) = expand c (fuel + 1) (.lazy d none) := by
  simp [expand, h]

theorem expand_file (c : CAS) (f : Nat) (d : Dig) (x : Bool) (m : Option Path) :
    expand c f (.file d x m) = .file d x m := by cases f <;> rfl

theorem expand_sym (c : CAS) (f : Nat) (t : Bytes) : expand c f (.sym t) = .sym t := by
  cases f <;> rfl

/-- A successful fetch comes from a well-formed message and yields exactly its entries. -/
theorem fetch_ok_spec (c : CAS) (d : Dig) (mon : Option Path) (ch : Children)
    (h : (fetch c [] d mon).result = .ok ch) :
    ∃ m, assoc c.dirs d = some (some m) ∧ WellFormed c.hashLen m ∧
      ch = (specChildren c.hashLen m).map (annotate mon) := by
  rcases fetchBase_cases c [] d with ⟨e, k, hb⟩ | ⟨m, hm, hw, hb⟩ <;> simp only [fetch, hb] at h
  · cases h
  · exact ⟨m, hm, hw, (Except.ok.inj h).symm⟩

theorem mem_conv {α : Type} (nameOf : α → Name) (mk : α → Option Node) (es : List α)
    (x : Name) (v : Node) (h : (x, v) ∈ conv nameOf mk es) : ∃ e ∈ es, nameOf e = x ∧ mk e = some v := by
  obtain ⟨e, he, hv⟩ := List.mem_filterMap.1 h
  obtain ⟨w, hw, heq⟩ := Option.map_eq_some_iff.1 hv
  cases heq
  exact ⟨e, he, rfl, hw⟩

/-- Children produced by a fetch are files, symlinks or lazy directories named by the message. -/
theorem mem_specChildren (hl : Nat) (m : DirMsg) (x : Name) (v : Node)
    (h : (x, v) ∈ specChildren hl m) :
    (∃ e ∈ m.dirs, ∃ d', parseDigest hl e.digest = some d' ∧ v = .lazy d' none) ∨
    (∃ d' ex, v = .file d' ex none) ∨ (∃ t, v = .sym t) := by
  simp only [specChildren, List.mem_append] at h
  rcases h with (h | h) | h <;> obtain ⟨e, he, _, hv⟩ := mem_conv _ _ _ _ _ h
  · obtain ⟨d', hp, rfl⟩ := Option.map_eq_some_iff.1 hv
    exact .inl ⟨e, he, d', hp, rfl⟩
  · obtain ⟨d', _, rfl⟩ := Option.map_eq_some_iff.1 hv
    exact .inr (.inl ⟨d', e.exec, rfl⟩)
  · unfold mkSym at hv
    split at hv <;> cases hv
    exact .inr (.inr ⟨e.target, rfl⟩)

/-- The Directory messages form a DAG: sub-directory digests have smaller rank.
(For a content addressed store: the depth of the tree a digest names.) -/
def Acyclic (c : CAS) (rank : Dig → Nat) : Prop :=
  ∀ d m, assoc c.dirs d = some (some m) → ∀ e ∈ m.dirs, ∀ d',
    parseDigest c.hashLen e.digest = some d' → rank d' < rank d

/-- `Acyclic` as a computation over the finitely many Directory messages of a store. -/
def acyclicCheck (c : CAS) (rank : Dig → Nat) : Bool :=
  c.dirs.all fun x => x.2.all fun m => m.dirs.all fun e =>
    (parseDigest c.hashLen e.digest).all fun d' => rank d' < rank x.1

theorem acyclic_of_check {c : CAS} {rank : Dig → Nat} (h : acyclicCheck c rank = true) :
    Acyclic c rank := by
  intro d m hm e he d' hp
  have h2 := List.all_eq_true.1 (List.all_eq_true.1 h _ (assoc_mem hm)) e he
  rw [hp] at h2
  exact of_decide_eq_true h2

/-- No directory that could be fetched is left lazy (following materialised
directories only): what is lazy in an eager tree is a directory that cannot be
loaded (malformed or absent). -/
def Eager (c : CAS) (n : Node) : Prop :=
  ∀ p d m, rawAt n p = some (.lazy d m) → ∃ e, (fetch c [] d m).result = .error e

/-- Children of a (possibly wrapped) fetch: annotated entries of the message. -/
theorem mem_fetched (hl : Nat) (mon : Option Path) (m : DirMsg) (x : Name) (v : Node)
    (h : (x, v) ∈ (specChildren hl m).map (annotate mon)) :
    (∃ e ∈ m.dirs, ∃ d' a, parseDigest hl e.digest = some d' ∧ v = .lazy d' a) ∨
    (∃ d' ex a, v = .file d' ex a) ∨ (∃ t, v = .sym t) := by
  obtain ⟨⟨y, w⟩, hw, heq⟩ := List.mem_map.1 h
  rcases mem_specChildren hl m y w hw with ⟨e, he, d', hp, rfl⟩ | ⟨d', ex, rfl⟩ | ⟨t, rfl⟩ <;> cases heq
  · exact .inl ⟨e, he, d', _, hp, rfl⟩
  · exact .inr (.inl ⟨d', ex, _, rfl⟩)
  · exact .inr (.inr ⟨t, rfl⟩)

end BbRe.Lemmas.InputRoot
