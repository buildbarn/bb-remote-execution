import BbRe.Lemmas.DirBasic
/-!
The representation invariant of the directory store (`contents_inv`) and its
preservation by the primitive updates.  `InvF P s fl` is the invariant with a
multiset `fl` of *floating* references: children that have been detached (or
created / linked) but not attached yet.  `Inv` is `InvF` without floating
references; every operation starts and ends there.
-/
namespace BbRe.Lemmas.Dir
open BbRe.Dir

structure DirOK (P : Params) (x : Dir) : Prop where
  norm   : ∀ e ∈ x.entries, e.norm = P.normalize e.name
  nodup  : x.entries.Pairwise (fun a b => a.norm ≠ b.norm)
  sorted : x.entries.Pairwise (fun a b => a.cookie < b.cookie)
  bound  : ∀ e ∈ x.entries, e.cookie < x.changeID
  del    : x.deleted = true → x.entries = [] ∧ x.lazy = none
  lazy   : x.lazy ≠ none → x.entries = []

structure InvF (P : Params) (s : Store) (fl : List Child) : Prop where
  dirs      : ∀ x ∈ s.dirs, DirOK P x
  dirRef    : ∀ d, Child.dir d ∈ refs s ++ fl → d < s.dirs.length
  leafRef   : ∀ l, Child.leaf l ∈ refs s ++ fl → l < s.leaves.length
  oneParent : ∀ d, (refs s ++ fl).count (Child.dir d) ≤ 1
  links     : ∀ l, (s.leaf l).links = (refs s ++ fl).count (Child.leaf l)
  tmplLeaf  : ∀ t ∈ s.tmpls, ∀ c ∈ t, ∀ l, c.2 = TChild.leaf l → l < s.leaves.length

abbrev Inv (P : Params) (s : Store) : Prop := InvF P s []

theorem dirOK_fresh (P : Params) (t : Option Nat) (fs : Nat) : DirOK P ({ lazy := t, fs := fs } : Dir) :=
  ⟨(by intro e he; cases he), List.Pairwise.nil, List.Pairwise.nil, (by intro e he; cases he),
   (by intro h; cases h), (by intro _; rfl)⟩

theorem InvF.dirOK {P : Params} {s : Store} {fl : List Child} (h : InvF P s fl) (d : Nat) : DirOK P (s.dir d) := by
  by_cases hd : d < s.dirs.length
  · exact h.dirs _ (dir_mem s d hd)
  · rw [dir_default s d (by omega)]; exact dirOK_fresh P none 0

theorem mayAttach_none {x : Dir} {n : Nat} (h : x.mayAttach n = none) : x.deleted = false ∧ x.find? n = none := by
  unfold Dir.mayAttach at h
  by_cases hd : x.deleted = true
  · simp [hd] at h
  · cases hf : x.find? n with
    | none => simp_all
    | some e => simp [hd, hf] at h

theorem DirOK.attach {P : Params} {x : Dir} (h : DirOK P x) (name nn : Nat) (c : Child)
    (hn : nn = P.normalize name) (hma : x.mayAttach nn = none) (hl : x.lazy = none) :
    DirOK P (x.attach name nn c) := by
  obtain ⟨hdel, hnf⟩ := mayAttach_none hma
  rw [find?_eq_none] at hnf
  refine ⟨?_, ?_, ?_, ?_, ?_, ?_⟩
  · intro e he
    simp at he
    rcases he with he | he
    · exact h.norm e he
    · subst he; exact hn
  · simp only [attach_entries]
    rw [List.pairwise_append]
    refine ⟨h.nodup, List.pairwise_singleton _ _, ?_⟩
    intro a ha b hb
    simp at hb; subst hb
    exact hnf a ha
  · simp only [attach_entries]
    rw [List.pairwise_append]
    refine ⟨h.sorted, List.pairwise_singleton _ _, ?_⟩
    intro a ha b hb
    simp at hb; subst hb
    exact h.bound a ha
  · intro e he
    simp at he
    rcases he with he | he
    · have := h.bound e he; simp; omega
    · subst he; simp
  · intro hd; simp [hdel] at hd
  · intro hz; simp [hl] at hz

/-- Keeping a sublist of the entries and raising the change counter. -/
theorem DirOK.shrink {P : Params} {x : Dir} (h : DirOK P x) (p : Entry → Bool) (k : Nat) :
    DirOK P { x with entries := x.entries.filter p, changeID := x.changeID + k } := by
  refine ⟨?_, ?_, ?_, ?_, ?_, ?_⟩
  · intro e he; exact h.norm e (List.mem_filter.mp he).1
  · exact h.nodup.sublist List.filter_sublist
  · exact h.sorted.sublist List.filter_sublist
  · intro e he
    have := h.bound e (List.mem_filter.mp he).1
    simp; omega
  · intro hd
    have := h.del hd
    simp [this.1, this.2]
  · intro hz
    have := h.lazy hz
    simp [this]

theorem DirOK.detach {P : Params} {x : Dir} (h : DirOK P x) (n : Nat) : DirOK P (x.detach n) :=
  h.shrink (fun e => e.norm != n) 1

theorem DirOK.clear {P : Params} {x : Dir} (_h : DirOK P x) (k : Nat) (del : Bool) :
    DirOK P { x with lazy := none, entries := [], changeID := x.changeID + k, deleted := x.deleted || del } :=
  ⟨(by intro e he; cases he), List.Pairwise.nil, List.Pairwise.nil, (by intro e he; cases he),
   (by intro _; exact ⟨rfl, rfl⟩), (by intro _; rfl)⟩

theorem DirOK.unlazy {P : Params} {x : Dir} (h : DirOK P x) : DirOK P { x with lazy := none } :=
  ⟨h.norm, h.nodup, h.sorted, h.bound, (by intro hd; exact ⟨(h.del hd).1, rfl⟩), (by intro hz; simp at hz)⟩

theorem mem_of_count_le {A B : List Child} (h : ∀ c, A.count c ≤ B.count c) {c : Child} (hc : c ∈ A) : c ∈ B := by
  have h1 := List.count_pos_iff.mpr hc
  have h2 := h c
  exact List.count_pos_iff.mp (by omega)

/-- The global clauses follow from: every directory is fine, nothing shrank, no
reference count grew, and leaf link counts moved together with the references. -/
theorem InvF.transport {P : Params} {s s' : Store} {fl fl' : List Child} (h : InvF P s fl)
    (hdirs : ∀ x ∈ s'.dirs, DirOK P x)
    (hlen : s.dirs.length ≤ s'.dirs.length) (hlen2 : s.leaves.length ≤ s'.leaves.length)
    (htm : s'.tmpls = s.tmpls)
    (hdir : ∀ d, (refs s' ++ fl').count (Child.dir d) ≤ (refs s ++ fl).count (Child.dir d))
    (hleaf : ∀ l, (s'.leaf l).links + (refs s ++ fl).count (Child.leaf l) =
                  (s.leaf l).links + (refs s' ++ fl').count (Child.leaf l)) :
    InvF P s' fl' := by
  refine ⟨hdirs, ?_, ?_, ?_, ?_, ?_⟩
  · intro d hd
    have h1 := List.count_pos_iff.mpr hd
    have h2 := hdir d
    have := h.dirRef d (List.count_pos_iff.mp (by omega))
    omega
  · intro l hl
    -- otherwise `l` has no links in `s'`, so it was referenced in `s` already
    apply Nat.lt_of_not_le
    intro h7
    have h1 := List.count_pos_iff.mpr hl
    have h2 := hleaf l
    rw [leaf_default s' l h7, show (default : Leaf).links = 0 from rfl] at h2
    have := h.leafRef l (List.count_pos_iff.mp (by omega))
    omega
  · intro d; exact Nat.le_trans (hdir d) (h.oneParent d)
  · intro l
    have := hleaf l
    have := h.links l
    omega
  · intro t ht c hc l hl
    rw [htm] at ht
    have := h.tmplLeaf t ht c hc l hl
    omega

theorem count_append_cons (A fl : List Child) (c c' : Child) :
    (A ++ c :: fl).count c' = (A ++ fl).count c' + (if c = c' then 1 else 0) := by
  by_cases h : c = c'
  · subst h; simp [List.count_append]; omega
  · have h' : ¬ (c' = c) := fun e => h e.symm
    simp [List.count_append, h]

/-- Replacing the record of one directory: the invariant is kept when the new record is fine and its
references, together with the new floating ones, are those of the old record and the old floating ones. -/
theorem InvF.setDir {P : Params} {s : Store} {fl fl' : List Child} (h : InvF P s fl) (d : Nat)
    (hd : d < s.dirs.length) (x : Dir) (hx : DirOK P x)
    (hcnt : ∀ c, (x.entries.map (fun e => e.child)).count c + fl'.count c =
      ((s.dir d).entries.map (fun e => e.child)).count c + fl.count c) :
    InvF P (s.setDir d x) fl' := by
  have hc : ∀ c, (refs (s.setDir d x) ++ fl').count c = (refs s ++ fl).count c := by
    intro c
    have h1 := count_refs_setDir s d x c hd
    have h2 := hcnt c
    rw [List.count_append, List.count_append]
    omega
  exact h.transport (fun y hy => (List.mem_or_eq_of_mem_set hy).elim (h.dirs y) (· ▸ hx)) (by rw [dirs_setDir, List.length_set]; exact Nat.le_refl _)
    (Nat.le_refl _) rfl (fun d' => Nat.le_of_eq (hc _)) (fun l => by rw [hc]; rfl)

theorem InvF.attach {P : Params} {s : Store} {fl : List Child} {c : Child} (h : InvF P s (c :: fl))
    (d : Nat) (hd : d < s.dirs.length) (name nn : Nat) (hn : nn = P.normalize name)
    (hma : (s.dir d).mayAttach nn = none) (hl : (s.dir d).lazy = none) :
    InvF P (s.modDir d (fun x => x.attach name nn c)) fl :=
  h.setDir d hd _ ((h.dirOK d).attach name nn c hn hma hl) fun c' => by
    simp only [attach_entries, List.map_append, List.map_cons, List.map_nil, List.count_append, List.count_cons,
      List.count_nil]
    omega

/-- Detaching the entry stored under a normalised name; it becomes floating. -/
theorem InvF.detach {P : Params} {s : Store} {fl : List Child} (h : InvF P s fl)
    (d : Nat) (hd : d < s.dirs.length) (n : Nat) (e : Entry) (he : (s.dir d).find? n = some e) :
    InvF P (s.modDir d (fun x => x.detach n)) (e.child :: fl) :=
  h.setDir d hd _ ((h.dirOK d).detach n) fun c' => by
    have h2 := count_detach (s.dir d) n c' (h.dirOK d).nodup
    rw [he] at h2
    simp only [List.count_cons, beq_iff_eq] at h2 ⊢
    omega

/-- Generalised detach: keep the entries satisfying `p`, the others become floating. -/
theorem InvF.detachMany {P : Params} {s : Store} {fl : List Child} (h : InvF P s fl)
    (d : Nat) (hd : d < s.dirs.length) (p : Entry → Bool) (k : Nat) :
    InvF P (s.setDir d { s.dir d with entries := (s.dir d).entries.filter p, changeID := (s.dir d).changeID + k })
      (((s.dir d).entries.filter (fun e => !p e)).map (fun e => e.child) ++ fl) :=
  h.setDir d hd _ ((h.dirOK d).shrink p k) fun c' => by
    have hsplit : ∀ es : List Entry,
        ((es.filter p).map (fun e => e.child)).count c' + ((es.filter (fun e => !p e)).map (fun e => e.child)).count c' =
          (es.map (fun e => e.child)).count c' := by
      intro es
      induction es with
      | nil => rfl
      | cons e rest ih =>
        cases hp : p e <;> simp only [List.filter_cons, hp, Bool.not_true, Bool.not_false, if_true,
          Bool.false_eq_true, if_false, List.map_cons, List.count_cons] <;> omega
    have := hsplit (s.dir d).entries
    rw [List.count_append]
    show (((s.dir d).entries.filter p).map (fun e => e.child)).count c' + _ = _
    omega

/-- `Link()` succeeded: one more floating reference to the leaf. -/
theorem InvF.link {P : Params} {s : Store} {fl : List Child} (h : InvF P s fl) (l : Nat) (hl : l < s.leaves.length) :
    InvF P (s.link l) (Child.leaf l :: fl) := by
  apply h.transport
  · exact h.dirs
  · simp
  · simp
  · rfl
  · intro d; rw [count_append_cons]; simp
  · intro l'
    rw [count_append_cons, links_link]
    simp
    by_cases h1 : l = l'
    · subst h1; simp [hl]; omega
    · simp [h1]

/-- `Unlink()` of a floating leaf reference. -/
theorem InvF.unlink {P : Params} {s : Store} {fl : List Child} {l : Nat} (h : InvF P s (Child.leaf l :: fl)) :
    InvF P (s.unlink l) fl := by
  have hl : l < s.leaves.length := h.leafRef l (by simp)
  have hpos : 1 ≤ (s.leaf l).links := by
    rw [h.links l, count_append_cons]; simp
  apply h.transport
  · exact h.dirs
  · simp
  · simp
  · rfl
  · intro d; rw [count_append_cons]; simp
  · intro l'
    rw [count_append_cons, links_unlink]
    simp
    by_cases h1 : l = l'
    · subst h1; simp [hl]; omega
    · simp [h1]

/-- A floating directory reference may simply be dropped (the directory is orphaned). -/
theorem InvF.dropDir {P : Params} {s : Store} {fl : List Child} {d : Nat} (h : InvF P s (Child.dir d :: fl)) :
    InvF P s fl := by
  apply h.transport h.dirs (Nat.le_refl _) (Nat.le_refl _) rfl
  · intro d'; rw [count_append_cons]; omega
  · intro l; rw [count_append_cons]; simp

/-- A fresh leaf that starts with one (floating) reference. -/
theorem InvF.pushLeafOwned {P : Params} {s : Store} {fl : List Child} (h : InvF P s fl) (k : Nat) :
    InvF P (s.pushLeaf { kind := k, links := 1 }) (Child.leaf s.leaves.length :: fl) := by
  have hfresh : (refs s ++ fl).count (Child.leaf s.leaves.length) = 0 := by
    apply List.count_eq_zero.mpr
    intro hm
    have := h.leafRef _ hm
    omega
  apply h.transport
  · exact h.dirs
  · simp
  · simp
  · rfl
  · intro d; rw [count_append_cons]; simp
  · intro l
    simp only [refs_pushLeaf]
    rw [count_append_cons, leaf_pushLeaf]
    by_cases h1 : l = s.leaves.length
    · subst h1
      have := h.links s.leaves.length
      simp; omega
    · have h2 : ¬ s.leaves.length = l := fun h' => h1 h'.symm
      simp [h1, h2]

/-- A fresh leaf without references (created by the harness, not yet handed over). -/
theorem InvF.pushLeafFree {P : Params} {s : Store} {fl : List Child} (h : InvF P s fl) (k : Nat) :
    InvF P (s.pushLeaf { kind := k, links := 0 }) fl := by
  have hfresh : (refs s ++ fl).count (Child.leaf s.leaves.length) = 0 := by
    apply List.count_eq_zero.mpr
    intro hm
    have := h.leafRef _ hm
    omega
  apply h.transport
  · exact h.dirs
  · simp
  · simp
  · rfl
  · intro d; simp
  · intro l
    simp only [refs_pushLeaf]
    rw [leaf_pushLeaf]
    by_cases h1 : l = s.leaves.length
    · subst h1
      have := h.links s.leaves.length
      simp; omega
    · simp [h1]

/-- A fresh directory without entries; the reference to it is floating. -/
theorem InvF.pushDir {P : Params} {s : Store} {fl : List Child} (h : InvF P s fl) (x : Dir) (hx : DirOK P x)
    (he : x.entries = []) : InvF P (s.pushDir x) (Child.dir s.dirs.length :: fl) := by
  have hfresh : (refs s ++ fl).count (Child.dir s.dirs.length) = 0 := by
    apply List.count_eq_zero.mpr
    intro hm
    have := h.dirRef _ hm
    omega
  have hrefs : refs (s.pushDir x) = refs s := by rw [refs_pushDir, he]; simp
  refine ⟨?_, ?_, ?_, ?_, ?_, ?_⟩
  · intro y hy
    simp at hy
    rcases hy with hy | hy
    · exact h.dirs y hy
    · subst hy; exact hx
  · intro d hd
    rw [hrefs] at hd
    simp at hd ⊢
    rcases hd with hd | hd | hd
    · have := h.dirRef d (by simp [hd]); omega
    · omega
    · have := h.dirRef d (by simp [hd]); omega
  · intro l hl
    rw [hrefs] at hl
    simp at hl ⊢
    exact h.leafRef l (by simpa using hl)
  · intro d
    rw [hrefs, count_append_cons]
    have h0 := h.oneParent d
    by_cases h1 : s.dirs.length = d
    · subst h1; rw [hfresh]; simp
    · have h2 : ¬ (Child.dir s.dirs.length = Child.dir d) := by intro h'; cases h'; exact h1 rfl
      rw [if_neg h2]; exact h0
  · intro l
    rw [hrefs, count_append_cons]
    simpa using h.links l
  · exact h.tmplLeaf

/-- Forgetting the fetcher of a directory that has no entries. -/
theorem InvF.unlazy {P : Params} {s : Store} {fl : List Child} (h : InvF P s fl) (d : Nat) :
    InvF P (s.modDir d (fun x => { x with lazy := none })) fl := by
  by_cases hd : d < s.dirs.length
  · exact h.setDir d hd _ (h.dirOK d).unlazy fun _ => rfl
  · have : s.modDir d (fun x => { x with lazy := none }) = s := by
      unfold Store.modDir Store.setDir
      rw [List.set_eq_of_length_le (by omega)]
    rw [this]; exact h

theorem links_unlinkLeaves (s : Store) (es : List Entry) (l : Nat)
    (hv : ∀ l', Child.leaf l' ∈ es.map (fun e => e.child) → l' < s.leaves.length) :
    ((unlinkLeaves s es).leaf l).links = (s.leaf l).links - (es.map (fun e => e.child)).count (Child.leaf l) := by
  induction es generalizing s with
  | nil => rfl
  | cons e rest ih =>
    have hv' : ∀ s' : Store, s'.leaves.length = s.leaves.length →
        ∀ l', Child.leaf l' ∈ rest.map (fun e => e.child) → l' < s'.leaves.length :=
      fun s' hs l' hl' => hs ▸ hv l' (List.mem_cons_of_mem _ hl')
    unfold unlinkLeaves
    simp only [List.map_cons, List.count_cons, beq_iff_eq]
    cases hc : e.child with
    | dir d' =>
      simp only [reduceCtorEq, if_false, Nat.add_zero]
      exact ih s (hv' s rfl)
    | leaf l0 =>
      have hl0 : l0 < s.leaves.length := hv l0 (by rw [List.map_cons, hc]; exact List.mem_cons_self)
      simp only [Child.leaf.injEq]
      rw [ih (s.unlink l0) (hv' _ (leaves_length_unlink s l0)), links_unlink]
      by_cases h1 : l0 = l
      · subst h1; rw [if_pos ⟨rfl, hl0⟩, if_pos rfl]; omega
      · rw [if_neg (fun h => h1 h.1), if_neg h1]; rfl

/-- The loop rule of `unlinkLeaves`: what every `unlink` keeps, the loop keeps. -/
theorem unlinkLeaves_keeps {Φ : Store → Prop} (hu : ∀ s l, Φ s → Φ (s.unlink l)) :
    ∀ (es : List Entry) (s : Store), Φ s → Φ (unlinkLeaves s es)
  | [], _, h => h
  | e :: rest, s, h => by
    unfold unlinkLeaves
    cases e.child with
    | dir _ => exact unlinkLeaves_keeps hu rest s h
    | leaf l => exact unlinkLeaves_keeps hu rest _ (hu s l h)

/-- The loop rule of `removeTree`: what every `clearDir _ _ true` keeps, the removal keeps. -/
theorem removeTree_keeps {Φ : Store → Prop} (hc : ∀ s d, Φ s → Φ (clearDir s d true)) :
    ∀ (fuel : Nat) (s : Store) (stack : List Nat), Φ s → Φ (removeTree fuel s stack)
  | 0, _, _, h => h
  | _ + 1, _, [], h => h
  | fuel + 1, s, d :: _, h => removeTree_keeps hc fuel _ _ (hc s d h)

/-- `unlinkLeaves` touches nothing but the link counts. -/
theorem unlinkLeaves_frame (s : Store) (es : List Entry) :
    (unlinkLeaves s es).dirs = s.dirs ∧ (unlinkLeaves s es).leaves.length = s.leaves.length ∧
    (unlinkLeaves s es).tmpls = s.tmpls ∧ (unlinkLeaves s es).fetchFail = s.fetchFail ∧
    (unlinkLeaves s es).allocFail = s.allocFail :=
  unlinkLeaves_keeps (Φ := fun t => t.dirs = s.dirs ∧ t.leaves.length = s.leaves.length ∧ t.tmpls = s.tmpls ∧
      t.fetchFail = s.fetchFail ∧ t.allocFail = s.allocFail)
    (fun t l h => by simpa using h) es s ⟨rfl, rfl, rfl, rfl, rfl⟩

theorem unlinkLeaves_dirs (s : Store) (es : List Entry) : (unlinkLeaves s es).dirs = s.dirs :=
  (unlinkLeaves_frame s es).1

theorem unlinkLeaves_leaves_length (s : Store) (es : List Entry) : (unlinkLeaves s es).leaves.length = s.leaves.length :=
  (unlinkLeaves_frame s es).2.1

theorem unlinkLeaves_tmpls (s : Store) (es : List Entry) : (unlinkLeaves s es).tmpls = s.tmpls :=
  (unlinkLeaves_frame s es).2.2.1

theorem unlinkLeaves_fetchFail (s : Store) (es : List Entry) : (unlinkLeaves s es).fetchFail = s.fetchFail :=
  (unlinkLeaves_frame s es).2.2.2.1

theorem unlinkLeaves_allocFail (s : Store) (es : List Entry) : (unlinkLeaves s es).allocFail = s.allocFail :=
  (unlinkLeaves_frame s es).2.2.2.2

theorem unlinkLeaves_setDir (s : Store) (es : List Entry) (d : Nat) (x : Dir) :
    unlinkLeaves (s.setDir d x) es = (unlinkLeaves s es).setDir d x := by
  induction es generalizing s with
  | nil => rfl
  | cons e rest ih =>
    unfold unlinkLeaves
    cases e.child with
    | dir _ => exact ih s
    | leaf l => exact ih (s.unlink l)

/-- Unlinking floating leaf references and dropping floating directory references. -/
theorem InvF.unlinkFloating {P : Params} {s : Store} {fl : List Child} (es : List Entry)
    (h : InvF P s (es.map (fun e => e.child) ++ fl)) : InvF P (unlinkLeaves s es) fl := by
  induction es generalizing s with
  | nil => simpa [unlinkLeaves] using h
  | cons e rest ih =>
    unfold unlinkLeaves
    cases hc : e.child with
    | dir d' =>
      simp only []
      apply ih
      have h' : InvF P s (Child.dir d' :: (rest.map (fun e => e.child) ++ fl)) := by simpa [hc] using h
      exact h'.dropDir
    | leaf l0 =>
      simp only []
      apply ih
      have h' : InvF P s (Child.leaf l0 :: (rest.map (fun e => e.child) ++ fl)) := by simpa [hc] using h
      exact h'.unlink

/-- What `clearDir` leaves of the directory record. -/
def clearedDir (x : Dir) (del : Bool) : Dir :=
  { x with lazy := none, entries := [], changeID := x.changeID + x.entries.length, deleted := x.deleted || del }

theorem clearDir_eq (s : Store) (d : Nat) (del : Bool) :
    BbRe.Dir.clearDir s d del = (unlinkLeaves s (s.dir d).entries).setDir d (clearedDir (s.dir d) del) := rfl

/-- `clearDir`: all entries of `d` go away, the leaves among them are unlinked. -/
theorem InvF.clearDir {P : Params} {s : Store} {fl : List Child} (h : InvF P s fl) (d : Nat) (del : Bool) :
    InvF P (clearDir s d del) fl := by
  rw [clearDir_eq]
  by_cases hd : d < s.dirs.length
  · -- the entries become floating with the new record, then they are unlinked
    rw [← unlinkLeaves_setDir]
    exact InvF.unlinkFloating _ (h.setDir d hd _ ((h.dirOK d).clear _ del) fun c => by
      rw [List.count_append]; exact Nat.zero_add _)
  · have : (unlinkLeaves s (s.dir d).entries).setDir d (clearedDir (s.dir d) del) = unlinkLeaves s (s.dir d).entries := by
      unfold Store.setDir
      rw [List.set_eq_of_length_le (by rw [unlinkLeaves_dirs]; omega)]
    rw [this, dir_default s d (by omega)]
    exact h

theorem InvF.removeTree {P : Params} (fuel : Nat) {s : Store} {fl : List Child} (h : InvF P s fl) (stack : List Nat) :
    InvF P (removeTree fuel s stack) fl :=
  removeTree_keeps (Φ := (InvF P · fl)) (fun _ d h => h.clearDir d true) fuel s stack h

/-- `postRemoveChildren` of floating entries. -/
theorem InvF.postRemove {P : Params} {s : Store} {fl : List Child} (es : List Entry)
    (h : InvF P s (es.map (fun e => e.child) ++ fl)) : InvF P (postRemove s es) fl := by
  unfold BbRe.Dir.postRemove
  exact (InvF.unlinkFloating es h).removeTree _ _

end BbRe.Lemmas.Dir
