import BbRe.Lemmas.FilePoolWriteStep
/-!
`WriteAt` on `content`: the loop, then the size update.
-/
namespace BbRe.Lemmas.FilePool
open BbRe.FilePool

theorem overlay_append (base : Nat → Byte) (pos : Nat) (a b : List Byte) (i : Nat) :
    overlay base pos (a ++ b) i = overlay (overlay base pos a) (pos + a.length) b i := by
  unfold overlay
  rw [List.length_append]
  by_cases hb : pos + a.length ≤ i ∧ i < pos + a.length + b.length
  · rw [if_pos (by omega), if_pos hb, getD_append_ge _ _ _ (by omega)]
    congr 1; omega
  · rw [if_neg hb]
    by_cases ha : pos ≤ i ∧ i < pos + a.length
    · rw [if_pos (by omega), if_pos ha, getD_append_lt _ _ _ (by omega)]
    · rw [if_neg (by omega), if_neg ha]

theorem oth_frame {n : Nat} {O : Nat → Prop} {A secs : List Nat} (hP : Part n O A (nz secs)) {t : Nat}
    (ho : O (t + 1)) : t + 1 ∈ A ∧ t + 1 ∉ secs := by
  refine ⟨(hP.mem _).mpr (Or.inr ho), fun hmem => ?_⟩
  exact hP.sep _ (mem_nz.mpr ⟨hmem, by omega⟩) ho

theorem writeLoop_content {O : Nat → Prop} {c : Cfg} (hss : 0 < c.ss) : ∀ (fuel : Nat) (f : File) (e : Env)
    (p : List Byte) (idx endIdx ow : Nat), ow < c.ss → 0 < p.length → p.length < fuel →
    Part c.nsec O e.allocd (nz f.sectors) → e.dfree = false →
    (∀ i, content c.ss (writeLoop c fuel f e p idx endIdx ow).2.1.dev (writeLoop c fuel f e p idx endIdx ow).1 i =
        overlay (content c.ss e.dev f) (idx * c.ss + ow) (p.take (writeLoop c fuel f e p idx endIdx ow).2.2.1) i) ∧
      (writeLoop c fuel f e p idx endIdx ow).2.2.1 ≤ p.length ∧
      ((writeLoop c fuel f e p idx endIdx ow).2.2.2 = none →
        (writeLoop c fuel f e p idx endIdx ow).2.2.1 = p.length) ∧
      (writeLoop c fuel f e p idx endIdx ow).2.2.2 ≠ some .panic ∧
      (∀ t k, k < c.ss → O (t + 1) →
        rd (writeLoop c fuel f e p idx endIdx ow).2.1.dev (t * c.ss + k) = rd e.dev (t * c.ss + k)) := by
  intro fuel
  induction fuel with
  | zero => intro f e p idx endIdx ow _ _ hfu; omega
  | succ fuel ih =>
    intro f e p idx endIdx ow how hp hfu hP hd
    have hpart := writeToSectors_part p idx endIdx ow how hP hd
    obtain ⟨hcont, hnle, hbd, hfr⟩ := writeToSectors_content (O := O) (f := f) (e := e) p idx endIdx ow hss how hP
    unfold writeLoop
    dsimp only
    generalize hr : writeToSectors c f e p idx endIdx ow = r at *
    split
    · rename_i hstop
      refine ⟨hcont, hnle, fun hnone => ?_, hpart.2.2.2.2, fun t k hk ho => ?_⟩
      · rcases hstop with hemp | hsome
        · exact Nat.le_antisymm hnle (List.drop_eq_nil_iff.mp (List.isEmpty_iff.mp hemp))
        · rw [hnone] at hsome; simp at hsome
      · have := oth_frame hP ho
        exact hfr t k hk this.1 this.2
    · rename_i hcontn
      have hnone : r.2.2.2 = none := by
        cases hx : r.2.2.2 with
        | none => rfl
        | some x => exfalso; apply hcontn; right; rw [hx]; rfl
      have hne : ¬ (List.drop r.2.2.1 p).isEmpty = true := fun h => hcontn (Or.inl h)
      have hlt : r.2.2.1 < p.length := by
        rcases Nat.lt_or_ge r.2.2.1 p.length with h | h
        · exact h
        · exfalso; apply hne; rw [List.isEmpty_iff, List.drop_eq_nil_of_le h]
      have hb := hbd hnone
      have hb' : 0 < r.2.2.1 ∧ (ow + r.2.2.1) % c.ss = 0 := by
        rcases hb with hb | hb
        · exact absurd hb (Nat.ne_of_lt hlt)
        · exact hb
      split
      · rename_i hpanic; exact absurd hb'.2 hpanic
      · -- the step ended at a sector boundary: the rest starts at offset 0 of a later sector
        have hpos : (idx + (ow + r.2.2.1) / c.ss) * c.ss + 0 = idx * c.ss + ow + r.2.2.1 := by
          rw [Nat.add_zero, Nat.add_mul, Nat.div_mul_cancel (Nat.dvd_of_mod_eq_zero hb'.2), Nat.add_assoc]
        have hrest : 0 < (List.drop r.2.2.1 p).length := by rw [List.length_drop]; exact Nat.sub_pos_of_lt hlt
        obtain ⟨ic, il, inn, ipn, ifr⟩ := ih r.1 r.2.1 (List.drop r.2.2.1 p) (idx + (ow + r.2.2.1) / c.ss) endIdx 0
          hss hrest (by rw [List.length_drop]; omega) hpart.1 hpart.2.1
        rw [List.length_drop] at il inn
        refine ⟨fun i => ?_, Nat.add_le_of_le_sub' hnle il, fun hn => ?_, ipn, fun t k hk ho => ?_⟩
        · dsimp only
          rw [ic i, hpos]
          have : ∀ x, content c.ss r.2.1.dev r.1 x =
              overlay (content c.ss e.dev f) (idx * c.ss + ow) (p.take r.2.2.1) x := hcont
          rw [show content c.ss r.2.1.dev r.1 = overlay (content c.ss e.dev f) (idx * c.ss + ow) (p.take r.2.2.1)
            from funext this]
          rw [List.take_add, overlay_append, List.length_take, Nat.min_eq_left hnle]
        · exact (inn hn).symm ▸ Nat.add_sub_cancel' hnle
        · dsimp only
          rw [ifr t k hk ho]
          have := oth_frame hP ho
          exact hfr t k hk this.1 this.2

end BbRe.Lemmas.FilePool
