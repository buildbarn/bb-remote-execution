import BbRe.Lemmas.ProtoStoreGInv
/-! Frame lemmas (what the steps of `Model/ProtoStore.lean` leave unchanged) and
monotonicity of the backing store. -/
namespace BbRe.Lemmas.ProtoStore
open BbRe.ProtoStore

theorem removeOrQueue_store (cfg : Config) (s : State) (h : Nat) :
    (removeOrQueue cfg s h).store = s.store := by
  unfold removeOrQueue
  simp only [apply_ite State.store, ite_self]

theorem increaseUseCount_store (s : State) (h : Nat) : (increaseUseCount s h).store = s.store := by
  unfold increaseUseCount
  dsimp only
  cases s.idx h with
  | none => rfl
  | some i => cases s.queue.getLast? <;> rfl

theorem dequeueOne_store (s : State) (g : Nat) : (dequeueOne s g).store = s.store := by
  unfold dequeueOne
  cases s.queue.getLast? <;> cases lookupG s.gets g <;> rfl

theorem dequeueN_store (s : State) (g n : Nat) : (dequeueN s g n).store = s.store :=
  dequeueN_invariant (P := (·.store = s.store)) g (fun s' h => (dequeueOne_store s' g).trans h) n s rfl

theorem getBegin_store (s : State) (g d : Nat) : (getBegin s g d).store = s.store := by
  unfold getBegin
  split
  · rfl
  · rw [dequeueN_store]
    dsimp only
    split
    · exact increaseUseCount_store _ _
    · rfl

theorem readDone_store (s : State) (g : Nat) (ok : Bool) : (readDone s g ok).store = s.store := by
  unfold readDone
  cases lookupG s.gets g with
  | none => rfl
  | some r => exact (apply_ite State.store _ _ _).trans (ite_self _)

theorem getEnd_store (cfg : Config) (s : State) (g : Nat) : (getEnd cfg s g).store = s.store :=
  getEnd_cases cfg s g (·.store = s.store) rfl fun _ _ _ =>
    ⟨fun _ => ⟨fun _ _ => removeOrQueue_store _ _ _, fun _ => rfl⟩,
     fun _ => ⟨fun _ _ => rfl, fun _ => ⟨fun _ _ => increaseUseCount_store _ _, fun _ => rfl⟩⟩⟩

theorem release_store (cfg : Config) (s : State) (h : Nat) (dirty : Bool) :
    (release cfg s h dirty).store = s.store := by
  unfold release decreaseUseCount
  rw [apply_ite State.store, removeOrQueue_store, ite_self]

theorem store_monotone_step (s : State) (op : Op) (hg : GInv s) (d : Nat) :
    s.store d ≤ (step repoConfig s op).store d := by
  cases op with
  | getBegin g d' => simp [step, getBegin_store]
  | readDone g ok => simp [step, readDone_store]
  | getEnd g => simp [step, getEnd_store]
  | release h dirty => simp [step, release_store]
  | putDone g h o =>
    show s.store d ≤ (putDone repoConfig s g h o).store d
    rcases putDone_cases repoConfig s g h o with he | ⟨r, w, hr, hw⟩
    · rw [he]; exact Nat.le_refl _
    · obtain ⟨hmem, hwh⟩ := findWrite_some _ _ _ hw
      obtain ⟨_, _, _, _, hsm⟩ := hg.g3 g r w hr hmem
      rw [hwh] at hsm
      rw [putDone_eq repoConfig s g h o r w hr hw, removeOrQueue_store]
      dsimp only
      split
      · exact Nat.le_refl _
      · rw [upd_apply]
        split
        · rename_i hd; rw [hd]; exact hsm
        · exact Nat.le_refl _

theorem dequeueOne_record (s : State) (g : Nat) (r : GetRec) (hr : lookupG s.gets g = some r) :
    ∃ r', lookupG (dequeueOne s g).gets g = some r' ∧ r'.digest = r.digest ∧
      r'.existing = r.existing ∧ r'.need = r.need := by
  unfold dequeueOne
  split
  · rename_i h r0 hl hr0
    rw [hr] at hr0; cases hr0
    refine ⟨{ r with writes := r.writes ++ [⟨h, s.msg h, s.current h⟩] }, ?_, rfl, rfl, rfl⟩
    dsimp only
    rw [lookupG_setG]
    simp
  · exact ⟨r, hr, rfl, rfl, rfl⟩

theorem dequeueN_record (s : State) (g n : Nat) (r : GetRec) (hr : lookupG s.gets g = some r) :
    ∃ r', lookupG (dequeueN s g n).gets g = some r' ∧ r'.digest = r.digest ∧
      r'.existing = r.existing ∧ r'.need = r.need := by
  refine dequeueN_invariant (P := fun s' => ∃ r', lookupG s'.gets g = some r' ∧ r'.digest = r.digest ∧
    r'.existing = r.existing ∧ r'.need = r.need) g (fun s' ⟨r1, h1, h2, h3, h4⟩ => ?_) n s ⟨r, hr, rfl, rfl, rfl⟩
  obtain ⟨r2, k1, k2, k3, k4⟩ := dequeueOne_record s' g r1 h1
  exact ⟨r2, k1, k2.trans h2, k3.trans h3, k4.trans h4⟩

theorem increaseUseCount_gets (s : State) (h : Nat) : (increaseUseCount s h).gets = s.gets := by
  unfold increaseUseCount
  dsimp only
  cases s.idx h with
  | none => rfl
  | some i => cases s.queue.getLast? <;> rfl

/-- The record that `getBegin` creates: digest, the handle found in the map, and
the ghost `need`. -/
theorem getBegin_record (s : State) (g d : Nat) (hg : lookupG s.gets g = none) :
    ∃ r, lookupG (getBegin s g d).gets g = some r ∧ r.digest = d ∧ r.existing = s.map d ∧
      r.need = (if s.store d = s.latest d then 0 else s.latest d) := by
  rw [getBegin_eq s g d hg]
  have : ∃ r, lookupG (getBeginMid s g d).gets g = some r ∧ r.digest = d ∧ r.existing = s.map d ∧
      r.need = (if s.store d = s.latest d then 0 else s.latest d) := by
    unfold getBeginMid
    dsimp only
    exact ⟨_, by rw [lookupG_setG]; simp; rfl, rfl, rfl, rfl⟩
  obtain ⟨r, h1, h2, h3, h4⟩ := this
  obtain ⟨r', k1, k2, k3, k4⟩ := dequeueN_record _ g writesPerRead r h1
  exact ⟨r', k1, by rw [k2, h2], by rw [k3, h3], by rw [k4, h4]⟩
end BbRe.Lemmas.ProtoStore
