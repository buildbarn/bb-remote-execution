import BbRe.Lemmas.InputRootAssoc
/-!
Observational equivalence of directory hierarchies that differ only in which
directories have been initialised already ("equal up to forcing"), for C17.

`eqv c k a b`: `a` and `b` show the same kinds and names down to depth `k`, where
the contents of a lazy directory are what a fault-free fetch would produce.
`Equiv` = for every depth.  Outside this file the proofs use the unfolding lemma `equiv_iff` and
its case analysis `equiv_cases`; `eqv` serves here to get reflexivity, symmetry, transitivity and
`equiv_mon` by induction on the depth.  At the end: `SEquiv` (same storage, equivalent trees) and
`run_sim`, the induction over fault-free histories that the history theorems of C17 instantiate.
-/
namespace BbRe.Lemmas.InputRoot
open BbRe.InputRoot

/-- Pairwise relation of two children lists: same names in the same order. -/
inductive ChRel (R : Node → Node → Prop) : Children → Children → Prop
  | nil : ChRel R [] []
  | cons {n : Name} {a b : Node} {as bs : Children} :
      R a b → ChRel R as bs → ChRel R ((n, a) :: as) ((n, b) :: bs)

def ContRel (R : Node → Node → Prop) : Contents → Contents → Prop
  | .notDir, .notDir => True
  | .err e, .err e' => e = e'
  | .ok a, .ok b => ChRel R a b
  | _, _ => False

/-- Both absent, or both present and related. -/
def OptRel (R : Node → Node → Prop) : Option Node → Option Node → Prop
  | none, none => True
  | some a, some b => R a b
  | _, _ => False

def eqv (c : CAS) : Nat → Node → Node → Prop
  | 0, a, b => kindOf a = kindOf b
  | k + 1, a, b => kindOf a = kindOf b ∧ ContRel (eqv c k) (contents c [] a) (contents c [] b)

def Equiv (c : CAS) (a b : Node) : Prop := ∀ k, eqv c k a b

theorem ChRel.mono {R S : Node → Node → Prop} (h : ∀ a b, R a b → S a b) :
    ∀ {x y : Children}, ChRel R x y → ChRel S x y := by
  intro x y hr
  induction hr with
  | nil => exact .nil
  | cons hab _ ih => exact .cons (h _ _ hab) ih

theorem ChRel.refl {R : Node → Node → Prop} (h : ∀ a, R a a) : ∀ x : Children, ChRel R x x
  | [] => .nil
  | (_, v) :: es => .cons (h v) (ChRel.refl h es)

theorem ChRel.symm {R : Node → Node → Prop} (h : ∀ a b, R a b → R b a) :
    ∀ {x y : Children}, ChRel R x y → ChRel R y x := by
  intro x y hr
  induction hr with
  | nil => exact .nil
  | cons hab _ ih => exact .cons (h _ _ hab) ih

theorem ChRel.trans {R : Node → Node → Prop} (h : ∀ a b d, R a b → R b d → R a d) :
    ∀ {x y z : Children}, ChRel R x y → ChRel R y z → ChRel R x z := by
  intro x y z hxy
  induction hxy generalizing z with
  | nil => intro hyz; cases hyz; exact .nil
  | cons hab _ ih =>
    intro hyz
    cases hyz with
    | cons hbd hrest => exact .cons (h _ _ _ hab hbd) (ih hrest)

theorem ChRel.head {R : Node → Node → Prop} {n m : Name} {a b : Node} {as bs : Children} :
    ChRel R ((n, a) :: as) ((m, b) :: bs) → R a b := by
  intro h; cases h; assumption

theorem ChRel.tail {R : Node → Node → Prop} {e f : Name × Node} {as bs : Children} :
    ChRel R (e :: as) (f :: bs) → ChRel R as bs := by
  intro h; cases h; assumption

theorem chrel_forall {R : Nat → Node → Node → Prop} :
    ∀ {x y : Children}, (∀ k, ChRel (R k) x y) → ChRel (fun a b => ∀ k, R k a b) x y
  | [], _, h => by cases h 0; exact .nil
  | _ :: _, _, h => by
    cases h 0 with
    | cons _ _ => exact .cons (fun k => (h k).head) (chrel_forall fun k => (h k).tail)

theorem OptRel.cases {R : Node → Node → Prop} {x y : Option Node} (h : OptRel R x y) :
    (x = none ∧ y = none) ∨ ∃ a b, x = some a ∧ y = some b ∧ R a b := by
  cases x <;> cases y
  case none.none => exact .inl ⟨rfl, rfl⟩
  case some.some => exact .inr ⟨_, _, rfl, rfl, h⟩
  all_goals exact False.elim h

/-- The three ways two contents can be related. -/
theorem ContRel.cases {R : Node → Node → Prop} {x y : Contents} (h : ContRel R x y) :
    (x = .notDir ∧ y = .notDir) ∨ (∃ e, x = .err e ∧ y = .err e) ∨
    ∃ a b, x = .ok a ∧ y = .ok b ∧ ChRel R a b := by
  cases x <;> cases y
  case notDir.notDir => exact .inl ⟨rfl, rfl⟩
  case err.err => exact .inr (.inl ⟨_, rfl, congrArg _ (Eq.symm h)⟩)
  case ok.ok => exact .inr (.inr ⟨_, _, rfl, rfl, h⟩)
  all_goals exact False.elim h

theorem ContRel.mono {R S : Node → Node → Prop} (h : ∀ a b, R a b → S a b) :
    ∀ {x y : Contents}, ContRel R x y → ContRel S x y := by
  intro x y hr
  rcases hr.cases with ⟨rfl, rfl⟩ | ⟨e, rfl, rfl⟩ | ⟨a, b, rfl, rfl, hab⟩
  · trivial
  · exact rfl
  · exact ChRel.mono h hab

theorem ContRel.refl {R : Node → Node → Prop} (h : ∀ a, R a a) : ∀ x : Contents, ContRel R x x
  | .notDir => trivial
  | .err _ => rfl
  | .ok ch => ChRel.refl h ch

theorem ContRel.symm {R : Node → Node → Prop} (h : ∀ a b, R a b → R b a) {x y : Contents}
    (hr : ContRel R x y) : ContRel R y x := by
  rcases hr.cases with ⟨rfl, rfl⟩ | ⟨e, rfl, rfl⟩ | ⟨a, b, rfl, rfl, hab⟩
  · trivial
  · exact rfl
  · exact ChRel.symm h hab

theorem ContRel.trans {R : Node → Node → Prop} (h : ∀ a b d, R a b → R b d → R a d)
    {x y z : Contents} (h1 : ContRel R x y) (h2 : ContRel R y z) : ContRel R x z := by
  rcases h1.cases with ⟨rfl, rfl⟩ | ⟨e, rfl, rfl⟩ | ⟨a, b, rfl, rfl, hab⟩
  · exact h2
  · exact h2
  · rcases h2.cases with ⟨hy, _⟩ | ⟨_, hy, _⟩ | ⟨_, d, hy, rfl, hbd⟩ <;> cases hy
    exact ChRel.trans h hab hbd

theorem contRel_forall {R : Nat → Node → Node → Prop} {x y : Contents}
    (h : ∀ k, ContRel (R k) x y) : ContRel (fun a b => ∀ k, R k a b) x y := by
  rcases (h 0).cases with ⟨rfl, rfl⟩ | ⟨e, rfl, rfl⟩ | ⟨a, b, rfl, rfl, _⟩
  · trivial
  · exact rfl
  · exact chrel_forall h

theorem equiv_iff (c : CAS) (a b : Node) :
    Equiv c a b ↔ kindOf a = kindOf b ∧ ContRel (Equiv c) (contents c [] a) (contents c [] b) :=
  ⟨fun h => ⟨h 0, contRel_forall fun k => (h (k + 1)).2⟩,
   fun ⟨hk, hc⟩ k => match k with
    | 0 => hk
    | k + 1 => ⟨hk, hc.mono fun _ _ h => h k⟩⟩

theorem eqv_refl (c : CAS) : ∀ k a, eqv c k a a
  | 0, _ => rfl
  | k + 1, _ => ⟨rfl, ContRel.refl (eqv_refl c k) _⟩

theorem eqv_symm (c : CAS) : ∀ k a b, eqv c k a b → eqv c k b a
  | 0, _, _, h => h.symm
  | k + 1, _, _, ⟨hk, hc⟩ => ⟨hk.symm, hc.symm (eqv_symm c k)⟩

theorem eqv_trans (c : CAS) : ∀ k a b d, eqv c k a b → eqv c k b d → eqv c k a d
  | 0, _, _, _, h1, h2 => h1.trans h2
  | k + 1, _, _, _, ⟨hk1, hc1⟩, ⟨hk2, hc2⟩ => ⟨hk1.trans hk2, hc1.trans (eqv_trans c k) hc2⟩

theorem Equiv.refl (c : CAS) (a : Node) : Equiv c a a := fun k => eqv_refl c k a

theorem Equiv.symm {c : CAS} {a b : Node} (h : Equiv c a b) : Equiv c b a :=
  fun k => eqv_symm c k a b (h k)

theorem Equiv.trans {c : CAS} {a b d : Node} (h1 : Equiv c a b) (h2 : Equiv c b d) : Equiv c a d :=
  fun k => eqv_trans c k a b d (h1 k) (h2 k)

theorem chrel_lookup {R : Node → Node → Prop} {a b : Children} (h : ChRel R a b) (x : Name) :
    OptRel R (lookup a x) (lookup b x) := by
  induction h with
  | nil => trivial
  | @cons n ca cb as bs hab _ ih =>
    by_cases hn : n = x
    · simpa only [lookup, if_pos hn, OptRel] using hab
    · simpa only [lookup, if_neg hn] using ih

theorem chrel_replaceFirst {R : Node → Node → Prop} {a b : Children} (h : ChRel R a b) (x : Name)
    {v w : Node} (hvw : R v w) : ChRel R (replaceFirst a x v) (replaceFirst b x w) := by
  induction h with
  | nil => exact .nil
  | @cons n ca cb as bs hab hrest ih =>
    by_cases hn : n = x
    · simp only [replaceFirst, hn, if_true]; exact .cons hvw hrest
    · simp only [replaceFirst, hn, if_false]; exact .cons hab ih

theorem chrel_eraseFirst {R : Node → Node → Prop} {a b : Children} (h : ChRel R a b) (x : Name) :
    ChRel R (eraseFirst a x) (eraseFirst b x) := by
  induction h with
  | nil => exact .nil
  | @cons n ca cb as bs hab hrest ih =>
    by_cases hn : n = x
    · simp only [eraseFirst, hn, if_true]; exact hrest
    · simp only [eraseFirst, hn, if_false]; exact .cons hab ih

theorem chrel_append {R : Node → Node → Prop} {a b a' b' : Children} (h : ChRel R a b)
    (h' : ChRel R a' b') : ChRel R (a ++ a') (b ++ b') := by
  induction h with
  | nil => simpa using h'
  | cons hab _ ih => exact .cons hab ih

/-- Replacing a child by a related node gives a list related to the original. -/
theorem chrel_replace_self {R : Node → Node → Prop} (hrefl : ∀ a, R a a) (a : Children) (x : Name)
    (ca v : Node) (h : lookup a x = some ca) (hv : R v ca) : ChRel R (replaceFirst a x v) a := by
  have := chrel_replaceFirst (ChRel.refl hrefl a) x hv
  rwa [replaceFirst_self h] at this

theorem chrel_map {R : Node → Node → Prop} (g : Node → Node) (h : ∀ n, R (g n) n) :
    ∀ ch : Children, ChRel R (ch.map fun e => (e.1, g e.2)) ch := by
  intro ch
  induction ch with
  | nil => exact .nil
  | cons e es ih => obtain ⟨n, v⟩ := e; exact .cons (h v) ih

theorem chrel_kinds {R : Node → Node → Prop} (hk : ∀ a b, R a b → kindOf a = kindOf b)
    {a b : Children} (h : ChRel R a b) :
    a.map (fun e => (e.1, kindOf e.2)) = b.map (fun e => (e.1, kindOf e.2)) := by
  induction h with
  | nil => rfl
  | cons hab _ ih => simp [hk _ _ hab, ih]

theorem chrel_hasName {R : Node → Node → Prop} {a b : Children} (h : ChRel R a b) (x : Name) :
    hasName a x = hasName b x := by
  rcases (chrel_lookup h x).cases with ⟨h1, h2⟩ | ⟨ca, cb, h1, h2, _⟩ <;> simp [hasName, h1, h2]

theorem chrel_nil_left {R : Node → Node → Prop} {b : Children} (h : ChRel R [] b) : b = [] := by
  cases h; rfl

theorem chrel_cons_left {R : Node → Node → Prop} {e : Name × Node} {es b : Children}
    (h : ChRel R (e :: es) b) : ∃ f fs, b = f :: fs := by
  cases h; exact ⟨_, _, rfl⟩

theorem Equiv.kind {c : CAS} {a b : Node} (h : Equiv c a b) : kindOf a = kindOf b := h 0

theorem Equiv.contents {c : CAS} {a b : Node} (h : Equiv c a b) :
    ContRel (Equiv c) (contents c [] a) (contents c [] b) := ((equiv_iff c a b).1 h).2

theorem equiv_cases {c : CAS} {a b : Node} (h : Equiv c a b) :
    (contents c [] a = .notDir ∧ contents c [] b = .notDir) ∨
    (∃ e, contents c [] a = .err e ∧ contents c [] b = .err e) ∨
    ∃ x y, contents c [] a = .ok x ∧ contents c [] b = .ok y ∧ ChRel (Equiv c) x y :=
  h.contents.cases

theorem contents_ok_kind {c : CAS} {F : List Dig} {n : Node} {ch : Children}
    (h : contents c F n = .ok ch) : kindOf n = .dir := by
  cases n <;> simp [contents] at h <;> rfl

/-- Equivalent children lists give equivalent directories. -/
theorem equiv_dir {c : CAS} {a b : Children} (h : ChRel (Equiv c) a b) :
    Equiv c (.dir a) (.dir b) := by
  rw [equiv_iff]
  exact ⟨rfl, by simpa [contents, ContRel] using h⟩

/-- Initialising a directory is not observable. -/
theorem equiv_force {c : CAS} {n : Node} {ch : Children} (h : contents c [] n = .ok ch) :
    Equiv c (.dir ch) n := by
  rw [equiv_iff]
  refine ⟨(contents_ok_kind h).symm, ?_⟩
  rw [h]
  simpa [contents, ContRel] using ChRel.refl (Equiv.refl c) ch

/-! ### the access monitoring wrapper is invisible -/

theorem fetch_result_mon (c : CAS) (F : List Dig) (d : Dig) (m : Option Path) :
    (fetch c F d m).result =
      match (fetchBase c F d).result with
      | .ok ch => .ok (ch.map (annotate m))
      | .error e => .error e := rfl

theorem fetch_created_mon (c : CAS) (F : List Dig) (d : Dig) (m : Option Path) :
    (fetch c F d m).created = (fetchBase c F d).created ∧
    (fetch c F d m).unlinked = (fetchBase c F d).unlinked := ⟨rfl, rfl⟩

/-- A node without contents is determined by its kind. -/
theorem eqv_of_notDir (c : CAS) {a b : Node} (hk : kindOf a = kindOf b)
    (ha : contents c [] a = .notDir) (hb : contents c [] b = .notDir) : ∀ k, eqv c k a b
  | 0 => hk
  | _ + 1 => ⟨hk, by rw [ha, hb]; trivial⟩

/-- Entries wrapped for two monitors are related by any reflexive relation that ignores
the annotation of lazy directories and of files. -/
theorem chrel_annotate {R : Node → Node → Prop} (hrefl : ∀ a, R a a)
    (hlazy : ∀ d m m', R (.lazy d m) (.lazy d m')) (hfile : ∀ d x m m', R (.file d x m) (.file d x m'))
    (m m' : Option Path) : ∀ ch : Children, ChRel R (ch.map (annotate m)) (ch.map (annotate m'))
  | [] => .nil
  | (_, v) :: es => by
    have ih := chrel_annotate hrefl hlazy hfile m m' es
    cases v with
    | lazy d a => exact .cons (hlazy d _ _) ih
    | file d x a => exact .cons (hfile d x _ _) ih
    | _ => exact .cons (hrefl _) ih

/-- Directories that differ only in the monitor they (and everything below them) are
wrapped for cannot be told apart. -/
theorem eqv_mon (c : CAS) : ∀ (k : Nat) (d : Dig) (m m' : Option Path),
    eqv c k (.lazy d m) (.lazy d m')
  | 0, _, _, _ => rfl
  | k + 1, d, m, m' => by
    refine ⟨rfl, ?_⟩
    simp only [contents, fetch_result_mon]
    cases (fetchBase c [] d).result with
    | error e => exact rfl
    | ok ch =>
      exact chrel_annotate (eqv_refl c k) (eqv_mon c k)
        (fun d x a a' => eqv_of_notDir c (a := .file d x a) (b := .file d x a') rfl rfl rfl k) m m' ch

theorem equiv_mon (c : CAS) (d : Dig) (m m' : Option Path) : Equiv c (.lazy d m) (.lazy d m') :=
  fun k => eqv_mon c k d m m'

/-- Same storage, equivalent trees. -/
def SEquiv (l e : State) : Prop := l.cas = e.cas ∧ Equiv l.cas l.root e.root

theorem SEquiv.refl (s : State) : SEquiv s s := ⟨rfl, Equiv.refl _ _⟩

theorem SEquiv.symm {l e : State} (h : SEquiv l e) : SEquiv e l :=
  ⟨h.1.symm, h.1 ▸ h.2.symm⟩

theorem SEquiv.trans {a b d : State} (h1 : SEquiv a b) (h2 : SEquiv b d) : SEquiv a d :=
  ⟨h1.1.trans h2.1, h1.2.trans (h1.1 ▸ h2.2)⟩

/-- Two fault-free histories related operation by operation by `f`, run on equivalent states:
same answers, equivalent states. -/
theorem run_sim (f : Op → Op)
    (hf : ∀ l e op, SEquiv l e →
      (step l [] op).2 = (step e [] (f op)).2 ∧ SEquiv (step l [] op).1 (step e [] (f op)).1) :
    ∀ (ops : List Op) (l e : State), SEquiv l e →
      (run l (ops.map fun o => ([], o))).2 = (run e ((ops.map f).map fun o => ([], o))).2 ∧
      SEquiv (run l (ops.map fun o => ([], o))).1 (run e ((ops.map f).map fun o => ([], o))).1
  | [], _, _, h => ⟨rfl, h⟩
  | op :: rest, l, e, h => by
    have hs := hf l e op h
    have hr := run_sim f hf rest _ _ hs.2
    exact ⟨by simp only [List.map_cons, run] at hr ⊢; rw [hs.1, hr.1], hr.2⟩

end BbRe.Lemmas.InputRoot
