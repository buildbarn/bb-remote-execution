/-!
One weakest-precondition calculus for `Except ε`: `wpE E x Q` says that `x` returns a value satisfying `Q` or
fails with an error satisfying `E`.  The calculi of the scheduler proofs are its instances:
`SchedInv.wp` is `wpE OkErr`, `SchedQ.wpR ne` is `wpE (¬ BadErr ne ·)`, and the partial-correctness triples
`SchedInv.wpk` and `SchedTree.Post` are `wpE (fun _ => True)` (`wpE_true_iff`).  The rules follow the shape of
a model function: `bind`/`seq` for `do`, `by_cases`/`ite` for a guard at the head (unlike `split` they do not
traverse the continuation), `ok`/`error` at the leaves, `foldlM` for the loops.
-/
namespace BbRe
universe u v w
variable {ε : Type u} {α β : Type v} {E E' : ε → Prop}

def wpE (E : ε → Prop) (x : Except ε α) (Q : α → Prop) : Prop :=
  match x with
  | .ok a => Q a
  | .error e => E e

namespace wpE

@[simp] theorem ok (a : α) (Q : α → Prop) : wpE E (Except.ok a) Q ↔ Q a := Iff.rfl
@[simp] theorem pure (a : α) (Q : α → Prop) : wpE E (Pure.pure a : Except ε α) Q ↔ Q a := Iff.rfl
@[simp] theorem error (e : ε) (Q : α → Prop) : wpE E (Except.error e : Except ε α) Q ↔ E e := Iff.rfl
@[simp] theorem throw (e : ε) (Q : α → Prop) : wpE E (MonadExcept.throw e : Except ε α) Q ↔ E e := Iff.rfl

theorem bind {x : Except ε α} {f : α → Except ε β} {Q : β → Prop} (h : wpE E x (fun a => wpE E (f a) Q)) :
    wpE E (x >>= f) Q := by
  cases x <;> exact h

/-- the result predicate and the error predicate may both be weakened -/
theorem imp {x : Except ε α} {Q Q' : α → Prop} (h : wpE E x Q) (hq : ∀ a, Q a → Q' a) (he : ∀ e, E e → E' e) :
    wpE E' x Q' := by
  cases x with
  | ok a => exact hq a h
  | error e => exact he e h

theorem mono {x : Except ε α} {Q Q' : α → Prop} (h : wpE E x Q) (hq : ∀ a, Q a → Q' a) : wpE E x Q' :=
  h.imp hq fun _ => id

theorem seq {x : Except ε α} {f : α → Except ε β} {P : α → Prop} {Q : β → Prop} (hx : wpE E x P)
    (hf : ∀ a, P a → wpE E (f a) Q) : wpE E (x >>= f) Q :=
  bind (hx.mono hf)

theorem by_cases {c : Prop} [Decidable c] {x y : Except ε α} {Q : α → Prop} (hx : c → wpE E x Q)
    (hy : ¬ c → wpE E y Q) : wpE E (if c then x else y) Q := by
  split
  · exact hx ‹_›
  · exact hy ‹_›

theorem ite {c : Prop} [Decidable c] {x y : Except ε α} {Q : α → Prop} (hx : wpE E x Q) (hy : wpE E y Q) :
    wpE E (if c then x else y) Q :=
  by_cases (fun _ => hx) (fun _ => hy)

/-- two specifications of the same computation, each with its own error predicate -/
theorem and {x : Except ε α} {Q Q' : α → Prop} (h : wpE E x Q) (h' : wpE E' x Q') :
    wpE (fun e => E e ∧ E' e) x (fun a => Q a ∧ Q' a) := by
  cases x <;> exact ⟨h, h'⟩

theorem of_ok {x : Except ε α} {Q : α → Prop} {a : α} (h : wpE E x Q) (hx : x = .ok a) : Q a := by
  subst hx; exact h

theorem of_error {x : Except ε α} {Q : α → Prop} {e : ε} (h : wpE E x Q) (hx : x = .error e) : E e := by
  subst hx; exact h

theorem foldlM {σ : Type v} {γ : Type w} {I : σ → Prop} {f : σ → γ → Except ε σ}
    (hf : ∀ s a, I s → wpE E (f s a) I) : ∀ (l : List γ) (s : σ), I s → wpE E (l.foldlM f s) I
  | [], _, hs => hs
  | a :: l, s, hs => by
    rw [List.foldlM_cons]; exact seq (hf s a hs) fun s' hs' => foldlM hf l s' hs'

end wpE

/-- with every error allowed, `wpE` is the partial-correctness triple written with an equation -/
theorem wpE_true_iff {x : Except ε α} {Q : α → Prop} : wpE (fun _ => True) x Q ↔ ∀ a, x = .ok a → Q a := by
  cases x with
  | ok a => exact ⟨fun h _ e => by cases e; exact h, fun h => h a rfl⟩
  | error e => exact ⟨fun _ _ e => (nomatch e), fun _ => trivial⟩

/-! ### inversion of a successful run, for proofs that follow a hypothesis `f s = .ok s'` -/

theorem Except.bind_eq_ok {x : Except ε α} {f : α → Except ε β} {b : β} :
    (x >>= f) = .ok b ↔ ∃ a, x = .ok a ∧ f a = .ok b := by
  cases x with
  | ok a => exact ⟨fun h => ⟨a, rfl, h⟩, fun ⟨_, e, h⟩ => by cases e; exact h⟩
  | error e => exact ⟨fun h => (nomatch h), fun ⟨_, e, _⟩ => (nomatch e)⟩

theorem Except.bind_eq_error {x : Except ε α} {f : α → Except ε β} {e : ε} :
    (x >>= f) = .error e ↔ x = .error e ∨ ∃ a, x = .ok a ∧ f a = .error e := by
  cases x with
  | ok a => exact ⟨fun h => .inr ⟨a, rfl, h⟩, fun h => h.elim (nomatch ·) fun ⟨_, e, h⟩ => by cases e; exact h⟩
  | error e' =>
    exact ⟨fun h => .inl (by cases h; rfl), fun h => h.elim (fun h => by cases h; rfl) fun ⟨_, e, _⟩ => (nomatch e)⟩

end BbRe
