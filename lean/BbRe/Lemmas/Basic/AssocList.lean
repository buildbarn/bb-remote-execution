/-!
Association lists standing for Go maps, once.  Every model of the development writes the same three or
four recursions over `List (κ × α)` under its own names (`Sched.alookup/aset/aerase`,
`Trie.aget/aput/adel`, `ProtoStore.lookupG/setG/eraseG`, `ISC.getClass/setClass`,
`InputRoot.assoc/lookup/replaceFirst/eraseFirst`, `Outputs.lookupE/setE`, `Quota.lookup/setSize`,
`BuildDirs.lookup/eraseName`, `PrefixMap.get/erase`).  The model definitions stay as they are; each is shown
equal to the function here by one induction, and the laws are proved here.

`get` first binding; `put` replace in place or append; `repl` replace in place only; `del` first binding
removed; `delAll` every binding removed.
-/
namespace BbRe.AL
universe u v
variable {κ : Type u} {α : Type v} [DecidableEq κ]

def get (k : κ) : List (κ × α) → Option α
  | [] => none
  | (k', v) :: r => if k' = k then some v else get k r

def put (k : κ) (v : α) : List (κ × α) → List (κ × α)
  | [] => [(k, v)]
  | (k', v') :: r => if k' = k then (k, v) :: r else (k', v') :: put k v r

def repl (k : κ) (v : α) : List (κ × α) → List (κ × α)
  | [] => []
  | (k', v') :: r => if k' = k then (k', v) :: r else (k', v') :: repl k v r

def del (k : κ) : List (κ × α) → List (κ × α)
  | [] => []
  | (k', v') :: r => if k' = k then r else (k', v') :: del k r

def delAll (k : κ) : List (κ × α) → List (κ × α)
  | [] => []
  | (k', v') :: r => if k' = k then delAll k r else (k', v') :: delAll k r

abbrev keys (l : List (κ × α)) : List κ := l.map (·.1)

@[simp] theorem get_nil (k : κ) : get k ([] : List (κ × α)) = none := rfl

theorem get_cons (k : κ) (p : κ × α) (l : List (κ × α)) :
    get k (p :: l) = if p.1 = k then some p.2 else get k l := rfl

/-! ### `get` and membership -/

theorem get_eq_none_iff {k : κ} {l : List (κ × α)} : get k l = none ↔ k ∉ keys l := by
  induction l with
  | nil => simp
  | cons p l ih =>
    rw [get_cons]
    by_cases h : p.1 = k
    · simp [h]
    · simp [h, ih, Ne.symm h]

theorem get_isSome_iff {k : κ} {l : List (κ × α)} : (get k l).isSome ↔ k ∈ keys l := by
  rw [← Decidable.not_iff_not, ← get_eq_none_iff]; cases get k l <;> simp

theorem mem_of_get {k : κ} {v : α} {l : List (κ × α)} (h : get k l = some v) : (k, v) ∈ l := by
  induction l with
  | nil => cases h
  | cons p l ih =>
    rw [get_cons] at h
    split at h
    · next hk => cases h; cases hk; exact List.mem_cons_self
    · exact List.mem_cons_of_mem _ (ih h)

theorem mem_keys_of_get {k : κ} {v : α} {l : List (κ × α)} (h : get k l = some v) : k ∈ keys l :=
  List.mem_map.2 ⟨_, mem_of_get h, rfl⟩

theorem get_of_mem {k : κ} {v : α} {l : List (κ × α)} (hn : (keys l).Nodup) (h : (k, v) ∈ l) :
    get k l = some v := by
  induction l with
  | nil => cases h
  | cons p l ih =>
    have ⟨h1, h2⟩ := List.nodup_cons.1 hn
    rw [get_cons]
    rcases List.mem_cons.1 h with rfl | h
    · exact if_pos rfl
    · rw [if_neg fun e : p.1 = k => h1 (List.mem_map.2 ⟨_, h, e.symm⟩)]; exact ih h2 h

theorem mem_iff_get {k : κ} {v : α} {l : List (κ × α)} (hn : (keys l).Nodup) :
    (k, v) ∈ l ↔ get k l = some v := ⟨get_of_mem hn, mem_of_get⟩

theorem get_append (k : κ) (a b : List (κ × α)) : get k (a ++ b) = (get k a).or (get k b) := by
  induction a with
  | nil => rfl
  | cons p a ih => rw [List.cons_append, get_cons, get_cons, ih]; split <;> rfl

theorem get_map (g : α → α) (k : κ) (l : List (κ × α)) :
    get k (l.map fun e => (e.1, g e.2)) = (get k l).map g := by
  induction l with
  | nil => rfl
  | cons p l ih => rw [List.map_cons, get_cons, get_cons, ih]; split <;> rfl

/-! ### `put` -/

theorem get_put (k k' : κ) (v : α) (l : List (κ × α)) :
    get k' (put k v l) = if k = k' then some v else get k' l := by
  induction l with
  | nil => rfl
  | cons p l ih =>
    obtain ⟨a, b⟩ := p
    by_cases h : a = k
    · subst h; simp only [put, if_true, get_cons]; split <;> rfl
    · simp only [put, h, if_false, get_cons, ih]
      by_cases h2 : a = k'
      · subst h2; simp [Ne.symm h]
      · simp [h2]

theorem get_put_self (k : κ) (v : α) (l : List (κ × α)) : get k (put k v l) = some v := by
  rw [get_put, if_pos rfl]

theorem get_put_ne {k k' : κ} (v : α) (l : List (κ × α)) (h : k' ≠ k) : get k' (put k v l) = get k' l := by
  rw [get_put, if_neg (Ne.symm h)]

/-- a binding found after `put k v`: the new one, or an old one under another key -/
theorem get_put_cases {k k' : κ} {v v' : α} {l : List (κ × α)} (h : get k' (put k v l) = some v') :
    k' = k ∧ v' = v ∨ k' ≠ k ∧ get k' l = some v' := by
  rw [get_put] at h
  split at h
  · next e => exact .inl ⟨e.symm, (Option.some.inj h).symm⟩
  · next e => exact .inr ⟨Ne.symm e, h⟩

theorem keys_put (k : κ) (v : α) (l : List (κ × α)) :
    keys (put k v l) = if k ∈ keys l then keys l else keys l ++ [k] := by
  induction l with
  | nil => rfl
  | cons p l ih =>
    obtain ⟨a, b⟩ := p
    by_cases h : a = k
    · subst h; simp [put]
    · simp only [put, h, if_false, keys, List.map_cons, List.mem_cons, Ne.symm h, false_or] at ih ⊢
      rw [ih]; split <;> rfl

theorem mem_keys_put {k x : κ} {v : α} {l : List (κ × α)} : x ∈ keys (put k v l) ↔ x = k ∨ x ∈ keys l := by
  rw [← get_isSome_iff, ← get_isSome_iff, get_put]
  by_cases h : k = x
  · simp [h]
  · simp [h, Ne.symm h]

theorem nodup_put (k : κ) (v : α) {l : List (κ × α)} (h : (keys l).Nodup) : (keys (put k v l)).Nodup := by
  rw [keys_put]; split
  · exact h
  · next hk =>
    refine List.nodup_append.2 ⟨h, List.nodup_cons.2 ⟨List.not_mem_nil, List.nodup_nil⟩, ?_⟩
    intro a ha b hb e
    rw [List.mem_singleton] at hb
    exact hk (hb ▸ e ▸ ha)

theorem mem_put {k : κ} {v : α} {l : List (κ × α)} {p : κ × α} (h : p ∈ put k v l) : p = (k, v) ∨ p ∈ l := by
  induction l with
  | nil => exact .inl (List.mem_singleton.1 h)
  | cons q l ih =>
    obtain ⟨a, b⟩ := q
    simp only [put] at h
    split at h
    · exact (List.mem_cons.1 h).imp_right (List.mem_cons_of_mem _)
    · rcases List.mem_cons.1 h with h | h
      · exact .inr (h ▸ List.mem_cons_self)
      · exact (ih h).imp_right (List.mem_cons_of_mem _)

theorem put_put (k : κ) (v v' : α) (l : List (κ × α)) : put k v (put k v' l) = put k v l := by
  induction l with
  | nil => simp [put]
  | cons p l ih =>
    obtain ⟨a, b⟩ := p
    by_cases h : a = k
    · subst h; simp [put]
    · simp [put, h, ih]

theorem put_of_none {k : κ} (v : α) {l : List (κ × α)} (h : get k l = none) : put k v l = l ++ [(k, v)] := by
  induction l with
  | nil => rfl
  | cons p l ih =>
    obtain ⟨a, b⟩ := p
    rw [get_cons] at h
    by_cases e : a = k
    · simp [e] at h
    · simp only [e, if_false] at h; simp [put, e, ih h]

theorem put_of_some {k : κ} {v : α} {l : List (κ × α)} (h : get k l = some v) : put k v l = l := by
  induction l with
  | nil => cases h
  | cons p l ih =>
    obtain ⟨a, b⟩ := p
    rw [get_cons] at h
    by_cases e : a = k
    · simp only [e, if_true, Option.some.injEq] at h; simp [put, e, h]
    · simp only [e, if_false] at h; simp [put, e, ih h]

theorem length_put_of_get {k : κ} {v v' : α} {l : List (κ × α)} (h : get k l = some v') :
    (put k v l).length = l.length := by
  have := congrArg List.length (keys_put k v l)
  rw [if_pos (mem_keys_of_get h)] at this
  simpa [keys] using this

/-! ### `repl` -/

theorem get_repl (k k' : κ) (v : α) (l : List (κ × α)) :
    get k' (repl k v l) = if k' = k then (get k l).map fun _ => v else get k' l := by
  induction l with
  | nil => simp [repl]
  | cons p l ih =>
    obtain ⟨a, b⟩ := p
    by_cases h : a = k
    · subst h
      by_cases h2 : a = k'
      · simp [repl, get_cons, h2]
      · simp [repl, get_cons, h2, Ne.symm h2]
    · simp only [repl, h, if_false, get_cons, ih]
      by_cases h2 : a = k'
      · subst h2; simp [h]
      · simp [h2]

theorem keys_repl (k : κ) (v : α) (l : List (κ × α)) : keys (repl k v l) = keys l := by
  induction l with
  | nil => rfl
  | cons p l ih =>
    obtain ⟨a, b⟩ := p
    by_cases h : a = k <;> simp_all [repl, keys]

theorem put_eq_repl {k : κ} {v v' : α} {l : List (κ × α)} (h : get k l = some v') : put k v l = repl k v l := by
  induction l with
  | nil => cases h
  | cons p l ih =>
    obtain ⟨a, b⟩ := p
    rw [get_cons] at h
    by_cases e : a = k
    · simp [put, repl, e]
    · simp only [e, if_false] at h; simp [put, repl, e, ih h]

/-! ### `del`, `delAll` -/

theorem get_del_ne (k k' : κ) (l : List (κ × α)) (hne : k' ≠ k) : get k (del k' l) = get k l := by
  induction l with
  | nil => rfl
  | cons p l ih =>
    obtain ⟨a, b⟩ := p
    by_cases h : a = k'
    · subst h; simp [del, get_cons, hne]
    · simp only [del, h, if_false, get_cons, ih]

theorem keys_del_sublist (k : κ) (l : List (κ × α)) : (keys (del k l)).Sublist (keys l) := by
  induction l with
  | nil => exact .slnil
  | cons p l ih =>
    obtain ⟨a, b⟩ := p
    by_cases h : a = k
    · simp [del, h]
    · simp only [del, h, if_false, keys, List.map_cons]; exact ih.cons_cons _

theorem nodup_del (k : κ) {l : List (κ × α)} (h : (keys l).Nodup) : (keys (del k l)).Nodup :=
  (keys_del_sublist k l).nodup h

theorem mem_del {k : κ} {l : List (κ × α)} {p : κ × α} (h : p ∈ del k l) : p ∈ l := by
  induction l with
  | nil => cases h
  | cons q l ih =>
    obtain ⟨a, b⟩ := q
    simp only [del] at h
    split at h
    · exact List.mem_cons_of_mem _ h
    · exact (List.mem_cons.1 h).elim (· ▸ List.mem_cons_self) fun h => List.mem_cons_of_mem _ (ih h)

theorem get_del_self (k : κ) {l : List (κ × α)} (hn : (keys l).Nodup) : get k (del k l) = none := by
  induction l with
  | nil => rfl
  | cons p l ih =>
    obtain ⟨a, b⟩ := p
    have ⟨h1, h2⟩ := List.nodup_cons.1 hn
    by_cases h : a = k
    · subst h; simp only [del, if_true]; exact get_eq_none_iff.2 h1
    · simp only [del, h, if_false, get_cons, ih h2]

theorem get_del (k k' : κ) {l : List (κ × α)} (hn : (keys l).Nodup) :
    get k (del k' l) = if k' = k then none else get k l := by
  split
  · next h => subst h; exact get_del_self _ hn
  · next h => exact get_del_ne _ _ _ h

/-- a binding found after `del k` -/
theorem get_del_some {k k' : κ} {v : α} {l : List (κ × α)} (hn : (keys l).Nodup)
    (h : get k' (del k l) = some v) : k' ≠ k ∧ get k' l = some v := by
  rw [get_del _ _ hn] at h
  split at h
  · cases h
  · next e => exact ⟨Ne.symm e, h⟩

theorem mem_keys_del {k x : κ} {l : List (κ × α)} (hn : (keys l).Nodup) :
    x ∈ keys (del k l) ↔ x ≠ k ∧ x ∈ keys l := by
  rw [← get_isSome_iff, ← get_isSome_iff, get_del _ _ hn]
  by_cases h : k = x
  · simp [h]
  · simp [h, Ne.symm h]

theorem length_del_le (k : κ) (l : List (κ × α)) : (del k l).length ≤ l.length := by
  simpa [keys] using (keys_del_sublist k l).length_le

theorem length_del_lt {k : κ} {v : α} {l : List (κ × α)} (h : get k l = some v) :
    (del k l).length < l.length := by
  induction l with
  | nil => cases h
  | cons p l ih =>
    obtain ⟨a, b⟩ := p
    rw [get_cons] at h
    by_cases e : a = k
    · simp [del, e]
    · simp only [e, if_false] at h; simpa [del, e] using ih h

theorem delAll_eq_filter (k : κ) (l : List (κ × α)) : delAll k l = l.filter (fun e => e.1 ≠ k) := by
  induction l with
  | nil => rfl
  | cons p l ih =>
    obtain ⟨a, b⟩ := p
    by_cases h : a = k <;> simp [delAll, h, ih]

theorem get_delAll (k k' : κ) (l : List (κ × α)) :
    get k' (delAll k l) = if k' = k then none else get k' l := by
  induction l with
  | nil => simp [delAll]
  | cons p l ih =>
    obtain ⟨a, b⟩ := p
    by_cases h : a = k
    · subst h
      by_cases h2 : a = k'
      · subst h2; simp [delAll, ih]
      · simp [delAll, get_cons, ih, h2, Ne.symm h2]
    · simp only [delAll, h, if_false, get_cons, ih]
      by_cases h2 : a = k'
      · subst h2; simp [h]
      · simp [h2]

theorem nodup_delAll (k : κ) {l : List (κ × α)} (h : (keys l).Nodup) : (keys (delAll k l)).Nodup := by
  rw [delAll_eq_filter]; exact h.sublist (List.filter_sublist.map _)

/-- with distinct keys, removing the first binding removes them all -/
theorem del_eq_delAll (k : κ) {l : List (κ × α)} (hn : (keys l).Nodup) : del k l = delAll k l := by
  induction l with
  | nil => rfl
  | cons p l ih =>
    obtain ⟨a, b⟩ := p
    have ⟨h1, h2⟩ := List.nodup_cons.1 hn
    by_cases h : a = k
    · subst h
      simp only [del, delAll, if_true]
      rw [delAll_eq_filter, List.filter_eq_self.2]
      intro e he; exact decide_eq_true fun h => h1 (h ▸ List.mem_map.2 ⟨e, he, rfl⟩)
    · simp [del, delAll, h, ih h2]

end BbRe.AL
