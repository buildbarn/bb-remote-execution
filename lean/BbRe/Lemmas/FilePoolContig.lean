import BbRe.Lemmas.FilePoolInv
/-!
`getSectorsContiguous` (`contig`) and `insertSectorsContiguous` (`insertSectors`)
in terms of `List.getD · 0` (an index beyond the list is a hole).
-/
namespace BbRe.Lemmas.FilePool
open BbRe.FilePool

theorem countMore_spec (l : List Nat) : ∀ (s c fuel : Nat),
    countMore l s c fuel ≤ fuel ∧ countMore l s c fuel ≤ l.length ∧
      ∀ j, j < countMore l s c fuel → l.getD j 0 = if s = 0 then 0 else s + c + j := by
  induction l with
  | nil =>
    intro s c fuel
    cases fuel <;> simp [countMore]
  | cons x xs ih =>
    intro s c fuel
    cases fuel with
    | zero => simp [countMore]
    | succ fuel =>
      unfold countMore
      split
      · rename_i hc
        obtain ⟨h1, h2, h3⟩ := ih s (c + 1) fuel
        refine ⟨by omega, by simp only [List.length_cons]; omega, ?_⟩
        intro j hj
        cases j with
        | zero =>
          simp only [List.getD_cons_zero]
          rcases hc with ⟨hs, hx⟩ | ⟨hs, hx⟩
          · simp [hs, hx]
          · simp [hs, hx]
        | succ j =>
          simp only [List.getD_cons_succ]
          rw [h3 j (by omega)]
          split
          · rfl
          · omega
      · simp

theorem getD_drop (l : List Nat) (k j : Nat) : (l.drop k).getD j 0 = l.getD (k + j) 0 := by
  simp [List.getD_eq_getElem?_getD, List.getElem?_drop]

/-- `getSectorsContiguous`: a run of `cnt ≥ 1` entries starting at `first` that
are all holes (`s = 0`) or the consecutive device sectors `s, s+1, …`. -/
theorem contig_spec (secs : List Nat) (first endIdx : Nat) (h : first < secs.length) :
    (contig secs first endIdx).1 = secs.getD first 0 ∧ 1 ≤ (contig secs first endIdx).2 ∧
      first + (contig secs first endIdx).2 ≤ secs.length ∧
      (contig secs first endIdx).2 ≤ max 1 (endIdx - first) ∧
      ∀ j, j < (contig secs first endIdx).2 →
        secs.getD (first + j) 0 =
          if (contig secs first endIdx).1 = 0 then 0 else (contig secs first endIdx).1 + j := by
  unfold contig
  dsimp only
  obtain ⟨h1, h2, h3⟩ := countMore_spec (secs.drop (first + 1)) (secs.getD first 0) 1 (endIdx - first - 1)
  refine ⟨rfl, by omega, ?_, by omega, ?_⟩
  · simp only [List.length_drop] at h2; omega
  · intro j hj
    cases j with
    | zero => simp only [Nat.add_zero]; split <;> simp_all
    | succ j =>
      have := h3 j (by omega)
      rw [getD_drop] at this
      rw [show first + (j + 1) = first + 1 + j by omega, this]
      split
      · rfl
      · omega

/-- entry `q` of the run found by `contig`. -/
theorem contig_getD (secs : List Nat) (first endIdx : Nat) (h : first < secs.length) {q : Nat} (h1 : first ≤ q)
    (h2 : q < first + (contig secs first endIdx).2) :
    secs.getD q 0 = if (contig secs first endIdx).1 = 0 then 0 else (contig secs first endIdx).1 + (q - first) := by
  have := (contig_spec secs first endIdx h).2.2.2.2 (q - first) (Nat.sub_lt_left_of_lt_add h1 h2)
  rwa [Nat.add_sub_cancel' h1] at this

theorem getD_append_replicate_zero (l : List Nat) (k q : Nat) :
    (l ++ List.replicate k 0).getD q 0 = l.getD q 0 := by
  simp only [List.getD_eq_getElem?_getD]
  by_cases h : q < l.length
  · rw [List.getElem?_append_left h]
  · rw [List.getElem?_append_right (Nat.le_of_not_lt h), List.getElem?_eq_none (Nat.le_of_not_lt h)]
    simp only [List.getElem?_replicate, Option.getD_none]
    split <;> rfl

theorem all_zero_of_getD (l : List Nat) (idx count : Nat) (h : ∀ j, j < count → l.getD (idx + j) 0 = 0) :
    ((l.drop idx).take count).all (· == 0) = true := by
  rw [List.all_eq_true]
  intro x hx
  obtain ⟨j, hj, rfl⟩ := List.getElem_of_mem hx
  simp only [List.length_take, List.length_drop] at hj
  have := h j (by omega)
  simp only [List.getD_eq_getElem?_getD] at this
  rw [List.getElem?_eq_getElem (by omega)] at this
  simp only [List.getElem_take, List.getElem_drop, beq_iff_eq]
  simpa using this

/-- `insertSectorsContiguous` in terms of entries. -/
theorem insertSectors_getD {secs secs' : List Nat} {idx first count : Nat}
    (h : insertSectors secs idx first count = some secs') (q : Nat) :
    secs'.getD q 0 = if idx ≤ q ∧ q < idx + count then first + (q - idx) else secs.getD q 0 := by
  unfold insertSectors at h
  split at h
  · rename_i hc
    simp only [Option.some.injEq] at h; subst h
    simp only [List.getD_eq_getElem?_getD]
    by_cases h1 : q < idx
    · have : ¬ (idx ≤ q ∧ q < idx + count) := by omega
      rw [if_neg this, List.append_assoc, List.getElem?_append_left (by simp; omega)]
      simp [h1]
    · by_cases h2 : q < idx + count
      · have : idx ≤ q ∧ q < idx + count := by omega
        rw [if_pos this, List.append_assoc, List.getElem?_append_right (by simp; omega)]
        have hl : (List.take idx secs).length = idx := by simp; omega
        rw [hl, List.getElem?_append_left (by simp; omega)]
        simp [show q - idx < count by omega]
      · have : ¬ (idx ≤ q ∧ q < idx + count) := by omega
        rw [if_neg this, List.getElem?_append_right (by simp; omega)]
        have hl : (List.take idx secs ++ List.range' first count).length = idx + count := by simp; omega
        rw [hl, List.getElem?_drop]
        congr 2; omega
  · simp at h

end BbRe.Lemmas.FilePool
