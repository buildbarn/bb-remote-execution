import BbRe.Lemmas.FairPick
/-!
`task.schedule` hands a new task to a parked worker that is at least as closely related to the
task's invocations as every other parked worker (`handoffTargets`, bottom-up search).
-/
namespace BbRe.Lemmas.Fair
open BbRe.Fair

theorem nodeAt_append (t : Inv) (p q : List Nat) :
    nodeAt t (p ++ q) = (nodeAt t p).bind fun n => nodeAt n q := by
  induction p generalizing t with
  | nil => rfl
  | cons k p ih =>
    simp only [List.cons_append, nodeAt]
    cases t.child k with
    | none => rfl
    | some c => exact ih c

theorem nodeAt_take (t : Inv) (p : List Nat) (n : Inv) (h : nodeAt t p = some n) (j : Nat) :
    ∃ m, nodeAt t (p.take j) = some m ∧ nodeAt m (p.drop j) = some n := by
  have := nodeAt_append t (p.take j) (p.drop j)
  rw [List.take_append_drop, h] at this
  cases hm : nodeAt t (p.take j) with
  | none => rw [hm] at this; cases this
  | some m => rw [hm] at this; exact ⟨m, rfl, this.symm⟩

/-- `commonPrefixLen p q` is the length of the longest common prefix. -/
theorem le_commonPrefixLen_iff : ∀ (n : Nat) (p q : List Nat),
    n ≤ commonPrefixLen p q ↔ n ≤ p.length ∧ n ≤ q.length ∧ p.take n = q.take n
  | 0, _, _ => by simp
  | n + 1, [], _ => by simp [commonPrefixLen]
  | n + 1, _ :: _, [] => by simp [commonPrefixLen]
  | n + 1, a :: p, b :: q => by
    unfold commonPrefixLen
    by_cases h : a = b
    · simp [h, le_commonPrefixLen_iff n p q]
    · simp [h]

theorem commonPrefixLen_le_left (p q : List Nat) : commonPrefixLen p q ≤ p.length :=
  ((le_commonPrefixLen_iff _ p q).mp (Nat.le_refl _)).1

theorem commonPrefixLen_le_right (p q : List Nat) : commonPrefixLen p q ≤ q.length :=
  ((le_commonPrefixLen_iff _ p q).mp (Nat.le_refl _)).2.1

theorem take_commonPrefixLen (p q : List Nat) : p.take (commonPrefixLen p q) = q.take (commonPrefixLen p q) :=
  ((le_commonPrefixLen_iff _ p q).mp (Nat.le_refl _)).2.2

theorem le_commonPrefixLen (n : Nat) (p q : List Nat) (hp : n ≤ p.length) (hq : n ≤ q.length)
    (h : p.take n = q.take n) : n ≤ commonPrefixLen p q :=
  (le_commonPrefixLen_iff n p q).mpr ⟨hp, hq, h⟩

/-- Worker `w` is parked (blocked in `Synchronize`, `idleSynchronizingWorkers`) at the invocation
with path `q`. -/
def Parked (t : Inv) (q : List Nat) (w : Nat) : Prop := ∃ n, nodeAt t q = some n ∧ w ∈ n.parked

/-- Every child that has parked workers at or below it is listed in its parent's
`idleSynchronizingWorkersChildren` (checked on the real structures by the verif hook). -/
def ParkedListed (t : Inv) : Prop :=
  ∀ p n, nodeAt t p = some n → ∀ k c, n.child k = some c → c.hasParked = true → k ∈ n.parkedKids

theorem hasParked_of_below (t : Inv) (hl : ParkedListed t) : ∀ (q p : List Nat) (n n' : Inv),
    nodeAt t p = some n → nodeAt n q = some n' → n'.parked ≠ [] → n.hasParked = true := by
  intro q
  induction q with
  | nil =>
    intro p n n' _ hq hne
    simp only [nodeAt, Option.some.injEq] at hq
    subst hq
    unfold Inv.hasParked
    cases hp : n.parked with
    | nil => exact absurd hp hne
    | cons _ _ => rfl
  | cons k q ih =>
    intro p n n' hp hq hne
    simp only [nodeAt] at hq
    cases hc : n.child k with
    | none => rw [hc] at hq; cases hq
    | some c =>
      rw [hc] at hq
      have hpc : nodeAt t (p ++ [k]) = some c := by
        rw [nodeAt_append, hp]
        simp only [Option.bind_some, nodeAt, hc]
      have := ih (p ++ [k]) c n' hpc hq hne
      have hk := hl p n hp k c hc this
      unfold Inv.hasParked
      cases hpk : n.parkedKids with
      | nil => rw [hpk] at hk; cases hk
      | cons _ _ => simp

theorem descendParked_parked : ∀ (fuel : Nat) (n : Inv) (w : Nat), descendParked fuel n = some w →
    ∃ q n', nodeAt n q = some n' ∧ w ∈ n'.parked := by
  intro fuel
  induction fuel with
  | zero => intro n w h; cases h
  | succ f ih =>
    intro n w h
    unfold descendParked at h
    cases hp : n.parked with
    | cons w' rest =>
      rw [hp] at h
      simp only [Option.some.injEq] at h
      subst h
      exact ⟨[], n, rfl, by rw [hp]; exact List.mem_cons_self⟩
    | nil =>
      rw [hp] at h
      simp only [] at h
      cases hk : n.parkedKids with
      | nil => rw [hk] at h; cases h
      | cons k _ =>
        rw [hk] at h
        simp only [] at h
        cases hc : n.child k with
        | none => rw [hc] at h; cases h
        | some c =>
          rw [hc] at h
          obtain ⟨q, n', hq, hw⟩ := ih c w h
          exact ⟨k :: q, n', by simp only [nodeAt, hc]; exact hq, hw⟩

theorem mem_roundNodes (t : Inv) (invs : List (List Nat)) (r : Nat) (n : Inv) :
    n ∈ roundNodes t invs r ↔ ∃ p ∈ invs, r ≤ p.length ∧ nodeAt t (p.take (p.length - r)) = some n := by
  unfold roundNodes
  rw [List.mem_filterMap]
  constructor
  · rintro ⟨p, hp, h⟩
    split at h
    · rename_i hr; exact ⟨p, hp, hr, h⟩
    · cases h
  · rintro ⟨p, hp, hr, h⟩
    exact ⟨p, hp, by rw [if_pos hr]; exact h⟩

/-- The loop of `schedule`: when no invocation examined in earlier rounds had parked workers at or
below it, a worker chosen from round `r` on is at distance `≤ r`, and every parked worker is at
distance `≥ r`, from the task's invocations. -/
theorem handoffAux_spec (t : Inv) (invs : List (List Nat)) (depth : Nat) (hl : ParkedListed t)
    (hv : ∀ p ∈ invs, ∃ n, nodeAt t p = some n) :
    ∀ (fuel r : Nat) (w : Nat),
      (∀ r', r' < r → ∀ p ∈ invs, r' ≤ p.length → ∀ n, nodeAt t (p.take (p.length - r')) = some n →
        n.hasParked = false) →
      w ∈ handoffAux t invs depth fuel r →
      ∃ p q r₀, p ∈ invs ∧ Parked t q w ∧ dist p q ≤ r₀ ∧
        ∀ p' q' w', p' ∈ invs → Parked t q' w' → r₀ ≤ dist p' q' := by
  intro fuel
  induction fuel with
  | zero => intro r w _ h; cases h
  | succ f ih =>
    intro r w hinv h
    unfold handoffAux at h
    simp only [] at h
    by_cases hhits : ((roundNodes t invs r).filter Inv.hasParked).isEmpty = true
    · rw [if_pos hhits] at h
      split at h
      · cases h
      · apply ih (r + 1) w ?_ h
        intro r' hr' p hp hrp n hn
        by_cases hlt : r' < r
        · exact hinv r' hlt p hp hrp n hn
        · have : r' = r := Nat.le_antisymm (Nat.le_of_lt_succ hr') (Nat.le_of_not_lt hlt)
          subst this
          cases hpk : n.hasParked with
          | false => rfl
          | true =>
            have : n ∈ (roundNodes t invs r').filter Inv.hasParked :=
              List.mem_filter.mpr ⟨(mem_roundNodes t invs r' n).mpr ⟨p, hp, hrp, hn⟩, hpk⟩
            rw [List.isEmpty_iff] at hhits
            rw [hhits] at this
            cases this
    · rw [if_neg hhits] at h
      obtain ⟨n, hnh, hdesc⟩ := List.mem_filterMap.mp h
      obtain ⟨hnr, _⟩ := List.mem_filter.mp hnh
      obtain ⟨p, hp, hrp, hn⟩ := (mem_roundNodes t invs r n).mp hnr
      obtain ⟨q2, n', hq2, hw⟩ := descendParked_parked depth n w hdesc
      refine ⟨p, p.take (p.length - r) ++ q2, r, hp, ⟨n', ?_, hw⟩, ?_, ?_⟩
      · rw [nodeAt_append, hn]; exact hq2
      · -- the examined invocation is a common ancestor
        have hlen : (p.take (p.length - r)).length = p.length - r :=
          List.length_take_of_le (Nat.sub_le _ _)
        have hcp := le_commonPrefixLen (p.length - r) p (p.take (p.length - r) ++ q2) (Nat.sub_le _ _)
          (by rw [List.length_append, hlen]; exact Nat.le_add_right _ _)
          (by rw [List.take_append_of_le_length (Nat.le_of_eq hlen.symm), List.take_take, Nat.min_self])
        exact Nat.sub_le_iff_le_add'.mpr (Nat.sub_le_iff_le_add.mp hcp)
      · intro p' q' w' hp' hparked
        obtain ⟨n'', hq', hw'⟩ := hparked
        -- otherwise an earlier round would have found the ancestor of q' on the path p'
        cases Nat.lt_or_ge (dist p' q') r with
        | inr hge => exact hge
        | inl hlt =>
          exfalso
          have hcl := commonPrefixLen_le_left p' q'
          have hcr := commonPrefixLen_le_right p' q'
          obtain ⟨np', hnp'⟩ := hv p' hp'
          obtain ⟨m, hm, _⟩ := nodeAt_take t p' np' hnp' (commonPrefixLen p' q')
          obtain ⟨m', hm', hdrop⟩ := nodeAt_take t q' n'' hq' (commonPrefixLen p' q')
          rw [← take_commonPrefixLen p' q', hm] at hm'
          have hmm : m = m' := Option.some.inj hm'
          subst hmm
          have hpk := hasParked_of_below t hl _ _ m n'' hm hdrop (by
            intro he; rw [he] at hw'; cases hw')
          have hd : p'.length - dist p' q' = commonPrefixLen p' q' := Nat.sub_sub_self hcl
          have := hinv (dist p' q') hlt p' hp' (Nat.sub_le _ _) m (by rw [hd]; exact hm)
          rw [hpk] at this
          cases this

end BbRe.Lemmas.Fair
