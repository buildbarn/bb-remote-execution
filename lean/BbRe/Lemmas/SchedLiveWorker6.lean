import BbRe.Lemmas.SchedLiveWorker5
/-!
Worker invariant through `syncArrive` and `syncWake`.
-/
namespace BbRe.Lemmas.SchedLive
open BbRe.Sched

theorem find?_append_new {l : List Scq} {n : Scq} {q : ScqId} {x : Scq}
    (h : (l ++ [n]).find? (fun y => y.id = q) = some x) : l.find? (fun y => y.id = q) = some x ∨ x = n := by
  rw [List.find?_append] at h
  cases hl : l.find? (fun y => y.id = q) with
  | some y => rw [hl] at h; simp at h; exact .inl (by rw [h])
  | none =>
    rw [hl] at h; simp only [Option.none_or, List.find?_cons, List.find?_nil] at h
    split at h
    · injection h with h; exact .inr h.symm
    · cases h

/-- appending a size-class queue without drains -/
theorem winv_addScq {s s' : State} {n : Scq} (hw : WInv s) (hn : n.drains = []) (h0 : s'.workers = s.workers)
    (h1 : s'.nextTask = s.nextTask) (h2 : s'.scqs = s.scqs ++ [n]) (h3 : s'.tasks = s.tasks) : WInv s' := by
  refine hw.of_frame (X := noX) h0 ⟨by omega, ?_, ?_⟩ (NoPtr.noX s)
  · intro q sq' h p hp
    simp only [State.scq?, h2] at h
    rcases find?_append_new h with h | rfl
    · exact ⟨sq', h, hp⟩
    · rw [hn] at hp; cases hp
  · intro tid t' _ _ h; simp only [State.task?, h3] at h; exact ⟨t', h, rfl, rfl⟩

theorem syncQueue_kw {s : State} {q : ScqId} {comps : List Nat} {pf : Nat} {w : WId} {x : State ⊕ State}
    (hh : syncQueue s q comps pf w = .ok x) : KWStep s (unsum x) := by
  refine KWStep.of (syncQueue_tstep (allow := True) hh) (fun _ hw => ?_)
  rcases syncQueue_ok hh with ⟨_, rfl⟩ | ⟨_, rfl⟩ | ⟨_, _, rfl⟩ | ⟨_, _, rfl⟩
  · exact winv_same hw rfl rfl rfl rfl
  · exact winv_same hw rfl rfl rfl rfl
  · exact winv_addScq (n := { id := q, mayBeRemoved := true, drains := [], undrainGen := 0 }) hw rfl rfl rfl rfl rfl
  · exact winv_addScq (n := { id := q, mayBeRemoved := true, drains := [], undrainGen := 0 }) hw rfl rfl rfl rfl rfl

/-- workers outside a `Synchronize` call have none of the waiting flags set -/
theorem flags_of_not_inSync {s : State} {wk : Worker} (h : WOk s wk) (hi : wk.inSync = false) :
    wk.parked = false ∧ wk.woken = false ∧ wk.drainWait = none := by
  refine ⟨?_, ?_, ?_⟩
  · cases hp : wk.parked with
    | false => rfl
    | true => have := (h.parked hp).1; rw [hi] at this; cases this
  · cases hp : wk.woken with
    | false => rfl
    | true => have := (h.woken hp).1; rw [hi] at this; cases this
  · cases hp : wk.drainWait with
    | none => rfl
    | some g => have := (h.dwait (by simp [hp])).1; rw [hi] at this; cases this

/-- `syncWorker` keeps the invariant, and when it lets the call proceed the worker satisfies `SyncPre` -/
theorem syncWorker_kw (s : State) (q : ScqId) (w : WId) :
    KWStep s (unsum (syncWorker s q w)) ∧
    (∀ s3, syncWorker s q w = .inr s3 → WInv s → SyncPre s3 q w) := by
  rcases syncWorker_cases s q w with ⟨wk, hwk, hi, e⟩ | ⟨wk, hwk, hi, e⟩ | ⟨hwk, e⟩ <;> rw [e]
  · exact ⟨KWStep.of_same rfl rfl rfl rfl rfl rfl, fun s3 h => by cases h⟩
  · obtain ⟨hm, hq, hw'⟩ := worker?_mem hwk
    constructor
    · refine KWStep.of (TStep.of_same (allow := True) rfl rfl rfl rfl) (fun _ hw => ?_)
      obtain ⟨f1, f2, f3⟩ := flags_of_not_inSync (hw.ok wk hm) hi
      refine hw.setWorker (X := noX) (w := { wk with inSync := true }) rfl (WFrame.of_eq rfl rfl rfl) (NoPtr.noX _) ?_
      exact ⟨fun h => absurd (f1.symm.trans h) Bool.false_ne_true, fun h => absurd (f2.symm.trans h) Bool.false_ne_true,
        (fun h => by rw [show wk.drainWait = none from f3] at h; cases h), fun tid ht => (hw.ok wk hm).ptr tid ht⟩
    · intro s3 h hw
      injection h with h; subst h
      obtain ⟨f1, f2, f3⟩ := flags_of_not_inSync (hw.ok wk hm) hi
      intro wk' hwk'
      rw [worker?_setWorker] at hwk'
      simp only [hq, hw', and_self, if_true] at hwk'
      have : (s.removeCleanup (.worker q w)).worker? q w = some wk := hwk
      rw [this] at hwk'; simp only [Option.map_some, Option.some.injEq] at hwk'
      subst hwk'; exact ⟨rfl, f1, f2, f3⟩
  · constructor
    · refine KWStep.of (TStep.of_same (allow := True) rfl rfl rfl rfl) (fun _ hw => ?_)
      refine ⟨?_, ?_⟩
      · simp only [unsum, addWorker_workers, List.map_append, List.map_cons, List.map_nil]
        rw [List.nodup_append]
        refine ⟨hw.uniq, by simp, ?_⟩
        intro a ha b hb
        simp only [List.mem_singleton] at hb; subst hb
        intro e; subst e
        obtain ⟨x, hx, ex⟩ := List.mem_map.1 ha
        have := worker?_of_mem hw.uniq hx
        simp only [wkey, Prod.mk.injEq] at ex
        rw [ex.1, ex.2, hwk] at this; cases this
      · intro x hx
        simp only [unsum, addWorker_workers, List.mem_append, List.mem_singleton] at hx
        rcases hx with hx | rfl
        · exact (hw.ok x hx).frame (X := noX) (WFrame.of_eq rfl rfl rfl) (fun _ _ h => h)
        · exact ⟨nofun, nofun, nofun, nofun⟩
    · intro s3 h _
      injection h with h; subst h
      intro wk' hwk'
      simp only [State.worker?, addWorker_workers, List.find?_append] at hwk'
      have hn : s.workers.find? (fun x => x.scq = q ∧ x.id = w) = none := hwk
      rw [hn] at hwk'
      simp only [Option.none_or, List.find?_cons, and_self, decide_true, Option.some.injEq] at hwk'
      subst hwk'; exact ⟨rfl, rfl, rfl, rfl⟩

theorem syncPre_emit {s : State} {q : ScqId} {w : WId} (e : Event) (h : SyncPre s q w) : SyncPre (emit s e) q w := h

theorem syncReturn_kw {s : State} (q : ScqId) (w : WId) (hkw : KW s) : KW (syncReturn s q w) :=
  ⟨(TStep.of_same (allow := True) (by simp) (by simp) (by simp) (by simp) hkw.1).1, syncReturn_winv q w hkw.2⟩

theorem KW.emit {s : State} (hkw : KW s) (e : Event) : KW (emit s e) :=
  KWStep.of_same (s := s) rfl rfl rfl rfl rfl rfl hkw

theorem syncArrive_kw {h : Hints} {s s' : State} {now : Nat} {q : ScqId} {comps : List Nat} {pf : Nat}
    {w : WId} {rep : Report} {pi : Bool} (hh : syncArrive h s now q comps pf w rep pi = .ok s') : KWStep s s' := by
  obtain ⟨s1, x, h1, h2, h3⟩ := syncArrive_ok hh
  refine (enter_kw h1).trans ?_
  rcases h3 with rfl | ⟨s2, rfl, h3⟩
  · exact syncQueue_kw h2
  · refine KWStep.trans (b := s2) (syncQueue_kw h2) ?_
    obtain ⟨kw, pre⟩ := syncWorker_kw s2 q w
    rcases h3 with h3 | ⟨s3, wk, h3, hwk, h4⟩
    · rw [h3] at kw; exact kw
    · rw [h3] at kw
      intro hkw2
      have hkw3 : KW s3 := kw hkw2
      have hpre : SyncPre s3 q w := pre s3 h3 hkw2.2
      obtain ⟨pin, ppk, pwo, pdw⟩ := hpre wk hwk
      rcases h4 with ⟨_, rfl⟩ | ⟨_, h4⟩ | ⟨d, _, _, rfl⟩ | ⟨d, _, _, h4⟩ | ⟨d, r, tid, s4, _, _, htk, h4, h5⟩ | ⟨d, r, _, _, h4⟩
      · exact syncReturn_kw q w (hkw3.emit _)
      · exact getCurrentOrNext_kw h4 hpre hkw3
      · exact syncReturn_kw q w (hkw3.emit _)
      · exact getCurrentOrNext_kw h4 hpre hkw3
      · have hkw4 := complete_kw h4 hkw3
        obtain ⟨keep, clr⟩ := complete_keep (q := q) (w := w) h4 hkw3.2
        refine getNextTask_kw h5 ?_ ?_ hkw4
        · intro wk1 hwk1
          obtain ⟨wk', e1, p1, a1, a2, a3, _⟩ := keep wk hwk ppk
          rw [e1] at hwk1; injection hwk1 with e; subst e
          exact ⟨a1 ▸ pin, p1, a2 ▸ pwo, a3 ▸ pdw⟩
        · intro wk1 hwk1; exact clr wk hwk ppk htk wk1 hwk1
      · exact getCurrentOrNext_kw h4 hpre hkw3

/-- the record of a worker inside `Synchronize` replaced by one of the same identity and task that waits for nothing -/
theorem setWorker_reset {s : State} {q : ScqId} {w : WId} {wk : Worker} (hkw : KW s) (hwk : s.worker? q w = some wk)
    (wk2 : Worker) (e1 : wk2.scq = wk.scq) (e2 : wk2.id = wk.id) (e3 : wk2.task = wk.task) (e4 : wk2.inSync = true)
    (e5 : wk2.parked = false) (e6 : wk2.woken = false) (e7 : wk2.drainWait = none) :
    KW (s.setWorker wk2) ∧ SyncPre (s.setWorker wk2) q w ∧
      ∀ wk', (s.setWorker wk2).worker? q w = some wk' → wk'.task = wk.task := by
  obtain ⟨hm, hq, hw'⟩ := worker?_mem hwk
  have hlk : ∀ wk', (s.setWorker wk2).worker? q w = some wk' → wk' = wk2 := by
    intro wk' hwk'
    rw [worker?_setWorker] at hwk'
    simp only [e1, e2, hq, hw', and_self, if_true, hwk, Option.map_some, Option.some.injEq] at hwk'
    exact hwk'.symm
  refine ⟨⟨(TStep.of_same (allow := True) (by simp) (by simp) (by simp) (by simp) hkw.1).1, ?_⟩, ?_, ?_⟩
  · refine hkw.2.setWorker (X := noX) rfl (WFrame.of_eq (by simp) (by simp) (by simp)) (NoPtr.noX _) ?_
    refine ⟨by simp [e5], by simp [e6], by simp [e7], ?_⟩
    intro tid ht; rw [e3] at ht; rw [e1, e2]; exact (hkw.2.ok wk hm).ptr tid ht
  · intro wk' hwk'; rw [hlk wk' hwk']; exact ⟨e4, e5, e6, e7⟩
  · intro wk' hwk'; rw [hlk wk' hwk']; exact e3

theorem syncWake_kw {h : Hints} {s s' : State} {now : Nat} {q : ScqId} {w : WId} {reason : Nat}
    (hh : syncWake h s now q w reason = .ok s') : KWStep s s' := by
  obtain ⟨s1, wk, h1, hwk, hin, h2⟩ := syncWake_ok hh
  refine (enter_kw h1).trans ?_
  intro hkw
  have hok := hkw.2.ok wk (worker?_mem hwk).1
  have reset := setWorker_reset hkw hwk
  rcases h2 with ⟨_, h2 | h2⟩ | ⟨_, rfl⟩ | ⟨_, hwo, h2 | h2⟩ | ⟨_, sq, g, _, hdw, _, h2⟩
  · obtain ⟨s3, _, h3, rfl⟩ := h2
    obtain ⟨tid, t, _, _, rfl⟩ := execResponse_ok h3
    exact syncReturn_kw q w ((reset { wk with parked := false, woken := false, drainWait := none } rfl rfl rfl hin rfl rfl rfl).1.emit _)
  · obtain ⟨_, rfl⟩ := h2
    exact syncReturn_kw q w ((reset { wk with parked := false, woken := false, drainWait := none } rfl rfl rfl hin rfl rfl rfl).1.emit _)
  · exact syncReturn_kw q w ((reset { wk with parked := false, woken := false, drainWait := none } rfl rfl rfl hin rfl rfl rfl).1.emit _)
  · obtain ⟨s3, _, h3, rfl⟩ := h2
    obtain ⟨tid, t, _, _, rfl⟩ := execResponse_ok h3
    obtain ⟨_, ppk, pdw⟩ := hok.woken hwo
    exact syncReturn_kw q w ((reset { wk with woken := false } rfl rfl rfl hin ppk rfl pdw).1.emit _)
  · obtain ⟨htn, h3⟩ := h2
    obtain ⟨_, ppk, pdw⟩ := hok.woken hwo
    obtain ⟨r1, r2, r3⟩ := reset { wk with woken := false } rfl rfl rfl hin ppk rfl pdw
    refine getNextTask_kw h3 r2 ?_ r1
    intro wk' hwk'; rw [r3 wk' hwk']
    cases hwt : wk.task with
    | none => rfl
    | some x => rw [hwt] at htn; cases htn
  · have hds : wk.drainWait.isSome = true := by simp [hdw]
    obtain ⟨_, htn⟩ := hok.dwait hds
    have ppk : wk.parked = false := by
      cases hp : wk.parked with
      | false => rfl
      | true => have := (hok.parked hp).2.2.2.2.1; rw [hdw] at this; cases this
    have pwo : wk.woken = false := by
      cases hp : wk.woken with
      | false => rfl
      | true => have := (hok.woken hp).2.2; rw [hdw] at this; cases this
    obtain ⟨r1, r2, r3⟩ := reset { wk with drainWait := none } rfl rfl rfl hin ppk pwo rfl
    refine getNextTask_kw h2 r2 ?_ r1
    intro wk' hwk'; rw [r3 wk' hwk']; exact htn

end BbRe.Lemmas.SchedLive
