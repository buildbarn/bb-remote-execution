import BbRe.Lemmas.SchedLiveCleanLoop
/-!
Cleanup accounting through the client-facing segments: streams, `WaitExecution`, `Execute`.
-/
namespace BbRe.Lemmas.SchedLive
open BbRe.Sched

/-- `maybeStartCleanup` re-establishes the "waiters or entry" clause of the exempt operation -/
theorem maybeStartCleanup_cinv {s : State} {o : Nat} (hc : CInv { op := some o } s)
    (hno : ¬ hasK s (.op o)) : CInv noEx (maybeStartCleanup s o) := by
  have plain : (∀ op, s.op? o = some op → op.mayExistWithoutWaiters = false → 0 < op.waiters ∨ hasK s (.op o)) →
      CInv noEx s := fun hfg =>
    hc.unexempt (fun _ _ _ h => nomatch h) (fun k op e hb hk => by cases hk; exact hfg op e hb) (fun _ _ _ _ h => nomatch h)
  unfold maybeStartCleanup
  split
  · rename_i op hop
    split
    · rename_i hcond
      have hkk : ∀ k, hasK (s.addCleanup (s.now + s.cfg.noWaiterTimeout) (.op o)) k ↔ k = .op o ∨ hasK s k :=
        fun k => hasK_add _ _ _ _
      have hmb : op.mayExistWithoutWaiters = false := by simpa using hcond.2.1
      refine hc.of_ops (uniq_add hno hc.uniq) ((OpEntriesOnly.of_eq rfl).add _ _) rfl rfl rfl rfl ⟨?_, hc.opBg, ?_, hc.opT⟩
      · intro o' hh
        rcases (hkk _).1 hh with e | h
        · injection e with e; subst e; exact ⟨op, hop, hcond.1, hmb⟩
        · exact hc.eO o' h
      · intro k op' e hb _
        by_cases hk : k = o
        · subst hk; exact .inr ((hkk _).2 (.inl rfl))
        · exact (hc.opFg k op' e hb (by simp; exact hk)).imp_right fun h => (hkk _).2 (.inr h)
    · rename_i hcond
      refine plain ?_
      intro op' e hb
      rw [hop] at e; injection e with e; subst e
      by_cases hw0 : op.waiters = 0
      · refine .inr ?_
        cases hh : s.hasCleanup (.op o) with
        | true => exact (hasCleanup_iff _ _).1 hh
        | false => exact absurd ⟨hw0, by simp [hb], by simp [hh]⟩ hcond
      · exact .inl (Nat.pos_of_ne_zero hw0)
  · rename_i hop
    refine plain ?_
    intro op e; rw [hop] at e; cases e

/-- changing the waiter count of one operation leaves everything but its own "waiters or entry" clause -/
theorem setWaiters_cinv {s s' : State} {o : Nat} {op : Op} {n : Nat} (hk : KeysOK s) (hc : CInv { op := some o } s)
    (hop : s.op? o = some op) (hno : ¬ hasK s' (.op o))
    (h1 : ∀ k, hasK s' k → hasK s k) (h2 : ∀ k, k ≠ .op o → hasK s k → hasK s' k)
    (hu : (s'.cleanup.map (·.kind)).Nodup)
    (hops : s'.ops = aset op.name { op with waiters := n } s.ops)
    (hw : s'.workers = s.workers) (hq : s'.scqs = s.scqs) (ht : s'.tasks = s.tasks) :
    CInv { op := some o } s' := by
  have hname := (hk.oname o op hop).1
  have hopl : ∀ k, s'.op? k = if o = k then some { op with waiters := n } else s.op? k := by
    intro k; simp [State.op?, hops, alookup_aset, hname]
  have htk : ∀ k, s'.task? k = s.task? k := by intro k; simp [State.task?, ht]
  refine hc.of_ops hu (fun k hk => ⟨h1 k, h2 k (hk o)⟩) hw hq rfl rfl ⟨?_, ?_, ?_, ?_⟩
  · intro o' hh
    have hne : ¬ o = o' := by intro e; subst e; exact hno hh
    obtain ⟨op', e, a, b⟩ := hc.eO o' (h1 _ hh)
    exact ⟨op', by rw [hopl]; simp [hne, e], a, b⟩
  · intro k op' e hb
    rw [hopl] at e; rw [htk]
    split at e
    · rename_i hk'; subst hk'; injection e with e; subst e; exact hc.opBg o op hop hb
    · exact hc.opBg k op' e hb
  · intro k op' e hb hx
    rw [hopl] at e
    have hne : ¬ o = k := by intro e'; subst e'; simp at hx
    simp only [hne, if_false] at e
    exact (hc.opFg k op' e hb hx).imp_right (h2 _ (by simp; exact fun e' => hne e'.symm))
  · intro k op' e
    rw [hopl] at e; rw [htk]
    split at e
    · rename_i hk'; subst hk'; injection e with e; subst e; exact hc.opT o op hop
    · exact hc.opT k op' e

/-- `waitExecution` entry: pending cleanup cancelled, waiter counted -/
theorem attachS_cinv {s : State} {o : Nat} {op : Op} (hk : KeysOK s) (hc : CInv { op := some o } s)
    (hop : s.op? o = some op) : CInv noEx (attachS s o op) := by
  have hkk : ∀ k, hasK (attachS s o op) k ↔ k ≠ .op o ∧ hasK s k := fun k => hasK_remove _ _ _
  have hname := (hk.oname o op hop).1
  have h := setWaiters_cinv (s' := attachS s o op) (n := op.waiters + 1) hk hc hop (fun hh => ((hkk _).1 hh).1 rfl)
    (fun k hh => ((hkk k).1 hh).2) (fun k hne hh => (hkk k).2 ⟨hne, hh⟩) (uniq_filter _ hc.uniq) rfl rfl rfl rfl
  refine h.unexempt (fun _ _ _ h => nomatch h) ?_ (fun _ _ _ _ h => nomatch h)
  intro k op' e _ hko
  cases hko
  have : (attachS s o op).op? o = some { op with waiters := op.waiters + 1 } := by
    simp [attachS, State.op?, alookup_aset, hname]
  rw [this] at e; injection e with e; subst e
  exact .inl (Nat.succ_pos _)

/-- a waiter leaves operation `o` of a state `X` that differs from `s` in nothing the accounting reads -/
theorem release_cinv {s X : State} {o : Nat} {op : Op} (hk : KeysOK s) (hc : CInv noEx s)
    (hop : s.op? o = some op) (hw : op.waiters ≠ 0) (hcl : X.cleanup = s.cleanup := by simp)
    (hws : X.workers = s.workers := by simp) (hq : X.scqs = s.scqs := by simp) (hops : X.ops = s.ops := by simp)
    (ht : X.tasks = s.tasks := by simp) :
    CInv noEx (maybeStartCleanup (X.setOp { op with waiters := op.waiters - 1 }) o) := by
  have hnoe : ¬ hasK s (.op o) := by
    intro hh; obtain ⟨op', e, a, _⟩ := hc.eO o hh; rw [hop] at e; injection e with e; subst e; exact hw a
  have hkk : ∀ k, hasK (X.setOp { op with waiters := op.waiters - 1 }) k ↔ hasK s k :=
    hasK_congr (by rw [setOp_cleanup, hcl])
  have hnoe' := mt (hkk _).1 hnoe
  refine maybeStartCleanup_cinv (setWaiters_cinv (n := op.waiters - 1) hk (hc.exempt (some o)) hop hnoe'
    (fun k => (hkk k).1) (fun k _ => (hkk k).2) ?_ ?_ ?_ ?_ ?_) hnoe'
  · rw [setOp_cleanup, hcl]; exact hc.uniq
  · rw [setOp_ops, hops]
  · rw [setOp_workers, hws]
  · rw [setOp_scqs, hq]
  · rw [setOp_tasks, ht]

theorem sendDone_cinv {s : State} {c o : Nat} {op : Op} (t : Task) (r : Resp) (hk : KeysOK s) (hc : CInv noEx s)
    (hop : s.op? o = some op) (hw : op.waiters ≠ 0) : CInv noEx (sendDone s c o op t r) :=
  release_cinv hk hc hop hw

theorem leaveS_cinv {s : State} {c : Nat} {st : Stream} {op : Op} (code : Nat) (hk : KeysOK s) (hc : CInv noEx s)
    (hop : s.op? st.op = some op) (hw : op.waiters ≠ 0) : CInv noEx (leaveS s c st op code) := by
  unfold leaveS; exact (release_cinv (X := dropStream s c) hk hc hop hw).same

theorem streamSend_kwc {s s' : State} {c o : Nat} (hh : streamSend s c o = .ok s') (hi : KWC noEx s) : KWC noEx s' := by
  refine ⟨streamSend_kw hh hi.1, ?_⟩
  obtain ⟨op, t, hop, _, ⟨r, _, hw, rfl⟩ | ⟨_, rfl⟩⟩ := streamSend_ok hh
  · exact sendDone_cinv t r hi.1.1 hi.2 hop hw
  · exact hi.2.same

theorem streamAttach_kwc {s s' : State} {c o : Nat} (hh : streamAttach s c o = .ok s')
    (hi : KW s ∧ CInv { op := some o } s) : KWC noEx s' := by
  obtain ⟨op, hop, h1⟩ := streamAttach_ok hh
  have hkA : KW (attachS s o op) := by
    refine KWStep.of (s := s) (s' := attachS s o op) (allow := True) ?_ (fun _ hw => winv_same hw rfl rfl rfl rfl) hi.1
    intro hk
    have hname := (hk.oname o op hop).1
    exact TStep.of_op (o2 := { op with waiters := op.waiters + 1 }) hop rfl rfl id rfl (by simp [attachS, hname]) rfl rfl hk
  exact streamSend_kwc h1 ⟨hkA, attachS_cinv hi.1.1 hi.2 hop⟩

theorem streamLeave_kwc {s s' : State} {c code : Nat} (hh : streamLeave s c code = .ok s') (hi : KWC noEx s) :
    KWC noEx s' := by
  refine ⟨streamLeave_kw hh hi.1, ?_⟩
  obtain ⟨st, op, _, hop, hw, rfl⟩ := streamLeave_ok hh
  exact leaveS_cinv code hi.1.1 hi.2 hop hw

theorem streamWake_kwc {h : Hints} {s s' : State} {now c reason : Nat}
    (hh : streamWake h s now c reason = .ok s') (hi : KWC noEx s) : KWC noEx s' := by
  obtain ⟨s1, st, h1, _, ⟨_, h3⟩ | ⟨_, _, h3⟩⟩ := streamWake_ok hh
  · exact streamLeave_kwc h3 (enter_kwc hi h1)
  · exact streamSend_kwc h3 (enter_kwc hi h1)

theorem waitArrive_kwc {h : Hints} {s s' : State} {now c name : Nat}
    (hh : waitArrive h s now c name = .ok s') (hi : KWC noEx s) : KWC noEx s' := by
  obtain ⟨s1, h1, ⟨_, rfl⟩ | ⟨op, _, h2⟩⟩ := waitArrive_ok hh
  · exact (enter_kwc hi h1).same
  · have := enter_kwc hi h1
    exact streamAttach_kwc h2 ⟨this.1, this.2.exempt _⟩

/-- a fresh operation (no waiters yet) on an existing task: exempt until the attach that follows -/
theorem addOpS_cinv {s : State} {tid : Nat} {t : Task} (inv : List Nat) (prio : Int) (hk : KeysOK s)
    (hc : CInv noEx s) (h0 : s.task? tid = some t) : CInv { op := some s.nextOp } (addOpS s tid t inv prio) := by
  have hid := (hk.tid tid t h0).1
  have hop : ∀ k, (addOpS s tid t inv prio).op? k = if s.nextOp = k then
      some { name := s.nextOp, task := tid, inv := inv, prio := prio, waiters := 0, mayExistWithoutWaiters := false }
      else s.op? k := by
    intro k; simp [State.op?, alookup_aset]
  have htk : ∀ k, (addOpS s tid t inv prio).task? k = if tid = k then some { t with ops := t.ops ++ [s.nextOp] }
      else s.task? k := by
    intro k; simp [State.task?, alookup_aset, hid]
  have old : ∀ k op, s.op? k = some op → ¬ s.nextOp = k := by
    intro k op e; have := (hk.oname k op e).2.1; omega
  refine hc.of_ops (by simpa using hc.uniq) (.of_eq (by simp)) (by simp) (by simp) rfl rfl ⟨?_, ?_, ?_, ?_⟩
  · intro o hh
    obtain ⟨op, e, a, b⟩ := hc.eO o hh
    exact ⟨op, by rw [hop]; simp [old o op e, e], a, b⟩
  · intro k op e hb
    rw [hop] at e
    split at e
    · injection e with e; subst e; cases hb
    · obtain ⟨t1, e1, e2⟩ := hc.opBg k op e hb
      rw [htk]; split
      · rename_i hkk'; rw [← hkk', h0] at e1; injection e1 with e1; subst e1; exact ⟨_, rfl, e2⟩
      · exact ⟨t1, e1, e2⟩
  · intro k op e hb hx
    rw [hop] at e
    split at e
    · rename_i hkk'; subst hkk'; simp at hx
    · exact hc.opFg k op e hb (by simp [noEx])
  · intro k op e
    rw [hop] at e
    split at e
    · rename_i hkk'; injection e with e; subst e
      exact ⟨{ t with ops := t.ops ++ [s.nextOp] }, by rw [htk]; simp, by simp [hkk']⟩
    · obtain ⟨t1, e1, e2⟩ := hc.opT k op e
      rw [htk]; split
      · rename_i hkk'; rw [← hkk', h0] at e1; injection e1 with e1; subst e1
        exact ⟨_, rfl, List.mem_append_left _ e2⟩
      · exact ⟨t1, e1, e2⟩

/-- a fresh task with its first operation -/
theorem newTaskS_cinv {s : State} (digest dkey : Nat) (dnc : Bool) (q : ScqId) (inv : List Nat) (prio : Int)
    (hk : KeysOK s) (hc : CInv noEx s) : CInv { op := some s.nextOp } (newTaskS s digest dkey dnc q inv prio) := by
  have hop : ∀ k, (newTaskS s digest dkey dnc q inv prio).op? k = if s.nextOp = k then some (newOp s inv prio) else s.op? k := by
    intro k; simp [State.op?, alookup_aset]
  have htk : ∀ k, (newTaskS s digest dkey dnc q inv prio).task? k =
      if s.nextTask = k then some (newTask s digest dkey dnc q) else s.task? k := by
    intro k; simp [State.task?, alookup_aset]
  have hkk : ∀ k, hasK (newTaskS s digest dkey dnc q inv prio) k ↔ hasK s k := hasK_congr (by simp)
  have old : ∀ k op, s.op? k = some op → ¬ s.nextOp = k := by
    intro k op e; have := (hk.oname k op e).2.1; omega
  have oldt : ∀ k t', s.task? k = some t' → (newTaskS s digest dkey dnc q inv prio).task? k = some t' := by
    intro k t' e; rw [htk]
    have := (hk.tid k t' e).2
    have : ¬ s.nextTask = k := by omega
    simp [this, e]
  refine hc.of_ops (by simpa using hc.uniq) (.of_eq (by simp)) (by simp) (by simp) rfl rfl ⟨?_, ?_, ?_, ?_⟩
  · intro o hh
    obtain ⟨op, e, a, b⟩ := hc.eO o ((hkk _).1 hh)
    exact ⟨op, by rw [hop]; simp [old o op e, e], a, b⟩
  · intro k op e hb
    rw [hop] at e
    split at e
    · injection e with e; subst e; cases hb
    · obtain ⟨t1, e1, e2⟩ := hc.opBg k op e hb
      exact ⟨t1, oldt _ _ e1, e2⟩
  · intro k op e hb hx
    rw [hop] at e
    split at e
    · rename_i hkk'; subst hkk'; simp at hx
    · rw [hkk]; exact hc.opFg k op e hb (by simp [noEx])
  · intro k op e
    rw [hop] at e
    split at e
    · rename_i hkk'; injection e with e; subst e
      exact ⟨newTask s digest dkey dnc q, by rw [htk]; simp [newOp], by simp [newTask, hkk']⟩
    · obtain ⟨t1, e1, e2⟩ := hc.opT k op e
      exact ⟨t1, oldt _ _ e1, e2⟩

theorem execArrive_kwc {h : Hints} {s s' : State} {now c digest dkey : Nat} {dnc : Bool}
    {comps : List Nat} {platform : Nat} {inv : List Nat} {prio : Int}
    (hh : execArrive h s now c digest dkey dnc comps platform inv prio = .ok s') (hi : KWC noEx s) : KWC noEx s' := by
  obtain ⟨s1, h1, h2 | h2 | h2⟩ := execArrive_ok hh
  all_goals have hi1 := enter_kwc hi h1
  · obtain ⟨tid, t, _, h0, ⟨o, _, h3⟩ | ⟨_, h3⟩⟩ := h2
    all_goals obtain ⟨hkE, hcE⟩ : KWC noEx (emit s1 .selAbandoned) := hi1.same
    · exact streamAttach_kwc h3 ⟨hkE, hcE.exempt _⟩
    · have hkA : KW (addOpS (emit s1 .selAbandoned) tid t inv prio) := by
        refine KWStep.of (addOpS_tstep True inv prio (s := emit s1 .selAbandoned) h0) (fun hk hw => ?_) hkE
        have hid := (hk.tid tid t h0).1
        exact hw.of_frame (by simp) (WFrame.of_aset_same (t0 := t) (t2 := { t with ops := t.ops ++ [s1.nextOp] }) (k0 := t.id)
          (by rw [hid]; exact h0) rfl rfl (by simp) (by simp) (by simp)) (NoPtr.noX _)
      exact streamAttach_kwc h3 ⟨hkA, addOpS_cinv inv prio hkE.1 hcE h0⟩
  · obtain ⟨_, _, rfl⟩ := h2
    exact hi1.same
  · obtain ⟨_, pq, sc, s3, _, _, h3, h4⟩ := h2
    have hb := newTaskS_winv hi1.1.2 digest dkey dnc ⟨pq.id, sc⟩ inv prio
    have hidN : ∀ tb, (newTaskS s1 digest dkey dnc ⟨pq.id, sc⟩ inv prio).task? s1.nextTask = some tb → tb.id = s1.nextTask := by
      intro tb htb
      simp only [State.task?, newTaskS_tasks, alookup_aset, if_true, Option.some.injEq] at htb
      subst htb; rfl
    have hkw3 : KW s3 := by
      refine ⟨((tstep_new_then_schedule (allow := True) (s := s1) (tn := newTask s1 digest dkey dnc ⟨pq.id, sc⟩)
        (on := newOp s1 inv prio) rfl rfl rfl (by simp) (by simp) (by simp) (by simp) h3) hi1.1.1).1, ?_⟩
      refine schedule_winv h3 hb ?_
      intro tb htb
      have := hidN tb htb
      simp only [State.task?, newTaskS_tasks, alookup_aset, if_true, Option.some.injEq] at htb
      subst htb
      exact ⟨rfl, by simp, rfl⟩
    have hc3 : CInv { op := some s1.nextOp } s3 :=
      (newTaskS_cinv digest dkey dnc ⟨pq.id, sc⟩ inv prio hi1.1.1 hi1.2).frame (schedule_cframe h3 hb hidN)
    exact streamAttach_kwc h4 ⟨hkw3, hc3⟩

end BbRe.Lemmas.SchedLive
