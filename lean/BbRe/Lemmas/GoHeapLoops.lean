import BbRe.Lemmas.GoHeapBasic
/-!
The loops `up` and `down` of `container/heap` restore the heap property from the two
"one position may be wrong" invariants.  Everything is relative to a heap size `n ≤ a.size`
(`Pop`/`Remove` sift inside the first `n = Len()-1` slots).  Each loop is walked once, in a rule
for its invariants (`up_rule`, `down_rule`); what is proved of a loop is an instance: whatever
`Less` is, it only rearranges the first slots of the array (`Shuf`: size, permutation and the
untouched tail at once), and for a strict weak order it moves the one bad position to where it fits.
-/
namespace BbRe.Lemmas.GoHeap
open BbRe.GoHeap

variable {α : Type}

/-- Every pair (parent, child) is in order except possibly the pair *above* `j`; moreover the
children of `j` are not less than `j`'s parent (so that moving `j` up is safe). -/
structure UpInv (R : Nat → Nat → Bool) (n j : Nat) : Prop where
  other : ∀ c, 0 < c → c < n → c ≠ j → R c ((c - 1) / 2) = false
  grand : ∀ c, 0 < c → c < n → (c - 1) / 2 = j → 0 < j → R c ((j - 1) / 2) = false

/-- Every pair (parent, child) is in order except possibly the pairs that involve `i`; moreover
the children of `i` are not less than `i`'s parent. -/
structure DownInv (R : Nat → Nat → Bool) (n i : Nat) : Prop where
  other : ∀ c, 0 < c → c < n → c ≠ i → (c - 1) / 2 ≠ i → R c ((c - 1) / 2) = false
  grand : ∀ c, 0 < c → c < n → (c - 1) / 2 = i → 0 < i → R c ((i - 1) / 2) = false

theorem par_lt {c : Nat} (h : 0 < c) : (c - 1) / 2 < c :=
  Nat.lt_of_le_of_lt (Nat.div_le_self _ _) (Nat.sub_lt h Nat.one_pos)

theorem child_cases {c i : Nat} (h0 : 0 < c) (h : (c - 1) / 2 = i) : c = 2 * i + 1 ∨ c = 2 * i + 1 + 1 := by omega

theorem par_left (i : Nat) : (2 * i + 1 - 1) / 2 = i := by
  rw [Nat.add_sub_cancel, Nat.mul_div_cancel_left _ (by decide : 0 < 2)]

theorem par_right (i : Nat) : (2 * i + 1 + 1 - 1) / 2 = i := by
  rw [Nat.add_sub_cancel, Nat.mul_add_div (by decide : 0 < 2)]
  rfl

theorem no_child {c i n : Nat} (h0 : 0 < c) (h : (c - 1) / 2 = i) (hn : n ≤ 2 * i + 1) : ¬ c < n := by
  rcases child_cases h0 h with rfl | rfl
  · exact Nat.not_lt.mpr hn
  · exact Nat.not_lt.mpr (Nat.le_succ_of_le hn)

theorem UpInv.step {R : Nat → Nat → Bool} {m n i j : Nat} (sw : SWOn R m) (hn : n ≤ m) (hj : j < n)
    (hj0 : 0 < j) (hi : (j - 1) / 2 = i) (inv : UpInv R n j) (hlt : R j i = true) :
    UpInv (fun p q => R (tr i j p) (tr i j q)) n i := by
  have hij : i < j := hi ▸ par_lt hj0
  have him : i < m := Nat.lt_of_lt_of_le (Nat.lt_trans hij hj) hn
  constructor
  · intro c hc0 hcn hci
    show R (tr i j c) (tr i j ((c - 1) / 2)) = false
    by_cases hcj : c = j
    · rw [hcj, hi, tr_right, tr_left]
      exact sw.asymm _ _ hlt
    · rw [tr_other hci hcj]
      have hc := inv.other c hc0 hcn hcj
      by_cases hp1 : (c - 1) / 2 = i
      · -- a sibling of `j`: not less than the parent, which is not less than `j`
        rw [hp1] at hc ⊢
        rw [tr_left]
        exact sw.negTrans c i j him hc (sw.asymm _ _ hlt)
      · by_cases hp2 : (c - 1) / 2 = j
        · rw [hp2, tr_right, ← hi]
          exact inv.grand c hc0 hcn hp2 hj0
        · rw [tr_other hp1 hp2]
          exact hc
  · intro c hc0 hcn hpc hi0
    show R (tr i j c) (tr i j ((i - 1) / 2)) = false
    have hpi : (i - 1) / 2 < i := par_lt hi0
    rw [tr_other (Nat.ne_of_lt hpi) (Nat.ne_of_lt (Nat.lt_trans hpi hij))]
    have hI := inv.other i hi0 (Nat.lt_trans hij hj) (Nat.ne_of_lt hij)
    by_cases hcj : c = j
    · rw [hcj, tr_right]
      exact hI
    · rw [tr_other (Nat.ne_of_gt (hpc ▸ par_lt hc0)) hcj]
      have hc := inv.other c hc0 hcn hcj
      rw [hpc] at hc
      exact sw.negTrans c i _ him hc hI

theorem isHeapN_of_upInv_root {R : Nat → Nat → Bool} {n : Nat} (inv : UpInv R n 0) :
    ∀ c, 0 < c → c < n → R c ((c - 1) / 2) = false :=
  fun c h0 hn => inv.other c h0 hn (Nat.ne_of_gt h0)

theorem isHeapN_of_upInv_ok {R : Nat → Nat → Bool} {n j : Nat} (inv : UpInv R n j)
    (h : R j ((j - 1) / 2) = false) : ∀ c, 0 < c → c < n → R c ((c - 1) / 2) = false := by
  intro c h0 hn
  by_cases hc : c = j
  · subst hc; exact h
  · exact inv.other c h0 hn hc

theorem upAux_succ (less : α → α → Bool) (f : Nat) (a : Array α) (j : Nat) :
    upAux less (f + 1) a j =
      if ((j - 1) / 2 = j || !(lessAt less a j ((j - 1) / 2))) = true then a
      else upAux less f (swp a ((j - 1) / 2) j) ((j - 1) / 2) := rfl

/-- `b` is `a` with its first `n` slots rearranged: what every loop and operation of the heap
does to the array, whatever `Less` is. -/
structure Shuf (n : Nat) (a b : Array α) : Prop where
  size : b.size = a.size
  perm : b.Perm a
  frame : ∀ k, n ≤ k → b[k]? = a[k]?

theorem Shuf.refl (n : Nat) (a : Array α) : Shuf n a a := ⟨rfl, Array.Perm.refl _, fun _ _ => rfl⟩

theorem Shuf.trans {n : Nat} {a b c : Array α} (h1 : Shuf n a b) (h2 : Shuf n b c) : Shuf n a c :=
  ⟨h2.size.trans h1.size, h2.perm.trans h1.perm, fun k hk => (h2.frame k hk).trans (h1.frame k hk)⟩

theorem Shuf.mono {n m : Nat} {a b : Array α} (h : Shuf n a b) (hnm : n ≤ m) : Shuf m a b :=
  ⟨h.size, h.perm, fun k hk => h.frame k (Nat.le_trans hnm hk)⟩

theorem Shuf.swp {n : Nat} (a : Array α) {p q : Nat} (hp : p < n) (hq : q < n) : Shuf n a (swp a p q) :=
  ⟨size_swp a p q, swp_perm a p q, fun _ hk =>
    getElem?_swp_other a (Nat.ne_of_gt (Nat.lt_of_lt_of_le hp hk)) (Nat.ne_of_gt (Nat.lt_of_lt_of_le hq hk))⟩

/-- The loop of `up`: what the swap with the parent keeps (`I`, of array and position) still holds
where the loop stops, which is at the root or at a position not less than its parent. -/
theorem up_rule (less : α → α → Bool) (I : Array α → Nat → Prop) (Q : Array α → Prop)
    (step : ∀ a j, 0 < j → lessAt less a j ((j - 1) / 2) = true → I a j → I (swp a ((j - 1) / 2) j) ((j - 1) / 2))
    (stop : ∀ a j, (0 < j → lessAt less a j ((j - 1) / 2) = false) → I a j → Q a)
    (a : Array α) (j : Nat) (h : I a j) : Q (up less a j) := by
  suffices ∀ fuel a j, j ≤ fuel → I a j → Q (upAux less fuel a j) from this j a j (Nat.le_refl _) h
  intro fuel
  induction fuel with
  | zero => intro a j hf h; exact stop a j (fun h0 => absurd (Nat.le_zero.mp hf) (Nat.ne_of_gt h0)) h
  | succ f ih =>
    intro a j hf h
    rw [upAux_succ]
    split
    · rename_i hbr
      rw [Bool.or_eq_true, decide_eq_true_eq, Bool.not_eq_true'] at hbr
      exact stop a j (fun h0 => hbr.resolve_left (Nat.ne_of_lt (par_lt h0))) h
    · rename_i hbr
      rw [Bool.or_eq_true, decide_eq_true_eq, Bool.not_eq_true', not_or, Bool.not_eq_false] at hbr
      have hj0 : 0 < j := Nat.pos_of_ne_zero fun h => hbr.1 (by rw [h])
      exact ih _ _ (Nat.le_of_lt_succ (Nat.lt_of_lt_of_le (par_lt hj0) hf)) (step a j hj0 hbr.2 h)

/-- `up(h, j)` rearranges the slots `≤ j`. -/
theorem up_shuf (less : α → α → Bool) (a : Array α) (j : Nat) : Shuf (j + 1) a (up less a j) := by
  refine up_rule less (fun b p => p ≤ j ∧ Shuf (j + 1) a b) (Shuf (j + 1) a) ?_ (fun _ _ _ h => h.2) a j
    ⟨Nat.le_refl j, .refl _ a⟩
  rintro b p hp0 _ ⟨hpj, h⟩
  have hij := Nat.le_trans (Nat.le_of_lt (par_lt hp0)) hpj
  exact ⟨hij, h.trans (.swp b (Nat.lt_succ_of_le hij) (Nat.lt_succ_of_le hpj))⟩

theorem up_heap (less : α → α → Bool) (sw : StrictWeak less) (a : Array α) (j n : Nat) (hjn : j < n) (hn : n ≤ a.size)
    (inv : UpInv (lessAt less a) n j) : IsHeapN less (up less a j) n := by
  refine up_rule less (fun b p => p < n ∧ n ≤ b.size ∧ UpInv (lessAt less b) n p) (IsHeapN less · n)
    ?_ ?_ a j ⟨hjn, hn, inv⟩
  · rintro b p hp0 hlt ⟨hpn, hnb, inv⟩
    have hp : p < b.size := Nat.lt_of_lt_of_le hpn hnb
    refine ⟨Nat.lt_trans (par_lt hp0) hpn, size_swp b _ _ ▸ hnb, ?_⟩
    rw [lessAt_swp_fun less b _ _ (Nat.lt_trans (par_lt hp0) hp) hp]
    exact UpInv.step (SWOn.of_strictWeak sw b) hnb hpn hp0 rfl inv hlt
  · rintro b p hstop ⟨_, _, inv⟩
    by_cases hp0 : 0 < p
    · exact isHeapN_of_upInv_ok inv (hstop hp0)
    · rw [Nat.eq_zero_of_not_pos hp0] at inv; exact isHeapN_of_upInv_root inv

/-- What holds when the loop of `down` (started at `i0`) stops at position `i`. -/
structure DownPost (R : Nat → Nat → Bool) (n i0 i : Nat) : Prop where
  inv : DownInv R n i
  kids : ∀ c, 0 < c → c < n → (c - 1) / 2 = i → R c i = false
  above : i ≠ i0 → R i ((i - 1) / 2) = false

theorem DownInv.step {R : Nat → Nat → Bool} {m n i j : Nat} (sw : SWOn R m)
    (hjn : j < n) (hji : (j - 1) / 2 = i) (hj0 : 0 < j) (inv : DownInv R n i)
    (hmin : ∀ c, 0 < c → c < n → (c - 1) / 2 = i → R c j = false) (hlt : R j i = true) :
    DownInv (fun p q => R (tr i j p) (tr i j q)) n j ∧ R (tr i j j) (tr i j i) = false := by
  have hij : i < j := hji ▸ par_lt hj0
  refine ⟨⟨?_, ?_⟩, ?_⟩
  · intro c hc0 hcn hcj hpj
    show R (tr i j c) (tr i j ((c - 1) / 2)) = false
    by_cases hci : c = i
    · have hpi : (i - 1) / 2 < i := par_lt (hci ▸ hc0)
      rw [hci, tr_left, tr_other (Nat.ne_of_lt hpi) (Nat.ne_of_lt (Nat.lt_trans hpi hij))]
      exact inv.grand j hj0 hjn hji (hci ▸ hc0)
    · rw [tr_other hci hcj]
      by_cases hpi : (c - 1) / 2 = i
      · rw [hpi, tr_left]
        exact hmin c hc0 hcn hpi
      · rw [tr_other hpi hpj]
        exact inv.other c hc0 hcn hci hpi
  · intro c hc0 hcn hpc _
    show R (tr i j c) (tr i j ((j - 1) / 2)) = false
    have hjc : j < c := hpc ▸ par_lt hc0
    rw [hji, tr_left, tr_other (Nat.ne_of_gt (Nat.lt_trans hij hjc)) (Nat.ne_of_gt hjc)]
    have := inv.other c hc0 hcn (Nat.ne_of_gt (Nat.lt_trans hij hjc)) (hpc ▸ Nat.ne_of_gt hij)
    rwa [hpc] at this
  · rw [tr_left, tr_right]
    exact sw.asymm _ _ hlt

/-- The child `down` compares with: the right one iff it exists and is `less` than the left one. -/
def smaller (less : α → α → Bool) (a : Array α) (i n : Nat) : Nat :=
  if (2 * i + 1 + 1 < n && lessAt less a (2 * i + 1 + 1) (2 * i + 1)) = true then 2 * i + 1 + 1 else 2 * i + 1

theorem downAux_succ (less : α → α → Bool) (f : Nat) (a : Array α) (i n : Nat) :
    downAux less (f + 1) a i n =
      if 2 * i + 1 ≥ n then (a, i)
      else if (!(lessAt less a (smaller less a i n) i)) = true then (a, i)
      else downAux less f (swp a i (smaller less a i n)) (smaller less a i n) n := rfl

theorem smaller_bounds (less : α → α → Bool) (a : Array α) (i n : Nat) (h : 2 * i + 1 < n) :
    smaller less a i n < n ∧ i < smaller less a i n ∧ (smaller less a i n - 1) / 2 = i := by
  have hi : i < 2 * i + 1 := Nat.lt_succ_of_le (Nat.le_mul_of_pos_left i (by decide))
  unfold smaller
  split
  · rename_i h'
    rw [Bool.and_eq_true, decide_eq_true_eq] at h'
    exact ⟨h'.1, Nat.lt_succ_of_lt hi, par_right i⟩
  · exact ⟨h, hi, par_left i⟩

/-- No child of `i` is less than the one `down` compares with. -/
theorem smaller_min (less : α → α → Bool) (a : Array α) {m : Nat} (sw : SWOn (lessAt less a) m) (i n : Nat) :
    ∀ c, 0 < c → c < n → (c - 1) / 2 = i → lessAt less a c (smaller less a i n) = false := by
  intro c hc0 hcn hpc
  have hc := child_cases hc0 hpc
  unfold smaller
  split
  · rename_i h
    rw [Bool.and_eq_true] at h
    rcases hc with rfl | rfl
    · exact sw.asymm _ _ h.2
    · exact sw.irrefl _
  · rename_i h
    rcases hc with rfl | rfl
    · exact sw.irrefl _
    · rw [Bool.and_eq_true, decide_eq_true_eq, not_and, Bool.not_eq_true] at h
      exact h hcn

/-- The loop of `down(h, i, n)`, likewise: it stops where no child is in range or the smaller
child is not less; the position is part of the result. -/
theorem down_rule (less : α → α → Bool) (n : Nat) (I : Array α → Nat → Prop) (Q : Array α × Nat → Prop)
    (step : ∀ a i, 2 * i + 1 < n → lessAt less a (smaller less a i n) i = true → I a i →
      I (swp a i (smaller less a i n)) (smaller less a i n))
    (stop : ∀ a i, (2 * i + 1 < n → lessAt less a (smaller less a i n) i = false) → I a i → Q (a, i))
    (a : Array α) (i : Nat) (h : I a i) : Q (downAux less (n - i) a i n) := by
  suffices ∀ fuel a i, n - i ≤ fuel → I a i → Q (downAux less fuel a i n) from this _ a i (Nat.le_refl _) h
  intro fuel
  induction fuel with
  | zero =>
    intro a i hf h
    refine stop a i (fun hlt => absurd hlt (Nat.not_lt.mpr ?_)) h
    exact Nat.le_trans (Nat.sub_eq_zero_iff_le.mp (Nat.le_zero.mp hf)) (Nat.le_succ_of_le (Nat.le_mul_of_pos_left i (by decide)))
  | succ f ih =>
    intro a i hf h
    rw [downAux_succ]
    split
    · rename_i hj1; exact stop a i (fun hlt => absurd hj1 (Nat.not_le.mpr hlt)) h
    · rename_i hj1
      split
      · rename_i hbr; exact stop a i (fun _ => Bool.not_eq_true' _ ▸ hbr) h
      · rename_i hbr
        rw [Bool.not_eq_true', Bool.not_eq_false] at hbr
        have hb := smaller_bounds less a i n (Nat.lt_of_not_ge hj1)
        exact ih _ _ (Nat.le_of_lt_succ (Nat.lt_of_lt_of_le (Nat.sub_lt_sub_left (Nat.lt_trans hb.2.1 hb.1) hb.2.1) hf))
          (step a i (Nat.lt_of_not_ge hj1) hbr h)

/-- `down(h, i, n)` rearranges the first `n` slots. -/
theorem down_shuf (less : α → α → Bool) (a : Array α) (i n : Nat) : Shuf n a (down less a i n).1 := by
  refine down_rule less n (fun b _ => Shuf n a b) (fun r => Shuf n a r.1) ?_ (fun _ _ _ h => h) a i (.refl n a)
  intro b p hp _ h
  obtain ⟨hsn, hps, _⟩ := smaller_bounds less b p n hp
  exact h.trans (.swp b (Nat.lt_trans hps hsn) hsn)

theorem isHeapN_of_downPost_moved {R : Nat → Nat → Bool} {n i0 i : Nat} (p : DownPost R n i0 i) (h : i ≠ i0) :
    ∀ c, 0 < c → c < n → R c ((c - 1) / 2) = false := by
  intro c h0 hn
  by_cases hc : c = i
  · subst hc; exact p.above h
  · by_cases hp : (c - 1) / 2 = i
    · rw [hp]; exact p.kids c h0 hn hp
    · exact p.inv.other c h0 hn hc hp

theorem upInv_of_downPost {R : Nat → Nat → Bool} {n i0 i : Nat} (p : DownPost R n i0 i) : UpInv R n i := by
  constructor
  · intro c h0 hn hc
    by_cases hp : (c - 1) / 2 = i
    · rw [hp]; exact p.kids c h0 hn hp
    · exact p.inv.other c h0 hn hc hp
  · exact p.inv.grand

/-- `down(h, i, n)` from "only the pairs that involve `i` may be out of order": either it moves
that position down to where all pairs are in order and says so, or it stays at `i`, where then only
the pair above may be out of order (which `up` repairs). -/
theorem down_spec (less : α → α → Bool) (sw : StrictWeak less) (a : Array α) (i n : Nat) (hn : n ≤ a.size)
    (inv : DownInv (lessAt less a) n i) :
    ((down less a i n).2 = true → IsHeapN less (down less a i n).1 n) ∧
      ((down less a i n).2 = false → UpInv (lessAt less (down less a i n).1) n i) := by
  refine down_rule less n
    (fun b p => n ≤ b.size ∧ i ≤ p ∧ DownInv (lessAt less b) n p ∧ (p ≠ i → lessAt less b p ((p - 1) / 2) = false))
    (fun r => (decide (r.2 > i) = true → IsHeapN less r.1 n) ∧ (decide (r.2 > i) = false → UpInv (lessAt less r.1) n i))
    ?_ ?_ a i ⟨hn, Nat.le_refl i, inv, fun h => absurd rfl h⟩
  · rintro b p hp hlt ⟨hnb, hip, inv, _⟩
    have swn := SWOn.of_strictWeak sw b
    obtain ⟨hjn, hpj, hjp⟩ := smaller_bounds less b p n hp
    have hjb : smaller less b p n < b.size := Nat.lt_of_lt_of_le hjn hnb
    have hpb : p < b.size := Nat.lt_trans hpj hjb
    have key := DownInv.step swn hjn hjp (Nat.zero_lt_of_lt hpj) inv (smaller_min less b swn p n) hlt
    refine ⟨size_swp b _ _ ▸ hnb, Nat.le_trans hip (Nat.le_of_lt hpj), ?_, fun _ => ?_⟩
    · rw [lessAt_swp_fun less b _ _ hpb hjb]; exact key.1
    · rw [lessAt_swp less b _ _ _ _ hpb hjb, hjp]; exact key.2
  · rintro b p hstop ⟨hnb, hip, inv, habove⟩
    have post : DownPost (lessAt less b) n i p := by
      refine ⟨inv, fun c hc0 hcn hpc => ?_, habove⟩
      -- a child in range is not less than the smaller child, which is not less than `p`
      have hp : 2 * p + 1 < n := Nat.lt_of_not_ge fun hle => no_child hc0 hpc hle hcn
      have swn := SWOn.of_strictWeak sw b
      exact swn.negTrans c _ p (Nat.lt_of_lt_of_le (smaller_bounds less b p n hp).1 hnb)
        (smaller_min less b swn p n c hc0 hcn hpc) (hstop hp)
    refine ⟨fun h => isHeapN_of_downPost_moved post (Nat.ne_of_gt (of_decide_eq_true h)), fun h => ?_⟩
    have hpi : p = i := Nat.le_antisymm (Nat.le_of_not_lt (of_decide_eq_false h)) hip
    exact upInv_of_downPost (hpi ▸ post)

end BbRe.Lemmas.GoHeap
