import BbRe.Lemmas.DirFail
import BbRe.Spec.Posix
/-!
`refines_posix`: the store of `Model/Dir.lean` simulates the reference hierarchy
`Spec/Posix.lean`.  `abs` forgets the order of the entries, the cookies, the
change counters and the ghost link counts.
-/
namespace BbRe.Lemmas.Dir
open BbRe.Dir
open BbRe.Spec.Posix (SDir FS)

def absDir (x : Dir) : SDir :=
  { pending := x.lazy, entries := fun n => (x.find? n).map (fun e => (e.name, e.child)),
    removed := x.deleted, fs := x.fs }

def abs (s : Store) : FS :=
  { dirs := s.dirs.map absDir, kinds := s.leaves.map (fun l => l.kind), tmpls := s.tmpls,
    fetchFail := s.fetchFail, allocFail := s.allocFail }

theorem absDir_default : absDir default = default := rfl

theorem abs_dir (s : Store) (d : Nat) : (abs s).dir d = absDir (s.dir d) := by
  unfold FS.dir Store.dir abs
  simp only [List.getElem?_map]
  cases s.dirs[d]? <;> rfl

theorem abs_dirs_length (s : Store) : (abs s).dirs.length = s.dirs.length := by simp [abs]

theorem abs_kinds_length (s : Store) : (abs s).kinds.length = s.leaves.length := by simp [abs]

theorem abs_kind (s : Store) (l : Nat) : (abs s).kind l = (s.leaf l).kind := by
  unfold FS.kind Store.leaf abs
  simp only [List.getElem?_map]
  cases s.leaves[l]? <;> rfl

theorem abs_tmpl (s : Store) (t : Nat) : (abs s).tmpl t = s.tmpl t := rfl

theorem abs_fetchFail (s : Store) : (abs s).fetchFail = s.fetchFail := rfl

theorem abs_allocFail (s : Store) : (abs s).allocFail = s.allocFail := rfl

theorem absDir_removed (x : Dir) : (absDir x).removed = x.deleted := rfl

theorem absDir_fs (x : Dir) : (absDir x).fs = x.fs := rfl

theorem abs_modDir (s : Store) (d : Nat) (f : Dir → Dir) (g : SDir → SDir)
    (h : absDir (f (s.dir d)) = g (absDir (s.dir d))) : abs (s.modDir d f) = (abs s).modDir d g := by
  unfold FS.modDir
  rw [abs_dir, ← h]
  simp [abs, Store.modDir, Store.setDir, List.map_set]

theorem abs_setDir (s : Store) (d : Nat) (x : Dir) (g : SDir → SDir)
    (h : absDir x = g (absDir (s.dir d))) : abs (s.setDir d x) = (abs s).modDir d g := by
  unfold FS.modDir
  rw [abs_dir, ← h]
  simp [abs, Store.setDir, List.map_set]

theorem abs_pushDir (s : Store) (x : Dir) : abs (s.pushDir x) = (abs s).pushDir (absDir x) := by
  simp [abs, Store.pushDir, FS.pushDir]

theorem abs_pushLeaf (s : Store) (x : Leaf) : abs (s.pushLeaf x) = (abs s).pushLeaf x.kind := by
  simp [abs, Store.pushLeaf, FS.pushLeaf]

theorem kinds_setLeaf (s : Store) (l : Nat) (x : Leaf) (h : x.kind = (s.leaf l).kind) :
    (s.setLeaf l x).leaves.map (fun l => l.kind) = s.leaves.map (fun l => l.kind) := by
  simp only [leaves_setLeaf, List.map_set]
  apply List.ext_getElem?
  intro i
  rw [List.getElem?_set]
  by_cases hi : l = i
  · subst hi
    by_cases hl : l < (s.leaves.map (fun l => l.kind)).length
    · simp only [hl, if_true]
      have hl' : l < s.leaves.length := by simpa using hl
      simp [List.getElem?_map, List.getElem?_eq_getElem hl', h, Store.leaf]
    · simp only [hl, if_false]
      have : (s.leaves.map (fun l => l.kind)).length ≤ l := by omega
      simp [List.getElem?_eq_none_iff.mpr this]
  · simp [hi]

theorem abs_link (s : Store) (l : Nat) : abs (s.link l) = abs s := by
  have h := kinds_setLeaf s l { s.leaf l with links := (s.leaf l).links + 1 } rfl
  unfold abs Store.link
  simp only [dirs_setLeaf, tmpls_setLeaf, fetchFail_setLeaf, allocFail_setLeaf]
  rw [h]

theorem abs_unlink (s : Store) (l : Nat) : abs (s.unlink l) = abs s := by
  have h := kinds_setLeaf s l { s.leaf l with links := (s.leaf l).links - 1 } rfl
  unfold abs Store.unlink
  simp only [dirs_setLeaf, tmpls_setLeaf, fetchFail_setLeaf, allocFail_setLeaf]
  rw [h]

theorem absDir_attach (x : Dir) (name nn : Nat) (c : Child) (h : x.find? nn = none) :
    absDir (x.attach name nn c) = (absDir x).put nn name c := by
  unfold absDir SDir.put
  simp only [attach_lazy, attach_deleted, attach_fs]
  congr 1
  funext n
  unfold Dir.find? at h ⊢
  simp only [attach_entries, List.find?_append]
  by_cases hn : n = nn
  · subst hn
    simp [h]
  · have hn' : ¬ (nn = n) := fun e => hn e.symm
    simp [hn, hn']

theorem absDir_detach (x : Dir) (nn : Nat) : absDir (x.detach nn) = (absDir x).del nn := by
  unfold absDir SDir.del
  simp only [detach_lazy, detach_deleted, detach_fs]
  congr 1
  funext n
  by_cases hn : n = nn
  · subst hn; simp [find?_detach_self]
  · have hn' : nn ≠ n := fun e => hn e.symm
    simp [hn, find?_detach_ne x nn n hn']

theorem absDir_unlazy (x : Dir) : absDir { x with lazy := none } = { absDir x with pending := none } := rfl

theorem absDir_fresh (t : Option Nat) (fs : Nat) : absDir ({ lazy := t, fs := fs } : Dir) = BbRe.Spec.Posix.fresh t fs := rfl

theorem absDir_entries (x : Dir) (n : Nat) : (absDir x).entries n = (x.find? n).map (fun e => (e.name, e.child)) := rfl

theorem mayAttach_abs (x : Dir) (nn : Nat) : x.mayAttach nn = BbRe.Spec.Posix.creatable (absDir x) nn := by
  cases hd : x.deleted with
  | true => simp [Dir.mayAttach, BbRe.Spec.Posix.creatable, absDir, hd]
  | false => cases hf : x.find? nn <;> simp [Dir.mayAttach, BbRe.Spec.Posix.creatable, absDir, hd, hf]

theorem abs_attach (s : Store) (d name nn : Nat) (c : Child) (h : (s.dir d).find? nn = none) :
    abs (s.modDir d (fun x => x.attach name nn c)) = (abs s).modDir d (fun x => x.put nn name c) :=
  abs_modDir s d _ _ (absDir_attach _ _ _ _ h)

theorem abs_detach (s : Store) (d nn : Nat) :
    abs (s.modDir d (fun x => x.detach nn)) = (abs s).modDir d (fun x => x.del nn) :=
  abs_modDir s d _ _ (absDir_detach _ _)

theorem abs_attachInitial (P : Params) (d : Nat) :
    ∀ (cs : List (Nat × TChild)) (s : Store), d < s.dirs.length →
      BbRe.Spec.Posix.populate P.normalize d cs (abs s) = (attachInitial P d cs s).map abs
  | [], s, _ => by simp [BbRe.Spec.Posix.populate, attachInitial]
  | (name, tc) :: rest, s, hd => by
    unfold BbRe.Spec.Posix.populate attachInitial
    simp only []
    have hc : ((abs s).dir d).removed = (s.dir d).deleted := by rw [abs_dir]; rfl
    have he : (((abs s).dir d).entries (P.normalize name)).isSome = ((s.dir d).find? (P.normalize name)).isSome := by
      rw [abs_dir, absDir_entries]; cases (s.dir d).find? (P.normalize name) <;> rfl
    have hm : ((s.dir d).mayAttach (P.normalize name)).isSome =
        ((s.dir d).deleted || ((s.dir d).find? (P.normalize name)).isSome) := by
      unfold Dir.mayAttach
      cases (s.dir d).deleted <;> cases (s.dir d).find? (P.normalize name) <;> simp
    rw [hc, he, hm]
    by_cases hcond : ((s.dir d).deleted || ((s.dir d).find? (P.normalize name)).isSome) = true
    · simp [hcond]
    · have hb : ((s.dir d).deleted || ((s.dir d).find? (P.normalize name)).isSome) = false := by
        simpa using hcond
      simp only [hb, Bool.false_eq_true, if_false]
      have hfn : (s.dir d).find? (P.normalize name) = none := by
        cases hx : (s.dir d).find? (P.normalize name) <;> simp_all
      cases tc with
      | leaf l =>
        simp only []
        rw [← abs_attachInitial P d rest _ (by simpa using hd)]
        congr 1
        rw [abs_link]
        exact (abs_attach s d _ _ _ hfn).symm
      | dir t =>
        simp only []
        rw [← abs_attachInitial P d rest _ (by simp; omega)]
        congr 1
        have hfs : ((abs s).dir d).fs = (s.dir d).fs := by rw [abs_dir]; rfl
        rw [hfs, abs_dirs_length]
        have hdir : (s.pushDir { lazy := some t, fs := (s.dir d).fs }).dir d = s.dir d := dir_pushDir_lt s _ d hd
        rw [abs_attach _ d _ _ _ (by rw [hdir]; exact hfn), abs_pushDir, absDir_fresh]

theorem abs_materialize (P : Params) (s : Store) (d : Nat) :
    BbRe.Spec.Posix.expand P.normalize (abs s) d = (materialize P s d).map abs := by
  unfold BbRe.Spec.Posix.expand materialize
  rw [abs_dir]
  simp only [absDir]
  cases hl : (s.dir d).lazy with
  | none => rfl
  | some t =>
    simp only []
    rw [abs_fetchFail]
    by_cases hc : (t != 0 && s.fetchFail) = true
    · simp [hc]; rfl
    · simp only [hc]
      rw [abs_tmpl]
      have hm : (abs s).modDir d (fun x => { x with pending := none }) = abs (s.modDir d (fun x => { x with lazy := none })) :=
        (abs_modDir s d _ _ (absDir_unlazy _)).symm
      rw [hm, abs_attachInitial P d _ _ (by simpa using lt_of_lazy hl)]
      cases attachInitial P d (sortChildren (s.tmpl t)) (s.modDir d (fun x => { x with lazy := none })) <;> rfl

/-- Every call first materialises its directory and the reference hierarchy expands it; what is left
to show is the simulation from the materialised store on. -/
theorem refines_bind {P : Params} {s : Store} {d : Nat}
    {K : FS → BbRe.Spec.Posix.Res} {k : Store → Store × Out}
    (h : ∀ s1, materialize P s d = .ok s1 → K (abs s1) = (abs (k s1).1, (k s1).2.status, (k s1).2.child)) :
    (match BbRe.Spec.Posix.expand P.normalize (abs s) d with
      | .error e => (abs s, e, none)
      | .ok f1 => K f1) =
      (abs (match materialize P s d with | .error e => (s, Out.fail e) | .ok s1 => k s1).1,
       (match materialize P s d with | .error e => (s, Out.fail e) | .ok s1 => k s1).2.status,
       (match materialize P s d with | .error e => (s, Out.fail e) | .ok s1 => k s1).2.child) := by
  rw [abs_materialize P s d]
  cases hm : materialize P s d with
  | error e => rfl
  | ok s1 => exact h s1 hm

theorem materialize_len {P : Params} {s s1 : Store} {d : Nat} (h : materialize P s d = .ok s1) :
    s.dirs.length ≤ s1.dirs.length := (materialize_onlyMat h).1

theorem abs_unlinkLeaves (s : Store) (es : List Entry) : abs (unlinkLeaves s es) = abs s :=
  unlinkLeaves_keeps (Φ := fun t => abs t = abs s) (fun t l h => (abs_unlink t l).trans h) es s rfl

theorem emptied_true : BbRe.Spec.Posix.emptied true = BbRe.Spec.Posix.tombstone :=
  funext fun x => by simp [BbRe.Spec.Posix.emptied, BbRe.Spec.Posix.tombstone]

theorem abs_clearDir (s : Store) (c : Nat) (del : Bool) :
    abs (clearDir s c del) = (abs s).modDir c (BbRe.Spec.Posix.emptied del) := by
  rw [clearDir_eq]
  have hd : (unlinkLeaves s (s.dir c).entries).dir c = s.dir c := dir_eq_of_dirs (unlinkLeaves_dirs s _) c
  rw [abs_setDir _ c _ (BbRe.Spec.Posix.emptied del) (by rw [hd]; rfl), abs_unlinkLeaves]

theorem mkdir_refines (P : Params) (s : Store) (d name : Nat) (hd : d < s.dirs.length) :
    BbRe.Spec.Posix.mkdir P.normalize (abs s) d name =
      (abs (vmkdir P s d name).1, (vmkdir P s d name).2.status, (vmkdir P s d name).2.child) := by
  unfold BbRe.Spec.Posix.mkdir vmkdir
  refine refines_bind fun s1 hm => ?_
  have hd1 : d < s1.dirs.length := by have := materialize_len hm; omega
  dsimp only
  rw [abs_dir, ← mayAttach_abs]
  cases hma : (s1.dir d).mayAttach (P.normalize name) with
  | some e => rfl
  | none =>
    simp only []
    have hdir : (s1.pushDir (newDirOf (s1.dir d))).dir d = s1.dir d := dir_pushDir_lt s1 _ d hd1
    rw [abs_attach _ d _ _ _ (by rw [hdir]; exact (mayAttach_none hma).2), abs_pushDir, abs_dirs_length]
    rfl

theorem mknod_refines (P : Params) (s : Store) (d name kind : Nat) :
    BbRe.Spec.Posix.mknod P.normalize (abs s) d name kind =
      (abs (vmknod P s d name kind).1, (vmknod P s d name kind).2.status, (vmknod P s d name kind).2.child) := by
  unfold BbRe.Spec.Posix.mknod vmknod
  refine refines_bind fun s1 hm => ?_
  dsimp only
  rw [abs_dir, ← mayAttach_abs]
  cases hma : (s1.dir d).mayAttach (P.normalize name) with
  | some e => rfl
  | none =>
    simp only []
    by_cases hk : kind = 1 ∨ kind = 2 ∨ kind = 3
    · rw [if_pos hk, if_pos hk]
      rw [abs_allocFail]
      by_cases ha : kind = 3 ∧ s1.allocFail = true
      · rw [if_pos ha, if_pos ha]; rfl
      · rw [if_neg ha, if_neg ha]
        simp only []
        rw [abs_attach (s1.pushLeaf _) d _ _ _ (mayAttach_none hma).2, abs_pushLeaf, abs_kinds_length]
    · rw [if_neg hk, if_neg hk]; rfl

theorem lookup_refines (P : Params) (s : Store) (d name : Nat) :
    BbRe.Spec.Posix.lookup P.normalize (abs s) d name =
      (abs (vlookup P s d name).1, (vlookup P s d name).2.status, (vlookup P s d name).2.child) := by
  unfold BbRe.Spec.Posix.lookup vlookup
  refine refines_bind fun s1 hm => ?_
  rw [abs_dir, absDir_entries]
  cases hf : (s1.dir d).find? (P.normalize name) with
  | some e => rfl
  | none => rfl

theorem openc_refines (P : Params) (s : Store) (d name : Nat) (c e : Bool) :
    BbRe.Spec.Posix.openc P.normalize (abs s) d name c e =
      (abs (vopen P s d name c e).1, (vopen P s d name c e).2.status, (vopen P s d name c e).2.child) := by
  unfold BbRe.Spec.Posix.openc vopen
  refine refines_bind fun s1 hm => ?_
  dsimp only
  rw [abs_dir, absDir_entries]
  cases hf : (s1.dir d).find? (P.normalize name) with
  | some en =>
    simp only [Option.map]
    cases e with
    | false => simp [Out.fail]
    | true =>
      simp only [Bool.not_true, Bool.false_eq_true, if_false]
      cases hc : en.child with
      | dir c' => simp [Out.fail]
      | leaf l =>
        simp only []
        rw [abs_kind]
  | none =>
    simp only [Option.map]
    rw [absDir_removed]
    by_cases hdc : ((s1.dir d).deleted || !c) = true
    · rw [if_pos hdc, if_pos hdc]; simp [Out.fail]
    · rw [if_neg hdc, if_neg hdc]
      rw [abs_allocFail]
      by_cases ha : s1.allocFail = true
      · rw [if_pos ha, if_pos ha]; simp [Out.fail]
      · rw [if_neg ha, if_neg ha]
        simp only []
        rw [abs_attach (s1.pushLeaf _) d _ _ _ hf, abs_pushLeaf, abs_kinds_length]

theorem find?_of_mem_nodup {x : Dir} (hnd : x.entries.Pairwise (fun a b => a.norm ≠ b.norm)) {e : Entry} (he : e ∈ x.entries) :
    x.find? e.norm = some e := by
  unfold Dir.find?
  generalize x.entries = es at hnd he
  induction es with
  | nil => cases he
  | cons a rest ih =>
    have hp := List.pairwise_cons.mp hnd
    rcases List.mem_cons.mp he with h | h
    · subst h; simp
    · have hne : a.norm ≠ e.norm := hp.1 e h
      simp [hne, ih hp.2 h]

/-- Under the invariant a normalised name is stored once, so the abstract directory (a function of
normalised names) and the entry list have the same graph. -/
theorem absDir_entries_iff {P : Params} {x : Dir} (hx : DirOK P x) {n name : Nat} {c : Child} :
    (absDir x).entries n = some (name, c) ↔ ∃ e ∈ x.entries, e.norm = n ∧ e.name = name ∧ e.child = c := by
  rw [absDir_entries]
  constructor
  · intro h
    obtain ⟨e, hf, he⟩ := Option.map_eq_some_iff.mp h
    cases he
    exact ⟨e, (find?_some hf).1, (find?_some hf).2, rfl, rfl⟩
  · rintro ⟨e, he, rfl, rfl, rfl⟩
    rw [find?_of_mem_nodup hx.nodup he]; rfl

theorem abs_entries_iff {P : Params} {s : Store} (h : Inv P s) {d n name : Nat} {c : Child} :
    ((abs s).dir d).entries n = some (name, c) ↔ ∃ e ∈ (s.dir d).entries, e.norm = n ∧ e.name = name ∧ e.child = c := by
  rw [abs_dir]; exact absDir_entries_iff (h.dirOK d)

theorem linked_iff {P : Params} {s : Store} (h : Inv P s) (l : Nat) :
    BbRe.Spec.Posix.linked (abs s) l ↔ (s.leaf l).links ≠ 0 := by
  have hl := h.links l
  rw [List.append_nil] at hl
  rw [hl, ← Nat.pos_iff_ne_zero, List.count_pos_iff, mem_refs]
  simp only [BbRe.Spec.Posix.linked, abs_entries_iff h, abs_dirs_length]
  constructor
  · rintro ⟨d, _, _, hd, e, he, _, _, hc⟩
    exact ⟨s.dir d, dir_mem s d hd, e, he, hc⟩
  · rintro ⟨x, hx, e, he, hc⟩
    obtain ⟨d, hd, rfl⟩ := List.getElem_of_mem hx
    have hdir : s.dir d = s.dirs[d] := by unfold Store.dir; simp [List.getElem?_eq_getElem hd]
    exact ⟨d, e.norm, e.name, hd, e, hdir ▸ he, rfl, rfl, hc⟩

theorem link_refines (P : Params) (s : Store) (d name l : Nat) (h : Inv P s) :
    BbRe.Spec.Posix.link P.normalize (abs s) d name l =
      (abs (vlink P s d name l).1, (vlink P s d name l).2.status, (vlink P s d name l).2.child) := by
  unfold BbRe.Spec.Posix.link vlink
  refine refines_bind fun s1 hm => ?_
  have r := materialize_ok h hm
  dsimp only
  rw [abs_dir, ← mayAttach_abs]
  cases hma : (s1.dir d).mayAttach (P.normalize name) with
  | some e => rfl
  | none =>
    simp only []
    have hlk := linked_iff r.inv l
    by_cases h0 : (s1.leaf l).links = 0
    · have : ¬ BbRe.Spec.Posix.linked (abs s1) l := fun hh => (hlk.mp hh) h0
      rw [if_neg this, if_pos h0]; rfl
    · have : BbRe.Spec.Posix.linked (abs s1) l := hlk.mpr h0
      rw [if_pos this, if_neg h0]
      simp only []
      rw [abs_attach (s1.link l) d _ _ _ (mayAttach_none hma).2, abs_link]

theorem onlyHidden_iff {P : Params} {x : Dir} (h : DirOK P x) :
    BbRe.Spec.Posix.onlyHidden P.hidden (absDir x) ↔ isDeletable P x = true := by
  simp only [BbRe.Spec.Posix.onlyHidden, isDeletable, List.all_eq_true, absDir_entries_iff h, Bool.and_eq_true,
    Bool.not_eq_true']
  exact ⟨fun ho e he => ho e.norm e.name e.child ⟨e, he, rfl, rfl, rfl⟩,
    fun hd _ _ _ ⟨e, he, _, hn, hc⟩ => hn ▸ hc ▸ hd e he⟩

theorem vremove_refines (P : Params) (s : Store) (d name : Nat) (a b : Bool) (h : Inv P s) :
    BbRe.Spec.Posix.remove P.normalize P.hidden (abs s) d name a b =
      (abs (vremove P s d name a b).1, (vremove P s d name a b).2.status, (vremove P s d name a b).2.child) := by
  unfold BbRe.Spec.Posix.remove vremove
  refine refines_bind fun s1 hm => ?_
  have r := materialize_ok h hm
  dsimp only
  rw [abs_dir, absDir_entries]
  cases hf : (s1.dir d).find? (P.normalize name) with
  | none => rfl
  | some e =>
    simp only [Option.map]
    cases hc : e.child with
    | dir c =>
      simp only []
      cases a with
      | false => rfl
      | true =>
        simp only [Bool.not_true, Bool.false_eq_true, if_false]
        refine refines_bind fun s2 hm2 => ?_
        have r2 := materialize_ok r.inv hm2
        rw [abs_dir]
        have hoh := onlyHidden_iff (r2.inv.dirOK c)
        by_cases hdl : isDeletable P (s2.dir c) = true
        · have h1 : BbRe.Spec.Posix.onlyHidden P.hidden (absDir (s2.dir c)) := hoh.mpr hdl
          have h2 : ¬ ((!isDeletable P (s2.dir c)) = true) := by simp [hdl]
          rw [if_pos h1, if_neg h2]
          simp only []
          rw [abs_detach, abs_clearDir, emptied_true]
        · have h1 : ¬ BbRe.Spec.Posix.onlyHidden P.hidden (absDir (s2.dir c)) := fun hh => hdl (hoh.mp hh)
          have h2 : (!isDeletable P (s2.dir c)) = true := by simp [hdl]
          rw [if_neg h1, if_pos h2]; rfl
    | leaf l =>
      simp only []
      cases b with
      | false => rfl
      | true =>
        simp only [Bool.not_true, Bool.false_eq_true, if_false]
        rw [abs_detach, abs_unlink]

theorem SDir.put_del (x : SDir) (n name : Nat) (c : Child) : (x.del n).put n name c = x.put n name c := by
  unfold SDir.put SDir.del
  congr 1
  funext m
  by_cases h : m = n <;> simp [h]

theorem FS.modDir_modDir (f : FS) (d : Nat) (g1 g2 : SDir → SDir) :
    (f.modDir d g1).modDir d g2 = f.modDir d (fun x => g2 (g1 x)) := by
  unfold FS.modDir FS.dir
  by_cases h : d < f.dirs.length
  · simp [h, List.set_set]
  · have h' : f.dirs.length ≤ d := by omega
    simp [List.set_eq_of_length_le h', List.getElem?_eq_none_iff.mpr h']

theorem dir_clearDir_self (s : Store) (c : Nat) (del : Bool) (h : c < s.dirs.length) :
    (clearDir s c del).dir c = clearedDir (s.dir c) del := by
  rw [clearDir_eq, dir_setDir_self _ c _ (by rw [unlinkLeaves_dirs]; exact h)]

/-- After detaching `nNew` from `dNew` (and possibly clearing some directory), the name is free. -/
theorem find_free_after (s5 : Store) (dNew nNew nd : Nat) (hN : dNew < s5.dirs.length)
    (hf : (s5.dir dNew).find? nNew = none) : ((clearDir s5 nd true).dir dNew).find? nNew = none := by
  by_cases hx : nd = dNew
  · subst hx; rw [dir_clearDir_self s5 nd true hN]; rfl
  · rw [clearDir_dir_ne s5 nd dNew true hx]; exact hf

theorem rename_refines (P : Params) (s : Store) (dOld oldName dNew newName : Nat) (h : Inv P s)
    (hd2 : dNew < s.dirs.length) :
    BbRe.Spec.Posix.rename P.normalize P.hidden (abs s) dOld oldName dNew newName =
      (abs (vrename P s dOld oldName dNew newName).1, (vrename P s dOld oldName dNew newName).2.status,
        (vrename P s dOld oldName dNew newName).2.child) := by
  unfold BbRe.Spec.Posix.rename vrename
  refine refines_bind fun s1 hm1 => ?_
  have r1 := materialize_ok h hm1
  refine refines_bind fun s2 hm2 => ?_
  have r2 := materialize_ok r1.inv hm2
  have hN : dNew < s2.dirs.length := r2.hd (r1.hd hd2)
  dsimp only
  rw [abs_dir, abs_dir, absDir_entries, absDir_entries]
  rw [absDir_fs, absDir_fs, absDir_removed]
  -- the state after the first detach
  have hdetO : abs (s2.modDir dOld (fun x => x.detach (P.normalize oldName))) =
      (abs s2).modDir dOld (fun x => x.del (P.normalize oldName)) := abs_detach _ _ _
  cases hfN : (s2.dir dNew).find? (P.normalize newName) with
  | none =>
    simp only [Option.map]
    by_cases hdel : (s2.dir dNew).deleted = true
    · rw [if_pos hdel, if_pos hdel]; rfl
    · rw [if_neg hdel, if_neg hdel]
      cases hfO : (s2.dir dOld).find? (P.normalize oldName) with
      | none => rfl
      | some oldE =>
        simp only []
        by_cases hx : oldE.child.isDir = true ∧ (s2.dir dOld).fs ≠ (s2.dir dNew).fs
        · rw [if_pos hx, if_pos hx]; rfl
        · rw [if_neg hx, if_neg hx]
          simp only [renameOut]
          congr 1
          unfold BbRe.Spec.Posix.move
          rw [FS.modDir_modDir]
          simp only [SDir.put_del]
          rw [← hdetO]
          exact (abs_attach _ dNew _ _ _
            (dir_modDir_keeps (φ := (·.find? _ = none)) (fun _ => find?_detach_none) hfN)).symm
  | some newE =>
    simp only [Option.map]
    cases hfO : (s2.dir dOld).find? (P.normalize oldName) with
    | none => rfl
    | some oldE =>
      simp only []
      have hN4 : dNew < (s2.modDir dOld (fun x => x.detach (P.normalize oldName))).dirs.length := by simpa using hN
      cases hcN : newE.child with
      | dir nd =>
        cases hcO : oldE.child with
        | leaf ol => rfl
        | dir od =>
          simp only []
          by_cases hsame : nd = od
          · rw [if_pos hsame, if_pos hsame]; rfl
          · rw [if_neg hsame, if_neg hsame]
            by_cases hfs : (s2.dir dOld).fs ≠ (s2.dir dNew).fs
            · rw [if_pos hfs, if_pos hfs]; rfl
            · rw [if_neg hfs, if_neg hfs]
              refine refines_bind fun s3 hm3 => ?_
              have r3 := materialize_ok r2.inv hm3
              rw [abs_dir]
              have hoh := onlyHidden_iff (r3.inv.dirOK nd)
              by_cases hdl : isDeletable P (s3.dir nd) = true
              · have h1 : BbRe.Spec.Posix.onlyHidden P.hidden (absDir (s3.dir nd)) := hoh.mpr hdl
                have h2 : ¬ ((!isDeletable P (s3.dir nd)) = true) := by simp [hdl]
                rw [if_pos h1, if_neg h2]
                simp only [renameOut]
                congr 1
                have hN5 : dNew < ((s3.modDir dOld (fun x => x.detach (P.normalize oldName))).modDir dNew
                    (fun x => x.detach (P.normalize newName))).dirs.length := by simpa using r3.hd hN
                have hN4' : dNew < (s3.modDir dOld (fun x => x.detach (P.normalize oldName))).dirs.length := by
                  simpa using r3.hd hN
                rw [abs_attach _ dNew _ _ _ (find_free_after _ dNew _ nd hN5 (by
                    rw [dir_modDir_self _ dNew _ hN4']; exact find?_detach_self _ _)),
                  abs_clearDir, emptied_true, abs_detach, abs_detach]
              · have h1 : ¬ BbRe.Spec.Posix.onlyHidden P.hidden (absDir (s3.dir nd)) := fun hh => hdl (hoh.mp hh)
                have h2 : (!isDeletable P (s3.dir nd)) = true := by simp [hdl]
                rw [if_neg h1, if_pos h2]; rfl
      | leaf nl =>
        cases hcO : oldE.child with
        | dir od => rfl
        | leaf ol =>
          simp only []
          by_cases hsame : nl = ol
          · rw [if_pos hsame, if_pos hsame]; rfl
          · rw [if_neg hsame, if_neg hsame]
            simp only [renameOut]
            congr 1
            unfold BbRe.Spec.Posix.move
            have hN5 : dNew < ((s2.modDir dOld (fun x => x.detach (P.normalize oldName))).modDir dNew
                (fun x => x.detach (P.normalize newName))).dirs.length := by simpa using hN
            rw [abs_attach _ dNew _ _ _ (by
                simp only [dir_unlink]
                rw [dir_modDir_self _ dNew _ hN4]
                exact find?_detach_self _ _),
              abs_unlink, abs_detach, hdetO]

theorem vremove_child (P : Params) (s : Store) (d n : Nat) (a b : Bool) : (vremove P s d n a b).2.child = none := by
  fun_cases vremove P s d n a b <;> rfl

theorem remove_refines (P : Params) (s : Store) (d name : Nat) (h : Inv P s) :
    BbRe.Spec.Posix.remove P.normalize P.hidden (abs s) d name true true =
      (abs (remove P s d name).1, (remove P s d name).2.status, (remove P s d name).2.child) := by
  rw [vremove_refines P s d name true true h, vremove_child]
  rfl

theorem lookupChild_refines (P : Params) (s : Store) (d name : Nat) :
    BbRe.Spec.Posix.lookup P.normalize (abs s) d name =
      (abs (lookupChild P s d name).1, (lookupChild P s d name).2.status, (lookupChild P s d name).2.child) := by
  rw [lookup_refines P s d name]
  unfold vlookup lookupChild
  cases materialize P s d with
  | error e => rfl
  | ok s1 =>
    simp only []
    cases (s1.dir d).find? (P.normalize name) <;> rfl

end BbRe.Lemmas.Dir
