import BbRe.Lemmas.SchedLiveMono2
import BbRe.Lemmas.SchedLiveStream
/-!
The wake-up invariant of parked client streams (C02 `no_lost_wakeup`): a snapshot never runs ahead of the generation of
its task, and is strictly behind once the task is completed.
-/
namespace BbRe.Lemmas.SchedLive
open BbRe.Sched

/-- a stream parked by this very segment: its snapshot is the current generation of an uncompleted task -/
def FreshStream (s' : State) (st : Stream) : Prop :=
  ∃ op t, s'.op? st.op = some op ∧ s'.task? op.task = some t ∧ t.response = none ∧ st.snap = t.gen

/-- every parked stream after a segment was parked before, or was parked by this segment with a fresh snapshot -/
def StreamsRel (s s' : State) : Prop := ∀ st ∈ s'.streams, st ∈ s.streams ∨ FreshStream s' st

theorem streamsRel_of_eq {s s' : State} (h : s'.streams = s.streams) : StreamsRel s s' :=
  fun _ hst => .inl (h ▸ hst)

theorem streamSend_streamsRel {s0 s s' : State} {c o : Nat} (h0 : s.streams = s0.streams)
    (hh : streamSend s c o = .ok s') : StreamsRel s0 s' := by
  obtain ⟨op, t, h1, h2, ⟨r, _, _, rfl⟩ | ⟨hr, rfl⟩⟩ := streamSend_ok hh
  · intro st hst
    simp only [sendDone_streams, List.mem_filter] at hst
    exact .inl (h0 ▸ hst.1)
  · intro st hst
    simp only [sendPark_streams, List.mem_cons, List.mem_filter] at hst
    rcases hst with rfl | hst
    · exact .inr ⟨op, t, h1, h2, hr, rfl⟩
    · exact .inl (h0 ▸ hst.1)

theorem streamAttach_streamsRel {s0 s s' : State} {c o : Nat} (h0 : s.streams = s0.streams)
    (hh : streamAttach s c o = .ok s') : StreamsRel s0 s' := by
  obtain ⟨op, _, h1⟩ := streamAttach_ok hh
  exact streamSend_streamsRel (s := attachS s o op) h0 h1

theorem streamLeave_streamsRel {s0 s s' : State} {c code : Nat} (h0 : s.streams = s0.streams)
    (hh : streamLeave s c code = .ok s') : StreamsRel s0 s' := by
  obtain ⟨st, op, _, _, _, rfl⟩ := streamLeave_ok hh
  intro st hst
  simp only [leaveS_streams, List.mem_filter] at hst
  exact .inl (h0 ▸ hst.1)

theorem step_streamsRel {s s' : State} {g : Seg} (hstep : step s g = .ok s') : StreamsRel s s' := by
  cases g with
  | exec h now c0 d dk dnc comps pf inv prio =>
    obtain ⟨s1, h1, h2 | h2 | h2⟩ := execArrive_ok hstep
    · obtain ⟨tid, t, _, _, ⟨o, _, h3⟩ | ⟨_, h3⟩⟩ := h2
      · exact streamAttach_streamsRel (s := emit s1 .selAbandoned) (enter_frame h1).streams h3
      · exact streamAttach_streamsRel (s := addOpS (emit s1 .selAbandoned) tid t inv prio) (enter_frame h1).streams h3
    · obtain ⟨_, _, rfl⟩ := h2
      exact streamsRel_of_eq (enter_frame h1).streams
    · obtain ⟨_, pq, sc, s3, _, _, h3, h4⟩ := h2
      refine streamAttach_streamsRel ?_ h4
      rw [(schedule_frame h3).streams]; simp only [newTaskS_streams]; exact (enter_frame h1).streams
  | wait h now c0 name =>
    obtain ⟨s1, h1, ⟨_, rfl⟩ | ⟨op, _, h2⟩⟩ := waitArrive_ok hstep
    · exact streamsRel_of_eq (enter_frame h1).streams
    · exact streamAttach_streamsRel (enter_frame h1).streams h2
  | streamWake h now c0 reason =>
    obtain ⟨s1, st, h1, _, ⟨_, h3⟩ | ⟨_, _, h3⟩⟩ := streamWake_ok hstep
    · exact streamLeave_streamsRel (enter_frame h1).streams h3
    · exact streamSend_streamsRel (enter_frame h1).streams h3
  | _ => exact streamsRel_of_eq (step_sframe hstep rfl).1.streams

/-- **Wake-up invariant of parked streams.** -/
def WakeInv (s : State) : Prop :=
  ∀ st ∈ s.streams, st.op < s.nextOp ∧
    ∀ op t, s.op? st.op = some op → s.task? op.task = some t →
      st.snap ≤ t.gen ∧ (t.response.isSome = true → st.snap < t.gen)

theorem wakeInv_step {s s' : State} {g : Seg} (hk : KeysOK s) (hw : WakeInv s) (hstep : step s g = .ok s') :
    WakeInv s' := by
  obtain ⟨hk', rel⟩ := step_tstep hstep hk
  intro st hst
  rcases step_streamsRel hstep st hst with hold | ⟨op, t, h1, h2, hr, hsn⟩
  · obtain ⟨hlt, hinv⟩ := hw st hold
    refine ⟨Nat.lt_of_lt_of_le hlt rel.no, ?_⟩
    intro op' t' e1 e2
    obtain ⟨op, e3, e4⟩ := rel.ops _ _ hlt e1
    have hlt2 := (hk.oname _ _ e3).2.2
    rw [e4] at e2
    obtain ⟨t, e5, le⟩ := rel.tasks _ _ hlt2 e2
    obtain ⟨i1, i2⟩ := hinv op t e3 e5
    have := le.gen
    refine ⟨by omega, ?_⟩
    intro hsome
    cases hrt : t.response with
    | some r => have := i2 (by simp [hrt]); omega
    | none =>
      have := le.bump (.inr (by rw [hrt]; intro e; rw [e] at hsome; cases hsome))
      omega
  · refine ⟨(hk'.oname _ _ h1).2.1, ?_⟩
    intro op' t' e1 e2
    rw [h1] at e1; injection e1 with e1; subst e1
    rw [h2] at e2; injection e2 with e2; subst e2
    exact ⟨by omega, by simp [hr]⟩

theorem wakeInv_init (cfg : Cfg) : WakeInv (State.init cfg) := by
  intro st hst; simp [State.init] at hst

theorem wakeInv_reachable {s : State} (hs : Reachable s) : WakeInv s := by
  induction hs with
  | init cfg => exact wakeInv_init cfg
  | step g hr hstep ih => exact wakeInv_step (keysOK_reachable hr) ih hstep

end BbRe.Lemmas.SchedLive
