import BbRe.Lemmas.SchedQExistsComplete
/-!
`QExists` across the cleanup callbacks (`operation.remove`, `sizeClassQueue.removeStaleWorker`,
`sizeClassQueue.remove`), `cleanupQueue.run` and `bq.enter`.  `sizeClassQueue.remove` is the one
place where `Inv` is needed: every uncompleted task of the removed queue is queued (its worker
would be a worker of the queue, and the queue has none), hence cancelled before the queue goes.
-/
namespace BbRe.Lemmas.SchedQ
open BbRe.Sched BbRe.Lemmas.SchedInv

variable {ne : Prop}

theorem removeOp_q {h : Hints} {s : State} {o : Nat} (hq : QExists ne s) :
    wpR ne (removeOp h s o) (QP ne s) := by
  unfold removeOp
  simp only [op?_def]
  cases hop : alookup o s.ops with
  | none => exact ⟨hq, QFr.refl s⟩
  | some op =>
    simp only []
    have h1 : QP ne s { s with ops := aerase o s.ops } := hq.same rfl rfl rfl rfl (fun _ h _ _ => h)
    simp only [task?_def]
    cases ht : alookup op.task s.tasks with
    | none => noterr
    | some t =>
      simp only []
      apply wpR_ite
      · refine wpR_seq (complete_q h1.1) ?_
        intro s2 hp
        have h2 := h1.trans hp
        cases ht2 : alookup op.task s2.tasks with
        | none => noterr
        | some t2 =>
          simp only []
          have hok := taskOK_of_lookup h2.1 ht2
          apply wpR_ite
          · simp only [wpR_pure]
            refine h2.trans (h2.1.upd rfl rfl ⟨fun _ h _ _ => h, fun wk h => ⟨wk, h, rfl⟩⟩ ?_)
            intro p hp; exact h2.1.tq p (mem_aerase hp)
          · exact h2.trans (h2.1.setTask _ (fun hr => hok hr))
      · simp only [pure_bind]
        cases ht2 : alookup op.task { s with ops := aerase o s.ops }.tasks with
        | none => noterr
        | some t2 =>
          simp only []
          have hok := taskOK_of_lookup h1.1 ht2
          apply wpR_ite
          · simp only [wpR_pure]
            refine h1.trans (h1.1.upd rfl rfl ⟨fun _ h _ _ => h, fun wk h => ⟨wk, h, rfl⟩⟩ ?_)
            intro p hp; exact h1.1.tq p (mem_aerase hp)
          · exact h1.trans (h1.1.setTask _ (fun hr => hok hr))

theorem foldl_complete_q {h : Hints} {r : Resp} (ids : List Nat) {s : State} (hq : QExists ne s) :
    wpR ne (ids.foldlM (fun s t => complete h s t r false) s) (QP ne s) := by
  induction ids generalizing s with
  | nil => exact ⟨hq, QFr.refl s⟩
  | cons a rest ih =>
    rw [List.foldlM_cons]
    refine wpR_seq (complete_q hq) ?_
    intro s1 h1
    exact wpR_mono (ih h1.1) (fun s' hp => h1.trans hp)

theorem cancelAllQueued_q {h : Hints} {s : State} {q : ScqId} {r : Resp} (hq : QExists ne s) :
    wpR ne (cancelAllQueued h s q r) (QP ne s) := by
  unfold cancelAllQueued
  exact foldl_complete_q _ hq

/-- after cancelling `ids` with a non-success response only tasks outside `ids` are uncompleted,
and those are untouched -/
theorem foldl_complete_cancel {h : Hints} {r : Resp} (hr : ¬ (r.code = cOK ∧ r.exit = 0)) (ids : List Nat)
    {s : State} (hI : Inv s) (hex : ∀ k ∈ ids, (alookup k s.tasks).isSome = true) :
    wp (ids.foldlM (fun s t => complete h s t r false) s) (fun s' => Inv s' ∧
      ∀ k t', alookup k s'.tasks = some t' → t'.response = none → k ∉ ids ∧ alookup k s.tasks = some t') := by
  induction ids generalizing s with
  | nil => exact ⟨hI, fun k t' hk _ => ⟨by simp, hk⟩⟩
  | cons a rest ih =>
    rw [List.foldlM_cons]
    apply wp_bind
    refine wp_mono (complete_spec (h := h) (r := r) (bw := false) hI (hex a (by simp))) ?_
    intro s1 ⟨hI1, hcp, hd, hn⟩
    refine wp_mono (ih hI1 ?_) ?_
    · intro k hk; exact hcp.persist hI k (hex k (by simp [hk]))
    · intro s' ⟨hI', hl⟩
      refine ⟨hI', ?_⟩
      intro k t' hk hrn
      obtain ⟨hk1, hk2⟩ := hl k t' hk hrn
      have hka : k ≠ a := by
        intro e; subst e
        have := hd (Or.inl rfl) t' hk2
        rw [hrn] at this; cases this
      have hlt : k < s.nextTask := by
        have := (hI1.core.tid k t' hk2).2
        rw [(hn hr).1] at this; exact this
      refine ⟨by simp [hka, hk1], ?_⟩
      rw [← hcp.tk k hka hlt]; exact hk2

/-- the registry update at the end of `sizeClassQueue.remove` -/
def dropScq (s : State) (q : ScqId) : State :=
  if (s.scqs.filter (fun x => x.id ≠ q)).any (fun x => x.id.pq = q.pq)
  then { s with scqs := s.scqs.filter (fun x => x.id ≠ q) }
  else { s with scqs := s.scqs.filter (fun x => x.id ≠ q), pqs := s.pqs.filter (fun p => p.id ≠ q.pq) }

theorem removeScq_eq (h : Hints) (s : State) (q : ScqId) :
    removeScq h s q = (cancelAllQueued h s q ⟨cUnavailable, 0, 0, .queueRemoved⟩ >>= fun s1 => pure (dropScq s1 q)) := by
  unfold removeScq dropScq
  congr 1
  funext s1
  simp only []
  split <;> rfl

theorem mem_filter_ids (l : List Scq) (q q' : ScqId) :
    q' ∈ (l.filter (fun x => x.id ≠ q)).map (·.id) ↔ q' ∈ l.map (·.id) ∧ q' ≠ q := by
  simp only [List.mem_map, List.mem_filter, decide_eq_true_eq]
  constructor
  · rintro ⟨x, ⟨a, b⟩, c⟩; exact ⟨⟨x, a, c⟩, by rw [← c]; exact b⟩
  · rintro ⟨⟨x, a, c⟩, b⟩; exact ⟨x, ⟨a, by rw [c]; exact b⟩, c⟩

theorem dropScq_q {s : State} {q : ScqId} (hq : QExists ne s)
    (hlive : ∀ p ∈ s.tasks, p.2.response = none → p.2.scq ≠ q)
    (hnw : ∀ wk ∈ s.workers, wk.scq ≠ q) (hnc : ∀ e ∈ s.cleanup, e.kind ≠ .scq q) :
    QExists ne (dropScq s q) := by
  have hids : ∀ q', q' ∈ scqIds (dropScq s q) ↔ q' ∈ scqIds s ∧ q' ≠ q := by
    intro q'; unfold dropScq scqIds; split <;> exact mem_filter_ids _ _ _
  have htasks : (dropScq s q).tasks = s.tasks := by unfold dropScq; split <;> rfl
  have hworkers : (dropScq s q).workers = s.workers := by unfold dropScq; split <;> rfl
  have hcleanup : (dropScq s q).cleanup = s.cleanup := by unfold dropScq; split <;> rfl
  have hS : ∀ q', q' ≠ q → HasScq s q' → HasScq (dropScq s q) q' := fun q' h1 h2 => (hids q').mpr ⟨h2, h1⟩
  refine ⟨?_, ?_, ?_, ?_, ?_, ?_⟩
  · intro p hp hr
    rw [htasks] at hp
    obtain ⟨a, b⟩ := hq.tq p hp hr
    exact ⟨hS _ (hlive p hp hr) a, b⟩
  · intro wk hwk
    rw [hworkers] at hwk
    exact hS _ (hnw wk hwk) (hq.wq wk hwk)
  · intro q' hq'
    obtain ⟨a, b⟩ := (hids q').mp hq'
    have hp := hq.qp q' a
    unfold dropScq
    split
    · exact hp
    · rename_i hany
      unfold HasPq pqIds at hp ⊢
      simp only [List.mem_map, List.mem_filter, decide_eq_true_eq] at hp ⊢
      obtain ⟨x, hx, he⟩ := hp
      refine ⟨x, ⟨hx, ?_⟩, he⟩
      intro hxq
      apply hany
      simp only [List.any_eq_true, List.mem_filter, decide_eq_true_eq]
      unfold scqIds at a
      obtain ⟨y, hy, hye⟩ := List.mem_map.mp a
      exact ⟨y, ⟨hy, by rw [hye]; exact b⟩, by rw [hye, ← he, hxq]⟩
  · intro e he q' hk
    rw [hcleanup] at he
    obtain ⟨a, b⟩ := hq.cq e he q' hk
    refine ⟨hS _ ?_ a, by rw [hworkers]; exact b⟩
    intro e'; subst e'; exact hnc e he hk
  · rw [hcleanup]; exact hq.cu
  · intro hne p hp
    have hp0 : p ∈ pqIds s := by
      unfold dropScq pqIds at hp
      split at hp
      · exact hp
      · simp only [List.mem_map, List.mem_filter] at hp
        obtain ⟨x, ⟨hx, _⟩, he⟩ := hp
        exact List.mem_map.mpr ⟨x, hx, he⟩
    obtain ⟨q', a, b⟩ := hq.pn hne p hp0
    by_cases hqq : q' = q
    · -- the removed queue was the witness: another queue of the platform queue remains, or `p` is gone
      subst hqq
      by_cases hany : (s.scqs.filter (fun x => x.id ≠ q')).any (fun x => x.id.pq = q'.pq) = true
      · simp only [List.any_eq_true, decide_eq_true_eq] at hany
        obtain ⟨y, hy, hye⟩ := hany
        refine ⟨y.id, ?_, by rw [hye, b]⟩
        have : y.id ∈ (s.scqs.filter (fun x => x.id ≠ q')).map (·.id) := List.mem_map.mpr ⟨y, hy, rfl⟩
        exact (hids y.id).mpr ((mem_filter_ids _ _ _).mp this)
      · exfalso
        unfold dropScq pqIds at hp
        rw [if_neg hany] at hp
        simp only [List.mem_map, List.mem_filter, decide_eq_true_eq] at hp
        obtain ⟨x, ⟨_, hx⟩, he⟩ := hp
        exact hx (by rw [he, b])
    · exact ⟨q', (hids q').mpr ⟨a, hqq⟩, b⟩

theorem removeScq_q {h : Hints} {s : State} {q : ScqId} (hq : QExists ne s) (hI : Inv s)
    (hnw : ∀ wk ∈ s.workers, wk.scq ≠ q) (hnc : ∀ e ∈ s.cleanup, e.kind ≠ .scq q) :
    wpR ne (removeScq h s q) (QExists ne) := by
  rw [removeScq_eq]
  apply wpR_bind
  have hcancel : wp (cancelAllQueued h s q ⟨cUnavailable, 0, 0, .queueRemoved⟩) (fun s' => Inv s' ∧
      ∀ k t', alookup k s'.tasks = some t' → t'.response = none →
        k ∉ (s.tasks.filter (fun p => p.2.scq = q ∧ p.2.queued ∧ p.2.response.isNone ∧ p.2.worker.isNone)).map (·.1) ∧
          alookup k s.tasks = some t') := by
    unfold cancelAllQueued
    apply foldl_complete_cancel (by simp [cUnavailable, cOK]) _ hI
    intro k hk
    simp only [List.mem_map, List.mem_filter] at hk
    obtain ⟨⟨k', t⟩, ⟨hm, _⟩, rfl⟩ := hk
    rw [alookup_of_mem hI.core.tnd hm]; rfl
  refine wpR_mono (wpR_and (cancelAllQueued_q (ne := ne) hq) hcancel) ?_
  intro s1 ⟨h1, hI1, hl⟩
  simp only [wpR_pure]
  refine dropScq_q h1.1 ?_ ?_ ?_
  · intro p hp hr hpq
    have hlk : alookup p.1 s1.tasks = some p.2 := alookup_of_mem hI1.core.tnd hp
    obtain ⟨hnin, hk0⟩ := hl p.1 p.2 hlk hr
    apply hnin
    have hm0 : (p.1, p.2) ∈ s.tasks := mem_of_alookup hk0
    refine List.mem_map.mpr ⟨(p.1, p.2), List.mem_filter.mpr ⟨hm0, ?_⟩, rfl⟩
    have hqd : p.2.queued = true := by
      rcases hI.core.q2 p.1 p.2 hk0 hr with a | a | a
      · exact a
      · exfalso
        cases hw : p.2.worker with
        | none => rw [hw] at a; cases a
        | some qw =>
          obtain ⟨q', w'⟩ := qw
          have hq' := ((hq.tq (p.1, p.2) hm0) hr).2 q' w' hw
          obtain ⟨wk, hwk, _⟩ := hI.core.p2 p.1 p.2 q' w' hk0 hw
          exact hnw wk (wfind_mem hwk) (by rw [(wfind_key hwk).1, hq', hpq])
      · exact absurd a id
    have := hI.core.q1 p.1 p.2 hk0 hqd
    simp [hpq, hqd, this.1, this.2]
  · intro wk hwk
    obtain ⟨w0, a0, b0⟩ := h1.2.ws wk hwk
    rw [← b0]; exact hnw w0 a0
  · intro e he hk
    exact hnc e (h1.2.cl e he q hk) hk

theorem staleTail_q {s1 : State} {q : ScqId} {w : WId} {rt : Nat} (hq : QExists ne s1)
    (hnc : ∀ e ∈ s1.cleanup, e.kind ≠ .scq q) : wpR ne (staleTail s1 q w rt) (QExists ne) := by
  have h2 : QP ne s1 { s1 with workers := s1.workers.filter (fun x => ¬ (x.scq = q ∧ x.id = w)) } :=
    hq.upd rfl rfl ⟨fun _ h _ _ => h, fun wk h => ⟨wk, (List.mem_filter.mp h).1, rfl⟩⟩ hq.tq
  unfold staleTail
  dsimp only
  split
  · rename_i sq hsq
    refine wpR_by_cases (fun _ => ?_) (fun _ => ?_)
    · rename_i hc
      simp only [wpR_pure]
      have hhas : HasScq { s1 with workers := s1.workers.filter (fun x => ¬ (x.scq = q ∧ x.id = w)) } q :=
        (hasScq_iff _ q).mpr ⟨sq, hsq⟩
      have hnow : ∀ wk ∈ s1.workers.filter (fun x => ¬ (x.scq = q ∧ x.id = w)), wk.scq ≠ q := by
        have := hc.1
        simp only [Bool.not_eq_true', List.any_eq_false, decide_eq_true_eq] at this
        exact this
      have hq2 := h2.1
      refine ⟨hq2.tq, hq2.wq, hq2.qp, ?_, ?_, hq2.pn⟩
      · intro e he q' hk
        rcases List.mem_cons.mp he with e1 | e1
        · subst e1
          simp only [CleanupKind.scq.injEq] at hk
          subst hk
          exact ⟨hhas, hnow⟩
        · exact hq2.cq e e1 q' hk
      · intro e1 m1 e2 m2 q' k1 k2
        rcases List.mem_cons.mp m1 with a | a <;> rcases List.mem_cons.mp m2 with b | b
        · rw [a, b]
        · subst a
          simp only [CleanupKind.scq.injEq] at k1
          subst k1
          exact absurd k2 (hnc e2 b)
        · subst b
          simp only [CleanupKind.scq.injEq] at k2
          subst k2
          exact absurd k1 (hnc e1 a)
        · exact hq2.cu e1 a e2 b q' k1 k2
    · exact h2.1
  · exact h2.1

theorem removeStaleWorker_q {h : Hints} {s : State} {q : ScqId} {w : WId} {rt : Nat} (hq : QExists ne s) :
    wpR ne (removeStaleWorker h s q w rt) (QExists ne) := by
  rw [removeStaleWorker_eq]
  simp only [worker?_def]
  cases hw : wfind s.workers q w with
  | none => exact hq
  | some wk =>
    dsimp only
    have hnc : ∀ e ∈ s.cleanup, e.kind ≠ .scq q := by
      intro e he hk
      exact (hq.cq e he q hk).2 wk (wfind_mem hw) (wfind_key hw).1
    apply wpR_bind
    have hmid : wpR ne (match wk.task with
        | some t => complete h s t ⟨cUnavailable, 0, 0, .workerDisappeared⟩ false
        | none => pure s) (QP ne s) := by
      split
      · exact complete_q hq
      · exact ⟨hq, QFr.refl s⟩
    refine wpR_mono hmid ?_
    intro s1 h1
    exact staleTail_q h1.1 (fun e he hk => hnc e (h1.2.cl e he q hk) hk)

theorem popDue_rest {now : Nat} {cs : List CleanupEntry} {e : CleanupEntry} {rest : List CleanupEntry}
    (h : popDue now cs = some (e, rest)) : rest = cs.filter (fun x => x ≠ e) := by
  unfold popDue at h
  split at h
  · cases h
  · cases h; rfl

theorem runCleanup_q {h : Hints} (fuel : Nat) {s : State} (hq : QExists ne s) (hI : Inv s) :
    wpR ne (runCleanup h fuel s) (fun s' => QExists ne s' ∧ Inv s') := by
  induction fuel generalizing s with
  | zero => exact ⟨hq, hI⟩
  | succ n ih =>
    unfold runCleanup
    cases hp : popDue s.now s.cleanup with
    | none => exact ⟨hq, hI⟩
    | some er =>
      obtain ⟨e, rest⟩ := er
      dsimp only
      obtain ⟨hmem, hsub⟩ := popDue_some hp
      have hI0 : Inv { s with cleanup := rest } := ⟨hI.core, hI.oinv, hI.sinv.cleanup_sub hsub, hI.linv⟩
      have hq0 : QExists ne { s with cleanup := rest } :=
        (hq.same (s' := { s with cleanup := rest }) rfl rfl rfl rfl (fun x hx _ _ => hsub x hx)).1
      cases hk : e.kind with
      | worker q w =>
        dsimp only
        refine wpR_seq (wpR_and (removeStaleWorker_q (ne := ne) hq0) (removeStaleWorker_spec hI0)) ?_
        intro s1 ⟨a, b, _⟩
        exact ih a b
      | op o =>
        dsimp only
        refine wpR_seq (wpR_and (removeOp_q (ne := ne) hq0)
          (removeOp_spec hI0 (fun op hop => hI.sinv.s2 o op e hop hmem hk))) ?_
        intro s1 ⟨a, b, _⟩
        exact ih a.1 b
      | scq q =>
        dsimp only
        apply wpR_bind
        have hnw : ∀ wk ∈ s.workers, wk.scq ≠ q := (hq.cq e hmem q hk).2
        have hnc : ∀ x ∈ rest, x.kind ≠ .scq q := by
          intro x hx hxk
          have hx' := hx
          rw [popDue_rest hp] at hx'
          have hxe : x = e := hq.cu x (hsub x hx) e hmem q hxk hk
          have := (List.mem_filter.mp hx').2
          simp [hxe] at this
        refine wpR_mono (wpR_and (removeScq_q (ne := ne) hq0 hI0 hnw hnc) (removeScq_spec hI0)) ?_
        intro s1 ⟨a, b, _⟩
        exact ih a b

theorem enter_q {h : Hints} {s : State} {t : Nat} (hq : QExists ne s) (hI : Inv s) :
    wpR ne (enter h s t) (fun s' => QExists ne s' ∧ Inv s') := by
  unfold enter
  apply wpR_ite
  · have hI0 : Inv { s with now := t } := hI.of_same rfl rfl rfl rfl rfl rfl rfl rfl rfl rfl
    have hq0 : QExists ne { s with now := t } :=
      (hq.same (s' := { s with now := t }) rfl rfl rfl rfl (fun _ h _ _ => h)).1
    exact runCleanup_q _ hq0 hI0
  · exact ⟨hq, hI⟩

end BbRe.Lemmas.SchedQ
