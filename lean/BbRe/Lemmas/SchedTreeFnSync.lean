import BbRe.Lemmas.SchedTreeFnDefs
import BbRe.Lemmas.SchedTreeLinkStepA
import BbRe.Lemmas.SchedTreeLinkStepB
import BbRe.Lemmas.SchedTreeLinkStepC
import BbRe.Lemmas.SchedTreeLinkFrame
import BbRe.Lemmas.SchedInvSync
/-!
Function-level lemmas of the tree layer for `Synchronize`: `tSyncQueue`, `tSyncWorker`, `tSyncArrive`,
`tSyncWake` keep the tree part `TS []` of the invariant.
-/
namespace BbRe.Lemmas.SchedTree
open BbRe.Sched BbRe.SchedTree BbRe.Lemmas.SchedInv

theorem setS_self (ts : TState) : ts.setS ts.s = ts := rfl

/-- `… ; return ts1.setS (syncReturn s13 q w)` where `ts1.setS s12` is a good state, `s12 → s13` a frame step -/
theorem syncReturn_ts2 {ts1 : TState} {s12 s13 : State} {q : ScqId} {w : WId}
    (hts : TS [] (ts1.setS s12)) (hI12 : Inv s12) (hf : SFrame s12 s13)
    (hnp : ∀ wk, wfind s12.workers q w = some wk → wk.parked = false) :
    TS [] (ts1.setS (syncReturn s13 q w)) :=
  syncReturn_ts (ts := ts1.setS s12) (TInv.mk' hI12 hts).x hf hnp

/-! ### `tSyncQueue` -/

theorem scq?_none {s : State} {q : ScqId} (h : s.scq? q = none) : ∀ sq ∈ s.scqs, sq.id ≠ q := by
  intro sq hm e
  unfold State.scq? at h
  have := List.find?_eq_none.mp h sq hm
  simp [e] at this

/-- what `syncQueue` does to the tables the tree layer looks at -/
theorem syncQueue_shape {s : State} {q : ScqId} {comps : List Nat} {platform : Nat} {w : WId} {r : State ⊕ State}
    (h : syncQueue s q comps platform w = .ok r) :
    match r with
    | .inl s1 => SFrame s s1
    | .inr s1 => ((s.scq? q).isSome = true ∧ SFrame s s1) ∨
        (s.scq? q = none ∧ ∃ sq0 : Scq, sq0.id = q ∧ s1.scqs = s.scqs ++ [sq0] ∧ s1.tasks = s.tasks ∧
          s1.workers = s.workers ∧ s1.ops = s.ops) := by
  unfold syncQueue at h
  cases hq : s.scq? q with
  | some sq =>
    rw [hq] at h
    cases h
    exact Or.inl ⟨rfl, removeCleanup_sframe _ _⟩
  | none =>
    simp only [hq] at h
    cases hp : s.pq? q.pq with
    | none =>
      simp only [hp] at h
      cases h
      exact Or.inr ⟨rfl, _, rfl, rfl, rfl, rfl, rfl⟩
    | some pq =>
      simp only [hp] at h
      cases hl : (s.sizes q.pq).getLast? with
      | none => simp only [hl] at h; cases h
      | some maxSc =>
        simp only [hl] at h
        cases hm : s.scq? ⟨q.pq, maxSc⟩ with
        | none => simp only [hm] at h; cases h
        | some maxQ =>
          simp only [hm] at h
          by_cases h1 : maxQ.mayBeRemoved = true
          · rw [if_pos h1] at h; cases h; exact emit_sframe _ _
          rw [if_neg h1] at h
          by_cases h2 : q.sc > maxSc
          · rw [if_pos h2] at h; cases h; exact emit_sframe _ _
          rw [if_neg h2] at h
          by_cases h3 : maxSc > 0 ∧ q.sc < 1
          · rw [if_pos h3] at h; cases h; exact emit_sframe _ _
          rw [if_neg h3] at h
          cases h
          exact Or.inr ⟨rfl, _, rfl, rfl, rfl, rfl, rfl⟩

theorem tSyncQueue_ts {ts : TState} {q : ScqId} {comps : List Nat} {platform : Nat} {w : WId}
    {r : TState ⊕ TState} (hI : TInv ts) (hh : tSyncQueue ts q comps platform w = .ok r) :
    match r with
    | .inl t' => TS [] t'
    | .inr t' => TS [] t' := by
  have hT := hI.x
  unfold tSyncQueue at hh
  cases hsq : syncQueue ts.s q comps platform w with
  | error e => rw [hsq] at hh; cases hh
  | ok r0 =>
    rw [hsq] at hh
    have hs := syncQueue_shape hsq
    cases r0 with
    | inl s1 =>
      cases hh
      exact hT.ts.sframe hs
    | inr s1 =>
      simp only [bind, Except.bind, pure, Except.pure] at hh
      rcases hs with ⟨h1, hf⟩ | ⟨h1, sq0, h2, h3, h4, h5, h6⟩
      · rw [if_pos h1] at hh
        cases hh
        exact hT.ts.sframe hf
      · rw [h1] at hh
        cases hh
        exact newScq_ts hT (scq?_none h1) h2 h3 h4 h5 h6

/-! ### `tSyncWorker` -/

theorem tSyncWorker_ts {ts : TState} {q : ScqId} {w : WId} (hI : TInv ts)
    (hq : ∃ sq ∈ ts.s.scqs, sq.id = q) :
    match tSyncWorker ts q w with
    | .inl t' => TS [] t'
    | .inr t' => TS [] t' := by
  have hT := hI.x
  unfold tSyncWorker syncWorker
  cases hw : ts.s.worker? q w with
  | some wk =>
    dsimp only
    have hw' : wfind ts.s.workers q w = some wk := hw
    by_cases his : wk.inSync = true
    · rw [if_pos his]
      exact hT.ts.sframe (emit_sframe _ _)
    · rw [if_neg his]
      dsimp only
      rw [if_pos (show (some wk).isSome = true from rfl)]
      dsimp only
      exact wset_ts (wk := wk) (wk' := { wk with inSync := true }) hT hw' ⟨rfl, rfl, rfl, rfl⟩ rfl rfl rfl
        (op?_of_ops rfl)
  | none =>
    dsimp only
    have hw' : wfind ts.s.workers q w = none := hw
    rw [if_neg (show ¬ (none : Option Worker).isSome = true by simp)]
    dsimp only
    exact newWorker_ts hT hq hw' ⟨rfl, rfl, rfl, rfl⟩ rfl rfl rfl rfl

/-! ### `tSyncArrive` -/

/-- `tSyncArrive` after the queue and the worker have been found or created -/
def tSyncBody (h : Hints) (x : Extras) (ts : TState) (q : ScqId) (w : WId) (rep : Report) (preferIdle : Bool) :
    M TState := do
  let s := ts.s
  let some wk := s.worker? q w | throw "syncArrive: worker vanished"
  match rep with
  | .malformed => return ts.setS (syncReturn (emit s (.syncErr q w cInvalidArgument)) q w)
  | .idle => tGetCurrentOrNext h x ts q w preferIdle true
  | .executing d =>
    match wk.task with
    | some tid =>
      match s.task? tid with
      | some t =>
        if t.digest = d then return ts.setS (syncReturn (emit s (.syncNoChange q w (s.now + s.cfg.busyInterval))) q w)
        else tGetCurrentOrNext h x ts q w preferIdle false
      | none => tGetCurrentOrNext h x ts q w preferIdle false
    | none => tGetCurrentOrNext h x ts q w preferIdle false
  | .completed d r =>
    match wk.task with
    | some tid =>
      match s.task? tid with
      | some t =>
        if t.digest = d then do
          let ts ← tComplete h x ts tid r true
          tGetNextTask h x ts q w preferIdle true
        else tGetCurrentOrNext h x ts q w preferIdle true
      | none => tGetCurrentOrNext h x ts q w preferIdle true
    | none => tGetCurrentOrNext h x ts q w preferIdle true

theorem tSyncArrive_eq (h : Hints) (x : Extras) (ts : TState) (now : Nat) (q : ScqId) (comps : List Nat)
    (platform : Nat) (w : WId) (rep : Report) (pi : Bool) :
    tSyncArrive h x ts now q comps platform w rep pi =
      (tEnter h x ts now >>= fun ts => tSyncQueue ts q comps platform w >>= fun r =>
        match r with
        | .inl ts => pure ts
        | .inr ts =>
          match tSyncWorker ts q w with
          | .inl ts => pure ts
          | .inr ts => tSyncBody h x ts q w rep pi) := rfl

theorem tSyncBody_ts (hC : CompleteOK) (hN : NextOK) (hK : CurOK) {h : Hints} {x : Extras} {ts ts' : TState}
    {q : ScqId} {w : WId} {rep : Report} {pi : Bool} {wk : Worker} (hI : TInv ts)
    (hw : wfind ts.s.workers q w = some wk) (hr : Ready' wk)
    (hh : tSyncBody h x ts q w rep pi = .ok ts') : TS [] ts' := by
  have hT := hI.x
  have hnp : ∀ wk', wfind ts.s.workers q w = some wk' → wk'.parked = false := by
    intro wk' h'; rw [hw] at h'; cases h'; exact hr.parked
  have hcur : ∀ bl, tGetCurrentOrNext h x ts q w pi bl = .ok ts' → TS [] ts' :=
    fun bl h' => hK h x ts ts' q w wk pi bl hI hw hr h'
  unfold tSyncBody at hh
  simp only [worker?_def, hw] at hh
  cases rep with
  | malformed =>
    cases hh
    exact syncReturn_ts hT (emit_sframe _ _) hnp
  | idle => exact hcur _ hh
  | executing d =>
    dsimp only at hh
    split at hh
    · split at hh
      · split at hh
        · cases hh
          exact syncReturn_ts hT (emit_sframe _ _) hnp
        · exact hcur _ hh
      · exact hcur _ hh
    · exact hcur _ hh
  | completed d r =>
    dsimp only at hh
    split at hh
    · rename_i tid hwt
      split at hh
      · rename_i t ht
        split at hh
        · simp only [bind, Except.bind] at hh
          split at hh
          · cases hh
          · rename_i ts1 hc
            have hex : (alookup tid ts.s.tasks).isSome = true := by
              rw [task?_def] at ht; rw [ht]; rfl
            have hts1 := hC h x ts ts1 tid r true hI hex hc
            obtain ⟨hI1, hcp, _, _⟩ := inv_of_ref (tComplete_ref h x ts tid r true)
              (complete_spec (h := h) (r := r) (bw := true) hI.inv hex) hc
            have hw1 := complete_clears hI.inv hI1 hcp hw hwt hr.parked
            exact hN h x ts1 ts' q w _ pi true (TInv.mk' hI1 hts1) hw1
              ⟨hr.parked, hr.woken, rfl, hr.drainWait, hr.inSync⟩ hh
        · exact hcur _ hh
      · exact hcur _ hh
    · exact hcur _ hh

/-- after `syncQueue` went through, the queue exists -/
theorem syncQueue_has {s s1 : State} {q : ScqId} {comps : List Nat} {platform : Nat} {w : WId}
    (h : syncQueue s q comps platform w = .ok (.inr s1)) : ∃ sq ∈ s1.scqs, sq.id = q := by
  rcases syncQueue_shape h with ⟨h1, hf⟩ | ⟨_, sq0, h2, h3, _⟩
  · unfold State.scq? at h1
    obtain ⟨sq, hsq⟩ := Option.isSome_iff_exists.mp h1
    refine ⟨sq, ?_, ?_⟩
    · rw [hf.scqs]; exact List.mem_of_find?_eq_some hsq
    · simpa using List.find?_some hsq
  · exact ⟨sq0, by rw [h3]; exact List.mem_append_right _ List.mem_cons_self, h2⟩

theorem tSyncArrive_ts (hE : EnterOK) (hC : CompleteOK) (hN : NextOK) (hK : CurOK) {h : Hints} {x : Extras}
    {ts ts' : TState} {now : Nat} {q : ScqId} {comps : List Nat} {platform : Nat} {w : WId} {rep : Report}
    {pi : Bool} (hI : TInv ts) (hh : tSyncArrive h x ts now q comps platform w rep pi = .ok ts') :
    TS [] ts' := by
  rw [tSyncArrive_eq] at hh
  simp only [bind, Except.bind] at hh
  split at hh
  · cases hh
  · rename_i ts0 he
    have hts0 := hE h x ts ts0 now hI he
    obtain ⟨hI0, _⟩ := inv_of_ref (tEnter_ref h x ts now) (enter_spec (h := h) (t := now) hI.inv) he
    have hTI0 : TInv ts0 := TInv.mk' hI0 hts0
    split at hh
    · cases hh
    · rename_i r hq
      have htq := tSyncQueue_ts hTI0 hq
      have hrq := tSyncQueue_ref ts0 q comps platform w r hq
      have hsq := wp_of_ok (syncQueue_spec (q := q) (comps := comps) (platform := platform) (w := w) hI0) hrq
      cases r with
      | inl ts1 =>
        cases hh
        exact htq
      | inr ts1 =>
        dsimp only at hh htq
        simp only [sproj] at hrq hsq
        have hTI1 : TInv ts1 := TInv.mk' hsq.1 htq
        have hex := syncQueue_has hrq
        have htw := tSyncWorker_ts (w := w) hTI1 hex
        have hsw := syncWorker_spec (q := q) (w := w) hsq.1
        rw [tSyncWorker_ref] at hsw
        cases hw : tSyncWorker ts1 q w with
        | inl ts2 =>
          rw [hw] at hh htw
          cases hh
          exact htw
        | inr ts2 =>
          rw [hw] at hh htw hsw
          simp only [sproj] at hsw
          obtain ⟨hI2, _, wk2, hw2, hr2⟩ := hsw
          exact tSyncBody_ts hC hN hK (TInv.mk' hI2 htw) hw2 hr2 hh

/-! ### `tSyncWake` -/

/-- `tSyncWake` after `bq.enter` -/
def tWakeBody (h : Hints) (x : Extras) (ts : TState) (q : ScqId) (w : WId) (reason : Nat) : M TState := do
  let s := ts.s
  let some wk := s.worker? q w | throw "mismatch: no such worker"
  if !wk.inSync then throw "mismatch: worker is not inside Synchronize"
  match reason with
  | 1 =>
    let s := s.setWorker { wk with parked := false, woken := false, drainWait := none }
    if wk.task.isSome then return (ts.maybeDequeue wk).setS (syncReturn (← execResponse s wk) q w)
    return (ts.maybeDequeue wk).setS (syncReturn (emit s (.syncIdle q w s.now)) q w)
  | 2 =>
    let s := s.setWorker { wk with parked := false, woken := false, drainWait := none }
    return (ts.maybeDequeue wk).setS (syncReturn (emit s (.syncErr q w cCanceled)) q w)
  | 0 =>
    if !wk.woken then throw "mismatch: worker woke up although its wakeup channel is open"
    let s := s.setWorker { wk with woken := false }
    if wk.task.isSome then return ts.setS (syncReturn (← execResponse s wk) q w)
    tGetNextTask h x (ts.setS s) q w false true
  | 3 =>
    let some sq := s.scq? q | throw "syncWake: no queue"
    match wk.drainWait with
    | some g =>
      if g = sq.undrainGen then throw "mismatch: worker woke up without an undrain"
      let s := s.setWorker { wk with drainWait := none }
      tGetNextTask h x (ts.setS s) q w false true
    | none => throw "mismatch: worker is not waiting for an undrain"
  | _ => throw "bad-op"

theorem tSyncWake_eq (h : Hints) (x : Extras) (ts : TState) (now : Nat) (q : ScqId) (w : WId) (reason : Nat) :
    tSyncWake h x ts now q w reason = (tEnter h x ts now >>= fun ts => tWakeBody h x ts q w reason) := rfl

theorem tWakeBody_ts (hN : NextOK) {h : Hints} {x : Extras} {ts ts' : TState} {q : ScqId} {w : WId}
    {reason : Nat} (hI : TInv ts) (hh : tWakeBody h x ts q w reason = .ok ts') : TS [] ts' := by
  have hT := hI.x
  unfold tWakeBody at hh
  cases hw : ts.s.worker? q w with
  | none => simp only [hw] at hh; cases hh
  | some wk =>
    simp only [hw] at hh
    simp only [worker?_def] at hw
    have hk := wfind_key hw
    have hw' : wfind ts.s.workers wk.scq wk.id = some wk := by rw [hk.1, hk.2]; exact hw
    by_cases his : wk.inSync = true
    · rw [if_neg (by rw [his]; decide)] at hh
      simp only [bind, Except.bind, pure, Except.pure] at hh
      -- the timeout / cancel update
      have hI12 := setFlags_inv (wk := wk) (wk' := { wk with parked := false, woken := false, drainWait := none })
        hI.inv hw' rfl rfl rfl rfl rfl rfl
      have hw12 := wfind_setWorker_self (wk' := { wk with parked := false, woken := false, drainWait := none })
        hw rfl rfl
      have hts12 : TS [] ((ts.maybeDequeue wk).setS
          (ts.s.setWorker { wk with parked := false, woken := false, drainWait := none })) :=
        unpark_ts (wk' := { wk with parked := false, woken := false, drainWait := none }) hT hw
          ⟨rfl, rfl, rfl, rfl⟩ rfl rfl rfl (op?_of_ops rfl)
      have hnp12 : ∀ wk', wfind (ts.s.setWorker { wk with parked := false, woken := false, drainWait := none }).workers q w
          = some wk' → wk'.parked = false := by
        intro wk' h'
        rw [hw12] at h'
        cases h'; rfl
      split at hh
      · -- timeout
        split at hh
        · split at hh
          · cases hh
          · rename_i s13 he
            cases hh
            exact syncReturn_ts2 hts12 hI12 (execResponse_sframe he) hnp12
        · cases hh
          exact syncReturn_ts2 hts12 hI12 (emit_sframe _ _) hnp12
      · -- cancelled
        cases hh
        exact syncReturn_ts2 hts12 hI12 (emit_sframe _ _) hnp12
      · -- wake-up channel closed
        by_cases hwo : wk.woken = true
        · have hng2 : (!wk.woken) = false := by simp [hwo]
          simp only [hng2, Bool.false_eq_true, if_false] at hh
          have hp : wk.parked = false := by
            cases hp : wk.parked with
            | false => rfl
            | true => have := (hI.inv.core.w1 q w wk hw hp).2.2.1; rw [hwo] at this; cases this
          have hd : wk.drainWait = none := (hI.inv.core.w2 q w wk hw hwo).1
          have hI0 := setFlags_inv (wk := wk) (wk' := { wk with woken := false }) hI.inv hw' rfl rfl rfl hp rfl hd
          have hw0 := wfind_setWorker_self (wk' := { wk with woken := false }) hw rfl rfl
          have hts0 : TS [] (ts.setS (ts.s.setWorker { wk with woken := false })) :=
            wset_ts (wk' := { wk with woken := false }) hT hw ⟨rfl, rfl, rfl, rfl⟩ rfl rfl rfl (op?_of_ops rfl)
          split at hh
          · split at hh
            · cases hh
            · rename_i s1 he
              cases hh
              refine syncReturn_ts2 hts0 hI0 (execResponse_sframe he) ?_
              intro wk' h'; rw [hw0] at h'; cases h'; exact hp
          · rename_i hts
            have hwt : wk.task = none := by simpa using hts
            exact hN h x _ ts' q w _ false true (TInv.mk' hI0 hts0) hw0 ⟨hp, rfl, hwt, hd, his⟩ hh
        · have hng2 : (!wk.woken) = true := by simpa using hwo
          simp only [hng2, if_true] at hh
          cases hh
      · -- undrain
        split at hh
        · rename_i sq _
          split at hh
          · rename_i g hdw
            split at hh
            · cases hh
            · have h3 := hI.inv.core.w3 q w wk hw (by rw [hdw]; rfl)
              have hp : wk.parked = false := by
                cases hp : wk.parked with
                | false => rfl
                | true => have := (hI.inv.core.w1 q w wk hw hp).2.1; rw [hdw] at this; cases this
              have hwo : wk.woken = false := by
                cases hp : wk.woken with
                | false => rfl
                | true => have := (hI.inv.core.w2 q w wk hw hp).1; rw [hdw] at this; cases this
              have hI3 := setFlags_inv (wk := wk) (wk' := { wk with drainWait := none }) hI.inv hw' rfl rfl rfl hp hwo rfl
              have hw3 := wfind_setWorker_self (wk' := { wk with drainWait := none }) hw rfl rfl
              have hts3 : TS [] (ts.setS (ts.s.setWorker { wk with drainWait := none })) :=
                wset_ts (wk' := { wk with drainWait := none }) hT hw ⟨rfl, rfl, rfl, rfl⟩ rfl rfl rfl (op?_of_ops rfl)
              exact hN h x _ ts' q w _ false true (TInv.mk' hI3 hts3) hw3 ⟨hp, hwo, h3.1, rfl, his⟩ hh
          · cases hh
        · cases hh
      · cases hh
    · rw [if_pos (by simpa using his)] at hh
      cases hh

theorem tSyncWake_ts (hE : EnterOK) (hN : NextOK) {h : Hints} {x : Extras} {ts ts' : TState} {now : Nat}
    {q : ScqId} {w : WId} {reason : Nat} (hI : TInv ts)
    (hh : tSyncWake h x ts now q w reason = .ok ts') : TS [] ts' := by
  rw [tSyncWake_eq] at hh
  simp only [bind, Except.bind] at hh
  split at hh
  · cases hh
  · rename_i ts0 he
    have hts0 := hE h x ts ts0 now hI he
    obtain ⟨hI0, _⟩ := inv_of_ref (tEnter_ref h x ts now) (enter_spec (h := h) (t := now) hI.inv) he
    exact tWakeBody_ts hN (TInv.mk' hI0 hts0) hh

end BbRe.Lemmas.SchedTree
