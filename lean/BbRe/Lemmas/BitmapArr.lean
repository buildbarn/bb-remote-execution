import BbRe.Lemmas.BitmapWord
/-! Array-level lemmas: `getW`/`setW` and the bit view `bit` of the bitmap; writes and runs of bits
(`Wr`, `Run`). -/
namespace BbRe.Lemmas.Bitmap
open BbRe.Bitmap

theorem size_setW (bm : Array Word) (i : Nat) (v : Word) : (setW bm i v).size = bm.size := by
  simp [setW]

theorem getW_eq_getElem? (bm : Array Word) (i : Nat) : getW bm i = bm[i]?.getD 0 := by
  simp [getW]

theorem getW_setW (bm : Array Word) (i : Nat) (v : Word) (j : Nat) :
    getW (setW bm i v) j = if i = j ∧ i < bm.size then v else getW bm j := by
  simp only [getW_eq_getElem?, setW, Array.getElem?_setIfInBounds]
  by_cases h : i = j
  · subst h
    by_cases hs : i < bm.size <;> simp [hs]
  · simp [h]

theorem getW_of_size_le (bm : Array Word) (i : Nat) (h : bm.size ≤ i) : getW bm i = 0 := by
  simp [getW_eq_getElem?, Array.getElem?_eq_none h]

theorem lt_size_of_getW_ne_zero {bm : Array Word} {i : Nat} (h : getW bm i ≠ 0) : i < bm.size := by
  by_cases hs : i < bm.size
  · exact hs
  · exact absurd (getW_of_size_le bm i (by omega)) h

/-- Writing back `old &&& m` is the same inside and outside the slice (outside, `old = 0`). -/
theorem getW_setW_and (bm : Array Word) (i : Nat) (m : Word) (j : Nat) :
    getW (setW bm i (getW bm i &&& m)) j = if i = j then getW bm i &&& m else getW bm j := by
  rw [getW_setW]
  by_cases h : i = j
  · subst h
    by_cases hs : i < bm.size
    · simp [hs]
    · simp [hs, getW_of_size_le bm i (by omega)]
  · simp [h]

theorem bit_def (bm : Array Word) (i : Nat) : bit bm i = (getW bm (i / 64)).getLsbD (i % 64) := rfl

theorem bit_of_size_le (bm : Array Word) (i : Nat) (h : bm.size ≤ i / 64) : bit bm i = false := by
  simp [bit_def, getW_of_size_le bm _ h]

/-- Two bitmaps with the same words have the same bits. -/
theorem bit_congr {bm bm' : Array Word} (i : Nat) (h : getW bm' (i / 64) = getW bm (i / 64)) :
    bit bm' i = bit bm i := by
  simp [bit_def, h]

/-- bit `i` written as word index / position -/
theorem bit_at (bm : Array Word) (k j : Nat) (hj : j < 64) : bit bm (k * 64 + j) = (getW bm k).getLsbD j := by
  have h1 : (k * 64 + j) / 64 = k := by omega
  have h2 : (k * 64 + j) % 64 = j := by omega
  simp [bit_def, h1, h2]

/-- Every bit index is `k * 64 + j` with `j < 64`: statements about all bits are proved word by
word, where the arithmetic is linear. -/
theorem forall_bit {P : Nat → Prop} (h : ∀ k j, j < 64 → P (k * 64 + j)) (i : Nat) : P i := by
  have := h (i / 64) (i % 64) (Nat.mod_lt _ (by decide))
  rwa [Nat.div_add_mod'] at this

theorem run_mem {lo hi i : Nat} (h : lo ≤ i ∧ i < hi) : (decide (lo ≤ i) && decide (i < hi)) = true := by
  rw [decide_eq_true h.1, decide_eq_true h.2]; rfl

theorem run_not_mem {lo hi i : Nat} (h : i < lo ∨ hi ≤ i) : (decide (lo ≤ i) && decide (i < hi)) = false := by
  rcases h with h | h
  · rw [decide_eq_false (Nat.not_le_of_lt h)]; rfl
  · rw [decide_eq_false (Nat.not_lt_of_le h), Bool.and_false]

theorem split_bit_index (i : Nat) : ∃ k j, j < 64 ∧ i = k * 64 + j :=
  ⟨_, _, Nat.mod_lt _ (by decide), (Nat.div_add_mod' _ 64).symm⟩

theorem word_of_index {k j : Nat} (hj : j < 64) : (k * 64 + j) / 64 = k ∧ (k * 64 + j) % 64 = j := by omega

theorem bits_of_getW_eq_zero {bm : Array Word} {i : Nat} (h : getW bm (i / 64) = 0) : bit bm i = false := by
  simp [bit_def, h]

/-! ## Writing a run of bits, and a run of equal bits

Every state change of the allocator overwrites a run of bits with one value (`Wr`), every precondition
says that a run of bits has one value (`Run`); both are stated for the bit view and compose along a run
that goes from the rest of one word over whole words into the head of the next (`Wr.trans`,
`Run.append`, `Wr.run_after`).  A run inside one word is given by the word's index and the position in
it, with the equation `lo = index * 64 + s` as a hypothesis, so that the caller chooses the form of `lo`
in which its runs line up (`word_after`). -/

/-- `bm'` is `bm` with the `n` bits from `lo` overwritten by `v`. -/
def Wr (v : Bool) (lo n : Nat) (bm bm' : Array Word) : Prop :=
  ∀ i, bit bm' i = if lo ≤ i ∧ i < lo + n then v else bit bm i

/-- the `n` bits of `bm` from `lo` are all `v` -/
def Run (v : Bool) (lo n : Nat) (bm : Array Word) : Prop :=
  ∀ i, lo ≤ i → i < lo + n → bit bm i = v

theorem Wr.nil (v : Bool) (lo : Nat) (bm : Array Word) : Wr v lo 0 bm bm := fun i => by rw [if_neg (by omega)]

theorem Run.nil (v : Bool) (lo : Nat) (bm : Array Word) : Run v lo 0 bm := fun i i1 i2 => by omega

theorem Wr.trans {v : Bool} {lo n m : Nat} {bm bm1 bm2 : Array Word}
    (h1 : Wr v lo n bm bm1) (h2 : Wr v (lo + n) m bm1 bm2) : Wr v lo (n + m) bm bm2 := by
  intro i
  rw [h2 i, h1 i]
  by_cases c2 : lo + n ≤ i ∧ i < lo + n + m
  · rw [if_pos c2, if_pos (by omega)]
  · rw [if_neg c2]
    by_cases c1 : lo ≤ i ∧ i < lo + n
    · rw [if_pos c1, if_pos (by omega)]
    · rw [if_neg c1, if_neg (by omega)]

theorem Run.append {v : Bool} {lo n m : Nat} {bm : Array Word} (h1 : Run v lo n bm) (h2 : Run v (lo + n) m bm) :
    Run v lo (n + m) bm := fun i i1 i2 => by
  by_cases c : i < lo + n
  · exact h1 i i1 c
  · exact h2 i (by omega) (by omega)

theorem Run.take {v : Bool} {lo n n' : Nat} {bm : Array Word} (h : Run v lo n bm) (hn : n' ≤ n) : Run v lo n' bm :=
  fun i i1 i2 => h i i1 (Nat.lt_of_lt_of_le i2 (Nat.add_le_add_left hn lo))

/-- the part of a run that follows its first `n` bits -/
theorem Run.rest {v : Bool} {lo n m : Nat} {bm : Array Word} (h : Run v lo (n + m) bm) : Run v (lo + n) m bm :=
  fun i i1 i2 => h i (by omega) (by omega)

/-- A write does not touch what lies after it: runs there hold before iff after. -/
theorem Wr.run_after {v b : Bool} {lo n m : Nat} {bm bm' : Array Word} (h : Wr v lo n bm bm') :
    Run b (lo + n) m bm' ↔ Run b (lo + n) m bm := by
  constructor <;> intro hr i i1 i2 <;> have := h i <;> rw [if_neg (by omega)] at this
  · rw [← this]; exact hr i i1 i2
  · rw [this]; exact hr i i1 i2

/-- a write below `n` leaves the bits from `n` upwards alone -/
theorem Wr.tail {v : Bool} {n lo count : Nat} {bm bm' : Array Word} (h : Wr v lo count bm bm')
    (hr : lo + count ≤ n) (ht : ∀ i, n ≤ i → bit bm i = false) : ∀ i, n ≤ i → bit bm' i = false :=
  fun i hi => by rw [h i, if_neg (by omega)]; exact ht i hi

/-- One word replaced by `w`, whose bits are `v` on `[s, s+a)` and the old ones elsewhere. -/
theorem Wr.word {v : Bool} {bm bm' : Array Word} {lo a : Nat} {w : Word} (index s : Nat) (hlo : lo = index * 64 + s)
    (he : a ≤ 64 - s) (h : ∀ K, getW bm' K = if index = K then w else getW bm K)
    (hw : ∀ j, j < 64 → w.getLsbD j = if s ≤ j ∧ j < s + a then v else (getW bm index).getLsbD j) :
    Wr v lo a bm bm' := by
  subst hlo
  refine forall_bit fun K j hj => ?_
  rw [bit_at _ _ _ hj, bit_at _ _ _ hj, h]
  by_cases c : index = K
  · subst c
    rw [if_pos rfl, hw j hj]
    by_cases c2 : s ≤ j ∧ j < s + a
    · rw [if_pos c2, if_pos (by omega)]
    · rw [if_neg c2, if_neg (by omega)]
  · rw [if_neg c, if_neg (by omega)]

/-- a run inside one word, read from the word -/
theorem Run.word {v : Bool} {bm : Array Word} {lo a : Nat} (index s : Nat) (hlo : lo = index * 64 + s)
    (hsa : a ≤ 64 - s) (hf : ∀ j, s ≤ j → j < s + a → (getW bm index).getLsbD j = v) : Run v lo a bm := by
  subst hlo
  refine forall_bit fun K j hj i1 i2 => ?_
  obtain ⟨rfl, hsj, hjs⟩ : K = index ∧ s ≤ j ∧ j < s + a := by omega
  rw [bit_at _ _ _ hj]
  exact hf j hsj hjs

/-- ... and back -/
theorem Run.getLsbD {v : Bool} {bm : Array Word} {lo a : Nat} (h : Run v lo a bm) (index s : Nat)
    (hlo : lo = index * 64 + s) {j : Nat} (hj : j < 64) (h1 : s ≤ j) (h2 : j < s + a) :
    (getW bm index).getLsbD j = v := by
  subst hlo
  rw [← bit_at _ _ _ hj]; exact h _ (by omega) (by omega)

/-- and-ing word `index` with a mask whose zero bits are `[s, s+a)` clears that run -/
theorem Wr.andMask {bm : Array Word} {lo a : Nat} {mask : Word} (index s : Nat) (hlo : lo = index * 64 + s)
    (hsa : a ≤ 64 - s) (hm : ∀ j, j < 64 → mask.getLsbD j = !(decide (s ≤ j) && decide (j < s + a))) :
    Wr false lo a bm (setW bm index (getW bm index &&& mask)) :=
  Wr.word index s hlo hsa (getW_setW_and bm index mask) fun j hj => by
    rw [BitVec.getLsbD_and, hm j hj]
    by_cases c : s ≤ j ∧ j < s + a
    · rw [if_pos c, run_mem c]; exact Bool.and_false _
    · rw [if_neg c, run_not_mem (by omega)]; exact Bool.and_true _

/-- a word boundary as position 0 of its word (spelt out: unifying `x` with `?q * 64 + 0` is slow) -/
theorem at_bit0 {lo x : Nat} (h : lo = x) : lo = x + 0 := h

/-- the word after a run that ends word `q` together with `k` whole words -/
theorem word_after (q : Nat) {s a : Nat} (h : s + a = 64) (k : Nat) : q * 64 + s + (a + 64 * k) = (q + 1 + k) * 64 := by
  omega

end BbRe.Lemmas.Bitmap
