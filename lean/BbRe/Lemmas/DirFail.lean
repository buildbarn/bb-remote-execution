import BbRe.Lemmas.DirOps
/-!
Operations that fail, and operations that only read, change nothing except
that lazily defined directories they had to look into are now materialised
(`Mats`, by `step_outcome` and `exec_readOnly` of `DirOps.lean`).  What that leaves
untouched is `OnlyMat s s'`: every already materialised directory of `s` is literally
unchanged in `s'`; no invariant is needed for it.
-/
namespace BbRe.Lemmas.Dir
open BbRe.Dir

def OnlyMat (s s' : Store) : Prop :=
  s.dirs.length ≤ s'.dirs.length ∧ ∀ d, d < s.dirs.length → (s.dir d).lazy = none → s'.dir d = s.dir d

theorem OnlyMat.refl (s : Store) : OnlyMat s s := ⟨Nat.le_refl _, fun _ _ _ => rfl⟩

theorem OnlyMat.trans {a b c : Store} (h1 : OnlyMat a b) (h2 : OnlyMat b c) : OnlyMat a c := by
  refine ⟨Nat.le_trans h1.1 h2.1, ?_⟩
  intro d hd hl
  have e1 := h1.2 d hd hl
  rw [h2.2 d (by have := h1.1; omega) (by rw [e1]; exact hl), e1]

theorem attachInitial_frame (P : Params) (d : Nat) :
    ∀ (cs : List (Nat × TChild)) (s s' : Store), attachInitial P d cs s = some s' →
      s.dirs.length ≤ s'.dirs.length ∧ ∀ d', d' ≠ d → d' < s.dirs.length → s'.dir d' = s.dir d'
  | [], s, s', he => by
    simp [attachInitial] at he; subst he
    exact ⟨Nat.le_refl _, fun _ _ _ => rfl⟩
  | (name, tc) :: rest, s, s', he => by
    unfold attachInitial at he
    simp only [] at he
    split at he
    · cases he
    · cases tc with
      | leaf l =>
        have r := attachInitial_frame P d rest _ s' he
        have hlen : ((s.modDir d (fun x => x.attach name (P.normalize name) (Child.leaf l))).link l).dirs.length =
            s.dirs.length := by rw [dirs_link, dirs_modDir, List.length_set]
        exact ⟨hlen ▸ r.1, fun d' hne hlt =>
          (r.2 d' hne (hlen ▸ hlt)).trans ((dir_link _ l d').trans (dir_modDir_ne s d d' _ (Ne.symm hne)))⟩
      | dir t =>
        have r := attachInitial_frame P d rest _ s' he
        have hlen : ((s.pushDir { lazy := some t, fs := (s.dir d).fs }).modDir d
            (fun x => x.attach name (P.normalize name) (Child.dir s.dirs.length))).dirs.length = s.dirs.length + 1 := by
          rw [dirs_modDir, List.length_set, dirs_pushDir, List.length_append]; rfl
        exact ⟨Nat.le_trans (by rw [hlen]; exact Nat.le_succ _) r.1, fun d' hne hlt =>
          (r.2 d' hne (by rw [hlen]; exact Nat.lt_succ_of_lt hlt)).trans
            ((dir_modDir_ne _ d d' _ (Ne.symm hne)).trans (dir_pushDir_lt s _ d' hlt))⟩

theorem materialize_onlyMat {P : Params} {s s1 : Store} {d : Nat} (he : materialize P s d = .ok s1) : OnlyMat s s1 := by
  unfold materialize at he
  split at he
  · cases he; exact OnlyMat.refl s
  · rename_i t hl
    split at he
    · cases he
    · split at he
      · rename_i s' hs'
        cases he
        have r := attachInitial_frame P d _ _ _ hs'
        refine ⟨by have := r.1; simpa using this, ?_⟩
        intro d' hd' hl'
        have hne : d' ≠ d := by intro e; subst e; rw [hl] at hl'; cases hl'
        rw [r.2 d' hne (by simpa using hd'), dir_modDir_ne s d d' _ (fun e => hne e.symm)]
      · cases he

theorem Mats.onlyMat {P : Params} {s s' : Store} (h : Mats P s s') : OnlyMat s s' := by
  induction h with
  | refl => exact OnlyMat.refl _
  | step _ he ih => exact ih.trans (materialize_onlyMat he)

/-- An operation that does not return OK has only materialised directories. -/
theorem step_fail (P : Params) (s : Store) (op : Op) :
    (step P s op).2.status = .ok ∨ Mats P s (step P s op).1 :=
  (step_outcome P s op).fail

end BbRe.Lemmas.Dir
