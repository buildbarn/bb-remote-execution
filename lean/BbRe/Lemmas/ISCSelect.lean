import BbRe.Model.ISC
import BbRe.Lemmas.ISCStoch
/-!
Helper lemmas for C07 (b): the random selection loop of `Select` picks the strategy
whose half-open interval of cumulative probability contains the draw.
-/
namespace BbRe.Lemmas.ISC
open BbRe.ISC

/-- Cumulative probability of the first `k` strategies. -/
def prefixSum (ss : List Strategy) (k : Nat) : Rat := sumRat ((probs ss).take k)

theorem prefixSum_zero (ss : List Strategy) : prefixSum ss 0 = 0 := rfl

theorem prefixSum_cons_succ (a : Strategy) (ss : List Strategy) (k : Nat) :
    prefixSum (a :: ss) (k + 1) = a.prob + prefixSum ss k := rfl

theorem prefixSum_mono (ss : List Strategy) (hnn : ∀ s ∈ ss, 0 ≤ s.prob) (i j : Nat) (hij : i ≤ j) :
    prefixSum ss i ≤ prefixSum ss j := by
  have hp : ∀ x ∈ (probs ss).take j, 0 ≤ x := by
    intro x hx
    obtain ⟨s, hs, rfl⟩ := List.mem_map.mp (List.mem_of_mem_take hx)
    exact hnn s hs
  have := sumRat_take_le _ hp i
  rwa [List.take_take, Nat.min_eq_left hij] at this

/-- What `pick` returns: the index `k + i` of a strategy whose interval contains the draw,
or nothing when the draw is at least the total probability. -/
theorem pick_interval (ss : List Strategy) : ∀ (k : Nat) (r : Rat), 0 ≤ r →
    (∀ j s, pick ss k r = some (j, s) →
      ∃ i, j = k + i ∧ ss[i]? = some s ∧ prefixSum ss i ≤ r ∧ r < prefixSum ss (i + 1)) ∧
    (pick ss k r = none → prefixSum ss ss.length ≤ r) := by
  induction ss with
  | nil => exact fun k r h0 => ⟨fun _ _ h => (nomatch h), fun _ => h0⟩
  | cons a ss ih =>
    intro k r h0
    unfold pick
    split
    · rename_i hlt
      refine ⟨fun j s h => ?_, fun h => nomatch h⟩
      cases h
      exact ⟨0, rfl, rfl, h0, by rwa [prefixSum_cons_succ, prefixSum_zero, Rat.add_zero]⟩
    · rename_i hge
      -- the loop goes on with the draw shifted by `a.prob`
      have ih := ih (k + 1) (r - a.prob) ((Rat.le_iff_sub_nonneg _ _).mp (Rat.not_lt.mp hge))
      constructor
      · intro j s h
        obtain ⟨i, hj, hs, h1, h2⟩ := ih.1 j s h
        refine ⟨i + 1, by omega, hs, ?_, ?_⟩
        · rw [prefixSum_cons_succ, Rat.add_comm]; exact Rat.le_sub_iff.mp h1
        · rw [prefixSum_cons_succ, Rat.add_comm]; exact Rat.sub_lt_iff.mp h2
      · intro h
        rw [List.length_cons, prefixSum_cons_succ, Rat.add_comm]
        exact Rat.le_sub_iff.mp (ih.2 h)

/-- The intervals are disjoint: at most one index can contain the draw. -/
theorem interval_unique (ss : List Strategy) (hnn : ∀ s ∈ ss, 0 ≤ s.prob) (r : Rat) (i j : Nat)
    (hi : prefixSum ss i ≤ r ∧ r < prefixSum ss (i + 1))
    (hj : prefixSum ss j ≤ r ∧ r < prefixSum ss (j + 1)) : i = j := by
  rcases Nat.lt_trichotomy i j with h | h | h
  · exact absurd hi.2 (Rat.not_lt.mpr (Rat.le_trans (prefixSum_mono ss hnn (i + 1) j h) hj.1))
  · exact h
  · exact absurd hj.2 (Rat.not_lt.mpr (Rat.le_trans (prefixSum_mono ss hnn (j + 1) i h) hi.1))

end BbRe.Lemmas.ISC
