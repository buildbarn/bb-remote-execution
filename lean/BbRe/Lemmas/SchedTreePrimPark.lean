import BbRe.Lemmas.SchedTreePrimIdx
/-!
Parking a worker in `getNextTask` (`parkW`) and `worker.dequeue` (`dequeueW`) preserve the tree invariant
for the addition / removal of one parked worker: they are the walk of `Lemmas/SchedTreePrimIdx.lean` for
`own := parked`, `kids := ikids` and the bag of parked workers.
-/
namespace BbRe.Lemmas.SchedTree
open BbRe.Sched BbRe.SchedTree

variable {X : List (ScqId × List Nat)} {ns : List Node} {E : List EC} {I : List IC} {Q : List QC} {P : List PC}

namespace PrimPark

/-! ### `swapRemove` -/

theorem swap_map_spec {w last : WId} : ∀ {d : List WId}, d.Nodup → last ∉ d →
    (d.map (fun x => if x = w then last else x)).Nodup ∧
      ∀ y, y ∈ d.map (fun x => if x = w then last else x) ↔ (y ∈ d ∧ y ≠ w) ∨ (y = last ∧ w ∈ d) := by
  intro d
  induction d with
  | nil => intro _ _; simp
  | cons a t ih =>
    intro hnd hl
    simp only [List.nodup_cons] at hnd
    simp only [List.mem_cons, not_or] at hl
    obtain ⟨ih1, ih2⟩ := ih hnd.2 hl.2
    simp only [List.map_cons, List.nodup_cons]
    refine ⟨⟨?_, ih1⟩, ?_⟩
    · rw [ih2]
      by_cases haw : a = w
      · subst haw; simp only [if_true]
        rintro (⟨h1, _⟩ | ⟨_, h2⟩)
        · exact hl.2 h1
        · exact hnd.1 h2
      · simp only [haw, if_false]
        rintro (⟨h1, _⟩ | ⟨h1, _⟩)
        · exact hnd.1 h1
        · exact hl.1 h1.symm
    · intro y
      simp only [List.mem_cons, ih2]
      by_cases haw : a = w
      · subst haw; simp only [if_true]
        constructor
        · rintro (e | ⟨h1, h2⟩ | ⟨h1, h2⟩)
          · exact Or.inr ⟨e, Or.inl trivial⟩
          · exact Or.inl ⟨Or.inr h1, h2⟩
          · exact Or.inr ⟨h1, Or.inr h2⟩
        · rintro (⟨h1 | h1, h2⟩ | ⟨h1, h2⟩)
          · exact absurd h1 h2
          · exact Or.inr (Or.inl ⟨h1, h2⟩)
          · exact Or.inl h1
      · simp only [haw, if_false]
        constructor
        · rintro (e | ⟨h1, h2⟩ | ⟨h1, h2⟩)
          · subst e; exact Or.inl ⟨Or.inl rfl, haw⟩
          · exact Or.inl ⟨Or.inr h1, h2⟩
          · exact Or.inr ⟨h1, Or.inr h2⟩
        · rintro (⟨h1 | h1, h2⟩ | ⟨h1, h2 | h2⟩)
          · exact Or.inl h1
          · exact Or.inr (Or.inl ⟨h1, h2⟩)
          · exact absurd h2.symm haw
          · exact Or.inr (Or.inr ⟨h1, h2⟩)

theorem swapRemove_spec {w : WId} {l : List WId} (h : l.Nodup) :
    (swapRemove w l).Nodup ∧ ∀ x, x ∈ swapRemove w l ↔ x ∈ l ∧ x ≠ w := by
  unfold swapRemove
  by_cases hw : w ∈ l
  · simp only [hw, if_true]
    rcases List.eq_nil_or_concat l with e | ⟨d, last, e⟩
    · subst e; cases hw
    · rw [List.concat_eq_append] at e
      subst e
      rw [List.nodup_append] at h
      obtain ⟨hd, _, hdl⟩ := h
      have hld : last ∉ d := fun hm => hdl last hm last (by simp) rfl
      simp only [List.getLast?_concat, List.dropLast_concat]
      by_cases hlw : last = w
      · subst hlw
        simp only [if_true]
        refine ⟨hd, fun x => ?_⟩
        simp only [List.mem_append, List.mem_singleton]
        constructor
        · intro hx; exact ⟨Or.inl hx, fun e => hld (e ▸ hx)⟩
        · rintro ⟨hx | hx, hne⟩
          · exact hx
          · exact absurd hx hne
      · simp only [hlw, if_false]
        have hwd : w ∈ d := by
          rcases List.mem_append.mp hw with e | e
          · exact e
          · simp only [List.mem_singleton] at e; exact absurd e.symm hlw
        obtain ⟨s1, s2⟩ := swap_map_spec (w := w) hd hld
        refine ⟨s1, fun x => ?_⟩
        rw [s2]
        simp only [List.mem_append, List.mem_singleton]
        constructor
        · rintro (⟨h1, h2⟩ | ⟨h1, _⟩)
          · exact ⟨Or.inl h1, h2⟩
          · exact ⟨Or.inr h1, fun e => hlw (h1 ▸ e)⟩
        · rintro ⟨h1 | h1, h2⟩
          · exact Or.inl ⟨h1, h2⟩
          · exact Or.inr ⟨h1, hwd⟩
  · simp only [hw, if_false]
    refine ⟨h, fun x => ?_⟩
    constructor
    · intro hx; exact ⟨hx, fun e => hw (e ▸ hx)⟩
    · exact fun hx => hx.1

end PrimPark
open PrimPark

/-! ### maps that only change `parked` and `ikids` -/

/-- `g` changes nothing but `parked`, `ikids` (and the fields the invariant does not mention) -/
def ParkFrame (g : Node → Node) : Prop :=
  ∀ n, (g n).scq = n.scq ∧ (g n).path = n.path ∧ (g n).qops = n.qops ∧ (g n).qkids = n.qkids ∧
    (g n).exec = n.exec ∧ (g n).idle = n.idle

theorem ParkFrame.keepsKey {g : Node → Node} (hg : ParkFrame g) : KeepsKey g :=
  fun n => ⟨(hg n).1, (hg n).2.1⟩

theorem ParkFrame.comp {g s : Node → Node} (hg : ParkFrame g) (hs : ParkFrame s) :
    ParkFrame (fun n => s (g n)) := by
  intro n
  obtain ⟨a1, a2, a3, a4, a5, a6⟩ := hg n
  obtain ⟨b1, b2, b3, b4, b5, b6⟩ := hs (g n)
  exact ⟨b1.trans a1, b2.trans a2, b3.trans a3, b4.trans a4, b5.trans a5, b6.trans a6⟩

theorem ParkFrame.updNode (ms : List Node) (q : ScqId) (r : List Nat) {f : Node → Node} (hf : ParkFrame f) :
    ∃ g, ParkFrame g ∧ updNode ms q r f = ms.map g := by
  refine ⟨_, fun n => ?_, updNode_eq_map ms q r f⟩
  split
  · exact hf n
  · exact ⟨rfl, rfl, rfl, rfl, rfl, rfl⟩

theorem ParkFrame.isEmptyInv {g : Node → Node} (hg : ParkFrame g) (n : Node) :
    (g n).isEmptyInv = n.isEmptyInv := by
  obtain ⟨_, _, a3, a4, a5, a6⟩ := hg n
  simp only [Node.isEmptyInv, Node.isActive, Node.isQueued, a3, a4, a5, a6]

/-- the invariant after a map that only changes `parked` / `ikids`, for the new bag `P'` of parked workers -/
theorem TreeOK.of_parkFrame (h : TreeOK X ns E I Q P) {g : Node → Node} (hg : ParkFrame g) {P' : List PC}
    (hi : Idx Node.parked Node.ikids (ns.map g) P') (hrP : ∀ c ∈ P', (node? ns c.1 c.2.1).isSome = true)
    (hpi : ∀ c ∈ P', (c.1, c.2.1) ∈ I) : TreeOK X (ns.map g) E I Q P' := by
  apply h.of_map g hg.keepsKey
  · intro n hn k; rw [(hg n).2.2.2.2.1]; exact h.ex n hn k
  · intro n hn; rw [(hg n).2.2.2.2.1]; exact h.exnd n hn
  · intro n hn; rw [(hg n).2.2.2.2.2]; exact h.id n hn
  · intro n hn; rw [(hg n).2.2.1]; exact h.qo n hn
  · intro n hn; rw [(hg n).2.2.2.1]; exact h.qk n hn
  · intro n hn
    have := hi.own (g n) (List.mem_map_of_mem hn)
    rw [(hg n).1, (hg n).2.1] at this; exact this
  · intro n hn
    have := hi.kids (g n) (List.mem_map_of_mem hn)
    rw [(hg n).1, (hg n).2.1] at this; exact this
  · intro n hn hp hx; rw [hg.isEmptyInv]; exact h.ne n hn hp hx
  · exact h.rfE
  · exact h.rfI
  · exact h.rfQ
  · exact hrP
  · exact hpi

/-! ### parking -/

/-- parking in `getNextTask` (`idleSynchronizingWorkers.enqueue` + the `heapPushOrFix` loop): worker `w`
is now parked at `(q, p)` -/
theorem parkW_ok (h : TreeOK X ns E I Q P) (q : ScqId) (p : List Nat) (w : WId)
    (hn : (node? ns q p).isSome = true) (hI : (q, p) ∈ I) (hw : (q, p, w) ∉ P) :
    TreeOK X (parkW ns q p w) E I Q ((q, p, w) :: P) := by
  obtain ⟨⟨g, hg, e⟩, hfin⟩ := fold_frame (ns := ns) (F := ParkFrame) (fun _ _ => ParkFrame.comp) (step := parkStep q)
    (S := Stage Node.parked Node.ikids q p P ((q, p, w) :: P)) (fun ms r k0 _ hs => by
      unfold parkStep
      rw [List.dropLast_concat, lastKey_concat]
      exact ⟨ParkFrame.updNode ms q r fun _ => ⟨rfl, rfl, rfl, rfl, rfl, rfl⟩,
        hs.step_upd _ (fun _ => ⟨rfl, rfl⟩) (fun _ => rfl) fun m hm _ _ =>
          hs.hat_insk ⟨(q, p, w), List.mem_cons_self, rfl, List.prefix_refl _⟩ hm⟩) p
    (Stage.init_cons h.idxP (fun n => { n with parked := n.parked ++ [w] }) (fun _ => ⟨rfl, rfl⟩) (fun _ => rfl) hw
      fun _ => rfl)
    (ParkFrame.updNode ns q p fun _ => ⟨rfl, rfl, rfl, rfl, rfl, rfl⟩)
  unfold parkW
  rw [e]
  refine h.of_parkFrame hg (e ▸ hfin.final) (fun c hc => ?_) (fun c hc => ?_)
  · rcases List.mem_cons.mp hc with e | e
    · subst e; exact hn
    · exact h.rfP c e
  · rcases List.mem_cons.mp hc with e | e
    · subst e; exact hI
    · exact h.pi c e

/-! ### dequeueing -/

/-- `worker.dequeue`: worker `w` is no longer parked at `(q, p)` -/
theorem dequeueW_ok (h : TreeOK X ns E I Q P) (q : ScqId) (p : List Nat) (w : WId)
    (hc : (q, p, w) ∈ P) (h1 : (q, p, w) ∉ P.erase (q, p, w)) :
    TreeOK X (dequeueW ns q p w) E I Q (P.erase (q, p, w)) := by
  obtain ⟨⟨g, hg, e⟩, hfin⟩ := fold_frame (ns := ns) (F := ParkFrame) (fun _ _ => ParkFrame.comp) (step := unparkStep q)
    (S := Stage Node.parked Node.ikids q p P (P.erase (q, p, w))) (fun ms r k0 hfr hs => by
      obtain ⟨g, hg, rfl⟩ := hfr
      obtain ⟨i, hi⟩ := h.node?_map_prefix (h.rfP _ hc) hs.pre hg.keepsKey
      obtain ⟨him, hiq, hip⟩ := node?_some hi
      have hd := hs.dead_iff him hiq hip
      unfold unparkStep
      rw [hi]
      dsimp only
      by_cases hdead : (i.parked.isEmpty && i.ikids.isEmpty) = true
      · rw [if_pos hdead, List.dropLast_concat, lastKey_concat]
        exact ⟨ParkFrame.updNode _ q r fun _ => ⟨rfl, rfl, rfl, rfl, rfl, rfl⟩,
          hs.step_upd _ (fun _ => ⟨rfl, rfl⟩) (fun _ => rfl) fun m hm _ _ => hs.hat_erase (hd.mp hdead) hm⟩
      · rw [if_neg hdead]
        have hid : ∀ l : List Node, l = l.map (fun n => n) := fun l => (List.map_id' l).symm
        refine ⟨⟨_, fun _ => ⟨rfl, rfl, rfl, rfl, rfl, rfl⟩, hid _⟩, ?_⟩
        rw [hid (List.map g ns)]
        exact hs.step _ (fun _ => ⟨rfl, rfl⟩) (fun _ => rfl) (fun _ _ _ => rfl) fun m hm hq hp =>
          hs.hat_keep (fun c hc' => List.mem_of_mem_erase hc') (Classical.not_not.mp fun x => hdead (hd.mpr x)) hm hq hp)
    p
    (Stage.init_erase h.idxP (fun n => { n with parked := swapRemove w n.parked }) (fun _ => ⟨rfl, rfl⟩) (fun _ => rfl) h1
      fun _ hl => swapRemove_spec hl)
    (ParkFrame.updNode ns q p fun _ => ⟨rfl, rfl, rfl, rfl, rfl, rfl⟩)
  unfold dequeueW
  rw [e]
  exact h.of_parkFrame hg (e ▸ hfin.final) (fun c hc' => h.rfP c (List.mem_of_mem_erase hc'))
    (fun c hc' => h.pi c (List.mem_of_mem_erase hc'))

end BbRe.Lemmas.SchedTree
