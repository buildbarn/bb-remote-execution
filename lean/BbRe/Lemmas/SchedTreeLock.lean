import BbRe.Lemmas.SchedTreeRefine
/-!
On reachable states of the tree layer the ghost log `TState.decisions` is parallel to `Sched.State.assigned`
and every logged decision was admissible for the tree it records: `LockStep` (`tstep_lock`) summed over a run.
-/
namespace BbRe.Lemmas.SchedTree
open BbRe.Sched BbRe.SchedTree

/-- the log of decisions is parallel to `assigned`, and every decision was admissible -/
def Lock (ts : TState) : Prop := ts.decisions.map dkey = ts.s.assigned ∧ ∀ d ∈ ts.decisions, DAdm d

theorem Lock.step {ts ts' : TState} (h : Lock ts) (hs : LockStep ts ts') : Lock ts' := by
  obtain ⟨ds, e1, e2, e3⟩ := hs
  refine ⟨by rw [e1, e2, List.map_append, h.1], ?_⟩
  intro d hd
  rw [e1] at hd
  rcases List.mem_append.mp hd with h' | h'
  · exact e3 d h'
  · exact h.2 d h'

theorem lock_reachable {ts : TState} (h : TReachable ts) : Lock ts := by
  induction h with
  | init cfg => exact ⟨rfl, by intro d hd; cases hd⟩
  | step g _ hs ih => exact ih.step (tstep_lock hs)

end BbRe.Lemmas.SchedTree
