import BbRe.Lemmas.FairDynLevel
/-!
`heaps_stay_ordered` at the model level: every update function of the dynamic C04 model maps
trees whose `queuedOperations` / `queuedChildren` heaps satisfy the heap property (`HeapTree`) to
such trees — because each key change is followed by `heapMaybeFix` / `heapPushOrFix` /
`heapRemoveOrFix` exactly where the code calls them.  Trees of any shape, paths of any length.
-/
namespace BbRe.Lemmas.Fair
open BbRe.Fair BbRe.GoHeap BbRe.Lemmas.GoHeap

/-! ### what `HeapTree` and `hasQueued` read -/

theorem queuedNodes_congr (i j : Inv) (hk : j.kids = i.kids) (hq : j.queued = i.queued) :
    queuedNodes j = queuedNodes i := by unfold queuedNodes; rw [hk, hq]

theorem qOk_congr (i j : Inv) (hk : j.kids = i.kids) (hq : j.queued = i.queued) (ho : j.ops = i.ops)
    (h : QOk i) : QOk j :=
  .of_listed hk hq h.listed (ho ▸ h.opsHeap) (queuedNodes_congr i j hk hq ▸ h.kidsHeap)

theorem heapTree_congr (i j : Inv) (hk : j.kids = i.kids) (hq : j.queued = i.queued) (ho : j.ops = i.ops)
    (h : HeapTree i) : HeapTree j := by
  rw [heapTree_iff] at h ⊢
  exact ⟨qOk_congr i j hk hq ho h.1, by rw [hk]; exact h.2⟩

theorem hasQueued_congr (i j : Inv) (hk : j.kids = i.kids) (ho : j.ops = i.ops) : j.hasQueued = i.hasQueued := by
  rw [hasQueued_eq, hasQueued_eq, hk, ho]

theorem updateFirst_fields (i : Inv) :
    (updateFirstOperationPriority i).key = i.key ∧ (updateFirstOperationPriority i).kids = i.kids ∧
    (updateFirstOperationPriority i).queued = i.queued ∧ (updateFirstOperationPriority i).ops = i.ops ∧
    (updateFirstOperationPriority i).exec = i.exec ∧ (updateFirstOperationPriority i).started = i.started ∧
    (updateFirstOperationPriority i).parked = i.parked ∧ (updateFirstOperationPriority i).parkedKids = i.parkedKids := by
  unfold updateFirstOperationPriority
  split
  · simp
  · split <;> simp

theorem updateFirst_noop (i : Inv) (ho : i.ops = []) (hq : i.queued = []) : updateFirstOperationPriority i = i := by
  unfold updateFirstOperationPriority; rw [ho, hq]

theorem map_eq_self {α : Type} (f : α → α) (l : List α) (h : ∀ d ∈ l, f d = d) : l.map f = l :=
  (List.map_congr_left h).trans (List.map_id l)

theorem any_congr_mem {α : Type} (f g : α → Bool) : ∀ (l : List α), (∀ d ∈ l, f d = g d) → l.any f = l.any g
  | [], _ => rfl
  | a :: l, h => by
    rw [List.any_cons, List.any_cons, h a List.mem_cons_self,
      any_congr_mem f g l fun d hd => h d (List.mem_cons_of_mem _ hd)]

theorem any_replaceKid (kids : List Inv) (c c'' : Inv) (hn : (kids.map Inv.key).Nodup) (hc : c ∈ kids)
    (hk : c''.key = c.key) (f : Inv → Bool) :
    (replaceKid kids c'').any f = ((kids.any fun d => d.key != c.key && f d) || f c'') := by
  induction kids with
  | nil => cases hc
  | cons a kids ih =>
    rw [List.map_cons, List.nodup_cons] at hn
    unfold replaceKid at ih ⊢
    rw [List.map_cons, List.any_cons, List.any_cons]
    rcases List.mem_cons.mp hc with rfl | hc'
    · -- the head is the child; no other kid has its key
      rw [if_pos hk.symm]
      have htail : (kids.map fun d => if d.key = c''.key then c'' else d) = kids := by
        apply map_eq_self
        intro d hd
        rw [if_neg]
        intro hdk
        exact hn.1 (List.mem_map.mpr ⟨d, hd, by rw [hdk, hk]⟩)
      have hany : (kids.any fun d => d.key != c.key && f d) = kids.any f := by
        apply any_congr_mem
        intro d hd
        have : d.key ≠ c.key := fun hdk => hn.1 (List.mem_map.mpr ⟨d, hd, hdk⟩)
        simp [this]
      rw [htail, hany]
      simp [Bool.or_comm]
    · have hak : a.key ≠ c.key := fun h => hn.1 (List.mem_map.mpr ⟨c, hc', h.symm⟩)
      rw [if_neg (by rw [hk]; exact hak), ih hn.2 hc']
      have : (a.key != c.key) = true := by simpa using hak
      rw [this, Bool.true_and, Bool.or_assoc]

theorem any_kids_split (kids : List Inv) (c : Inv) (hn : (kids.map Inv.key).Nodup) (hc : c ∈ kids)
    (f : Inv → Bool) : kids.any f = ((kids.any fun d => d.key != c.key && f d) || f c) := by
  have := any_replaceKid kids c c hn hc rfl f
  have hid : replaceKid kids c = kids := by
    unfold replaceKid
    apply map_eq_self
    intro d hd
    split
    · rename_i h
      exact (kid_unique kids hn c d hc hd h).symm
    · rfl
  rw [hid] at this
  exact this

/-- Replacing a child by one with the same `hasQueued` does not change the parent's. -/
theorem hasQueued_storeKid (P c c'' : Inv) (hn : (P.kids.map Inv.key).Nodup) (hc : c ∈ P.kids)
    (hk : c''.key = c.key) (hq : c''.hasQueued = c.hasQueued) (j : Inv)
    (hjk : j.kids = replaceKid P.kids c'') (hjo : j.ops = P.ops) : j.hasQueued = P.hasQueued := by
  rw [hasQueued_eq, hasQueued_eq, hjk, hjo, any_replaceKid P.kids c c'' hn hc hk,
    any_kids_split P.kids c hn hc Inv.hasQueued, hq]

theorem hasQueued_of_kid (P c : Inv) (hc : c ∈ P.kids) (hq : c.hasQueued = true) : P.hasQueued = true := by
  rw [hasQueued_eq]
  simp only [Bool.or_eq_true, List.any_eq_true]
  exact Or.inr ⟨c, hc, hq⟩

theorem heapTree_of_level (P c'' N : Inv) (hP : HeapTree P) (hc'' : HeapTree c'') (hN : QOk N)
    (hNk : N.kids = replaceKid P.kids c'') : HeapTree N := by
  rw [heapTree_iff]
  rw [hNk]
  exact ⟨hN, forall_mem_replaceKid ((heapTree_iff P).mp hP).2 hc''⟩

theorem updatePath_cons (leaf : Inv → Inv) (up : Inv → Inv → Inv) (k : Nat) (p : List Nat) (t c : Inv)
    (h : t.child k = some c) : updatePath leaf up (k :: p) t = up t (updatePath leaf up p c) := by
  simp only [updatePath, h]

theorem nodeAt_cons_some {t c : Inv} {k : Nat} (p : List Nat) (h : t.child k = some c) :
    nodeAt t (k :: p) = nodeAt c p := by simp only [nodeAt, h]

theorem nodeAt_cons_none {t : Inv} {k : Nat} (p : List Nat) (h : t.child k = none) : nodeAt t (k :: p) = none := by
  simp only [nodeAt, h]

theorem HeapTree.child {t c : Inv} {k : Nat} (h : HeapTree t) (hck : t.child k = some c) : HeapTree c :=
  ((heapTree_iff t).mp h).2 c (mem_of_child t k c hck).1

/-- Induction along the walk from the invocation at `path` up to the root: `Q old new` holds at
every level if the first step establishes it, a path that leaves the tree yields it, and every
upper level passes it on; `Pre` is what is known of the tree on the way down. -/
theorem updatePath_induct {leaf : Inv → Inv} {up : Inv → Inv → Inv} (Pre : List Nat → Inv → Prop)
    (Q : Inv → Inv → Prop) (hleaf : ∀ t, Pre [] t → Q t (leaf t))
    (hnone : ∀ k p t, Pre (k :: p) t → t.child k = none → Q t t)
    (hdown : ∀ k p t c, Pre (k :: p) t → t.child k = some c → Pre p c)
    (hup : ∀ k p t c c', Pre (k :: p) t → t.child k = some c → Q c c' → Q t (up t c')) :
    ∀ (path : List Nat) (t : Inv), Pre path t → Q t (updatePath leaf up path t) := by
  intro path
  induction path with
  | nil => exact hleaf
  | cons k p ih =>
    intro t ht
    cases hck : t.child k with
    | none =>
      have : updatePath leaf up (k :: p) t = t := by simp only [updatePath, hck]
      rw [this]; exact hnone k p t ht hck
    | some c =>
      rw [updatePath_cons _ _ k p t c hck]
      exact hup k p t c _ ht hck (ih c (hdown k p t c ht hck))

theorem enqueue_nil (o : Op) (t : Inv) : enqueue [] o t = t.setOps (push opLess t.ops.toArray o).toList := rfl

theorem enqueue_spec (o : Op) : ∀ (path : List Nat) (t : Inv), HeapTree t → (nodeAt t path).isSome = true →
    HeapTree (enqueue path o t) ∧ (enqueue path o t).key = t.key ∧ (enqueue path o t).hasQueued = true := by
  intro path t ht hv
  refine updatePath_induct (fun p t => HeapTree t ∧ (nodeAt t p).isSome = true)
    (fun t t' => HeapTree t' ∧ t'.key = t.key ∧ t'.hasQueued = true) ?_ ?_ ?_ ?_ path t ⟨ht, hv⟩
  · rintro t ⟨ht, _⟩
    have hq := (heapTree_iff t).mp ht
    refine ⟨?_, by simp, ?_⟩
    · rw [heapTree_iff, S.setOps_kids]
      refine ⟨.of_listed (S.setOps_kids _ _) (S.setOps_queued _ _) hq.1.listed ?_ ?_, hq.2⟩
      · rw [S.setOps_ops, Array.toArray_toList]
        exact push_heap opLess opLess_strictWeak _ o hq.1.opsHeap
      · rw [queuedNodes_congr t _ (S.setOps_kids _ _) (S.setOps_queued _ _)]; exact hq.1.kidsHeap
    · rw [hasQueued_eq]
      simp only [S.setOps_ops, Bool.or_eq_true, Bool.not_eq_true', List.isEmpty_eq_false_iff]
      left
      intro hnil
      have := congrArg List.length hnil
      simp only [Array.length_toList, push_size, List.size_toArray, List.length_nil] at this
      omega
  · rintro k p t ⟨_, hv⟩ hck
    rw [nodeAt_cons_none p hck] at hv; cases hv
  · rintro k p t c ⟨ht, hv⟩ hck
    exact ⟨ht.child hck, by rwa [nodeAt_cons_some p hck] at hv⟩
  · rintro k p t c c' ⟨ht, _⟩ hck ⟨hc't, hc'k, hc'q⟩
    obtain ⟨hcmem, hckey⟩ := mem_of_child t k c hck
    have hq := (heapTree_iff t).mp ht
    obtain ⟨fk, fkids, fq, fo, _⟩ := updateFirst_fields c'
    have hc''t : HeapTree (updateFirstOperationPriority c') := heapTree_congr c' _ fkids fq fo hc't
    have hc''k : (updateFirstOperationPriority c').key = c.key := by rw [fk, hc'k]
    have hc''q : (updateFirstOperationPriority c').hasQueued = true := by
      rw [hasQueued_congr c' _ fkids fo]; exact hc'q
    unfold upEnqueue
    simp only []
    have hN : QOk ((storeKid t (updateFirstOperationPriority c')).setQueued
        (pushOrFix (qLess (storeKid t (updateFirstOperationPriority c')).kids) t.queued.toArray
          (refIndex t.queued (updateFirstOperationPriority c').key) (updateFirstOperationPriority c').key).toList) := by
      rw [hc''k]
      cases hidx : refIndex t.queued c.key with
      | none =>
        unfold pushOrFix
        simp only [storeKid, S.setKids_kids]
        rw [← hc''k]
        exact qOk_push t c _ hq.1 hcmem hc''k hidx hc''q
      | some idx =>
        unfold pushOrFix
        simp only [storeKid, S.setKids_kids]
        exact qOk_fix t c _ hq.1 hcmem hc''k idx hidx hc''q
    refine ⟨heapTree_of_level t _ _ ht hc''t hN (by simp [storeKid]), by simp [storeKid], ?_⟩
    apply hasQueued_of_kid _ (updateFirstOperationPriority c') _ hc''q
    simp only [storeKid, S.setQueued_eq, S.setKids_eq, Inv.kids.eq_1]
    exact (mem_replaceKid _ _ _).mpr (Or.inl ⟨rfl, c, hcmem, hc''k.symm⟩)

theorem hasQueued_of_path (p : List Nat) (c n : Inv) (h : nodeAt c p = some n) (hne : n.ops ≠ []) :
    c.hasQueued = true := by
  refine nodeAt_induct_up (·.hasQueued = true)
    (fun t k d hd hq => hasQueued_of_kid t d (mem_of_child t k d hd).1 hq) p c n h ?_
  rw [hasQueued_eq]
  cases hops : n.ops with
  | nil => exact absurd hops hne
  | cons _ _ => rfl

theorem removeQueued_nil (idx : Nat) (t : Inv) :
    removeQueued [] idx t = t.setOps (remove opLess t.ops.toArray idx).1.toList := rfl

theorem isQueued_false_iff (i : Inv) : i.isQueued = false ↔ i.ops = [] ∧ i.queued = [] := by
  unfold Inv.isQueued
  cases i.ops <;> cases i.queued <;> simp

theorem isQueued_iff_count (i : Inv) : i.isQueued = true ↔ 0 < i.queued.length + i.ops.length := by
  unfold Inv.isQueued
  cases i.ops <;> cases i.queued <;> simp <;> omega

theorem removeQueued_spec (idx : Nat) : ∀ (path : List Nat) (t n : Inv), HeapTree t → nodeAt t path = some n →
    idx < n.ops.length →
    HeapTree (removeQueued path idx t) ∧ (removeQueued path idx t).key = t.key ∧ KeyEq (removeQueued path idx t) t := by
  intro path t n ht hn hidx
  refine updatePath_induct (fun p t => HeapTree t ∧ nodeAt t p = some n)
    (fun t t' => HeapTree t' ∧ t'.key = t.key ∧ KeyEq t' t) ?_ ?_ ?_ ?_ path t ⟨ht, hn⟩
  · rintro t ⟨ht, hn⟩
    simp only [nodeAt, Option.some.injEq] at hn
    subst hn
    have hq := (heapTree_iff t).mp ht
    refine ⟨?_, by simp, by simp, by simp, by simp⟩
    rw [heapTree_iff, S.setOps_kids]
    refine ⟨.of_listed (S.setOps_kids _ _) (S.setOps_queued _ _) hq.1.listed ?_ ?_, hq.2⟩
    · rw [S.setOps_ops, Array.toArray_toList]
      exact (remove_spec opLess opLess_strictWeak _ idx hidx hq.1.opsHeap).2.2
    · rw [queuedNodes_congr t _ (S.setOps_kids _ _) (S.setOps_queued _ _)]; exact hq.1.kidsHeap
  · rintro k p t ⟨_, hn⟩ hck
    rw [nodeAt_cons_none p hck] at hn; cases hn
  · rintro k p t c ⟨ht, hn⟩ hck
    exact ⟨ht.child hck, by rwa [nodeAt_cons_some p hck] at hn⟩
  · rintro k p t c c' ⟨ht, hn⟩ hck ⟨hc't, hc'k, hc'e⟩
    have hnc : nodeAt c p = some n := by rwa [nodeAt_cons_some p hck] at hn
    obtain ⟨hcmem, hckey⟩ := mem_of_child t k c hck
    have hq := (heapTree_iff t).mp ht
    have hcq : c.hasQueued = true := hasQueued_of_path p c n hnc (by
      intro h; rw [h] at hidx; simp at hidx)
    obtain ⟨fk, fkids, fq, fo, fe, fs, _⟩ := updateFirst_fields c'
    have hc''t : HeapTree (updateFirstOperationPriority c') := heapTree_congr c' _ fkids fq fo hc't
    have hc''k : (updateFirstOperationPriority c').key = c.key := by rw [fk, hc'k]
    have hwf : WF (updateFirstOperationPriority c') := (wf_iff _).mp hc''t.wf
    have hiq := isQueued_eq_hasQueued _ hwf
    have hkin : c.key ∈ t.queued := hq.1.qsup c hcmem hcq
    unfold upRemove
    simp only []
    rw [hc''k]
    cases hidx' : refIndex t.queued c.key with
    | none => exact absurd hkin ((refIndex_none_iff _ _).mp hidx')
    | some j =>
      simp only []
      have hN : QOk ((storeKid t (updateFirstOperationPriority c')).setQueued
          (removeOrFix (qLess (storeKid t (updateFirstOperationPriority c')).kids) t.queued.toArray j
            ((updateFirstOperationPriority c').queued.length + (updateFirstOperationPriority c').ops.length)).toList) := by
        unfold removeOrFix
        simp only [storeKid, S.setKids_kids]
        split
        · rename_i hcount
          exact qOk_fix t c _ hq.1 hcmem hc''k j hidx' (hiq ▸ (isQueued_iff_count _).mpr hcount)
        · rename_i hcount
          have hb : (updateFirstOperationPriority c').isQueued = false :=
            Bool.eq_false_iff.mpr fun h => hcount ((isQueued_iff_count _).mp h)
          obtain ⟨h1, h2⟩ := (isQueued_false_iff _).mp hb
          apply qOk_remove t c _ hq.1 hcmem hc''k j hidx' (hiq ▸ hb)
          rw [updateFirst_noop c' (fo ▸ h1) (fq ▸ h2)]
          exact hc'e
      exact ⟨heapTree_of_level t _ _ ht hc''t hN (by simp [storeKid]), by simp [storeKid],
        ⟨by simp [storeKid], by simp [storeKid], by simp [storeKid]⟩⟩

/-! ### a child replaced by one with the same keys and the same `hasQueued` -/

theorem mem_queued_iff (P c : Inv) (hP : QOk P) (hc : c ∈ P.kids) : c.key ∈ P.queued ↔ c.hasQueued = true :=
  hP.listed.mem_iff hc

theorem qOk_same (P c c'' N : Inv) (hP : QOk P) (hc : c ∈ P.kids) (hk : c''.key = c.key) (hke : KeyEq c'' c)
    (hq : c''.hasQueued = c.hasQueued) (hNk : N.kids = replaceKid P.kids c'') (hNq : N.queued = P.queued)
    (hNo : N.ops = P.ops) : QOk N := by
  have : QOk ((storeKid P c'').setQueued P.queued) := by
    apply qOk_level P c'' hP _ (hP.listed.same hc hk hq)
    rw [qLess_eq_via, isHeap_via]
    have hA : IsHeap childLess (P.queued.toArray.map (kidOr P.kids)) := by
      rw [← queuedNodes_toArray P hP]; exact hP.kidsHeap
    cases hidx : refIndex P.queued c.key with
    | none =>
      rw [map_kidOr_replace_absent P.kids c'' P.queued (by rw [hk]; exact (refIndex_none_iff _ _).mp hidx)]
      exact hA
    | some idx =>
      rw [map_kidOr_replace_at P.kids c'' c hc hk P.queued hP.qnodup idx hidx]
      apply isHeap_set_keyEq _ idx c'' c _ hke hA
      rw [Array.getElem?_map]
      simp only [List.getElem?_toArray, (refIndex_some _ _ _ hidx).2, Option.map_some]
      exact congrArg some (kidOr_of_child P c.key c (child_of_mem P hP.keys c hc))
  exact qOk_congr _ N (by rw [hNk]; simp [storeKid]) (by rw [hNq]; simp) (by rw [hNo]; simp [storeKid]) this

/-! ### `increment/decrementExecutingWorkersCount` (any change of the executing count and the two
time stamps) -/

/-- `g` changes only `executingWorkers`, `lastOperationStarted`, `lastOperationCompletion`. -/
structure KeyOnly (g : Inv → Inv) : Prop where
  key : ∀ i, (g i).key = i.key
  ops : ∀ i, (g i).ops = i.ops
  queued : ∀ i, (g i).queued = i.queued
  kids : ∀ i, (g i).kids = i.kids
  parked : ∀ i, (g i).parked = i.parked
  parkedKids : ∀ i, (g i).parkedKids = i.parkedKids
  prio : ∀ i, (g i).prio = i.prio

/-- The fields of the parent after one level of `increment/decrementExecutingWorkersCount`. -/
theorem upRekey_fields (legacy : Bool) (g : Inv → Inv) (hg : KeyOnly g) (P c' : Inv) :
    (upRekey legacy g P c').kids = replaceKid P.kids c' ∧ (upRekey legacy g P c').ops = P.ops ∧
    (upRekey legacy g P c').queued =
      (maybeFix (qLess (replaceKid P.kids c')) P.queued.toArray (refIndex P.queued c'.key)).toList ∧
    (upRekey legacy g P c').key = P.key ∧ (upRekey legacy g P c').parked = P.parked ∧
    (upRekey legacy g P c').parkedKids =
      (maybeFix (iLess (replaceKid P.kids c')) P.parkedKids.toArray (refIndex P.parkedKids c'.key)).toList := by
  unfold upRekey
  simp only []
  rw [hg.kids, hg.ops, hg.queued, hg.key, hg.parked, hg.parkedKids]
  cases legacy with
  | true => simp [storeKid]
  | false =>
    simp only [Bool.false_eq_true, if_false, S.setParkedKids_eq, Inv.kids.eq_1, Inv.ops.eq_1, Inv.queued.eq_1,
      Inv.key.eq_1, Inv.parked.eq_1, Inv.parkedKids.eq_1]
    obtain ⟨f1, f2, f3, f4, _, _, f7, _⟩ := updateFirst_fields
      ((storeKid P c').setQueued (maybeFix (qLess (storeKid P c').kids) P.queued.toArray (refIndex P.queued c'.key)).toList)
    rw [f1, f2, f3, f4, f7]
    simp [storeKid]

theorem rekey_spec (legacy : Bool) (g : Inv → Inv) (hg : KeyOnly g) : ∀ (path : List Nat) (t : Inv), HeapTree t →
    HeapTree (rekey legacy g path t) ∧ (rekey legacy g path t).key = t.key ∧
      (rekey legacy g path t).hasQueued = t.hasQueued := by
  refine updatePath_induct (fun _ t => HeapTree t)
    (fun t t' => HeapTree t' ∧ t'.key = t.key ∧ t'.hasQueued = t.hasQueued) ?_ (fun _ _ _ ht _ => ⟨ht, rfl, rfl⟩)
    (fun _ _ _ _ ht hck => ht.child hck) ?_
  · intro t ht
    exact ⟨heapTree_congr t _ (hg.kids t) (hg.queued t) (hg.ops t) ht, hg.key t,
      hasQueued_congr t _ (hg.kids t) (hg.ops t)⟩
  · rintro k p t c c' ht hck ⟨hc't, hc'k, hc'q⟩
    obtain ⟨hcmem, hckey⟩ := mem_of_child t k c hck
    have hq := (heapTree_iff t).mp ht
    have hmq := mem_queued_iff t c hq.1 hcmem
    have hN0 : QOk ((storeKid t c').setQueued
        (maybeFix (qLess (replaceKid t.kids c')) t.queued.toArray (refIndex t.queued c'.key)).toList) := by
      rw [hc'k]
      cases hidx : refIndex t.queued c.key with
      | none =>
        have : c'.hasQueued = false := by
          rw [hc'q]
          cases h : c.hasQueued with
          | false => rfl
          | true => exact absurd (hmq.mpr h) ((refIndex_none_iff _ _).mp hidx)
        simpa [maybeFix, storeKid] using qOk_keep t c c' hq.1 hcmem hc'k hidx this
      | some idx =>
        have : c'.hasQueued = true := by rw [hc'q]; exact hmq.mp (mem_of_refIndex _ _ _ hidx)
        simpa [maybeFix, storeKid] using qOk_fix t c c' hq.1 hcmem hc'k idx hidx this
    obtain ⟨hrk, hro, hrq, hrkey, _, _⟩ := upRekey_fields legacy g hg t c'
    generalize upRekey legacy g t c' = res at hrk hro hrq hrkey
    have hN : QOk res := by
      apply qOk_congr _ res _ _ _ hN0
      · rw [hrk]; simp [storeKid]
      · rw [hrq]; simp
      · rw [hro]; simp [storeKid]
    exact ⟨heapTree_of_level t c' res ht hc't hN hrk, hrkey,
      hasQueued_storeKid t c c' hq.1.keys hcmem hc'k hc'q res hrk hro⟩

theorem keyOnly_incr (now : Nat) (fresh : Inv → Bool) :
    KeyOnly fun i => (i.setExec (i.exec + if fresh i then 1 else 0)).setStarted now := by
  constructor <;> intro i <;> cases i <;> rfl

theorem keyOnly_decr (now : Nat) (last : Inv → Bool) :
    KeyOnly fun i => (i.setExec (i.exec - if last i then 1 else 0)).setCompleted now := by
  constructor <;> intro i <;> cases i <;> rfl

/-! ### parking and `worker.dequeue`: the queue heaps are not touched -/

/-- An upper level that changes nothing that the queue heaps or their keys read. -/
structure UpFrame (up : Inv → Inv → Inv) : Prop where
  key : ∀ P c', (up P c').key = P.key
  ops : ∀ P c', (up P c').ops = P.ops
  queued : ∀ P c', (up P c').queued = P.queued
  kids : ∀ P c', (up P c').kids = replaceKid P.kids c'
  keys : ∀ P c', KeyEq (up P c') P

/-- A walk whose first step keeps the tree ordered and whose upper levels are `UpFrame`s. -/
theorem frame_spec (leaf : Inv → Inv) (up : Inv → Inv → Inv)
    (hleaf : ∀ i, HeapTree i → HeapTree (leaf i) ∧ (leaf i).key = i.key ∧ KeyEq (leaf i) i ∧
      (leaf i).hasQueued = i.hasQueued) (hf : UpFrame up) :
    ∀ (path : List Nat) (t : Inv), HeapTree t →
      HeapTree (updatePath leaf up path t) ∧ (updatePath leaf up path t).key = t.key ∧
      KeyEq (updatePath leaf up path t) t ∧ (updatePath leaf up path t).hasQueued = t.hasQueued := by
  refine updatePath_induct (fun _ t => HeapTree t)
    (fun t t' => HeapTree t' ∧ t'.key = t.key ∧ KeyEq t' t ∧ t'.hasQueued = t.hasQueued) hleaf
    (fun _ _ t ht _ => ⟨ht, rfl, KeyEq.refl t, rfl⟩) (fun _ _ _ _ ht hck => ht.child hck) ?_
  · rintro k p t c c' ht hck ⟨hc't, hc'k, hc'e, hc'q⟩
    obtain ⟨hcmem, _⟩ := mem_of_child t k c hck
    have hq := (heapTree_iff t).mp ht
    have hN : QOk (up t c') :=
      qOk_same t c c' _ hq.1 hcmem hc'k hc'e hc'q (hf.kids t c') (hf.queued t c') (hf.ops t c')
    exact ⟨heapTree_of_level t c' _ ht hc't hN (hf.kids t c'), hf.key t c', hf.keys t c',
      hasQueued_storeKid t c c' hq.1.keys hcmem hc'k hc'q _ (hf.kids t c') (hf.ops t c')⟩

/-- Parking and `worker.dequeue` start by changing `idleSynchronizingWorkers` only. -/
theorem heap_setParked (f : Inv → List Nat) (i : Inv) (h : HeapTree i) :
    HeapTree (i.setParked (f i)) ∧ (i.setParked (f i)).key = i.key ∧ KeyEq (i.setParked (f i)) i ∧
      (i.setParked (f i)).hasQueued = i.hasQueued :=
  ⟨heapTree_congr i _ (by simp) (by simp) (by simp) h, by simp, ⟨by simp, by simp, by simp⟩,
    hasQueued_congr i _ (by simp) (by simp)⟩

theorem upFrame_storeKid : UpFrame storeKid := by
  refine ⟨?_, ?_, ?_, ?_, ?_⟩ <;> intro P c' <;> simp [storeKid, KeyEq]

theorem upFrame_park : UpFrame upPark := by
  refine ⟨?_, ?_, ?_, ?_, ?_⟩ <;> intro P c' <;> simp [upPark, storeKid, KeyEq]

theorem upFrame_unpark : UpFrame upUnpark := by
  refine ⟨?_, ?_, ?_, ?_, ?_⟩ <;> intro P c' <;> unfold upUnpark <;> simp only [] <;> split <;> simp [storeKid, KeyEq]

/-- What every enabled update preserves holds after any sequence of updates, each enabled when
its turn comes. -/
theorem applyAll_induct (P : Inv → Prop) (hstep : ∀ (u : Update) (t : Inv), P t → u.enabled t → P (u.apply t)) :
    ∀ (us : List Update) (t : Inv), P t → enabledAll us t → P (applyAll us t)
  | [], _, h, _ => h
  | u :: us, t, h, he => applyAll_induct P hstep us (u.apply t) (hstep u t h he.1) he.2

end BbRe.Lemmas.Fair
