import BbRe.Lemmas.ExecFlow
/-!
# C10, the executor's part: output files still opened for writing

Property C10: "… the ActionResult lists precisely the declared output paths that
exist afterwards … with the correct … content digest".  On a virtual build
directory an output file can still have a writing descriptor when the command
has exited; `UploadFile` waits for such descriptors, but not longer than
`maximumWritableFileUploadDelay`, counted from a context that
`localBuildExecutor.Execute` creates after the command has ended
(`Model/ExecFlow.lean`: `delayStart`, `uploadFiles`).  Shown here: for every
command, however long it runs, every file whose descriptor is closed within
that delay after the command's exit is uploaded completely.  Tied to the real
executor by `harness/cmd/localexec`.
-/
namespace BbRe.Properties.C10Flow
open BbRe.ExecFlow BbRe.Lemmas.ExecFlow

/-- The delay for writable files starts when the UPLOADING_OUTPUTS update is accepted,
never before the command has ended. -/
theorem upload_delay_starts_after_the_run (e : Env) :
    (execute e).delayStart = (execute e).acceptUploading ∧ (execute e).runEnd ≤ (execute e).delayStart :=
  ⟨rfl, Nat.le_max_left ..⟩

/-- For all commands (all run lengths, stalls, timeouts) and all receivers of state
updates: if every lingering descriptor is closed less than the upload delay after the
command's exit, every file is uploaded with its complete contents. -/
theorem writers_closing_within_the_delay_are_waited_for (e : Env)
    (h : ∀ l ∈ e.lingers, l < e.uploadDelay) :
    (execute e).complete.length = e.lingers.length ∧ ∀ b ∈ (execute e).complete, b = true :=
  ⟨(uploadFiles_length ..).trans (List.length_map _), uploadFiles_all _ _ _ (closed_before_the_deadline h)⟩

/-- … and `Execute` returns only after all of them were closed, but never waits
longer than the delay after it began to upload. -/
theorem upload_waits_long_enough_and_not_longer (e : Env) :
    (execute e).finish ≤ (execute e).delayStart + e.uploadDelay ∧
    ((∀ l ∈ e.lingers, l < e.uploadDelay) → ∀ l ∈ e.lingers, (execute e).runEnd + l ≤ (execute e).finish) :=
  ⟨Nat.le_trans (uploadFiles_finish ..).2 (Nat.max_le.2 ⟨Nat.le_add_right .., Nat.le_refl _⟩),
    fun h _ hl => uploadFiles_finish_ge _ _ _ (closed_before_the_deadline h) _ (List.mem_map_of_mem hl)⟩

/-- The demonstration of the seeded change "the delay context is created before the
command runs": delay 60 s, a command that runs 120 s, a descriptor closed 1 s after the
exit.  The file is complete and `Execute` returns at 121 s. -/
example :
    let t := execute { timeout := 3600, maxSusp := 0, uploadDelay := 60, consumer := 0, prep := 0,
                       script := [.run 120], lingers := [1] }
    t.complete = [true] ∧ t.finish = 121 ∧ t.delayStart = 120 := by decide +kernel

/-- A descriptor that stays open longer than the delay: the worker gives up at the deadline. -/
example :
    let t := execute { timeout := 3600, maxSusp := 0, uploadDelay := 60, consumer := 0, prep := 0,
                       script := [.run 120], lingers := [1, 90, 2] }
    t.complete = [true, false, true] ∧ t.finish = 180 := by decide +kernel

end BbRe.Properties.C10Flow
