import BbRe.Model.NaiveDir
import BbRe.Lemmas.NaiveDir
import BbRe.Lemmas.NaiveDirLazy
import BbRe.Lemmas.NaiveDirReach
import BbRe.Lemmas.NaiveDirComplete
import BbRe.Lemmas.NaiveDirHardLink
import BbRe.Lemmas.InputRootExamples
/-!
# C17, eager half: `naiveBuildDirectory.MergeDirectoryContents` (non-virtual workers)

Model: `Model/NaiveDir.lean` (transcription of `pkg/builder/naive_build_directory.go` and
`pkg/cas/blob_access_file_fetcher.go` over an abstract file system and a fault oracle at
every storage / file system call). All theorems hold for every store (any Directory
DAG, malformed or not, any fuel), every oracle (any set of failing calls, any choice of
where the walker notices the cancelled context) — no size bounds.

"Shows": `(rawAt t q).map kindOf` is what a tree shows under the path `q`: nothing, a
directory, a file with its digest and executable bit, or a symlink with its target. Two
trees that show the same under every path have the same names, kinds, executable bits,
symlink targets and file digests, recursively (the order of directory entries, which a file
system does not have, is the only thing not compared: the eager walk creates files,
directories, symlinks; the lazy fetcher lists directories, files, symlinks).

Tie to the code: `harness/cmd/inputroot/naive_model.go` runs the real
`MergeDirectoryContents` on a temporary directory with the same store and the same
injected failing calls and compares ok / error class / canonical tree listing with
`drv_naivedir` (`Drivers/NaiveDir.lean`).
-/
namespace BbRe.Properties.C17Naive
open BbRe.InputRoot BbRe.NaiveDir BbRe.Lemmas.NaiveDir BbRe.Lemmas.InputRoot BbRe.Lemmas.InputRoot.Ex

/-- **naive_exact.** If the merge into an empty build directory returns OK, the tree it
leaves shows under every path exactly what the decoded tree of the root digest (`expand`,
the eager tree of `Model/InputRoot.lean`, same fuel) shows. -/
theorem naive_exact (c : CAS) (O : Oracle) (fuel : Nat) (d : Dig) (ch : Children)
    (h : NaiveDir.merge c O fuel d [] = (ch, .ok)) (q : Path) :
    (rawAt (.dir ch) q).map kindOf = (rawAt (expand c fuel (.lazy d none)) q).map kindOf :=
  shows_of_clean c O fuel d [] ch (merge_ok_clean c O fuel d [] ch h) q

/-- … and that decoded tree is complete: every Directory referenced below the root, directly
or indirectly, is in the store, is a Directory message, is well-formed in the sense of the lazy
fetcher (valid names, no name twice within or across the three lists, well-formed digests,
usable symlink targets) and its `GetDirectory` call did not fail. Contrapositive
(**naive_error**, storage part): a missing, garbage or malformed Directory blob anywhere below
the root, or a failing `GetDirectory`, makes the merge return an error — never OK with a
different tree. -/
theorem naive_error_directories (c : CAS) (O : Oracle) (fuel : Nat) (d : Dig) (ch : Children)
    (h : NaiveDir.merge c O fuel d [] = (ch, .ok)) (d' : Dig) (hr : Reach c d d') :
    ∃ m, assoc c.dirs d' = some (some m) ∧ WellFormed c.hashLen m ∧ O.cas.contains d' = false :=
  clean_reach c O fuel d [] ch (merge_ok_clean c O fuel d [] ch h) d' hr

/-- The same as an implication towards "error". -/
theorem naive_error (c : CAS) (O : Oracle) (fuel : Nat) (d d' : Dig) (hr : Reach c d d')
    (hbad : assoc c.dirs d' = none ∨ assoc c.dirs d' = some none ∨
      (∃ m, assoc c.dirs d' = some (some m) ∧ ¬ WellFormed c.hashLen m) ∨ O.cas.contains d' = true) :
    ∃ e, (NaiveDir.merge c O fuel d []).2 = .error e := by
  cases ho : (NaiveDir.merge c O fuel d []).2 with
  | error e => exact ⟨e, rfl⟩
  | ok =>
    have h : NaiveDir.merge c O fuel d [] = ((NaiveDir.merge c O fuel d []).1, .ok) := by rw [← ho]
    obtain ⟨m, hm, hw, hf⟩ := naive_error_directories c O fuel d _ h d' hr
    rcases hbad with h1 | h1 | ⟨m', h1, h2⟩ | h1
    · rw [hm] at h1; cases h1
    · rw [hm] at h1; cases h1
    · rw [hm] at h1; simp only [Option.some.injEq] at h1; subst h1; exact absurd hw h2
    · rw [hf] at h1; cases h1

/-- **naive_error, call part.** In a directory whose walk ended clean (at any depth: the
contents of every sub-directory of a clean walk are a clean walk, `mkDirN`) every call that was
issued succeeded: the Directory was fetched, every file was created, read from the storage
(blob present, no fault) and time-stamped, every `Mkdir`/`EnterDirectory`/`Symlink` worked.
Contrapositive: if any issued call fails the merge returns an error. The contents are
exactly one entry per entry of the message. -/
theorem naive_issued_calls_succeeded (c : CAS) (O : Oracle) (f : Nat) (d : Dig) (p : Path)
    (ch : Children) (h : mergeDirIn c O (f + 1) d p [] false = ⟨ch, false, none⟩) :
    ∃ m, getDirectory c O.cas d = .ok m ∧ ch = naiveChildren c O f p m ∧
      (∀ e ∈ m.files, FileCalls c O p e) ∧ (∀ e ∈ m.dirs, DirCalls O p e) ∧
      (∀ e ∈ m.syms, SymCalls O p e) := by
  obtain ⟨m, hg, _, _, _, hch, h1, h2, h3⟩ := level_ok c O f d p ch h
  exact ⟨m, hg, hch, h1, h2, h3⟩

/-- OK is returned only by a clean walk: the walking goroutine returned nil and no download
failed (`group.Wait()`); wherever the walker may have noticed a cancellation (`O.stop`). -/
theorem naive_ok_iff_clean (c : CAS) (O : Oracle) (fuel : Nat) (d : Dig) (ch0 : Children) :
    (NaiveDir.merge c O fuel d ch0).2 = .ok ↔
      (mergeDirIn c O fuel d [] ch0 false).failed = false ∧ (mergeDirIn c O fuel d [] ch0 false).err = none :=
  outcomeOf_ok

/-- **Agreement with the lazy input root.** If the eager merge returns OK then the lazy
`virtualBuildDirectory.MergeDirectoryContents` of the same digest into a fresh root succeeds,
and the eager tree shows under every path what the fully explored lazy root shows
(`C17.lazy_equals_eager_root`: which is what every exploration of the lazy root observes). -/
theorem naive_agrees_lazy (c : CAS) (O : Oracle) (fuel : Nat) (d : Dig) (ch : Children)
    (h : NaiveDir.merge c O fuel d [] = (ch, .ok)) :
    (InputRoot.merge (init c) [] d false).2 = .ok ∧
    ∀ q : Path, (rawAt (.dir ch) q).map kindOf =
      (rawAt (expand c fuel (InputRoot.merge (init c) [] d false).1.root) q).map kindOf := by
  have hc := merge_ok_clean c O fuel d [] ch h
  cases fuel with
  | zero => simp [mergeDirIn] at hc
  | succ f =>
    obtain ⟨m, _, _, _, hfetch, -⟩ := fetch_of_clean c O f d [] ch hc
    rw [merge_init c d _ hfetch]
    exact ⟨rfl, fun q => by
      rw [expand_merged c d _ f hfetch]; exact shows_of_clean c O (f + 1) d [] ch hc q⟩

/-- **Nothing outside the build directory changes**: whatever the merge does (OK or error,
any oracle), a path of the surrounding file system that parts ways with the path of the
build directory denotes the same node before and after. -/
theorem naive_outside_unchanged (c : CAS) (O : Oracle) (fuel : Nat) (d : Dig) (tp q : Path)
    (fs : Node) (hq : Diverge tp q) : rawAt (mergeAt c O fuel d tp fs).1 q = rawAt fs q := by
  unfold mergeAt
  split
  · exact updAt_frame _ tp q hq fs
  · rfl

/-- **Completeness (sufficient fuel).** On an acyclic store (`Acyclic`: sub-directory digests
have smaller rank — the depth of the tree a digest names), with fuel above the rank of the
root, when every Directory reachable from the root is present and well-formed and every file
blob it lists is present (`Complete`), and no call fails, the merge returns OK — in
particular fuel never runs out. So `naive_exact`/`naive_agrees_lazy` speak about every
well-formed input, and "error" in `naive_error` is never an artefact of the fuel. -/
theorem naive_succeeds_when_clean (c : CAS) (O : Oracle) (hcas : O.cas = []) (hfs : O.fs = [])
    (rank : Dig → Nat) (hr : Acyclic c rank) (fuel : Nat) (d : Dig) (hf : rank d < fuel)
    (hc : Complete c d) : ∃ ch, NaiveDir.merge c O fuel d [] = (ch, .ok) := by
  obtain ⟨ch, h⟩ := clean_of_complete c O hcas hfs rank hr fuel d [] hf hc
  exact ⟨ch, by simp [NaiveDir.merge, outcomeOf, h]⟩

/-- … and then the tree is the requested one (`naive_exact` applies to the witness). -/
theorem naive_succeeds_with_the_requested_tree (c : CAS) (O : Oracle) (hcas : O.cas = [])
    (hfs : O.fs = []) (rank : Dig → Nat) (hr : Acyclic c rank) (fuel : Nat) (d : Dig)
    (hf : rank d < fuel) (hc : Complete c d) :
    (NaiveDir.merge c O fuel d []).2 = .ok ∧ ∀ q : Path,
      (rawAt (.dir (NaiveDir.merge c O fuel d []).1) q).map kindOf =
        (rawAt (expand c fuel (.lazy d none)) q).map kindOf := by
  obtain ⟨ch, h⟩ := naive_succeeds_when_clean c O hcas hfs rank hr fuel d hf hc
  rw [h]
  exact ⟨rfl, naive_exact c O fuel d ch h⟩

/-! ### through the hard-linking file fetcher (`mergeHL`)

Full statement aimed at (NOT proved yet): `naive_exact_hardlink` — if
`mergeHL c O K fuel d [] s = (s', ch, .ok)` and `CacheInv s` then `CacheInv s'` and `ch` shows under
every path what `expand c fuel (.lazy d none)` shows. Proved below: the per-call part (every
`GetFile` of the walk keeps the cache invariant and a step that goes on clean has appended exactly
the requested file — the hypothesis `loop_ok` needs of the file step). Missing: threading the
cache state through `loop_ok`/`level_ok` (the `conv`-based description of the directory loop
assumes entries are handled independently of each other). -/

open BbRe.InputRoot.HardLink in
/-- Per-call part of `naive_exact_hardlink`: under the cache invariant (`CacheClean` + limits)
one file step of the walk through the hard-linking fetcher keeps the invariant, and if it goes
on without a failed download it has created exactly the requested file (digest, executable
bit) under a valid name that was free. -/
theorem naive_exact_hardlink_step_partial (c : CAS) (O : Oracle) (K : HLParams)
    (hK : ∀ d x, K.unkey (K.key d x) = (d, x)) (p : Path) (e : FileNode) (s : HardLink.State)
    (ch : Children) (bad : Bool) (h : CacheInv s) :
    CacheInv (fileStepHL c O K p e s ch bad).1 ∧
    ∀ ch', (fileStepHL c O K p e s ch bad).2 = .next ch' false →
      bad = false ∧ validName e.name = true ∧ hasName ch e.name = false ∧
      ∃ d, parseDigest c.hashLen e.digest = some d ∧ ch' = ch ++ [(e.name, .file d e.exec none)] :=
  fileStepHL_next c O K hK p e s ch bad h

open BbRe.InputRoot.HardLink in
/-- A cache entry deleted or replaced by a directory behind the worker's back before a
`GetFile` of the walk leads to a re-download, a link or an error — never to another file in the
build directory; the cache invariant survives. -/
theorem naive_hardlink_cache_faults_are_errors (c : CAS) (O : Oracle) (K : HLParams)
    (hK : ∀ d x, K.unkey (K.key d x) = (d, x)) (s : HardLink.State) (fl : Fault) (q : Path) (d : Dig)
    (exec : Bool) (name : Name) (ch : Children) (h : CacheInv s) :
    CacheInv (getFileHL c O K (fault s fl) q d exec name ch).1 ∧
    ∀ ch', (getFileHL c O K (fault s fl) q d exec name ch).2 = some ch' →
      ch' = ch ++ [(name, .file d exec none)] :=
  getFileHL_after_fault c O K hK s fl q d exec name ch h

/-- Non-vacuity: the empty cache satisfies the invariant; `b0` merges OK through it (keys: size +
executable bit are enough to tell the two files of `exCAS` apart) and leaves one cache entry. -/
example : CacheInv ⟨2, 100, [], []⟩ := ⟨by intro k c h; simp at h, by simp, Or.inl (by simp [HardLink.total])⟩
example :
    let K : HLParams := ⟨fun d x => 2 * d.size + (if x then 1 else 0), fun k => (if k / 2 = 0 then f2 else f1, k % 2 = 1)⟩
    let r := mergeHL exCAS ⟨[], [], []⟩ K 3 dB [] ⟨2, 100, [], []⟩
    (r.2.2, r.1.disk) = (.ok, [(0, .file 0)]) := by decide +kernel

/-! ### non-vacuity (store `exCAS` of `Lemmas/InputRootExamples.lean`) -/

/-- `b0` = { again/ → c0 (empty), y (file f2) } merges OK without faults … -/
example : (NaiveDir.merge exCAS ⟨[], [], []⟩ 3 dB []).2 = .ok := by decide +kernel
/-- … `c0` (referenced by `b0`) is reachable … -/
example : Reach exCAS dB dC :=
  .step (m := ⟨[⟨[97], raw dC⟩], [⟨[121], raw f2, false⟩], []⟩) (e := ⟨[97], raw dC⟩) (by decide) (by simp)
    (by decide) (.refl dC)
/-- … a failing `Mkdir` of `again/`, a failing storage read of `c0` or of the file make it an error … -/
example : (NaiveDir.merge exCAS ⟨[], [(.mkdir, [[97]])], []⟩ 3 dB []).2 = .error (some .fs) := by decide +kernel
example : (NaiveDir.merge exCAS ⟨[dC], [], []⟩ 3 dB []).2 = .error (some (.decode .unavailable)) := by decide +kernel
example : (NaiveDir.merge exCAS ⟨[f2], [], []⟩ 3 dB []).2 = .error none := by decide +kernel
/-- … and the root `a0`, which references the malformed `dd` (file and symlink both called "y"), fails. -/
example : (NaiveDir.merge exCAS ⟨[], [], []⟩ 3 dA []).2 = .error none := by decide +kernel
/-- `c0` (the empty directory) is complete in `exCAS`, which is acyclic (`exCAS_acyclic`). -/
example : Complete exCAS dC := by
  intro d' hr
  cases hr with
  | refl => exact ⟨⟨[], [], []⟩, by decide, ⟨by simp [entryNames], by simp [entryNames], by simp, by simp, by simp⟩, by simp⟩
  | step hm he _ _ =>
    have : assoc exCAS.dirs dC = some (some ⟨[], [], []⟩) := by decide +kernel
    rw [this] at hm
    simp only [Option.some.injEq] at hm
    subst hm
    simp at he
/-- Paths that part ways. -/
example : Diverge [[98], [117]] [[98], [111], [120]] := .tail _ (.head _ _ (by decide))

end BbRe.Properties.C17Naive
