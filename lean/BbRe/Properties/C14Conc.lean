import BbRe.Properties.C14Generated
import BbRe.Lemmas.LockSkelConc
import BbRe.Lemmas.LockSkelConcInst
import BbRe.Lemmas.LockSkelConcPile
/-!
# C14 (b), concurrent part — from traces of single functions to the run-time wait-for graph

`C14Generated.lock_order_gives_H` / `no_deadlock_by_lock_order` have the premise `hsrc`:
"in the current system state every (held lock, awaited lock) pair of a blocked thread is an
extracted class edge". This file discharges it for an interleaving semantics
(`Lemmas/LockSkelConc.lean`): any number of threads, each executing one call of an exported
function of the translated files, over one global lock table `instance → owner`, any schedule.

* A thread runs the instance-level trace `tr.map (evMap ρ)` of some `Exec prog f tr`,
  `f ∈ entries` (`IsCall`); `ρ` maps the lock *names* of the skeleton (canonical texts of lock
  expressions) to the run-time locks they denote in this call.
* `acq` blocks while the instance is owned (by anybody, the thread itself included); `rel`/`prel`
  never block; `pacq` follows the back-off protocol of `LockPile.Lock` at table level (rules
  `pFast/pTake/pBack/pWake/pFail`): it blocks only on the first wanted lock while it holds no
  lock of the pile; ownership tokens (`isOwn`) never block and are not table entries.

Proved for every reachable state: `held_is_prefix_replay` (what a thread owns = what the
replay of the completed prefix of its trace holds), `finished_thread_holds_nothing`,
`blocked_pairs_are_edges` (= `hsrc`), `no_wait_cycle`, `system_progress`.

Proved for every `Exec` trace: all locks a call takes through one `LockPile` have one class
(`call_piles_one_class`, by induction over the path semantics in
`Lemmas/LockSkelConcPile.lean`, from the static obligation `pile_statements_static`, decided
on the current source on every run). `blocked_pairs_are_edges` needs it: a backed-off
`LockPile.Lock` may block on ANY lock of the pile (not only the newly added one) while holding
the locks outside the pile, but `edgesS` records the pairs (outside class, class of the lock
being added) only.

**What is assumed** (hypothesis of `IsCall`, and modelling):
1. `ρ` is a function, injective, class preserving: within one call each lock name denotes ONE
   run-time lock, different names denote different locks, and a run-time lock belongs to the
   class of every name denoting it (`lc (ρ l) = clsOf edgeClass l`, one `lc` for all threads).
   Not covered: two names for one lock in one call (`iOld == iNew` in a rename inside one
   directory — at pile level that is the recursion count, modelled by `pFast`, but only for
   equal names here), and a name re-bound to different objects in successive loop iterations.
2. Instance-level vs class-level order. Two locks of the SAME class are never nested outside a
   pile (`classEdges` has no self-loop: `edges_irreflexive`), so the class order suffices for
   everything except same-class locks taken through a pile (parent/child directories, the two
   directories of a rename). For those no instance order is used or needed: the pile never
   blocks while holding a pile lock (first disjunct of `H`; proved for the transcription of
   lock_pile.go in `C14.pile_no_hold_and_wait`; here a modelling rule: `waits` is `none` while
   a pile lock is held). Livelock of the back-off (fairness) is not covered.
3. One call per thread (a thread issuing calls one after the other behaves like several
   threads, because every call starts and ends holding nothing); calls that never return,
   panics, callbacks and goroutines started under a lock are outside `Exec`; the back-off
   releases its locks in one atomic step.
-/
namespace BbRe.Properties.C14Conc
open BbRe.LockSkel BbRe.Generated.LockSkel BbRe.Lemmas.LockSkelEdges BbRe.Lemmas.LockSkelConc
open BbRe.Properties.C14Generated
open BbRe.Lemmas.LockPile (Chain Edge H)

/-- Permitted (held class, awaited class) pairs: the edges extracted from the source. -/
def okEdge (a b : Nat) : Prop := (a, b) ∈ classEdges

/-- All locks the trace takes through one pile have one class (proved for every `Exec` trace
of the current program: `call_piles_one_class`). -/
def PileOneClass (tr : List Ev) : Prop :=
  ∀ p l l', Ev.pacq p l ∈ tr → Ev.pacq p l' ∈ tr → clsOf edgeClass l = clsOf edgeClass l'

/-- `itr` is what one call of an exported function of the translated files does to run-time
locks: a returning run `tr` of the function's skeleton, its lock names instantiated by `ρ`. -/
def IsCall (lc : Nat → Nat) (own : Nat → Bool) (itr : List Ev) : Prop :=
  ∃ f ∈ entries, ∃ tr, Exec prog f tr ∧
    ∃ ρ : Nat → Nat, Function.Injective ρ ∧ (∀ l, lc (ρ l) = clsOf edgeClass l) ∧
      (∀ l, own (ρ l) = isOwn l) ∧ itr = tr.map (evMap ρ)

/-- A thread is idle (empty trace) or executes one call. -/
def ThreadOK (lc : Nat → Nat) (own : Nat → Bool) (itr : List Ev) : Prop :=
  itr = [] ∨ IsCall lc own itr

/-- Systems considered: initial state (nothing executed, all locks free) with every thread
idle or executing a call, and everything reachable from it by any schedule. -/
structure Start (lc : Nat → Nat) (own : Nat → Bool) (s0 : Sys) : Prop where
  init : s0.Init
  calls : ∀ t, ThreadOK lc own (s0.thr t).tr

/-- The extracted relation has no self-loop: same-class locks are never nested outside a pile. -/
theorem edges_irreflexive (a : Nat) : ¬ okEdge a a := by
  intro h
  have hr := class_graph_ok.2
  unfold ranksOk at hr
  have := List.all_eq_true.mp hr _ h
  simp at this

/-- … and is ranked (acyclic). -/
theorem edges_ranked (a b : Nat) (h : okEdge a b) : rankOf classRanks a < rankOf classRanks b := by
  have hr := class_graph_ok.2
  unfold ranksOk at hr
  have := List.all_eq_true.mp hr _ h
  simpa using this

/-- The class of the locks taken through a `LockPile` (class of the first `pileLock` statement
of the translated program; the directory lock). -/
def pileClass : Nat :=
  (((prog.flatMap (fun fb => stmtPileLocks fb.2)).head?).map (fun a => clsOf edgeClass a.2)).getD 0

/-- Static obligation on the current source: every `pileLock` statement locks a name of class
`pileClass`, every call renaming keeps the class of every lock name (`renOk`), and no
function body contains an untranslatable (`unsupported`) statement. -/
theorem pile_statements_static : pileStaticOk edgeClass pileClass prog = true := by decide +kernel

/-- All `pileLock` statements of the current source lock names of one class (syntactic). -/
theorem pile_locks_one_class_syntactic : pileClassesOk edgeClass prog = true :=
  pileClassesOk_of_static pile_statements_static

/-- **From statements to events**: in every returning run of every translated function (callee
bodies to any depth) all locks taken through a `LockPile` have one class. -/
theorem call_piles_one_class (f : Nat) (tr : List Ev) (he : Exec prog f tr) : PileOneClass tr :=
  pile_events_one_class pile_statements_static f tr he

/-- **Every call trace meets the static hypotheses of the interleaving semantics**: ranked
pairs (`runs_respect_lock_order`), releases only what is held and ends holding nothing
(`no_entry_point_leaves_a_lock_behind`). -/
theorem call_traces_good {lc : Nat → Nat} {own : Nat → Bool} {itr : List Ev}
    (h : ThreadOK lc own itr) : Good lc own okEdge itr := by
  rcases h with rfl | ⟨f, hf, tr, hex, ρ, hρ, hc, ho, rfl⟩
  · exact good_nil edges_irreflexive
  · have hb := entry_points_balanced
    unfold entriesBalanced at hb
    have hs : sigma.get f = some ([], []) := by
      simpa using List.all_eq_true.mp hb f hf
    exact good_of_run hρ hc ho (no_entry_point_leaves_a_lock_behind f hf tr hex)
      (fun e he => (runs_respect_lock_order f tr hex [] [] hs e he).1) edges_irreflexive (call_piles_one_class f tr hex)

section
variable {lc : Nat → Nat} {own : Nat → Bool} {s0 s : Sys}

/-- The invariant of `Lemmas/LockSkelConc.lean` in every reachable state. -/
theorem reachable_inv (h0 : Start lc own s0) (hr : Reach own s0 s) : Inv lc own okEdge s :=
  inv_reach h0.init (fun t => call_traces_good (h0.calls t)) hr

/-- **What a thread owns is what its trace prefix says.** In every reachable state, for every
thread `t` and run-time lock `j`: the table says `t` owns `j` iff `j` is a real lock (not an
ownership token) in `tgt` — the multiset held after replaying the completed prefix of `t`'s
trace (plus, while `t` is inside a backed-off `LockPile.Lock`, the lock being added) — and
`j` is not one of the pile locks `t` has temporarily released (`want`). -/
theorem held_is_prefix_replay (h0 : Start lc own s0) (hr : Reach own s0 s) (t j : Nat) :
    s.T j = some t ↔ (j ∈ tgt (s.thr t) ∧ own j = false ∧ j ∉ (s.thr t).want) :=
  ((reachable_inv h0 hr t).2).holds j

/-- The same outside a back-off: exactly the locks acquired and not released in the prefix. -/
theorem held_is_prefix_replay_plain (h0 : Start lc own s0) (hr : Reach own s0 s) (t j : Nat)
    (hw : (s.thr t).want = []) :
    s.T j = some t ↔ (j ∈ (s.thr t).st.held ∧ own j = false) :=
  ((reachable_inv h0 hr t).2).holds_nil hw j

/-- **No call leaves a lock behind, at run time**: a thread whose call has returned owns no
entry of the lock table. -/
theorem finished_thread_holds_nothing (h0 : Start lc own s0) (hr : Reach own s0 s) (t : Nat)
    (hd : (s.thr t).done) (j : Nat) : s.T j ≠ some t :=
  done_owns_nothing (reachable_inv h0 hr) hd j

/-- **Premise `hsrc` of `lock_order_gives_H`, proved**: in every reachable state, for every
blocked thread, every (class of a lock it holds, class of the lock it waits for) pair is an
extracted edge. -/
theorem blocked_pairs_are_edges (h0 : Start lc own s0) (hr : Reach own s0 s) (t l l' : Nat)
    (hw : s.waits own t = some l) (hh : s.holds t l') : (lc l', lc l) ∈ classEdges :=
  blocked_pair_ok (reachable_inv h0 hr t).1 (reachable_inv h0 hr t).2 hw hh

/-- Hypothesis `H` of `C14.no_deadlock` holds in every reachable state. -/
theorem reachable_H (h0 : Start lc own s0) (hr : Reach own s0 s) :
    H s.holds (s.waits own) (fun l => rankOf classRanks (lc l)) :=
  lock_order_gives_H s.holds (s.waits own) lc (blocked_pairs_are_edges h0 hr)

/-- **No cycle in the run-time wait-for graph** of any reachable state: any number of
threads, any calls, any schedule. -/
theorem no_wait_cycle (h0 : Start lc own s0) (hr : Reach own s0 s) (t0 : Nat) (rest : List Nat) :
    ¬ Chain (Edge s.holds (s.waits own)) t0 (rest ++ [t0]) :=
  no_deadlock_by_lock_order s.holds (s.waits own) lc (blocked_pairs_are_edges h0 hr) t0 rest

/-- **Progress**: with `ts` the (finitely many) threads that execute a call, in every
reachable state all calls have returned or some unfinished thread can take a step. -/
theorem system_progress (h0 : Start lc own s0) (hr : Reach own s0 s) (ts : List Nat)
    (hts : ∀ t, t ∉ ts → (s0.thr t).tr = []) :
    (∀ t, (s.thr t).done) ∨
      ∃ t ∈ ts, ¬ (s.thr t).done ∧ ∃ x' T', TStep own t (s.thr t) s.T x' T' :=
  inv_progress (reachable_inv h0 hr) edges_ranked ts (fun t ht => by
    unfold Thr.done
    rw [reach_tr hr t, hts t ht]
    exact Nat.zero_le _)

end
end BbRe.Properties.C14Conc

/-! Non-vacuity. The hypotheses of the generic development are met by a real instantiated
`Exec` trace with a pile and a call (program `LockSkelEdges.Ex`): two threads run the same
function on disjoint run-time locks (`ρ k l = 2 l + k`), plus idle threads. For the generated
program `Start` is met by the all-idle system; an `IsCall` witness needs an `Exec` derivation
of a generated function, which cannot be written in a file that is not regenerated. -/
namespace BbRe.Examples.C14Conc
open BbRe.LockSkel BbRe.Lemmas.LockSkelEdges BbRe.Lemmas.LockSkelConc

def okE (a b : Nat) : Prop := (a, b) ∈ [(1, 3), (2, 3), (1, 2)]
def lcE (i : Nat) : Nat := clsOf Ex.cls (i / 2)
def ownE (i : Nat) : Bool := isOwn (i / 2)
def rho (k : Nat) (l : Nat) : Nat := 2 * l + k

theorem goodE (k : Nat) (hk : k < 2) : Good lcE ownE okE (Ex.tr.map (evMap (rho k))) := by
  refine good_of_run (cls := Ex.cls) (fun a b h => by unfold rho at h; omega)
    (fun l => by unfold lcE rho; congr 1; omega) (fun l => by unfold ownE rho; congr 1; omega)
    (by decide) (by unfold okE; decide) (fun a h => by unfold okE at h; simp at h; omega) ?_
  have : ∀ p l, Ev.pacq p l ∈ Ex.tr → clsOf Ex.cls l = 2 := by
    intro p l h
    simp [Ex.tr] at h
    rcases h with ⟨_, rfl⟩ | ⟨_, rfl⟩ <;> decide
  intro p l l' h1 h2
  rw [this p l h1, this p l' h2]

def s0 : Sys := ⟨fun t => if t < 2 then ⟨Ex.tr.map (evMap (rho t)), 0, []⟩ else ⟨[], 0, []⟩, fun _ => none⟩

theorem s0_good (t : Nat) : Good lcE ownE okE (s0.thr t).tr := by
  unfold s0
  by_cases h : t < 2
  · simp only [h, if_true]; exact goodE t h
  · simp only [h, if_false]
    exact good_nil (fun a h => by unfold okE at h; simp at h; omega)

theorem s0_init : s0.Init := by
  refine ⟨fun t => ?_, fun _ => rfl⟩
  show (if t < 2 then (⟨Ex.tr.map (evMap (rho t)), 0, []⟩ : Thr) else ⟨[], 0, []⟩).pos = 0 ∧
    (if t < 2 then (⟨Ex.tr.map (evMap (rho t)), 0, []⟩ : Thr) else ⟨[], 0, []⟩).want = []
  split <;> exact ⟨rfl, rfl⟩

/-- every state reachable from `s0` satisfies the invariant … -/
example (s : Sys) (hr : Reach ownE s0 s) : Inv lcE ownE okE s := inv_reach s0_init s0_good hr
/-- … and the first step exists (thread 0 is not finished and can take its first lock). -/
example : ∃ x' T', TStep ownE 0 (s0.thr 0) s0.T x' T' :=
  ⟨_, _, .acq (i := 2000) rfl rfl rfl⟩
/-- the all-idle system meets `Start` for the generated program -/
example : BbRe.Properties.C14Conc.Start (fun _ => 0) (fun _ => false) ⟨fun _ => ⟨[], 0, []⟩, fun _ => none⟩ :=
  ⟨⟨fun _ => ⟨rfl, rfl⟩, fun _ => rfl⟩, fun _ => Or.inl rfl⟩
end BbRe.Examples.C14Conc
