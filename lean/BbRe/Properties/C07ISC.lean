import BbRe.Model.ISC
import BbRe.Lemmas.ISCPath
import BbRe.Lemmas.ISCRange
import BbRe.Lemmas.ISCFaster
import BbRe.Lemmas.ISCStoch
import BbRe.Lemmas.ISCSelect
import BbRe.Lemmas.ISCPanic
import BbRe.Lemmas.ISCSym
/-!
# C07 (b) — the size-class analyzers' own state machine and value ranges

Property theorems about `Model/ISC.lean`, the transcription of
`pkg/scheduler/initialsizeclass/{fallback_analyzer, feedback_driven_analyzer, outcomes,
page_rank_strategy_calculator, smallest_size_class_strategy_calculator,
action_timeout_extractor}.go`.  Helper lemmas live in `BbRe/Lemmas/ISC*.lean`.

All statements are universally quantified: over every statistics message, size-class
list, random draw, clock reading, outcome sequence (`List Ev`), interference by other
requests holding a handle of the same message (`interfere`), and — for the range
theorems — over every interpretation of the float→duration conversions (`FloatOps`).
Probabilities are exact rationals; IEEE rounding of the Go code is modelled, not verified.
-/
namespace BbRe.Properties.C07ISC
open BbRe.ISC BbRe.Lemmas.ISC

/-! ## Concrete objects for the non-vacuity examples -/

/-- PageRank calculator: 10 s minimum timeout, exponent 1, multiplier 3/2, convergence error 1/500. -/
def exCfg : PageRankCfg := { F := exactOps 1 3 2, minTO := 10, eps := 1 / 500, fuel := 1000 }
def exEnv : Env := { calculator := .pageRank exCfg, historySize := 4, failureCacheDuration := 100 }
def exEnvSmallest : Env := { calculator := .smallest, historySize := 4, failureCacheDuration := 100 }

/-- Size class 1 always failed, 8 (the largest) succeeded twice. -/
def exStats : Stats :=
  { classes := [(1, { execs := [.failed, .failed, .failed] }), (8, { execs := [.succeeded 40, .succeeded 60] })] }

/-! ## The ISCC handle is released exactly once -/

/-- **handle_released_once.**  Take any request against the feedback-driven analyzer:
`Select` on any message / size-class list / draw, followed by any sequence of terminal calls
(`Succeeded`, `Failed`, `Abandoned`, delivered for as long as a learner is outstanding), with
arbitrary changes of the shared message by other requests between the calls.  Unless a call
panicked, the handle has received no `Release` while a learner is outstanding, and exactly
one `Release` once the path has ended (`cur = none`); its dirty flag is `true` exactly when
one of the calls of this request mutated the message (`addPreviousExecution` /
`updateLastSeenFailure`).  Every learner on the way holds the handle. -/
theorem handle_released_once (env : Env) (interfere : Nat → Stats → Stats) (stats : Stats) (origTO : Int)
    (classes : List Nat) (now : Int) (r : Rat) (evs : List Ev) (t : Trace)
    (h : selectorRun env interfere stats origTO classes now r evs = some t) (hp : t.panicked = false) :
    (t.cur = none → t.releases = [t.mutated]) ∧
    (∀ l, t.cur = some l → t.releases = [] ∧ l.holdsHandle = true) := by
  obtain ⟨o, _, _, hc, rfl⟩ := selectorRun_eq h
  have := runPath_good env interfere evs _ o.stats (chooseFD_good hc classes.length).1
  constructor
  · intro hc
    rw [Good, hc] at this
    rcases this with this | this
    · rw [hp] at this; cases this
    · exact this
  · intro l' hc
    rw [Good, hc] at this
    exact ⟨this.2.1, this.1⟩

-- a failure on the smaller class, retried on the largest, then success: one dirty release
example : (selectorRun exEnvSmallest (fun _ s => s) exStats 100 [1, 8] 0 0
    [.failed false 5, .succeeded 70 [1, 8]]).map (fun t => (t.releases, t.mutated, t.cur, t.calls)) =
    some ([true], true, none, 2) := by decide +kernel

-- abandoned right after Select: one clean release
example : (selectorRun exEnvSmallest (fun _ s => s) exStats 100 [1, 8] 0 0
    [.abandoned]).map (fun t => (t.releases, t.mutated, t.cur)) = some ([false], false, none) := by decide +kernel

/-- `Selector.Abandoned` releases the handle once, clean, without touching the message. -/
theorem selector_abandoned_releases_clean (stats : Stats) :
    (selectorAbandoned stats).release = some false ∧ (selectorAbandoned stats).mutated = false ∧
    (selectorAbandoned stats).stats = stats ∧ (selectorAbandoned stats).next = none := by
  simp [selectorAbandoned]

/-- A release is clean only if the message is exactly what `Select` left behind: along a path
on which no call reported a mutation (and nobody else interfered), the final message equals
the message after `Select`.  Together with `handle_released_once` (dirty = some call mutated):
a change of the statistics is never released clean. -/
theorem clean_release_means_unchanged (env : Env) (t0 : Trace) (stats : Stats) (evs : List Ev)
    (hm : (runPath env (fun _ s => s) t0 stats evs).1.mutated = false)
    (hp : (runPath env (fun _ s => s) t0 stats evs).1.panicked = false) :
    (runPath env (fun _ s => s) t0 stats evs).2 = stats := by
  have := runPath_invariant env (fun _ s => s) evs
    (fun t' s' => t'.mutated = false → s' = stats ∨ (t'.panicked = true ∧ t'.cur = none))
    (fun _ _ _ _ _ _ _ _ _ => .inr ⟨rfl, rfl⟩)
    (fun t' s' l ev o _ h hc hs hm' => by
      rw [Bool.or_eq_false_iff] at hm'
      rcases h hm'.1 with rfl | ⟨_, hn⟩
      · exact .inl (step_unmutated env l s' ev o hs hm'.2)
      · rw [hc] at hn; cases hn) t0 stats (fun _ => .inl rfl) hm
  rcases this with h | ⟨h, _⟩
  · exact h
  · rw [hp] at h; cases h

/-- Learners of the fallback analyzer never touch a handle or the message. -/
theorem fallback_never_touches_handle (stats : Stats) (timeout : Int) (classes : List Nat)
    (evs : List Ev) :
    (fallbackRun stats timeout classes evs).releases = [] ∧
    (fallbackRun stats timeout classes evs).mutated = false := by
  obtain ⟨l, hl, h⟩ := fallbackRun_eq stats timeout classes evs
  rw [h]
  exact And.imp_right And.left (runPath_noHandle _ _ _ _ _
    ⟨rfl, rfl, fun _ hc => by cases hc; rcases hl with rfl | rfl <;> rfl⟩)

/-- **at most two terminal calls.**  A request consists of at most two learners: the one
returned by `Select` and at most one successor (the retry on the largest size class after a
failure on a smaller one, or the background run on the smaller size class after a success on
the largest).  A successor never yields a third learner: while a learner is outstanding at
most one call has been made, and no path has more than two. -/
theorem at_most_two_terminal_calls (env : Env) (interfere : Nat → Stats → Stats) (stats : Stats) (origTO : Int)
    (classes : List Nat) (now : Int) (r : Rat) (evs : List Ev) (t : Trace)
    (h : selectorRun env interfere stats origTO classes now r evs = some t) :
    t.calls ≤ 2 ∧ (t.cur.isSome = true → t.calls ≤ 1) := by
  obtain ⟨o, _, _, hc, rfl⟩ := selectorRun_eq h
  exact (runPath_bounded env interfere evs _ o.stats (chooseFD_good hc classes.length).2).calls_le

/-- The same bound for the fallback analyzer (retry once on the largest size class). -/
theorem fallback_at_most_two_terminal_calls (stats : Stats) (timeout : Int) (classes : List Nat)
    (evs : List Ev) : (fallbackRun stats timeout classes evs).calls ≤ 2 := by
  obtain ⟨l, _, h⟩ := fallbackRun_eq stats timeout classes evs
  rw [h]
  refine (Bounded.calls_le (runPath_bounded _ _ _ _ _ ?_)).1
  show 0 + remaining l ≤ 2
  rw [Nat.zero_add]
  exact (remaining_range l).2

example : (fallbackRun exStats 100 [1, 8] [.failed true 0, .failed false 0, .failed false 0]).calls = 2 := by
  decide +kernel

/-! ## Every choice is well formed -/

/-- `Select` does not panic on a non-empty size-class list (for every message, draw and
calculator): the strategy list is never longer than the size-class list. -/
theorem select_no_panic (env : Env) (stats : Stats) (origTO : Int) (classes : List Nat) (now : Int) (r : Rat)
    (hne : classes ≠ []) : (selectFD env stats origTO classes now r).isSome = true := by
  unfold selectFD
  cases hl : classes.getLast? with
  | none => exact absurd (List.getLast?_eq_none_iff.mp hl) hne
  | some largest =>
    obtain ⟨o, ho⟩ := Option.isSome_iff_exists.mp (chooseFD_isSome
      { stats with classes := (strategiesFD env stats origTO classes now).1 } _ origTO classes largest r
      (strategiesFD_length env stats origTO classes now))
    simp only [ho]
    rfl

/-- **no panic inside the scheduler's envelope.**  If `history_size ≥ 1` and every size-class
list passed to `Succeeded` ends in the same largest size class as the list passed to `Select`
(the scheduler never changes the largest size class of a platform queue with several size
classes), no call of the request panics — for every message, draw, outcome sequence and
interference.  So `handle_released_once` applies to every such path.  (Outside the envelope
`largestBackgroundLearner.Succeeded` dereferences a nil median; see
`largestBg_panics_outside_envelope`.) -/
theorem no_panic_in_envelope (env : Env) (interfere : Nat → Stats → Stats) (stats : Stats) (origTO : Int)
    (classes : List Nat) (now : Int) (r : Rat) (evs : List Ev) (t : Trace)
    (hh : 1 ≤ env.historySize)
    (hev : ∀ d cs, Ev.succeeded d cs ∈ evs → cs.getLast? = classes.getLast?)
    (h : selectorRun env interfere stats origTO classes now r evs = some t) : t.panicked = false := by
  obtain ⟨o, largest, hlast, hc, rfl⟩ := selectorRun_eq h
  refine (runPath_calm env classes interfere hh evs hev _ o.stats ⟨rfl, ?_⟩).1
  intro L to sm hcur
  -- `Select` hands out a `largestBackgroundLearner` only for a background strategy, and only the
  -- PageRank calculator returns one
  obtain ⟨_, ⟨_, hn, _⟩ | ⟨i, s, _, hp, _, ⟨hb, hn, _⟩ | ⟨_, hn, _⟩⟩⟩ := chooseFD_cases hc <;>
    rw [show o.next = _ from hcur] at hn <;> cases hn
  exact ⟨strategiesFD_cases env stats origTO classes now (fun ss => s ∈ ss → ∃ c, env.calculator = .pageRank c)
    (fun h => nomatch h) (fun c hc _ => ⟨c, hc⟩) (fun _ _ h => by cases List.mem_singleton.mp h; cases hb)
    (pick_spec _ _ _ _ _ hp).2.2, hlast⟩

example : (selectorRun exEnv (fun _ s => s) exStats 100 [1, 8] 0 0
    [.succeeded 50 [1, 8], .failed true 7]).map (fun t => (t.panicked, t.releases, t.calls)) =
    some (false, [true], 2) := by decide +kernel

/-- The envelope is needed: the list passed to `Succeeded` ends in a size class the message
has never seen, and the call panics (nil dereference in `GetBackgroundExecutionTimeout`). -/
theorem largestBg_panics_outside_envelope :
    (selectorRun exEnv (fun _ s => s) exStats 100 [1, 8] 0 0 [.succeeded 50 [1, 16]]).map (·.panicked) =
      some true := by
  decide +kernel

/-- **index_valid.**  Every size-class index handed to the scheduler together with a learner —
by `Select` and by every `Succeeded` along every path — is an index into the size-class list
that was passed to that very call; in particular when the list passed to `Succeeded` differs
from the one passed to `Select` (a smaller size class disappeared: no learner is returned). -/
theorem index_valid (env : Env) (interfere : Nat → Stats → Stats) (stats : Stats) (origTO : Int)
    (classes : List Nat) (now : Int) (r : Rat) (evs : List Ev) (t : Trace)
    (h : selectorRun env interfere stats origTO classes now r evs = some t) :
    ∀ p ∈ t.indices, p.1 < p.2 :=
  (selectorRun_inRange env interfere stats origTO classes now r evs t h).1

/-- Index validity for the fallback analyzer: always index 0 of a non-empty list. -/
theorem fallback_index_valid (stats : Stats) (timeout : Int) (classes : List Nat) (hne : classes ≠ []) :
    (selectFallback stats timeout classes).idx < classes.length := by
  have : 0 < classes.length := List.length_pos_iff.mpr hne
  unfold selectFallback
  split <;> simpa using this

/-- **timeout_range.**  If the configured minimum execution timeout and the action's own
timeout are not negative, every timeout handed to the scheduler together with a learner — by
`Select`, by `Failed` (retry on the largest size class) and by `Succeeded` (background run) —
lies between zero and the action's own timeout, whatever the float conversions compute
(`FloatOps` is arbitrary inside `env`). -/
theorem timeout_range (env : Env) (interfere : Nat → Stats → Stats) (stats : Stats) (origTO : Int)
    (classes : List Nat) (now : Int) (r : Rat) (evs : List Ev) (t : Trace)
    (hmin : minNonneg env) (horig : 0 ≤ origTO)
    (h : selectorRun env interfere stats origTO classes now r evs = some t) :
    ∀ x ∈ t.timeouts, 0 ≤ x ∧ x ≤ origTO :=
  (selectorRun_inRange env interfere stats origTO classes now r evs t h).2.1 hmin horig

-- background learner: Select on the largest class with the full timeout, then a background
-- run on class 1 with the clamped timeout max(10, 40·8·3/2 …) ≤ 100
example : (selectorRun exEnv (fun _ s => s) exStats 100 [1, 8] 0 0
    [.succeeded 50 [1, 8]]).map (fun t => (t.timeouts, t.indices)) = some ([100, 100], [(1, 2), (0, 2)]) := by
  decide +kernel

/-- Every strategy's foreground timeout is in range as well (not only the chosen one). -/
theorem strategy_timeouts_range (env : Env) (stats : Stats) (origTO : Int) (classes : List Nat) (now : Int)
    (hmin : minNonneg env) (horig : 0 ≤ origTO) :
    ∀ s ∈ (strategiesFD env stats origTO classes now).2.1, 0 ≤ s.fgTimeout ∧ s.fgTimeout ≤ origTO :=
  strategiesFD_ok env stats origTO classes now hmin horig

/-- The timeouts and indices of the fallback analyzer: the action's own timeout, index 0. -/
theorem fallback_timeout_range (stats : Stats) (timeout : Int) (classes : List Nat) (evs : List Ev)
    (h0 : 0 ≤ timeout) (hne : classes ≠ []) :
    (∀ x ∈ (fallbackRun stats timeout classes evs).timeouts, 0 ≤ x ∧ x ≤ timeout) ∧
    (∀ p ∈ (fallbackRun stats timeout classes evs).indices, p.1 < p.2) := by
  have hlen : 0 < classes.length := List.length_pos_iff.mpr hne
  obtain ⟨l, hl, h⟩ := fallbackRun_eq stats timeout classes evs
  rw [h]
  have := runPath_inRange fallbackEnv timeout (fun _ s => s) evs
    { cur := some l, timeouts := [timeout], indices := [(0, classes.length)] } stats
    ⟨fun p hp => by cases List.mem_singleton.mp hp; exact hlen,
      fun _ _ x hx => by cases List.mem_singleton.mp hx; exact ⟨h0, Int.le_refl _⟩,
      fun _ hc => by cases hc; rcases hl with rfl | rfl <;> trivial⟩
  exact ⟨this.2.1 trivial h0, this.1⟩

/-- **ExtractTimeout** rejects anything outside `[0, maximum]`: an accepted timeout that was
supplied by the action lies in that interval; an absent timeout yields the default. -/
theorem extract_timeout_range (defaultTO maxTO : Int) (a : ActionTimeout) (t : Int)
    (h : extractTimeout defaultTO maxTO a = some t) :
    (a = .unset ∧ t = defaultTO) ∨ (∃ s n, a = .set s n ∧ 0 ≤ t ∧ t ≤ maxTO) := by
  cases a with
  | unset => exact .inl ⟨rfl, (Option.some.inj h).symm⟩
  | set s n =>
    refine .inr ⟨s, n, rfl, ?_⟩
    unfold extractTimeout at h
    simp only at h
    split at h
    · exact nomatch h
    · split at h
      · exact nomatch h
      · rename_i hr
        cases h
        simp only [Bool.or_eq_true, decide_eq_true_eq, not_or] at hr
        omega

example : extractTimeout 1800 3600 (.set 0 0) = some 0 := by decide
example : extractTimeout 1800 3600000000000 (.set 3600 0) = some 3600000000000 := by decide
example : extractTimeout 1800 3600000000000 (.set 3600 1) = none := by decide
example : extractTimeout 1800 3600000000000 (.set 5 (-1)) = none := by decide
example : extractTimeout 1800 3600000000000 (.set 315576000000 0) = none := by decide

/-! ## `Outcomes.IsFaster` -/

/-- **isFaster_open_interval.**  For all outcome sets the integer score of `IsFaster` lies
strictly between 0 and the denominator `2 + cA + cB + 2·cA·cB`, hence the probability lies
strictly between 0 and 1 (needed for the matrix to be stochastic with a positive diagonal).
Holds without assuming the success lists are sorted. -/
theorem isFaster_open_interval (a b : Outcomes) :
    0 < isFasterScore a b ∧ isFasterScore a b < isFasterDenom a b ∧
    0 < isFaster a b ∧ isFaster a b < 1 :=
  ⟨isFasterScore_pos a b, isFasterScore_lt_denom a b, isFaster_pos a b, isFaster_lt_one a b⟩

/-- **isFaster antisymmetry.**  For outcome sets built by `NewOutcomes` (which sorts the
successes) `x.IsFaster(y) + y.IsFaster(x) = 1`, and for any sorted success lists the two integer
scores add up to the common denominator: the merge loop computes exactly the Mann-Whitney pair
score (2 per pair won, 1 per tie, failures slower than every success and tied among themselves)
plus the `1 + count` smoothing. -/
theorem isFaster_antisymmetric (sa sb : List Int) (fa fb : Nat) :
    isFaster (newOutcomes sa fa) (newOutcomes sb fb) + isFaster (newOutcomes sb fb) (newOutcomes sa fa) = 1 ∧
    isFasterScore (newOutcomes sa fa) (newOutcomes sb fb) + isFasterScore (newOutcomes sb fb) (newOutcomes sa fa) =
      isFasterDenom (newOutcomes sa fa) (newOutcomes sb fb) :=
  ⟨isFaster_sym _ _ (sortInts_sorted sa) (sortInts_sorted sb),
   isFasterScore_sym _ _ (sortInts_sorted sa) (sortInts_sorted sb)⟩

example : isFasterScore { successes := [1, 2, 2, 5], failures := 1 } { successes := [2, 3], failures := 2 } = 33 ∧
    isFasterDenom { successes := [1, 2, 2, 5], failures := 1 } { successes := [2, 3], failures := 2 } = 51 := by
  simp [isFasterScore, isFasterDenom, Outcomes.count, mergeScore, takeEq]

/-! ## The PageRank matrix and the power iteration -/

/-- **stochastic_step.**  For any outcome sets and `n ≥ 2` size classes, the matrix built by
`GetStrategies` has `n` rows of `n` non-negative entries each summing to one (left stochastic
in the code's orientation), and one power-iteration step maps any vector of length `n` to a
vector of length `n` with the same sum, preserving non-negativity: probability vectors are
mapped to probability vectors. -/
theorem stochastic_step (outs : List Outcomes) (n : Nat) (hn : 2 ≤ n) :
    ((matrix outs n).length = n ∧
      ∀ row ∈ matrix outs n, row.length = n ∧ sumRat row = 1 ∧ ∀ x ∈ row, 0 ≤ x) ∧
    ∀ p : List Rat, p.length = n →
      (stepVec (matrix outs n) p).length = n ∧
      sumRat (stepVec (matrix outs n) p) = sumRat p ∧
      ((∀ x ∈ p, 0 ≤ x) → ∀ x ∈ stepVec (matrix outs n) p, 0 ≤ x) :=
  ⟨matrix_facts outs n hn, fun p hp => stepVec_facts outs n hn p hp⟩

/-- The vector the iteration starts from sums to one, and so does every iterate, whatever
probabilities were restored from the message (exact arithmetic). -/
theorem power_iteration_sum_one (outs : List Outcomes) (pcs : List PerClass) (hn : 2 ≤ pcs.length)
    (eps : Rat) (fuel : Nat) :
    sumRat (iterate (matrix outs pcs.length) eps fuel (startVec pcs)).1 = 1 := by
  have hs := startVec_facts pcs (by omega)
  have := iterate_facts outs pcs.length hn eps fuel (startVec pcs) hs.1
  rw [this.2.1, hs.2.1]

/-- The strategies returned by `GetStrategies` are all but the last entry of the iterated
vector (`pageRankStrategies_iterated` shows this for `pageRankStrategies` itself), and that vector
sums to one (`power_iteration_sum_one`): the returned probabilities sum to `1 - p(largest)`.
This is the fact about lists behind it.  So "the returned probabilities sum to more than one" is exactly "the entry
of the largest size class is negative" — one phenomenon, not two (the monitor judges both alike). -/
theorem returned_sum_is_one_minus_largest (l : List Rat) (x : Rat) (h : sumRat (l ++ [x]) = 1) :
    sumRat ((l ++ [x]).take ((l ++ [x]).length - 1)) = 1 - x ∧
    (sumRat ((l ++ [x]).take ((l ++ [x]).length - 1)) ≤ 1 ↔ 0 ≤ x) := by
  have ht : (l ++ [x]).take ((l ++ [x]).length - 1) = l := by
    rw [List.length_append, List.length_singleton, Nat.add_sub_cancel, List.take_left]
  rw [sumRat_append, sumRat, sumRat, Rat.add_zero] at h
  have hs : sumRat l = 1 - x := by rw [← h, Rat.add_sub_cancel]
  have hx := Rat.add_le_add_left (a := 0) (b := x) (c := 1)
  rw [Rat.add_zero] at hx
  rw [ht, hs]
  exact ⟨rfl, Rat.sub_right_le_iff_le_add.trans hx⟩

example : sumRat (([1 / 4, 1 / 4] : List Rat) ++ [1 / 2]) = 1 := by decide +kernel

/-- **restored_start_in_open_interval.**  For EVERY value of `initial_page_rank_probability`
that can be read back from the Initial Size Class Cache — NaN, +Inf, -Inf, negative, zero,
denormal, one, larger than one (non-finite values are explicit constructors of `StoredProb`,
not real numbers) — the restore guard of `GetStrategies`
(`probability := 0.5; if restored > 0 && restored < 1 { probability = restored }`) yields a
starting probability strictly between 0 and 1: no stored value can poison the power iteration.
Hence every restored entry of the starting vector of every message is in (0,1). -/
theorem restored_start_in_open_interval :
    (∀ v : StoredProb, 0 < restoredOf v ∧ restoredOf v < 1) ∧
    (∀ pcs : List PerClass, ∀ x ∈ restored pcs, 0 < x ∧ x < 1) := by
  refine ⟨restoredOf_range, ?_⟩
  intro pcs x hx
  simp only [restored, List.mem_map] at hx
  obtain ⟨pc, _, rfl⟩ := hx
  exact restoredOf_range pc.prob

example : restoredOf .nan = 1 / 2 ∧ restoredOf .posInf = 1 / 2 ∧ restoredOf .negInf = 1 / 2 ∧
    restoredOf (.fin 0) = 1 / 2 ∧ restoredOf (.fin 1) = 1 / 2 ∧ restoredOf (.fin (-1 / 4)) = 1 / 2 ∧
    restoredOf (.fin (3 / 2)) = 1 / 2 ∧ restoredOf (.fin (1 / 1024)) = 1 / 1024 := by decide +kernel

/-- **probabilities_range.**  Whenever the starting vector is non-negative — the restored
probabilities (those strictly between 0 and 1, otherwise 1/2) of all size classes but the
first sum to at most one; this is always so for at most three size classes without restored
values — the strategies used by `Select` have non-negative probabilities, every prefix sum
lies in `[0,1]`, and the probabilities sum to at most one, for every calculator, message,
size-class list and after any number of power iterations (whatever the convergence error). -/
theorem probabilities_range (env : Env) (stats : Stats) (origTO : Int) (classes : List Nat) (now : Int)
    (hstart : sumRat (restored ((classList (ensureClasses stats.classes classes) classes).drop 1)) ≤ 1) :
    (∀ x ∈ probs (strategiesFD env stats origTO classes now).2.1, 0 ≤ x ∧ x ≤ 1) ∧
    (∀ k, 0 ≤ prefixSum (strategiesFD env stats origTO classes now).2.1 k ∧
          prefixSum (strategiesFD env stats origTO classes now).2.1 k ≤ 1) ∧
    sumRat (probs (strategiesFD env stats origTO classes now).2.1) ≤ 1 := by
  have h := strategiesFD_probs env stats origTO classes now hstart
  refine ⟨?_, fun k => ⟨sumRat_nonneg _ fun x hx => h.1 x (List.mem_of_mem_take hx),
    Rat.le_trans (sumRat_take_le _ h.1 k) h.2⟩, h.2⟩
  intro x hx
  refine ⟨h.1 x hx, ?_⟩
  exact Rat.le_trans (le_sumRat_of_mem _ h.1 x hx) h.2

-- the hypothesis holds for the example message (one restored/default entry: 1/2)
example : sumRat (restored ((classList (ensureClasses exStats.classes [1, 8]) [1, 8]).drop 1)) ≤ 1 := by
  decide +kernel

/-- The hypothesis of `probabilities_range` cannot be dropped: with five size classes and no
restored probabilities (every message the first time the power iteration runs) the starting
vector is `(-1, 1/2, 1/2, 1/2, 1/2)` and after one exact iteration step the first entry is
still negative.  Non-negativity of the returned probabilities then rests on convergence of
the floating-point iteration (modelled, not verified; the harness finds negative
probabilities for maximum_convergence_error ≥ 0.1, none at the recommended 0.002). -/
theorem start_vector_can_be_negative :
    startVec (List.replicate 5 {}) = [-1, 1 / 2, 1 / 2, 1 / 2, 1 / 2] ∧
    (stepVec (matrix [] 5) (startVec (List.replicate 5 {}))).head? = some (-1 / 4) := by
  decide +kernel

/-! ## `Select` takes exactly one branch -/

/-- **select_total.**  For non-negative probabilities and every draw `r ≥ 0` the selection
loop of `Select` either returns the strategy `i` whose half-open interval
`[p₀+…+p_{i-1}, p₀+…+p_i)` contains `r` — and there is exactly one such index — or returns
nothing (largest size class) exactly when `r` is at least the total probability.  Hence for a
uniform draw from `[0,1)` strategy `i` is chosen with probability `pᵢ` and the largest size
class with the remaining probability. -/
theorem select_total (ss : List Strategy) (r : Rat) (hnn : ∀ s ∈ ss, 0 ≤ s.prob) (h0 : 0 ≤ r) :
    (∃ i s, pick ss 0 r = some (i, s) ∧ ss[i]? = some s ∧
        prefixSum ss i ≤ r ∧ r < prefixSum ss (i + 1) ∧
        ∀ j, prefixSum ss j ≤ r ∧ r < prefixSum ss (j + 1) → j = i) ∨
    (pick ss 0 r = none ∧ prefixSum ss ss.length ≤ r ∧
        ∀ j, j < ss.length → ¬ (prefixSum ss j ≤ r ∧ r < prefixSum ss (j + 1))) := by
  have hp := pick_interval ss 0 r h0
  cases hpk : pick ss 0 r with
  | some js =>
    obtain ⟨j, s⟩ := js
    left
    obtain ⟨i, hj, hs, h1, h2⟩ := hp.1 j s hpk
    have hji : j = i := by omega
    subst hji
    exact ⟨j, s, rfl, hs, h1, h2, fun j' hj' => interval_unique ss hnn r j' j hj' ⟨h1, h2⟩⟩
  | none =>
    right
    refine ⟨rfl, hp.2 hpk, ?_⟩
    intro j hj hcon
    exact absurd hcon.2 (Rat.not_lt.mpr (Rat.le_trans (prefixSum_mono ss hnn (j + 1) ss.length hj) (hp.2 hpk)))

example : pick [{ prob := 1 / 4 }, { prob := 1 / 4, background := true }] 0 (1 / 3) =
    some (1, { prob := 1 / 4, background := true }) := by decide +kernel
example : pick [{ prob := 1 / 4 }, { prob := 1 / 4 }] 0 (1 / 2) = none := by decide +kernel

/-- The three kinds of learner `Select` can return correspond to the branches of the loop. -/
theorem select_branches (stats1 : Stats) (ss : List Strategy) (origTO : Int) (classes : List Nat)
    (largest : Nat) (r : Rat) (o : StepOut) (h : chooseFD stats1 ss origTO classes largest r = some o) :
    (pick ss 0 r = none ∧ o.next = some (.onlyLargest largest) ∧ o.idx = classes.length - 1 ∧ o.timeout = origTO) ∨
    (∃ i s smaller, pick ss 0 r = some (i, s) ∧ classes[i]? = some smaller ∧
      ((s.background = true ∧ o.next = some (.largestBg largest origTO smaller) ∧
          o.idx = classes.length - 1 ∧ o.timeout = origTO) ∨
       (s.background = false ∧ o.next = some (.smallerFg smaller s.fgTimeout largest origTO) ∧
          o.idx = i ∧ o.timeout = s.fgTimeout))) :=
  (chooseFD_cases h).2

end BbRe.Properties.C07ISC
