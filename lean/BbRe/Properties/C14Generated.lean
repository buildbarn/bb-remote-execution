-- GENERATED by tools/lockskel together with BbRe/Generated/LockSkel.lean; regenerated by ./check on every run. Do not edit.
import BbRe.Generated.LockSkel
import BbRe.Lemmas.LockSkelDiag
import BbRe.Lemmas.LockSkelEdges
import BbRe.Lemmas.LockSkelLocal
import BbRe.Properties.C14
/-!
# C14 — obligations about the lock skeletons generated from the current source

`BbRe/Generated/LockSkel.lean` is rewritten by `tools/lockskel` from the Go sources on
every `./check C14`; the theorems below are therefore re-proved against the code as it is
now, by kernel evaluation of the verified checker (`decide +kernel`; no `native_decide`).
`skeletons_consistent : consistent sigma prog = true`, the hypothesis of `C14.checker_sound`,
is one obligation per translated function (`checkFn sigma k f_k = true`: started with exactly
the locks its summary requires, no path releases a lock that is not held, and every returning
path ends holding exactly the locks its summary promises). `entry_points_balanced`: every
exported function / method has the empty summary.

All obligations about the tables are parts of one evaluation, `tables_ok`: one pass over the
program that checks each function on the table rows it reads, its own and its callees'
(`Lemmas/LockSkelLocal.lean`; the checkers look a row up in these lists at every call statement).

The `#eval` only prints a readable explanation (function, held locks, path with Go
line numbers) when an obligation fails; it proves nothing.
-/
namespace BbRe.Properties.C14Generated
open BbRe.LockSkel BbRe.Generated.LockSkel BbRe.Lemmas.LockSkelLocal

def names : Diag.Names where
  lock := fun i => if isGhost i then "‹a lock of class " ++ classNames.getD (gcls i) "?" ++ " held by the caller›"
    else (lockNames.lookup i).getD s!"lock#{i}"
  gclass := fun c => classNames.getD c s!"class#{c}"
  pile := fun i => pileNames.getD i s!"pile#{i}"
  fn := fun i => fnNames.getD i s!"fn#{i}"
  why := fun i => whyNames.getD i s!"why#{i}"

#eval show IO Unit from do
  let bad := Diag.explainAll names sigma prog
  if !bad.isEmpty then
    throw (IO.userError ("C14 lock balance violated: " ++ " || ".intercalate (bad.map (·.2))))

#eval show IO Unit from do
  let bad := Diag.explainTx names edgeClass relTbl prog
  if !bad.isEmpty then
    throw (IO.userError ("C14 transaction (check-then-act) violated: " ++ " || ".intercalate bad))

#eval show IO Unit from do
  let bad := Diag.explainEdges names (fun c => classNames.getD c s!"class#{c}") classNames.length edgeClass acqTbl sigma prog
  if !bad.isEmpty then
    throw (IO.userError ("C14 lock order violated: " ++ " || ".intercalate bad))

theorem tables_ok : TablesOk edgeClass edgeClass sigma acqTbl relTbl prog classNames.length entries :=
  tablesOk_of_zip (by decide +kernel)

/-- Every translated function meets its summary (hypothesis of `C14.checker_sound`). -/
theorem skeletons_consistent : consistent sigma prog = true := tables_ok.consistent

/-- Every exported function / method (RPC handlers, `virtual.Directory`/`Leaf` methods,
file pool, cleaner and scheduler API) has the empty summary: it requires nothing and
leaves nothing behind. -/
theorem entry_points_balanced : entriesBalanced sigma entries = true := tables_ok.balanced

/-- **No call leaves a lock behind** (for the code as it is now): every run of every
exported function / method of the translated files that returns — whatever branches it
took, however often its loops ran, including everything its callees did and every
error return — never released a lock it did not hold and holds no lock at the end. -/
theorem no_entry_point_leaves_a_lock_behind (f : Nat) (hf : f ∈ entries) (tr : List Ev)
    (he : Exec prog f tr) : run [] tr = some [] := by
  have hb := entry_points_balanced
  unfold entriesBalanced at hb
  have h1 := List.all_eq_true.mp hb f hf
  exact BbRe.Properties.C14.balanced_entry_leaves_nothing sigma prog skeletons_consistent f
    (by simpa using h1) tr he

/-- **Guarded-by, for the code as it is now**: in every returning run of every exported
function / method, every mutation of state listed in tools/lockskel/guards.json (a need
event) happens while a lock of a guarding class is held in write mode. -/
theorem entry_point_mutations_are_locked (f : Nat) (hf : f ∈ entries) (p q : List Ev)
    (cs : List Nat) (he : Exec prog f (p ++ Ev.need cs :: q)) :
    ∃ h1, run [] p = some h1 ∧ holdsClass h1 cs = true := by
  have hb := entry_points_balanced
  unfold entriesBalanced at hb
  have h1 := List.all_eq_true.mp hb f hf
  have hs : sigma.get f = some ([], []) := by simpa using h1
  obtain ⟨req, post, hs', h, hr, hc⟩ :=
    BbRe.Properties.C14.guarded_mutations_are_locked sigma prog skeletons_consistent f p q cs he
  rw [hs] at hs'
  cases hs'
  exact ⟨h, hr, hc⟩

/-- Declared check/act pairs on guarded state (ByteRangeLockSet.Test … Set on
OpenedFile.locks) happen within one critical section: no function acts on a check made
before the guarding lock was released. (Executable may-analysis txOk; not linked to the
path semantics by a theorem.) -/
theorem transactions_ok : txOk edgeClass relTbl prog = true := tables_ok.tx

/-- The translator's table of what each function may acquire contains all direct
acquisitions and is closed under the call graph. -/
theorem acq_table_closed : acqClosed edgeClass acqTbl prog = true := tables_ok.closed

/-- All (class of a held lock, class of a lock acquired by a possibly blocking operation)
pairs of the translated code; acquisitions through a LockPile do not count the locks of
that pile as held (C14.pile_no_hold_and_wait). -/
def classEdges : Edges := (edgesProg edgeClass acqTbl sigma prog []).getD [(0, 0)]

/-- A rank per lock class, computed from the edges (Kahn's algorithm). -/
def classRanks : List (Nat × Nat) := rankTable classNames.length classEdges

/-- **The lock-class graph extracted from the current source is acyclic**: the rank is
strictly increasing along every acquired-while-holding edge. In particular there is no
edge from a class to itself: a directory lock (or any other lock) is never awaited while
another lock of the same class is held, except through a LockPile. -/
theorem class_graph_ok :
    (edgesProg edgeClass acqTbl sigma prog []).isSome = true ∧ ranksOk classRanks classEdges = true := by
  obtain ⟨es, he, hr⟩ := tables_ok.graph
  unfold classRanks classEdges
  rw [he]
  exact ⟨rfl, hr⟩

/-- No call renames an ownership token (serial 998) into a real lock (side condition of
edges_sound). -/
theorem own_ok : BbRe.Lemmas.LockSkelEdges.ownOk prog = true := by decide +kernel

/-- **The extraction is sound, and every run respects the lock order** (for the code as it
is now): in every returning run of every translated function, replayed from the locks its
summary requires, every (class of a held lock, class of a lock being acquired) pair —
an acquisition through a LockPile not counting that pile's own locks as held — is an
extracted edge, hence strictly increases the class rank. -/
theorem runs_respect_lock_order (f : Nat) (tr : List Ev) (he : Exec prog f tr)
    (req post : List Nat) (hs : sigma.get f = some (req, post)) :
    ∀ e ∈ BbRe.Lemmas.LockSkelEdges.pairsRun edgeClass req (fun _ => []) tr,
      e ∈ classEdges ∧ rankOf classRanks e.1 < rankOf classRanks e.2 := by
  have hsome := class_graph_ok.1
  have hes : edgesProg edgeClass acqTbl sigma prog [] = some classEdges := by
    unfold classEdges
    cases h : edgesProg edgeClass acqTbl sigma prog [] with
    | none => rw [h] at hsome; cases hsome
    | some es => rfl
  intro e hm
  exact ⟨BbRe.Lemmas.LockSkelEdges.edges_sound edgeClass acqTbl sigma prog classEdges
      skeletons_consistent acq_table_closed own_ok hes f tr he req post hs e hm,
    BbRe.Lemmas.LockSkelEdges.pairs_ranked edgeClass acqTbl sigma prog classEdges classRanks
      skeletons_consistent acq_table_closed own_ok hes class_graph_ok.2 f tr he req post hs e hm⟩

/-- Link to C14.no_deadlock: in any state of any system of threads in which every
(held lock, awaited lock) pair of a blocked thread is one of the extracted edges
(lc = class of a run-time lock), hypothesis H holds for the order rank ∘ class;
hence the wait-for graph is acyclic. -/
theorem lock_order_gives_H (holds : Nat → Nat → Prop) (waits : Nat → Option Nat) (lc : Nat → Nat)
    (hsrc : ∀ t l l', waits t = some l → holds t l' → (lc l', lc l) ∈ classEdges) :
    BbRe.Lemmas.LockPile.H holds waits (fun l => rankOf classRanks (lc l)) := by
  intro t l hl
  right
  intro l' hh
  have h := class_graph_ok.2
  unfold ranksOk at h
  have := List.all_eq_true.mp h _ (hsrc t l l' hl hh)
  simpa using this

theorem no_deadlock_by_lock_order (holds : Nat → Nat → Prop) (waits : Nat → Option Nat) (lc : Nat → Nat)
    (hsrc : ∀ t l l', waits t = some l → holds t l' → (lc l', lc l) ∈ classEdges)
    (t0 : Nat) (rest : List Nat) :
    ¬ BbRe.Lemmas.LockPile.Chain (BbRe.Lemmas.LockPile.Edge holds waits) t0 (rest ++ [t0]) :=
  BbRe.Properties.C14.no_deadlock (lock_order_gives_H holds waits lc hsrc) t0 rest

/-- The translation is not vacuous. -/
theorem covers_anchored_code : 60 ≤ entries.length ∧ 120 ≤ prog.length ∧ 25 ≤ lockNames.length ∧ 200 ≤ touchCount := by decide +kernel

end BbRe.Properties.C14Generated
