import BbRe.Lemmas.SchedTreeLock
import BbRe.Lemmas.SchedInvParked
import BbRe.Lemmas.SchedTreeRead
import BbRe.Lemmas.SchedTreePrioStep
import BbRe.Lemmas.SchedTreePrioFixStep
import BbRe.Lemmas.SchedTreeTrue
/-!
# C04 (tree layer) — the invocation tree as state refines the scheduler model

`Model/SchedTree.lean` adds to the segment model `Model/Sched.lean` the tree of invocations of every
size-class queue as `pkg/scheduler/in_memory_build_queue.go` maintains it, and replaces the oracle for the
two hand-out decisions by a *check*: the observed choice must be in the admissible set computed from the
tree (`Fair.specPick` for `assignNextQueuedTask`, `handoffAdm` for `task.schedule`).  The theorems here are
about every reachable state of that layer / every run (`TReachable`, `trun`): all interleavings of segments,
all analyzer answers, all choices.
-/
namespace BbRe.Properties.C04Tree
open BbRe BbRe.Sched BbRe.SchedTree BbRe.Lemmas.SchedTree

/-- **refines_sched.**  The projection to `Sched.State` of a tree-layer step is `Sched.step` of the
projection, with hints := the choice made (the tree layer only rejects more segments: those whose hand-out
decision is not admissible for its tree). -/
theorem refines_sched (ts ts' : TState) (g : TSeg) (h : tstep ts g = .ok ts') :
    step ts.s g.seg = .ok ts'.s :=
  tstep_ref ts ts' g h

/-- The projection of a reachable state of the tree layer is a reachable state of `Model/Sched.lean`. -/
theorem refines_sched_reachable (ts : TState) (h : TReachable ts) : Reachable ts.s :=
  reachable_proj h

/-- Hence every theorem proved for all reachable states of `Model/Sched.lean` (C01–C03, C05, C06, C07a)
holds for the `Sched` component of every reachable state of the tree layer. -/
theorem sched_theorems_transfer (P : State → Prop) (hP : ∀ s, Reachable s → P s) (ts : TState)
    (h : TReachable ts) : P ts.s :=
  hP ts.s (refines_sched_reachable ts h)

/-- Runs: the projection of a tree-layer run is the `Sched` run of the accepted segments. -/
theorem refines_sched_run (ts : TState) (gs : List TSeg) :
    ∃ gs' : List Seg, gs'.Sublist (gs.map (·.seg)) ∧ run ts.s gs' = (trun ts gs).s := by
  induction gs generalizing ts with
  | nil => exact ⟨[], List.Sublist.refl _, rfl⟩
  | cons g rest ih =>
    unfold trun
    cases hg : tstep ts g with
    | error e =>
      obtain ⟨gs', hsub, hrun⟩ := ih ts
      exact ⟨gs', List.Sublist.cons _ hsub, hrun⟩
    | ok ts1 =>
      obtain ⟨gs', hsub, hrun⟩ := ih ts1
      refine ⟨g.seg :: gs', by simpa using hsub.cons_cons g.seg, ?_⟩
      simp only [run, refines_sched ts ts1 g hg]
      exact hrun

/-- **handoff_and_pick_admissible.**  The ghost log `decisions` is parallel to `State.assigned` (one
entry per assignment ever made to a real worker, same worker and task), and every entry was in the
admissible set computed from the tree of that moment: a task taken from the queue
(`assignNextQueuedTask`) hands out an operation of `Fair.specPick` on the snapshot of the worker's
size-class queue with the worker's last invocation, stickiness starting times and limits; a task handed
to a parked worker (`task.schedule`) goes to a member of `handoffAdm` for the task's invocations.  This
ties the snapshot theorems of `Properties/C04.lean` to runs. -/
theorem handoff_and_pick_admissible (ts : TState) (h : TReachable ts) :
    ts.decisions.map dkey = ts.s.assigned ∧
    ∀ d ∈ ts.decisions,
      match d with
      | .pick _ _ _ tree view op retained => (op, retained) ∈ Fair.specPick tree view
      | .handoff q w _ nodes invs => w ∈ handoffAdm nodes q invs := by
  have hl := lock_reachable h
  refine ⟨hl.1, fun d hd => ?_⟩
  have := hl.2 d hd
  cases d <;> exact this

/-- **no_queued_while_parked** (C04), scheduler-level form: in every reachable state, while a worker is
parked in a size-class queue no task of that queue is queued, and every parked worker is undrained and
not terminating. -/
theorem no_queued_while_parked (ts : TState) (h : TReachable ts) :
    ∀ wk ∈ ts.s.workers, wk.parked = true →
      queuedTasks ts.s wk.scq = [] ∧ wk.terminating = false ∧
      (∀ sq, ts.s.scq? wk.scq = some sq → isDrained sq wk = false) :=
  BbRe.Lemmas.SchedInv.parkedOK_reachable (refines_sched_reachable ts h)

/-- **tree_inv.**  In every reachable state the invocation trees are exactly what the task, operation and
worker tables say (`Lemmas/SchedTreeRead.lean`, `TreeInv`): one invocation per path with its parent, a root
per size-class queue; `queuedOperations` = the operations of QUEUED tasks in that invocation (so the queued
flag of a task and the membership of its operations in `queuedOperations` agree); `queuedChildren` = the
children with a queued operation in their subtree; `idleSynchronizingWorkers` = the workers blocked in
`Synchronize` whose last invocation this is; `idleSynchronizingWorkersChildren` = the children with such a
worker in their subtree; `executingWorkers[w]` = the number of operations in the subtree of tasks executing on
`w` (no zero entries, nothing left of the temporary worker of `task.complete`); `idleWorkersCount` = the
number of workers whose last invocation is in the subtree; a non-root invocation exists iff something of the
above is recorded at or below it (`getOrCreateInvocation` / `removeIfEmpty`).

`firstQueuedOperationPriority` (second conjunct; for the scheduler with the fix of
notes/findings/C04-stale-first-priority.md — every reachable state has `legacyPrio = false`): every non-root
invocation caches exactly what `updateFirstOperationPriority` would store now: the least priority of its own
queued operations when it has any, otherwise the cached priority of its first queued child (`bestKid`: the
first child in `queuedChildren` that no other queued child is `childLess` than — in the code
`queuedChildren[0]`, which is such a child; where several such children tie with different priorities the
heap layout decides, see the assumptions).  Unfolding the recursion, the cache of an invocation with queued
work is the priority of the operation the documented walk hands out next below it (`true_priorities` below).
The root's cache is never read and only refreshed by increment/decrementExecutingWorkersCount. -/
theorem tree_inv (ts : TState) (h : TReachable ts) :
    TreeInv ts ∧ ts.legacyPrio = false ∧
    ∀ n ∈ ts.nodes, n.path ≠ [] →
      (n.qops ≠ [] → n.prio = minPrio (n.qops.map ts.prioOf)) ∧
      (n.qops = [] → n.qkids ≠ [] → ∃ c, bestKid ts.nodes n = some c ∧ n.prio = c.prio) := by
  refine ⟨(tinv_reachable h).treeInv, legacy_reachable h, ?_⟩
  obtain ⟨hfix, hnd, hqk⟩ := fix_reachable h
  intro n hn hp
  have hf := hfix n hn hp
  constructor
  · exact prioOK_of_fix hfix n hn hp
  · intro hq hk
    -- the first queued child exists
    have hne : kidsOf ts.nodes n ≠ [] := by
      cases hx : n.qkids with
      | nil => exact absurd hx hk
      | cons k r =>
        obtain ⟨c, hc, _⟩ := hqk n hn k (by rw [hx]; exact List.mem_cons_self)
        unfold kidsOf
        rw [hx, List.filterMap_cons, hc]
        exact List.cons_ne_nil _ _
    have hbk : ∃ c, bestKid ts.nodes n = some c := by
      unfold bestKid
      simp only []
      split
      · exact ⟨_, rfl⟩
      · cases hx : kidsOf ts.nodes n with
        | nil => exact absurd hx hne
        | cons a r => exact ⟨a, rfl⟩
    obtain ⟨c, hc⟩ := hbk
    refine ⟨c, hc, ?_⟩
    rw [← hf]
    unfold updPrio
    have : (!n.qops.isEmpty) = false := by rw [hq]; rfl
    rw [this, hc]
    rfl

/-- what `bestKid` is: one of the invocations listed in `queuedChildren`, and — whenever the queued children
have a least element for `childLess` at all — one that no queued child is `childLess` than -/
theorem bestKid_spec (ns : List Node) (n c : Node) (h : bestKid ns n = some c) :
    c ∈ kidsOf ns n ∧
    ((∃ g ∈ kidsOf ns n, ∀ g' ∈ kidsOf ns n, childLess g' g = false) → ∀ g' ∈ kidsOf ns n, childLess g' c = false) := by
  unfold bestKid at h
  simp only [] at h
  split at h
  · rename_i g hg
    cases h
    have := List.find?_some hg
    refine ⟨List.mem_of_find?_eq_some hg, fun _ g' hg' => ?_⟩
    have h2 := List.all_eq_true.mp this g' hg'
    simpa using h2
  · rename_i hnone
    refine ⟨List.mem_of_mem_head? h, ?_⟩
    rintro ⟨g, hg, hmin⟩
    exfalso
    have := List.find?_eq_none.mp hnone g hg
    apply this
    exact List.all_eq_true.mpr (fun g' hg' => by rw [hmin g' hg']; rfl)

/-- the weaker clause that holds before AND after the fix (any `legacyPrio`): own queued operations determine
the cache -/
theorem tree_inv_own_priority (ts : TState) (h : TReachable ts) :
    ∀ n ∈ ts.nodes, n.path ≠ [] → n.qops ≠ [] → n.prio = minPrio (n.qops.map ts.prioOf) :=
  prio_reachable h

/-- **true_priorities.**  Every queue pick ever made was admissible for a tree whose stored priorities are
the TRUE ones: the snapshot recorded with the decision (`handoff_and_pick_admissible`: the pick is in
`Fair.specPick` of it) is `truthful` — every invocation below the root caches
`truePrio` = the least priority of its own queued operations, else the cached priority of the first queued
child that no other queued child is `Fair.childLess` than — and `queuedLive` (`queued` lists existing, queued
children), so that (`Lemmas/SchedTreeTrue.lean`, `truthful_reading`) the priority by which an invocation with
queued work is ordered among its siblings is the priority of an operation queued at or below it, and for an
invocation with own operations the least of them.  (Before the fix of
notes/findings/C04-stale-first-priority.md this fails: `legacy_stale_priority_counterexample`.) -/
theorem true_priorities (ts : TState) (h : TReachable ts) :
    ∀ d ∈ ts.decisions,
      match d with
      | .pick _ _ _ tree view op retained =>
          (op, retained) ∈ Fair.specPick tree view ∧ TrueDefs.truthful tree = true ∧ TrueDefs.queuedLive tree = true
      | .handoff .. => True := by
  intro d hd
  have h1 := (handoff_and_pick_admissible ts h).2 d hd
  have h2 := decfix_reachable h d hd
  cases d with
  | handoff => trivial
  | pick q w t tree view op retained =>
    obtain ⟨opOf, pr, ns, hf, hs, hop, rfl⟩ := h2
    exact ⟨h1, truthful_snapshot q hf hs hop, queuedLive_snapshot q hs⟩

/-! ### the scheduler before the fix: counterexample -/

namespace Cex
def q : ScqId := ⟨1, 0⟩
def wA : WId := ⟨2, 1⟩
def wB : WId := ⟨3, 1⟩
def cfg : Cfg := ⟨10, 10, 30, 100, 5, 50, 3, 1000⟩
def h0 : Hints := ⟨[], 0, none, false⟩
def seg (s : Seg) : TSeg := { seg := s }
/-- the history of notes/findings/C04-stale-first-priority.md: worker A blocks; client 6 (invocation [1,2],
priority -7) is handed to it; clients 9 ([1,2], priority 0) and 13 ([1,3], priority 50) are queued; A times out
at 52 (its task is completed: `decrementExecutingWorkersCount`); client 20 ([2], priority 25) is queued -/
def pre : List TSeg :=
  [ seg (.sync h0 1 q [] 7 wA .idle false),
    seg (.exec ⟨[(q, wA, 1)], 0, none, false⟩ 2 6 10 10 true [] 7 [1, 2] (-7)),
    seg (.syncWake h0 2 q wA 0),
    seg (.exec h0 2 9 11 11 true [] 7 [1, 2] 0),
    seg (.exec h0 2 13 12 12 true [] 7 [1, 3] 50),
    seg (.touch h0 60),
    seg (.exec h0 60 20 13 13 true [] 7 [2] 25) ]
/-- a new worker B asks for work and is given the task with operation `op` -/
def syncB (op : Nat) : TSeg := seg (.sync ⟨[(q, wB, op)], 0, none, false⟩ 60 q [] 7 wB .idle false)
def strictRun (ts : TState) (gs : List TSeg) : M TState := gs.foldlM tstep ts
def legacyInit : TState := { TState.init cfg with legacyPrio := true }
def accepted (r : M TState) : Bool := match r with | .ok _ => true | .error _ => false

def nd (p : List Nat) (qops qkids : List Nat) (prio : Int) (ex : List (Option WId × Nat)) (co : Nat) : Node :=
  { scq := q, path := p, qops := qops, qkids := qkids, ikids := [], prio := prio, exec := ex, started := 2,
    completed := co, idle := 0, parked := [] }
/-- the tree after the first five segments (before the time-out), with either code -/
def nodes5 : List Node :=
  [ nd [] [] [1] 0 [(some wA, 1)] 0, nd [1] [] [2, 3] 50 [(some wA, 1)] 2, nd [1, 2] [2] [] 0 [(some wA, 1)] 2,
    nd [1, 3] [3] [] 50 [] 2 ]
def pr (o : Nat) : Int := if o = 2 then 0 else if o = 3 then 50 else if o = 4 then 25 else -7
def opOf (o : Nat) : Fair.Op := { id := o, prio := pr o, dur := 0, ts := if o = 4 then 60 else 2 }
/-- the tree operations of the last two segments of `pre` that matter: the stage switch of A's task
(`decrementExecutingWorkersCount` for its operation in [1,2]), `getOrCreateInvocation([2])`, `enqueue` of
operation 4 -/
def after (legacy : Bool) : List Node :=
  enqueueOp pr (getOrCreate (decExecR legacy pr nodes5 q [1, 2] (some wA) 60) q [2] 60) q [2] 4
def view : Fair.WView := { lastKeys := [], limits := [], starts := [], now := 60 }
def prioAt (ns : List Node) (p : List Nat) : Option Int := (node? ns q p).map (·.prio)

-- run by the interpreter when this file is built (the kernel cannot evaluate whole runs of the model in
-- reasonable memory): `nodes5` is the model's tree after five segments, with either code; the old code
-- accepts the hand-out of operation 4 (priority 25) to B and rejects that of operation 2 (priority 0), the
-- fixed code the other way round
#guard (match strictRun legacyInit (pre.take 5), strictRun (TState.init cfg) (pre.take 5) with
  | .ok a, .ok b => toString (repr a.nodes) == toString (repr nodes5) && toString (repr b.nodes) == toString (repr nodes5)
  | _, _ => false)
#guard accepted (strictRun legacyInit (pre ++ [syncB 4])) && !accepted (strictRun legacyInit (pre ++ [syncB 2]))
#guard accepted (strictRun (TState.init cfg) (pre ++ [syncB 2])) && !accepted (strictRun (TState.init cfg) (pre ++ [syncB 4]))
end Cex

set_option maxRecDepth 20000 in
/-- **The defect of notes/findings/C04-stale-first-priority.md, on the model of the old code**
(`legacyPrio = true`, proved by evaluation in the kernel).  After the time-out of the worker that executed
in invocation [1,2], invocation [1] still caches priority 50 (that of [1,3], which was its first queued child
while [1,2] had an executing worker) although its first queued child is now [1,2] with priority 0; the
documented rule applied to the tree as the old code stores it then admits exactly operation 4 (invocation
[2], priority 25: score 2^0.25 against the stale 2^0.5) for a worker without stickiness, although operation 2
(priority 0, score 1) is queued.  With the fix the cache is 0 and exactly operation 2 is admitted. -/
theorem legacy_stale_priority_counterexample :
    Cex.prioAt (Cex.after true) [1] = some 50 ∧ Cex.prioAt (Cex.after false) [1] = some 0 ∧
    (Fair.specPick (snapshot Cex.opOf (Cex.after true) Cex.q) Cex.view).map (fun c => (c.1.id, c.1.prio)) = [(4, 25)] ∧
    (Fair.specPick (snapshot Cex.opOf (Cex.after false) Cex.q) Cex.view).map (fun c => (c.1.id, c.1.prio)) = [(2, 0)] := by
  decide

/-- every reachable state satisfies the invariant in the form the lemmas use it (`TInv`: the invariant of
`Model/Sched.lean`, `TreeOK` for the four bags, the coupling `Side`); `tree_inv` is its reading in terms of the
tables, and the executable checker of `Model/SchedTreeCheck.lean` (`treecheck`, run by the driver after every
segment) tests its clauses -/
theorem tree_inv_raw (ts : TState) (h : TReachable ts) : TInv ts := tinv_reachable h

/-- **no_queued_while_parked**, tree form: while a worker is enqueued in `idleSynchronizingWorkers` of some
invocation of a size-class queue (or, equivalently, some `idleSynchronizingWorkersChildren` is non-empty),
no invocation of that queue has queued operations or queued children. -/
theorem no_queued_while_parked_tree (ts : TState) (h : TReachable ts) :
    ∀ n ∈ ts.nodes, n.hasParked = true → ∀ m ∈ ts.nodes, m.scq = n.scq → m.isQueued = false := by
  intro n hn hp m hm hq
  have hI := tinv_reachable h
  have hT := hI.treeInv
  -- a worker is parked at or below `n`
  have hpk : ∃ p w, ParkedAt ts n.scq p w := by
    unfold Node.hasParked at hp
    cases hpl : n.parked with
    | cons w r =>
      exact ⟨n.path, w, ((hT.idleSynchronizingWorkers n hn).2 w).mp (by rw [hpl]; exact List.mem_cons_self)⟩
    | nil =>
      cases hkl : n.ikids with
      | nil => rw [hpl, hkl] at hp; simp at hp
      | cons k r =>
        obtain ⟨p, w, hw, _⟩ := ((hT.idleSynchronizingWorkersChildren n hn).2 k).mp (by rw [hkl]; exact List.mem_cons_self)
        exact ⟨p, w, hw⟩
  obtain ⟨p, w, ⟨wk, hwk, hwp⟩, _⟩ := hpk
  rw [BbRe.Lemmas.SchedInv.worker?_def] at hwk
  have hkey := BbRe.Lemmas.SchedInv.wfind_key hwk
  have hnq := (no_queued_while_parked ts h wk (BbRe.Lemmas.SchedInv.wfind_mem hwk) hwp).1
  rw [hkey.1] at hnq
  have hnone : ∀ p' o, ¬ QueuedAt ts n.scq p' o := by
    rintro p' o ⟨k, t, hk, hqd, hs, ho, _⟩
    rw [BbRe.Lemmas.SchedInv.task?_def] at hk
    have : t ∈ queuedTasks ts.s n.scq := by
      unfold queuedTasks
      have hrw := hI.inv.core.q1 k t hk hqd
      refine List.mem_map.mpr ⟨(k, t), List.mem_filter.mpr ⟨BbRe.Lemmas.SchedInv.mem_of_alookup hk, ?_⟩, rfl⟩
      simp [hs, hqd, hrw.1, hrw.2]
    rw [hnq] at this; cases this
  cases hmq : m.isQueued with
  | false => rfl
  | true =>
    exfalso
    unfold Node.isQueued at hmq
    cases hql : m.qops with
    | cons o r =>
      exact hnone _ o (hq ▸ ((hT.queuedOperations m hm).2 o).mp (by rw [hql]; exact List.mem_cons_self))
    | nil =>
      cases hkl : m.qkids with
      | nil => rw [hql, hkl] at hmq; simp at hmq
      | cons k r =>
        obtain ⟨p', o, ho, _⟩ := ((hT.queuedChildren m hm).2 k).mp (by rw [hkl]; exact List.mem_cons_self)
        exact hnone p' o (hq ▸ ho)

end BbRe.Properties.C04Tree
