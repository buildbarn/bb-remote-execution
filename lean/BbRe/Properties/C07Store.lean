import BbRe.Lemmas.ProtoStoreDrain
/-!
# C07 (c) — persistence of size-class statistics

Property theorems about `Model/ProtoStore.lean`, the segment-level transcription
of `pkg/blobstore/blob_access_mutable_proto_store.go`.  `run cfg ops` executes an
arbitrary list of segments (`getBegin`, `readDone`, `putDone` with outcome
ok / err / err-after-commit, `getEnd`, `release`) of any number of concurrent
`Get`s and `Release`s from the empty store; disabled segments are no-ops, so the
quantification over all `ops` is a quantification over all interleavings and all
fault positions.  Helper lemmas: `BbRe/Lemmas/ProtoStore*.lean`.
-/
namespace BbRe.Properties.C07Store
open BbRe.ProtoStore BbRe.Lemmas.ProtoStore

/-- Structural invariant, for EVERY configuration (also the two defective ones):
queue indices are consistent with queue positions, a queued handle is unused, the
use count of a handle is the number of client holds plus the number of in-flight
`Get`s that found it in the map, and the code never panics ("Handle has bad write
index", index out of range). -/
theorem store_inv (cfg : Config) (ops : List Op) :
    let s := run cfg ops
    (∀ i h, s.queue[i]? = some h ↔ s.idx h = some i) ∧
    (∀ h, s.idx h ≠ none → s.useCount h = 0) ∧
    (∀ h, s.useCount h = s.held h + refs s.gets h) ∧
    s.panicked = false := by
  have h := qinv_run cfg ops
  exact ⟨h.q1, h.q2, h.acct, h.nopanic⟩

/-- Life cycle of handles in the code as it is in the tree (`repoConfig`): every
handle in the map belongs to that digest and is in use, queued, or being written;
a queued handle is dirty, in the map and not being written; a handle being written
is dirty, in the map, and exactly the `Get` recorded in `wg` has the Put in flight;
a handle that is no longer in the map is dead (unused, not queued, not written), so
no second handle for its digest can coexist with a live one. -/
theorem store_inv_handles (ops : List Op) :
    let s := run repoConfig ops
    (∀ d h, s.map d = some h →
      s.hdigest h = d ∧ (0 < s.useCount h ∨ s.idx h ≠ none ∨ s.wg h ≠ none)) ∧
    (∀ h, s.idx h ≠ none →
      s.wg h = none ∧ s.written h ≠ s.current h ∧ s.map (s.hdigest h) = some h) ∧
    (∀ h g, s.wg h = some g →
      s.written h ≠ s.current h ∧ s.map (s.hdigest h) = some h ∧
      ∃ r w, lookupG s.gets g = some r ∧ w ∈ r.writes ∧ w.h = h) ∧
    (∀ g r w, lookupG s.gets g = some r → w ∈ r.writes → s.wg w.h = some g) ∧
    (∀ h, s.map (s.hdigest h) ≠ some h → s.useCount h = 0 ∧ s.idx h = none ∧ s.wg h = none) := by
  intro s
  have hg : GInv s := ginv_run ops
  refine ⟨?_, ?_, ?_, ?_, hg.g4⟩
  · exact fun d h hm => ⟨(hg.c d h hm).1, (hg.c d h hm).2.resolve_left id⟩
  · exact fun h hi => ⟨(hg.g1 h hi).1, (hg.g1 h hi).2, inMap_of_queued s _ hg h hi⟩
  · exact fun h g hw => ⟨(hg.g2 h g hw).1, inMap_of_writing s _ hg h g hw, (hg.g2 h g hw).2⟩
  · exact fun g r w hl hw => (hg.g3 g r w hl hw).1

/-- **No lost update.**  Whenever the backing store does not hold the latest update
that was released dirty for digest `d`, the handle of `d` is still in the map, its
message IS that latest update (so every later `Get` of `d` returns it), and the
handle is in use, queued for writing, or has a write in flight (whose completion
re-evaluates it). -/
theorem no_lost_update (ops : List Op) (d : Nat) :
    let s := run repoConfig ops
    s.store d ≠ s.latest d →
    ∃ h, s.map d = some h ∧ s.msg h = s.latest d ∧
      (0 < s.useCount h ∨ s.idx h ≠ none ∨ s.wg h ≠ none) := by
  intro s hne
  have hg : GInv s := ginv_run ops
  cases hm : s.map d with
  | none => exact absurd (hg.d2 d hm) hne
  | some h =>
    refine ⟨h, rfl, ?_, ?_⟩
    · apply hg.d5 d h hm
      intro hcl
      exact hne (hg.d4 d h hm hcl)
    · exact (hg.c d h hm).2.resolve_left id

/-- The backing store never runs ahead of what clients released, and it is up to
date for every digest without a handle and for every clean handle. -/
theorem store_up_to_date (ops : List Op) (d : Nat) :
    let s := run repoConfig ops
    s.store d ≤ s.latest d ∧
    (s.map d = none → s.store d = s.latest d) ∧
    (∀ h, s.map d = some h → s.written h = s.current h → s.store d = s.latest d) := by
  intro s
  have hg : GInv s := ginv_run ops
  exact ⟨hg.d1 d, hg.d2 d, hg.d4 d⟩

/-- **A later update is never overwritten by an earlier one**: along every history
the latest update id held by the backing store for a digest never decreases, whatever
the outcomes of the Puts are. -/
theorem store_monotone (ops : List Op) (op : Op) (d : Nat) :
    (run repoConfig ops).store d ≤ (run repoConfig (ops ++ [op])).store d := by
  have hg : GInv (run repoConfig ops) := ginv_run ops
  have : run repoConfig (ops ++ [op]) = step repoConfig (run repoConfig ops) op := by
    simp [run, List.foldl_append]
  rw [this]
  exact store_monotone_step _ op hg d

/-- **A later Get sees the newest message.**  `getBegin g d` records (ghost `need`)
the latest update released dirty for `d` when the backing store lacks it at that
moment.  For every in-flight `Get` with such a `need`, at every later point of every
history: the handle found at the start is still THE handle of the digest in the map,
it is the handle the `Get` will return (`getEndHandle`), and its message contains an
update at least as new as `need`.  So a `Get` never returns a message older than
what had been released before it started, unless the backing store already held
that update when the `Get` started (stale reads of an up-to-date store are the
read-modify-write race that the interface allows). -/
theorem get_sees_latest (ops : List Op) (g : Nat) (r : GetRec) :
    let s := run repoConfig ops
    lookupG s.gets g = some r → r.need ≠ 0 →
    ∃ h, r.existing = some h ∧ getEndHandle s r = h ∧ s.map r.digest = some h ∧ r.need ≤ s.msg h := by
  intro s hl hn
  have hq : QInv s := qinv_run repoConfig ops
  have hg : GInv s := ginv_run ops
  obtain ⟨h, he, hm⟩ := hg.n g r hl hn
  refine ⟨h, he, by simp [getEndHandle, he], ?_, hm⟩
  have hd := hg.e g r h hl he
  have hpos : 0 < s.useCount h := by
    have := refs_pos_of_lookup s.gets g r h hl he
    have := hq.acct h
    omega
  rw [← hd]
  exact inMap_of_useCount_pos s _ hg h hpos

/-- Non-vacuity of `get_sees_latest`: a `Get` of digest 0 that starts after update 1
was released and before it is written has `need = 1`. -/
example : ∃ r, lookupG (run repoConfig
      [.getBegin 0 0, .readDone 0 true, .getEnd 0, .release 0 true, .getBegin 1 0]).gets 1 = some r ∧
    r.need = 1 ∧ r.existing = some 0 := ⟨_, rfl, rfl, rfl⟩

/-- What `need` is: the record created by `getBegin g d` carries the digest, the
handle found in the map, and `need = latest d` iff the backing store does not hold
the latest update of `d` at that moment. -/
theorem get_begin_need (s : State) (g d : Nat) (hfree : lookupG s.gets g = none) :
    ∃ r, lookupG (getBegin s g d).gets g = some r ∧ r.digest = d ∧ r.existing = s.map d ∧
      r.need = (if s.store d = s.latest d then 0 else s.latest d) :=
  getBegin_record s g d hfree

/-! ### The two fixes are necessary -/

/-- History on which the versioning rule before commit 1d6ae12
(`currentVersion = writtenVersion + 1`) loses an update: a dirty `Release` while the
handle is being written. -/
def legacyWitness : List Op :=
  [.getBegin 0 0, .readDone 0 true, .getEnd 0, .release 0 true,  -- handle 0 (digest 0) queued with update 1
   .getBegin 1 1,                                                -- Get(d1) dequeues handle 0: Put in flight
   .getBegin 2 0, .getEnd 2, .release 0 true,                    -- update 2 released during the write
   .putDone 1 0 .ok]                                             -- the write of update 1 completes

/-- With the old rule the conclusion of `no_lost_update` fails on `legacyWitness`:
the backing store holds update 1, update 2 was released, and the handle is gone
from the map (the next `Get` reloads the stale message). -/
theorem no_lost_update_counterexample_legacy :
    let s := run { legacyVersioning := true } legacyWitness
    s.store 0 = 1 ∧ s.latest 0 = 2 ∧ s.map 0 = none := by decide

/-- The same history is harmless for the code in the tree. -/
example : let s := run repoConfig legacyWitness
    s.store 0 = 1 ∧ s.latest 0 = 2 ∧ s.map 0 = some 0 ∧ s.msg 0 = 2 ∧ s.idx 0 ≠ none := by decide

/-- History on which the code without the `writeInFlight` guard of commit 6072c9e
loses an update: a (clean) `Release` while the handle is being written re-queues it,
the completing write drops it from the map while it is queued, the orphan's next
write completion deletes a live second handle, and a third one is created. -/
def unguardedWitness : List Op :=
  [.getBegin 0 0, .readDone 0 true, .getEnd 0, .release 0 true,  -- handle 0 (digest 0) queued with update 1
   .getBegin 1 1,                                                -- dequeues handle 0: Put in flight
   .getBegin 2 0, .getEnd 2, .release 0 false,                   -- clean release: re-queued while being written
   .putDone 1 0 .ok, .readDone 1 true, .getEnd 1,                -- handle 0 leaves the map, still queued
   .getBegin 3 0,                                                -- dequeues the orphan: Put in flight, reads d0
   .getBegin 4 0, .readDone 4 true, .getEnd 4,                   -- handle 2 for d0, in use
   .putDone 3 0 .ok, .readDone 3 true, .getEnd 3,                -- deletes handle 2 from the map; handle 3 created
   .release 2 true]                                              -- update 2 released on handle 2

/-- Without the guard the conclusion of `no_lost_update` fails on `unguardedWitness`:
the store holds update 1, update 2 was released, and the handle in the map (handle 3)
does not contain it; the handle that does (handle 2) is queued but not in the map. -/
theorem no_lost_update_counterexample_unguarded :
    let s := run { writeGuard := false } unguardedWitness
    s.store 0 = 1 ∧ s.latest 0 = 2 ∧ s.map 0 = some 3 ∧ s.msg 3 = 1 ∧ s.idx 2 ≠ none := by decide

/-- The same history is harmless for the code in the tree. -/
example : let s := run repoConfig unguardedWitness
    s.store 0 = 1 ∧ s.latest 0 = 2 ∧ s.map 0 = some 2 ∧ s.msg 2 = 2 ∧ s.useCount 2 = 1 := by decide

/-! ### Eventually written -/

/-- **Draining writes the latest version of every digest.**  Take any reachable state
in which all clients have released their handles and no `Get` is in flight, and any
digest `e` without a handle.  Then `n` further whole `Get(e)`/`Release` pairs whose
backing calls succeed (`drain`; each dequeues up to three handles, as `Get` does),
with `3·n ≥` the length of the write queue, leave an empty write queue, an empty map,
and a backing store that holds, for EVERY digest, the last update that any client
released dirty. -/
theorem drain_writes_latest (ops : List Op) (e : Nat) (gs : List Nat) :
    let s := run repoConfig ops
    quiescent s → s.map e = none → s.queue.length ≤ 3 * gs.length →
    (∀ d, (drain repoConfig e s gs).store d = s.latest d) ∧
    (drain repoConfig e s gs).queue = [] ∧ (∀ d, (drain repoConfig e s gs).map d = none) := by
  intro s hqu hme hlen
  have := drain_all e gs s (qinv_run repoConfig ops) (ginv_run ops) hqu hme hlen
  exact ⟨this.2.2, this.1, this.2.1⟩

/-- Non-vacuity of `drain_writes_latest`: after the `legacyWitness` history (run on the
code in the tree) and the clean release of the handle `Get` 1 returned, the state is
quiescent with a non-empty queue, and one drain `Get` of digest 7 writes update 2. -/
example : let s := run repoConfig (legacyWitness ++ [.readDone 1 true, .getEnd 1, .release 1 false])
    s.gets = [] ∧ s.held 0 = 0 ∧ s.held 1 = 0 ∧ s.queue = [0] ∧ s.store 0 = 1 ∧ s.latest 0 = 2 ∧
    (drain repoConfig 7 s [50]).store 0 = 2 := by decide

/-- One step of draining makes progress whatever the queue length is: the state stays
quiescent, `e` still has no handle, no update is lost, and `min 3 (queue length)`
handles leave the queue. -/
theorem drain_progress (ops : List Op) (g e : Nat) :
    let s := run repoConfig ops
    quiescent s → s.map e = none →
    quiescent (fullGetRelease repoConfig s g e) ∧ (fullGetRelease repoConfig s g e).map e = none ∧
    (fullGetRelease repoConfig s g e).latest = s.latest ∧
    (fullGetRelease repoConfig s g e).queue.length = s.queue.length - min 3 s.queue.length := by
  intro s hqu hme
  have := drain_step s g e (qinv_run repoConfig ops) (ginv_run ops) hqu hme
  exact ⟨this.2.2.1, this.2.2.2.1, this.2.2.2.2.1, this.2.2.2.2.2⟩

/-- In a quiescent state every handle that is still in the map is queued for writing
(nothing is forgotten outside the queue). -/
theorem quiescent_all_queued (ops : List Op) (d h : Nat) :
    let s := run repoConfig ops
    quiescent s → s.map d = some h → s.idx h ≠ none := by
  intro s hqu hm
  exact quiescent_queued s (qinv_run repoConfig ops) (ginv_run ops) hqu d h hm

/-- **A failed Put re-queues.**  If the Put of an unused handle fails without storing
anything, the handle is appended to the write queue again and keeps its place in the
map and its message (a handle that is in use is re-queued by its last `Release`:
`store_inv_handles`). -/
theorem put_failure_requeues (ops : List Op) (g h : Nat) (r : GetRec) (w : Write) :
    let s := run repoConfig ops
    lookupG s.gets g = some r → findWrite r.writes h = some w → s.useCount h = 0 →
    (putDone repoConfig s g h .err).idx h = some s.queue.length ∧
    (putDone repoConfig s g h .err).queue = s.queue ++ [h] ∧
    (putDone repoConfig s g h .err).map = s.map ∧
    (putDone repoConfig s g h .err).msg = s.msg ∧
    (putDone repoConfig s g h .err).store = s.store := by
  intro s hl hf hu
  exact putDone_err_requeues s g h r w (ginv_run ops) hl hf hu

/-- Non-vacuity of `put_failure_requeues`. -/
example : let s := run repoConfig [.getBegin 0 0, .readDone 0 true, .getEnd 0, .release 0 true, .getBegin 1 1]
    (∃ r w, lookupG s.gets 1 = some r ∧ findWrite r.writes 0 = some w) ∧ s.useCount 0 = 0 ∧
    (putDone repoConfig s 1 0 .err).queue = [0] := by
  refine ⟨⟨_, _, rfl, rfl⟩, by decide, by decide⟩

end BbRe.Properties.C07Store
