import BbRe.Lemmas.SchedInvProps
/-!
# C07 (a) — size-class selection: the linear selector / learner protocol in the scheduler

`Model/Sched.lean` logs every call the scheduler makes on the initial-size-class analyzer as a
ghost event (`selSelect l` = `Selector.Select` returning learner `l`, `selAbandoned`,
`learnerSucceeded l bg`, `learnerFailed l timedOut next`, `learnerAbandoned l`; learner tokens are
issued from `State.nextLearner`).  `step` only appends to `State.events` (the driver clears the
buffer between segments, `step` and `run` do not), so a statement about `s.events` of a
`Reachable` state is a statement about the complete call history of an arbitrary run.
-/
namespace BbRe.Properties.C07Sched
open BbRe.Sched BbRe.Lemmas.SchedInv

/-! ### sample runs for the non-vacuity examples -/
def cfg0 : Cfg := ⟨60, 60, 60, 900, 10, 60, 2, 0⟩
def h0 : Hints := { assign := [], sel := 0, bg := none, retry := false }
def q0 : ScqId := ⟨1, 0⟩
def w0 : WId := ⟨1, 1⟩
def sQueued : State := run (State.init cfg0) [ .register 1 [] 7 [0] 3 0, .exec h0 0 100 55 55 false [] 7 [1] 0 ]
def sAssigned : State := run sQueued [ .sync { h0 with assign := [(q0, w0, 1)] } 0 q0 [] 7 w0 .idle false ]
/-- the worker reports success; the analyzer asks for a background run on size class 0, which the
same worker picks up at once -/
def sDone : State := run sAssigned
  [ .sync { h0 with bg := some 0, assign := [(q0, w0, 2)] } 5 q0 [] 7 w0 (.completed 55 ⟨cOK, 0, 9, .worker⟩) false ]
/-- the worker reports a failure; the analyzer asks for a retry on the largest size class, which
the same worker picks up at once -/
def sRetried : State := run sAssigned
  [ .sync { h0 with retry := true, assign := [(q0, w0, 1)] } 5 q0 [] 7 w0 (.completed 55 ⟨cOK, 1, 9, .worker⟩) false ]
theorem sQueued_reachable : Reachable sQueued := reachable_run (Reachable.init cfg0) _
theorem sAssigned_reachable : Reachable sAssigned := reachable_run sQueued_reachable _
theorem sDone_reachable : Reachable sDone := reachable_run sAssigned_reachable _

/-- **`Inv.learner`.**  A task holds a learner iff it is not completed. -/
theorem learner_iff_not_completed {s : State} (hr : Reachable s) {tid : Nat} {t : Task}
    (ht : s.task? tid = some t) : t.learner.isSome = true ↔ t.response = none :=
  (inv_reachable hr).core.l1 tid t ht

example : (sAssigned.task? 1).map (·.learner) = some (some 1) ∧
    (sDone.task? 1).map (fun t => (t.learner, t.response.isSome)) = some (none, true) := by decide +kernel

/-- learner tokens are fresh and not shared between tasks -/
theorem learner_tokens_distinct {s : State} (hr : Reachable s) {k k' : Nat} {t t' : Task} {l : Nat}
    (h1 : s.task? k = some t) (h2 : s.task? k' = some t') (hl : t.learner = some l) (hl' : t'.learner = some l) :
    k = k' ∧ l < s.nextLearner :=
  ⟨(inv_reachable hr).core.l3 k k' t t' l h1 h2 hl hl', (inv_reachable hr).core.l2 k t l h1 hl⟩

/-- **Learner linearity.**  Along any run, every learner token `l`
* receives at most one terminal call (`Succeeded` / `Failed` / `Abandoned`),
* only after it was issued, and is issued at most once (by `Select`, or as the learner returned
  by `Succeeded` / `Failed`),
* has received none while a task still holds it (and has then been issued exactly once),
* and tokens not yet allocated occur nowhere. -/
theorem learner_linear {s : State} (hr : Reachable s) (l : Nat) :
    termCount l s.events ≤ 1 ∧ termCount l s.events ≤ issueCount l s.events ∧ issueCount l s.events ≤ 1 ∧
      (Held s.tasks l → termCount l s.events = 0 ∧ issueCount l s.events = 1) ∧
      (s.nextLearner ≤ l → issueCount l s.events = 0 ∧ termCount l s.events = 0) := by
  have hl := (inv_reachable hr).linv
  have h1 := hl.g1 l
  have h2 := hl.g2 l
  refine ⟨by omega, h1, h2, fun hh => ⟨hl.g3 l hh, hl.g5 l hh⟩, fun hn => ?_⟩
  have := hl.g4 l hn
  exact ⟨this, by omega⟩

/-- the same for the event log of an arbitrary run from the initial state -/
theorem learner_linear_run (cfg : Cfg) (gs : List Seg) (l : Nat) :
    termCount l (run (State.init cfg) gs).events ≤ 1 :=
  (learner_linear (reachable_run (Reachable.init cfg) gs) l).1

/-- in the sample: learner 1 (from `Select`) got its one terminal call (`Succeeded`), which issued
the background learner 2, now held by the background task -/
example : termCount 1 sDone.events = 1 ∧ issueCount 2 sDone.events = 1 ∧ termCount 2 sDone.events = 0 ∧
    (sDone.task? 2).map (fun t => (t.learner, t.background, t.doNotCache)) = some (some 2, true, true) := by
  decide +kernel

/-- **Selector linearity.**  Every `Execute` segment that the model accepts makes exactly one
selector call (`Select` or `Abandoned`) — on the dedup hit, on the missing platform queue and on
the normal path alike — and no other segment makes any. -/
theorem selector_linear {s s' : State} (hr : Reachable s) (g : Seg) (h : step s g = .ok s') :
    selCount s'.events = selCount s.events + (match g with | .exec .. => 1 | _ => 0) :=
  step_selCount g (inv_reachable hr) h

example : selCount sQueued.events = 1 ∧ selCount sDone.events = 1 := by decide +kernel

/-- **The three-way split of `task.complete`** (no invariant needed: by unfolding the code).
For an uncompleted task holding learner `l`, a call `complete(response r, completedByWorker bw)`
appends
* `Succeeded(l)` iff `r` is OK with exit code 0 — returning the background learner
  `nextLearner` iff the analyzer asks for one (`h.bg`), which is then either kept by the new
  background task or `Abandoned` at once (background learning off / backlog full);
* otherwise `Failed(l, timedOut := code = DEADLINE_EXCEEDED)` iff the response was supplied by
  the worker — returning a new learner iff the analyzer asks for a retry (`h.retry`);
* otherwise (worker lost, no waiters, retry limit, queue removed, operator kill) `Abandoned(l)`;
and nothing else. -/
theorem learner_split {h : Hints} {s s' : State} {tid : Nat} {t : Task} {r : Resp} {bw : Bool} {l : Nat}
    (hh : complete h s tid r bw = .ok s') (ht : s.task? tid = some t) (hr : t.response = none)
    (hl : t.learner = some l) :
    (r.code = cOK ∧ r.exit = 0 →
      s'.events = .learnerSucceeded l (if h.bg.isSome then some s.nextLearner else none) :: s.events ∨
      s'.events = .learnerAbandoned s.nextLearner ::
        .learnerSucceeded l (if h.bg.isSome then some s.nextLearner else none) :: s.events) ∧
    (¬ (r.code = cOK ∧ r.exit = 0) → bw = true →
      s'.events = .learnerFailed l (r.code = cDeadlineExceeded) (if h.retry then some s.nextLearner else none)
        :: s.events) ∧
    (¬ (r.code = cOK ∧ r.exit = 0) → bw = false → s'.events = .learnerAbandoned l :: s.events) :=
  complete_events hh ht hr hl

/-- a completed task is left alone: no learner call at all -/
theorem complete_completed_noop {h : Hints} {s : State} {tid : Nat} {t : Task} {r : Resp} {bw : Bool}
    (ht : s.task? tid = some t) (hr : t.response.isSome = true) : complete h s tid r bw = .ok s := by
  rw [complete_eq, ht]
  exact if_pos hr

example : sDone.events.any (fun e => match e with | .learnerSucceeded 1 (some 2) => true | _ => false) = true ∧
    sRetried.events.any (fun e => match e with | .learnerFailed 1 false (some 2) => true | _ => false) = true := by
  decide +kernel

/-- **Retry once on the largest size class.**  When a worker-supplied failure makes the analyzer
return a learner (`h.retry`), the task stays uncompleted, now holds that fresh learner, has been
moved to the largest size-class queue of its platform queue, and is held again (queued or handed to
a parked worker) at the end of the call. -/
theorem retry_once {h : Hints} {s s' : State} (hreach : Reachable s) {tid : Nat} {t : Task} {r : Resp}
    (ht : s.task? tid = some t) (hr : t.response = none) (hnok : ¬ (r.code = cOK ∧ r.exit = 0))
    (hretry : h.retry = true) (hh : complete h s tid r true = .ok s') :
    ∃ t', s'.task? tid = some t' ∧ t'.response = none ∧ t'.learner = some s.nextLearner ∧
      t'.scq = largestScq s t.scq ∧ (t'.queued = true ∨ t'.worker.isSome = true) := by
  have hI := inv_reachable hreach
  obtain ⟨hI', _, _, _, hre⟩ := wp_of_ok (complete_spec' (h := h) (r := r) (bw := true) hI (by
    have : alookup tid s.tasks = some t := ht
    rw [this]; rfl)) hh
  obtain ⟨t', a1, a2, a3, a4⟩ := hre rfl hretry hnok t ht hr
  refine ⟨t', a1, a4, a2, a3, ?_⟩
  rcases hI'.core.q2 tid t' a1 a4 with h | h | h
  · exact Or.inl h
  · exact Or.inr h
  · exact absurd h id

example : (sRetried.task? 1).map (fun t => (t.response.isSome, t.learner, t.worker.isSome)) =
    some (false, some 2, true) := by decide +kernel

/-- **Background learning tasks** are uncacheable and never in the deduplication map. -/
theorem background_uncacheable {s : State} (hr : Reachable s) {tid : Nat} {t : Task}
    (ht : s.task? tid = some t) (hb : t.background = true) :
    t.doNotCache = true ∧ ∀ k, alookup k s.dedup ≠ some tid := by
  have hI := inv_reachable hr
  refine ⟨hI.core.bg tid t ht hb, ?_⟩
  intro k hk
  obtain ⟨t', h1, _, _, _, h5⟩ := hI.core.d1 k tid hk
  have : alookup tid s.tasks = some t := ht
  rw [this] at h1; cases h1
  rw [hb] at h5; cases h5

/-- **Bounded at creation.**  The success branch of `complete` runs `bgPart` (`completeOk_eq`,
`complete_eq`); it creates a task only while fewer than `maximumQueuedBackgroundLearningOperations`
(`bgMax`) background tasks are queued in the chosen size-class queue, and what it creates is a
background, uncacheable task of that queue carrying the key of the completed task.  It is created
in the same segment in which the foreground task became COMPLETED, so no client waits for it. -/
theorem background_bounded_at_creation {h : Hints} {Y s' : State} {t : Task} {i : Nat}
    (hh : bgPart h Y t i = .ok s') (hn : s'.nextTask ≠ Y.nextTask) :
    ∃ pq bsc, Y.pq? t.scq.pq = some pq ∧ countQueuedBackground Y ⟨t.scq.pq, bsc⟩ < pq.bgMax ∧
      s'.nextTask = Y.nextTask + 1 ∧
      ∃ t', s'.task? Y.nextTask = some t' ∧ t'.background = true ∧ t'.doNotCache = true ∧
        t'.scq = ⟨t.scq.pq, bsc⟩ ∧ t'.dkey = t.dkey :=
  bgPart_creates' hh hn

/-- only a successful completion creates a task -/
theorem only_success_creates {h : Hints} {s s' : State} (hreach : Reachable s) {tid : Nat} {r : Resp} {bw : Bool}
    (hex : (s.task? tid).isSome = true) (hh : complete h s tid r bw = .ok s')
    (hn : s'.nextTask ≠ s.nextTask) : r.code = cOK ∧ r.exit = 0 := by
  have hI := inv_reachable hreach
  obtain ⟨_, _, _, hnn, _⟩ := wp_of_ok (complete_spec' (h := h) (r := r) (bw := bw) hI hex) hh
  apply Classical.byContradiction
  intro hc
  exact hn (hnn hc).1

example : sDone.nextTask = sAssigned.nextTask + 1 := by decide +kernel

end BbRe.Properties.C07Sched
