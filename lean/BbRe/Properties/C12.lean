import BbRe.Model.Idle
import BbRe.Model.BuildDirs
import BbRe.Lemmas.Idle
import BbRe.Lemmas.IdleDirs
import BbRe.Lemmas.IdleWorker
/-!
# C12 — each action runs isolated and leaves nothing behind

Property theorems about `Model/Idle.lean` (transcription of
`pkg/cleaner/idle_invoker.go`, one step per lock-held segment) and
`Model/BuildDirs.lean` (the shared/clean/root build-directory creator stack, one
step per atomic directory operation).  Every theorem is about *all* reachable
states, i.e. any number of threads (thread ids are arbitrary naturals) and any
interleaving of their segments, cleaner results, cancellations and directory
faults.  Helper lemmas: `BbRe/Lemmas/Idle.lean`, `IdleDirs.lean`, `IdleWorker.lean`.
The models are tied to the Go code by `harness/cmd/idle` on every run.
-/
namespace BbRe.Properties.C12
open BbRe.Idle
open BbRe.Lemmas.Idle

/-! ## the invoker -/

/-- `idle_inv`: in every reachable state (1) `wakeup` is set iff exactly one
thread is inside the cleaner, (2) while it is set `useCount = 0`, and
(3) `useCount` is the number of threads that are users (a duplicate-free list
enumerating exactly the `inUse` threads has that length). -/
theorem idle_inv {s : State} (h : Reachable s) :
    (s.wakeup ≠ none ↔ ∃ t, (s.pc t).cleaning = true ∧ ∀ t', (s.pc t').cleaning = true → t' = t) ∧
    (s.wakeup ≠ none → s.useCount = 0) ∧
    (∃ l : List Nat, l.Nodup ∧ (∀ t, t ∈ l ↔ s.pc t = .inUse) ∧ s.useCount = l.length) := by
  have inv := inv_reachable h
  refine ⟨⟨fun hw => ?_, fun ⟨t, ht, _⟩ hw => ?_⟩, inv.useZero, inv.users⟩
  · cases hwk : s.wakeup with
    | none => exact absurd hwk hw
    | some c => exact inv.cleanSome c hwk
  · rw [inv.cleanNone hw t] at ht; cases ht

/-- `exclusion`: no reachable state has a cleaner call running together with a
user or with another cleaner call. -/
theorem exclusion {s : State} (h : Reachable s) (t : Nat) (ht : (s.pc t).cleaning = true) :
    (∀ t', s.pc t' ≠ .inUse) ∧ (∀ t', (s.pc t').cleaning = true → t' = t) :=
  (inv_reachable h).exclusive ht

/-- Neither `panic` of idle_invoker.go ("Cleaning is already in progress",
"Called Release() on IdleInvoker with a zero use count") is reachable when every
`Release` is preceded by its own successful `Acquire`. -/
theorem no_panic {s : State} (h : Reachable s) : s.panicked = false :=
  (inv_reachable h).noPanic

/-- `transitions`, part 1: a cleaner call starts only in a step that is an
`Acquire` finding the system idle (0 users before, still 0 while it cleans) or a
`Release` taking the number of users from 1 to 0. -/
theorem clean_starts_only_at_transitions {s s' : State} (h : Reachable s) (op : Op)
    (hs : step s op = some s') (hw : s.wakeup = none) (hw' : s'.wakeup ≠ none) :
    (∃ t, (op = .acquireEnter t ∨ op = .wake t) ∧ s.useCount = 0 ∧ s'.useCount = 0 ∧ s'.pc t = .cleanAcq) ∨
    (∃ t, op = .releaseEnter t ∧ s.useCount = 1 ∧ s'.useCount = 0 ∧ s'.pc t = .cleanRel) := by
  cases step_cases (inv_reachable h) hs with
  | park _ _ _ hc => exact nomatch hw.symm.trans hc
  | acqClean t ha _ hu => exact .inl ⟨t, ha.op_eq, hu, hu, if_pos rfl⟩
  | join => exact absurd hw hw'
  | cancel => exact absurd hw hw'
  | cleanOk => exact absurd rfl hw'
  | cleanEnd => exact absurd rfl hw'
  | relReturn => exact absurd hw hw'
  | relClean t _ _ hu => exact .inr ⟨t, rfl, hu, congrArg (· - 1) hu, if_pos rfl⟩

/-- `transitions`, part 2 (1→0): the `Release` of the last user always starts the cleaner. -/
theorem last_release_cleans {s s' : State} (h : Reachable s) (t : Nat)
    (hs : step s (.releaseEnter t) = some s') (hu : s.useCount = 1) :
    s'.wakeup ≠ none ∧ s'.pc t = .cleanRel ∧ s'.useCount = 0 ∧ s'.panicked = false := by
  have inv := inv_reachable h
  cases step_cases inv hs with
  | park _ _ ha => cases ha
  | acqClean _ ha => cases ha
  | join _ ha => cases ha
  | relReturn _ _ _ hlt => rw [hu] at hlt; cases Nat.lt_irrefl _ hlt
  | relClean => exact ⟨nofun, if_pos rfl, congrArg (· - 1) hu, inv.noPanic⟩

/-- `transitions`, part 2 (0→1): the number of users leaves 0 only by the step
that completes a *successful* cleaner call made by an `Acquire`; that thread
becomes the single user. -/
theorem first_user_follows_clean {s s' : State} (h : Reachable s) (op : Op)
    (hs : step s op = some s') (hu : s.useCount = 0) (hu' : s'.useCount ≠ 0) :
    ∃ t, op = .cleanDone t true ∧ s.pc t = .cleanAcq ∧ s'.pc t = .inUse ∧ s'.useCount = 1 := by
  have inv := inv_reachable h
  cases step_cases inv hs with
  | park => exact absurd hu hu'
  | acqClean => exact absurd hu hu'
  | join _ _ _ hne => exact absurd hu hne
  | cancel => exact absurd hu hu'
  | cleanOk t c _ hpc => exact ⟨t, rfl, hpc, if_pos rfl, congrArg (· + 1) hu⟩
  | cleanEnd => exact absurd hu hu'
  | relReturn _ hpc => exact absurd hu (inv.user_facts hpc).2
  | relClean _ hpc => exact absurd hu (inv.user_facts hpc).2

/-- `transitions`, part 3: an `Acquire` that arrives at (or is woken on) an idle
system on which no cleaning is in progress starts the cleaner and is not
admitted yet. -/
theorem acquire_on_idle_cleans {s s' : State} (h : Reachable s) (t : Nat) (op : Op)
    (hop : op = .acquireEnter t ∨ op = .wake t)
    (hs : step s op = some s') (hu : s.useCount = 0) (hw : s.wakeup = none) :
    s'.wakeup ≠ none ∧ s'.pc t = .cleanAcq ∧ s'.useCount = 0 := by
  have thread : ∀ {t'}, Arrives s op t' → t' = t := fun ha => by
    rcases hop with e | e <;> subst e <;> cases ha <;> rfl
  cases step_cases (inv_reachable h) hs with
  | park _ _ _ hc => exact nomatch hw.symm.trans hc
  | acqClean t' ha => cases thread ha; exact ⟨nofun, if_pos rfl, hu⟩
  | join _ _ _ hne => exact absurd hu hne
  | cancel => exact hop.elim nofun nofun
  | cleanOk => exact hop.elim nofun nofun
  | cleanEnd => exact hop.elim nofun nofun
  | relReturn => exact hop.elim nofun nofun
  | relClean => exact hop.elim nofun nofun

/-- `transitions`, part 4: a failed cleaning before an `Acquire` admits nobody:
the thread returns the error, the use count stays 0 and no thread is a user. -/
theorem failed_preclean_admits_nobody {s s' : State} (h : Reachable s) (t : Nat)
    (hpc : s.pc t = .cleanAcq) (hs : step s (.cleanDone t false) = some s') :
    s'.useCount = 0 ∧ s'.pc t = .out ∧ (∀ x, s'.pc x ≠ .inUse) ∧ ret s (.cleanDone t false) = some (t, .err) := by
  have inv := inv_reachable h
  have hret : ret s (.cleanDone t false) = some (t, .err) := by simp only [ret, hpc]; rfl
  cases step_cases inv hs with
  | park _ _ ha => cases ha
  | acqClean _ ha => cases ha
  | join _ ha => cases ha
  | cleanEnd _ _ c hc =>
    refine ⟨inv.useZero (by rw [hc]; nofun), if_pos rfl, fun x => ?_, hret⟩
    show (if x = t then PC.out else s.pc x) ≠ .inUse
    split
    · nofun
    · exact (exclusion h t (by rw [hpc]; rfl)).1 x

/-- `transitions` (summary): for every enabled step from a reachable state,
(1) a cleaner call starts in this step **iff** the step is an `Acquire`
(arriving or woken) that finds no cleaning in progress and 0 users, or a
`Release` that takes the number of users from 1 to 0;
(2) the number of users leaves 0 only in the step that completes a successful
cleaner call made by an `Acquire`;
(3) the step that completes a failed one leaves 0 users and nobody admitted. -/
theorem transitions {s s' : State} (h : Reachable s) (op : Op) (hs : step s op = some s') :
    ((s.wakeup = none ∧ s'.wakeup ≠ none) ↔
      ((∃ t, (op = .acquireEnter t ∨ op = .wake t) ∧ s.wakeup = none ∧ s.useCount = 0) ∨
       (∃ t, op = .releaseEnter t ∧ s.useCount = 1))) ∧
    (s.useCount = 0 → s'.useCount ≠ 0 → ∃ t, op = .cleanDone t true ∧ s.pc t = .cleanAcq) ∧
    (∀ t, op = .cleanDone t false → s.pc t = .cleanAcq → s'.useCount = 0 ∧ ∀ x, s'.pc x ≠ .inUse) := by
  refine ⟨⟨?_, ?_⟩, ?_, ?_⟩
  · rintro ⟨hw, hw'⟩
    rcases clean_starts_only_at_transitions h op hs hw hw' with ⟨t, hop, hu, _, _⟩ | ⟨t, hop, hu, _, _⟩
    · exact Or.inl ⟨t, hop, hw, hu⟩
    · exact Or.inr ⟨t, hop, hu⟩
  · rintro (⟨t, hop, hw, hu⟩ | ⟨t, hop, hu⟩)
    · exact ⟨hw, (acquire_on_idle_cleans h t op hop hs hu hw).1⟩
    · subst hop
      exact ⟨(inv_reachable h).wakeup_none_of_users (by rw [hu]; nofun), (last_release_cleans h t hs hu).1⟩
  · intro hu hu'
    obtain ⟨t, hop, hpc, _, _⟩ := first_user_follows_clean h op hs hu hu'
    exact ⟨t, hop, hpc⟩
  · intro t hop hpc
    subst hop
    obtain ⟨h1, _, h3, _⟩ := failed_preclean_admits_nobody h t hpc hs
    exact ⟨h1, h3⟩

/-- `no_stuck_waiter`, part 1: a parked `Acquire` is either waiting for the
cleaner call that is running right now (whose completion step is enabled,
whatever its result) or its wake-up step is enabled. -/
theorem no_stuck_waiter {s : State} (h : Reachable s) (t c : Nat) (hpc : s.pc t = .waiting c) :
    (s.wakeup = some c ∧ ∃ t0, (s.pc t0).cleaning = true ∧ ∀ ok, (step s (.cleanDone t0 ok)).isSome = true) ∨
    (step s (.wake t)).isSome = true := by
  have inv := inv_reachable h
  rcases inv.chanClosed c (inv.waitChan t c hpc) with hw | hcl
  · obtain ⟨t0, ht0, _⟩ := inv.cleanSome c hw
    exact .inl ⟨hw, t0, ht0, step_cleanDone_isSome inv.noPanic hw ht0⟩
  · exact .inr (by rw [step_wake inv.noPanic hpc hcl]; rfl)

/-- `no_stuck_waiter`, part 2: when a cleaner call completes (`close(wakeup)`),
the wake-up step of *every* parked `Acquire` is enabled. -/
theorem all_waiters_woken {s s' : State} (h : Reachable s) (t0 : Nat) (ok : Bool)
    (hs : step s (.cleanDone t0 ok) = some s') (t c : Nat) (hpc : s'.pc t = .waiting c) :
    (step s' (.wake t)).isSome = true := by
  have inv' := inv_reachable (.step _ h hs)
  have hw' := (step_cleanDone_facts (inv_reachable h) hs).2
  -- the channel `t` waits on is not the published one (there is none), so it is closed
  have hcl := (inv'.chanClosed c (inv'.waitChan t c hpc)).resolve_left fun e => nomatch hw'.symm.trans e
  rw [step_wake inv'.noPanic hpc hcl]; rfl

/-- `no_stuck_waiter`, part 3: cancellation of a parked `Acquire` is always
enabled, returns `cancelled` and changes nothing but that thread's state. -/
theorem cancel_returns {s : State} (h : Reachable s) (t c : Nat) (hpc : s.pc t = .waiting c) :
    ∃ s', step s (.cancel t) = some s' ∧ s'.useCount = s.useCount ∧ s'.wakeup = s.wakeup ∧
      s'.pc t = .out ∧ (∀ x, x ≠ t → s'.pc x = s.pc x) ∧ ret s (.cancel t) = some (t, .cancelled) :=
  ⟨s.setPc t .out, step_cancel (inv_reachable h).noPanic hpc, rfl, rfl, if_pos rfl, fun _ hx => if_neg hx,
    by simp only [ret, hpc]⟩

/-! ## the chained cleaner -/

/-- `NewChainedCleaner`: the result is nil **iff** every cleaner returned nil —
for every list of cleaners and every combination of outcomes (in particular a
failure at any position, followed by any number of successes, is reported). -/
theorem chained_nil_iff (outs : List Nat) : (chained outs).1 = 0 ↔ ∀ o, o ∈ outs → o = 0 := by
  unfold chained
  rw [chainedFrom_fst_zero_iff]
  exact and_iff_right rfl

/-- ... the error returned is the first one observed, ... -/
theorem chained_first_error (outs : List Nat) : (chained outs).1 = (outs.find? (· ≠ 0)).getD 0 := by
  unfold chained
  rw [chainedFrom_fst]; rfl

/-- ... and every cleaner is invoked, also after a failure. -/
theorem chained_invokes_all (outs : List Nat) : (chained outs).2 = outs.length := by
  unfold chained
  rw [chainedFrom_snd]; exact Nat.zero_add _

example : chained [0, 3, 0, 5] = (3, 4) ∧ chained [0, 0] = (0, 2) ∧ chained [7, 0, 0] = (7, 3) := by decide +kernel

/-! ### non-vacuity: concrete reachable states -/

/-- thread 0 is cleaning for its Acquire, threads 1 and 2 are parked behind it -/
def exWaiting : State := run init [.acquireEnter 0, .acquireEnter 1, .acquireEnter 2]
/-- thread 0 was admitted and threads 1, 2 followed; 0 and 1 left, 2 is the last user -/
def exLastUser : State :=
  run exWaiting [.cleanDone 0 true, .wake 1, .wake 2, .releaseEnter 0, .releaseEnter 1]

example : Reachable exWaiting := reachable_run .init _
example : exWaiting.pc 0 = .cleanAcq ∧ exWaiting.pc 1 = .waiting 0 ∧ exWaiting.pc 2 = .waiting 0 ∧
    exWaiting.wakeup = some 0 := by decide +kernel
example : (step exWaiting (.cleanDone 0 false)).isSome = true := by decide +kernel
example : exLastUser.useCount = 1 ∧ exLastUser.pc 2 = .inUse ∧ exLastUser.wakeup = none := by decide +kernel
example : (step exLastUser (.releaseEnter 2)).isSome = true := by decide +kernel
example : (run exLastUser [.releaseEnter 2, .acquireEnter 3]).pc 3 = .waiting 1 := by decide +kernel

/-! ## the build directories -/

section dirs
open BbRe.BuildDirs
open BbRe.Lemmas.IdleDirs

/-- `distinct_dirs`, part 1: two threads that own a build directory at the same
time (created, handed out or being closed) own different names. -/
theorem distinct_dirs {s : BuildDirs.State} (h : BuildDirs.Reachable s) (t t' : Nat) (n n' : Name)
    (hne : t ≠ t') (ht : (s.pc t).owns n) (ht' : (s.pc t').owns n') : n ≠ n' := by
  intro e
  subst e
  exact hne ((dinv_reachable h).ownsUniq t t' n ht ht')

/-- Special case in the words of the property: directories *held* at the same time. -/
theorem distinct_held_dirs {s : BuildDirs.State} (h : BuildDirs.Reachable s) (t t' : Nat) (n n' : Name)
    (hne : t ≠ t') (ht : s.pc t = .holding n) (ht' : s.pc t' = .holding n') : n ≠ n' :=
  distinct_dirs h t t' n n' hne (by rw [ht]; rfl) (by rw [ht']; rfl)

/-- `distinct_dirs`, part 2: a directory is empty at the moment it is handed out. -/
theorem handed_out_empty {s s' : BuildDirs.State} (h : BuildDirs.Reachable s) (t : Nat) (fault : Bool) (n : Name)
    (hs : BuildDirs.step s (.enter t fault) = some s') (hpc : s'.pc t = .holding n) :
    lookup s'.root n = some [] := by
  cases dstep_cases hs with
  | move hm hpc' =>
    cases hm with
    | enterFail => exact nomatch (if_pos rfl).symm.trans hpc
    | enter => cases (if_pos rfl).symm.trans hpc; exact (dinv_reachable h).freshEmpty t n (by rw [hpc']; rfl)

/-- `distinct_dirs`, part 3: `RemoveAll` in `Close` removes the directory with
everything in it, or `Close` is going to return an error whatever `Release` does. -/
theorem close_removes {s s' : BuildDirs.State} (t : Nat) (n : Name) (e1 fault : Bool)
    (hpc : s.pc t = .closing n e1) (hs : BuildDirs.step s (.removeAll t fault) = some s') :
    (hasName s'.root n = false ∧ lookup s'.root n = none) ∨
    (∃ r, s'.pc t = .finishing false r ∧ ∀ relErr, finishResult false r relErr ≠ .ok) := by
  cases dstep_cases hs with
  | move hm hpc' =>
    cases hm
    cases hpc.symm.trans hpc'
    exact .inr ⟨_, if_pos rfl, fun relErr => by cases e1 <;> nofun⟩
  | removeAll _ _ _ _ hpc' =>
    cases hpc.symm.trans hpc'
    exact .inl ⟨Bool.eq_false_iff.2 fun hh => ((hasName_erase ..).1 hh).2 rfl, by rw [lookup_erase, if_pos rfl]⟩

/-- `Close` returns success only if the child closed, the removal succeeded and
the cleaner (if it ran) succeeded. -/
theorem close_result (r : BuildDirs.Res) (relErr : Bool) (h : finishResult false r relErr = .ok) :
    r = .ok ∧ relErr = false := by
  cases r with
  | ok =>
    cases relErr with
    | false => exact ⟨rfl, rfl⟩
    | true => cases h
  | _ => cases h

/-- `distinct_dirs`, part 4: the names given to actions that may run in
parallel (`nextParallelActionID`) are pairwise distinct over the whole history. -/
theorem counter_names_distinct {s : BuildDirs.State} (h : BuildDirs.Reachable s) : s.issued.Nodup :=
  (dinv_reachable h).issuedNodup

/-- ... and a newly issued counter name was never issued before. -/
theorem counter_name_fresh {s s' : BuildDirs.State} (h : BuildDirs.Reachable s) (t : Nat) (n : Name)
    (hpc : s.pc t = .acquired none) (hs : BuildDirs.step s (.name t) = some s') (hn : s'.pc t = .named n) :
    n ∉ s.issued ∧ s'.issued = n :: s.issued := by
  have h' := dinv_reachable (.step _ h hs)
  cases dstep_cases hs with
  | move hm hp => cases hm; rw [hpc] at hp; cases hp
  | nameCounter _ =>
    rw [BbRe.Lemmas.IdleDirs.setPc_pc, if_pos rfl] at hn
    cases hn
    exact ⟨(List.nodup_cons.1 h'.issuedNodup).1, rfl⟩

/-- When the cleaner runs nobody owns a directory, and a successful run leaves nothing behind in the root
build directory. -/
theorem clean_leaves_nothing {s s' : BuildDirs.State} (h : BuildDirs.Reachable s)
    (hs : BuildDirs.step s (.clean true) = some s') :
    s'.root = [] ∧ ∀ t n, ¬ (s.pc t).owns n := by
  cases dstep_cases hs with
  | move hm => cases hm
  | clean hact =>
    exact ⟨rfl, fun t n hown => nomatch ((dinv_reachable h).no_user hact t).symm.trans (user_of_owns hown)⟩

/-! ### non-vacuity -/

/-- threads 0 and 1 hold counter-named directories "1" and "2" (0 wrote a file);
thread 2 asked for a digest-named one -/
def exHolding : BuildDirs.State :=
  drun BuildDirs.init [.begin 0 none, .begin 1 none, .name 1, .name 0, .mkdir 0 false, .mkdir 1 false,
    .enter 0 false, .enter 1 false, .write 0 7, .begin 2 (some "a1b2c3d4e5f60718"), .name 2, .mkdir 2 false]

example : BuildDirs.Reachable exHolding := reachable_drun .init _
example : exHolding.pc 0 = .holding "2" ∧ exHolding.pc 1 = .holding "1" ∧
    exHolding.pc 2 = .made "a1b2c3d4e5f60718" ∧ exHolding.issued = ["2", "1"] ∧
    lookup exHolding.root "2" = some [7] := by decide +kernel
example : (BuildDirs.step exHolding (.enter 2 false)).isSome = true := by decide +kernel
example : (drun exHolding [.closeChild 0 false, .removeAll 0 false]).pc 0 = .finishing false .ok := by decide +kernel
example : (BuildDirs.step exHolding (.clean true)).isSome = false := by decide +kernel

end dirs

/-! ## invoker and build directories together (namespace `BbRe.Worker` of `Model/BuildDirs.lean`) -/

section worker
open BbRe.Lemmas.IdleWorker

/-- In the coupled system both components stay reachable in their own
transition systems, so every theorem above applies to them; and every
directory thread between `begin` and `release` is a user of the invoker. -/
theorem worker_components {s : Worker.State} (h : Worker.Reachable s) :
    Idle.Reachable s.idle ∧ BuildDirs.Reachable s.dirs ∧
    ∀ t, BuildDirs.DPC.user (s.dirs.pc t) = true → s.idle.pc t = .inUse :=
  let w := winv_reachable h
  ⟨w.idle, w.dirs, w.coupled⟩

/-- The cleaner never runs concurrently with a running action's directory:
while any thread is inside the cleaner, no thread is between `begin` and
`release`, nobody owns a directory, and emptying the root is an enabled
`clean` step of `Model/BuildDirs.lean` (which is how `Worker.Step.cleanDone`
applies it). -/
theorem cleaner_excludes_directory_users {s : Worker.State} (h : Worker.Reachable s) (t : Nat)
    (ht : (s.idle.pc t).cleaning = true) :
    (∀ x, BuildDirs.DPC.user (s.dirs.pc x) = false) ∧ (∀ x n, ¬ (s.dirs.pc x).owns n) ∧
    s.dirs.active = 0 ∧ ∀ ok, (BuildDirs.step s.dirs (.clean ok)).isSome = true := by
  obtain ⟨h1, h2⟩ := no_dir_users_while_cleaning (winv_reachable h) t ht
  exact ⟨h1, fun x n hown => (nomatch (h1 x).symm.trans (Lemmas.IdleDirs.user_of_owns hown)), h2,
    fun ok => by rw [Lemmas.IdleDirs.dstep_clean h2]; rfl⟩

/-! ### non-vacuity: a reachable worker state in which the cleaner runs, and one with a directory user -/

def exWorkerCleaning : Worker.State := ⟨Idle.acquireBody Idle.init 0, BuildDirs.init⟩

example : Worker.Reachable exWorkerCleaning ∧ (exWorkerCleaning.idle.pc 0).cleaning = true :=
  ⟨.step .init (.idle Worker.init (.acquireEnter 0) _ rfl nofun nofun), rfl⟩

example : ∃ s, Worker.Reachable s ∧ BuildDirs.DPC.user (s.dirs.pc 0) = true := by
  have h1 : Worker.Reachable ⟨(Idle.acquireBody Idle.init 0), BuildDirs.init⟩ :=
    .step .init (.idle Worker.init (.acquireEnter 0) _ rfl nofun nofun)
  have h2 := Worker.Reachable.step h1 (.cleanDone _ 0 true _ rfl)
  have h3 := Worker.Reachable.step h2 (.begin _ 0 none _ (by decide) rfl)
  exact ⟨_, h3, by decide⟩

end worker

end BbRe.Properties.C12
