import BbRe.Lemmas.GoHeapOps
import BbRe.Lemmas.FairWalk
import BbRe.Lemmas.FairHandoff
import BbRe.Lemmas.FairExamples
import BbRe.Lemmas.FairReal
import BbRe.Lemmas.FairDynCache
import BbRe.Lemmas.FairDynParked
import BbRe.Lemmas.FairDynKids
/-!
# C04 — the scheduler hands work out in the documented fair order

Three models carry this property (helper lemmas in `Lemmas/GoHeap*.lean`, `Lemmas/Fair*.lean`):

* `Model/GoHeap.lean` — Go's `container/heap` (`up`, `down`, `Push`, `Pop`, `Remove`, `Fix` and the
  scheduler's `heapPushOrFix`/`heapRemoveOrFix`/`heapMaybeFix`) over `Array α` with the `Less`
  method as a parameter.  Theorems `heap_*`: every operation permutes the elements (± the pushed /
  removed one), preserves the heap property for every strict weak order, the root of a heap is
  minimal, and `Fix` restores the heap property after the key of one element changed (and without
  `Fix` it need not hold).
* `Model/Fair.lean` — the *choices* of `worker.assignNextQueuedTask` (`pickFromQueue`, a walk over
  heap roots exactly as in the code) and `task.schedule` (`handoffTargets`) on a snapshot of the
  invocation tree, and the documented rule by full scan (`specPick`).  The score order is the exact
  one, `scoreLt (e₁,p₁) (e₂,p₂) ⟺ (e₁+1)^100·2^(p₁-m) < (e₂+1)^100·2^(p₂-m)`, `m = min p₁ p₂`
  (the code computes `(e+1)·(2^0.01)^p` in float64; the harness sweeps the real function against
  `scoreLt`, they agree except at exact ties with a priority difference that is a non-zero
  multiple of 100, which the generators avoid).
* `Model/FairDyn.lean` — the functions that *change* the heaps of the tree (`enqueue`,
  `removeQueuedFromInvocation`, the executing counts, parking, `dequeue`, creation and removal of
  invocations) with `container/heap` at the call sites of the code.  Theorems of the last section
  (`heaps_stay_ordered`, `parked_children_stay_listed`, `cached_priority`, `invariants_from_empty`):
  the heap property, the listing of parked children and the cached priorities are invariants.

All statements hold for trees of any depth and width, any number of operations, any priorities,
durations, time stamps, stickiness limit lists and worker states.  In the theorems about the
choices the heap property is a hypothesis (`HeapTree`), which the verif hook evaluates on the real
heaps after every segment; the last section shows, with the `heap_*` theorems at every mutation
site, that the update functions preserve it.  The rest of the scheduler's bookkeeping is the
`Sched` model's business.
-/
namespace BbRe.Properties.C04
open BbRe.GoHeap BbRe.Fair BbRe.Lemmas.GoHeap BbRe.Lemmas.Fair

/-! ## `container/heap` -/

section Heap
variable {α : Type} (less : α → α → Bool)

/-- `Push` adds exactly the pushed element. -/
theorem heap_push_perm (a : Array α) (x : α) : (push less a x).Perm (a.push x) := push_perm less a x

/-- `Fix` only reorders. -/
theorem heap_fix_perm (a : Array α) (i : Nat) : (fix less a i).Perm a := fix_perm less a i

/-- `Remove(h, i)` returns `h[i]` and leaves a heap holding exactly the other elements. -/
theorem heap_remove (sw : StrictWeak less) (a : Array α) (i : Nat) (hi : i < a.size) (h : IsHeap less a) :
    (remove less a i).2 = a[i]? ∧ ((remove less a i).1.push a[i]).Perm a ∧ IsHeap less (remove less a i).1 :=
  remove_spec less sw a i hi h

/-- `Pop` returns the root and leaves a heap holding exactly the other elements. -/
theorem heap_pop (sw : StrictWeak less) (a : Array α) (h0 : 0 < a.size) (h : IsHeap less a) :
    (pop less a).2 = a[0]? ∧ ((pop less a).1.push a[0]).Perm a ∧ IsHeap less (pop less a).1 :=
  pop_spec less sw a h0 h

/-- `Push` preserves the heap property. -/
theorem heap_push_isHeap (sw : StrictWeak less) (a : Array α) (x : α) (h : IsHeap less a) :
    IsHeap less (push less a x) := push_heap less sw a x h

/-- The root of a heap is minimal: nothing is `less` than `h[0]`. -/
theorem heap_root_minimal (sw : StrictWeak less) (a : Array α) (h : IsHeap less a) (h0 : 0 < a.size) :
    ∀ x ∈ a, less x a[0] = false := by
  intro x hx
  obtain ⟨k, hk, rfl⟩ := Array.getElem_of_mem hx
  have := lessAt_root_false less sw a a.size (Nat.le_refl _) h k hk
  rwa [lessAt_eq less a k 0 hk h0] at this

/-- The obligation behind every `heapMaybeFix`/`heapPushOrFix`/`heapRemoveOrFix` call site: after
the key of the element at position `i` changed (here: the element is replaced by `x`), `Fix(h, i)`
restores the heap property. -/
theorem heap_fix_restores (sw : StrictWeak less) (a : Array α) (i : Nat) (x : α) (hi : i < a.size)
    (h : IsHeap less a) : IsHeap less (fix less (a.setIfInBounds i x) i) :=
  fix_heap_of_set less sw a i x hi h

/-- `heapMaybeFix(h, i)` after a key change of an element that is in the heap (`i ≥ 0`); for an
element that is not in the heap (`i = -1`) nothing changes. -/
theorem heap_maybeFix (sw : StrictWeak less) (a : Array α) (i : Nat) (x : α) (hi : i < a.size)
    (h : IsHeap less a) :
    IsHeap less (maybeFix less (a.setIfInBounds i x) (some i)) ∧ maybeFix less a none = a :=
  ⟨fix_heap_of_set less sw a i x hi h, rfl⟩

/-- `heapPushOrFix(h, i, v)`: pushes an element that is not yet in the heap, fixes one that is
(after its key changed). -/
theorem heap_pushOrFix (sw : StrictWeak less) (a : Array α) (v : α) (h : IsHeap less a) :
    IsHeap less (pushOrFix less a none v) ∧
    ∀ i, i < a.size → IsHeap less (pushOrFix less (a.setIfInBounds i v) (some i) v) :=
  ⟨push_heap less sw a v h, fun i hi => fix_heap_of_set less sw a i v hi h⟩

/-- `heapRemoveOrFix(h, i, count)`: removes the element when its counter dropped to zero, fixes
it otherwise (after its key changed). -/
theorem heap_removeOrFix (sw : StrictWeak less) (a : Array α) (i : Nat) (x : α) (hi : i < a.size)
    (h : IsHeap less a) (count : Nat) :
    (0 < count → IsHeap less (removeOrFix less (a.setIfInBounds i x) i count)) ∧
    IsHeap less (removeOrFix less a i 0) := by
  constructor
  · intro hc
    unfold removeOrFix
    rw [if_pos hc]
    exact fix_heap_of_set less sw a i x hi h
  · unfold removeOrFix
    rw [if_neg (Nat.lt_irrefl 0)]
    exact (remove_spec less sw a i hi h).2.2

end Heap

/-- Without the `Fix`, the heap property need not hold after a key change: `#[1,2,3]` is a heap,
raising the key of the root to 5 gives `#[5,2,3]`, which is not; `Fix(h, 0)` repairs it. -/
theorem heap_without_fix_counterexample :
    IsHeap natLess #[1, 2, 3] ∧ ¬ IsHeap natLess ((#[1, 2, 3] : Array Nat).setIfInBounds 0 5) ∧
    IsHeap natLess (fix natLess ((#[1, 2, 3] : Array Nat).setIfInBounds 0 5) 0) := by
  refine ⟨(isHeapB_iff _ _).mp (by decide), ?_, (isHeapB_iff _ _).mp (by decide)⟩
  intro h
  have := (isHeapB_iff _ _).mpr h
  revert this
  decide

-- non-vacuity of the heap theorems: a heap with a true tie and all operations on it
example : IsHeap natLess #[1, 4, 1, 7, 5] := (isHeapB_iff _ _).mp (by decide)
example : push natLess #[1, 4, 1, 7, 5] 0 = #[0, 4, 1, 7, 5, 1] := by decide +kernel
example : remove natLess #[1, 4, 1, 7, 5] 1 = (#[1, 5, 1, 7], some 4) := by decide +kernel
example : pop natLess #[1, 4, 1, 7, 5] = (#[1, 4, 5, 7], some 1) := by decide +kernel

/-! ## The orders of the scheduler's heaps -/

/-- The exact score order `(executing+1)^100 · 2^priority` is a strict weak order. -/
theorem scoreLt_strictWeak : StrictWeak (fun (a b : Nat × Int) => scoreLt a.1 a.2 b.1 b.2) :=
  BbRe.Lemmas.Fair.scoreLt_strictWeak

/-- The exact integer order is the documented real-valued one: `scoreLt` holds iff
`(executing₁ + 1) · 2^(priority₁/100) < (executing₂ + 1) · 2^(priority₂/100)` over the reals
(`S = (executingWorkersCount + 1) · b^priority`, `b = 2^0.01`, comment of `isPreferred`). -/
theorem scoreLt_iff_real (e₁ : Nat) (p₁ : Int) (e₂ : Nat) (p₂ : Int) :
    scoreLt e₁ p₁ e₂ p₂ = true ↔
      ((e₁ : ℝ) + 1) * (2 : ℝ) ^ ((p₁ : ℝ) / 100) < ((e₂ : ℝ) + 1) * (2 : ℝ) ^ ((p₂ : ℝ) / 100) :=
  scoreLt_iff_realScore e₁ p₁ e₂ p₂

/-- `queuedChildrenHeap.Less` (score, then least recently started) is a strict weak order. -/
theorem childLess_strictWeak : StrictWeak childLess := BbRe.Lemmas.Fair.childLess_strictWeak

/-- `queuedOperationsHeap.Less` (priority ↑, expected duration ↓, queued timestamp ↑) is a strict
weak order. -/
theorem opLess_strictWeak : StrictWeak opLess := BbRe.Lemmas.Fair.opLess_strictWeak

/-- Hence the `heap_*` theorems apply to both heaps, e.g. an `enqueue` keeps `queuedOperations`
a heap and a `heapMaybeFix` after an executing-count change keeps `queuedChildren` one. -/
theorem queuedOperations_push (ops : Array Op) (o : Op) (h : IsHeap opLess ops) :
    IsHeap opLess (push opLess ops o) := push_heap opLess C04.opLess_strictWeak ops o h

theorem queuedChildren_fix (kids : Array Inv) (i : Nat) (c : Inv) (hi : i < kids.size)
    (h : IsHeap childLess kids) : IsHeap childLess (fix childLess (kids.setIfInBounds i c) i) :=
  fix_heap_of_set childLess C04.childLess_strictWeak kids i c hi h

/-- `idleSynchronizingWorkersChildrenHeap.Less` is *not* a strict weak order: an invocation that
is in that heap only because of parked workers further down (`len(idleSynchronizingWorkers) = 0`)
and executes nothing ties, by cross-multiplication, with every other invocation, so the
"utilisation" comparison is not transitive (cycle `b < a < c < b` below).  For that reason
`direct_handoff_prefers_related` claims the distance part of the documented hand-off order only. -/
theorem idleLess_not_strictWeak : ¬ StrictWeak idleLess := by
  intro sw
  let a : Inv := .mk 1 [] [] 0 0 0 [] [9] 2 []
  let b : Inv := .mk 2 [] [] 0 1 0 [7] [] 1 []
  let c : Inv := .mk 3 [] [] 0 1 0 [5, 6] [] 3 []
  have hba : idleLess b a = true := by decide
  have hac : idleLess a c = true := by decide
  have hcb : idleLess c b = true := by decide
  have h1 : idleLess a b = false := sw.asymm b a hba
  have h2 : idleLess b c = false := sw.asymm c b hcb
  have := sw.negTrans a b c h1 h2
  rw [hac] at this
  cases this

/-! ## `worker.assignNextQueuedTask` -/

/-- Directly queued operations go first and in order: when the walk is at an invocation with
directly queued operations, the operation handed out belongs to that invocation and none of the
invocation's queued operations is strictly before it in (priority ↑, expected duration ↓, queued
timestamp ↑); stickiness bookkeeping is untouched. -/
theorem direct_first_and_ordered (win : Nat → Bool) (nlim fuel : Nat) (i : Inv) (keys : List Nat) (lvl : Nat)
    (hw : i.wf = true) (hne : i.ops ≠ []) :
    ∃ o, pickAux win nlim (fuel + 1) i keys lvl = some (o, lvl) ∧ o ∈ i.ops ∧
      ∀ o' ∈ i.ops, opLess o' o = false :=
  direct_first win nlim fuel i keys lvl hw hne

example : (Fair.Inv.mk 7 [⟨1, 0, 20, 9⟩, ⟨2, 0, 10, 3⟩, ⟨3, 5, 30, 1⟩] [] 0 0 0 [] [] 0 []).wf = true := by decide +kernel

/-- Otherwise the child the walk descends into has queued work, no child with queued work has a
strictly better score, and among the children of minimal score it is a least recently started
one — unless it is the worker's sticky child at a level whose stickiness window is open. -/
theorem child_is_score_minimal (win : Nat → Bool) (nlim : Nat) (i : Inv) (hw : i.wf = true)
    (keys : List Nat) (lvl : Nat) (ck : Nat) (keys' : List Nat) (lvl' : Nat)
    (h : chooseChild win nlim i keys lvl = some (ck, keys', lvl')) :
    ∃ c, i.child ck = some c ∧ c ∈ cands i ∧ (∀ c' ∈ cands i, c'.scoreLt c = false) ∧
      ((∀ c' ∈ cands i, c.scoreLt c' = false → ¬ c'.started < c.started) ∨
        ∃ k ks, keys = k :: ks ∧ lvl < nlim ∧ ck = k ∧ win lvl = true) := by
  have hw' := (wf_iff i).mp hw
  obtain ⟨c, hchild, hmem⟩ := chooseChild_mem_specChildren win nlim i hw' keys lvl ck keys' lvl' h
  obtain ⟨hmin, hsel, _⟩ := mem_specChildren win nlim i keys lvl c keys' lvl' hmem
  obtain ⟨hcand, hbest⟩ := (mem_minScore _ _).mp hmin
  refine ⟨c, hchild, hcand, hbest, ?_⟩
  rcases hsel with hlru | ⟨k, ks, hk, hl, hck, hwin⟩
  · left
    intro c' hc' htie
    have hc'min : c' ∈ minScore (cands i) := by
      rw [mem_minScore]
      refine ⟨hc', fun c'' hc'' => ?_⟩
      exact invScoreLt_strictWeak.negTrans c'' c c' (hbest c'' hc'') htie
    exact ((mem_lru _ _).mp hlru).2 c' hc'min
  · right
    exact ⟨k, ks, hk, hl, by rw [← hck]; exact (mem_of_child i ck c hchild).2.symm, hwin⟩

/-- Stickiness only breaks ties.  (1) If the walk descends into a child other than the root of
`queuedChildren`, that child is the worker's sticky child, fewer than `len(limits)` levels have
been consumed, the window of this level is open, and its score equals the root's (neither is
strictly better).  (2) Stickiness is tracked further only below the sticky child; after any other
choice it is off for the rest of the walk (`keys' = []`), and beyond `len(limits)` levels or
without a last invocation it has no effect.  (3) Inside the window a sticky child with queued work
whose score is not worse than the best one's is taken. -/
theorem stickiness_only_breaks_ties (win : Nat → Bool) (nlim : Nat) (i : Inv) (hw : i.wf = true)
    (keys : List Nat) (lvl : Nat) (b : Nat) (qs : List Nat) (hq : i.queued = b :: qs) :
    (∀ ck keys' lvl', chooseChild win nlim i keys lvl = some (ck, keys', lvl') → ck ≠ b →
      ∃ k ks s bb, keys = k :: ks ∧ lvl < nlim ∧ ck = k ∧ i.child k = some s ∧ i.child b = some bb ∧
        win lvl = true ∧ s.scoreLt bb = false ∧ bb.scoreLt s = false) ∧
    (∀ ck keys' lvl', chooseChild win nlim i keys lvl = some (ck, keys', lvl') →
      (∃ ks, keys = ck :: ks ∧ lvl < nlim ∧ keys' = ks ∧ lvl' = lvl + 1) ∨
      (lvl' = lvl ∧ (keys' = [] ∨ (keys' = keys ∧ ¬ ∃ k ks, keys = k :: ks ∧ lvl < nlim)))) ∧
    (∀ k ks s bb, keys = k :: ks → lvl < nlim → i.child k = some s → i.child b = some bb →
      s.isQueued = true → bb.scoreLt s = false → win lvl = true →
      chooseChild win nlim i keys lvl = some (k, ks, lvl + 1)) := by
  have hw' := (wf_iff i).mp hw
  refine ⟨?_, ?_, ?_⟩
  · intro ck keys' lvl' h hne
    exact chooseChild_ne_root win nlim i hw' keys lvl ck keys' lvl' b qs hq h hne
  · intro ck keys' lvl' h
    obtain ⟨c, hchild, hmem⟩ := chooseChild_mem_specChildren win nlim i hw' keys lvl ck keys' lvl' h
    obtain ⟨_, _, htrack⟩ := mem_specChildren win nlim i keys lvl c keys' lvl' hmem
    have hck : c.key = ck := (mem_of_child i ck c hchild).2
    rcases htrack with ⟨k, ks, hk, hl, hkk, hks, hlv⟩ | hoff
    · left; exact ⟨ks, by rw [hk, ← hck, hkk], hl, hks, hlv⟩
    · right; exact hoff
  · intro k ks s bb hk hl hs hb hsq htie hwin
    subst hk
    exact chooseChild_sticky_tie win nlim i k ks lvl b qs s bb hq hl hs hb hsq htie hwin

/-- The code's heap-root walk returns an element of the documented admissible set: for every
snapshot whose heaps satisfy the heap property (any depth, any size), every worker state and both
window computations (`legacyLevel0Window`), the operation handed out by `assignNextQueuedTask`
(together with the number of stickiness levels retained) is one that the documented rule
(directly queued operations first and in order; else a least recently started child of minimal
score, a tie going to the sticky child inside its window) admits. -/
theorem pick_refines_spec_window (t : Inv) (w : WView) (legacy : Bool) (h : HeapTree t) (r : Op × Nat)
    (hp : pickFromQueue t w legacy = some r) : r ∈ specPickWith (w.window legacy) t w :=
  pickAux_mem_specAux (w.window legacy) w.limits.length t.depth t w.lastKeys 0 r h.wf hp

/-- … in particular for the code as it is (per-level stickiness windows) and the documented
admissible set `specPick`. -/
theorem pick_refines_spec (t : Inv) (w : WView) (h : HeapTree t) (r : Op × Nat)
    (hp : pickFromQueue t w = some r) : r ∈ specPick t w :=
  pick_refines_spec_window t w false h r hp

/-- The same with the executable well-formedness check the driver evaluates on every snapshot. -/
theorem pick_refines_spec_wf (t : Inv) (w : WView) (h : t.wf = true) (r : Op × Nat)
    (hp : pickFromQueue t w = some r) : r ∈ specPick t w :=
  pickAux_mem_specAux w.docWindow w.limits.length t.depth t w.lastKeys 0 r h hp

/-- A worker that asks gets a task whenever one is queued in its size class queue: if any
operation is queued anywhere in the tree, and the worker's last invocation still exists (the
scheduler keeps it alive through `idleWorkersCount`), `assignNextQueuedTask` hands out an
operation (which by `pick_refines_spec` is an admissible one). -/
theorem pick_some_of_queued (t : Inv) (w : WView) (legacy : Bool) (h : HeapTree t) (hq : t.hasQueued = true)
    (hlast : ∃ n, nodeAt t w.lastKeys = some n) : ∃ r, pickFromQueue t w legacy = some r :=
  pickAux_some_of_queued (w.window legacy) w.limits.length t.depth t w.lastKeys 0 (Nat.le_refl _) h.wf hq
    (fun _ => hlast)

example : exTree.hasQueued = true ∧ (nodeAt exTree exW.lastKeys).isSome = true := by decide +kernel

/-- The bound on the number of loop iterations used by `pickFromQueue` (the depth of the tree) is
never the reason the walk stops: every larger bound gives the same result. -/
theorem pick_bound_irrelevant (win : Nat → Bool) (nlim : Nat) (f : Nat) (t : Inv) (keys : List Nat) (lvl : Nat)
    (hf : t.depth ≤ f) : pickAux win nlim f t keys lvl = pickAux win nlim t.depth t keys lvl :=
  pickAux_fuel win nlim f t keys lvl hf

example : HeapTree exTree := exTree_heapTree
-- non-vacuity: on `exTree` the hypotheses hold, the level-1 tie goes to the sticky child `3`
-- (window open: 500 < 480 + 50), and that is the only admissible choice
example : exTree.wf = true := by decide +kernel
example : pickFromQueue exTree exW = some (⟨3, 0, 10, 6⟩, 2) := by decide +kernel
example : specPick exTree exW = [(⟨3, 0, 10, 6⟩, 2)] := by decide +kernel
-- a worker without stickiness gets the least recently started child `2`
example : pickFromQueue exTree ⟨[], [], [], 500⟩ = some (⟨2, 0, 10, 5⟩, 0) := by decide +kernel
example : chooseChild exW.docWindow 2 (.mk 1 [] [2, 3] 0 0 20 [] [] 0
      [.mk 2 [⟨2, 0, 10, 5⟩] [] 0 0 10 [] [] 0 [], .mk 3 [⟨3, 0, 10, 6⟩] [] 0 0 20 [] [] 0 []]) [3] 1 =
    some (3, [], 2) := by decide +kernel

/-- The behaviour before fix 5bea868 (`w.stickinessStartingTimes[0]` at every level): on `exTree`
the worker switched to `[1,3]` 20 s ago, well inside the 50 s window of level 1, but has been on
`1` for 400 s; the old code measures the level-1 window from the level-0 starting time, finds it
closed and hands out the operation of the least recently started child `2`, which the documented
rule does not admit.  The repaired code picks the operation of the sticky child `3`. -/
theorem legacy_level0_window_counterexample :
    pickFromQueue exTree exW true = some (⟨2, 0, 10, 5⟩, 1) ∧
    (⟨2, 0, 10, 5⟩, 1) ∉ specPick exTree exW ∧
    pickFromQueue exTree exW false = some (⟨3, 0, 10, 6⟩, 2) := by decide +kernel

/-! ## `task.schedule` -/

/-- A task arriving while workers are parked is handed to a worker that last served a most
closely related invocation: for every worker `w` that `task.schedule` may choose (over all
iteration orders of the task's invocations) there is an invocation `p` of the task such that no
parked worker `w'` is closer to any invocation `p'` of the task — distance = number of steps up
from the task's invocation to an ancestor-or-self of the invocation the worker is parked at. -/
theorem direct_handoff_prefers_related (t : Inv) (invs : List (List Nat)) (hl : ParkedListed t)
    (hv : ∀ p ∈ invs, ∃ n, nodeAt t p = some n) (w : Nat) (hw : w ∈ handoffTargets t invs) :
    ∃ p q, p ∈ invs ∧ Parked t q w ∧
      ∀ p' q' w', p' ∈ invs → Parked t q' w' → dist p q ≤ dist p' q' := by
  obtain ⟨p, q, r₀, hp, hq, hd, hmin⟩ :=
    handoffAux_spec t invs t.depth hl hv (maxLen invs + 1) 0 w (fun r' hr' => absurd hr' (Nat.not_lt_zero r')) hw
  exact ⟨p, q, hp, hq, fun p' q' w' hp' hq' => Nat.le_trans hd (hmin p' q' w' hp' hq')⟩

/-- A task arriving while some worker is parked is handed straight to a parked worker: when
`idleSynchronizingWorkersChildren` lists exactly the children with parked workers at or below them,
`task.schedule` never queues a task of a non-empty set of invocations while a worker is parked
(together with `direct_handoff_prefers_related`: it goes to a most closely related one). -/
theorem handoff_some_of_parked (t : Inv) (invs : List (List Nat)) (hl : ParkedListed t) (hs : ParkedSound t)
    (hne : invs ≠ []) (q : List Nat) (w : Nat) (hp : Parked t q w) : handoffTargets t invs ≠ [] := by
  unfold handoffTargets
  cases invs with
  | nil => exact absurd rfl hne
  | cons p0 ps =>
    apply handoffAux_ne_nil t (p0 :: ps) hl hs q w hp (maxLen (p0 :: ps) + 1) 0 (fun p _ => Nat.zero_le _)
    exact ⟨p0, List.mem_cons_self, Nat.succ_le_succ (length_le_maxLen (p0 :: ps) p0 List.mem_cons_self)⟩

example : ParkedSound exParked := parkedSound_of_checkB _ (by decide)
example : Parked exParked [1, 2] 11 := ⟨_, rfl, by decide⟩
-- non-vacuity: a task of invocation [1,3] goes to worker 12, one of [1,5] (a new sibling) to a
-- worker below 1, one of [6] to any parked worker's subtree root (heap root of the top level)
example : ParkedListed exParked := parkedListed_of_checkB _ (by decide)
example : handoffTargets exParked [[1, 3]] = [12] := by decide +kernel
example : handoffTargets (.mk 0 [] [] 0 0 0 [] [1, 4] 0
    [.mk 1 [] [] 0 1 0 [] [3, 2] 5
      [.mk 2 [] [] 0 1 0 [11] [] 5 [], .mk 3 [] [] 0 0 0 [12] [] 4 [], .mk 5 [] [] 0 0 0 [] [] 0 []],
     .mk 4 [] [] 0 0 0 [13] [] 3 []]) [[1, 5]] = [12] := by decide +kernel
example : dist [1, 5] [1, 3] = 1 ∧ dist [1, 5] [4] = 2 := by decide +kernel

/-! ## The heaps stay ordered (`Model/FairDyn.lean`)

The functions of the scheduler that change the heaps — `operation.enqueue`,
`operation.removeQueuedFromInvocation`, `invocation.increment/decrementExecutingWorkersCount`,
parking in `worker.getNextTask` and `worker.dequeue` — transcribed on the tree with Go's
`container/heap` at exactly the call sites of the code (`heap.Push`/`heap.Remove` on
`queuedOperations`; `heapPushOrFix`, `heapRemoveOrFix`, `heapMaybeFix` on the parent's
`queuedChildren` and `idleSynchronizingWorkersChildren` after the child's key changed, level by
level up to the root). -/

/-- `heaps_stay_ordered`: every update maps a tree of any shape whose `queuedOperations` and
`queuedChildren` heaps satisfy the heap property (and list exactly the children with queued
work) to such a tree: the hypothesis of `pick_refines_spec` is an invariant. -/
theorem heaps_stay_ordered (u : Update) (t : Inv) (h : HeapTree t) (he : u.enabled t) : HeapTree (u.apply t) := by
  cases u with
  | enqueue path o => exact (enqueue_spec o path t h he).1
  | removeQueued path idx =>
    obtain ⟨n, hn, hidx⟩ := he
    exact (removeQueued_spec idx path t n h hn hidx).1
  | increment path now fresh => exact (rekey_spec false _ (keyOnly_incr now fresh) path t h).1
  | decrement path now last => exact (rekey_spec false _ (keyOnly_decr now last) path t h).1
  | park path w => exact (frame_spec _ _ (heap_setParked _) upFrame_park path t h).1
  | unpark path idx => exact (frame_spec _ _ (heap_setParked _) upFrame_unpark path t h).1
  -- `createInvocation` and `removeInvocation` are walks that store the changed child
  -- (`createInvocation_eq`, `removeInvocation_eq`)
  | create path k now => exact (heap_store_walk _ (heap_createLeaf k now) path t h).1
  | removeIfEmpty path k => exact (heap_store_walk _ (heap_removeLeaf k) path t h).1

/-- The same for *any* change of the keys `executingWorkers`, `lastOperationStarted`,
`lastOperationCompletion` along a path that is followed, level by level, by the two
`heapMaybeFix` calls of the code (with or without the cache refresh of fix ca91fdf). -/
theorem heaps_stay_ordered_rekey (legacyNoRefresh : Bool) (g : Inv → Inv) (hg : KeyOnly g) (path : List Nat) (t : Inv)
    (h : HeapTree t) : HeapTree (rekey legacyNoRefresh g path t) := (rekey_spec legacyNoRefresh g hg path t h).1

/-- The third heap: `idleSynchronizingWorkersChildrenHeap.Less` is not a strict weak order
(`idleLess_not_strictWeak`), so no heap property is claimed for it.  What every update preserves,
whatever the comparison does: `idleSynchronizingWorkersChildren` is duplicate-free and lists
exactly the children with parked workers at or below them, at every invocation (`ParkedTree`). -/
theorem parked_children_stay_listed (u : Update) (t : Inv) (h : ParkedTree t) (he : u.enabled t) :
    ParkedTree (u.apply t) := by
  cases u with
  | enqueue path o => exact parked_enqueue o path t h
  | removeQueued path idx => exact parked_removeQueued idx path t h
  | increment path now fresh => exact (rekey_parked false _ (keyOnly_incr now fresh) path t h).1
  | decrement path now last => exact (rekey_parked false _ (keyOnly_decr now last) path t h).1
  | park path w => exact (park_spec w path t h he).1
  | unpark path idx =>
    obtain ⟨n, hn, hidx⟩ := he
    exact (unpark_spec idx path t n h hn (by intro h0; rw [h0] at hidx; simp at hidx)).1
  | create path k now => exact (parked_store_walk _ (parked_createLeaf k now) path t h).1
  | removeIfEmpty path k => exact (parked_store_walk _ (parked_removeLeaf k) path t h).1

/-- … which is what the hand-off theorems assume. -/
theorem parkedTree_handoff_hypotheses (t : Inv) (h : ParkedTree t) : ParkedListed t ∧ ParkedSound t :=
  ⟨parkedListed_of_tree t h, parkedSound_of_tree t h⟩

/-- `cached_priority`: with exact caches before, exact after, for *every* update function —
`firstQueuedOperationPriority` of every invocation below the root is exactly what
`updateFirstOperationPriority` would store now: the priority of `queuedOperations[0]`, else the
cached priority of `queuedChildren[0]`.  (`enqueue` / `removeQueuedFromInvocation` refresh every
invocation they pass; since fix ca91fdf `increment/decrementExecutingWorkersCount` refresh the
parent right after re-sorting its `queuedChildren`; the other updates change neither the heads
of the heaps nor the caches.) -/
theorem cached_priority (u : Update) (t : Inv) (h : HeapTree t) (hc : ExactTree t) : ExactTree (u.apply t) := by
  cases u with
  | enqueue path o => exact exact_enqueue o path t hc
  | removeQueued path idx => exact exact_removeQueued idx path t hc
  | increment path now fresh => exact (exact_rekey _ (keyOnly_incr now fresh) path t hc).1
  | decrement path now last => exact (exact_rekey _ (keyOnly_decr now last) path t hc).1
  | park path w => exact exact_park w path t h hc
  | unpark path idx => exact exact_unpark idx path t h hc
  | create path k now => exact exact_create k now path t h hc
  | removeIfEmpty path k => exact exact_removeInvocation k path t h hc

/-- … and with exact caches the cached priority of an invocation *is* the priority of the
operation the walk (of a worker without stickiness) selects below it: the priority by which the
parent orders it among its siblings is that of the operation it would hand out. -/
theorem cached_priority_predicts_walk (win : Nat → Bool) (nlim fuel : Nat) (c : Inv) (lvl : Nat) (o : Op) (r : Nat)
    (h : ExactTree c) (hp : pickAux win nlim fuel c [] lvl = some (o, r)) : o.prio = firstPrio c :=
  exact_walk win nlim fuel c lvl o r h hp

/-- Exact caches give the two cases of DESIGN.md literally: priority of `queuedOperations[0]` when
there are directly queued operations, else the cached priority of a queued child (the only one,
when there is one). -/
theorem cached_priority_exact_cases (c : Inv) (h : cacheNode c) :
    (∀ o rest, c.ops = o :: rest → c.prio = o.prio) ∧
    (c.ops = [] → ∀ k, c.queued = [k] → ∃ g ∈ c.kids, g.key = k ∧ g.prio = c.prio) := by
  unfold cacheNode at h
  constructor
  · intro o rest ho; rw [ho] at h; exact h
  · intro ho k hk
    rw [ho, hk] at h
    rcases h with h | ⟨g, hg, hgk, hgp⟩
    · cases h
    · exact ⟨g, hg, by simpa using hgk, hgp⟩

theorem cached_priority_weak_of_exact (t : Inv) (h : HeapTree t) (hc : ExactTree t) : CacheTree t :=
  cacheTree_of_exact t h hc

/-- The code before fix ca91fdf did not refresh the parent after an executing-count change: only
the weaker invariant `CacheTree` (the cache is the cached priority of *some* queued child) is
preserved … -/
theorem cached_priority_legacy_weak (g : Inv → Inv) (hg : KeyOnly g) (path : List Nat) (t : Inv) (h : HeapTree t)
    (hc : CacheTree t) : CacheTree (rekey true g path t) := cache_rekey_legacy g hg path t h hc

/-- … and exactness is lost: in invocation `1`, child `2` (priority 50, nothing executing) is
ahead of child `3` (priority 0, one worker); when the worker of `3` finishes, `3` moves to the
front of `queuedChildren`, but the old code leaves the cached priority of `1` at 50, so `1`
competes with its siblings as a priority-50 invocation although the operation it will hand out has
priority 0.  The fixed code stores 0. -/
theorem legacy_no_refresh_counterexample :
    let t : Inv := .mk 0 [] [1] 0 1 0 [] [] 0
      [.mk 1 [] [2, 3] 50 1 5 [] [] 0
        [.mk 2 [⟨2, 50, 10, 5⟩] [] 50 0 1 [] [] 0 [], .mk 3 [⟨3, 0, 10, 6⟩] [] 0 1 5 [] [] 0 []]]
    t.wf = true ∧
    ((nodeAt (decrementExecutingWorkersCount true 9 (fun _ => true) [1, 3] t) [1]).map
      fun c => (c.queued, c.prio, firstPrio c)) = some ([3, 2], 50, 0) ∧
    ((nodeAt (decrementExecutingWorkersCount false 9 (fun _ => true) [1, 3] t) [1]).map
      fun c => (c.queued, c.prio, firstPrio c)) = some ([3, 2], 0, 0) := by decide +kernel

/-- The invariants along any sequence of enabled updates. -/
theorem heaps_stay_ordered_all (us : List Update) : ∀ (t : Inv), HeapTree t → enabledAll us t →
    HeapTree (applyAll us t) := applyAll_induct HeapTree heaps_stay_ordered us

theorem parked_children_stay_listed_all (us : List Update) : ∀ (t : Inv), ParkedTree t → enabledAll us t →
    ParkedTree (applyAll us t) := applyAll_induct ParkedTree parked_children_stay_listed us

/-- Closing the loop: in every state reached from a well-formed tree by any sequence of enabled
updates, the operation `assignNextQueuedTask` hands out is one the documented policy admits. -/
theorem pick_refines_spec_reachable (us : List Update) (t : Inv) (w : WView) (h : HeapTree t)
    (he : enabledAll us t) (r : Op × Nat) (hp : pickFromQueue (applyAll us t) w = some r) :
    r ∈ specPick (applyAll us t) w :=
  pick_refines_spec _ w (heaps_stay_ordered_all us t h he) r hp

/-- … and a task scheduled there while a worker is parked goes to a most closely related parked
worker. -/
theorem handoff_reachable (us : List Update) (t : Inv) (h : ParkedTree t) (he : enabledAll us t)
    (invs : List (List Nat)) (hv : ∀ p ∈ invs, ∃ n, nodeAt (applyAll us t) p = some n) (w : Nat)
    (hw : w ∈ handoffTargets (applyAll us t) invs) :
    ∃ p q, p ∈ invs ∧ Parked (applyAll us t) q w ∧
      ∀ p' q' w', p' ∈ invs → Parked (applyAll us t) q' w' → dist p q ≤ dist p' q' :=
  direct_handoff_prefers_related _ invs (parkedListed_of_tree _ (parked_children_stay_listed_all us t h he)) hv w hw

/-- The root invocation of a size class queue that has just been created. -/
def emptyRoot : Inv := emptyInv 0 0

/-- From the empty queue: whatever sequence of `getOrCreateInvocation`, `enqueue`,
`removeQueuedFromInvocation`, executing-count changes, parking, `dequeue` and `removeIfEmpty` steps
built the tree, the operation `assignNextQueuedTask` hands out is admissible, … -/
theorem pick_refines_spec_from_empty (us : List Update) (w : WView) (he : enabledAll us emptyRoot) (r : Op × Nat)
    (hp : pickFromQueue (applyAll us emptyRoot) w = some r) : r ∈ specPick (applyAll us emptyRoot) w :=
  pick_refines_spec_reachable us emptyRoot w (heapTree_emptyInv 0 0) he r hp

/-- … every cache is exact, and `idleSynchronizingWorkersChildren`
lists exactly the children with parked workers below them. -/
theorem invariants_from_empty (us : List Update) (he : enabledAll us emptyRoot) :
    HeapTree (applyAll us emptyRoot) ∧ ExactTree (applyAll us emptyRoot) ∧ ParkedTree (applyAll us emptyRoot) := by
  exact applyAll_induct (fun t => HeapTree t ∧ ExactTree t ∧ ParkedTree t)
    (fun u t h he => ⟨heaps_stay_ordered u t h.1 he, cached_priority u t h.1 h.2.1,
      parked_children_stay_listed u t h.2.2 he⟩)
    us emptyRoot ⟨heapTree_emptyInv 0 0, exactTree_emptyInv 0 0, parkedTree_emptyInv 0 0⟩ he

-- non-vacuity: a tree built from the empty root
example : (applyAll [.create [] 1 5, .create [1] 3 5, .create [1] 2 6, .enqueue [1, 3] ⟨1, 0, 10, 5⟩,
      .enqueue [1, 2] ⟨2, -7, 10, 6⟩, .increment [1, 2] 9 (fun _ => true), .removeQueued [1, 2] 0,
      .removeIfEmpty [1] 2, .park [1, 3] 41] emptyRoot).wf = true := by decide +kernel
example : pickFromQueue (applyAll [.create [] 1 5, .create [1] 3 5, .create [1] 2 6, .enqueue [1, 3] ⟨1, 0, 10, 5⟩,
      .enqueue [1, 2] ⟨2, -7, 10, 6⟩] emptyRoot) ⟨[], [], [], 20⟩ = some (⟨2, -7, 10, 6⟩, 0) := by decide +kernel

-- non-vacuity: the updates on a concrete tree (two queued children under `1`; enqueue a high
-- priority operation into `[1,3]`, start it, park a worker)
example : (Update.enqueue [1, 3] ⟨9, -5, 10, 7⟩).enabled exTree := by
  show (nodeAt exTree [1, 3]).isSome = true; decide
example : pickFromQueue ((Update.enqueue [1, 3] ⟨9, -5, 10, 7⟩).apply exTree) ⟨[], [], [], 500⟩ =
    some (⟨9, -5, 10, 7⟩, 0) := by decide +kernel
example : ((Update.enqueue [1, 3] ⟨9, -5, 10, 7⟩).apply exTree).wf = true := by decide +kernel
example : (applyAll [.enqueue [1, 3] ⟨9, -5, 10, 7⟩, .removeQueued [1, 3] 0,
      .increment [1, 3] 600 (fun _ => true), .park [1, 2] 41] exTree).wf = true := by decide +kernel
example : (nodeAt ((Update.enqueue [1, 3] ⟨9, -5, 10, 7⟩).apply exTree) [1]).map Inv.prio = some (-5) := by decide +kernel

end BbRe.Properties.C04
