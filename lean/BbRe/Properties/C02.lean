import BbRe.Lemmas.SchedLiveRun
import BbRe.Lemmas.SchedLiveResp
import BbRe.Lemmas.SchedLiveTerm
import BbRe.Lemmas.SchedLiveSleep
import BbRe.Lemmas.SchedLiveWaiters3
import BbRe.Lemmas.SchedLiveProgress2
/-!
# C02 — each waiter gets exactly one faithful final result

Theorems about `Model/Sched.lean` (the transcription of
`pkg/scheduler/in_memory_build_queue.go`, tied to the code by the `sched`
differential harness).  They quantify over every `Reachable` state, i.e. over
every list of lock-held segments (`Seg`): all interleavings of `Execute` /
`WaitExecution` arrivals, stream wake-ups (stage change, update timer, client
cancellation), `Synchronize` arrivals and wake-ups, operator calls and clock
advances, with every oracle answer (`Hints`).

The model represents `task.stageChangeWakeup` by the generation counter
`Task.gen` (incremented exactly where the code closes the channel) and a stream
blocked in `waitExecution` by a `Stream` entry whose `snap` is the generation
for which its last message was built.

Parts, in this order: (a) at most one `done`, nothing after it; (b) no lost wake-up; (c) faithful;
(d) stage monotone; (f) progress (every parked stream eventually receives `done`); (e) re-attach by name.

Helper lemmas: `BbRe/Lemmas/SchedLive*.lean`.
-/
namespace BbRe.Properties.C02
open BbRe.Sched BbRe.Lemmas.SchedLive

/-! ## demo history for the non-vacuity examples -/

def cfg : Cfg := ⟨10, 10, 30, 100, 5, 50, 3, 1000⟩
def h0 : Hints := ⟨[], 0, none, false⟩
def q : ScqId := ⟨1, 0⟩
def w : WId := ⟨1, 1⟩
/-- register a queue; a worker parks; client 1 executes action 55 which is handed to the worker; the worker
wakes, runs it and reports the result (token 77): client 1 is still parked with the old snapshot. -/
def demo : List Seg :=
  [.register 1 [] 7 [0] 0 0,
   .sync h0 1 q [] 7 w .idle false,
   .exec ⟨[(q, w, 1)], 0, none, false⟩ 2 1 55 55 false [] 7 [9] 0,
   .syncWake h0 3 q w 0,
   .sync h0 4 q [] 7 w (.completed 55 ⟨0, 0, 77, .worker⟩) false]
def sDemo : State := run (State.init cfg) demo
theorem demo_reachable : Reachable sDemo := reachable_run (Reachable.init cfg) demo

/-! ## (a) at most one `done`, nothing after it -/

/-- `streamSend` for a completed task emits the final message together with the return of the call,
removes the parked stream of the client, and the message carries exactly the stored response. -/
theorem send_done (s s' : State) (c o : Nat) (op : Op) (t : Task) (r : Resp)
    (hop : s.op? o = some op) (ht : s.task? op.task = some t) (hr : t.response = some r)
    (hs : streamSend s c o = .ok s') :
    s'.events = .ret c cOK :: .msg c o 4 true r.code r.tok :: s.events ∧ hasStream s' c = false := by
  obtain ⟨op', t', h1, h2, ⟨r', h3, _, rfl⟩ | ⟨h3, _⟩⟩ := streamSend_ok hs
  · rw [hop] at h1; injection h1 with h1; subst h1
    rw [ht] at h2; injection h2 with h2; subst h2
    rw [hr] at h3; injection h3 with h3; subst h3
    refine ⟨by simp [stage_of_resp hr], ?_⟩
    simp only [hasStream, sendDone_streams]; exact any_filter_self _ _
  · rw [hop] at h1; injection h1 with h1; subst h1
    rw [ht] at h2; injection h2 with h2; subst h2
    rw [hr] at h3; cases h3

/-- A client without a parked stream cannot be woken: the `streamWake` segment is rejected. -/
theorem wake_without_stream_rejected (h : Hints) (s s' : State) (now c reason : Nat)
    (hc : hasStream s c = false) : streamWake h s now c reason ≠ .ok s' := by
  intro hh
  have := (streamWake_eff hh).2
  rw [hc] at this; cases this

/-- **at_most_one_done (per segment).**  For every successful segment and every client `c`, the
`msg` events the segment appends for `c` are: none (and then the segment does not park a stream
for `c`); or exactly one, marked `done`, after which `c` has no parked stream; or exactly one, not
`done`, after which `c` is parked.  The last two happen only in an `Execute` / `WaitExecution`
segment of `c` itself or when `c` had a parked stream before. -/
theorem at_most_one_done (s s' : State) (g : Seg) (hstep : step s g = .ok s') (c : Nat) :
    ∃ new, s'.events = new ++ s.events ∧
      ((new.filter (isMsgOf c) = [] ∧ (hasStream s' c = true → hasStream s c = true)) ∨
       ((isAttachOf c g = true ∨ hasStream s c = true) ∧
        ((∃ o st code tok, new.filter (isMsgOf c) = [.msg c o st true code tok] ∧ hasStream s' c = false) ∨
         (∃ o st, new.filter (isMsgOf c) = [.msg c o st false 0 0] ∧ hasStream s' c = true)))) :=
  step_client hstep c

/-- **nothing after `done` (run level).**  After a segment that sent `done` to `c` — more
generally from any state in which `c` has no parked stream — every run that contains no new
`Execute` / `WaitExecution` call of `c` appends no `msg` event for `c`. -/
theorem nothing_after_done (s : State) (c : Nat) (gs : List Seg) (hs : hasStream s c = false)
    (hg : noAttach c gs) :
    hasStream (run s gs) c = false ∧
    ∃ new, (run s gs).events = new ++ s.events ∧ new.filter (isMsgOf c) = [] :=
  run_no_msg gs hs hg

/-- a `done` message for client `c` carrying payload token `tok` -/
def isDoneMsg (c tok : Nat) : Event → Bool
  | .msg c' _ _ true _ tok' => c' == c && tok' == tok
  | _ => false

/-- non-vacuity: in the demo the stage-change wake-up of client 1 sends `done` with token 77 (the
payload the worker reported), and afterwards client 1 has no stream. -/
example : (run sDemo [.streamWake h0 5 1 0]).events.any (isDoneMsg 1 77) = true ∧
    hasStream sDemo 1 = true ∧ hasStream (run sDemo [.streamWake h0 5 1 0]) 1 = false := by
  refine ⟨by decide +kernel, by decide +kernel, by decide +kernel⟩

/-! ## (b) no lost wake-up -/

/-- **no_lost_wakeup (invariant).**  In every reachable state, for every parked stream `st` on
operation `op` of task `t`: the snapshot is not ahead of the task's generation, and if the task is
completed the snapshot is strictly behind — the captured `stageChangeWakeup` channel is closed. -/
theorem no_lost_wakeup (s : State) (hs : Reachable s) (st : Stream) (hst : st ∈ s.streams)
    (op : Op) (t : Task) (hop : s.op? st.op = some op) (ht : s.task? op.task = some t) :
    st.snap ≤ t.gen ∧ (t.response.isSome = true → st.snap < t.gen) :=
  (wakeInv_reachable hs st hst).2 op t hop ht

/-- … hence the stage-change wake-up of such a stream is enabled (it does not fail with the
"woke up without a stage change" mismatch) and sends `done` with the stored response. -/
theorem completed_stream_wakes (s : State) (hs : Reachable s) (h : Hints) (c : Nat) (st : Stream)
    (hst : s.streams.find? (fun x => x.client = c) = some st)
    (op : Op) (t : Task) (r : Resp) (hop : s.op? st.op = some op) (ht : s.task? op.task = some t)
    (hr : t.response = some r) :
    ∃ s', streamWake h s s.now c 0 = .ok s' ∧
      s'.events = .ret c cOK :: .msg c st.op 4 true r.code r.tok :: s.events := by
  obtain ⟨s', op', t', r', hop', ht', hr', e1, e2⟩ := completed_wakes hs h hst (fun op' t' ho ht' => by
    rw [hop] at ho; cases ho; rw [ht] at ht'; cases ht'; rw [hr]; rfl)
  rw [hop] at hop'; cases hop'
  rw [ht] at ht'; cases ht'
  rw [hr] at hr'; cases hr'
  exact ⟨s', e1, e2⟩

/-- **A parked stream's operation cannot disappear under it**: in every reachable state the operation of
every parked stream exists, counts a waiter, and its task exists (the no-waiter cleanup only removes
operations without waiters). -/
theorem parked_stream_operation_exists (s : State) (hs : Reachable s) (st : Stream) (hst : st ∈ s.streams) :
    ∃ op t, s.op? st.op = some op ∧ 0 < op.waiters ∧ s.task? op.task = some t :=
  stream_op_exists hs hst

/-- **no_lost_wakeup, final form.**  In every reachable state, for every client `c` with a parked stream
whose task is completed, the stage-change wake-up segment succeeds and sends exactly the `done` message
with the stored response, together with the return of the call. -/
theorem completed_task_wakes_every_stream (s : State) (hs : Reachable s) (h : Hints) (c : Nat) (st : Stream)
    (hst : s.streams.find? (fun x => x.client = c) = some st)
    (hdone : ∀ op t, s.op? st.op = some op → s.task? op.task = some t → t.response.isSome = true) :
    ∃ s' op t r, s.op? st.op = some op ∧ s.task? op.task = some t ∧ t.response = some r ∧
      streamWake h s s.now c 0 = .ok s' ∧
      s'.events = .ret c cOK :: .msg c st.op 4 true r.code r.tok :: s.events := by
  obtain ⟨op, t, hop, hw, ht⟩ := stream_op_exists hs (List.mem_of_find?_eq_some hst)
  have hsome := hdone op t hop ht
  cases hr : t.response with
  | none => rw [hr] at hsome; cases hsome
  | some r =>
    obtain ⟨s', e1, e2⟩ := completed_stream_wakes s hs h c st hst op t r hop ht hr
    exact ⟨s', op, t, r, hop, ht, hr, e1, e2⟩

/-- non-vacuity: the demo state has a parked stream whose task is completed, with snapshot 0 < generation 1 -/
example : sDemo.streams.any (fun st => match sDemo.op? st.op with
    | some op => (match sDemo.task? op.task with
      | some t => t.response.isSome && decide (st.snap < t.gen)
      | none => false)
    | none => false) = true := by decide +kernel

/-- **no_lost_wakeup (blocked `TerminateWorkers` calls).**  In every reachable state each captured
`(task, generation)` pair is not ahead of the task's generation, and once the task is no longer executing
(detached from its worker, or completed) its generation has moved on: the captured channel is closed and
the call's wake-up is enabled (`BbRe.Properties.C06.terminate_wakes`). -/
theorem no_lost_wakeup_terminate (s : State) (hs : Reachable s) (tc : TermCall) (htc : tc ∈ s.terms)
    (tg : Nat × Nat) (htg : tg ∈ tc.waits) (tk : Task) (htk : s.task? tg.1 = some tk) :
    tg.2 ≤ tk.gen ∧ ((tk.worker = none ∨ tk.response.isSome = true) → tg.2 < tk.gen) :=
  (termInv_reachable hs tc htc tg htg).2 tk htk

/-- **no_lost_wakeup (workers).**  In every reachable state a worker whose wakeup channel was closed is
inside `Synchronize`, is no longer queued as idle and is not waiting for an undrain; a worker queued as idle
is inside `Synchronize`, not yet woken and holds no task. -/
theorem no_lost_wakeup_workers (s : State) (hs : Reachable s) (wk : Worker) (hm : wk ∈ s.workers) :
    (wk.woken = true → wk.inSync = true ∧ wk.parked = false ∧ wk.drainWait = none) ∧
    (wk.parked = true → wk.inSync = true ∧ wk.woken = false ∧ wk.task = none) := by
  have hok := (winv_reachable hs).ok wk hm
  exact ⟨hok.woken, fun hp => ⟨(hok.parked hp).1, (hok.parked hp).2.1, (hok.parked hp).2.2.1⟩⟩

/-- **The hand-off is signalled.**  When `task.schedule` hands a task to a parked worker (the only way a
blocked `Synchronize` gets work), that worker afterwards holds the task, is no longer queued as idle, and its
wakeup channel is closed — so its wake-up segment is enabled (`BbRe.Properties.C06.woken_worker_wakes`). -/
theorem handoff_signalled (h : Hints) (s s' : State) (hs : Reachable s) (tid : Nat)
    (hh : schedule h s tid = .ok s') :
    s'.assigned = s.assigned ∨
    ∃ q w wk, s'.assigned = (q, w, tid) :: s.assigned ∧ s'.worker? q w = some wk ∧ wk.task = some tid ∧
      wk.parked = false ∧ wk.woken = true ∧ wk.inSync = true :=
  schedule_handoff hh (winv_reachable hs) (fun t ht => ((keysOK_reachable hs).tid tid t ht).1)

/-! ## (c) faithful -/

/-- **faithful (provenance).**  A response that a segment newly stores in a task is either made by the
scheduler itself — its cause is one of `workerDisappeared`, `noWaiters`, `killed`, `retryLimit`,
`queueRemoved` (never `worker`) and it carries no payload — or it is exactly the response passed by a
`Synchronize(Completed d r)` segment of a worker `(q, w)` that the scheduler, at that point of the segment,
believed to be running this very task with the reported digest `d`. -/
theorem faithful (s s' : State) (hs : Reachable s) (g : Seg) (hstep : step s g = .ok s') (k : Nat) (t' : Task)
    (r : Resp) (ht' : s'.task? k = some t') (hr : t'.response = some r)
    (hnew : ∀ t, s.task? k = some t → t.response ≠ some r) :
    (r.cause ≠ .worker ∧ r.tok = 0 ∧ r.exit = 0) ∨
    ∃ h now q comps pf w d pi, g = .sync h now q comps pf w (.completed d r) pi ∧
      ∃ (s3 : State) (wk : Worker), s3.worker? q w = some wk ∧ wk.task = some k ∧
        ∃ t : Task, s3.task? k = some t ∧ t.digest = d := by
  obtain ⟨_, rf⟩ := step_rt hstep (keysOK_reachable hs)
  rcases rf k t' r ht' hr with ⟨t, e1, e2⟩ | h | ⟨h, now, q, comps, pf, w, rep, pi, rfl, d, rfl, s3, wk, e1, e2, tid, t, e3, e4, e5⟩
  · exact absurd e2 (hnew t e1)
  · exact .inl h
  · refine .inr ⟨h, now, q, comps, pf, w, d, pi, rfl, s3, wk, e1, e2, t, ?_, e5⟩
    rw [e2] at e3; injection e3 with e3; subst e3; exact e4


/-- **response set once.**  Once a task stores a response it keeps exactly that response along
every run (so every `done` message of every waiter carries the same `(code, tok)`, see `send_done`). -/
theorem response_set_once (s : State) (hs : Reachable s) (gs : List Seg) (k : Nat) (t t' : Task) (r : Resp)
    (ht : s.task? k = some t) (hr : t.response = some r) (ht' : (run s gs).task? k = some t') :
    t'.response = some r := by
  have hk := keysOK_reachable hs
  obtain ⟨_, rel⟩ := run_tstep (allow := True) gs s (fun _ _ _ => trivial) hk
  exact (trel_task hk rel ht ht').resp r hr

/-- A task identifier is never reused for another action: digest and deduplication key are stable. -/
theorem task_identity_stable (s : State) (hs : Reachable s) (gs : List Seg) (k : Nat) (t t' : Task)
    (ht : s.task? k = some t) (ht' : (run s gs).task? k = some t') :
    t'.digest = t.digest ∧ t'.dkey = t.dkey ∧ t.gen ≤ t'.gen := by
  have hk := keysOK_reachable hs
  obtain ⟨_, rel⟩ := run_tstep (allow := True) gs s (fun _ _ _ => trivial) hk
  have := trel_task hk rel ht ht'
  exact ⟨this.digest, this.dkey, this.gen⟩

/-! ## (d) stage monotone -/

/-- **stage_monotone (per segment).**  The stage of a task never decreases, except in a
`Synchronize` segment that reports a failed completion and whose analyzer asks for a retry
(`isRetrySeg`), where EXECUTING may fall back to QUEUED; COMPLETED is absorbing. -/
theorem stage_monotone (s s' : State) (hs : Reachable s) (g : Seg) (hstep : step s g = .ok s')
    (k : Nat) (t t' : Task) (ht : s.task? k = some t) (ht' : s'.task? k = some t') :
    (t.stage ≤ t'.stage ∨ (isRetrySeg g ∧ t.stage = 3 ∧ t'.stage = 2)) ∧ (t.stage = 4 → t'.stage = 4) := by
  have hk := keysOK_reachable hs
  obtain ⟨_, rel⟩ := step_tstep hstep hk
  have le := trel_task hk rel ht ht'
  have abs : t.stage = 4 → t'.stage = 4 := by
    intro h4
    cases hr : t.response with
    | none => simp [Task.stage, hr] at h4; split at h4 <;> omega
    | some r => exact stage_of_resp (le.resp r hr)
  refine ⟨?_, abs⟩
  by_cases hlt : t'.stage < t.stage
  · have h1 := stage_le_four t
    have h2 := stage_ge_two t'
    refine .inr ⟨le.drop (.inl hlt), ?_⟩
    have : t.stage ≠ 4 := fun h4 => by have := abs h4; omega
    have h3 : t.stage ≠ 2 := by omega
    -- stages are 2, 3 or 4
    have h23 : t.stage = 2 ∨ t.stage = 3 ∨ t.stage = 4 := by unfold Task.stage; (repeat' split) <;> simp
    omega
  · exact .inl (by omega)

/-- **stage_monotone (run level).**  Along a run without retrying segments the stage of a task
never decreases. -/
theorem stage_monotone_run (s : State) (hs : Reachable s) (gs : List Seg) (hg : ∀ g ∈ gs, ¬ isRetrySeg g)
    (k : Nat) (t t' : Task) (ht : s.task? k = some t) (ht' : (run s gs).task? k = some t') :
    t.stage ≤ t'.stage := by
  have hk := keysOK_reachable hs
  obtain ⟨_, rel⟩ := run_tstep (allow := False) gs s (fun g hg' hr => hg g hg' hr) hk
  have le := trel_task hk rel ht ht'
  exact Nat.le_of_not_lt (fun hlt => le.drop (.inl hlt))

/-- non-vacuity: the demo moves task 1 through EXECUTING to COMPLETED. -/
example : ∃ t, sDemo.task? 1 = some t ∧ t.stage = 4 := ⟨_, rfl, by decide +kernel⟩

/-! ## (f) progress: every parked stream eventually receives `done`

The *fair completion schedule*: enabled wake-ups are delivered, the workers stop synchronizing, and the
clock advances beyond the cleanup deadlines.  `no_lost_wakeup` says that the stream of a completed task is
enabled; the theorems below say how the task gets completed and count the segments.  The only parked
streams for which the schedule does not produce `done` are those whose task is queued with no worker
on a queue that is never removed (a predeclared platform queue) — there the code, too, waits for a worker
for ever; `eventually_done` states this alternative explicitly. -/

/-- states of the demo history: after the hand-off to the parked worker (3 segments), and after the worker
has picked the task up (4 segments); client 1 is parked in both. -/
def sHandoff : State := run (State.init cfg) (demo.take 3)
def sExecuting : State := run (State.init cfg) (demo.take 4)
theorem sHandoff_reachable : Reachable sHandoff := reachable_run (Reachable.init cfg) _
theorem sExecuting_reachable : Reachable sExecuting := reachable_run (Reachable.init cfg) _

/-- **eventually_done, completed task** (1 segment).  The stream of a client parked on an operation whose
task is completed is enabled for the stage-change wake-up, and delivering it sends `done` with the stored
response and returns the call. -/
theorem eventually_done_completed {s : State} (hs : Reachable s) (h : Hints) {c : Nat} {st : Stream}
    (hst : s.streams.find? (fun x => x.client = c) = some st)
    (hdone : ∀ op t, s.op? st.op = some op → s.task? op.task = some t → t.response.isSome = true) :
    ∃ s' op t r, s.op? st.op = some op ∧ s.task? op.task = some t ∧ t.response = some r ∧
      streamWake h s s.now c 0 = .ok s' ∧
      s'.events = .ret c cOK :: .msg c st.op 4 true r.code r.tok :: s.events :=
  completed_wakes hs h hst hdone

/-- **eventually_done, executing task** (2 segments).  The client `c` is parked on an operation whose task
is held by a worker that is outside `Synchronize` and stays silent.  Then the worker has a cleanup entry,
and for every time `T` at or beyond its deadline: the clock segment `touch T` sends nothing to `c`, and the
stage-change wake-up of `c` after it sends `done` (the scheduler's "worker disappeared" response `r`) and
returns the call. -/
theorem eventually_done_executing {s : State} (hs : Reachable s) (h : Hints) {c : Nat} {st : Stream}
    (hst : s.streams.find? (fun x => x.client = c) = some st) {op : Op} {t : Task}
    (hop : s.op? st.op = some op) (ht : s.task? op.task = some t) {q : ScqId} {w : WId} {wk : Worker}
    (htw : t.worker = some (q, w)) (hwk : s.worker? q w = some wk) (hout : wk.inSync = false) :
    ∃ e ∈ s.cleanup, e.kind = .worker q w ∧ ∀ T, s.now < T → e.deadline ≤ T →
      ∃ (r : Resp) (s1 : State), run s [.touch h T] = s1 ∧
        s1.events.filter (isMsgOf c) = s.events.filter (isMsgOf c) ∧
        (run s [.touch h T, .streamWake h T c 0]).events =
          .ret c cOK :: .msg c st.op 4 true r.code r.tok :: s1.events :=
  eventually_done_exec hs h hst hop ht htw hwk hout

/-- non-vacuity: in `sExecuting` client 1 waits for task 1 on the silent worker; at time 200 it gets `done`
with code 14 (UNAVAILABLE). -/
example : ∃ st op t wk, sExecuting.streams.find? (fun x => x.client = 1) = some st ∧
    sExecuting.op? st.op = some op ∧ sExecuting.task? op.task = some t ∧ t.worker = some (q, w) ∧
    sExecuting.worker? q w = some wk ∧ wk.inSync = false := ⟨_, _, _, _, rfl, rfl, rfl, rfl, rfl, rfl⟩
example : (run sExecuting [.touch h0 200, .streamWake h0 200 1 0]).events.take 2 =
    [.ret 1 cOK, .msg 1 1 4 true 14 0] := rfl

/-- **eventually_done, hand-off pending** (3 segments).  The task was handed to a worker blocked in
`Synchronize` whose wake-up is still pending (`woken`): delivering it makes the worker leave `Synchronize`
with the task; from the resulting state `s0` the previous theorem applies. -/
theorem eventually_done_handoff {s : State} (hs : Reachable s) (h : Hints) {c : Nat} {st : Stream}
    (hst : s.streams.find? (fun x => x.client = c) = some st) {op : Op} {t : Task}
    (hop : s.op? st.op = some op) (ht : s.task? op.task = some t) {q : ScqId} {w : WId} {wk : Worker}
    (htw : t.worker = some (q, w)) (hwk : s.worker? q w = some wk) (hwo : wk.woken = true) :
    ∃ s0, run s [.syncWake h s.now q w 0] = s0 ∧ Reachable s0 ∧ s0.now = s.now ∧
      ∃ e ∈ s0.cleanup, e.kind = .worker q w ∧ ∀ T, s.now < T → e.deadline ≤ T →
        ∃ (r : Resp) (s1 : State), run s0 [.touch h T] = s1 ∧
          (run s [.syncWake h s.now q w 0, .touch h T, .streamWake h T c 0]).events =
            .ret c cOK :: .msg c st.op 4 true r.code r.tok :: s1.events :=
  BbRe.Lemmas.SchedLive.eventually_done_handoff hs h hst hop ht htw hwk hwo

example : ∃ st op t wk, sHandoff.streams.find? (fun x => x.client = 1) = some st ∧
    sHandoff.op? st.op = some op ∧ sHandoff.task? op.task = some t ∧ t.worker = some (q, w) ∧
    sHandoff.worker? q w = some wk ∧ wk.woken = true := ⟨_, _, _, _, rfl, rfl, rfl, rfl, rfl, rfl⟩
example : (run sHandoff [.syncWake h0 sHandoff.now q w 0, .touch h0 200, .streamWake h0 200 1 0]).events.take 2 =
    [.ret 1 cOK, .msg 1 1 4 true 14 0] := rfl

/-- **eventually_done** (general form).  From every reachable state, run the settling schedule `settle`:
every blocked `Synchronize` call returns and no worker calls again, and the clock is advanced beyond all
armed cleanup deadlines, again and again until no cleanup entry is left.  Afterwards no worker, no cleanup
entry and no removable queue exists, every parked stream is still parked, and for every parked stream `st`
of a client `c`: either its task is completed and delivering the stage-change wake-up sends `done` and
returns the call, or the task is queued without a worker — on one of the remaining, never-removed queues —
waiting for a worker to appear. -/
theorem eventually_done {s : State} (hs : Reachable s) {c : Nat} {st : Stream}
    (hst : s.streams.find? (fun x => x.client = c) = some st) :
    Reachable (settle s) ∧ (settle s).workers = [] ∧ (settle s).cleanup = [] ∧
    (∀ q sq, (settle s).scq? q = some sq → sq.mayBeRemoved = false) ∧
    (settle s).streams = s.streams ∧
    ∃ op t, (settle s).op? st.op = some op ∧ (settle s).task? op.task = some t ∧
      ((∃ r, t.response = some r ∧
          (run (settle s) [.streamWake qh (settle s).now c 0]).events =
            .ret c cOK :: .msg c st.op 4 true r.code r.tok :: (settle s).events) ∨
       (t.response = none ∧ t.worker = none ∧ t.queued = true)) :=
  settle_spec hs hst

/-- **eventually_done, bound.**  The settling schedule is a run of at most
`#workers + (#workers + #operations + #queues) + 1` segments: one per worker and at most one clock segment
per object (every clock segment that finds a cleanup entry removes an object), the counts taken after the
workers have left `Synchronize`. -/
theorem eventually_done_bound (s : State) :
    ∃ gs : List Seg, settle s = run s gs ∧
      gs.length ≤ s.workers.length + objCount (run s (syncSegs s.now (s.workers.map wkey))) + 1 :=
  settle_bound s

/-- non-vacuity: settling `sHandoff` completes task 1 (the worker is removed), and client 1 gets `done`. -/
example : (run (settle sHandoff) [.streamWake qh (settle sHandoff).now 1 0]).events.take 2 =
    [.ret 1 cOK, .msg 1 1 4 true 14 0] := rfl

/-! ## (e) re-attach by name -/

/-- **reattach.**  `WaitExecution` attaches to the operation registered under the name *after*
`enter` (the cleanup may have removed it meanwhile) iff one exists; otherwise the call returns
`NOT_FOUND` and nothing else changes. -/
theorem reattach (h : Hints) (s s' : State) (now c name : Nat) (hh : waitArrive h s now c name = .ok s') :
    ∃ s1, enter h s now = .ok s1 ∧
      ((s1.op? name = none ∧ s' = emit s1 (.ret c cNotFound)) ∨
       (∃ op, s1.op? name = some op ∧ streamAttach s1 c name = .ok s')) :=
  waitArrive_ok hh

end BbRe.Properties.C02
