import BbRe.Model.LockSkel
import BbRe.Model.LockPile
import BbRe.Lemmas.LockSkel
import BbRe.Lemmas.LockSkelCtx
import BbRe.Lemmas.LockSkelPile
import BbRe.Lemmas.LockSkelRevalidate
/-!
# C14 — no call leaves a lock behind; concurrent calls never deadlock

Two parts (DESIGN.md §5 C14).

**(a) Lock balance** — `Model/LockSkel.lean` defines the lock-skeleton IR, its path
semantics and the executable checker `consistent`. `checker_sound` (proved once, here)
says that a program accepted by the checker has, on *every* terminating non-panicking
path of *every* function (calls executing the callee's body, to any depth, with any
number of loop iterations), exactly the declared net effect on the multiset of held
locks, and never releases a lock it does not hold. The hypothesis
`consistent Σ prog = true` is discharged for the program translated from the *current*
Go sources in `Properties/C14Generated.lean` (regenerated on every run).

**(b) Deadlock freedom** — `Model/LockPile.lean` transcribes `pkg/sync/lock_pile.go`
as a small-step machine of one thread against a global lock table with an arbitrary
environment. `pile_no_hold_and_wait`: the only blocking acquisition in `LockPile.Lock`
happens while the thread holds no lock of the pile; `pile_post`, `pile_unlock`,
`pile_unlockAll`: what is held afterwards; `no_deadlock`: in any system whose blocked
threads hold nothing or only locks of strictly smaller class than the awaited one,
the wait-for graph has no cycle, and some thread can always proceed. The class-order
premise is discharged from the source in `C14Generated` (`class_graph_ok`).

Helper lemmas: `BbRe/Lemmas/LockSkel.lean`, `BbRe/Lemmas/LockSkelCtx.lean`, `BbRe/Lemmas/LockSkelPile.lean`.
-/
namespace BbRe.Properties.C14
open BbRe.LockSkel BbRe.Lemmas.LockSkel

/-! ## (a) the checker is sound -/

/-- **Soundness of the lock-balance checker.** If `consistent Σ prog = true`, then for
every function `f` and every trace `tr` of a run of `f` that returns (`Exec`: any
branch choices, any number of loop iterations, callee bodies executed to any depth,
deferred statements run at every return), replaying `tr` from exactly the locks
`Σ f` requires on entry never releases a lock that is not held (`run … = some _`) and
ends holding exactly the locks `Σ f` promises. -/
theorem checker_sound (sig : Sig) (prog : Prog) (hc : consistent sig prog = true) :
    ∀ (f : Nat) (tr : List Ev), Exec prog f tr →
      ∃ req post, sig.get f = some (req, post) ∧
        ∃ h', run req tr = some h' ∧ h'.Perm post :=
  BbRe.Lemmas.LockSkel.checker_sound sig prog hc

/-- The same in counting form: `net trace = Σ f ∧ neverUnderflows trace`. For every lock
`l`: (held on return) + (#releases) = (held on entry) + (#acquisitions), and no prefix of
the trace has released `l` more often than it was held on entry plus acquired. -/
theorem checker_sound_counts (sig : Sig) (prog : Prog) (hc : consistent sig prog = true)
    (f : Nat) (tr : List Ev) (he : Exec prog f tr) :
    ∃ req post, sig.get f = some (req, post) ∧ NeverUnderflows req tr ∧
      ∀ l, post.count l + rels l tr = req.count l + acqs l tr :=
  BbRe.Lemmas.LockSkel.checker_sound_counts sig prog hc f tr he

/-- No lock operation of any run mentions a ghost lock (`1000*c+999`, "a lock of class `c`
held by my caller"): ghosts only stand for the caller's locks in helper summaries. -/
theorem checker_sound_ghostFree (sig : Sig) (prog : Prog) (hc : consistent sig prog = true) :
    ∀ (f : Nat) (tr : List Ev), Exec prog f tr → GhostFree tr :=
  BbRe.Lemmas.LockSkel.checker_sound_ghostFree sig prog hc

/-- **Guarded-by.** What `run … = some _` says about the `need cs` events of a trace (the
translator emits one for every assignment to / `delete` from / declared mutating method call
on a field of a type listed in tools/lockskel/guards.json): at the moment of the event a
lock of one of the classes `cs` is held. For an `RWMutex` the write mode and the read mode
are different classes, and a mutation lists only the write mode. -/
theorem need_events_hold (h h' : List Nat) (p q : List Ev) (cs : List Nat)
    (hr : run h (p ++ Ev.need cs :: q) = some h') :
    ∃ h1, run h p = some h1 ∧ holdsClass h1 cs = true := by
  rw [run_append] at hr
  cases hp : run h p with
  | none => rw [hp] at hr; cases hr
  | some h1 =>
    rw [hp] at hr
    simp only [Option.bind, run, stepH] at hr
    refine ⟨h1, rfl, ?_⟩
    cases hc : holdsClass h1 cs with
    | true => rfl
    | false => rw [hc] at hr; simp at hr

/-- Guarded-by for a consistent program: in every returning run of every function, every
mutation of guarded state happens while a lock of a guarding class is held — given the
locks the function's summary requires on entry (for helpers: the ghost locks standing for
the caller's locks, whose presence is verified at every translated call site). -/
theorem guarded_mutations_are_locked (sig : Sig) (prog : Prog) (hc : consistent sig prog = true)
    (f : Nat) (p q : List Ev) (cs : List Nat) (he : Exec prog f (p ++ Ev.need cs :: q)) :
    ∃ req post, sig.get f = some (req, post) ∧
      ∃ h1, run req p = some h1 ∧ holdsClass h1 cs = true := by
  obtain ⟨req, post, hs, h', hr, _⟩ := checker_sound sig prog hc f _ he
  obtain ⟨h1, h1r, h1c⟩ := need_events_hold req h' p q cs hr
  exact ⟨req, post, hs, h1, h1r, h1c⟩

/-- Corollary for balanced entry points: a function whose summary is empty, in a
consistent program, returns with nothing held, whatever path it took. -/
theorem balanced_entry_leaves_nothing (sig : Sig) (prog : Prog) (hc : consistent sig prog = true)
    (f : Nat) (hf : sig.get f = some ([], [])) (tr : List Ev) (he : Exec prog f tr) :
    run [] tr = some [] := by
  obtain ⟨req, post, hs, h', hr, hp⟩ := checker_sound sig prog hc f tr he
  rw [hf] at hs
  cases hs
  rw [hr, List.Perm.eq_nil hp]


/-! ## (b) LockPile and deadlock freedom -/
open BbRe.LockPile BbRe.Lemmas.LockPile

/-- **No hold-and-wait.** In every state of `LockPile.Lock` reachable from a well-formed
call (any pile size, any new locks, any behaviour of the other threads), whenever the
thread's next step is the *blocking* acquisition `lhFirst.lock.Lock()`, it holds no lock
of the pile. -/
theorem pile_no_hold_and_wait {t : Nat} {old : Pile} {news : List Nat} {T0 : Table}
    (hwf : WfStart t old news T0) {s : MState} {T : Table}
    (hr : Reach t (lockInit old news) T0 s T) (hpc : s.pc = .block) :
    ∀ h ∈ s.pile, T h.lock ≠ some t :=
  BbRe.Lemmas.LockPile.pile_no_hold_and_wait hwf hr hpc

/-- … and if the thread entered `Lock` holding pile locks only, it holds nothing at all
while blocked. -/
theorem pile_blocked_holds_nothing {t : Nat} {old : Pile} {news : List Nat} {T0 : Table}
    (hwf : WfStart t old news T0) (honly : ∀ l, T0 l = some t → l ∈ locks old)
    {s : MState} {T : Table}
    (hr : Reach t (lockInit old news) T0 s T) (hpc : s.pc = .block) :
    ∀ l, T l ≠ some t :=
  BbRe.Lemmas.LockPile.pile_blocked_holds_nothing hwf honly hr hpc

/-- **Postcondition of `LockPile.Lock`.** When it returns, the thread holds every lock of
the pile, the pile's locks are pairwise distinct and are exactly old ∪ new, the pile is a
permutation of inserting the new locks into the old pile (recursion counts included),
nothing outside the pile changed hands for this thread, and the returned boolean is
`true` iff no lock was released in between. -/
theorem pile_post {t : Nat} {old : Pile} {news : List Nat} {T0 : Table}
    (hwf : WfStart t old news T0) {s : MState} {T : Table}
    (hr : Reach t (lockInit old news) T0 s T) (hpc : s.pc = .done) :
    (∀ h ∈ s.pile, T h.lock = some t) ∧
    (locks s.pile).Nodup ∧
    s.pile.Perm (insertAll old news) ∧
    (∀ l, l ∈ locks s.pile ↔ l ∈ locks old ∨ l ∈ news) ∧
    (∀ h ∈ s.pile, h.recursion + 1 = acq old h.lock + news.count h.lock) ∧
    (∀ l, l ∉ locks s.pile → (T l = some t ↔ T0 l = some t)) ∧
    (result s = some s.completed) ∧
    (s.completed = true ↔ s.releases = 0) :=
  BbRe.Lemmas.LockPile.pile_post hwf hr hpc

/-- `LockPile.Lock` never gets stuck except on a lock held by someone else, and never
hits its index-out-of-range panics when called with at least one lock. -/
theorem pile_lock_progress {t : Nat} {old : Pile} {news : List Nat} {T0 : Table}
    (hwf : WfStart t old news T0) {s : MState} {T : Table}
    (hr : Reach t (lockInit old news) T0 s T) (hstuck : step t s T = none) :
    s.pc = .done ∨ s.pc = .panic ∨ (∃ l, awaited s = some l ∧ T l ≠ none) :=
  BbRe.Lemmas.LockPile.lock_progress hwf hr hstuck

theorem pile_lock_no_panic {t : Nat} {old : Pile} {news : List Nat} {T0 : Table}
    (hwf : WfStart t old news T0) (hne : old ≠ [] ∨ news ≠ []) {s : MState} {T : Table}
    (hr : Reach t (lockInit old news) T0 s T) : s.pc ≠ .panic :=
  BbRe.Lemmas.LockPile.lock_no_panic hwf hne hr

/-- **`LockPile.Unlock`** releases exactly the named lock (or only drops its recursion count). -/
theorem pile_unlock {p : Pile} {T : Table} {l : Nat} (hl : l ∈ locks p) :
    ∃ i h p' T', p[i]? = some h ∧ h.lock = l ∧ unlock p T l = some (p', T') ∧
      (0 < h.recursion →
        p' = p.set i { h with recursion := h.recursion - 1 } ∧ T' = T) ∧
      (h.recursion = 0 →
        T' l = none ∧ (∀ x, x ≠ l → T' x = T x) ∧
        p.Perm (h :: p') ∧ p'.Perm (p.erase h) ∧
        ((locks p).Nodup → l ∉ locks p')) :=
  BbRe.Lemmas.LockPile.pile_unlock hl

/-- **`LockPile.UnlockAll`** frees every lock of the pile, touches nothing else, empties the pile. -/
theorem pile_unlockAll (p : Pile) (T : Table) :
    (unlockAll p T).1 = [] ∧
    (∀ l ∈ locks p, (unlockAll p T).2 l = none) ∧
    (∀ l, l ∉ locks p → (unlockAll p T).2 l = T l) :=
  BbRe.Lemmas.LockPile.pile_unlockAll p T

/-- **No deadlock.** Threads, locks and lock classes are arbitrary. If every blocked
thread holds nothing, or only locks of a class strictly below the class of the lock it is
waiting for (`H`), the wait-for graph has no cycle `t0 ⟶ t1 ⟶ … ⟶ t0` (every member of
such a cycle would be blocked). -/
theorem no_deadlock {holds : Nat → Nat → Prop} {waits : Nat → Option Nat} {cls : Nat → Nat}
    (hH : H holds waits cls) (t0 : Nat) (rest : List Nat) :
    ¬ Chain (Edge holds waits) t0 (rest ++ [t0]) :=
  BbRe.Lemmas.LockPile.no_deadlock hH t0 rest

/-- Consequently, in a finite non-empty set of threads closed under "holder of an awaited
lock", somebody is running or waits for a free lock. -/
theorem some_thread_can_proceed {holds : Nat → Nat → Prop} {waits : Nat → Option Nat}
    {cls : Nat → Nat} (hH : H holds waits cls) (ts : List Nat) (hne : ts ≠ [])
    (hclosed : ∀ t ∈ ts, ∀ l, waits t = some l → (∃ u ∈ ts, holds u l) ∨ (∀ u, ¬ holds u l)) :
    ∃ t ∈ ts, waits t = none ∨ ∃ l, waits t = some l ∧ ∀ u, ¬ holds u l :=
  BbRe.Lemmas.LockPile.some_thread_can_proceed hH ts hne hclosed

/-- A thread that takes its locks through a `LockPile` meets the first disjunct of `H`
whenever it is blocked inside `LockPile.Lock` (link between the two halves). -/
theorem pile_thread_satisfies_H {t : Nat} {old : Pile} {news : List Nat} {T0 : Table}
    (hwf : WfStart t old news T0) (honly : ∀ l, T0 l = some t → l ∈ locks old)
    {s : MState} {T : Table} (hr : Reach t (lockInit old news) T0 s T)
    (holds : Nat → Nat → Prop) (waits : Nat → Option Nat) (cls : Nat → Nat)
    (hholds : ∀ l, holds t l ↔ T l = some t) (hwaits : waits t = awaited s) :
    HAt holds waits cls t :=
  BbRe.Lemmas.LockPile.pile_thread_satisfies_H hwf honly hr holds waits cls hholds hwaits

/-- End to end for piles: any finite system of threads each of which is somewhere inside a
`LockPile.Lock` call (directory operations racing on overlapping directories, renames in
opposite directions) can make a step. -/
theorem pile_system_can_proceed (ts : List Nat) (hne : ts ≠ [])
    (old : Nat → Pile) (news : Nat → List Nat) (T0 : Nat → Table) (s : Nat → MState) (T : Table)
    (hwf : ∀ t ∈ ts, WfStart t (old t) (news t) (T0 t))
    (honly : ∀ t ∈ ts, ∀ l, T0 t l = some t → l ∈ locks (old t))
    (hr : ∀ t ∈ ts, Reach t (lockInit (old t) (news t)) (T0 t) (s t) T)
    (hclosed : ∀ l u, T l = some u → u ∈ ts) :
    ∃ t ∈ ts, awaited (s t) = none ∨ ∃ l, awaited (s t) = some l ∧ T l = none :=
  BbRe.Lemmas.LockPile.pile_system_can_proceed ts hne old news T0 s T hwf honly hr hclosed

/-! ### `getAndLockIfDirectory`: revalidation after a back-tracking acquisition

`Lemmas/LockSkelRevalidate.lean` models the retry loop of
`inMemoryDirectoryContents.getAndLockIfDirectory` (in_memory_prepopulated_directory.go
l.229-253) for one thread against a lock table, the mutable `entriesMap` of the parent
directory (which the environment may change only while the thread does not hold the parent
lock) and the thread's `LockPile`; `LockPile.Lock` enters as its proved specification
(`pile_post`, via `lockSpec_of_lock`). -/
open BbRe.Lemmas.Revalidate in
/-- **Revalidation is sound.** Whatever the number of retries and whatever the other threads
do: when `getAndLockIfDirectory` returns `(entry, true)`, `entry` is at that moment still the
child stored under the name, the parent lock is held, and if the child is a directory its
lock is held by the thread and recorded in the pile; when it returns `(nil, false)` the name
is absent and the parent lock is still held. -/
theorem revalidate_sound {c : Cfg} {s0 s : State} (h0 : Start c s0) (hr : Reach c s0 s) :
    (∀ e, s.pc = .done (some e) →
        s.E c.name = some e ∧ s.T c.P = some c.t ∧
        ∀ l, e.dirLock = some l → s.T l = some c.t ∧ l ∈ locks s.pile) ∧
    (s.pc = .done none → s.E c.name = none ∧ s.T c.P = some c.t) :=
  BbRe.Lemmas.Revalidate.revalidate_sound h0 hr

open BbRe.Lemmas.Revalidate in
/-- Retries leak nothing: at every loop head the pile is the initial one, on return it is the
initial pile plus the child directory's lock (if a directory is returned). -/
theorem revalidate_pile {c : Cfg} {s0 s : State} (h0 : Start c s0) (hr : Reach c s0 s) :
    (s.pc = .fetch → s.pile.Perm c.p0) ∧
    (∀ e, s.pc = .lockChild e → s.pile.Perm c.p0) ∧
    (s.pc = .done none → s.pile.Perm c.p0) ∧
    (∀ e, s.pc = .done (some e) → e.dirLock = none → s.pile.Perm c.p0) ∧
    (∀ e l, s.pc = .done (some e) → e.dirLock = some l → s.pile.Perm (⟨l, 0⟩ :: c.p0)) :=
  BbRe.Lemmas.Revalidate.revalidate_pile h0 hr

open BbRe.Lemmas.Revalidate in
/-- Every call of `LockPile.Lock` made by the loop meets the precondition of `pile_post`. -/
theorem revalidate_lock_pre {c : Cfg} {s0 s : State} (h0 : Start c s0)
    (hn : (locks c.p0).Nodup)
    (hall : ∀ h ∈ c.p0, s0.T h.lock = some c.t)
    (honly : ∀ x, s0.T x = some c.t → x ∈ locks c.p0)
    (hr : Reach c s0 s) :
    (∀ h ∈ s.pile, s.T h.lock = some c.t) ∧
    (∀ x, s.T x = some c.t → x ∈ locks s.pile) ∧
    (∀ e l, s.pc = .lockChild e → e.dirLock = some l → WfStart c.t s.pile [l] s.T) :=
  BbRe.Lemmas.Revalidate.revalidate_lock_pre h0 hn hall honly hr

/-! Non-vacuity of (b): see the `Ex` section at the end of `Lemmas/LockSkelPile.lean`
(thread 0 holds pile `[10]`, calls `Lock(20, 30, 10)`, the `TryLock` of 30 fails, 10 and 20
are released, 30 is awaited; every theorem above is instantiated on that run). -/
example : ∀ h ∈ Ex.blocked.1.pile, Ex.blocked.2 h.lock ≠ some 0 :=
  pile_no_hold_and_wait Ex.wf (reach_lockRun 0 7 [false, true] Ex.old Ex.news Ex.T0) (by decide)
example : ¬ Chain (Edge Ex.holds2 Ex.waits2) 0 ([1] ++ [0]) := no_deadlock Ex.H2 0 [1]

end BbRe.Properties.C14

/-! Non-vacuity: a two-function program with a deferred unlock, an early return, a loop
that drops and re-takes the lock, and a call under the lock; and the same program with
the unlock on the early return removed is rejected. -/
namespace BbRe.Examples.C14
open BbRe.LockSkel BbRe.Lemmas.LockSkel BbRe.Properties.C14
/-- `func f() { l.Lock(); defer l.Unlock(); if c { return }; for c { l.Unlock(); l.Lock() }; g() }`,
`func g() /* requires l */ { l.Unlock(); l.Lock() }` -/
def exProg : Prog :=
  [(0, .seq (.acq 1) (.fin (.seq (.choice 3 (.ret 3) .skip)
        (.seq (.loop true (.seq (.rel 1) (.acq 1))) (.call 1 []))) (.rel 1))),
   (1, .seq (.rel 1) (.acq 1))]
def exSig : Sig := [(0, ([], [])), (1, ([1], [1]))]
example : consistent exSig exProg = true := by decide
/-- the leak pattern of the defect fixed in f1f0436: lock, early `return` without unlock -/
def exLeak : Prog := [(0, .seq (.acq 1) (.seq (.choice 3 (.ret 3) .skip) (.seq (.rel 1) (.ret 5))))]
example : consistent [(0, ([], []))] exLeak = false := by decide
/-- a concrete run of `f` (early return) and what the theorem says about it -/
theorem exRun : Exec exProg 0 [.acq 1, .rel 1] := by
  refine ⟨1, _, rfl, .ret, CS.init, ?_, Or.inr rfl⟩
  simp only [sem]
  refine Or.inl ⟨CS.init, [.acq 1], [.rel 1], by simp, ?_, rfl⟩
  refine ⟨CS.init, [], .ret, ?_, ?_⟩
  · exact Or.inr ⟨by decide, Or.inl (by simp)⟩
  · exact Or.inr ⟨by decide, [.rel 1], .norm, by simp, rfl, rfl⟩
example : run [] [.acq 1, .rel 1] = some [] :=
  balanced_entry_leaves_nothing exSig exProg (by decide) 0 rfl _ exRun
end BbRe.Examples.C14
