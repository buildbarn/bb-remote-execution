import BbRe.Model.NfsShare
import BbRe.Model.NfsState
import BbRe.Lemmas.NfsShare
import BbRe.Lemmas.NfsInv
import BbRe.Lemmas.NfsProps
import BbRe.Lemmas.NfsClose
import BbRe.Lemmas.NfsExpiry
import BbRe.Lemmas.NfsScope
/-!
# C18 — NFSv4 open and lock state is accounted for and fully reclaimed

Theorems about `Model/NfsShare.lean` (the `shareCount` algebra) and
`Model/NfsState.lean` (the open/lock bookkeeping of both minor versions).
Helper lemmas: `BbRe/Lemmas/NfsShare.lean`, `BbRe/Lemmas/NfsInv*.lean` (the invariant),
`NfsProps.lean`, `NfsClose.lean`, `NfsExpiry.lean`, `NfsScope.lean` (its consequences).
-/
namespace BbRe.Properties.C18
open BbRe.NfsShare BbRe.Lemmas.NfsShare BbRe.NfsState BbRe.Lemmas.NfsInv

/-! ## `share_algebra`

`Consistent sc hs`: the counters `readers` / `writers` equal the number of
holders (the open itself, every lock-owner file's cloned mask, every in-flight
I/O clone) whose mask has the read / write bit. -/

/-- `upgrade` of holder `cur` (at any position among the holders) keeps the
counters consistent, sets the holder's mask to `cur | new`, and returns as
overlap exactly the requested bits that somebody (possibly `cur` itself) already
held — the bits for which the leaf was opened redundantly. -/
theorem share_algebra_upgrade (sc : ShareCount) (cur new : Mask) (pre post : List Mask)
    (h : Consistent sc (pre ++ cur :: post)) :
    Consistent (upgrade sc cur new).1 (pre ++ cur.union new :: post) ∧
    (upgrade sc cur new).2.1 = cur.union new ∧
    ∀ bit, (upgrade sc cur new).2.2.get bit = true ↔
      (new.get bit = true ∧ ∃ m ∈ pre ++ cur :: post, m.get bit = true) :=
  upgrade_consistent sc cur new pre post h

example : Consistent ⟨2, 1⟩ ([Mask.read] ++ Mask.read :: [Mask.write]) ∧
    upgrade ⟨2, 1⟩ Mask.read Mask.both = (⟨2, 2⟩, Mask.both, Mask.both) := by decide

/-- `downgrade` of holder `cur` to a subset `new` never panics, keeps the counters
consistent, and returns exactly the bits nobody holds any more (for which the
leaf has to be closed). -/
theorem share_algebra_downgrade (sc : ShareCount) (cur new : Mask) (pre post : List Mask)
    (h : Consistent sc (pre ++ cur :: post)) (hsub : new.subset cur = true) :
    ∃ sc' z, downgrade sc cur new = some (sc', z) ∧
      Consistent sc' (pre ++ new :: post) ∧
      ∀ bit, z.get bit = true ↔
        (cur.get bit = true ∧ new.get bit = false ∧ ∀ m ∈ pre ++ new :: post, m.get bit = false) :=
  downgrade_consistent sc cur new pre post h hsub

example : Consistent ⟨2, 1⟩ ([] ++ Mask.both :: [Mask.read]) ∧ Mask.read.subset Mask.both = true ∧
    downgrade ⟨2, 1⟩ Mask.both Mask.read = some (⟨2, 0⟩, Mask.write) := by decide

/-- `clone` of a mask all of whose bits are held by somebody never panics and adds
one holder. -/
theorem share_algebra_clone (sc : ShareCount) (m : Mask) (hs : List Mask) (h : Consistent sc hs)
    (hm : ∀ bit, m.get bit = true → ∃ x ∈ hs, x.get bit = true) :
    ∃ sc', clone sc m = some sc' ∧ Consistent sc' (m :: hs) :=
  clone_consistent sc m hs h hm

example : Consistent ⟨2, 1⟩ [Mask.both, Mask.read] ∧ clone ⟨2, 1⟩ Mask.both = some ⟨3, 2⟩ ∧
    clone ⟨2, 0⟩ Mask.both = none := by decide

/-- A counter is positive iff some holder has the bit: the leaf is kept open for
an access bit exactly as long as somebody is entitled to it. -/
theorem share_algebra_positive_iff (sc : ShareCount) (hs : List Mask) (h : Consistent sc hs)
    (bit : Bool) : 0 < sc.get bit ↔ ∃ m ∈ hs, m.get bit = true :=
  consistent_pos_iff h bit

/-! ## The state machine

`Reachable s`: `s` is obtained from the initial state (either minor version, any
number of files) by any sequence of core actions — every interleaving of the
lock-held segments of OPEN, OPEN_DOWNGRADE, CLOSE, LOCK, LOCKU,
RELEASE_LOCKOWNER/FREE_STATEID, I/O begin/end, registration, expiry, and the
`VirtualOpen…`/`VirtualClose` calls between them.  Every protocol history is such
a sequence (`(step s op).1 = applyAll s (plan s op).1` by definition), see
`reachable_of_ops`. -/

def Reachable (s : State) : Prop := ∃ ver n acts, s = applyAll (init ver n) acts

theorem reachable_of_ops (ver n : Nat) (ops : List Op) : Reachable (runOps (init ver n) ops) := by
  suffices h : ∀ (s : State), Reachable s → ∀ ops, Reachable (runOps s ops) from
    h _ ⟨ver, n, [], rfl⟩ ops
  intro s hs ops
  induction ops generalizing s with
  | nil => exact hs
  | cons op rest ih =>
    apply ih
    obtain ⟨v, m, acts, rfl⟩ := hs
    refine ⟨v, m, acts ++ (plan (applyAll (init v m) acts) op).1, ?_⟩
    simp [step, applyAll, List.foldl_append]

theorem reachable_inv {s : State} (h : Reachable s) : Inv s := by
  obtain ⟨ver, n, acts, rfl⟩ := h
  exact inv_reachable ver n acts

/-- A non-trivial reachable state used by the `example`s below: client 1 has file 0 open for
reading and writing (state ID 2) with a lock-owner file (state ID 4, lock-owner object 3) holding a
lock, and a READ in flight (request 7) whose share reservation was cloned; the second open of leaf 0
by request 5 is a temporary open not yet accounted to an open-owner file. -/
def exState : State :=
  applyAll (init 41 2)
    [.newClient 0 0, .confirmClient 1, .holdBegin 100 1, .vopen 9 0 Mask.both false false, .openNew 9 1 0,
     .loRegister 1 0, .addLofs 2 3, .lockSet 2 4 ⟨0, 10, 3, .excl⟩, .ioBegin 7 2 Mask.read false,
     .vopen 5 0 Mask.read false false]

example : Reachable exState := ⟨41, 2, _, rfl⟩

/-! ## `ledger_balance` and its consequences -/

/-- **Main invariant.**  In every reachable state, for every leaf and access bit, the number of
`VirtualOpen…` calls minus the number of `VirtualClose` calls equals the number of open-owner file
records on that leaf whose counter for the bit is positive (live, half-closed, or kept alive by I/O),
plus the pending `leavesToClose` entries with the bit, plus the temporary opens with the bit
(special-state-ID I/O in flight, OPENs between their `VirtualOpen` and their bookkeeping). -/
theorem ledger_balance (s : State) (h : Reachable s) (leaf : Nat) (bit : Bool) :
    opens s leaf bit =
      closes s leaf bit + heldFiles s leaf bit + heldPend s leaf bit + heldTemps s leaf bit := by
  have := (reachable_inv h).g.ledger leaf bit
  unfold held at this
  omega

example : opens exState 0 false = 2 ∧ closes exState 0 false = 0 ∧ heldFiles exState 0 false = 1 ∧
    heldTemps exState 0 false = 1 ∧ opens exState 0 true = 1 := by decide

/-- The counters the ledger refers to are exact: `readers` / `writers` of every record equal the
number of its holders (the open, its lock-owner files, in-flight I/O clones). -/
theorem share_counts_exact (s : State) (h : Reachable s) (f : OFile) (hf : f ∈ s.files) (bit : Bool) :
    f.count.get bit = holders s f bit :=
  (reachable_inv h).k.counts f hf bit

/-- `never_negative`: the server never closes a leaf more often than it opened it — in every
reachable state, hence (each event being appended by a step of its own) after every event. -/
theorem never_negative (s : State) (h : Reachable s) (leaf : Nat) (bit : Bool) :
    closes s leaf bit ≤ opens s leaf bit := by
  have := ledger_balance s h leaf bit
  omega

/-- `no_close_while_entitled`: while an open state ID (its `shareAccess`) or a lock state ID (the
share mask captured when the lock-owner file was created) of a record grants `bit`, or an accepted
READ/WRITE/SETATTR holding a clone of it is in flight, the leaf is open for `bit`:
opens − closes ≥ 1. -/
theorem no_close_while_entitled (s : State) (h : Reachable s) (f : OFile) (hf : f ∈ s.files) (bit : Bool)
    (hent : f.share.get bit = true ∨ (∃ l ∈ f.lofs, l.share.get bit = true) ∨
      (∃ io ∈ s.ios, io.sid = f.sid ∧ io.share.get bit = true)) :
    closes s f.file bit + 1 ≤ opens s f.file bit := by
  apply BbRe.Lemmas.NfsProps.open_while_held s (reachable_inv h) f hf bit
  rcases hent with hb | ⟨l, hl, hb⟩ | ⟨io, hio, hs, hb⟩
  · exact BbRe.Lemmas.NfsProps.holders_pos_of_share s f bit hb
  · exact BbRe.Lemmas.NfsProps.holders_pos_of_lofs s f bit l hl hb
  · exact BbRe.Lemmas.NfsProps.holders_pos_of_io s f bit io hio hs hb

example : ∃ f ∈ exState.files, f.share.get true = true ∧ (∃ l ∈ f.lofs, l.share.get false = true) ∧
    (∃ io ∈ exState.ios, io.sid = f.sid ∧ io.share.get false = true) := by decide

/-! ## `hold_protects` -/

/-- `holdCount` of every client record is the number of requests in flight that hold it (NFSv4.1
SEQUENCE compounds, NFSv4.0 OPEN transactions, NFSv4.0 I/O with a regular state ID); the idle list
contains exactly the records with `holdCount = 0`. -/
theorem hold_count_exact (s : State) (h : Reachable s) (c : Client) (hc : c ∈ s.clients) :
    c.hold = holdsOf s c.id ∧ (c.id ∈ s.idle ↔ c.hold = 0) := by
  have hi := (reachable_inv h).c
  refine ⟨hi.holdCount c hc, ?_⟩
  rw [hi.idleIff]
  constructor
  · rintro ⟨c', hc', hid, h0⟩
    have : c' = c := BbRe.Lemmas.NfsInvC.uniq_id _ hi.clNodup c' hc' c hc hid
    rw [← this]; exact h0
  · intro h0
    exact ⟨c, hc, rfl, h0⟩

/-- `hold_protects`: a record that is held is not in the idle list (the only place `enter()` expires
records from) and survives every action — expiry, re-registration (SETCLIENTID_CONFIRM /
CREATE_SESSION answer NFS4ERR_DELAY), DESTROY_CLIENTID (NFS4ERR_CLIENTID_BUSY) included. -/
theorem hold_protects (s : State) (h : Reachable s) (c : Client) (hc : c ∈ s.clients) (hh : 0 < c.hold)
    (a : Act) : c.id ∉ s.idle ∧ ∃ c' ∈ (apply s a).clients, c'.id = c.id :=
  ⟨BbRe.Lemmas.NfsInvC.held_not_idle s (reachable_inv h).c c hc hh, BbRe.Lemmas.NfsInvC.held_survives s a (reachable_inv h).c c hc hh⟩

example : ∃ c ∈ exState.clients, 0 < c.hold ∧ exState.idle = [] := by decide

/-- ending a request (`holdEnd` of its tag) keeps the invariant; with `hold_count_exact` in the state
after it: the hold count is again the number of requests still in flight, and by the invariant's
`idleIff` the record is in the idle list iff that number is 0 -/
theorem hold_released (s : State) (h : Reachable s) (tag : Nat) :
    Inv (apply s (Act.holdEnd tag)) := inv_apply s _ (reachable_inv h)

/-! ## `open_file_resolvable` -/

/-- The opened-files pool has an entry for a handle iff some open-owner file that is still in the
maps (incl. half-closed 4.0 ones) refers to it, and `useCount` is their number.  (PUTFH consults the
pool first: `OpenedFilesPool.Resolve`.) -/
theorem open_file_resolvable (s : State) (h : Reachable s) (file : Nat) :
    ((∃ e ∈ s.pool, e.file = file) ↔ (∃ f ∈ s.files, f.live = true ∧ f.file = file)) ∧
    (∀ e ∈ s.pool, e.file = file → e.useCount = liveOn s file) := by
  have hp := (reachable_inv h).p
  refine ⟨⟨?_, ?_⟩, ?_⟩
  · rintro ⟨e, he, rfl⟩
    have := hp.poolCount e he
    have hpos : 0 < liveOn s e.file := by omega
    unfold liveOn at hpos
    obtain ⟨f, hf, hb⟩ := List.countP_pos_iff.1 hpos
    simp only [Bool.and_eq_true, beq_iff_eq] at hb
    exact ⟨f, hf, hb.1, hb.2⟩
  · rintro ⟨f, hf, hl, rfl⟩
    exact hp.poolHas f hf hl
  · rintro e he rfl
    exact (hp.poolCount e he).1

example : (∃ e ∈ exState.pool, e.file = 0 ∧ e.useCount = 1) ∧ ¬ (∃ e ∈ exState.pool, e.file = 1) := by decide

/-! ## `closed_means_closed` -/

/-- CLOSE — and what lease expiry and re-registration do to every file of the record —
(`closeAndFinalizeActs`: unlock and remove every lock-owner file, give up the open's own share
reservation, then the finalising step; for NFSv4.0 the last action runs at the owner's next
transaction, `closeStart_clears` / `finalize_removes` in `Lemmas/NfsClose.lean` are the two phases):
unless the server panics, the record has left the maps, has no share reservation and no lock-owner
file, and — if no I/O was in flight on it — no longer exists at all. -/
theorem closed_means_closed (s : State) (h : Reachable s) (sid : Nat) (f : OFile)
    (hf : s.getFile sid = some f) (hl : f.live = true)
    (hp : (applyAll s (closeAndFinalizeActs s sid)).panic = none) :
    (∀ x ∈ (applyAll s (closeAndFinalizeActs s sid)).files, x.sid = sid →
        x.live = false ∧ x.share = Mask.none ∧ x.lofs = []) ∧
    ((∀ io ∈ s.ios, io.sid ≠ sid) → ∀ x ∈ (applyAll s (closeAndFinalizeActs s sid)).files, x.sid ≠ sid) :=
  BbRe.Lemmas.NfsClose.close_removes s (reachable_inv h) sid f hf hl hp

/-- … and in every reachable state a record that has left the maps (closed, freed, expired, lost by
re-registration) is kept only while in-flight I/O refers to it, and its counters are exactly the
clones of that I/O: once the I/O has ended its term in the ledger is 0 and the record is gone. -/
theorem closed_only_io (s : State) (h : Reachable s) (x : OFile) (hx : x ∈ s.files) (hd : x.live = false) :
    x.share = Mask.none ∧ x.lofs = [] ∧ (∃ io ∈ s.ios, io.sid = x.sid) ∧
    ∀ bit, x.count.get bit = s.ios.countP (fun io => io.sid == x.sid && io.share.get bit) :=
  BbRe.Lemmas.NfsClose.dead_only_io s (reachable_inv h) x hx hd

-- CLOSE of the open of `exState` while its READ is in flight: no panic, the record survives, not live
example : (exState.getFile 2).isSome = true ∧ (applyAll exState (closeAndFinalizeActs exState 2)).panic = none ∧
    ((applyAll exState (closeAndFinalizeActs exState 2)).files.map (fun x => (x.sid, x.live, x.count))) =
      [(2, false, ⟨1, 0⟩)] := by decide

/-! ## `expiry_empties` -/

/-- From any reachable state in which nothing is in flight (`Quiescent`: no SEQUENCE / OPEN
transaction / I/O, no temporary open, no pending close), once every lease has run out
(`lastSeen + lease < now` for every record), the expiry loop of one `enter()` (`expireActs`)
followed by its `ll.closeAll()` leaves — unless the server panics (the known finding "lock-owner
shared by two open-owners" can make it) — no client record, idle-list entry, session holder,
open-owner, lock-owner, open-owner file, lock-owner file, pool entry or lock table, and for every leaf
and access bit exactly as many closes as opens. -/
theorem expiry_empties (s : State) (h : Reachable s) (hq : BbRe.Lemmas.NfsExpiry.Quiescent s)
    (hexp : ∀ c ∈ s.clients, c.lastSeen + s.lease < s.now) :
    let s1 := applyAll s (expireActs s)
    let s2 := applyAll s1 (List.replicate s1.pend.length Act.flush)
    s2.panic = none →
    s2.clients = [] ∧ s2.idle = [] ∧ s2.holders = [] ∧ s2.oowners = [] ∧ s2.lowners = [] ∧
    s2.files = [] ∧ s2.pool = [] ∧ s2.ios = [] ∧ s2.temps = [] ∧ s2.pend = [] ∧
    ∀ leaf bit, opens s2 leaf bit = closes s2 leaf bit :=
  BbRe.Lemmas.NfsExpiry.expiry_empties s (reachable_inv h) hq hexp

/-- Whenever no client record is left (by expiry, DESTROY_CLIENTID, …) nothing else is. -/
theorem no_clients_nothing_retained (s : State) (h : Reachable s) (hc : s.clients = []) :
    s.idle = [] ∧ s.holders = [] ∧ s.oowners = [] ∧ s.lowners = [] ∧ s.pool = [] ∧
    (∀ f ∈ s.files, f.live = false) ∧ (s.ios = [] → s.files = []) ∧
    (s.ios = [] → s.pend = [] → s.temps = [] → ∀ leaf bit, opens s leaf bit = closes s leaf bit) :=
  BbRe.Lemmas.NfsExpiry.no_clients_empty s (reachable_inv h) hc

-- hypotheses of `expiry_empties` are met by a state with a client, an open file and a held lock
example : Reachable BbRe.Lemmas.NfsExpiry.demoState := ⟨41, 1, _, rfl⟩

/-! ## `stateid_scope`

About the state-ID resolution of the protocol layer of `Model/NfsState.lean`: `findOpen`
(`getOpenOwnerFileByStateID`), `findLock` (`getLockOwnerFileByStateID`), `ioTarget`
(`getOpenedLeafWithRegularStateID`), `cmpSeq` (`nfs40/nfs41CompareStateSeqID`), `nextSeq`
(`nextSeqID` / `incrementSeqID`); for every state `s` whatsoever (no reachability needed). -/

open BbRe.Lemmas.NfsScope in
/-- A regular open state ID is honoured only if its `other` maps to an open-owner file that is
still in the maps, of the presenting client (4.1: the incarnation of the session the request came
through; 4.0 state IDs are server-wide), the current file handle is that file's handle, and the
seqid comparison passes; 4.0 additionally: not half-closed, open-owner confirmed. -/
theorem stateid_scope_open (s : State) (q sid sseq fh : Nat) (allowUnconfirmed : Bool)
    (hok : (findOpen s q sid sseq fh allowUnconfirmed).st = St.ok) :
    ∃ f, (findOpen s q sid sseq fh allowUnconfirmed).f = some f ∧
      OpenScope s q sid sseq fh allowUnconfirmed f :=
  findOpen_ok s q sid sseq fh allowUnconfirmed hok

open BbRe.Lemmas.NfsScope in
/-- The same for lock state IDs: a lock-owner file of a live open-owner file of the presenting
client, on the current file handle, with a passing seqid. -/
theorem stateid_scope_lock (s : State) (q lsid lsseq fh : Nat)
    (hok : (findLock s q lsid lsseq fh).st = St.ok) :
    ∃ f l, (findLock s q lsid lsseq fh).f = some f ∧ (findLock s q lsid lsseq fh).l = some l ∧
      LockScope s q lsid lsseq fh f l :=
  findLock_ok s q lsid lsseq fh hok

open BbRe.Lemmas.NfsScope in
/-- READ / WRITE / SETATTR with a regular state ID clone a share reservation only from the file the
state ID is in scope of, and only if the wanted bits are granted: by the open's current
`shareAccess` for an open state ID, by the mask captured at creation for a lock state ID. -/
theorem stateid_scope_io (s : State) (q sid sseq fh : Nat) (want : Mask) (f : OFile)
    (h : ioTarget s q sid sseq fh want = (St.ok, some f)) :
    (OpenScope s q sid sseq fh false f ∧ want.subset f.share = true) ∨
    (∃ l, LockScope s q sid sseq fh f l ∧ want.subset l.share = true) :=
  ioTarget_ok s q sid sseq fh want f h

open BbRe.Lemmas.NfsScope in
/-- … and a state ID in scope that lacks the wanted bits gets NFS4ERR_OPENMODE: an open state ID by
its current `shareAccess`; a lock state ID by its captured mask only (whatever the open's
`shareAccess` has become since). -/
theorem stateid_scope_openmode (s : State) (q sid sseq fh : Nat) (want : Mask) (f : OFile) :
    ((findOpen s q sid sseq fh false).st = St.ok → (findOpen s q sid sseq fh false).f = some f →
      want.subset f.share = false → ioTarget s q sid sseq fh want = (St.openmode, none)) ∧
    (∀ l, (findOpen s q sid sseq fh false).st = St.badStateid → (findLock s q sid sseq fh).st = St.ok →
      (findLock s q sid sseq fh).f = some f → (findLock s q sid sseq fh).l = some l →
      ioTarget s q sid sseq fh want = if want.subset l.share then (St.ok, some f) else (St.openmode, none)) :=
  ⟨ioTarget_openmode_open s q sid sseq fh want f, fun l => ioTarget_openmode_lock s q sid sseq fh want f l⟩

open BbRe.Lemmas.NfsScope in
/-- The seqid comparison: accepted iff equal to the server's (4.1: or 0 = "current"); otherwise
NFS4ERR_BAD_STATEID iff the client's value is 1 … 2^31-1 ahead modulo 2^32 (a seqid from the
future), else NFS4ERR_OLD_STATEID. -/
theorem stateid_seq_compare (ver c srv : Nat) :
    (cmpSeq ver c srv = St.ok ↔ (c = srv ∨ (ver = 41 ∧ c = 0))) ∧
    (¬ (c = srv ∨ (ver = 41 ∧ c = 0)) →
      (cmpSeq ver c srv = St.badStateid ↔ (c + 4294967296 - srv) % 4294967296 < 2147483648) ∧
      (cmpSeq ver c srv = St.oldStateid ↔ ¬ (c + 4294967296 - srv) % 4294967296 < 2147483648)) :=
  ⟨cmpSeq_ok_iff ver c srv, cmpSeq_not_ok ver c srv⟩

open BbRe.Lemmas.NfsScope in
/-- Wrap-around: seqids go from 2^32-1 to 1 (never 0), and across the wrap the successor of the
server's value is still "future" (BAD_STATEID) and the predecessor still "old" (OLD_STATEID), in
both minor versions. -/
theorem stateid_seq_wraparound (x : Nat) (h1 : 1 ≤ x) (hx : x < 4294967296) :
    nextSeq x ≠ 0 ∧ nextSeq x < 4294967296 ∧ (x = 4294967295 → nextSeq x = 1) ∧
    cmpSeq 40 (nextSeq x) x = St.badStateid ∧ cmpSeq 40 x (nextSeq x) = St.oldStateid ∧
    cmpSeq 41 (nextSeq x) x = St.badStateid ∧ cmpSeq 41 x (nextSeq x) = St.oldStateid :=
  ⟨(nextSeq_spec x hx).1, (nextSeq_spec x hx).2.1, (nextSeq_spec x hx).2.2.1, cmpSeq_next x h1 hx⟩

-- non-vacuity: in `exState` (4.1) the open state ID 2 on file 0 is in scope for the session's client,
-- grants READ and WRITE; its lock state ID 4 too; on the other file it is refused
example : (findOpen exState 100 2 0 1 false).st = St.ok ∧ (findLock exState 100 4 0 1).st = St.ok ∧
    (findOpen exState 100 2 0 3 false).st = St.badStateid ∧ (findOpen exState 100 4 0 1 false).st = St.badStateid ∧
    (ioTarget exState 100 2 0 1 Mask.write).1 = St.ok ∧ (ioTarget exState 100 4 0 1 Mask.read).1 = St.ok ∧
    (ioTarget exState 100 2 5 1 Mask.read).1 = St.badStateid ∧ (ioTarget exState 100 2 0 3 Mask.read).1 = St.badStateid := by
  decide
example : cmpSeq 40 1 4294967295 = St.badStateid ∧ cmpSeq 40 4294967295 1 = St.oldStateid ∧
    cmpSeq 41 0 7 = St.ok ∧ cmpSeq 40 0 7 = St.oldStateid := by decide

end BbRe.Properties.C18
