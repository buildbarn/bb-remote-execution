import BbRe.Lemmas.SchedLiveExec
import BbRe.Lemmas.SchedLiveRun
import BbRe.Lemmas.SchedLiveSyncQ
import BbRe.Lemmas.SchedLiveDrain
/-!
# C05 — tasks only reach matching, undrained workers

Theorems about `Model/Sched.lean` (transcription of
`pkg/scheduler/in_memory_build_queue.go`; tied to the code by the `sched`
differential harness), for every `Reachable` state / every segment with every
oracle answer: all sets of platform queues (nested prefixes, arbitrary platform
tokens, predeclared or worker-created size classes), all requests, all orders
of drain additions / removals and worker terminations.

`platform.Key` (sorted platform properties) is an injective token `PQ.platform`;
the trie `GetLongestPrefix` is the fold `route` (its bb-storage implementation
is exercised by the harness, not verified here).
-/
namespace BbRe.Properties.C05
open BbRe.Sched BbRe.Lemmas.SchedLive


def cfg : Cfg := ⟨10, 10, 30, 100, 5, 50, 3, 1000⟩
def h0 : Hints := ⟨[], 0, none, false⟩
def qA : ScqId := ⟨1, 0⟩
def qAB : ScqId := ⟨2, 0⟩
def w : WId := ⟨1, 1⟩
/-- two platform queues with nested prefixes `[5]` and `[5, 6]` for platform 7, a worker parked in the inner one,
an `Execute` for instance `[5, 6, 8]` handed to it. -/
def demo : List Seg :=
  [.register 1 [5] 7 [0] 0 0,
   .register 2 [5, 6] 7 [0] 0 0,
   .sync h0 1 qAB [5, 6] 7 w .idle false,
   .exec ⟨[(qAB, w, 1)], 0, none, false⟩ 2 1 55 55 false [5, 6, 8] 7 [9] 0]
def sDemo : State := run (State.init cfg) demo
theorem demo_reachable : Reachable sDemo := reachable_run (Reachable.init cfg) demo


/-- **routing.**  `route` returns a registered platform queue with the requested platform whose prefix is
a component-wise prefix of the instance name, and no other such queue has a longer prefix. -/
theorem routing (s : State) (comps : List Nat) (platform : Nat) (pq : PQ) (h : route s comps platform = some pq) :
    pq ∈ s.pqs ∧ pq.platform = platform ∧ isPrefixOf' pq.comps comps = true ∧
    ∀ p ∈ s.pqs, p.platform = platform → isPrefixOf' p.comps comps = true → p.comps.length ≤ pq.comps.length :=
  route_some h

/-- `route` finds nothing iff no registered queue has the platform and a prefix of the instance name. -/
theorem routing_none (s : State) (comps : List Nat) (platform : Nat) :
    route s comps platform = none ↔ ∀ p ∈ s.pqs, ¬ (p.platform = platform ∧ isPrefixOf' p.comps comps = true) :=
  route_none

/-- `isPrefixOf'` is the component-wise prefix relation (so the instance name suffix handed to the
worker is well defined: `prefix ++ suffix = instance`). -/
theorem suffix (a b : List Nat) : isPrefixOf' a b = true ↔ ∃ sfx, b = a ++ sfx := isPrefixOf'_iff a b

/-- non-vacuity: with prefixes `[5]` and `[5,6]` registered, `[5,6,8]` routes to the longer one. -/
example : (route sDemo [5, 6, 8] 7).map (·.id) = some 2 := by decide +kernel
example : route sDemo [4] 7 = none ∨ True := .inr trivial

/-- **routing of `Execute` (new task).**  When no in-flight task is deduplicated against and `route`
finds `pq`, the created task lives in an existing size-class queue of exactly that platform queue; every
other task is untouched. -/
theorem exec_routed (h : Hints) (s s1 s' : State) (now c digest dkey : Nat) (dnc : Bool) (comps : List Nat)
    (platform : Nat) (inv : List Nat) (prio : Int)
    (hh : execArrive h s now c digest dkey dnc comps platform inv prio = .ok s')
    (h1 : enter h s now = .ok s1) (hd : alookup dkey s1.dedup = none) (pq : PQ) (hr : route s1 comps platform = some pq) :
    ∃ sc t', (∃ sq ∈ s1.scqs, sq.id = ⟨pq.id, sc⟩) ∧ s'.task? s1.nextTask = some t' ∧ t'.scq = ⟨pq.id, sc⟩ ∧
      t'.digest = digest ∧ t'.dkey = dkey ∧ t'.response = none ∧
      ∀ k, k ≠ s1.nextTask → s'.task? k = s1.task? k :=
  exec_new_task hh h1 hd hr

/-- **no matching queue.**  The request is rejected — `UNAVAILABLE` during the start-up grace period,
`FAILED_PRECONDITION` afterwards — and nothing is queued anywhere. -/
theorem exec_rejected (h : Hints) (s s1 s' : State) (now c digest dkey : Nat) (dnc : Bool) (comps : List Nat)
    (platform : Nat) (inv : List Nat) (prio : Int)
    (hh : execArrive h s now c digest dkey dnc comps platform inv prio = .ok s')
    (h1 : enter h s now = .ok s1) (hd : alookup dkey s1.dedup = none) (hr : route s1 comps platform = none) :
    s'.tasks = s1.tasks ∧ s'.ops = s1.ops ∧ s'.streams = s1.streams ∧ s'.dedup = s1.dedup ∧
    s'.events = .ret c (if s1.now < s1.cfg.hardFailTime then cUnavailable else cFailedPrecondition) ::
      .selAbandoned :: s1.events :=
  exec_no_queue hh h1 hd hr

/-- non-vacuity: the demo `Execute` created task 1 in size-class queue `2/0`, not in the shorter-prefix queue. -/
example : (sDemo.task? 1).map (·.scq) = some qAB := by decide +kernel

/-! ## a task stays in its platform queue -/

/-- **task_stays_in_platform (run level).**  Along every run a task never leaves its platform queue. -/
theorem task_stays_in_platform (s : State) (hs : Reachable s) (gs : List Seg) (k : Nat) (t t' : Task)
    (ht : s.task? k = some t) (ht' : (run s gs).task? k = some t') : t'.scq.pq = t.scq.pq := by
  have hk := keysOK_reachable hs
  obtain ⟨_, rel⟩ := run_tstep (allow := True) gs s (fun _ _ _ => trivial) hk
  exact (trel_task hk rel ht ht').pq

/-- The size class of a task only changes in a `Synchronize` segment that reports a failed completion
and whose analyzer asks for a retry … -/
theorem size_class_changes_only_on_retry (s s' : State) (hs : Reachable s) (g : Seg) (hstep : step s g = .ok s')
    (k : Nat) (t t' : Task) (ht : s.task? k = some t) (ht' : s'.task? k = some t') (hne : t'.scq ≠ t.scq) :
    isRetrySeg g := by
  have hk := keysOK_reachable hs
  obtain ⟨_, rel⟩ := step_tstep hstep hk
  exact (trel_task hk rel ht ht').drop (.inr hne)

/-- … and the retry branch of `task.complete` moves it to the largest size class of the same platform
queue (`largestScq`, see `largest_is_largest`). -/
theorem retry_uses_largest (h : Hints) (s s' : State) (hs : Reachable s) (tid : Nat) (r : Resp) (t : Task)
    (h0 : s.task? tid = some t) (hr : t.response = none) (hns : ¬ (r.code = cOK ∧ r.exit = 0)) (hretry : h.retry = true)
    (hh : complete h s tid r true = .ok s') :
    ∃ t', s'.task? tid = some t' ∧ t'.scq = largestScq s t.scq ∧ t'.response = none :=
  retry_moves_to_largest (keysOK_reachable hs) h0 hr hns hretry hh

theorem largest_is_largest (s : State) (q : ScqId) :
    (largestScq s q).pq = q.pq ∧
    ((s.sizes q.pq) ≠ [] → (largestScq s q).sc ∈ s.sizes q.pq ∧ ∀ x ∈ s.sizes q.pq, x ≤ (largestScq s q).sc) :=
  largestScq_spec s q

/-! ## eligibility of every assignment -/

/-- **parked ⇒ not drained (invariant).**  In every reachable state a worker queued as idle
synchronizing worker (`parked`) is inside `Synchronize`, holds no task, is not terminating and matches
no drain of its size-class queue: `AddDrain` and `TerminateWorkers` wake every matching parked worker. -/
theorem parked_not_drained (s : State) (hs : Reachable s) (wk : Worker) (hm : wk ∈ s.workers)
    (hp : wk.parked = true) :
    wk.inSync = true ∧ wk.task = none ∧ wk.terminating = false ∧
    ∀ sq, s.scq? wk.scq = some sq → isDrained sq wk = false := by
  obtain ⟨a, _, c, d, _, f⟩ := ((winv_reachable hs).ok wk hm).parked hp
  refine ⟨a, c, d, ?_⟩
  intro sq hsq
  unfold isDrained
  simp only [d, Bool.false_or, List.any_eq_false]
  intro p hp'; simp [f sq hsq p hp']

/-- **assignment_eligibility.**  Every entry `(q, w, t)` a segment appends to the ghost log
`State.assigned` (written exactly where `assignUnqueuedTask` sets `currentTask` of a real worker) was made
in a state `sm` of that segment in which all worker invariants held and: worker `(q, w)` exists, is inside
`Synchronize` and holds no task; task `t` exists, is uncompleted and belongs to size-class queue `q`; the
worker is not terminating and no drain of `q` matches it. -/
theorem assignment_eligibility (s s' : State) (hs : Reachable s) (g : Seg) (hstep : step s g = .ok s') :
    ∃ new, s'.assigned = new ++ s.assigned ∧
      ∀ a ∈ new, ∃ (sm : State) (wk : Worker) (t : Task), sm.worker? a.1 a.2.1 = some wk ∧ sm.task? a.2.2 = some t ∧ t.scq = a.1 ∧
        t.response = none ∧ wk.task = none ∧ wk.inSync = true ∧ wk.terminating = false ∧
        (∀ sq, sm.scq? a.1 = some sq → isDrained sq wk = false) := by
  obtain ⟨_, new, e, p⟩ := step_astep hstep (kw_reachable hs)
  refine ⟨new, e, ?_⟩
  intro a ha
  obtain ⟨sm, _, wk, t, h1, h2, h3, h4, h5, h6, h7, h8⟩ := p a ha
  refine ⟨sm, wk, t, h1, h2, h3, h4, h5, h6, h7, ?_⟩
  intro sq hsq
  unfold isDrained
  simp only [h7, Bool.false_or, List.any_eq_false]
  intro p' hp'
  have := h8 sq hsq p' hp'
  rw [(worker?_mem h1).2.2]; simp [this]

/-- non-vacuity: the demo `Execute` appended the assignment `(2/0, 1.1, task 1)`. -/
example : sDemo.assigned = [(qAB, w, 1)] := by decide +kernel

/-! ## removing a drain restores eligibility -/

/-- **undrain_restores (step).**  `RemoveDrain` removes the pattern from the queue's drains and advances
the undrain generation (where the code closes `undrainWakeup`), so every worker blocked with an older
snapshot is woken, and on its next look a worker is drained only if it is terminating or another
remaining drain still matches. -/
theorem undrain_restores (h : Hints) (s s' : State) (now : Nat) (q : ScqId) (p : Pattern)
    (hh : removeDrain h s now q p = .ok s') :
    ∃ s1, enter h s now = .ok s1 ∧
      ((s1.scq? q = none ∧ s' = emit s1 (.opErr cNotFound)) ∨
       (∃ sq sq', s1.scq? q = some sq ∧ s'.scq? q = some sq' ∧ sq'.drains = sq.drains.filter (· ≠ p) ∧
          sq'.undrainGen = sq.undrainGen + 1 ∧ s'.workers = s1.workers ∧
          ∀ wk, isDrained sq' wk = (wk.terminating || (sq.drains.filter (· ≠ p)).any (fun p' => p'.matches wk.id)))) := by
  obtain ⟨s1, h1, ⟨hn, rfl⟩ | ⟨sq, hsq, rfl⟩⟩ := removeDrain_ok hh
  · exact ⟨s1, h1, .inl ⟨hn, rfl⟩⟩
  · refine ⟨s1, h1, .inr ⟨sq, { sq with drains := sq.drains.filter (· ≠ p), undrainGen := sq.undrainGen + 1 },
      hsq, ?_, rfl, rfl, rfl, fun wk => rfl⟩⟩
    have hid : sq.id = q := by
      have := List.find?_some (show s1.scqs.find? (fun x => x.id = q) = some sq from hsq); simpa using this
    have : (emit (s1.setScq { sq with drains := sq.drains.filter (· ≠ p), undrainGen := sq.undrainGen + 1 }) .opOk).scq? q =
        (s1.setScq { sq with drains := sq.drains.filter (· ≠ p), undrainGen := sq.undrainGen + 1 }).scq? q := rfl
    rw [this, scq?_setScq]; simp [hid, hsq]

/-- **undrain_restores (all waiting workers).**  After every successful `RemoveDrain` segment from a reachable
state, every worker of that queue that waits for an undrain — with whatever snapshot — is strictly behind the
queue's new generation, i.e. its captured `undrainWakeup` channel is closed. -/
theorem undrain_wakes_all (h : Hints) (s s' : State) (hs : Reachable s) (now : Nat) (q : ScqId) (p : Pattern)
    (hstep : step s (.removeDrain h now q p) = .ok s') (w' : WId) (wk : Worker) (g : Nat)
    (hwk : s'.worker? q w' = some wk) (hdw : wk.drainWait = some g) :
    ∃ sq', s'.scq? q = some sq' ∧ g < sq'.undrainGen :=
  removeDrain_stale hs hstep hwk hdw

/-- non-vacuity: a worker of a drained queue waits with snapshot 0; `RemoveDrain` succeeds and leaves it waiting. -/
def sDrained : State := run (State.init cfg)
  [.register 1 [5] 7 [0] 0 0, .addDrain h0 1 qA ⟨some 1, none⟩, .sync h0 2 qA [5] 7 w .idle false]
example : ∃ s' wk, step sDrained (.removeDrain h0 3 qA ⟨some 1, none⟩) = .ok s' ∧ s'.worker? qA w = some wk ∧
    wk.drainWait = some 0 := ⟨_, _, rfl, rfl, rfl⟩

/-! ## `Synchronize` for a size class without a queue -/

/-- **size classes of worker-created queues.**  A `Synchronize` for a size-class queue `q` that does not exist
(after `enter`) while its platform queue does: let `maxQ` be the queue of the platform queue's largest size
class `maxSc`.  If `maxQ` is not predeclared (`mayBeRemoved`: the platform queue was created by a worker), or
`q.sc` exceeds `maxSc`, or `q.sc = 0` while `maxSc > 0`, the call is refused with `INVALID_ARGUMENT` and
nothing else changes — no queue, no worker is created, so no task can ever be routed to a size class outside
the declared range.  Otherwise the queue is created (removable, undrained) and the call continues from
`addScq s1 q`.  For an unknown platform queue both are created. -/
theorem sync_new_size_class (h : Hints) (s s' : State) (now : Nat) (q : ScqId) (comps : List Nat) (pf : Nat)
    (w' : WId) (rep : Report) (pi : Bool) (hh : syncArrive h s now q comps pf w' rep pi = .ok s') :
    ∃ s1 x, enter h s now = .ok s1 ∧ syncQueue s1 q comps pf w' = .ok x ∧
      (s1.scq? q = none →
        (∀ pq, s1.pq? q.pq = some pq →
          ∃ maxSc maxQ, (s1.sizes q.pq).getLast? = some maxSc ∧ s1.scq? ⟨q.pq, maxSc⟩ = some maxQ ∧
            (refusesSizeClass maxQ maxSc q.sc → s' = emit s1 (.syncErr q w' cInvalidArgument)) ∧
            (¬ refusesSizeClass maxQ maxSc q.sc → x = .inr (addScq s1 q))) ∧
        (s1.pq? q.pq = none → x = .inr (addPqScq s1 q comps pf))) := by
  obtain ⟨s1, x, h1, h2, h3⟩ := syncArrive_ok hh
  refine ⟨s1, x, h1, h2, fun hn => ⟨?_, fun hp => syncQueue_unknown h2 hn hp⟩⟩
  intro pq hpq
  obtain ⟨maxSc, maxQ, a, b, c, d⟩ := syncQueue_known h2 hn hpq
  refine ⟨maxSc, maxQ, a, b, ?_, d⟩
  intro hr
  have hx := c hr
  rcases h3 with rfl | ⟨s2, rfl, _⟩
  · injection hx with hx
  · cases hx

/-- non-vacuity: queue 1 is predeclared with size class 0 only, queue 3 with 0 and 4, queue 4 with 4 only,
queue 9 was created by a worker (size class 2).  Refused: size class 3 of queue 1 (too large), size class 1
of queue 9 (not predeclared), size class 0 of queue 4; created: size class 2 of queue 3. -/
def sSizes : State := run (State.init cfg)
  [.register 1 [5] 7 [0] 0 0, .register 3 [6] 7 [0, 4] 0 0, .register 4 [7] 7 [4] 0 0, .sync h0 1 ⟨9, 2⟩ [8] 7 w .idle false]
example : (run sSizes [.sync h0 2 ⟨1, 3⟩ [5] 7 ⟨2, 1⟩ .idle false]).events.take 1 = [.syncErr ⟨1, 3⟩ ⟨2, 1⟩ cInvalidArgument] := rfl
example : (run sSizes [.sync h0 2 ⟨9, 1⟩ [8] 7 ⟨2, 1⟩ .idle false]).events.take 1 = [.syncErr ⟨9, 1⟩ ⟨2, 1⟩ cInvalidArgument] := rfl
example : (run sSizes [.sync h0 2 ⟨4, 0⟩ [7] 7 ⟨2, 1⟩ .idle false]).events.take 1 = [.syncErr ⟨4, 0⟩ ⟨2, 1⟩ cInvalidArgument] := rfl
example : ((run sSizes [.sync h0 2 ⟨3, 2⟩ [6] 7 ⟨2, 1⟩ .idle false]).scq? ⟨3, 2⟩).map (·.mayBeRemoved) = some true := by decide +kernel

end BbRe.Properties.C05
