import BbRe.Model.FileRef
import BbRe.Lemmas.FileRefProps
/-!
# C16 — writable files live exactly as long as referenced; uploads match

Property theorems about `Model/FileRef.lean`, the transcription of
`pkg/filesystem/virtual/pool_backed_file_allocator.go` (one step per lock-held
segment) behind the hard-link counter of the FUSE / NFS handle allocators.  Every
theorem is about *all* reachable states: any number of threads (thread ids are
arbitrary naturals), any interleaving of open/close with any share mask,
link/unlink, read/seek, write, truncate, allocate, set-attributes, uploads, frozen
opens, output-service stats, completions of the CAS `Put` (ok or error), firings of
the delay channels and pool-file faults, for files with and without a handle
allocator in front (`layered`), for the code as it is now (`checked = true`, fix 17054c0)
and as it was before (`checked = false`).  `Reachable` only contains steps that respect the
caller contract `legal` (see `Model/FileRef.lean`); for the current code that contract says
nothing about the mutating calls (`mutating_calls_need_no_contract`).  Helper lemmas:
`BbRe/Lemmas/FileRef*.lean`.  The model is tied to the Go code by
`harness/cmd/fileref` on every run.
-/
namespace BbRe.Properties.C16
open BbRe.FileRef
open BbRe.Lemmas.FileRef

/-- `ref_inv`: in every reachable state `referenceCount` is exactly the number of
references that exist — one for the handle allocator while its link count is positive
(without a handle allocator: one per link), one per share-access bit held by an open
descriptor, one per frozen reader (`frozenDescriptorsCount`, which is the number of
threads that hold a `frozenFileBackedFile`) —, `writableDescriptorsCount` is the number
of write bits held, the pool file is closed iff that count is zero, `Close` has been
called once if it is closed and never otherwise, and no Go panic (nil pool file,
"Invalid reference count", …) has happened. -/
theorem ref_inv {s : State} (h : Reachable s) :
    s.refs = baseLinks s + s.rd + s.wr + s.frozen ∧
    s.writers = s.wr ∧
    FrozenCount s.pc s.frozen ∧
    (s.closed = true ↔ s.refs = 0) ∧
    s.closeCalls = (if s.closed = true then 1 else 0) ∧
    s.panicked = false := by
  have inv := inv_reachable h
  exact ⟨by have := inv.refsEq; omega, inv.writersEq, inv.pcs.fcount, inv.closedIff, inv.closesEq, inv.noPanic⟩

/-- `ref_inv`, second half: the pool file's `Close` happens exactly once, in the step in
which the last reference disappears — every step increases the number of `Close` calls
by one if it takes `referenceCount` from positive to zero and by nothing otherwise. -/
theorem close_exactly_once {s s' : State} {o : Out} (op : Op) (h : Reachable s)
    (hl : legal s op = true) (hs : step s op = some (s', o)) :
    s'.closeCalls = s.closeCalls + (if 0 < s.refs ∧ s'.refs = 0 then 1 else 0) ∧ s'.closeCalls ≤ 1 := by
  have inv := inv_reachable h
  have inv' := inv_step op inv hl hs
  have c := inv.closesEq
  have c' := inv'.closesEq
  cases hc : s.closed
  · have hr : 0 < s.refs := by
      cases Nat.eq_zero_or_pos s.refs with
      | inl h0 => have := inv.closedIff.mpr h0; rw [hc] at this; cases this
      | inr h0 => exact h0
    cases hc' : s'.closed
    · have hr' : s'.refs ≠ 0 := fun h0 => by have := inv'.closedIff.mpr h0; rw [hc'] at this; cases this
      simp only [hc, hc', Bool.false_eq_true, if_false] at c c'
      have : ¬ (0 < s.refs ∧ s'.refs = 0) := fun hh => hr' hh.2
      rw [if_neg this]; omega
    · have hr' := inv'.closedIff.mp hc'
      simp only [hc, hc', Bool.false_eq_true, if_false, if_true] at c c'
      rw [if_pos ⟨hr, hr'⟩]; omega
  · have cs : s'.closeCalls = s.closeCalls := ((step_sound hs).closed inv hc hl).1.2.2.1
    have hr := inv.closedIff.mp hc
    simp only [hc, if_true] at c
    have : ¬ (0 < s.refs ∧ s'.refs = 0) := fun hh => by omega
    rw [if_neg this, cs]; omega

example : ∃ s s' : State, ∃ o : Out, Reachable s ∧ legal s .unlink = true ∧ step s .unlink = some (s', o) ∧
    0 < s.refs ∧ s'.refs = 0 ∧ s'.closeCalls = 1 :=
  ⟨init true true false 0 ⟨false, false⟩, _, _, Reachable.init _ _ _ _ _, rfl, rfl, by decide, rfl, rfl⟩

/-- `no_use_after_close`: once the last reference is gone (the pool file has been closed),
every further step the caller contract allows keeps `referenceCount = 0`, does not call
`Close` again, leaves the contents alone and does not panic (in the model every access to
the released pool file is a panic: `f.file` is nil); `Link`, `VirtualOpenSelf` with or
without `O_TRUNC`, `VirtualAllocate`, `VirtualSetAttributes` with a size return
`StatusErrStale`, `VirtualWrite` returns `(0, StatusErrStale)`; uploads, frozen opens and
output-service stats return NotFound (`CleanFail`).  For the current code `legal` only
restricts `Unlink`, `VirtualClose`, `VirtualRead` and `VirtualSeek`. -/
theorem no_use_after_close {s s' : State} {o : Out} (op : Op) (h : Reachable s) (hc : s.closed = true)
    (hl : legal s op = true) (hs : step s op = some (s', o)) :
    s'.refs = 0 ∧ s'.closed = true ∧ s'.closeCalls = 1 ∧ s'.bytes = s.bytes ∧ s'.panicked = false ∧
    CleanFail op o := by
  have inv := inv_reachable h
  have cs := (step_sound hs).closed inv hc hl
  have c := inv.closesEq
  rw [if_pos hc] at c
  exact ⟨cs.1.1, cs.1.2.1, cs.1.2.2.1.trans c, cs.1.2.2.2, (inv_step op inv hl hs).noPanic, cs.2⟩

/-- Under the caller contract no reachable state has panicked: no read, write, truncate or
region query ever reaches a pool file that has been released. -/
theorem no_panic {s : State} (h : Reachable s) : s.panicked = false := (inv_reachable h).noPanic

/-- In the current code the caller contract demands nothing for the calls that go through
`lockMutatingData` — neither when they are issued nor when they resume after the wait. -/
theorem mutating_calls_need_no_contract {s : State} (hc : s.checked = true) (t : Nat) (op : MutOp) :
    legal s (.mbegin t op) = true ∧ legal s (.mwake t) = true := by
  constructor
  · simp [legal, hc]
  · show (match s.pc t with
      | .mutWait op _ => s.checked || mutContract s op
      | _ => true) = true
    split <;> simp [hc]

/-- Which version of the code a run models never changes. -/
theorem checked_invariant {s s' : State} {o : Out} (op : Op) (hs : step s op = some (s', o)) :
    s'.checked = s.checked := (step_sound hs).keeps.1

/-- `no_use_after_close` for parked calls, without any contract (current code): a write,
allocation, size change or `O_TRUNC` open that is issued on, or resumes on, a file whose last
reference is gone leaves everything alone, does not panic and returns `StatusErrStale`
(`VirtualWrite`: `(0, StatusErrStale)`) — whatever happened to the caller's descriptor or
directory entry while it waited. -/
theorem no_use_after_close_mutating {s s' : State} {o : Out} (op : Op) (h : Reachable s)
    (hck : s.checked = true) (hc : s.closed = true)
    (hop : (∃ t mop, op = .mbegin t mop) ∨ (∃ t, op = .mwake t))
    (hs : step s op = some (s', o)) :
    s'.refs = 0 ∧ s'.closed = true ∧ s'.closeCalls = 1 ∧ s'.bytes = s.bytes ∧ s'.panicked = false ∧
    (o = .st .stale ∨ o = .wrote 0 .stale) := by
  have hl : legal s op = true := by
    rcases hop with ⟨t, mop, rfl⟩ | ⟨t, rfl⟩
    · exact (mutating_calls_need_no_contract hck t mop).1
    · exact (mutating_calls_need_no_contract hck t (.alloc 0 0)).2
  have r := no_use_after_close op h hc hl hs
  refine ⟨r.1, r.2.1, r.2.2.1, r.2.2.2.1, r.2.2.2.2.1, ?_⟩
  have cf := r.2.2.2.2.2
  rcases hop with ⟨t, mop, rfl⟩ | ⟨t, rfl⟩
  · exact cf
  · exact cf

/-- In the current code no call that waited in `lockMutatingData` can panic, whatever the
other threads did meanwhile (the resumed step is always allowed, so its result is reachable). -/
theorem resumed_call_never_panics {s s' : State} {o : Out} {t : Nat} (h : Reachable s)
    (hck : s.checked = true) (hs : step s (.mwake t) = some (s', o)) : s'.panicked = false :=
  no_panic (Reachable.step (.mwake t) h (mutating_calls_need_no_contract hck t (.alloc 0 0)).2 hs)

/-- Before fix 17054c0 (`checked = false`) the contract for parked calls was needed and was
*not* enforceable by the caller: a size change by path that is parked behind a frozen reader
while the file still has its directory entry resumes after the entry and the frozen reader
are gone, and `virtualTruncate` dereferences the nil pool file (model: `panic`).
`VirtualOpenSelf(O_TRUNC)` re-checked `referenceCount` after the wait; `VirtualSetAttributes`,
`VirtualWrite` and `VirtualAllocate` did not. -/
theorem resumed_size_change_hits_released_file :
    (run (init false true false 3 ⟨false, false⟩)
      [.ubegin 1 false none 0, .mbegin 2 (.setattr 1 none), .unlink, .fclose 1, .mwake 2]).2
      = [.opened, .parked, .st .ok, .st .ok, .panic] := by
  decide

/-- The same history on the current code: the resumed size change fails cleanly. -/
theorem resumed_size_change_fails_cleanly :
    (run (init true true false 3 ⟨false, false⟩)
      [.ubegin 1 false none 0, .mbegin 2 (.setattr 1 none), .unlink, .fclose 1, .mwake 2, .link]).2
      = [.opened, .parked, .st .ok, .st .ok, .st .stale, .st .stale] := by
  decide

example : ∃ s s' : State, ∃ o : Out, Reachable s ∧ s.closed = true ∧ legal s .link = true ∧
    step s .link = some (s', o) ∧ o = .st .stale :=
  ⟨(release { init true true false 0 ⟨false, false⟩ with linkCount := 0 } 1), _, _,
    Reachable.step (s := init true true false 0 ⟨false, false⟩) .unlink (Reachable.init _ _ _ _ _) rfl rfl,
    rfl, rfl, rfl, rfl⟩

/-- `frozen_excludes_writes`: while at least one frozen reader exists no step changes the
contents of the file (writers park in `lockMutatingData`); this holds in every state, not
only in reachable ones. -/
theorem frozen_excludes_writes {s s' : State} {o : Out} (op : Op) (hf : 0 < s.frozen)
    (hs : step s op = some (s', o)) : s'.bytes = s.bytes :=
  (step_sound hs).keeps.2.resolve_right (Nat.ne_of_gt hf)

/-- A mutating call performs its change — when it is issued or when it resumes after the
`lockMutatingData` wait — only in a state with `frozenDescriptorsCount = 0`: the loop test is
re-evaluated after every wake-up, so if the file has been frozen again between the
`close(unfreezeWakeup)` and the moment the woken call re-takes the lock (a second upload or
frozen open got in first), the step parks the call again and changes nothing.  Holds in every
state and for all interleavings of freezes, unfreezes and wake-ups. -/
theorem mutator_runs_only_unfrozen {s s' : State} {o : Out} (op : Op)
    (hop : (∃ t mop, op = .mbegin t mop) ∨ (∃ t, op = .mwake t))
    (hs : step s op = some (s', o)) :
    (o ≠ .parked → s.frozen = 0) ∧
    (0 < s.frozen → o = .parked ∧ s'.bytes = s.bytes ∧ s'.frozen = s.frozen ∧ s'.refs = s.refs) := by
  have key : 0 < s.frozen → o = .parked ∧ s'.bytes = s.bytes ∧ s'.frozen = s.frozen ∧ s'.refs = s.refs := by
    intro hf
    have hS : Step s op s' o := step_sound hs
    rcases hop with ⟨t, mop, rfl⟩ | ⟨t, rfl⟩ <;> cases hS <;> rw [mutBody_frozen t _ hf] <;>
      exact ⟨rfl, rfl, rfl, rfl⟩
  refine ⟨fun hne => ?_, key⟩
  cases Nat.eq_zero_or_pos s.frozen with
  | inl h0 => exact h0
  | inr hpos => exact absurd (key hpos).1 hne

/-- The interleaving [unfreeze → a second upload freezes the file again → the woken writer
runs]: the writer parks again and upload 2 stores what it digested. -/
example :
    (run (init true true false 0 ⟨false, true⟩)
      [.fire 0, .mbegin 1 (.write 0 [1, 2, 3]), .ubegin 2 true (some 0) 0, .uwake 2 true, .udigest 2,
       .mbegin 3 (.write 0 [9, 9]), .putDone 2 true, .ubegin 4 true (some 0) 0, .uwake 4 true, .udigest 4,
       .mwake 3, .putDone 4 true, .mwake 3]).2
      = [.st .ok, .wrote 3 .ok, .parked, .opened, .putting (0, [1, 2, 3]), .parked,
         .digest (some (0, [1, 2, 3])), .parked, .opened, .putting (0, [1, 2, 3]), .parked,
         .digest (some (0, [1, 2, 3])), .wrote 2 .ok] := by
  decide

example : (step ({ init true true false 0 ⟨false, true⟩ with frozen := 1 }) (.mbegin 7 (.write 0 [1]))).map (·.2)
    = some .parked := by decide

/-- `cached_digest_valid`: a cached digest is always the digest of the current contents
(every content change resets it). -/
theorem cached_digest_valid {s : State} (h : Reachable s) (d : Digest) (hd : s.cached = some d) :
    d = digestOf d.1 s.bytes := by
  have := (inv_reachable h).cachedOk d hd
  unfold digestOf
  rw [← this]

/-- `upload_matches`: when an upload returns digest `d`, the bytes handed to the CAS for it
are exactly the current contents `b` of the file and `d` is their digest — for every
interleaving with writers, including the branch in which the wait for writers timed out
(`uwake t true`) and writers are still open. -/
theorem upload_matches {s s' : State} {t : Nat} {ok : Bool} {d : Digest} (h : Reachable s)
    (hs : step s (.putDone t ok) = some (s', .digest (some d))) :
    s'.cas = (d, s.bytes) :: s.cas ∧ d = digestOf d.1 s.bytes ∧ s'.bytes = s.bytes := by
  have hS : Step s _ s' _ := step_sound hs
  cases hS
  case putOk _ hpc =>
    have hdb := (inv_reachable h).pcs.putOk t d hpc
    rw [frozenClose_cas, frozenClose_bytes]
    refine ⟨?_, ?_, rfl⟩
    · show (d, s.bytes.take d.2.length) :: s.cas = _
      rw [hdb, List.take_length]
    · unfold digestOf; rw [← hdb]

/-- Everything the CAS ever received from this file is stored under its own digest. -/
theorem cas_consistent {s : State} (h : Reachable s) (e : Digest × Bytes) (he : e ∈ s.cas) :
    e.1 = digestOf e.1.1 e.2 := by
  have := (inv_reachable h).casOk e he
  unfold digestOf
  rw [← this]

/-- The digest reported by the output-service stat is the digest of the current contents. -/
theorem stat_matches {s s' : State} {t : Nat} {d : Digest} (h : Reachable s)
    (hs : step s (.statFinish t) = some (s', .digest (some d))) :
    d.2 = s.bytes ∧ s'.bytes = s.bytes := by
  have hS : Step s _ s' _ := step_sound hs
  generalize ho : Out.digest (some d) = o at hS
  cases hS
  case statFinish fn _ =>
    refine ⟨?_, (frozenClose_bytes _).trans (digestStep_frame s fn).2.1⟩
    split at ho
    · cases ho; exact (digestStep_valid (inv_reachable h) fn _ ‹_›).1
    · cases ho

/-- Non-vacuity of `upload_matches` on the timeout branch: a writer is open, the delay
fires, the upload proceeds, the writer's next write parks, the upload returns the digest of
what it stored. -/
example :
    (run (init true true false 0 ⟨false, true⟩)
      [.mbegin 1 (.write 0 [1, 2, 3]), .ubegin 2 true (some 1) 0, .fire 1, .uwake 2 true, .udigest 2,
       .mbegin 3 (.write 0 [7, 7]), .putDone 2 true, .mwake 3, .persist]).2
      = [.wrote 3 .ok, .parked, .st .ok, .opened, .putting (0, [1, 2, 3]), .parked,
         .digest (some (0, [1, 2, 3])), .wrote 2 .ok, .digest none] := by
  decide

/-- `writers_wait_bounded` (a): an upload or frozen open that starts while no writable
descriptor is open does not wait. -/
theorem writers_wait_bounded_start {s s' : State} {o : Out} {t : Nat} {u : Bool} {k : Option Nat} {fn : Nat}
    (hw : s.writers = 0) (hs : step s (.ubegin t u k fn) = some (s', o)) :
    o ≠ .parked ∧ ∀ u' k' fn' w, s'.pc t ≠ .upWait u' k' fn' w := by
  have hS : Step s _ s' o := step_sound hs
  cases hS
  case ubeginPark hw' _ => rw [hw] at hw'; cases hw'
  case ubeginOpen => exact openFrozenFor_leaves s t u fn

/-- `writers_wait_bounded` (b): a parked upload whose delay channel fired can take its
`uwake … true` step, and that step takes it out of the wait whatever the writers do; a
parked upload of a file without writable descriptors has been woken (no lost wake-up), can
take its `uwake … false` step, and that step takes it out of the wait. -/
theorem writers_wait_bounded_progress {s : State} (h : Reachable s) {t : Nat} {u : Bool} {k : Option Nat}
    {fn : Nat} {w : Bool} (hpc : s.pc t = .upWait u k fn w) :
    (∀ k', k = some k' → s.fired k' = true →
      ∃ s' o, step s (.uwake t true) = some (s', o) ∧ o ≠ .parked ∧
        ∀ u' k'' fn' w', s'.pc t ≠ .upWait u' k'' fn' w') ∧
    (s.writers = 0 →
      w = true ∧ ∃ s' o, step s (.uwake t false) = some (s', o) ∧ o ≠ .parked ∧
        ∀ u' k'' fn' w', s'.pc t ≠ .upWait u' k'' fn' w') := by
  have inv := inv_reachable h
  have leave := openFrozenFor_leaves s t u fn
  constructor
  · intro k' hk hf
    refine ⟨_, _, ?_, leave.1, leave.2⟩
    rw [step, if_neg inv.running]
    simp only [hpc, hk, hf, if_true]
  · intro hw
    have hwk : w = true := by
      cases w
      · have := inv.pcs.upWake t u k fn hpc; rw [hw] at this; exact absurd this (Nat.lt_irrefl 0)
      · rfl
    refine ⟨hwk, _, _, ?_, leave.1, leave.2⟩
    rw [step, if_neg inv.running]
    subst hwk
    have : ¬ s.writers > 0 := by rw [hw]; exact Nat.lt_irrefl 0
    simp only [hpc, Bool.false_eq_true, if_false, if_true, this]

/-- `writers_wait_bounded` (c): it never proceeds otherwise — while writable descriptors
are open and its delay channel did not fire, the only steps a parked upload can take leave
it parked, without a frozen reader. -/
theorem writers_wait_bounded_waits {s s' : State} {o : Out} {t : Nat} {u : Bool} {k : Option Nat}
    {fn : Nat} {w v : Bool} (hpc : s.pc t = .upWait u k fn w) (hw : 0 < s.writers)
    (hk : ∀ k', k = some k' → s.fired k' = false) (hs : step s (.uwake t v) = some (s', o)) :
    s'.pc t = .upWait u k fn false ∧ o = .parked ∧ s'.frozen = s.frozen := by
  have hS : Step s _ s' o := step_sound hs
  cases hS
  case uwakePark _ hpc' => cases hpc.symm.trans hpc'; exact ⟨by simp [State.setPc], rfl, rfl⟩
  case uwakeOpen hw' _ => exact absurd hw hw'
  case uwakeDelay hf hpc' => cases hpc.symm.trans hpc'; rw [hk _ rfl] at hf; cases hf

example : ∃ s : State, Reachable s ∧ s.pc 2 = .upWait true (some 1) 0 false ∧ 0 < s.writers :=
  ⟨(init true true false 0 ⟨false, true⟩).setPc 2 (.upWait true (some 1) 0 false),
    Reachable.step (s := init true true false 0 ⟨false, true⟩) (.ubegin 2 true (some 1) 0) (Reachable.init _ _ _ _ _) rfl rfl,
    by simp [State.setPc], by decide⟩

/-- No lost wake-up for writers: a mutating call parked behind frozen readers has been
woken as soon as no frozen reader is left, and its `mwake` step then performs the change
(it does not park again). -/
theorem mutators_resume {s : State} (h : Reachable s) {t : Nat} {op : MutOp} {w : Bool}
    (hpc : s.pc t = .mutWait op w) (hf : s.frozen = 0) :
    w = true ∧ ∃ s' o, step s (.mwake t) = some (s', o) ∧ o ≠ .parked := by
  have inv := inv_reachable h
  have hwk : w = true := by
    cases w
    · have := inv.pcs.mutWake t op hpc; rw [hf] at this; exact absurd this (Nat.lt_irrefl 0)
    · rfl
  subst hwk
  refine ⟨rfl, (mutBody s t op).1, (mutBody s t op).2, ?_, ?_⟩
  · rw [step, if_neg inv.running]
    simp only [hpc]
  · unfold mutBody
    rw [if_neg (by rw [hf]; exact Nat.lt_irrefl 0)]
    exact perform_not_parked s op

end BbRe.Properties.C16
