import BbRe.Model.Trie
import BbRe.Spec.PrefixMap
import BbRe.Lemmas.TrieRouter
import BbRe.Lemmas.TriePatch
/-!
# C05 — routing data structure part

The scheduler part of C05 (`Properties/C05.lean`, model `Model/Sched.lean`) treats
`platformQueuesTrie.GetLongestPrefix` by its specification (`route`: among the registered
queues with equal platform whose prefix is a component-wise prefix of the request's instance
name, the one with the longest prefix).  This file ties that specification to the data
structure and key code the scheduler really uses, as transcribed in `Model/Trie.lean`:

* `platform.Trie` over bb-storage's `digest.InstanceNameTrie` (node structure, value indices,
  `Set`, `Remove` with its cut-point loop, `GetExact`, `ContainsExact`, `GetLongestPrefix`),
* `platform.NewKey` (sortedness check, canonical string),
* the `platformQueues` / `platformQueuesTrie` pair of `InMemoryBuildQueue`
  (`addPlatformQueue`, swap-with-last removal, the lookups of `Execute`, `Synchronize`,
  `RegisterPredeclaredPlatformQueue`, instance name suffix),
* `DemultiplexingActionRouter`.

The specification is the finite map of `Spec/PrefixMap.lean`.  Every theorem is quantified
over all operation sequences, keys, values and sizes.  Helper lemmas: `Lemmas/Trie*.lean`.
-/
namespace BbRe.Properties.C05Trie
open BbRe.Model.Trie BbRe.Spec.PrefixMap
open BbRe.Lemmas.TrieAssoc BbRe.Lemmas.TrieNode BbRe.Lemmas.TrieTop BbRe.Lemmas.TriePrefixMap
open BbRe.Lemmas.TrieLongest BbRe.Lemmas.TrieIndex BbRe.Lemmas.TrieKey BbRe.Lemmas.TrieRouter

/-- platforms: none, `[os=linux]`, `[arch=x86, os=linux]` (interned strings). -/
def exP0 : Plat := []
def exP1 : Plat := [(9, 8)]
def exP2 : Plat := [(5, 11), (9, 8)]

/-- `""`, `a`, `a/b`, `a/b/c`, `ab` on one platform, `a/b` on another; then `a/b` is removed
from the first (an interior node) and `a/b/c` too (a leaf chain that is cut off below `a`). -/
def exOps : List Op :=
  [.set ⟨[], exP1⟩ 0, .set ⟨[1], exP1⟩ 1, .set ⟨[1, 2], exP1⟩ 2, .set ⟨[1, 2, 3], exP1⟩ 3,
   .set ⟨[4], exP1⟩ 4, .set ⟨[1, 2], exP2⟩ 5, .remove ⟨[1, 2], exP1⟩, .remove ⟨[1, 2, 3], exP1⟩]

def exTrie : Trie := (Trie.run Trie.empty exOps).getD Trie.empty

/-- **The trie is the finite map.**  After any sequence of `Set`/`Remove` calls that did not
panic, the trie is well-formed and every lookup answers as the finite map
`(platform, component list) ↦ value` built by the same calls: `GetExact` returns the bound
value or −1, `ContainsExact` says whether the key is bound, `GetLongestPrefix` returns what the
specification `longestPrefix` returns. -/
theorem trie_refines_map (ops : List Op) (t : Trie) (h : Trie.run Trie.empty ops = some t) :
    WF t ∧
    (∀ k, t.getExact k = toInt (get (run [] ops) k)) ∧
    (∀ k, t.containsExact k = (get (run [] ops) k).isSome) ∧
    (∀ k, t.getLongestPrefix k = toInt (longestPrefix (run [] ops) k)) := by
  have hr := refines_run refines_empty ops h
  refine ⟨hr.1, fun k => ?_, fun k => ?_, refines_longest hr⟩
  · rw [Lemmas.TrieTop.getExact_eq hr.1, hr.2]
  · rw [Bool.eq_iff_iff, containsExact_iff hr.1, hr.2, toInt_nonneg_iff]

example : (Trie.run Trie.empty exOps).isSome = true := by decide +kernel
example : exTrie.getLongestPrefix ⟨[1, 2, 3, 6], exP1⟩ = 1 ∧ exTrie.getExact ⟨[1, 2], exP1⟩ = -1 ∧
    exTrie.getLongestPrefix ⟨[1, 2, 3, 6], exP2⟩ = 5 ∧ exTrie.getLongestPrefix ⟨[4, 3], exP1⟩ = 4 ∧
    exTrie.getLongestPrefix ⟨[7], exP1⟩ = 0 ∧ exTrie.getLongestPrefix ⟨[7], exP2⟩ = -1 := by decide +kernel

/-- **What the specification's `longestPrefix` is.**  It returns `v` iff `v` is bound to a
component-wise prefix `q` of the instance name under the same platform and no longer prefix is
bound; it returns nothing iff no prefix is bound. -/
theorem longestPrefix_spec (m : PrefixMap) (k : Key) :
    (∀ v, longestPrefix m k = some v ↔
      ∃ q, q <+: k.inst ∧ get m ⟨q, k.plat⟩ = some v ∧
        ∀ q', q' <+: k.inst → q.length < q'.length → get m ⟨q', k.plat⟩ = none) ∧
    (longestPrefix m k = none ↔ ∀ q, q <+: k.inst → get m ⟨q, k.plat⟩ = none) :=
  ⟨longestPrefixFrom_some_iff m k.plat [] k.inst, longestPrefixFrom_none_iff m k.plat [] k.inst⟩

/-- **`GetLongestPrefix` = longest registered component-wise prefix with the same platform.**
The two theorems above combined, stated directly on the implementation's return value:
−1 iff no prefix of the instance name is registered for the platform, and otherwise the value of
the longest registered one. -/
theorem trie_longest_prefix (ops : List Op) (t : Trie) (h : Trie.run Trie.empty ops = some t) (k : Key) :
    (t.getLongestPrefix k = -1 ↔ ∀ q, q <+: k.inst → get (run [] ops) ⟨q, k.plat⟩ = none) ∧
    (∀ v : Nat, t.getLongestPrefix k = (v : Int) ↔
      ∃ q, q <+: k.inst ∧ get (run [] ops) ⟨q, k.plat⟩ = some v ∧
        ∀ q', q' <+: k.inst → q.length < q'.length → get (run [] ops) ⟨q', k.plat⟩ = none) := by
  obtain ⟨_, _, _, hl⟩ := trie_refines_map ops t h
  obtain ⟨hs, hn⟩ := longestPrefix_spec (run [] ops) k
  constructor
  · rw [hl, toInt_eq_neg_one_iff]; exact hn
  · intro v
    rw [hl, toInt_eq_natCast]; exact hs v

/-- histories in which `Remove` is only called for registered keys (what the scheduler does,
see `swap_with_last_consistent`). -/
def Legal (m : PrefixMap) : List Op → Prop
  | [] => True
  | .set k v :: ops => Legal (set m k v) ops
  | .remove k :: ops => (get m k).isSome ∧ Legal (erase m k) ops

/-- Such histories never panic, so `trie_refines_map` applies to all of them. -/
theorem legal_runs (ops : List Op) (t : Trie) (m : PrefixMap) (hr : Refines t m) (hl : Legal m ops) :
    ∃ t', Trie.run t ops = some t' := by
  induction ops generalizing t m with
  | nil => exact ⟨t, rfl⟩
  | cons op ops ih =>
    cases op with
    | set k v =>
      rw [run_cons]
      exact ih _ _ (refines_step hr (.set k v) rfl) hl
    | remove k =>
      obtain ⟨hp, hl'⟩ := hl
      obtain ⟨t1, ht1⟩ := remove_present k (by rw [hr.2, toInt_nonneg_iff]; exact hp)
      have hs : Trie.applyOp t (.remove k) = some t1 := ht1
      rw [run_cons, hs]
      exact ih _ _ (refines_step hr (.remove k) hs) hl'

example : Legal [] exOps := by
  simp only [exOps, Legal]; decide +kernel

/-- **`Remove`.**  In every state reached by a Set/Remove history:
(1) removing a registered key succeeds, unbinds exactly that key (all three lookups of every
    other key are unchanged because the result again refines the map with the key erased);
(2) removing a key that is not registered either dereferences a nil node (the platform is
    unknown, or the path leaves the trie) — `none`, a Go panic — or changes no binding;
(3) the trie is pruned: no per-platform trie in the map is empty, and below the root every
    node without children carries a value, so no value-less branch — let alone a stale value —
    remains reachable. -/
theorem remove_prunes (ops : List Op) (t : Trie) (h : Trie.run Trie.empty ops = some t) (k : Key) :
    ((get (run [] ops) k).isSome →
      ∃ t', t.remove k = some t' ∧ Refines t' (erase (run [] ops) k) ∧ t'.getExact k = -1 ∧
        t'.containsExact k = false) ∧
    (get (run [] ops) k = none →
      (t.remove k = none ↔
        (aget k.plat t.platforms = none ∨
          ∃ pt, aget k.plat t.platforms = some pt ∧ at? pt k.inst = none)) ∧
      ∀ t', t.remove k = some t' → Refines t' (run [] ops)) ∧
    (∀ p pt, aget p t.platforms = some pt →
      ¬ (pt.value < 0 ∧ pt.kids = []) ∧
      ∀ path m, path ≠ [] → at? pt path = some m → m.kids = [] → 0 ≤ m.value) := by
  have hr := refines_run refines_empty ops h
  refine ⟨?_, ?_, ?_⟩
  · intro hp
    obtain ⟨t', ht'⟩ := remove_present k (by rw [hr.2, toInt_nonneg_iff]; exact hp)
    have hr' : Refines t' (erase (run [] ops) k) := refines_step hr (.remove k) ht'
    have hv : tval t' k = -1 := by rw [hr'.2, get_erase, if_pos rfl]; rfl
    refine ⟨t', ht', hr', (Lemmas.TrieTop.getExact_eq hr'.1 k).trans hv, ?_⟩
    rw [Bool.eq_false_iff, Ne, containsExact_iff hr'.1, hv]; decide
  · intro hnone
    refine ⟨Lemmas.TrieTop.remove_none_iff t k, fun t' ht' => ?_⟩
    have hr' : Refines t' (erase (run [] ops) k) := refines_step hr (.remove k) ht'
    refine ⟨hr'.1, fun k' => ?_⟩
    rw [hr'.2, get_erase]
    split
    · next e => rw [e, hnone]
    · rfl
  · intro p pt hp
    obtain ⟨hroot, hne⟩ := hr.1.roots p pt hp
    exact ⟨hne, fun path m hpath hm hk => ((hroot.sub_at hpath hm) [] m rfl).2 hk⟩

example : (exTrie.remove ⟨[1], exP1⟩).isSome = true ∧ (exTrie.remove ⟨[1, 2], exP1⟩).isNone = true ∧
    (exTrie.remove ⟨[1], exP2⟩).isSome = true ∧ (exTrie.remove ⟨[7], exP0⟩).isNone = true := by decide +kernel

/-- **The scheduler's re-indexing discipline.**  In every state of the
`platformQueues`/`platformQueuesTrie` pair reached by `RegisterPredeclaredPlatformQueue`,
`Synchronize` (queue creation through `addPlatformQueue`) and queue removal (swap-with-last,
`Set(lastPQ.platformKey, index)` then `Remove(pq.platformKey)`) in any order:
`platformQueues[i]` is registered in the trie under index `i`, the keys are pairwise distinct,
the trie knows no key that is not in the list, and removing any queue of the list does not
panic and yields the list with the last element moved into the hole. -/
theorem swap_with_last_consistent (ops : List QOp) (s : PQIndex) (h : qrun PQIndex.empty ops = some s) :
    (∀ i (hi : i < s.queues.length), s.trie.getExact s.queues[i] = (i : Int)) ∧
    s.queues.Nodup ∧
    (∀ k, s.trie.containsExact k = true → k ∈ s.queues) ∧
    (∀ i (hi : i < s.queues.length), ∃ s', s.removeQueue i = some s' ∧
      s'.queues = (s.queues.set i s.queues[s.queues.length - 1]).take (s.queues.length - 1) ∧
      (∀ j (hj : j < s'.queues.length), s'.trie.getExact s'.queues[j] = (j : Int)) ∧
      s'.trie.getExact s.queues[i] = -1) := by
  have hinv := inv_qrun inv_empty ops h
  refine ⟨?_, hinv.nodup, ?_, ?_⟩
  · intro i hi
    rw [hinv.getExact]; exact hinv.idx i _ (List.getElem?_eq_getElem hi)
  · intro k hk
    exact hinv.dom k ((containsExact_iff hinv.wf k).1 hk)
  · intro i hi
    obtain ⟨t2, ht2, hrq⟩ := removeQueue_spec hinv (List.getElem?_eq_getElem hi)
      (List.getElem?_eq_getElem (Nat.sub_lt (Nat.zero_lt_of_lt hi) Nat.one_pos))
    have hinv' := inv_removeQueue hinv hi hrq
    refine ⟨_, hrq, rfl, fun j hj => ?_, ?_⟩
    · rw [hinv'.getExact]; exact hinv'.idx j _ (List.getElem?_eq_getElem hj)
    · obtain ⟨hw2, hv2⟩ := Lemmas.TrieTop.remove_spec (wf_set hinv.wf _ (Int.natCast_nonneg i)) _ ht2
      exact (Lemmas.TrieTop.getExact_eq hw2 _).trans ((hv2 _).trans (if_pos rfl))

/-- three worker-created queues `a`, `a/b`, `""`; the first one is removed. -/
def exQOps : List QOp :=
  [.synchronize ⟨[1], exP1⟩, .register [1, 2] exP1, .synchronize ⟨[], exP1⟩, .synchronize ⟨[1], exP1⟩,
   .removeQueue 0]

example : ((qrun PQIndex.empty exQOps).map (fun s => s.queues)) =
    some [⟨[], exP1⟩, ⟨[1, 2], exP1⟩] := by decide +kernel

/-- **`Execute` and `Synchronize` on the pair.**  `Execute` finds no queue iff no queue of the
list has the request's platform and a prefix of its instance name; otherwise it uses the queue
with the longest such prefix, and the `InstanceNameSuffix` it hands to the worker satisfies
`prefix ++ suffix = instance name`.  `Synchronize` puts the worker in the queue whose key is
exactly the worker's. -/
theorem execute_routes_longest_prefix (ops : List QOp) (s : PQIndex) (h : qrun PQIndex.empty ops = some s)
    (key : Key) :
    (s.execute key = none ↔ ∀ q, q ∈ s.queues → ¬ (q.plat = key.plat ∧ q.inst <+: key.inst)) ∧
    (∀ i o, s.execute key = some (i, o) →
      ∃ (j : Nat) (q : Key), i = (j : Int) ∧ s.queues[j]? = some q ∧ q.plat = key.plat ∧
        q.inst <+: key.inst ∧
        (∀ q', q' ∈ s.queues → q'.plat = key.plat → q'.inst <+: key.inst → q'.inst.length ≤ q.inst.length) ∧
        o = some (patchSuffix q.inst key.inst) ∧ q.inst ++ patchSuffix q.inst key.inst = key.inst) ∧
    (∃ i : Nat, (s.synchronize key).2 = (i : Int) ∧ (s.synchronize key).1.queues[i]? = some key) := by
  have hinv := inv_qrun inv_empty ops h
  refine ⟨(execute_eq_none_iff s key).trans (hinv.glp_neg_iff key), fun i o he => ?_,
    synchronize_index hinv key⟩
  have hnn : ¬ s.trie.getLongestPrefix key < 0 := fun hn => by
    rw [(execute_eq_none_iff s key).2 hn] at he; cases he
  rw [execute_eq, if_neg hnn] at he
  cases he
  obtain ⟨j, hj⟩ := Int.eq_ofNat_of_zero_le (Int.not_lt.1 hnn)
  obtain ⟨q, hjq, hp, hpre, hmax⟩ := (hinv.glp_eq_iff key j).1 hj
  refine ⟨j, q, hj, hjq, hp, hpre, hmax, ?_, patchSuffix_append hpre⟩
  rw [hj, Int.toNat_natCast, hjq]; rfl

example : ((qrun PQIndex.empty exQOps).bind (fun s => s.execute ⟨[1, 2, 3], exP1⟩)) =
    some (1, some [3]) := by decide +kernel
example : ((qrun PQIndex.empty exQOps).bind (fun s => s.execute ⟨[1, 7], exP1⟩)) =
    some (0, some [1, 7]) := by decide +kernel
example : ((qrun PQIndex.empty exQOps).bind (fun s => s.execute ⟨[1, 7], exP2⟩)) = none := by decide +kernel

/-- **The scheduler model's `route` is what the trie computes.**  `Model/Sched.lean` replaces
`platformQueuesTrie.GetLongestPrefix` by a function `route` over its list of platform queues, of
which `C05.routing` / `C05.routing_none` prove exactly the two hypotheses `hnone`, `hsome` below
(nothing iff no queue has the platform and a prefix of the instance name; otherwise a matching
queue of maximal prefix length).  For every reachable state of the real list/trie pair holding
the same keys (`keyOf` = instance-name prefix and platform of a queue), any such `route` agrees
with `Execute`'s lookup in the trie: both find nothing, or `route`'s queue is the one stored at
the index the trie returns, and the suffix is the instance name minus that queue's prefix. -/
theorem sched_route_refined {α : Type} (pqs : List α) (keyOf : α → Key) (ops : List QOp) (s : PQIndex)
    (h : qrun PQIndex.empty ops = some s) (hq : s.queues = pqs.map keyOf) (key : Key) (r : Option α)
    (hnone : r = none ↔ ∀ p, p ∈ pqs → ¬ ((keyOf p).plat = key.plat ∧ (keyOf p).inst <+: key.inst))
    (hsome : ∀ pq, r = some pq → pq ∈ pqs ∧ (keyOf pq).plat = key.plat ∧ (keyOf pq).inst <+: key.inst ∧
      ∀ p, p ∈ pqs → (keyOf p).plat = key.plat → (keyOf p).inst <+: key.inst →
        (keyOf p).inst.length ≤ (keyOf pq).inst.length) :
    (r = none ↔ s.execute key = none) ∧
    (∀ pq, r = some pq → ∃ j : Nat,
      s.execute key = some ((j : Int), some (patchSuffix (keyOf pq).inst key.inst)) ∧
      s.queues[j]? = some (keyOf pq)) := by
  have hinv := inv_qrun inv_empty ops h
  constructor
  · rw [hnone, execute_eq_none_iff, hinv.glp_neg_iff, hq]
    simp only [List.mem_map, forall_exists_index, and_imp, forall_apply_eq_imp_iff₂]
  · intro pq hr
    obtain ⟨hmem, hp, hpre, hmax⟩ := hsome pq hr
    obtain ⟨j, hj⟩ := List.mem_iff_getElem?.1 (hq ▸ List.mem_map_of_mem hmem : keyOf pq ∈ s.queues)
    have hglp := (hinv.glp_eq_iff key j).2 ⟨_, hj, hp, hpre, fun q' hq' => by
      rw [hq] at hq'; obtain ⟨p, hp', rfl⟩ := List.mem_map.1 hq'; exact hmax p hp'⟩
    refine ⟨j, ?_, hj⟩
    rw [execute_eq, hglp, if_neg (Int.not_lt.2 (Int.natCast_nonneg j)), Int.toNat_natCast, hj]; rfl

/-- **The suffix on strings.**  `Execute` computes the suffix with bb-storage's
`InstanceNamePatcher` on the instance name *string* (`patchString`: skip `len(prefix + "/")` bytes,
or return `""` when nothing is left).  Under any naming of components by non-empty strings this is
the component-wise `patchSuffix` used in `execute_routes_longest_prefix`, whenever the queue's
prefix is a component-wise prefix of the instance name (which that theorem guarantees). -/
theorem suffix_string_level (name : Comp → Str) (hname : ∀ c, name c ≠ []) (pfx inst : List Comp)
    (h : pfx <+: inst) :
    patchString (joinName (pfx.map name)) (joinName (inst.map name)) =
      joinName ((patchSuffix pfx inst).map name) := by
  obtain ⟨t, rfl⟩ := h
  have hne : ∀ (l : List Comp) (c : Str), c ∈ l.map name → c ≠ [] := fun l c hc => by
    obtain ⟨x, _, rfl⟩ := List.mem_map.1 hc; exact hname x
  rw [patchSuffix, List.drop_left, List.map_append]
  exact BbRe.Lemmas.TriePatch.patchString_join _ _ (hne pfx) (hne t)

/-- `a/b` stripped from `a/b/cd` is `cd`; stripped from `a/b` it is the empty name. -/
example : patchString (joinName [[97], [98]]) (joinName [[97], [98], [99, 100]]) = [99, 100] ∧
    patchString (joinName [[97], [98]]) (joinName [[97], [98]]) = [] ∧
    patchString [] (joinName [[97], [98]]) = [97, 47, 98] := by decide +kernel

/-- **`NewKey`.**  It accepts exactly the property lists that are strictly sorted by
(name, value) — duplicates are rejected —; two keys are equal iff instance name and property
list are equal; the platform string is injective on property lists; and a strictly sorted list
is determined by its set of properties, so equal keys ⇔ equal instance name and equal property
*sets*. -/
theorem key_canonical :
    (∀ inst ps, (newKey inst ps).isSome ↔ StrictSorted ps) ∧
    (∀ i1 p1 i2 p2 k1 k2, newKey i1 p1 = some k1 → newKey i2 p2 = some k2 →
      (k1 = k2 ↔ i1 = i2 ∧ p1 = p2)) ∧
    (∀ a b : Plat, platformString a = platformString b → a = b) ∧
    (∀ i1 p1 i2 p2 k1 k2, newKey i1 p1 = some k1 → newKey i2 p2 = some k2 →
      (k1 = k2 ↔ i1 = i2 ∧ ∀ x, x ∈ p1 ↔ x ∈ p2)) := by
  refine ⟨?_, ?_, platformString_injective, ?_⟩
  · intro inst ps
    cases hk : newKey inst ps with
    | none => simpa using (newKey_eq_none_iff inst ps).1 hk
    | some k => simpa using ((newKey_eq_some_iff inst ps k).1 hk).1
  · intro i1 p1 i2 p2 k1 k2 h1 h2
    obtain ⟨_, e1⟩ := (newKey_eq_some_iff i1 p1 k1).1 h1
    obtain ⟨_, e2⟩ := (newKey_eq_some_iff i2 p2 k2).1 h2
    subst e1 e2
    simp
  · intro i1 p1 i2 p2 k1 k2 h1 h2
    obtain ⟨s1, e1⟩ := (newKey_eq_some_iff i1 p1 k1).1 h1
    obtain ⟨s2, e2⟩ := (newKey_eq_some_iff i2 p2 k2).1 h2
    subst e1 e2
    simp only [Key.mk.injEq]
    constructor
    · rintro ⟨rfl, rfl⟩; exact ⟨rfl, fun _ => Iff.rfl⟩
    · rintro ⟨rfl, hm⟩; exact ⟨rfl, strictSorted_ext p1 p2 s1 s2 hm⟩

example : (newKey [1] exP2).isSome = true ∧ (newKey [1] [(9, 8), (5, 11)]).isSome = false ∧
    (newKey [1] [(9, 8), (9, 8)]).isSome = false ∧ (newKey [1] [(9, 8), (9, 11)]).isSome = true := by decide +kernel

/-- **`DemultiplexingActionRouter`.**  After any sequence of `RegisterActionRouter` calls
(`regsOf` = those that succeeded: valid key, not registered before), `RouteAction` with a key
extractor that builds the key from the request's instance name and platform
 * passes the extractor's error on when the key is invalid,
 * forwards to the default router when no registered prefix matches (same platform,
   component-wise prefix),
 * otherwise forwards to the router registered under the longest matching prefix,
and every registration returns the status the history calls for.  The router forwards the
digest function (hence the instance name) unchanged: this implementation does **not** strip the
prefix; the instance name suffix is computed by `Execute` (`execute_routes_longest_prefix`). -/
theorem router_longest_prefix (dflt : Nat) (calls : List (List Comp × List (Nat × Nat) × Nat))
    (inst : List Comp) (props : List (Nat × Nat)) :
    let r := runRegs (Router.new dflt) calls
    let regs := regsOf [] calls
    (newKey inst props = none → r.route inst props = .extractFailed) ∧
    (∀ key, newKey inst props = some key →
      ((∀ e, e ∈ regs → ¬ (e.1.plat = key.plat ∧ e.1.inst <+: key.inst)) →
        r.route inst props = .to dflt inst) ∧
      (∀ e, e ∈ regs → e.1.plat = key.plat → e.1.inst <+: key.inst →
        (∀ e', e' ∈ regs → e'.1.plat = key.plat → e'.1.inst <+: key.inst →
          e'.1.inst.length ≤ e.1.inst.length) →
        r.route inst props = .to e.2 inst)) ∧
    (∀ c, (r.register c.1 c.2.1 c.2.2).2 = regStatus regs c ∧
      RInv (r.register c.1 c.2.1 c.2.2).1 dflt (regStep regs c)) := by
  intro r regs
  have hinv : RInv r dflt regs := rinv_run (rinv_new dflt) calls
  refine ⟨fun hk => by unfold Router.route; simp only [hk],
    fun key hk => ⟨fun hnone => ?_, fun e he hp hpre hmax => ?_⟩,
    fun c => ⟨(rinv_register hinv c).2, (rinv_register hinv c).1⟩⟩
  · have hneg : r.trie.getLongestPrefix key < 0 :=
      (hinv.inv.glp_neg_iff key).2 (mem_regs_keys hnone)
    have hge : -1 ≤ r.trie.getLongestPrefix key := glp_ge hinv.inv.wf key
    refine route_of_glp hk (j := 0) (by omega) ?_
    rw [hinv.entries]; rfl
  · obtain ⟨j, hj⟩ := List.mem_iff_getElem?.1 he
    have hglp : r.trie.getLongestPrefix key = (j : Int) := (hinv.inv.glp_eq_iff key j).2
      ⟨e.1, by rw [List.getElem?_map, hj]; rfl, hp, hpre, mem_regs_keys hmax⟩
    refine route_of_glp hk (j := j + 1) (by rw [hglp]; rfl) ?_
    rw [hinv.entries, List.getElem?_cons_succ, List.getElem?_map, hj]; rfl

/-- routers 1 (`a`), 2 (`a/b`), 3 (`""` on another platform); the duplicate and the unsorted
registration are refused. -/
def exCalls : List (List Comp × List (Nat × Nat) × Nat) :=
  [([1], exP1, 1), ([1, 2], exP1, 2), ([], exP2, 3), ([1], exP1, 4), ([7], [(9, 8), (5, 11)], 5)]

example : (runRegs (Router.new 100) exCalls).route [1, 2, 3] exP1 = .to 2 [1, 2, 3] ∧
    (runRegs (Router.new 100) exCalls).route [1, 7] exP1 = .to 1 [1, 7] ∧
    (runRegs (Router.new 100) exCalls).route [4] exP1 = .to 100 [4] ∧
    (runRegs (Router.new 100) exCalls).route [4] exP2 = .to 3 [4] ∧
    (runRegs (Router.new 100) exCalls).route [4] [(9, 8), (5, 11)] = .extractFailed := by decide +kernel

end BbRe.Properties.C05Trie
