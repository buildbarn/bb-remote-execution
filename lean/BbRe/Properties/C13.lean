import BbRe.Lemmas.DirRead
import BbRe.Lemmas.DirMisc
import BbRe.Lemmas.DirFilter
import BbRe.Lemmas.DirFuel
/-!
# C13 — the virtual directory tree behaves like a POSIX file hierarchy

Property theorems about `Model/Dir.lean`, the transcription of
`pkg/filesystem/virtual/in_memory_prepopulated_directory.go`.  All theorems are
about *every* operation list (`run P init ops`, any length, any number of
directories / names / leaves), every normaliser `P.normalize` (not even
idempotence is needed: the code normalises each name exactly once) and every
hidden-file predicate `P.hidden`.  Helper lemmas: `BbRe/Lemmas/Dir*.lean`.
-/
namespace BbRe.Properties.C13
open BbRe.Dir BbRe.Lemmas.Dir

/-! ## contents_inv -/

theorem inv_init (P : Params) : Inv P init := BbRe.Lemmas.Dir.inv_init P

/-- Every operation (valid or not, succeeding or not) preserves the invariant. -/
theorem inv_step (P : Params) (s : Store) (op : Op) (h : Inv P s) : Inv P (step P s op).1 := (step_ok h op).inv

theorem inv_reachable (P : Params) (ops : List Op) : Inv P (run P init ops) := (run_ok ops (inv_init P)).inv

/-- `contents_inv`, spelled out for every reachable store: per directory the
normalised names are the normal forms of the names and pairwise different, the
cookies strictly increase along the list and stay below the change counter, a
deleted directory has no entries and no pending fetcher; every directory has at
most one parent entry; the ghost link count of every leaf (maintained by the
`Link()`/`Unlink()` calls) is the number of entries that refer to it; every
child that is referred to exists. -/
theorem contents_inv (P : Params) (ops : List Op) :
    let s := run P init ops
    (∀ d, (∀ e ∈ (s.dir d).entries, e.norm = P.normalize e.name) ∧
          (s.dir d).entries.Pairwise (fun a b => a.norm ≠ b.norm) ∧
          (s.dir d).entries.Pairwise (fun a b => a.cookie < b.cookie) ∧
          (∀ e ∈ (s.dir d).entries, e.cookie < (s.dir d).changeID) ∧
          ((s.dir d).deleted = true → (s.dir d).entries = [] ∧ (s.dir d).lazy = none)) ∧
    (∀ d, (refs s).count (Child.dir d) ≤ 1) ∧
    (∀ l, (s.leaf l).links = (refs s).count (Child.leaf l)) ∧
    (∀ d, Child.dir d ∈ refs s → d < s.dirs.length) ∧
    (∀ l, Child.leaf l ∈ refs s → l < s.leaves.length) := by
  intro s
  have h : Inv P s := inv_reachable P ops
  refine ⟨?_, ?_, ?_, ?_, ?_⟩
  · intro d
    have hd := h.dirOK d
    exact ⟨hd.norm, hd.nodup, hd.sorted, hd.bound, hd.del⟩
  · intro d; simpa using h.oneParent d
  · intro l; simpa using h.links l
  · intro d hd; exact h.dirRef d (by simpa using hd)
  · intro l hl; exact h.leafRef l (by simpa using hl)

theorem run_append (P : Params) (s : Store) (a b : List Op) : run P s (a ++ b) = run P (run P s a) b := by
  induction a generalizing s with
  | nil => rfl
  | cons op rest ih => simp [run, ih]

/-- `deleted → entries = []` forever: once a directory carries the tombstone, it
carries it after any further operations and never gets an entry again. -/
theorem deleted_forever (P : Params) (ops more : List Op) (d : Nat)
    (hdel : ((run P init ops).dir d).deleted = true) :
    ((run P init (ops ++ more)).dir d).deleted = true ∧ ((run P init (ops ++ more)).dir d).entries = [] := by
  rw [run_append]
  have h1 := inv_reachable P ops
  have h2 := run_ok more h1
  have hd := h2.le.del d hdel
  exact ⟨hd, ((h2.inv.dirOK d).del hd).1⟩

/-! ## change_counter -/

/-- The change counter of no directory ever goes back. -/
theorem change_counter_monotone (P : Params) (ops : List Op) (op : Op) (d : Nat) :
    ((run P init ops).dir d).changeID ≤ ((step P (run P init ops) op).1.dir d).changeID :=
  (step_ok (inv_reachable P ops) op).le.cid d

/-- An operation that changes the entry list of a directory (attaches, detaches or
replaces anything) strictly increases that directory's change counter … -/
theorem change_counter_strict (P : Params) (ops : List Op) (op : Op) (d : Nat)
    (hd : d < (run P init ops).dirs.length)
    (hmod : ((step P (run P init ops) op).1.dir d).entries ≠ ((run P init ops).dir d).entries) :
    ((run P init ops).dir d).changeID < ((step P (run P init ops) op).1.dir d).changeID := by
  have hle := (step_ok (inv_reachable P ops) op).le
  have h1 := hle.cid d
  by_cases he : ((step P (run P init ops) op).1.dir d).changeID = ((run P init ops).dir d).changeID
  · exact absurd (hle.same d hd he) hmod
  · omega

/-- … and not otherwise: an operation that does not return OK leaves every
(materialised) directory exactly as it was — entries, cookies, change counter,
tombstone.  (A directory that is still defined by its `InitialContentsFetcher`
may get materialised by the failing call; that is the only effect.) -/
theorem change_counter_failed_op (P : Params) (s : Store) (op : Op) (d : Nat)
    (hfail : (step P s op).2.status ≠ .ok) (hd : d < s.dirs.length) (hmat : (s.dir d).lazy = none) :
    (step P s op).1.dir d = s.dir d := by
  rcases step_fail P s op with h | h
  · exact absurd h hfail
  · exact h.onlyMat.2 d hd hmat

/-- Operations that only read (lookup, listings, attributes, FilterChildren's
traversal, InstallHooks) leave every materialised directory exactly as it was. -/
theorem change_counter_read_only (P : Params) (s : Store) (op : Op) (d : Nat) (hro : readOnly op = true)
    (hd : d < s.dirs.length) (hmat : (s.dir d).lazy = none) :
    (step P s op).1.dir d = s.dir d := by
  unfold step
  split
  · exact (exec_readOnly P s op hro).onlyMat.2 d hd hmat
  · rfl

/-- `ChangeInfo` of a successful create (mkdir / mknod / open-create / link) on a
materialised directory: `Before` is the counter before the call, `After` the
counter after it, and `After = Before + 1`. -/
theorem change_info_create (P : Params) (s : Store) (op : Op) (d : Nat)
    (hop : (∃ n, op = .mkdir d n) ∨ (∃ n k, op = .mknod d n k) ∨ (∃ n, op = .openc d n true false) ∨ (∃ n l, op = .link d n l))
    (hmat : (s.dir d).lazy = none) (hok : (step P s op).2.status = .ok) :
    (step P s op).2.ci = [((s.dir d).changeID, ((step P s op).1.dir d).changeID)] ∧
    ((step P s op).1.dir d).changeID = (s.dir d).changeID + 1 :=
  ci_create P s op d hop hmat hok

/-! ## deleted_rejects -/

/-- After removal, every create / link / mkdir / mknod / rename-into / CreateChildren /
CreateAndEnterPrepopulatedDirectory on that directory yields NOENT and changes
nothing in it. -/
theorem deleted_rejects (P : Params) (ops : List Op) (d : Nat) (op : Op)
    (hd : d < (run P init ops).dirs.length)
    (hdel : ((run P init ops).dir d).deleted = true)
    (hop : creatingIn (run P init ops) d op = true) (hv : validOp (run P init ops) op = true) :
    (step P (run P init ops) op).2.status = .noent ∧
    (step P (run P init ops) op).1.dir d = (run P init ops).dir d :=
  deleted_rejects_step P (run P init ops) d op (inv_reachable P ops) hdel hop hv

/-! ## readdir_exactly_once -/

/-- For any interleaving of arbitrary operation lists with the pages of a listing
of directory `d` (each page resumed from the cookie returned with the last entry
of the previous page, any page sizes): the reported cookies strictly increase
over the whole listing, hence no entry is reported twice; every report is an
entry that is in the directory at the time of its page, with its name and child,
and never a hidden leaf. -/
theorem readdir_no_duplicates (P : Params) (ops : List Op) (d : Nat) (segs : List (List Op × Nat))
    (hd : d < (run P init ops).dirs.length) :
    let pages := listing P d (run P init ops) 0 segs
    (allReports pages).Pairwise (fun a b => a.cookie < b.cookie) ∧
    (allReports pages).Nodup ∧
    (∀ p ∈ pages, ∀ r ∈ p.2.reports, ∃ e ∈ (p.1.dir d).entries,
        r = ⟨e.cookie + 1, e.name, e.child⟩ ∧ (e.child.isDir = true ∨ P.hidden e.name = false)) := by
  intro pages
  have h := inv_reachable P ops
  have hc := listing_cookies (P := P) d segs _ 0 h
  refine ⟨hc.1, ?_, ?_⟩
  · exact hc.1.imp (by intro a b hab heq; subst heq; omega)
  · intro p hp r hr
    obtain ⟨e, he, hre, hv⟩ := listing_sound (P := P) d segs _ 0 h p hp r hr
    refine ⟨e, he, hre, ?_⟩
    unfold visible at hv
    cases hdir : e.child.isDir <;> simp_all

/-- … and when the listing ran to its end (every page asked for at least one
entry, the last page came back OK and short), every entry — the same entry
record: name, cookie, child — that is in the directory at every page of the
listing and is not a hidden leaf is reported exactly once. -/
theorem readdir_exactly_once (P : Params) (ops : List Op) (d : Nat) (segs : List (List Op × Nat)) (e : Entry)
    (hd : d < (run P init ops).dirs.length)
    (hk : ∀ seg ∈ segs, 1 ≤ seg.2)
    (hfin : finished segs (listing P d (run P init ops) 0 segs))
    (hvis : e.child.isDir = true ∨ P.hidden e.name = false)
    (hpres : ∀ p ∈ listing P d (run P init ops) 0 segs, e ∈ (p.1.dir d).entries) :
    (allReports (listing P d (run P init ops) 0 segs)).count ⟨e.cookie + 1, e.name, e.child⟩ = 1 := by
  have h := inv_reachable P ops
  have hv : visible P e = true := by
    unfold visible; rcases hvis with h1 | h1 <;> simp [h1]
  have hmem := listing_complete (P := P) d e hv segs _ 0 h hk (Nat.zero_le _) hpres hfin
  have hnd := (readdir_no_duplicates P ops d segs hd).2.1
  rw [hnd.count]
  simp [entryReportOf] at hmem
  simp [hmem]

/-- Resuming from an arbitrary cookie `c` (any cookie returned earlier, by this or
another listing): a page reports, in cookie order, exactly the first `k` entries
with cookie ≥ `c` that are not hidden leaves — nothing before `c`, nothing
skipped. -/
theorem readdir_resume_any_cookie (P : Params) (ops : List Op) (d c k : Nat)
    (hd : d < (run P init ops).dirs.length)
    (hok : (vreaddir P (run P init ops) d c k).2.status = .ok) :
    (vreaddir P (run P init ops) d c k).2.reports =
      (((((vreaddir P (run P init ops) d c k).1.dir d).entries.filter (fun e => c ≤ e.cookie)).filter
          (fun e => e.child.isDir || !P.hidden e.name)).take k).map (fun e => ⟨e.cookie + 1, e.name, e.child⟩) := by
  have pf := pageFacts (inv_reachable P ops) d c k
  rcases pf.cases with ⟨hne, _⟩ | ⟨_, hr⟩
  · exact absurd hok hne
  · rw [hr]; rfl

/-- `LookupAllChildren` and `ReadDir` list exactly the entries of the directory that
are not hidden leaves — each of them, once, with its own name and child. -/
theorem listings_exact (P : Params) (s : Store) (d : Nat) (op : Op)
    (hop : op = .lookupAll d ∨ op = .readDirB d) (hok : (exec P s op).2.status = .ok) :
    (∀ r, r ∈ (exec P s op).2.reports ↔
        ∃ e ∈ ((exec P s op).1.dir d).entries, (e.child.isDir || !P.hidden e.name) = true ∧ r = ⟨0, e.name, e.child⟩) ∧
    (exec P s op).2.reports.length =
      (((exec P s op).1.dir d).entries.filter (fun e => e.child.isDir || !P.hidden e.name)).length :=
  listing_calls_exact P s d op hop hok

/-- The recursive bulk removals (`RemoveAll`, `RemoveAllChildren`, the overwritten
entries of `CreateChildren`) always run to completion: the fuel of the work-list
form `removeTree` is sufficient, more fuel changes nothing. -/
theorem bulk_removal_complete (s : Store) (stack : List Nat) (extra : Nat) :
    removeTree (removeFuel s stack) s stack = removeTree (removeFuel s stack + extra) s stack :=
  removeFuel_sufficient s stack extra

/-! ## refines_posix -/

/-- `refines_posix`: the abstraction `abs : Store → FS` (forget the order of the
entries, cookies, change counters and ghost link counts; a directory becomes a
finite map from normalised names to (name, child)) commutes with *every*
operation, executed in any reachable store: the reference hierarchy
`Spec/Posix.lean` (textbook rules plus the documented deviations D1–D8) answers
with the same status code and the same child and ends in the abstraction of the
resulting store.  This covers the kernel-facing calls (mkdir, mknod, open/create,
link, lookup, remove, rename), LookupChild / Remove, the lazy expansion of
directories with all its failure cases, and the bulk calls:
CreateAndEnterPrepopulatedDirectory, CreateChildren (with and without overwrite,
including the panic outcome), RemoveAll and RemoveAllChildren — whose recursive
removal is specified declaratively (`destroy`: every directory reachable from the
removed one becomes a tombstone), also for hierarchies made cyclic by D1.
Listings, attribute reads, FilterChildren's traversal and InstallHooks are
`access` / `nop` steps of the reference (they at most expand a directory); what
they report is the subject of `listings_refine` and `filter_refines`. -/
theorem refines_posix (P : Params) (ops : List Op) (op : Op) (hv : validOp (run P init ops) op = true) :
    BbRe.Spec.Posix.step P.normalize P.hidden (abs (run P init ops)) (absOpAll op) =
      (abs (step P (run P init ops) op).1, (step P (run P init ops) op).2.status,
        (step P (run P init ops) op).2.child) :=
  refines_step_all P (run P init ops) op (inv_reachable P ops) hv

/-- `FilterChildren` changes nothing, makes at most `limit` callbacks, and every
callback gets either a leaf entry `(owner, name, leaf)` of a directory at or below
`d` or a still pending directory at or below `d` of the reference hierarchy (the
removers handed to the callback are `Remove(name)` on the owner and
`RemoveAllChildren(false)` on the pending directory — ordinary operations, covered
by `refines_posix` whether they run inside the callback or later). -/
theorem filter_refines (P : Params) (ops : List Op) (d limit : Nat) :
    (filterChildren (run P init ops) d limit).1 = run P init ops ∧
    (filterChildren (run P init ops) d limit).2.status = .ok ∧
    (filterChildren (run P init ops) d limit).2.reports.length ≤ limit ∧
    ∀ r ∈ (filterChildren (run P init ops) d limit).2.reports,
      BbRe.Spec.Posix.filterItem (abs (run P init ops)) d r.cookie r.name r.child :=
  BbRe.Lemmas.Dir.filter_refines P (run P init ops) d limit (inv_reachable P ops)

/-- What `LookupAllChildren` / `ReadDir` list, in terms of the reference hierarchy:
exactly the (name, child) pairs of the abstract directory that are not hidden leaves. -/
theorem listings_refine (P : Params) (ops : List Op) (d : Nat) (op : Op)
    (hop : op = .lookupAll d ∨ op = .readDirB d) (hd : d < (run P init ops).dirs.length)
    (hok : (exec P (run P init ops) op).2.status = .ok) (name : Nat) (c : Child) :
    (⟨0, name, c⟩ : Report) ∈ (exec P (run P init ops) op).2.reports ↔
      ((∃ n, ((abs (exec P (run P init ops) op).1).dir d).entries n = some (name, c)) ∧
        (c.isDir || !P.hidden name) = true) := by
  have hv : validOp (run P init ops) op = true := by rcases hop with rfl | rfl <;> simpa [validOp] using hd
  have hinv : Inv P (exec P (run P init ops) op).1 := by
    have := step_ok (inv_reachable P ops) op
    unfold step at this; rw [if_pos hv] at this; exact this.inv
  have hx := (listing_calls_exact P (run P init ops) d op hop hok).1 ⟨0, name, c⟩
  rw [hx, abs_dir]
  constructor
  · rintro ⟨e, he, hvis, heq⟩
    have hn : name = e.name := by injection heq
    have hc : c = e.child := by injection heq
    subst hn hc
    exact ⟨(listing_entries_abs (hinv.dirOK d) e.name e.child).mp ⟨e, he, rfl, rfl⟩, hvis⟩
  · rintro ⟨hent, hvis⟩
    obtain ⟨e, he, rfl, rfl⟩ := (listing_entries_abs (hinv.dirOK d) name c).mpr hent
    exact ⟨e, he, hvis, rfl⟩

/-! ## non-vacuity -/

/-- Names 0..9, name 9 is hidden, names 5..8 normalise to 1..4 ("case folding"). -/
def exP : Params := { normalize := fun n => if 5 ≤ n ∧ n ≤ 8 then n - 4 else n, hidden := fun n => n == 9 }

/-- root; mkdir 1,2; create 3, hidden 9; rmdir 2 … -/
def exOps : List Op :=
  [.newRoot 0, .mkdir 0 1, .mkdir 0 2, .openc 0 3 true false, .openc 0 9 true false, .link 0 4 0,
   .mkdir 1 1, .rename 0 3 1 2, .vremove 0 2 true false]

-- a reachable store with directories, hard links, a hidden file and a tombstone
example : ((run exP init exOps).dir 0).entries.length = 3 ∧ ((run exP init exOps).dir 2).deleted = true ∧
    ((run exP init exOps).leaf 0).links = 2 := by decide +kernel

-- `deleted_rejects` has instances: directory 2 is deleted and `mkdir 2 1` is a valid creating operation
example : 2 < (run exP init exOps).dirs.length ∧ ((run exP init exOps).dir 2).deleted = true ∧
    creatingIn (run exP init exOps) 2 (.mkdir 2 1) = true ∧ validOp (run exP init exOps) (.mkdir 2 1) = true := by decide +kernel

-- `change_counter_strict` has instances (`mkdir 1 3` modifies directory 1); `change_counter_failed_op` too:
-- `mkdir 0 5` is EEXIST (5 folds to 1)
example : ((step exP (run exP init exOps) (.mkdir 1 3)).1.dir 1).entries ≠ ((run exP init exOps).dir 1).entries := by decide +kernel
example : (step exP (run exP init exOps) (.mkdir 0 5)).2.status = .exist := by decide +kernel

/-- A listing of directory 0 in three pages of size 2, with a removal and a creation in between. -/
def exSegs : List (List Op × Nat) := [([], 2), ([.vremove 0 4 false true, .mkdir 0 2], 2), ([], 2)]

-- the hypotheses of `readdir_exactly_once` hold for the entry of name 1 (cookie 0): the listing
-- finishes, the entry is there at every page (entry 4 is removed after page 1, entry 2 appears
-- after page 1, the hidden file 9 is there all the time), and three entries are reported in total
example : finished exSegs (listing exP 0 (run exP init exOps) 0 exSegs) := by
  simp only [exSegs, listing_cons, listing, finished]
  decide +kernel
example : ∀ p ∈ listing exP 0 (run exP init exOps) 0 exSegs, (⟨1, 1, 0, .dir 1⟩ : Entry) ∈ (p.1.dir 0).entries := by
  decide +kernel
example : (allReports (listing exP 0 (run exP init exOps) 0 exSegs)).map (fun r => r.name) = [1, 4, 2] := by decide +kernel

-- `refines_posix` has instances, e.g. a rename over an existing entry and a recursive removal in the example store
example : validOp (run exP init exOps) (.rename 0 4 1 2) = true ∧
    (step exP (run exP init exOps) (.rename 0 4 1 2)).2.status = .ok := by decide +kernel
example : validOp (run exP init exOps) (.removeAll 0 1) = true ∧
    (step exP (run exP init exOps) (.removeAll 0 1)).2.status = .ok ∧
    ((step exP (run exP init exOps) (.removeAll 0 1)).1.dir 3).deleted = true := by decide +kernel

end BbRe.Properties.C13
