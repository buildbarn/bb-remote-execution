import BbRe.Model.FilePool
import BbRe.Spec.ByteFile
import BbRe.Lemmas.FilePoolRefine
import BbRe.Lemmas.FilePoolAllocSpec
import BbRe.Lemmas.FilePoolSeek
import BbRe.Lemmas.FilePoolHistory
import BbRe.Lemmas.FilePoolOffset
/-!
# C15 (file half) — independent sparse files, sectors conserved

Property theorems about `Model/FilePool.lean`, the transcription of
`pkg/filesystem/pool/block_device_backed_file_pool.go`.  A history is a list of
`(Op, Oracle)`: the operation together with the environment's answers during
that call — the `SectorAllocator`'s answers (each checked by the model against
the interface contract of `sector_allocator.go`: `1 ≤ count ≤ maximum`, sectors
numbered from 1, on the device, currently free; anything else is rejected) and
the fault plan for device reads/writes and hole-source reads/seeks/`Truncate`/
`Close`.  All theorems quantify over every sector size `≥ 1`, every device
size, every number of files and every such history; `sector_conservation` and
`isolation` hold for *every* oracle (all failure positions).  A history is
*well-formed* (`WFOp`) when every `NewFile(holeSource, size)` gets a hole source
without data at or beyond `size` (see `hole_source.go`; `ZeroHoleSource`
always qualifies).  Helper lemmas: `BbRe/Lemmas/FilePool*.lean`; the byte-array
specification: `BbRe/Spec/ByteFile.lean`.
-/
namespace BbRe.Properties.C15
open BbRe.FilePool BbRe.Lemmas.FilePool BbRe.ByteFile

/-- the state after a history -/
abbrev after (c : Cfg) (ops : List (Op × Oracle)) : State := run (init c) ops

/-! ## the allocator is abstract -/

/-- **"For any allocator satisfying the abstract spec".**  The allocator answers that the model
accepts are exactly the `AllocOk` steps of `Spec/AllocSpec.lean` (the contract
`Properties/C15Alloc.lean` proves for the bitmap allocator): every accepted answer is such a step
on the abstraction of the model's allocated list, every answer the specification allows is
accepted, and `FreeList` under the specification's precondition has the specification's effect.
(An `AF` answer — allocation failure — is accepted in any state, which only widens the set of
allocators covered.) -/
theorem allocator_contract_is_AllocSpec (c : Cfg) (e : Env) (maximum first count : Nat) :
    (∀ e', e.alloc c maximum = (e', .ok first count) →
        AllocSpec.AllocOk c.nsec (absAlloc e.allocd) maximum first count (absAlloc e'.allocd)) ∧
      (∀ rest, e.answers = .range first count :: rest →
        AllocSpec.allocAnswerOk c.nsec (absAlloc e.allocd) maximum first count = true →
        (e.alloc c maximum).2 = .ok first count) ∧
      (∀ l, e.allocd.Nodup → AllocSpec.FreeListPre (absAlloc e.allocd) l →
        AllocSpec.FreeListPost (absAlloc e.allocd) l (absAlloc (e.freeList l).allocd) ∧
          (e.freeList l).dfree = e.dfree) :=
  ⟨fun _ h => alloc_ok_spec h, fun rest ha hok => alloc_accepts_spec rest ha hok,
    fun l hA hpre => freeList_spec_post e l hA hpre⟩

/-! ## sector conservation -/

/-- **`sector_conservation`**: in every reachable state — after any history,
including operations that failed at any device write, hole-source read,
allocation, hole-source `Truncate`/`Close` (every error path of
`writeToNewSectors` frees what it allocated) — the allocated set is exactly the
union of the files' non-zero sector entries, no sector is allocated twice, all
allocated sectors are on the device, and no sector was ever freed while not
allocated. -/
theorem sector_conservation (c : Cfg) (hss : 1 ≤ c.ss) (ops : List (Op × Oracle)) :
    let st := after c ops
    (∀ s, s ∈ st.allocd ↔ ∃ (i : Nat) (f : File), st.files[i]? = some f ∧ s ∈ f.sectors ∧ s ≠ 0) ∧
      st.allocd.Nodup ∧ st.dfree = false ∧ ∀ s ∈ st.allocd, 1 ≤ s ∧ s ≤ c.nsec := by
  intro st
  have h : Inv st := inv_run (inv_init c hss) ops
  have hcfg : st.cfg = c := run_cfg ops (init c)
  refine ⟨fun s => ⟨fun hs => ?_, ?_⟩, h.allocNodup, h.noDoubleFree, fun s hs => hcfg ▸ h.allocRange s hs⟩
  · obtain ⟨i, f, hf, hsf⟩ := h.noLeak s hs
    exact ⟨i, f, hf, hsf, by have := h.allocRange s hs; omega⟩
  · rintro ⟨i, f, hf, hsf, hs0⟩
    exact h.owned i f hf s hsf hs0

/-- After closing all files nothing is allocated: the full capacity is available again. -/
theorem all_closed_nothing_allocated (c : Cfg) (hss : 1 ≤ c.ss) (ops : List (Op × Oracle))
    (hclosed : ∀ f ∈ (after c ops).files, f.closed = true) : (after c ops).allocd = [] := by
  have h : Inv (after c ops) := inv_run (inv_init c hss) ops
  cases hA : (after c ops).allocd with
  | nil => rfl
  | cons s rest =>
    exfalso
    obtain ⟨i, f, hf, hsf⟩ := h.noLeak s (by rw [hA]; exact List.mem_cons_self)
    have hmem : f ∈ (after c ops).files := List.mem_of_getElem? hf
    rw [h.closedEmpty i f hf (hclosed f hmem)] at hsf
    cases hsf

/-- `Close` (whether or not the hole source's `Close` fails) returns every sector of the file. -/
theorem close_frees_all (c : Cfg) (hss : 1 ≤ c.ss) (ops : List (Op × Oracle)) (i : Nat) (o : Oracle) (f : File)
    (hf : (after c ops).file? i = some f) :
    ∀ s ∈ f.sectors, s ≠ 0 → s ∉ (step (after c ops) (.close i) o).1.allocd :=
  step_close_frees (inv_run (inv_init c hss) ops) hf o

/-! ## isolation -/

/-- **`isolation`, sector lists** (`Inv.disjoint`): in every reachable state the
non-zero entries of all files' sector lists are pairwise distinct — within a
file and between files — and all of them are allocated. -/
theorem isolation_sectors (c : Cfg) (hss : 1 ≤ c.ss) (ops : List (Op × Oracle)) :
    let st := after c ops
    (∀ (i j : Nat) (f g : File), i ≠ j → st.files[i]? = some f → st.files[j]? = some g →
        ∀ s, s ≠ 0 → s ∈ f.sectors → s ∉ g.sectors) ∧
      (∀ (i : Nat) (f : File), st.files[i]? = some f → (f.sectors.filter (· ≠ 0)).Nodup) ∧
      (∀ (i : Nat) (f : File), st.files[i]? = some f → ∀ s ∈ f.sectors, s ≠ 0 → s ∈ st.allocd) := by
  intro st
  have h : Inv st := inv_run (inv_init c hss) ops
  exact ⟨h.disjoint, h.nodup, h.owned⟩

/-- **`isolation`, bytes**: whatever is done to one file — write, truncate, close, read, seek, with
any allocator answers and any failures — every other file keeps its entry and every byte readable
through it (its whole contents as a byte array) is unchanged. -/
theorem isolation (c : Cfg) (hss : 1 ≤ c.ss) (ops : List (Op × Oracle)) (op : Op) (o : Oracle)
    (j : Nat) (g : File) (hj : opTarget op ≠ some j) (hg : (after c ops).files[j]? = some g) :
    (step (after c ops) op o).1.files[j]? = some g ∧
      Eqv (absFile c.ss (step (after c ops) op o).1.dev g) (absFile c.ss (after c ops).dev g) := by
  have h : Inv (after c ops) := inv_run (inv_init c hss) ops
  obtain ⟨h1, h2⟩ := step_others h op o j g hj hg
  rw [show (after c ops).cfg = c from run_cfg ops (init c)] at h2
  exact ⟨h1, rfl, h2⟩

/-- **A re-used sector is fully overwritten before it becomes readable.**  When
`writeToNewSectors` succeeds, every byte of every sector it allocated — whatever
a previous owner left there — holds the written data or the hole source's
contents for that file offset; and on every path, success or failure, no byte
of any sector that was allocated before the call changes. -/
theorem new_sectors_fully_written (c : Cfg) (hole : Hole) (e e' : Env) (p : List FilePool.Byte)
    (idx ow n first got : Nat) (hss : 1 ≤ c.ss) (how : ow < c.ss) (hp : 0 < p.length)
    (hr : writeToNewSectors c hole e p idx ow = (e', .ok (n, first, got))) :
    (∀ j, j < got * c.ss → rd e'.dev ((first - 1) * c.ss + j) =
        if ow ≤ j ∧ j < ow + n then p.getD (j - ow) 0 else hole.read (idx * c.ss + j)) ∧
      (∀ t k, k < c.ss → t + 1 ∈ e.allocd → rd e'.dev (t * c.ss + k) = rd e.dev (t * c.ss + k)) := by
  obtain ⟨h1, _⟩ := wns_ok_dev hss how hr
  obtain ⟨_, _, _, _, _, _, _, hnmin⟩ := wns_ok hr
  refine ⟨fun j hj => ?_, fun t k hk ht => ?_⟩
  · rw [h1 j hj]
    unfold overlay
    have hl : (p.take n).length = n := by rw [List.length_take, hnmin]; omega
    rw [hl]
    split
    · rename_i hc; rw [getD_take _ _ _ (by omega)]
    · rfl
  · have := wns_frame (c := c) (h := hole) (e := e) (p := p) (idx := idx) hss how t k hk ht
    rw [hr] at this; exact this

/-! ## refinement of the byte-array specification -/

/-- In every state reachable by a well-formed history every file is a well-formed byte array
(nothing but zeros at or beyond its size, so growing it shows zeros). -/
theorem files_wellformed (c : Cfg) (hss : 1 ≤ c.ss) (ops : List (Op × Oracle)) (hwf : ∀ x ∈ ops, WFOp x.1)
    (i : Nat) (f : File) (hf : (after c ops).files[i]? = some f) : WF (absFile c.ss (after c ops).dev f) := by
  have h := inv2_run (inv2_init c hss) ops hwf
  have := h.files i f hf
  rw [show (after c ops).cfg = c from run_cfg ops (init c)] at this
  exact absFile_wf this

/-- **`file_refines_bytes`, `NewFile`**: the new file is the byte array of the hole source's first
`size` bytes. -/
theorem file_refines_bytes_new (c : Cfg) (ops : List (Op × Oracle)) (hole : Hole) (size : Nat)
    (hwf : hole.limit ≤ size) (o : Oracle) (ho : o.answers = []) :
    let st := after c ops
    (step st (.new hole size) o).2 = .created st.files.length ∧
      ∃ f, (step st (.new hole size) o).1.file? st.files.length = some f ∧
        Eqv (absFile c.ss (step st (.new hole size) o).1.dev f) (create hole.read size) := by
  intro st
  rw [step_new, finish_nil (show (st.env o).answers = [] from ho)]
  refine ⟨rfl, ⟨[], size, hole, false⟩, ?_, absFile_new _ _ hole size hwf⟩
  unfold State.file?; dsimp only; simp

/-- **`file_refines_bytes`, `ReadAt`**: in any state reachable by a well-formed history, a read without
device / hole-source read failures returns exactly what the byte-array specification returns —
the latest written bytes, hole-source contents where nothing was written, zeros after a
shrink-and-regrow — including the end-of-file behaviour; it changes nothing. -/
theorem file_refines_bytes_read (c : Cfg) (hss : 1 ≤ c.ss) (ops : List (Op × Oracle)) (i : Nat) (f : File)
    (hf : (after c ops).file? i = some f) (off n : Nat) (o : Oracle) (ho : o.answers = [])
    (hdr : o.faults.dr = none) (hhr : o.faults.hr = none) :
    let st := after c ops
    (step st (.read i off n) o).2 =
      .read (ByteFile.read (absFile c.ss st.dev f) off n).1
        (if (ByteFile.read (absFile c.ss st.dev f) off n).2 then some .eof else none) ∧
    (step st (.read i off n) o).1.files = st.files ∧ (step st (.read i off n) o).1.allocd = st.allocd := by
  have := step_read_refines (st := after c ops) (by rw [run_cfg]; exact hss) hf off n o ho hdr hhr
  rwa [run_cfg] at this

/-- negative offsets are rejected without touching anything -/
theorem negative_offsets_rejected (st : State) (i : Nat) (f : File) (hf : st.file? i = some f) (off : Int)
    (hneg : off < 0) (n : Nat) (p : List FilePool.Byte) (o : Oracle) (ho : o.answers = []) :
    (step st (.read i off n) o).2 = .read [] (some .invalid) ∧
      (step st (.write i off p) o).2 = .wrote 0 (some .invalid) ∧
      (step st (.trunc i off) o).2 = .done (some .invalid) ∧
      ∀ d, (step st (.seek i off d) o).2 = .offset (.error .invalid) := by
  have ho' : (st.env o).answers = [] := ho
  refine ⟨?_, ?_, ?_, fun d => ?_⟩ <;> (rw [step_open rfl hf]; dsimp only [fileOp])
  · unfold readAt; rw [if_pos hneg, finish_nil ho']
  · rw [writeAt_neg _ _ hneg, finish_nil ho']
  · rw [truncate_neg _ _ _ _ hneg, finish_nil ho']
  · unfold seek; rw [if_pos hneg, finish_nil ho']

/-- **`file_refines_bytes`, `WriteAt`**: in any reachable state and for *every* oracle (short
allocations, allocation failures, device and hole-source failures at any position): exactly the
`n` bytes reported written are written, as `ByteFile.write` says (the size grows to `off+n` if
needed, a gap reads as zeros); nothing else of the file changes; no error means all of `p` was
written; and none of the panics of the Go code (`incrementSectorIndex`, `insertSectorsContiguous`)
is reachable. -/
theorem file_refines_bytes_write (c : Cfg) (hss : 1 ≤ c.ss) (ops : List (Op × Oracle)) (i : Nat) (f : File)
    (hf : (after c ops).file? i = some f) (off : Nat) (p : List FilePool.Byte) (o : Oracle)
    (n : Nat) (err : Option Err) (hout : (step (after c ops) (.write i off p) o).2 = .wrote n err) :
    ∃ f', (step (after c ops) (.write i off p) o).1.file? i = some f' ∧
      Eqv (absFile c.ss (step (after c ops) (.write i off p) o).1.dev f')
        (ByteFile.write (absFile c.ss (after c ops).dev f) off (p.take n)) ∧
      n ≤ p.length ∧ (err = none → n = p.length) ∧ err ≠ some .panic := by
  have := step_write_refines (inv_run (inv_init c hss) ops) hf off p o hout
  rwa [run_cfg] at this

/-- **`file_refines_bytes`, `Truncate`**: in any state reachable by a well-formed history, a
`Truncate` that reports success is `ByteFile.truncate`: bytes below the new size are kept, everything
from the new size on reads as zero — immediately and after growing the file again (shrink-then-grow
never brings back old data or old hole-source contents). -/
theorem file_refines_bytes_truncate (c : Cfg) (hss : 1 ≤ c.ss) (ops : List (Op × Oracle))
    (hwf : ∀ x ∈ ops, WFOp x.1) (i : Nat) (f : File) (hf : (after c ops).file? i = some f) (sz : Nat)
    (o : Oracle) (hout : (step (after c ops) (.trunc i sz) o).2 = .done none) :
    ∃ f', (step (after c ops) (.trunc i sz) o).1.file? i = some f' ∧
      Eqv (absFile c.ss (step (after c ops) (.trunc i sz) o).1.dev f')
        (ByteFile.truncate (absFile c.ss (after c ops).dev f) sz) := by
  have := step_trunc_refines (inv2_run (inv2_init c hss) ops hwf) hf sz o hout
  rwa [run_cfg] at this

/-- **`file_refines_bytes`, `Len`**. -/
theorem file_refines_bytes_len (st : State) (i : Nat) (f : File) (hf : st.file? i = some f) (o : Oracle)
    (ho : o.answers = []) (ss : Nat) :
    (step st (.len i) o).2 = .len (absFile ss st.dev f).size := by
  rw [step_open rfl hf]
  dsimp only [fileOp]
  rw [finish_nil (show (st.env o).answers = [] from ho)]
  rfl

/-- **`file_refines_bytes`, `GetNextRegionOffset`**: in any state reachable by a well-formed history,
for an offset inside the file and without a hole-source seek failure, the result agrees with the
file's data/hole map at sector granularity (`dataAt`: the sector is allocated, or the hole source
has data there): `Data` returns the least data offset `≥ off` or `io.EOF` when there is none;
`Hole` returns the least hole offset `≥ off`, or the file size (the implicit hole at the end).
The scan for the next allocated sector never runs off the sector list (lists never end in a hole). -/
theorem file_refines_bytes_seek (c : Cfg) (hss : 1 ≤ c.ss) (ops : List (Op × Oracle))
    (hwf : ∀ x ∈ ops, WFOp x.1) (i : Nat) (f : File) (hf : (after c ops).file? i = some f) (off : Nat)
    (hoff : off < f.size) (data : Bool) (o : Oracle) (ho : o.answers = []) (hs : o.faults.hs = none) :
    (data = true →
        (∃ j, (step (after c ops) (.seek i off data) o).2 = .offset (.ok j) ∧ off ≤ j ∧ dataAt c f j ∧
            ∀ k, off ≤ k → k < j → ¬ dataAt c f k) ∨
          ((step (after c ops) (.seek i off data) o).2 = .offset (.error .eof) ∧
            ∀ k, off ≤ k → ¬ dataAt c f k)) ∧
      (data = false →
        ∃ j, (step (after c ops) (.seek i off data) o).2 = .offset (.ok j) ∧ off ≤ j ∧ j ≤ f.size ∧
          (∀ k, off ≤ k → k < j → dataAt c f k) ∧ (j < f.size → ¬ dataAt c f j)) := by
  have := step_seek_spec (inv2_run (inv2_init c hss) ops hwf) hf off hoff data o ho hs
  rwa [run_cfg] at this

/-! ## history-level refinement -/

/-- **`file_refines_bytes`** (history level).  Run the model and the per-file byte-array
specification side by side over *any* history — any number of files, any allocator answers the
allocator contract admits, any fault oracle — that is well-formed (`hwf`: every
`NewFile(holeSource, size)` gets a hole source without data at or beyond `size`).  Then the
abstraction `absFiles` (the list of the pool's files as byte arrays, `none` = closed) moves by
specification steps (`SpecRun`/`SpecStep` in `Lemmas/FilePoolHistory.lean`) that produce exactly the
model's outputs:
* `NewFile`: a new entry `ByteFile.create holeSource.read size`;
* `ReadAt`: without read faults exactly `ByteFile.read` (bytes and `io.EOF`); with read faults a
  prefix of those bytes; never a panic; nothing changes;
* `WriteAt`, every oracle: count `n ≤ |p|`, `n = |p|` when no error, the entry becomes
  `ByteFile.write b off (p.take n)` (also on failure: exactly the bytes reported written), no panic;
* `Truncate`: on success `ByteFile.truncate b size`; on failure the size and all bytes below the
  requested size are unchanged and the entry is still well-formed (zeros beyond its size);
* `Len`: the size; `GetNextRegionOffset` (no seek fault): the least data / hole offset of a data
  map whose holes read as zero (`SeekOk`; `file_refines_bytes_seek` pins the map to sector
  granularity); `Close`: the entry becomes closed;
* negative offsets are refused, operations on closed or unknown ids answer `noFile`; and in
  every step all *other* entries stay the same byte arrays. -/
theorem file_refines_bytes (c : Cfg) (hss : 1 ≤ c.ss) (ops : List (Op × Oracle)) (hwf : ∀ x ∈ ops, WFOp x.1) :
    SpecRun [] ops (outputs (init c) ops) (absFiles (after c ops)) :=
  spec_run (inv2_init c hss) ops hwf

/-! ## the hole sources that exist in this repository -/

/-- the model's rendering of `pool.ZeroHoleSource` -/
def zeroHoleSource : Hole := { tag := 0, g := 1, m := 1, d := 0, salt := 0, limit := 0, eofStyle := false }

/-- it behaves as `hole_source.go` says: reads give null bytes, `Data` seeks give `io.EOF`, `Hole` seeks
give the offset itself, `Truncate` changes nothing. -/
theorem zeroHoleSource_behaviour (i s : Nat) :
    zeroHoleSource.read i = 0 ∧ zeroHoleSource.nextData i = none ∧ zeroHoleSource.nextHole i = some i ∧
      zeroHoleSource.truncate s = zeroHoleSource := by
  refine ⟨rfl, ?_, ?_, ?_⟩
  · unfold Hole.nextData zeroHoleSource; simp [findFrom]
  · unfold Hole.nextHole zeroHoleSource; simp
  · simp [Hole.truncate, zeroHoleSource]

/-- **The observation of `notes/findings/C15-hole-source-beyond-size.md` cannot occur with the hole
sources used in this repository.**  The only hole source any caller passes to `NewFile`
(`pkg/filesystem/virtual/in_memory_prepopulated_directory.go`; the other callers forward their
argument) is `pool.ZeroHoleSource`, and `NewFile(ZeroHoleSource, size)` is well-formed for every
size — so every history that only uses it satisfies the hypothesis of `file_refines_bytes`. -/
theorem zeroHoleSource_wellformed (ops : List (Op × Oracle))
    (hz : ∀ x ∈ ops, ∀ hole size, x.1 = .new hole size → hole = zeroHoleSource) : ∀ x ∈ ops, WFOp x.1 := by
  intro x hx
  have key : ∀ op, x.1 = op → WFOp op := by
    intro op hop
    cases op with
    | new hole size =>
      have := hz x hx hole size hop
      subst this
      exact Nat.zero_le _
    | read _ _ _ => trivial
    | write _ _ _ => trivial
    | trunc _ _ => trivial
    | seek _ _ _ => trivial
    | len _ => trivial
    | close _ => trivial
  exact key x.1 rfl

def obsHole : Hole := { tag := 1, g := 1, m := 1, d := 1, salt := 5, limit := 100, eofStyle := false }

def obsHist : List (Op × Oracle) :=
  [(.new obsHole 4, {}), (.write 0 0 [170], { answers := [.range 1 1] }), (.trunc 0 2, {}), (.trunc 0 8, {})]

/-- ... and the hypothesis is needed: with a hole source that has data beyond the initial size
(here: data up to offset 100 under a file of size 4), after writing one byte, shrinking to 2 and
growing to 8, byte 4 reads the old hole-source contents (35), where the byte-array specification
(`ByteFile.shrink_then_grow`) demands 0. -/
theorem wellformedness_is_needed :
    ¬ WFOp (.new obsHole 4) ∧ (step (after ⟨8, 2⟩ obsHist) (.read 0 4 1) ({} : Oracle)).2 = .read [35] none := by
  refine ⟨?_, rfl⟩
  show ¬ (100 ≤ 4)
  omega

/-! ## machine arithmetic of `toDeviceOffset` -/

/-- **Device offsets do not wrap.**  `toDeviceOffset` as written in Go — 32-bit sector number,
widening *before* the 64-bit multiplication — is, for every sector number `1 … 2^32-1`, every sector
size `1 … 2^31` and every offset within the sector, exactly the natural number
`(sector-1)*sectorSizeBytes + offsetWithinSector` that `Model/FilePool.lean` computes with. -/
theorem device_offset_exact (sector : BitVec 32) (ss ow : BitVec 64) (hs : 1 ≤ sector.toNat)
    (hss : ss.toNat ≤ 2 ^ 31) (how : ow.toNat < ss.toNat) :
    (toDeviceOffset sector ss ow).toNat = (sector.toNat - 1) * ss.toNat + ow.toNat :=
  toDeviceOffset_toNat sector ss ow hs hss how

/-- **Distinct sectors occupy disjoint device ranges** (intervals `[(s-1)*ss, s*ss)`), for all
sector numbers below 2^32 and all sector sizes up to 2^31 — devices far beyond 4 GiB included. -/
theorem device_ranges_disjoint (s1 s2 : BitVec 32) (ss o1 o2 : BitVec 64) (h1 : 1 ≤ s1.toNat) (h2 : 1 ≤ s2.toNat)
    (hss : ss.toNat ≤ 2 ^ 31) (ho1 : o1.toNat < ss.toNat) (ho2 : o2.toNat < ss.toNat) (hne : s1 ≠ s2) :
    toDeviceOffset s1 ss o1 ≠ toDeviceOffset s2 ss o2 ∧
      (s1.toNat - 1) * ss.toNat ≤ (toDeviceOffset s1 ss o1).toNat ∧
      (toDeviceOffset s1 ss o1).toNat < s1.toNat * ss.toNat :=
  ⟨toDeviceOffset_disjoint s1 s2 ss o1 o2 h1 h2 hss ho1 ho2 hne, toDeviceOffset_range s1 ss o1 h1 hss ho1⟩

/-- The 64-bit product is needed: multiplying in 32 bits before widening maps sector `2^20+1` of a
device with 4 KiB sectors (the first sector beyond 4 GiB) onto sector 1. -/
theorem legacy32_multiplication_collides :
    toDeviceOffsetLegacy32 (2 ^ 20 + 1) 4096 0 = toDeviceOffsetLegacy32 1 4096 0 ∧
      toDeviceOffset (2 ^ 20 + 1) 4096 0 ≠ toDeviceOffset 1 4096 0 :=
  toDeviceOffsetLegacy32_collision

example : ∃ s1 s2 : BitVec 32, 1 ≤ s1.toNat ∧ 1 ≤ s2.toNat ∧ s1 ≠ s2 ∧ (4096 : BitVec 64).toNat ≤ 2 ^ 31 :=
  ⟨2 ^ 20 + 1, 1, by decide, by decide, by decide, by decide⟩

/-! ## Non-vacuity: a concrete history meeting the hypotheses used above

Two files over a non-zero hole source on a 4-sector device with 2-byte sectors: a fragmented
write through file 0 (three allocator answers), a shrinking truncate into the middle of a sector
(frees sectors 4 and 1), then a write through file 1 that re-uses sector 4 and fails at its first
device write (the sector is freed again). -/

def exHole : Hole := { tag := 1, g := 1, m := 1, d := 1, salt := 3, limit := 3, eofStyle := false }

def exHist : List (Op × Oracle) :=
  [(.new exHole 3, {}), (.new exHole 3, {}),
   (.write 0 1 [7, 8, 9, 10], { answers := [.range 2 1, .range 4 1, .range 1 1] }),
   (.trunc 0 2, {}),
   (.write 1 5 [5], { answers := [.range 4 1], faults := { dw := some (0, 0) } })]

example : ∀ x ∈ exHist, WFOp x.1 := by decide
example : (after ⟨2, 4⟩ exHist).allocd = [2] ∧
    (after ⟨2, 4⟩ exHist).files.map (fun f => (f.sectors, f.size)) = [([2], 2), ([], 3)] := by decide
/-- hypotheses `hf` / `hg` / `hj` of the refinement and isolation theorems -/
example : ((after ⟨2, 4⟩ exHist).file? 0).map (·.sectors) = some [2] ∧
    ((after ⟨2, 4⟩ exHist).files[1]?).map (·.size) = some 3 ∧ opTarget (.write 0 0 [1]) ≠ some 1 := by decide
/-- hypothesis `hout` of `file_refines_bytes_write`: a short write with an allocation failure -/
example : (step (after ⟨2, 4⟩ exHist) (.write 1 3 [1, 2, 3]) { answers := [.range 4 1, .fail] }).2 =
    .wrote 1 (some .alloc) := rfl
/-- hypothesis `hout` of `file_refines_bytes_truncate` -/
example : (step (after ⟨2, 4⟩ exHist) (.trunc 0 1) ({} : Oracle)).2 = .done none := rfl
/-- a read through file 0 sees hole-source byte 36 and the written 7 -/
example : (step (after ⟨2, 4⟩ exHist) (.read 0 0 9) ({} : Oracle)).2 = .read [36, 7] (some .eof) := rfl
/-- `GetNextRegionOffset`: file 0 = [hole-source data byte | sector 2]; no hole below the size -/
example : (step (after ⟨2, 4⟩ exHist) (.seek 0 0 false) ({} : Oracle)).2 = .offset (.ok 2) ∧
    (step (after ⟨2, 4⟩ exHist) (.seek 1 1 true) ({} : Oracle)).2 = .offset (.ok 1) := ⟨rfl, rfl⟩
/-- hypothesis `hclosed` of `all_closed_nothing_allocated` -/
example : ∀ f ∈ (after ⟨2, 4⟩ (exHist ++ [(.close 0, ({} : Oracle)),
    (.close 1, { faults := { hc := true } })])).files, f.closed = true := by decide
/-- `SpecStep` is not vacuous: a wrong `Len` answer is not a specification step -/
example : ∀ s', ¬ SpecStep [some ⟨2, fun _ => 0⟩] (.len 0) ({} : Oracle) (.len 5) s' := by
  intro s' h
  unfold SpecStep at h
  simp at h
/-- hypothesis `hr` of `new_sectors_fully_written` -/
example : (writeToNewSectors ⟨2, 4⟩ exHole ((after ⟨2, 4⟩ exHist).env { answers := [.range 3 2] })
    [5, 6, 7] 4 1).2 = .ok (3, 3, 2) := rfl

end BbRe.Properties.C15
