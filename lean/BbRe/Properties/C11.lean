import BbRe.Lemmas.SusClockLoop
import BbRe.Lemmas.SusClockIntervals
/-!
# C11 — execution timeouts fire, compensated but bounded

Property theorems about `Model/SusClock.lean`, the transcription of
`pkg/clock/suspendable_clock.go`.  They hold for **every** timeline `tl` of
`Suspend`/`Resume` calls (non-decreasing times, no `Resume` without an earlier
`Suspend`; arbitrary nesting and overlap), every timeout `d`, every
`maximumSuspension`, every positive `timeoutThreshold`, every creation time
`t0`, and every cancellation (absent, or at any time `≥ t0`, winning or losing
a tie against a wake-up at the same instant).

`fireL P g tl cn t0 d dlLate dlPre dv = .done r`: the context created by
`NewContextWithTimeout(parent, d)` at `t0` is done at `r.instant` with
`Err() = DeadlineExceeded` (`timeout`, `capped`) or `Canceled` (`cancelled`) and
`Value(UnsuspendedDurationKey{}) = r.dur`, when the successive base timer
expiries are handled as the oracle `dv` says: the expiry stamped `T` is handled
at `T + late ≤ T + g`, on the clock state reached after `pos` calls - i.e. any
`Suspend`/`Resume`/cancel events may happen between "timer `T` is due" and "its
value is handled by the goroutine" (the window in which the goroutine waits for
`c.lock` or is not scheduled).  `r.stamp` is the stamp of the last expiry,
`(r.pStamp, r.pAt)` stamp and handling instant of the one before.  The deadline
of the base context is delivered `dlLate` late.  `fire` is the prompt case
(`g = 0`, nothing late).  `NewTimer(d)` runs the same loop (`Stop` = cancel,
published value = `r.stamp`), so the results cover it too.

`unsuspended tl a b` is the specification: the number of unit intervals
`[τ, τ+1) ⊆ [a, b)` that no suspension covers.

Helper lemmas: `BbRe/Lemmas/SusClock*.lean`.
-/
namespace BbRe.Properties.C11
open BbRe.SusClock BbRe.Lemmas.SusClock

/-! ## Termination -/

/-- **Fuel elimination / no infinite postponement.** With a positive threshold the
re-arm loop never runs out of fuel, however late expiries are handled: at most
`maximumSuspension + dlLate + 2` iterations. No hypothesis on the timeline or the
oracle is needed. -/
theorem fire_total (P : Params) (g : Nat) (tl : List Ev) (cn : Option Cancel) (t0 d dlLate : Nat) (dlPre : Bool)
    (dv : List Delivery) (hthr : 1 ≤ P.thr) :
    fireL P g tl cn t0 d dlLate dlPre dv ≠ .outOfFuel :=
  fireL_total hthr t0 d dlLate dv

/-- The prompt run always completes with a result. -/
theorem fire_completes (P : Params) (tl : List Ev) (cn : Option Cancel) (t0 d : Nat) (hthr : 1 ≤ P.thr) :
    ∃ r, fire P tl cn t0 d = .done r :=
  fire_done P tl cn t0 d hthr

/-- The answer does not depend on the amount of fuel once there is enough. -/
theorem fuel_irrelevant (P : Params) (g : Nat) (tl : List Ev) (cn : Option Cancel) (t0 d dlLate : Nat)
    (dlPre : Bool) (dv : List Delivery) (r : Result)
    (h : fireL P g tl cn t0 d dlLate dlPre dv = .done r) (k : Nat) :
    loop P g tl cn ((clockAt tl t0).totalNow t0) ((clockAt tl t0).totalNow t0 + d)
      (t0 + d + P.maxSusp + dlLate) dlPre (fuelFor P dlLate + k) t0 d t0 dv = .done r :=
  loop_fuel_mono (o := .done r) nofun k _ _ _ _ _ h

/-! ## The guard of `getTotalUnsuspendedWithTime` -/

/-- **late_expiry_charge.** An expiry stamped `T` that is handled at `at_ ≥ T`, after
exactly `pos` calls of the timeline (some of them possibly later than `T`), is charged
`getTotalUnsuspendedWithTime(T)` on the current state. That value never under-counts
the stamp and never over-counts the present,
`unsuspTo T ≤ value ≤ unsuspTo at_`, and it is exactly the unsuspended time at the stamp
when no `Suspend` has intervened (count 0 and `unsuspensionStart < T`). (Dropping the
`now.After(unsuspensionStart)` guard breaks the lower bound: a `Resume` after `T` would
make `now.Sub(unsuspensionStart)` negative.) -/
theorem late_expiry_charge {tl : List Ev} (hs : Sorted tl) (hb : Balanced tl) {pos at_ T : Nat}
    (hv : validPos tl pos at_ = true) (hT : T ≤ at_) :
    unsuspTo tl T ≤ (stateAt tl pos).totalWithTime T ∧ (stateAt tl pos).totalWithTime T ≤ unsuspTo tl at_ ∧
    ((stateAt tl pos).cnt = 0 → (stateAt tl pos).us < T → (stateAt tl pos).totalWithTime T = unsuspTo tl T) :=
  charge_bracket hs hb hv hT

/-! ## Expiries handled late (at most `g` ticks) -/

/-- **wall_bound (late).** The context is done no later than the delivery of the base
deadline, `t0 + d + maximumSuspension + dlLate`; an expiry is handled within `g` of its stamp. -/
theorem wall_bound_late {P : Params} {g : Nat} {tl : List Ev} {cn : Option Cancel} {t0 d dlLate : Nat}
    {dlPre : Bool} {dv : List Delivery} {r : Result}
    (hs : Sorted tl) (hb : Balanced tl) (hcn : ∀ c, cn = some c → t0 ≤ c.t)
    (h : fireL P g tl cn t0 d dlLate dlPre dv = .done r) :
    t0 ≤ r.instant ∧ r.instant ≤ t0 + d + P.maxSusp + dlLate ∧
      r.stamp ≤ r.instant ∧ r.instant ≤ r.stamp + g := by
  have ok := fireL_ok hs hb hcn h
  exact ⟨Nat.le_trans ok.start ok.stampLe, ok.wall, ok.stampLe, ok.late⟩

/-- **reported_duration (late).** A cancelled or capped context reports exactly the
unsuspended time between creation and completion. A timed-out one reports the value charged
for its last expiry: at least the unsuspended time up to the stamp, at most the
unsuspended time up to the completion instant - never more than the command really ran. -/
theorem reported_duration_late {P : Params} {g : Nat} {tl : List Ev} {cn : Option Cancel} {t0 d dlLate : Nat}
    {dlPre : Bool} {dv : List Delivery} {r : Result}
    (hs : Sorted tl) (hb : Balanced tl) (hcn : ∀ c, cn = some c → t0 ≤ c.t)
    (h : fireL P g tl cn t0 d dlLate dlPre dv = .done r) :
    unsuspended tl t0 r.stamp ≤ r.dur ∧ r.dur ≤ unsuspended tl t0 r.instant ∧
      (r.reason ≠ .timeout → r.dur = unsuspended tl t0 r.instant) := by
  have ok := fireL_ok hs hb hcn h
  have hi := unsuspTo_eq_add tl (Nat.le_trans ok.start ok.stampLe)
  have hst := unsuspTo_eq_add tl ok.start
  have h1 := ok.durUp
  have h2 := ok.durLo
  exact ⟨by omega, by omega, fun hr => Nat.add_right_cancel (((ok.durExact hr).trans hi).trans (Nat.add_comm ..))⟩

/-- **fires_after_budget (late).** A timeout is never early, measured at the instant the
context is really cancelled (`d − thr < unsuspended(t0, instant)`), and at the stamp of
the expiry that caused it the budget is exceeded by at most the unsuspended time that
elapsed while the *previous* expiry was waiting to be handled. -/
theorem fires_after_budget_late {P : Params} {g : Nat} {tl : List Ev} {cn : Option Cancel} {t0 d dlLate : Nat}
    {dlPre : Bool} {dv : List Delivery} {r : Result}
    (hs : Sorted tl) (hb : Balanced tl) (hcn : ∀ c, cn = some c → t0 ≤ c.t)
    (h : fireL P g tl cn t0 d dlLate dlPre dv = .done r) (hr : r.reason = .timeout) :
    d < unsuspended tl t0 r.instant + P.thr ∧ d < r.dur + P.thr ∧
      unsuspended tl t0 r.stamp ≤ d + unsuspended tl r.pStamp r.pAt := by
  have ok := fireL_ok hs hb hcn h
  have hi := unsuspTo_eq_add tl (Nat.le_trans ok.start ok.stampLe)
  have hst := unsuspTo_eq_add tl ok.start
  have h1 := ok.timeout hr
  have h2 := ok.budgetStamp
  have h4 := ok.durUp
  omega

/-- **budget (late).** Whatever ends the context, when it ends the command has run at
most its timeout plus the unsuspended time that elapsed while the last two expiries were
waiting to be handled (`[pStamp, pAt)` and `[stamp, instant)`); hence at most `d + 2g`.
The reported duration obeys the same bound. This is the precise sense in which the
timeout is "never late" when the goroutine is. -/
theorem budget_late {P : Params} {g : Nat} {tl : List Ev} {cn : Option Cancel} {t0 d dlLate : Nat}
    {dlPre : Bool} {dv : List Delivery} {r : Result}
    (hs : Sorted tl) (hb : Balanced tl) (hcn : ∀ c, cn = some c → t0 ≤ c.t)
    (h : fireL P g tl cn t0 d dlLate dlPre dv = .done r) :
    unsuspended tl t0 r.instant ≤ d + unsuspended tl r.pStamp r.pAt + unsuspended tl r.stamp r.instant ∧
      r.dur ≤ d + unsuspended tl r.pStamp r.pAt + unsuspended tl r.stamp r.instant ∧
      unsuspended tl t0 r.instant ≤ d + 2 * g := by
  have ok := fireL_ok hs hb hcn h
  have hi := unsuspTo_eq_add tl (Nat.le_trans ok.start ok.stampLe)
  have hsplit := unsuspTo_eq_add tl ok.stampLe
  have h2 := ok.budgetStamp
  have h4 := ok.durUp
  have h5 := Nat.le_trans (unsuspended_le tl r.pStamp r.pAt) (Nat.sub_le_iff_le_add'.2 ok.prevLate)
  have h6 := Nat.le_trans (unsuspended_le tl r.stamp r.instant) (Nat.sub_le_iff_le_add'.2 ok.late)
  omega

/-- **not_early (late).** If at `t1` (before the wall bound) at most `d − thr` of unsuspended
time has run, then no `DeadlineExceeded` has been raised up to and including `t1`, however
late expiries are handled. -/
theorem not_early {P : Params} {g : Nat} {tl : List Ev} {cn : Option Cancel} {t0 d dlLate t1 : Nat}
    {dlPre : Bool} {dv : List Delivery} {r : Result}
    (hs : Sorted tl) (hb : Balanced tl) (hcn : ∀ c, cn = some c → t0 ≤ c.t)
    (h : fireL P g tl cn t0 d dlLate dlPre dv = .done r) (hr : r.reason ≠ .cancelled)
    (h01 : t0 ≤ t1) (hwall : t1 < t0 + d + P.maxSusp) (hbud : unsuspended tl t0 t1 + P.thr ≤ d) :
    t1 < r.instant := by
  have ok := fireL_ok hs hb hcn h
  cases hreason : r.reason with
  | cancelled => exact absurd hreason hr
  | capped => exact ok.capped hreason ▸ Nat.lt_of_lt_of_le hwall (Nat.le_add_right _ _)
  | timeout =>
    have h1 := ok.timeout hreason
    have h2 := ok.durUp
    have h3 := unsuspTo_eq_add tl h01
    refine Nat.lt_of_not_le fun hle => ?_
    have := unsuspTo_mono tl hle
    omega

/-- A cancellation is honoured at its own instant, and a context reported as
`Canceled` was in fact cancelled then (also with late expiries). -/
theorem cancel_prompt {P : Params} {g : Nat} {tl : List Ev} {c : Cancel} {t0 d dlLate : Nat}
    {dlPre : Bool} {dv : List Delivery} {r : Result}
    (hs : Sorted tl) (hb : Balanced tl) (hc : t0 ≤ c.t)
    (h : fireL P g tl (some c) t0 d dlLate dlPre dv = .done r) :
    r.instant ≤ c.t ∧ (r.reason = .cancelled → r.instant = c.t) := by
  have ok := fireL_ok hs hb (by intro c' hc'; cases hc'; exact hc) h
  refine ⟨ok.prompt c rfl, fun hr => ?_⟩
  obtain ⟨c', hc', ht⟩ := ok.cancelled hr
  cases hc'
  exact ht.symm

/-! ## Expiries handled when they are due (`fire`) -/

/-- **wall_bound.** The context is done no later than `t0 + d + maximumSuspension`. -/
theorem wall_bound {P : Params} {tl : List Ev} {cn : Option Cancel} {t0 d : Nat} {r : Result}
    (hs : Sorted tl) (hb : Balanced tl) (hcn : ∀ c, cn = some c → t0 ≤ c.t)
    (h : fire P tl cn t0 d = .done r) :
    t0 ≤ r.instant ∧ r.instant ≤ t0 + d + P.maxSusp := by
  have := wall_bound_late hs hb hcn h
  exact ⟨this.1, by simpa using this.2.1⟩

/-- **reported_duration.** `UnsuspendedDurationKey` is the unsuspended time between
creation and completion, for every completion reason. -/
theorem reported_duration {P : Params} {tl : List Ev} {cn : Option Cancel} {t0 d : Nat} {r : Result}
    (hs : Sorted tl) (hb : Balanced tl) (hcn : ∀ c, cn = some c → t0 ≤ c.t)
    (h : fire P tl cn t0 d = .done r) :
    r.dur = unsuspended tl t0 r.instant := by
  have hp := fire_prompt hs hb hcn h
  have hl := reported_duration_late hs hb hcn h
  rw [hp.2.1] at hl
  omega

/-- **fires_after_budget (1).** A timeout happens only when the unsuspended time
that has run is within one threshold below the timeout, and never above it:
`d − thr < unsuspended ≤ d`. -/
theorem fires_after_budget {P : Params} {tl : List Ev} {cn : Option Cancel} {t0 d : Nat} {r : Result}
    (hs : Sorted tl) (hb : Balanced tl) (hcn : ∀ c, cn = some c → t0 ≤ c.t)
    (h : fire P tl cn t0 d = .done r) (hr : r.reason = .timeout) :
    d < unsuspended tl t0 r.instant + P.thr ∧ unsuspended tl t0 r.instant ≤ d := by
  have hp := fire_prompt hs hb hcn h
  have hl := fires_after_budget_late hs hb hcn h hr
  rw [hp.2.1, hp.2.2] at hl
  omega

/-- The budget is never exceeded, whatever ends the context: at completion at most
`d` of unsuspended time has run (so the timeout is never late). -/
theorem budget_never_exceeded {P : Params} {tl : List Ev} {cn : Option Cancel} {t0 d : Nat} {r : Result}
    (hs : Sorted tl) (hb : Balanced tl) (hcn : ∀ c, cn = some c → t0 ≤ c.t)
    (h : fire P tl cn t0 d = .done r) :
    unsuspended tl t0 r.instant ≤ d := by
  -- `fire` is `fireL` with `g = 0` and nothing late, and the bound `d + 2 * 0` is `d`
  have h' : fireL P 0 tl cn t0 d 0 false [] = .done r := h
  exact (budget_late hs hb hcn h').2.2

/-- **Compensation is complete up to the cap.** The cap ends the context only after at
least `maximumSuspension` of stall time has really been excluded: when the reason is
`capped`, the suspended time in `[t0, instant)` is `≥ maximumSuspension` (and `instant`
is exactly the wall bound). Together with `fires_after_budget`: stall time is excluded
in full, but never more than the configured maximum. -/
theorem capped_only_after_max_compensation {P : Params} {tl : List Ev} {cn : Option Cancel} {t0 d : Nat}
    {r : Result} (hs : Sorted tl) (hb : Balanced tl) (hcn : ∀ c, cn = some c → t0 ≤ c.t)
    (h : fire P tl cn t0 d = .done r) (hr : r.reason = .capped) :
    r.instant = t0 + d + P.maxSusp ∧ P.maxSusp ≤ (r.instant - t0) - unsuspended tl t0 r.instant := by
  have ok := (fire_prompt hs hb hcn h).1
  have hi := ok.capped hr
  have hb' := budget_never_exceeded hs hb hcn h
  exact ⟨hi, by omega⟩

/-- **fires_after_budget (2): no infinite postponement.** Without a cancellation the
context does fire with `DeadlineExceeded`, at the latest at
`t0 + d + maximumSuspension`; if it is the cap that fired, it fired exactly then. -/
theorem fires_without_cancel (P : Params) (tl : List Ev) (t0 d : Nat)
    (hs : Sorted tl) (hb : Balanced tl) (hthr : 1 ≤ P.thr) :
    ∃ r, fire P tl none t0 d = .done r ∧ r.reason ≠ .cancelled ∧
      r.instant ≤ t0 + d + P.maxSusp ∧ (r.reason = .capped → r.instant = t0 + d + P.maxSusp) := by
  obtain ⟨r, h⟩ := fire_done P tl none t0 d hthr
  have ok := (fire_prompt hs hb (by intro c hc; cases hc) h).1
  refine ⟨r, h, ?_, ok.wall, ok.capped⟩
  intro hr
  obtain ⟨c, hc, _⟩ := ok.cancelled hr
  cases hc

/-- **not_early, as the executor uses it.** A command that ends at `t1` (the executor
then calls the `CancelFunc`) having used at most `d − thr` of unsuspended time, before the
wall bound, is not timed out: the context ends at `t1` with `Canceled`, and the reported
duration is the unsuspended time the command ran. -/
theorem finishes_in_budget {P : Params} {tl : List Ev} {t0 d t1 : Nat} {pre : Bool}
    (hs : Sorted tl) (hb : Balanced tl) (hthr : 1 ≤ P.thr)
    (h01 : t0 ≤ t1) (hwall : t1 < t0 + d + P.maxSusp) (hbud : unsuspended tl t0 t1 + P.thr ≤ d) :
    ∃ r, fire P tl (some ⟨t1, pre⟩) t0 d = .done r ∧ r.instant = t1 ∧ r.reason = .cancelled ∧
      r.dur = unsuspended tl t0 t1 := by
  obtain ⟨r, h⟩ := fire_done P tl (some ⟨t1, pre⟩) t0 d hthr
  have hcn : ∀ c, some (Cancel.mk t1 pre) = some c → t0 ≤ c.t := by
    intro c hc; cases hc; exact h01
  have hp := cancel_prompt hs hb (c := ⟨t1, pre⟩) h01 h
  have hreason : r.reason = .cancelled := by
    -- otherwise the context would end after `t1` (`not_early`), but a cancellation at `t1` is honoured by then
    apply Classical.byContradiction
    intro hr
    have hlate : t1 < r.instant := not_early hs hb hcn h hr h01 hwall hbud
    have hprompt : r.instant ≤ t1 := hp.1
    exact Nat.lt_irrefl _ (Nat.lt_of_lt_of_le hlate hprompt)
  have hinst : r.instant = t1 := hp.2 hreason
  have hdur := reported_duration hs hb hcn h
  exact ⟨r, h, hinst, hreason, by rw [hdur, hinst]⟩

/-! ## The executor (`localBuildExecutor.Execute`, run stage) -/

/-- **exec_virtual_duration.** For every timeline, every timeout and every way the command
ends (exit code 0 or not, runner error, never): the run stage ends no later than the wall
bound and the reported `virtual_execution_duration` is the unsuspended time the command ran. -/
theorem exec_virtual_duration (P : Params) (tl : List Ev) (t0 d : Nat) (fin : Option RunFinish)
    (hs : Sorted tl) (hb : Balanced tl) (hthr : 1 ≤ P.thr) (hfin : ∀ f, fin = some f → t0 ≤ f.t) :
    ∃ o, execRun P tl t0 d fin = some o ∧ o.virt = unsuspended tl t0 o.instant ∧
      t0 ≤ o.instant ∧ o.instant ≤ t0 + d + P.maxSusp ∧ o.virt ≤ d := by
  obtain ⟨r, h⟩ := fire_done P tl (fin.map fun f => ⟨f.t, f.pre⟩) t0 d hthr
  have hcn := cancel_map_le RunFinish.t RunFinish.pre hfin
  obtain ⟨code, ec, he, _⟩ := execRun_of_fire h
  have hd := reported_duration hs hb hcn h
  have hw := wall_bound hs hb hcn h
  exact ⟨_, he, hd, hw.1, hw.2, Nat.le_trans (Nat.le_of_eq hd) (budget_never_exceeded hs hb hcn h)⟩

/-- **exec_deadline.** `DEADLINE_EXCEEDED` is reported only if the command did not end by
itself first, and then it had used up its budget: `d − thr < virtual duration ≤ d`, or the
wall bound was reached. -/
theorem exec_deadline {P : Params} {tl : List Ev} {t0 d : Nat} {fin : Option RunFinish} {o : ExecResult}
    (hs : Sorted tl) (hb : Balanced tl) (hfin : ∀ f, fin = some f → t0 ≤ f.t)
    (h : execRun P tl t0 d fin = some o) (hc : o.code = .deadlineExceeded) :
    (∀ f, fin = some f → o.instant ≤ f.t) ∧ o.virt ≤ d ∧
      (d < o.virt + P.thr ∨ o.instant = t0 + d + P.maxSusp) := by
  have hcn := cancel_map_le RunFinish.t RunFinish.pre hfin
  cases hf : fire P tl (fin.map fun f => ⟨f.t, f.pre⟩) t0 d with
  | badOracle => rw [execRun, hf] at h; cases h
  | outOfFuel => rw [execRun, hf] at h; cases h
  | done r =>
    obtain ⟨code, ec, he, hcode⟩ := execRun_of_fire hf
    rw [he] at h
    cases h
    have ok := (fire_prompt hs hb hcn hf).1
    have hne : r.reason ≠ .cancelled := fun hr => by
      obtain ⟨c, hc', _⟩ := ok.cancelled hr
      rw [hcode hc hr] at hc'
      cases hc'
    have hd := reported_duration hs hb hcn hf
    refine ⟨fun f hf' => ?_, Nat.le_trans (Nat.le_of_eq hd) (budget_never_exceeded hs hb hcn hf), ?_⟩
    · subst hf'
      exact ok.prompt ⟨f.t, f.pre⟩ rfl
    · cases hr : r.reason with
      | cancelled => exact absurd hr hne
      | capped => exact .inr (ok.capped hr)
      | timeout =>
        exact .inl (Nat.lt_of_lt_of_eq (fires_after_budget hs hb hcn hf hr).1 (congrArg (· + P.thr) hd.symm))

/-- **exec_in_budget.** A command that ends by itself at `t1`, before the wall bound, having
run at most `d − thr` of unsuspended time, is reported with its own outcome (never
`DEADLINE_EXCEEDED`) and with virtual duration `unsuspended(t0, t1)` - whatever its exit code,
and also when the runner failed. -/
theorem exec_in_budget {P : Params} {tl : List Ev} {t0 d : Nat} {f : RunFinish}
    (hs : Sorted tl) (hb : Balanced tl) (hthr : 1 ≤ P.thr)
    (h01 : t0 ≤ f.t) (hwall : f.t < t0 + d + P.maxSusp) (hbud : unsuspended tl t0 f.t + P.thr ≤ d) :
    execRun P tl t0 d (some f) = some (match f.how with
      | .exit c => ⟨.ok, some c, unsuspended tl t0 f.t, f.t⟩
      | .failed => ⟨.runnerError, none, unsuspended tl t0 f.t, f.t⟩) := by
  obtain ⟨r, h, hi, hr, hd⟩ := finishes_in_budget (pre := f.pre) hs hb hthr h01 hwall hbud
  unfold execRun
  simp only [Option.map_some, h, hr]
  cases f.how <;> simp [hd, hi]

/-! ## The counters -/

/-- **nesting (counter form).** The clock's counters compute the measure of the time
not covered by any suspension: `getTotalUnsuspendedNow()` at `t` is the number of unit
intervals of `[0,t)` with covering depth `#Suspend − #Resume = 0`. The right-hand side
does not depend on the order of the calls. -/
theorem nesting_counter {tl : List Ev} (hs : Sorted tl) (hb : Balanced tl) (t : Nat) :
    (clockAt tl t).totalNow t = unsuspTo tl t ∧ (clockAt tl t).totalWithTime t = unsuspTo tl t :=
  ⟨clockAt_total hs hb t, clockAt_totalWithTime hs hb t⟩

/-- **nesting (interval form).** Let storage reads occupy the intervals `[s_i, r_i)`
(any overlaps, nestings, duplicates) and let the clock see their `Suspend@s_i` /
`Resume@r_i` calls in any sorted, balanced interleaving. Then the unsuspended total is
the measure of `[0,t)` minus the **union** of the intervals: a point covered by several
reads is excluded exactly once. -/
theorem nesting {ivs : List (Nat × Nat)} (hiv : ∀ iv ∈ ivs, iv.1 ≤ iv.2) {tl : List Ev}
    (hp : tl.Perm (eventsOf ivs)) (hs : Sorted tl) (hb : Balanced tl) (t : Nat) :
    (clockAt tl t).totalNow t = ((List.range t).filter (freeOf ivs)).length := by
  rw [clockAt_total hs hb]
  exact countFree_eq_filter _ _ t (fun τ _ => depthAt_zero_iff hiv hp τ)

/-- Calls made at the very instant of a timer expiry may be handled before or after
it: the value the loop reads is the same (so the model's choice "calls first" loses
no behaviour). -/
theorem same_instant_order_irrelevant (c : Clk) (e : Ev) :
    (c.apply e).totalNow e.time = c.totalNow e.time :=
  totalNow_apply c e

/-! ## Non-vacuity: concrete timelines meeting the hypotheses -/

/-- reads [12,20) and [15,30) overlap, [40,41) is short. -/
private def tlEx : List Ev :=
  [.suspend 12, .suspend 15, .resume 20, .resume 30, .suspend 40, .resume 41]

example : Sorted tlEx ∧ Balanced tlEx := ⟨rfl, rfl⟩
example : tlEx.Perm (eventsOf [(12, 20), (15, 30), (40, 41)]) := by decide +kernel
/-- d = 20 at t0 = 10: first expiry at 30 has 18 suspended ticks left, re-arm to 48; at 48 one
more tick (< thr = 2) is outstanding: timeout at 48 with 19 unsuspended ticks. -/
example : fire ⟨100, 2⟩ tlEx none 10 20 = .done ⟨48, .timeout, 19, 48, 30, 30⟩ := by decide +kernel
/-- the same context with a cap of 5 ticks is cut at 10 + 20 + 5. -/
example : fire ⟨5, 2⟩ tlEx none 10 20 = .done ⟨35, .capped, 7, 35, 30, 30⟩ := by decide +kernel
/-- a command ending at 45 (16 unsuspended ticks ≤ 20 − 2) is not timed out. -/
example : fire ⟨100, 2⟩ tlEx (some ⟨45, false⟩) 10 20 = .done ⟨45, .cancelled, 16, 45, 30, 30⟩ := by decide +kernel
example : unsuspended tlEx 10 45 = 16 ∧ unsuspended tlEx 10 48 = 19 := by decide +kernel
/-- cancel and expiry at the same instant: the flag decides. -/
example : fire ⟨100, 2⟩ tlEx (some ⟨48, true⟩) 10 20 = .done ⟨48, .cancelled, 19, 48, 30, 30⟩ ∧
    fire ⟨100, 2⟩ tlEx (some ⟨48, false⟩) 10 20 = .done ⟨48, .timeout, 19, 48, 30, 30⟩ := by decide +kernel

/-- Late handling, the scenario the `now.After` guard exists for: timeout 10 at t0 = 0; the timer is
due at 10; a read suspends at 10 and resumes at 15; only then (5 late, after both calls) the
expiry stamped 10 is handled. It is charged 10 = unsuspended(0,10): timeout at 15, reported 10. -/
example : fireL ⟨100, 1⟩ 5 [.suspend 10, .resume 15] none 0 10 0 false [⟨5, 2⟩] =
    .done ⟨15, .timeout, 10, 10, 0, 0⟩ := by decide +kernel
example : validPos [.suspend 10, .resume 15] 2 15 = true ∧ unsuspended [.suspend 10, .resume 15] 0 10 = 10 := by decide +kernel
/-- Late handling where the reported duration exceeds the timeout although the code is right:
nothing is suspended until 13, the expiry stamped 10 is handled at 15 after `Suspend@13`:
the command really ran 13 ticks, 13 = d + unsuspended(10,15) is reported (`budget_late` is tight). -/
example : fireL ⟨100, 1⟩ 5 [.suspend 13, .resume 20] none 0 10 0 false [⟨5, 1⟩] =
    .done ⟨15, .timeout, 13, 10, 0, 0⟩ ∧ unsuspended [.suspend 13, .resume 20] 10 15 = 3 := by decide +kernel
/-- The executor: 5 ticks of work, a 30-tick stall, then the command spins: `DEADLINE_EXCEEDED` at
40 with a virtual duration of 10 (not the 40 ticks of wall time); the same command exiting with
code 3 at 38 reports 8; a runner failure at 38 also reports 8. -/
example : execRun ⟨100, 1⟩ [.suspend 5, .resume 35] 0 10 none = some ⟨.deadlineExceeded, none, 10, 40⟩ ∧
    execRun ⟨100, 1⟩ [.suspend 5, .resume 35] 0 10 (some ⟨38, false, .exit 3⟩) = some ⟨.ok, some 3, 8, 38⟩ ∧
    execRun ⟨100, 1⟩ [.suspend 5, .resume 35] 0 10 (some ⟨38, false, .failed⟩) = some ⟨.runnerError, none, 8, 38⟩ := by
  decide +kernel
/-- A position that is not a position of the timeline at the handling instant is rejected. -/
example : fireL ⟨100, 1⟩ 5 [.suspend 13, .resume 20] none 0 10 0 false [⟨5, 2⟩] = .badOracle := by decide +kernel

end BbRe.Properties.C11
