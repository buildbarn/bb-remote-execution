import BbRe.Model.InputRoot
import BbRe.Lemmas.InputRootEquiv
import BbRe.Lemmas.InputRootSteps
import BbRe.Lemmas.InputRootFetch
import BbRe.Lemmas.InputRootEager
import BbRe.Lemmas.InputRootPaths
import BbRe.Lemmas.InputRootRename
import BbRe.Lemmas.InputRootState
import BbRe.Lemmas.InputRootCache
import BbRe.Lemmas.InputRootExamples
import BbRe.Lemmas.InputRootHardLink
/-!
# C17 — the input root is exactly the requested tree and cannot be altered

Property theorems about `Model/InputRoot.lean` (transcription of
`cas_initial_contents_fetcher.go`, of the lazy initialisation in
`in_memory_prepopulated_directory.go`, of `blob_access_cas_file_factory.go`, of
`virtualBuildDirectory.MergeDirectoryContents` and of
`caching_directory_fetcher.go`).  Helper lemmas are in `BbRe/Lemmas/InputRoot*.lean`.

Vocabulary (all defined in the lemma files, all computable or first order):

* `Equiv c a b` — `a` and `b` show the same names, kinds, digests, executable bits
  and symlink targets at every depth, where the contents of a directory that has
  not been initialised yet are what a fault-free fetch would produce
  (`equiv_iff`); `SEquiv` adds "same CAS".
* `expand c fuel n` — the eager tree: every directory that can be fetched is
  materialised, `fuel` levels deep.  `Eager c n` — nothing fetchable is left lazy.
* `WellFormed hl m` — all names valid, no name twice within or across the three
  lists, all digests well-formed, all symlink targets usable.
* `nodeAt c n p` — the node the path `p` denotes in the requested tree below `n`.
* `Node.lazy d mon`, `Node.file d x mon` — `mon = some p`: wrapped by the access
  monitoring fetcher for input root path `p` (`NewAccessMonitoringInitialContentsFetcher`);
  `Op.merge d true` merges with such a monitor. `Op.rename`, `Op.link` are
  `VirtualRename`, `VirtualLink`; all theorems about `step`/`run` include them.

Everything is quantified over **every** CAS content (no acyclicity needed except
for `eager_tree_is_eager`), every exploration/mutation history and every choice
of failing storage reads.
-/
namespace BbRe.Properties.C17
open BbRe.InputRoot BbRe.Lemmas.InputRoot BbRe.Lemmas.InputRoot.Ex

/-! ## `lazy_equals_eager` -/

/-- One fault-free operation cannot tell two equivalent trees apart, and keeps them
equivalent.  (`l` lazy, `e` eager is the intended reading; the statement is
symmetric.) -/
theorem lazy_equals_eager_step (l e : State) (op : Op) (h : SEquiv l e) :
    (step l [] op).2 = (step e [] op).2 ∧ SEquiv (step l [] op).1 (step e [] op).1 :=
  step_equiv l e op h

/-- **Every** fault-free history of explorations (lookup, readdir, open, read at any
path, in any order, any number of times) interleaved with local modifications
(remove, create, mkdir) and further merges produces the same outputs on the
lazily populated tree and on any equivalent tree — in particular (next
theorem) on the eagerly materialised one. -/
theorem lazy_equals_eager (l e : State) (h : SEquiv l e) (ops : List Op) :
    (run l (noFaults ops)).2 = (run e (noFaults ops)).2 ∧
    SEquiv (run l (noFaults ops)).1 (run e (noFaults ops)).1 := by
  have := run_sim id (fun l e op h => step_equiv l e op h) ops l e h
  rwa [List.map_id] at this

/-- What equivalence means, unfolded once: same kind (for a file: same digest and
executable bit; for a symlink: same target), and the contents — for a directory
that has not been initialised yet: what a fault-free fetch produces — either fail
with the same error or consist of the same names in the same order with
equivalent children. -/
theorem equiv_unfold (c : CAS) (a b : Node) :
    Equiv c a b ↔ kindOf a = kindOf b ∧ ContRel (Equiv c) (contents c [] a) (contents c [] b) :=
  equiv_iff c a b

/-- … hence at every path both trees denote nothing, or nodes of the same kind. -/
theorem equiv_same_observations (c : CAS) (a b : Node) (h : Equiv c a b) (p : Path) :
    (nodeAt c a p = none ∧ nodeAt c b p = none) ∨
    ∃ va vb, nodeAt c a p = some va ∧ nodeAt c b p = some vb ∧ kindOf va = kindOf vb ∧ Equiv c va vb := by
  rcases (nodeAt_equiv c p a b h).cases with h0 | ⟨va, vb, h1, h2, h3⟩
  · exact Or.inl h0
  · exact Or.inr ⟨va, vb, h1, h2, h3.kind, h3⟩

/-- The eager tree is equivalent to the lazy one, for every fuel. -/
theorem eager_tree_equiv (c : CAS) (fuel : Nat) (n : Node) : Equiv c (expand c fuel n) n :=
  expand_equiv c fuel n

/-- The lazily populated input root behaves, for every history, exactly like the
eager materialisation of the requested tree to which the same modifications are
applied. -/
theorem lazy_equals_eager_root (s : State) (fuel : Nat) (ops : List Op) :
    (run s (noFaults ops)).2 = (run ⟨s.cas, expand s.cas fuel s.root⟩ (noFaults ops)).2 :=
  (lazy_equals_eager s ⟨s.cas, expand s.cas fuel s.root⟩
    ⟨rfl, (expand_equiv s.cas fuel s.root).symm⟩ ops).1

/-- With fuel above the depth of the DAG below `d` the eager tree really is eager:
whatever is still lazy in it cannot be loaded (malformed or absent directory). -/
theorem eager_tree_is_eager (c : CAS) (rank : Dig → Nat) (hr : Acyclic c rank) (d : Dig)
    (mon : Option Path) (fuel : Nat) (hf : rank d < fuel) : Eager c (expand c fuel (.lazy d mon)) := by
  induction fuel generalizing d mon with
  | zero => omega
  | succ f ih =>
    intro p d0 m0 hp
    simp only [expand] at hp
    cases h : (fetch c [] d mon).result with
    | error e =>
      simp only [h] at hp
      cases p with
      | nil =>
        simp only [rawAt, Option.some.injEq, Node.lazy.injEq] at hp
        obtain ⟨rfl, rfl⟩ := hp
        exact ⟨e, h⟩
      | cons x rest => simp [rawAt] at hp
    | ok ch =>
      simp only [h] at hp
      obtain ⟨m, hm, _, hch⟩ := fetch_ok_spec c d mon ch h
      cases p with
      | nil => simp [rawAt] at hp
      | cons x rest =>
        simp only [rawAt, lookup_map] at hp
        cases hx : lookup ch x with
        | none => simp [hx] at hp
        | some v =>
          simp only [hx, Option.map] at hp
          have hmem := lookup_mem ch x v hx
          rw [hch] at hmem
          rcases mem_fetched _ _ _ _ _ hmem with ⟨e, he, d', a, hp', rfl⟩ | ⟨d', ex, a, rfl⟩ | ⟨t, rfl⟩
          · have hlt : rank d' < f := by
              have := hr d m hm e he d' hp'
              omega
            exact ih d' a hlt rest d0 m0 hp
          · rw [expand_file] at hp; cases rest <;> cases hp
          · rw [expand_sym] at hp; cases rest <;> cases hp

/-- Merging a digest into a fresh root and expanding is expanding the digest. -/
theorem merged_root_expand (c : CAS) (d : Dig) (ch : Children) (fuel : Nat)
    (h : (fetch c [] d none).result = .ok ch) :
    (merge (init c) [] d false).1.root = .dir ch ∧
    expand c (fuel + 1) (.dir ch) = expand c (fuel + 1) (.lazy d none) :=
  ⟨by rw [merge_init c d ch h], expand_merged c d ch fuel h⟩

/-- `exCAS` is a DAG of depth 2; fuel 3 leaves only the malformed `bad/` lazy. -/
example : Eager exCAS (expand exCAS 3 (.lazy dA none)) :=
  eager_tree_is_eager exCAS _ exCAS_acyclic dA none 3 (by decide)

/-- A history that looks below a shared subtree first, removes a CAS file, creates a
local one in its place and lists directories gives the same answers lazily and
eagerly; the listing shows the replaced entry as a local file. -/
example :
    (run (merge (init exCAS) [] dA false).1 (noFaults
      [.lookup [[115], [97]] [122], .remove [] [120], .create [] [120], .readdir [[115]],
       .leaf (.read 1 2) [[115]] [121], .lookup [] [120]])).2 =
    [.status .enoent, .ok, .ok, .listing [([97], .dir), ([121], .file f2 false)],
     .data [], .kind .loc] := by decide +kernel

/-! ## faults -/

/-- With storage faults an operation either is not affected at all, or fails with
an I/O error (`EIO`; `Unavailable` for a merge) and leaves an equivalent tree. -/
theorem fault_fails_or_unaffected (s : State) (F : List Dig) (op : Op) :
    step s F op = step s [] op ∨ (isFaultOut (step s F op).2 ∧ SEquiv (step s F op).1 s) :=
  step_fault s F op

/-- Lazy with faults against eager without: the operation agrees, or it fails with
an I/O error and the lazy tree is still equivalent to the eager tree *before*
the operation. -/
theorem lazy_with_faults (l e : State) (h : SEquiv l e) (F : List Dig) (op : Op) :
    ((step l F op).2 = (step e [] op).2 ∧ SEquiv (step l F op).1 (step e [] op).1) ∨
    (isFaultOut (step l F op).2 ∧ SEquiv (step l F op).1 e) := by
  rcases step_fault l F op with hf | ⟨h1, h2⟩
  · left; rw [hf]; exact step_equiv l e op h
  · right; exact ⟨h1, h2.trans h⟩

/-- A later retry agrees: after any number of operations that failed because of
faults, a fault-free operation answers what the eager tree answers. -/
theorem retry_agrees (l e : State) (h : SEquiv l e) (F : List Dig) (op op' : Op)
    (hfail : step l F op ≠ step l [] op) :
    (step (step l F op).1 [] op').2 = (step e [] op').2 := by
  rcases step_fault l F op with hf | ⟨_, h2⟩
  · exact absurd hf hfail
  · exact (step_equiv _ e op' (h2.trans h)).1

/-- Whole histories with arbitrary faults: the lazy tree always stays equivalent to
the eager tree that executed exactly the operations the faults did not hit;
`keep` marks them.  The outputs of the kept operations are the eager outputs,
all others are I/O errors. -/
theorem lazy_with_faults_history (hs : List (List Dig × Op)) :
    ∀ (l e : State), SEquiv l e →
    ∃ keep : List Bool, keep.length = hs.length ∧
      (let kept := (hs.zip keep).filterMap fun x => if x.2 then some x.1.2 else none
       let outs := ((run l hs).2.zip keep)
       (outs.filterMap fun x => if x.2 then some x.1 else none) = (run e (noFaults kept)).2 ∧
       (∀ x ∈ outs, x.2 = false → isFaultOut x.1) ∧
       SEquiv (run l hs).1 (run e (noFaults kept)).1) := by
  induction hs with
  | nil => intro l e h; exact ⟨[], rfl, rfl, by simp, h⟩
  | cons hd rest ih =>
    intro l e h
    obtain ⟨F, op⟩ := hd
    rcases lazy_with_faults l e h F op with ⟨h1, h2⟩ | ⟨h1, h2⟩ <;>
      obtain ⟨keep, hk, ho, hf, hs'⟩ := ih _ _ h2
    · refine ⟨true :: keep, congrArg (· + 1) hk, ?_⟩
      simp only [run, List.zip_cons_cons, List.filterMap_cons, noFaults, List.map_cons,
        List.forall_mem_cons, if_true] at ho ⊢
      exact ⟨by rw [ho, h1], ⟨nofun, hf⟩, hs'⟩
    · refine ⟨false :: keep, congrArg (· + 1) hk, ?_⟩
      simp only [run, List.zip_cons_cons, List.filterMap_cons, noFaults, List.forall_mem_cons,
        Bool.false_eq_true, if_false] at ho ⊢
      exact ⟨ho, ⟨fun _ => h1, hf⟩, hs'⟩

/-- A fault on the shared directory `c0` makes the listing fail; the retry gives the
listing; a fault on a digest that is not needed changes nothing. -/
example :
    (run (merge (init exCAS) [] dA false).1
      [([dC], .readdir [[104]]), ([], .readdir [[104]]), ([dB], .lookup [] [120])]).2 =
    [.status .eio, .listing [], .kind (.file f1 true)] := by decide +kernel

/-! ## `malformed_is_error` -/

/-- A malformed Directory message (an invalid name, a name that occurs twice within
or across the three lists, a malformed digest, an unusable symlink target) is
rejected as a whole: the fetch fails with `InvalidArgument`, no children are
returned, and every leaf created before the defect was found has been
unlinked. -/
theorem malformed_is_error (c : CAS) (F : List Dig) (d : Dig) (mon : Option Path) (m : DirMsg)
    (hF : d ∉ F) (hm : assoc c.dirs d = some (some m)) (hw : ¬ WellFormed c.hashLen m) :
    (fetch c F d mon).result = .error .invalidArgument ∧
    (fetch c F d mon).unlinked = (fetch c F d mon).created := by
  obtain ⟨k, hk⟩ := fetch_malformed c F d mon m hF hm hw
  rw [hk]; exact ⟨rfl, rfl⟩

/-- A blob that is not a Directory message at all is rejected the same way. -/
theorem garbage_is_error (c : CAS) (F : List Dig) (d : Dig) (mon : Option Path) (hF : d ∉ F)
    (hm : assoc c.dirs d = some none) :
    (fetch c F d mon).result = .error .invalidArgument ∧ (fetch c F d mon).created = 0 := by
  simp [fetch, fetchBase, hF, hm]

/-- Conversely a well-formed message is attached exactly: its children are the
entries of the message, nothing more, nothing less, nothing unlinked (the access
monitoring wrapper only annotates them with the monitor they report to). -/
theorem wellformed_is_exact (c : CAS) (F : List Dig) (d : Dig) (mon : Option Path) (m : DirMsg)
    (hF : d ∉ F) (hm : assoc c.dirs d = some (some m)) (hw : WellFormed c.hashLen m) :
    fetch c F d mon =
      ⟨.ok ((specChildren c.hashLen m).map (annotate mon)), m.files.length + m.syms.length, 0⟩ :=
  fetch_wellFormed c F d mon m hF hm hw

/-- Leaves are balanced in every case (also under faults). -/
theorem no_leaf_stays_linked (c : CAS) (F : List Dig) (d : Dig) (mon : Option Path) :
    match (fetch c F d mon).result with
    | .ok _ => (fetch c F d mon).unlinked = 0
    | .error _ => (fetch c F d mon).unlinked = (fetch c F d mon).created := by
  rcases fetchBase_cases c F d with ⟨e, k, h⟩ | ⟨m, _, _, h⟩ <;> simp only [fetch, h]

/-- All-or-nothing at the root: merging a digest whose message cannot be loaded
returns the error and changes nothing. -/
theorem malformed_root_not_merged (s : State) (F : List Dig) (d : Dig) (m : Bool) (e : Err)
    (h : (fetch s.cas F d (if m then some [] else none)).result = .error e) :
    merge s F d m = (s, .mergeErr e) := by
  simp [merge, h]

/-- Below the root: **every** operation whose path leads through a directory that
cannot be loaded fails with `EIO` — at the first access and at every later one,
whatever was explored or modified elsewhere, with or without faults. It never
yields a listing or a child (`firstPath`: the path of the directory the operation
works on; for link the directory of the source). -/
theorem malformed_never_a_tree (s : State) (F : List Dig) (op : Op) (p q : Path) (b : Node) (e : Err)
    (hpath : firstPath op = some (p ++ q))
    (hb : nodeAt s.cas s.root p = some b) (he : contents s.cas [] b = .err e) :
    (step s F op).2 = .status .eio := by
  have key := fun act => withDir_through_bad s.cas F act p q s.root b e hb he
  cases op <;> cases hpath
  case link => simp only [step, link, key actNop, ne_eq, reduceCtorEq, not_false_eq_true, if_true]
  all_goals exact key _

/-- Nor can anything be renamed out of, renamed into or linked into such a directory
or anything below it (`viaPaths`: the old and the new directory of a rename, the
target directory of a link; the caller's walk to the other directory may fail
first, so the error is not necessarily `EIO`). -/
theorem malformed_never_a_destination (s : State) (F : List Dig) (op : Op) (p q : Path) (b : Node)
    (e : Err) (hpath : (p ++ q) ∈ viaPaths op)
    (hb : nodeAt s.cas s.root p = some b) (he : contents s.cas [] b = .err e) :
    (step s F op).2 ≠ .ok := by
  have bad := fun t (ht : Equiv s.cas t s.root) act => through_bad_equiv ht hb he F act q
  have nopk := withDir_keeps s.cas F actNop (actNop_keeps s.cas)
  cases op with
  | rename p1 x1 p2 x2 =>
    have j2 := (walkTo_keeps s.cas F p2 _).trans (walkTo_keeps s.cas F p1 s.root)
    simp only [viaPaths, List.mem_cons, List.not_mem_nil, or_false] at hpath
    simp only [step]
    unfold rename
    refine stage_ne_ok fun _ => stage_ne_ok fun _ => ?_
    rcases hpath with rfl | rfl
    · exact stage_ne_ok fun h => by rw [bad _ j2] at h; cases h
    · refine stage_ne_ok fun _ => stage_ne_ok fun h => ?_
      rw [bad _ ((nopk p1 _).trans j2)] at h
      cases h
  | link ps xs pd xd =>
    simp only [viaPaths, List.mem_cons, List.not_mem_nil, or_false] at hpath
    subst hpath
    simp only [step]
    unfold link
    refine stage_ne_ok fun _ => ?_
    cases nodeAt s.cas _ (ps ++ [xs]) with
    | none => exact fun h => by cases h
    | some v =>
      dsimp only
      split
      · exact fun h => by cases h
      · rw [bad _ (nopk ps _)]; exact fun h => by cases h
  | _ => cases hpath

/-- … and the directory itself stays exactly as it was (still lazy: nothing attached). -/
theorem malformed_nothing_attached (c : CAS) (F : List Dig) (act : Children → Children × Out)
    (p : Path) (n : Node) (e : Err) (he : contents c [] n = .err e) :
    withDir c F act p n = (n, .status .eio) :=
  withDir_bad_unchanged c F act p n e he

/-- `dd` lists "y" as a file and as a symlink: not well-formed. -/
example : ¬ WellFormed exCAS.hashLen ⟨[], [⟨[121], raw f1, false⟩], [⟨[121], [116]⟩]⟩ := by
  intro ⟨_, h, _⟩
  simp [entryNames] at h

/-- The duplicate is found after the file leaf was created: created 1, unlinked 1;
through the tree: `bad/` is visible as a directory, reading it or anything below
gives `EIO`, merging it as a root gives `InvalidArgument`. -/
example : ((fetch exCAS [] dD none).created, (fetch exCAS [] dD (some [])).unlinked) = (1, 1) := by decide +kernel
example :
    (run (merge (init exCAS) [] dA false).1 (noFaults
      [.lookup [] [98], .readdir [[98]], .lookup [[98]] [121], .remove [] [98], .merge dD false])).2 =
    [.kind .dir, .status .eio, .status .eio, .status .eio, .mergeErr .invalidArgument] := by decide +kernel

/-! ## `cas_files_immutable` -/

/-- Every attempt to write, truncate, allocate, open for writing or change the size
of a CAS backed file is refused. -/
theorem cas_file_refuses (c : CAS) (F : List Dig) (op : LeafOp) (hw : isWriteAttempt op = true)
    (d : Dig) (x : Bool) (m : Option Path) : isRefusal (leafOut c F op (.file d x m)) := by
  cases op with
  | openWrite => exact .inl rfl
  | openTrunc => exact .inl rfl
  | setSize => exact .inl rfl
  | allocate => exact .inr (.inl rfl)
  | write => exact .inr (.inr rfl)
  | read off len => cases hw

/-- No operation of the model writes to the CAS. -/
theorem cas_unchanged (s : State) (hs : List (List Dig × Op)) : (run s hs).1.cas = s.cas :=
  run_cas s hs

/-- Through the tree, for every state reached in any way: a write attempt on a path
that denotes a CAS backed file is refused (or, if a fault is injected, fails
with `EIO`), the tree stays equivalent and the CAS is untouched. -/
theorem cas_files_immutable (s : State) (F : List Dig) (op : LeafOp) (hw : isWriteAttempt op = true)
    (p : Path) (x : Name) (d : Dig) (ex : Bool) (m : Option Path)
    (hn : nodeAt s.cas s.root (p ++ [x]) = some (.file d ex m)) :
    (isRefusal (step s F (.leaf op p x)).2 ∨ (step s F (.leaf op p x)).2 = .status .eio) ∧
    SEquiv (step s F (.leaf op p x)).1 s ∧ (step s F (.leaf op p x)).1.cas = s.cas := by
  refine ⟨?_, ⟨rfl, ?_⟩, rfl⟩
  · rcases withDir_fault s.cas F _ _ (actLeaf_fault s.cas F op x) p s.root with h | ⟨h1, _⟩
    · left
      simp only [step]
      rw [h, withDir_leaf_out s.cas [] op x p s.root _ hn]
      exact cas_file_refuses s.cas [] op hw d ex m
    · right; exact h1
  · exact withDir_keeps s.cas F _ (actLeaf_keeps s.cas F op x) p s.root

/-- Replacing or removing an entry changes only the local tree: whatever one action
does to its input root, a directory fetch or a file read of any digest gives
another action (or the same one, later) what it gave before. -/
theorem others_unaffected (s : State) (hs : List (List Dig × Op)) (F : List Dig) (d : Dig)
    (mon : Option Path) (op : LeafOp) (n : Node) :
    fetch (run s hs).1.cas F d mon = fetch s.cas F d mon ∧
    leafOut (run s hs).1.cas F op n = leafOut s.cas F op n := by
  rw [run_cas]; exact ⟨rfl, rfl⟩

/-- All five write attempts on the CAS file `x` are refused; removing the entry and
creating a local file under the same name is allowed, the local file accepts
writes; the file read through another path or a fresh merge is unchanged. -/
example :
    (run (merge (init exCAS) [] dA false).1 (noFaults
      [.leaf .openWrite [] [120], .leaf .openTrunc [] [120], .leaf .setSize [] [120],
       .leaf .allocate [] [120], .leaf .write [] [120], .leaf (.read 0 9) [] [120],
       .remove [] [120], .create [] [120], .leaf .write [] [120]])).2 =
    [.status .eacces, .status .eacces, .status .eacces, .status .ewrongtype, .unreachable,
     .data [1, 2, 3, 4], .ok, .ok, .ok] := by decide +kernel

/-! ## rename and link: how an action modifies its own copy -/

/-- `VirtualRename` and `VirtualLink` are covered by every theorem above (they are
operations of `step`): in particular they never touch the CAS, cannot tell a lazy
tree from the eager one, and under faults fail with `EIO` without effect. Stated
once more for the two operations, for any equivalent trees: same answer,
equivalent results — renaming a directory that has not been loaded yet and
loading it afterwards under its new name shows what loading it first and moving
the loaded subtree shows. -/
theorem rename_link_lazy_equals_eager (l e : State) (h : SEquiv l e) (p1 : Path) (x1 : Name)
    (p2 : Path) (x2 : Name) :
    ((step l [] (.rename p1 x1 p2 x2)).2 = (step e [] (.rename p1 x1 p2 x2)).2 ∧
      SEquiv (step l [] (.rename p1 x1 p2 x2)).1 (step e [] (.rename p1 x1 p2 x2)).1) ∧
    ((step l [] (.link p1 x1 p2 x2)).2 = (step e [] (.link p1 x1 p2 x2)).2 ∧
      SEquiv (step l [] (.link p1 x1 p2 x2)).1 (step e [] (.link p1 x1 p2 x2)).1) :=
  ⟨step_equiv l e _ h, step_equiv l e _ h⟩

/-- What is attached by a rename is the node that was found under the old name, as
it is: after a successful attach the new path denotes exactly that node. A
directory that was lazy is still the same lazy directory (same digest, same
fetcher wrapper), so it materialises to the same subtree. -/
theorem rename_attaches_the_old_node (c : CAS) (x : Name) (v : Node) (p : Path) (t : Node)
    (h : (withDir c [] (actPut x v) p t).2 = .ok) :
    nodeAt c (withDir c [] (actPut x v) p t).1 (p ++ [x]) = some v := by
  have r := withDir_resolve c (actPut x v) p t
  split at r
  · next ch _ =>
    rw [nodeAt_append, r.2]
    simp only [Option.bind, nodeAt, contents, actPut]
    cases hx : lookup ch x with
    | none => simp [lookup_append_new ch x v hx]
    | some w => simp [lookup_replaceFirst_self ch x v w hx]
  · rcases r with r | r | r <;> (rw [r] at h; cases h)

/-- Replacing an input by renaming a local file over it, removing it, linking it
elsewhere: the CAS is what it was, so every other directory that refers to the
same digest — in this tree, in another action's tree, now or later — loads and
reads what it did before. -/
theorem rename_over_changes_only_the_local_tree (s : State) (F : List Dig) (p1 : Path) (x1 : Name)
    (p2 : Path) (x2 : Name) (d : Dig) (mon : Option Path) (op : LeafOp) (n : Node) :
    (step s F (.rename p1 x1 p2 x2)).1.cas = s.cas ∧ (step s F (.link p1 x1 p2 x2)).1.cas = s.cas ∧
    fetch (step s F (.rename p1 x1 p2 x2)).1.cas F d mon = fetch s.cas F d mon ∧
    leafOut (step s F (.rename p1 x1 p2 x2)).1.cas F op n = leafOut s.cas F op n :=
  ⟨rfl, rfl, rfl, rfl⟩

/-- `s/` (digest `b0`, never looked at) is renamed to `moved`, a local file is created
and renamed over the CAS file `x`, `l` is linked as `l2`. The moved directory then
lists what `b0` names, `x` is a local file, the name `s` is gone, and the same
history on the eagerly expanded tree gives the same answers. A second action that
merges `a0` sees the original tree. -/
example :
    (run (merge (init exCAS) [] dA false).1 (noFaults
      [.rename [] [115] [] [109], .create [] [116], .rename [] [116] [] [120], .link [] [108] [] [50],
       .readdir [[109]], .lookup [] [120], .lookup [] [115], .lookup [] [50],
       .rename [] [109] [[104]] [109], .readdir [[104]]])).2 =
    [.ok, .ok, .ok, .ok, .listing [([97], .dir), ([121], .file f2 false)], .kind .loc,
     .status .enoent, .kind (.sym [116]), .ok, .listing [([109], .dir)]] := by decide +kernel

example :
    (run (merge (init exCAS) [] dA false).1 (noFaults
      [.rename [] [115] [] [109], .readdir [[109]], .rename [] [120] [] [104], .rename [] [104] [] [120],
       .rename [[109]] [97] [] [108]])).2 =
    (run ⟨exCAS, expand exCAS 3 (merge (init exCAS) [] dA false).1.root⟩ (noFaults
      [.rename [] [115] [] [109], .readdir [[109]], .rename [] [120] [] [104], .rename [] [104] [] [120],
       .rename [[109]] [97] [] [108]])).2 := by decide +kernel

/-! ## `monitoring_is_transparent` -/

/-- One operation on a tree whose input root was merged with the access monitoring
wrapper (`NewAccessMonitoringInitialContentsFetcher`; every directory below wrapped
for `ResolvedDirectory`, every file with a read monitor) and the same operation
without: same answer, equivalent trees. -/
theorem monitoring_is_transparent_step (l e : State) (h : SEquiv l e) (op : Op) :
    (step l [] op).2 = (step e [] (unmonitored op)).2 ∧
    SEquiv (step l [] op).1 (step e [] (unmonitored op)).1 := by
  cases op with
  | merge d m => exact merge_equiv l e d m false h
  | _ => exact step_equiv l e _ h

/-- **The access monitoring wrapper does not change what the tree shows**: every
history — merges with a monitor, exploration in any order, write attempts,
remove/create/mkdir/rename/link — answers exactly as the same history without
monitors, and the trees stay equivalent. (With `lazy_with_faults`: also under
faults, up to the operations the faults hit.) -/
theorem monitoring_is_transparent (l e : State) (h : SEquiv l e) (ops : List Op) :
    (run l (noFaults ops)).2 = (run e (noFaults (ops.map unmonitored))).2 ∧
    SEquiv (run l (noFaults ops)).1 (run e (noFaults (ops.map unmonitored))).1 :=
  run_sim unmonitored (fun l e op h => monitoring_is_transparent_step l e h op) ops l e h

/-- A directory wrapped for a monitor and the bare one are equivalent, whatever the
monitor: nothing that can be observed through the tree depends on it. -/
theorem monitored_directory_equiv (c : CAS) (d : Dig) (m m' : Option Path) :
    Equiv c (.lazy d m) (.lazy d m') :=
  equiv_mon c d m m'

/-- The same exploration with and without monitor. -/
example :
    (run (init exCAS) (noFaults
      [.merge dA true, .readdir [[115]], .leaf (.read 0 9) [] [120], .leaf .openWrite [] [120],
       .rename [] [115] [] [109], .readdir [[109], [97]], .readdir [[98]]])).2 =
    (run (init exCAS) (noFaults
      [.merge dA false, .readdir [[115]], .leaf (.read 0 9) [] [120], .leaf .openWrite [] [120],
       .rename [] [115] [] [109], .readdir [[109], [97]], .readdir [[98]]])).2 := by decide +kernel

/-! ## `cache_keys_separate` -/

open BbRe.InputRoot.Cache BbRe.Lemmas.InputRoot.Cache in
/-- One call of the caching fetcher: if every cached object is the right one for its
key — digest **and** tree-root flag — and the base fetcher answers this call
correctly (or fails), then the reply is an error or the right object for *this
kind* of call, and the cache stays sound.  `content` (Directory by digest) and
`root` (root directory of the Tree with that digest) are arbitrary, unrelated
functions: a `GetDirectory(d)` is never answered with `root d`, nor a
`GetTreeRootDirectory(d)` with `content d`. -/
theorem cache_keys_separate_step (content root : Nat → Nat) (s : Cache.State) (call : Call)
    (base : Option Nat) (size : Nat) (hs : Sound content root s.entries)
    (hb : ∀ m, base = some m → m = expected content root call) :
    Sound content root (Cache.get s call base size).1.entries ∧
    (replyMsg (Cache.get s call base size).2 = none ∨
     replyMsg (Cache.get s call base size).2 = some (expected content root call)) :=
  sound_get content root s call base size hs hb

open BbRe.InputRoot.Cache BbRe.Lemmas.InputRoot.Cache in
/-- For every history of calls, any capacity, any pattern of base failures. -/
theorem cache_keys_separate (content root : Nat → Nat) (maxCount maxSize : Nat)
    (calls : List (Call × Option Nat × Nat))
    (hb : ∀ x ∈ calls, ∀ m, x.2.1 = some m → m = expected content root x.1) :
    ∀ x ∈ calls.zip (runCalls ⟨maxCount, maxSize, []⟩ calls).2,
      replyMsg x.2 = none ∨ replyMsg x.2 = some (expected content root x.1.1) := by
  suffices H : ∀ (s : Cache.State), Sound content root s.entries →
      ∀ x ∈ calls.zip (runCalls s calls).2,
        replyMsg x.2 = none ∨ replyMsg x.2 = some (expected content root x.1.1) from
    H _ (by intro e he; simp at he)
  induction calls with
  | nil => intro s _ x hx; simp [runCalls] at hx
  | cons c rest ih =>
    intro s hs x hx
    obtain ⟨call, base, size⟩ := c
    have h1 := sound_get content root s call base size hs
      (fun m hm => hb (call, base, size) (List.mem_cons_self ..) m hm)
    simp only [runCalls, List.zip_cons_cons, List.mem_cons] at hx
    rcases hx with rfl | hx
    · exact h1.2
    · exact ih (fun y hy => hb y (List.mem_cons_of_mem _ hy)) _ h1.1 x hx

open BbRe.InputRoot.Cache BbRe.Lemmas.InputRoot.Cache in
/-- What is served from the cache was stored under exactly this key, and what is not
served from the cache is what the base fetcher returned for this call (errors
included, and not cached). -/
theorem cache_reply_origin (s : Cache.State) (call : Call) (base : Option Nat) (size : Nat) :
    match (Cache.get s call base size).2 with
    | .hit m => ∃ e ∈ s.entries, e.key = keyOf call ∧ e.msg = m
    | .miss m => base = some m ∧ Cache.find s.entries (keyOf call) = none
    | .error => base = none ∧ (Cache.get s call base size).1 = s := by
  simp only [Cache.get]
  cases hf : Cache.find s.entries (keyOf call) with
  | some e => exact ⟨e, (find_some hf).1, (find_some hf).2, rfl⟩
  | none => cases base <;> simp

open BbRe.InputRoot.Cache in
/-- The two key spaces are disjoint. -/
theorem cache_key_spaces_disjoint (d t t' c : Nat) :
    keyOf (.directory d) ≠ keyOf (.treeRoot t) ∧ keyOf (.treeChild t' c) ≠ keyOf (.treeRoot t) := by
  simp [keyOf]

open BbRe.InputRoot.Cache BbRe.Lemmas.InputRoot.Cache in
/-- Keys stay distinct and the number of objects bounded. -/
theorem cache_bounded (s : Cache.State) (call : Call) (base : Option Nat) (size : Nat)
    (hk : Keyed s.entries) (h : s.entries.length ≤ max s.maxCount 1) :
    Keyed (Cache.get s call base size).1.entries ∧
    (Cache.get s call base size).1.entries.length ≤ max s.maxCount 1 :=
  ⟨keyed_get s call base size hk, (length_get s call base size h).1⟩

open BbRe.InputRoot.Cache in
/-- Same digest 7 asked as directory (object 70) and as tree root (object 71): each is
answered with its own object, also from the cache, also after an eviction. -/
example :
    (runCalls ⟨2, 100, []⟩
      [(.directory 7, some 70, 10), (.treeRoot 7, some 71, 10), (.directory 7, none, 10),
       (.treeRoot 7, none, 10), (.directory 8, some 80, 10), (.directory 7, none, 10),
       (.treeChild 9 7, some 70, 10)]).2 =
    [.miss 70, .miss 71, .hit 70, .hit 71, .miss 80, .error, .miss 70] := by decide +kernel

/-! ## the hard-linking file fetcher (input roots of non-virtual workers) -/

open BbRe.InputRoot.HardLink BbRe.Lemmas.InputRoot.HardLink in
/-- One `GetFile` under the stated file system assumption: if every regular file in
the cache directory has the contents of its key (`CacheClean`; kept by `GetFile`
and by deletions / replacements by directories behind the worker's back), then a
`nil` return means the target exists **with the requested contents** — there is no
successful return without a file — and cache cleanliness and limits are kept. -/
theorem hardlink_getfile_correct (s : HardLink.State) (k size : Nat) (casHas : Bool)
    (hc : CacheClean s.disk) (hl : Lim s.maxFiles s.maxSize s.entries) :
    ((getFile s k size casHas).2 = .ok k ∨ (getFile s k size casHas).2 = .error) ∧
    CacheClean (getFile s k size casHas).1.disk ∧
    Lim s.maxFiles s.maxSize (getFile s k size casHas).1.entries := by
  obtain ⟨⟨_, _, c1, l1⟩, r1⟩ := getFile_good k size casHas ⟨rfl, rfl, hc, hl⟩
  exact ⟨r1, c1, l1⟩

open BbRe.InputRoot.HardLink BbRe.Lemmas.InputRoot.HardLink in
/-- Every history of `GetFile` calls and cache directory faults, any limits, any
pattern of CAS misses, starting from an empty cache: every call fails or delivers
the requested contents, and the cache never exceeds its limits (at most
`max maxFiles 1` files; at most `maxSize` bytes unless a single file is larger). -/
theorem hardlink_history (maxFiles maxSize : Nat) (ops : List HLOp) :
    Lim maxFiles maxSize (hlRun ⟨maxFiles, maxSize, [], []⟩ ops).1.entries ∧
    ∀ x ∈ (hlRun ⟨maxFiles, maxSize, [], []⟩ ops).2, x.2 = .ok x.1 ∨ x.2 = .error :=
  (hlRun_inv ops ⟨maxFiles, maxSize, [], []⟩
    ⟨rfl, rfl, by intro k c h; simp at h, by simp, Or.inl (by simp [total])⟩).imp_left fun h => h.2.2.2

open BbRe.InputRoot.HardLink BbRe.Lemmas.InputRoot.HardLink in
/-- A file the bookkeeping knows but that vanished from the cache directory is
downloaded again and put back (the `ENOENT` of `link(2)` is not a success). -/
theorem hardlink_repairs_vanished_entry (s : HardLink.State) (k size : Nat)
    (hk : known s.entries k = true) (hd : onDisk s.disk k = none) :
    (getFile s k size true).2 = .ok k ∧ onDisk (getFile s k size true).1.disk k = some (.file k) :=
  getFile_repairs s k size hk hd

open BbRe.InputRoot.HardLink BbRe.Lemmas.InputRoot.HardLink in
/-- download, hit, eviction by the file limit, entry deleted by a cleaner (repaired),
entry replaced by a directory (error), CAS miss of an uncached file (error). -/
example :
    (hlRun ⟨2, 100, [], []⟩
      [.get 1 10 true, .get 1 10 false, .get 2 10 true, .get 3 10 true, .get 1 10 false,
       .fault (.remove 3), .get 3 10 true, .fault (.mkdir 2), .get 2 10 true]).2 =
    [(1, .ok 1), (1, .ok 1), (2, .ok 2), (3, .ok 3), (1, .error), (3, .ok 3), (2, .error)] := by decide +kernel

end BbRe.Properties.C17
