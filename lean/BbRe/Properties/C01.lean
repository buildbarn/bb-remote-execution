import BbRe.Lemmas.SchedInvProps
/-!
# C01 — every task is held by exactly one queue or one worker

Theorems about `Model/Sched.lean` + `Model/SchedStep.lean` (the transcription of
`pkg/scheduler/in_memory_build_queue.go`, tied to the code by `harness/cmd/sched`).
All statements quantify over `Reachable` states: every interleaving of lock-held
segments (`Seg`) with every oracle answer, any number of clients, workers and queues.
The invariant itself (`Inv`, 40 clauses) and its preservation by every helper of the
model live in `BbRe/Lemmas/SchedInv*.lean`.
-/
namespace BbRe.Properties.C01
open BbRe.Sched BbRe.Lemmas.SchedInv

/-! ### sample run used by the non-vacuity examples:
register a queue, `Execute` (task 1 is queued), an idle worker synchronizes and is handed the task -/
def cfg0 : Cfg := ⟨60, 60, 60, 900, 10, 60, 2, 0⟩
def h0 : Hints := { assign := [], sel := 0, bg := none, retry := false }
def q0 : ScqId := ⟨1, 0⟩
def w0 : WId := ⟨1, 1⟩
def queuedState : State := run (State.init cfg0)
  [ .register 1 [] 7 [0] 0 0, .exec h0 0 100 55 55 false [] 7 [1] 0 ]
def assignSeg : Seg := .sync { h0 with assign := [(q0, w0, 1)] } 0 q0 [] 7 w0 .idle false
def assignedState : State := run queuedState [assignSeg]
def okResp : Resp := ⟨cOK, 0, 9, .worker⟩
def completedState : State := run assignedState
  [ .sync h0 5 q0 [] 7 w0 (.completed 55 okResp) false ]

theorem queuedState_reachable : Reachable queuedState := reachable_run (Reachable.init cfg0) _
theorem assignedState_reachable : Reachable assignedState := reachable_run queuedState_reachable _
theorem completedState_reachable : Reachable completedState := reachable_run assignedState_reachable _

/-- **`C01.inv_reachable`.**  The whole invariant `Inv` (`BbRe/Lemmas/SchedInvDefs.lean`: `Core` —
table well-formedness, `ptr`, `queued`, dedup exactness, learner bookkeeping, worker flags; `OInv` —
operations ↔ tasks; `SInv` — waiter counts, parked streams, no-waiter cleanup entries; `LogInv` — the
ghost event log) holds in every reachable state. -/
theorem inv_reachable {s : State} (hr : Reachable s) : Inv s := BbRe.Lemmas.SchedInv.inv_reachable hr

/-- **`Inv.ptr`, worker ⇒ task.**  A worker's `currentTask` names an existing,
uncompleted task whose `currentWorker` is that worker. -/
theorem ptr_worker_to_task {s : State} (hr : Reachable s) {q : ScqId} {w : WId} {wk : Worker} {tid : Nat}
    (hw : s.worker? q w = some wk) (ht : wk.task = some tid) :
    ∃ t, s.task? tid = some t ∧ t.worker = some (q, w) ∧ t.response = none := by
  have hI := inv_reachable hr
  obtain ⟨t, h1, h2⟩ := hI.core.p1 q w wk tid hw ht
  exact ⟨t, h1, h2, hI.core.p3 tid t h1 (by rw [h2]; rfl)⟩

example : assignedState.worker? q0 w0 ≠ none ∧
    (assignedState.worker? q0 w0).map (·.task) = some (some 1) := by decide +kernel

/-- **`Inv.ptr`, task ⇒ worker.**  A task's `currentWorker` names an existing worker whose
`currentTask` is that task. -/
theorem ptr_task_to_worker {s : State} (hr : Reachable s) {tid : Nat} {t : Task} {q : ScqId} {w : WId}
    (ht : s.task? tid = some t) (hw : t.worker = some (q, w)) :
    ∃ wk, s.worker? q w = some wk ∧ wk.task = some tid :=
  (inv_reachable hr).core.p2 tid t q w ht hw

example : (assignedState.task? 1).map (·.worker) = some (some (q0, w0)) := by decide +kernel

/-- the two directions as one equivalence (restricted to entries that exist) -/
theorem ptr_iff {s : State} (hr : Reachable s) (q : ScqId) (w : WId) (tid : Nat) :
    (∃ wk, s.worker? q w = some wk ∧ wk.task = some tid) ↔
    (∃ t, s.task? tid = some t ∧ t.worker = some (q, w)) := by
  constructor
  · rintro ⟨wk, h1, h2⟩
    obtain ⟨t, a, b, _⟩ := ptr_worker_to_task hr h1 h2
    exact ⟨t, a, b⟩
  · rintro ⟨t, h1, h2⟩
    exact ptr_task_to_worker hr h1 h2

/-- the worker table holds one record per worker and the task table one record per id,
so `worker?` / `task?` are the tables -/
theorem tables_wellformed {s : State} (hr : Reachable s) :
    WNodup s.workers ∧ (keys s.tasks).Nodup ∧ ∀ k t, s.task? k = some t → t.id = k ∧ k < s.nextTask :=
  ⟨(inv_reachable hr).core.wnd, (inv_reachable hr).core.tnd, (inv_reachable hr).core.tid⟩

/-- a task is assigned to at most one worker: two worker records pointing to the same task are
the same worker -/
theorem one_worker_per_task {s : State} (hr : Reachable s) {a b : Worker} {tid : Nat}
    (ha : a ∈ s.workers) (hb : b ∈ s.workers) (hat : a.task = some tid) (hbt : b.task = some tid) :
    a = b := by
  have hI := inv_reachable hr
  have ha' := wfind_of_mem hI.core.wnd ha
  have hb' := wfind_of_mem hI.core.wnd hb
  obtain ⟨t, h1, h2⟩ := hI.core.p1 _ _ a tid ha' hat
  obtain ⟨t', h1', h2'⟩ := hI.core.p1 _ _ b tid hb' hbt
  rw [h1] at h1'; cases h1'
  rw [h2] at h2'
  simp only [Option.some.injEq, Prod.mk.injEq] at h2'
  rw [h2'.1, h2'.2] at ha'
  rw [ha'] at hb'
  exact Option.some.inj hb'

example : (assignedState.workers.filter (fun w => w.task = some 1)).length = 1 := by decide +kernel

/-- **`Inv.queued`, exclusion.**  A queued task has no worker and no response. -/
theorem queued_excl {s : State} (hr : Reachable s) {tid : Nat} {t : Task} (ht : s.task? tid = some t)
    (hq : t.queued = true) : t.worker = none ∧ t.response = none :=
  (inv_reachable hr).core.q1 tid t ht hq

example : (queuedState.task? 1).map (·.queued) = some true := by decide +kernel

/-- an assigned task has no response -/
theorem assigned_not_completed {s : State} (hr : Reachable s) {tid : Nat} {t : Task}
    (ht : s.task? tid = some t) (hw : t.worker.isSome = true) : t.response = none :=
  (inv_reachable hr).core.p3 tid t ht hw

example : (assignedState.task? 1).map (fun t => (t.worker.isSome, t.response.isNone, t.queued)) =
    some (true, true, false) := by decide +kernel

/-- **`Inv.queued`, coverage** (at segment boundaries — inside `task.complete` and between the
creation of a task and `task.schedule` a task is transiently neither; the proof carries that
as the exception set of `InvX`).  Every uncompleted task is queued or assigned. -/
theorem live_held {s : State} (hr : Reachable s) {tid : Nat} {t : Task} (ht : s.task? tid = some t)
    (hl : t.response = none) : t.queued = true ∨ t.worker.isSome = true := by
  rcases (inv_reachable hr).core.q2 tid t ht hl with h | h | h
  · exact Or.inl h
  · exact Or.inr h
  · exact absurd h id

/-- **exactly one holder**: for every accepted, uncompleted task,
`#queues holding it + #workers holding it = 1`. -/
theorem exactly_one_holder {s : State} (hr : Reachable s) {tid : Nat} {t : Task} (ht : s.task? tid = some t)
    (hl : t.response = none) :
    (if t.queued then 1 else 0) + (s.workers.filter (fun w => w.task = some tid)).length = 1 :=
  holders_eq_one (inv_reachable hr) ht hl

example : (queuedState.task? 1).map (holders queuedState 1) = some 1 ∧
    (assignedState.task? 1).map (holders assignedState 1) = some 1 := by decide +kernel

/-- **A Synchronize response only tells a worker to execute the task assigned to it.**
Whenever a segment emits `syncExecute q w d _`, in the post-state worker `(q, w)` holds a task
with digest `d` that has no response (`ExecOK`). -/
theorem sync_executes_only_assigned {s s' : State} (hr : Reachable s) (g : Seg) (h : step s g = .ok s') :
    ∃ new, s'.events = new ++ s.events ∧
      ∀ q w d n, Event.syncExecute q w d n ∈ new →
        ∃ wk tid t, s'.worker? q w = some wk ∧ wk.task = some tid ∧ s'.task? tid = some t ∧
          t.digest = d ∧ t.response = none := by
  obtain ⟨new, he, hn⟩ := step_exec_events g (inv_reachable hr) h
  exact ⟨new, he, fun q w d n hm => hn _ hm⟩

/-- the sample segment succeeds and emits `execute 55` -/
example : (match step queuedState assignSeg with
    | .ok s' => s'.events.any (fun e => match e with | .syncExecute _ _ 55 _ => true | _ => false)
    | .error _ => false) = true := by decide +kernel

/-- `k` names a task that is completed or was dropped after completion -/
abbrev Finished (s : State) (k : Nat) : Prop := Dead s.tasks s.nextTask k

/-- **Once completed, never restarted (one segment).**  If `tid` is finished then after any
segment it still is (its response never goes away and its id is never reused), the ghost log
of assignments gains no entry for it, and no worker points to it. -/
theorem completed_never_restarted {s s' : State} (hr : Reachable s) (g : Seg) (h : step s g = .ok s')
    {tid : Nat} (hf : Finished s tid) :
    Finished s' tid ∧ (∀ x, x ∈ s'.assigned → x.2.2 = tid → x ∈ s.assigned) ∧
      (∀ wk, wk ∈ s'.workers → wk.task ≠ some tid) ∧
      (∀ t, s'.task? tid = some t → t.worker = none ∧ t.queued = false) := by
  have hI := inv_reachable hr
  have hI' := inv_step g hI h
  have hm := mono_step g hI h
  have hf' := hm.dead tid hf
  refine ⟨hf', ?_, ?_, ?_⟩
  · intro x hx hxt
    obtain ⟨new, he, hn⟩ := hm.asg
    rw [he] at hx
    rcases List.mem_append.mp hx with hx | hx
    · exact absurd (hxt ▸ hf) (hn x hx)
    · exact hx
  · intro wk hwk hwt
    obtain ⟨t, h1, h2⟩ := hI'.core.p1 _ _ wk tid (wfind_of_mem hI'.core.wnd hwk) hwt
    have := hI'.core.p3 tid t h1 (by rw [h2]; rfl)
    have := hf'.2 t h1
    simp_all
  · intro t ht
    have hrs := hf'.2 t ht
    constructor
    · cases hw : t.worker with
      | none => rfl
      | some x => have := hI'.core.p3 tid t ht (by rw [hw]; rfl); rw [this] at hrs; cases hrs
    · cases hq : t.queued with
      | false => rfl
      | true => have := (hI'.core.q1 tid t ht hq).2; rw [this] at hrs; cases hrs

example : Finished completedState 1 := by
  refine ⟨by decide +kernel, ?_⟩
  intro t ht
  have : completedState.task? 1 = some t := ht
  revert this
  cases hh : completedState.task? 1 with
  | none => intro e; cases e
  | some t' =>
    intro e; cases e
    have : (completedState.task? 1).map (·.response.isSome) = some true := by decide +kernel
    rw [hh] at this; exact Option.some.inj this

/-- **Once completed, never restarted (any continuation).** -/
theorem completed_stays {s : State} (hr : Reachable s) {tid : Nat} (hf : Finished s tid) (gs : List Seg) :
    Finished (run s gs) tid ∧ ∀ x, x ∈ (run s gs).assigned → x.2.2 = tid → x ∈ s.assigned := by
  have hm := (run_inv_mono (inv_reachable hr) gs).2
  refine ⟨hm.dead tid hf, ?_⟩
  intro x hx hxt
  obtain ⟨new, he, hn⟩ := hm.asg
  rw [he] at hx
  rcases List.mem_append.mp hx with hx | hx
  · exact absurd (hxt ▸ hf) (hn x hx)
  · exact hx

/-- and therefore no later segment tells a worker to execute it: every `execute` instruction
emitted after `tid` finished names a task different from `tid` -/
theorem completed_no_execute {s s' : State} (hr : Reachable s) (g : Seg) (h : step s g = .ok s')
    {tid : Nat} (hf : Finished s tid) :
    ∃ new, s'.events = new ++ s.events ∧
      ∀ q w d n, Event.syncExecute q w d n ∈ new → ∀ wk, s'.worker? q w = some wk → wk.task ≠ some tid := by
  obtain ⟨new, he, hn⟩ := sync_executes_only_assigned hr g h
  refine ⟨new, he, ?_⟩
  intro q w d n hm wk hwk hwt
  have := (completed_never_restarted hr g h hf).2.2.1 wk (wfind_mem hwk)
  exact this hwt

/-- **No panic.**  In a reachable state `step` never fails with one of the code's `panic`
guards that the model transcribes (`panicErrors`), nor with a model-internal dangling-pointer
error (`internalErrors`): every failure is an oracle mismatch / a segment that is not enabled /
`bad-op`, or one of the five registry errors listed in `okErrors` (no platform queue, platform queue
without size classes / without size-class queue, no queue in `getNextTask` / `syncWake` — the queue
registry is not part of `Inv`; `C01Queues` excludes them). -/
theorem no_panic {s : State} (hr : Reachable s) (g : Seg) {e : String} (h : step s g = .error e) :
    e ∈ okErrors ∧ e ∉ panicErrors ∧ e ∉ internalErrors := by
  have hok : e ∈ okErrors := step_error g (inv_reachable hr) h
  have hdisj : ∀ x ∈ okErrors, x ∉ panicErrors ∧ x ∉ internalErrors := by
    simp only [okErrors, List.forall_mem_cons]
    simp only [panicErrors, internalErrors, List.mem_cons, List.not_mem_nil, String.reduceEq, or_false,
      not_false_eq_true, and_self, false_imp_iff, implies_true]
  exact ⟨hok, hdisj e hok⟩

/-- errors do occur: synchronizing again while the first call is still blocked is a mismatch -/
example : (match step assignedState (.syncWake h0 6 q0 w0 0) with | .error _ => true | .ok _ => false) = true := by
  decide +kernel

end BbRe.Properties.C01
