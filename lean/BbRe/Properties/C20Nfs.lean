import BbRe.Model.LockRange
import BbRe.Model.NfsState
import BbRe.Lemmas.NfsLockRange
import BbRe.Lemmas.NfsInv
import BbRe.Lemmas.NfsProps
/-!
# C20, NFS layer — byte-range locks through NFSv4.0/4.1 LOCK, LOCKT, LOCKU, CLOSE, lease expiry

The lock table itself (`ByteRangeLockSet.Set/Test`) is `Properties/C20.lean`.
This file holds the two NFS-level parts of the property:

* `range_conversion…` — `offsetLengthToStartEnd` (`opened_files_pool.go`) is the
  RFC 7530 §16.10.4 mapping from (offset, length) to the half-open table range,
  `byteRangeLockToLock4Denied` inverts it; every accepted request yields a
  non-empty range.  The `legacy…` theorems are about the conversion as it is without
  the commit 3d4b513 of /repo (`Model/LockRange.lean`: `legacyOffsetLengthToStartEnd`):
  for offset `2^64-1` with the all-ones length it yields an empty range (finding "LOCK
  at offset 2^64-1 with length to-EOF yields an empty range").
* `owner_identity…` — one lock-owner object per (client record, owner bytes) in
  `Model/NfsState.lean` (see that section below).

`o l` are `uint64` values of the Go code, hence `o ≤ maxU64`, `l ≤ maxU64`.
Only property theorems live in this namespace; helper lemmas are in
`BbRe/Lemmas/NfsLockRange.lean`, `BbRe/Lemmas/NfsProps.lean`, `BbRe/Lemmas/NfsInv*.lean`.
-/
namespace BbRe.Properties.C20Nfs
open BbRe.LockRange BbRe.BRL BbRe.Lemmas.NfsLockRange

/-! ## `range_conversion` -/

/-- The conversion rejects with NFS4ERR_INVAL exactly length 0 and, for a length that is not the
all-ones "to end of file" marker, a range whose end exceeds `2^64-1`; with NFS4ERR_BAD_RANGE
exactly offset `2^64-1` with the all-ones length; and with no other status. -/
theorem range_conversion_rejects (o l : Nat) (ho : o ≤ maxU64) (hl : l ≤ maxU64) :
    (offsetLengthToStartEnd o l = .error stInval ↔ (l = 0 ∨ (l ≠ maxU64 ∧ o + l > maxU64))) ∧
    (offsetLengthToStartEnd o l = .error stBadRange ↔ (o = maxU64 ∧ l = maxU64)) ∧
    (∀ st, offsetLengthToStartEnd o l = .error st → st = stInval ∨ st = stBadRange) :=
  ⟨conv_inval_iff o l ho hl, conv_badRange_iff o l, fun st h => conv_error o l st h⟩

example : offsetLengthToStartEnd 7 0 = .error 22 ∧ offsetLengthToStartEnd (maxU64 - 1) 2 = .error 22 ∧
    offsetLengthToStartEnd maxU64 maxU64 = .error 10042 ∧ offsetLengthToStartEnd maxU64 1 = .error 22 ∧
    offsetLengthToStartEnd 7 3 = .ok (7, 10) ∧ offsetLengthToStartEnd 7 maxU64 = .ok (7, maxU64) := by decide

/-- An accepted request `(o, l)` is converted to the range whose bytes are
`o, o+1, …, o+l-1`, or `o, o+1, …` up to the last representable byte `2^64-2` when
`l` is all ones (RFC 7530 §16.10.4: "a length of all ones means lock to end of
file").  The table only ever sees `start < end ≤ 2^64-1`. -/
theorem range_conversion_bytes (o l s e : Nat) (ho : o ≤ maxU64) (hl : l ≤ maxU64)
    (h : offsetLengthToStartEnd o l = .ok (s, e)) :
    s = o ∧ s < e ∧ e ≤ maxU64 ∧
    ∀ b, (s ≤ b ∧ b < e) ↔ (o ≤ b ∧ b < maxU64 ∧ (l = maxU64 ∨ b < o + l)) := by
  have h1 := conv_some o l s e ho hl h
  exact ⟨h1.1, h1.2.2.1, h1.2.1, conv_bytes o l s e ho hl h⟩

example : offsetLengthToStartEnd 5 10 = .ok (5, 15) ∧ offsetLengthToStartEnd 5 maxU64 = .ok (5, maxU64) ∧
    offsetLengthToStartEnd (maxU64 - 1) 1 = .ok (maxU64 - 1, maxU64) ∧
    offsetLengthToStartEnd (maxU64 - 1) maxU64 = .ok (maxU64 - 1, maxU64) := by decide

/-- **Every accepted request yields a non-empty range** — which is what
`ByteRangeLockSet` needs (`C20.wf_preserved`, `C20.test_exact`, `C20.set_pointwise`
all assume `start < stop`).  For the conversion without 3d4b513 see
`legacy_range_conversion_nonempty_iff`. -/
theorem range_conversion_nonempty (o l s e : Nat) (ho : o ≤ maxU64) (hl : l ≤ maxU64)
    (h : offsetLengthToStartEnd o l = .ok (s, e)) : s < e :=
  conv_nonempty o l s e ho hl h

/-- `range_conversion`, summary form: every request is either rejected — with
NFS4ERR_INVAL exactly when its length is 0 or it overflows, with NFS4ERR_BAD_RANGE
exactly when it is the byte `2^64-1` alone — or converted to a valid table request
(`Spec.ByteLocks.Req.Valid`: non-empty) covering exactly its bytes. -/
theorem range_conversion (o l : Nat) (ho : o ≤ maxU64) (hl : l ≤ maxU64) :
    (offsetLengthToStartEnd o l = .error stInval ∧ (l = 0 ∨ (l ≠ maxU64 ∧ o + l > maxU64))) ∨
    (offsetLengthToStartEnd o l = .error stBadRange ∧ o = maxU64 ∧ l = maxU64) ∨
    (∃ e, offsetLengthToStartEnd o l = .ok (o, e) ∧ o < e ∧ e ≤ maxU64 ∧
      ¬ (l = 0 ∨ (l ≠ maxU64 ∧ o + l > maxU64)) ∧ ¬ (o = maxU64 ∧ l = maxU64) ∧
      ∀ b, (o ≤ b ∧ b < e) ↔ (o ≤ b ∧ b < maxU64 ∧ (l = maxU64 ∨ b < o + l))) := by
  cases hc : offsetLengthToStartEnd o l with
  | error st =>
    rcases conv_error o l st hc with h | h
    · subst h; exact Or.inl ⟨rfl, (conv_inval_iff o l ho hl).1 hc⟩
    · subst h; exact Or.inr (Or.inl ⟨rfl, (conv_badRange_iff o l).1 hc⟩)
  | ok p =>
    obtain ⟨s, e⟩ := p
    have h1 := conv_some o l s e ho hl hc
    have hs : s = o := h1.1
    subst hs
    refine Or.inr (Or.inr ⟨e, rfl, h1.2.2.1, h1.2.1, ?_, ?_, conv_bytes s l s e ho hl hc⟩)
    · intro hrej
      have := (conv_inval_iff s l ho hl).2 hrej
      rw [hc] at this
      exact absurd this (by simp)
    · intro hrej
      have := (conv_badRange_iff s l).2 hrej
      rw [hc] at this
      exact absurd this (by simp)

/-- `byteRangeLockToLock4Denied` inverts the conversion on every (non-empty)
range a table can hold: the reported (offset, length) converts back to the
conflicting entry's range. -/
theorem denied_inverts_conversion (s e : Nat) (hse : s < e) (he : e ≤ maxU64) :
    offsetLengthToStartEnd (toDenied s e).1 (toDenied s e).2 = .ok (s, e) :=
  denied_inverts s e hse he

/-- … and conversely a granted request is reported with its own offset, and with
its own length unless the range ends exactly at `2^64-1`, in which case the
all-ones length is reported (the same set of representable bytes). -/
theorem denied_of_conversion (o l s e : Nat) (ho : o ≤ maxU64) (hl : l ≤ maxU64)
    (h : offsetLengthToStartEnd o l = .ok (s, e)) :
    (toDenied s e).1 = o ∧ ((toDenied s e).2 = l ∨ ((toDenied s e).2 = maxU64 ∧ o + l = maxU64)) :=
  denied_of_conv o l s e ho hl h

example : toDenied 5 15 = (5, 10) ∧ toDenied 5 maxU64 = (5, maxU64) ∧
    toDenied (maxU64 - 1) maxU64 = (maxU64 - 1, maxU64) := by decide

/-! ### The conversion without 3d4b513 (finding "LOCK at offset 2^64-1 with length to-EOF yields an empty range")

`legacyOffsetLengthToStartEnd` differs from `offsetLengthToStartEnd` only in the corner
(`legacy_range_conversion_agrees`).  For it, `range_conversion_nonempty` fails exactly there; the
theorems below are the counterexample.  The seeded change `seeded/revert-fix-C20-range-corner`
puts this behaviour into /repo and must be reported. -/

/-- The two conversions agree except for (`2^64-1`, all ones). -/
theorem legacy_range_conversion_agrees (o l : Nat) (hc : ¬ (o = maxU64 ∧ l = maxU64)) :
    offsetLengthToStartEnd o l =
      match legacyOffsetLengthToStartEnd o l with
      | none => .error stInval
      | some p => .ok p :=
  conv_eq_legacy o l hc

/-- For the legacy conversion an accepted request yields a non-empty range unless it is offset
`2^64-1` with the all-ones length. -/
theorem legacy_range_conversion_nonempty_iff (o l s e : Nat) (ho : o ≤ maxU64) (hl : l ≤ maxU64)
    (h : legacyOffsetLengthToStartEnd o l = some (s, e)) :
    s < e ↔ ¬ (o = maxU64 ∧ l = maxU64) :=
  legacy_conv_nonempty_iff o l s e ho hl h

/-- That request was accepted and converted to the EMPTY range `[2^64-1, 2^64-1)`: the half-open
`uint64` representation cannot express byte `2^64-1`. -/
theorem legacy_empty_corner : legacyOffsetLengthToStartEnd maxU64 maxU64 = some (maxU64, maxU64) := by
  decide

/-- For that range `Test` never reports a conflict, whatever the table holds … -/
theorem legacy_empty_corner_never_conflicts (ls : List Lock) (hM : ∀ x ∈ ls, x.stop ≤ maxU64)
    (o : Nat) (ty : Ty) : test ls ⟨maxU64, maxU64, o, ty⟩ = none :=
  test_empty_corner ls hM o ty

/-- … so two different owners were BOTH granted an exclusive lock "from byte
`2^64-1` to the end of the file": the caller model (`Test`, then `Set`) ends with
two exclusive entries of different owners, each `Set` returns `+1` (a byte-less
entry bumps `lockCount`), and the table no longer satisfies its representation
invariant. -/
theorem legacy_empty_corner_two_exclusive_owners :
    legacyOffsetLengthToStartEnd maxU64 maxU64 = some (maxU64, maxU64) ∧
    Spec.ByteLocks.run [] [⟨maxU64, maxU64, 1, .excl⟩, ⟨maxU64, maxU64, 2, .excl⟩] =
      [⟨maxU64, maxU64, 2, .excl⟩, ⟨maxU64, maxU64, 1, .excl⟩] ∧
    (set [] ⟨maxU64, maxU64, 1, .excl⟩).2 = 1 ∧
    (set [⟨maxU64, maxU64, 1, .excl⟩] ⟨maxU64, maxU64, 2, .excl⟩).2 = 1 ∧
    ¬ Spec.ByteLocks.WF [⟨maxU64, maxU64, 2, .excl⟩, ⟨maxU64, maxU64, 1, .excl⟩] := by
  obtain ⟨-, -, -, -, hd1, hd2, -, hwf⟩ := corner_two_exclusive_owners
  exact ⟨corner_two_exclusive_owners_run.1, corner_two_exclusive_owners_run.2, hd1, hd2, hwf⟩

/-- `UnlockAll` (`[0, 2^64-1)`) did remove the byte-less entry: CLOSE and lease
expiry found `lockCount` consistent with the table (no panic from this corner). -/
theorem legacy_empty_corner_unlock_all (o : Nat) (ty : Ty) (hty : ty ≠ .unlocked) :
    setList [⟨maxU64, maxU64, o, ty⟩] ⟨unlockAllRange.1, unlockAllRange.2, o, .unlocked⟩ = [] :=
  corner_unlock_all_removes o ty

/-! ## `owner_identity`

The lock table compares owners by identity (Go: the address of the lock-owner object's `owner`
field; model: the id of the `LOwner` record, which `Do.lockSet` / `Do.unlockAllLofs` write into
`BRL.Lock.owner`).  So the per-owner theorems of `Properties/C20.lean` lift to NFS clients iff one
protocol-level owner (client record, owner bytes) is one object.  All statements are about every
state reachable by any sequence of core actions (hence after every protocol history of either
minor version). -/

open BbRe.NfsState BbRe.Lemmas.NfsInv

/-- At most one live lock-owner object per (client record, owner bytes). -/
theorem owner_identity_unique (ver n : Nat) (acts : List Act) (a b : LOwner)
    (ha : a ∈ (applyAll (init ver n) acts).lowners) (hb : b ∈ (applyAll (init ver n) acts).lowners)
    (hcl : a.cl = b.cl) (hkey : a.key = b.key) : a = b :=
  BbRe.Lemmas.NfsProps.lo_unique _ (inv_reachable ver n acts).l a b ha hb hcl hkey

/-- The lookup by (client, owner) that LOCK (`lockOwners[key]` / `cis.lockOwnersByOwner[key]`) and
LOCKT perform returns exactly that object when it exists (and nothing otherwise): LOCKT uses the
owner's own identity iff it is registered. -/
theorem owner_identity_lookup (ver n : Nat) (acts : List Act) (cl key : Nat) (lo : LOwner) :
    (applyAll (init ver n) acts).getLO cl key = some lo ↔
      (lo ∈ (applyAll (init ver n) acts).lowners ∧ lo.cl = cl ∧ lo.key = key) :=
  BbRe.Lemmas.NfsProps.getLO_iff _ (inv_reachable ver n acts).l cl key lo

/-- LOCK with `new_lock_owner` reuses the object if it is present (the registration step changes
nothing) … -/
theorem owner_identity_lock_reuses (s : State) (cl key : Nat) (lo : LOwner)
    (h : s.getLO cl key = some lo) : apply s (Act.loRegister cl key) = s := by
  unfold apply
  split
  · rfl
  · exact BbRe.Lemmas.NfsProps.loRegister_reuses s cl key lo h

/-- … and registers a fresh one otherwise, which every later lookup finds (this is what the fix
adfdf7d restored for NFSv4.1). -/
theorem owner_identity_lock_registers (s : State) (cl key : Nat) (hp : s.panic = none)
    (hc : (s.getClient cl).isSome = true) (h : s.getLO cl key = none) :
    (apply s (Act.loRegister cl key)).getLO cl key =
      some { id := s.nextId, cl := cl, key := key, lastSeq := 0, resp := none } := by
  unfold apply
  simp only [hp, Option.isSome_none, Bool.false_eq_true, if_false]
  exact (BbRe.Lemmas.NfsProps.loRegister_registers s cl key hc h).1

/-- Every lock-owner file stores its locks under the id of a registered object of its own client,
and an open-owner file has at most one lock-owner file per object: protocol-level owners and table
owners coincide. -/
theorem owner_identity_lock_owner_files (ver n : Nat) (acts : List Act) (f : OFile)
    (hf : f ∈ (applyAll (init ver n) acts).files) :
    (∀ l ∈ f.lofs, ∃ lo ∈ (applyAll (init ver n) acts).lowners, lo.id = l.lo ∧ lo.cl = f.cl) ∧
    (f.lofs.map (·.lo)).Nodup :=
  ⟨(inv_reachable ver n acts).l.lofsRef f hf, (inv_reachable ver n acts).l.lofsLoNodup f hf⟩

/-- **Partial** form of "all of an owner's entries on a file disappear on CLOSE of the open-owner
file, lease expiry and re-registration" (all three run `unlockAllLofs` for every lock-owner file of the
open-owner file, see `closeStartActs`): when the lock-owner file counts at least one lock, `UnlockAll`
leaves no entry of its lock-owner object in the table of the opened file and does not touch the
entries of other owners.  Missing for the full statement: `lockCount = 0 → the owner has no entry`,
which holds only when a lock-owner has one lock-owner file per opened file (the known finding
"lock-owner shared by two open-owners" is a counterexample) and needs `C20.lock_count` lifted to the
state machine.  The table holds no byte-less entry (`range_conversion_nonempty`; hypothesis `hv`). -/
theorem owner_identity_unlock_all_partial (s : State) (sid lsid : Nat) (f : OFile) (l : LOFile) (e : PoolEnt)
    (hp : s.panic = none)
    (hf : s.getFile sid = some f) (hl : f.lofs.find? (fun l => l.sid == lsid) = some l)
    (he : s.getPool f.file = some e) (hc : 0 < l.lockCount)
    (hv : ∀ x ∈ e.locks, x.start < x.stop ∧ x.stop ≤ maxU64) :
    (apply s (Act.unlockAllLofs sid lsid)).getPool f.file =
      some { e with locks := e.locks.filter (fun x => x.owner ≠ l.lo) } := by
  unfold apply
  simp only [hp, Option.isSome_none, Bool.false_eq_true, if_false]
  exact BbRe.Lemmas.NfsProps.unlockAll_releases s sid lsid f l e hf hl he hc hv

/-- A reachable state for the `example`s: client 1 has file 0 open (state ID 2) and its lock-owner 7
(object 3) holds the exclusive lock [0,10) through lock-owner file 4. -/
def exS : State :=
  applyAll (init 41 2)
    [.newClient 0 0, .confirmClient 1, .vopen 9 0 NfsShare.Mask.both false false, .openNew 9 1 0,
     .loRegister 1 7, .addLofs 2 3, .lockSet 2 4 ⟨0, 10, 3, .excl⟩]

-- hypotheses of `owner_identity_lock_reuses` / `_registers` / `_unlock_all_partial` are satisfiable
example : (exS.getLO 1 7).isSome = true ∧ exS.getLO 1 8 = none ∧ (exS.getClient 1).isSome = true ∧
    exS.panic = none := by decide
example : ∃ f l e, exS.getFile 2 = some f ∧ f.lofs.find? (fun l => l.sid == 4) = some l ∧
    exS.getPool f.file = some e ∧ 0 < l.lockCount ∧ e.locks = [⟨0, 10, 3, .excl⟩] :=
  ⟨_, _, _, rfl, rfl, rfl, by decide, rfl⟩
example : ((apply exS (Act.unlockAllLofs 2 4)).getPool 0).map (·.locks) = some [] := by decide

end BbRe.Properties.C20Nfs
