import BbRe.Lemmas.SchedInvProps
/-!
# C03 — identical cacheable actions in flight run once (proof half)

Theorems about the in-flight deduplication map of `Model/Sched.lean` (`State.dedup`, the model
of `inFlightDeduplicationMap`), for every `Reachable` state.  The model transcribes the code
*after* the fix `8d3e7dd` ("only remove a task's own entry from the in-flight deduplication
map"): `complete` erases the entry only when it points to the completing task.  With the old
unconditional delete `dedup_map_exact` is false (a completing background-learning task evicts
the live foreground task with the same digest; see `notes/findings` and the `sched` harness).
-/
namespace BbRe.Properties.C03
open BbRe.Sched BbRe.Lemmas.SchedInv

/-! ### sample run used by the non-vacuity examples -/
def cfg0 : Cfg := ⟨60, 60, 60, 900, 10, 60, 2, 0⟩
def h0 : Hints := { assign := [], sel := 0, bg := none, retry := false }
def q0 : ScqId := ⟨1, 0⟩
def w0 : WId := ⟨1, 1⟩
/-- one cacheable task (digest 55) queued with one client stream -/
def s1 : State := run (State.init cfg0) [ .register 1 [] 7 [0] 0 0, .exec h0 0 100 55 55 false [] 7 [1] 0 ]
/-- a second client of another invocation has attached -/
def s2 : State := run s1 [ .exec h0 0 101 55 55 false [] 7 [2] 0 ]
theorem s1_reachable : Reachable s1 := reachable_run (Reachable.init cfg0) _
theorem s2_reachable : Reachable s2 := reachable_run s1_reachable _

/-- **`Inv.dedup`: the map is exact.**  `map[k] = tid` iff `tid` is an uncompleted, cacheable,
non-background task with deduplication key `k`. -/
theorem dedup_map_exact {s : State} (hr : Reachable s) (k tid : Nat) :
    alookup k s.dedup = some tid ↔
      ∃ t, s.task? tid = some t ∧ t.dkey = k ∧ t.response = none ∧ t.doNotCache = false ∧
        t.background = false := by
  have hI := inv_reachable hr
  constructor
  · exact hI.core.d1 k tid
  · rintro ⟨t, h1, h2, h3, h4, h5⟩
    rw [← h2]; exact hI.core.d2 tid t h1 h3 h4 h5

example : alookup 55 s1.dedup = some 1 := by decide +kernel

/-! #### why fix `8d3e7dd` matters

`legacyState`: D is executed and succeeds with a background-learning run (task 2, same key,
never entered in the map), then D is requested again (task 3, fresh, entered in the map).  Both
are uncompleted.  The code before the fix executed `delete(inFlightDeduplicationMap, digest)`
*unconditionally* when task 2 completes: -/
def legacyState : State := run (State.init cfg0)
  [ .register 1 [] 7 [0] 3 0,
    .exec h0 0 100 55 55 false [] 7 [1] 0,
    .sync { h0 with assign := [(q0, w0, 1)] } 0 q0 [] 7 w0 .idle false,
    .sync { h0 with bg := some 0, assign := [(q0, w0, 2)] } 5 q0 [] 7 w0 (.completed 55 ⟨cOK, 0, 9, .worker⟩) false,
    .exec h0 5 101 55 55 false [] 7 [2] 0 ]

/-- In the reachable state `legacyState` the background task 2 and the live cacheable foreground
task 3 share key 55 and the map points to 3 — and the legacy unconditional
`delete(map, key of task 2)` would leave the map without an entry for the live task 3, i.e.
the conclusion of `dedup_map_exact` fails for the pre-fix rule (a third `Execute` would then start
a second execution).  The fixed rule (`if map[key] == this task`) does not erase: the entry is 3 ≠ 2. -/
theorem dedup_map_exact_counterexample_legacy :
    Reachable legacyState ∧
    (legacyState.task? 2).map (fun t => (t.dkey, t.background, t.response.isSome)) = some (55, true, false) ∧
    (legacyState.task? 3).map (fun t => (t.dkey, t.background, t.doNotCache, t.response.isSome)) =
      some (55, false, false, false) ∧
    alookup 55 legacyState.dedup = some 3 ∧
    alookup 55 (aerase 55 legacyState.dedup) = none ∧
    (if alookup 55 legacyState.dedup = some 2 then aerase 55 legacyState.dedup else legacyState.dedup)
      = legacyState.dedup :=
  ⟨reachable_run (Reachable.init cfg0) _, by decide +kernel, by decide +kernel, by decide +kernel, by decide +kernel, by decide +kernel⟩

/-- at most one uncompleted cacheable foreground task per key -/
theorem dedup_unique {s : State} (hr : Reachable s) {k1 k2 : Nat} {t1 t2 : Task}
    (h1 : s.task? k1 = some t1) (h2 : s.task? k2 = some t2) (hk : t1.dkey = t2.dkey)
    (hl1 : t1.response = none) (hl2 : t2.response = none) (hc1 : t1.doNotCache = false)
    (hc2 : t2.doNotCache = false) (hb1 : t1.background = false) (hb2 : t2.background = false) : k1 = k2 := by
  have a := (dedup_map_exact hr t1.dkey k1).mpr ⟨t1, h1, rfl, hl1, hc1, hb1⟩
  have b := (dedup_map_exact hr t1.dkey k2).mpr ⟨t2, h2, hk.symm, hl2, hc2, hb2⟩
  rw [a] at b; exact Option.some.inj b

/-- an `Execute` segment is `bq.enter` followed by `execBody` -/
theorem exec_after_enter {s s0 s' : State} {h : Hints} {now c digest dkey : Nat} {dnc : Bool}
    {comps : List Nat} {platform : Nat} {inv : List Nat} {prio : Int} (he : enter h s now = .ok s0)
    (hs : step s (.exec h now c digest dkey dnc comps platform inv prio) = .ok s') :
    execBody h s0 c digest dkey dnc comps platform inv prio = .ok s' := by
  have : step s (.exec h now c digest dkey dnc comps platform inv prio) =
      (enter h s now >>= fun s => execBody h s c digest dkey dnc comps platform inv prio) :=
    execArrive_eq h s now c digest dkey dnc comps platform inv prio
  rw [this, he] at hs; exact hs

/-- **attach.**  An `Execute` whose key is in the map (after the cleanup `bq.enter` ran)
creates no task, and afterwards the client's stream is parked on an operation of the
existing task. -/
theorem attach {s s0 s' : State} (hr : Reachable s) {h : Hints} {now c digest dkey : Nat} {dnc : Bool}
    {comps : List Nat} {platform : Nat} {inv : List Nat} {prio : Int} {tid : Nat}
    (he : enter h s now = .ok s0) (hd : alookup dkey s0.dedup = some tid)
    (hs : step s (.exec h now c digest dkey dnc comps platform inv prio) = .ok s') :
    s'.nextTask = s0.nextTask ∧
      ∃ st t, st ∈ s'.streams ∧ st.client = c ∧ s'.task? tid = some t ∧ st.op ∈ t.ops := by
  have hI0 : Inv s0 := (wp_of_ok (enter_spec (inv_reachable hr)) he).1
  have hs' := exec_after_enter he hs
  have hpost := wp_of_ok (execBody_hit hI0 hd) hs'
  exact hpost

/-- the second `Execute` of the sample attaches: still one task, two streams -/
example : s2.nextTask = s1.nextTask ∧ s2.streams.length = 2 ∧ (s2.task? 1).map (·.ops) = some [1, 2] := by
  decide +kernel

/-- the operation a stream is parked on belongs to the task (so all attached clients wait for
the same, single response field) -/
theorem stream_op_of_task {s : State} (hr : Reachable s) {st : Stream} (hst : st ∈ s.streams) :
    ∃ op t, s.op? st.op = some op ∧ s.task? op.task = some t ∧ st.op ∈ t.ops := by
  have hI := inv_reachable hr
  have h3 := hI.sinv.s3 st hst
  cases hop : alookup st.op s.ops with
  | none => rw [hop] at h3; cases h3
  | some op =>
    obtain ⟨t, h1, h2⟩ := hI.oinv.o1 _ op hop
    exact ⟨op, t, hop, h1, h2⟩

example : s2.streams.length = 2 := by decide +kernel

/-- **do_not_cache / background tasks are never in the map.** -/
theorem do_not_cache_never_in_map {s : State} (hr : Reachable s) {tid : Nat} {t : Task}
    (ht : s.task? tid = some t) (hd : t.doNotCache = true ∨ t.background = true) (k : Nat) :
    alookup k s.dedup ≠ some tid := by
  intro h
  obtain ⟨t', h1, _, _, h4, h5⟩ := (dedup_map_exact hr k tid).mp h
  rw [ht] at h1; cases h1
  rcases hd with hd | hd
  · rw [h4] at hd; cases hd
  · rw [h5] at hd; cases hd

example : (legacyState.task? 2).map (fun t => (t.background, t.doNotCache)) = some (true, true) ∧
    legacyState.dedup.all (fun p => p.2 != 2) = true := by decide +kernel

/-- background-learning tasks are uncacheable -/
theorem background_is_do_not_cache {s : State} (hr : Reachable s) {tid : Nat} {t : Task}
    (ht : s.task? tid = some t) (hb : t.background = true) : t.doNotCache = true :=
  (inv_reachable hr).core.bg tid t ht hb

/-- **do_not_cache requests are never merged** (the precise statement).  The code consults the
map *before* it looks at `do_not_cache`; merging is prevented because an uncacheable task is
never entered.  An `Execute` with `dnc = true` that misses the map creates a task with
`doNotCache = true` and leaves the map unchanged — so a second identical request misses again and
creates another task.  (An `Execute` that *hits* the map attaches regardless of its own flag;
the hit task is cacheable by `dedup_map_exact`.  `do_not_cache` is part of the Action message and
therefore a function of the digest, so in the implementation a hit with `dnc = true` cannot
happen; the harness generates the flag as a function of the key.) -/
theorem do_not_cache_never_merged {s s0 s' : State} (hr : Reachable s) {h : Hints}
    {now c digest dkey : Nat} {comps : List Nat} {platform : Nat} {inv : List Nat} {prio : Int} {pq : PQ}
    (he : enter h s now = .ok s0) (hd : alookup dkey s0.dedup = none)
    (hroute : route s0 comps platform = some pq)
    (hs : step s (.exec h now c digest dkey true comps platform inv prio) = .ok s') :
    s'.nextTask = s0.nextTask + 1 ∧ s'.dedup = s0.dedup ∧ alookup dkey s'.dedup = none ∧
      ∃ t, s'.task? s0.nextTask = some t ∧ t.dkey = dkey ∧ t.doNotCache = true := by
  have hI0 : Inv s0 := (wp_of_ok (enter_spec (inv_reachable hr)) he).1
  have hs' := exec_after_enter he hs
  obtain ⟨a, b, t, c1, c2, c3, _⟩ := wp_of_ok (execBody_miss hI0 hd hroute) hs'
  simp only [if_true] at b
  exact ⟨a, b, by rw [b]; exact hd, t, c1, c2, c3⟩

/-- the hypotheses are satisfiable: in `s1` key 77 misses the map and a platform queue is found -/
example : (match enter h0 s1 0 with
    | .ok s0 => alookup 77 s0.dedup == none && (route s0 [] 7).isSome
    | .error _ => false) = true := by decide +kernel

/-- two `do_not_cache` requests for the same key yield two tasks -/
example : (run s1 [ .exec h0 0 102 77 77 true [] 7 [1] 0, .exec h0 0 103 77 77 true [] 7 [1] 0 ]).nextTask
    = s1.nextTask + 2 := by decide +kernel

/-- a cacheable request that misses the map creates a task and enters it -/
theorem miss_creates_and_enters {s s0 s' : State} (hr : Reachable s) {h : Hints}
    {now c digest dkey : Nat} {comps : List Nat} {platform : Nat} {inv : List Nat} {prio : Int} {pq : PQ}
    (he : enter h s now = .ok s0) (hd : alookup dkey s0.dedup = none)
    (hroute : route s0 comps platform = some pq)
    (hs : step s (.exec h now c digest dkey false comps platform inv prio) = .ok s') :
    s'.nextTask = s0.nextTask + 1 ∧ alookup dkey s'.dedup = some s0.nextTask := by
  have hI0 : Inv s0 := (wp_of_ok (enter_spec (inv_reachable hr)) he).1
  have hs' := exec_after_enter he hs
  obtain ⟨a, b, _⟩ := wp_of_ok (execBody_miss hI0 hd hroute) hs'
  simp only [Bool.false_eq_true, if_false] at b
  exact ⟨a, by rw [b, alookup_aset, if_pos rfl]⟩

/-- **fresh after completion.**  A completed task is not in the map, so (by
`miss_creates_and_enters`) the next request for its key starts a fresh execution unless another
live task has taken the key meanwhile. -/
theorem fresh_after_completion {s : State} (hr : Reachable s) {tid : Nat} {t : Task}
    (ht : s.task? tid = some t) (hc : t.response ≠ none) (k : Nat) : alookup k s.dedup ≠ some tid := by
  intro h
  obtain ⟨t', h1, _, h3, _⟩ := (dedup_map_exact hr k tid).mp h
  rw [ht] at h1; cases h1
  exact hc h3

example : (legacyState.task? 1).map (·.response.isSome) = some true ∧ alookup 55 legacyState.dedup ≠ some 1 := by
  decide +kernel

/-- if no live cacheable foreground task has key `k`, the map has no entry for `k` -/
theorem no_live_task_no_entry {s : State} (hr : Reachable s) (k : Nat)
    (hn : ∀ tid t, s.task? tid = some t → t.dkey = k → t.response = none → t.doNotCache = false →
      t.background = true) : alookup k s.dedup = none := by
  cases h : alookup k s.dedup with
  | none => rfl
  | some tid =>
    obtain ⟨t, h1, h2, h3, h4, h5⟩ := (dedup_map_exact hr k tid).mp h
    have := hn tid t h1 h2 h3 h4
    rw [h5] at this; cases this

/-- **A leaving client is harmless (cancellation).**  A parked stream whose client cancels
(`streamLeave`, the body of `streamWake … reason = 2` after `bq.enter`) changes neither tasks,
workers, the map nor any other client's stream; it only decrements the waiter count of its
operation (and may arm the no-waiter cleanup). -/
theorem leaver_harmless_cancel {s s' : State} {c code : Nat} (hh : streamLeave s c code = .ok s') :
    s'.tasks = s.tasks ∧ s'.workers = s.workers ∧ s'.dedup = s.dedup ∧
      s'.streams = s.streams.filter (fun x => x.client ≠ c) := by
  obtain ⟨a, b, c', _, e, _⟩ := streamLeave_frame hh
  exact ⟨a, b, c', e⟩

/-- the same at the level of a segment, when the clock does not advance -/
theorem leaver_harmless_cancel_step {s s' : State} {h : Hints} {now c : Nat} (hn : now ≤ s.now)
    (hh : step s (.streamWake h now c 2) = .ok s') :
    s'.tasks = s.tasks ∧ s'.workers = s.workers ∧ s'.dedup = s.dedup ∧
      s'.streams = s.streams.filter (fun x => x.client ≠ c) := by
  have : step s (.streamWake h now c 2) = streamWake h s now c 2 := rfl
  rw [this] at hh
  unfold streamWake at hh
  rw [enter_noop hn, ok_bind'] at hh
  cases hst : s.streams.find? (fun x => x.client = c) with
  | none => rw [hst] at hh; cases hh
  | some st => rw [hst] at hh; exact leaver_harmless_cancel hh

example : (match step s2 (.streamWake h0 0 101 2) with
    | .ok s' => s'.streams.length == 1 && (s'.task? 1).map (·.stage) == (s2.task? 1).map (·.stage)
    | .error _ => false) = true := by decide +kernel

/-- **A leaving client is harmless (abandoned operation).**  Removing an operation that is not
the last one of its task (`operation.remove` from the cleanup queue) only erases the operation and
drops its name from the task: stage, worker, retry count, response, learner and all other
operations of the task, every other task, the workers, the map and the streams are unchanged;
in particular the task is *not* completed. -/
theorem leaver_harmless_remove {s s' : State} (hr : Reachable s) {h : Hints} {o : Nat} {op : Op} {t : Task}
    (hop : s.op? o = some op) (ht : s.task? op.task = some t) (hlen : t.ops.length ≠ 1)
    (hh : removeOp h s o = .ok s') :
    s' = { s with ops := aerase o s.ops,
                  tasks := aset t.id { t with ops := t.ops.filter (· ≠ o) } s.tasks } := by
  have hI := inv_reachable hr
  obtain ⟨t', h1, h2⟩ := hI.oinv.o1 o op hop
  have : alookup op.task s.tasks = some t := ht
  rw [this] at h1; cases h1
  have hne : (t.ops.filter (· ≠ o)).isEmpty = false := by
    cases he : (t.ops.filter (· ≠ o)).isEmpty with
    | false => rfl
    | true => exact absurd (filter_ne_empty_length (hI.oinv.o3 _ t ht).1 h2 he) hlen
  exact removeOp_nonlast hop ht hlen hne hh

/-- removing operation 2 of the sample (task 1 has operations 1 and 2) leaves operation 1 and
does not complete the task -/
example : (match removeOp h0 s2 2 with
    | .ok s' => (s'.task? 1).map (fun t => (t.ops, t.response.isSome, t.stage)) ==
        (s2.task? 1).map (fun t => ([1], t.response.isSome, t.stage))
    | .error _ => false) = true := by decide +kernel

/-- the last operation, on the contrary, completes the task with CANCELED / `noWaiters`
(non-vacuity of the hypothesis `length ≠ 1` above: here it is `1`) -/
example : (s1.task? 1).map (·.ops.length) = some 1 ∧ (s2.task? 1).map (·.ops.length) = some 2 := by decide +kernel

end BbRe.Properties.C03
