import BbRe.Lemmas.ExecFlow
/-!
# C12, the executor's part: every action gets a build directory of its own

Property C12: "Every action gets a build directory of its own …, concurrent actions
on one worker never share a directory".  `Properties/C12.lean` shows for the
decorator stack that directories owned at the same time have different names
(because `Mkdir` is exclusive: an action asking for a taken name *fails*).  What
is shown here is that no action fails that way: `localBuildExecutor.Execute`
passes its action digest to `GetBuildDirectory` only for actions the scheduler
never runs twice at the same time (`do_not_cache` unset), and nil otherwise, in
which case `sharedBuildDirectoryCreator` numbers the directory
(`Model/ExecFlow.lean`: `request`, `Dirs.get`).  Tied to the real executor stack
by `harness/cmd/localexec`.
-/
namespace BbRe.Properties.C12Flow
open BbRe.ExecFlow BbRe.Lemmas.ExecFlow

/-- In every history of a worker (actions starting and ending in any order, identical
`do_not_cache` actions overlapping at will, cacheable actions never in flight twice)
an action that starts is given a directory whose name no running action has, as long
as fewer than 10^15 numbered directories were handed out. -/
theorem every_action_gets_a_directory_of_its_own {s : Dirs} (h : Reachable s) (r : Req)
    (hl : r.digestName.length = 16) (ha : s.admits r) (hb : s.next + 1 < 10 ^ 15) :
    ∃ n, (s.get r).2 = some n ∧ n ∉ s.names ∧ (r, n) ∈ (s.get r).1.running := by
  have hf := fresh_name (dinv_reachable h) r hl ha hb
  rw [get_eq, if_neg hf]
  exact ⟨_, rfl, hf, List.mem_cons_self⟩

/-- Actions running at the same time hold directories with different names. -/
theorem running_actions_have_distinct_directories {s : Dirs} (h : Reachable s) : s.names.Nodup :=
  (dinv_reachable h).nodup

/-- What the name is: a `do_not_cache` action gets the next number, any other action
the first 16 characters of its digest. -/
theorem directory_name {s : Dirs} (r : Req) (n : String) (h : (s.get r).2 = some n) :
    n = if r.doNotCache then Nat.repr (s.next + 1) else r.digestName := by
  rw [get_eq] at h
  split at h
  · cases h
  · exact (Option.some.inj h).symm

def exReq : Req := ⟨true, "8b1a9953c4611296"⟩

/-- The demonstration of the seeded change: two identical do_not_cache actions on two
threads are given the directories "1" and "2". -/
example : ((Dirs.init.get exReq).1.get exReq).2 = some "2" ∧
    ((Dirs.init.get exReq).1.get exReq).1.names = ["2", "1"] := by decide +kernel

/-- … whereas an identical *cacheable* action in flight (which the scheduler excludes:
`admits`) would be refused. -/
example : ((Dirs.init.get ⟨false, "8b1a9953c4611296"⟩).1.get ⟨false, "8b1a9953c4611296"⟩).2 = none := by
  rw [get_eq (Dirs.init.get _).1, if_pos]
  exact List.mem_cons_self

example : Reachable ((Dirs.init.get exReq).1.get exReq).1 :=
  -- a literal is `String.ofList` of its characters
  have hl : exReq.digestName.length = 16 := String.length_ofList
  .exec exReq (.exec exReq .init hl (fun h => nomatch h)) hl (fun h => nomatch h)

end BbRe.Properties.C12Flow
