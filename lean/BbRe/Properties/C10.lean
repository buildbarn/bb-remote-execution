import BbRe.Model.Outputs
import BbRe.Lemmas.OutputsPath
import BbRe.Lemmas.OutputsListing
import BbRe.Lemmas.OutputsTree
import BbRe.Lemmas.OutputsErrors
import BbRe.Lemmas.OutputsParents
import BbRe.Lemmas.OutputsDecode
/-!
# C10 — reported outputs are exactly what the action produced

Property theorems about `Model/Outputs.lean`, the transcription of
`pkg/builder/output_hierarchy.go`.  Reference notions used in the statements
(defined in `BbRe/Lemmas/Outputs*.lean`):

* `splitSlash p` — the byte string `p` split at every `/`;
* `evalComps loc comps` — apply components to a location inside the input root:
  `""` and `.` stay, `..` removes the last name and is undefined at the root,
  anything else is appended;
* `walkN loc root` — what `lstat` finds at location `loc` below `root` (symlinks are not
  followed; `none` = missing or a parent is not a directory); `locate wd root s` — the same
  for the declared string `s` resolved against the working directory `wd`;
* `atLoc env up s found` — the entries one declared string `s` must contribute, given what
  was found at its location (a regular file: one `OutputFile` with the file's content id and
  executable bit, unless the CAS write fails; a symlink: one `OutputSymlink` with the
  normalised target; a directory: one `OutputDirectory` with the Tree of that directory,
  unless a CAS write fails; a special file: an error; nothing: nothing);
* `parentBlocked wd root s` — a parent location of `s` exists but is not a directory;
* `encodeDir env d` — the `Directory` message of directory `d` as a pure function (children are
  referenced by their own message = their digest); `m.kids` — the digests a message references;
  `fileOf` / `dirOf` / `symlinkOf` — the `FileNode` / `DirectoryNode` / `SymlinkNode` of one
  directory entry; `cleanDir env d` — no unreadable directory and no file whose CAS write fails
  anywhere below `d`;
* `DirAt q root` — location `q` below `root` is a directory; `SameShape x x'` — a directory stayed
  a directory, anything else stayed exactly what it was; `q <+: l` — `q` is a prefix of `l`;
* `decodeMsg m` — the directory a `Directory` message describes (following the references);
  `canonNode d` — what REv2 can express about `d`: regular files, then subdirectories
  (recursively), then symlinks with normalised targets, special files left out.
-/
namespace BbRe.Properties.C10
open BbRe.Outputs BbRe.Lemmas.Outputs

/-- Acceptable syntax of a working directory / output path: NUL free and not absolute. -/
def Relative (p : Str) : Prop := 0 ∉ p ∧ p.head? ≠ some 47

/-- `path.Resolve` over `outputNodePath` succeeds with `cs` iff the path is relative, NUL free, its
component-wise evaluation from `start` never goes above the root, and `cs` is that evaluation. -/
theorem normalise (start : List Name) (p : Str) (cs : List Name) :
    resolveRel start p = .ok cs ↔ Relative p ∧ evalComps start (splitSlash p) = some cs := by
  unfold resolveRel Relative
  rw [walkSteps_parseRel]
  by_cases h0 : 0 ∈ p
  · simp [h0]
  · by_cases ha : p.head? = some 47
    · simp [h0, ha]
    · simp only [h0, ha, ↓reduceIte, not_false_eq_true, true_and, ne_eq]
      cases evalComps start (splitSlash p) <;> simp

/-- …otherwise it is an error (INVALID_ARGUMENT in the Go code). -/
theorem normalise_error (start : List Name) (p : Str) :
    (∃ e, resolveRel start p = .error e) ↔ ¬ Relative p ∨ evalComps start (splitSlash p) = none := by
  unfold resolveRel Relative
  rw [walkSteps_parseRel]
  by_cases h0 : 0 ∈ p
  · simp [h0]
  · by_cases ha : p.head? = some 47
    · simp [h0, ha]
    · cases evalComps start (splitSlash p) <;> simp [h0, ha]

/-- `lookup(workingDirectory, p)`: resolving `p` from the resolved working directory is the
component-wise evaluation of the string `wd ++ "/" ++ p` from the root. -/
theorem normalise_join (w p : Str) (wd cs : List Name) (hw : resolveRel [] w = .ok wd) :
    resolveRel wd p = .ok cs ↔ Relative p ∧ evalComps [] (splitSlash (w ++ 47 :: p)) = some cs := by
  rw [normalise, splitSlash_join, evalComps_append]
  rw [normalise] at hw
  simp [hw.2]

example : resolveRel [[97]] [46, 46, 47, 98, 47, 47, 46, 47, 99, 47] = .ok [[98], [99]] := by rfl
example : resolveRel [[97]] [46, 46, 47, 46, 46] = .error .escapes := by rfl
example : resolveRel [] [47, 97] = .error .absolute := by rfl
example : resolveRel [] [97, 0] = .error .nul := by rfl

/-- `NewOutputHierarchy` returns a hierarchy iff the working directory and every output path stay
inside the input root; otherwise it returns an error and no hierarchy (no output node) at all. -/
theorem rejected_or_all_inside (w : Str) (ps : List Str) (up : Bool) :
    (∃ h, newHierarchy w ps up = .ok h) ↔
      ∃ wd, resolveRel [] w = .ok wd ∧ ∀ p ∈ ps, ∃ cs, resolveRel wd p = .ok cs := by
  unfold newHierarchy
  cases hw : resolveRel [] w with
  | error e => simp
  | ok wd => simp [registerAll_ok_iff]

/-- **Parent directories.**  Let the input root have no non-directory at a location that must
become a parent directory of a declared output (then every `Mkdir` succeeds or reports EEXIST on a
directory).  After `CreateParentDirectories`, for every declared output path, every proper prefix
of its normalised location is a directory; everything that existed is unchanged (directories
stay directories, files/symlinks/special files are identical); and nothing else was created: every
new location is a proper, non-empty prefix of a declared location. -/
theorem parents_created (w : Str) (ps : List Str) (up : Bool) (hy : Hierarchy) (r : Bool) (es : Entries)
    (hh : newHierarchy w ps up = .ok hy)
    (hnc : ∀ wd, resolveRel [] w = .ok wd → ∀ s ∈ ps, ∀ loc, resolveRel wd s = .ok loc →
      ∀ q, q ≠ [] → q <+: loc.dropLast → ∀ x, walkN q (.dir r es) = some x → isDir x = true) :
    ∃ wd es', resolveRel [] w = .ok wd ∧
      hy.createParentDirectories (.dir r es) = .ok (.dir r es') ∧
      (∀ s ∈ ps, ∀ loc, resolveRel wd s = .ok loc → ∀ q, q <+: loc.dropLast → DirAt q (.dir r es')) ∧
      (∀ q x, walkN q (.dir r es) = some x → ∃ x', walkN q (.dir r es') = some x' ∧ SameShape x x') ∧
      (∀ q, walkN q (.dir r es') ≠ none → walkN q (.dir r es) ≠ none ∨
        ∃ s ∈ ps, ∃ loc, resolveRel wd s = .ok loc ∧ q ≠ [] ∧ q <+: loc.dropLast) := by
  obtain ⟨wd, hw, hh⟩ := newHierarchy_ok_iff.mp hh
  have hpre := prefixes_registerAll wd _ hy ps hh
  simp only [prefixesN_empty, List.not_mem_nil, false_or] at hpre
  have hconf : NoConflict (prefixesN hy.root) es := by
    intro q hq x r' hwalk
    obtain ⟨s, hs, loc, hloc, hne, hpfx⟩ := (hpre q).1 hq
    have : walkN q (.dir r es) = some x := by
      cases q with
      | nil => exact absurd rfl hne
      | cons c q' => rw [walkN_cons] at hwalk ⊢; exact hwalk
    exact hnc wd hw s hs loc hloc q hne hpfx x this
  obtain ⟨es', hmk, hgood⟩ := cn_all hy.root es hconf
  refine ⟨wd, es', hw, ?_, ?_, ?_, ?_⟩
  · simp [Hierarchy.createParentDirectories, hmk]
  · intro s hs loc hloc q hpfx
    cases q with
    | nil => exact ⟨r, es', rfl⟩
    | cons c q' => exact hgood.made _ ((hpre _).2 ⟨s, hs, loc, hloc, by simp, hpfx⟩) r
  · intro q x hwalk
    exact hgood.kept q x r hwalk
  · intro q hwalk
    rcases hgood.only q r hwalk with h | h
    · exact Or.inl h
    · exact Or.inr ((hpre q).1 h)

/-- The hypothesis of `parents_created` is satisfiable and the conclusion non-trivial: with output
`a/b/c` declared from working directory `.` and an input root that only holds a file `x`, the
directories `a` and `a/b` are created and `x` is kept. -/
example :
    (newHierarchy [] [[97, 47, 98, 47, 99]] false).toOption.bind
      (fun hy => (hy.createParentDirectories (.dir true [([120], .file false 1)])).toOption.map
        (fun n => (walkN [[97], [98]] n).isSome && (walkN [[97], [98], [99]] n).isNone &&
          (walkN [[120]] n).isSome)) = some true := by
  rfl

/-- **Exact listing** (for every CAS fault predicate `env`, hence in particular fault free).
For a hierarchy built from working directory `w` and output paths `ps`, the `ActionResult`
produced by `UploadOutputs` on any directory tree is, up to order, the concatenation over the
*declared strings* of what each string alone must contribute (`atLoc` of what lstat finds at
its normalised location): duplicates and aliases each get their own entry under their own
string, missing locations contribute nothing; and no error is saved iff no declared location
is special / fails to upload and no parent location is a non-directory. -/
theorem exact_listing (env : Env) (force : Bool) (w : Str) (ps : List Str) (up : Bool) (hy : Hierarchy)
    (r : Bool) (es : Entries) (hh : newHierarchy w ps up = .ok hy) :
    ∃ wd, resolveRel [] w = .ok wd ∧
      (hy.uploadOutputs env force (.dir r es)).files.Perm
        (ps.flatMap fun s => (atLoc env (up || force) s (locate wd (.dir r es) s)).files) ∧
      (hy.uploadOutputs env force (.dir r es)).dirs.Perm
        (ps.flatMap fun s => (atLoc env (up || force) s (locate wd (.dir r es) s)).dirs) ∧
      (hy.uploadOutputs env force (.dir r es)).symlinks.Perm
        (ps.flatMap fun s => (atLoc env (up || force) s (locate wd (.dir r es) s)).symlinks) ∧
      ((hy.uploadOutputs env force (.dir r es)).errs = [] ↔
        ∀ s ∈ ps, parentBlocked wd (.dir r es) s = false ∧
          (atLoc env (up || force) s (locate wd (.dir r es) s)).errs = []) := by
  obtain ⟨wd, hw, hh⟩ := newHierarchy_ok_iff.mp hh
  refine ⟨wd, hw, ?_⟩
  obtain ⟨_, ha⟩ := uploadOutputs_registerAll env force wd _ hy ps r es hh
  rw [emptyHierarchy_upload] at ha
  have hf := ha.files
  have hd := ha.dirs
  have hs := ha.symlinks
  have he := ha.errs
  simp only [List.nil_append,
    true_and, sumRes_files, sumRes_dirs, sumRes_symlinks, sumRes_errs_nil, List.flatMap_map,
    List.mem_map, forall_exists_index, and_imp, forall_apply_eq_imp_iff₂] at hf hd hs he
  refine ⟨?_, ?_, ?_, ?_⟩
  · refine hf.trans (List.Perm.of_eq ?_)
    exact flatMap_congr' _ _ _ (fun s _ => (specOne_lists env _ wd r es s).1)
  · refine hd.trans (List.Perm.of_eq ?_)
    exact flatMap_congr' _ _ _ (fun s _ => (specOne_lists env _ wd r es s).2.1)
  · refine hs.trans (List.Perm.of_eq ?_)
    exact flatMap_congr' _ _ _ (fun s _ => (specOne_lists env _ wd r es s).2.2.1)
  · rw [he]
    exact forall_congr' fun s => imp_congr_right fun _ => (specOne_lists env _ wd r es s).2.2.2

/-- An `OutputFile` with path string `s` is listed iff `s` is a declared path whose normalised
location is a regular file with that content id and executable bit (and the CAS accepted it). -/
theorem listed_file_iff (env : Env) (force : Bool) (w : Str) (ps : List Str) (up : Bool) (hy : Hierarchy)
    (r : Bool) (es : Entries) (hh : newHierarchy w ps up = .ok hy) (s : Str) (c : Nat) (x : Bool) :
    ∃ wd, resolveRel [] w = .ok wd ∧
      ((s, c, x) ∈ (hy.uploadOutputs env force (.dir r es)).files ↔
        s ∈ ps ∧ locate wd (.dir r es) s = some (.file x c) ∧ env.putFails (.file c) = false) := by
  obtain ⟨wd, hw, hf, -, -, -⟩ := exact_listing env force w ps up hy r es hh
  refine ⟨wd, hw, ?_⟩
  rw [hf.mem_iff, List.mem_flatMap]
  exact ⟨fun ⟨_, hs, hm⟩ => let ⟨e, h⟩ := mem_atLoc_files.mp hm; e ▸ ⟨hs, h⟩,
    fun ⟨hs, h⟩ => ⟨s, hs, mem_atLoc_files.mpr ⟨rfl, h⟩⟩⟩

/-- Duplicates: a declared string whose location is an (uploadable) regular file is listed exactly
as many times as it was declared. -/
theorem listed_file_count (env : Env) (force : Bool) (w : Str) (ps : List Str) (up : Bool) (hy : Hierarchy)
    (r : Bool) (es : Entries) (hh : newHierarchy w ps up = .ok hy) (s : Str) (c : Nat) (x : Bool) :
    ∃ wd, resolveRel [] w = .ok wd ∧
      (locate wd (.dir r es) s = some (.file x c) → env.putFails (.file c) = false →
        (hy.uploadOutputs env force (.dir r es)).files.count (s, c, x) = ps.count s) := by
  obtain ⟨wd, hw, hf, -, -, -⟩ := exact_listing env force w ps up hy r es hh
  refine ⟨wd, hw, fun hloc hput => ?_⟩
  rw [hf.count_eq]
  refine count_flatMap_single ps
    (fun s => (atLoc env (up || force) s (locate wd (.dir r es) s)).files) s (s, c, x)
    (by simp only [atLoc_files, hloc]; simp [hput]) ?_
  exact fun s' _ hne hm => hne (mem_atLoc_files.mp hm).1.symm

/-- An `OutputSymlink` with path string `s` is listed iff `s` is a declared path whose normalised
location is a symlink (that could be read); the reported target is the link's (normalised) target. -/
theorem listed_symlink_iff (env : Env) (force : Bool) (w : Str) (ps : List Str) (up : Bool) (hy : Hierarchy)
    (r : Bool) (es : Entries) (hh : newHierarchy w ps up = .ok hy) (s t' : Str) :
    ∃ wd, resolveRel [] w = .ok wd ∧
      ((s, t') ∈ (hy.uploadOutputs env force (.dir r es)).symlinks ↔
        s ∈ ps ∧ ∃ t, locate wd (.dir r es) s = some (.symlink t) ∧ t' = normTarget t ∧
          env.readlinkFails t = false) := by
  obtain ⟨wd, hw, -, -, hs, -⟩ := exact_listing env force w ps up hy r es hh
  refine ⟨wd, hw, ?_⟩
  rw [hs.mem_iff, List.mem_flatMap]
  exact ⟨fun ⟨_, hs, hm⟩ => let ⟨e, h⟩ := mem_atLoc_symlinks.mp hm; e ▸ ⟨hs, h⟩,
    fun ⟨hs, h⟩ => ⟨s, hs, mem_atLoc_symlinks.mpr ⟨rfl, h⟩⟩⟩

/-- An `OutputDirectory` with path string `s` is listed iff `s` is a declared path whose normalised
location is a directory `d`, and the entry is the one `uploadOutputDirectoryEntered` produces for
`d` (its Tree is described by `tree_wellformed` below). -/
theorem listed_dir_iff (env : Env) (force : Bool) (w : Str) (ps : List Str) (up : Bool) (hy : Hierarchy)
    (r : Bool) (es : Entries) (hh : newHierarchy w ps up = .ok hy)
    (e : Str × List DirMsg × Option DirMsg) :
    ∃ wd, resolveRel [] w = .ok wd ∧
      (e ∈ (hy.uploadOutputs env force (.dir r es)).dirs ↔
        e.1 ∈ ps ∧ ∃ r' es', locate wd (.dir r es) e.1 = some (.dir r' es') ∧
          e ∈ (uploadOutputDirectoryEntered env (up || force) (.dir r' es') [e.1]).dirs) := by
  obtain ⟨wd, hw, -, hd, -, -⟩ := exact_listing env force w ps up hy r es hh
  refine ⟨wd, hw, ?_⟩
  rw [hd.mem_iff, List.mem_flatMap]
  exact ⟨fun ⟨_, hs, hm⟩ => let ⟨e, h⟩ := mem_atLoc_dirs.mp hm; e ▸ ⟨hs, h⟩,
    fun ⟨hs, h⟩ => ⟨e.1, hs, mem_atLoc_dirs.mpr ⟨rfl, h⟩⟩⟩

/-- A declared path whose location is missing (or lies below a non-directory) is listed nowhere. -/
theorem missing_lists_nothing (env : Env) (force : Bool) (w : Str) (ps : List Str) (up : Bool) (hy : Hierarchy)
    (r : Bool) (es : Entries) (hh : newHierarchy w ps up = .ok hy) (s : Str) :
    ∃ wd, resolveRel [] w = .ok wd ∧
      (locate wd (.dir r es) s = none →
        (∀ e ∈ (hy.uploadOutputs env force (.dir r es)).files, e.1 ≠ s) ∧
        (∀ e ∈ (hy.uploadOutputs env force (.dir r es)).symlinks, e.1 ≠ s) ∧
        (∀ e ∈ (hy.uploadOutputs env force (.dir r es)).dirs, e.1 ≠ s)) := by
  obtain ⟨wd, hw, -⟩ := newHierarchy_ok_iff.mp hh
  refine ⟨wd, hw, fun hnone => ⟨?_, ?_, ?_⟩⟩
  · rintro ⟨s', c, x⟩ he rfl
    have h := (at_wd (listed_file_iff env force w ps up hy r es hh s' c x) hw).mp he
    rw [hnone] at h
    cases h.2.1
  · rintro ⟨s', t⟩ he rfl
    obtain ⟨-, t', h, -⟩ := (at_wd (listed_symlink_iff env force w ps up hy r es hh s' t) hw).mp he
    cases hnone.symm.trans h
  · rintro e he rfl
    obtain ⟨-, r', es', h, -⟩ := (at_wd (listed_dir_iff env force w ps up hy r es hh e) hw).mp he
    cases hnone.symm.trans h

/-- A special file (FIFO, socket, device) at a declared location is an error, never an entry. -/
theorem special_is_error (env : Env) (force : Bool) (w : Str) (ps : List Str) (up : Bool) (hy : Hierarchy)
    (r : Bool) (es : Entries) (hh : newHierarchy w ps up = .ok hy) (s : Str) (hs : s ∈ ps) :
    ∃ wd, resolveRel [] w = .ok wd ∧
      (locate wd (.dir r es) s = some .special →
        (hy.uploadOutputs env force (.dir r es)).errs ≠ []) := by
  obtain ⟨wd, hw, -, -, -, he⟩ := exact_listing env force w ps up hy r es hh
  refine ⟨wd, hw, fun hloc hnil => ?_⟩
  have := (he.1 hnil s hs).2
  rw [hloc] at this
  simp [atLoc] at this

/-- **Well-formed Tree.**  Every `OutputDirectory` entry produced for a directory `d` (any tree:
any depth, width, repeated identical subdirectories; any CAS fault predicate) carries a Tree
`root :: children` such that: `root` is the message of `d`; no directory occurs twice
(identical subdirectories appear once); every digest referenced by a listed directory occurs
in the list - exactly once - and strictly *after* the directory referencing it (parents before
children, as `is_topologically_sorted` announces); the root digest is reported iff Directory
messages were requested; and the Tree (and, if requested, every Directory) was stored. -/
theorem tree_wellformed (env : Env) (up : Bool) (d : Node) (ps : List Str)
    (e : Str × List DirMsg × Option DirMsg)
    (h : e ∈ (uploadOutputDirectoryEntered env up d ps).dirs) :
    ∃ root children, e.2.1 = root :: children ∧ encodeDir env d = some root ∧
      e.2.1.Nodup ∧
      (∀ a m b, e.2.1 = a ++ m :: b → ∀ k ∈ m.kids, k ∈ b) ∧
      (∀ m ∈ e.2.1, ∀ k ∈ m.kids, e.2.1.count k = 1) ∧
      e.2.2 = (if up then some root else none) ∧
      env.putFails (.tree e.2.1) = false ∧
      (up = true → ∀ m ∈ e.2.1, env.putFails (.dirmsg m) = false) := by
  unfold uploadOutputDirectoryEntered at h
  cases hu : d.uploadDirectory env {} with
  | mk ro st =>
    rw [hu] at h
    cases ro with
    | none => simp at h
    | some root =>
      obtain ⟨henc, ⟨rest, hrev⟩, hnd, htopo, -⟩ := fresh_upload env d root st hu
      simp only at h
      split at h
      · rename_i hok
        simp only [List.mem_map] at h
        obtain ⟨p, -, rfl⟩ := h
        simp only [Bool.and_eq_true, Bool.not_eq_eq_eq_not, Bool.not_true, Bool.or_eq_true,
          List.all_eq_true] at hok
        have hnd' : st.dirs.reverse.Nodup := nodup_reverse' hnd
        have hafter : ∀ a m b, st.dirs.reverse = a ++ m :: b → ∀ k ∈ m.kids, k ∈ b := by
          intro a m b hsplit k hk
          have : st.dirs = b.reverse ++ m :: a.reverse := by
            have := congrArg List.reverse hsplit
            simpa using this
          have := htopo _ m _ this k hk
          simpa using this
        refine ⟨root, rest, hrev, henc, hnd', hafter, ?_, rfl, hok.1, ?_⟩
        · intro m hm k hk
          have hm' : m ∈ st.dirs.reverse := hm
          obtain ⟨a, b, hsplit⟩ := List.append_of_mem hm'
          have hkb := hafter a m b hsplit k hk
          have hkin : k ∈ st.dirs.reverse := by rw [hsplit]; simp [hkb]
          show st.dirs.reverse.count k = 1
          rw [hnd'.count]
          simp [hkin]
        · intro hup m hm
          rcases hok.2 with h1 | h2
          · simp [hup] at h1
          · exact h2 m (by simpa using hm)
      · simp at h

/-- **The root (and, recursively, every child) describes the directory exactly**: its `files`,
`directories` and `symlinks` are the directory's regular files (content id, executable bit),
subdirectories (referenced by the digest of *their* message) and symlinks (normalised target), in
`ReadDir` order; special files are left out (REv2 cannot express them).  Fault free
(`fileOf noFaults`, `symlinkOf noFaults`, all directories listable) nothing is missing; under faults
only entries whose upload / `Readlink` / listing failed are - and then an error is saved
(`errors_do_not_lie`, which covers entries at any depth below a declared output directory). -/
theorem tree_root_exact (env : Env) (es : Entries) (m : DirMsg)
    (h : encodeDir env (.dir true es) = some m) :
    m.files = es.filterMap (fileOf env) ∧ m.dirs = es.filterMap (dirOf env) ∧
      m.symlinks = es.filterMap (symlinkOf env) := by
  rw [encodeDir, if_pos rfl, encodeEntries_eq] at h
  cases h
  exact ⟨rfl, rfl, rfl⟩

/-- **Decoding reproduces the tree**: for every directory tree (all directories readable, CAS
fault-free) the root message exists and decoding it - following the child references, which by
`tree_wellformed` are all present in the Tree - yields the directory itself (in the canonical
form `canonNode`). -/
theorem tree_decodes (d : Node) (h : cleanDir noFaults d = true) :
    ∃ m, encodeDir noFaults d = some m ∧ decodeMsg m = canonNode d :=
  pdecode_all d h

example : cleanDir noFaults (.dir true [([97], .dir true [([98], .file true 3)]), ([99], .special)]) = true := rfl

example : fileOf noFaults ([97], .file true 5) = some ([97], 5, true) := rfl
example : dirOf noFaults ([97], .dir true [([98], .special)]) = some ([97], .mk [] [] []) := rfl

/-- An output directory is listed (once per declared string) whenever its Tree could be stored. -/
theorem directory_listed (env : Env) (up : Bool) (r : Bool) (es : Entries) (s : Str) (root : DirMsg)
    (st : UpState) (hu : (Node.dir r es).uploadDirectory env {} = (some root, st))
    (htree : env.putFails (.tree st.dirs.reverse) = false)
    (hdirs : up = true → ∀ m ∈ st.dirs, env.putFails (.dirmsg m) = false) :
    (uploadOutputDirectoryEntered env up (.dir r es) [s]).dirs =
      [(s, st.dirs.reverse, if up then some root else none)] := by
  unfold uploadOutputDirectoryEntered
  rw [hu]
  simp only [htree, Bool.not_false, Bool.true_and, List.map_cons, List.map_nil]
  split
  · rfl
  · rename_i hno
    exfalso
    apply hno
    cases up with
    | false => simp
    | true => simpa using hdirs rfl

/-- **Errors do not lie.**  For every CAS fault predicate and every set of unreadable directories:
if `UploadOutputs` saves no error (`firstError == nil`), then its `ActionResult` entries are, up to
order, exactly the entries of the fault-free run (`noFaults`) on the same tree - nothing was
dropped silently - and the fault-free run has no error either.  Contrapositive: whenever a fault
(failed CAS write of a file, Directory or Tree; failed `ReadDir`) makes an entry or part of a Tree
disappear, the error is set. -/
theorem errors_do_not_lie (env : Env) (force : Bool) (w : Str) (ps : List Str) (up : Bool) (hy : Hierarchy)
    (r : Bool) (es : Entries) (hh : newHierarchy w ps up = .ok hy)
    (hnil : (hy.uploadOutputs env force (.dir r es)).errs = []) :
    (hy.uploadOutputs env force (.dir r es)).files.Perm (hy.uploadOutputs noFaults force (.dir r es)).files ∧
    (hy.uploadOutputs env force (.dir r es)).dirs.Perm (hy.uploadOutputs noFaults force (.dir r es)).dirs ∧
    (hy.uploadOutputs env force (.dir r es)).symlinks.Perm
      (hy.uploadOutputs noFaults force (.dir r es)).symlinks ∧
    (hy.uploadOutputs noFaults force (.dir r es)).errs = [] := by
  obtain ⟨wd, hw, hf, hd, hs, he⟩ := exact_listing env force w ps up hy r es hh
  obtain ⟨hf0, hd0, hs0, he0⟩ := at_wd (exact_listing noFaults force w ps up hy r es hh) hw
  have hall := he.1 hnil
  have heq : ∀ s ∈ ps, atLoc env (up || force) s (locate wd (.dir r es) s) =
      atLoc noFaults (up || force) s (locate wd (.dir r es) s) :=
    fun s hs' => atLoc_clean_eq env _ s _ (hall s hs').2
  refine ⟨?_, ?_, ?_, ?_⟩
  · refine hf.trans (List.Perm.trans (List.Perm.of_eq ?_) hf0.symm)
    exact flatMap_congr' _ _ _ (fun s hs' => by rw [heq s hs'])
  · refine hd.trans (List.Perm.trans (List.Perm.of_eq ?_) hd0.symm)
    exact flatMap_congr' _ _ _ (fun s hs' => by rw [heq s hs'])
  · refine hs.trans (List.Perm.trans (List.Perm.of_eq ?_) hs0.symm)
    exact flatMap_congr' _ _ _ (fun s hs' => by rw [heq s hs'])
  · rw [he0]
    intro s hs'
    exact ⟨(hall s hs').1, by rw [← heq s hs']; exact (hall s hs').2⟩

/-- Under faults every listed file and symlink entry is still an entry of the fault-free run
(listed entries are correct; faults only remove entries - and then `errors_do_not_lie` applies). -/
theorem faulty_entries_sound (env : Env) (force : Bool) (w : Str) (ps : List Str) (up : Bool) (hy : Hierarchy)
    (r : Bool) (es : Entries) (hh : newHierarchy w ps up = .ok hy) :
    (∀ e ∈ (hy.uploadOutputs env force (.dir r es)).files,
      e ∈ (hy.uploadOutputs noFaults force (.dir r es)).files) ∧
    (∀ e ∈ (hy.uploadOutputs env force (.dir r es)).symlinks,
      e ∈ (hy.uploadOutputs noFaults force (.dir r es)).symlinks) := by
  obtain ⟨wd, hw, -⟩ := newHierarchy_ok_iff.mp hh
  constructor
  · rintro ⟨s, c, x⟩ he
    have := (at_wd (listed_file_iff env force w ps up hy r es hh s c x) hw).mp he
    exact (at_wd (listed_file_iff noFaults force w ps up hy r es hh s c x) hw).mpr ⟨this.1, this.2.1, rfl⟩
  · rintro ⟨s, t⟩ he
    obtain ⟨h2, t', h3, h4, -⟩ := (at_wd (listed_symlink_iff env force w ps up hy r es hh s t) hw).mp he
    exact (at_wd (listed_symlink_iff noFaults force w ps up hy r es hh s t) hw).mpr ⟨h2, t', h3, h4, rfl⟩

/-- With a CAS that never fails, a readable root, and every declared output directory listable all
the way down (`hread`), an error is saved iff some declared location holds a special file or has a
non-directory where a parent directory has to be. -/
theorem fault_free_error_iff (force : Bool) (w : Str) (ps : List Str) (up : Bool) (hy : Hierarchy)
    (es : Entries) (hh : newHierarchy w ps up = .ok hy)
    (hread : ∀ s ∈ ps, ∀ wd, resolveRel [] w = .ok wd → ∀ r' es', locate wd (.dir true es) s = some (.dir r' es') →
      cleanDir noFaults (.dir r' es') = true) :
    ∃ wd, resolveRel [] w = .ok wd ∧
      ((hy.uploadOutputs noFaults force (.dir true es)).errs = [] ↔
        ∀ s ∈ ps, parentBlocked wd (.dir true es) s = false ∧ locate wd (.dir true es) s ≠ some .special) := by
  obtain ⟨wd, hw, -, -, -, he⟩ := exact_listing noFaults force w ps up hy true es hh
  refine ⟨wd, hw, ?_⟩
  rw [he]
  refine forall_congr' fun s => imp_congr_right fun hs => and_congr_right fun _ => ?_
  cases hloc : locate wd (.dir true es) s with
  | none => simp [atLoc]
  | some n =>
    cases n with
    | dir r' es' =>
      have hc := hread s hs wd hw r' es' hloc
      simp only [atLoc, ne_eq]
      have hu := (uploadDirectory_errs noFaults (.dir r' es')).2 hc
      unfold uploadOutputDirectoryEntered
      cases hres : Node.uploadDirectory noFaults (.dir r' es') {} with
      | mk ro st =>
        rw [hres] at hu
        cases ro with
        | none => simpa using hu
        | some root => simp at hu; simp [hu, noFaults]
    | file x c => simp [atLoc, noFaults]
    | symlink t => simp [atLoc]
    | special => simp [atLoc]

/-! ## non-vacuity: one concrete run that meets the hypotheses of the theorems above

Working directory `a`; declared `b`, `./b`, `c/../b` (three aliases of `a/b`), `b` again (a
duplicate), `../a/d/` (a directory with two identical subdirectories), `..` (the input root
itself), `x` (missing), `s` (a FIFO), `l` (a symlink with a non-normalised target). -/

def exWd : Str := [97]
def exPaths : List Str :=
  [[98], [46, 47, 98], [99, 47, 46, 46, 47, 98], [98], [46, 46, 47, 97, 47, 100, 47], [46, 46], [120], [115],
    [108]]
def exRoot : Node :=
  .dir true [([97], .dir true
    [([98], .file true 5),
     ([100], .dir true [([112], .dir true [([122], .dir true [])]), ([113], .dir true [([122], .dir true [])]),
       ([102], .file false 19)]),
     ([108], .symlink [120, 47, 47, 121, 47]),
     ([115], .special)])]

/-- CAS that rejects content id 19. -/
def exEnv : Env := { putFails := fun b => match b with | .file c => c == 19 | _ => false }

example : (newHierarchy exWd exPaths true).toOption.isSome = true := by decide +kernel

-- stepping stone: instance search for equality on the quadruple below exceeds the default size without it
instance : DecidableEq (List (Str × Nat) × List Err) := inferInstance

/-- four `OutputFile`s (three aliases + one duplicate), one symlink with normalised target `x/y/`,
two output directories; the special file makes the result an error. -/
example :
    (newHierarchy exWd exPaths true).toOption.map (fun hy =>
      let res := hy.uploadOutputs noFaults false exRoot
      (res.files.map (·.1), res.symlinks, res.dirs.map (fun e => (e.1, e.2.1.length)), res.errs)) =
    some ([[98], [46, 47, 98], [99, 47, 46, 46, 47, 98], [98]], [([108], [120, 47, 121, 47])],
      [([46, 46], 5), ([46, 46, 47, 97, 47, 100, 47], 3)], [.invalidArgument]) := by decide +kernel

/-- the Tree of `a/d` has 3 directories for 5 directories on disk: `p` and `q` (and their `z`) are
identical and appear once. -/
example :
    (uploadOutputDirectoryEntered noFaults true
      (.dir true [([112], .dir true [([122], .dir true [])]), ([113], .dir true [([122], .dir true [])])])
      [[100]]).dirs.map (fun e => (e.2.1.length, e.2.2.isSome)) = [(3, true)] := by decide +kernel

/-- with the faulty CAS the file `a/d/f` is dropped from the Tree of `a/d` - and the error is set -/
example :
    (newHierarchy exWd [[100]] false).toOption.map (fun hy =>
      ((hy.uploadOutputs exEnv false exRoot).errs, (hy.uploadOutputs noFaults false exRoot).errs)) =
    some ([.put], []) := by decide +kernel

end BbRe.Properties.C10
