import BbRe.Lemmas.SchedTreeRead
import BbRe.Lemmas.SchedLiveQuiesce6
import BbRe.Lemmas.SchedTreeCross
import BbRe.Lemmas.SchedTreeLock
/-!
# C06 (tree layer) — nothing is retained in the invocation trees

The quiescence theorems of `Properties/C06.lean` are about `Model/Sched.lean`, which has no invocation
trees.  `Model/SchedTree.lean` adds them; here: an invocation is retained only as long as something needs it
(`getOrCreateInvocation` / `removeIfEmpty` discipline, for every reachable state of the tree layer), and in
the quiescent states of C06 — no workers; the only tasks are queued background-learning tasks — the trees
consist of the root invocations and the invocations of those queued background operations, with all worker
counters at zero.
-/
namespace BbRe.Properties.C06Tree
open BbRe.Sched BbRe.SchedTree BbRe.Lemmas.SchedTree

/-- Every non-root invocation that exists is needed: an operation is executing or queued, or a worker has
its last invocation, at or below it. -/
theorem invocation_needed (ts : TState) (h : TReachable ts) (n : Node) (hn : n ∈ ts.nodes) (hp : n.path ≠ []) :
    (∃ p w o, ExecAt ts n.scq p w o ∧ n.path <+: p) ∨ (∃ p w, LastAt ts n.scq p w ∧ n.path <+: p) ∨
    (∃ p o, QueuedAt ts n.scq p o ∧ n.path <+: p) :=
  ((tinv_reachable h).treeInv.exists_iff n.scq n.path hp).mp (node?_isSome_iff.mpr ⟨n, hn, rfl, rfl⟩)

/-- **no_invocations_retained.**  Once every worker is gone (each removed by its cleanup entry, C06), no
invocation is retained on behalf of workers or executing operations: every remaining non-root invocation
has a queued operation at or below it, and in every invocation `executingWorkers`,
`idleSynchronizingWorkers`, `idleSynchronizingWorkersChildren` are empty and `idleWorkersCount` is zero. -/
theorem no_invocations_retained (ts : TState) (h : TReachable ts) (hw : ts.s.workers = []) :
    (∀ n ∈ ts.nodes, n.path ≠ [] → ∃ p o, QueuedAt ts n.scq p o ∧ n.path <+: p) ∧
    (∀ n ∈ ts.nodes, n.exec = [] ∧ n.idle = 0 ∧ n.parked = [] ∧ n.ikids = []) := by
  have hI := tinv_reachable h
  have hT := hI.treeInv
  have hnoW : ∀ q w, ts.s.worker? q w = none := by
    intro q w; rw [BbRe.Lemmas.SchedInv.worker?_def, hw]; rfl
  have hnoE : ∀ q p w o, ¬ ExecAt ts q p w o := by
    rintro q p w o ⟨k, t, q0, hk, hwk, _⟩
    rw [BbRe.Lemmas.SchedInv.task?_def] at hk
    obtain ⟨wk, hf, _⟩ := hI.inv.core.p2 k t q0 w hk hwk
    rw [hw] at hf; cases hf
  have hnoL : ∀ q p w, ¬ LastAt ts q p w := by
    rintro q p w ⟨⟨wk, hwk⟩, _⟩; rw [hnoW] at hwk; cases hwk
  have hnoP : ∀ q p w, ¬ ParkedAt ts q p w := by
    rintro q p w ⟨⟨wk, hwk, _⟩, _⟩; rw [hnoW] at hwk; cases hwk
  constructor
  · intro n hn hp
    rcases invocation_needed ts h n hn hp with ⟨p, w, o, he, _⟩ | ⟨p, w, hl, _⟩ | hq
    · exact absurd he (hnoE _ _ _ _)
    · exact absurd hl (hnoL _ _ _)
    · exact hq
  · intro n hn
    refine ⟨?_, ?_, ?_, ?_⟩
    · obtain ⟨hnd, hpos, hnone, hcnt⟩ := hT.executingWorkers n hn
      cases hx : n.exec with
      | nil => rfl
      | cons a r =>
        exfalso
        obtain ⟨ka, c⟩ := a
        have hc : 0 < c := hpos (ka, c) (by rw [hx]; exact List.mem_cons_self)
        have hm : mget ka n.exec = c := by rw [hx]; simp [mget]
        cases ka with
        | none => rw [hnone] at hm; omega
        | some w =>
          rw [hcnt w] at hm
          obtain ⟨e, he, e1, e2, e3⟩ := (cntE_pos_iff _ _ _ _).mp (by rw [hm]; exact hc)
          obtain ⟨o, ho⟩ := (mem_bagE_iff hI.inv.core.tnd e.1 e.2.1 w).mp (by rw [← e3]; exact he)
          exact hnoE _ _ _ _ ho
    · rw [hT.idleWorkersCount n hn]
      cases hc : cntI n.scq n.path (bagI ts) with
      | zero => rfl
      | succ m =>
        exfalso
        obtain ⟨e, he, _, _⟩ := (cntI_pos_iff _ _ _).mp (by rw [hc]; omega : 0 < cntI n.scq n.path (bagI ts))
        obtain ⟨w, hl⟩ := (mem_bagI_iff hI.side e).mp he
        exact hnoL _ _ _ hl
    · cases hx : n.parked with
      | nil => rfl
      | cons w r =>
        exact absurd (((hT.idleSynchronizingWorkers n hn).2 w).mp (by rw [hx]; exact List.mem_cons_self)) (hnoP _ _ _)
    · cases hx : n.ikids with
      | nil => rfl
      | cons k r =>
        obtain ⟨p, w, hp, _⟩ := ((hT.idleSynchronizingWorkersChildren n hn).2 k).mp (by rw [hx]; exact List.mem_cons_self)
        exact absurd hp (hnoP _ _ _)

/-- In a quiescent state of C06 (`Lemmas/SchedLiveQuiesce6.lean`, `Quiescent`: what `Properties/C06.lean`,
`quiescence`, reaches from every run with fresh client ids) the only invocations left besides the roots are
those of queued background-learning operations. -/
theorem quiescent_tree (ts : TState) (h : TReachable ts) (hq : BbRe.Lemmas.SchedLive.Quiescent ts.s) :
    (∀ n ∈ ts.nodes, n.path ≠ [] → ∃ k t o, ts.s.task? k = some t ∧ t.background = true ∧ t.queued = true ∧
        t.scq = n.scq ∧ o ∈ t.ops ∧ n.path <+: ts.invOf o) ∧
    (∀ n ∈ ts.nodes, n.exec = [] ∧ n.idle = 0 ∧ n.parked = [] ∧ n.ikids = []) := by
  obtain ⟨a, b⟩ := no_invocations_retained ts h hq.workers
  refine ⟨fun n hn hp => ?_, b⟩
  obtain ⟨p, o, ⟨k, t, hk, hqd, hs, ho, hi⟩, hpp⟩ := a n hn hp
  exact ⟨k, t, o, hk, (hq.tasks k t hk).1, hqd, hs, ho, by rw [hi]; exact hpp⟩

/-- … and when no task is left either, only the root invocations remain, one per size-class queue, all empty. -/
theorem only_roots (ts : TState) (h : TReachable ts) (hw : ts.s.workers = []) (ht : ts.s.tasks = []) :
    (∀ n ∈ ts.nodes, n.path = [] ∧ n.qops = [] ∧ n.qkids = [] ∧ n.exec = [] ∧ n.idle = 0 ∧ n.parked = [] ∧ n.ikids = []) ∧
    (∀ n ∈ ts.nodes, ∃ sq ∈ ts.s.scqs, sq.id = n.scq) ∧ (ts.nodes.map (fun n => (n.scq, n.path))).Nodup := by
  have hT := (tinv_reachable h).treeInv
  obtain ⟨a, b⟩ := no_invocations_retained ts h hw
  have hnoQ : ∀ q p o, ¬ QueuedAt ts q p o := by
    rintro q p o ⟨k, t, hk, _⟩
    rw [BbRe.Lemmas.SchedInv.task?_def, ht] at hk; cases hk
  refine ⟨fun n hn => ?_, hT.owned, hT.unique⟩
  obtain ⟨b1, b2, b3, b4⟩ := b n hn
  refine ⟨?_, ?_, ?_, b1, b2, b3, b4⟩
  · cases hp : n.path with
    | nil => rfl
    | cons k r =>
      obtain ⟨p, o, hq, _⟩ := a n hn (by rw [hp]; simp)
      exact absurd hq (hnoQ _ _ _)
  · cases hx : n.qops with
    | nil => rfl
    | cons o r =>
      exact absurd (((hT.queuedOperations n hn).2 o).mp (by rw [hx]; exact List.mem_cons_self)) (hnoQ _ _ _)
  · cases hx : n.qkids with
    | nil => rfl
    | cons k r =>
      obtain ⟨p, o, hq, _⟩ := ((hT.queuedChildren n hn).2 k).mp (by rw [hx]; exact List.mem_cons_self)
      exact absurd hq (hnoQ _ _ _)

/-- **The cross-checks of the tree layer never fire.**  `Model/SchedTree.lean` rejects two things that
`Model/Sched.lean` accepts: the removal of a size-class queue that still has workers and the removal of a
worker that is parked inside `Synchronize` (its cleanup callbacks could not keep the invocation trees right
there).  By the cleanup accounting of C06 the cleanup queue never schedules either: in every reachable state
of the tree layer `bq.enter` — the only caller of the callbacks, run at the start of every segment on the
state the previous segment left — returns exactly what its copy without the two checks returns
(`Lemmas/SchedTreeCross.lean`, `tEnterNG`), results and errors alike. -/
theorem crosschecks_never_fire (ts : TState) (h : TReachable ts) (hints : Hints) (x : Extras) (now : Nat) :
    tEnter hints x ts now = tEnterNG hints x ts now := by
  have hr := reachable_proj h
  exact tEnter_ng (BbRe.Lemmas.SchedInv.inv_reachable hr) (BbRe.Lemmas.SchedLive.kwc_reachable hr)

end BbRe.Properties.C06Tree
