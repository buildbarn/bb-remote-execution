import BbRe.Lemmas.SchedLiveFuel
import BbRe.Lemmas.SchedLiveQuiesce6
import BbRe.Lemmas.SchedLiveDrain
/-!
# C06 — failures time out, wake everyone, and leak nothing

Theorems about `Model/Sched.lean` (transcription of
`pkg/scheduler/in_memory_build_queue.go`; tied to the code by the `sched`
differential harness) for every `Reachable` state: all points at which a
worker, client or operator call can be cancelled or abandoned, all clock
advances, all interleavings with normal traffic.

The cleanup heap is the bag `State.cleanup` of `(deadline, kind)` entries;
`enter` runs `runCleanup` (pop the earliest due entry, run its callback, repeat)
whenever time advanced.
-/
namespace BbRe.Properties.C06
open BbRe.Sched BbRe.Lemmas.SchedLive


def cfg : Cfg := ⟨10, 10, 30, 100, 5, 50, 3, 1000⟩
def h0 : Hints := ⟨[], 0, none, false⟩
def q : ScqId := ⟨1, 0⟩
def w : WId := ⟨1, 1⟩
/-- a worker creates queue `1/0` and goes idle (not blocking); a client's action is queued, then picked up by
the worker's next `Synchronize`; the client cancels; the worker never returns. -/
def demo : List Seg :=
  [.sync h0 1 q [] 7 w .idle true,
   .exec h0 2 1 55 55 false [] 7 [9] 0,
   .sync ⟨[(q, w, 1)], 0, none, false⟩ 3 q [] 7 w .idle false,
   .streamWake h0 4 1 2]
def sDemo : State := run (State.init cfg) demo
theorem demo_reachable : Reachable sDemo := reachable_run (Reachable.init cfg) demo

/-! ## (a) cleanup accounting -/

/-- **cleanup_accounting (workers).**  In every reachable state a worker is inside a `Synchronize` call and
has no cleanup entry, or is outside and has one armed; an armed worker entry belongs to an existing worker. -/
theorem cleanup_accounting_workers (s : State) (hs : Reachable s) :
    (∀ wk ∈ s.workers, (wk.inSync = true → ¬ hasK s (.worker wk.scq wk.id)) ∧
                        (wk.inSync = false → hasK s (.worker wk.scq wk.id))) ∧
    (∀ qq ww, hasK s (.worker qq ww) → ∃ wk ∈ s.workers, wk.scq = qq ∧ wk.id = ww ∧ wk.inSync = false) := by
  have hc := cinv_reachable hs
  refine ⟨fun wk hm => ⟨hc.wIn wk hm, fun hi => hc.wOut wk hm hi (by simp [noEx])⟩, ?_⟩
  intro qq ww hh
  obtain ⟨wk, hm, e1, e2⟩ := hc.eW qq ww hh
  refine ⟨wk, hm, e1, e2, ?_⟩
  cases hi : wk.inSync with
  | false => rfl
  | true => exact absurd (e1 ▸ e2 ▸ hh) (hc.wIn wk hm hi)

/-- **cleanup_accounting (operations).**  Every operation has waiters, or an armed cleanup entry, or may
exist without waiters and then its task is uncompleted; an armed entry belongs to an existing operation
without waiters; every operation belongs to an existing task that lists it. -/
theorem cleanup_accounting_ops (s : State) (hs : Reachable s) (o : Nat) (op : Op) (hop : s.op? o = some op) :
    (0 < op.waiters ∨ hasK s (.op o) ∨
      (op.mayExistWithoutWaiters = true ∧ ∃ t, s.task? op.task = some t ∧ t.response = none)) ∧
    (hasK s (.op o) → op.waiters = 0 ∧ op.mayExistWithoutWaiters = false) ∧
    (∃ t, s.task? op.task = some t ∧ o ∈ t.ops) := by
  have hc := cinv_reachable hs
  refine ⟨?_, ?_, hc.opT o op hop⟩
  · cases hb : op.mayExistWithoutWaiters with
    | true => exact .inr (.inr ⟨rfl, hc.opBg o op hop hb⟩)
    | false =>
      rcases hc.opFg o op hop hb (by simp [noEx]) with h | h
      · exact .inl h
      · exact .inr (.inl h)
  · intro hh
    obtain ⟨op', e, a, b⟩ := hc.eO o hh
    rw [hop] at e; injection e with e; subst e; exact ⟨a, b⟩

/-- **cleanup_accounting (queues).**  Every worker-created (removable) size-class queue has a worker or an
armed cleanup entry — never both; an armed entry belongs to an existing removable queue; every worker's
queue exists. -/
theorem cleanup_accounting_queues (s : State) (hs : Reachable s) :
    (∀ qq sq, s.scq? qq = some sq → sq.mayBeRemoved = true →
        (∃ wk ∈ s.workers, wk.scq = qq) ∨ hasK s (.scq qq)) ∧
    (∀ qq, hasK s (.scq qq) → (∃ sq, s.scq? qq = some sq ∧ sq.mayBeRemoved = true) ∧ ∀ wk ∈ s.workers, wk.scq ≠ qq) ∧
    (∀ wk ∈ s.workers, ∃ sq, s.scq? wk.scq = some sq) := by
  have hc := cinv_reachable hs
  exact ⟨fun qq sq e hb => hc.scqW qq sq e hb (by simp [noEx]), hc.eS, hc.wScq⟩

/-- **at most one entry per object.** -/
theorem one_entry_per_object (s : State) (hs : Reachable s) : (s.cleanup.map (·.kind)).Nodup :=
  (cinv_reachable hs).uniq

/-- non-vacuity: in the demo the worker (outside `Synchronize`, holding task 1) has an armed entry with
deadline 53, the abandoned operation one with deadline 34. -/
example : sDemo.cleanup.map (fun e => e.deadline) = [34, 53] := by decide +kernel
example : sDemo.workers.map (fun wk => (wk.inSync, wk.task)) = [(false, some 1)] := by decide +kernel

/-! ## (b) the timed failures -/

/-- **not_earlier.**  While no entry is due `enter` only advances the clock: no callback runs, nothing is
removed or failed. -/
theorem not_earlier (h : Hints) (s : State) (now : Nat) (hn : ∀ e ∈ s.cleanup, now < e.deadline) :
    enter h s now = .ok (if now > s.now then setNow s now else s) :=
  enter_nothing_due hn

/-- A callback runs only for an entry whose deadline has passed, earliest deadline first. -/
theorem callbacks_in_deadline_order (s : State) (e : CleanupEntry) (rest : List CleanupEntry)
    (hp : popDue s.now s.cleanup = some (e, rest)) :
    e ∈ s.cleanup ∧ e.deadline ≤ s.now ∧ ∀ x ∈ s.cleanup, x.deadline ≤ s.now → e.deadline ≤ x.deadline :=
  callback_only_when_due hp

/-- **worker_timeout.**  The callback of a due worker entry removes the worker and completes the task it
held — if still uncompleted — with `UNAVAILABLE`, cause `workerDisappeared`. -/
theorem worker_timeout (h : Hints) (s s' : State) (hs : KeysOK s) (qq : ScqId) (ww : WId) (rt : Nat)
    (hh : removeStaleWorker h s qq ww rt = .ok s') :
    s'.worker? qq ww = none ∧
    ∀ wk tid t, s.worker? qq ww = some wk → wk.task = some tid → s.task? tid = some t → t.response = none →
      ∃ t', s'.task? tid = some t' ∧ t'.response = some ⟨cUnavailable, 0, 0, .workerDisappeared⟩ :=
  stale_worker_callback hs hh

/-- **no_waiter_timeout.**  The callback of a due operation entry removes the operation; when it was the
only operation of an uncompleted task, the task is completed with `CANCELED`, cause `noWaiters` (detaching
the worker that runs it), and dropped. -/
theorem no_waiter_timeout (h : Hints) (s s' : State) (hs : KeysOK s) (o : Nat) (hh : removeOp h s o = .ok s') :
    s'.op? o = none ∧
    ∀ op t, s.op? o = some op → s.task? op.task = some t →
      (t.ops = [o] → t.response = none →
        (∃ s1 t1, complete h (eraseOp s o) op.task ⟨cCanceled, 0, 0, .noWaiters⟩ false = .ok s1 ∧
          s1.task? op.task = some t1 ∧ t1.response = some ⟨cCanceled, 0, 0, .noWaiters⟩ ∧ t1.worker = none) ∧
        s'.task? op.task = none) :=
  op_callback hs hh

/-- **retry_limit.**  A worker that asks again for the task it already holds gets it re-issued (counter
incremented) below the limit, and otherwise has it failed with `INTERNAL`, cause `retryLimit`. -/
theorem retry_limit (h : Hints) (s s' : State) (qq : ScqId) (ww : WId) (pi block : Bool) (wk : Worker) (tid : Nat)
    (t : Task) (hwk : s.worker? qq ww = some wk) (htk : wk.task = some tid) (h0' : s.task? tid = some t)
    (hh : getCurrentOrNext h s qq ww pi block = .ok s') :
    (t.retry < s.cfg.retryCount →
      s' = syncReturn (emit (s.setTask { t with retry := t.retry + 1 })
            (.syncExecute qq ww t.digest (s.now + s.cfg.busyInterval))) qq ww) ∧
    (¬ t.retry < s.cfg.retryCount →
      ∃ s1, complete h s tid ⟨cInternal, 0, 0, .retryLimit⟩ false = .ok s1 ∧ getNextTask h s1 qq ww pi block = .ok s') :=
  retry_limit_step hwk htk h0' hh

/-- **queue_timeout.**  The callback of a due queue entry removes the worker-created size-class queue;
before that it completes every task still queued there with `UNAVAILABLE`, cause `queueRemoved`
(`cancelAllQueued`). -/
theorem queue_timeout (h : Hints) (s s' : State) (qq : ScqId) (hh : removeScq h s qq = .ok s') :
    s'.scq? qq = none ∧
    ∃ s1, cancelAllQueued h s qq ⟨cUnavailable, 0, 0, .queueRemoved⟩ = .ok s1 ∧ s' = dropScq s1 qq := by
  refine ⟨scq_callback_removed hh, ?_⟩
  obtain ⟨s1, h1, e⟩ := removeScq_ok hh; exact ⟨s1, h1, e⟩

/-- A scheduler-made completion stores exactly the status it was given. -/
theorem scheduler_completion_status (h : Hints) (s s' : State) (hs : KeysOK s) (tid : Nat) (r : Resp) (t : Task)
    (h0' : s.task? tid = some t) (hr : t.response = none) (hns : ¬ (r.code = cOK ∧ r.exit = 0))
    (hh : complete h s tid r false = .ok s') :
    ∃ t', s'.task? tid = some t' ∧ t'.response = some r ∧ t'.worker = none ∧
      (∀ k, k ≠ tid → s'.task? k = s.task? k) :=
  complete_fail_final hs h0' hr hns hh

/-- non-vacuity: advancing the demo clock past the worker deadline (53) fails task 1 with `UNAVAILABLE`
after the abandoned operation (deadline 34) cancelled it — the earlier deadline wins — and removes the worker. -/
example : (run sDemo [.touch h0 60]).workers.length = 0 ∧ (run sDemo [.touch h0 60]).ops.length = 0 ∧
    (run sDemo [.touch h0 60]).tasks.length = 0 := by decide +kernel

/-! ## (c) quiescence: the cleanup loop is exhaustive and every callback removes its object -/

/-- **Every callback removes its object and creates none**: the number of workers + operations +
size-class queues strictly decreases with every cleanup callback (the clock is untouched). -/
theorem callback_removes_object (h : Hints) (s s' : State) (hs : Reachable s) (e : CleanupEntry)
    (rest : List CleanupEntry) (hp : popDue s.now s.cleanup = some (e, rest))
    (hh : callback h (setCleanup s rest) e = .ok s') :
    s'.workers.length + s'.ops.length + s'.scqs.length < s.workers.length + s.ops.length + s.scqs.length ∧
    s'.now = s.now :=
  callback_decreases (kwc_reachable hs) hp hh

/-- **`cleanupFuel` suffices** (termination measure argument): from a reachable state, `enter(now)` with a
later `now` ends with the clock at `now` and *no* due entry left — every timed failure whose deadline has
passed has happened, including those armed by earlier callbacks of the same run. -/
theorem enter_runs_everything_due (h : Hints) (s s' : State) (hs : Reachable s) (now : Nat) (hnow : s.now < now)
    (hh : enter h s now = .ok s') : s'.now = now ∧ ∀ e ∈ s'.cleanup, now < e.deadline :=
  enter_exhaustive (kwc_reachable hs) hnow hh

/-- **quiescence, static part.**  In a reachable state whose cleanup queue has run empty, no worker is
outside `Synchronize`, every worker-created queue still has a worker, and every operation has a waiter or is a
background-learning operation of an uncompleted task (the full dynamic statement is `quiescence` below). -/
theorem quiescence_partial (s : State) (hs : Reachable s) (hempty : s.cleanup = []) :
    (∀ wk ∈ s.workers, wk.inSync = true) ∧
    (∀ qq sq, s.scq? qq = some sq → sq.mayBeRemoved = true → ∃ wk ∈ s.workers, wk.scq = qq) ∧
    (∀ o op, s.op? o = some op → 0 < op.waiters ∨
      (op.mayExistWithoutWaiters = true ∧ ∃ t, s.task? op.task = some t ∧ t.response = none)) := by
  have hc := cinv_reachable hs
  have hno : ∀ k, ¬ hasK s k := by intro k ⟨e, he, _⟩; rw [hempty] at he; cases he
  refine ⟨?_, ?_, ?_⟩
  · intro wk hm
    cases hi : wk.inSync with
    | true => rfl
    | false => exact absurd (hc.wOut wk hm hi (by simp [noEx])) (hno _)
  · intro qq sq e hb
    rcases hc.scqW qq sq e hb (by simp [noEx]) with h | h
    · exact h
    · exact absurd h (hno _)
  · intro o op e
    cases hb : op.mayExistWithoutWaiters with
    | true => exact .inr ⟨rfl, hc.opBg o op e hb⟩
    | false =>
      rcases hc.opFg o op e hb (by simp [noEx]) with h | h
      · exact .inl h
      · exact absurd h (hno _)

/-- **No waiter leaks.**  Along a run in which no two `Execute` / `WaitExecution` segments use the same
client id (`FreshClients`: each id names one call, which the harness and the gRPC server guarantee), every
operation's waiter count equals the number of streams parked on it and every client has at most one parked
stream. -/
theorem waiters_exact (cfg : Cfg) (gs : List Seg) (hf : FreshClients gs) :
    (∀ o op, (run (State.init cfg) gs).op? o = some op →
      op.waiters = ((run (State.init cfg) gs).streams.filter (fun st => st.op = o)).length) ∧
    ((run (State.init cfg) gs).streams.map (·.client)).Nodup :=
  weq_of_fresh cfg gs hf

/-- **quiescence.**  `quiesce` (executable: every parked stream is cancelled, every blocked `Synchronize`
and `TerminateWorkers` call returns, then the clock is advanced beyond every armed deadline, repeatedly,
`workers + operations + queues + 1` times at most) takes every state reached by a run with fresh client ids
to a reachable state that retains nothing created on behalf of clients or workers: no workers, no parked
streams or blocked operator calls, an empty cleanup queue, an empty deduplication map, no worker-created
(removable) size-class queue; every remaining operation may exist without waiters, has none, and belongs to
an existing task that lists it; every remaining task is an uncompleted, unassigned, QUEUED
background-learning task. -/
theorem quiescence (cfg : Cfg) (gs : List Seg) (hf : FreshClients gs) :
    let s := quiesce (run (State.init cfg) gs)
    Reachable s ∧ s.workers = [] ∧ s.streams = [] ∧ s.terms = [] ∧ s.cleanup = [] ∧ s.dedup = [] ∧
    (∀ qq sq, s.scq? qq = some sq → sq.mayBeRemoved = false) ∧
    (∀ o op, s.op? o = some op → op.mayExistWithoutWaiters = true ∧ op.waiters = 0 ∧
      ∃ t, s.task? op.task = some t ∧ o ∈ t.ops) ∧
    (∀ k t, s.task? k = some t → t.background = true ∧ t.response = none ∧ t.worker = none ∧ t.queued = true) := by
  obtain ⟨hr, hq⟩ := quiesce_of_fresh cfg gs hf
  exact ⟨hr, hq.workers, hq.streams, hq.terms, hq.cleanup, hq.dedup, hq.queues,
    fun o op e => ⟨(hq.ops o op e).1, (hq.ops o op e).2, hq.opTask o op e⟩, hq.tasks⟩

/-- The same from any reachable state whose waiter counts are exact. -/
theorem quiescence_from (s : State) (hs : Reachable s)
    (hw : ∀ o op, s.op? o = some op → op.waiters = (s.streams.filter (fun st => st.op = o)).length)
    (hn : (s.streams.map (·.client)).Nodup) :
    Reachable (quiesce s) ∧ Quiescent (quiesce s) :=
  quiesce_spec ⟨hs, hw, hn⟩

/-- non-vacuity: the demo run has fresh client ids and `quiesce` empties it. -/
example : FreshClients demo := by unfold FreshClients; decide +kernel
example : (quiesce sDemo).workers.length = 0 ∧ (quiesce sDemo).ops.length = 0 ∧ (quiesce sDemo).tasks.length = 0 ∧
    (quiesce sDemo).scqs.length = 0 ∧ (quiesce sDemo).cleanup.length = 0 := by decide +kernel

/-- non-vacuity: after the clock passes every deadline of the demo nothing is left at all. -/
example : (run sDemo [.touch h0 60, .touch h0 200]).cleanup.length = 0 ∧
    (run sDemo [.touch h0 60, .touch h0 200]).scqs.length = 0 := by decide +kernel

/-! ## (d) every sleeper wakes -/

/-- **every_sleeper_wakes (workers, wake-up channel).**  In every reachable state a worker whose wakeup
channel is closed is inside `Synchronize` and no longer queued as idle; its wake segment passes all guards
and continues with the hand-off (`execute`) or re-evaluates the queue. -/
theorem woken_worker_wakes (h : Hints) (s : State) (hs : Reachable s) (qq : ScqId) (ww : WId) (wk : Worker)
    (hwk : s.worker? qq ww = some wk) (hwo : wk.woken = true) :
    wk.inSync = true ∧ wk.parked = false ∧
    syncWake h s s.now qq ww 0 =
      if wk.task.isSome then (do let s2 ← execResponse (s.setWorker { wk with woken := false }) wk; pure (syncReturn s2 qq ww))
      else getNextTask h (s.setWorker { wk with woken := false }) qq ww false true := by
  obtain ⟨a, b, _⟩ := ((winv_reachable hs).ok wk (worker?_mem hwk).1).woken hwo
  exact ⟨a, b, syncWake_woken h s qq ww wk hwk a hwo⟩

/-- **undrain snapshot invariant.**  In every reachable state the generation captured by a worker blocked
on `undrainWakeup` is not ahead of its queue's current generation: the captured channel is the current one
or an already closed one.  (Uses both the worker and the cleanup invariants: a queue is only removed —
and possibly re-created with generation 0 — when it has no workers.) -/
theorem undrain_snapshot (s : State) (hs : Reachable s) (wk : Worker) (hm : wk ∈ s.workers) (g : Nat)
    (hdw : wk.drainWait = some g) (sq : Scq) (hsq : s.scq? wk.scq = some sq) : g ≤ sq.undrainGen :=
  dinv_reachable hs wk hm g hdw sq hsq

/-- **every_sleeper_wakes (workers, stale snapshot).**  A worker blocked on `undrainWakeup` whose snapshot is
stale passes the guards of its wake segment and re-evaluates the drains. -/
theorem stale_snapshot_wakes (h : Hints) (s : State) (hs : Reachable s) (qq : ScqId) (ww : WId) (wk : Worker)
    (sq : Scq) (g : Nat) (hwk : s.worker? qq ww = some wk) (hsq : s.scq? qq = some sq)
    (hdw : wk.drainWait = some g) (hg : g ≠ sq.undrainGen) :
    wk.inSync = true ∧ wk.task = none ∧
    syncWake h s s.now qq ww 3 = getNextTask h (s.setWorker { wk with drainWait := none }) qq ww false true := by
  obtain ⟨a, b⟩ := ((winv_reachable hs).ok wk (worker?_mem hwk).1).dwait (by simp [hdw])
  exact ⟨a, b, syncWake_undrained h s qq ww wk sq g hwk a hsq hdw hg⟩

/-- **every_sleeper_wakes (workers, undrain).**  After every successful `RemoveDrain` segment on a queue, each
worker of that queue that is blocked on `undrainWakeup` — whenever it started waiting — has a stale snapshot:
its wake segment passes the guards and it re-evaluates the drains.  No hypothesis on the snapshot is needed
(it follows from `undrain_snapshot`). -/
theorem undrained_worker_wakes (h h' : Hints) (s s' : State) (hs : Reachable s) (now : Nat) (qq : ScqId) (p : Pattern)
    (hstep : step s (.removeDrain h now qq p) = .ok s') (ww : WId) (wk : Worker) (g : Nat)
    (hwk : s'.worker? qq ww = some wk) (hdw : wk.drainWait = some g) :
    wk.inSync = true ∧ wk.task = none ∧
    syncWake h' s' s'.now qq ww 3 = getNextTask h' (s'.setWorker { wk with drainWait := none }) qq ww false true := by
  obtain ⟨sq', hsq', hlt⟩ := removeDrain_stale hs hstep hwk hdw
  exact stale_snapshot_wakes h' s' (Reachable.step _ hs hstep) qq ww wk sq' g hwk hsq' hdw (Nat.ne_of_lt hlt)

/-- non-vacuity: a worker of a drained queue blocks with snapshot 0; after `RemoveDrain` (generation 1) its
wake segment succeeds and the worker parks as an idle, undrained worker. -/
def drainDemo : List Seg :=
  [.register 1 [] 7 [0] 0 0, .addDrain h0 1 q ⟨some 1, none⟩, .sync h0 2 q [] 7 w .idle false]
def sDrain : State := run (State.init cfg) drainDemo
example : sDrain.workers.map (fun wk => wk.drainWait) = [some 0] := by decide +kernel
example : ∃ s', step sDrain (.removeDrain h0 3 q ⟨some 1, none⟩) = .ok s' ∧
    s'.workers.map (fun wk => wk.drainWait) = [some 0] ∧ s'.scqs.map (·.undrainGen) = [1] := ⟨_, rfl, by decide +kernel⟩
example : (run sDrain [.removeDrain h0 3 q ⟨some 1, none⟩, .syncWake h0 3 q w 3]).workers.map
    (fun wk => (wk.drainWait, wk.parked)) = [(none, true)] := by decide +kernel

/-- **every_sleeper_wakes (workers, timeout).**  The timeout of a blocked `Synchronize` returns `idle`. -/
theorem blocked_worker_times_out (h : Hints) (s : State) (qq : ScqId) (ww : WId) (wk : Worker)
    (hwk : s.worker? qq ww = some wk) (hin : wk.inSync = true) (hnt : wk.task = none) :
    syncWake h s s.now qq ww 1 =
      .ok (syncReturn (emit (s.setWorker { wk with parked := false, woken := false, drainWait := none })
            (.syncIdle qq ww s.now)) qq ww) :=
  syncWake_timeout h s qq ww wk hwk hin hnt

/-- **every_sleeper_wakes (streams).**  A parked stream whose task changed generation continues with the
next message; its update timer and its cancellation need no condition. -/
theorem stream_wakes (h : Hints) (s : State) (c : Nat) (st : Stream)
    (hst : s.streams.find? (fun x => x.client = c) = some st) :
    (∀ op t, s.op? st.op = some op → s.task? op.task = some t → t.gen ≠ st.snap →
        streamWake h s s.now c 0 = streamSend s c st.op) ∧
    streamWake h s s.now c 1 = streamSend s c st.op ∧ streamWake h s s.now c 2 = streamLeave s c cCanceled :=
  ⟨fun op t hop ht hg => streamWake_changed h s c st op t hst hop ht hg, (streamWake_timer h s c st hst).1,
   (streamWake_timer h s c st hst).2⟩

/-- **every_sleeper_wakes (`TerminateWorkers`).**  A blocked call all of whose captured tasks have moved on
(or vanished) returns OK. -/
theorem terminate_wakes (s : State) (id : Nat) (tc : TermCall)
    (htc : s.terms.find? (fun t => t.id = id) = some tc)
    (hst : ∀ tg ∈ tc.waits, ∀ tk, s.task? tg.1 = some tk → tk.gen > tg.2) :
    termWake s id 0 = .ok (emit (dropTerm s id) (.termRet id cOK)) :=
  termWake_stale s id tc htc hst

end BbRe.Properties.C06
