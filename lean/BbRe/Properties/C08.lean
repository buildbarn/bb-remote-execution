import BbRe.Lemmas.BuildClientFrame
import BbRe.Lemmas.BuildClientBound
import BbRe.Lemmas.BuildClientHanded
import BbRe.Lemmas.BuildClientDeliv
/-!
# C08 — worker: one action at a time, honest state, safe shutdown

Theorems about `Model/BuildClient.lean` (the transcription of
`pkg/builder/build_client.go`).  All of them quantify over the start time `t0`
and over **every** list of events `evs`: worker-thread segments, scheduler
replies (execute / idle / no change / RPC error / invalid timestamp / bad
execute request), executor progress (`emit`, `finish`, `close`), clock ticks,
readiness results and the shutdown instant (`cancel`), in any interleaving.
Events that are not enabled in a state leave it unchanged, so every list is a
history.  `(run (init t0) evs).log` is the observable trace of the history;
each `sent` / `spawn` / `ret` entry carries a ghost snapshot of the moment it
was produced (number of live executor goroutines, most recently started
executor, the value `ctx.Err()` had, the may-think bound, the clock, the last
scheduler reply).

Helper lemmas: `BbRe/Lemmas/BuildClient*.lean` (`Inv`, `inv_reachable`).
-/
namespace BbRe.Properties.C08
open BbRe.BuildClient BbRe.Lemmas.BuildClient

/-- A small history used for the non-vacuity examples: start action 7, an
update, the action fails, the scheduler sends action 8, shutdown begins, an RPC
error, action 8 completes, the scheduler acknowledges, the thread ends. -/
def demo : List Ev :=
  [.runBegin, .readyResult true, .reply (.reply (some 1010) (.execute (.ok 7))),
   .runBegin, .emit 2, .wakeUpdate false, .reply (.reply (some 1020) .none),
   .runBegin, .finish ⟨5, false⟩, .wakeUpdate true,
   .reply (.reply (some 1030) (.execute (.ok 8))),
   .cancel, .runBegin, .wakeTimer, .reply .rpcError,
   .runBegin, .finish ⟨6, true⟩, .wakeUpdate false, .close, .reply (.reply (some 1040) .idle),
   .drainDone]

/-! ## one action at a time -/

/-- At most one executor goroutine is alive in every reachable state. -/
theorem one_executor (t0 : Nat) (evs : List Ev) : live (run (init t0) evs) ≤ 1 :=
  live_le_one (inv_reachable t0 evs)

/-- `startExecution` spawns a goroutine only when no executor goroutine is alive
(the previous one has been cancelled and has closed its channel). -/
theorem start_only_when_none_live (t0 : Nat) (evs : List Ev) (id : Nat) (d : Digest) (sn : Snap)
    (h : Obs.spawn id d sn ∈ (run (init t0) evs).log) : sn.live = 0 :=
  ((inv_reachable t0 evs).logOK.1 _ h).1

/-- Every goroutine the client no longer references has exited. -/
theorem retired_are_closed (t0 : Nat) (evs : List Ev) (e : Exec)
    (h : e ∈ (run (init t0) evs).retired) : e.closed = true :=
  ((inv_reachable t0 evs).retired e h).1

/-- non-vacuity: in `demo` a second executor is spawned (and the log has `sent`
entries of every kind used below). -/
example : (run (init 1000) demo).log.any
    (fun o => match o with | .spawn 1 8 sn => sn.live == 0 | _ => false) = true := by decide +kernel

/-! ### the mechanism: cancel, then wait until the channel is closed -/

/-- An execute instruction that arrives while an executor is current does not
start anything yet: the executor's context is cancelled and the thread blocks
in the drain loop; no goroutine has been spawned (`nextId` unchanged). -/
theorem preempt_cancels_first (s : State) (ce : Bool) (ts : Nat) (d : Digest) (e : Exec)
    (hpc : s.pc = .sync ce) (hc : s.cur = some e) :
    ∃ s', reply s (.reply (some ts) (.execute (.ok d))) = some s' ∧ s'.pc = .drain (.start d) ∧
      s'.cur = some { e with cancelled := true } ∧ s'.nextId = s.nextId := by
  simp only [reply, hpc]
  refine ⟨_, rfl, ?_⟩
  rw [stopThen_cur (e := e) (by split <;> exact hc)]
  exact ⟨rfl, rfl, by split <;> rfl⟩

/-- Likewise for an idle instruction. -/
theorem idle_cancels_first (s : State) (ce : Bool) (ts : Nat) (e : Exec)
    (hpc : s.pc = .sync ce) (hc : s.cur = some e) :
    ∃ s', reply s (.reply (some ts) .idle) = some s' ∧ s'.pc = .drain .idle ∧
      s'.cur = some { e with cancelled := true } ∧ s'.req = s.req := by
  simp only [reply, hpc]
  refine ⟨_, rfl, ?_⟩
  rw [stopThen_cur (e := e) (by split <;> exact hc)]
  exact ⟨rfl, rfl, by split <;> rfl⟩

/-- The drain loop of `stopExecution` cannot finish before the goroutine has
closed the channel and everything it sent has been taken. -/
theorem drain_waits_for_close (s : State) (k : DrainFor) (e : Exec) (hpc : s.pc = .drain k)
    (hc : s.cur = some e) (h : e.closed = false ∨ e.buf ≠ []) : drainDone s = none := by
  simp only [drainDone, hpc, hc]
  rcases h with h | h
  · simp [h]
  · cases hb : e.buf with
    | nil => exact absurd hb h
    | cons m t => simp

/-! ## honest state -/

/-- Every request sent reports `Idle` only if no executor goroutine is alive;
`Executing d ·` only if `d` is the digest of the most recently started
executor; `Completed r` only if `r` is exactly the response that executor's
`Execute` returned; an update `u` only if `u` is the last update taken off that
executor's channel, and the updates taken are a prefix of the updates emitted
(emission order). -/
theorem honest_state (t0 : Nat) (evs : List Ev) (r : Request) (sn : Snap)
    (h : Obs.sent r sn ∈ (run (init t0) evs).log) :
    (r.state = .idle → sn.live = 0) ∧
    (∀ d p, r.state = .executing d p → ∃ e, sn.last = some e ∧ e.digest = d ∧
      (∀ x, p = .completed x → e.returned = some x) ∧
      (∀ u, p = .upd u → e.received.getLast? = some u ∧ e.received <+: e.emitted)) := by
  obtain ⟨hIdle, hExecuting, -⟩ := (inv_reachable t0 evs).logOK.1 _ h
  exact ⟨hIdle, hExecuting⟩

/-- The completion is never dropped on its way to the scheduler: while the thread
is outside `stopExecution`'s drain loop and `Execute` has returned `r`, either
`Completed r` is the last message still waiting in (or blocked on) the update
channel — whatever the number of progress updates queued before it, also when
the channel is full — or everything has been taken and the request state is
`Completed r`. -/
theorem completion_not_lost (t0 : Nat) (evs : List Ev) (e : Exec) (r : Resp)
    (hc : (run (init t0) evs).cur = some e) (hr : e.returned = some r)
    (hk : ∀ k, (run (init t0) evs).pc ≠ .drain k) :
    (e.buf ++ e.blocked.toList).getLast? = some ⟨e.digest, .completed r⟩ ∨
      (e.buf ++ e.blocked.toList = [] ∧
        (run (init t0) evs).req = .executing e.digest (.completed r)) :=
  (deliv_reachable t0 evs).1 e r hc hr hk

/-- Once the client has released an execution (observed the closed channel, or
stopped it on the scheduler's instruction) what it reports is `Idle` or a
`Completed` — never "action in progress" with nothing attached.  By
`honest_state` that `Completed` carries the executor's own response. -/
theorem released_reports_completion (t0 : Nat) (evs : List Ev)
    (hc : (run (init t0) evs).cur = none) :
    (run (init t0) evs).req = .idle ∨
      ∃ d r, (run (init t0) evs).req = .executing d (.completed r) :=
  (deliv_reachable t0 evs).2 hc

/-- non-vacuity: ten updates fill the channel while the thread is in
`Synchronize`, `Execute` returns (the `Completed` send blocks), the next `Run`
drains all eleven messages and reports the completion. -/
example : (run (init 1000) [.runBegin, .readyResult true,
    .reply (.reply (some 1000) (.execute (.ok 7))), .runBegin, .wakeTimer,
    .emit 1, .emit 2, .emit 1, .emit 2, .emit 1, .emit 2, .emit 1, .emit 2, .emit 1, .emit 2,
    .finish ⟨4, true⟩, .reply (.reply (some 1001) .none), .runBegin, .wakeUpdate true]).req
      = .executing 7 (.completed ⟨4, true⟩) := by decide +kernel

/-! ## idle when told, start only when told -/

/-- The request that follows a (valid) idle instruction reports `Idle` — and by
`honest_state` no executor goroutine is alive at that moment. -/
theorem idle_when_told (t0 : Nat) (evs : List Ev) (r : Request) (sn : Snap)
    (h : Obs.sent r sn ∈ (run (init t0) evs).log) (ts : Nat)
    (ht : sn.lastReply = some (.reply (some ts) .idle)) : r.state = .idle ∧ sn.live = 0 := by
  obtain ⟨hIdle, -, -, -, -, -, hToldIdle⟩ := (inv_reachable t0 evs).logOK.1 _ h
  exact ⟨hToldIdle ⟨ts, ht⟩, hIdle (hToldIdle ⟨ts, ht⟩)⟩

/-- While the thread processes an idle instruction it is either still draining
the cancelled executor, or it is idle with no executor and no may-think bound. -/
theorem idle_instruction_state (t0 : Nat) (evs : List Ev) (ts : Nat)
    (ht : (run (init t0) evs).lastReply = some (.reply (some ts) .idle)) :
    (run (init t0) evs).pc = .drain .idle ∨
      ((run (init t0) evs).req = .idle ∧ (run (init t0) evs).mayThink = none ∧
        (run (init t0) evs).cur = none) :=
  (inv_reachable t0 evs).toldIdle ⟨ts, ht⟩

/-- An executor for digest `d` is started only while processing a scheduler
reply with a valid timestamp that asks to execute exactly `d` (well-formed). -/
theorem start_only_when_told (t0 : Nat) (evs : List Ev) (id : Nat) (d : Digest) (sn : Snap)
    (h : Obs.spawn id d sn ∈ (run (init t0) evs).log) :
    ∃ ts, sn.lastReply = some (.reply (some ts) (.execute (.ok d))) :=
  ((inv_reachable t0 evs).logOK.1 _ h).2

/-! ## prefer being idle after a failure -/

/-- (1) `Completed` with a non-OK status is reported with `PreferBeingIdle`;
(2) an `Idle` request sent while the scheduler may think the worker is executing
has it; (3) an `Idle` request without it is only sent in an iteration whose
readiness check succeeded. -/
theorem prefer_idle_after_failure (t0 : Nat) (evs : List Ev) (r : Request) (sn : Snap)
    (h : Obs.sent r sn ∈ (run (init t0) evs).log) :
    (∀ d x, r.state = .executing d (.completed x) → x.ok = false → r.preferIdle = true) ∧
    (r.state = .idle → sn.mayThink.isSome = true → r.preferIdle = true) ∧
    (r.state = .idle → r.preferIdle = false → sn.readyChecked = true) := by
  obtain ⟨-, -, hFailed, hMayThink, hReadyChecked, -⟩ := (inv_reachable t0 evs).logOK.1 _ h
  exact ⟨hFailed, hMayThink, hReadyChecked⟩

example : (run (init 1000) demo).log.any
    (fun o => match o with
      | .sent ⟨.executing 7 (.completed ⟨5, false⟩), true⟩ _ => true | _ => false) = true := by decide +kernel

example : (run (init 1000) demo).log.any
    (fun o => match o with | .sent ⟨.idle, false⟩ sn => sn.readyChecked | _ => false) = true := by
  decide +kernel

/-! ## shutdown -/

/-- Every iteration that observes the cancellation sends `PreferBeingIdle`. -/
theorem shutdown_prefer_idle (t0 : Nat) (evs : List Ev) (r : Request) (sn : Snap)
    (h : Obs.sent r sn ∈ (run (init t0) evs).log) (hc : sn.cancelled = true) :
    r.preferIdle = true := by
  obtain ⟨-, -, -, -, -, hCancelled, -⟩ := (inv_reachable t0 evs).logOK.1 _ h
  exact hCancelled hc

/-- Trace form: in the observable trace of any history, every request sent after
the `cancel` entry (the moment shutdown began) has `PreferBeingIdle = true`. -/
theorem shutdown_all_later_requests_prefer_idle (t0 : Nat) (evs : List Ev) (l1 l2 : List Obs)
    (h : (run (init t0) evs).log = l1 ++ Obs.cancel :: l2) (r : Request) (sn : Snap)
    (hm : Obs.sent r sn ∈ l2) : r.preferIdle = true :=
  (inv_reachable t0 evs).logOK.2.2 l1 l2 h r sn hm

/-- Cancellation is never un-observed: once shutdown began (after any prefix
`evs` of the history) it stays on for every continuation `more`, so by
`shutdown_prefer_idle` every later request asks to be left idle. -/
theorem shutdown_monotone (t0 : Nat) (evs more : List Ev)
    (h : (run (init t0) evs).cancelled = true) :
    (run (init t0) (evs ++ more)).cancelled = true := by
  rw [run_append]; exact run_cancelled more h

/-- `Run` returns `mayTerminate = true` only when the scheduler cannot think the
worker is executing: the may-think bound is unset or has passed. -/
theorem shutdown_may_terminate (t0 : Nat) (evs : List Ev) (err : Bool) (sn : Snap)
    (h : Obs.ret true err sn ∈ (run (init t0) evs).log) :
    sn.mayThink = none ∨ ∃ t, sn.mayThink = some t ∧ sn.now > t :=
  ((inv_reachable t0 evs).logOK.1 _ h) rfl

/-- The worker thread ends only under shutdown. -/
theorem terminates_only_on_shutdown (t0 : Nat) (evs : List Ev)
    (h : (run (init t0) evs).pc = .terminated) : (run (init t0) evs).cancelled = true :=
  run_term evs (by simp [init]) h

/-- Under shutdown, while the scheduler may still think the worker is executing
(bound not passed), the next `Run` does not return: it goes on to `select` /
`Synchronize`. -/
theorem shutdown_keeps_synchronizing (s : State) (t : Nat) (hpc : s.pc = .top)
    (hm : s.mayThink = some t) (hn : s.now ≤ t) :
    ∃ s', runBegin s = some s' ∧ ((∃ rc, s'.pc = .select rc) ∨ ∃ ce, s'.pc = .sync ce) := by
  have : ¬ (s.now > t) := by omega
  refine ⟨afterReady s false, by simp [runBegin, hpc, hm, this], ?_⟩
  unfold afterReady
  split
  · exact Or.inl ⟨_, rfl⟩
  · exact Or.inr ⟨_, rfl⟩

/-- Once an execute instruction has been accepted (the thread has left
`startExecution`'s drain loop) and until the next scheduler reply is processed,
the may-think bound is exactly the `NextSynchronizationAt` handed out *with that
instruction* plus one minute — not the stale previous deadline (a long poll may
return the action long after it). -/
theorem bound_is_handed_out_deadline (t0 : Nat) (evs : List Ev) (ts : Nat) (d : Digest)
    (hl : (run (init t0) evs).lastReply = some (.reply (some ts) (.execute (.ok d))))
    (hnd : ∀ k, (run (init t0) evs).pc ≠ .drain k) :
    (run (init t0) evs).mayThink = some (ts + 60) :=
  ((handed_reachable t0 evs) ts d hl).2 hnd

/-- Hence a worker that was handed an action does not terminate on shutdown
before that deadline + 1 min has passed (unless a later reply settles it): the
next `Run` goes on to `select` / `Synchronize`. -/
theorem no_termination_before_handed_out_deadline (t0 : Nat) (evs : List Ev) (ts : Nat)
    (d : Digest)
    (hl : (run (init t0) evs).lastReply = some (.reply (some ts) (.execute (.ok d))))
    (hpc : (run (init t0) evs).pc = .top) (hn : (run (init t0) evs).now ≤ ts + 60) :
    ∃ s', runBegin (run (init t0) evs) = some s' ∧
      ((∃ rc, s'.pc = .select rc) ∨ ∃ ce, s'.pc = .sync ce) :=
  shutdown_keeps_synchronizing _ (ts + 60) hpc
    (bound_is_handed_out_deadline t0 evs ts d hl (by simp [hpc])) hn

/-- non-vacuity: a long poll (70 s) hands out action 3 with deadline 1075 while
shutdown has begun; the bound is 1135, not the stale 1060. -/
example : (run (init 1000) [.runBegin, .readyResult true, .tick 70, .cancel,
    .reply (.reply (some 1075) (.execute (.ok 3)))]).mayThink = some 1135 := by decide +kernel

/-- The may-think bound is at most one minute after the latest synchronization
time the scheduler ever announced (`maxSync`, ghost). -/
theorem maythink_bounded (t0 : Nat) (evs : List Ev) (t : Nat)
    (h : (run (init t0) evs).mayThink = some t) : t ≤ (run (init t0) evs).maxSync + 60 :=
  (bound_reachable t0 evs).2 t h

/-- Hence shutdown cannot be held up for ever: once the clock is more than a
minute past the latest announced synchronization time, the next `Run` under
shutdown returns `mayTerminate` and the thread ends — whatever the scheduler and
the executor did before. -/
theorem shutdown_terminates_after_bound (t0 : Nat) (evs : List Ev)
    (hpc : (run (init t0) evs).pc = .top) (hc : (run (init t0) evs).cancelled = true)
    (hn : (run (init t0) evs).now > (run (init t0) evs).maxSync + 60) :
    ∃ s', runBegin (run (init t0) evs) = some s' ∧ s'.pc = .terminated := by
  have hb := bound_reachable t0 evs
  generalize run (init t0) evs = s at *
  refine ⟨retRun s true false, ?_, by simp [retRun, hc]⟩
  cases hm : s.mayThink with
  | none => simp [runBegin, hpc, hc, hm]
  | some t =>
    have := hb.2 t hm
    have : s.now > t := by omega
    simp [runBegin, hpc, hc, hm, this]

example : (run (init 1000) demo).pc = .terminated := by decide +kernel

example : (run (init 1000) demo).log.any
    (fun o => match o with | .sent r sn => sn.cancelled && r.preferIdle | _ => false) = true := by
  decide +kernel

example : (run (init 1000) demo).log.any
    (fun o => match o with | .ret true _ sn => sn.cancelled | _ => false) = true := by decide +kernel

end BbRe.Properties.C08
