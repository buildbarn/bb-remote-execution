import BbRe.Model.Replay41
import BbRe.Lemmas.Replay41
import BbRe.Model.Replay40
import BbRe.Lemmas.Replay40
/-!
# C19 — NFSv4: retransmitted requests execute once and get the same reply

Theorems about `Model/Replay41.lean` (transcription of `opSequence`,
`opCreateSession` … of `nfs41_program.go`) and `Model/Replay40.lean`
(`startTransaction` / `transactionShouldComplete` / response caching of
`nfs40_program.go`).  The operations of a compound are abstract: their outcome
is an arbitrary input `x` of the `finish` step, so every statement holds for
every executor, every number of sessions / slots / owners and every
interleaving of arrivals and completions (`Reachable` quantifies over all op
lists: duplication, reordering and loss of requests are just different lists;
loss of a reply is not a server event at all).

Sequence ids are `uint32`; "at most once" is therefore stated for windows of
fewer than `M = 2^32` executions on one slot.
-/
namespace BbRe.Properties.C19
section V41
open BbRe.Replay41 BbRe.Lemmas.Replay41

/-! ## NFSv4.1 -/

/-- `arrive` starts an execution only on an idle slot of a live session and only
for the successor of the slot's last sequence id. -/
theorem arrive_started_41 (s : State) (c : Nat) (r : Req) (h : (arrive s c r).2 = .started) :
    ∃ se, s.sess r.sess = some se ∧ se.alive = true ∧ r.slot < se.nslots ∧
      (se.slot r.slot).busy = none ∧ r.seq = ((se.slot r.slot).lastSeq + 1) % M ∧
      (arrive s c r).1.execs = s.execs ++ [(c, r)] := by
  revert h
  exact arrive_elim s c r
    (P := fun p => p.2 = .started → ∃ se, s.sess r.sess = some se ∧ se.alive = true ∧ r.slot < se.nslots ∧
      (se.slot r.slot).busy = none ∧ r.seq = ((se.slot r.slot).lastSeq + 1) % M ∧ p.1.execs = s.execs ++ [(c, r)])
    (fun _ _ h => nomatch h) fun se hse ha hs hn =>
      ⟨fun _ _ h => (nomatch h), fun hb => ⟨fun _ h => (nomatch h), fun _ _ => ⟨se, hse, ha, hs, hb, hn, rfl⟩⟩⟩

/-- A request that is not started leaves the execution log untouched. -/
theorem arrive_not_started_41 (s : State) (c : Nat) (r : Req) (h : (arrive s c r).2 ≠ .started) :
    (arrive s c r).1.execs = s.execs := by
  revert h
  exact arrive_elim s c r (P := fun p => p.2 ≠ .started → p.1.execs = s.execs) (fun _ _ _ => rfl)
    fun _ _ _ _ _ => ⟨fun _ _ _ => rfl, fun _ => ⟨fun _ _ => rfl, fun _ h => absurd rfl h⟩⟩

/-- **exec_seqs**: on every slot the sequence ids of the executions that were
started are exactly `1, 2, …, n` (mod 2^32), in this order — whatever was sent,
duplicated, reordered or lost. -/
theorem exec_seqs_41 {a b : Nat} {l lj : Bool} {s : State} (h : Reachable (init a b l lj) s) (sid slot : Nat) :
    (execsOn s.execs sid slot).map (·.seq) = seqsTo (execsOn s.execs sid slot).length := by
  have hinv := inv_reachable (inv_init a b l lj) h
  cases hse : s.sess sid with
  | none => rw [hinv.noexec sid slot hse]; rfl
  | some se =>
    have hs := (hinv.slots sid se slot hse).seqs
    have hl : (execsOn s.execs sid slot).length = (se.slot slot).nExec := by
      have := congrArg List.length hs
      simpa [seqsTo_length] using this
    rw [hl]; exact hs

/-- **at_most_once** (4.1): a request carrying the (session, slot, sequence id)
of an execution that was already started on that slot — fewer than 2^32
executions ago — is never executed: the step does not start an execution and
the execution log is unchanged.  A retransmission is the special case `r = r'`. -/
theorem at_most_once_41 {a b : Nat} {l lj : Bool} {s : State} (h : Reachable (init a b l lj) s)
    (c : Nat) (r : Req) (i : Nat) (hi : i < (execsOn s.execs r.sess r.slot).length)
    (hseq : ((execsOn s.execs r.sess r.slot)[i]).seq = r.seq)
    (hwin : (execsOn s.execs r.sess r.slot).length - i < M) :
    (arrive s c r).2 ≠ .started ∧ (arrive s c r).1.execs = s.execs := by
  have hne : (arrive s c r).2 ≠ .started := by
    intro hst
    obtain ⟨se, hse, _, _, hb, hnext, _⟩ := arrive_started_41 s c r hst
    have hinv := inv_reachable (inv_init a b l lj) h
    have hs := hinv.slots r.sess se r.slot hse
    have hidle := hs.idle hb
    have hlen : (execsOn s.execs r.sess r.slot).length = (se.slot r.slot).nExec := by
      have := congrArg List.length hs.seqs
      simpa [seqsTo_length] using this
    have hget : ((execsOn s.execs r.sess r.slot)[i]).seq = (i + 1) % M := by
      have h1 : ((execsOn s.execs r.sess r.slot).map (·.seq))[i]'(by simpa using hi) = (i + 1) % M := by
        have := seqsTo_get (se.slot r.slot).nExec i (by rw [seqsTo_length]; omega)
        simp only [hs.seqs]; exact this
      simpa using h1
    rw [hseq, hnext, hidle, mod_succ_eq] at hget
    rw [hlen] at hwin hi
    simp only [M] at hget hwin
    omega
  exact ⟨hne, arrive_not_started_41 s c r hne⟩

/-- Well-formedness of an executor result w.r.t. the request it executed: the
loop of `opSequence` appends one result per operation (same op number, or
`OP_ILLEGAL`), stops at the first failure. -/
def WF (r : Req) (x : XRes) : Prop :=
  x.resops.length ≤ r.ops.length ∧ (x.status = 0 → x.resops.length = r.ops.length) ∧
    matchOps x.resops r.ops = true

theorem matchOps_take (rs os : List Nat) (n : Nat) (h : matchOps rs os = true) : matchOps (rs.take n) os = true := by
  induction rs generalizing os n with
  | nil => simp [matchOps]
  | cons a rs ih =>
    cases n with
    | zero => simp [matchOps]
    | succ n =>
      cases os with
      | nil => simp [matchOps] at h
      | cons o os =>
        simp only [List.take_succ_cons, matchOps, Bool.and_eq_true] at h ⊢
        exact ⟨h.1, ih os n h.2⟩

/-- The cached form of a well-formed result passes the shape check of a request
with the same operations. -/
theorem shapeOK_cachedRes (r : Req) (x : XRes) (hwf : WF r x) : shapeOK (cachedRes r.cache x) r.ops = true := by
  obtain ⟨h1, h2, h3⟩ := hwf
  unfold cachedRes
  split
  · unfold shapeOK fullRes
    simp only [h3, Bool.and_true, Bool.not_eq_true', Bool.or_eq_false_iff, decide_eq_false_iff_not,
      Bool.and_eq_false_iff]
    refine ⟨by omega, ?_⟩
    by_cases hs : x.status = 0
    · right; simp [h2 hs]
    · left; exact hs
  · unfold shapeOK
    simp only [matchOps_take _ _ _ h3, Bool.and_true, Bool.not_eq_true', Bool.or_eq_false_iff,
      decide_eq_false_iff_not, Bool.and_eq_false_iff, List.length_take]
    refine ⟨?_, Or.inl (by simp [errRetryUncachedRep])⟩
    rename_i hc
    simp only [Bool.or_eq_true, decide_eq_true_eq, Bool.and_eq_true, not_or, not_and] at hc
    omega

/-- **same_reply** (4.1, cached arm): while request `r0` is the last one that
finished on its slot (ghost `lastDone`; it is set by `finish` and cleared only
when the slot accepts the successor sequence id, see `lastDone_set_41` /
`lastDone_stable_41`), every request with its session, slot, sequence id and
operations is answered, without any state change, with the cached form of the
original's result: the original's reply itself, or — exactly when the original
did not ask for caching and produced more than `len(resArray) < 2 ∨ (= 2 ∧
failed)` allows — `[SEQUENCE, first op with NFS4ERR_RETRY_UNCACHED_REP]`
(`uncached_rule_41`). -/
theorem same_reply_41 {a b : Nat} {l lj : Bool} {s : State} (h : Reachable (init a b l lj) s)
    (c : Nat) (r r0 : Req) (x0 : XRes) (se : Session)
    (hse : s.sess r.sess = some se) (halive : se.alive = true) (hslot : r.slot < se.nslots)
    (hdone : (se.slot r.slot).lastDone = some (r0, x0))
    (hseq : r.seq = r0.seq) (hops : r.ops = r0.ops) (hwf : WF r0 x0) :
    arrive s c r = (s, .reply (cachedRes r0.cache x0)) := by
  have hinv := inv_reachable (inv_init a b l lj) h
  obtain ⟨h1, h2, _⟩ := (hinv.slots r.sess se r.slot hse).done r0 x0 hdone
  rw [arrive_eq_replay s c r se hse halive hslot (by rw [h2, hseq]), h1, hops, shapeOK_cachedRes r0 x0 hwf]
  simp

/-- The caching rule of `opSequence`: the full result is kept iff the client
asked for it or the result has at most one operation result after SEQUENCE
(one only if it failed); otherwise the retry gets RETRY_UNCACHED_REP. -/
theorem uncached_rule_41 (cache : Bool) (x : XRes) :
    (cachedRes cache x = fullRes x ↔
      (cache = true ∨ x.resops.length = 0 ∨ (x.resops.length = 1 ∧ x.status ≠ 0))) ∧
    (cachedRes cache x ≠ fullRes x →
      (cachedRes cache x).status = errRetryUncachedRep ∧ (cachedRes cache x).resops = x.resops.take 1 ∧
        (cachedRes cache x).body = .uncached x.b) := by
  unfold cachedRes
  split
  · rename_i hc
    simp only [Bool.or_eq_true, decide_eq_true_eq, Bool.and_eq_true] at hc
    refine ⟨⟨fun _ => ?_, fun _ => rfl⟩, fun h => absurd rfl h⟩
    rcases hc with (hc | hc) | hc
    · exact Or.inl hc
    · exact Or.inr (Or.inl (by omega))
    · exact Or.inr (Or.inr hc)
  · rename_i hc
    simp only [Bool.or_eq_true, decide_eq_true_eq, Bool.and_eq_true, not_or, not_and] at hc
    refine ⟨⟨fun h => ?_, fun h => ?_⟩, fun _ => ⟨rfl, rfl, rfl⟩⟩
    · simp [fullRes] at h
    · rcases h with h | h | h
      · exact absurd h hc.1.1
      · omega
      · exact absurd h.2 (hc.2 h.1)

/-- `finish` records the finished execution as the slot's `lastDone`. -/
theorem lastDone_set_41 (s : State) (sid slot : Nat) (x : XRes) (se : Session) (b : Busy)
    (hse : s.sess sid = some se) (hb : (se.slot slot).busy = some b) :
    ∃ se', (finish s sid slot x).1.sess sid = some se' ∧ (se'.slot slot).lastDone = some (b.req, x) ∧
      (se'.slot slot).busy = none ∧ se'.alive = se.alive ∧ se'.nslots = se.nslots := by
  unfold finish getSlot
  simp only [hse, Option.map_some, hb]
  refine ⟨_, setSlot_sess_same s sid slot _ se hse, ?_, ?_, rfl, rfl⟩ <;> simp

/-- A retransmission sent right after the original finished (no other event in
between) gets the cached form of the original's result. -/
theorem same_reply_immediate_41 {a b : Nat} {l lj : Bool} {s : State} (h : Reachable (init a b l lj) s)
    (sid slot : Nat) (x : XRes) (se : Session) (bz : Busy) (c : Nat)
    (hse : s.sess sid = some se) (hb : (se.slot slot).busy = some bz) (halive : se.alive = true)
    (hslot : slot < se.nslots) (hsid : bz.req.sess = sid) (hsl : bz.req.slot = slot) (hwf : WF bz.req x) :
    (arrive (finish s sid slot x).1 c bz.req).2 = .reply (cachedRes bz.req.cache x) := by
  obtain ⟨se', h1, h2, _, h4, h5⟩ := lastDone_set_41 s sid slot x se bz hse hb
  have hr : Reachable (init a b l lj) (finish s sid slot x).1 := Reachable.step (.finish sid slot x) h
  have := same_reply_41 hr c bz.req bz.req x se' (by rw [hsid]; exact h1) (by rw [h4]; exact halive)
    (by rw [h5, hsl]; exact hslot) (by rw [hsl]; exact h2) rfl rfl hwf
  rw [this]

/-- **inflight_duplicate_completes** (4.1, no lost wake-up): in every reachable
state of the current code, every call parked behind an executing original is
registered in the slot's waiter list, hence as soon as the original finishes
(with whatever result `x`) the completion step hands it a reply, and the call
is no longer parked.  The reply is the original's full result whenever the
call's operations have the shape of that result, `SEQ_FALSE_RETRY` otherwise
(`waiter_reply_41`). -/
theorem inflight_duplicate_completes_41 {a b : Nat} {lj : Bool} {s : State}
    (h : Reachable (init a b false lj) s) (c sid slot : Nat) (hp : (c, sid, slot) ∈ s.parked) :
    ∃ se bz, s.sess sid = some se ∧ (se.slot slot).busy = some bz ∧
      ∀ x, (∃ rep, (c, rep) ∈ (finish s sid slot x).2) ∧ (c, sid, slot) ∉ (finish s sid slot x).1.parked := by
  have hinv := inv_reachable (inv_init a b false lj) h
  have hleg : s.legacy = false := reachable_legacy h
  obtain ⟨se, bz, hse, hb, hc⟩ := hinv.parked hleg c sid slot hp
  refine ⟨se, bz, hse, hb, fun x => ?_⟩
  unfold finish getSlot
  simp only [hse, Option.map_some, hb]
  constructor
  · simp only [List.mem_map] at hc
    obtain ⟨w, hw, hw1⟩ := hc
    refine ⟨waiterReply s.legacyJoin x w.2, ?_⟩
    simp only [List.mem_cons, List.mem_map, Prod.mk.injEq]
    right
    exact ⟨w, hw, hw1, rfl⟩
  · intro hmem
    simp only [List.mem_filter, Bool.not_eq_true', List.contains_eq_mem, decide_eq_false_iff_not] at hmem
    exact hmem.2 hc

/-- What `finish` hands out: the original gets its result, every registered
waiter gets the same full result if its own operations have that shape and
`SEQ_FALSE_RETRY` otherwise (commit 5fcf292). -/
theorem waiter_reply_41 (s : State) (sid slot : Nat) (x : XRes) (c : Nat) (rep : CRes)
    (hl : s.legacyJoin = false) (h : (c, rep) ∈ (finish s sid slot x).2) :
    rep = fullRes x ∨ rep = seqErr errSeqFalseRetry := by
  unfold finish at h
  split at h
  · simp at h
  · split at h
    · simp at h
    · simp only [List.mem_cons, Prod.mk.injEq, List.mem_map] at h
      rcases h with ⟨_, h⟩ | ⟨w, _, _, h⟩
      · exact Or.inl h
      · rw [← h, hl]; unfold waiterReply; split
        · exact Or.inl rfl
        · exact Or.inr rfl

/-- Before commit 90324f7 (`legacy = true`) the wake-up was lost: the duplicate
of a request that is executing is parked, the original finishes, and the
duplicate is neither answered nor unparked. -/
theorem legacy_drop_waiter_counterexample :
    let r : Req := ⟨0, 0, 1, [22, 38], true, 7⟩
    let s := (run (init 12 3 true) [.exchangeId 0 1 99, .createSession 0 100, .arrive 0 r, .arrive 1 r]).1
    (1, 0, 0) ∈ s.parked ∧
    (finish s 0 0 ⟨0, [22, 38], 0⟩).2 = [(0, fullRes ⟨0, [22, 38], 0⟩)] ∧
    (1, 0, 0) ∈ (finish s 0 0 ⟨0, [22, 38], 0⟩).1.parked := by
  decide

/-- The same run on the current code: the duplicate is answered with the
original's result. -/
theorem inflight_duplicate_example :
    let r : Req := ⟨0, 0, 1, [22, 38], true, 7⟩
    let s := (run (init 12 3 false) [.exchangeId 0 1 99, .createSession 0 100, .arrive 0 r, .arrive 1 r]).1
    (finish s 0 0 ⟨0, [22, 38], 0⟩).2 = [(0, fullRes ⟨0, [22, 38], 0⟩), (1, fullRes ⟨0, [22, 38], 0⟩)] ∧
    (finish s 0 0 ⟨0, [22, 38], 0⟩).1.parked = [] := by
  decide

/-- **misordered_no_effect** (4.1): on a live session and valid slot, a sequence
id that is neither the slot's last one nor its successor is answered with
`NFS4ERR_SEQ_MISORDERED` and the state (ghost fields included) is unchanged. -/
theorem misordered_no_effect_41 (s : State) (c : Nat) (r : Req) (se : Session)
    (hse : s.sess r.sess = some se) (halive : se.alive = true) (hslot : r.slot < se.nslots)
    (h1 : r.seq ≠ (se.slot r.slot).lastSeq) (h2 : r.seq ≠ ((se.slot r.slot).lastSeq + 1) % M) :
    arrive s c r = (s, .reply (seqErr errSeqMisordered)) :=
  arrive_eq_misordered s c r se hse halive hslot h1 h2

/-- Unknown or destroyed sessions and invalid slots: error, no effect. -/
theorem bad_session_no_effect_41 (s : State) (c : Nat) (r : Req)
    (h : s.sess r.sess = none ∨ ∃ se, s.sess r.sess = some se ∧ se.alive = false) :
    arrive s c r = (s, .reply (seqErr errBadSession)) := by
  rcases h with h | ⟨se, h, h'⟩
  · exact arrive_eq_nosession s c r h
  · exact arrive_eq_dead s c r se h h'

/-- Meaning of the shape check. -/
theorem shapeOK_sound (cr : CRes) (ops : List Nat) (h : shapeOK cr ops = true) :
    cr.resops.length ≤ ops.length ∧ (cr.status = 0 → cr.resops.length = ops.length) ∧
    ∀ i (h1 : i < cr.resops.length) (h2 : i < ops.length), cr.resops[i] = ops[i] ∨ cr.resops[i] = opIllegal := by
  simp only [shapeOK, Bool.and_eq_true, Bool.not_eq_true', Bool.or_eq_false_iff, decide_eq_false_iff_not,
    Bool.and_eq_false_iff] at h
  obtain ⟨⟨h1, h2⟩, h3⟩ := h
  refine ⟨by omega, fun hs => ?_, ?_⟩
  · rcases h2 with h2 | h2
    · exact absurd hs h2
    · simpa using h2
  · have : ∀ (rs os : List Nat), matchOps rs os = true →
        ∀ i (h1 : i < rs.length) (h2 : i < os.length), rs[i] = os[i] ∨ rs[i] = opIllegal := by
      intro rs
      induction rs with
      | nil => intro os _ i h1; simp at h1
      | cons a rs ih =>
        intro os hm i h1 h2
        cases os with
        | nil => simp at h2
        | cons o os =>
          simp only [matchOps, Bool.and_eq_true, Bool.or_eq_true, beq_iff_eq] at hm
          cases i with
          | zero => simpa using hm.1
          | succ i => simpa using ih os hm.2 i (by simpa using h1) (by simpa using h2)
    exact this _ _ h3

/-- **false_retry** (4.1, cached arm): whenever `arrive` answers at once with
anything but a bare SEQUENCE error, the reply has the shape of the request: it
answers the request's operations one by one (same op number or `OP_ILLEGAL`),
completely if its status is OK.  A request whose op-number sequence differs
from the cached reply's in an executed position or, for a successful reply, in
length, is therefore answered with an error, never with the cached reply. -/
theorem false_retry_41 (s : State) (c : Nat) (r : Req) (rep : CRes)
    (h : (arrive s c r).2 = .reply rep) (hbody : ∀ code, rep.body ≠ .seqErr code) :
    shapeOK rep r.ops = true := by
  revert h
  refine arrive_elim s c r (P := fun p => p.2 = .reply rep → shapeOK rep r.ops = true) (fun rep' h2 h => ?_)
    fun _ _ _ _ _ => ⟨fun _ _ h => (nomatch h), fun _ => ⟨fun _ h => ?_, fun _ h => (nomatch h)⟩⟩
  · cases h
    rcases h2 with ⟨code, rfl⟩ | ⟨se, _, _, _, _, hok, rfl⟩
    · exact absurd rfl (hbody code)
    · exact hok
  · cases h; exact absurd rfl (hbody _)

/-- **false_retry** (4.1, in-flight arm, commit 5fcf292): a request that joined
an executing original and is handed anything but `SEQ_FALSE_RETRY` has the
shape of the result it is handed. -/
theorem false_retry_inflight_41 (s : State) (sid slot : Nat) (x : XRes) (se : Session) (bz : Busy)
    (hl : s.legacyJoin = false) (hse : s.sess sid = some se) (hb : (se.slot slot).busy = some bz)
    (w : Nat × List Nat) (hw : w ∈ bz.waiters) :
    (w.1, waiterReply false x w.2) ∈ (finish s sid slot x).2 ∧
    (waiterReply false x w.2 = fullRes x → shapeOK (fullRes x) w.2 = true) ∧
    (shapeOK (fullRes x) w.2 = false → waiterReply false x w.2 = seqErr errSeqFalseRetry) := by
  refine ⟨?_, ?_, ?_⟩
  · unfold finish getSlot
    simp only [hse, Option.map_some, hb, hl, List.mem_cons, List.mem_map]
    right; exact ⟨w, hw, rfl⟩
  · unfold waiterReply
    cases hs : shapeOK (fullRes x) w.2
    · simp [fullRes, seqErr]
    · simp
  · intro hs; simp [waiterReply, hs]

/-- A different op-number sequence is never answered with a successful cached
reply: if the original succeeded without `OP_ILLEGAL` results and was cached
in full, any request with the same ids whose operations differ gets
`NFS4ERR_SEQ_FALSE_RETRY`. -/
theorem false_retry_full_41 (cr : CRes) (ops0 ops : List Nat)
    (hst : cr.status = 0) (hlen : cr.resops.length = ops0.length)
    (hm : cr.resops = ops0) (hne : ops ≠ ops0) (hnill : ∀ o ∈ ops0, o ≠ opIllegal) :
    shapeOK cr ops = false := by
  cases hs : shapeOK cr ops with
  | false => rfl
  | true =>
    obtain ⟨h1, h2, h3⟩ := shapeOK_sound cr ops hs
    have hl := h2 hst
    exfalso; apply hne
    apply List.ext_getElem
    · rw [← hl, hlen]
    · intro i hi1 hi2
      have := h3 i (by rw [hlen]; exact hi2) hi1
      subst hm
      rcases this with h | h
      · exact h.symm
      · exact absurd h (hnill _ (List.getElem_mem _))

/-- Before commit 5fcf292 (`legacyJoin = true`): a request with other operations
(PUTFH, WRITE, GETFH) that arrives while (PUTFH, WRITE) with the same ids is
executing is handed that request's reply. -/
theorem finding_inflight_join_ignores_content :
    let r : Req := ⟨0, 0, 1, [22, 38], true, 7⟩
    let r' : Req := ⟨0, 0, 1, [22, 38, 10], true, 8⟩
    let s := (run (init 12 3 false true) [.exchangeId 0 1 99, .createSession 0 100, .arrive 0 r, .arrive 1 r']).1
    (finish s 0 0 ⟨0, [22, 38], 0⟩).2 = [(0, fullRes ⟨0, [22, 38], 0⟩), (1, fullRes ⟨0, [22, 38], 0⟩)] ∧
    shapeOK (fullRes ⟨0, [22, 38], 0⟩) r'.ops = false := by
  decide

/-- The same run on the current code: the false retry gets SEQ_FALSE_RETRY. -/
theorem inflight_false_retry_example :
    let r : Req := ⟨0, 0, 1, [22, 38], true, 7⟩
    let r' : Req := ⟨0, 0, 1, [22, 38, 10], true, 8⟩
    let s := (run (init 12 3 false false) [.exchangeId 0 1 99, .createSession 0 100, .arrive 0 r, .arrive 1 r']).1
    (finish s 0 0 ⟨0, [22, 38], 0⟩).2 = [(0, fullRes ⟨0, [22, 38], 0⟩), (1, seqErr errSeqFalseRetry)] := by
  decide

/-! ### CREATE_SESSION -/

/-- **create_session_replay**: CREATE_SESSION with the incarnation's last
sequence id returns the cached response and changes nothing; a sequence id
that is neither the last nor its successor is refused without effect. -/
theorem create_session_replay (s : State) (k q : Nat) (hk : k < s.ninc) (halive : (s.inc k).alive = true) :
    (q = (s.inc k).csLast → createSession s k q = (s, .cached (s.inc k).csResp)) ∧
    (q ≠ (s.inc k).csLast → q ≠ ((s.inc k).csLast + 1) % M → createSession s k q = (s, .misordered)) := by
  constructor
  · intro h; unfold createSession; simp [Nat.not_le.2 hk, halive, h]
  · intro h1 h2; unfold createSession; simp [Nat.not_le.2 hk, halive, h1, h2]

/-- After a CREATE_SESSION that created session `sid`, its retransmission gets
the cached response naming `sid` and creates nothing. -/
theorem create_session_same_reply (s : State) (k q sid : Nat) (s' : State)
    (h : createSession s k q = (s', .created sid)) :
    createSession s' k q = (s', .cached (some sid)) := by
  rcases createSession_cases s k q with ⟨_, e, hne⟩ | ⟨hk, hal, s0, hs0, e⟩ <;> rw [e] at h
  · cases h; exact absurd rfl (hne sid)
  · have hal0 : (s0.inc k).alive = true := by
      rcases hs0 with rfl | ⟨old, hne, rfl⟩
      · exact hal
      · simp [removeInc, Ne.symm hne, hal]
    have hk0 : k < s0.ninc := by
      rcases hs0 with rfl | ⟨old, _, rfl⟩ <;> exact hk
    unfold newSession at h
    simp only [Prod.mk.injEq, CsOut.created.injEq] at h
    obtain ⟨rfl, rfl⟩ := h
    unfold createSession
    simp [Nat.not_le.2 hk0, hal0]

/-! ### non-vacuity -/

/-- A reachable state in which slot 0 of session 0 has finished request
`⟨0,0,1,[22,38]⟩`: the hypotheses of `same_reply_41` and `at_most_once_41` hold. -/
example :
    let r : Req := ⟨0, 0, 1, [22, 38], false, 7⟩
    let s := (run (init 12 3 false) [.exchangeId 0 1 99, .createSession 0 100, .arrive 0 r,
      .finish 0 0 ⟨0, [22, 38], 0⟩]).1
    (execsOn s.execs 0 0).length = 1 ∧ ((execsOn s.execs 0 0)[0]!).seq = r.seq ∧
    (arrive s 5 r).2 = .reply ⟨errRetryUncachedRep, [22], .uncached 0⟩ ∧
    (arrive s 5 { r with cache := true }).2 = .reply ⟨errRetryUncachedRep, [22], .uncached 0⟩ ∧
    (arrive s 6 { r with seq := 3 }).2 = .reply (seqErr errSeqMisordered) ∧
    (arrive s 7 { r with ops := [22, 9] }).2 = .reply ⟨errRetryUncachedRep, [22], .uncached 0⟩ ∧
    (arrive s 8 { r with ops := [24, 38] }).2 = .reply (seqErr errSeqFalseRetry) := by
  decide

example : WF ⟨0, 0, 1, [22, 38], false, 7⟩ ⟨0, [22, 38], 0⟩ := by unfold WF; decide
example : WF ⟨0, 0, 1, [22, 15, 38], false, 7⟩ ⟨20, [22, 15], 0⟩ := by unfold WF; decide

end V41

/-! ## NFSv4.0 -/
section V40
open BbRe.Replay40 BbRe.Lemmas.Replay40

/-- The eight status codes of `transactionShouldComplete` (RFC 7530 9.1.7):
STALE_CLIENTID, STALE_STATEID, BAD_STATEID, BAD_SEQID, BADXDR, RESOURCE,
NOFILEHANDLE, MOVED.  The table is compared with the Go source on every run by
the harness (`fact check: transactionShouldComplete`). -/
theorem should_complete_table_40 (st : Nat) :
    shouldComplete st = false ↔
      st = 10022 ∨ st = 10023 ∨ st = 10025 ∨ st = 10026 ∨ st = 10036 ∨ st = 10018 ∨ st = 10020 ∨ st = 10019 := by
  simp only [shouldComplete, Bool.and_eq_false_iff, bne_eq_false_iff_eq, or_assoc]

/-- **seq_advance_rule** (4.0): when the transaction of an open-owner completes,
the owner's cached seqid becomes the transaction's seqid and its response is
cached iff `transactionShouldComplete` of the status of the response it completes with
(`effResp`: the operation's response, or for LOCK with `open_to_lock_owner4`
the outcome of the nested lock-owner transaction); otherwise the seqid is
unchanged and nothing is cached (the previous response was dropped when the
transaction started). -/
theorem seq_advance_rule_40 {s : State} (h : Reachable s) (o : Nat) (x : Fin) (call : Nat) (r : Req)
    (hb : (s.oo o).busy = some (call, r)) :
    (shouldComplete (effResp s r x).status = true →
      ((finish s o x).1.oo o).lastSeq = r.seq ∧ ((finish s o x).1.oo o).lastResp = some (effResp s r x)) ∧
    (shouldComplete (effResp s r x).status = false →
      ((finish s o x).1.oo o).lastSeq = (s.oo o).lastSeq ∧ ((finish s o x).1.oo o).lastResp = none) ∧
    ((finish s o x).1.oo o).busy = none ∧ (finish s o x).2.1 = some (call, effReply s r x) ∧
    (r.kind ≠ .lock → effResp s r x = x.resp ∧ effReply s r x = .cached x.resp) := by
  have hinv := inv_reachable h
  rw [finish_oo_same s o x call r hb]
  refine ⟨fun ha => by simp [ha], fun ha => ?_, rfl, (finish_waiting s o x call r hb).2.2,
    fun hk => ⟨effResp_not_lock s r x hk, effReply_not_lock s r x hk⟩⟩
  simp [ha, (hinv.busy o _ hb).1]

/-- Same rule for lock-owners (`lockOwnerTransaction.complete`). -/
theorem lock_seq_advance_rule_40 (s : State) (r : LReq) (x : Resp) (lk f : Nat)
    (hl : lockLookup s r.other = some (lk, f)) (hex : (lockTx s r x).2.2 = true) :
    (shouldComplete x.status = true →
      ((lockTx s r x).1.lo lk).lastSeq = r.seq ∧ ((lockTx s r x).1.lo lk).lastResp = some x) ∧
    (shouldComplete x.status = false →
      ((lockTx s r x).1.lo lk).lastSeq = (s.lo lk).lastSeq ∧ ((lockTx s r x).1.lo lk).lastResp = none) := by
  unfold lockTx at hex ⊢
  rw [hl] at hex ⊢
  dsimp only at hex ⊢
  by_cases h1 : ((s.lo lk).lastResp.isSome && r.seq == (s.lo lk).lastSeq) = true
  · rw [if_pos h1] at hex; cases hex
  rw [if_neg h1] at hex ⊢
  by_cases h2 : r.seq ≠ nextSeq (s.lo lk).lastSeq
  · rw [if_pos h2] at hex; cases hex
  rw [if_neg h2]
  constructor
  · intro ha; simp [ha]
  · intro ha; simp [ha]

/-- Executor well-formedness for 4.0: a response has the type of its request,
and an OK response of OPEN_CONFIRM / OPEN_DOWNGRADE / CLOSE carries the
successor of the presented state ID (`txOpenConfirm`, `txOpenDowngrade`,
`txClose` bump `stateID.seqID` of the file they resolved). -/
def WF40 (r : Req) (resp : Resp) : Prop :=
  resp.kind = r.kind ∧
  (r.kind ≠ .open_ → r.kind ≠ .lock → resp.status = 0 → isNext resp.sid r.other r.argSeq = true)

/-- **at_most_once / same_reply** (4.0): while `(r0, x0)` is the owner's last
completed-and-advanced transaction (ghost `lastDone`, set by `finish` iff the
status advances, cleared when the next transaction starts), EVERY request that
resolves to this owner with `r0`'s seqid is answered without starting a
transaction and without any state change; an identical retransmission gets the
cached response `x0`. -/
theorem same_reply_40 {s : State} (h : Reachable s) (c : Nat) (r r0 : Req) (x0 : Resp) (o : Nat)
    (hres : resolve s r = some o) (hdone : (s.oo o).lastDone = some (r0, x0)) (hseq : r.seq = r0.seq) :
    arrive s c r = (s, .reply (replayReply r x0)) ∧
    (r.kind = r0.kind → r.other = r0.other → r.argSeq = r0.argSeq → WF40 r0 x0 → replayReply r x0 = .cached x0) := by
  have hinv := inv_reachable h
  obtain ⟨h1, h2⟩ := hinv.done o r0 x0 hdone
  have hb : (s.oo o).busy = none := by
    cases hb : (s.oo o).busy with
    | none => rfl
    | some b => rw [(hinv.busy o b hb).1] at h1; cases h1
  refine ⟨arrive_eq_replay s c r o x0 hres hb h1 (by rw [h2, hseq]), fun hk ho ha hwf => ?_⟩
  obtain ⟨w1, w2⟩ := hwf
  unfold replayReply
  rw [if_neg (by rw [w1, hk]; exact fun h => h rfl)]
  cases hkk : r.kind <;> simp only []
  all_goals
    by_cases hst : x0.status = 0
    · have := w2 (by rw [← hk, hkk]; decide) (by rw [← hk, hkk]; decide) hst
      rw [ho, ha, this]; simp
    · simp [hst]

/-- **false_retry** (4.0): whenever `arrive` answers with a cached response, that
response has the type of the request, and for OPEN_CONFIRM / OPEN_DOWNGRADE /
CLOSE an OK response is only returned if its state ID is the successor of the
presented one.  A request that reuses the last seqid with another operation
type (or another state ID) therefore gets NFS4ERR_BAD_SEQID. -/
theorem false_retry_40 (r : Req) (resp resp' : Resp) (h : replayReply r resp = .cached resp') :
    resp' = resp ∧ resp.kind = r.kind ∧
    (r.kind ≠ .open_ → r.kind ≠ .lock → resp.status = 0 → isNext resp.sid r.other r.argSeq = true) := by
  unfold replayReply at h
  split at h
  · cases h
  · rename_i hk
    simp only [ne_eq, Decidable.not_not] at hk
    cases hkk : r.kind <;> rw [hkk] at h <;> simp only [] at h
    · cases h; exact ⟨rfl, hk.trans hkk, fun h1 => absurd rfl h1⟩
    all_goals first
      | (cases h; exact ⟨rfl, hk.trans hkk, fun _ h2 => absurd rfl h2⟩)
      | (split at h
         · rename_i hc
           cases h
           refine ⟨rfl, hk.trans hkk, fun _ _ hst => ?_⟩
           simpa [hst] using hc
         · cases h)

/-- Every cached response `arrive` hands out comes from the replay arm and has
the request's type. -/
theorem arrive_cached_kind_40 (s : State) (c : Nat) (r : Req) (resp : Resp)
    (h : (arrive s c r).2 = .reply (.cached resp)) : resp.kind = r.kind := by
  revert h
  refine arrive_elim s c r (P := fun p => p.2 = .reply (.cached resp) → resp.kind = r.kind)
    (fun _ h => nomatch h) (fun o resp0 _ _ _ _ h => ?_) (fun _ _ _ _ h => nomatch h)
    (fun _ _ _ h => nomatch h) (fun _ _ _ h => nomatch h)
  obtain ⟨e, hk, _⟩ := false_retry_40 r resp0 resp (Out.reply.inj h)
  rw [e]; exact hk

/-- **misordered_no_effect** (4.0): on a confirmed open-owner with no transaction
in progress, a seqid that is neither the cached one nor its successor is
answered NFS4ERR_BAD_SEQID and nothing changes; an unknown state ID is answered
NFS4ERR_BAD_STATEID and nothing changes; on an unconfirmed owner everything
but OPEN / OPEN_CONFIRM is refused. -/
theorem misordered_no_effect_40 (s : State) (c : Nat) (r : Req) :
    (resolve s r = none → arrive s c r = (s, .reply (.err errBadStateid))) ∧
    (∀ o, resolve s r = some o → (s.oo o).busy = none → (s.oo o).confirmed = true →
      r.seq ≠ (s.oo o).lastSeq → r.seq ≠ nextSeq (s.oo o).lastSeq →
      arrive s c r = (s, .reply (.err errBadSeqid))) ∧
    (∀ o, resolve s r = some o → (s.oo o).busy = none → (s.oo o).confirmed = false →
      NoReplay (s.oo o) r.seq → r.kind ≠ .open_ → r.kind ≠ .openConfirm →
      arrive s c r = (s, .reply (.err errBadSeqid))) := by
  refine ⟨arrive_eq_unresolved s c r, fun o hres hb hc h1 h2 => ?_, fun o hres hb hc hn hk hk2 => ?_⟩
  · exact arrive_eq_badseq_confirmed s c r o hres hb (Or.inr h1) hc h2
  · exact arrive_eq_unconfirmed_deny s c r o hres hb hn hc hk2 hk

/-- RFC 7530 16.18.5: OPEN on an unconfirmed open-owner with a seqid that is not
a replay reinitialises the owner (forgets the response, drops its files) and
starts a new transaction, whatever the seqid. -/
theorem unconfirmed_open_reinitialises_40 (s : State) (c : Nat) (r : Req) (o : Nat)
    (hres : resolve s r = some o) (hb : (s.oo o).busy = none) (hc : (s.oo o).confirmed = false)
    (hn : NoReplay (s.oo o) r.seq) (hk : r.kind = .open_) :
    arrive s c r = (begin (reinit s o) o c r, .started) :=
  arrive_eq_unconfirmed_open s c r o hres hb hn hc hk

/-- **inflight_duplicate_completes** (4.0, no lost wake-up): every call waiting
for an owner's transaction waits for a transaction that IS in progress, and
its completion wakes the call (it is handed back for retry and no longer
waits). -/
theorem inflight_duplicate_completes_40 {s : State} (h : Reachable s) (c o : Nat) (hw : (c, o) ∈ s.waiting) :
    ∃ call r, (s.oo o).busy = some (call, r) ∧
      ∀ x, c ∈ (finish s o x).2.2 ∧ (c, o) ∉ (finish s o x).1.waiting := by
  have hinv := inv_reachable h
  have hb := hinv.waiting c o hw
  cases hbz : (s.oo o).busy with
  | none => rw [hbz] at hb; simp at hb
  | some b =>
    obtain ⟨call, r⟩ := b
    refine ⟨call, r, rfl, fun x => ?_⟩
    obtain ⟨h1, h2, _⟩ := finish_waiting s o x call r hbz
    rw [h1, h2]
    constructor
    · simp only [List.mem_map, List.mem_filter, beq_iff_eq]
      exact ⟨(c, o), ⟨hw, rfl⟩, rfl⟩
    · simp

/-- … and when the woken duplicate of an OPEN retries, it is answered with the
response the original just produced (if that response advances the seqid). -/
theorem inflight_open_gets_original_reply_40 {s : State} (h : Reachable s) (o call c : Nat) (r : Req) (x : Fin)
    (hb : (s.oo o).busy = some (call, r)) (hk : r.kind = .open_) (ho : r.owner = o)
    (hadv : shouldComplete x.resp.status = true) (hwf : x.resp.kind = .open_) :
    (arrive (finish s o x).1 c r).2 = .reply (.cached x.resp) := by
  have hr : Reachable (finish s o x).1 := Reachable.step (.finish o x) h
  have hres : resolve (finish s o x).1 r = some o := by simp [resolve, hk, ho]
  have he : effResp s r x = x.resp := effResp_not_lock s r x (by rw [hk]; decide)
  have hdone : ((finish s o x).1.oo o).lastDone = some (r, x.resp) := by
    rw [finish_oo_same s o x call r hb, he]; simp [hadv]
  obtain ⟨h1, h2⟩ := same_reply_40 hr c r r x.resp o hres hdone rfl
  rw [h1]
  have : replayReply r x.resp = .cached x.resp := by
    unfold replayReply; simp [hwf, hk]
  rw [this]

/-- **Two-phase CLOSE**: after a successful CLOSE the closed state ID still
resolves to its open-owner (it is only removed when the owner's next
transaction starts), so a retransmitted CLOSE reaches the replay cache instead
of failing with BAD_STATEID. -/
theorem close_replay_resolvable_40 {s : State} (h : Reachable s) (o call : Nat) (r : Req) (x : Fin) (c : Nat)
    (hb : (s.oo o).busy = some (call, r)) (hk : r.kind = .close) (hres : s.openOther r.other = some o)
    (hst : x.resp.status = 0) (hwf : WF40 r x.resp) :
    resolve (finish s o x).1 r = some o ∧
    (arrive (finish s o x).1 c r).2 = .reply (.cached x.resp) := by
  have hadv : shouldComplete x.resp.status = true := by rw [hst]; decide
  have he : effResp s r x = x.resp := effResp_not_lock s r x (by rw [hk]; decide)
  have hres' : resolve (finish s o x).1 r = some o := by
    unfold resolve finish
    rw [hb]
    simp only [hk, reduceCtorEq, if_false, he]
    cases hs : x.resp.sid with
    | none => simpa using hres
    | some p => obtain ⟨f', q⟩ := p; simp [hres]
  have hr : Reachable (finish s o x).1 := Reachable.step (.finish o x) h
  have hdone : ((finish s o x).1.oo o).lastDone = some (r, x.resp) := by
    rw [finish_oo_same s o x call r hb, he]; simp [hadv]
  obtain ⟨h1, h2⟩ := same_reply_40 hr c r r x.resp o hres' hdone rfl
  exact ⟨hres', by rw [h1, h2 rfl rfl rfl hwf]⟩

/-- **Nested lock-owner transaction, misordered** (LOCK with `open_to_lock_owner4`
on an EXISTING lock-owner): if the lock-owner is already associated with the
file, or the lock seqid is neither its cached one nor the successor, the
request is answered NFS4ERR_BAD_SEQID and has no effect on either owner: the
open-owner's seqid does not advance, nothing is cached, the lock-owner and its
files are untouched.  (RFC 7530 9.1.7: BAD_SEQID never advances a seqid.) -/
theorem nested_lock_misordered_no_effect_40 {s : State} (h : Reachable s) (o call : Nat) (r : Req) (x : Fin)
    (hb : (s.oo o).busy = some (call, r)) (hk : r.kind = .lock) (hreach : x.reached = true)
    (hn : nested s x.lockOwner r.other x.lockSeq = .fail) :
    (finish s o x).2.1 = some (call, .err errBadSeqid) ∧
    ((finish s o x).1.oo o).lastSeq = (s.oo o).lastSeq ∧ ((finish s o x).1.oo o).lastResp = none ∧
    (finish s o x).1.lo = s.lo ∧ (finish s o x).1.lockFiles = s.lockFiles := by
  have hinv := inv_reachable h
  have he : effResp s r x = ⟨.lock, errBadSeqid, none, x.resp.body⟩ := by
    unfold effResp; simp [hk, hreach, hn]
  have hr : effReply s r x = .err errBadSeqid := by
    unfold effReply; simp [hk, hreach, hn]
  have hns : nestedStarted s r x = none := by
    unfold nestedStarted; simp [hk, hreach, hn]
  have hsc : shouldComplete errBadSeqid = false := by decide
  refine ⟨by rw [(finish_waiting s o x call r hb).2.2, hr], ?_, ?_, ?_, ?_⟩
  · rw [finish_oo_same s o x call r hb, he]; simp [hsc]
  · rw [finish_oo_same s o x call r hb, he]; simp [hsc, (hinv.busy o _ hb).1]
  · unfold finish; rw [hb]; simp only [hns]
  · unfold finish; rw [hb]
    simp only [hns, he, hk]
    simp [errBadSeqid]

/-- **Nested lock-owner transaction, replay**: a LOCK with `open_to_lock_owner4`
that carries the existing lock-owner's cached lock seqid is answered with the
lock-owner's cached LOCK response (only a LOCK response), without attempting
the lock: the lock-owner and its files are untouched. -/
theorem nested_lock_replay_40 (s : State) (o call : Nat) (r : Req) (x : Fin) (c : Resp)
    (hb : (s.oo o).busy = some (call, r)) (hk : r.kind = .lock) (hreach : x.reached = true)
    (hn : nested s x.lockOwner r.other x.lockSeq = .cached c) :
    (finish s o x).2.1 = some (call, .cached c) ∧ c.kind = .lock ∧
    (s.lo x.lockOwner).lastResp = some c ∧ x.lockSeq = (s.lo x.lockOwner).lastSeq ∧
    (finish s o x).1.lo = s.lo := by
  have hr : effReply s r x = .cached c := by
    unfold effReply; simp [hk, hreach, hn]
  have hns : nestedStarted s r x = none := by
    unfold nestedStarted; simp [hk, hreach, hn]
  have hshape := nested_cached hn
  refine ⟨by rw [(finish_waiting s o x call r hb).2.2, hr], hshape.1, hshape.2.1, hshape.2.2, ?_⟩
  unfold finish; rw [hb]; simp only [hns]

/-- Lock-owner replay (LOCK with an existing lock-owner, LOCKU): a request with
the lock-owner's cached seqid never executes; it gets the cached response only
if that has the request's type (and, if OK, the successor state ID), else
BAD_SEQID; any other seqid but the successor is refused; nothing changes. -/
theorem lock_replay_40 (s : State) (r : LReq) (x : Resp) (lk f : Nat) (resp : Resp)
    (hl : lockLookup s r.other = some (lk, f)) (hr : (s.lo lk).lastResp = some resp) (hq : r.seq = (s.lo lk).lastSeq) :
    (lockTx s r x).1 = s ∧ (lockTx s r x).2.2 = false ∧
    ((lockTx s r x).2.1 = .cached resp ∨ (lockTx s r x).2.1 = .err errBadSeqid) ∧
    ((lockTx s r x).2.1 = .cached resp → resp.kind = r.kind) := by
  unfold lockTx
  rw [hl]
  simp only [hr, Option.isSome_some, hq, beq_self_eq_true, Bool.and_self, if_true]
  refine ⟨trivial, trivial, ?_, ?_⟩
  · split
    · exact Or.inr rfl
    · split
      · exact Or.inl rfl
      · exact Or.inr rfl
  · split
    · intro h; cases h
    · rename_i hk; intro _; simpa using hk

theorem lock_misordered_no_effect_40 (s : State) (r : LReq) (x : Resp) (lk f : Nat)
    (hl : lockLookup s r.other = some (lk, f))
    (h1 : (s.lo lk).lastResp = none ∨ r.seq ≠ (s.lo lk).lastSeq) (h2 : r.seq ≠ nextSeq (s.lo lk).lastSeq) :
    lockTx s r x = (s, .err errBadSeqid, false) := by
  unfold lockTx
  rw [hl]
  have : ((s.lo lk).lastResp.isSome && r.seq == (s.lo lk).lastSeq) = false := by
    rcases h1 with h | h <;> simp [h]
  simp [this, h2]

/-! ### non-vacuity (4.0) -/

/-- A run: OPEN seq 5 on a new owner (executes, response cached), its
retransmission (cached), OPEN_CONFIRM seq 6, a CLOSE with the OPEN's seqid
(BAD_SEQID), a misordered CLOSE (BAD_SEQID), CLOSE seq 7 and its retransmission. -/
example :
    let open0 : Req := ⟨.open_, 7, 0, 0, 5, 1⟩
    let s1 := (arrive {} 0 open0).1
    let s2 := (finish s1 7 ⟨⟨.open_, 0, some (3, 1), 0⟩, 0, 0, false⟩).1
    let conf : Req := ⟨.openConfirm, 0, 3, 1, 6, 2⟩
    let s3 := (finish (arrive s2 2 conf).1 7 ⟨⟨.openConfirm, 0, some (3, 2), 2⟩, 0, 0, false⟩).1
    let close : Req := ⟨.close, 0, 3, 2, 7, 3⟩
    let s4 := (finish (arrive s3 5 close).1 7 ⟨⟨.close, 0, some (3, 3), 5⟩, 0, 0, false⟩).1
    (arrive {} 0 open0).2 = .started ∧
    (arrive s2 1 open0).2 = .reply (.cached ⟨.open_, 0, some (3, 1), 0⟩) ∧
    (arrive s3 3 { close with seq := 6 }).2 = .reply (.err errBadSeqid) ∧
    (arrive s3 4 { close with seq := 9 }).2 = .reply (.err errBadSeqid) ∧
    (arrive s4 6 close).2 = .reply (.cached ⟨.close, 0, some (3, 3), 5⟩) ∧
    (arrive s4 7 { close with argSeq := 1 }).2 = .reply (.err errBadSeqid) := by
  decide

/-- **same_reply at the COMPOUND level** (4.0, commit 2dc060f): while `(r0, x0)` is
the owner's last advanced transaction and it was a successful OPEN of the file
with state ID other `f`, a retransmitted OPEN is answered with the cached
response AND leaves the current filehandle at `f`, exactly as the original did
(`finishFH`): GETFH / GETATTR behind OPEN in the retransmitted compound see the
same file.  "The file cannot have been closed in the meantime" is the
invariant `openInv_reachable`: any later transaction of the owner would have
dropped the cached response.  (`ReachableWF`: successful OPENs return a state
ID other that is new or the owner's own.) -/
theorem same_reply_compound_40 {s : State} (h : ReachableWF s) (c : Nat) (r r0 : Req) (x0 : Resp) (o f q : Nat)
    (hres : resolve s r = some o) (hdone : (s.oo o).lastDone = some (r0, x0)) (hseq : r.seq = r0.seq)
    (hk : r.kind = .open_) (hk0 : r0.kind = .open_) (hx : x0.kind = .open_) (hst : x0.status = 0)
    (hsid : x0.sid = some (f, q)) :
    arrive s c r = (s, .reply (.cached x0)) ∧ arriveFH s c r = some f ∧ finishFH r0 x0 = some f := by
  have hi := openInv_reachable h
  obtain ⟨h1, _⟩ := same_reply_40 h.reachable c r r0 x0 o hres hdone hseq
  have hrep : replayReply r x0 = .cached x0 := by unfold replayReply; simp [hx, hk]
  rw [hrep] at h1
  have hopen := hi.opened o r0 x0 f q hdone hk0 hst hsid
  refine ⟨h1, ?_, ?_⟩
  · unfold arriveFH; rw [h1]
    simp [replayFH, hi.legacy, hk, hst, hsid, hopen]
  · simp [finishFH, hk0, hst, hsid]

/-- Before commit 2dc060f (`legacyOpenFH = true`): OPEN seqid 5 of a new owner
succeeds on the file with state ID other 3 (current filehandle: that file);
its retransmission gets the cached response but the current filehandle is
left alone (the directory): GETFH behind it differs. -/
theorem legacy_open_fh_counterexample :
    let open0 : Req := ⟨.open_, 7, 0, 0, 5, 1⟩
    let x0 : Resp := ⟨.open_, 0, some (3, 1), 0⟩
    let run (legacy : Bool) : State := (finish (arrive { legacyOpenFH := legacy } 0 open0).1 7 ⟨x0, 0, 0, false⟩).1
    finishFH open0 x0 = some 3 ∧
    (arrive (run true) 1 open0).2 = .reply (.cached x0) ∧ arriveFH (run true) 1 open0 = none ∧
    (arrive (run false) 1 open0).2 = .reply (.cached x0) ∧ arriveFH (run false) 1 open0 = some 3 := by
  decide

/-! ### `nextSeqID` -/

/-- `nextSeqID` over all 32-bit values, as written in the source: the successor
of `n` is `n + 1`, except that `2^32 - 1` is followed by 1 (never 0); it is a
32-bit value again, never 0 and never `n` itself (so "retransmission" =
equality with the last seqid and "next" = `nextSeq` never coincide). -/
theorem next_seq_spec_40 (n : Nat) (h : n < 2 ^ 32) :
    nextSeq n < 2 ^ 32 ∧ nextSeq n ≠ 0 ∧ nextSeq n ≠ n ∧
    (n ≠ 2 ^ 32 - 1 → nextSeq n = n + 1) ∧ (n = 2 ^ 32 - 1 → nextSeq n = 1) := by
  unfold nextSeq M32
  split <;> omega

/-- The same on machine words (`nfsv4.Seqid4` is a `uint32`). -/
theorem next_seq_bitvec_40 (n : BitVec 32) :
    nextSeq n.toNat = (if n = 0xffffffff#32 then 1#32 else n + 1#32).toNat := by
  have hlt := n.isLt
  unfold nextSeq M32
  by_cases hn : n = 0xffffffff#32
  · subst hn; decide
  · have hne : n.toNat ≠ 4294967296 - 1 := by
      intro h; apply hn; apply BitVec.eq_of_toNat_eq; simpa using h
    rw [if_neg hne, if_neg hn, BitVec.toNat_add]
    simp only [BitVec.toNat_ofNat]
    omega

/-- **The accepted seqid** (4.0): on a confirmed open-owner with no transaction in
progress, a request starts a transaction iff its seqid is exactly `nextSeqID`
of the owner's last one (and is not recognised as a retransmission, i.e. not
equal to the last one while a response is cached); it is recognised as a
retransmission exactly by equality with the last seqid. -/
theorem accepted_seq_is_successor_40 (s : State) (c : Nat) (r : Req) (o : Nat)
    (hres : resolve s r = some o) (hb : (s.oo o).busy = none) (hc : (s.oo o).confirmed = true) :
    ((arrive s c r).2 = .started ↔ (NoReplay (s.oo o) r.seq ∧ r.seq = nextSeq (s.oo o).lastSeq)) ∧
    ((∃ rep, (arrive s c r).2 = .reply rep ∧ arrive s c r = (s, .reply rep) ∧ ¬ NoReplay (s.oo o) r.seq) ↔
      ((s.oo o).lastResp.isSome = true ∧ r.seq = (s.oo o).lastSeq)) := by
  by_cases hrep : ∃ resp, (s.oo o).lastResp = some resp ∧ r.seq = (s.oo o).lastSeq
  · obtain ⟨resp, h1, h2⟩ := hrep
    have hnn : ¬ NoReplay (s.oo o) r.seq := by
      intro hn; rcases hn with hn | hn
      · rw [h1] at hn; cases hn
      · exact hn h2
    rw [arrive_eq_replay s c r o resp hres hb h1 h2]
    refine ⟨⟨(fun h => by cases h), fun h => absurd h.1 hnn⟩, ⟨fun _ => ⟨by simp [h1], h2⟩, fun _ => ⟨_, rfl, rfl, hnn⟩⟩⟩
  · have hn : NoReplay (s.oo o) r.seq := by
      cases h1 : (s.oo o).lastResp with
      | none => exact Or.inl h1
      | some resp => exact Or.inr (fun h2 => hrep ⟨resp, h1, h2⟩)
    have hnot : ¬ ((s.oo o).lastResp.isSome = true ∧ r.seq = (s.oo o).lastSeq) := by
      intro ⟨h1, h2⟩
      cases h3 : (s.oo o).lastResp with
      | none => rw [h3] at h1; simp at h1
      | some resp => exact hrep ⟨resp, h3, h2⟩
    by_cases hq : r.seq = nextSeq (s.oo o).lastSeq
    · rw [arrive_eq_start_confirmed s c r o hres hb hn hc hq]
      exact ⟨⟨fun _ => ⟨hn, hq⟩, fun _ => rfl⟩, ⟨fun ⟨_, _, _, h⟩ => absurd hn h, fun h => absurd h hnot⟩⟩
    · rw [arrive_eq_badseq_confirmed s c r o hres hb hn hc hq]
      exact ⟨⟨(fun h => by cases h), fun h => absurd h.2 hq⟩, ⟨fun ⟨_, _, _, h⟩ => absurd hn h, fun h => absurd h hnot⟩⟩

/-- Same for lock-owners: a LOCK (existing lock-owner) / LOCKU executes iff its
seqid is `nextSeqID` of the lock-owner's last one and it is not a replay. -/
theorem lock_accepted_seq_is_successor_40 (s : State) (r : LReq) (x : Resp) (lk f : Nat)
    (hl : lockLookup s r.other = some (lk, f)) :
    (lockTx s r x).2.2 = true ↔
      (((s.lo lk).lastResp = none ∨ r.seq ≠ (s.lo lk).lastSeq) ∧ r.seq = nextSeq (s.lo lk).lastSeq) := by
  unfold lockTx
  rw [hl]
  dsimp only
  by_cases h1 : ((s.lo lk).lastResp.isSome && r.seq == (s.lo lk).lastSeq) = true
  · rw [if_pos h1]
    simp only [Bool.and_eq_true, beq_iff_eq] at h1
    constructor
    · intro h; cases h
    · intro ⟨h2, _⟩
      rcases h2 with h2 | h2
      · rw [h2] at h1; simp at h1
      · exact absurd h1.2 h2
  · rw [if_neg h1]
    have hno : (s.lo lk).lastResp = none ∨ r.seq ≠ (s.lo lk).lastSeq := by
      simp only [Bool.and_eq_true, beq_iff_eq, not_and] at h1
      cases h3 : (s.lo lk).lastResp with
      | none => exact Or.inl rfl
      | some resp => exact Or.inr (h1 (by simp [h3]))
    by_cases h2 : r.seq = nextSeq (s.lo lk).lastSeq
    · simp [h2]
      rw [h2] at hno; exact hno
    · simp [h2]

/-- The nested case: owner 7 has files 3 and 4 open, lock-owner 9 holds file 3
(lock seqid 100).  LOCK(new) of lock-owner 9 on file 4 with open seqid 14 and
lock seqid 105 is refused without consuming seqid 14; with lock seqid 101 it
then runs; with lock seqid 100 it would get the cached LOCK response. -/
example :
    let s0 : State :=
      { oo := fun k => if k = 7 then { confirmed := true, lastSeq := 13, busy := some (1, ⟨.lock, 0, 4, 1, 14, 1⟩) } else {}
        openOther := fun f => if f = 3 ∨ f = 4 then some 7 else none
        lo := fun k => if k = 9 then ⟨100, some ⟨.lock, 0, some (20, 1), 0⟩⟩ else {}
        lockFiles := [(20, 9, 3)] }
    nested s0 9 4 105 = .fail ∧ nested s0 9 4 101 = .start false ∧
    nested s0 9 4 100 = .cached ⟨.lock, 0, some (20, 1), 0⟩ ∧ nested s0 9 3 101 = .fail ∧ nested s0 8 4 1 = .start true ∧
    (finish s0 7 ⟨⟨.lock, 10026, none, 1⟩, 9, 105, true⟩).2.1 = some (1, .err errBadSeqid) ∧
    ((finish s0 7 ⟨⟨.lock, 10026, none, 1⟩, 9, 105, true⟩).1.oo 7).lastSeq = 13 ∧
    ((finish s0 7 ⟨⟨.lock, 0, some (21, 1), 1⟩, 9, 101, true⟩).1.oo 7).lastSeq = 14 ∧
    (finish s0 7 ⟨⟨.lock, 0, some (21, 1), 1⟩, 9, 101, true⟩).1.lockFiles = [(20, 9, 3), (21, 9, 4)] := by
  decide

end V40
end BbRe.Properties.C19
