import BbRe.Properties.C01
import BbRe.Lemmas.SchedQExistsSync
/-!
# C01 (continued) — every task and every worker is held by a queue that exists

`C01.no_panic` allows the model's five *routing errors* ("complete: no platform queue", "platform queue
without size class queue", "getNextTask: no queue", "syncWake: no queue", "platform queue without
size classes"), because the platform-queue registry is not part of `Inv`.  They are excluded here by
the separate invariant `QExists` (`BbRe/Lemmas/SchedQExists*.lean`, proved for `State.init` and preserved
by every segment given `Inv`): every task without response names a registered size-class queue whose
platform queue is registered and lists that size class; an assigned task's worker is a worker of that
queue; every worker's queue is registered; a pending removal of a size-class queue (`scq.cleanupKey`)
exists at most once, only for a registered queue without workers — and `sizeClassQueue.remove` cancels
every queued task of the queue before it deletes it.

What remains excluded, and why: "platform queue without size classes" can still be returned by `Execute` /
`Synchronize` when the *request* names a platform queue that was registered with an empty list of size
classes.  `RegisterPredeclaredPlatformQueue` rejects that input (`len(sizeClasses) < 1`), the model's
`register` segment accepts it (second `example` at the end).  For states reached through `register`
segments the Go code accepts (`ReachableV`) the error is excluded as well (`no_sizeless_error`).
-/
namespace BbRe.Properties.C01Queues
open BbRe.Sched BbRe.Lemmas.SchedInv BbRe.Lemmas.SchedQ BbRe.Properties.C01

/-- **`QExists` in every reachable state** (the invariant itself; the readable consequences follow). -/
theorem qexists_reachable {s : State} (hr : Reachable s) : QExists False s :=
  BbRe.Lemmas.SchedQ.qexists_reachable hr

/-- **task → queue.**  In a reachable state every task without response (queued or assigned) names a
size-class queue `t.scq` that is registered, whose platform queue is registered and lists that size class
(`pq.sizeClasses`). -/
theorem task_queue_exists {s : State} (hr : Reachable s) {k : Nat} {t : Task} (ht : s.task? k = some t)
    (hl : t.response = none) :
    (∃ sq, s.scq? t.scq = some sq) ∧ (∃ pq, s.pq? t.scq.pq = some pq) ∧ t.scq.sc ∈ s.sizes t.scq.pq := by
  have hq := qexists_reachable hr
  have h1 : HasScq s t.scq := (taskOK_of_lookup hq ht hl).1
  exact ⟨(hasScq_iff s _).mp h1, (hasPq_iff s _).mp (hq.qp _ h1), (mem_sizes s _ _).mpr h1⟩

example : (queuedState.task? 1).map (fun t => (t.response.isNone, t.scq)) = some (true, q0) ∧
    (queuedState.scq? q0).isSome = true := by decide +kernel

/-- **an assigned task is held by a worker of its own size-class queue.** -/
theorem assigned_worker_in_own_queue {s : State} (hr : Reachable s) {k : Nat} {t : Task} {q : ScqId} {w : WId}
    (ht : s.task? k = some t) (hw : t.worker = some (q, w)) : q = t.scq := by
  have hl := (BbRe.Lemmas.SchedInv.inv_reachable hr).core.p3 k t ht (by rw [hw]; rfl)
  exact (taskOK_of_lookup (qexists_reachable hr) ht hl).2 q w hw

example : (assignedState.task? 1).map (fun t => (t.worker, t.scq)) = some (some (q0, w0), q0) := by decide +kernel

/-- **worker → queue.**  Every registered worker's size-class queue is registered (and so is its platform
queue). -/
theorem worker_queue_exists {s : State} (hr : Reachable s) {wk : Worker} (hw : wk ∈ s.workers) :
    (∃ sq, s.scq? wk.scq = some sq) ∧ ∃ pq, s.pq? wk.scq.pq = some pq := by
  have hq := qexists_reachable hr
  exact ⟨(hasScq_iff s _).mp (hq.wq wk hw), (hasPq_iff s _).mp (hq.qp _ (hq.wq wk hw))⟩

example : assignedState.workers.length = 1 := by decide +kernel

/-- **a size-class queue is only removed when it has no workers.**  A pending removal (`scq.cleanupKey`
active) exists at most once per queue, the queue is registered and no worker belongs to it. -/
theorem pending_removal_has_no_workers {s : State} (hr : Reachable s) {e : CleanupEntry} (he : e ∈ s.cleanup)
    {q : ScqId} (hk : e.kind = .scq q) :
    (∃ sq, s.scq? q = some sq) ∧ (∀ wk ∈ s.workers, wk.scq ≠ q) ∧
      ∀ e' ∈ s.cleanup, e'.kind = .scq q → e' = e := by
  have hq := qexists_reachable hr
  exact ⟨(hasScq_iff s _).mp (hq.cq e he q hk).1, (hq.cq e he q hk).2, fun e' he' hk' => hq.cu e' he' e he q hk' hk⟩

/-- a worker appears for an undeclared platform and disappears: the removal of its queue is pending -/
def removalPending : State := run (State.init cfg0)
  [ .sync h0 0 q0 [] 7 w0 .idle true, .syncWake h0 1 q0 w0 2, .touch h0 100 ]
example : removalPending.cleanup.any (fun e => e.kind = .scq q0) = true ∧ removalPending.workers = [] := by decide +kernel

/-- **No routing error.**  In a reachable state no segment fails with "complete: no platform queue",
"platform queue without size class queue", "getNextTask: no queue" or "syncWake: no queue"
(`routingErrors`): the size-class queue of the task being completed / of the synchronizing worker, its
platform queue and the largest size-class queue of that platform queue always exist. -/
theorem no_routing_error {s : State} (hr : Reachable s) (g : Seg) {e : String} (h : step s g = .error e) :
    e ∉ routingErrors := by
  have := wpR_of_error (step_q (ne := False) g (qexists_reachable hr) (BbRe.Lemmas.SchedInv.inv_reachable hr)
    (fun hf => hf.elim)) h
  intro hm; exact this (Or.inl hm)

/-- `no_panic` and `no_routing_error` together: every error of `step` in a reachable state is an oracle
mismatch, a segment that is not enabled, `bad-op`, or "platform queue without size classes". -/
theorem no_panic_no_routing {s : State} (hr : Reachable s) (g : Seg) {e : String} (h : step s g = .error e) :
    e ∈ okErrors.filter (fun x => x ∉ routingErrors) ∧ e ∉ panicErrors ∧ e ∉ internalErrors := by
  obtain ⟨a, b, c⟩ := no_panic hr g h
  exact ⟨List.mem_filter.mpr ⟨a, by simpa using no_routing_error hr g h⟩, b, c⟩

/-- errors do occur in reachable states (the hypothesis of the two theorems is satisfiable) -/
example : (match step assignedState (.syncWake h0 6 q0 w0 0) with | .error _ => true | .ok _ => false) = true := by
  decide +kernel

/-- the remaining error list, spelled out -/
example : okErrors.filter (fun x => x ∉ routingErrors) =
  [ "mismatch: parked worker exists but task was not handed to one",
    "mismatch: task handed to a worker that was not parked",
    "mismatch: no such parked stream",
    "mismatch: stream woke up without a stage change",
    "mismatch: worker was given a task that is not queued in its size-class queue",
    "mismatch: tasks are queued but the worker was not given one",
    "mismatch: no such worker",
    "mismatch: worker is not inside Synchronize",
    "mismatch: worker woke up although its wakeup channel is open",
    "mismatch: worker woke up without an undrain",
    "mismatch: worker is not waiting for an undrain",
    "mismatch: no such TerminateWorkers call",
    "mismatch: TerminateWorkers returned while a captured task is still executing",
    "bad-op",
    "platform queue without size classes" ] := by
  simp only [okErrors, routingErrors, List.filter_cons, List.filter_nil, List.mem_cons, List.not_mem_nil,
    String.reduceEq, or_false, or_true, not_false_eq_true, not_true_eq_false, decide_true, decide_false,
    if_true, if_false, Bool.false_eq_true]

/-- **No "platform queue without size classes" either, for the inputs the Go code accepts.**  In a state
reached through segments whose `register` inputs have a non-empty list of size classes (`ReachableV`;
`RegisterPredeclaredPlatformQueue` returns `InvalidArgument` otherwise) every platform queue has a
size-class queue, and no segment fails with "platform queue without size classes". -/
theorem no_sizeless_error {s : State} (hr : ReachableV s) (g : Seg) {e : String} (h : step s g = .error e) :
    e ≠ sizelessError ∧ e ∉ routingErrors ∧ ∀ p ∈ s.pqs, ∃ sq ∈ s.scqs, sq.id.pq = p.id := by
  have hq := qexists_reachableV hr
  have := wpR_of_error (step_q (ne := True) g hq (BbRe.Lemmas.SchedInv.inv_reachable hr.reachable)
    (fun _ => segValid_of_error h)) h
  refine ⟨fun he => this (Or.inr ⟨trivial, he⟩), fun hm => this (Or.inl hm), ?_⟩
  intro p hp
  obtain ⟨x, hx, hxe⟩ := hq.pn trivial p.id (List.mem_map.mpr ⟨p, hp, rfl⟩)
  obtain ⟨sq, hsq, he⟩ := List.mem_map.mp hx
  exact ⟨sq, hsq, by rw [he]; exact hxe⟩

/-- non-vacuity: the sample state is reachable through valid segments (and errors occur in it, see above) -/
example : ReachableV assignedState := by
  refine reachableV_run (reachableV_run (ReachableV.init cfg0) _ ?_) _ ?_
  · intro g hg
    simp only [List.mem_cons, List.not_mem_nil, or_false] at hg
    rcases hg with rfl | rfl <;> simp [SegValid]
  · intro g hg
    simp only [List.mem_cons, List.not_mem_nil, or_false] at hg
    subst hg; simp [SegValid, assignSeg]

/-- why the restriction is needed: after `register` with an empty list of size classes (which the Go code
rejects) an `Execute` for that platform fails with exactly this error -/
example : (match step (run (State.init cfg0) [.register 1 [] 7 [] 0 0]) (.exec h0 0 100 55 55 false [] 7 [1] 0) with
    | .error e => e == "platform queue without size classes"
    | .ok _ => false) = true := by decide +kernel

end BbRe.Properties.C01Queues
