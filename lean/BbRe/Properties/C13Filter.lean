import BbRe.Properties.C13
import BbRe.Lemmas.DirFilter
/-!
# C13 — completeness of the `FilterChildren` traversal

`filterChildrenRecursive` (in_memory_prepopulated_directory.go:622-669) hands to the
callback, per directory, first every leaf (hidden ones too) in list order and then
recurses into the child directories in list order; a directory whose contents are
still pending (`initialContentsFetcher != nil`) is handed to the callback itself and is
NOT initialised and not entered.  `FilterChildren` discards the boolean and returns nil.
The model is the work-list function `filterWalk` with the fuel
`dirs.length + totalEntries + 1` (`filterChildren`); `limit` is the number of the
callback invocation that answers "stop".

`C13.filter_refines` is the soundness half (every callback gets something that is at or
below `d`).  Here: completeness, stopping, and that nothing is modified.

Hypothesis `walkDone … = true`: the work list is exhausted within the model's fuel, i.e.
the Go recursion returns.  It is false on a hierarchy with a cycle through `d`
(`filter_returns_only_without_cycle`; cycles can be made: a rename of a directory into
its own subtree is not rejected).

`filter_visits_every_leaf_partial` keeps that hypothesis.  `filter_returns_on_acyclic` discharges
it for every reachable store in which no directory at or below `d` lies on a cycle
(`NoCyc s [d]`; the directories entered are pairwise different by `contents_inv`'s one-parent
clause, all exist, so there are at most `dirs.length` of them), which gives the unconditional
`filter_visits_every_leaf` and `filter_visits_each_item_once` (no callback item twice).
-/
namespace BbRe.Properties.C13Filter
open BbRe.Dir BbRe.Lemmas.Dir

/-- Callback never stops (`limit` at least the number of items) and the traversal returns:
the callbacks are EXACTLY (as a set) the leaf entries `(owner, name, leaf)` of the
initialised directories at or below `d` in the reference hierarchy, plus, for every
directory at or below `d` whose contents are pending, that directory itself (cookie =
owner, name 0).  Nothing else, nothing missing. -/
theorem filter_visits_every_leaf_partial (P : Params) (ops : List Op) (d limit : Nat)
    (hdone : walkDone ((run P init ops).dirs.length + totalEntries (run P init ops) + 1) (run P init ops) [d] = true)
    (hlimit : (filterWalk ((run P init ops).dirs.length + totalEntries (run P init ops) + 1) (run P init ops) [d]).length ≤ limit)
    (r : Report) :
    r ∈ (filterChildren (run P init ops) d limit).2.reports ↔
      ∃ owner, BbRe.Spec.Posix.Reach (abs (run P init ops)) d owner ∧
        ((((run P init ops).dir owner).lazy ≠ none ∧ r = ⟨owner, 0, .dir owner⟩) ∨
         (((run P init ops).dir owner).lazy = none ∧
            ∃ e ∈ ((run P init ops).dir owner).entries, e.child.isDir = false ∧ r = ⟨owner, e.name, e.child⟩)) := by
  have h : Inv P (run P init ops) := C13.inv_reachable P ops
  unfold filterChildren
  simp only []
  rw [List.take_of_length_le hlimit, mem_filterWalk_iff _ (fun a => (h.dirOK a).lazy) _ d hdone r]
  simp only [reach_iff (fun a => h.dirOK a), mem_dirItems]

/-- The traversal returns (within any fuel) only when `d` is not on a cycle. -/
theorem filter_returns_only_without_cycle (P : Params) (ops : List Op) (d fuel : Nat)
    (hdone : walkDone fuel (run P init ops) [d] = true) :
    ¬ ∃ c, MEdge (run P init ops) d c ∧ MReach (run P init ops) c d := by
  rintro ⟨c, he, hr⟩
  exact walkDone_no_cycle _ (fun a => ((C13.inv_reachable P ops).dirOK a).lazy) fuel [d] hdone d (by simp) c he hr

/-- On every reachable store in which no directory at or below `d` lies on a cycle, the
traversal returns within the model's fuel. -/
theorem filter_returns_on_acyclic (P : Params) (ops : List Op) (d : Nat)
    (hd : d < (run P init ops).dirs.length) (hacyc : NoCyc (run P init ops) [d]) :
    walkDone ((run P init ops).dirs.length + totalEntries (run P init ops) + 1) (run P init ops) [d] = true :=
  walkDone_of_noCyc (C13.inv_reachable P ops) d hd hacyc _

/-- `filter_returns_only_without_cycle` for all directories at or below `d` (the converse of
`filter_returns_on_acyclic`): a traversal that returns has met no cycle. -/
theorem filter_returns_only_on_acyclic (P : Params) (ops : List Op) (d fuel : Nat)
    (hdone : walkDone fuel (run P init ops) [d] = true) : NoCyc (run P init ops) [d] :=
  walkDone_noCyc _ (fun a => ((C13.inv_reachable P ops).dirOK a).lazy) fuel [d] hdone

/-- No callback item is handed out twice (whatever the callback answers). -/
theorem filter_visits_each_item_once (P : Params) (ops : List Op) (d limit : Nat)
    (hacyc : NoCyc (run P init ops) [d]) :
    ((filterChildren (run P init ops) d limit).2.reports).Nodup := by
  have h : Inv P (run P init ops) := C13.inv_reachable P ops
  have hnd := walkDirs_nodup (run P init ops) (fun p a c => edge_parent_unique h) (dirChildren_nodup h)
    ((run P init ops).dirs.length + totalEntries (run P init ops) + 1) [d] hacyc (by simp [BbRe.Lemmas.Dir.Sep])
  have hw := filterWalk_nodup (run P init ops) (fun a => h.dirOK a) _ [d] hnd
  exact hw.sublist (List.take_sublist _ _)

/-- `filter_visits_every_leaf_partial` without the hypothesis that the traversal returns:
on an acyclic hierarchy below an existing `d`, a callback that never stops gets exactly the
leaves of the initialised directories and the pending directories at or below `d` — each
once (`filter_visits_each_item_once`), nothing missing, nothing else. -/
theorem filter_visits_every_leaf (P : Params) (ops : List Op) (d limit : Nat)
    (hd : d < (run P init ops).dirs.length) (hacyc : NoCyc (run P init ops) [d])
    (hlimit : (filterWalk ((run P init ops).dirs.length + totalEntries (run P init ops) + 1) (run P init ops) [d]).length ≤ limit)
    (r : Report) :
    ((filterChildren (run P init ops) d limit).2.reports).Nodup ∧
    (r ∈ (filterChildren (run P init ops) d limit).2.reports ↔
      ∃ owner, BbRe.Spec.Posix.Reach (abs (run P init ops)) d owner ∧
        ((((run P init ops).dir owner).lazy ≠ none ∧ r = ⟨owner, 0, .dir owner⟩) ∨
         (((run P init ops).dir owner).lazy = none ∧
            ∃ e ∈ ((run P init ops).dir owner).entries, e.child.isDir = false ∧ r = ⟨owner, e.name, e.child⟩))) :=
  ⟨filter_visits_each_item_once P ops d limit hacyc,
   filter_visits_every_leaf_partial P ops d limit (filter_returns_on_acyclic P ops d hd hacyc) hlimit r⟩

/-- More fuel than the traversal needs changes nothing: the model's result does not depend
on the particular fuel once the traversal returns. -/
theorem filter_fuel_irrelevant (P : Params) (ops : List Op) (d fuel k : Nat)
    (hdone : walkDone fuel (run P init ops) [d] = true) :
    filterWalk (fuel + k) (run P init ops) [d] = filterWalk fuel (run P init ops) [d] :=
  filterWalk_fuel_stable _ fuel [d] hdone k

/-- A callback that answers "stop" at its `limit`-th invocation: the traversal makes exactly
the first `limit` callbacks of the never-stopping traversal (all of them when there are
fewer) and no more; `FilterChildren` still returns nil (status ok). -/
theorem filter_stops (s : Store) (d limit k : Nat) :
    (filterChildren s d limit).2.reports = ((filterChildren s d (limit + k)).2.reports).take limit ∧
    (filterChildren s d limit).2.status = .ok ∧
    (limit ≤ ((filterChildren s d (limit + k)).2.reports).length →
      ((filterChildren s d limit).2.reports).length = limit) := by
  refine ⟨?_, rfl, ?_⟩
  · simp [filterChildren, List.take_take]
  · simp only [filterChildren, List.length_take]
    omega

/-- `FilterChildren` itself modifies nothing (the removers handed to the callback are
separate operations): the store is the same afterwards, in particular a directory whose
contents are pending is still pending (the Go code hands the fetcher to the callback without
evaluating it) and no change counter moves. -/
theorem filter_does_not_modify (s : Store) (d limit : Nat) :
    (filterChildren s d limit).1 = s ∧
    ∀ a, ((filterChildren s d limit).1.dir a).lazy = (s.dir a).lazy ∧
         ((filterChildren s d limit).1.dir a).changeID = (s.dir a).changeID :=
  ⟨rfl, fun _ => ⟨rfl, rfl⟩⟩

/-! ## Non-vacuity: the two-level example store of `C13` (root 0 with a hidden leaf, a hard
link and the directory 1; directory 1 with a leaf and the not yet initialised directory 3) -/

example : walkDone ((run C13.exP init C13.exOps).dirs.length + totalEntries (run C13.exP init C13.exOps) + 1)
    (run C13.exP init C13.exOps) [0] = true := by decide +kernel

example : (filterChildren (run C13.exP init C13.exOps) 0 100).2.reports =
    [⟨0, 9, .leaf 1⟩, ⟨0, 4, .leaf 0⟩, ⟨1, 2, .leaf 0⟩, ⟨3, 0, .dir 3⟩] := by decide +kernel

-- the callback stops at its 2nd invocation
example : (filterChildren (run C13.exP init C13.exOps) 0 2).2.reports =
    [⟨0, 9, .leaf 1⟩, ⟨0, 4, .leaf 0⟩] := by decide +kernel

-- directory 3 is still pending afterwards
example : ((filterChildren (run C13.exP init C13.exOps) 0 100).1.dir 3).lazy = some 0 := by decide +kernel

-- the hypotheses of `filter_visits_every_leaf` hold for the example store and directory 0
example : 0 < (run C13.exP init C13.exOps).dirs.length ∧ NoCyc (run C13.exP init C13.exOps) [0] :=
  ⟨by decide +kernel, filter_returns_only_on_acyclic C13.exP C13.exOps 0 _ (by decide +kernel : walkDone 9 _ [0] = true)⟩

end BbRe.Properties.C13Filter
