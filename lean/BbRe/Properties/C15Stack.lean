import BbRe.Lemmas.PoolStack2
import BbRe.Lemmas.PoolStackCount
import BbRe.Lemmas.PoolStackOracle
import BbRe.Lemmas.FilePoolAllocSpec
import BbRe.Properties.C15
/-!
# C15 (the whole stack) — quota pool over block-device pool over bitmap allocator

Property theorems about `Model/PoolStack.lean`, the composition of the three C15 models
(`Model/Quota.lean` over `Model/FilePool.lean` over `Model/Bitmap.lean`): the file layer's allocator
oracle is answered by the word-level bitmap model, the quota layer's base pool is the file layer.
A history is a list of `(Op, Inputs)`: the operation with the fault inputs of that call (device
read/write faults, hole-source read/seek/`Truncate`/`Close` faults, an injected allocation
refusal).  All theorems quantify over every sector size `≥ 1`, device size, quota, number of files
and history.

`broken` is the model's consistency flag (`Model/PoolStack.lean`, `syncFree` / `settle`): raised
when the bitmap model panics on a free, when the file layer holds a sector it was never handed, or
when the base reports more bytes written than it was given.  `stack_consistent` shows it is never
raised, so all theorems here are unconditional.
Not proved: that the file model accepts every answer of the replay (never takes its `.oracle`
branch in the stack).  `Lemmas/PoolStackOracle.lean` has the acceptance step (`alloc_accepts_bitmap`)
and says what a whole-history statement would need in addition; the harness compares the two
models' answers at run time.
The file-pool component of every state of the stack is a state of `Model/FilePool.lean` after a
history with explicit oracles (`after_simulates`), so the theorems of `Properties/C15.lean` about
`C15.after` hold of it; `stack_no_sector_owned_twice` and `stack_conservation_sectors` are obtained so.
Helper lemmas: `BbRe/Lemmas/PoolStack.lean`, `PoolStackSub.lean`, `PoolStack2.lean`, `PoolStackCount.lean`.
-/
namespace BbRe.Properties.C15Stack
open BbRe BbRe.PoolStack BbRe.FilePool BbRe.Lemmas.PoolStack

/-- the state after a history -/
abbrev after (c : Cfg) (mf mb : Nat) (ops : List (Op × Inputs)) : PoolStack.State :=
  PoolStack.run (PoolStack.init c mf mb) ops

/-- every reachable state of the stack, in the terms the properties are stated in -/
theorem after_good (c : Cfg) (hss : 1 ≤ c.ss) (mf mb : Nat) (ops : List (Op × Inputs)) :
    Lemmas.FilePool.Inv (after c mf mb ops).fp ∧ (after c mf mb ops).fp.cfg = c ∧
      Bitmap.Inv c.nsec (after c mf mb ops).bm ∧
      Bitmap.abs c.nsec (after c mf mb ops).bm = Lemmas.FilePool.absAlloc (after c mf mb ops).fp.allocd ∧
      (after c mf mb ops).broken = false := by
  obtain ⟨hc, hb⟩ := run_notbroken c hss mf mb ops
  have hcfg : (after c mf mb ops).fp.cfg = c := (run_fpInv ops _ (coupled_init c hss mf mb).fpInv).2
  exact ⟨hc.fpInv, hcfg, by have := hc.bmInv; rwa [hcfg] at this,
    funext fun s => by have := hc.agree s; rwa [hcfg] at this, hb⟩

theorem after_simulates (c : Cfg) (mf mb : Nat) (ops : List (Op × Inputs)) :
    ∃ ops' : List (Op × Oracle), (after c mf mb ops).fp = C15.after c ops' :=
  run_simulates ops _

/-- **The composition is consistent**: after any history the consistency flag is down — no free ever
makes the bitmap model panic (no double free, nothing out of range), the file layer never holds a
sector the bitmap did not hand to it (`Lemmas/PoolStackSub.lean`: `step_allocd_sub`), and the base
never reports more bytes written than it was given. -/
theorem stack_consistent (c : Cfg) (hss : 1 ≤ c.ss) (mf mb : Nat) (ops : List (Op × Inputs)) :
    (after c mf mb ops).broken = false :=
  (after_good c hss mf mb ops).2.2.2.2

/-- **`stack_oracle_valid`**.
In every state reached by the composed model, every `AllocateContiguous(m)`, `m ≥ 1`, that the
bitmap model answers with `(first, count)` is an `AllocSpec.AllocOk` step *on the file layer's own
allocated set* (`absAlloc allocd`: the abstract allocator state `Model/FilePool.lean` checks its oracle
against): `1 ≤ count ≤ m`, sectors numbered from 1 and on the device, none of them held by any file.
So the oracle of `Model/FilePool.lean` is answered within the contract, and the file-level theorems
of `Properties/C15.lean` apply to the stack. -/
theorem stack_oracle_valid (c : Cfg) (hss : 1 ≤ c.ss) (mf mb : Nat) (ops : List (Op × Inputs))
    (m first count : Nat) (hm : 1 ≤ m)
    (h : (Bitmap.alloc (after c mf mb ops).bm m).2 = some (first, count)) :
    AllocSpec.AllocOk c.nsec (Lemmas.FilePool.absAlloc (after c mf mb ops).fp.allocd) m first count
      (Bitmap.abs c.nsec (Bitmap.alloc (after c mf mb ops).bm m).1) := by
  obtain ⟨_, _, hinv, hag, _⟩ := after_good c hss mf mb ops
  rw [← hag]
  exact Lemmas.Bitmap.alloc_ok_spec c.nsec _ m first count hinv hm h

/-- **The answers produced during one call**: whatever operation comes next, with
whatever faults, the sectors the bitmap model hands to the file layer during that call are pairwise
distinct, lie on the device, and none of them is held by a file when the call starts; the bitmap's
representation invariant holds after the last answer. -/
theorem stack_answers_fresh (c : Cfg) (hss : 1 ≤ c.ss) (mf mb : Nat) (ops : List (Op × Inputs))
    (op : Op) (inp : Inputs) :
    Bitmap.Inv c.nsec (answersFor (after c mf mb ops) op inp).1 ∧
      (ansSectors (answersFor (after c mf mb ops) op inp).2).Nodup ∧
      ∀ s ∈ ansSectors (answersFor (after c mf mb ops) op inp).2,
        1 ≤ s ∧ s ≤ c.nsec ∧ s ∉ (after c mf mb ops).fp.allocd := by
  obtain ⟨_, hcfg, hinv, hag, _⟩ := after_good c hss mf mb ops
  have hA := answersFor_ok (after c mf mb ops) op inp (by rw [hcfg]; exact hinv)
  rw [hcfg] at hA
  refine ⟨hA.inv, hA.nodup, fun s hs => ?_⟩
  have hw := Lemmas.Bitmap.abs_wf c.nsec _ s (by rw [hA.abs s]; simp [hs])
  refine ⟨hw.1, hw.2, fun hmem => ?_⟩
  have h2 := hA.fresh s hs
  rw [hag] at h2
  simp [Lemmas.FilePool.absAlloc, hmem] at h2

/-- **`stack_conservation`, quota** (unconditional).  After any history — including operations
refused for quota, failed device writes, allocation failures, failing hole-source `Truncate` /
`Close` — files remaining + open files = `maxFiles` and bytes remaining + the sizes charged to the
open files = `maxBytes`; in particular once no file is open both counters are back at their
maxima. -/
theorem stack_conservation_quota (c : Cfg) (mf mb : Nat) (ops : List (Op × Inputs)) :
    (after c mf mb ops).q.filesRemaining + (after c mf mb ops).q.files.length = mf ∧
      (after c mf mb ops).q.bytesRemaining + Quota.totalSize (after c mf mb ops).q.files = mb ∧
      ((after c mf mb ops).q.files = [] →
        (after c mf mb ops).q.filesRemaining = mf ∧ (after c mf mb ops).q.bytesRemaining = mb) := by
  have h := run_quotaAt ops (PoolStack.init c mf mb) (Lemmas.Quota.ConservedAt.init mf mb)
  refine ⟨h.files, h.bytes, fun hnil => ?_⟩
  have a := h.files
  have b := h.bytes
  rw [hnil] at a b
  exact ⟨a, b⟩

/-- **`stack_conservation`, sectors**.
At every point a sector of the device is in use in the bitmap exactly if an open file references
it — so free sectors of the bitmap + sectors owned by files = `sectorCount`, sector by sector —
also after failed operations; and once every file is closed the bitmap is entirely free. -/
theorem stack_conservation_sectors (c : Cfg) (hss : 1 ≤ c.ss) (mf mb : Nat) (ops : List (Op × Inputs)) :
    (∀ s, Bitmap.abs c.nsec (after c mf mb ops).bm s = true ↔
        ∃ (i : Nat) (f : File), (after c mf mb ops).fp.files[i]? = some f ∧ s ∈ f.sectors ∧ s ≠ 0) ∧
      ((∀ f ∈ (after c mf mb ops).fp.files, f.closed = true) →
        ∀ s, Bitmap.abs c.nsec (after c mf mb ops).bm s = false) := by
  obtain ⟨_, _, _, hag, _⟩ := after_good c hss mf mb ops
  obtain ⟨ops', e⟩ := after_simulates c mf mb ops
  rw [hag, e]
  refine ⟨fun s => ?_, fun hclosed s => ?_⟩
  · exact List.contains_iff_mem.trans ((C15.sector_conservation c hss ops').1 s)
  · show (C15.after c ops').allocd.contains s = false
    rw [C15.all_closed_nothing_allocated c hss ops' (e ▸ hclosed)]; rfl

/-- **`stack_conservation`, count form**: in every reachable state the number of free sectors of the
bitmap (`AllocSpec.freeCount` of its abstraction over sectors `1 … sectorCount`) plus the number of
non-zero sector entries of all files equals `sectorCount` — also after failed operations. -/
theorem stack_conservation_count (c : Cfg) (hss : 1 ≤ c.ss) (mf mb : Nat) (ops : List (Op × Inputs)) :
    AllocSpec.freeCount (Bitmap.abs c.nsec (after c mf mb ops).bm) c.nsec +
      ((after c mf mb ops).fp.files.map fun f => (f.sectors.filter (· ≠ 0)).length).sum = c.nsec := by
  obtain ⟨hi, hcfg, _, hag, _⟩ := after_good c hss mf mb ops
  rw [hag, ← allocd_length hi]
  exact freeCount_contains c.nsec _ hi.allocNodup (fun s hs => hcfg ▸ hi.allocRange s hs)

/-- **No sector is owned by two open files** (unconditional): in every state of the composed model
the non-zero sector entries of different files are disjoint and no file lists a sector twice. -/
theorem stack_no_sector_owned_twice (c : Cfg) (hss : 1 ≤ c.ss) (mf mb : Nat) (ops : List (Op × Inputs)) :
    (∀ (i j : Nat) (f g : File), i ≠ j → (after c mf mb ops).fp.files[i]? = some f →
        (after c mf mb ops).fp.files[j]? = some g → ∀ s, s ≠ 0 → s ∈ f.sectors → s ∉ g.sectors) ∧
      ∀ (i : Nat) (f : File), (after c mf mb ops).fp.files[i]? = some f → (f.sectors.filter (· ≠ 0)).Nodup := by
  obtain ⟨ops', e⟩ := after_simulates c mf mb ops
  rw [e]
  exact ⟨(C15.isolation_sectors c hss ops').1, (C15.isolation_sectors c hss ops').2.1⟩

/-! ## Non-vacuity

Two files on a 5-sector device with 2-byte sectors and a quota of 2 files / 20 bytes: a third
`NewFile` is refused, a fragmented write, a write that exhausts the bitmap, a failing device write,
a shrinking truncate, a write refused for quota, a `Close` whose hole source fails. -/

def exHole : Hole := { tag := 1, g := 1, m := 1, d := 0, salt := 0, limit := 0, eofStyle := false }

def exHist : List (Op × Inputs) :=
  [(.new exHole 3, {}), (.new exHole 0, {}), (.new exHole 0, {}),
   (.write 0 1 [10, 11, 12, 13], {}), (.write 1 0 [1, 2, 3, 4, 5, 6, 7, 8], {}),
   (.write 1 5 [1], { faults := { dw := some (0, 0) } }), (.trunc 0 2, {}), (.write 0 30 [1], {})]

/-- the flag, the allocated set, the bitmap and the quota after the history -/
example : (after ⟨2, 5⟩ 2 20 exHist).broken = false ∧ (after ⟨2, 5⟩ 2 20 exHist).fp.allocd = [4, 5, 1] ∧
    Bitmap.freeSectors (after ⟨2, 5⟩ 2 20 exHist).bm 5 = [2, 3] ∧
    (after ⟨2, 5⟩ 2 20 exHist).q.filesRemaining = 0 ∧ (after ⟨2, 5⟩ 2 20 exHist).q.bytesRemaining = 14 := by
  decide

/-- hypothesis `h` of `stack_oracle_valid`: the next request is answered with a freed sector -/
example : (Bitmap.alloc (after ⟨2, 5⟩ 2 20 exHist).bm 3).2 = some (2, 2) := by decide

/-- hypothesis `hclosed`, and the flag, after closing both files (one `Close` fails) -/
example : let st := after ⟨2, 5⟩ 2 20 (exHist ++ [(Op.close 0, ({} : Inputs)), (Op.close 1, ({ faults := { hc := true } } : Inputs))])
    (∀ f ∈ st.fp.files, f.closed = true) ∧ st.broken = false ∧ st.q.files = [] ∧
      Bitmap.freeSectors st.bm 5 = [1, 2, 3, 4, 5] := by
  decide

end BbRe.Properties.C15Stack
