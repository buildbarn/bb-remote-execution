import BbRe.Lemmas.ExecFlow
/-!
# C11, the executor's part: the run budget starts when the command starts

`Model/ExecFlow.lean` is the control flow of `localBuildExecutor.Execute`
(`pkg/builder/local_build_executor.go`).  Property C11: "A command is cancelled …
once it has run for its timeout …  A command that finishes within its unsuspended
budget is never cancelled by the timeout, and the reported virtual execution
duration equals the unsuspended time it ran."  The clock mechanism behind the
context is `Properties/C11.lean` (`Model/SusClock.lean`); what is shown here is
that `Execute` creates that context only after the RUNNING update was *accepted*
by the receiver of `executionStateUpdates` (an unbuffered channel), so that no
time the executor spends waiting for that receiver is charged to the command.
Tied to the real executor by `harness/cmd/localexec` (every observed instant of
every executed action is compared with `execute`).
-/
namespace BbRe.Properties.C11Flow
open BbRe.ExecFlow BbRe.Lemmas.ExecFlow

/-- The budget of the command starts at the instant the RUNNING update is accepted,
which is not before the receiver is done with the FETCHING_INPUTS update. -/
theorem budget_starts_when_running_is_accepted (e : Env) :
    (execute e).budgetStart = (execute e).acceptRunning ∧
    (execute e).acceptFetching + e.consumer ≤ (execute e).budgetStart ∧
    (execute e).runEnd = (execute e).budgetStart + (execute e).run.wall :=
  ⟨rfl, Nat.le_max_right .., rfl⟩

/-- For all speeds of the receiver of state updates and all preparation times the run
stage (cancelled or not, run time granted, virtual execution duration) is the same. -/
theorem run_stage_independent_of_update_delivery (e : Env) (consumer prep : Nat) :
    (execute { e with consumer := consumer, prep := prep }).run = (execute e).run := rfl

/-- A command that finishes within its budget — its run time does not exceed the
timeout, and run time plus stalls do not exceed timeout + maximum compensation — is
never cancelled, completes every segment, and the virtual execution duration is its
run time: for all timeouts, stall patterns and receivers of state updates. -/
theorem within_budget_never_cancelled (e : Env)
    (h1 : runTime e.script ≤ e.timeout)
    (h2 : runTime e.script + stallTime e.script ≤ e.timeout + e.maxSusp) :
    (execute e).run.killed = false ∧ (execute e).run.unsusp = runTime e.script ∧
      (execute e).run.completed = e.script.length ∧
      (execute e).run.wall = runTime e.script + stallTime e.script := by
  have hr : (execute e).run = _ := runFrom_fits e.timeout (e.timeout + e.maxSusp) e.script 0 0 0
    (by rwa [Nat.zero_add]) (by rwa [Nat.zero_add, wallTime_eq])
  rw [hr, Nat.zero_add, Nat.zero_add, Nat.zero_add, wallTime_eq]
  exact ⟨rfl, rfl, rfl, rfl⟩

/-- A command is cancelled only once it has run for its whole timeout, or once
timeout + maximum compensation of wall-clock time have passed since it was started;
and the virtual execution duration never exceeds the timeout nor the wall-clock time. -/
theorem cancelled_only_after_the_budget (e : Env) :
    ((execute e).run.killed = true →
      (execute e).run.unsusp = e.timeout ∨ e.timeout + e.maxSusp ≤ (execute e).run.wall) ∧
    (execute e).run.unsusp ≤ e.timeout ∧ (execute e).run.unsusp ≤ (execute e).run.wall := by
  obtain ⟨_, a, b, c⟩ := runFrom_bounds e.timeout (e.timeout + e.maxSusp) e.script 0 0 0 (Nat.zero_le _)
  rw [Nat.zero_add, Nat.zero_add] at b
  exact ⟨c, a, b⟩

/-- The demonstration of the seeded change "the RUNNING update is sent after the
context was created": timeout 10 s, a command that needs 7 s, a receiver that takes 4 s
per update.  The command gets its 7 s, starting at 4 s. -/
example :
    let t := execute { timeout := 10, maxSusp := 0, uploadDelay := 60, consumer := 4, prep := 0,
                       script := [.run 7], lingers := [] }
    t.run.killed = false ∧ t.run.unsusp = 7 ∧ t.budgetStart = 4 ∧ t.runEnd = 11 := by decide +kernel

/-- Non-vacuity of `cancelled_only_after_the_budget`: a spinning command is cancelled after 10. -/
example :
    (execute { timeout := 10, maxSusp := 5, uploadDelay := 60, consumer := 4, prep := 0,
               script := [.run 3, .stall 2, .run 30], lingers := [] }).run = ⟨true, 10, 12, 2⟩ := by decide +kernel

end BbRe.Properties.C11Flow
