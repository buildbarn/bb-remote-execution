import BbRe.Model.Pipeline
import BbRe.Lemmas.Pipeline
/-!
# C09 — only complete, successful results reach the Action Cache

Theorems about `Model/Pipeline.lean` (batched store, flushing executor, caching
executor, composed in the order of `cmd/bb_worker/main.go`).  Every theorem is
for *every* initial store state (not only reachable ones), every batch size,
every list of inner Puts (duplicates included), every response of the inner
executor and every oracle (= every position at which FindMissing, an underlying
Put, the flush or the AC Put fails or is cancelled).

Assumptions of the model (see the header of `Model/Pipeline.lean`): FindMissing
is truthful and the CAS does not lose blobs; digests are injective tokens.
-/
namespace BbRe.Properties.C09
open BbRe.Pipeline BbRe.Lemmas.Pipeline

/-! ## Batched store -/

/-- `flushError` is sticky: `Put` never clears it … -/
theorem sticky_error_put (s : Store) (d : Digest) (b : Buf) (o : FlushOracle)
    (h : s.flushError ≠ none) : (put s d b o).1.flushError ≠ none :=
  (put_evolves s d b o).sticky h

/-- … a `Put` that returns an error has that error recorded … -/
theorem put_error_is_recorded (s : Store) (d : Digest) (b : Buf) (o : FlushOracle) (c : Code)
    (h : (put s d b o).2 = some c) : (put s d b o).1.flushError = some c :=
  put_error_recorded s d b o c h

/-- … and only the flusher clears it, returning it (whatever the flush itself does). -/
theorem sticky_error_flusher (s : Store) (o : FlushOracle) :
    (flusher s o).1.flushError = none ∧ (s.flushError ≠ none → (flusher s o).2 ≠ none) :=
  ⟨rfl, (flushLocked_evolves s o).sticky⟩

/-- **batched_ack_sound.**  From any store state, after any sequence of `Put`s
(any batch size, duplicates, any faults in the flushes they trigger): for every
`Put(d)` of the sequence that returned nil, the next flusher call either
returns an error or `d` is in the CAS when it returns.  (`hack` is redundant: after a nil flusher result
every `Put` of the log has returned nil.) -/
theorem batched_ack_sound (s0 : Store) (calls : List PutCall) (o : FlushOracle)
    (e : Digest × Option Code) (he : e ∈ (runPuts s0 calls).2) (hack : e.2 = none) :
    (flusher (runPuts s0 calls).1 o).2 ≠ none ∨ e.1 ∈ (flusher (runPuts s0 calls).1 o).1.cas := by
  cases hr : (flusher (runPuts s0 calls).1 o).2 with
  | some c => exact .inl nofun
  | none => exact .inr ((runPuts_flusher_ok s0 calls o hr).2.2 e he).2

/-- **A failed wait for an upload slot is reported.**  If, in any flush (of a
`Put` or of the flusher), FindMissing succeeded and the scheduling goroutine's
`AcquireSemaphore` failed at any point — the context was cancelled while it
waited for a slot of the shared put semaphore, or between two uploads, even if
none of this flush's own Puts failed — then the flush records an error (so, by
`sticky_error_*`, the flusher returns one and, by `failure_prunes`, the response
is not OK, nothing is cached and the outputs are pruned), and nothing stays
pending.  (`hfm` is redundant: a failing FindMissing records an error as well.) -/
theorem acquire_failure_recorded (s : Store) (o : FlushOracle) (pre : List (Digest × Option Code))
    (c : Code) (post : List IssueEv) (hfm : o.fm = none)
    (hp : o.puts = pre.map (fun e => IssueEv.put e.1 e.2) ++ .acquireFailed c :: post) :
    (flushLocked s o).flushError ≠ none ∧ s.errorsRecorded < (flushLocked s o).errorsRecorded ∧
    (flushLocked s o).pending = [] ∧ (flusher s o).2 ≠ none := by
  obtain ⟨_, _, _, _, ⟨_, h⟩ | ⟨_, _, _, herrs⟩⟩ := flushLocked_cases s o
  · rw [show (flusher s o).2 = (flushLocked s o).flushError from rfl, h]
    exact ⟨nofun, Nat.lt_succ_self _, rfl, nofun⟩
  · rw [hp] at herrs
    exact absurd herrs (issuePuts_acquireFailed _ _ pre c post)

/-- **batched_ack_sound, history form.**  For *every* history of Puts and
flusher calls on the batched store (from any initial state): whenever the next
flusher call returns nil, every digest whose `Put` returned nil since the
previous flusher call is in the CAS. -/
theorem batched_ack_sound_history (s0 : Store) (ops : List StoreOp) (o : FlushOracle)
    (hr : (flusher (runOps ⟨s0, [], []⟩ ops).store o).2 = none) :
    ∀ d ∈ (runOps ⟨s0, [], []⟩ ops).acked, d ∈ (flusher (runOps ⟨s0, [], []⟩ ops).store o).1.cas := by
  intro d hd
  have hok := flusher_ok o (.refl _) hr
  exact hok.2.2 d (runOps_invariant stepOp_ackedHeld ⟨s0, [], []⟩ ops (fun _ => nofun) hok.1 d hd)

/-- **Buffers, history form.**  In every history every buffer handed to `Put`
is, at every point, either still pending or consumed — exactly once in total;
right after a flusher call nothing is pending. -/
theorem buffers_history (s0 : Store) (ops : List StoreOp) :
    ((runOps ⟨s0, [], []⟩ ops).store.pending.map (·.2) ++ (runOps ⟨s0, [], []⟩ ops).store.consumed).Perm
      ((runOps ⟨s0, [], []⟩ ops).handed ++ (s0.pending.map (·.2) ++ s0.consumed)) :=
  runOps_invariant (stepOp_buffers _) ⟨s0, [], []⟩ ops (.refl _)

/-- A flusher call that returns nil means that *no* Put since the previous
flusher call failed and no flush recorded an error (nothing is swallowed). -/
theorem flusher_ok_means_no_failure (s0 : Store) (calls : List PutCall) (o : FlushOracle)
    (hr : (flusher (runPuts s0 calls).1 o).2 = none) :
    s0.flushError = none ∧ (∀ e ∈ (runPuts s0 calls).2, e.2 = none) ∧
    (flusher (runPuts s0 calls).1 o).1.errorsRecorded = s0.errorsRecorded := by
  have ⟨h₀, hn, hlog⟩ := runPuts_flusher_ok s0 calls o hr
  exact ⟨h₀, fun e he => (hlog e he).1, hn⟩

/-- **Every buffer is consumed exactly once.**  After the flusher call nothing
is pending, and the multiset of consumed buffers (handed to the underlying Put
or Discarded) is exactly: the buffers consumed before, those that were pending
and those handed to `Put` since — each once. -/
theorem buffers_consumed_once (s0 : Store) (calls : List PutCall) (o : FlushOracle) :
    (flusher (runPuts s0 calls).1 o).1.pending = [] ∧
    (flusher (runPuts s0 calls).1 o).1.consumed.Perm
      (calls.map (·.buf) ++ (s0.pending.map (·.2) ++ s0.consumed)) :=
  ⟨flusher_pending _ o, (flusher_consumed _ o).trans (runPuts_consumed s0 calls)⟩

/-- Counting form for a fresh store: buffer `b` has been consumed exactly as
often as it was handed to `Put` (once, if buffers are distinct). -/
theorem buffers_consumed_once_count (bs : Nat) (cas : List Digest) (calls : List PutCall) (o : FlushOracle)
    (b : Buf) :
    (flusher (runPuts (Store.init bs cas) calls).1 o).1.consumed.count b = (calls.map (·.buf)).count b := by
  have := (buffers_consumed_once (Store.init bs cas) calls o).2.count_eq b
  simpa only [Store.init, List.map_nil, List.append_nil] using this

/-- Between flusher calls no buffer is lost or consumed twice either: at every
point each buffer handed in is pending or consumed, exactly once in total. -/
theorem buffers_accounted (s0 : Store) (calls : List PutCall) :
    ((runPuts s0 calls).1.pending.map (·.2) ++ (runPuts s0 calls).1.consumed).Perm
      (calls.map (·.buf) ++ (s0.pending.map (·.2) ++ s0.consumed)) :=
  runPuts_consumed s0 calls

/-! ## Composed pipeline -/

/-- **ac_write_condition.**  An Action Cache `Put` is issued iff the action
digest is valid, the action is present, `do_not_cache` is off and the response
reaching the caching layer has status OK and exit code 0 — i.e. iff the inner
executor reported success *and the flush returned nil*; and at most once per
execution. -/
theorem ac_write_condition (w : World) (req : Request) (i : Inner) (o : ExecOracle) :
    let r := execute w req i o
    (r.world.acCalls = w.acCalls + 1 ↔ cacheable req r.flushed) ∧
    (r.world.acCalls = w.acCalls ∨ r.world.acCalls = w.acCalls + 1) ∧
    (cacheable req r.flushed ↔
      (req.digestValid = true ∧ req.actionPresent = true ∧ req.doNotCache = false ∧
        i.resp.status.err = none ∧ i.resp.exitCode = 0 ∧ r.flushErr = none)) := by
  intro r
  exact ⟨(cachingPost_acCalls _ req _ o.ac o.hist).1, (cachingPost_acCalls _ req _ o.ac o.hist).2,
    cacheable_flushingPost req _ i.resp o.flush⟩

/-- The Action Cache changes only by that one write, and only if it succeeds. -/
theorem ac_log (w : World) (req : Request) (i : Inner) (o : ExecOracle) :
    let r := execute w req i o
    (r.world.ac = entryOf req r.flushed :: w.ac ∧ cacheable req r.flushed ∧ o.ac = none ∧ r.final.status.err = none) ∨
    (r.world.ac = w.ac ∧ (¬ cacheable req r.flushed ∨ o.ac ≠ none)) :=
  cachingPost_ac _ req _ o

/-- **ac_complete.**  If the Action Cache write is issued, then the result that
is written is the inner executor's result, unpruned, and every digest it
references (output files, output directories/trees, stdout, stderr) that the
inner executor handed to the batched store — acknowledged or not — is in the
CAS at that moment.  (Digests the inner executor never Put are the stated
exception: blobs the client had uploaded already.) -/
theorem ac_complete (w : World) (req : Request) (i : Inner) (o : ExecOracle)
    (hac : (execute w req i o).world.acCalls = w.acCalls + 1) :
    let r := execute w req i o
    entryOf req r.flushed = entryOf req i.resp ∧
    ∀ d ∈ (entryOf req r.flushed).refs, d ∈ i.puts.map (·.digest) → d ∈ r.world.store.cas := by
  intro r
  have hcond := (ac_write_condition w req i o).2.2.1 ((ac_write_condition w req i o).1.1 hac)
  have hfl : (flusher (runPuts w.store i.puts).1 o.flush).2 = none :=
    (execute_flushErr w req i o).symm.trans hcond.2.2.2.2.2
  have hflushed : r.flushed = i.resp := congrArg (·.2.1) (flushingPost_none _ i.resp _ hfl)
  refine ⟨congrArg (entryOf req) hflushed, fun d _ hput => ?_⟩
  rw [← runPuts_log_digests w.store i.puts] at hput
  obtain ⟨e, he, rfl⟩ := List.mem_map.1 hput
  exact execute_store w req i o ▸ ((runPuts_flusher_ok w.store i.puts o.flush hfl).2.2 e he).2

/-- **first_error_wins.**  The status of the final response is the first error
in pipeline order: the inner executor's, else the flush error, else the error
of the caching layer (invalid request, failed AC Put, failed Put of the
historical response). -/
theorem first_error_wins (w : World) (req : Request) (i : Inner) (o : ExecOracle) :
    let r := execute w req i o
    r.flushed.status.err = firstErr i.resp.status.err r.flushErr ∧
    r.final.status.err = firstErr i.resp.status.err (firstErr r.flushErr (cachingError req r.flushed o)) := by
  intro r
  have h1 : r.flushed.status.err = firstErr i.resp.status.err r.flushErr := flushingPost_status _ _ _
  have h2 : r.final.status.err = firstErr r.flushed.status.err (cachingError req r.flushed o) :=
    cachingPost_status _ req _ o
  exact ⟨h1, by rw [h2, h1, firstErr_assoc]⟩

/-- **failure_prunes.**  If anything went wrong on the storage path of the
execution — a Put of the inner executor returned an error, any `flushLocked`
(triggered by a Put or by the flusher) recorded a FindMissing/Put/cancellation
error, an error was already pending, or the flusher returned an error — then
the flusher returns an error, the final response is not OK, no Action Cache
write was even attempted and the Action Cache is unchanged.  If the flusher
returned an error, the response advertises no output files, directories,
stdout/stderr digests or server logs. -/
theorem failure_prunes (w : World) (req : Request) (i : Inner) (o : ExecOracle) :
    let r := execute w req i o
    (((∃ e ∈ r.putLog, e.2 ≠ none) ∨ w.store.errorsRecorded < r.world.store.errorsRecorded ∨
        w.store.flushError ≠ none ∨ r.flushErr ≠ none) →
      r.flushErr ≠ none ∧ r.final.status.err ≠ none ∧ r.world.acCalls = w.acCalls ∧ r.world.ac = w.ac) ∧
    (r.flushErr ≠ none →
      r.final.files = [] ∧ r.final.dirs = [] ∧ r.final.stdout = none ∧ r.final.stderr = none ∧
      r.final.logs = []) := by
  intro r
  have hfail (hne : r.flushErr ≠ none) :
      r.final.status.err ≠ none ∧ r.world.acCalls = w.acCalls ∧ r.world.ac = w.ac := by
    have hfw := first_error_wins w req i o
    have hnc : ¬ cacheable req r.flushed := fun hc =>
      firstErr_some_right hne (hfw.1.symm.trans hc.2.2.2.1)
    have hw : r.world.ac = w.ac ∧ _ := cachingPost_world_of_not_cacheable hnc _ o.ac o.hist
    exact ⟨fun hn => firstErr_some_right (firstErr_some_left hne) (hfw.2.symm.trans hn), hw.2.1, hw.1⟩
  refine ⟨fun h => ?_, fun hne => ?_⟩
  · have hne : r.flushErr ≠ none := fun hnone => by
      -- a nil flusher result rules out each of the four failures
      have hnone' := (execute_flushErr w req i o).symm.trans hnone
      have ⟨h₀, hn, hlog⟩ := runPuts_flusher_ok w.store i.puts o.flush hnone'
      rcases h with ⟨e, he, hen⟩ | h | h | h
      · exact hen (hlog e he).1
      · rw [execute_store, hn] at h; exact Nat.lt_irrefl _ h
      · exact h h₀
      · exact h hnone
    exact ⟨hne, hfail hne⟩
  · cases hf : (flusher (runPuts w.store i.puts).1 o.flush).2 with
    | none => exact absurd ((execute_flushErr w req i o).trans hf) hne
    | some c =>
      obtain ⟨_, _, e⟩ : ∃ st m, r.final = { r.flushed with status := st, message := m } :=
        cachingPost_outputs _ req _ o
      rw [e, show r.flushed = _ from congrArg (·.2.1) (flushingPost_some _ i.resp _ c hf)]
      exact ⟨rfl, rfl, rfl, rfl, rfl⟩

/-- A failing Action Cache Put or a failing Put of the historical response is
reported too, and a failed AC Put leaves the Action Cache unchanged. -/
theorem caching_failure_reported (w : World) (req : Request) (i : Inner) (o : ExecOracle)
    (h : cachingError req (execute w req i o).flushed o ≠ none) :
    (execute w req i o).final.status.err ≠ none ∧ (execute w req i o).world.ac = w.ac := by
  refine ⟨fun hn => ?_, ?_⟩
  · exact firstErr_some_right (firstErr_some_right h) ((first_error_wins w req i o).2.symm.trans hn)
  · rcases ac_log w req i o with ⟨_, hc, hac, _⟩ | h1
    · exact absurd ((cachingError_of_cacheable hc o).trans hac) h
    · exact h1.1

/-! ## Non-vacuity: concrete executions that meet the hypotheses -/

private def okResp : Response := ⟨.unset, 0, [1, 2], [3], some 4, none, [], 0⟩
private def okReq : Request := ⟨true, true, false, 7⟩
private def w0 : World := World.init 2 [3]
private def puts4 : List PutCall :=
  [⟨1, 10, .ok⟩, ⟨2, 11, .ok⟩, ⟨1, 12, .ok⟩, ⟨4, 13, { fm := none, puts := [.put 1 none, .put 2 none] }⟩, ⟨3, 14, .ok⟩]
private def oOK : ExecOracle := ⟨{ fm := none, puts := [.put 4 none] }, none, none⟩
/-- the second underlying Put of the batch fails with Unavailable (14) -/
private def putsFail : List PutCall :=
  [⟨1, 10, .ok⟩, ⟨2, 11, .ok⟩, ⟨4, 13, { fm := none, puts := [.put 1 none, .put 2 (some 14)] }⟩]

-- a successful run writes the AC entry, all referenced digests are stored, every buffer consumed once
example : (execute w0 okReq ⟨puts4, okResp⟩ oOK).world.acCalls = w0.acCalls + 1 := by decide +kernel
example : (execute w0 okReq ⟨puts4, okResp⟩ oOK).world.store.cas = [4, 2, 1, 3] := by decide +kernel
example : (execute w0 okReq ⟨puts4, okResp⟩ oOK).world.store.consumed.length = 5 := by decide +kernel
example : (execute w0 okReq ⟨puts4, okResp⟩ oOK).final.message = 1 := by decide +kernel
-- acknowledged Puts exist (hypothesis of batched_ack_sound)
example : (4, none) ∈ (runPuts w0.store puts4).2 := by decide +kernel
-- a failing underlying Put: third Put returns the error, the flush reports it, nothing is cached, outputs pruned
example : (execute w0 okReq ⟨putsFail, okResp⟩ oOK).putLog = [(1, none), (2, none), (4, some 14)] := by decide +kernel
example : (execute w0 okReq ⟨putsFail, okResp⟩ oOK).flushErr = some 14 := by decide +kernel
example : (execute w0 okReq ⟨putsFail, okResp⟩ oOK).final.status.err = some 14 := by decide +kernel
example : (execute w0 okReq ⟨putsFail, okResp⟩ oOK).world.ac = [] := by decide +kernel
example : (execute w0 okReq ⟨putsFail, okResp⟩ oOK).final.files = [] := by decide +kernel
-- a history with a flusher call in the middle: only the Puts after it count as "acknowledged since"
example : (runOps ⟨w0.store, [], []⟩ [.put ⟨1, 10, .ok⟩, .flush { fm := none, puts := [.put 1 none] }, .put ⟨2, 11, .ok⟩]).acked = [2] := by decide +kernel
example : (flusher (runOps ⟨w0.store, [], []⟩ [.put ⟨1, 10, .ok⟩, .flush { fm := none, puts := [.put 1 none] }, .put ⟨2, 11, .ok⟩]).store
    { fm := none, puts := [.put 2 none] }).2 = none := by decide +kernel
-- the context is cancelled while the flusher waits for an upload slot held by another thread:
-- no Put of this flush fails, yet the flush reports Canceled and nothing is cached
example : (execute w0 okReq ⟨[⟨1, 10, .ok⟩, ⟨2, 11, .ok⟩], okResp⟩
    ⟨{ fm := none, puts := [.acquireFailed canceled] }, none, none⟩).flushErr = some canceled := by decide +kernel
example : (execute w0 okReq ⟨[⟨1, 10, .ok⟩, ⟨2, 11, .ok⟩], okResp⟩
    ⟨{ fm := none, puts := [.acquireFailed canceled] }, none, none⟩).world.acCalls = 0 := by decide +kernel
example : (execute w0 okReq ⟨[⟨1, 10, .ok⟩, ⟨2, 11, .ok⟩], okResp⟩
    ⟨{ fm := none, puts := [.put 1 none, .acquireFailed canceled] }, none, none⟩).world.store.consumed.length = 2 := by decide +kernel
-- success reported as an explicit `Status{code: OK}` (with a message): a failing final flush is still attached
example : (execute w0 okReq ⟨[⟨1, 10, .ok⟩], { okResp with status := .ok true }⟩
    ⟨{ fm := some 14, puts := [] }, none, none⟩).final.status.err = some 14 := by decide +kernel
example : (execute w0 okReq ⟨[⟨1, 10, .ok⟩], { okResp with status := .ok true }⟩
    ⟨{ fm := some 14, puts := [] }, none, none⟩).world.acCalls = 0 := by decide +kernel
example : (execute w0 okReq ⟨[⟨1, 10, .ok⟩], { okResp with status := .ok false }⟩
    ⟨{ fm := none, puts := [.put 1 none] }, none, none⟩).world.acCalls = 1 := by decide +kernel
-- a failing AC Put is a caching-layer error
example : cachingError okReq (execute w0 okReq ⟨puts4, okResp⟩ ⟨{ fm := none, puts := [.put 4 none] }, some 14, none⟩).flushed
    ⟨{ fm := none, puts := [.put 4 none] }, some 14, none⟩ = some 14 := by decide +kernel

end BbRe.Properties.C09
