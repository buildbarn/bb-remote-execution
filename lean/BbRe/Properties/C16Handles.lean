import BbRe.Lemmas.Handles
/-!
C16, handle allocator part: the hard-link count that the stateful NFS / FUSE handle allocators keep
in front of every pool-backed file (`Model/Handles.lean`, transcription of the stateful paths of
`nfs_handle_allocator.go` and `fuse_handle_allocator.go`).

All theorems with a `Reach s` hypothesis hold after ANY sequence of newLeaf / link / unlink /
getattr / setattr / open / resolve / newDir / dirAttr / notify / release / register operations on any
number of leaves and directories, in any order, provided every step respects `legalOp`
(`Lemmas/Handles.lean`): Unlink only for a directory entry that exists, fewer than 2^32 - 1 links,
a wrapped leaf is wrapped once, and the random number generator never returns the same number twice
(the code relies on that; `collision_misresolves` shows what happens otherwise).

What the code does NOT do, contrary to what one might assume: `Link` is never forwarded to the wrapped
leaf, and of all `Unlink` calls only the last one is (`link_never_forwarded`,
`unlink_forwarded_iff_last`): the wrapped file keeps the single link reference it was created with
until the counter in front of it reaches zero.
-/
namespace BbRe.Properties.C16Handles
open BbRe.Handles BbRe.Lemmas.Handles

/-- The link count (and inode number) that `VirtualGetAttributes` reports is the number of directory
entries: 1 + accepted Links - Unlinks (ghost `entries`, see `entries_link`). -/
theorem link_count_exact {s : State} (r : Reach s) {i : Nat} {l : Leaf} (hi : s.leaves i = some l)
    (m c : Nat) (hm : has m 4 = true) :
    ∃ a, (step s (.getattr i m c)).2 = .attrs a ∧ a.lc = some (s.entries i) ∧
      (has m 2 = true → a.ino = some l.ino) := by
  have hc := ((reach_inv r).count i l hi).1
  simp only [step, getattr, hi]
  split <;> (cases hk : l.kind <;> simp [inject, hk, hm, hc] <;> intro h2 <;> simp [h2])

/-- Meaning of the ghost counter `entries`: `newLeaf` sets it to 1 (by definition), an accepted `Link`
adds one entry to that leaf and to no other, a refused `Link` changes nothing at all; `Unlink`
subtracts one (`Model/Handles.lean`, `unlink`, all four branches: `updN s.entries i (s.entries i - 1)`). -/
theorem entries_link (s : State) (i j : Nat) :
    ((step s (.link i)).2 = .st .ok →
      (step s (.link i)).1.entries j = s.entries j + (if j = i then 1 else 0)) ∧
    ((step s (.link i)).2 ≠ .st .ok → (step s (.link i)).1 = s) := by
  cases hi : s.leaves i with
  | none => simp [step, link, hi]
  | some l =>
    by_cases hz : l.linkCount = 0
    · simp [step, link, hi, hz]
    · cases hk : l.kind <;> by_cases e : j = i <;> simp [step, link, hi, hz, hk, updN, e]

/-- `Link` of the wrapper never reaches the wrapped leaf (nor anything else in the log). -/
theorem link_never_forwarded (s : State) (i : Nat) : (step s (.link i)).1.log = s.log := by
  simp only [step, link]
  cases s.leaves i with
  | none => rfl
  | some l =>
    simp only
    split
    · rfl
    · cases l.kind <;> rfl

/-- The `Unlink` that removes the last directory entry, and only that one, is forwarded to the
wrapped leaf, exactly once, after the counter update and (NFS) the removal from the handle map. -/
theorem unlink_forwarded_iff_last {s : State} (r : Reach s) {i : Nat} {l : Leaf}
    (hi : s.leaves i = some l) (hl : 0 < s.entries i) :
    (step s (.unlink i)).2 = .unlinked (decide (s.entries i = 1)) ∧
    (step s (.unlink i)).1.log = s.log ++
      (if s.entries i = 1 then
        (match l.kind with
         | .nfs => [.mapDelete l.ino, .fwdUnlink l.under]
         | .fuse => [.fwdUnlink l.under])
       else []) := by
  have hc := (reach_inv r).count i l hi
  have hfuse := u32_dec (n := l.linkCount) (by rw [hc.1]; exact hl) (by rw [hc.1]; exact hc.2)
  have h1 : (l.linkCount - 1 = 0) ↔ s.entries i = 1 := by omega
  simp only [step, unlink, hi]
  cases hk : l.kind <;> simp only
  · have : ¬ l.linkCount = 0 := by omega
    rw [if_neg this]
    by_cases e : s.entries i = 1
    · simp [h1.mpr e, e]
    · have : ¬ l.linkCount - 1 = 0 := fun h => e (h1.mp h)
      simp [this, e]
  · rw [hfuse]
    by_cases e : s.entries i = 1
    · simp [h1.mpr e, e]
    · have : ¬ l.linkCount - 1 = 0 := fun h => e (h1.mp h)
      simp [this, e]

/-- An NFS handle resolves to its leaf exactly while the leaf has a directory entry; afterwards it
is stale (never a directory, never another leaf). -/
theorem resolve_exact {s : State} (r : Reach s) {i : Nat} {l : Leaf} (hi : s.leaves i = some l)
    (hk : l.kind = .nfs) :
    (step s (.resolve l.ino)).2 = if 0 < s.entries i then .leaf i else .st .stale := by
  have inv := reach_inv r
  have hc := inv.count i l hi
  have hd : s.directories l.ino = none := by
    cases hdd : s.directories l.ino with
    | none => rfl
    | some d =>
      obtain ⟨x, h1, h2⟩ := inv.dirTo _ _ hdd
      exact absurd h2.symm (inv.dirLeaf i l d x hi h1)
  simp only [step, resolve, hd]
  by_cases hp : 0 < s.entries i
  · rw [inv.mapFrom i l hi hk (by omega)]; simp [hp]
  · cases hm : s.statefulLeaves l.ino with
    | none => simp [hp]
    | some j =>
      obtain ⟨l2, h1, h2, _, h4⟩ := inv.mapTo _ _ hm
      have : j = i := inv.inj j i l2 l h1 hi (Or.inl h2)
      subst this; rw [hi] at h1; cases h1; omega

/-- Whatever `ResolveHandle` returns as a leaf is the live leaf that owns the handle. -/
theorem resolve_sound {s : State} (r : Reach s) {n i : Nat}
    (h : (step s (.resolve n)).2 = .leaf i) :
    ∃ l, s.leaves i = some l ∧ l.ino = n ∧ l.kind = .nfs ∧ 0 < s.entries i := by
  have inv := reach_inv r
  simp only [step, resolve] at h
  cases hd : s.directories n with
  | some d => simp [hd] at h
  | none =>
    simp only [hd] at h
    cases hm : s.statefulLeaves n with
    | none => simp [hm] at h
    | some j =>
      simp [hm] at h; subst h
      obtain ⟨l, h1, h2, h3, h4⟩ := inv.mapTo _ _ hm
      exact ⟨l, h1, h2, h3, by have := (inv.count j l h1).1; omega⟩

/-- Handles / inode numbers are not shared between leaf objects (given the random number assumption). -/
theorem live_handles_distinct {s : State} (r : Reach s) {i j : Nat} {li lj : Leaf}
    (hi : s.leaves i = some li) (hj : s.leaves j = some lj) (hne : i ≠ j) : li.ino ≠ lj.ino :=
  fun e => hne ((reach_inv r).inj i j li lj hi hj (Or.inl e))

/-- After the last entry is gone `Link` returns ESTALE and changes nothing at all: the counter stays
zero, the handle stays out of the map, nothing is forwarded (the file is not resurrected). -/
theorem dead_link_fails_cleanly {s : State} (r : Reach s) {i : Nat} {l : Leaf}
    (hi : s.leaves i = some l) (hz : s.entries i = 0) :
    step s (.link i) = (s, .st .stale) := by
  have hc := ((reach_inv r).count i l hi).1
  simp [step, link, hi, hc, hz]

/-- FUSE: `NotifyRemoval` calls every registered notifier once, in registration order, with the
directory's inode number; NFS: nobody is called. -/
theorem notify_calls_each_notifier_once (s : State) {d : Nat} {dir : Dir} (hd : s.dirs d = some dir)
    (name : Nat) :
    (step s (.notify d name)).2 =
      .notes (match dir.kind with
              | .fuse => (List.range s.notifiers).map (fun j => (j, dir.ino, name))
              | .nfs => []) := by
  simp only [step, notify, hd]
  cases dir.kind <;> rfl

/-- The freshness assumption on the random numbers is needed: a second NFS leaf that is given the
number of a live one takes over its map entry, and when the first leaf loses its last entry the
handle of the second, still linked, leaf becomes stale. -/
theorem collision_misresolves :
    let s := run init [.newLeaf 0 .nfs 0 5, .newLeaf 1 .nfs 1 5]
    (step s (.resolve 5)).2 = .leaf 1 ∧
    (step (run s [.unlink 0]) (.resolve 5)).2 = .st .stale ∧
    (run s [.unlink 0]).entries 1 = 1 := by
  decide

/-- Outside the caller contract the two allocators differ: an NFS `Unlink` at zero panics, a FUSE
`Unlink` at zero wraps the `uint32` around to 2^32 - 1 without forwarding anything, after which
`Link` is accepted again. -/
theorem unlink_below_zero :
    (step (run init [.newLeaf 0 .nfs 0 5, .unlink 0]) (.unlink 0)).2 = .panic ∧
    (step (run init [.newLeaf 0 .fuse 0 5, .unlink 0]) (.unlink 0)).2 = .unlinked false ∧
    (step (run init [.newLeaf 0 .fuse 0 5, .unlink 0, .unlink 0]) (.getattr 0 4 0)).2 =
      .attrs ⟨none, none, some 5, some 4294967295, none⟩ ∧
    (step (run init [.newLeaf 0 .fuse 0 5, .unlink 0, .unlink 0]) (.link 0)).2 = .st .ok := by
  decide

/-- Non-vacuity of the `Reach` hypotheses: a reachable state with a live leaf with two entries. -/
example : ∃ s l, Reach s ∧ s.leaves 0 = some l ∧ s.entries 0 = 2 ∧ l.kind = .nfs := by
  have r1 : Reach (step init (.newLeaf 0 .nfs 0 5)).1 :=
    Reach.step _ Reach.init ⟨rfl, by simp [init], by simp [init]⟩
  have r2 : Reach (step (step init (.newLeaf 0 .nfs 0 5)).1 (.link 0)).1 :=
    Reach.step _ r1 (by show _ + 1 < u32; decide)
  exact ⟨_, _, r2, rfl, by decide, rfl⟩

end BbRe.Properties.C16Handles
