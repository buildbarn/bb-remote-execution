import BbRe.Lemmas.ExecStamp
import BbRe.Properties.C11
/-!
# C11 — the rest of the timeout path: stamping, and every way a run stage ends

Property theorems about `Model/ExecStamp.lean`:

* (a) `timestampedBuildExecutor.Execute` (`stamp`): for **every** sequence of state updates (any types, any
  order, any number), every sequence of clock readings and every metadata the inner executor returns;
* (b), (c) the run stage of `localBuildExecutor.Execute` (`execRunX`) for **every** timeline of
  `Suspend`/`Resume` calls, every timeout, cap and positive threshold, and every *ender* (command exit,
  runner error with any gRPC code, the context handed to `Execute` done with `Canceled` or
  `DeadlineExceeded`, I/O error with any code), at any instant `≥ t0`, winning or losing a tie against a
  timer expiry.  gRPC codes are numbers: 0 `OK`, 1 `CANCELLED`, 4 `DEADLINE_EXCEEDED`.

Helper lemmas: `BbRe/Lemmas/ExecStamp.lean`; the clock itself: `Properties/C11.lean`.
-/
namespace BbRe.Properties.C11Stamp
open BbRe.SusClock BbRe.ExecStamp BbRe.Lemmas.ExecStamp BbRe.Lemmas.SusClock

/-! ## (a) stamping -/

/-- **virt_passed_through.** A virtual execution duration reported by the inner executor is returned
unchanged, whatever the updates, the readings of the clock and the stamps are: the wall-time
fallback never overrides it. -/
theorem virt_passed_through (q : Option Ts) (t0 : Ts) (ups : List (Stage × Ts)) (tEnd : Ts) (base : Meta)
    (v : Int) (h : base.virt = some v) : (stamp q t0 ups tEnd base).virt = some v := by
  rw [stamp_virt, h]

/-- **fallback_only_without_report.** When the inner executor reported no virtual duration, the one
returned is exactly `execution_completed − execution_start` of the *returned* stamps when both are set,
and absent otherwise (for every inner executor, also one that stamps by itself). -/
theorem fallback_only_without_report (q : Option Ts) (t0 : Ts) (ups : List (Stage × Ts)) (tEnd : Ts) (base : Meta)
    (h : base.virt = none) :
    (stamp q t0 ups tEnd base).virt =
      (match (stamp q t0 ups tEnd base).execStart, (stamp q t0 ups tEnd base).execDone with
        | some s, some c => some ((c.ns : Int) - (s.ns : Int))
        | _, _ => none) := by
  rw [stamp_virt, h]
  cases (stamp q t0 ups tEnd base).execStart <;> cases (stamp q t0 ups tEnd base).execDone <;> rfl

/-- **stamps_ordered.** With a monotone clock and an inner executor that sets no stamps of its own
(`localBuildExecutor`), for every sequence of updates: worker start/completed are the readings at entry
and at the end; whenever an execution start stamp is reported an execution completed stamp is too and
`worker_start ≤ execution_start ≤ execution_completed ≤ worker_completed`; and the wall-time fallback
is never negative and never exceeds the duration of the call. -/
theorem stamps_ordered (q : Option Ts) (t0 : Ts) (ups : List (Stage × Ts)) (tEnd : Ts) (base : Meta)
    (hb : base.noStamps) (hr : readingsFrom t0.ns ups tEnd.ns = true) :
    (stamp q t0 ups tEnd base).workerStart = some t0 ∧ (stamp q t0 ups tEnd base).workerDone = some tEnd ∧
    t0.ns ≤ tEnd.ns ∧
    (∀ s, (stamp q t0 ups tEnd base).execStart = some s →
      ∃ c, (stamp q t0 ups tEnd base).execDone = some c ∧ t0.ns ≤ s.ns ∧ s.ns ≤ c.ns ∧ c.ns ≤ tEnd.ns) ∧
    (base.virt = none → ∀ v, (stamp q t0 ups tEnd base).virt = some v → 0 ≤ v ∧ v ≤ (tEnd.ns : Int) - (t0.ns : Int)) := by
  obtain ⟨last, hinv, hle⟩ := inv_run ups (inv_start q t0) hr
  obtain ⟨f1, f2, f3, f4⟩ := finish_stamps ((W.start q t0).run ups) tEnd hb
  have key (s : Ts) (hs : (stamp q t0 ups tEnd base).execStart = some s) :=
    hinv.completed hle (f3.symm.trans hs)
  refine ⟨f1.trans hinv.ws, f2, Nat.le_trans hinv.lo hle, fun s hs => ?_, fun hbv v hv => ?_⟩
  · obtain ⟨a, c, e, b, d⟩ := key s hs
    exact ⟨c, f4.trans e, a, b, d⟩
  · rw [stamp_virt, hbv] at hv
    cases hs : (stamp q t0 ups tEnd base).execStart with
    | none =>
      rw [hs] at hv
      cases (hv : none = some v)
    | some s =>
      obtain ⟨a, c, e, b, d⟩ := key s hs
      rw [hs, show (stamp q t0 ups tEnd base).execDone = some c from f4.trans e] at hv
      obtain rfl : (c.ns : Int) - s.ns = v := Option.some.inj hv
      exact ⟨Int.sub_nonneg_of_le (Int.ofNat_le.2 b), Int.sub_le_sub (Int.ofNat_le.2 d) (Int.ofNat_le.2 a)⟩

/-- **fallback_applies_when_ran.** Same hypotheses: if a Running update was received and the inner
executor reported no virtual duration, a (wall-time) virtual duration is returned. -/
theorem fallback_applies_when_ran (q : Option Ts) (t0 : Ts) (ups : List (Stage × Ts)) (tEnd : Ts) (base : Meta)
    (hb : base.noStamps) (hr : readingsFrom t0.ns ups tEnd.ns = true) (hbv : base.virt = none)
    (hran : ∃ u ∈ ups, u.1 = Stage.running) : (stamp q t0 ups tEnd base).virt.isSome = true := by
  obtain ⟨s, hs⟩ : ∃ s, (stamp q t0 ups tEnd base).execStart = some s := by
    have f3 := (finish_stamps ((W.start q t0).run ups) tEnd hb).2.2.1
    exact Option.isSome_iff_exists.1 ((congrArg Option.isSome f3).trans
      (run_execStart_isSome ups (W.start q t0) (Or.inr hran)))
  obtain ⟨c, hc, _⟩ := (stamps_ordered q t0 ups tEnd base hb hr).2.2.2.1 s hs
  rw [stamp_virt, hbv, hs, hc]
  rfl

/-! ## (b), (c) the run stage -/

/-- **deadline_exceeded_iff (decision logic).** The action is reported with `DEADLINE_EXCEEDED` exactly
when the timeout or the cap ended the run stage (`killed`), or when what ended it carries that code itself
(a runner error or I/O error with code 4, or the context of `Execute` ending with
`context.DeadlineExceeded`); a killed run has no exit code; a run that was not killed carries the status
and exit code of its ender: the exit code with `OK`, the runner's own code, the context's error
(`CANCELLED` for a cancellation — never `DEADLINE_EXCEEDED`), or the I/O error's code (which is
attached before, hence instead of, the `CANCELLED` the runner returns). No hypotheses. -/
theorem deadline_exceeded_iff {P : Params} {tl : List Ev} {t0 d : Nat} {en : Option End} {o : XResult}
    (h : execRunX P tl t0 d en = some o) :
    (o.status = 4 ↔ (o.killed = true ∨ ∃ e, en = some e ∧ enderCode e.what = 4)) ∧
    (o.killed = true → o.status = 4 ∧ o.exitCode = none) ∧
    (o.killed = false → ∃ e, en = some e ∧ o.status = enderCode e.what ∧ o.exitCode = enderExit e.what) := by
  obtain ⟨r, _, rfl⟩ := execRunX_done h
  rcases xOf_cases r en with ⟨e, rfl, _, ho⟩ | ⟨_, ho⟩ <;> rw [ho]
  · refine ⟨⟨fun h4 => .inr ⟨e, rfl, h4⟩, ?_⟩, fun k => (nomatch k), fun _ => ⟨e, rfl, rfl, rfl⟩⟩
    rintro (k | ⟨_, he, h4⟩)
    · cases k
    · cases he
      exact h4
  · exact ⟨⟨fun _ => .inl rfl, fun _ => rfl⟩, fun _ => ⟨rfl, rfl⟩, fun k => nomatch k⟩

/-- **ended_run.** For every timeline, timeout and ender (none, or any kind at any instant `≥ t0`): the
run stage ends, no later than the ender and no later than the wall bound; the reported virtual duration is
the unsuspended time between the start of the command and the end of the run stage — hence at most the
wall time elapsed and at most the timeout — also when the run is cancelled from outside or by an I/O
error, with or without suspensions; and the timeout kills only when the budget is used up (within one
threshold) or the cap is reached. -/
theorem ended_run {P : Params} {tl : List Ev} {t0 d : Nat} {en : Option End}
    (hs : Sorted tl) (hb : Balanced tl) (hthr : 1 ≤ P.thr) (hen : ∀ e, en = some e → t0 ≤ e.t) :
    ∃ o, execRunX P tl t0 d en = some o ∧ o.virt = unsuspended tl t0 o.instant ∧
      t0 ≤ o.instant ∧ o.instant ≤ t0 + d + P.maxSusp ∧ o.virt ≤ d ∧ o.virt ≤ o.instant - t0 ∧
      (∀ e, en = some e → o.instant ≤ e.t) ∧
      (o.killed = false → ∃ e, en = some e ∧ o.instant = e.t) ∧
      (o.killed = true → d < o.virt + P.thr ∨ o.instant = t0 + d + P.maxSusp) := by
  obtain ⟨r, h⟩ := fire_done P tl (en.map fun e => ⟨e.t, e.pre⟩) t0 d hthr
  have hcn := cancel_of_end hen
  have hd := C11.reported_duration hs hb hcn h
  have hw := C11.wall_bound hs hb hcn h
  have ok := (fire_prompt hs hb hcn h).1
  refine ⟨xOf r en, execRunX_eq h, ?_⟩
  rw [(xOf_times r en).1, (xOf_times r en).2, hd]
  refine ⟨rfl, hw.1, hw.2, C11.budget_never_exceeded hs hb hcn h, unsuspended_le tl t0 r.instant,
    fun e he => ?_, ?_⟩
  · subst he
    exact ok.prompt ⟨e.t, e.pre⟩ rfl
  · rcases xOf_cases r en with ⟨e, rfl, hr, ho⟩ | ⟨hn, ho⟩ <;> rw [ho]
    · obtain ⟨c, hc, ht⟩ := ok.cancelled hr
      cases hc
      exact ⟨fun _ => ⟨e, rfl, ht.symm⟩, fun k => nomatch k⟩
    · refine ⟨fun k => (nomatch k), fun _ => ?_⟩
      cases hr : r.reason with
      | cancelled =>
        obtain ⟨c, hc, _⟩ := ok.cancelled hr
        rw [hn hr] at hc
        cases hc
      | timeout => exact .inl (C11.fires_after_budget hs hb hcn h hr).1
      | capped => exact .inr (ok.capped hr)

/-- **ender_in_budget.** Whatever ends the run stage at `e.t` — the command exiting, a runner error, the
context of `Execute` being cancelled (by the client or the worker) or reaching its deadline, an I/O error
— before the wall bound and with at most `d − thr` of unsuspended time used, is reported with its own
status at its own instant, never as a timeout, and the virtual duration is the unsuspended time up to then. -/
theorem ender_in_budget {P : Params} {tl : List Ev} {t0 d : Nat} {e : End}
    (hs : Sorted tl) (hb : Balanced tl) (hthr : 1 ≤ P.thr)
    (h01 : t0 ≤ e.t) (hwall : e.t < t0 + d + P.maxSusp) (hbud : unsuspended tl t0 e.t + P.thr ≤ d) :
    execRunX P tl t0 d (some e) =
      some ⟨enderCode e.what, enderExit e.what, unsuspended tl t0 e.t, e.t, false⟩ := by
  obtain ⟨r, h, hi, hr, hd⟩ := C11.finishes_in_budget (pre := e.pre) hs hb hthr h01 hwall hbud
  rw [execRunX_eq (en := some e) h]
  unfold xOf
  rw [hr, hd, hi]

/-- **outer_cancel_not_deadline.** The client or the worker cancels the context of `Execute` at `tc` while
the action runs within its budget: the action is reported `CANCELLED` (code 1), not `DEADLINE_EXCEEDED`,
at `tc`, with the unsuspended time it ran. -/
theorem outer_cancel_not_deadline {P : Params} {tl : List Ev} {t0 d tc : Nat} {pre : Bool}
    (hs : Sorted tl) (hb : Balanced tl) (hthr : 1 ≤ P.thr)
    (h01 : t0 ≤ tc) (hwall : tc < t0 + d + P.maxSusp) (hbud : unsuspended tl t0 tc + P.thr ≤ d) :
    execRunX P tl t0 d (some ⟨tc, pre, .outer .canceled⟩) = some ⟨1, none, unsuspended tl t0 tc, tc, false⟩ :=
  ender_in_budget (e := ⟨tc, pre, .outer .canceled⟩) hs hb hthr h01 hwall hbud

/-- **stamped_virtual_within_stamps.** The two layers together, stages taken by the consumer as they
come: the wrapper's `execution_start` is read no later than the command starts (`a2 ≤ t0`) and
`execution_completed` no earlier than the run stage ends (`instant ≤ a3`), both on the base clock of the
suspendable clock. Then the virtual duration returned is the one `localBuildExecutor` reported (no
fallback), equals the unsuspended run time, and never exceeds `execution_completed − execution_start`. -/
theorem stamped_virtual_within_stamps {P : Params} {tl : List Ev} {t0 d : Nat} {en : Option End}
    {q : Option Ts} {a0 a1 a2 a3 a4 : Nat} {o : XResult} {m : Meta}
    (hs : Sorted tl) (hb : Balanced tl) (hthr : 1 ≤ P.thr) (hen : ∀ e, en = some e → t0 ≤ e.t)
    (h : stampedRun P tl t0 d en q a0 a1 a2 a3 a4 = some (o, m)) (h2 : a2 ≤ t0) (h3 : o.instant ≤ a3) :
    m.virt = some (o.virt : Int) ∧ o.virt = unsuspended tl t0 o.instant ∧
    m.execStart = some (Ts.ofNs a2) ∧ m.execDone = some (Ts.ofNs a3) ∧
    (o.virt : Int) ≤ ((Ts.ofNs a3).ns : Int) - ((Ts.ofNs a2).ns : Int) ∧
    m.workerStart = some (Ts.ofNs a0) ∧ m.workerDone = some (Ts.ofNs a4) := by
  obtain ⟨o', ho', hv, hge, _, _, hle, _⟩ := ended_run (d := d) hs hb hthr hen
  rw [stampedRun, ho'] at h
  obtain ⟨rfl, rfl⟩ := Prod.mk.inj (Option.some.inj h)
  refine ⟨virt_passed_through _ _ _ _ _ _ rfl, hv, rfl, rfl, ?_, rfl, rfl⟩
  have : o'.virt + a2 ≤ a3 :=
    Nat.le_trans (Nat.add_le_add_left h2 _) (Nat.le_trans (Nat.add_le_of_le_sub hge hle) h3)
  rw [ns_ofNs, ns_ofNs]
  exact Int.le_sub_right_of_add_le (Int.natCast_add .. ▸ Int.ofNat_le.2 this)

/-- **extends_execRun.** On the endings the existing model knows (command exit, runner error) `execRunX`
is `execRun` of `Model/SusClock.lean`. -/
theorem extends_execRun (P : Params) (tl : List Ev) (t0 d : Nat) (fin : Option RunFinish) (c : Nat) :
    execRun P tl t0 d fin =
      (execRunX P tl t0 d (fin.map fun f => ⟨f.t, f.pre, match f.how with | .exit x => .exit x | .failed => .failed c⟩)).map
        fun o => ⟨if o.killed then .deadlineExceeded else if o.exitCode.isSome then .ok else .runnerError,
          o.exitCode, o.virt, o.instant⟩ := by
  unfold execRun execRunX
  rw [Option.map_map]
  have : ((fun e : End => (⟨e.t, e.pre⟩ : Cancel)) ∘ fun f : RunFinish =>
      (⟨f.t, f.pre, match f.how with | .exit x => .exit x | .failed => .failed c⟩ : End)) = fun f => ⟨f.t, f.pre⟩ := rfl
  rw [this]
  cases fire P tl (fin.map fun f => ⟨f.t, f.pre⟩) t0 d with
  | badOracle => rfl
  | outOfFuel => rfl
  | done r =>
    obtain ⟨i, reason, du, st, ps, pa⟩ := r
    cases reason <;> cases fin with
    | none => rfl
    | some f =>
      obtain ⟨ft, fp, fh⟩ := f
      cases fh <;> rfl

/-! ## Non-vacuity: concrete cases meeting the hypotheses -/

private def tlX : List Ev := [.suspend 5, .resume 35]

example : Sorted tlX ∧ Balanced tlX := ⟨rfl, rfl⟩
/-- 5 ticks of work, a stall of 30, timeout 10: the context of `Execute` is cancelled at 20, during the
stall: `CANCELLED` at 20 with a virtual duration of 5; cancelled only at 45 the timeout has fired at 40. -/
example : execRunX ⟨100, 1⟩ tlX 0 10 (some ⟨20, false, .outer .canceled⟩) = some ⟨1, none, 5, 20, false⟩ ∧
    execRunX ⟨100, 1⟩ tlX 0 10 (some ⟨45, false, .outer .canceled⟩) = some ⟨4, none, 10, 40, true⟩ := by decide +kernel
/-- hypotheses of `ender_in_budget`: an I/O error with code 13 at 38 (8 unsuspended ticks, 8 + 1 ≤ 10). -/
example : unsuspended tlX 0 38 + 1 ≤ 10 ∧
    execRunX ⟨100, 1⟩ tlX 0 10 (some ⟨38, false, .ioError 13⟩) = some ⟨13, none, 8, 38, false⟩ := by decide +kernel
/-- the context of `Execute` reaching a deadline of its own is `DEADLINE_EXCEEDED` without a timeout kill;
a tie at the kill instant 40 is decided by the flag. -/
example : execRunX ⟨100, 1⟩ tlX 0 10 (some ⟨20, false, .outer .deadlineExceeded⟩) = some ⟨4, none, 5, 20, false⟩ ∧
    execRunX ⟨100, 1⟩ tlX 0 10 (some ⟨40, true, .exit 3⟩) = some ⟨0, some 3, 10, 40, false⟩ ∧
    execRunX ⟨100, 1⟩ tlX 0 10 (some ⟨40, false, .exit 3⟩) = some ⟨4, none, 10, 40, true⟩ := by decide +kernel
/-- hypotheses of `stamps_ordered`: readings 5 ns, 7 ns, 2 s + 9 ns, 2 s + 30 ns; no inner stamps. -/
example : readingsFrom (Ts.ofNs 5).ns [(.fetching, Ts.ofNs 7), (.running, Ts.ofNs 2000000009)] (Ts.ofNs 2000000030).ns = true ∧
    (stamp none (Ts.ofNs 5) [(.fetching, Ts.ofNs 7), (.running, Ts.ofNs 2000000009)] (Ts.ofNs 2000000030) {}).virt = some 21 := by
  decide +kernel
example : ({} : Meta).noStamps := ⟨rfl, rfl, rfl, rfl, rfl, rfl, rfl, rfl⟩
/-- Why `stamps_ordered` needs a monotone clock: `timestamppb.New` drops the monotonic reading, and after a
step backwards of the wall clock the fallback is negative. -/
example : (stamp none (Ts.ofNs 100) [(.running, Ts.ofNs 90)] (Ts.ofNs 50) {}).virt = some (-40) := by decide +kernel
/-- Why `stamps_ordered` needs an inner executor without stamps: `proto.Merge` merges the scalar fields of a
Timestamp one by one; a reading of exactly 10 s (nanos = 0, not populated) keeps the inner executor's nanos. -/
example : mergeTs (some ⟨5, 7⟩) (some (Ts.ofNs 10000000000)) = some ⟨10, 7⟩ := by decide +kernel
/-- `stampedRun`: the command of the first example left alone: `DEADLINE_EXCEEDED`, virtual duration 10
inside stamps 0 and 40. -/
example : (stampedRun ⟨100, 1⟩ tlX 0 10 none none 0 0 0 40 41).map (fun p => (p.1.status, p.2.virt, p.2.execStart, p.2.execDone)) =
    some (4, some 10, some ⟨0, 0⟩, some ⟨0, 40⟩) := by decide +kernel

end BbRe.Properties.C11Stamp
