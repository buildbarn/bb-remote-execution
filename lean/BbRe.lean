-- generated by ./check; do not edit
import BbRe.Audit
import BbRe.Generated.LockSkel
import BbRe.Lemmas.BRLAbs
import BbRe.Lemmas.BRLPanic
import BbRe.Lemmas.BRLPhase1
import BbRe.Lemmas.BRLPhase2
import BbRe.Lemmas.BRLPointwise
import BbRe.Lemmas.BRLSet
import BbRe.Lemmas.BRLSub
import BbRe.Lemmas.BRLUnlockAll
import BbRe.Lemmas.BRLWF
import BbRe.Lemmas.Basic.AssocList
import BbRe.Lemmas.Basic.ExceptWp
import BbRe.Lemmas.BitmapAlloc
import BbRe.Lemmas.BitmapArr
import BbRe.Lemmas.BitmapDrain
import BbRe.Lemmas.BitmapFree
import BbRe.Lemmas.BitmapSpec
import BbRe.Lemmas.BitmapWord
import BbRe.Lemmas.BuildClient
import BbRe.Lemmas.BuildClientBound
import BbRe.Lemmas.BuildClientDeliv
import BbRe.Lemmas.BuildClientFrame
import BbRe.Lemmas.BuildClientHanded
import BbRe.Lemmas.BuildClientInv
import BbRe.Lemmas.BuildClientSteps
import BbRe.Lemmas.Counted
import BbRe.Lemmas.DirBasic
import BbRe.Lemmas.DirFail
import BbRe.Lemmas.DirFilter
import BbRe.Lemmas.DirFuel
import BbRe.Lemmas.DirInv
import BbRe.Lemmas.DirLe
import BbRe.Lemmas.DirMisc
import BbRe.Lemmas.DirOps
import BbRe.Lemmas.DirPosix
import BbRe.Lemmas.DirPosixBulk
import BbRe.Lemmas.DirRead
import BbRe.Lemmas.ExecFlow
import BbRe.Lemmas.ExecStamp
import BbRe.Lemmas.FairDynBasic
import BbRe.Lemmas.FairDynCache
import BbRe.Lemmas.FairDynKids
import BbRe.Lemmas.FairDynLevel
import BbRe.Lemmas.FairDynParked
import BbRe.Lemmas.FairDynTree
import BbRe.Lemmas.FairExamples
import BbRe.Lemmas.FairHandoff
import BbRe.Lemmas.FairHandoffLive
import BbRe.Lemmas.FairOrder
import BbRe.Lemmas.FairPick
import BbRe.Lemmas.FairReal
import BbRe.Lemmas.FairWalk
import BbRe.Lemmas.FilePoolAlloc
import BbRe.Lemmas.FilePoolAllocSpec
import BbRe.Lemmas.FilePoolBasic
import BbRe.Lemmas.FilePoolContent
import BbRe.Lemmas.FilePoolContig
import BbRe.Lemmas.FilePoolDev
import BbRe.Lemmas.FilePoolHistory
import BbRe.Lemmas.FilePoolInv
import BbRe.Lemmas.FilePoolOffset
import BbRe.Lemmas.FilePoolOps
import BbRe.Lemmas.FilePoolRead
import BbRe.Lemmas.FilePoolRefine
import BbRe.Lemmas.FilePoolSeek
import BbRe.Lemmas.FilePoolState
import BbRe.Lemmas.FilePoolState2
import BbRe.Lemmas.FilePoolTrunc
import BbRe.Lemmas.FilePoolWns
import BbRe.Lemmas.FilePoolWriteAt
import BbRe.Lemmas.FilePoolWriteContent
import BbRe.Lemmas.FilePoolWriteLoop
import BbRe.Lemmas.FilePoolWriteStep
import BbRe.Lemmas.FileRefCount
import BbRe.Lemmas.FileRefInv
import BbRe.Lemmas.FileRefPc
import BbRe.Lemmas.FileRefProps
import BbRe.Lemmas.FileRefRel
import BbRe.Lemmas.FileRefStep
import BbRe.Lemmas.GoHeapBasic
import BbRe.Lemmas.GoHeapLoops
import BbRe.Lemmas.GoHeapMap
import BbRe.Lemmas.GoHeapOps
import BbRe.Lemmas.Handles
import BbRe.Lemmas.ISCFaster
import BbRe.Lemmas.ISCPanic
import BbRe.Lemmas.ISCPath
import BbRe.Lemmas.ISCRange
import BbRe.Lemmas.ISCSelect
import BbRe.Lemmas.ISCStoch
import BbRe.Lemmas.ISCSym
import BbRe.Lemmas.Idle
import BbRe.Lemmas.IdleDirs
import BbRe.Lemmas.IdleWorker
import BbRe.Lemmas.InputRootAssoc
import BbRe.Lemmas.InputRootCache
import BbRe.Lemmas.InputRootEager
import BbRe.Lemmas.InputRootEquiv
import BbRe.Lemmas.InputRootExamples
import BbRe.Lemmas.InputRootFetch
import BbRe.Lemmas.InputRootHardLink
import BbRe.Lemmas.InputRootPaths
import BbRe.Lemmas.InputRootRename
import BbRe.Lemmas.InputRootState
import BbRe.Lemmas.InputRootSteps
import BbRe.Lemmas.IteCases
import BbRe.Lemmas.LockSkel
import BbRe.Lemmas.LockSkelConc
import BbRe.Lemmas.LockSkelConcInst
import BbRe.Lemmas.LockSkelConcPile
import BbRe.Lemmas.LockSkelCtx
import BbRe.Lemmas.LockSkelDiag
import BbRe.Lemmas.LockSkelEdges
import BbRe.Lemmas.LockSkelLocal
import BbRe.Lemmas.LockSkelPile
import BbRe.Lemmas.LockSkelRevalidate
import BbRe.Lemmas.NaiveDir
import BbRe.Lemmas.NaiveDirComplete
import BbRe.Lemmas.NaiveDirHardLink
import BbRe.Lemmas.NaiveDirLazy
import BbRe.Lemmas.NaiveDirReach
import BbRe.Lemmas.NfsActs
import BbRe.Lemmas.NfsClose
import BbRe.Lemmas.NfsExpiry
import BbRe.Lemmas.NfsInv
import BbRe.Lemmas.NfsInvC
import BbRe.Lemmas.NfsInvDefs
import BbRe.Lemmas.NfsInvG
import BbRe.Lemmas.NfsInvK
import BbRe.Lemmas.NfsInvPLR
import BbRe.Lemmas.NfsInvS
import BbRe.Lemmas.NfsLockRange
import BbRe.Lemmas.NfsProps
import BbRe.Lemmas.NfsScope
import BbRe.Lemmas.NfsShare
import BbRe.Lemmas.OutputsDecode
import BbRe.Lemmas.OutputsErrors
import BbRe.Lemmas.OutputsListing
import BbRe.Lemmas.OutputsParents
import BbRe.Lemmas.OutputsPath
import BbRe.Lemmas.OutputsTree
import BbRe.Lemmas.OutputsTrie
import BbRe.Lemmas.Pipeline
import BbRe.Lemmas.PoolStack
import BbRe.Lemmas.PoolStack2
import BbRe.Lemmas.PoolStackCount
import BbRe.Lemmas.PoolStackOracle
import BbRe.Lemmas.PoolStackSub
import BbRe.Lemmas.ProtoStoreBasic
import BbRe.Lemmas.ProtoStoreDrain
import BbRe.Lemmas.ProtoStoreFrame
import BbRe.Lemmas.ProtoStoreGInv
import BbRe.Lemmas.ProtoStoreQInv
import BbRe.Lemmas.Quota
import BbRe.Lemmas.Replay40
import BbRe.Lemmas.Replay41
import BbRe.Lemmas.SchedInvAList
import BbRe.Lemmas.SchedInvCleanup
import BbRe.Lemmas.SchedInvComplete
import BbRe.Lemmas.SchedInvComplete2
import BbRe.Lemmas.SchedInvDefs
import BbRe.Lemmas.SchedInvEvents
import BbRe.Lemmas.SchedInvExec
import BbRe.Lemmas.SchedInvLog
import BbRe.Lemmas.SchedInvOps
import BbRe.Lemmas.SchedInvParked
import BbRe.Lemmas.SchedInvPrim
import BbRe.Lemmas.SchedInvProps
import BbRe.Lemmas.SchedInvSched
import BbRe.Lemmas.SchedInvStep
import BbRe.Lemmas.SchedInvStream
import BbRe.Lemmas.SchedInvSync
import BbRe.Lemmas.SchedLiveAssign
import BbRe.Lemmas.SchedLiveBasic
import BbRe.Lemmas.SchedLiveClean
import BbRe.Lemmas.SchedLiveClean10
import BbRe.Lemmas.SchedLiveCleanClient
import BbRe.Lemmas.SchedLiveCleanComplete
import BbRe.Lemmas.SchedLiveCleanLoop
import BbRe.Lemmas.SchedLiveCleanSync
import BbRe.Lemmas.SchedLiveDefs
import BbRe.Lemmas.SchedLiveDrain
import BbRe.Lemmas.SchedLiveExec
import BbRe.Lemmas.SchedLiveFrame
import BbRe.Lemmas.SchedLiveFuel
import BbRe.Lemmas.SchedLiveMono
import BbRe.Lemmas.SchedLiveMono2
import BbRe.Lemmas.SchedLivePath
import BbRe.Lemmas.SchedLiveProgress
import BbRe.Lemmas.SchedLiveProgress2
import BbRe.Lemmas.SchedLiveProj
import BbRe.Lemmas.SchedLiveQuiesce
import BbRe.Lemmas.SchedLiveQuiesce6
import BbRe.Lemmas.SchedLiveQuiesceRun
import BbRe.Lemmas.SchedLiveResp
import BbRe.Lemmas.SchedLiveRoute
import BbRe.Lemmas.SchedLiveRun
import BbRe.Lemmas.SchedLiveSleep
import BbRe.Lemmas.SchedLiveSpec
import BbRe.Lemmas.SchedLiveSpec2
import BbRe.Lemmas.SchedLiveStream
import BbRe.Lemmas.SchedLiveSyncQ
import BbRe.Lemmas.SchedLiveTerm
import BbRe.Lemmas.SchedLiveTimeout
import BbRe.Lemmas.SchedLiveWaiters
import BbRe.Lemmas.SchedLiveWaiters3
import BbRe.Lemmas.SchedLiveWaitersExact
import BbRe.Lemmas.SchedLiveWake
import BbRe.Lemmas.SchedLiveWorker
import BbRe.Lemmas.SchedLiveWorker2
import BbRe.Lemmas.SchedLiveWorker3
import BbRe.Lemmas.SchedLiveWorker4
import BbRe.Lemmas.SchedLiveWorker5
import BbRe.Lemmas.SchedLiveWorker6
import BbRe.Lemmas.SchedLiveWorker7
import BbRe.Lemmas.SchedQExistsCleanup
import BbRe.Lemmas.SchedQExistsComplete
import BbRe.Lemmas.SchedQExistsDefs
import BbRe.Lemmas.SchedQExistsJoin
import BbRe.Lemmas.SchedQExistsStreams
import BbRe.Lemmas.SchedQExistsSync
import BbRe.Lemmas.SchedTreeCross
import BbRe.Lemmas.SchedTreeFnCleanup
import BbRe.Lemmas.SchedTreeFnComplete
import BbRe.Lemmas.SchedTreeFnDefs
import BbRe.Lemmas.SchedTreeFnExec
import BbRe.Lemmas.SchedTreeFnNext
import BbRe.Lemmas.SchedTreeFnStep
import BbRe.Lemmas.SchedTreeFnSync
import BbRe.Lemmas.SchedTreeInvDefs
import BbRe.Lemmas.SchedTreeLinkBags
import BbRe.Lemmas.SchedTreeLinkCore
import BbRe.Lemmas.SchedTreeLinkDefs
import BbRe.Lemmas.SchedTreeLinkDetach
import BbRe.Lemmas.SchedTreeLinkFold
import BbRe.Lemmas.SchedTreeLinkFrame
import BbRe.Lemmas.SchedTreeLinkKeys
import BbRe.Lemmas.SchedTreeLinkMInv
import BbRe.Lemmas.SchedTreeLinkSched
import BbRe.Lemmas.SchedTreeLinkStepA
import BbRe.Lemmas.SchedTreeLinkStepB
import BbRe.Lemmas.SchedTreeLinkStepC
import BbRe.Lemmas.SchedTreeLinkStepD
import BbRe.Lemmas.SchedTreeLock
import BbRe.Lemmas.SchedTreePrimBasic
import BbRe.Lemmas.SchedTreePrimCreate
import BbRe.Lemmas.SchedTreePrimExec
import BbRe.Lemmas.SchedTreePrimIdle
import BbRe.Lemmas.SchedTreePrimIdx
import BbRe.Lemmas.SchedTreePrimPark
import BbRe.Lemmas.SchedTreePrimQueue
import BbRe.Lemmas.SchedTreePrimRefresh
import BbRe.Lemmas.SchedTreePrimStruct
import BbRe.Lemmas.SchedTreePrioFixPrim
import BbRe.Lemmas.SchedTreePrioFixStep
import BbRe.Lemmas.SchedTreePrioFixUpd
import BbRe.Lemmas.SchedTreePrioFn
import BbRe.Lemmas.SchedTreePrioPrim
import BbRe.Lemmas.SchedTreePrioStep
import BbRe.Lemmas.SchedTreePrioUpd
import BbRe.Lemmas.SchedTreeRead
import BbRe.Lemmas.SchedTreeRefine
import BbRe.Lemmas.SchedTreeTrue
import BbRe.Lemmas.SusClock
import BbRe.Lemmas.SusClockIntervals
import BbRe.Lemmas.SusClockLate
import BbRe.Lemmas.SusClockLoop
import BbRe.Lemmas.TrieAssoc
import BbRe.Lemmas.TrieIndex
import BbRe.Lemmas.TrieKey
import BbRe.Lemmas.TrieLongest
import BbRe.Lemmas.TrieNode
import BbRe.Lemmas.TriePatch
import BbRe.Lemmas.TriePrefixMap
import BbRe.Lemmas.TrieRemove
import BbRe.Lemmas.TrieRouter
import BbRe.Lemmas.TrieTop
import BbRe.Model.BRL
import BbRe.Model.Bitmap
import BbRe.Model.BuildClient
import BbRe.Model.BuildDirs
import BbRe.Model.Dir
import BbRe.Model.ExecFlow
import BbRe.Model.ExecStamp
import BbRe.Model.Fair
import BbRe.Model.FairDyn
import BbRe.Model.FilePool
import BbRe.Model.FileRef
import BbRe.Model.GoHeap
import BbRe.Model.Handles
import BbRe.Model.ISC
import BbRe.Model.Idle
import BbRe.Model.InputRoot
import BbRe.Model.LockPile
import BbRe.Model.LockRange
import BbRe.Model.LockSkel
import BbRe.Model.NaiveDir
import BbRe.Model.NfsShare
import BbRe.Model.NfsState
import BbRe.Model.Outputs
import BbRe.Model.Pipeline
import BbRe.Model.PoolStack
import BbRe.Model.ProtoStore
import BbRe.Model.Quota
import BbRe.Model.Replay40
import BbRe.Model.Replay41
import BbRe.Model.Sched
import BbRe.Model.SchedStep
import BbRe.Model.SchedTree
import BbRe.Model.SchedTreeCheck
import BbRe.Model.SusClock
import BbRe.Model.Trie
import BbRe.Properties.C01
import BbRe.Properties.C01Queues
import BbRe.Properties.C02
import BbRe.Properties.C02Queues
import BbRe.Properties.C03
import BbRe.Properties.C04
import BbRe.Properties.C04Tree
import BbRe.Properties.C05
import BbRe.Properties.C05Trie
import BbRe.Properties.C06
import BbRe.Properties.C06Tree
import BbRe.Properties.C07ISC
import BbRe.Properties.C07Sched
import BbRe.Properties.C07Store
import BbRe.Properties.C08
import BbRe.Properties.C09
import BbRe.Properties.C10
import BbRe.Properties.C10Flow
import BbRe.Properties.C11
import BbRe.Properties.C11Flow
import BbRe.Properties.C11Stamp
import BbRe.Properties.C12
import BbRe.Properties.C12Flow
import BbRe.Properties.C13
import BbRe.Properties.C13Filter
import BbRe.Properties.C14
import BbRe.Properties.C14Conc
import BbRe.Properties.C14Generated
import BbRe.Properties.C15
import BbRe.Properties.C15Alloc
import BbRe.Properties.C15Stack
import BbRe.Properties.C16
import BbRe.Properties.C16Handles
import BbRe.Properties.C17
import BbRe.Properties.C17Naive
import BbRe.Properties.C18
import BbRe.Properties.C19
import BbRe.Properties.C20
import BbRe.Properties.C20Nfs
import BbRe.Spec.AllocSpec
import BbRe.Spec.ByteFile
import BbRe.Spec.ByteLocks
import BbRe.Spec.Posix
import BbRe.Spec.PrefixMap
